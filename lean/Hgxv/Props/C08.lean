import Hgxv.Proofs.C08Bfs
import Hgxv.Proofs.C08Hist
import Hgxv.Proofs.C08Nbrs
import Hgxv.Proofs.C08LinkC01
import Hgxv.Proofs.C08LinkDeg
import Hgxv.Proofs.C08LinkHist
import Hgxv.Proofs.C08Comp
/-! # C08 — degrees and connected components equal their combinatorial definitions

Property theorems about the models `Hgxv/Model/C08.lean` (specification vocabulary `Adj`, `Reach`, `WF`, `Disj` in
`Hgxv/Proofs/C08.lean`), `Model/C08Hist.lean` (every object a user can hold: histories) and `Model/C08Visit.lean`
(`utils/visits.py` in full).  All statements hold for every node list, every list of hyperedges / keyed records and
every filter `f : Filt` (`none`, `size s`, `order o`); the SAME `f` appears on both sides of every statement.
Hypotheses are what the containers guarantee for the output of `get_nodes()/get_edges()`:
`nodes.Nodup` (dict keys), `keys.Nodup` (distinct records), duplicate-free hyperedges over nodes of the hypergraph
(`WF`).  They are spelled out per theorem; most theorems need none of them.
Further notions of the statements: `Walk` (`Proofs/C08Bfs.lean`), `restrict` (`Proofs/C08Comp.lean`), `Hist.Inv`, `Hist.Op.Valid`,
`Hist.Op.target` (`Proofs/C08Hist.lean`), the `C08.Link` vocabulary (`Proofs/C08LinkC01.lean`, `C08LinkDeg.lean`, `C08LinkHist.lean`). -/
open C08

/-- The degree of a node is the number of DISTINCT filtered records containing it: whatever duplicate-free listing
`L` of exactly the records that pass the filter and contain `n` one takes, `degree` is its length.  Generic over the
record type (`Hypergraph`: hyperedge; `TemporalHypergraph`: (time, hyperedge); `MultiplexHypergraph`: (hyperedge,
layer)); `hk`: the container lists distinct records. -/
theorem C08_degree {κ : Type} (members : κ → List Nat) (nodes : List Nat) (keys : List κ) (hk : keys.Nodup)
    (n : Nat) (hn : n ∈ nodes) (f : Filt) (L : List κ) (hL : L.Nodup)
    (hmem : ∀ k, k ∈ L ↔ k ∈ keys ∧ passes f (members k).length = true ∧ n ∈ members k) :
    degreeG? members nodes keys n f = some L.length := by
  simp only [degreeG?, hn, if_true, degG]
  congr 1
  apply List.Perm.length_eq
  apply (List.perm_ext_iff_of_nodup (hk.filter _) hL).mpr
  intro k
  rw [hmem k]
  exact mem_incidentG members keys n f k

/-- the filter means what its name says: `size=s` keeps the records with `s` members, `order=o` those with `o+1` -/
theorem C08_filter (len : Nat) (s o : Int) :
    passes .none len = true ∧ (passes (.size s) len = true ↔ (len : Int) = s) ∧
    (passes (.order o) len = true ↔ (len : Int) = o + 1) :=
  ⟨rfl, passes_size s len, passes_order o len⟩

/-- a node that is not in the hypergraph has no degree (the code raises) -/
theorem C08_degree_absent {κ : Type} (members : κ → List Nat) (nodes : List Nat) (keys : List κ) (n : Nat)
    (hn : n ∉ nodes) (f : Filt) : degreeG? members nodes keys n f = none := by
  simp [degreeG?, hn]

/-- `DirectedHypergraph`: the code adds the source-incident and the target-incident hyperedges; with disjoint sides
(C02's hyperedges) this is the number of hyperedges containing the node, filtered by the size of the whole
hyperedge. -/
theorem C08_degree_directed (keys : List (List Nat × List Nat)) (hdis : ∀ k ∈ keys, ∀ x ∈ k.1, x ∉ k.2)
    (n : Nat) (f : Filt) : dirDeg keys n f = degG dirMembers keys n f := by
  induction keys with
  | nil => rfl
  | cons k t ih =>
    have hd := hdis k List.mem_cons_self n
    rw [degG_cons, ← ih (fun k' hk' => hdis k' (List.mem_cons_of_mem _ hk'))]
    simp only [dirDeg, List.filter_cons, dirMembers, List.length_append, List.mem_append, Bool.and_eq_true,
      decide_eq_true_eq]
    -- the head contributes 1 on at most one side, since its sides are disjoint
    by_cases hp : passes f (k.1.length + k.2.length) = true
    · by_cases h1 : n ∈ k.1
      · simp only [h1, hp, hd h1, and_self, true_or, false_and, if_true, if_false, List.length_cons]; omega
      · by_cases h2 : n ∈ k.2
        · simp only [h1, h2, hp, and_self, or_true, false_and, if_true, if_false, List.length_cons]; omega
        · simp only [h1, h2, hp, or_self, false_and, if_false]; omega
    · simp only [hp, and_false, if_false, Bool.false_eq_true]; omega

/-- Handshake: the degrees sum to the total size of the filtered records (`hn`: `get_nodes()` has no repetition;
`hm`: every record is a duplicate-free tuple of nodes of the hypergraph). -/
theorem C08_handshake {κ : Type} (members : κ → List Nat) (nodes : List Nat) (keys : List κ) (hn : nodes.Nodup)
    (hm : ∀ k ∈ keys, (members k).Nodup ∧ ∀ x ∈ members k, x ∈ nodes) (f : Filt) :
    (nodes.map (fun n => degG members keys n f)).sum
      = ((keys.filter (fun k => passes f (members k).length)).map (fun k => (members k).length)).sum := by
  -- double counting of the pairs (node, filtered record containing it)
  simp only [degG, incidentG, ← List.countP_eq_length_filter]
  exact ListLib.handshake members (fun k => passes f (members k).length) nodes keys hn hm

/-- Handshake for `DirectedHypergraph` (hyperedges with disjoint duplicate-free sides over nodes of the hypergraph):
source and target incidences together sum to the total size `|sources| + |targets|` of the filtered hyperedges. -/
theorem C08_handshake_directed (nodes : List Nat) (keys : List (List Nat × List Nat)) (hn : nodes.Nodup)
    (hm : ∀ k ∈ keys, (k.1 ++ k.2).Nodup ∧ ∀ x ∈ k.1 ++ k.2, x ∈ nodes) (f : Filt) :
    (nodes.map (fun n => dirDeg keys n f)).sum
      = ((keys.filter (fun k => passes f (k.1.length + k.2.length))).map (fun k => k.1.length + k.2.length)).sum := by
  have hdis : ∀ k ∈ keys, ∀ x ∈ k.1, x ∉ k.2 := fun k hk x hx1 hx2 =>
    (List.nodup_append.mp (hm k hk).1).2.2 x hx1 x hx2 rfl
  have h := C08_handshake dirMembers nodes keys hn hm f
  simp only [dirMembers, List.length_append] at h
  rw [← h]
  congr 1
  apply List.map_congr_left
  intro n _
  exact C08_degree_directed keys hdis n f

/-- `degree_sequence` lists every node once, in `get_nodes()` order, with its degree; `degree_distribution` is the
histogram of those numbers: degree `d` is a key iff some node has it, its value is the number of such nodes, no key
repeats, and the values add up to the number of nodes. -/
theorem C08_seq_dist {κ : Type} (members : κ → List Nat) (nodes : List Nat) (keys : List κ) (f : Filt) :
    degreeSeqG members nodes keys f = nodes.map (fun n => (n, degG members keys n f)) ∧
    (∀ d, lookup d (degreeDistG members nodes keys f)
        = (let c := (nodes.map (fun n => degG members keys n f)).count d; if c = 0 then none else some c)) ∧
    ((degreeDistG members nodes keys f).map (·.1)).Nodup ∧
    ((degreeDistG members nodes keys f).map (·.2)).sum = nodes.length := by
  refine ⟨degreeSeqG_eq members nodes keys f, fun d => ?_, ?_, ?_⟩
  · rw [degreeDistG_eq]; exact lookup_hist_nil _ d
  · rw [degreeDistG_eq]; exact nodup_hist _ [] List.nodup_nil
  · rw [degreeDistG_eq, sum_hist]; simp

theorem C08_seq_dist_directed (nodes : List Nat) (keys : List (List Nat × List Nat)) (f : Filt) :
    dirDegreeSeq nodes keys f = nodes.map (fun n => (n, dirDeg keys n f)) ∧
    (∀ d, lookup d (dirDegreeDist nodes keys f)
        = (let c := (nodes.map (fun n => dirDeg keys n f)).count d; if c = 0 then none else some c)) := by
  refine ⟨dirDegreeSeq_eq nodes keys f, fun d => ?_⟩
  rw [dirDegreeDist_eq]; exact lookup_hist_nil _ d

/-- `_bfs(hg, u, order|size)` returns exactly the nodes reachable from `u` through hyperedges that pass the
filter, each once; it rejects a start node that is not in the hypergraph.  No hypothesis on the input. -/
theorem C08_bfs (nodes : List Nat) (es : List Edge) (f : Filt) (u : Nat) :
    (u ∈ nodes → ∃ c, bfsFrom nodes es f u = some c ∧ c.Nodup ∧ ∀ v, v ∈ c ↔ Reach es f u v) ∧
    (u ∉ nodes → bfsFrom nodes es f u = none) := by
  constructor
  · intro hu
    exact ⟨bfsH es f u, by simp [bfsFrom, hu], bfsH_nodup es f u, fun v => mem_bfsH es f u v⟩
  · intro hu; simp [bfsFrom, hu]

/-- `connected_components(order|size)` is the partition of the node set into the classes of `Reach es f`:
the components cover the nodes and contain nothing else, are pairwise disjoint, non-empty, repetition-free, and each
one is the reachability class of each of its members.  (`WF` is only used for "nothing else".) -/
theorem C08_partition (nodes : List Nat) (es : List Edge) (f : Filt) (hwf : WF nodes es) :
    (∀ n ∈ nodes, ∃ c ∈ components nodes es f, n ∈ c) ∧
    (∀ c ∈ components nodes es f, ∀ x ∈ c, x ∈ nodes) ∧
    (components nodes es f).Pairwise Disj ∧
    (∀ c ∈ components nodes es f, c ≠ [] ∧ c.Nodup) ∧
    (∀ c ∈ components nodes es f, ∀ u ∈ c, ∀ v, v ∈ c ↔ Reach es f u v) := by
  obtain ⟨h1, h2, h3⟩ := components_spec nodes es f
  refine ⟨h3, ?_, h2, ?_, components_class nodes es f⟩
  · intro c hc x hx
    obtain ⟨r, hr, rfl⟩ := h1 c hc
    exact ((mem_bfsH es f r x).mp hx).mem_nodes hwf hr
  · intro c hc
    obtain ⟨r, _, rfl⟩ := h1 c hc
    exact ⟨List.ne_nil_of_mem ((mem_bfsH es f r r).mpr (Reach.refl r)), bfsH_nodup es f r⟩

/-- two nodes lie in a common component iff one is reachable from the other -/
theorem C08_same_component (nodes : List Nat) (es : List Edge) (f : Filt) (u v : Nat) (hu : u ∈ nodes) :
    (∃ c ∈ components nodes es f, u ∈ c ∧ v ∈ c) ↔ Reach es f u v := by
  constructor
  · rintro ⟨c, hc, huc, hvc⟩
    exact (components_class nodes es f c hc u huc v).mp hvc
  · intro hr
    obtain ⟨c, hc, huc⟩ := (components_spec nodes es f).2.2 u hu
    exact ⟨c, hc, huc, (components_class nodes es f c hc u huc v).mpr hr⟩

/-- `num_connected_components` is the number of reachability classes: every system of representatives `R` (nodes,
pairwise not reachable from each other, every node reachable from one of them) has exactly that many members. -/
theorem C08_count (nodes : List Nat) (es : List Edge) (f : Filt) (R : List Nat) (hR : ∀ r ∈ R, r ∈ nodes)
    (hpair : R.Pairwise (fun a b => ¬ Reach es f a b)) (hcov : ∀ n ∈ nodes, ∃ r ∈ R, Reach es f r n) :
    numComponents nodes es f = R.length :=
  components_count nodes es f R hR hpair hcov

/-- The two primitives of `hypergraph.py` that every C08 function reads.  `get_incident_edges(n, f)` lists exactly the
filtered hyperedges containing `n` (each once when the container lists distinct hyperedges; `degree` is its length).
`get_neighbors(n, f)` is exactly the set of the OTHER members of those hyperedges: it never contains `n` itself -
whatever equal object denotes the node, labels enter only through `==` - and lists nobody twice.  No hypothesis. -/
theorem C08_neighbors (es : List Edge) (f : Filt) (n : Nat) :
    (∀ e, e ∈ incident es n f ↔ e ∈ es ∧ n ∈ e ∧ passes f e.length = true) ∧
    (es.Nodup → (incident es n f).Nodup) ∧ deg es n f = (incident es n f).length ∧
    (∀ v, v ∈ neighbors es f n ↔ v ≠ n ∧ ∃ e ∈ incident es n f, v ∈ e) ∧
    n ∉ neighbors es f n ∧ (neighbors es f n).Nodup := by
  refine ⟨mem_incident es f n, incident_nodup es f n, rfl, ?_, self_not_mem_neighbors es f n, neighbors_nodup es f n⟩
  intro v
  rw [mem_neighbors]
  constructor
  · rintro ⟨hne, e, he, hp, hn, hv⟩
    exact ⟨hne, e, (mem_incident es f n e).mpr ⟨he, hn, hp⟩, hv⟩
  · rintro ⟨hne, e, he, hv⟩
    obtain ⟨he', hn, hp⟩ := (mem_incident es f n e).mp he
    exact ⟨hne, e, he', hp, hn, hv⟩

/-- non-vacuity: node 1 lies in a singleton hyperedge, a pair and a triple; with `size=1` it has an incident hyperedge
and no neighbour, with `size=2` the neighbour 0, without a filter the neighbours 0, 2, 3 -/
example : incident [[0, 1], [1], [1, 2, 3], [4]] 1 (.size 1) = [[1]] ∧ neighbors [[0, 1], [1], [1, 2, 3], [4]] (.size 1) 1 = []
    ∧ neighbors [[0, 1], [1], [1, 2, 3], [4]] (.size 2) 1 = [0] ∧ neighbors [[0, 1], [1], [1, 2, 3], [4]] .none 1 = [0, 2, 3] := by
  decide

/-- A node is isolated (`is_isolated`, `isolated_nodes`) iff no filtered hyperedge of size ≥ 2 contains it, iff its
reachability class is `{n}`, iff its connected component is the singleton `[n]`.
(Hyperedges are duplicate-free tuples: hypothesis of the "size ≥ 2" form only.) -/
theorem C08_isolated (nodes : List Nat) (es : List Edge) (f : Filt) (n : Nat) (hn : n ∈ nodes) :
    ((∀ e ∈ es, e.Nodup) →
      (isIsolated? nodes es f n = some true ↔ ∀ e ∈ es, passes f e.length = true → n ∈ e → e.length < 2)) ∧
    (isIsolated? nodes es f n = some true ↔ ∀ v, Reach es f n v ↔ v = n) ∧
    (isIsolated? nodes es f n = some true ↔ [n] ∈ components nodes es f) ∧
    (n ∈ isolatedNodes nodes es f ↔ isIsolated? nodes es f n = some true) := by
  have hiso : isIsolated? nodes es f n = some true ↔ ∀ v, Adj es f n v → v = n := by
    simp only [isIsolated?, hn, if_true, Option.some.injEq, List.isEmpty_iff, neighbors_eq_nil_iff]
  have hreach : (∀ v, Adj es f n v → v = n) ↔ ∀ v, Reach es f n v ↔ v = n := by
    constructor
    · intro h v
      exact ⟨reach_of_no_adj es f n h v, fun hv => by rw [hv]; exact Reach.refl n⟩
    · intro h v ha
      exact (h v).mp (Reach.single ha)
  refine ⟨?_, hiso.trans hreach, ?_, ?_⟩
  · intro hnd
    rw [hiso]
    constructor
    · intro h e he hp hne
      apply Decidable.byContradiction
      intro hlen
      obtain ⟨v, hv, hvn⟩ := exists_ne_of_two_le e (hnd e he) (by omega) n
      exact hvn (h v ⟨e, he, hp, hne, hv⟩)
    · intro h v ⟨e, he, hp, hne, hv⟩
      apply Decidable.byContradiction
      intro hvn
      have := two_le_of_mem_ne e n v hne hv hvn
      have := h e he hp hne
      omega
  · rw [hiso.trans hreach]
    constructor
    · intro h
      obtain ⟨c, hc, hnc⟩ := (components_spec nodes es f).2.2 n hn
      obtain ⟨r, _, hr⟩ := (components_spec nodes es f).1 c hc
      have hmem : ∀ v, v ∈ c ↔ v = n := fun v => (components_class nodes es f c hc n hnc v).trans (h v)
      have hcnd : c.Nodup := hr ▸ bfsH_nodup es f r
      exact eq_singleton_of_mem_iff c n hcnd hmem ▸ hc
    · intro hc v
      rw [← components_class nodes es f [n] hc n List.mem_cons_self v]
      simp
  · simp only [isolatedNodes, isIsolated?, hn, if_true, List.mem_filter, true_and, Option.some.injEq]

/-- All wrappers of `utils/cc.py` agree with the partition of `C08_partition` under the SAME filter `f`:
count, connectedness, the component of a node, the largest component and its size. -/
theorem C08_consistent (nodes : List Nat) (es : List Edge) (f : Filt) :
    numComponents nodes es f = (components nodes es f).length ∧
    (isConnected nodes es f = true ↔ (components nodes es f).length = 1) ∧
    (isConnected nodes es f = true ↔ nodes ≠ [] ∧ ∀ u ∈ nodes, ∀ v ∈ nodes, Reach es f u v) ∧
    (∀ n ∈ nodes, ∃ c' c, nodeComponent nodes es f n = some c' ∧ c ∈ components nodes es f ∧ n ∈ c ∧ c.Perm c') ∧
    (∀ n, n ∉ nodes → nodeComponent nodes es f n = none) ∧
    (nodes ≠ [] → ∃ c ∈ components nodes es f, largestComponent nodes es f = some c ∧
        largestComponentSize nodes es f = some c.length ∧ ∀ d ∈ components nodes es f, d.length ≤ c.length) ∧
    (nodes = [] → components nodes es f = [] ∧ largestComponent nodes es f = none ∧
        largestComponentSize nodes es f = none) := by
  obtain ⟨h1, h2, h3⟩ := components_spec nodes es f
  refine ⟨rfl, by simp [isConnected], isConnected_iff_reach nodes es f, ?_, ?_, ?_, ?_⟩
  · intro n hn
    obtain ⟨c, hc, hnc⟩ := h3 n hn
    obtain ⟨r, _, hr⟩ := h1 c hc
    refine ⟨bfsH es f n, c, by simp [nodeComponent, bfsFrom, hn], hc, hnc, ?_⟩
    apply (List.perm_ext_iff_of_nodup (hr ▸ bfsH_nodup es f r) (bfsH_nodup es f n)).mpr
    intro v
    rw [components_class nodes es f c hc n hnc v, mem_bfsH]
  · intro n hn; simp [nodeComponent, bfsFrom, hn]
  · intro hne
    have hcne : components nodes es f ≠ [] := by
      obtain ⟨x, hx⟩ := List.exists_mem_of_ne_nil _ hne
      obtain ⟨c, hc, _⟩ := h3 x hx
      exact List.ne_nil_of_mem hc
    obtain ⟨c, hmax, hc, hle⟩ := maxByLen_spec _ hcne
    exact ⟨c, hc, hmax, by simp [largestComponentSize, largestComponent, hmax], hle⟩
  · intro hnil
    have : components nodes es f = [] := by subst hnil; rfl
    simp [largestComponentSize, largestComponent, this, maxByLen]

/-! ## non-vacuity: the hypotheses are satisfiable and the conclusions are not trivial

`D23`'s shape: a size-2 path `0-1`, a size-3 hyperedge `{1,2,3}`, a size-2 hyperedge `3-4`, an isolated node 5 and a
singleton hyperedge `{6}`. -/

def exNodes : List Nat := [0, 1, 2, 3, 4, 5, 6]
def exEdges : List Edge := [[0, 1], [1, 2, 3], [3, 4], [6]]

example : exNodes.Nodup ∧ exEdges.Nodup ∧ WF exNodes exEdges ∧ ∀ e ∈ exEdges, e.Nodup := by
  exact ⟨by decide, by decide, (by decide : ∀ e ∈ exEdges, ∀ x ∈ e, x ∈ exNodes), by decide⟩

-- degrees: node 1 lies in two hyperedges, one of size 2 and one of size 3
example : degree? exNodes exEdges 1 .none = some 2 ∧ degree? exNodes exEdges 1 (.size 2) = some 1
    ∧ degree? exNodes exEdges 1 (.order 2) = some 1 ∧ degree? exNodes exEdges 9 .none = none := by decide
-- handshake: 2 + 3 + 2 + 1 = 8, and 2 + 2 = 4 with size=2
example : ((exNodes.map (fun n => deg exEdges n .none)).sum, (exNodes.map (fun n => deg exEdges n (.size 2))).sum)
    = (8, 4) := by decide
example : degreeSeq exNodes exEdges (.size 2) = [(0, 1), (1, 1), (2, 0), (3, 1), (4, 1), (5, 0), (6, 0)]
    ∧ degreeDist exNodes exEdges (.size 2) = [(1, 4), (0, 3)] := by decide
example : dirDeg [([0, 1], [2]), ([2], [0])] 0 .none = 2 ∧ dirDeg [([0, 1], [2]), ([2], [0])] 0 (.size 3) = 1 := by
  decide
-- BFS / components: the three filters give three different partitions (`bfs` is defined by well-founded recursion and
-- does not reduce: it is evaluated through the budgeted loop `searchN` of `Proofs/C08Visit.lean`)
theorem C08.exBfs_none : bfsH exEdges .none 0 = [4, 3, 2, 1, 0] := bfsH_eval 8 (by decide +kernel)
theorem C08.exBfs_size2 : bfsH exEdges (.size 2) 0 = [1, 0] := bfsH_eval 4 (by decide +kernel)
theorem C08.exComps_none : components exNodes exEdges .none = [[4, 3, 2, 1, 0], [5], [6]] :=
  components_eval 8 (by decide +kernel)
theorem C08.exComps_size2 : components exNodes exEdges (.size 2) = [[1, 0], [2], [4, 3], [5], [6]] :=
  components_eval 4 (by decide +kernel)
theorem C08.exComps_size3 : components exNodes exEdges (.size 3) = [[0], [3, 2, 1], [4], [5], [6]] :=
  components_eval 6 (by decide +kernel)

set_option maxRecDepth 4000 in
example : bfsFrom exNodes exEdges .none 0 = some [4, 3, 2, 1, 0] ∧ bfsFrom exNodes exEdges (.size 2) 0 = some [1, 0]
    ∧ bfsFrom exNodes exEdges .none 7 = none := by
  simp only [bfsFrom, exBfs_none, exBfs_size2]; decide
set_option maxRecDepth 4000 in
example : components exNodes exEdges .none = [[4, 3, 2, 1, 0], [5], [6]]
    ∧ components exNodes exEdges (.size 2) = [[1, 0], [2], [4, 3], [5], [6]]
    ∧ components exNodes exEdges (.size 3) = [[0], [3, 2, 1], [4], [5], [6]] :=
  ⟨exComps_none, exComps_size2, exComps_size3⟩
set_option maxRecDepth 4000 in
example : Reach exEdges .none 0 4 ∧ ¬ Reach exEdges (.size 2) 0 4 := by
  have a01 : Adj exEdges .none 0 1 := ⟨[0, 1], by decide, rfl, by decide, by decide⟩
  have a13 : Adj exEdges .none 1 3 := ⟨[1, 2, 3], by decide, rfl, by decide, by decide⟩
  have a34 : Adj exEdges .none 3 4 := ⟨[3, 4], by decide, rfl, by decide, by decide⟩
  refine ⟨((Reach.single a01).step a13).step a34, fun h => ?_⟩
  have := (mem_bfsH exEdges (.size 2) 0 4).mpr h
  rw [exBfs_size2] at this
  exact absurd this (by decide)
set_option maxRecDepth 4000 in
example : ∃ R : List Nat, (∀ r ∈ R, r ∈ exNodes) ∧ R.Pairwise (fun a b => ¬ Reach exEdges .none a b) ∧
    (∀ n ∈ exNodes, ∃ r ∈ R, Reach exEdges .none r n) ∧ R.length = 3 := by
  have b5 : bfsH exEdges .none 5 = [5] := bfsH_eval 2 (by decide +kernel)
  have r0 : ∀ v, Reach exEdges .none 0 v ↔ v ∈ [4, 3, 2, 1, 0] := fun v => by rw [← exBfs_none, mem_bfsH]
  have r5 : ∀ v, Reach exEdges .none 5 v ↔ v ∈ [5] := fun v => by rw [← b5, mem_bfsH]
  refine ⟨[0, 5, 6], by decide, ?_, ?_, rfl⟩
  · simp [r0, r5]
  · intro n hn
    rcases (by decide : ∀ n ∈ exNodes, n ∈ [4, 3, 2, 1, 0] ∨ n = 5 ∨ n = 6) n hn with h | rfl | rfl
    · exact ⟨0, by decide, (r0 n).mpr h⟩
    · exact ⟨5, by decide, Reach.refl 5⟩
    · exact ⟨6, by decide, Reach.refl 6⟩
set_option maxRecDepth 4000 in
example : isConnected exNodes exEdges .none = false ∧ isConnected [0, 1, 2] [[0, 1], [1, 2]] (.order 1) = true
    ∧ numComponents exNodes exEdges (.size 2) = 5 ∧ largestComponent exNodes exEdges (.size 3) = some [3, 2, 1]
    ∧ largestComponentSize exNodes exEdges (.size 2) = some 2 ∧ largestComponent [] [] .none = none := by
  have c : components [0, 1, 2] [[0, 1], [1, 2]] (.order 1) = [[2, 1, 0]] := components_eval 4 (by decide +kernel)
  simp only [isConnected, numComponents, largestComponent, largestComponentSize, exComps_none, exComps_size2,
    exComps_size3, c]
  decide
example : isolatedNodes exNodes exEdges .none = [5, 6] ∧ isolatedNodes exNodes exEdges (.size 3) = [0, 4, 5, 6]
    ∧ isIsolated? exNodes exEdges (.size 2) 2 = some true ∧ isIsolated? exNodes exEdges .none 2 = some false := by
  decide

/-! ## every object a user can hold

"For every hypergraph" ranges over every `Hypergraph` object reachable through a program of the public operations over
several objects (`Hgxv/Model/C08Hist.lean`: `add_node`, `add_edge`, `remove_edge`, `remove_node(keep_edges)`, `clear`,
`copy`, `subhypergraph`; batches and the constructor are sequences of these; `C08_history_rejected` also covers `Op.restore`,
`Op.load`, `Op.put`: a snapshot restored, an object or a listing taken over from outside).  The theorems above take the listing
`get_nodes()` / `get_edges()` of such an object; the next ones say that every reachable object meets their hypotheses
and that an operation on one object leaves every other object alone. -/

/-- Every object of every program state satisfies the hypotheses used above: distinct nodes, distinct canonical
(strictly increasing, hence duplicate-free) hyperedges over nodes of the object.  `hv`: `add_edge` is given
duplicate-free tuples (the property's hyperedges); rejected operations (`none`: the code raises) end a program. -/
theorem C08_history_wf (ops : List Hist.Op) (hv : ∀ op ∈ ops, op.Valid) (st : List Hist.Content)
    (hr : Hist.run [{}] ops = some st) (c : Hist.Content) (hc : c ∈ st) :
    c.nodes.Nodup ∧ c.es.Nodup ∧ WF c.nodes c.es ∧ (∀ e ∈ c.es, e.Nodup) ∧ (∀ e ∈ c.es, e.Pairwise (· < ·)) := by
  have h := Hist.inv_run ops [{}] st hv (by intro d hd; simp at hd; subst hd; exact Hist.inv_empty) hr c hc
  exact ⟨h.nodes_nodup, h.es_nodup, h.wf, fun e he => NatSort.nodup_of_strict (h.sorted e he), h.sorted⟩

/-- An operation applied to object `i` leaves every other object `j` of the program exactly as it was (`copy` and
`subhypergraph` change no existing object), and the object `copy` appends has the content of its source.  This is what
a copy sharing adjacency lists with its original violates. -/
theorem C08_history_frame (st st' : List Hist.Content) (op : Hist.Op) (hs : Hist.step st op = some st') :
    (∀ j, j < st.length → op.target ≠ some j → st'[j]? = st[j]?) ∧
    (∀ i, op = .copy i → st'[st.length]? = st[i]? ∧ st'.length = st.length + 1) :=
  ⟨fun j hj ht => Hist.frame_step st st' op j hj ht hs, fun i hi => Hist.copy_step st st' i (hi ▸ hs)⟩

/-- Handshake for every reachable object, every filter: no hypothesis on the content is left. -/
theorem C08_history_handshake (ops : List Hist.Op) (hv : ∀ op ∈ ops, op.Valid) (st : List Hist.Content)
    (hr : Hist.run [{}] ops = some st) (c : Hist.Content) (hc : c ∈ st) (f : Filt) :
    (c.nodes.map (fun n => deg c.es n f)).sum
      = ((c.es.filter (fun e => passes f e.length)).map (fun e => e.length)).sum := by
  obtain ⟨hn, _, hwf, hnd, _⟩ := C08_history_wf ops hv st hr c hc
  exact C08_handshake id c.nodes c.es hn (fun e he => ⟨hnd e he, hwf e he⟩) f

/-- non-vacuity: a program with a temporary hyperedge, a copy, and later mutations of both objects -/
def exProgram : List Hist.Op :=
  [.addEdge 0 [2, 1], .addEdge 0 [9, 8], .addEdge 0 [4, 2, 3], .removeEdge 0 [8, 9], .copy 0,
   .removeEdge 1 [1, 2], .addEdge 1 [1, 9], .removeNode 0 2 true, .sub 0 [3, 4, 8]]

example : (∀ op ∈ exProgram, op.Valid) ∧ Hist.run [{}] exProgram = some
    [⟨[1, 8, 9, 3, 4], [[1], [3, 4]]⟩, ⟨[1, 2, 8, 9, 3, 4], [[2, 3, 4], [1, 9]]⟩, ⟨[3, 4, 8], [[3, 4]]⟩] := by
  refine ⟨?_, by decide +kernel⟩
  intro op hop
  simp only [exProgram, List.mem_cons, List.mem_nil_iff, or_false] at hop
  rcases hop with h | h | h | h | h | h | h | h | h <;> subst h <;> simp [Hist.Op.Valid]

/-- **Rejected calls inside a program; objects that enter a program from outside.**  `Hist.runSkip` is the history a user
really has: a call the code rejects (`Hist.step = none`: `remove_edge` / `remove_node` of something absent, an object that does
not exist) raises, the exception is caught and the program goes on.  For every such program - which may also take over objects
made by a loader / generator / filter (`Op.load`), restore a snapshot (`Op.restore` = `populate_from_dict`) or continue from the
listing of an object (`Op.put`) - every object still has distinct nodes, distinct duplicate-free hyperedges over its nodes, and
its degrees sum to the total size of its (filtered) hyperedges; a rejected call leaves the WHOLE state as it was, and a program
without rejected calls is `Hist.run`.  Hypotheses (`Op.Valid`): `add_edge` gets a duplicate-free tuple; a listing taken from
outside is well-formed (the harness checks that on the listing itself before it hands it to the model). -/
theorem C08_history_rejected (ops : List Hist.Op) (hv : ∀ op ∈ ops, op.Valid) (c : Hist.Content)
    (hc : c ∈ Hist.runSkip [{}] ops) (f : Filt) :
    (c.nodes.Nodup ∧ c.es.Nodup ∧ WF c.nodes c.es ∧ (∀ e ∈ c.es, e.Nodup) ∧ (∀ e ∈ c.es, e.Pairwise (· < ·))) ∧
    (c.nodes.map (fun n => deg c.es n f)).sum
      = ((c.es.filter (fun e => passes f e.length)).map (fun e => e.length)).sum ∧
    (∀ st op, Hist.step st op = none → Hist.stepSkip st op = st) ∧
    (∀ st, Hist.run [{}] ops = some st → Hist.runSkip [{}] ops = st) := by
  have h := Hist.inv_runSkip ops [{}] hv (by intro d hd; simp at hd; subst hd; exact Hist.inv_empty) c hc
  have hnd : ∀ e ∈ c.es, e.Nodup := fun e he => NatSort.nodup_of_strict (h.sorted e he)
  exact ⟨⟨h.nodes_nodup, h.es_nodup, h.wf, hnd, h.sorted⟩,
    C08_handshake id c.nodes c.es h.nodes_nodup (fun e he => ⟨hnd e he, h.wf e he⟩) f,
    fun st op hs => (Hist.stepSkip_eq st op).1 hs,
    fun st hr => Hist.runSkip_of_run ops [{}] st hr⟩

/-- non-vacuity: rejected removals (absent hyperedge, absent node, absent object) in the middle of a program, an object taken
over from a generator, a snapshot restored into it, and a listing put in place of the first object; `Hist.run` gives up at
the first rejected call -/
def exRejected : List Hist.Op :=
  [.addEdge 0 [2, 1], .removeEdge 0 [1, 3], .addEdge 0 [3, 2, 4], .removeNode 0 7 false, .load ⟨[0, 1, 2], [[0, 1]]⟩,
   .removeEdge 5 [1, 2], .addNode 1 9, .restore 1 0, .removeEdge 1 [1, 2], .put 0 ⟨[5, 6], [[5, 6], [6]]⟩, .clear 0, .addNode 0 6]

example : (∀ op ∈ exRejected, op.Valid) ∧ Hist.run [{}] exRejected = none ∧
    Hist.runSkip [{}] exRejected = [⟨[6], []⟩, ⟨[1, 2, 3, 4], [[2, 3, 4]]⟩] := by
  refine ⟨?_, by decide +kernel, by decide +kernel⟩
  intro op hop
  simp only [exRejected, List.mem_cons, List.mem_nil_iff, or_false] at hop
  rcases hop with h | h | h | h | h | h | h | h | h | h | h | h <;> subst h <;>
    first
      | (simp [Hist.Op.Valid]; done)
      | exact ⟨by decide, by decide, by decide, by decide⟩

/-! ## Links to the full container models (C01 … C04)

The theorems above take LISTINGS.  The four container classes have complete models with refinement proofs for every
history of public calls (`Hgxv/Model/C01 … C04.lean`: concrete id-indexed `Store`, abstract `Spec`, `abs`, class invariant,
`answer` / query functions).  `Hgxv/Proofs/C08LinkC01.lean`, `C08LinkDeg.lean`, `C08LinkHist.lean` compose the two, and the
corollaries below quantify over EVERY history: `cs` is any finite list of well-formed public calls on `k` slots
(`C01.Cmd`: constructor, `copy`, the 18 mutating calls, accepted or rejected), `s` the object in slot `i` afterwards.
No hypothesis on the content is left: distinct nodes, distinct canonical hyperedges over nodes of the object, incidence
sound and complete are discharged from the class invariant (`C01.run_inv` etc.).

Vocabulary (`namespace C08.Link`): `nodesOf s` / `edgesOf s` = what `get_nodes()` / `get_edges()` of the object list;
`toFilter f` = the `order=` / `size=` keywords of a C08 filter; `componentsObj s f` / `bfsFromObj s f u` = the code of
`connected_components` / `_bfs` run against the GETTERS of the object (`get_nodes`, `check_node`, `get_neighbors`);
`C01.abs s` = the abstract hypergraph of the history (`C08_link_listing`): node ↦ metadata, node set ↦ (weight,
metadata); `Reach (keys (abs s).edges) f` is the property's reachability relation on that abstract content. -/
open C08.Link

/-- **What the object lists, for every history.**  `get_nodes()` / `get_edges()` of the object are `nodesOf s` /
`edgesOf s`; the abstract run of the same history has `C01.abs s` in the same slot and answers EVERY getter identically;
the two listings are the key lists of that abstract hypergraph, and they satisfy every hypothesis used by the C08
theorems: no node twice, no hyperedge twice, every hyperedge a duplicate-free sorted tuple of nodes of the object. -/
theorem C08_link_listing (k : Nat) (cs : List C01.Cmd) (hwf : ∀ c ∈ cs, c.WF) (i : Nat) (s : C01.Store)
    (hs : (C01.run (C01.init k) cs)[i]? = some s) :
    C01.answer s .nodes = .nats (nodesOf s) ∧ C01.answer s (.edges {}) = .edges (edgesOf s) ∧
    (C01.Spec.run (C01.Spec.init k) cs)[i]? = some (C01.abs s) ∧
    (∀ q, C01.answer s q = C01.Spec.answer (C01.abs s) q) ∧
    nodesOf s = AL.keys (C01.abs s).nodes ∧ edgesOf s = AL.keys (C01.abs s).edges ∧
    (nodesOf s).Nodup ∧ (edgesOf s).Nodup ∧ WF (nodesOf s) (edgesOf s) ∧
    (∀ e ∈ edgesOf s, e.Nodup ∧ e.Pairwise (· ≤ ·)) := by
  have h := C08.Link.inv_of_history k cs hwf i s hs
  have hsim := (C01.run_sim cs _ _ hwf (C01.init_sim k)).1
  obtain ⟨w1, w2, w3, w4, w5⟩ := listing_wf h
  refine ⟨answer_nodes s, answer_edges s, ?_, C01.answer_abs s h, (listing_abs h).1, (listing_abs h).2, w1, w2, w3,
    fun e he => ⟨w4 e he, w5 e he⟩⟩
  rw [hsim, List.getElem?_map, hs]; rfl

/-- **Every getter C08 reads, for every history.**  With the filter `f` handed over as keywords, the object answers
`get_incident_edges`, `get_neighbors`, `degree`, `degree_sequence`, `degree_distribution`, `isolated_nodes`,
`is_isolated` exactly as the C08 functions compute them from the two listings - same values, same listing order, rejected
(`rej`: the call raises) exactly for a node that is not in the hypergraph. -/
theorem C08_link_getters (k : Nat) (cs : List C01.Cmd) (hwf : ∀ c ∈ cs, c.WF) (i : Nat) (s : C01.Store)
    (hs : (C01.run (C01.init k) cs)[i]? = some s) (f : Filt) (n : Nat) :
    C01.answer s (.incident n (toFilter f)) =
      (if n ∈ nodesOf s then .edges (incident (edgesOf s) n f) else .rej) ∧
    C01.answer s (.neighbors n (toFilter f)) =
      (if n ∈ nodesOf s then .nats (neighbors (edgesOf s) f n) else .rej) ∧
    C01.answer s (.degree n (toFilter f)) =
      (match degree? (nodesOf s) (edgesOf s) n f with
        | some d => .int d
        | none => .rej) ∧
    C01.answer s (.degreeSeq (toFilter f)) =
      .pairs ((degreeSeq (nodesOf s) (edgesOf s) f).map fun p => ((p.1 : Int), p.2)) ∧
    C01.answer s (.degreeDist (toFilter f)) =
      .pairs ((degreeDist (nodesOf s) (edgesOf s) f).map fun p => ((p.1 : Int), p.2)) ∧
    C01.answer s (.isolated (toFilter f)) = .nats (isolatedNodes (nodesOf s) (edgesOf s) f) ∧
    C01.answer s (.isIsolated n (toFilter f)) =
      (match isIsolated? (nodesOf s) (edgesOf s) f n with
        | some b => .bool b
        | none => .rej) := by
  have h := C08.Link.inv_of_history k cs hwf i s hs
  exact ⟨answer_incident h n f, answer_neighbors h n f, answer_degree h n f, answer_degreeSeq h f,
    answer_degreeDist h f, answer_isolated h f, answer_isIsolated h n f⟩

/-- **Degrees, for every history** (`C08_degree`, `C08_handshake`, `C08_seq_dist` composed with C01).  `K` = the node
sets of the abstract hypergraph of the history.  The degree the object answers for a node `n` is the number of DISTINCT
members of `K` that pass the filter and contain `n` (the length of any duplicate-free listing `L` of exactly those); a
node that is not in the hypergraph is rejected; `degree_sequence` lists every node once, in `get_nodes()` order, with the
degree the object answers for it; those numbers sum to the total size of the filtered members of `K`; and
`degree_distribution` is their histogram. -/
theorem C08_link_degree (k : Nat) (cs : List C01.Cmd) (hwf : ∀ c ∈ cs, c.WF) (i : Nat) (s : C01.Store)
    (hs : (C01.run (C01.init k) cs)[i]? = some s) (f : Filt) :
    let K := AL.keys (C01.abs s).edges
    (∀ n ∈ nodesOf s, ∀ L : List Edge, L.Nodup →
        (∀ e, e ∈ L ↔ e ∈ K ∧ passes f e.length = true ∧ n ∈ e) →
        C01.answer s (.degree n (toFilter f)) = .int L.length) ∧
    (∀ n, n ∉ nodesOf s → C01.answer s (.degree n (toFilter f)) = .rej) ∧
    (∃ seq : List (Nat × Nat),
        C01.answer s (.degreeSeq (toFilter f)) = .pairs (seq.map fun p => ((p.1 : Int), p.2)) ∧
        seq.map (·.1) = nodesOf s ∧
        (∀ p ∈ seq, C01.answer s (.degree p.1 (toFilter f)) = .int p.2) ∧
        (seq.map (·.2)).sum = ((K.filter (fun e => passes f e.length)).map List.length).sum ∧
        ∃ dist : List (Nat × Nat),
          C01.answer s (.degreeDist (toFilter f)) = .pairs (dist.map fun p => ((p.1 : Int), p.2)) ∧
          (dist.map (·.1)).Nodup ∧ (dist.map (·.2)).sum = (nodesOf s).length ∧
          ∀ d, lookup d dist = (let c := (seq.map (·.2)).count d; if c = 0 then none else some c)) := by
  intro K
  have h := C08.Link.inv_of_history k cs hwf i s hs
  have hK : K = edgesOf s := (listing_abs h).2.symm
  clear_value K
  subst hK
  obtain ⟨w1, w2, w3, w4, _⟩ := listing_wf h
  have hseq : degreeSeq (nodesOf s) (edgesOf s) f = (nodesOf s).map (fun n => (n, deg (edgesOf s) n f)) :=
    degreeSeqG_eq id _ _ f
  obtain ⟨_, q2, q3, q4⟩ := C08_seq_dist id (nodesOf s) (edgesOf s) f
  refine ⟨fun n hn L hL hmem => ?_, fun n hn => ?_, _, answer_degreeSeq h f, ?_, fun p hp => ?_, ?_,
    _, answer_degreeDist h f, q3, q4, fun d => ?_⟩
  · rw [answer_degree h n f, degree?, C08_degree id _ _ w2 n hn f L hL hmem]
  · rw [answer_degree h n f, degree?, C08_degree_absent id _ _ n hn f]
  · rw [hseq, List.map_map]
    exact List.map_id' _
  · rw [hseq] at hp
    obtain ⟨n, hn, rfl⟩ := List.mem_map.mp hp
    rw [answer_degree h n f, degree?, degreeG?, if_pos hn]
    rfl
  · rw [hseq, List.map_map]
    exact C08_handshake id (nodesOf s) (edgesOf s) w1 (fun e he => ⟨w4 e he, w3 e he⟩) f
  · rw [hseq, List.map_map]
    exact q2 d

/-- **Connected components, for every history** (`C08_bfs`, `C08_partition` composed with C01).  The loop of
`connected_components(order|size)` run against `get_nodes()` / `get_neighbors()` of the object returns the partition of
its node set into the classes of the reachability relation generated by the filtered node sets `K` of the abstract
hypergraph of the history: the components cover the nodes and contain nothing else, are pairwise disjoint, non-empty,
repetition-free, each one is the class of each of its members; `_bfs(hg, u, order|size)` returns the class of `u`, each
member once, and rejects a `u` that is not in the hypergraph.  (First conjunct: that loop IS the C08 function of the two
listings.) -/
theorem C08_link_components (k : Nat) (cs : List C01.Cmd) (hwf : ∀ c ∈ cs, c.WF) (i : Nat) (s : C01.Store)
    (hs : (C01.run (C01.init k) cs)[i]? = some s) (f : Filt) :
    let K := AL.keys (C01.abs s).edges
    componentsObj s f = components (nodesOf s) (edgesOf s) f ∧
    (∀ n ∈ nodesOf s, ∃ c ∈ componentsObj s f, n ∈ c) ∧
    (∀ c ∈ componentsObj s f, ∀ x ∈ c, x ∈ nodesOf s) ∧
    (componentsObj s f).Pairwise Disj ∧
    (∀ c ∈ componentsObj s f, c ≠ [] ∧ c.Nodup) ∧
    (∀ c ∈ componentsObj s f, ∀ u ∈ c, ∀ v, v ∈ c ↔ Reach K f u v) ∧
    (∀ u, (u ∈ nodesOf s → ∃ c, bfsFromObj s f u = some c ∧ c.Nodup ∧ ∀ v, v ∈ c ↔ Reach K f u v) ∧
          (u ∉ nodesOf s → bfsFromObj s f u = none)) := by
  intro K
  have h := C08.Link.inv_of_history k cs hwf i s hs
  have hK : K = edgesOf s := (listing_abs h).2.symm
  clear_value K
  subst hK
  obtain ⟨p1, p2, p3, p4, p5⟩ := C08_partition (nodesOf s) (edgesOf s) f (listing_wf h).2.2.1
  rw [componentsObj_eq h f]
  refine ⟨rfl, p1, p2, p3, p4, p5, fun u => ?_⟩
  rw [bfsFromObj_eq h f u]
  exact C08_bfs (nodesOf s) (edgesOf s) f u

/-- **The wrappers of `utils/cc.py`, for every history** (`C08_consistent`, `C08_count`, `C08_isolated` composed with
C01).  With `comps` = what `connected_components(order|size)` returns on the object: `is_connected`
(`len(comps) == 1`) holds iff the hypergraph has a node and all its nodes are mutually reachable; `len(comps)` is the
number of reachability classes (the length of every system of representatives); `node_connected_component(n)` is, as a
set, the member of `comps` containing `n`; `max(comps, key=len)` is a member of maximal length (and raises on the empty
hypergraph); `is_isolated(n)` as the object answers it holds iff `[n]` is a component, iff no filtered abstract hyperedge
of size ≥ 2 contains `n`; `isolated_nodes` lists exactly those nodes.  The SAME filter everywhere. -/
theorem C08_link_wrappers (k : Nat) (cs : List C01.Cmd) (hwf : ∀ c ∈ cs, c.WF) (i : Nat) (s : C01.Store)
    (hs : (C01.run (C01.init k) cs)[i]? = some s) (f : Filt) :
    let K := AL.keys (C01.abs s).edges
    let comps := componentsObj s f
    ((comps.length == 1) = true ↔ nodesOf s ≠ [] ∧ ∀ u ∈ nodesOf s, ∀ v ∈ nodesOf s, Reach K f u v) ∧
    (∀ R : List Nat, (∀ r ∈ R, r ∈ nodesOf s) → R.Pairwise (fun a b => ¬ Reach K f a b) →
        (∀ n ∈ nodesOf s, ∃ r ∈ R, Reach K f r n) → comps.length = R.length) ∧
    (∀ n ∈ nodesOf s, ∃ c' c, bfsFromObj s f n = some c' ∧ c ∈ comps ∧ n ∈ c ∧ c.Perm c') ∧
    (nodesOf s ≠ [] → ∃ c ∈ comps, maxByLen comps = some c ∧ ∀ d ∈ comps, d.length ≤ c.length) ∧
    (nodesOf s = [] → comps = [] ∧ maxByLen comps = none) ∧
    (∀ n ∈ nodesOf s,
        (C01.answer s (.isIsolated n (toFilter f)) = .bool true ↔ [n] ∈ comps) ∧
        (C01.answer s (.isIsolated n (toFilter f)) = .bool true ↔
          ∀ e ∈ K, passes f e.length = true → n ∈ e → e.length < 2) ∧
        (∃ L, C01.answer s (.isolated (toFilter f)) = .nats L ∧
          (n ∈ L ↔ C01.answer s (.isIsolated n (toFilter f)) = .bool true))) := by
  intro K comps
  have h := C08.Link.inv_of_history k cs hwf i s hs
  have hK : K = edgesOf s := (listing_abs h).2.symm
  have hc : comps = components (nodesOf s) (edgesOf s) f := componentsObj_eq h f
  clear_value K comps
  subst hK hc
  obtain ⟨_, _, c3, c4, _, c6, c7⟩ := C08_consistent (nodesOf s) (edgesOf s) f
  have hiso : ∀ n ∈ nodesOf s, (C01.answer s (.isIsolated n (toFilter f)) = .bool true ↔
      isIsolated? (nodesOf s) (edgesOf s) f n = some true) := by
    intro n hn
    rw [answer_isIsolated h n f]
    simp only [isIsolated?, hn, if_true, Option.some.injEq, C01.Ans.bool.injEq]
  refine ⟨c3, C08_count (nodesOf s) (edgesOf s) f, fun n hn => ?_, fun hne => ?_, fun hnil => ?_, fun n hn => ?_⟩
  · rw [bfsFromObj_eq h f n]
    exact c4 n hn
  · obtain ⟨c, hcm, hmax, _, hle⟩ := c6 hne
    exact ⟨c, hcm, hmax, hle⟩
  · exact ⟨(c7 hnil).1, (c7 hnil).2.1⟩
  · obtain ⟨i1, _, i3, i4⟩ := C08_isolated (nodesOf s) (edgesOf s) f n hn
    rw [hiso n hn]
    exact ⟨i3, i1 (listing_wf h).2.2.2.1, isolatedNodes (nodesOf s) (edgesOf s) f, answer_isolated h f, i4⟩

/-- non-vacuity: a history on two slots with a temporary hyperedge (an id gap), a `copy`, mutations of the original and
of the copy afterwards (`remove_node(keep_edges=True)` on the copy), an isolated node, a singleton hyperedge and a
batched node removal.  Slot 0 ends with the listings `exNodes` / `exEdges` used above. -/
def C08.Link.exHistory : List C01.Cmd :=
  [.on 0 (.addEdge [1, 0] none none), .on 0 (.addEdge [9, 8] none none), .on 0 (.addEdge [3, 1, 2] none none),
   .on 0 (.removeEdge [8, 9]), .on 0 (.addEdge [4, 3] none none), .copy 0 1, .on 1 (.removeNode 1 true),
   .on 0 (.addNode 5 none), .on 0 (.addEdge [6] none none), .on 0 (.removeNodes [8, 9] false)]

theorem C08.Link.exHistory_wf : ∀ c ∈ C08.Link.exHistory, c.WF := by
  intro c hc
  simp only [C08.Link.exHistory, List.mem_cons, List.not_mem_nil, or_false] at hc
  rcases hc with h | h | h | h | h | h | h | h | h | h <;> subst h <;> simp [C01.Cmd.WF, C01.Op.WF]

theorem C08.Link.exHistory_listings :
    ((C01.run (C01.init 2) exHistory)[0]?.map fun s => (nodesOf s, edgesOf s)) = some (exNodes, exEdges) ∧
    ((C01.run (C01.init 2) exHistory)[1]?.map fun s => (nodesOf s, edgesOf s))
      = some ([0, 8, 9, 2, 3, 4], [[3, 4], [0], [2, 3]]) := by decide +kernel

example : ((C01.run (C01.init 2) exHistory)[0]?.map fun s => (nodesOf s, edgesOf s)) = some (exNodes, exEdges) ∧
    ((C01.run (C01.init 2) exHistory)[1]?.map fun s => (nodesOf s, edgesOf s))
      = some ([0, 8, 9, 2, 3, 4], [[3, 4], [0], [2, 3]]) := exHistory_listings

/-- the object in slot 0 of the example history, by its listings -/
theorem C08.Link.exHistory_slot0 (s : C01.Store) (hs : (C01.run (C01.init 2) exHistory)[0]? = some s) :
    nodesOf s = exNodes ∧ edgesOf s = exEdges := by
  have h := exHistory_listings.1
  rw [hs] at h
  simpa using h

-- the getters of that object, asked directly: degree 2 / 1, neighbours under `size=2`, rejected non-node, isolated nodes
example : ∃ s, (C01.run (C01.init 2) exHistory)[0]? = some s ∧
    C01.answer s (.degree 1 (toFilter .none)) = .int 2 ∧ C01.answer s (.degree 1 (toFilter (.size 2))) = .int 1 ∧
    C01.answer s (.neighbors 3 (toFilter (.size 2))) = .nats [4] ∧ C01.answer s (.degree 8 (toFilter .none)) = .rej ∧
    C01.answer s (.degreeDist (toFilter (.size 2))) = .pairs [(1, 4), (0, 3)] ∧
    C01.answer s (.isolated (toFilter (.order 2))) = .nats [0, 4, 5, 6] :=
  ⟨_, rfl, by decide +kernel⟩

-- connected components computed over the getters of that object, three filters
set_option maxRecDepth 4000 in
example : ∃ s, (C01.run (C01.init 2) exHistory)[0]? = some s ∧
    componentsObj s .none = [[4, 3, 2, 1, 0], [5], [6]] ∧
    componentsObj s (.size 2) = [[1, 0], [2], [4, 3], [5], [6]] ∧
    bfsFromObj s (.size 3) 1 = some [3, 2, 1] ∧ bfsFromObj s .none 8 = none := by
  have hex : ∃ s, (C01.run (C01.init 2) exHistory)[0]? = some s := ⟨_, rfl⟩
  obtain ⟨s, hs'⟩ := hex
  refine ⟨s, hs', ?_⟩
  have h := C08.Link.inv_of_history 2 exHistory exHistory_wf 0 s hs'
  obtain ⟨hn, he⟩ := exHistory_slot0 s hs'
  rw [componentsObj_eq h, componentsObj_eq h, bfsFromObj_eq h, bfsFromObj_eq h, hn, he]
  exact ⟨exComps_none, exComps_size2, bfsFrom_eval 4 (by decide) (by decide +kernel), by decide⟩

/-! ### degrees of the other three containers -/

/-- **`DirectedHypergraph`, every history** (`C08_degree_directed`, `C08_degree`, `C08_handshake_directed` composed with
C02).  `cs`: any finite list of well-formed constructor calls, copies and public mutating calls; `s` the object in a slot
afterwards; `f` a filter the getters accept, `g` its C08 reading.  The listings `N`, `K` of the object are the node list
and the (source tuple, target tuple) key list of its abstract content; they satisfy the hypotheses of the C08 theorems
(distinct nodes, distinct keys, duplicate-free DISJOINT sides over nodes of the object); `degree(n)` as the object
answers it is the number of distinct filtered keys having `n` on either side; a non-node is rejected; `degree_sequence`
is the per-node view, `degree_distribution` its histogram; the degrees sum to the total size `|sources| + |targets|` of the filtered keys. -/
theorem C08_link_degree_C02 (cs : List C02.Cmd) (hcs : ∀ c ∈ cs, c.WF) (slot : Nat) (s : C02.Store)
    (hs : AL.get? (C02.runCmds [] cs) slot = some s) (f : C02.Filt) (g : Filt) (hg : ofFilt02 f = some g) :
    let N := nodes02 s
    let K := keys02 s
    N = AL.keys (C02.abs s).nodes ∧ K = AL.keys (C02.abs s).edges ∧
    N.Nodup ∧ K.Nodup ∧ (∀ k ∈ K, (k.1 ++ k.2).Nodup ∧ ∀ x ∈ k.1 ++ k.2, x ∈ N) ∧
    (∀ n ∈ N, ∀ L : List (List Nat × List Nat), L.Nodup →
        (∀ k, k ∈ L ↔ k ∈ K ∧ passes g (k.1.length + k.2.length) = true ∧ (n ∈ k.1 ∨ n ∈ k.2)) →
        C02.degree s n f = some L.length) ∧
    (∀ n, n ∉ N → C02.degree s n f = none) ∧
    C02.degreeSeq s f = some (N.map fun n => (n, dirDeg K n g)) ∧
    (∀ n ∈ N, C02.degree s n f = some (dirDeg K n g)) ∧
    (∃ dist, C02.degreeDist s f = some dist ∧
      ∀ d, AL.get? dist d = (let c := (N.map (fun n => dirDeg K n g)).count d; if c = 0 then none else some c)) ∧
    (N.map (fun n => dirDeg K n g)).sum =
      ((K.filter (fun k => passes g (k.1.length + k.2.length))).map (fun k => k.1.length + k.2.length)).sum := by
  intro N K
  have h : C02.Inv s := C02.runCmds_inv [] cs hcs (fun _ _ h => by simp [AL.get?] at h) slot s hs
  obtain ⟨l1, l2, l3, l4⟩ := listing02 h
  refine ⟨(C02.abs_nodes_keys s).symm, (C02.abs_edges_keys s).symm, l1, l2, l3, ?_, ?_, ?_, ?_, ?_, ?_⟩
  · intro n hn L hL hmem
    rw [degree02 h n f g hg, if_pos hn, C08_degree_directed K l4 n g]
    have := C08_degree dirMembers N K l2 n hn g L hL (by
      intro k
      rw [hmem k]
      simp only [dirMembers, List.length_append, List.mem_append])
    simpa [degreeG?, hn] using this
  · intro n hn
    rw [degree02 h n f g hg, if_neg hn]
  · rw [degreeSeq02 h f g hg, dirDegreeSeq_eq]
  · intro n hn
    rw [degree02 h n f g hg, if_pos hn]
  · obtain ⟨dist, hd1, hd2⟩ := degreeDist02 h f g hg
    refine ⟨dist, hd1, fun d => ?_⟩
    rw [hd2 d]
    exact (C08_seq_dist_directed N K g).2 d
  · exact C08_handshake_directed N K l1 l3 g

/-- non-vacuity: constructor with two hyperedges, a re-insertion in permuted order, a temporary hyperedge, a copy mutated
afterwards -/
def C08.Link.exHistory02 : List C02.Cmd :=
  [.new 0 false none none (some [.ofLists [2, 1] [3], .ofLists [3] [4, 5]]) none none,
   .op 0 (.addEdge (.ofLists [1, 2] [3]) none none), .op 0 (.addEdge (.ofLists [7] [8]) none none),
   .op 0 (.removeEdge (.ofLists [7] [8])), .copy 0 1, .op 1 (.removeNode 3 false),
   .op 0 (.addEdge (.ofLists [5] [1]) none none)]

example : (∀ c ∈ exHistory02, c.WF) ∧ (AL.get? (C02.runCmds [] exHistory02) 0).isSome = true ∧
    (let s := (AL.get? (C02.runCmds [] exHistory02) 0).getD {}
     nodes02 s = [1, 2, 3, 4, 5, 7, 8] ∧ keys02 s = [([1, 2], [3]), ([3], [4, 5]), ([5], [1])] ∧
     C02.degree s 3 .all = some 2 ∧ C02.degree s 3 (.size 3) = some 2 ∧ C02.degree s 1 (.order 1) = some 1 ∧
     C02.degree s 6 .all = none ∧
     C02.degreeSeq s (.size 2) = some [(1, 1), (2, 0), (3, 0), (4, 0), (5, 1), (7, 0), (8, 0)]) ∧
    ofFilt02 (.size 3) = some (.size 3) :=
  ⟨C02.cmds_WF_of_ok _ (by decide +kernel), by decide +kernel, by decide +kernel, rfl⟩

/-- **`TemporalHypergraph`, every history** (`C08_degree`, `C08_handshake`, `C08_seq_dist` composed with C03).  Records are
`(time, node tuple)`; `s` is any object reachable by well-formed public calls; `(os03 f).1`, `(os03 f).2` are the two
keywords of the filter.  The listings are those of the abstract map of the history and satisfy the hypotheses; `degree(n)`
as the object answers it is the number of distinct filtered RECORDS containing `n` - a hyperedge present at two times
counts twice -; a non-node is rejected; `degree_sequence` is the per-node view, `degree_distribution` the histogram
(`V.degreeSeq` / `V.degreeDist` are what the getters of the object answer); the degrees sum to the total size of the
filtered records. -/
theorem C08_link_degree_C03 (s : C03.Store) (hr : C03.Reachable s) (f : Filt) :
    let N := nodes03 s
    let K := keys03 s
    N = AL.keys (C03.abs s).nodes ∧ K = AL.keys (C03.abs s).recs ∧
    N.Nodup ∧ K.Nodup ∧ (∀ k ∈ K, k.2.Nodup ∧ ∀ x ∈ k.2, x ∈ N) ∧
    (∀ n ∈ N, ∀ L : List (Nat × List Nat), L.Nodup →
        (∀ k, k ∈ L ↔ k ∈ K ∧ passes f k.2.length = true ∧ n ∈ k.2) →
        C03.degree s n (os03 f).1 (os03 f).2 = some L.length) ∧
    (∀ n, n ∉ N → C03.degree s n (os03 f).1 (os03 f).2 = none) ∧
    C03.V.degreeSeq (C03.view s) (os03 f).1 (os03 f).2
      = some (N.map fun n => (n, degG (fun k : Nat × List Nat => k.2) K n f)) ∧
    (∃ dist : List (Nat × Nat),
      C03.V.degreeDist (C03.view s) (os03 f).1 (os03 f).2 = some (dist.map fun p => ((p.1 : Int), p.2)) ∧
      (dist.map (·.1)).Nodup ∧ (dist.map (·.2)).sum = N.length ∧
      ∀ d, lookup d dist = (let c := (N.map (fun n => degG (fun k : Nat × List Nat => k.2) K n f)).count d
                            if c = 0 then none else some c)) ∧
    (N.map (fun n => degG (fun k : Nat × List Nat => k.2) K n f)).sum =
      ((K.filter (fun k => passes f k.2.length)).map (fun k => k.2.length)).sum := by
  intro N K
  have h := C03.reachable_inv hr
  obtain ⟨l1, l2, l3⟩ := listing03 h
  refine ⟨rfl, (C03.keys_records s).symm, l1, l2, l3, ?_, ?_, ?_, ?_, ?_⟩
  · intro n hn L hL hmem
    rw [degree03 h n f]
    exact C08_degree (fun k : Nat × List Nat => k.2) N K l2 n hn f L hL hmem
  · intro n hn
    rw [degree03 h n f]
    exact C08_degree_absent _ N K n hn f
  · rw [degreeSeq03 h f]
    simp only [degreeSeqG, degG_toOrder]
    rfl
  · obtain ⟨_, q2, q3, q4⟩ := C08_seq_dist (fun k : Nat × List Nat => k.2) N K f
    exact ⟨_, degreeDist03 h f, q3, q4, q2⟩
  · exact C08_handshake (fun k : Nat × List Nat => k.2) N K l1 l3 f

/-- non-vacuity: the hyperedge `{1,2}` at times 0 and 3 (two records), a temporary record, a copy -/
def C08.Link.exHistory03 : List C03.Op :=
  [.new 0 false, .on 0 (.addEdge [2, 1] (.int 0) none none), .on 0 (.addEdge [1, 2] (.int 3) none none),
   .on 0 (.addEdge [9, 1] (.int 1) none none), .on 0 (.removeEdge [1, 9] (.int 1)),
   .on 0 (.addEdge [3, 1, 2] (.int 3) none none), .copy 0 1, .on 1 (.removeNode 1 false)]

example : (∀ op ∈ exHistory03, op.WF) ∧
    ((AL.get? (C03.run [] exHistory03) 0).map fun s => (nodes03 s, keys03 s, C03.degree s 1 none none,
      C03.degree s 1 (os03 (.size 2)).1 (os03 (.size 2)).2, C03.degree s 7 none none)) =
    some ([1, 2, 9, 3], [(0, [1, 2]), (3, [1, 2]), (3, [1, 2, 3])], some 3, some 2, none) := by decide +kernel

/-- **`MultiplexHypergraph`, every history** (same composition with C04, whose model has no `degree_distribution` query).  Records are `(node tuple, layer)`; the same
node set in two layers counts twice. -/
theorem C08_link_degree_C04 (w : Bool) (hm : C04.HMeta) (ops : List C04.Op) (hw : ∀ op ∈ ops, op.WF)
    (f : C04.Filt) (g : Filt) (hg : ofFilt04 f = some g) :
    let s := C04.run (C04.init w hm) ops
    let N := nodes04 s
    let K := keys04 s
    N = AL.keys (C04.abs s).nodes ∧ K = AL.keys (C04.abs s).edges ∧
    N.Nodup ∧ K.Nodup ∧ (∀ k ∈ K, k.1.Nodup ∧ ∀ x ∈ k.1, x ∈ N) ∧
    (∀ n ∈ N, ∀ L : List (List Nat × Nat), L.Nodup →
        (∀ k, k ∈ L ↔ k ∈ K ∧ passes g k.1.length = true ∧ n ∈ k.1) → C04.degree s n f = some L.length) ∧
    (∀ n, n ∉ N → C04.degree s n f = none) ∧
    C04.degreeSeq s f = some (N.map fun n => (n, degG (fun k : List Nat × Nat => k.1) K n g)) ∧
    (N.map (fun n => degG (fun k : List Nat × Nat => k.1) K n g)).sum =
      ((K.filter (fun k => passes g k.1.length)).map (fun k => k.1.length)).sum := by
  intro s N K
  have h : C04.Inv s := C04.run_inv _ ops (C04.inv_init w hm) hw
  obtain ⟨l1, l2, l3⟩ := listing04 h
  refine ⟨rfl, C04.records_abs s, l1, l2, l3, ?_, ?_, ?_, ?_⟩
  · intro n hn L hL hmem
    rw [degree04 h n f g hg]
    exact C08_degree (fun k : List Nat × Nat => k.1) N K l2 n hn g L hL hmem
  · intro n hn
    rw [degree04 h n f g hg]
    exact C08_degree_absent _ N K n hn g
  · rw [degreeSeq04 h f g hg]
    simp only [degreeSeqG, degG_toOrder]
    rfl
  · exact C08_handshake (fun k : List Nat × Nat => k.1) N K l1 l3 g

/-- non-vacuity: `{1,2,3}` in layers 0 and 1, `{2,3}` in layer 0, a temporary record -/
def C08.Link.exHistory04 : List C04.Op :=
  [.addEdge [3, 1, 2] 0 none none, .addEdge [2, 3] 0 none none, .addEdge [2, 1, 3] 1 none none,
   .addEdge [7, 8] 2 none none, .removeEdge [8, 7] 2, .addNode 5 none]

example : (∀ op ∈ exHistory04, op.WF) ∧
    (let s := C04.run (C04.init false) exHistory04
     nodes04 s = [1, 2, 3, 7, 8, 5] ∧ keys04 s = [([1, 2, 3], 0), ([2, 3], 0), ([1, 2, 3], 1)] ∧
     C04.degree s 2 .all = some 3 ∧ C04.degree s 2 (.size 3) = some 2 ∧ C04.degree s 1 (.order 1) = some 0 ∧
     C04.degree s 6 .all = none ∧
     C04.degreeSeq s (.size 2) = some [(1, 0), (2, 1), (3, 1), (7, 0), (8, 0), (5, 0)]) :=
  ⟨by decide +kernel, by decide +kernel⟩

/-! ### the history model `Model/C08Hist.lean` and C01's abstract hypergraph -/

/-- **`C08_history_*` and C01, operation by operation.**  `Hist.Content` (`Hgxv/Model/C08Hist.lean`, the small history
model used by `C08_history_wf / _frame / _handshake`) is C01's abstract hypergraph with weights and metadata forgotten:
for the abstract hypergraph `a` of ANY history, `contentOf a` lists what the object lists, satisfies `Hist.Inv`, and every
single-object operation of `Hist` is the corresponding call of `C01.Spec` on `a` - same resulting listings in the same
order: `add_node`; `clear`; an ACCEPTED `add_edge` with any optional arguments (always accepted without a weight; C01
rejects a weight on an unweighted object, where `Hist.addEdge` is total); `remove_edge` and `remove_node(n, keep_edges)`
for both values of `keep_edges`, which C01 rejects exactly when the `Hist` operation is `none`.  (`Hist.Op.copy` appends a new object where `C01.Cmd.copy` overwrites a slot - both leave the
content as it is; `Hist.sub` has no single C01 call.) -/
theorem C08_link_hist_ops (k : Nat) (cs : List C01.Cmd) (hwf : ∀ c ∈ cs, c.WF) (i : Nat) (s : C01.Store)
    (hs : (C01.run (C01.init k) cs)[i]? = some s) :
    let a := C01.abs s
    let c := contentOf a
    c.nodes = nodesOf s ∧ c.es = edgesOf s ∧ Hist.Inv c ∧
    (∀ n md, contentOf (C01.Spec.apply a (.addNode n md)).1 = Hist.addNode c n) ∧
    (∀ raw w md, (C01.Spec.apply a (.addEdge raw w md)).2 = .ok →
        contentOf (C01.Spec.apply a (.addEdge raw w md)).1 = Hist.addEdge c raw) ∧
    (∀ raw md, (C01.Spec.apply a (.addEdge raw none md)).2 = .ok) ∧
    (∀ raw, Hist.removeEdge c raw =
        if (C01.Spec.apply a (.removeEdge raw)).2 = .ok then some (contentOf (C01.Spec.apply a (.removeEdge raw)).1)
        else none) ∧
    (∀ n keep, Hist.removeNode c n keep =
        if (C01.Spec.apply a (.removeNode n keep)).2 = .ok
        then some (contentOf (C01.Spec.apply a (.removeNode n keep)).1) else none) ∧
    contentOf (C01.Spec.apply a .clear).1 = Hist.clear c := by
  intro a c
  have h := C08.Link.inv_of_history k cs hwf i s hs
  obtain ⟨w1, w2, w3, w4, w5⟩ := listing_wf h
  have e1 : c.nodes = nodesOf s := (listing_abs h).1.symm
  have e2 : c.es = edgesOf s := (listing_abs h).2.symm
  refine ⟨e1, e2, ⟨by rw [e1]; exact w1, by rw [e2]; exact w2, ?_, ?_⟩, fun n md => addNode_content a n md,
    fun raw w md hok => addEdge_content a raw w md hok, fun raw md => addEdge_ok a raw md,
    fun raw => removeEdge_content a raw, fun n keep => removeNode_verdict a (C01.abs_swf h) n keep, clear_content a⟩
  · intro e he
    rw [e2] at he
    exact NatSort.strict_of_sorted_nodup (w5 e he) (w4 e he)
  · intro e he x hx
    rw [e2] at he
    rw [e1]
    exact w3 e he x hx

/-- non-vacuity: on the abstract hypergraph of the example history (slot 0), `remove_node(3, keep_edges=True)` and
`remove_edge` of an absent hyperedge, computed by `Hist` -/
example : ((C01.run (C01.init 2) exHistory)[0]?.map fun s =>
      (Hist.removeNode (contentOf (C01.abs s)) 3 true, Hist.removeEdge (contentOf (C01.abs s)) [1, 3])) =
    some (some ⟨[0, 1, 2, 4, 5, 6], [[0, 1], [6], [1, 2], [4]]⟩, none) := by decide +kernel

/-! ## `utils/visits.py` in full (`_bfs` / `_dfs`, `max_depth`), the filter as a restriction, the
components as THE partition into reachability classes, cross-consistency of the connectivity functions

`Model/C08Visit.lean`: one loop `search` for `_bfs` (FIFO) and `_dfs` (LIFO) over `(node, depth)` pairs with the test
`max_depth is None or depth < max_depth`; `visitFrom nodes es f md dfs u` is `_bfs` / `_dfs` `(hg, u, max_depth=md, f)`.
`Walk es f u k v`: a walk of exactly `k` steps from `u` to `v`, every step inside one hyperedge that passes `f`. -/

/-- `_bfs` and `_dfs` with `max_depth=None` (every filter): the start must be a node; the visited set never repeats a node
and is exactly the reachability class of the start - so both searches return the same set; and the depth-aware `_bfs`
is, list for list, the `_bfs` all functions of `utils/cc.py` are built on (`bfsFrom`, theorems above).  No hypothesis. -/
theorem C08_visit_unbounded (nodes : List Nat) (es : List Edge) (f : Filt) (dfs : Bool) (u : Nat) :
    (u ∈ nodes → ∃ c, visitFrom nodes es f none dfs u = some c ∧ c.Nodup ∧ ∀ v, v ∈ c ↔ Reach es f u v) ∧
    (∀ md, u ∉ nodes → visitFrom nodes es f md dfs u = none) ∧
    visitFrom nodes es f none false u = bfsFrom nodes es f u ∧
    (∀ c d, visitFrom nodes es f none true u = some c → visitFrom nodes es f none false u = some d → c.Perm d) := by
  refine ⟨?_, ?_, ?_, ?_⟩
  · intro hu
    exact ⟨visitH es f none dfs u, by simp [visitFrom, hu], visitH_nodup es f none dfs u,
      fun v => mem_visitH_none es f dfs u v⟩
  · intro md hu; simp [visitFrom, hu]
  · simp only [visitFrom, bfsFrom, visitH_eq_bfsH]
  · intro c d hc hd
    by_cases hu : u ∈ nodes
    · simp only [visitFrom, hu, if_true, Option.some.injEq] at hc hd
      subst hc; subst hd
      apply (List.perm_ext_iff_of_nodup (visitH_nodup es f none true u) (visitH_nodup es f none false u)).mpr
      intro v
      rw [mem_visitH_none, mem_visitH_none]
    · simp [visitFrom, hu] at hc

/-- `_bfs(hg, u, max_depth=m, order|size)` for every integer bound `m` (also 0 and negative ones): the visited set is
exactly the ball of radius `max m 0` around `u` - the nodes a walk of at most `m` steps along filtered hyperedges reaches.
(`Walk` and `Reach` speak about the same relation: reachable = reached by a walk of some length.)  No hypothesis on the
hypergraph; `hu`: the start is a node (otherwise the call raises). -/
theorem C08_bfs_depth (nodes : List Nat) (es : List Edge) (f : Filt) (m : Int) (u : Nat) (hu : u ∈ nodes) :
    (∃ c, visitFrom nodes es f (some m) false u = some c ∧ c.Nodup ∧
      ∀ v, v ∈ c ↔ ∃ k : Nat, (k : Int) ≤ max m 0 ∧ Walk es f u k v) ∧
    (∀ v, Reach es f u v ↔ ∃ k, Walk es f u k v) := by
  exact ⟨⟨visitH es f (some m) false u, by simp [visitFrom, hu], visitH_nodup es f _ _ u, mem_visitH_bfs_some es f m u⟩,
    fun v => ⟨reach_walk, fun ⟨_, hk⟩ => hk.reach⟩⟩

/-- Consequences for the bound: a larger bound visits at least as much; every bounded search stays inside the reachability
class (= the unbounded search); a bound `≤ 0` visits the start only; `max_depth=1` visits the start and exactly its
`get_neighbors`. -/
theorem C08_bfs_depth_mono (es : List Edge) (f : Filt) (u : Nat) :
    (∀ m m' : Int, m ≤ m' → ∀ v ∈ visitH es f (some m) false u, v ∈ visitH es f (some m') false u) ∧
    (∀ (m : Int) (dfs : Bool), ∀ v ∈ visitH es f (some m) dfs u, v ∈ visitH es f none dfs u) ∧
    (∀ (m : Int) (dfs : Bool), m ≤ 0 → ∀ v, v ∈ visitH es f (some m) dfs u ↔ v = u) ∧
    (∀ v, v ∈ visitH es f (some 1) false u ↔ v = u ∨ v ∈ neighbors es f u) := by
  refine ⟨?_, ?_, ?_, ?_⟩
  · intro m m' hmm v hv
    rw [mem_visitH_bfs_some] at hv ⊢
    obtain ⟨k, hk, hw⟩ := hv
    exact ⟨k, by omega, hw⟩
  · intro m dfs v hv
    obtain ⟨k, _, hw⟩ := mem_visitH_some_sound es f m dfs u v hv
    exact (mem_visitH_none es f dfs u v).mpr hw.reach
  · intro m dfs hm v
    constructor
    · intro hv
      obtain ⟨k, hk, hw⟩ := mem_visitH_some_sound es f m dfs u v hv
      have hk : k = 0 := by omega
      subst hk
      cases hw; rfl
    · intro hv; rw [hv]; exact self_mem_visitH es f _ dfs u
  · exact visitH_one es f u

/-- A bound of at least `|nodes| - 1` is no bound: in a hypergraph as the containers list it (hyperedges over nodes) every
reachable node is reachable by a walk of fewer steps than there are nodes, so `_bfs(u, max_depth=m)` with `m ≥ |nodes| - 1`
visits exactly the reachability class - the same set as `max_depth=None` and as `node_connected_component(u)`. -/
theorem C08_bfs_depth_full (nodes : List Nat) (es : List Edge) (f : Filt) (hwf : WF nodes es) (u : Nat) (hu : u ∈ nodes) :
    (∀ v, Reach es f u v → ∃ k, k < nodes.length ∧ Walk es f u k v) ∧
    (∀ m : Int, (nodes.length : Int) - 1 ≤ m → ∀ v, v ∈ visitH es f (some m) false u ↔ Reach es f u v) ∧
    (∀ m : Int, (nodes.length : Int) - 1 ≤ m → ∃ c d, visitFrom nodes es f (some m) false u = some c ∧
      nodeComponent nodes es f u = some d ∧ c.Perm d) := by
  have hshort := fun v => reach_short nodes es f hwf u v hu
  have hfull : ∀ m : Int, (nodes.length : Int) - 1 ≤ m → ∀ v, v ∈ visitH es f (some m) false u ↔ Reach es f u v := by
    intro m hm v
    rw [mem_visitH_bfs_some]
    constructor
    · rintro ⟨k, _, hw⟩; exact hw.reach
    · intro hr
      obtain ⟨k, hk, hw⟩ := hshort v hr
      exact ⟨k, by omega, hw⟩
  refine ⟨hshort, hfull, ?_⟩
  intro m hm
  refine ⟨visitH es f (some m) false u, bfsH es f u, by simp [visitFrom, hu], by simp [nodeComponent, bfsFrom, hu], ?_⟩
  apply (List.perm_ext_iff_of_nodup (visitH_nodup es f _ _ u) (bfsH_nodup es f u)).mpr
  intro v
  rw [hfull m hm v, mem_bfsH]

/-- `_dfs(hg, u, max_depth=m, order|size)`: visits the start, never repeats a node, and everything it visits lies within
`max m 0` steps - i.e. inside what `_bfs` visits with the same bound.  Equality does NOT hold in general and cannot be
demanded: a depth-limited depth-first search marks a node the first time it meets it, possibly at a depth where it is no
longer expanded, so the visited set depends on the iteration order of the neighbour sets (witness below: the same four
hyperedges listed in two orders).  With `max_depth=None` it is exactly the class (`C08_visit_unbounded`). -/
theorem C08_dfs_depth (nodes : List Nat) (es : List Edge) (f : Filt) (m : Int) (u : Nat) (hu : u ∈ nodes) :
    ∃ c, visitFrom nodes es f (some m) true u = some c ∧ c.Nodup ∧ u ∈ c ∧
      (∀ v ∈ c, ∃ k : Nat, (k : Int) ≤ max m 0 ∧ Walk es f u k v) ∧
      (∀ d, visitFrom nodes es f (some m) false u = some d → ∀ v ∈ c, v ∈ d) := by
  refine ⟨visitH es f (some m) true u, by simp [visitFrom, hu], visitH_nodup es f _ _ u, self_mem_visitH es f _ _ u, ?_, ?_⟩
  · exact fun v hv => mem_visitH_some_sound es f m true u v hv
  · intro d hd v hv
    simp only [visitFrom, hu, if_true, Option.some.injEq] at hd
    subst hd
    exact (mem_visitH_bfs_some es f m u v).mpr (mem_visitH_some_sound es f m true u v hv)

/-- The correspondence runs `_dfs` / `_bfs` also on a recorded table of `get_neighbors` answers (each answer in the order the
Python set was iterated): when the table records what `get_neighbors` answers, that run is the search of the hypergraph. -/
theorem C08_visit_table (es : List Edge) (f : Filt) (tab : List (Nat × List Nat)) (md : Option Int) (dfs : Bool) (u : Nat)
    (htab : ∀ x, nbrsTab tab x = neighbors es f x) : visitTab tab md dfs u = visitH es f md dfs u :=
  search_congr _ _ (funext htab) md dfs _ _

-- non-vacuity: the path-like example; radius 0, 1, 2 and no bound, with and without a filter, both searches
set_option maxRecDepth 4000 in
example : visitFrom exNodes exEdges .none (some 0) false 0 = some [0] ∧ visitFrom exNodes exEdges .none (some 1) false 0 = some [1, 0]
    ∧ visitFrom exNodes exEdges .none (some 2) false 0 = some [3, 2, 1, 0]
    ∧ visitFrom exNodes exEdges .none (some (-3)) true 0 = some [0]
    ∧ visitFrom exNodes exEdges .none none true 0 = some [2, 4, 3, 1, 0]
    ∧ visitFrom exNodes exEdges (.size 2) (some 5) false 0 = some [1, 0]
    ∧ visitFrom exNodes exEdges .none (some 2) true 9 = none := by
  refine ⟨?_, ?_, ?_, ?_, ?_, ?_, by decide⟩ <;> exact visitFrom_eval 8 (by decide) (by decide +kernel)
-- `C08_bfs_depth_full`: 7 nodes, bound 6 - the whole class of node 0 (its farthest member is 3 steps away)
set_option maxRecDepth 4000 in
example : visitFrom exNodes exEdges .none (some 6) false 0 = some [4, 3, 2, 1, 0]
    ∧ visitFrom exNodes exEdges .none (some 3) false 0 = some [4, 3, 2, 1, 0] :=
  ⟨visitFrom_eval 8 (by decide) (by decide +kernel), visitFrom_eval 8 (by decide) (by decide +kernel)⟩
-- the depth-limited `_dfs` depends on the order in which the neighbours come: node 3 is two steps from 0 (0-1-3), `_bfs`
-- with `max_depth=2` visits it for both listings, `_dfs` misses it when it meets 1 at depth 2 first (0-2-1)
set_option maxRecDepth 4000 in
example : visitH [[0, 1], [0, 2], [1, 2], [1, 3]] .none (some 2) true 0 = [1, 2, 0]
    ∧ visitH [[0, 2], [0, 1], [1, 2], [1, 3]] .none (some 2) true 0 = [2, 3, 1, 0]
    ∧ visitH [[0, 1], [0, 2], [1, 2], [1, 3]] .none (some 2) false 0 = [3, 2, 1, 0] :=
  ⟨visitH_eval 8 (by decide +kernel), visitH_eval 8 (by decide +kernel), visitH_eval 8 (by decide +kernel)⟩
example : visitTab [(0, [2, 1]), (1, [0, 2, 3]), (2, [1, 0]), (3, [1])] (some 2) true 0 = [2, 3, 1, 0] :=
  visitTab_eval 8 (by decide +kernel)

/-- The reachability relation "generated by the (filtered) hyperedges": `Reach es f` is an equivalence relation that
contains "lie together in a filtered hyperedge", and it is the least reflexive transitive relation that does. -/
theorem C08_reach_equivalence (es : List Edge) (f : Filt) :
    (∀ u, Reach es f u u) ∧ (∀ u v, Reach es f u v → Reach es f v u) ∧
    (∀ u v w, Reach es f u v → Reach es f v w → Reach es f u w) ∧ (∀ u v, Adj es f u v → Reach es f u v) ∧
    (∀ R : Nat → Nat → Prop, (∀ a, R a a) → (∀ a b c, R a b → R b c → R a c) → (∀ a b, Adj es f a b → R a b) →
      ∀ u v, Reach es f u v → R u v) :=
  ⟨Reach.refl, fun _ _ h => h.symm, fun _ _ _ h1 h2 => h1.trans h2, fun _ _ h => Reach.single h,
    fun R h1 h2 h3 _ _ h => Reach.least R h1 h2 h3 h⟩

/-- "Exactly the classes": the list `connected_components` returns is THE partition of the node set into reachability
classes - every family `P` of non-empty, pairwise disjoint lists of nodes that covers the nodes and in which each list is
the class of each of its members has as many members as there are components, and each of them is (as a set) one of the
components.  No hypothesis on the hypergraph. -/
theorem C08_components_unique (nodes : List Nat) (es : List Edge) (f : Filt) (P : List (List Nat))
    (hcls : ∀ p ∈ P, p ≠ [] ∧ ∀ u ∈ p, u ∈ nodes ∧ ∀ v, v ∈ p ↔ Reach es f u v)
    (hcov : ∀ n ∈ nodes, ∃ p ∈ P, n ∈ p) (hdis : P.Pairwise Disj) :
    P.length = numComponents nodes es f ∧ ∀ p ∈ P, ∃ c ∈ components nodes es f, ∀ v, v ∈ p ↔ v ∈ c := by
  obtain ⟨h1, h2, h3⟩ := components_spec nodes es f
  refine ⟨Nat.le_antisymm ?_ ?_, ?_⟩
  · apply length_le_of_rel (fun (p c : List Nat) => p ∈ P ∧ c ∈ components nodes es f ∧ ∃ x, x ∈ p ∧ x ∈ c)
    · apply hdis.imp
      intro p p' hd c hpc hp'c
      obtain ⟨hp, hc, x, hxp, hxc⟩ := hpc
      obtain ⟨_, _, y, hyp', hyc⟩ := hp'c
      have hxy : Reach es f x y := (components_class nodes es f c hc x hxc y).mp hyc
      exact hd y (((hcls p hp).2 x hxp).2 y |>.mpr hxy) hyp'
    · intro p hp
      obtain ⟨x, hx⟩ := List.exists_mem_of_ne_nil _ (hcls p hp).1
      obtain ⟨c, hc, hxc⟩ := h3 x ((hcls p hp).2 x hx).1
      exact ⟨c, hc, hp, hc, x, hx, hxc⟩
  · apply length_le_of_rel (fun (c p : List Nat) => p ∈ P ∧ c ∈ components nodes es f ∧ ∃ x, x ∈ p ∧ x ∈ c)
    · apply h2.imp
      intro c c' hd p hcp hc'p
      obtain ⟨hp, hc, x, hxp, hxc⟩ := hcp
      obtain ⟨_, _, y, hyp, hyc'⟩ := hc'p
      have hxy : Reach es f x y := (((hcls p hp).2 x hxp).2 y).mp hyp
      exact hd y ((components_class nodes es f c hc x hxc y).mpr hxy) hyc'
    · intro c hc
      obtain ⟨r, hr, rfl⟩ := h1 c hc
      obtain ⟨p, hp, hrp⟩ := hcov r hr
      exact ⟨p, hp, hp, hc, r, hrp, (mem_bfsH es f r r).mpr (Reach.refl r)⟩
  · intro p hp
    obtain ⟨x, hx⟩ := List.exists_mem_of_ne_nil _ (hcls p hp).1
    obtain ⟨c, hc, hxc⟩ := h3 x ((hcls p hp).2 x hx).1
    refine ⟨c, hc, fun v => ?_⟩
    rw [((hcls p hp).2 x hx).2 v, components_class nodes es f c hc x hxc v]

/-- The order/size filter IS the restriction of the hypergraph to the hyperedges that pass it: every degree and
connectivity function (and both searches, any depth bound) called with filter `f` returns - as lists, same order - what the
same function returns without a filter on the hypergraph that keeps only the hyperedges passing `f` (and all nodes). -/
theorem C08_filter_restrict (nodes : List Nat) (es : List Edge) (f : Filt) :
    (∀ e, e ∈ restrict es f ↔ e ∈ es ∧ passes f e.length = true) ∧
    (∀ n, incident es n f = incident (restrict es f) n .none) ∧
    (∀ n, neighbors es f n = neighbors (restrict es f) .none n) ∧
    (∀ n, degree? nodes es n f = degree? nodes (restrict es f) n .none) ∧
    degreeSeq nodes es f = degreeSeq nodes (restrict es f) .none ∧
    degreeDist nodes es f = degreeDist nodes (restrict es f) .none ∧
    components nodes es f = components nodes (restrict es f) .none ∧
    isConnected nodes es f = isConnected nodes (restrict es f) .none ∧
    numComponents nodes es f = numComponents nodes (restrict es f) .none ∧
    (∀ n, nodeComponent nodes es f n = nodeComponent nodes (restrict es f) .none n) ∧
    largestComponent nodes es f = largestComponent nodes (restrict es f) .none ∧
    largestComponentSize nodes es f = largestComponentSize nodes (restrict es f) .none ∧
    isolatedNodes nodes es f = isolatedNodes nodes (restrict es f) .none ∧
    (∀ n, isIsolated? nodes es f n = isIsolated? nodes (restrict es f) .none n) ∧
    (∀ md dfs n, visitFrom nodes es f md dfs n = visitFrom nodes (restrict es f) .none md dfs n) := by
  have hc := components_restrict nodes es f
  have hn := neighbors_restrict es f
  refine ⟨mem_restrict es f, incident_restrict es f, fun n => by rw [hn], ?_, degreeSeq_restrict nodes es f,
    degreeDist_restrict nodes es f, hc, by simp only [isConnected, hc], by simp only [numComponents, hc], ?_,
    by simp only [largestComponent, hc], by simp only [largestComponentSize, largestComponent, hc],
    by simp only [isolatedNodes, hn], fun n => by simp only [isIsolated?, hn], ?_⟩
  · intro n
    have := deg_restrict es f n
    simp only [deg] at this
    simp only [degree?, degreeG?, this]
  · intro n; simp only [nodeComponent, bfsFrom, bfsH_restrict es f]
  · intro md dfs n; simp only [visitFrom, visitH_restrict es f md dfs]

/-- `size=s` and `order=s-1` are the same filter for every function: they select the same hyperedges, so by
`C08_filter_restrict` every function above returns the same list for both keywords. -/
theorem C08_size_order (nodes : List Nat) (es : List Edge) (s : Int) :
    restrict es (.size s) = restrict es (.order (s - 1)) ∧
    degreeSeq nodes es (.size s) = degreeSeq nodes es (.order (s - 1)) ∧
    degreeDist nodes es (.size s) = degreeDist nodes es (.order (s - 1)) ∧
    components nodes es (.size s) = components nodes es (.order (s - 1)) ∧
    isolatedNodes nodes es (.size s) = isolatedNodes nodes es (.order (s - 1)) ∧
    largestComponent nodes es (.size s) = largestComponent nodes es (.order (s - 1)) ∧
    (∀ n, degree? nodes es n (.size s) = degree? nodes es n (.order (s - 1))) ∧
    (∀ n, nodeComponent nodes es (.size s) n = nodeComponent nodes es (.order (s - 1)) n) ∧
    (∀ n, isIsolated? nodes es (.size s) n = isIsolated? nodes es (.order (s - 1)) n) ∧
    (∀ md dfs n, visitFrom nodes es (.size s) md dfs n = visitFrom nodes es (.order (s - 1)) md dfs n) := by
  obtain ⟨_, _, _, a4, a5, a6, a7, _, _, a10, a11, _, a13, a14, a15⟩ := C08_filter_restrict nodes es (.size s)
  obtain ⟨_, _, _, b4, b5, b6, b7, _, _, b10, b11, _, b13, b14, b15⟩ := C08_filter_restrict nodes es (.order (s - 1))
  have hr := restrict_size_order es s
  rw [← hr] at b4 b5 b6 b7 b10 b11 b13 b14 b15
  exact ⟨hr, a5.trans b5.symm, a6.trans b6.symm, a7.trans b7.symm, a13.trans b13.symm, a11.trans b11.symm,
    fun n => (a4 n).trans (b4 n).symm, fun n => (a10 n).trans (b10 n).symm, fun n => (a14 n).trans (b14 n).symm,
    fun md dfs n => (a15 md dfs n).trans (b15 md dfs n).symm⟩

/-- A filter can only split: filtered reachability implies unfiltered reachability, so every component under `f` lies
inside one component of the unfiltered hypergraph, there are at least as many of them, and a hypergraph connected under `f`
is connected. -/
theorem C08_filter_refines (nodes : List Nat) (es : List Edge) (f : Filt) :
    (∀ u v, Reach es f u v → Reach es .none u v) ∧
    (∀ c ∈ components nodes es f, ∃ d ∈ components nodes es .none, ∀ x ∈ c, x ∈ d) ∧
    numComponents nodes es .none ≤ numComponents nodes es f ∧
    (isConnected nodes es f = true → isConnected nodes es .none = true) := by
  refine ⟨fun _ _ h => h.unfilter, ?_, numComponents_le nodes es f, ?_⟩
  · intro c hc
    obtain ⟨r, hr, rfl⟩ := (components_spec nodes es f).1 c hc
    obtain ⟨d, hd, hrd⟩ := (components_spec nodes es .none).2.2 r hr
    refine ⟨d, hd, fun x hx => ?_⟩
    exact (components_class nodes es .none d hd r hrd x).mpr ((mem_bfsH es f r x).mp hx).unfilter
  · intro h
    obtain ⟨hne, hall⟩ := (isConnected_iff_reach nodes es f).mp h
    exact (isConnected_iff_reach nodes es .none).mpr ⟨hne, fun u hu v hv => (hall u hu v hv).unfilter⟩

/-- Cross-consistency on a hypergraph as the containers list it (distinct nodes, hyperedges over nodes): the sizes of the
components add up to the number of nodes (so there are at most that many), `is_connected` iff the largest component has
all the nodes, `is_isolated(n)` iff `node_connected_component(n)` is `[n]`, and a node of (filtered) degree 0 is isolated
(not conversely: a node whose only filtered hyperedges are singletons is isolated and has positive degree, node 6 below). -/
theorem C08_cross (nodes : List Nat) (es : List Edge) (f : Filt) (hn : nodes.Nodup) (hwf : WF nodes es) :
    ((components nodes es f).map List.length).sum = nodes.length ∧
    numComponents nodes es f ≤ nodes.length ∧
    (isConnected nodes es f = true ↔ largestComponentSize nodes es f = some nodes.length) ∧
    (∀ n ∈ nodes, (isIsolated? nodes es f n = some true ↔ nodeComponent nodes es f n = some [n])) ∧
    (∀ n, degree? nodes es n f = some 0 → isIsolated? nodes es f n = some true) := by
  have hsum := components_sum_length nodes es f hn hwf
  refine ⟨hsum, numComponents_le_length nodes es f hn hwf, isConnected_iff_largest nodes es f hn hwf, ?_, ?_⟩
  · intro n hnn
    rw [(C08_isolated nodes es f n hnn).2.1]
    simp only [nodeComponent, bfsFrom, hnn, if_true, Option.some.injEq]
    constructor
    · intro h
      exact eq_singleton_of_mem_iff _ n (bfsH_nodup es f n) (fun v => (mem_bfsH es f n v).trans (h v))
    · intro h v
      rw [← mem_bfsH, h]; simp
  · intro n h
    by_cases hnn : n ∈ nodes
    · simp only [degree?, degreeG?, hnn, if_true, Option.some.injEq] at h
      have hinc : incident es n f = [] := List.eq_nil_of_length_eq_zero h
      simp [isIsolated?, hnn, neighbors, hinc]
    · simp [degree?, degreeG?, hnn] at h

-- non-vacuity: the example satisfies the hypotheses (checked above); three filters, three different partitions
set_option maxRecDepth 4000 in
example : ((components exNodes exEdges (.size 2)).map List.length).sum = 7 ∧ restrict exEdges (.size 2) = [[0, 1], [3, 4]]
    ∧ components exNodes (restrict exEdges (.size 2)) .none = [[1, 0], [2], [4, 3], [5], [6]]
    ∧ numComponents exNodes exEdges .none = 3 ∧ numComponents exNodes exEdges (.order 1) = 5
    ∧ largestComponentSize [0, 1, 2] [[0, 1], [1, 2]] (.size 2) = some 3
    ∧ nodeComponent exNodes exEdges (.size 2) 6 = some [6] ∧ degree? exNodes exEdges 6 .none = some 1 := by
  have c1 : components exNodes exEdges (.order 1) = [[1, 0], [2], [4, 3], [5], [6]] := components_eval 4 (by decide +kernel)
  have c2 : components [0, 1, 2] [[0, 1], [1, 2]] (.size 2) = [[2, 1, 0]] := components_eval 4 (by decide +kernel)
  have b6 : bfsFrom exNodes exEdges (.size 2) 6 = some [6] := bfsFrom_eval 2 (by decide) (by decide +kernel)
  simp only [← components_restrict, numComponents, largestComponentSize, largestComponent, nodeComponent, exComps_none,
    exComps_size2, c1, c2, b6]
  decide
