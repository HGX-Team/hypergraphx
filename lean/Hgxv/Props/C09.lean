import Hgxv.Proofs.C09Order
import Hgxv.Proofs.C09Tensor
import Hgxv.Proofs.C09Wrap
import Hgxv.Proofs.C09Relabel
import Hgxv.Proofs.C09Multi
import Hgxv.Proofs.C09Psd
import Hgxv.Proofs.C09Ext
import Mathlib.Algebra.Field.Defs
import Mathlib.Algebra.CharZero.Defs
import Mathlib.Data.ZMod.Basic
/-! # C09 — matrix / tensor representations equal their definitions under the node mapping

Property theorems about the models `Hgxv/Model/C09.lean` and `Hgxv/Model/C09Ext.lean` (annealed matrices of all orders,
adjacency factor, dual incidence), for every node list, every list of hyperedges and every size.
Hypotheses are the ones the `Hypergraph` container guarantees for what it hands to
`hypergraphx.linalg`: `nodes.Nodup` (`get_nodes()` lists dictionary keys) and every hyperedge consists of
nodes of the hypergraph (`add_edge` registers them); where a size matters, hyperedges are duplicate-free
tuples.  The number type is a commutative ring `R` (a field where the routine divides, a linearly ordered one for positive
semidefiniteness); over `Int` / `Rat` a count is the number itself. Row `i` of every
matrix belongs to the label `(classes nodes)[i]` = the `i`-th smallest node (`C09_mapping_bij`).
An entry is an `Option` (`none` outside the shape); where a formula needs the values of several entries, the statement quantifies
a function (`f`, `A`, `L`) of which those entries are `some`.  Of the notions in the statements, `relabelEs` and `relabelRecs` are
defined in `Proofs/C09Relabel.lean`, `wrapNodes` and `wrapEdges` in `Proofs/C09Witness.lean`, all others in the two model files
(`lapL` of the examples: `Proofs/C09Order.lean`). -/
open C09

/-! ## The encoder and the node mapping -/

/-- The returned mapping `{index : label}` has the keys `0..N-1` (in order), its labels are a
permutation of the nodes - so it is a bijection between row indices and nodes - and they increase
with the index (rank in sorted order, the `LabelEncoder` contract); `encode` is its inverse. -/
theorem C09_mapping_bij (nodes : List Nat) (hN : nodes.Nodup) :
    (mapping nodes).map (·.1) = List.range nodes.length
    ∧ ((mapping nodes).map (·.2)).Perm nodes
    ∧ ((mapping nodes).map (·.2)).Pairwise (· < ·)
    ∧ (∀ x ∈ nodes, (encode (classes nodes) x, x) ∈ mapping nodes)
    ∧ (∀ p ∈ mapping nodes, encode (classes nodes) p.2 = p.1) := by
  have h2 := mapping_snd nodes
  refine ⟨?_, h2 ▸ classes_perm nodes hN, h2 ▸ classes_sorted nodes, fun x hx => ?_, fun p hp => ?_⟩
  · rw [mapping_dict, List.map_map, ← classes_length nodes hN]
    exact map_encode _ (classes_nodup nodes)
  · rw [mapping_dict]
    exact List.mem_map.2 ⟨x, (mem_classes x nodes).2 hx, rfl⟩
  · rw [mapping_dict] at hp
    obtain ⟨x, _, rfl⟩ := List.mem_map.1 hp
    rfl

/-- **The mapping follows the node SET, not the node COUNT.**  For duplicate-free node listings two mappings are
equal exactly when the listings hold the same nodes: a mapping computed for an earlier node set of the same size
(a stale cache after "remove one node, add another") is never the mapping of the current hypergraph. -/
theorem C09_mapping_tracks_nodes (nodes nodes' : List Nat) (hN : nodes.Nodup) (hN' : nodes'.Nodup) :
    mapping nodes = mapping nodes' ↔ nodes.Perm nodes' := by
  constructor
  · intro h
    have h1 := (C09_mapping_bij nodes hN).2.1
    have h2 := (C09_mapping_bij nodes' hN').2.1
    rw [h] at h1
    exact h1.symm.trans h2
  · intro h
    simp only [mapping, classes_perm_congr nodes nodes' h]

/-- **When may the encoder be skipped?**  The row index of every node equals its label exactly when the sorted
labels are `0, 1, .., N-1`.  (Over `Nat` labels `min = 0 ∧ max = N-1` happens to imply that; over labels that are
merely comparable - `0, 0.5, 2` - it does not, and `C09_relabel_invariant` shows that such labels behave like
`0, 1, 4`, for which the encoder is not the identity: see the example below.) -/
theorem C09_encoder_identity_iff (nodes : List Nat) (hN : nodes.Nodup) :
    (∀ x ∈ nodes, encode (classes nodes) x = x) ↔ classes nodes = List.range nodes.length := by
  constructor
  · exact classes_eq_range_of_encode_id nodes hN
  · intro h x hx
    have hx' : x ∈ classes nodes := (mem_classes x nodes).2 hx
    rw [h] at hx' ⊢
    exact encode_range _ x (List.mem_range.1 hx')

/-! ## Incidence matrices, `hye_list_to_binary_incidence`, the incidence matrix of the dual -/

/-- Binary incidence: entry `(i, e)` is 1 exactly when the node of row `i` belongs to hyperedge `e`, else 0. -/
theorem C09_incidence {R : Type} [CommRing R] (nodes : List Nat) (edges : List Edge)
    (hN : nodes.Nodup) (hE : ∀ e ∈ edges, ∀ x ∈ e, x ∈ nodes)
    (i j : Nat) (hi : i < (classes nodes).length) (hj : j < edges.length) :
    entry (binInc nodes edges : List (List R)) i j
      = some (if (classes nodes)[i] ∈ edges[j] then 1 else 0) := by
  rw [binInc_eq nodes edges hN hE, entry_map_map _ _ _ i j hi hj, ind_decide]

/-- Over the integers: the binary incidence entry is 1 exactly when the node belongs to the hyperedge. -/
theorem C09_incidence_iff (nodes : List Nat) (edges : List Edge)
    (hN : nodes.Nodup) (hE : ∀ e ∈ edges, ∀ x ∈ e, x ∈ nodes)
    (i j : Nat) (hi : i < (classes nodes).length) (hj : j < edges.length) :
    entry (binInc nodes edges : List (List Int)) i j = some 1 ↔ (classes nodes)[i] ∈ edges[j] := by
  rw [C09_incidence nodes edges hN hE i j hi hj]
  by_cases h : (classes nodes)[i] ∈ edges[j] <;> simp [h]

/-- ... and the matrix has exactly `N` rows and `E` columns. -/
theorem C09_incidence_shape {R : Type} [CommRing R] (nodes : List Nat) (edges : List Edge)
    (hN : nodes.Nodup) (hE : ∀ e ∈ edges, ∀ x ∈ e, x ∈ nodes)
    (i j : Nat) (h : nodes.length ≤ i ∨ edges.length ≤ j) :
    entry (binInc nodes edges : List (List R)) i j = none := by
  rw [binInc_eq nodes edges hN hE]
  exact entry_map_map_none _ _ _ i j (by rwa [classes_length nodes hN])

/-- Weighted incidence: entry `(i, e)` is the weight of `e` when the node of row `i` belongs to `e`, else 0. -/
theorem C09_incidence_weighted {R : Type} [CommRing R] (nodes : List Nat) (es : List (Edge × R))
    (hN : nodes.Nodup) (hE : ∀ e ∈ es, ∀ x ∈ e.1, x ∈ nodes)
    (i j : Nat) (hi : i < (classes nodes).length) (hj : j < es.length) :
    entry (inc nodes es) i j = some (if (classes nodes)[i] ∈ es[j].1 then es[j].2 else 0) := by
  rw [inc_eq nodes es hN hE, entry_map_map _ _ _ i j hi hj, ind_decide_mul]

/-- `hye_list_to_binary_incidence` called directly on index hyperedges: a given shape is refused exactly when it is
smaller than the inferred one `(max index + 1, number of hyperedges)`; otherwise entry `(i, j)` is 1 exactly when
`i` occurs in the `j`-th hyperedge (repeated nodes count once, columns beyond the list are empty). -/
theorem C09_hye_list {R : Type} [CommRing R] (hyes : List (List Nat)) (shape : Option (Nat × Nat)) :
    (∀ e ∈ hyes, ∀ x ∈ e, x < inferredN hyes)
    ∧ (∀ N, (∀ e ∈ hyes, ∀ x ∈ e, x < N) → inferredN hyes ≤ N)
    ∧ ((hyeBinInc hyes shape : Option (List (List R))) = none
        ↔ ∃ n e, shape = some (n, e) ∧ (n < inferredN hyes ∨ e < hyes.length))
    ∧ ∀ M : List (List R), hyeBinInc hyes shape = some M →
        ∀ i j, i < (shape.map (·.1)).getD (inferredN hyes) → j < (shape.map (·.2)).getD hyes.length →
          entry M i j = some (if ∃ e, hyes[j]? = some e ∧ i ∈ e then 1 else 0) := by
  refine ⟨lt_inferredN hyes, inferredN_le hyes, ?_, fun M hM i j hi hj => ?_⟩
  · cases shape with
    | none => simp [hyeBinInc]
    | some p =>
      obtain ⟨n, e⟩ := p
      simp only [hyeBinInc, ite_eq_left_iff, reduceCtorEq, imp_false, not_not, Option.some.injEq, Prod.mk.injEq]
      exact ⟨fun h => ⟨n, e, ⟨rfl, rfl⟩, h⟩, fun ⟨_, _, ⟨h1, h2⟩, h⟩ => h1 ▸ h2 ▸ h⟩
  · rw [hyeBinInc_some hyes shape M hM]
    exact entry_binIncPad _ _ hyes i j hi hj

/-- `binary_incidence_matrix` is this routine applied to the relabelled hyperedges with the shape
`(num_nodes, num_edges)`, which is always accepted. -/
theorem C09_incidence_call {R : Type} [CommRing R] (nodes : List Nat) (edges : List Edge)
    (hN : nodes.Nodup) (hE : ∀ e ∈ edges, ∀ x ∈ e, x ∈ nodes) :
    hyeBinInc (edges.map fun e => e.map (encode (classes nodes))) (some (nodes.length, edges.length))
      = some (binInc nodes edges : List (List R)) := by
  have hle : inferredN (edges.map fun e => e.map (encode (classes nodes))) ≤ nodes.length := by
    apply inferredN_le
    intro e' he' y hy
    obtain ⟨e, he, rfl⟩ := List.mem_map.1 he'
    obtain ⟨x, hx, rfl⟩ := List.mem_map.1 hy
    rw [← classes_length nodes hN]
    exact encode_lt _ x ((mem_classes x nodes).2 (hE e he x hx))
  simp only [hyeBinInc, List.length_map]
  rw [if_neg (by omega)]
  congr 1
  have := binIncPad_eq (R := R) nodes.length (edges.map fun e => e.map (encode (classes nodes)))
  simpa [binInc] using this

/-- Duality: the dual hypergraph has one node per hyperedge and one hyperedge per node `i` (the indices of the hyperedges
containing the node of row `i`). `hye_list_to_binary_incidence` accepts it with the shape `(E, N)` and the incidence matrix
of the dual is the TRANSPOSE of the binary incidence matrix: entry `(j, i)` of the one is entry `(i, j)` of the other. -/
theorem C09_dual_incidence_transpose {R : Type} [CommRing R] (nodes : List Nat) (edges : List Edge)
    (hN : nodes.Nodup) (hE : ∀ e ∈ edges, ∀ x ∈ e, x ∈ nodes) :
    ∃ T : List (List R), dualInc nodes edges = some T
      ∧ ∀ j i, j < edges.length → i < nodes.length →
          entry T j i = entry (binInc nodes edges : List (List R)) i j := by
  have hl := classes_length nodes hN
  have hle : inferredN (dualHyes nodes edges) ≤ edges.length := inferredN_le _ _ fun e he x hx => by
    obtain ⟨a, _, rfl⟩ := List.mem_map.1 he
    exact List.mem_range.1 (List.mem_filter.1 hx).1
  have hlen : (dualHyes nodes edges).length = nodes.length := by simp [dualHyes, hl]
  refine ⟨_, by rw [dualInc, hyeBinInc, if_neg (by omega)], fun j i hj hi => ?_⟩
  have hi' : i < (classes nodes).length := hl ▸ hi
  have hiff : (∃ e, (dualHyes nodes edges)[i]? = some e ∧ j ∈ e) ↔ (classes nodes)[i] ∈ edges[j] := by
    simp [dualHyes, List.getElem?_eq_getElem hi', hj]
  rw [entry_binIncPad _ _ _ j i hj hi, C09_incidence nodes edges hN hE i j hi' hj]
  simp only [hiff]

/-! ## Adjacency (with the arithmetic modulo 256 of D25), adjacency factor, dual adjacency -/

/-- Adjacency: entry `(i, j)`, `i ≠ j`, is the number of hyperedges containing both nodes; the diagonal is 0.
(The number is cast into `R`: over `Int`/`Rat` it is the count itself, see `C09_adjacency_wraps` for `ZMod 256`.) -/
theorem C09_adjacency {R : Type} [CommRing R] (nodes : List Nat) (edges : List Edge)
    (hN : nodes.Nodup) (hE : ∀ e ∈ edges, ∀ x ∈ e, x ∈ nodes)
    (i j : Nat) (hi : i < (classes nodes).length) (hj : j < (classes nodes).length) :
    entry (adj nodes edges : List (List R)) i j
      = some (if i = j then 0
              else ((edges.countP fun e => decide ((classes nodes)[i] ∈ e) && decide ((classes nodes)[j] ∈ e) : Nat) : R)) := by
  rw [adj_eq nodes edges hN hE, entry_map_map _ _ _ i j hi hj]
  simp only [List.getElem_inj (classes_nodup nodes)]

/-- In `uint8` arithmetic (`R = ZMod 256`, the `uint8` incidence matrix of D25) the adjacency claim fails: whenever two nodes share
exactly 256 hyperedges their adjacency entry is 0. -/
theorem C09_adjacency_wraps (nodes : List Nat) (edges : List Edge)
    (hN : nodes.Nodup) (hE : ∀ e ∈ edges, ∀ x ∈ e, x ∈ nodes)
    (i j : Nat) (hi : i < (classes nodes).length) (hj : j < (classes nodes).length) (hij : i ≠ j)
    (h256 : (edges.countP fun e => decide ((classes nodes)[i] ∈ e) && decide ((classes nodes)[j] ∈ e)) = 256) :
    entry (adj nodes edges : List (List (ZMod 256))) i j = some 0
    ∧ entry (adj nodes edges : List (List Int)) i j = some 256 := by
  rw [C09_adjacency nodes edges hN hE i j hi hj, C09_adjacency nodes edges hN hE i j hi hj, if_neg hij, if_neg hij, h256]
  exact ⟨congrArg some (ZMod.natCast_self 256), by simp⟩

/-- A concrete witness: a legitimate hypergraph (distinct nodes, 256 distinct duplicate-free hyperedges) in which
nodes `3` and `5` (rows 0 and 1) share 256 hyperedges: adjacency entry 0 modulo 256, 256 over the integers. -/
theorem C09_adjacency_wraps_witness :
    wrapNodes.Nodup ∧ wrapEdges.Nodup ∧ (∀ e ∈ wrapEdges, e.Nodup ∧ ∀ x ∈ e, x ∈ wrapNodes)
    ∧ entry (adj wrapNodes wrapEdges : List (List (ZMod 256))) 0 1 = some 0
    ∧ entry (adj wrapNodes wrapEdges : List (List Int)) 0 1 = some 256 := by
  have h1 : wrapNodes.Nodup := by decide
  have h3 : ∀ e ∈ wrapEdges, e.Nodup ∧ ∀ x ∈ e, x ∈ wrapNodes := fun e he =>
    ⟨(wrapEdges_sublist e he).nodup h1, fun x hx => (wrapEdges_sublist e he).subset hx⟩
  have e0 : (classes wrapNodes)[0]'(by decide) = 3 := by decide
  have e1 : (classes wrapNodes)[1]'(by decide) = 5 := by decide
  have hl : wrapEdges.length = 256 := by simp only [wrapEdges, List.length_map, List.length_range]
  refine ⟨h1, wrapEdges_nodup, h3, C09_adjacency_wraps wrapNodes wrapEdges h1 (fun e he => (h3 e he).2) 0 1
    (by decide) (by decide) (by decide) ?_⟩
  -- every hyperedge begins with the nodes 3 and 5
  rw [← hl, List.countP_eq_length]
  intro e he
  obtain ⟨m, _, rfl⟩ := List.mem_map.1 he
  rw [e0, e1]
  simp only [List.mem_cons, true_or, or_true, decide_true, Bool.and_self]

/-- `B Bᵀ = A + D` : the Gram matrix of the binary incidence matrix is the adjacency matrix plus the diagonal matrix of the
(total) degrees - i.e. `A = B Bᵀ − D`, which is what `setdiag(0)` computes. -/
theorem C09_adjacency_gram {R : Type} [CommRing R] (nodes : List Nat) (edges : List Edge)
    (hN : nodes.Nodup) (hE : ∀ e ∈ edges, ∀ x ∈ e, x ∈ nodes)
    (i j : Nat) (hi : i < (classes nodes).length) (hj : j < (classes nodes).length) :
    entry (mulT (binInc nodes edges : List (List R)) (binInc nodes edges)) i j
      = (entry (adj nodes edges : List (List R)) i j).map fun a =>
          a + if i = j then ((edges.countP fun e => decide ((classes nodes)[i] ∈ e) : Nat) : R) else 0 := by
  rw [C09_adjacency nodes edges hN hE i j hi hj, binInc_eq nodes edges hN hE, mulT_rows,
    entry_map_map _ _ _ i j hi hj]
  simp only [ind_mul_ind, sum_map_ind, Option.map_some, Option.some.injEq]
  by_cases h : i = j
  · subst h; simp
  · simp [h]

/-- `x ** t` of the model is the ring power -/
theorem C09_powN_eq_pow {R : Type} [CommRing R] [DecidableEq R] (x : R) (t : Nat) : powN x t = x ^ t := by
  induction t with
  | zero => simp [powN]
  | succ n ih => simp [powN, ih, pow_succ]

/-- `adjacency_factor(hypergraph, t)`: one entry per node, in `get_nodes()` order; the value of node `a` is the sum over the
OTHER nodes `b` that share at least one hyperedge with `a` of `c(a,b) ^ t`, `c(a,b)` the number of hyperedges containing both
(`t = 0`: the number of neighbours; `t = 1`: the row sum of the adjacency matrix). -/
theorem C09_adjacency_factor {R : Type} [CommRing R] [DecidableEq R] (t : Nat) (nodes : List Nat) (edges : List Edge)
    (hN : nodes.Nodup) (hE : ∀ e ∈ edges, ∀ x ∈ e, x ∈ nodes) :
    (adjFactor t nodes edges : List (Nat × R)) = nodes.map fun a =>
      (a, ((nodes.filter fun b => b != a).map fun b =>
        if ((edges.countP fun e => decide (a ∈ e) && decide (b ∈ e) : Nat) : R) = 0 then 0
        else ((edges.countP fun e => decide (a ∈ e) && decide (b ∈ e) : Nat) : R) ^ t).sum) := by
  unfold adjFactor
  simp only []
  apply List.map_congr_left
  intro a ha
  congr 1
  apply congrArg List.sum
  apply List.map_congr_left
  intro b hb
  obtain ⟨hb, hne⟩ := List.mem_filter.1 hb
  have hne' : ¬ a = b := fun h => by simp [h] at hne
  rw [adj_eq nodes edges hN hE, entryD_of_entry _ _ _ _ (entry_map_map_nodes nodes _ a ha b hb), if_neg hne', C09_powN_eq_pow]

/-- Dual adjacency: entry `(e, f)` is 1 exactly when the hyperedges `e` and `f` share a node, else 0
(in a ring of characteristic 0 such as `int64`; false modulo 256, which was defect D25). -/
theorem C09_dual {R : Type} [CommRing R] [CharZero R] [DecidableEq R] (nodes : List Nat) (edges : List Edge)
    (hN : nodes.Nodup) (hE : ∀ e ∈ edges, ∀ x ∈ e, x ∈ nodes)
    (a b : Nat) (ha : a < edges.length) (hb : b < edges.length) :
    entry (dual nodes edges : List (List R)) a b
      = some (if ∃ x, x ∈ edges[a] ∧ x ∈ edges[b] then 1 else 0) := by
  rw [dual_eq nodes edges hN hE, entry_map_map _ _ _ a b ha hb]
  simp only [Nat.cast_eq_zero, Nat.cast_one]
  congr 1
  have hiff : (∃ x, x ∈ edges[a] ∧ x ∈ edges[b])
      ↔ ¬ List.countP (fun x => decide (x ∈ edges[a]) && decide (x ∈ edges[b])) (classes nodes) = 0 := by
    simp only [List.countP_eq_zero, Bool.and_eq_true, decide_eq_true_eq, Classical.not_forall, Classical.not_not]
    exact ⟨fun ⟨x, h1, h2⟩ => ⟨x, (mem_classes x nodes).2 (hE _ (List.getElem_mem ha) x h1), h1, h2⟩,
      fun ⟨x, _, h⟩ => ⟨x, h⟩⟩
  simp only [hiff, ite_not]

/-- Over the integers: the dual adjacency entry is 1 exactly when the two hyperedges share a node. -/
theorem C09_dual_iff (nodes : List Nat) (edges : List Edge)
    (hN : nodes.Nodup) (hE : ∀ e ∈ edges, ∀ x ∈ e, x ∈ nodes)
    (a b : Nat) (ha : a < edges.length) (hb : b < edges.length) :
    entry (dual nodes edges : List (List Int)) a b = some 1 ↔ ∃ x, x ∈ edges[a] ∧ x ∈ edges[b] := by
  rw [C09_dual nodes edges hN hE a b ha hb]
  by_cases h : ∃ x, x ∈ edges[a] ∧ x ∈ edges[b]
  · rw [if_pos h]; exact ⟨fun _ => h, fun _ => rfl⟩
  · simp [h]

/-! ## Matrices of one order, and the loops over the orders -/

/-- Incidence of order `d`: the columns are the hyperedges of order `d` (size `d+1`) in listing order, the rows are
all nodes (`keep_isolated_nodes=True`) or exactly the nodes lying in a hyperedge of order `d` (`False`), sorted;
entry `(i, e)` is the weight of `e` (1 if unweighted) when the node of row `i` belongs to `e`, else 0;
the returned mapping is the mapping of that node list (so `C09_mapping_bij` applies to it). -/
theorem C09_by_order_incidence {R : Type} [CommRing R] (d : Nat) (k : Bool) (nodes : List Nat) (es : List (Edge × R))
    (hN : nodes.Nodup) (hE : ∀ e ∈ es, ∀ x ∈ e.1, x ∈ nodes) :
    (subNodes d k nodes es).Nodup
    ∧ (∀ x, x ∈ subNodes d k nodes es ↔ if k then x ∈ nodes else ∃ e ∈ es, e.1.length = d + 1 ∧ x ∈ e.1)
    ∧ (∀ e, e ∈ ofOrder d es ↔ e ∈ es ∧ e.1.length = d + 1)
    ∧ mappingByOrder d k nodes es = mapping (subNodes d k nodes es)
    ∧ ∀ i j (hi : i < (classes (subNodes d k nodes es)).length) (hj : j < (ofOrder d es).length),
        entry (incByOrder d k nodes es) i j
          = some (if (classes (subNodes d k nodes es))[i] ∈ ((ofOrder d es)[j]).1 then ((ofOrder d es)[j]).2 else 0) := by
  refine ⟨subNodes_nodup d k nodes es hN, ?_, mem_ofOrder d es, rfl, ?_⟩
  · intro x
    cases k
    · simp only [Bool.false_eq_true, if_false, mem_subNodes_false]
    · simp only [subNodes_true, if_true]
  · intro i j hi hj
    exact C09_incidence_weighted _ _ (subNodes_nodup d k nodes es hN) (subNodes_covers d k nodes es hE) i j hi hj

/-- Adjacency of order `d`, unweighted hypergraph: entry `(i, j)`, `i ≠ j`, is the number of hyperedges of order `d`
containing both nodes; zero diagonal. -/
theorem C09_by_order {R : Type} [CommRing R] (d : Nat) (nodes : List Nat) (es : List (Edge × R))
    (hN : nodes.Nodup) (hE : ∀ e ∈ es, ∀ x ∈ e.1, x ∈ nodes) (hW : ∀ e ∈ es, e.2 = 1)
    (i j : Nat) (hi : i < (classes nodes).length) (hj : j < (classes nodes).length) :
    entry (adjByOrder d nodes es) i j
      = some (if i = j then 0
              else ((es.countP fun e => e.1.length == d + 1 &&
                      (decide ((classes nodes)[i] ∈ e.1) && decide ((classes nodes)[j] ∈ e.1)) : Nat) : R)) := by
  rw [adjByOrder_entry d nodes es hN hE i j hi hj, gram_unweighted d es hW]

/-- The same for arbitrary weights (what the code computes: the weights enter squared). -/
theorem C09_by_order_weighted {R : Type} [CommRing R] (d : Nat) (nodes : List Nat) (es : List (Edge × R))
    (hN : nodes.Nodup) (hE : ∀ e ∈ es, ∀ x ∈ e.1, x ∈ nodes)
    (i j : Nat) (hi : i < (classes nodes).length) (hj : j < (classes nodes).length) :
    entry (adjByOrder d nodes es) i j
      = some (if i = j then 0
              else ((ofOrder d es).map fun e =>
                if (classes nodes)[i] ∈ e.1 ∧ (classes nodes)[j] ∈ e.1 then e.2 * e.2 else 0).sum) := by
  rw [adjByOrder_entry d nodes es hN hE i j hi hj]
  simp only [gram, ind_decide_mul, ite_zero_mul_ite_zero]

/-- Degree matrix of order `d` (`degree_matrix`, D24): diagonal entry `i` is the number of hyperedges
of order `d` containing the node of row `i` (the label, not the index), off-diagonal entries are 0. -/
theorem C09_degree_matrix {R : Type} [CommRing R] (d : Nat) (nodes : List Nat) (es : List (Edge × R))
    (i j : Nat) (hi : i < (classes nodes).length) (hj : j < (classes nodes).length) :
    entry (degMatrix d nodes es) i j
      = some (if i = j then ((es.countP fun e => e.1.length == d + 1 && decide ((classes nodes)[i] ∈ e.1) : Nat) : R)
              else 0) := by
  rw [degMatrix_entry d nodes es i j hi hj, degree_eq_countP]

/-- Per order, unweighted: `I_d I_dᵀ = A_d + D_d` entry by entry (`A_d`, `D_d` the model's order-`d` adjacency and degree
matrices), i.e. `A_d = I_d I_dᵀ − D_d` and `L_d = (d+1) D_d − I_d I_dᵀ = d D_d − A_d`. -/
theorem C09_by_order_gram {R : Type} [CommRing R] (d : Nat) (nodes : List Nat) (es : List (Edge × R))
    (hN : nodes.Nodup) (hE : ∀ e ∈ es, ∀ x ∈ e.1, x ∈ nodes) (hW : ∀ e ∈ es, e.2 = 1)
    (i j : Nat) (hi : i < (classes nodes).length) (hj : j < (classes nodes).length) :
    entry (mulT (incByOrder d true nodes es) (incByOrder d true nodes es)) i j
      = (entry (adjByOrder d nodes es) i j).bind fun a =>
          (entry (degMatrix d nodes es) i j).map fun b => a + b := by
  rw [gramMatrix_eq d nodes es hN hE, entry_map_map _ _ _ i j hi hj, adjByOrder_entry d nodes es hN hE i j hi hj,
    degMatrix_entry d nodes es i j hi hj]
  simp only [Option.bind_some, Option.map_some, Option.some.injEq]
  by_cases h : i = j
  · subst h
    rw [if_pos rfl, if_pos rfl, gram_self d es hW, zero_add]
  · rw [if_neg h, if_neg h, add_zero]

/-- Degree matrix = row sums: for an unweighted hypergraph (duplicate-free hyperedges) the row of node `a` of the order-`d`
adjacency matrix sums to `d` times the order-`d` degree of `a` (each hyperedge of order `d` through `a` has `d` other members).
`A a b` is the entry in the row / column of the nodes `a`, `b` (located by the node mapping). -/
theorem C09_adjacency_row_sums {R : Type} [CommRing R] (d : Nat) (nodes : List Nat) (es : List (Edge × R))
    (hN : nodes.Nodup) (hE : ∀ e ∈ es, ∀ x ∈ e.1, x ∈ nodes) (hD : ∀ e ∈ es, e.1.Nodup) (hW : ∀ e ∈ es, e.2 = 1) :
    ∃ A : Nat → Nat → R,
      (∀ a ∈ nodes, ∀ b ∈ nodes,
        entry (adjByOrder d nodes es) (encode (classes nodes) a) (encode (classes nodes) b) = some (A a b))
      ∧ ∀ a ∈ nodes, ((classes nodes).map fun b => A a b).sum
          = (d : R) * ((es.countP fun e => e.1.length == d + 1 && decide (a ∈ e.1) : Nat) : R) := by
  refine ⟨fun a b => if a = b then 0 else gram d es a b,
    fun a ha b hb => by rw [adjByOrder_eq d nodes es hN hE, entry_map_map_nodes nodes _ a ha b hb], ?_⟩
  intro a ha
  rw [adj_row_sum_label d nodes es hE hD hW a ha, degree_eq_countP]

/-- The adjacency matrix is the sum over the orders `0..max_order` of the per-order adjacency matrices
(unweighted hypergraph): every hyperedge is counted at exactly one order. -/
theorem C09_adjacency_sum_orders {R : Type} [CommRing R] (nodes : List Nat) (es : List (Edge × R))
    (hN : nodes.Nodup) (hE : ∀ e ∈ es, ∀ x ∈ e.1, x ∈ nodes) (hW : ∀ e ∈ es, e.2 = 1)
    (m : Nat) (hm : maxOrder es = some m)
    (i j : Nat) (hi : i < (classes nodes).length) (hj : j < (classes nodes).length) :
    ∃ f : Nat → R, (∀ d, entry (adjByOrder d nodes es) i j = some (f d))
      ∧ entry (adj nodes (es.map (·.1)) : List (List R)) i j = some (((List.range (m + 1)).map f).sum) := by
  refine ⟨fun d => if i = j then 0 else gram d es (classes nodes)[i] (classes nodes)[j],
    fun d => adjByOrder_entry d nodes es hN hE i j hi hj, ?_⟩
  rw [adj_eq nodes _ hN (List.forall_mem_map.2 hE), entry_map_map _ _ _ i j hi hj, List.countP_map]
  simp only [List.getElem_inj (classes_nodup nodes)]
  by_cases h : i = j
  · simp only [if_pos h, List.sum_map_zero]
  · simp only [if_neg h, sum_gram_orders es hW m hm]
    rfl

/-- `incidence_matrices_all_orders` / `laplacian_matrices_all_orders`: they raise exactly for a hypergraph without
hyperedges; otherwise the keys are the orders `1..m`, `m = max_order()` the largest order of a hyperedge, and the value at
`d` is the per-order matrix (`incidence_matrix_by_order` / `laplacian_matrix_by_order` with the same flags). -/
theorem C09_all_orders {R : Type} [CommRing R] (k w : Bool) (nodes : List Nat) (es : List (Edge × R)) :
    (es = [] → maxOrder es = none ∧ incAllOrders k nodes es = none ∧ lapAllOrders w nodes es = none)
    ∧ (es ≠ [] → ∃ m, maxOrder es = some m ∧ (∀ e ∈ es, e.1.length ≤ m + 1) ∧ (∃ e ∈ es, e.1.length - 1 = m)
        ∧ incAllOrders k nodes es = some ((List.range m).map fun i => (i + 1, incByOrder (i + 1) k nodes es))
        ∧ lapAllOrders w nodes es = some ((List.range m).map fun i =>
            (i + 1, if w then laplacianScaled (i + 1) nodes es else laplacian (i + 1) nodes es))) := by
  constructor
  · rintro rfl
    simp [maxOrder, incAllOrders, lapAllOrders, orders]
  · intro hne
    cases h : maxOrder es with
    | none => exact absurd ((maxOrder_eq_none es).1 h) hne
    | some m =>
      have hs := maxOrder_spec es m h
      refine ⟨m, rfl, hs.2.1, hs.2.2, ?_, ?_⟩
      · simp [incAllOrders, orders, h, List.map_map, Function.comp]
      · simp [lapAllOrders, lapFlag, orders, h, List.map_map, Function.comp]

/-! ## The Laplacian of one order -/

/-- For an unweighted hypergraph `L_d = d·D_d − A_d` entry by entry, with `D_d` the order-`d` degree matrix and
`A_d` the order-`d` adjacency matrix of the model (characterised by `C09_degree_matrix` and `C09_by_order`). -/
theorem C09_laplacian {R : Type} [CommRing R] (d : Nat) (nodes : List Nat) (es : List (Edge × R))
    (hN : nodes.Nodup) (hE : ∀ e ∈ es, ∀ x ∈ e.1, x ∈ nodes) (hW : ∀ e ∈ es, e.2 = 1)
    (i j : Nat) (hi : i < (classes nodes).length) (hj : j < (classes nodes).length) :
    entry (laplacian d nodes es) i j
      = (entry (degMatrix d nodes es) i j).bind fun a =>
          (entry (adjByOrder d nodes es) i j).map fun b => (d : R) * a - b := by
  rw [laplacian_entry d nodes es hN hE i j hi hj, degMatrix_entry d nodes es i j hi hj,
    adjByOrder_entry d nodes es hN hE i j hi hj, lapL]
  simp only [Option.bind_some, Option.map_some, Option.some.injEq, List.getElem_inj (classes_nodup nodes)]
  by_cases h : i = j
  · subst h
    rw [if_pos rfl, if_pos rfl, gram_self d es hW]
    push_cast
    ring
  · simp only [if_neg h, mul_zero]

/-- The Laplacian is symmetric (any weights). -/
theorem C09_laplacian_symm {R : Type} [CommRing R] (d : Nat) (nodes : List Nat) (es : List (Edge × R))
    (hN : nodes.Nodup) (hE : ∀ e ∈ es, ∀ x ∈ e.1, x ∈ nodes)
    (i j : Nat) (hi : i < (classes nodes).length) (hj : j < (classes nodes).length) :
    entry (laplacian d nodes es) i j = entry (laplacian d nodes es) j i := by
  rw [laplacian_entry d nodes es hN hE i j hi hj, laplacian_entry d nodes es hN hE j i hj hi, lapL_comm]

/-- Every row of the Laplacian of an unweighted hypergraph sums to zero (hyperedges are duplicate-free tuples of
nodes of the hypergraph: a hyperedge of order `d` has exactly `d + 1` members among the rows). -/
theorem C09_laplacian_row_sums {R : Type} [CommRing R] (d : Nat) (nodes : List Nat) (es : List (Edge × R))
    (hN : nodes.Nodup) (hE : ∀ e ∈ es, ∀ x ∈ e.1, x ∈ nodes) (hD : ∀ e ∈ es, e.1.Nodup) (hW : ∀ e ∈ es, e.2 = 1)
    (i : Nat) (hi : i < (classes nodes).length) :
    ((laplacian d nodes es)[i]?).map List.sum = some 0 := by
  rw [laplacian_eq d nodes es hN hE, List.getElem?_map, List.getElem?_eq_getElem hi, Option.map_some, Option.map_some,
    sum_lapL d nodes es hE hD hW _ (List.getElem_mem hi)]

/-- Shapes: adjacency, per-order adjacency and Laplacian are `N × N`, the dual is `E × E`
(entries outside are undefined). -/
theorem C09_shapes {R : Type} [CommRing R] [DecidableEq R] (d : Nat) (nodes : List Nat) (es : List (Edge × R))
    (hN : nodes.Nodup) (hE : ∀ e ∈ es, ∀ x ∈ e.1, x ∈ nodes) (i j : Nat) :
    (nodes.length ≤ i ∨ nodes.length ≤ j →
      entry (adj nodes (es.map (·.1)) : List (List R)) i j = none ∧ entry (adjByOrder d nodes es) i j = none
      ∧ entry (laplacian d nodes es) i j = none)
    ∧ (es.length ≤ i ∨ es.length ≤ j → entry (dual nodes (es.map (·.1)) : List (List R)) i j = none) := by
  have hE' : ∀ e ∈ es.map (·.1), ∀ x ∈ e, x ∈ nodes := List.forall_mem_map.2 hE
  have hl := classes_length nodes hN
  constructor
  · intro h
    rw [← hl] at h
    refine ⟨?_, ?_, ?_⟩
    · rw [adj_eq nodes _ hN hE', entry_map_map_none _ _ _ i j h]
    · rw [adjByOrder_eq d nodes es hN hE, entry_map_map_none _ _ _ i j h]
    · rw [laplacian_eq d nodes es hN hE, entry_map_map_none _ _ _ i j h]
  · intro h
    rw [dual_eq nodes _ hN hE', entry_map_map_none _ _ _ i j (by simpa using h)]

/-- The order-`d` Laplacian of an unweighted hypergraph is positive semidefinite, as a sum over the hyperedges: with
`L a b` the entry in the row of node `a` and the column of node `b` (rows located by the node mapping), for every vector
`x` indexed by the nodes  `xᵀ L x = Σ_{e of order d} ((d+1)·Σ_{a∈e} x_a² − (Σ_{a∈e} x_a)²)`  (`= Σ_e Σ_{a<b∈e} (x_a − x_b)²`),
and every summand is `≥ 0` by the Cauchy-Schwarz inequality, in every linearly ordered commutative ring (`Int`, `Rat`). -/
theorem C09_laplacian_psd {R : Type} [CommRing R] [LinearOrder R] [IsStrictOrderedRing R]
    (d : Nat) (nodes : List Nat) (es : List (Edge × R))
    (hN : nodes.Nodup) (hE : ∀ e ∈ es, ∀ x ∈ e.1, x ∈ nodes) (hD : ∀ e ∈ es, e.1.Nodup) (hW : ∀ e ∈ es, e.2 = 1) :
    ∃ L : Nat → Nat → R,
      (∀ a ∈ nodes, ∀ b ∈ nodes,
        entry (laplacian d nodes es) (encode (classes nodes) a) (encode (classes nodes) b) = some (L a b))
      ∧ ∀ x : Nat → R,
          ((classes nodes).map fun a => ((classes nodes).map fun b => x a * L a b * x b).sum).sum
            = ((ofOrder d es).map fun e =>
                ((d + 1 : Nat) : R) * (e.1.map fun a => x a * x a).sum - (e.1.map x).sum * (e.1.map x).sum).sum
          ∧ (∀ e ∈ ofOrder d es,
              0 ≤ ((d + 1 : Nat) : R) * (e.1.map fun a => x a * x a).sum - (e.1.map x).sum * (e.1.map x).sum)
          ∧ 0 ≤ ((classes nodes).map fun a => ((classes nodes).map fun b => x a * L a b * x b).sum).sum := by
  exact ⟨lapL d es, fun a ha b hb => by rw [laplacian_eq d nodes es hN hE, entry_map_map_nodes nodes _ a ha b hb], fun x =>
    ⟨lap_quadratic_form d nodes es hE hD hW x,
      fun e he => edge_term_nonneg e.1 x (d + 1) ((mem_ofOrder d es e).1 he).2,
      lap_quadratic_form_nonneg d nodes es hE hD hW x⟩⟩

/-! ## The multi-order Laplacian -/

/-- `compute_multiorder_laplacian(sigmas, order_weighted, degree_weighted)`: raises exactly without hyperedges; the
Laplacians of the orders `1..max_order` are paired with the sigmas (`zip`: the longer list is cut); with
`degree_weighted` and a used order of average degree 0 nothing is claimed (`1.0/0.0`); without any pair the routine
returns the integer 0; otherwise it returns the matrix whose entry `(i, j)` is
`Σ_d  c_d · σ_d · L_d[i, j]`, `c_d = 1` or `N / Σ_x degree_d(x)` - the sigma-weighted sum of the per-order Laplacians. -/
theorem C09_multiorder_laplacian {R : Type} [Field R] (sigmas : List R) (ow dw : Bool)
    (nodes : List Nat) (es : List (Edge × R)) (hN : nodes.Nodup) (hE : ∀ e ∈ es, ∀ x ∈ e.1, x ∈ nodes) :
    (multiorderLaplacian sigmas ow dw nodes es = none ↔ es = [])
    ∧ ∀ ds, orders es = some ds →
      ((dw = true ∧ ∃ p ∈ ds.zip sigmas, degreeTotal p.1 nodes es = 0) →
          multiorderLaplacian sigmas ow dw nodes es = some MultiLap.undefScale)
      ∧ (¬ (dw = true ∧ ∃ p ∈ ds.zip sigmas, degreeTotal p.1 nodes es = 0) →
          (ds.zip sigmas = [] → multiorderLaplacian sigmas ow dw nodes es = some MultiLap.noMatrix)
          ∧ (ds.zip sigmas ≠ [] → ∃ M, multiorderLaplacian sigmas ow dw nodes es = some (MultiLap.mat M)
              ∧ ∀ i j, i < (classes nodes).length → j < (classes nodes).length →
                ∃ f : Nat → R, (∀ d, entry (lapFlag ow d nodes es) i j = some (f d))
                  ∧ entry M i j = some (((ds.zip sigmas).map fun p =>
                      (if dw then invAvgDegree p.1 nodes es else 1) * (p.2 * f p.1)).sum))) := by
  constructor
  · unfold multiorderLaplacian orders
    rw [Option.map_eq_none_iff, Option.map_eq_none_iff, maxOrder_eq_none]
  · intro ds hds
    rw [multiorderLaplacian_closed sigmas ow dw nodes es hN hE ds hds]
    have hguard : (dw && (ds.zip sigmas).any (fun p => degreeTotal p.1 nodes es == 0)) = true
        ↔ (dw = true ∧ ∃ p ∈ ds.zip sigmas, degreeTotal p.1 nodes es = 0) := by
      simp
    refine ⟨fun hg => by rw [if_pos (hguard.2 hg)], fun hg => ?_⟩
    rw [if_neg fun h => hg (hguard.1 h)]
    refine ⟨fun hnil => by rw [if_pos hnil], fun hne => ?_⟩
    rw [if_neg hne]
    refine ⟨_, rfl, fun i j hi hj => ⟨fun d => (if ow then ((scaleFactor d : Nat) : R) else 1)
      * lapL d es (classes nodes)[i] (classes nodes)[j],
      fun d => by rw [lapFlag_eq ow d nodes es hN hE, entry_map_map _ _ _ i j hi hj], ?_⟩⟩
    rw [entry_map_map _ _ _ i j hi hj]
    simp only [multiCoef, mul_assoc]

/-- Whatever the flags and the sigmas: for an unweighted hypergraph (hyperedges duplicate-free tuples of nodes) the
multi-order Laplacian is an `N × N` matrix, symmetric, and every row sums to zero. -/
theorem C09_multiorder_invariants {R : Type} [Field R] (sigmas : List R) (ow dw : Bool)
    (nodes : List Nat) (es : List (Edge × R)) (hN : nodes.Nodup) (hE : ∀ e ∈ es, ∀ x ∈ e.1, x ∈ nodes)
    (hD : ∀ e ∈ es, e.1.Nodup) (hW : ∀ e ∈ es, e.2 = 1)
    (M : List (List R)) (hM : multiorderLaplacian sigmas ow dw nodes es = some (MultiLap.mat M)) :
    M.length = nodes.length
    ∧ (∀ r ∈ M, r.length = nodes.length ∧ r.sum = 0)
    ∧ ∀ i j, i < nodes.length → j < nodes.length → entry M i j = entry M j i := by
  obtain ⟨ds, _, rfl⟩ := multiorderLaplacian_table sigmas ow dw nodes es hN hE M hM
  have key := lapLike_map_map (classes nodes) _
    (fun a b => congrArg List.sum (List.map_congr_left fun p _ => by rw [lapL_comm]))
    (fun a ha => sum_comb_zero (classes nodes) (ds.zip sigmas) (multiCoef ow dw nodes es) (fun p => lapL p.1 es a)
      fun p _ => sum_lapL p.1 nodes es hE hD hW a ha)
  rw [← classes_length nodes hN]
  exact ⟨key.1.1, fun r hr => ⟨key.1.2 r hr, key.2.2 r hr⟩, key.2.1⟩

/-- Positive semidefiniteness of the multi-order Laplacian (corollary of `C09_laplacian_psd`): for an unweighted hypergraph,
NON-NEGATIVE sigmas and every choice of the flags, whenever `compute_multiorder_laplacian` returns a matrix `M`, its entries under
the node mapping are given by some `L a b` (the proof takes `L a b = Σ_d c_d · σ_d · s_d · L_d(a, b)`, `c_d = 1` or
`N / Σ_x degree_d(x)`, `s_d = 1` or `(d-1)!`) and
`xᵀ M x ≥ 0` for every vector `x` - a non-negative combination of positive semidefinite matrices. -/
theorem C09_multiorder_psd {R : Type} [Field R] [LinearOrder R] [IsStrictOrderedRing R] (sigmas : List R) (ow dw : Bool)
    (nodes : List Nat) (es : List (Edge × R)) (hN : nodes.Nodup) (hE : ∀ e ∈ es, ∀ x ∈ e.1, x ∈ nodes)
    (hD : ∀ e ∈ es, e.1.Nodup) (hW : ∀ e ∈ es, e.2 = 1) (hσ : ∀ σ ∈ sigmas, 0 ≤ σ)
    (M : List (List R)) (hM : multiorderLaplacian sigmas ow dw nodes es = some (MultiLap.mat M)) :
    ∃ L : Nat → Nat → R,
      (∀ a ∈ nodes, ∀ b ∈ nodes, entry M (encode (classes nodes) a) (encode (classes nodes) b) = some (L a b))
      ∧ ∀ x : Nat → R,
          0 ≤ ((classes nodes).map fun a => ((classes nodes).map fun b => x a * L a b * x b).sum).sum := by
  obtain ⟨ds, _, rfl⟩ := multiorderLaplacian_table sigmas ow dw nodes es hN hE M hM
  refine ⟨_, entry_map_map_nodes nodes _, fun x => ?_⟩
  -- a non-negative combination of the quadratic forms of the per-order Laplacians
  rw [quad_sum_swap]
  refine sum_nonneg' _ _ fun p hp => mul_nonneg (mul_nonneg ?_ (mul_nonneg (hσ p.2 (List.of_mem_zip hp).2) ?_))
    (lap_quadratic_form_nonneg p.1 nodes es hE hD hW x)
  · cases dw
    · exact zero_le_one
    · exact div_nonneg (Nat.cast_nonneg _) (Nat.cast_nonneg _)
  · cases ow
    · exact zero_le_one
    · exact Nat.cast_nonneg _

/-! ## The adjacency tensor -/

/-- The routine returns a tensor exactly for a non-empty uniform hypergraph (it raises otherwise). -/
theorem C09_tensor_defined {R : Type} [CommRing R] (N : Nat) (edges : List Edge) :
    ((tensor N edges : Option (List (List Nat × R))).isSome ↔ edges ≠ [] ∧ ∃ k, ∀ e ∈ edges, e.length = k) := by
  rw [tensor_eq, Option.isSome_map, Option.isSome_iff_exists]
  simp only [uniformSize_eq_some, exists_and_left]

/-- For hyperedges of common size `k`, the tensor is the map defined on exactly the index tuples of length `k` over
`0..N-1` (each with one value), and `T[p] = 1` when `p` is a permutation of a hyperedge, `0` otherwise:
the symmetric indicator of the hyperedges. -/
theorem C09_tensor {R : Type} [CommRing R] (N k : Nat) (edges : List Edge)
    (hne : edges ≠ []) (hU : ∀ e ∈ edges, e.length = k) :
    ∃ t : List (List Nat × R), tensor N edges = some t ∧ t.map (·.1) = tuples N k ∧
      ∀ p v, (p, v) ∈ t ↔ (p.length = k ∧ ∀ x ∈ p, x < N) ∧ v = if ∃ e ∈ edges, p.Perm e then 1 else 0 := by
  refine ⟨_, by rw [tensor_eq, (uniformSize_eq_some edges k).2 ⟨hne, hU⟩]; rfl, dict_keys _ _, fun p v => ?_⟩
  rw [mem_dict, mem_tuples, ind_decide]

/-- Symmetry: the tensor takes the same value at an index tuple and at each of its permutations. -/
theorem C09_tensor_symm {R : Type} [CommRing R] (N : Nat) (edges : List Edge) (t : List (List Nat × R))
    (ht : tensor N edges = some t) (p q : List Nat) (hpq : p.Perm q) (v w : R)
    (hv : (p, v) ∈ t) (hw : (q, w) ∈ t) : v = w := by
  rw [tensor_value N edges t ht p v hv, tensor_value N edges t ht q w hw]
  have : (∃ e ∈ edges, p.Perm e) ↔ (∃ e ∈ edges, q.Perm e) :=
    ⟨fun ⟨e, he, h⟩ => ⟨e, he, hpq.symm.trans h⟩, fun ⟨e, he, h⟩ => ⟨e, he, hpq.trans h⟩⟩
  simp only [this]

/-- Every entry of the adjacency tensor is 0 or 1 (also for a weighted hypergraph: the weights are not used). -/
theorem C09_tensor_values {R : Type} [CommRing R] (N : Nat) (edges : List Edge) (t : List (List Nat × R))
    (ht : tensor N edges = some t) : ∀ pv ∈ t, pv.2 = 0 ∨ pv.2 = 1 := by
  intro pv hpv
  rw [tensor_value N edges t ht pv.1 pv.2 hpv, ind]
  split
  · exact Or.inr Nat.cast_one
  · exact Or.inl rfl

/-! ## Temporal hypergraphs: matrices per time stamp, all orders, annealed -/

/-- The matrix at time `t` is the adjacency matrix of the snapshot at `t`: the listed times are those of the records,
the snapshot's nodes are the nodes of the hyperedges recorded at `t`, and entry `(i, j)`, `i ≠ j`, is the number of
records `(t, e)` whose hyperedge contains both nodes (zero diagonal). -/
theorem C09_temporal {R : Type} [CommRing R] (recs : List (Rec R)) (t : Nat) :
    (t ∈ times recs ↔ ∃ r ∈ recs, r.1 = t)
    ∧ (∀ x, x ∈ snapshotNodes recs t ↔ ∃ r ∈ recs, r.1 = t ∧ x ∈ r.2.1)
    ∧ temporalAdj recs t = adj (snapshotNodes recs t) ((snapshot recs t).map (·.1))
    ∧ ∀ i j (hi : i < (classes (snapshotNodes recs t)).length) (hj : j < (classes (snapshotNodes recs t)).length),
        entry (temporalAdj recs t) i j
          = some (if i = j then 0
                  else ((recs.countP fun r => r.1 == t &&
                          (decide ((classes (snapshotNodes recs t))[i] ∈ r.2.1)
                            && decide ((classes (snapshotNodes recs t))[j] ∈ r.2.1)) : Nat) : R)) := by
  refine ⟨by simp only [times, mem_classes, List.mem_map], mem_snapshotNodes recs t, rfl, ?_⟩
  intro i j hi hj
  rw [temporalAdj, C09_adjacency _ _ (snapshotNodes_nodup recs t) (List.forall_mem_map.2 (snapshot_covers recs t)) i j hi hj,
    List.countP_map, countP_snapshot]
  rfl

/-- Per-order temporal matrices: the matrix at time `t` is the order-`d` adjacency matrix of the snapshot at `t`;
for unweighted records entry `(i, j)`, `i ≠ j`, counts the records `(t, e)` with `e` of order `d` containing both nodes. -/
theorem C09_temporal_by_order {R : Type} [CommRing R] (d : Nat) (recs : List (Rec R)) (t : Nat)
    (hW : ∀ r ∈ recs, r.2.2 = 1) :
    temporalAdjByOrder d recs t = adjByOrder d (snapshotNodes recs t) (snapshot recs t)
    ∧ ∀ i j (hi : i < (classes (snapshotNodes recs t)).length) (hj : j < (classes (snapshotNodes recs t)).length),
        entry (temporalAdjByOrder d recs t) i j
          = some (if i = j then 0
                  else ((recs.countP fun r => r.1 == t && (r.2.1.length == d + 1 &&
                          (decide ((classes (snapshotNodes recs t))[i] ∈ r.2.1)
                            && decide ((classes (snapshotNodes recs t))[j] ∈ r.2.1))) : Nat) : R)) := by
  refine ⟨rfl, fun i j hi hj => ?_⟩
  have hW' : ∀ e ∈ snapshot recs t, e.2 = 1 := by
    intro e he
    obtain ⟨r, hr, _, rfl⟩ := (mem_snapshot recs t e).1 he
    exact hW r hr
  rw [temporalAdjByOrder, C09_by_order d _ _ (snapshotNodes_nodup recs t) (snapshot_covers recs t) hW' i j hi hj,
    countP_snapshot]

/-- `temporal_adjacency_matrices_all_orders(th, max_order)`: raises only when `max_order` is not given and there is no
record; the keys are the orders `1..m` (`m` = the given `max_order`, else the largest order of a record); under each
order the keys are the times of the records and the matrix at `t` is the order-`d` adjacency matrix of the snapshot at `t`. -/
theorem C09_temporal_all_orders {R : Type} [CommRing R] (mo : Option Nat) (recs : List (Rec R)) :
    (temporalAdjAllOrders mo recs = none ↔ mo = none ∧ recs = [])
    ∧ ∀ l, temporalAdjAllOrders mo recs = some l →
        ∃ m, (mo = some m ∨ (mo = none ∧ temporalMaxOrder recs = some m))
          ∧ l.map (·.1) = (List.range m).map (· + 1)
          ∧ ∀ d tm, (d, tm) ∈ l → tm.map (·.1) = times recs
              ∧ ∀ t M, (t, M) ∈ tm → M = adjByOrder d (snapshotNodes recs t) (snapshot recs t) := by
  rw [temporalAdjAllOrders_eq]
  refine ⟨by rw [Option.map_eq_none_iff, Option.or_eq_none_iff, temporalMaxOrder, maxOrder_eq_none, List.map_eq_nil_iff],
    fun l hl => ?_⟩
  obtain ⟨m, hm, rfl⟩ := Option.map_eq_some_iff.1 hl
  refine ⟨m, Option.or_eq_some_iff.1 hm, dict_keys _ _, fun d tm h => ?_⟩
  rw [((mem_dict _ _ d tm).1 h).2]
  exact ⟨dict_keys _ _, fun t M h => ((mem_dict _ _ t M).1 h).2⟩

/-- `annealed_adjacency_matrices_all_orders`, one order: the routine raises exactly when there is no time stamp or two
snapshots have different numbers of nodes (scipy: inconsistent shapes); otherwise every entry of the returned matrix is
the AVERAGE over the time stamps of that entry of the per-time order-`d` adjacency matrices (sum divided by the number of times). -/
theorem C09_annealed_by_order {R : Type} [Field R] [DecidableEq R] (d : Nat) (recs : List (Rec R)) :
    (annealedOne d recs = none ↔ times recs = [] ∨
        ¬ (∀ t ∈ times recs, ∀ t' ∈ times recs,
            (temporalAdjByOrder d recs t).length = (temporalAdjByOrder d recs t').length))
    ∧ ∀ M, annealedOne d recs = some M →
        ∀ i j (f : Nat → R), (∀ t ∈ times recs, entry (temporalAdjByOrder d recs t) i j = some (f t)) →
          entry M i j = some (((times recs).map f).sum / (((times recs).length : Nat) : R)) := by
  have hs : sameLen ((times recs).map (temporalAdjByOrder d recs)) = true
      ↔ ∀ t ∈ times recs, ∀ t' ∈ times recs,
          (temporalAdjByOrder d recs t).length = (temporalAdjByOrder d recs t').length := by
    rw [sameLen_spec]
    simp only [List.forall_mem_map]
  constructor
  · unfold annealedOne
    simp only []
    by_cases h : sameLen ((times recs).map (temporalAdjByOrder d recs)) = true
    · rw [if_pos h, Option.map_eq_none_iff, matSum_eq_none, List.map_eq_nil_iff]
      constructor
      · intro e; exact Or.inl e
      · rintro (e | e)
        · exact e
        · exact absurd (hs.1 h) e
    · rw [if_neg h]
      simp only [true_iff]
      exact Or.inr (fun e => h (hs.2 e))
  · intro M hM i j f hf
    unfold annealedOne at hM
    simp only [] at hM
    split at hM
    · obtain ⟨S, hS, rfl⟩ := Option.map_eq_some_iff.1 hM
      rw [entry_divScalar, entry_matSum (temporalAdjByOrder d recs) f i j (times recs) hf S hS, List.length_map]
      rfl
    · cases hM

/-- `annealed_adjacency_matrices_all_orders`: raises without records; when it returns, the keys are the orders
`1..max_order` and the value at `d` is the average matrix of `C09_annealed_by_order`. -/
theorem C09_annealed_all_orders {R : Type} [Field R] [DecidableEq R] (recs : List (Rec R)) :
    (recs = [] → annealedAllOrders recs = none)
    ∧ ∀ l, annealedAllOrders recs = some l →
        ∃ m, temporalMaxOrder recs = some m ∧ l.map (·.1) = (List.range m).map (· + 1)
          ∧ ∀ p ∈ l, annealedOne p.1 recs = some p.2 := by
  constructor
  · intro h
    subst h
    rfl
  · intro l hl
    unfold annealedAllOrders at hl
    cases hm : temporalMaxOrder recs with
    | none => rw [hm] at hl; cases hl
    | some m =>
      rw [hm] at hl
      simp only [Option.bind_some] at hl
      obtain ⟨h1, h2⟩ := allSome_spec _ l hl
      exact ⟨m, rfl, h1.trans (dict_keys _ _), fun p hp => ((mem_dict _ _ _ _).1 (h2 p hp)).2.symm⟩

/-! ## What the matrices depend on: the node set and the order of the labels -/

/-- **Only the current content matters (histories).**  A history of edits (removals, re-insertions) changes the
ORDER in which `get_nodes()` lists the nodes; every matrix and every mapping is the same for two listings of the
same node set (and the same hyperedge listing).  No hypothesis beyond `Perm`. -/
theorem C09_node_listing_irrelevant {R : Type} [CommRing R] [DecidableEq R] (nodes nodes' : List Nat)
    (es : List (Edge × R)) (h : nodes.Perm nodes') :
    mapping nodes = mapping nodes'
    ∧ (binInc nodes (es.map (·.1)) : List (List R)) = binInc nodes' (es.map (·.1))
    ∧ inc nodes es = inc nodes' es
    ∧ (adj nodes (es.map (·.1)) : List (List R)) = adj nodes' (es.map (·.1))
    ∧ (dual nodes (es.map (·.1)) : List (List R)) = dual nodes' (es.map (·.1))
    ∧ (∀ d k, incByOrder d k nodes es = incByOrder d k nodes' es
          ∧ mappingByOrder d k nodes es = mappingByOrder d k nodes' es)
    ∧ (∀ d, adjByOrder d nodes es = adjByOrder d nodes' es
          ∧ degMatrix d nodes es = degMatrix d nodes' es
          ∧ laplacian d nodes es = laplacian d nodes' es) := by
  have hc := classes_perm_congr nodes nodes' h
  have hl : nodes.length = nodes'.length := h.length_eq
  have hB : ∀ edges : List Edge, (binInc nodes edges : List (List R)) = binInc nodes' edges := fun _ => by
    simp only [binInc, hc, hl]
  have hM : mapping nodes = mapping nodes' := by simp only [mapping, hc]
  have hO : ∀ d k, incByOrder d k nodes es = incByOrder d k nodes' es
      ∧ mappingByOrder d k nodes es = mappingByOrder d k nodes' es := fun d k => by
    cases k <;> simp only [incByOrder, mappingByOrder, subNodes, inc, hB, hM, if_true, Bool.false_eq_true, if_false, and_self]
  exact ⟨hM, hB _, by simp only [inc, hB], by simp only [adj, hB], by simp only [dual, hB], hO, fun d => by
    simp only [adjByOrder, degMatrix, laplacian, (hO d true).1, hM, and_self]⟩

/-- **Only the ORDER of the labels matters, never their values or their type.**  For every strictly increasing
relabelling `f` of the nodes (in particular the rank map by which comparable labels of any type - non-integer or
negative floats, strings, integers beyond 2^63 - are sent to the model's `Nat` labels, and maps such as
`0, 0.5, 2 ↦ 0, 1, 2`): the mapping lists the relabelled nodes at the same indices and every matrix is unchanged.
Hence no routine may read a label as a number (use it as a row index, truncate it, compare it with `N`): that is
not invariant under `f`.  No hypothesis on the hypergraph. -/
theorem C09_relabel_invariant {R : Type} [CommRing R] [DecidableEq R] (f : Nat → Nat) (hf : ∀ a b, a < b → f a < f b)
    (nodes : List Nat) (es : List (Edge × R)) :
    mapping (nodes.map f) = (mapping nodes).map (fun p => (p.1, f p.2))
    ∧ (binInc (nodes.map f) ((relabelEs f es).map (·.1)) : List (List R)) = binInc nodes (es.map (·.1))
    ∧ inc (nodes.map f) (relabelEs f es) = inc nodes es
    ∧ (adj (nodes.map f) ((relabelEs f es).map (·.1)) : List (List R)) = adj nodes (es.map (·.1))
    ∧ (dual (nodes.map f) ((relabelEs f es).map (·.1)) : List (List R)) = dual nodes (es.map (·.1))
    ∧ (∀ d k, incByOrder d k (nodes.map f) (relabelEs f es) = incByOrder d k nodes es
          ∧ mappingByOrder d k (nodes.map f) (relabelEs f es)
              = (mappingByOrder d k nodes es).map (fun p => (p.1, f p.2)))
    ∧ (∀ d, adjByOrder d (nodes.map f) (relabelEs f es) = adjByOrder d nodes es
          ∧ degMatrix d (nodes.map f) (relabelEs f es) = degMatrix d nodes es
          ∧ laplacian d (nodes.map f) (relabelEs f es) = laplacian d nodes es
          ∧ laplacianScaled d (nodes.map f) (relabelEs f es) = laplacianScaled d nodes es) := by
  have hf' : NatSort.Incr f := hf
  -- every matrix is built from `binInc` (of the node list, or of `subNodes`) and `degMatrix` by operations that see no label
  have hB : ∀ (ns : List Nat) (es : List (Edge × R)),
      (binInc (ns.map f) ((relabelEs f es).map (·.1)) : List (List R)) = binInc ns (es.map (·.1)) := fun ns es => by
    rw [relabelEs_fst]; exact binInc_map f hf' ns _
  have hI : ∀ (ns : List Nat) (es : List (Edge × R)), inc (ns.map f) (relabelEs f es) = inc ns es := fun ns es => by
    rw [inc, hB, relabelEs_snd]; rfl
  have hO : ∀ d k, incByOrder d k (nodes.map f) (relabelEs f es) = incByOrder d k nodes es := fun d k => by
    rw [incByOrder, subNodes_map f hf', ofOrder_map, hI]; rfl
  refine ⟨mapping_map f hf' nodes, hB _ _, hI _ _, by rw [adj, hB]; rfl, by unfold dual; rw [hB]; simp only [relabelEs, List.length_map],
    fun d k => ⟨hO d k, ?_⟩, fun d => ?_⟩
  · rw [mappingByOrder, subNodes_map f hf', mapping_map f hf']; rfl
  · simp only [adjByOrder, laplacianScaled, laplacian, hO, degMatrix_map f hf', and_self]

/-- ... and the same for the temporal matrices: times, snapshot matrices per time (all orders and per order) are
unchanged, the snapshot's node list (hence its mapping) is relabelled. -/
theorem C09_relabel_invariant_temporal {R : Type} [CommRing R] [DecidableEq R] (f : Nat → Nat)
    (hf : ∀ a b, a < b → f a < f b) (recs : List (Rec R)) :
    times (relabelRecs f recs) = times recs
    ∧ ∀ t, snapshotNodes (relabelRecs f recs) t = (snapshotNodes recs t).map f
        ∧ mapping (snapshotNodes (relabelRecs f recs) t) = (mapping (snapshotNodes recs t)).map (fun p => (p.1, f p.2))
        ∧ temporalAdj (relabelRecs f recs) t = temporalAdj recs t
        ∧ ∀ d, temporalAdjByOrder d (relabelRecs f recs) t = temporalAdjByOrder d recs t := by
  refine ⟨times_map f recs, fun t => ?_⟩
  -- the matrices at `t` are those of the snapshot hypergraph, which is relabelled by `f`
  have h := C09_relabel_invariant f hf (snapshotNodes recs t) (snapshot recs t)
  rw [← snapshotNodes_map f hf recs t, ← snapshot_map] at h
  exact ⟨snapshotNodes_map f hf recs t, h.1, h.2.2.2.1, fun d => (h.2.2.2.2.2.2 d).1⟩

/-! ## non-vacuity: theorems instantiated on a concrete hypergraph with labels that are not `0..N-1`,
an isolated node (50), overlapping hyperedges of orders 1 and 2 -/

private def exN : List Nat := [30, 10, 20, 7, 50]
private def exE : List Edge := [[10, 20, 30], [20, 10], [7, 30], [30, 20, 7]]
private def exW : List (Edge × Int) := [([10, 20, 30], 1), ([20, 10], 1), ([7, 30], 1), ([30, 20, 7], 1)]
private def exQ : List (Edge × Int) := [([10, 20, 30], 2), ([20, 10], 3), ([7, 30], 1), ([30, 20, 7], 5)]
private theorem exN_nodup : exN.Nodup := by decide +kernel
private theorem exE_sub : ∀ e ∈ exE, ∀ x ∈ e, x ∈ exN := by decide +kernel
private theorem exW_sub : ∀ e ∈ exW, ∀ x ∈ e.1, x ∈ exN := by decide +kernel
private theorem exW_nodup : ∀ e ∈ exW, e.1.Nodup := by decide +kernel
private theorem exW_unit : ∀ e ∈ exW, e.2 = 1 := by decide +kernel
private theorem exQ_sub : ∀ e ∈ exQ, ∀ x ∈ e.1, x ∈ exN := by decide +kernel
private theorem exN_lt2 : 2 < (classes exN).length := by decide
private theorem exN_lt3 : 3 < (classes exN).length := by decide
example : mapping exN = [(0, 7), (1, 10), (2, 20), (3, 30), (4, 50)] := by decide +kernel
example : (mapping exN).map (·.1) = List.range 5 := (C09_mapping_bij exN exN_nodup).1
example : entry (binInc (α := Int) exN exE) 3 2 = some 1 :=
  (C09_incidence exN exE exN_nodup exE_sub 3 2 exN_lt3 (by decide)).trans (by decide)
example : entry (binInc (α := Int) exN exE) 5 0 = none :=
  C09_incidence_shape exN exE exN_nodup exE_sub 5 0 (by decide)
example : entry (inc exN exQ) 2 3 = some 5 :=
  (C09_incidence_weighted exN exQ exN_nodup exQ_sub 2 3 exN_lt2 (by decide)).trans (by decide)
example : entry (adj (α := Int) exN exE) 2 3 = some 2 :=
  (C09_adjacency exN exE exN_nodup exE_sub 2 3 exN_lt2 exN_lt3).trans (by decide)
example : entry (dual (α := Int) exN exE) 1 2 = some 0 ∧ entry (dual (α := Int) exN exE) 1 3 = some 1 := by decide +kernel
example : entry (dual (α := Int) exN exE) 1 3 = some 1 :=
  (C09_dual exN exE exN_nodup exE_sub 1 3 (by decide) (by decide)).trans (by decide)
example : classes (subNodes 1 false exN exW) = [7, 10, 20, 30] ∧ incByOrder 1 false exN exW = [[0, 1], [1, 0], [1, 0], [0, 1]] := by
  decide +kernel
example : (subNodes 1 false exN exW).Nodup := (C09_by_order_incidence 1 false exN exW exN_nodup exW_sub).1
example : entry (adjByOrder 2 exN exW) 2 3 = some 2 :=
  (C09_by_order 2 exN exW exN_nodup exW_sub exW_unit 2 3 exN_lt2 exN_lt3).trans (by decide)
example : entry (adjByOrder 2 exN exQ) 2 3 = some 29 :=
  (C09_by_order_weighted 2 exN exQ exN_nodup exQ_sub 2 3 exN_lt2 exN_lt3).trans (by decide)
example : entry (degMatrix 2 exN exW) 3 3 = some 2 :=
  (C09_degree_matrix 2 exN exW 3 3 exN_lt3 exN_lt3).trans (by decide)
example : laplacian 2 exN exW =
    [[2, 0, -1, -1, 0], [0, 2, -1, -1, 0], [-1, -1, 4, -2, 0], [-1, -1, -2, 4, 0], [0, 0, 0, 0, 0]] := by decide +kernel
example : entry (laplacian 2 exN exW) 2 3 = some (2 * 0 - 2) :=
  (C09_laplacian 2 exN exW exN_nodup exW_sub exW_unit 2 3 exN_lt2 exN_lt3).trans (by decide)
example : entry (laplacian 2 exN exQ) 2 3 = entry (laplacian 2 exN exQ) 3 2 :=
  C09_laplacian_symm 2 exN exQ exN_nodup exQ_sub 2 3 exN_lt2 exN_lt3
example : ((laplacian 2 exN exW)[2]?).map List.sum = some 0 :=
  C09_laplacian_row_sums 2 exN exW exN_nodup exW_sub exW_nodup exW_unit 2 exN_lt2
example : (tensor (α := Int) 3 [[0, 1], [2, 1]]).map (fun t => t.map (·.2)) = some [0, 1, 0, 1, 0, 1, 0, 1, 0] := by decide +kernel
example : (tensor (α := Int) 3 [[0, 1], [2, 1]]).isSome :=
  (C09_tensor_defined (R := Int) 3 [[0, 1], [2, 1]]).2 ⟨by decide, 2, by decide⟩
example : ∃ t : List (List Nat × Int), tensor 3 [[0, 1], [2, 1]] = some t ∧ t.map (·.1) = tuples 3 2 := by
  obtain ⟨t, h1, h2, _⟩ := C09_tensor (R := Int) 3 2 [[0, 1], [2, 1]] (by decide) (by decide)
  exact ⟨t, h1, h2⟩
example : (tensor (α := Int) 3 [[0, 1], [2, 1, 0]]) = none := by decide +kernel

private def exR : List (Rec Int) := [(3, [10, 20, 30], 1), (3, [20, 30], 1), (7, [5, 10], 1), (3, [30, 40], 1)]
example : times exR = [3, 7] ∧ snapshotNodes exR 3 = [10, 20, 30, 40]
    ∧ temporalAdj exR 3 = [[0, 1, 1, 0], [1, 0, 2, 0], [1, 2, 0, 1], [0, 0, 1, 0]] := by decide +kernel
example : entry (temporalAdj exR 3) 1 2 = some 2 :=
  ((C09_temporal exR 3).2.2.2 1 2 (by decide) (by decide)).trans (by decide)
example : temporalAdjByOrder 1 exR 3 = [[0, 0, 0, 0], [0, 0, 1, 0], [0, 1, 0, 1], [0, 0, 1, 0]] := by decide +kernel
example : entry (temporalAdjByOrder 1 exR 3) 2 3 = some 1 :=
  ((C09_temporal_by_order 1 exR 3 (by decide)).2 2 3 (by decide) (by decide)).trans (by decide)
example : entry (adj (α := Int) exN (List.map (·.1) exW)) 5 0 = none :=
  ((C09_shapes 2 exN exW exN_nodup exW_sub 5 0).1 (by decide)).1
example : (hyeBinInc (α := Int) [[0, 2, 2], [], [1]] none) = some [[1, 0, 0], [0, 0, 1], [1, 0, 0]]
    ∧ (hyeBinInc (α := Int) [[0, 2, 2], [], [1]] (some (2, 3))) = none
    ∧ (hyeBinInc (α := Int) [[0, 2, 2], [], [1]] (some (3, 4))) = some [[1, 0, 0, 0], [0, 0, 1, 0], [1, 0, 0, 0]] := by decide +kernel
example : entry (binInc (α := Int) exN exE) 3 2 = some 1 := by
  have h := C09_incidence_call (R := Int) exN exE exN_nodup exE_sub
  exact ((C09_hye_list _ _).2.2.2 _ h 3 2 (by decide) (by decide)).trans (by decide)
example : entry (binInc (α := Int) exN exE) 3 2 = some 1 :=
  (C09_incidence_iff exN exE exN_nodup exE_sub 3 2 exN_lt3 (by decide)).2 (by decide)
example : entry (dual (α := Int) exN exE) 1 3 = some 1 :=
  (C09_dual_iff exN exE exN_nodup exE_sub 1 3 (by decide) (by decide)).2 ⟨20, by decide, by decide⟩
example : mapping [10, 30, 20] = mapping [20, 10, 30] :=
  (C09_node_listing_irrelevant (R := Int) [10, 30, 20] [20, 10, 30] [] (by decide)).1
example : adj (α := Int) [50, 7, 30, 10, 20] exE = adj exN exE :=
  (C09_node_listing_irrelevant (R := Int) [50, 7, 30, 10, 20] exN exW (by decide)).2.2.2.1
example : [10, 20, 30].length = [10, 20, 40].length ∧ mapping [10, 20, 30] ≠ mapping [10, 20, 40] := by decide +kernel
example : ¬ ([10, 20, 30] : List Nat).Perm [10, 20, 40] :=
  fun h => absurd ((C09_mapping_tracks_nodes _ _ (by decide) (by decide)).2 h) (by decide)

/-! the order type of the labels `0, 0.5, 2` (seeded C09-c1) is that of `0, 1, 4`: `f` below maps `0, 1, 2` to it -/
private def exF (x : Nat) : Nat := x * x
example : ∀ a b : Nat, a < b → exF a < exF b := fun _ _ h => Nat.mul_lt_mul'' h h
example : mapping ([2, 0, 1].map exF) = [(0, 0), (1, 1), (2, 4)]
    ∧ binInc (α := Int) ([2, 0, 1].map exF) [[0, 1], [1, 4]] = binInc [2, 0, 1] [[0, 1], [1, 2]] := by decide +kernel
example : binInc (α := Int) ([2, 0, 1].map exF) ((relabelEs exF [([0, 1], (1 : Int)), ([1, 2], 1)]).map (·.1))
    = binInc [2, 0, 1] [[0, 1], [1, 2]] :=
  (C09_relabel_invariant (R := Int) exF (fun _ _ h => Nat.mul_lt_mul'' h h) [2, 0, 1] [([0, 1], 1), ([1, 2], 1)]).2.1
example : adjByOrder 2 (List.map (3 * · + 2) exN) (relabelEs (3 * · + 2) exQ) = adjByOrder 2 exN exQ :=
  ((C09_relabel_invariant (R := Int) (3 * · + 2) (fun _ _ h => by omega) exN exQ).2.2.2.2.2.2 2).1
example : laplacian 2 (List.map (3 * · + 2) exN) (relabelEs (3 * · + 2) exQ) = laplacian 2 exN exQ
    ∧ mapping (List.map (3 * · + 2) exN) = [(0, 23), (1, 32), (2, 62), (3, 92), (4, 152)] := by decide +kernel
example : temporalAdj (relabelRecs (3 * · + 2) exR) 3 = temporalAdj exR 3 :=
  ((C09_relabel_invariant_temporal (R := Int) (3 * · + 2) (fun _ _ h => by omega) exR).2 3).2.2.1
example : snapshotNodes (relabelRecs (3 * · + 2) exR) 3 = [32, 62, 92, 122] := by decide +kernel
example : ∀ x ∈ [2, 0, 1], encode (classes [2, 0, 1]) x = x :=
  (C09_encoder_identity_iff [2, 0, 1] (by decide)).2 (by decide)
example : classes [4, 0, 1] ≠ List.range 3 ∧ encode (classes [4, 0, 1]) 4 = 2 := by decide +kernel
example : ¬ ∀ x ∈ [4, 0, 1], encode (classes [4, 0, 1]) x = x :=
  fun h => absurd ((C09_encoder_identity_iff [4, 0, 1] (by decide)).1 h) (by decide)

private def exWq : List (Edge × Rat) := [([10, 20, 30], 1), ([20, 10], 1), ([7, 30], 1), ([30, 20, 7], 1)]
private theorem exWq_sub : ∀ e ∈ exWq, ∀ x ∈ e.1, x ∈ exN := by decide +kernel
private theorem exWq_nodup : ∀ e ∈ exWq, e.1.Nodup := by decide +kernel
private theorem exWq_unit : ∀ e ∈ exWq, e.2 = 1 := by simp [exWq]
private theorem exWq_orders : orders exWq = some [1, 2] := by decide
example : entry (mulT (binInc (α := Int) exN exE) (binInc exN exE)) 3 3 = some (0 + 3)
    ∧ entry (mulT (binInc (α := Int) exN exE) (binInc exN exE)) 2 3 = some (2 + 0) :=
  ⟨(C09_adjacency_gram exN exE exN_nodup exE_sub 3 3 exN_lt3 exN_lt3).trans (by decide),
   (C09_adjacency_gram exN exE exN_nodup exE_sub 2 3 exN_lt2 exN_lt3).trans (by decide)⟩
example : entry (mulT (incByOrder 2 true exN exW) (incByOrder 2 true exN exW)) 3 3 = some (0 + 2) :=
  (C09_by_order_gram 2 exN exW exN_nodup exW_sub exW_unit 3 3 exN_lt3 exN_lt3).trans (by decide)
example : maxOrder exW = some 2 ∧ orders exW = some [1, 2] := by decide +kernel
example : ∃ f : Nat → Int, (∀ d, entry (adjByOrder d exN exW) 2 3 = some (f d))
    ∧ entry (adj (α := Int) exN (List.map (·.1) exW)) 2 3 = some (f 0 + (f 1 + (f 2 + 0))) :=
  C09_adjacency_sum_orders exN exW exN_nodup exW_sub exW_unit 2 (by decide) 2 3 exN_lt2 exN_lt3
example : adj (α := Int) exN (List.map (·.1) exW) = matAdd (adjByOrder 1 exN exW) (adjByOrder 2 exN exW) := by decide +kernel
example : incAllOrders false exN exW = some [(1, [[0, 1], [1, 0], [1, 0], [0, 1]]), (2, [[0, 1], [1, 0], [1, 1], [1, 1]])] := by decide +kernel
example : ∃ m, maxOrder exW = some m ∧ lapAllOrders false exN exW
    = some ((List.range m).map fun i => (i + 1, laplacian (i + 1) exN exW)) := by
  obtain ⟨m, h1, _, _, _, h2⟩ := (C09_all_orders false false exN exW).2 (by decide)
  exact ⟨m, h1, h2⟩
example : ∃ M, multiorderLaplacian [2, 3] false false exN exWq = some (MultiLap.mat M)
    ∧ M.length = 5 ∧ (∀ r ∈ M, r.length = 5 ∧ r.sum = 0) ∧ entry M 2 3 = entry M 3 2 := by
  obtain ⟨M, h, _⟩ := (((C09_multiorder_laplacian [2, 3] false false exN exWq exN_nodup exWq_sub).2 [1, 2] exWq_orders).2
    (by simp)).2 (by simp)
  have hi := C09_multiorder_invariants [2, 3] false false exN exWq exN_nodup exWq_sub exWq_nodup exWq_unit M h
  exact ⟨M, h, hi.1, hi.2.1, hi.2.2 2 3 (by decide) (by decide)⟩
example : multiorderLaplacian [2, 3, 4] true true exN exWq ≠ some MultiLap.undefScale
    ∧ multiorderLaplacian [2] false true [10, 20, 30] [([10, 20, 30], (1 : Rat))] = some MultiLap.undefScale
    ∧ multiorderLaplacian [] false true exN exWq = some MultiLap.noMatrix
    ∧ multiorderLaplacian [2] false false exN ([] : List (Edge × Rat)) = none := by
  refine ⟨?_, ?_, ?_, ?_⟩
  · intro h
    have := ((C09_multiorder_laplacian [2, 3, 4] true true exN exWq exN_nodup exWq_sub).2 [1, 2] exWq_orders).2
      (by decide)
    obtain ⟨M, hM, _⟩ := this.2 (by simp)
    rw [h] at hM
    cases hM
  · exact ((C09_multiorder_laplacian [2] false true [10, 20, 30] [([10, 20, 30], (1 : Rat))] (by decide) (by decide)).2
      [1, 2] (by decide)).1 ⟨rfl, (1, 2), by simp, by decide⟩
  · exact (((C09_multiorder_laplacian [] false true exN exWq exN_nodup exWq_sub).2 [1, 2] exWq_orders).2
      (by simp)).1 (by simp)
  · exact (C09_multiorder_laplacian [2] false false exN ([] : List (Edge × Rat)) (by decide) (by simp)).1.2 rfl
example : ∀ pv ∈ ((tensor (α := Int) 3 [[0, 1], [2, 1]]).getD []), pv.2 = 0 ∨ pv.2 = 1 := by decide +kernel
example (t : List (List Nat × Int)) (h : tensor 3 [[0, 1], [2, 1]] = some t) : ∀ pv ∈ t, pv.2 = 0 ∨ pv.2 = 1 :=
  C09_tensor_values 3 [[0, 1], [2, 1]] t h
example : (temporalAdjAllOrders (none : Option Nat) exR).map (fun l => l.map (·.1)) = some [1, 2]
    ∧ (temporalAdjAllOrders (some 1) exR).map (fun l => l.map fun p => p.2.map (·.1)) = some [[3, 7]] := by decide +kernel
example : temporalAdjAllOrders (none : Option Nat) ([] : List (Rec Int)) = none :=
  (C09_temporal_all_orders none ([] : List (Rec Int))).1.2 ⟨rfl, rfl⟩
example : ((classes exN).map fun (a : Nat) => ((classes exN).map fun (b : Nat) => Int.ofNat a * lapL 2 exW a b * Int.ofNat b).sum).sum = 1398
    ∧ lapL 2 exW 20 30 = -2 ∧ lapL 2 exW 30 30 = 4 := by decide +kernel
example : (0 : Int) ≤ ((classes exN).map fun (a : Nat) => ((classes exN).map fun (b : Nat) => Int.ofNat a * lapL 2 exW a b * Int.ofNat b).sum).sum :=
  lap_quadratic_form_nonneg 2 exN exW exW_sub exW_nodup exW_unit Int.ofNat
example : ∃ L : Nat → Nat → Int, ∀ a ∈ exN, ∀ b ∈ exN,
    entry (laplacian 2 exN exW) (encode (classes exN) a) (encode (classes exN) b) = some (L a b) := by
  obtain ⟨L, h, _⟩ := C09_laplacian_psd 2 exN exW exN_nodup exW_sub exW_nodup exW_unit
  exact ⟨L, h⟩
example : ∃ A : Nat → Nat → Int, A 30 20 = 2 ∧ A 30 7 = 1 ∧ A 30 30 = 0
    ∧ entry (adjByOrder 2 exN exW) (encode (classes exN) 30) (encode (classes exN) 20) = some (A 30 20)
    ∧ ((classes exN).map fun b => A 30 b).sum = 2 * 2 := by
  refine ⟨fun a b => if a = b then 0 else gram 2 exW a b, by decide, by decide, by decide,
    by rw [adjByOrder_eq 2 exN exW exN_nodup exW_sub, entry_map_map_nodes exN _ 30 (by decide) 20 (by decide)], ?_⟩
  exact (adj_row_sum_label 2 exN exW exW_sub exW_nodup exW_unit 30 (by decide)).trans (by decide)
example : annealedOne 1 ([] : List (Rec Rat)) = none := (C09_annealed_by_order (R := Rat) 1 []).1.2 (Or.inl rfl)
example : (adjFactor 2 [5, 1, 9, 4] [[1, 5], [5, 1, 9]] : List (Nat × Int)) = [(5, 5), (1, 5), (9, 2), (4, 0)] := by decide +kernel
example : (adjFactor 0 [5, 1, 9, 4] [[1, 5], [5, 1, 9]] : List (Nat × Int)) = [(5, 2), (1, 2), (9, 2), (4, 0)] :=
  (C09_adjacency_factor 0 [5, 1, 9, 4] [[1, 5], [5, 1, 9]] (by decide) (by decide)).trans (by decide)
example : ∃ M, multiorderLaplacian [2, 3] false false exN exWq = some (MultiLap.mat M)
    ∧ ∃ L : Nat → Nat → Rat, ∀ x : Nat → Rat,
        0 ≤ ((classes exN).map fun a => ((classes exN).map fun b => x a * L a b * x b).sum).sum := by
  obtain ⟨M, h, _⟩ := (((C09_multiorder_laplacian [2, 3] false false exN exWq exN_nodup exWq_sub).2 [1, 2] exWq_orders).2
    (by simp)).2 (by simp)
  obtain ⟨L, _, hL⟩ := C09_multiorder_psd [2, 3] false false exN exWq exN_nodup exWq_sub exWq_nodup exWq_unit
    (by intro σ hσ; rcases List.mem_cons.1 hσ with rfl | hσ; · norm_num
        · rcases List.mem_cons.1 hσ with rfl | hσ; · norm_num
          · cases hσ) M h
  exact ⟨M, h, L, hL⟩
example : dualHyes [5, 1, 9, 4] [[1, 5], [5, 1, 9]] = [[0, 1], [], [0, 1], [1]]
    ∧ (dualInc [5, 1, 9, 4] [[1, 5], [5, 1, 9]] : Option (List (List Int))) = some [[1, 0, 1, 0], [1, 0, 1, 1]]
    ∧ (binInc [5, 1, 9, 4] [[1, 5], [5, 1, 9]] : List (List Int)) = [[1, 1], [0, 0], [1, 1], [0, 1]] := by decide +kernel
