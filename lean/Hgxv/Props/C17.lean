import Hgxv.Proofs.C17Init
import Hgxv.Proofs.C17Book
import Hgxv.Proofs.C17EM
import Hgxv.Proofs.C17Norm
import Hgxv.Proofs.C17Ext
import Hgxv.Proofs.C17Lap
/-! # C17 — Hypergraph-MT / spectral clustering: valid reproducible output, EM ascends

Property theorems about the model `Hgxv/Model/C17.lean`, `Hgxv/Model/C17Ext.lean`.  The numerical definitions of the model are generic in the
number type; here they are instantiated at an arbitrary linearly ordered field `α` (algebraic statements) and at `ℝ`
(statements with `log`).  Hypotheses are what the code guarantees: `CfgOk` (`min_value_par ≥ 0`, the upper clamp and
its replacement value `1e2` are not below it), node indices of the permutation `< N`, draws `uk ≥ 0`
(`RandomState.random_sample`).  The clamps on `u` ARE covered by `C17_psi`/`C17_loglik_agrees` (the tables are
maintained across them); they are excluded only from the ascent theorems.
The notions of the statements that are not in the model files are defined in the proof modules: `reach` (C17Init); `CfgOk`, `Inv`,
`clampU` (C17Inv); `Setup`, `Pos`, `IsoZero`, `RhoOk`, `LL`, `FQ`, `cEx` (C17EM); `LamOk`, `numEff`, `cNorm`, `sNorm` (C17Norm);
`EdgesOk` (C17Lap); `restL` (C17Psi). -/
-- `hc` of `C17_psiBar` and `hi` of `C17_normalized_row` are not used by their proofs
set_option linter.unusedVariables false
open C17

section field
variable {α : Type} [Field α] [LinearOrder α] [IsStrictOrderedRing α]

/-- **the incremental tables are the elementary symmetric polynomials.**  At every point reached,
`psiOmega[d][k] = e_{d+1}(u[:,k])`.  (The invariant `Inv`, established by `reach_inv`, also gives: all entries of `u` and `psiBarOmega` are
non-negative, so the negative-value repairs never fire, and every entry of `u` is `0` or `≥ min_value_par`.) -/
theorem C17_psi (c : Cfg α) (hc : CfgOk c) (r0 : Bool) (uk : List α) (huk : ∀ x ∈ uk, 0 ≤ x) (u0 w0 : Mat α)
    (lams : List α) (perms : List (List Nat)) (hp : ∀ p ∈ perms, ∀ i ∈ p, i < c.N) (d k : Nat) (hd : d < c.D)
    (hk : k < c.K) :
    at2 (reach c r0 uk u0 w0 lams perms).psi d k
      = esymm (d + 1) (col c.N (reach c r0 uk u0 w0 lams perms).u k) :=
  (reach_inv c hc r0 uk huk u0 w0 lams perms hp).psi d k hd hk

/-- the step form: any single pass of the loop body of `_update_u` (with its clamps, `check_u`, any multiplier)
preserves the invariant -/
theorem C17_psi_step (c : Cfg α) (hc : CfgOk c) (s : St α) (hs : Inv c s) (i : Nat) (hi : i < c.N) :
    Inv c (uNode c s i) := uNode_inv hc hs hi

/-- **`_update_psiBarOmega(i, ks)`** leaves in every recomputed column `k` the elementary symmetric polynomials of
column `k` of `u` without node `i` (`barNew` includes the repair; that it does nothing is `barNew_eq`) -/
theorem C17_psiBar (c : Cfg α) (hc : CfgOk c) (s : St α) (hs : Inv c s) (i : Nat) (hi : i < c.N) (d k : Nat)
    (hd : d < c.D) (hk : k < c.K) (hact : actK c s i k = true) :
    at2 (barNew c s i) d k = esymm (d + 1) (restL c.N (fun j => at2 s.u j k) i) := by
  exact barNew_active hs.toInv0 hi d k hd hk hact

/-- **incremental = definition.**  At every point reached (any `min_value_par ≥ 0`, in particular `0`) the penalty
term `sum(w * psiOmega[1:])` of `_LogLikelihood` equals `Σ_{d,k} w[d,k] e_{d+2}(u[:,k])`; the data term is the same
expression of `(u, w)` in both, so the two log-likelihoods coincide (see `C17_loglik_agrees_real`). -/
theorem C17_loglik_agrees (c : Cfg α) (hc : CfgOk c) (r0 : Bool) (uk : List α) (huk : ∀ x ∈ uk, 0 ≤ x) (u0 w0 : Mat α)
    (lams : List α) (perms : List (List Nat)) (hp : ∀ p ∈ perms, ∀ i ∈ p, i < c.N) :
    penIncr c (reach c r0 uk u0 w0 lams perms).w (reach c r0 uk u0 w0 lams perms).psi
      = penDef c (reach c r0 uk u0 w0 lams perms).u (reach c r0 uk u0 w0 lams perms).w := by
  have h := reach_inv c hc r0 uk huk u0 w0 lams perms hp
  exact sumR_congr _ _ _ fun d hd => sumR_congr _ _ _ fun k hk => by rw [h.psi (d + 1) k (by omega) hk]

/-- **zero rows stay zero**: a node whose row of `u` is zero is never touched by `_update_u` -/
theorem C17_zero_row_stays (c : Cfg α) (hc : CfgOk c) (s : St α) (j : Nat) (hj : ∀ k, at2 s.u j k = 0) (i : Nat)
    (k : Nat) : at2 (uNode c s i).u j k = 0 := zero_row_stays hc s j hj i k

/-- **zero rows for isolated nodes**: at every point reached the row of an isolated node (no hyperedge contains it)
is zero; with `C17_bookkeeping` this is the row of the returned `u` -/
theorem C17_isolated_rows_zero (c : Cfg α) (hc : CfgOk c) (r0 : Bool) (uk : List α) (u0 w0 : Mat α)
    (lams : List α) (perms : List (List Nat)) (i : Nat) (hi : i < c.N) (hiso : c.isIso i = true) (k : Nat) :
    at2 (reach c r0 uk u0 w0 lams perms).u i k = 0 :=
  reach_induct c r0 uk u0 w0 lams (fun s => ∀ k, at2 s.u i k = 0) (initState_iso c r0 uk u0 w0 lams i hi hiso) perms
    (fun _ hs p _ => uSweep_zero_row hc i p _ hs) k

/-- **normalised rows (`normalizeU = True`).**  The root finder is outside the proof; its contract is `LamOk`: the
multiplier consumed by the update of node `i` is the root of `Σ_{k ∈ ks} num_k / (λ + den_k) = 1` on the branch where every
term with a positive numerator has a positive denominator (D36 was a multiplier violating one of the two clauses).  Then,
for every reachable state (`Inv`), non-negative numerators `Σ_{e∋i} A_e rho_ek` (responsibilities AND hyperedge weights `≥ 0`)
and an upper clamp `≥ 1` (`1e2` in the code): `check_u`
does not fire, every recomputed entry is the non-negative raw value `num_k / (λ + den_k)` (set to 0 below the threshold),
and the new row sums to one up to `K · min_value_par`.  (`uNode` writes `vNew c s i` into row `i`.) -/
theorem C17_normalized_row (c : Cfg α) (hc : CfgOk c) (hn : c.normU = true)
    (hmax : ∀ t v, c.maxv = some (t, v) → 1 ≤ t) (s : St α) (hs : Inv c s) (i : Nat) (hi : i < c.N)
    (hnum : ∀ k, 0 ≤ uNum c s.rho i k) (hl : LamOk c s i) :
    negNew c s i = false ∧
    (∀ k, k < c.K → actK c s i k = true →
        vNew c s i k = clampLow c (rawNew c s i k) ∧ 0 ≤ rawNew c s i k ∧ rawNew c s i k ≤ 1) ∧
    1 - (c.K : α) * c.minv ≤ sumR c.K (vNew c s i) ∧ sumR c.K (vNew c s i) ≤ 1 + (c.K : α) * c.minv :=
  have h : NrmOk c s i := ⟨hc, hn, hmax, hs, hnum, hl⟩
  ⟨nrm_negNew_false h, fun k hk ha => ⟨nrm_vNew_active h k hk ha, nrm_rawNew_nonneg h k hk ha, nrm_rawNew_le_one h k hk ha⟩,
   nrm_row_sum_bounds h⟩

end field

/-! ## EM ascent (over `ℝ`; `Setup`: no clamps, `EPS = 0`, `normalizeU = False`) -/

/-- **free energy.**  For any responsibilities `rho` (positive, rows summing to one) the variational free energy
`FQ` is a lower bound of the log-likelihood `LL` (the definition: `Σ_e A_e log Σ_k w_{|e|,k} Π_{i∈e} u_ik -
Σ_{d,k} w_dk e_d(u_·k)`), with equality at the posterior that `_update_rho` computes. -/
theorem C17_free_energy (c : Cfg ℝ) (hS : Setup c) (u w : Mat ℝ) (hP : Pos c u w) :
    (∀ rho, RhoOk c rho → FQ c u w rho ≤ LL c u w) ∧ FQ c u w (rhoUpdate c u w) = LL c u w ∧
    RhoOk c (rhoUpdate c u w) :=
  ⟨fun _ hR => FQ_le_LL hS hP hR, FQ_eq_LL hS hP, rhoUpdate_ok hS hP⟩

/-- **M-step for `w`**: `_update_w` (with the maintained table `psi = e(u)`) does not decrease the free energy -/
theorem C17_mstep_w (c : Cfg ℝ) (hS : Setup c) (u w rho psi : Mat ℝ) (hP : Pos c u w) (hu : ∀ i k, 0 ≤ at2 u i k)
    (hR : RhoOk c rho) (hpsi : ∀ d k, d < c.D → k < c.K → at2 psi d k = esymm (d + 1) (col c.N u k)) :
    Pos c u (wUpdate c rho psi) ∧ FQ c u w rho ≤ FQ c u (wUpdate c rho psi) rho :=
  wstep hS hP hu hR hpsi

/-- **M-step for one node**: one pass of the loop body of `_update_u` (responsibilities NOT refreshed, as in the
code) does not decrease the free energy; without clamps the new row is `Σ_{e∋i} A_e rho_ek / Σ_d w_dk psiBar_dk` -/
theorem C17_mstep_u (c : Cfg ℝ) (hS : Setup c) (s : St ℝ) (hI : Inv c s) (hP : Pos c s.u s.w) (hZ : IsoZero c s.u)
    (hR : RhoOk c s.rho) (i : Nat) (hi : i < c.N) :
    FQ c s.u s.w s.rho ≤ FQ c (uNode c s i).u (uNode c s i).w (uNode c s i).rho ∧
    (∀ e, e < c.E → i ∈ c.edge e → ∀ k, k < c.K →
      at2 (uNode c s i).u i k = uNum c s.rho i k / uDen c s.w (barNew c s i) k) := by
  have h : Ready c s := ⟨hI, hP, hZ, hR⟩
  refine ⟨(uNode_good hS h i hi).2, fun e he hie k hk => ?_⟩
  rw [uNode_u_eq hS h hi he hie, setRow_at c s.u i _ hi hk, if_pos rfl]
  exact vNew_eq hS h hi he hie k hk

/-- **ascent of one sweep.**  If the tables are exact (`Inv`), parameters are positive where the model has one,
isolated rows are zero and `rho` is the posterior (all true after the initialisation and re-established here), then
the log-likelihood after a full `_update_em` sweep (`_update_w`, `_update_rho`, `_update_u` in any node order,
`_update_rho`) is at least the one before. -/
theorem C17_ascent (c : Cfg ℝ) (hS : Setup c) (s : St ℝ) (hI : Inv c s) (hP : Pos c s.u s.w) (hZ : IsoZero c s.u)
    (hrho : s.rho = rhoUpdate c s.u s.w) (perm : List Nat) (hp : ∀ i ∈ perm, i < c.N) :
    LL c s.u s.w ≤ LL c (emSweep c s perm).u (emSweep c s perm).w ∧
    Inv c (emSweep c s perm) ∧ Pos c (emSweep c s perm).u (emSweep c s perm).w ∧ IsoZero c (emSweep c s perm).u ∧
    (emSweep c s perm).rho = rhoUpdate c (emSweep c s perm).u (emSweep c s perm).w :=
  have ⟨g, hl⟩ := emSweep_good hS ⟨hI, hP, hZ, hrho⟩ perm hp
  ⟨hl, g.inv, g.pos, g.iso, g.post⟩

/-- **ascent along a whole realisation.**  From the initialisation with positive random values (`uk ≥ 0`; `u0 > 0`
on non-isolated nodes, `w0 > 0` on the occurring sizes: probability one) every further sweep, with any node orders,
does not decrease the log-likelihood evaluated from its definition - which by `C17_loglik_agrees` is the recorded one. -/
theorem C17_ascent_run (c : Cfg ℝ) (hS : Setup c) (r0 : Bool) (uk : List ℝ) (huk : ∀ x ∈ uk, 0 ≤ x) (u0 w0 : Mat ℝ)
    (hu0 : ∀ i k, i < c.N → k < c.K → c.isIso i = false → 0 < at2 u0 i k)
    (hw0 : ∀ e, e < c.E → ∀ k, k < c.K → 0 < at2 w0 ((c.edge e).length - 2) k)
    (hw0n : ∀ d k, 0 ≤ at2 w0 d k)
    (perms : List (List Nat)) (p : List Nat) (hp : ∀ q ∈ perms ++ [p], ∀ i ∈ q, i < c.N) :
    LL c (reach c r0 uk u0 w0 [] perms).u (reach c r0 uk u0 w0 [] perms).w
      ≤ LL c (reach c r0 uk u0 w0 [] (perms ++ [p])).u (reach c r0 uk u0 w0 [] (perms ++ [p])).w := by
  rw [reach_snoc]
  exact (emSweep_good hS (reach_good hS r0 uk huk u0 w0 [] hu0 hw0 hw0n perms
    fun q hq => hp q (List.mem_append_left _ hq)) p (hp p (List.mem_append_right _ List.mem_cons_self))).2

/-- the two log-likelihoods (maintained table / definition) as real numbers -/
theorem C17_loglik_agrees_real (c : Cfg ℝ) (hc : CfgOk c) (r0 : Bool) (uk : List ℝ) (huk : ∀ x ∈ uk, 0 ≤ x)
    (u0 w0 : Mat ℝ) (lams : List ℝ) (perms : List (List Nat)) (hp : ∀ p ∈ perms, ∀ i ∈ p, i < c.N) :
    (∑ e ∈ Finset.range c.E, c.wt e * Real.log (lamE c (reach c r0 uk u0 w0 lams perms).u (reach c r0 uk u0 w0 lams perms).w e))
        - penIncr c (reach c r0 uk u0 w0 lams perms).w (reach c r0 uk u0 w0 lams perms).psi
      = LL c (reach c r0 uk u0 w0 lams perms).u (reach c r0 uk u0 w0 lams perms).w := by
  unfold LL; rw [C17_loglik_agrees c hc r0 uk huk u0 w0 lams perms hp]

/-- **returned `maxL` and parameters.**  `rs` lists, per realisation, the final `loglik` and the parameters `(u, w)`
at that moment; `inf = -1e10`.  The returned value bounds every realisation's final value; it is attained by a
realisation, whose parameters are the ones returned, as soon as one realisation ends above `-1e10` (otherwise nothing
is stored: `fit` then has no `u_f` to return). -/
theorem C17_bookkeeping {α β : Type} [LinearOrder α] (inf : α) (rs : List (α × β)) :
    (∀ r ∈ rs, r.1 ≤ (bestOf inf rs).1) ∧ inf ≤ (bestOf inf rs).1 ∧
    ((∃ r ∈ rs, inf < r.1) → ∃ b, (bestOf inf rs).2 = some b ∧ ((bestOf inf rs).1, b) ∈ rs) ∧
    ((∀ r ∈ rs, r.1 ≤ inf) → bestOf inf rs = (inf, none)) := by
  obtain ⟨h1, h2, h3⟩ := best_fold rs (inf, (none : Option β))
  refine ⟨h2, h1, ?_, ?_⟩
  · rintro ⟨r, hr, hlt⟩
    rcases h3 with h3 | ⟨b, hb1, hb2, _⟩
    · exfalso
      have := h2 r hr
      rw [h3] at this
      exact absurd hlt (not_lt.mpr this)
    · exact ⟨b, hb1, hb2⟩
  · exact fold_keeps rs (inf, none)

/-- **the value compared is the last recorded one.**  The `loglik` a realisation ends with is the `loglik` entry of
its newest `train_info` row, and (for `max_iter ≥ 1`) there is such a row. -/
theorem C17_bookkeeping_last_row {α : Type} [Sub α] [Zero α] [LT α] [DecidableLT α] (tol : α) (thr every maxIter : Nat)
    (inf : α) (L : α) (Ls : List α) (hm : 1 ≤ maxIter) :
    ∃ r, (runReal tol thr every maxIter inf (L :: Ls)).rows.head? = some r ∧
      r.2.1 = (runReal tol thr every maxIter inf (L :: Ls)).loglik := by
  obtain ⟨hI, _, _, hmin⟩ := runReal_spec tol thr every maxIter inf (L :: Ls)
  generalize runReal tol thr every maxIter inf (L :: Ls) = s at hI hmin ⊢
  have hne : s.rows ≠ [] := by
    cases hc : s.conv with
    | false =>
      -- no flag: the loop made `min max_iter (number of values) ≥ 1` sweeps
      have h := hmin hc
      rw [List.length_cons] at h
      exact hI.first (by omega)
    | true =>
      -- flag: more than `threshold_for_convergence` recorded checks
      have h1 := hI.flag hc
      have h2 := hI.tolRows
      intro h0; rw [h0, List.length_nil] at h2; omega
  obtain ⟨r, rest, hrows⟩ := List.exists_cons_of_ne_nil hne
  exact ⟨r, by rw [hrows]; rfl, hI.head r (by rw [hrows]; rfl)⟩

/-! ## several calls of `fit` on one object ("run twice" on the SAME `HypergraphMT`) -/

/-- **a used object fits like a fresh one.**  `o` is any state a `HypergraphMT` object can be in (the `maxL` and the
stored `(u_f, w_f)` of whatever it was fitted on before); `rs` lists the finals of the realisations of this call, of
which one ends above `inf = -1e10` (as `C17_bookkeeping` needs for a result to exist at all).  The repaired `fit`
returns exactly what a fresh object returns. -/
theorem C17_refit_fresh {α β : Type} [LinearOrder α] (inf : α) (o : α × Option β) (rs : List (α × β))
    (h : ∃ r ∈ rs, inf < r.1) : fitCall inf o rs = bestOf inf rs := by
  unfold fitCall bestOf
  exact fold_forgets rs inf o.2 none h

/-- **every call of a session returns what a fresh object returns for it**, whatever was fitted before on the same
object (other hypergraph, other seed, the same call): the results of a session are the results of its calls taken
alone.  Hence two equal calls in one session return equal results. -/
theorem C17_session_fresh {α β : Type} [LinearOrder α] (inf : α) (calls : List (List (α × β)))
    (h : ∀ rs ∈ calls, ∃ r ∈ rs, inf < r.1) (o : α × Option β) :
    session inf o calls = calls.map (bestOf inf) := by
  induction calls generalizing o with
  | nil => rfl
  | cons rs cs ih =>
    simp only [session, List.map_cons]
    rw [C17_refit_fresh inf o rs (h rs (by simp))]
    congr 1
    exact ih (fun x hx => h x (List.mem_cons_of_mem _ hx)) _

/-- **the defect D52 (before the repair).**  `maxL` was set in `__init__` only: a call none of whose realisations ends
above the `maxL` the object already holds returns the OLD `maxL` and the OLD `(u_f, w_f)` - of another seed or another
hypergraph.  (With equal arguments the old and the new finals coincide, which is why two equal calls agreed.) -/
theorem C17_refit_stale_defect {α β : Type} [LinearOrder α] (o : α × Option β) (rs : List (α × β))
    (h : ∀ r ∈ rs, r.1 ≤ o.1) : fitCallStale o rs = o := by
  unfold fitCallStale
  exact fold_keeps rs o h

/-- non-vacuity / witness: first call finals `-3` (parameters `7`), second call on the same object finals `-8, -5`
(parameters `1, 2`): the repaired session returns `(-5, 2)` for the second call, the unrepaired one `(-3, 7)` again -/
example : session (-10 : Int) (-10, (none : Option Nat)) [[(-3, 7)], [(-8, 1), (-5, 2)]] = [(-3, some 7), (-5, some 2)] ∧
    sessionStale (-10, (none : Option Nat)) [[((-3 : Int), 7)], [(-8, 1), (-5, 2)]] = [(-3, some 7), (-3, some 7)] := by
  decide

/-- **one 1 per non-isolated row, none otherwise**, given k-means labels in `[0, K)` (one per non-isolated node);
all entries are 0 or 1 -/
theorem C17_hysc_shape (N K : Nat) (nonIso labels : List Nat) (hnd : nonIso.Nodup)
    (hlen : labels.length = nonIso.length) (hlab : ∀ l ∈ labels, l < K) (j : Nat) (hj : j < N) :
    (∀ k, k < K → at2 (assemble N K nonIso labels) j k = 0 ∨ at2 (assemble N K nonIso labels) j k = 1) ∧
    (j ∈ nonIso → ∃ k, k < K ∧ at2 (assemble N K nonIso labels) j k = 1 ∧
        ∀ k', k' < K → k' ≠ k → at2 (assemble N K nonIso labels) j k' = 0) ∧
    (j ∉ nonIso → ∀ k, k < K → at2 (assemble N K nonIso labels) j k = 0) := by
  have hent := fun k => assemble_at N K nonIso labels j k hj
  refine ⟨?_, ?_, ?_⟩
  · intro k hk; rw [hent k hk]; split <;> simp
  · intro hmem
    obtain ⟨k, hkl, hz⟩ := zip_total nonIso labels hlen j hmem
    refine ⟨k, hlab k hkl, ?_, ?_⟩
    · rw [hent k (hlab k hkl)]; simp [hz]
    · intro k' hk' hne
      rw [hent k' hk']
      split
      · rename_i hz'; exact absurd (zip_functional nonIso labels hnd j k' k hz' hz) hne
      · rfl
  · intro hnot k hk
    rw [hent k hk]
    split
    · rename_i hz; exact absurd (List.of_mem_zip hz).1 hnot
    · rfl

/-- `non_isolates` is duplicate-free and lists exactly the nodes of some hyperedge (the hypothesis of `C17_hysc_shape`) -/
theorem C17_nonIsolates_spec (N : Nat) (edges : List (List Nat)) :
    (nonIsolates N edges).Nodup ∧
    ∀ i, i ∈ nonIsolates N edges ↔ i < N ∧ ∃ e ∈ edges, i ∈ e := by
  unfold nonIsolates
  refine ⟨List.Nodup.filter _ List.nodup_range, ?_⟩
  intro i; simp [List.mem_filter]

/-! ## non-vacuity (concrete instances over `Nat`, `Int`, `ℚ`, `ℝ`) -/

example : assemble 4 2 [0, 2, 3] [1, 0, 1] = [[0, 1], [0, 0], [1, 0], [0, 1]] := by decide
example : nonIsolates 4 [[0, 2], [2, 3]] = [0, 2, 3] := by decide
example : (bestOf (0 : Nat) [(3, "a"), (5, "b"), (5, "c"), (4, "d")]) = (5, some "b") := by decide
example : (esymm 2 [1, 2, 3] : Nat) = 11 := by decide
/-- the hypotheses of `C17_ascent_run` hold on a concrete weighted hypergraph with an edge of size 2 and one of size 3 -/
example (perms : List (List Nat)) (p : List Nat) (hp : ∀ q ∈ perms ++ [p], ∀ i ∈ q, i < cEx.N) :
    LL cEx (reach cEx true [1] [[1], [2], [3]] [[1], [5]] [] perms).u (reach cEx true [1] [[1], [2], [3]] [[1], [5]] [] perms).w
      ≤ LL cEx (reach cEx true [1] [[1], [2], [3]] [[1], [5]] [] (perms ++ [p])).u
          (reach cEx true [1] [[1], [2], [3]] [[1], [5]] [] (perms ++ [p])).w :=
  C17_ascent_run cEx cEx_setup true [1] (by simp) _ _ cEx_init.1 cEx_init.2.1 cEx_init.2.2 perms p hp
example : CfgOk cEx := cEx_setup.cfgOk
/-- bookkeeping of one realisation on integers: tolerance 1, two consecutive hits needed, `max_iter = 6` -/
example : ((runReal (1 : Int) 1 1 6 (-100) [-9, -5, -5, -5, -5, -5]).rows.map (fun r => (r.1, r.2.1, r.2.2)))
    = [(3, -5, true), (2, -5, false), (1, -5, false), (0, -9, false)] := by decide
example : (nonIsolates 3 [[0, 1]]) = [0, 1] ∧
    ({ N := 3, K := 1, D := 2, edges := [[0, 1]], A := [1], minv := 0, maxv := none, eps := 0, rtol := 1,
       normU := false } : Cfg Int).isIso 2 = true := by decide

/-- non-vacuity of `C17_normalized_row`: two nodes, one hyperedge, K = 2, the code's thresholds; the multiplier `1/2` -/
example : negNew cNorm sNorm 0 = false ∧ 1 - (cNorm.K : ℚ) * cNorm.minv ≤ sumR cNorm.K (vNew cNorm sNorm 0) :=
  let h := C17_normalized_row cNorm cNorm_ok rfl
    (by intro t v h; simp only [cNorm, Option.some.injEq, Prod.mk.injEq] at h; obtain ⟨rfl, _⟩ := h; norm_num)
    sNorm sNorm_inv 0 (by decide) sNorm_num sNorm_lamOk
  ⟨h.1, h.2.2.1⟩
example : sumR cNorm.K (vNew cNorm sNorm 0) = 1 := by decide +kernel

/-! # Initial values from raw draws, clamps, termination, Laplacian

The initial `u0`, `w0` computed from the RAW outputs of `prng.random_sample` (`Model/C17Ext.lean`: `randU0`,
`randW0`, `addNoise`, `initFromDraws`), the clamps of `_update_u` as a function with its algebra (`clampU`), the
termination logic of `fit` for every `check_convergence_every`, and the Laplacian of `HySC` (`lap`, the square root being its
only parameter). -/

section ext
variable {α : Type} [Field α] [LinearOrder α] [IsStrictOrderedRing α]

/-- **`_randomize_w0`.**  The initial affinity of size `d + 2` and community `k` is the raw draw when some hyperedge has
that size and exactly `0` otherwise (such a row then stays out of every likelihood term); with draws `≥ 0`
(`random_sample`) the whole matrix is non-negative. -/
theorem C17_randW0_spec (c : Cfg α) (dw : Mat α) :
    (∀ d k, d < c.D - 1 → k < c.K →
      at2 (randW0 c dw) d k = if (∃ e, e < c.E ∧ (c.edge e).length = d + 2) then at2 dw d k else 0) ∧
    ((∀ d k, d < c.D - 1 → k < c.K → 0 ≤ at2 dw d k) → ∀ d k, 0 ≤ at2 (randW0 c dw) d k) := by
  refine ⟨?_, fun h d k => randW0_nonneg c dw h d k⟩
  intro d k hd hk
  rw [randW0_at c dw d k hd hk]
  by_cases h : sizePresent c d = true
  · rw [if_pos h, if_pos ((sizePresent_iff c d).mp h)]
  · rw [if_neg h, if_neg (fun h' => h ((sizePresent_iff c d).mpr h'))]

/-- **`_randomize_u0`.**  From non-negative raw draws: every entry is non-negative, and every row whose draws have a
positive sum sums to exactly one. -/
theorem C17_randU0_stochastic (c : Cfg α) (du : Mat α) (h : ∀ i k, i < c.N → k < c.K → 0 ≤ at2 du i k) :
    (∀ i k, 0 ≤ at2 (randU0 c du) i k) ∧
    (∀ i, i < c.N → 0 < sumR c.K (fun k => at2 du i k) → sumR c.K (fun k => at2 (randU0 c du) i k) = 1) :=
  ⟨fun i k => randU0_nonneg c du h i k, fun i hi hs => randU0_rowsum c du i hi hs⟩

/-- **start around the spectral solution** (`baseline_r0`, realisation 0; also `_add_noise_input`).  For a non-negative
matrix `X` (the 0/1 matrix of `HySC`), noise level `≥ 0` and draws `≥ 0`: `np.max` bounds every entry, no entry is
decreased, and when `X` has a positive entry, the noise level and the draws are positive, every entry is positive. -/
theorem C17_baseline_start (n m : Nat) (noise : α) (X dr : Mat α) (hX : ∀ i k, 0 ≤ at2 X i k) :
    (∀ i k, i < n → k < m → at2 X i k ≤ matMax n m X) ∧
    (0 ≤ noise → (∀ i k, i < n → k < m → 0 ≤ at2 dr i k) →
      ∀ i k, i < n → k < m → at2 X i k ≤ at2 (addNoise n m noise X dr) i k) ∧
    (0 < noise → (∃ i k, i < n ∧ k < m ∧ 0 < at2 X i k) → (∀ i k, i < n → k < m → 0 < at2 dr i k) →
      ∀ i k, i < n → k < m → 0 < at2 (addNoise n m noise X dr) i k) :=
  ⟨le_matMax n m X, fun hn => addNoise_ge n m noise hn X dr hX, fun hn => addNoise_pos n m noise hn X dr hX⟩

/-- **the clamps of `_update_u` as a function** (`clampU x` = low clamp, then high clamp).  The result is `0` or at least
`min_value_par`, and at most `max(max_value_par, 1e2)`; clamping twice is clamping once; and the map is monotone when
the value written at the upper clamp is not below the bound (`1e2` for the default `max_value_par = 1e2`). -/
theorem C17_clamp_algebra (c : Cfg α) (hc : CfgOk c) :
    (∀ x, clampU c x = 0 ∨ c.minv ≤ clampU c x) ∧
    (∀ t v, c.maxv = some (t, v) → ∀ x, clampU c x ≤ max t v) ∧
    (∀ x, clampU c (clampU c x) = clampU c x) ∧
    ((∀ t v, c.maxv = some (t, v) → t ≤ v) → ∀ x y, x ≤ y → clampU c x ≤ clampU c y) ∧
    (∀ x, c.minv ≤ x → (∀ t v, c.maxv = some (t, v) → x ≤ t) → clampU c x = x) := by
  refine ⟨clampU_zero_or c hc, fun t v hm x => clampU_le c t v hm x, clampU_idem c hc, ?_, ?_⟩
  · intro hv x y hxy
    exact clampHigh_mono c hv _ _ (clampLow_mono c hc x y hxy)
  · exact fun x hx hm => clampU_fix c x (Or.inr hx) hm

/-- the new row written by a node update is a fixed point of the clamps (`vNew` is `clampU` of the unclamped value, and
`clampU` is idempotent) -/
theorem C17_vNew_clamped (c : Cfg α) (hc : CfgOk c) (s : St α) (i k : Nat) :
    clampU c (vNew c s i k) = vNew c s i k :=
  clampU_idem c hc _

/-- **the Laplacian of `HySC._extract_laplacian`** (binary or `weighted_L`, any function in place of `sqrt`) is symmetric,
and the row and the column of an isolated node are those of the identity (the code then restricts to `non_isolates`). -/
theorem C17_lap_symm (c : Cfg α) (sq : α → α) (wl : Bool) :
    (∀ i j, at2 (lap c sq wl) i j = at2 (lap c sq wl) j i) ∧
    (∀ i j, i < c.N → j < c.N → degN c i = 0 →
      at2 (lap c sq wl) i j = (if i = j then 1 else 0) ∧ at2 (lap c sq wl) j i = (if i = j then 1 else 0)) := by
  refine ⟨lap_symm c sq wl, fun i j hi hj h0 => ⟨lap_isolated c sq wl i j hi hj h0, ?_⟩⟩
  rw [lap_symm c sq wl j i]; exact lap_isolated c sq wl i j hi hj h0

/-- **`L · sqrt(degree) = 0`.**  For the binary Laplacian of a hypergraph whose hyperedges are non-empty lists of distinct
node indices `< N` (columns of the incidence matrix) and any `sq` with `sq(x)² = x` on `x ≥ 0`: the vector
`degree_j · sq(1/degree_j)` (`= sqrt(degree_j)`, `0` for isolated nodes) is annihilated by every row of `L` - the trivial
eigenvector that `extract_eigenvectors` drops (`sorted_indices[1:K]`). -/
theorem C17_lap_kernel (c : Cfg α) (hE : EdgesOk c) (sq : α → α) (hsq : ∀ x, 0 ≤ x → sq x * sq x = x) (i : Nat)
    (hi : i < c.N) :
    sumR c.N (fun j => at2 (lap c sq false) i j * ((degN c j : α) * invS c sq j)) = 0 := by
  have h1 : ∀ j, j < c.N → at2 (lap c sq false) i j * ((degN c j : α) * invS c sq j) =
      (if i = j then (degN c j : α) * invS c sq j else 0) - invS c sq i * lapM c false i j := by
    intro j hj
    rw [lap_at c sq false i j hi hj, sub_mul, mul_assoc (invS c sq i * lapM c false i j), invS_sq c sq hsq j, ite_mul,
      one_mul, zero_mul]
    by_cases h0 : degN c j = 0
    · rw [if_pos h0, lapM_isolated c i j h0, mul_zero, mul_zero]
    · rw [if_neg h0, mul_one]
  rw [sumR_congr c.N _ _ h1, sumR_eq, Finset.sum_sub_distrib, Finset.sum_ite_eq, ← Finset.mul_sum, ← sumR_eq,
    lapM_rowsum c hE i]
  simp only [Finset.mem_range, hi, if_true]
  ring

end ext

/-- **ascent from the raw draws.**  `C17_ascent_run` with its hypotheses on `u0`, `w0` discharged: start from the raw
outputs of `random_sample` - `uk ≥ 0`, `du > 0` on `N × K`, `dw > 0` on `(D-1) × K` (probability one) - `u` either random
(`hysc = none`) or around a non-negative matrix with a positive entry (`hysc = some X`: the spectral baseline or the input
of `initialize_u0`, noise level `> 0`), `w` either random or around a non-negative input of `initialize_w0` that is positive
on the occurring sizes: along every list of sweeps the log-likelihood evaluated from its definition never decreases. -/
theorem C17_ascent_from_draws (c : Cfg ℝ) (hS : Setup c) (r0 : Bool) (hysc winit : Option (Mat ℝ)) (noise : ℝ)
    (hn : 0 < noise)
    (hX : ∀ X, hysc = some X → (∀ i k, 0 ≤ at2 X i k) ∧ ∃ i k, i < c.N ∧ k < c.K ∧ 0 < at2 X i k)
    (hW : ∀ W, winit = some W → (∀ d k, 0 ≤ at2 W d k) ∧
      ∀ e, e < c.E → ∀ k, k < c.K → 0 < at2 W ((c.edge e).length - 2) k)
    (uk : List ℝ) (huk : ∀ x ∈ uk, 0 ≤ x) (du dw : Mat ℝ)
    (hdu : ∀ i k, i < c.N → k < c.K → 0 < at2 du i k) (hdw : ∀ d k, d < c.D - 1 → k < c.K → 0 < at2 dw d k)
    (perms : List (List Nat)) (p : List Nat) (hp : ∀ q ∈ perms ++ [p], ∀ i ∈ q, i < c.N) :
    LL c (perms.foldl (emSweep c) (initFromDraws c r0 hysc winit noise uk du dw [])).u
         (perms.foldl (emSweep c) (initFromDraws c r0 hysc winit noise uk du dw [])).w
      ≤ LL c ((perms ++ [p]).foldl (emSweep c) (initFromDraws c r0 hysc winit noise uk du dw [])).u
             ((perms ++ [p]).foldl (emSweep c) (initFromDraws c r0 hysc winit noise uk du dw [])).w := by
  exact C17_ascent_run c hS r0 uk huk _ _
    (fun i k hi hk _ => u0Of_pos c hysc noise hn du hX hdu i k hi hk)
    (fun e he k hk => w0Of_pos c winit noise hn.le dw hW hdw e k he hk (hS.esize e he).1 (hS.esize e he).2)
    (w0Of_nonneg c winit noise hn.le dw (fun W h => (hW W h).1) fun d k hd hk => (hdw d k hd hk).le) perms p hp

/-- **ascent with `fix_w` / `fix_communities`.**  `emSweepFix` is `_update_em` for any setting of the two flags (both off:
`emSweep`).  Under the hypotheses of `C17_ascent` the log-likelihood does not decrease for ANY setting - each half of the sweep
ascends on its own -, the hypotheses hold again afterwards, and a fixed parameter is returned untouched. -/
theorem C17_ascent_fixed (c : Cfg ℝ) (hS : Setup c) (fixW fixU : Bool) (s : St ℝ) (hI : Inv c s) (hP : Pos c s.u s.w)
    (hZ : IsoZero c s.u) (hrho : s.rho = rhoUpdate c s.u s.w) (perm : List Nat) (hp : ∀ i ∈ perm, i < c.N) :
    LL c s.u s.w ≤ LL c (emSweepFix c fixW fixU s perm).u (emSweepFix c fixW fixU s perm).w ∧
    Inv c (emSweepFix c fixW fixU s perm) ∧
    Pos c (emSweepFix c fixW fixU s perm).u (emSweepFix c fixW fixU s perm).w ∧
    IsoZero c (emSweepFix c fixW fixU s perm).u ∧
    (emSweepFix c fixW fixU s perm).rho
      = rhoUpdate c (emSweepFix c fixW fixU s perm).u (emSweepFix c fixW fixU s perm).w ∧
    (fixW = true → (emSweepFix c fixW fixU s perm).w = s.w) ∧
    (fixU = true → (emSweepFix c fixW fixU s perm).u = s.u) ∧
    emSweepFix c false false s perm = emSweep c s perm := by
  have ⟨g, hl, hw, hu⟩ := emSweepFix_good hS fixW fixU ⟨hI, hP, hZ, hrho⟩ perm hp
  exact ⟨hl, g.inv, g.pos, g.iso, g.post, hw, hu, rfl⟩

/-- **termination of the EM loop of one realisation**, for every `check_convergence_every`, tolerance, threshold,
`max_iter` and every sequence of likelihood values: the loop makes at most `max_iter` sweeps; if it ends without the
convergence flag it made exactly `min(max_iter, number of values supplied)` of them; if it ends with the flag, the
tolerance was met on more than `threshold_for_convergence` consecutive recorded checks, so more than that many sweeps were
made; every `train_info` row belongs to an iteration that is a multiple of `check_convergence_every`. -/
theorem C17_termination {α : Type} [Sub α] [Zero α] [LT α] [DecidableLT α] (tol : α) (thr every maxIter : Nat) (inf : α)
    (Ls : List α) :
    (runReal tol thr every maxIter inf Ls).it ≤ maxIter ∧ (runReal tol thr every maxIter inf Ls).it ≤ Ls.length ∧
    ((runReal tol thr every maxIter inf Ls).conv = false →
      (runReal tol thr every maxIter inf Ls).it = min maxIter Ls.length) ∧
    ((runReal tol thr every maxIter inf Ls).conv = true →
      thr < (runReal tol thr every maxIter inf Ls).nTol ∧
      (runReal tol thr every maxIter inf Ls).nTol ≤ (runReal tol thr every maxIter inf Ls).rows.length ∧
      thr < (runReal tol thr every maxIter inf Ls).it) ∧
    (∀ r ∈ (runReal tol thr every maxIter inf Ls).rows,
      r.1 % every = 0 ∧ r.1 < (runReal tol thr every maxIter inf Ls).it) := by
  obtain ⟨hI, h1, h2, h4⟩ := runReal_spec tol thr every maxIter inf Ls
  refine ⟨h1, h2, h4, ?_, hI.mult⟩
  intro hc
  have := hI.flag hc
  have := hI.tolRows
  have := hI.rowsIt
  exact ⟨by omega, by omega, by omega⟩

/-- `C17_ascent_from_draws` on the concrete weighted hypergraph `cEx`, random start, all raw draws equal to one -/
example (perms : List (List Nat)) (p : List Nat) (hp : ∀ q ∈ perms ++ [p], ∀ i ∈ q, i < cEx.N) :
    LL cEx (perms.foldl (emSweep cEx) (initFromDraws cEx false none none (1 / 1000) [1]
        (tab2 3 1 (fun _ _ => 1)) (tab2 2 1 (fun _ _ => 1)) [])).u
      (perms.foldl (emSweep cEx) (initFromDraws cEx false none none (1 / 1000) [1]
        (tab2 3 1 (fun _ _ => 1)) (tab2 2 1 (fun _ _ => 1)) [])).w
    ≤ LL cEx ((perms ++ [p]).foldl (emSweep cEx) (initFromDraws cEx false none none (1 / 1000) [1]
        (tab2 3 1 (fun _ _ => 1)) (tab2 2 1 (fun _ _ => 1)) [])).u
      ((perms ++ [p]).foldl (emSweep cEx) (initFromDraws cEx false none none (1 / 1000) [1]
        (tab2 3 1 (fun _ _ => 1)) (tab2 2 1 (fun _ _ => 1)) [])).w :=
  C17_ascent_from_draws cEx cEx_setup false none none (1 / 1000) (by norm_num) (by intro X h; cases h)
    (by intro W h; cases h) [1] (by simp)
    _ _ (fun i k hi hk => by rw [at2_tab2 3 1 _ _ _ (show i < 3 from hi) (show k < 1 from hk)]; exact one_pos)
    (fun d k hd hk => by rw [at2_tab2 2 1 _ _ _ (show d < 2 from hd) (show k < 1 from hk)]; exact one_pos) perms p hp
/-- `C17_ascent_fixed` on `cEx`: the state after the initialisation satisfies its hypotheses, for every setting of the flags -/
example (fixW fixU : Bool) (perm : List Nat) (hp : ∀ i ∈ perm, i < cEx.N) :
    LL cEx (initState cEx true [1] [[1], [2], [3]] [[1], [5]] []).u (initState cEx true [1] [[1], [2], [3]] [[1], [5]] []).w
      ≤ LL cEx (emSweepFix cEx fixW fixU (initState cEx true [1] [[1], [2], [3]] [[1], [5]] []) perm).u
          (emSweepFix cEx fixW fixU (initState cEx true [1] [[1], [2], [3]] [[1], [5]] []) perm).w :=
  (C17_ascent_fixed cEx cEx_setup fixW fixU _ (initState_inv cEx true [1] _ _ [] cEx_setup.cfgOk (by simp))
    (initState_pos cEx_setup true [1] _ _ [] cEx_init.1 cEx_init.2.1 cEx_init.2.2).1
    (initState_pos cEx_setup true [1] _ _ [] cEx_init.1 cEx_init.2.1 cEx_init.2.2).2
    (initState_rho cEx true [1] _ _ []) perm hp).1
/-- the same with the spectral start: the hypothesis on the HySC matrix holds for a 0/1 matrix with a 1 -/
example : (∀ i k, 0 ≤ at2 ([[1], [1], [0]] : Mat ℝ) i k) ∧ ∃ i k, i < cEx.N ∧ k < cEx.K ∧ 0 < at2 ([[1], [1], [0]] : Mat ℝ) i k :=
  ⟨at2_nonneg_of_mem _ (by intro r hr x hx; simp at hr; rcases hr with rfl | rfl | rfl <;> simp at hx <;> simp [hx]),
   0, 0, by decide, by decide, by simp [at2]⟩
/-- raw draws over the integers: the row of the absent size 4 is zeroed, the others are the draws -/
example : randW0 ({ N := 4, K := 2, D := 4, edges := [[0, 1], [0, 1, 2, 3]], A := [1, 1], minv := 0, maxv := none, eps := 0, rtol := 1, normU := false } : Cfg Int) [[3, 4], [5, 6], [7, 8]] = [[3, 4], [0, 0], [7, 8]] := by decide
example : matMax 2 2 ([[0, 1], [1, 0]] : Mat Int) = 1 ∧
    addNoise 2 2 (2 : Int) [[0, 1], [1, 0]] [[3, 4], [5, 6]] = [[6, 9], [11, 12]] := by decide
/-- the clamps on integers (`min_value_par = 2`, upper bound 10 replaced by 10) -/
example : let c : Cfg Int := { N := 1, K := 1, D := 2, edges := [], A := [], minv := 2, maxv := some (10, 10), eps := 0, rtol := 1, normU := false }
    [clampHigh c (clampLow c 1), clampHigh c (clampLow c 2), clampHigh c (clampLow c 7), clampHigh c (clampLow c 11)] = [0, 2, 7, 10] := by
  decide
/-- termination with `check_convergence_every = 2`, tolerance 1, threshold 1, `max_iter = 9`: the flag is set at the third
recorded check (iteration 4), the loop stops after 5 sweeps, rows at iterations 0, 2, 4 -/
example : ((runReal (1 : Int) 1 2 9 (-100) [-9, -9, -9, -7, -9, -3, -3, -3, -3]).it,
    (runReal (1 : Int) 1 2 9 (-100) [-9, -9, -9, -7, -9, -3, -3, -3, -3]).conv,
    (runReal (1 : Int) 1 2 9 (-100) [-9, -9, -9, -7, -9, -3, -3, -3, -3]).rows.map (fun r => r.1)) = (5, true, [4, 2, 0]) := by
  decide
/-- the Laplacian's combinatorial part on a hypergraph with an isolated node: degrees, and a non-empty `EdgesOk` instance -/
example : let c : Cfg Int := { N := 4, K := 2, D := 3, edges := [[0, 1], [0, 1, 2]], A := [1, 2], minv := 0, maxv := none, eps := 0, rtol := 1, normU := false }
    (List.range 4).map (degN c) = [2, 2, 1, 0] := by decide
example : EdgesOk cEx := by
  refine ⟨fun e he => (cEx_setup.esorted e he).imp (fun h => Nat.ne_of_lt h), cEx_setup.enodes, ?_⟩
  intro e he h
  have := (cEx_setup.esize e he).1
  rw [h] at this; simp at this
