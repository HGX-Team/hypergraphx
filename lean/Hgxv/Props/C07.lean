import Hgxv.Proofs.C07Ops
import Hgxv.Proofs.C07Json
import Hgxv.Proofs.C07Link
import Hgxv.Proofs.C07Heap
import Hgxv.Proofs.C07Repeat
import Hgxv.Proofs.C07PyFmt
import Hgxv.Proofs.C07Side
import Hgxv.Proofs.C01Query
import Hgxv.Proofs.C02NodeRef
import Hgxv.Proofs.C03Ref
import Hgxv.Proofs.C04Ref
/-! # C07 — `hash_hypergraph` is a canonical fingerprint: equal content iff equal hash

Model: `Hgxv/Model/C07.lean`.  `Tables κ` are the private tables of one of the four container classes
(`κ = KH, KD, KT, KM`: the shape of a hyperedge key), `preimage? t` is `serialize(t.expose_attributes_for_hashing())`
(`none` = the Python code raises), `hashOf dumps H t = H (dumps (preimage? t))` with `dumps` (= `json.dumps(·,
sort_keys=True)`) and `H` (= SHA-256 of the UTF-8 text) as PARAMETERS.  `content t` is what the public getters show,
`a.Equiv b` is "the same nodes, hyperedges, weights (value and int/float type), metadata, weightedness" (listings as
multisets, metadata as JSON values), `canon c` the canonical tree of a content.  `WF t`: the tables hold no entry
for removed items and no item without entries (the part of the container invariant the hash needs).  Further model files,
each with its section below: `Model/C07Heap.lean` (metadata as shared objects), `Model/C07Dumps.lean` (`json.dumps(·,
sort_keys=True)` inside the model), `Model/C07Side.lean` (the tables the hashed view does not read).

`Hgxv/Proofs/C07Link.lean` instantiates `wf_of_store_invariant` with `C01.Inv … C04.Inv` and derives
`C07_equal_C01 … _C04` / `C07_differ_C01 … _C04` for the abstract `Spec` states of the full container models.

All statements are for every kind `κ` with `[Kind κ] [LawfulKind κ]`; the four instances exist
(`Hgxv/Proofs/C07Sort.lean`), see the examples in `C07Ex`.  Notions of the statements that are not in the model files:
`LawfulKind` (`Proofs/C07Sort.lean`), `JEq`, `KN` (`Proofs/C07Json.lean`), `Stop`, `Fmt.Laws` (`Proofs/C07Dumps.lean`),
`ofC0x`, `ofSpec0x` (`Proofs/C07Link.lean`). -/
open C07 AL

variable {κ : Type} [Kind κ] [LawfulKind κ]

/-! ## well-formedness is an invariant of the (repaired) mutators -/

/-- a freshly constructed object is well-formed -/
theorem C07_wf_init (κ : Type) [Kind κ] (weighted : Bool) (hm : List (String × JTree)) : WF (init κ weighted hm) :=
  init_wf κ weighted hm

/-- add_node / add_edge / remove_edge / remove_node (both `keep_edges`) / set_* / clear, the batched calls add_nodes /
add_edges and the attribute-level setters set_attr_to_* / remove_attr_from_* keep the tables well-formed, whether the
call is accepted or rejected -/
theorem C07_wf_step (t : Tables κ) (w : WF t) (op : Op κ) : WF (step t op).1 := step_wf w op

/-- every history leads to well-formed tables -/
theorem C07_wf_run (weighted : Bool) (hm : List (String × JTree)) (ops : List (Op κ)) :
    WF (run (init κ weighted hm) ops) := run_wf (init_wf κ weighted hm) ops

/-- the constructor with lists (`node_metadata`, `edge_list` + `time_list` / `edge_layer`, `weights`,
`edge_metadata`) builds well-formed tables, and so does every history that starts from it.  (`C07_wf_step` covers the
batched calls `add_nodes` / `add_edges` and the attribute-level setters `set_attr_to_*` / `remove_attr_from_*` too:
they are constructors of `Op`.) -/
theorem C07_wf_build (weighted : Bool) (hm : List (String × JTree)) (nodes : List (Nat × JTree)) (withW : Bool)
    (items : List (κ × Option Num × Option JTree)) (ops : List (Op κ)) :
    WF (build κ weighted hm nodes withW items) ∧ WF (run (build κ weighted hm nodes withW items) ops) :=
  ⟨build_wf κ weighted hm nodes withW items, run_wf (build_wf κ weighted hm nodes withW items) ops⟩

/-- the facts that the container invariants `C01.Inv` … `C04.Inv` prove about these tables for every reachable
state of the full classes (reverse list inverse to the edge list, ids below the counter, weight / metadata
tables with exactly the ids in use, node-metadata table with exactly the nodes, canonical keys) imply `WF` -/
theorem C07_wf_of_store_invariant (t : Tables κ)
    (adj_nodup : (keys t.adj).Nodup) (nm_nodup : (keys t.nodeMeta).Nodup)
    (nm_same : ∀ n, (get? t.nodeMeta n).isSome = (get? t.adj n).isSome)
    (el_nodup : (keys t.edgeList).Nodup)
    (rev_of_edge : ∀ k id, get? t.edgeList k = some id → get? t.rev id = some k)
    (id_lt : ∀ id k, get? t.rev id = some k → id < t.nextId)
    (w_dom : ∀ id, (get? t.weights id).isSome = (get? t.rev id).isSome)
    (m_dom : ∀ id, (get? t.edgeMeta id).isSome = (get? t.rev id).isSome)
    (key_canon : ∀ k id, get? t.edgeList k = some id → Kind.canonK k = k) : WF t :=
  wf_of_store_invariant t adj_nodup nm_nodup nm_same el_nodup rev_of_edge id_lt w_dom m_dom key_canon

/-! ## the pre-image is a function of the content -/

/-- On well-formed tables `expose_attributes_for_hashing` + `serialize` never raises and returns the canonical
tree of the content: the hash pre-image depends on the history only through the content.  (With a stale entry in
`_node_metadata` - D9, D11 - `WF` fails and so does this equation: the harness shows both on the unrepaired code.) -/
theorem C07_factor (t : Tables κ) (w : WF t) : preimage? t = some (canon (content t)) := factor w

theorem C07_factor_run (weighted : Bool) (hm : List (String × JTree)) (ops : List (Op κ)) :
    preimage? (run (init κ weighted hm) ops) = some (canon (content (run (init κ weighted hm) ops))) :=
  factor (run_wf (init_wf κ weighted hm) ops)

/-- equal contents have the same canonical tree: the order of the listings and the order of dictionary keys
inside metadata do not matter -/
theorem C07_canon_equal (a b : Content κ) (wa : a.WF) (h : a.Equiv b) : canon a = canon b := canon_congr wa h

/-- the canonical tree determines the content -/
theorem C07_canon_injective (a b : Content κ) (h : canon a = canon b) : a.Equiv b := canon_inj h

/-- "the same metadata" in `Content.Equiv` (`ser x = ser y`) is Python's `==` on JSON values with the numeric types
kept apart (`JEq`, `Hgxv/Proofs/C07Json.lean`: atoms identical, lists element-wise, dictionaries key-wise whatever
the order of their keys), for values whose dictionaries have no repeated key (`KN`) -/
theorem C07_sameValue_iff (x y : JTree) (kx : KN x) (ky : KN y) : ser x = ser y ↔ JEq x y :=
  ser_eq_iff_JEq x y kx ky

/-- hence a metadata value that differs as a JSON value is a difference for the lemmas `C07_differ_*_meta` below -/
theorem C07_meta_differs (x y : JTree) (kx : KN x) (ky : KN y) (h : ¬ JEq x y) : ser x ≠ ser y :=
  fun e => h ((ser_eq_iff_JEq x y kx ky).mp e)

/-! ## equal content ⇒ equal hash, for ANY `dumps` and `H` -/

/-- equal content ⇒ equal hash; second part: the hash exists (the pre-image of well-formed tables never raises) -/
theorem C07_equal {Digest : Type} (dumps : JTree → String) (H : String → Digest) (t₁ t₂ : Tables κ)
    (w₁ : WF t₁) (w₂ : WF t₂) (h : (content t₁).Equiv (content t₂)) :
    hashOf dumps H t₁ = hashOf dumps H t₂ ∧ (hashOf dumps H t₁).isSome = true :=
  ⟨hashOf_congr w₁ w₂ h, by unfold hashOf; rw [factor w₁]; rfl⟩

/-- Two construction histories (any interleaving of insertions, removals of hyperedges and nodes, metadata and
weight updates, clear; starting from any constructor arguments) that end in the same content hash equally. -/
theorem C07_equal_run {Digest : Type} (dumps : JTree → String) (H : String → Digest)
    (wt₁ wt₂ : Bool) (hm₁ hm₂ : List (String × JTree)) (ops₁ ops₂ : List (Op κ))
    (h : (content (run (init κ wt₁ hm₁) ops₁)).Equiv (content (run (init κ wt₂ hm₂) ops₂))) :
    hashOf dumps H (run (init κ wt₁ hm₁) ops₁) = hashOf dumps H (run (init κ wt₂ hm₂) ops₂) :=
  (C07_equal dumps H _ _ (run_wf (init_wf κ wt₁ hm₁) ops₁) (run_wf (init_wf κ wt₂ hm₂) ops₂) h).1

/-- the same for histories that start from the constructor with lists (`init` is `build` with empty lists) -/
theorem C07_equal_run_build {Digest : Type} (dumps : JTree → String) (H : String → Digest)
    (wt₁ wt₂ : Bool) (hm₁ hm₂ : List (String × JTree)) (ns₁ ns₂ : List (Nat × JTree)) (ww₁ ww₂ : Bool)
    (es₁ es₂ : List (κ × Option Num × Option JTree)) (ops₁ ops₂ : List (Op κ))
    (h : (content (run (build κ wt₁ hm₁ ns₁ ww₁ es₁) ops₁)).Equiv (content (run (build κ wt₂ hm₂ ns₂ ww₂ es₂) ops₂))) :
    hashOf dumps H (run (build κ wt₁ hm₁ ns₁ ww₁ es₁) ops₁) = hashOf dumps H (run (build κ wt₂ hm₂ ns₂ ww₂ es₂) ops₂) :=
  (C07_equal dumps H _ _ (C07_wf_build wt₁ hm₁ ns₁ ww₁ es₁ ops₁).2 (C07_wf_build wt₂ hm₂ ns₂ ww₂ es₂ ops₂).2 h).1

/-! ### batched insertion, one-by-one insertion and the constructor reach the same tables; attribute edits are local

In the model every node and every hyperedge owns its metadata entry.  A batched call is literally the sequence of
its single calls, the constructor with lists is a history, and an attribute-level edit (`set_attr_to_*`,
`remove_attr_from_*`) is the whole-entry setter applied to the edited dictionary: it changes the entry of that one
item only.  So "the same content reached by a batch, one by one, or through the constructor, followed by the same
attribute edits" are equal TABLES, hence equal hashes.  (An implementation that lets the items of one batch share a
single dictionary object is not this model: the correspondence and the pair oracle of the harness report it.) -/

theorem C07_batch_nodes (t : Tables κ) (items : List (Nat × Option JTree)) :
    step t (.addNodes items) = (run t (items.map (fun p => Op.addNode p.1 p.2)), true) := by
  rw [run_map]; rfl

/-- `add_edges` without a weights list -/
theorem C07_batch_edges (t : Tables κ) (items : List (κ × Option Num × Option JTree)) :
    step t (.addEdges false items) = (run t (items.map (fun it => Op.addEdge it.1 none it.2.2)), true) := by
  rw [run_map]; rfl

/-- `add_edges` with a weights list on a weighted hypergraph -/
theorem C07_batch_edges_weights (t : Tables κ) (hw : t.weighted = true) (items : List (κ × Option Num × Option JTree)) :
    step t (.addEdges true items) = (run t (items.map (fun it => Op.addEdge it.1 it.2.1 it.2.2)), true) := by
  have e : ({ t with weighted := true } : Tables κ) = t := by rw [← hw]
  rw [run_map]
  simp only [step, addEdges, if_true, e]

/-- the constructor with `node_metadata`, `edge_list`, `edge_metadata` is the history of its single calls -/
theorem C07_build_as_history (weighted : Bool) (hm : List (String × JTree)) (nodes : List (Nat × JTree))
    (items : List (κ × Option Num × Option JTree)) :
    build κ weighted hm nodes false items =
      run (init κ weighted hm) (nodes.map (fun p => Op.addNode p.1 (some p.2)) ++
        items.map (fun it => Op.addEdge it.1 none it.2.2)) := by
  simp only [build, addEdges, addNodes, run, List.foldl_map, List.foldl_append, Bool.false_eq_true, if_false]
  rfl

/-- batch vs one by one, then the same further calls (e.g. attribute edits): the same tables, so the same hash -/
theorem C07_batch_then_edits {Digest : Type} (dumps : JTree → String) (H : String → Digest) (t : Tables κ)
    (ns : List (Nat × Option JTree)) (es : List (κ × Option Num × Option JTree)) (ops : List (Op κ)) :
    hashOf dumps H (run t (.addNodes ns :: .addEdges false es :: ops)) =
    hashOf dumps H (run t (ns.map (fun p => Op.addNode p.1 p.2) ++ es.map (fun it => Op.addEdge it.1 none it.2.2) ++ ops)) := by
  congr 1
  simp only [run, List.foldl_cons, List.foldl_append]
  rw [C07_batch_nodes, C07_batch_edges]
  rfl

/-- `set_attr_to_node_metadata` / `remove_attr_from_node_metadata`, when accepted, is `set_node_metadata` with the
edited dictionary.  `w` is needed: the attribute setters test `node in _node_metadata`, `set_node_metadata` tests `_adj`
in three of the classes; well-formed tables hold the same nodes in both -/
theorem C07_attr_node_is_set (t : Tables κ) (w : WF t) (n : Nat) (f : String) (v md : JTree)
    (hmd : get? t.nodeMeta n = some md) :
    (∀ md', md.setField f v = some md' → step t (.setNodeAttr n f v) = step t (.setNodeMeta n md')) ∧
    (∀ md', md.delField f = some md' → step t (.delNodeAttr n f) = step t (.setNodeMeta n md')) :=
  ⟨fun _ he => editNodeMeta_eq_set w hmd he, fun _ he => editNodeMeta_eq_set w hmd he⟩

/-- ... and it leaves the entry of every OTHER node and the hyperedge metadata as they are, accepted or not -/
theorem C07_attr_node_local (t : Tables κ) (n : Nat) (f : String) (v : JTree) (m : Nat) (hm : m ≠ n) :
    get? (step t (.setNodeAttr n f v)).1.nodeMeta m = get? t.nodeMeta m ∧
    get? (step t (.delNodeAttr n f)).1.nodeMeta m = get? t.nodeMeta m ∧
    (step t (.setNodeAttr n f v)).1.edgeMeta = t.edgeMeta ∧ (step t (.delNodeAttr n f)).1.edgeMeta = t.edgeMeta :=
  ⟨(editNodeMeta_local t n _).1 m hm, (editNodeMeta_local t n _).1 m hm,
   editNodeMeta_edgeMeta t n _, editNodeMeta_edgeMeta t n _⟩

/-- `set_attr_to_edge_metadata` / `remove_attr_from_edge_metadata`, when accepted, is `set_edge_metadata` with the
edited dictionary -/
theorem C07_attr_edge_is_set (t : Tables κ) (k : κ) (f : String) (v md : JTree) (id : Nat)
    (hid : get? t.edgeList (Kind.canonK k) = some id) (hmd : get? t.edgeMeta id = some md) :
    (∀ md', md.setField f v = some md' → step t (.setEdgeAttr k f v) = step t (.setEdgeMeta k md')) ∧
    (∀ md', md.delField f = some md' → step t (.delEdgeAttr k f) = step t (.setEdgeMeta k md')) :=
  ⟨fun _ he => editEdgeMeta_eq_set hid hmd he, fun _ he => editEdgeMeta_eq_set hid hmd he⟩

/-- ... and it leaves the entry of every OTHER hyperedge id and the node metadata as they are, accepted or not -/
theorem C07_attr_edge_local (t : Tables κ) (k : κ) (f : String) (v : JTree) (id : Nat)
    (hne : get? t.edgeList (Kind.canonK k) ≠ some id) :
    get? (step t (.setEdgeAttr k f v)).1.edgeMeta id = get? t.edgeMeta id ∧
    get? (step t (.delEdgeAttr k f)).1.edgeMeta id = get? t.edgeMeta id ∧
    (step t (.setEdgeAttr k f v)).1.nodeMeta = t.nodeMeta ∧ (step t (.delEdgeAttr k f)).1.nodeMeta = t.nodeMeta :=
  ⟨(editEdgeMeta_local t k _).1 id hne, (editEdgeMeta_local t k _).1 id hne,
   editEdgeMeta_nodeMeta t k _, editEdgeMeta_nodeMeta t k _⟩

/-- the order in which the nodes of a hyperedge are listed: only the canonical key reaches the tables -/
theorem C07_listing_order (t : Tables κ) (a b : κ) (w : Option Num) (md : Option JTree)
    (h : Kind.canonK a = Kind.canonK b) :
    addEdge t a w md = addEdge t b w md ∧ removeEdge t a = removeEdge t b := by
  unfold addEdge removeEdge
  rw [h]
  exact ⟨rfl, rfl⟩

/-- listing the nodes of a hyperedge in another order gives the same key (`tuple(sorted(edge))`) -/
theorem C07_listing_order_H (a b : KH) (h : a.Perm b) : Kind.canonK a = Kind.canonK b := sortNat_eq_of_perm h
theorem C07_listing_order_D (a b : KD) (h1 : a.1.Perm b.1) (h2 : a.2.Perm b.2) : Kind.canonK a = Kind.canonK b := by
  simp [Kind.canonK, sortNat_eq_of_perm h1, sortNat_eq_of_perm h2]
theorem C07_listing_order_T (t : Nat) (a b : List Nat) (h : a.Perm b) :
    Kind.canonK ((t, a) : KT) = Kind.canonK ((t, b) : KT) := by simp [Kind.canonK, sortNat_eq_of_perm h]
theorem C07_listing_order_M (l : Nat) (a b : List Nat) (h : a.Perm b) :
    Kind.canonK ((a, l) : KM) = Kind.canonK ((b, l) : KM) := by simp [Kind.canonK, sortNat_eq_of_perm h]

/-! ## different content ⇒ different canonical tree, one lemma per kind of difference -/

theorem C07_differ_canon (a b : Content κ) (h : ¬ a.Equiv b) : canon a ≠ canon b :=
  fun e => h (canon_inj e)

/-- a node present in one content and absent from the other -/
theorem C07_differ_node (a b : Content κ) (n : Nat) (ha : n ∈ a.nodes.map (·.1)) (hb : n ∉ b.nodes.map (·.1)) :
    canon a ≠ canon b := C07_differ_canon a b (not_equiv_of_node ha hb)

/-- a hyperedge key present in one content and absent from the other -/
theorem C07_differ_key (a b : Content κ) (k : κ) (ha : k ∈ a.edges.map (·.1)) (hb : k ∉ b.edges.map (·.1)) :
    canon a ≠ canon b := C07_differ_canon a b (not_equiv_of_key ha hb)

/-- single edit of a key (same weight, same metadata, everything else equal) -/
theorem C07_differ_key_edit (c : Content κ) (rest : List (κ × Num × JTree)) (k k' : κ) (w : Num) (md : JTree)
    (hne : k ≠ k') (hk : k ∉ rest.map (·.1)) :
    canon { c with edges := (k, w, md) :: rest } ≠ canon { c with edges := (k', w, md) :: rest } := by
  apply C07_differ_key _ _ k
  · simp
  · simp only [List.map_cons, List.mem_cons, not_or]
    exact ⟨hne, hk⟩

theorem C07_differ_time (c : Content KT) (rest : List (KT × Num × JTree)) (t t' : Nat) (ns : List Nat) (w : Num)
    (md : JTree) (hne : t ≠ t') (hk : (t, ns) ∉ rest.map (·.1)) :
    canon { c with edges := ((t, ns), w, md) :: rest } ≠ canon { c with edges := ((t', ns), w, md) :: rest } :=
  C07_differ_key_edit c rest (t, ns) (t', ns) w md (fun e => hne (Prod.mk.inj e).1) hk

theorem C07_differ_layer (c : Content KM) (rest : List (KM × Num × JTree)) (l l' : Nat) (ns : List Nat) (w : Num)
    (md : JTree) (hne : l ≠ l') (hk : (ns, l) ∉ rest.map (·.1)) :
    canon { c with edges := ((ns, l), w, md) :: rest } ≠ canon { c with edges := ((ns, l'), w, md) :: rest } :=
  C07_differ_key_edit c rest (ns, l) (ns, l') w md (fun e => hne (Prod.mk.inj e).2) hk

theorem C07_differ_direction (c : Content KD) (rest : List (KD × Num × JTree)) (s t : List Nat) (w : Num)
    (md : JTree) (hne : s ≠ t) (hk : (s, t) ∉ rest.map (·.1)) :
    canon { c with edges := ((s, t), w, md) :: rest } ≠ canon { c with edges := ((t, s), w, md) :: rest } :=
  C07_differ_key_edit c rest (s, t) (t, s) w md (fun e => hne (Prod.mk.inj e).1) hk

/-- a different weight (value or numeric type) of the same key -/
theorem C07_differ_weight (a b : Content κ) (wb : b.WF) (k : κ) (w w' : Num) (md md' : JTree)
    (ha : (k, w, md) ∈ a.edges) (hb : (k, w', md') ∈ b.edges) (hne : w ≠ w') : canon a ≠ canon b :=
  C07_differ_canon a b (not_equiv_of_edge_record wb ha hb (Or.inl hne))

/-- `1` and `1.0` (any int against any float) -/
theorem C07_differ_weight_type (a b : Content κ) (wb : b.WF) (k : κ) (i q : Int) (md md' : JTree)
    (ha : (k, Num.int i, md) ∈ a.edges) (hb : (k, Num.flt q, md') ∈ b.edges) : canon a ≠ canon b :=
  C07_differ_weight a b wb k _ _ md md' ha hb (fun e => by cases e)

/-- a different metadata value of a hyperedge -/
theorem C07_differ_edge_meta (a b : Content κ) (wb : b.WF) (k : κ) (w w' : Num) (md md' : JTree)
    (ha : (k, w, md) ∈ a.edges) (hb : (k, w', md') ∈ b.edges) (hne : ser md ≠ ser md') : canon a ≠ canon b :=
  C07_differ_canon a b (not_equiv_of_edge_record wb ha hb (Or.inr hne))

/-- a different metadata value of a node -/
theorem C07_differ_node_meta (a b : Content κ) (wb : b.WF) (n : Nat) (md md' : JTree)
    (ha : (n, md) ∈ a.nodes) (hb : (n, md') ∈ b.nodes) (hne : ser md ≠ ser md') : canon a ≠ canon b :=
  C07_differ_canon a b (not_equiv_of_node_record wb ha hb hne)

/-- different hypergraph metadata -/
theorem C07_differ_hmeta (a b : Content κ) (hne : ser a.hmeta ≠ ser b.hmeta) : canon a ≠ canon b :=
  C07_differ_canon a b (fun h => hne h.hmeta)

/-- different weightedness -/
theorem C07_differ_weighted (a b : Content κ) (hne : a.weighted ≠ b.weighted) : canon a ≠ canon b :=
  C07_differ_canon a b (fun h => hne h.weighted)

/-! ## different content ⇒ different hash, under the two explicit hypotheses -/

/-- `hd`: `json.dumps(·, sort_keys=True)` is injective on serialized (key-sorted) JSON trees with string keys.
`hH`: SHA-256 does not collide on the two texts at hand.  Both are HYPOTHESES of this theorem (collision
resistance cannot be a theorem); everything else is proved. -/
theorem C07_differ {Digest : Type} (dumps : JTree → String) (H : String → Digest) (t₁ t₂ : Tables κ)
    (w₁ : WF t₁) (w₂ : WF t₂) (h : ¬ (content t₁).Equiv (content t₂))
    (hd : ∀ a b : JTree, dumps (ser a) = dumps (ser b) → ser a = ser b)
    (hH : H (dumps (canon (content t₁))) = H (dumps (canon (content t₂))) →
          dumps (canon (content t₁)) = dumps (canon (content t₂))) :
    hashOf dumps H t₁ ≠ hashOf dumps H t₂ :=
  fun e => h (hashOf_inj w₁ w₂ hd hH e)

theorem C07_differ_run {Digest : Type} (dumps : JTree → String) (H : String → Digest)
    (wt₁ wt₂ : Bool) (hm₁ hm₂ : List (String × JTree)) (ops₁ ops₂ : List (Op κ))
    (h : ¬ (content (run (init κ wt₁ hm₁) ops₁)).Equiv (content (run (init κ wt₂ hm₂) ops₂)))
    (hd : ∀ a b : JTree, dumps (ser a) = dumps (ser b) → ser a = ser b)
    (hH : ∀ x y : String, H x = H y → x = y) :
    hashOf dumps H (run (init κ wt₁ hm₁) ops₁) ≠ hashOf dumps H (run (init κ wt₂ hm₂) ops₂) :=
  C07_differ dumps H _ _ (run_wf (init_wf κ wt₁ hm₁) ops₁) (run_wf (init_wf κ wt₂ hm₂) ops₂) h hd (hH _ _)

theorem C07_differ_run_build {Digest : Type} (dumps : JTree → String) (H : String → Digest)
    (wt₁ wt₂ : Bool) (hm₁ hm₂ : List (String × JTree)) (ns₁ ns₂ : List (Nat × JTree)) (ww₁ ww₂ : Bool)
    (es₁ es₂ : List (κ × Option Num × Option JTree)) (ops₁ ops₂ : List (Op κ))
    (h : ¬ (content (run (build κ wt₁ hm₁ ns₁ ww₁ es₁) ops₁)).Equiv (content (run (build κ wt₂ hm₂ ns₂ ww₂ es₂) ops₂)))
    (hd : ∀ a b : JTree, dumps (ser a) = dumps (ser b) → ser a = ser b)
    (hH : ∀ x y : String, H x = H y → x = y) :
    hashOf dumps H (run (build κ wt₁ hm₁ ns₁ ww₁ es₁) ops₁) ≠ hashOf dumps H (run (build κ wt₂ hm₂ ns₂ ww₂ es₂) ops₂) :=
  C07_differ dumps H _ _ (C07_wf_build wt₁ hm₁ ns₁ ww₁ es₁ ops₁).2 (C07_wf_build wt₂ hm₂ ns₂ ww₂ es₂ ops₂).2 h hd (hH _ _)

/-- computing the hash returns the tables it was given: `serialize` builds new dictionaries, nothing is written -/
theorem C07_pure {Digest : Type} (dumps : JTree → String) (H : String → Digest) (t : Tables κ) :
    (hashCall dumps H t).1 = t ∧ (hashCall dumps H (hashCall dumps H t).1).2 = (hashCall dumps H t).2 :=
  ⟨rfl, rfl⟩

/-! ## non-vacuity: concrete histories of the four kinds -/
namespace C07Ex

/-- Hypergraph: different insertion order, different node-listing order, a detour through an extra node and an
extra hyperedge, metadata set later, dictionary keys in another order -/
def exA : List (Op KH) :=
  [.addNode 5 (some (.obj [("b", .num (.int 1)), ("a", .null)])), .addEdge [3, 1, 2] none none,
   .addEdge [2, 1] none (some (.obj [("z", .null)]))]
def exB : List (Op KH) :=
  [.addEdge [1, 2] none none, .addNode 7 none, .addEdge [7, 1] none none, .addEdge [1, 2, 3] none none,
   .setEdgeMeta [1, 2] (.obj [("z", .null)]), .removeNode 7 false,
   .addNode 5 (some (.obj [("a", .null), ("b", .num (.int 1))]))]

/-- the one evaluation behind the next examples: the canonical trees, keys of the records already in order -/
theorem exA_exB : canon (content (run (init KH false []) exA)) = canon (content (run (init KH false []) exB)) := by
  rw [canon_eq_NF, canon_eq_NF]; rfl

example : preimage? (run (init KH false []) exA) = preimage? (run (init KH false []) exB) := by
  rw [C07_factor_run, C07_factor_run, exA_exB]
example : (content (run (init KH false []) exA)).edges.length = 2 ∧
    (content (run (init KH false []) exA)).nodes.length = 4 := by decide
/-- the contents are equal (so `C07_equal_run` applies with a true hypothesis) -/
example : (content (run (init KH false []) exA)).Equiv (content (run (init KH false []) exB)) :=
  canon_inj exA_exB
example {Digest : Type} (dumps : JTree → String) (H : String → Digest) :
    hashOf dumps H (run (init KH false []) exA) = hashOf dumps H (run (init KH false []) exB) :=
  C07_equal_run dumps H false false [] [] exA exB (canon_inj exA_exB)

/-- Directed, weighted: weights 1 (int) and 1.0 (float) are different contents -/
def exD1 : List (Op KD) := [.addEdge ([2, 1], [3]) (some (.int 1)) none]
def exD2 : List (Op KD) := [.addEdge ([1, 2], [3]) (some (.flt 4)) none]
example : canon (content (run (init KD true []) exD1)) ≠ canon (content (run (init KD true []) exD2)) :=
  C07_differ_weight_type _ _ (content_WF (run_wf (init_wf KD true []) exD2)) ([1, 2], [3]) 1 4 emptyObj emptyObj
    (by show _ ∈ [_]; exact List.mem_singleton.mpr rfl) (by show _ ∈ [_]; exact List.mem_singleton.mpr rfl)
example : ¬ (content (run (init KD true []) exD1)).Equiv (content (run (init KD true []) exD2)) :=
  not_equiv_of_edge_record (content_WF (run_wf (init_wf KD true []) exD2)) (k := ([1, 2], [3]))
    (w := .int 1) (w' := .flt 4) (md := emptyObj) (md' := emptyObj)
    (by show _ ∈ [_]; exact List.mem_singleton.mpr rfl) (by show _ ∈ [_]; exact List.mem_singleton.mpr rfl)
    (Or.inl (by decide))

/-- Temporal: keep_edges=True shrink builds the record; a different time is a different content -/
def exT1 : List (Op KT) := [.addEdge (3, [2, 9, 1]) none none, .removeNode 9 true]
def exT2 : List (Op KT) := [.addEdge (3, [1, 2]) none none]
def exT3 : List (Op KT) := [.addEdge (4, [1, 2]) none none]
example : preimage? (run (init KT false []) exT1) = preimage? (run (init KT false []) exT2) := by rfl
example : canon (content (run (init KT false []) exT2)) ≠ canon (content (run (init KT false []) exT3)) :=
  C07_differ_key _ _ (3, [1, 2]) (by decide) (by decide)

/-- Multiplex: remove and rebuild a node; a different layer is a different content -/
def exM1 : List (Op KM) := [.addEdge ([1, 2], 0) none none, .removeNode 2 false, .addEdge ([2, 1], 0) none none]
def exM2 : List (Op KM) := [.addEdge ([1, 2], 0) none none]
def exM3 : List (Op KM) := [.addEdge ([1, 2], 1) none none]
example : preimage? (run (init KM false []) exM1) = preimage? (run (init KM false []) exM2) := by rfl
example : canon (content (run (init KM false []) exM2)) ≠ canon (content (run (init KM false []) exM3)) :=
  C07_differ_key _ _ ([1, 2], 0) (by decide) (by decide)

/-- batch vs one by one vs constructor, then the same attribute edit (the histories of the seeded change C07-b1):
`add_nodes([1,2,3]); set_attr_to_node_metadata(1,"color","red"); add_edge((1,2))`, the same with `add_node` in another
order, and `Hypergraph(edge_list=[(1,2)], node_metadata={1:{"color":"red"},2:{},3:{}})` -/
def red : JTree := .str "red"
def exBatch : List (Op KH) :=
  [.addNodes [(1, none), (2, none), (3, none)], .setNodeAttr 1 "color" red, .addEdge [1, 2] none none]
def exSingle : List (Op KH) :=
  [.addNode 3 none, .addNode 2 none, .addNode 1 none, .setNodeAttr 1 "color" red, .addEdge [2, 1] none none]
def exCtor : Tables KH :=
  build KH false [] [(1, .obj [("color", red)]), (2, emptyObj), (3, emptyObj)] false [([1, 2], none, none)]
example : preimage? (run (init KH false []) exBatch) = preimage? (run (init KH false []) exSingle) := by rfl
example : preimage? (run (init KH false []) exBatch) = preimage? exCtor := by rfl
/-- the siblings of the batch keep `{}`: giving node 2 the attribute too is a different content -/
example : (content (run (init KH false []) exBatch)).nodes = [(1, .obj [("color", red)]), (2, emptyObj), (3, emptyObj)] := by
  rfl
example : canon (content (run (init KH false []) exBatch)) ≠
    canon (content (run (init KH false []) (exBatch ++ [.setNodeAttr 2 "color" red]))) :=
  C07_differ_node_meta _ _ (content_WF (run_wf (init_wf KH false []) _)) 2 emptyObj (.obj [("color", red)])
    (by show _ ∈ [_, _, _]; exact List.mem_cons_of_mem _ List.mem_cons_self)
    (by show _ ∈ [_, _, _]; exact List.mem_cons_of_mem _ List.mem_cons_self)
    (by simp [ser, serFields, sortBy, insertBy])
/-- the same on hyperedge metadata (Temporal): a batch without metadata, an attribute set on one record, an attribute
set and removed again on the other; against single insertions with metadata -/
def exTBatch : List (Op KT) :=
  [.addEdges false [((3, [0, 1]), none, none), ((4, [1, 2]), none, none)], .setEdgeAttr (3, [1, 0]) "seen" (.bool true),
   .setEdgeAttr (4, [1, 2]) "tmp" .null, .delEdgeAttr (4, [2, 1]) "tmp"]
def exTSingle : List (Op KT) :=
  [.addEdge (4, [2, 1]) none none, .addEdge (3, [0, 1]) none (some (.obj [("seen", .bool true)]))]
example : preimage? (run (init KT false []) exTBatch) = preimage? (run (init KT false []) exTSingle) := by rfl
/-- rejected attribute edits (unknown node, missing field, unknown record) change nothing -/
example : run (init KT false []) (exTBatch ++ [.delEdgeAttr (4, [1, 2]) "tmp", .setNodeAttr 9 "a" .null,
    .delNodeAttr 1 "a", .setEdgeAttr (5, [1, 2]) "a" .null]) = run (init KT false []) exTBatch := by rfl

/-- a stale node-metadata entry (what D9/D11 leave behind) is not well-formed, and the pre-image then lists a
node the content does not have -/
def stale : Tables KD := { nodeMeta := [(5, emptyObj)] }
example : ¬ WF stale := fun w => by
  have := (w.node.same 5).mpr (by decide)
  simp [stale, keys] at this
def nodeRecords : Option JTree → Nat
  | some (.obj [_, _, (_, .arr ns), _, _]) => ns.length
  | _ => 0
example : preimage? stale ≠ some (canon (content stale)) := fun h =>
  absurd (congrArg nodeRecords h) (by decide +kernel)

/-- nested dictionaries in another key order are the same JSON value; `1` and `1.0` are not -/
def mdA : JTree := .obj [("b", .arr [.obj [("y", .bool true), ("x", .null)]]), ("a", .num (.int 1))]
def mdB : JTree := .obj [("a", .num (.int 1)), ("b", .arr [.obj [("x", .null), ("y", .bool true)]])]
def mdC : JTree := .obj [("a", .num (.flt 4)), ("b", .arr [.obj [("x", .null), ("y", .bool true)]])]
theorem mdA_mdB : ser mdA = ser mdB := by
  simp [ser, serFields, serList, mdA, mdB, sortBy, insertBy, fieldLe, KeyOrd.le]
theorem md_KN : KN mdA ∧ KN mdB ∧ KN mdC := by
  simp [KN, KNFields, KNList, mdA, mdB, mdC]
example : ser mdA = ser mdB := mdA_mdB
example : KN mdA ∧ KN mdB ∧ KN mdC := md_KN
example : JEq mdA mdB := (C07_sameValue_iff mdA mdB md_KN.1 md_KN.2.1).mp mdA_mdB
example : ser mdB ≠ ser mdC := by
  simp [ser, serFields, serList, mdB, mdC, sortBy, insertBy, fieldLe, KeyOrd.le]

end C07Ex

/-! ## metadata as objects: which slots share a dictionary / list object is irrelevant

`Model/C07Heap.lean`: the metadata objects of a hypergraph as a heap of cells that hold ADDRESSES of other cells (one
dictionary handed to several nodes / hyperedges / the hypergraph, one nested list inside two dictionaries, ...).
`values h` are the JSON values the cells denote - what the getters return and `==` compares, i.e. the metadata of the
content - and `serCells h` is what `serialize` of hashing.py returns for every cell when it follows the references. -/

/-- `serialize` of a metadata object is `ser` of the JSON value it denotes, for every object graph: the pre-image
sees the value-based tables of `Model/C07.lean` (each slot resolved to its value), whatever objects the slots share.
No hypothesis: a dangling address reads as `null` on both sides; the harness only builds closed heaps. -/
theorem C07_serialize_by_reference (h : Heap) : serCells h = (values h).map ser :=
  serCells_eq h

/-- two slots - of one hypergraph or of two, in heaps with different sharing - that denote the same value get the same
serialization; so builds of one content from shared and from fresh equal objects have one pre-image (and by
`C07_equal` one hash) -/
theorem C07_sharing_irrelevant (h₁ h₂ : Heap) (r₁ r₂ : Nat)
    (hv : look (values h₁) r₁ = look (values h₂) r₂) :
    look (serCells h₁) r₁ = look (serCells h₂) r₂ := by
  rw [C07_serialize_by_reference, C07_serialize_by_reference, look_map_ser, look_map_ser, hv]

/-- a difference of the denoted values survives serialization (values without repeated dictionary keys), also when
every object involved is held by other slots as well -/
theorem C07_sharing_keeps_differences (h₁ h₂ : Heap) (r₁ r₂ : Nat)
    (k₁ : KN (look (values h₁) r₁)) (k₂ : KN (look (values h₂) r₂))
    (hv : ¬ JEq (look (values h₁) r₁) (look (values h₂) r₂)) :
    look (serCells h₁) r₁ ≠ look (serCells h₂) r₂ := by
  rw [C07_serialize_by_reference, C07_serialize_by_reference, look_map_ser, look_map_ser]
  intro e
  exact hv ((ser_eq_iff_JEq _ _ k₁ k₂).mp e)

namespace C07Ex
/-- cell 3: the record `{tags: L, src: "s"}` with the list object `L = ["a", "a"]` (cell 2); cell 4: a second
dictionary `{Z: L}` holding the SAME list object; cells 5-6: a fresh equal copy of the record (its own list object);
cells in creation order, addresses point to older cells -/
def heap : Heap :=
  [.atom (.str "a"), .atom (.str "s"), .arr [0, 0], .obj [("tags", 2), ("src", 1)], .obj [("Z", 2)],
   .arr [0, 0], .obj [("tags", 5), ("src", 1)]]

example : heap.closed = true := by decide
/-- slots 3 (shared record) and 6 (fresh equal record) denote one value -/
example : look (values heap) 3 = look (values heap) 6 := by rfl
example : look (values heap) 3 = .obj [("tags", .arr [.str "a", .str "a"]), ("src", .str "s")] := by rfl
/-- `serialize`: three slots holding the record (the same object twice, a fresh equal one) - three equal results -/
example : [3, 3, 6].map (look (serCells heap)) =
    List.replicate 3 (.obj [("src", .str "s"), ("tags", .arr [.str "a", .str "a"])]) := by rfl
/-- the seeded guard (C07-c3) on the same three slots: the second occurrence of the OBJECT is the placeholder
although it denotes the value of the first, while the fresh equal record (with its own list object 5) is written out:
the result is no function of the values -/
example : guardSlots heap [3, 3, 6] =
    [.obj [("src", .str "s"), ("tags", .arr [.str "a", .str "a"])], placeholder,
     .obj [("src", .str "s"), ("tags", .arr [.str "a", .str "a"])]] := by rfl
/-- ... and hides a real difference: slot lists `[3, 4, 3]` and `[3, 4, 4]` differ in the last value, the guard prints
the placeholder for both -/
example : guardSlots heap [3, 4, 3] = guardSlots heap [3, 4, 4] := by rfl
example : ¬ (look (values heap) 3 = look (values heap) 4) := fun e =>
  absurd (congrArg (fun | JTree.obj l => l.length | _ => 0) e) (by decide)
end C07Ex

/-! ## a setter called again for the same key replaces; a shrunken hyperedge that meets
an existing one is an `add_edge` on that hyperedge

The seeded changes C07-e3 (`MultiplexHypergraph.set_layer_metadata` MERGES into the record of an earlier call) and
C07-e1 (`Hypergraph.remove_node(keep_edges=True)` renames the incident hyperedges in place) differ from the model in
exactly these statements; the harness runs second / third calls of every setter and colliding shrinks in all four
classes. -/

/-- `set_attr_to_hypergraph_metadata(f, ·)` - and `MultiplexHypergraph.set_layer_metadata(layer, ·)` /
`set_dataset_metadata(·)`, which are `hypergraph_metadata[layer] = record` - called any number of times for ONE
field: the tables (hence content and hash) are those of the LAST call alone; no earlier record leaves a trace.
No hypothesis: when the hypergraph metadata are no dictionary every call is refused and nothing changes. -/
theorem C07_hattr_last_wins (t : Tables κ) (f : String) (earlier : List JTree) (b : JTree) :
    run t (earlier.map (Op.setHAttr f) ++ [.setHAttr f b]) = run t [.setHAttr f b] :=
  run_last_wins (Op.setHAttr f) (fun t a b => setHAttr_twice t f a b) t earlier b

/-- `set_node_metadata(n, ·)` called any number of times for one node: only the last record counts -/
theorem C07_node_meta_last_wins (t : Tables κ) (n : Nat) (earlier : List JTree) (b : JTree) :
    run t (earlier.map (Op.setNodeMeta n) ++ [.setNodeMeta n b]) = run t [.setNodeMeta n b] :=
  run_last_wins (Op.setNodeMeta n) (fun t a b => setNodeMeta_twice t n a b) t earlier b

/-- `set_edge_metadata(k, ·)` called any number of times for one hyperedge (node-listing order of `k` free in
every call is covered by `C07_listing_order`): only the last record counts -/
theorem C07_edge_meta_last_wins (t : Tables κ) (k : κ) (earlier : List JTree) (b : JTree) :
    run t (earlier.map (Op.setEdgeMeta k) ++ [.setEdgeMeta k b]) = run t [.setEdgeMeta k b] :=
  run_last_wins (Op.setEdgeMeta k) (fun t a b => setEdgeMeta_twice t k a b) t earlier b

/-- `set_hypergraph_metadata(·)` called any number of times: only the last dictionary counts -/
theorem C07_hmeta_last_wins (t : Tables κ) (earlier : List JTree) (b : JTree) :
    run t (earlier.map Op.setHMeta ++ [.setHMeta b]) = run t [.setHMeta b] :=
  run_last_wins Op.setHMeta setHMeta_twice t earlier b

/-- the hash after repeated calls of one hypergraph-metadata setter is the hash after the last call alone -/
theorem C07_repeated_setter_hash {Digest : Type} (dumps : JTree → String) (H : String → Digest) (t : Tables κ)
    (f : String) (earlier : List JTree) (b : JTree) :
    hashOf dumps H (run t (earlier.map (Op.setHAttr f) ++ [.setHAttr f b])) = hashOf dumps H (run t [.setHAttr f b]) := by
  rw [C07_hattr_last_wins]

/-- one iteration of `remove_node(n, keep_edges=True)` on an incident hyperedge `k` (id `id`) whose remainder `k'` is a
hyperedge: it IS `add_edge(k', weight-of-k, metadata-of-k)` after `remove_edge(k)` - so when `k'` is there already its
weight grows by the weight of `k` (weighted) and its record is replaced, exactly as for any repeated insertion.
Hypotheses: `id` is a live id (it comes from the adjacency list of `n`) and the remainder is non-empty. -/
theorem C07_shrink_is_add_edge (t : Tables κ) (n id : Nat) (k k' : κ) (hk : get? t.rev id = some k)
    (hs : Kind.shrink k n = some k') :
    shrinkIncident n t id =
      (addEdge (removeEdge t k).1 k' (some ((get? t.weights id).getD (.int 1)))
        (some ((get? t.edgeMeta id).getD emptyObj))).1 := by
  simp [shrinkIncident, hk, hs]

namespace C07Ex
/-- the histories of the seeded change C07-e3 (layers as ranks in keys, as names in the hypergraph metadata): the
record of layer "social" set twice, the second record lacking a field of the first -/
def draft : JTree := .obj [("draft", .bool true), ("source", .str "old")]
def final : JTree := .obj [("source", .str "v2")]
def exLay2 : List (Op KM) := [.addEdge ([1, 2, 3], 0) none none, .setHAttr "social" draft, .setHAttr "work" emptyObj,
  .setHAttr "social" final]
def exLay1 : List (Op KM) := [.addEdge ([3, 2, 1], 0) none none, .setHAttr "work" emptyObj, .setHAttr "social" final]
example : preimage? (run (init KM false []) exLay2) = preimage? (run (init KM false []) exLay1) := by rfl
example : run (init KM false []) ([draft, emptyObj].map (Op.setHAttr "social") ++ [.setHAttr "social" final]) =
    run (init KM false []) [.setHAttr "social" final] := C07_hattr_last_wins _ _ _ _
/-- number of fields of the record stored under "social" -/
def socialFields : JTree → Nat
  | .obj l => match get? l "social" with
    | some (.obj r) => r.length
    | _ => 0
  | _ => 0
/-- a merging setter (the seeded change) would leave two fields in the record: another content -/
example : socialFields (run (init KM false []) exLay2).hmeta = 1 := by rfl
example : socialFields (run (init KM false []) exLay1).hmeta = 1 := by rfl
example : run (init KH false []) ([emptyObj, draft].map (Op.setNodeMeta 1) ++ [.setNodeMeta 1 final]) =
    run (init KH false []) [.setNodeMeta 1 final] := C07_node_meta_last_wins _ _ _ _
example : (run (run (init KH false []) [.addNode 1 none]) ([draft].map (Op.setNodeMeta 1) ++ [.setNodeMeta 1 final])).nodeMeta
    = [(1, final)] := by rfl
example : (run (run (init KT false []) [.addEdge (0, [1, 2]) none none])
    ([draft].map (Op.setEdgeMeta (0, [2, 1])) ++ [.setEdgeMeta (0, [1, 2]) final])).edgeMeta = [(0, final)] := by rfl

/-- the histories of the seeded change C07-e1: weighted, `(2,3)` w=2, `(1,2,3)` w=5, node 1 removed with
`keep_edges=True` = `(2,3)` inserted with 2 and again with 5 = `(2,3)` w=7 -/
def exShrink : List (Op KH) :=
  [.addEdge [2, 3] (some (.int 2)) (some (.obj [("k", .str "old")])), .addEdge [1, 2, 3] (some (.int 5)) (some (.obj [("k", .str "new")])),
   .removeNode 1 true]
def exTwice : List (Op KH) :=
  [.addEdge [3, 2] (some (.int 2)) (some (.obj [("k", .str "old")])), .addEdge [2, 3] (some (.int 5)) (some (.obj [("k", .str "new")]))]
def exOnce : List (Op KH) := [.addEdge [2, 3] (some (.int 7)) (some (.obj [("k", .str "new")]))]
example : preimage? (run (init KH true []) exShrink) = preimage? (run (init KH true []) exTwice) := by rfl
theorem exShrink_exOnce : preimage? (run (init KH true []) exShrink) = preimage? (run (init KH true []) exOnce) := by
  rfl
example : preimage? (run (init KH true []) exShrink) = preimage? (run (init KH true []) exOnce) := exShrink_exOnce
example : (content (run (init KH true []) exShrink)).edges = [([2, 3], .int 7, .obj [("k", .str "new")])] := by rfl
/-- the seeded in-place rename would leave weight 5: another content, another pre-image (`C07_differ_weight`) -/
theorem exShrink_differs : ¬ (content (run (init KH true []) exShrink)).Equiv
    (content (run (init KH true []) [.addEdge [2, 3] (some (.int 5)) (some (.obj [("k", .str "new")]))])) :=
  not_equiv_of_edge_record (content_WF (run_wf (init_wf KH true []) _)) (k := [2, 3]) (w := .int 7) (w' := .int 5)
    (md := .obj [("k", .str "new")]) (md' := .obj [("k", .str "new")])
    (by show _ ∈ [_]; exact List.mem_singleton.mpr rfl) (by show _ ∈ [_]; exact List.mem_singleton.mpr rfl)
    (Or.inl (by decide))
example : canon (content (run (init KH true []) exShrink)) ≠
    canon (content (run (init KH true []) [.addEdge [2, 3] (some (.int 5)) (some (.obj [("k", .str "new")]))])) :=
  C07_differ_canon _ _ exShrink_differs
/-- `C07_shrink_is_add_edge` on that state (id 1 is the hyperedge (1,2,3)) -/
example : shrinkIncident 1 (run (init KH true []) (exShrink.take 2)) 1 =
    (addEdge (removeEdge (run (init KH true []) (exShrink.take 2)) [1, 2, 3]).1 [2, 3] (some (.int 5))
      (some (.obj [("k", .str "new")]))).1 :=
  C07_shrink_is_add_edge _ 1 1 [1, 2, 3] [2, 3] (by rfl) (by rfl)
/-- two shrunken hyperedges meeting each other (directed: the node on the source side of one, on the target side of
the other; one call) -/
def exSides : List (Op KD) :=
  [.addEdge ([1, 9], [2]) (some (.int 3)) none, .addEdge ([1], [9, 2]) (some (.int 4)) none, .removeNode 9 true]
example : preimage? (run (init KD true []) exSides) =
    preimage? (run (init KD true []) [.addEdge ([1], [2]) (some (.int 7)) none]) := by rfl
end C07Ex

/-! ## `json.dumps(·, sort_keys=True)` inside the model

`Model/C07Dumps.lean` writes the JSON text (`renderK`: separators `", "` / `": "`, `null/true/false`, strings between
quotes with the `ensure_ascii` escapes, dictionaries and lists in order; `dumpsJ f = text of ser ·` is `sort_keys=True`),
`pyFmt` is what CPython writes for the atoms (decimal ints, positional quarter floats, `\" \\ \n \r \t \b \f \uXXXX`
with surrogate pairs).  `hashText f t` is the text whose SHA-256 `hash_hypergraph` returns.  The hypothesis "`dumps` is
injective on serialized trees" of `C07_differ` is a theorem for `dumpsJ pyFmt` (`C07_dumps_hypothesis`); what stays a
hypothesis is about `H`: that it does not collide on the two texts (`C07_differ`), or - in the `iff` statements below -
that it is injective on all strings, which no function into a finite digest type is. -/

/-- the canonical serialisation is an injective function on JSON trees (dictionary ORDER included: the text is a
faithful print), for every atom writer that satisfies `Fmt.Laws` -/
theorem C07_json_text_injective (f : Fmt) (L : f.Laws) (a b : JTree) (h : render f a = render f b) : a = b :=
  render_inj L h

/-- stronger: JSON texts form a prefix code - written in front of continuations that start with `,` `]` `}` (or are
empty) two values give the same text only if the values and the continuations are the same; this is what makes
lists and dictionaries of values unambiguous -/
theorem C07_json_prefix_code (f : Fmt) (L : f.Laws) (a b : JTree) (r₁ r₂ : List Char) (s₁ : Stop r₁) (s₂ : Stop r₂)
    (h : renderK f a r₁ = renderK f b r₂) : a = b ∧ r₁ = r₂ := renderK_pref L a b r₁ r₂ s₁ s₂ h

/-- CPython's atom writers satisfy the laws: ints and quarter floats are written injectively and never alike
(`1` / `1.0`), escapes of distinct characters are never prefixes of one another (UTF-16 pairs included) -/
theorem C07_pyFmt_laws : pyFmt.Laws := pyFmt_laws

/-- `1` and `1.0` (any int and any float) have different JSON texts -/
theorem C07_int_float_texts_differ (i q : Int) : pyFmt.num (.int i) ≠ pyFmt.num (.flt q) := int_ne_flt i q

/-- the text CPython writes is an injective function of the JSON tree -/
theorem C07_json_text_injective_py (a b : JTree) (h : render pyFmt a = render pyFmt b) : a = b :=
  render_inj pyFmt_laws h

/-- `json.dumps` as CPython writes it discharges the `dumps` hypothesis of `C07_differ*` -/
theorem C07_dumps_hypothesis (a b : JTree) (e : dumpsJ pyFmt (ser a) = dumpsJ pyFmt (ser b)) : ser a = ser b :=
  dumpsJ_ser_inj pyFmt_laws e

/-- `json.dumps(·, sort_keys=True)` gives the same text exactly for trees that agree up to the order of dictionary
keys (at every depth) -/
theorem C07_dumps_iff_ser (f : Fmt) (L : f.Laws) (a b : JTree) : dumpsJ f a = dumpsJ f b ↔ ser a = ser b :=
  ⟨fun h => dumpsJ_inj L h, fun h => by unfold dumpsJ; rw [h]⟩

/-- ... i.e. exactly for equal JSON values (Python `==` with the numeric types kept apart), for values whose
dictionaries have no repeated key -/
theorem C07_dumps_iff_value (f : Fmt) (L : f.Laws) (a b : JTree) (ka : KN a) (kb : KN b) :
    dumpsJ f a = dumpsJ f b ↔ JEq a b :=
  (C07_dumps_iff_ser f L a b).trans (ser_eq_iff_JEq a b ka kb)

/-- `serialize` is idempotent, so `sort_keys=True` finds the keys of the serialized pre-image sorted already: the text
is the print of the pre-image as it stands (dropping the recursion of `serialize`, or the `sort_keys` flag, alone
would not change any hash) -/
theorem C07_sort_keys_noop (f : Fmt) (a : JTree) :
    ser (ser a) = ser a ∧ dumpsJ f (ser a) = String.ofList (render f (ser a)) := ⟨ser_idem a, dumpsJ_ser f a⟩

/-- the hashed TEXT is a function of the content and determines it: two well-formed table states of one class have
the same text iff they have the same abstract content (nodes, hyperedges, weights with their numeric type, all
metadata as JSON values, weightedness); the text always exists -/
theorem C07_text_iff_content (f : Fmt) (L : f.Laws) (t₁ t₂ : Tables κ) (w₁ : WF t₁) (w₂ : WF t₂) :
    (hashText f t₁ = hashText f t₂ ↔ (content t₁).Equiv (content t₂)) ∧ (hashText f t₁).isSome = true := by
  unfold hashText
  rw [factor w₁, factor w₂]
  exact ⟨⟨fun h => canon_inj (dumpsJ_ser_inj L (Option.some.inj h)), fun h => by rw [canon_congr (content_WF w₁) h]⟩,
    rfl⟩

/-- the same for the text CPython writes, for any two histories from the constructor with lists -/
theorem C07_text_iff_content_run (wt₁ wt₂ : Bool) (hm₁ hm₂ : List (String × JTree)) (ns₁ ns₂ : List (Nat × JTree))
    (ww₁ ww₂ : Bool) (es₁ es₂ : List (κ × Option Num × Option JTree)) (ops₁ ops₂ : List (Op κ)) :
    hashText pyFmt (run (build κ wt₁ hm₁ ns₁ ww₁ es₁) ops₁) = hashText pyFmt (run (build κ wt₂ hm₂ ns₂ ww₂ es₂) ops₂) ↔
    (content (run (build κ wt₁ hm₁ ns₁ ww₁ es₁) ops₁)).Equiv (content (run (build κ wt₂ hm₂ ns₂ ww₂ es₂) ops₂)) :=
  (C07_text_iff_content pyFmt pyFmt_laws _ _ (C07_wf_build wt₁ hm₁ ns₁ ww₁ es₁ ops₁).2
    (C07_wf_build wt₂ hm₂ ns₂ ww₂ es₂ ops₂).2).1

/-- a single edit of the content (any of the `C07_differ_*` lemmas gives `¬ Equiv`) changes the hashed text - no
hypothesis on `dumps` -/
theorem C07_differ_text (t₁ t₂ : Tables κ) (w₁ : WF t₁) (w₂ : WF t₂) (h : ¬ (content t₁).Equiv (content t₂)) :
    hashText pyFmt t₁ ≠ hashText pyFmt t₂ :=
  fun e => h ((C07_text_iff_content pyFmt pyFmt_laws t₁ t₂ w₁ w₂).1.mp e)

/-- the hash is `H` of that text -/
theorem C07_hash_is_H_of_text {Digest : Type} (f : Fmt) (H : String → Digest) (t : Tables κ) :
    hashOf (dumpsJ f) H t = (hashText f t).map H := by
  unfold hashOf hashText
  cases preimage? t <;> rfl

/-- EQUAL HASH IFF EQUAL CONTENT, with CPython's `json.dumps` inside the model: the only hypothesis left is that `H` is
injective on ALL strings (stronger than "SHA-256 does not collide on the texts compared", and false of every `H` into
a finite `Digest`; the local form is `C07_differ`) -/
theorem C07_hash_iff_content {Digest : Type} (H : String → Digest) (hH : ∀ x y : String, H x = H y → x = y)
    (t₁ t₂ : Tables κ) (w₁ : WF t₁) (w₂ : WF t₂) :
    hashOf (dumpsJ pyFmt) H t₁ = hashOf (dumpsJ pyFmt) H t₂ ↔ (content t₁).Equiv (content t₂) :=
  ⟨hashOf_inj w₁ w₂ (fun _ _ => dumpsJ_ser_inj pyFmt_laws) (hH _ _), hashOf_congr w₁ w₂⟩

/-- ... for any two histories (constructor with lists, then any calls) of one class -/
theorem C07_hash_iff_content_run {Digest : Type} (H : String → Digest) (hH : ∀ x y : String, H x = H y → x = y)
    (wt₁ wt₂ : Bool) (hm₁ hm₂ : List (String × JTree)) (ns₁ ns₂ : List (Nat × JTree)) (ww₁ ww₂ : Bool)
    (es₁ es₂ : List (κ × Option Num × Option JTree)) (ops₁ ops₂ : List (Op κ)) :
    hashOf (dumpsJ pyFmt) H (run (build κ wt₁ hm₁ ns₁ ww₁ es₁) ops₁) =
      hashOf (dumpsJ pyFmt) H (run (build κ wt₂ hm₂ ns₂ ww₂ es₂) ops₂) ↔
    (content (run (build κ wt₁ hm₁ ns₁ ww₁ es₁) ops₁)).Equiv (content (run (build κ wt₂ hm₂ ns₂ ww₂ es₂) ops₂)) :=
  C07_hash_iff_content H hH _ _ (C07_wf_build wt₁ hm₁ ns₁ ww₁ es₁ ops₁).2 (C07_wf_build wt₂ hm₂ ns₂ ww₂ es₂ ops₂).2

/-- the four classes, spelled out (the statement above at `κ = KH, KD, KT, KM`) -/
theorem C07_hash_iff_content_H {Digest : Type} (H : String → Digest) (hH : ∀ x y : String, H x = H y → x = y)
    (t₁ t₂ : Tables KH) (w₁ : WF t₁) (w₂ : WF t₂) :
    hashOf (dumpsJ pyFmt) H t₁ = hashOf (dumpsJ pyFmt) H t₂ ↔ (content t₁).Equiv (content t₂) :=
  C07_hash_iff_content H hH t₁ t₂ w₁ w₂
theorem C07_hash_iff_content_D {Digest : Type} (H : String → Digest) (hH : ∀ x y : String, H x = H y → x = y)
    (t₁ t₂ : Tables KD) (w₁ : WF t₁) (w₂ : WF t₂) :
    hashOf (dumpsJ pyFmt) H t₁ = hashOf (dumpsJ pyFmt) H t₂ ↔ (content t₁).Equiv (content t₂) :=
  C07_hash_iff_content H hH t₁ t₂ w₁ w₂
theorem C07_hash_iff_content_T {Digest : Type} (H : String → Digest) (hH : ∀ x y : String, H x = H y → x = y)
    (t₁ t₂ : Tables KT) (w₁ : WF t₁) (w₂ : WF t₂) :
    hashOf (dumpsJ pyFmt) H t₁ = hashOf (dumpsJ pyFmt) H t₂ ↔ (content t₁).Equiv (content t₂) :=
  C07_hash_iff_content H hH t₁ t₂ w₁ w₂
theorem C07_hash_iff_content_M {Digest : Type} (H : String → Digest) (hH : ∀ x y : String, H x = H y → x = y)
    (t₁ t₂ : Tables KM) (w₁ : WF t₁) (w₂ : WF t₂) :
    hashOf (dumpsJ pyFmt) H t₁ = hashOf (dumpsJ pyFmt) H t₂ ↔ (content t₁).Equiv (content t₂) :=
  C07_hash_iff_content H hH t₁ t₂ w₁ w₂

namespace C07Ex
/-- the text CPython writes for a small pre-image (escapes, a surrogate pair, `1` next to `1.0`, `-0.75`, empty
containers, keys sorted by `sort_keys`) -/
example : dumpsJ pyFmt (.obj [("b", .arr [.num (.int 1), .num (.flt 4), .num (.flt (-3)), .null, .bool true, .arr [], .obj []]),
      ("a", .str "x\"y\n😀é")]) =
    "{\"a\": \"x\\\"y\\n\\ud83d\\ude00\\u00e9\", \"b\": [1, 1.0, -0.75, null, true, [], {}]}" :=
  dumpsJ_of_chars (by with_reducible rfl) (by decide +kernel)
/-- the text of the two histories `exShrink` / `exOnce` is the same, the one of the renamed weight differs -/
example : hashText pyFmt (run (init KH true []) exShrink) = hashText pyFmt (run (init KH true []) exOnce) :=
  congrArg (Option.map (dumpsJ pyFmt)) exShrink_exOnce
example : hashText pyFmt (run (init KH true []) exShrink) ≠
    hashText pyFmt (run (init KH true []) [.addEdge [2, 3] (some (.int 5)) (some (.obj [("k", .str "new")]))]) :=
  C07_differ_text _ _ (run_wf (init_wf KH true []) _) (run_wf (init_wf KH true []) _) exShrink_differs
example : (hashText pyFmt (run (init KD true []) exSides)) = some
    "{\"edges\": [{\"metadata\": {}, \"nodes\": [[1], [2]], \"weight\": 7}], \"hypergraph_metadata\": {\"type\": \"DirectedHypergraph\", \"weighted\": true}, \"nodes\": [{\"metadata\": {}, \"node\": 1}, {\"metadata\": {}, \"node\": 2}], \"type\": \"DirectedHypergraph\", \"weighted\": true}" :=
  hashText_of_chars (by with_reducible rfl) (by decide +kernel)
/-- `{"a": 1, "b": 2}` in both key orders: one text; `1` vs `1.0`: two texts -/
example : dumpsJ pyFmt (.obj [("b", .num (.int 2)), ("a", .num (.int 1))]) =
    dumpsJ pyFmt (.obj [("a", .num (.int 1)), ("b", .num (.int 2))]) := congrArg String.ofList (by decide +kernel)
example : dumpsJ pyFmt (.num (.int 1)) ≠ dumpsJ pyFmt (.num (.flt 4)) := by decide
end C07Ex

/-! ## the tables the hashed view does not read (`_incidences_metadata`, `_empty_edges`)

`Model/C07Side.lean`: `Obj κ` = hashing tables + incidence metadata + the registry of empty hyperedges, `OOp` = the calls of
`Op` + `set_incidence_metadata` + `add_empty_edge`, per class as the code has them (Hypergraph stores the incidence
record under the edge as passed, Directed / Temporal under the canonical key, Multiplex has neither; `clear()` empties
the incidence table in Hypergraph / Directed only, the registry in Hypergraph). -/

/-- the hashing tables after a history of an object are the hashing tables after the same history with the side-table
calls deleted: these calls never write a table that `expose_attributes_for_hashing` reads, and no other call reads
the side tables -/
theorem C07_side_tables_unread {κ : Type} [Kind κ] [SideKind κ] (o : Obj κ) (ops : List (OOp κ)) :
    (orun o ops).base = run o.base (ops.filterMap OOp.toBase?) := orun_base o ops

/-- hence the hashed text of an object never changes with `set_incidence_metadata` / `add_empty_edge` calls, wherever
they stand in the history (accepted or rejected) -/
theorem C07_side_calls_invisible {κ : Type} [Kind κ] [SideKind κ] (f : Fmt) (o : Obj κ) (ops : List (OOp κ)) :
    hashTextObj f (orun o ops) = hashText f (run o.base (ops.filterMap OOp.toBase?)) := by
  unfold hashTextObj; rw [orun_base]

/-- equal hashed text iff equal content of the hashing tables, for two histories of full objects of one class (side-table
calls included): the fingerprint sees exactly the content named by the property and nothing of the side tables -/
theorem C07_obj_text_iff_content {κ : Type} [Kind κ] [LawfulKind κ] [SideKind κ] (wt₁ wt₂ : Bool)
    (hm₁ hm₂ : List (String × JTree)) (ops₁ ops₂ : List (OOp κ)) :
    hashTextObj pyFmt (orun (oinit κ wt₁ hm₁) ops₁) = hashTextObj pyFmt (orun (oinit κ wt₂ hm₂) ops₂) ↔
    (content (orun (oinit κ wt₁ hm₁) ops₁).base).Equiv (content (orun (oinit κ wt₂ hm₂) ops₂).base) := by
  unfold hashTextObj
  rw [orun_base, orun_base]
  exact (C07_text_iff_content pyFmt pyFmt_laws _ _ (run_wf (init_wf κ wt₁ hm₁) _) (run_wf (init_wf κ wt₂ hm₂) _)).1

/-- the limit, stated: objects that differ only in incidence metadata or in registered empty hyperedges have the same
hash (the property's list of differences does not name these two tables; `hash_hypergraph` is no fingerprint of them) -/
theorem C07_side_tables_not_hashed {κ : Type} [Kind κ] [SideKind κ] (f : Fmt) (o : Obj κ) (raw : κ) (n : Nat)
    (name : String) (md : JTree) :
    hashTextObj f (ostep o (.setInc raw n md)).1 = hashTextObj f o ∧
    hashTextObj f (ostep o (.addEmpty name md)).1 = hashTextObj f o := by
  unfold hashTextObj
  exact ⟨by rw [show (ostep o (.setInc raw n md)).1.base = o.base from setInc_base o raw n md],
    by rw [show (ostep o (.addEmpty name md)).1.base = o.base from addEmpty_base o name md]⟩

namespace C07Ex
/-- Hypergraph: an incidence record under two listings of one hyperedge (two entries: stored as passed), an empty
hyperedge registered, a rejected second registration - same text as the plain history; the side tables do differ -/
def exSide : List (OOp KH) :=
  [.base (.addEdge [3, 1, 2] none none), .setInc [2, 1, 3] 7 (.obj [("r", .num (.int 1))]), .setInc [1, 2, 3] 7 emptyObj,
   .addEmpty "e1" emptyObj, .addEmpty "e1" (.null), .setInc [1, 2] 1 emptyObj]
example : hashTextObj pyFmt (orun (oinit KH false []) exSide) =
    hashTextObj pyFmt (orun (oinit KH false []) [.base (.addEdge [1, 2, 3] none none)]) := by rfl
example : (orun (oinit KH false []) exSide).inc.map (·.1) = [([2, 1, 3], 7), ([1, 2, 3], 7)] ∧
    (orun (oinit KH false []) exSide).empties.map (·.1) = ["e1"] := by decide
/-- Directed: one entry (canonical key); `clear()` empties it; Temporal keeps it; Multiplex rejects the call -/
example : (orun (oinit KD false []) [.base (.addEdge ([2, 1], [3]) none none), .setInc ([2, 1], [3]) 1 emptyObj,
    .setInc ([1, 2], [3]) 1 .null]).inc.map (·.1) = [(([1, 2], [3]), 1)] := by decide
example : (orun (oinit KD false []) [.base (.addEdge ([1], [3]) none none), .setInc ([1], [3]) 1 emptyObj, .base .clear]).inc.length = 0
    ∧ (orun (oinit KT false []) [.base (.addEdge (0, [1, 3]) none none), .setInc (0, [3, 1]) 1 emptyObj, .base .clear]).inc.length = 1
    ∧ (ostep (orun (oinit KM false []) [.base (.addEdge ([1, 3], 0) none none)]) (.setInc ([1, 3], 0) 1 emptyObj)).2 = false := by decide
end C07Ex

/-! ## The same two directions for the FULL container models (C01–C04), over histories

`Proofs/C07Link.lean` maps the concrete stores of the four complete container models to the hashing tables
(`ofC0x`), proves that their representation invariants imply `WF`, and that the observed content is the abstract spec
state.  Combined with the invariant-for-every-history theorems of C01–C04 this gives: any two histories of public
calls (all mutators of the class, batched calls, copy, clear, remove_node with both keep_edges) whose ABSTRACT states
are the same content hash equally, whatever `dumps` and `H` are.  The other direction is stated over histories for
`Hypergraph` only (`C07_histories_differ_H`, with `H` injective on ALL strings); for the other three classes it is
`C07_differ_C02 … _C04` / `C07_full_model_iff_*` for states that satisfy the container invariant. -/

theorem C07_histories_equal_H {Digest : Type} (dumps : JTree → String) (H : String → Digest)
    (k k' : Nat) (cs cs' : List C01.Cmd) (hwf : ∀ c ∈ cs, c.WF) (hwf' : ∀ c ∈ cs', c.WF)
    (s s' : C01.Store) (hs : s ∈ C01.run (C01.init k) cs) (hs' : s' ∈ C01.run (C01.init k') cs')
    (e : (ofSpec01 (C01.abs s)).Equiv (ofSpec01 (C01.abs s'))) :
    hashOf dumps H (ofC01 s) = hashOf dumps H (ofC01 s') :=
  C07_equal_C01 dumps H s s' (C01.run_inv cs (C01.init k) hwf (C01.init_inv k) s hs)
    (C01.run_inv cs' (C01.init k') hwf' (C01.init_inv k') s' hs') e

theorem C07_histories_differ_H {Digest : Type} (dumps : JTree → String) (H : String → Digest)
    (k k' : Nat) (cs cs' : List C01.Cmd) (hwf : ∀ c ∈ cs, c.WF) (hwf' : ∀ c ∈ cs', c.WF)
    (s s' : C01.Store) (hs : s ∈ C01.run (C01.init k) cs) (hs' : s' ∈ C01.run (C01.init k') cs')
    (e : ¬ (ofSpec01 (C01.abs s)).Equiv (ofSpec01 (C01.abs s')))
    (hd : ∀ a b : JTree, dumps (ser a) = dumps (ser b) → ser a = ser b) (hH : ∀ x y : String, H x = H y → x = y) :
    hashOf dumps H (ofC01 s) ≠ hashOf dumps H (ofC01 s') :=
  C07_differ_C01 dumps H s s' (C01.run_inv cs (C01.init k) hwf (C01.init_inv k) s hs)
    (C01.run_inv cs' (C01.init k') hwf' (C01.init_inv k') s' hs') e hd hH

theorem C07_histories_equal_T {Digest : Type} (dumps : JTree → String) (H : String → Digest)
    (ops ops' : List C03.Op) (hwf : ∀ op ∈ ops, op.WF) (hwf' : ∀ op ∈ ops', op.WF)
    (p p' : Nat × C03.Store) (hp : p ∈ C03.run [] ops) (hp' : p' ∈ C03.run [] ops')
    (e : (ofSpec03 (C03.abs p.2)).Equiv (ofSpec03 (C03.abs p'.2))) :
    hashOf dumps H (ofC03 p.2) = hashOf dumps H (ofC03 p'.2) :=
  C07_equal_C03 dumps H p.2 p'.2 (C03.run_inv ops hwf [] (by intro q hq; cases hq) p hp)
    (C03.run_inv ops' hwf' [] (by intro q hq; cases hq) p' hp') e

theorem C07_histories_equal_M {Digest : Type} (dumps : JTree → String) (H : String → Digest)
    (w w' : Bool) (hm hm' : C04.HMeta) (ops ops' : List C04.Op) (hw : ∀ op ∈ ops, op.WF) (hw' : ∀ op ∈ ops', op.WF)
    (e : (ofSpec04 (C04.abs (C04.run (C04.init w hm) ops))).Equiv (ofSpec04 (C04.abs (C04.run (C04.init w' hm') ops')))) :
    hashOf dumps H (ofC04 (C04.run (C04.init w hm) ops)) = hashOf dumps H (ofC04 (C04.run (C04.init w' hm') ops')) :=
  C07_equal_C04 dumps H _ _ (C04.run_inv _ ops (C04.inv_init w hm) hw) (C04.run_inv _ ops' (C04.inv_init w' hm') hw') e

theorem C07_histories_equal_D {Digest : Type} (dumps : JTree → String) (H : String → Digest)
    (w w' : Bool) (ops ops' : List C02.Op) (hops : ∀ o ∈ ops, o.WF) (hops' : ∀ o ∈ ops', o.WF)
    (e : (ofSpec02 (C02.abs (C02.run { weighted := w } ops))).Equiv (ofSpec02 (C02.abs (C02.run { weighted := w' } ops')))) :
    hashOf dumps H (ofC02 (C02.run { weighted := w } ops)) = hashOf dumps H (ofC02 (C02.run { weighted := w' } ops')) :=
  C07_equal_C02 dumps H _ _ (C02.run_inv _ ops hops (C02.inv_init w [])) (C02.run_inv _ ops' hops' (C02.inv_init w' [])) e

/-! ### the same `iff` for the FULL container models C01–C04 (every state satisfying the container invariant, in
particular every state reached by a history of public calls: `C0x.run_inv`) against their abstract `Spec` states -/

theorem C07_full_model_iff_H {Digest : Type} (H : String → Digest) (hH : ∀ x y : String, H x = H y → x = y)
    (s s' : C01.Store) (h : C01.Inv s) (h' : C01.Inv s') :
    hashOf (dumpsJ pyFmt) H (ofC01 s) = hashOf (dumpsJ pyFmt) H (ofC01 s') ↔
      (ofSpec01 (C01.abs s)).Equiv (ofSpec01 (C01.abs s')) := by
  rw [← content_ofC01 s h, ← content_ofC01 s' h']
  exact C07_hash_iff_content H hH _ _ (C07_link_C01 s h) (C07_link_C01 s' h')

theorem C07_full_model_iff_D {Digest : Type} (H : String → Digest) (hH : ∀ x y : String, H x = H y → x = y)
    (s s' : C02.Store) (h : C02.Inv s) (h' : C02.Inv s') :
    hashOf (dumpsJ pyFmt) H (ofC02 s) = hashOf (dumpsJ pyFmt) H (ofC02 s') ↔
      (ofSpec02 (C02.abs s)).Equiv (ofSpec02 (C02.abs s')) := by
  rw [← content_ofC02 s h, ← content_ofC02 s' h']
  exact C07_hash_iff_content H hH _ _ (C07_link_C02 s h) (C07_link_C02 s' h')

theorem C07_full_model_iff_T {Digest : Type} (H : String → Digest) (hH : ∀ x y : String, H x = H y → x = y)
    (s s' : C03.Store) (h : C03.Inv s) (h' : C03.Inv s') :
    hashOf (dumpsJ pyFmt) H (ofC03 s) = hashOf (dumpsJ pyFmt) H (ofC03 s') ↔
      (ofSpec03 (C03.abs s)).Equiv (ofSpec03 (C03.abs s')) := by
  rw [← content_ofC03 s h, ← content_ofC03 s' h']
  exact C07_hash_iff_content H hH _ _ (C07_link_C03 s h) (C07_link_C03 s' h')

theorem C07_full_model_iff_M {Digest : Type} (H : String → Digest) (hH : ∀ x y : String, H x = H y → x = y)
    (s s' : C04.Store) (h : C04.Inv s) (h' : C04.Inv s') :
    hashOf (dumpsJ pyFmt) H (ofC04 s) = hashOf (dumpsJ pyFmt) H (ofC04 s') ↔
      (ofSpec04 (C04.abs s)).Equiv (ofSpec04 (C04.abs s')) := by
  rw [← content_ofC04 s h, ← content_ofC04 s' h']
  exact C07_hash_iff_content H hH _ _ (C07_link_C04 s h) (C07_link_C04 s' h')
