import Hgxv.Model.C12
import Hgxv.Model.C12Hist
import Hgxv.Proofs.C12LinkC02
import Hgxv.Proofs.C12Ext
import Mathlib.Algebra.Order.Field.Rat
import Mathlib.Algebra.Order.Field.Basic
/-! # C12 — directed measures follow their definitions; exact ≤ strong ≤ weak reciprocity

Property theorems about the closed forms of `Hgxv/Model/C12.lean` (for every list of hyperedges, every bound `m` and every
size `k`), their composition with the container model C02 for every history (`C12_link_*`, `C12_hist_*`; helper lemmas
`Hgxv/Proofs/C12LinkC02.lean`; the history model of the `C12_hist_*` is `Hgxv/Model/C12Hist.lean`), and about the routines
as the Python code runs them, `Hgxv/Model/C12Ext.lean` (helper lemmas `Hgxv/Proofs/C12Ext.lean`, which also holds the lemmas
about `Model/C12.lean`).  `listing` and `Good` are defined in `Hgxv/Proofs/C12LinkC02.lean`, `ReachableD` and `filtOf` below. -/
open C12

theorem C12_exact_def (E : List DEdge) (e : DEdge) :
    isExact E e = true ↔ (e.2, e.1) ∈ E :=
  isExact_iff E e

theorem C12_strong_def (E : List DEdge) (e : DEdge) :
    isStrong E e = true ↔ ∀ s ∈ e.1, ∃ t ∈ e.2, ∃ f ∈ E, t ∈ f.1 ∧ s ∈ f.2 :=
  isStrong_iff E e

theorem C12_weak_def (E : List DEdge) (e : DEdge) :
    isWeak E e = true ↔ ∃ i ∈ e.1, ∃ j ∈ e.2, ∃ f ∈ E, j ∈ f.1 ∧ i ∈ f.2 :=
  isWeak_iff E e

/-- `hT`: each source needs SOME target from which the reversed hyperedge reaches it -/
theorem C12_exact_imp_strong (E : List DEdge) (e : DEdge) (hT : e.2 ≠ [])
    (h : isExact E e = true) : isStrong E e = true := by
  rw [C12_exact_def] at h
  rw [C12_strong_def]
  intro s hs
  obtain ⟨t, ht⟩ := List.exists_mem_of_ne_nil _ hT
  exact ⟨t, ht, (e.2, e.1), h, ht, hs⟩

/-- `hS`: the witness pair is taken at some source -/
theorem C12_strong_imp_weak (E : List DEdge) (e : DEdge) (hS : e.1 ≠ [])
    (h : isStrong E e = true) : isWeak E e = true := by
  rw [C12_strong_def] at h
  rw [C12_weak_def]
  obtain ⟨s, hs⟩ := List.exists_mem_of_ne_nil _ hS
  obtain ⟨t, ht, f, hf, htf, hsf⟩ := h s hs
  exact ⟨s, hs, t, ht, f, hf, htf, hsf⟩

theorem ratio_mono (a b t : Nat) (h : a ≤ b) : ratio a t ≤ ratio b t := by
  unfold ratio; split
  · exact le_refl _
  · exact div_le_div_of_nonneg_right (by exact_mod_cast h) (Nat.cast_nonneg t)

theorem C12.ratio_range (c t : Nat) (h : c ≤ t) : 0 ≤ ratio c t ∧ ratio c t ≤ 1 := by
  unfold ratio; split
  · simp
  · rename_i ht
    have hpos : (0 : Rat) < (t : Rat) := by exact_mod_cast Nat.pos_of_ne_zero ht
    exact ⟨div_nonneg (Nat.cast_nonneg _) hpos.le, (div_le_one hpos).mpr (by exact_mod_cast h)⟩

theorem C12_range (p : List DEdge → DEdge → Bool) (es : List DEdge) (m k : Nat) :
    0 ≤ reciprocity p es m k ∧ reciprocity p es m k ≤ 1 :=
  ratio_range _ _ (recCount_le_total p (bounded m es) k)

theorem C12_empty_size (p : List DEdge → DEdge → Bool) (es : List DEdge) (m k : Nat)
    (h : total (bounded m es) k = 0) : reciprocity p es m k = 0 := by
  simp [reciprocity, ratio, h]

/-- sizes outside `2..m` have no hyperedge in the bounded set, so their ratio is 0 -/
theorem C12_outside_bound (p : List DEdge → DEdge → Bool) (es : List DEdge) (m k : Nat)
    (hk : k < 2 ∨ m < k) : reciprocity p es m k = 0 := by
  apply C12_empty_size
  unfold total ofSize bounded
  rw [List.length_eq_zero_iff, List.filter_filter, List.filter_eq_nil_iff]
  intro e _
  simp only [Bool.and_eq_true, beq_iff_eq, decide_eq_true_eq, not_and]
  omega

/-- exact ≤ strong ≤ weak, for every size, whenever every hyperedge has non-empty sides -/
theorem C12_order (es : List DEdge) (m k : Nat)
    (hne : ∀ e ∈ es, e.1 ≠ [] ∧ e.2 ≠ []) :
    reciprocity isExact es m k ≤ reciprocity isStrong es m k ∧
    reciprocity isStrong es m k ≤ reciprocity isWeak es m k := by
  have hb : ∀ e ∈ bounded m es, e.1 ≠ [] ∧ e.2 ≠ [] := fun e he => hne e (List.mem_filter.mp he).1
  constructor
  · exact ratio_mono _ _ _ (recCount_mono _ _ _ _ fun e he h => C12_exact_imp_strong _ e (hb e he).2 h)
  · exact ratio_mono _ _ _ (recCount_mono _ _ _ _ fun e he h => C12_strong_imp_weak _ e (hb e he).1 h)

theorem C12_table_keys (p : List DEdge → DEdge → Bool) (es : List DEdge) (m : Nat) :
    (reciprocityTable p es m).map (·.1) = (List.range (m + 1)).filter (2 ≤ ·) := by
  simp [reciprocityTable, List.map_map, Function.comp_def]

theorem C12_in_degree (es : List DEdge) (size : Option Nat) (n : Nat) :
    inDegree es size n = es.countP (fun e => decide (n ∈ e.1) && passes size e) := by
  simp [inDegree, List.countP_eq_length_filter]

theorem C12_out_degree (es : List DEdge) (size : Option Nat) (n : Nat) :
    outDegree es size n = es.countP (fun e => decide (n ∈ e.2) && passes size e) := by
  simp [outDegree, List.countP_eq_length_filter]

theorem C12_sequences (nodes : List Nat) (es : List DEdge) (size : Option Nat) :
    (inDegreeSeq nodes es size).map (·.1) = nodes ∧ (outDegreeSeq nodes es size).map (·.1) = nodes ∧
    (∀ p ∈ inDegreeSeq nodes es size, p.2 = inDegree es size p.1) ∧
    (∀ p ∈ outDegreeSeq nodes es size, p.2 = outDegree es size p.1) := by
  have i := pairs_spec nodes (inDegree es size)
  have o := pairs_spec nodes (outDegree es size)
  exact ⟨i.1, o.1, i.2, o.2⟩

/-- cell `(a, b)` (1-based source and target sizes, `a + b ≤ m`) counts exactly the hyperedges of
that shape -/
theorem C12_signature_cell (es : List DEdge) (m a b : Nat) (ha : 1 ≤ a) (hb : 1 ≤ b) (hab : a + b ≤ m)
    (hne : ∀ e ∈ es, e.1 ≠ [] ∧ e.2 ≠ []) :
    (signature es m)[(a - 1) * (m - 1) + (b - 1)]? =
      some (es.countP (fun e => e.1.length == a && e.2.length == b)) := by
  rw [signature_cell es m (a - 1) (b - 1) (Nat.sub_lt_sub_right ha (Nat.lt_of_lt_of_le (Nat.lt_add_of_pos_right hb) hab))
      (Nat.sub_lt_sub_right hb (Nat.lt_of_lt_of_le (Nat.lt_add_of_pos_left ha) hab)) hne,
    Nat.sub_add_cancel ha, Nat.sub_add_cancel hb]
  congr 1
  apply List.countP_congr
  intro e _
  simp only [Bool.and_eq_true, beq_iff_eq, decide_eq_true_eq]
  exact and_iff_right_of_imp fun h => by rw [esize, h.1, h.2]; exact hab

theorem C12_signature_sum (es : List DEdge) (m : Nat)
    (hne : ∀ e ∈ es, e.1 ≠ [] ∧ e.2 ≠ []) :
    (signature es m).sum = es.countP (fun e => esize e ≤ m) := by
  simp only [signature]
  rw [sum_cells, List.countP_filter]
  apply List.countP_congr
  intro e he
  simp only [Bool.and_eq_true, decide_eq_true_eq]
  exact and_iff_right_of_imp (cellIndex_lt m e (hne e he).1 (hne e he).2)

/-! non-vacuity: a concrete hypergraph with exact < strong for size 2 and strong < weak for size 3 -/
example :
    let es : List DEdge := [([1], [2]), ([2], [1]), ([1], [3]), ([3, 7], [1]), ([5], [6]), ([4], [5])]
    (∀ e ∈ es, e.1 ≠ [] ∧ e.2 ≠ []) ∧
    recCount isExact (bounded 3 es) 2 < recCount isStrong (bounded 3 es) 2 ∧
    recCount isStrong (bounded 3 es) 3 < recCount isWeak (bounded 3 es) 3 ∧
    total (bounded 3 es) 2 = 5 ∧ total (bounded 3 es) 3 = 1 := by
  decide +kernel

/-! The routines as the Python code runs them (`Hgxv/Model/C12Ext.lean`) and the identities between the measures.  The
routines and aggregates are run by the driver and compared with the implementation on every check (`callin callout seqin
seqout sums lexact lstrong lweak ltabs lsig sigdef sigagg rev`); the per-table folds `totLoop edgeSetLoop reachLoop
binLoop` and `filtOf` occur in statements only, `countLoop` in the lemmas of `Hgxv/Proofs/C12Ext.lean` only. -/

/-- `order` / `size`: both given = the call raises; `order = o` means total size `o + 1` (also for `o = 0`), `size = k`
means `k`, neither means no filter - and nothing else -/
theorem C12_filter_options (order size : Option Nat) :
    (filterArg order size = none ↔ order.isSome ∧ size.isSome) ∧
    (∀ o, filterArg (some o) none = some (some (o + 1))) ∧
    (∀ k, filterArg none (some k) = some (some k)) ∧ filterArg none none = some none :=
  ⟨filterArg_eq_none order size, fun _ => rfl, fun _ => rfl, rfl⟩

/-- `in_degree / out_degree(h, node, order, size)`: raises exactly when the node is not listed or both options are given;
otherwise it is the count of `Model/C12.lean` under the selected size; `order = o` and `size = o + 1` are the same call -/
theorem C12_degree_calls (nodes : List Nat) (es : List DEdge) (order size : Option Nat) (n : Nat) :
    (inDegreeCall nodes es order size n = none ↔ n ∉ nodes ∨ (order.isSome ∧ size.isSome)) ∧
    (outDegreeCall nodes es order size n = none ↔ n ∉ nodes ∨ (order.isSome ∧ size.isSome)) ∧
    (∀ f, n ∈ nodes → filterArg order size = some f →
      inDegreeCall nodes es order size n = some (inDegree es f n) ∧
      outDegreeCall nodes es order size n = some (outDegree es f n)) ∧
    (∀ o, inDegreeCall nodes es (some o) none n = inDegreeCall nodes es none (some (o + 1)) n ∧
      outDegreeCall nodes es (some o) none n = outDegreeCall nodes es none (some (o + 1)) n) := by
  have i := degreeCall_spec (inDegree es) nodes order size n
  have o := degreeCall_spec (outDegree es) nodes order size n
  exact ⟨i.1, o.1, fun f hn h => ⟨i.2 f hn h, o.2 f hn h⟩, fun _ => ⟨rfl, rfl⟩⟩

/-- the sequences are the dict comprehension over `get_nodes()`: they raise exactly when there IS a node and both options
are given (no node: `{}` without looking at the options); otherwise every node once, in node order, with the answer of
the single call -/
theorem C12_sequence_calls (nodes : List Nat) (es : List DEdge) (order size : Option Nat) :
    (inDegreeSeqCall nodes es order size = none ↔ nodes ≠ [] ∧ order.isSome ∧ size.isSome) ∧
    (outDegreeSeqCall nodes es order size = none ↔ nodes ≠ [] ∧ order.isSome ∧ size.isSome) ∧
    (∀ seq, inDegreeSeqCall nodes es order size = some seq →
      seq.map (·.1) = nodes ∧ ∀ p ∈ seq, inDegreeCall nodes es order size p.1 = some p.2) ∧
    (∀ seq, outDegreeSeqCall nodes es order size = some seq →
      seq.map (·.1) = nodes ∧ ∀ p ∈ seq, outDegreeCall nodes es order size p.1 = some p.2) := by
  have i := degreeSeqCall_spec (inDegree es) nodes order size _ (inDegreeSeqCall_eq nodes es order size)
  have o := degreeSeqCall_spec (outDegree es) nodes order size _ (outDegreeSeqCall_eq nodes es order size)
  exact ⟨i.1, o.1, i.2, o.2⟩

/-! Handshake identities (degree.py against the listing).  Hypotheses = what every `DirectedHypergraph` guarantees (`C12_link_listing`): `get_nodes()` duplicate-free, every side of a
listed hyperedge duplicate-free and made of listed nodes. -/

/-- the in-degrees of all nodes sum to the source sizes of the selected hyperedges, the out-degrees to the target sizes,
both together to the total sizes; under `size = k` that is `k` times the number of hyperedges of size `k` -/
theorem C12_handshake (nodes : List Nat) (es : List DEdge) (size : Option Nat) (hn : nodes.Nodup)
    (hs : ∀ e ∈ es, e.1.Nodup ∧ e.2.Nodup ∧ ∀ x, (x ∈ e.1 ∨ x ∈ e.2) → x ∈ nodes) :
    sumInDegrees nodes es size = sumSourceSizes es size ∧
    sumOutDegrees nodes es size = sumTargetSizes es size ∧
    sumInDegrees nodes es size + sumOutDegrees nodes es size = ((selected es size).map esize).sum ∧
    (∀ k, size = some k →
      sumInDegrees nodes es size + sumOutDegrees nodes es size = k * (ofSize k es).length) := by
  have h1 : sumInDegrees nodes es size = sumSourceSizes es size :=
    handshake_any (κ := DEdge) (·.1) (passes size) nodes es hn fun e he => ⟨(hs e he).1, fun x hx => (hs e he).2.2 x (Or.inl hx)⟩
  have h2 : sumOutDegrees nodes es size = sumTargetSizes es size :=
    handshake_any (κ := DEdge) (·.2) (passes size) nodes es hn fun e he => ⟨(hs e he).2.1, fun x hx => (hs e he).2.2 x (Or.inr hx)⟩
  refine ⟨h1, h2, by rw [h1, h2, sum_sides], fun k hk => ?_⟩
  subst hk
  rw [h1, h2, sum_sides]
  exact ListLib.sum_map_const _ _ k fun e he => beq_iff_eq.mp (List.mem_filter.mp he).2

/-- what the dict-building first loops hold when they end: `tot[k]` = number of hyperedges of the bounded set of size `k`;
`edge_set` has the members of the bounded set, and on a duplicate-free listing (`get_edges()`) exactly that list in order;
`s ∈ node_reach[n]` iff some hyperedge of the bounded set has `n` among its sources and `s` among its targets;
`(i, j) ∈ bin_edges` iff some hyperedge of the bounded set has `i` as a source and `j` as a target -/
theorem C12_loop_tables (es : List DEdge) (m : Nat) :
    (∀ k, k ≤ m → (totLoop es m).getD k 0 = total (bounded m es) k) ∧
    (∀ e, e ∈ edgeSetLoop es m ↔ e ∈ bounded m es) ∧ (es.Nodup → edgeSetLoop es m = bounded m es) ∧
    (∀ n s, (∃ r, AL.get? (reachLoop es m) n = some r ∧ s ∈ r) ↔ ∃ f ∈ bounded m es, n ∈ f.1 ∧ s ∈ f.2) ∧
    (∀ i j, (i, j) ∈ binLoop es m ↔ ∃ f ∈ bounded m es, i ∈ f.1 ∧ j ∈ f.2) := by
  exact ⟨fun k hk => totLoop_getD es m k (Nat.lt_succ_of_le hk), mem_edgeSetLoop es m, edgeSetLoop_eq es m,
    fun n s => inTbl_reachLoop es m n s, fun i j => mem_binLoop es m (i, j)⟩

/-- the first loop of the three routines is ONE pass over `get_edges()` that fills all its tables; the pass leaves
exactly the tables of `C12_loop_tables` -/
theorem C12_first_loop (es : List DEdge) (m : Nat) :
    firstLoop es m = { tot := totLoop es m, edgeSet := edgeSetLoop es m, reach := reachLoop es m,
                       bins := binLoop es m } :=
  firstLoop_fold m es _

/-- the three routines, run loop by loop as written (first loop: `tot`, `edge_set`, the reach / pair tables; second loop
over `edge_set`: `rec`; third loop: the division), return the tables of `Model/C12.lean` - to which `C12_order`,
`C12_range`, `C12_empty_size` apply.  `es.Nodup`: `get_edges()` lists every hyperedge once (`C12_link_listing`). -/
theorem C12_loops (es : List DEdge) (m : Nat) (hn : es.Nodup) :
    exactRun es m = reciprocityTable isExact es m ∧
    strongRun es m = reciprocityTable isStrong es m ∧
    weakRun es m = reciprocityTable isWeak es m := by
  refine ⟨?_, ?_, ?_⟩
  · unfold exactRun; rw [C12_first_loop]; exact loop_table _ isExact es m hn (exactTest_eq es m)
  · unfold strongRun; rw [C12_first_loop]; exact loop_table _ isStrong es m hn (strongTest_eq es m)
  · unfold weakRun; rw [C12_first_loop]; exact loop_table _ isWeak es m hn (weakTest_eq es m)

/-- the hyperedges of one size whose reverse is present come in pairs: `rec[k]` of `exact_reciprocity` is even before the
division (duplicate-free listing, non-empty disjoint sides - the property's quantifier) -/
theorem C12_exact_even (es : List DEdge) (m k : Nat) (hn : es.Nodup)
    (hd : ∀ e ∈ es, e.1 ≠ [] ∧ ∀ x ∈ e.1, x ∉ e.2) :
    recCount isExact (bounded m es) k % 2 = 0 := by
  apply recCount_exact_even _ k ((List.filter_sublist).nodup hn)
  intro e he heq
  have h := hd e (List.mem_filter.mp he).1
  obtain ⟨x, hx⟩ := List.exists_mem_of_ne_nil _ h.1
  exact h.2 x hx (heq ▸ hx)

/-- `np.zeros((m-1, m-1))`, `signature[s-1, t-1] += 1` per hyperedge within the bound, `flatten()` = the flat vector of
`Model/C12.lean` (non-empty sides: no index leaves its row) -/
theorem C12_signature_loop (es : List DEdge) (m : Nat) (hne : ∀ e ∈ es, e.1 ≠ [] ∧ e.2 ≠ []) :
    signatureLoop es m = signature es m := by
  rw [signatureLoop, signatureMatrix,
    flatten_sigFold _ _ (m - 1) _ _ (fun row h => by rw [(List.mem_replicate.mp h).2, List.length_replicate])
      fun e he => (coords_lt m e (hne e (List.mem_filter.mp he).1).1 (hne e (List.mem_filter.mp he).1).2
        (of_decide_eq_true (List.mem_filter.mp he).2)).2,
    List.flatten_replicate_replicate]
  -- the flattened accumulation is the counting loop over the flat index, hence the flat closed form
  exact countLoop_eq (cellIndex m) _ _

/-- EVERY cell of the vector: row `a`, column `b` (0-based, both below `m - 1`) holds the number of hyperedges within the
bound with `a + 1` sources and `b + 1` targets; the cells with `a + b + 2 > m` are 0 -/
theorem C12_signature_all_cells (es : List DEdge) (m a b : Nat) (ha : a < m - 1) (hb : b < m - 1)
    (hne : ∀ e ∈ es, e.1 ≠ [] ∧ e.2 ≠ []) :
    (signature es m)[a * (m - 1) + b]? =
      some (es.countP (fun e => decide (esize e ≤ m) && (e.1.length == a + 1 && e.2.length == b + 1))) ∧
    (m < a + b + 2 → (signature es m)[a * (m - 1) + b]? = some 0) := by
  have e1 := signature_cell es m a b ha hb hne
  refine ⟨e1, fun hm => ?_⟩
  rw [e1, List.countP_eq_zero.mpr]
  intro e _
  simp only [Bool.and_eq_true, beq_iff_eq, decide_eq_true_eq, not_and]
  intro h1 h2 h3
  rw [esize, h2, h3] at h1
  omega

/-- the default bound is the largest size: no hyperedge = empty vector; otherwise the vector for `m = max size`, whose
cells sum to the number of ALL hyperedges, and some hyperedge has exactly that size -/
theorem C12_signature_default (es : List DEdge) (hne : ∀ e ∈ es, e.1 ≠ [] ∧ e.2 ≠ []) :
    (es = [] → signatureDefault es = []) ∧
    (∀ m, maxSize es = some m → signatureDefault es = signature es m ∧ (signatureDefault es).sum = es.length ∧
      (∀ e ∈ es, esize e ≤ m) ∧ ∃ e ∈ es, esize e = m) ∧
    (es ≠ [] → ∃ m, maxSize es = some m) := by
  refine ⟨?_, ?_, ?_⟩
  · intro h; subst h; rfl
  · intro m hm
    have sp := maxSize_spec es m hm
    have e1 : signatureDefault es = signature es m := by
      unfold signatureDefault; rw [hm]; exact C12_signature_loop es m hne
    refine ⟨e1, ?_, sp.1, sp.2⟩
    rw [e1, C12_signature_sum es m hne, List.countP_eq_length_filter, filter_within es m sp.1]
  · intro h
    cases hm : maxSize es with
    | none => exact absurd ((maxSize_eq_none es).mp hm) h
    | some m => exact ⟨m, rfl⟩

/-- the anti-diagonal `source size + target size = k` of the signature sums to `tot[k]`, the denominator of the three
reciprocity ratios of size `k` (`2 ≤ k ≤ m`) -/
theorem C12_signature_diagonal (es : List DEdge) (m k : Nat) (hk : 2 ≤ k) (hkm : k ≤ m)
    (hne : ∀ e ∈ es, e.1 ≠ [] ∧ e.2 ≠ []) :
    sigDiagonal (signature es m) m k = total (bounded m es) k := by
  have cell : ∀ a ∈ List.range (k - 1), (signature es m).getD (a * (m - 1) + (k - 2 - a)) 0 =
      ((ofSize k es).filter (fun e => e.1.length - 1 == a)).length := by
    intro a ha
    -- `k = (a + 1) + (b + 1)`: the cell of the shape `(a + 1, b + 1)`
    obtain ⟨b, rfl⟩ := Nat.exists_eq_add_of_lt (Nat.lt_sub_iff_add_lt.mp (List.mem_range.mp ha))
    have hb : a + 1 + b + 1 - 2 - a = b := by
      rw [Nat.add_right_comm a 1 b, Nat.add_assoc (a + b), Nat.add_sub_cancel, Nat.add_sub_cancel_left]
    have hm : a + 1 < m ∧ b + 1 < m := by omega
    rw [hb, List.getD_eq_getElem?_getD, signature_cell es m a b (Nat.lt_sub_of_add_lt hm.1) (Nat.lt_sub_of_add_lt hm.2) hne,
      Option.getD_some, ofSize, List.filter_filter, ← List.countP_eq_length_filter]
    apply List.countP_congr
    intro e he
    simp only [Bool.and_eq_true, beq_iff_eq, decide_eq_true_eq,
      Nat.sub_eq_iff_eq_add (List.length_pos_iff.mpr (hne e he).1)]
    unfold esize
    exact ⟨fun ⟨_, h1, h2⟩ => ⟨h1, by rw [h1, h2]; rfl⟩,
      fun ⟨h1, h2⟩ => ⟨h2 ▸ hkm, h1, Nat.add_left_cancel (h1 ▸ h2 : a + 1 + e.2.length = a + 1 + (b + 1))⟩⟩
  rw [sigDiagonal, List.map_congr_left cell, sum_cells, total_bounded es m k ⟨hk, hkm⟩, List.countP_eq_length]
  intro e he
  have he' := List.mem_filter.mp he
  have := List.length_pos_iff.mpr (hne e he'.1).2
  have hk : esize e = k := beq_iff_eq.mp he'.2
  rw [esize] at hk
  exact decide_eq_true (by omega)

/-- degree.py against hyperedge_signature.py: the cells weighted by their source size (target size) sum to the number of
sources (targets) of the hyperedges within the bound; when the bound is at least the largest size (e.g. the default
bound) that is the sum of all in-degrees (out-degrees) -/
theorem C12_signature_degrees (nodes : List Nat) (es : List DEdge) (m : Nat)
    (hne : ∀ e ∈ es, e.1 ≠ [] ∧ e.2 ≠ []) :
    sigSourceWeighted (signature es m) m = ((es.filter (fun e => esize e ≤ m)).map (·.1.length)).sum ∧
    sigTargetWeighted (signature es m) m = ((es.filter (fun e => esize e ≤ m)).map (·.2.length)).sum ∧
    ((∀ e ∈ es, esize e ≤ m) → nodes.Nodup →
      (∀ e ∈ es, e.1.Nodup ∧ e.2.Nodup ∧ ∀ x, (x ∈ e.1 ∨ x ∈ e.2) → x ∈ nodes) →
      sigSourceWeighted (signature es m) m = sumInDegrees nodes es none ∧
      sigTargetWeighted (signature es m) m = sumOutDegrees nodes es none) := by
  refine ⟨sigSourceWeighted_eq es m hne, sigTargetWeighted_eq es m hne, ?_⟩
  intro hall hn hs
  have h := C12_handshake nodes es none hn hs
  have hsel : selected es none = es := List.filter_eq_self.mpr (fun e _ => rfl)
  rw [sigSourceWeighted_eq es m hne, sigTargetWeighted_eq es m hne, filter_within es m hall, h.1, h.2.1]
  unfold sumSourceSizes sumTargetSizes
  rw [hsel]
  exact ⟨rfl, rfl⟩

/-- exchanging sources and targets of every hyperedge exchanges in- and out-degree (every filter), transposes the
signature (cells `a + b ≤ m`), and leaves the exact and the weak reciprocity of every size unchanged -/
theorem C12_reverse (es : List DEdge) (m k : Nat) (size : Option Nat) (n : Nat) :
    inDegree (reverse es) size n = outDegree es size n ∧
    outDegree (reverse es) size n = inDegree es size n ∧
    reciprocity isExact (reverse es) m k = reciprocity isExact es m k ∧
    reciprocity isWeak (reverse es) m k = reciprocity isWeak es m k ∧
    ((∀ e ∈ es, e.1 ≠ [] ∧ e.2 ≠ []) → ∀ a b, 1 ≤ a → 1 ≤ b → a + b ≤ m →
      (signature (reverse es) m)[(a - 1) * (m - 1) + (b - 1)]? = (signature es m)[(b - 1) * (m - 1) + (a - 1)]?) := by
  refine ⟨inDegree_reverse es size n, outDegree_reverse es size n,
    reciprocity_reverse isExact isExact_reverse es m k, reciprocity_reverse isWeak isWeak_reverse es m k, ?_⟩
  intro hne a b ha hb hab
  have hne' : ∀ e ∈ reverse es, e.1 ≠ [] ∧ e.2 ≠ [] := fun e he => (hne _ ((mem_reverse es e).mp he)).symm
  rw [C12_signature_cell (reverse es) m a b ha hb hab hne',
    C12_signature_cell es m b a hb ha (Nat.add_comm a b ▸ hab) hne, reverse, List.countP_map]
  simp only [Function.comp_def, Bool.and_comm]

/-! non-vacuity of the theorems above: the 6-hyperedge example -/
def C12.exN : List Nat := [1, 2, 3, 4, 5, 6, 7, 9]
def C12.exE : List DEdge := [([1], [2]), ([2], [1]), ([1], [3]), ([3, 7], [1]), ([5], [6]), ([4], [5])]

example : C12.exN.Nodup ∧ (∀ e ∈ C12.exE, e.1.Nodup ∧ e.2.Nodup ∧ ∀ x, (x ∈ e.1 ∨ x ∈ e.2) → x ∈ C12.exN) ∧
    (∀ e ∈ C12.exE, e.1 ≠ [] ∧ e.2 ≠ []) := by
  have h : ∀ e ∈ C12.exE, e.1.Nodup ∧ e.2.Nodup ∧ ∀ x ∈ e.1 ++ e.2, x ∈ C12.exN := by decide +kernel
  refine ⟨by decide, ?_, by decide⟩
  intro e he
  exact ⟨(h e he).1, (h e he).2.1, fun x hx => (h e he).2.2 x (List.mem_append.mpr hx)⟩
example : sumInDegrees C12.exN C12.exE none = 7 ∧ sumSourceSizes C12.exE none = 7 ∧
    sumOutDegrees C12.exN C12.exE none = 6 ∧ sumTargetSizes C12.exE none = 6 ∧
    sumInDegrees C12.exN C12.exE (some 3) + sumOutDegrees C12.exN C12.exE (some 3) = 3 * 1 := by decide +kernel
example : inDegreeCall C12.exN C12.exE (some 1) none 1 = some 2 ∧ inDegreeCall C12.exN C12.exE none (some 2) 1 = some 2 ∧
    inDegreeCall C12.exN C12.exE (some 1) (some 2) 1 = none ∧ inDegreeCall C12.exN C12.exE none none 8 = none ∧
    outDegreeCall C12.exN C12.exE (some 0) none 1 = some 0 ∧
    inDegreeSeqCall [] [] (some 1) (some 2) = some [] ∧ inDegreeSeqCall C12.exN C12.exE (some 1) (some 2) = none := by decide +kernel
example : signatureMatrix C12.exE 3 = [[5, 0], [1, 0]] ∧ signatureLoop C12.exE 3 = [5, 0, 1, 0] ∧
    signatureDefault C12.exE = [5, 0, 1, 0] ∧ maxSize C12.exE = some 3 ∧
    sigSourceWeighted (signature C12.exE 3) 3 = 7 ∧ sigTargetWeighted (signature C12.exE 3) 3 = 6 ∧
    sigDiagonal (signature C12.exE 3) 3 2 = 5 ∧ sigDiagonal (signature C12.exE 3) 3 3 = 1 ∧
    signature (reverse C12.exE) 3 = [5, 1, 0, 0] := by decide +kernel
example : C12.exE.Nodup ∧ (∀ e ∈ C12.exE, e.1 ≠ [] ∧ ∀ x ∈ e.1, x ∉ e.2) ∧
    recCount isExact (bounded 3 C12.exE) 2 = 2 ∧ (firstLoop C12.exE 3).tot = [0, 0, 5, 1] ∧
    (firstLoop C12.exE 3).bins = [(1, 2), (2, 1), (1, 3), (3, 1), (7, 1), (5, 6), (4, 5)] ∧
    edgeSetLoop [([1], [2]), ([1], [2])] 2 = [([1], [2])] := by decide +kernel
example : totLoop C12.exE 3 = [0, 0, 5, 1] ∧ edgeSetLoop C12.exE 2 = [([1], [2]), ([2], [1]), ([1], [3]), ([5], [6]), ([4], [5])] ∧
    reachLoop C12.exE 3 = [(1, [2, 3]), (2, [1]), (3, [1]), (7, [1]), (5, [6]), (4, [5])] ∧
    binLoop C12.exE 2 = [(1, 2), (2, 1), (1, 3), (5, 6), (4, 5)] ∧
    recLoop (exactTest (edgeSetLoop C12.exE 3)) (edgeSetLoop C12.exE 3) 3 = [0, 0, 2, 0] ∧
    recLoop (strongTest (reachLoop C12.exE 3)) (edgeSetLoop C12.exE 3) 3 = [0, 0, 3, 0] ∧
    recLoop (weakTest (binLoop C12.exE 3)) (edgeSetLoop C12.exE 3) 3 = [0, 0, 3, 1] := by decide +kernel

/-! Links to the full container model C02 (`DirectedHypergraph`): the measures on objects reached by any history.
The map between the two models is the identity
(`C12.DEdge = C02.Key`, pairs of sorted tuples of node ranks); `listing s` is the key list of `_edge_list` in creation
order.  Nothing is assumed about the object beyond "reached by a history of public calls satisfying C02's quantifier"
(`C02.Cmd.WF`: hyperedges handed to the constructor / `add_edge` / `add_edges` have duplicate-free, disjoint, non-empty
sides): distinct canonical hyperedges, non-empty sides, endpoints are nodes, soundness and completeness of the two
adjacency tables all come from C02's invariants (`C02.of_history`). -/

/-- `s` is one of the objects of a state reached from nothing by a finite sequence of constructor calls, copies and
public mutating calls (same definition as `C02.Reachable` in `Props/C02.lean`) -/
def C12.ReachableD (s : C02.Store) : Prop :=
  ∃ (cs : List C02.Cmd) (slot : Nat), (∀ c ∈ cs, c.WF) ∧ AL.get? (C02.runCmds [] cs) slot = some s

theorem C12.ReachableD.good {s : C02.Store} (hr : ReachableD s) : Good s :=
  let ⟨cs, slot, hcs, hs⟩ := hr
  good_of_history cs hcs slot s hs

/-- **What C12's routines are given, for every history.**  After every history, for the object `s` in any slot: the
abstract object the same history builds in that slot is `C02.abs s`; `get_edges()` answers `listing s`, which is the
key list of the abstract object, and `get_nodes()` answers its node list; both are duplicate-free; every listed
hyperedge is a canonical key (sorted, duplicate-free sides) with NON-EMPTY DISJOINT sides, all of whose nodes are
listed by `get_nodes()`.  These are the modelling assumptions of `Model/C12.lean` ("list of distinct canonical
hyperedges and the node list") and the hypothesis `hne` of `C12_order`, `C12_signature_cell`, `C12_signature_sum`. -/
theorem C12_link_listing (cs : List C02.Cmd) (hcs : ∀ c ∈ cs, c.WF) (slot : Nat) (s : C02.Store)
    (hs : AL.get? (C02.runCmds [] cs) slot = some s) :
    AL.get? (C02.Spec.runCmds [] cs) slot = some (C02.abs s) ∧
    C02.edges s .all false = some (listing s) ∧ listing s = (C02.abs s).keyList ∧
    C02.nodes s = (C02.abs s).nodeList ∧ (listing s).Nodup ∧ (C02.nodes s).Nodup ∧
    (∀ e ∈ listing s, e.1 ≠ [] ∧ e.2 ≠ [] ∧ C02.KeyWF e ∧ ∀ n, (n ∈ e.1 ∨ n ∈ e.2) → n ∈ C02.nodes s) := by
  have g := good_of_history cs hcs slot s hs
  refine ⟨abs_of_history cs hcs slot s hs, get_edges_eq s, listing_abs s, C02.q_nodes s, listing_nodup g,
    nodes_nodup g, ?_⟩
  intro e he
  have h := listing_wf g e he
  exact ⟨h.1.neS, h.1.neT, h.1, h.2⟩

/-- **Degrees, every history.**  For every reachable object, every node `get_nodes()` lists and every admissible
order/size filter (`t` = the size it selects, `none` = no filter): `get_source_edges` / `get_target_edges` answer
EXACTLY the sub-list of `get_edges()` that C12's `inDegree` / `outDegree` count (same hyperedges, same order), so
C12's degree on the object's listing is the length of the object's answer = the model object's `in_degree` /
`out_degree`; on the abstract content of the history it is the number of stored (source, target) pairs passing the
filter that have the node among their sources / targets (`C12_in_degree`), which is also what the abstract object
answers. -/
theorem C12_link_degrees (s : C02.Store) (hr : ReachableD s) (n : Nat) (hn : C02.checkNode s n = true)
    (f : C02.Filt) (t : Option Nat) (hf : f.target = some t) :
    C02.sourceEdges s n f = some ((listing s).filter (fun e => e.1.contains n && passes t e)) ∧
    C02.targetEdges s n f = some ((listing s).filter (fun e => e.2.contains n && passes t e)) ∧
    (C02.sourceEdges s n f).map List.length = some (inDegree (listing s) t n) ∧
    (C02.targetEdges s n f).map List.length = some (outDegree (listing s) t n) ∧
    C02.inDegree s n f = some (inDegree (listing s) t n) ∧
    C02.outDegree s n f = some (outDegree (listing s) t n) ∧
    inDegree (listing s) t n = (C02.abs s).keyList.countP (fun e => decide (n ∈ e.1) && passes t e) ∧
    outDegree (listing s) t n = (C02.abs s).keyList.countP (fun e => decide (n ∈ e.2) && passes t e) ∧
    (C02.abs s).inDegree n f = some (inDegree (C02.abs s).keyList t n) ∧
    (C02.abs s).outDegree n f = some (outDegree (C02.abs s).keyList t n) := by
  have g := hr.good
  have ha : AL.has (C02.abs s).nodes n = true := by rw [C02.abs_has_node]; exact hn
  have sd := spec_degrees (C02.abs s) n ha f t hf
  refine ⟨sourceEdges_exact g n hn f t hf, targetEdges_exact g n hn f t hf, inDegree_exact g n hn f t hf,
    outDegree_exact g n hn f t hf, inDegree_exact g n hn f t hf, outDegree_exact g n hn f t hf, ?_, ?_, sd.1, sd.2⟩
  · rw [← listing_abs]; exact C12_in_degree _ _ _
  · rw [← listing_abs]; exact C12_out_degree _ _ _

/-- where the object has no degree: a node `get_nodes()` does not list, or `order` and `size` given together - the
role listings raise, so `in_degree` / `out_degree` raise -/
theorem C12_link_degrees_rejected (s : C02.Store) (hr : ReachableD s) (n : Nat) (f : C02.Filt)
    (h : C02.checkNode s n = false ∨ f = .both) :
    C02.inDegree s n f = none ∧ C02.outDegree s n f = none := by
  rw [inDegree_good hr.good, outDegree_good hr.good]
  rcases h with h | rfl
  · rw [h]; exact ⟨rfl, rfl⟩
  · cases C02.checkNode s n <;> exact ⟨rfl, rfl⟩

/-- **Degree sequences, every history.**  For every reachable object and admissible filter, the object's
`in_degree_sequence` / `out_degree_sequence` ARE C12's sequences computed from `get_nodes()` and `get_edges()`; they
list exactly the object's nodes (= the nodes of the abstract content), each once, in node order. -/
theorem C12_link_sequences (s : C02.Store) (hr : ReachableD s) (f : C02.Filt) (t : Option Nat)
    (hf : f.target = some t) :
    C02.inDegreeSeq s f = some (inDegreeSeq (C02.nodes s) (listing s) t) ∧
    C02.outDegreeSeq s f = some (outDegreeSeq (C02.nodes s) (listing s) t) ∧
    (inDegreeSeq (C02.nodes s) (listing s) t).map (·.1) = (C02.abs s).nodeList ∧
    (outDegreeSeq (C02.nodes s) (listing s) t).map (·.1) = (C02.abs s).nodeList ∧
    (C02.abs s).nodeList.Nodup := by
  have g := hr.good
  have sq := C12_sequences (C02.nodes s) (listing s) t
  refine ⟨inDegreeSeq_link g f t hf, outDegreeSeq_link g f t hf, ?_, ?_, ?_⟩
  · rw [sq.1]; exact C02.q_nodes s
  · rw [sq.2.1]; exact C02.q_nodes s
  · rw [← C02.q_nodes]; exact nodes_nodup g

/-- **exact ≤ strong ≤ weak for every history.**  For every reachable object, every bound and every size, the three
ratios computed from what `get_edges()` lists are ordered and lie in [0, 1] (`C12_order`'s hypothesis is discharged by
C02's invariant); for a size within the bound, the common denominator `tot[k]` is the number of hyperedges the
object's own `get_edges(size=k)` lists. -/
theorem C12_link_order (s : C02.Store) (hr : ReachableD s) (m k : Nat) :
    reciprocity isExact (listing s) m k ≤ reciprocity isStrong (listing s) m k ∧
    reciprocity isStrong (listing s) m k ≤ reciprocity isWeak (listing s) m k ∧
    0 ≤ reciprocity isExact (listing s) m k ∧ reciprocity isWeak (listing s) m k ≤ 1 ∧
    (2 ≤ k → k ≤ m → ∃ L, C02.edges s (.size k) false = some L ∧ total (bounded m (listing s)) k = L.length) := by
  have g := hr.good
  have o := C12_order (listing s) m k (listing_nonempty g)
  refine ⟨o.1, o.2, (C12_range _ _ _ _).1, (C12_range _ _ _ _).2, ?_⟩
  intro h1 h2
  exact ⟨_, get_edges_size s k, total_bounded _ m k ⟨h1, h2⟩⟩

/-- **"exactly reciprocated" is the object's `check_edge` of the reverse.**  For every reachable object and every
hyperedge `e` the routines look at: the model's test `(target, source) in edge_set` has the value the object's
`check_edge((target, source))` returns. -/
theorem C12_link_exact_check (s : C02.Store) (hr : ReachableD s) (m : Nat) (e : DEdge)
    (he : e ∈ bounded m (listing s)) :
    C02.checkEdge s (C02.RawEdge.ofKey (e.2, e.1)) = some (isExact (bounded m (listing s)) e) :=
  isExact_check hr.good m e he

/-- **Signature vector, every history.**  For every reachable object and bound `m`: the hyperedges the routine loops
over, `get_edges(size=m, up_to=True)`, are the selection the model makes of `get_edges()`; cell `(a, b)` with
`a + b ≤ m` is the number of stored (source, target) pairs of the abstract content with `a` sources and `b` targets;
the cells sum to the length of the object's `get_edges(size=m, up_to=True)` answer.  With the default bound
`max(get_sizes())` every hyperedge is counted (the sum is `num_edges()`); where there is no maximum nothing is listed
(the routine returns the empty vector). -/
theorem C12_link_signature (s : C02.Store) (hr : ReachableD s) (m : Nat) :
    (∃ L, C02.edges s (.size m) true = some L ∧ L = (listing s).filter (fun e => esize e ≤ m) ∧
      (signature (listing s) m).sum = L.length) ∧
    (∀ a b, 1 ≤ a → 1 ≤ b → a + b ≤ m →
      (signature (listing s) m)[(a - 1) * (m - 1) + (b - 1)]? =
        some ((C02.abs s).keyList.countP (fun e => e.1.length == a && e.2.length == b))) ∧
    (C02.maxSize s = some m → (signature (listing s) m).sum = C02.numEdges s) ∧
    (C02.maxSize s = none → listing s = [] ∧ C02.numEdges s = 0) := by
  have g := hr.good
  have hne := listing_nonempty g
  have hsum := C12_signature_sum (listing s) m hne
  have hlen : C02.numEdges s = (listing s).length := by simp [C02.numEdges, listing, AL.keys]
  refine ⟨⟨_, get_edges_upto s m, rfl, ?_⟩, ?_, ?_, ?_⟩
  · rw [hsum, List.countP_eq_length_filter]
  · intro a b ha hb hab
    rw [← listing_abs]
    exact C12_signature_cell (listing s) m a b ha hb hab hne
  · intro hM
    rw [hsum, hlen, List.countP_eq_length_filter, filter_within _ m (listing_le_maxSize s m hM)]
  · intro hN
    have := listing_of_maxSize_none s hN
    exact ⟨this, by rw [hlen, this]; rfl⟩

/-- the caller's `order` / `size` as the filter of the container model C02 -/
def C12.filtOf : Option Nat → Option Nat → C02.Filt
  | none, none => .all
  | none, some k => .size k
  | some o, none => .order o
  | some _, some _ => .both

theorem C12.filtOf_target (order size : Option Nat) : (filtOf order size).target = filterArg order size := by
  cases order <;> cases size <;> rfl

/-- **the degree calls with their options, every history.**  For every reachable object, EVERY node label (listed or not)
and every combination of `order` / `size`: C12's `inDegreeCall / outDegreeCall` on the object's two listings is what the
container model's `in_degree / out_degree` answers - the same refusals (`none`) and the same counts -/
theorem C12_link_degree_calls (s : C02.Store) (hr : ReachableD s) (order size : Option Nat) (n : Nat) :
    inDegreeCall (C02.nodes s) (listing s) order size n = C02.inDegree s n (filtOf order size) ∧
    outDegreeCall (C02.nodes s) (listing s) order size n = C02.outDegree s n (filtOf order size) := by
  -- both sides are the same `if`: listed?, then the selected size, then the count
  have hc : C02.checkNode s n = (C02.nodes s).contains n :=
    Bool.eq_iff_iff.mpr ((checkNode_iff s n).trans List.contains_iff_mem.symm)
  rw [inDegree_good hr.good, outDegree_good hr.good, filtOf_target, hc]
  exact ⟨rfl, rfl⟩

/-! Non-vacuity of the link theorems, a concrete history: constructor with three hyperedges, insertion, removal (id
gap), insertion in unsorted order, a hyperedge shrunk by `remove_node(keep_edges=True)` (re-inserted under a fresh id),
a later insertion, a copy that is changed afterwards.  The object in slot 0 ends with the six hyperedges of the example
above (exact < strong for size 2, strong < weak for size 3), node 9 isolated, node 8 gone. -/
def C12.exampleHistory : List C02.Cmd :=
  [ .new 0 false none none (some [.ofLists [1] [2], .ofLists [9] [8], .ofLists [2] [1]]) none none,
    .op 0 (.addEdge (.ofLists [1] [3]) none none),
    .op 0 (.removeEdge (.ofLists [9] [8])),
    .op 0 (.addEdge (.ofLists [7, 3] [1]) none none),
    .op 0 (.addEdge (.ofLists [8, 5] [6]) none none),
    .op 0 (.removeNode 8 true),
    .op 0 (.addEdge (.ofLists [4] [5]) none none),
    .copy 0 1,
    .op 1 (.removeNode 1 false) ]

def C12.exampleObject : C02.Store := (AL.get? (C02.runCmds [] C12.exampleHistory) 0).getD {}

/-- the tables of the object: ids 1 and 5 are gone, the shrunk `((5,),(6,))` stands under the fresh id 6; the examples
below start from here instead of running the history again -/
theorem C12.exampleObject_eq : C12.exampleObject =
    { edgeList := [(([1], [2]), 0), (([2], [1]), 2), (([1], [3]), 3), (([3, 7], [1]), 4), (([5], [6]), 6), (([4], [5]), 7)],
      rev := [(0, [1], [2]), (2, [2], [1]), (3, [1], [3]), (4, [3, 7], [1]), (6, [5], [6]), (7, [4], [5])],
      weights := [(0, 4), (2, 4), (3, 4), (4, 4), (6, 4), (7, 4)],
      emeta := [(0, []), (2, []), (3, []), (4, []), (6, []), (7, [])],
      adjS := [(1, [0, 3]), (2, [2]), (9, []), (3, [4]), (7, [4]), (5, [6]), (6, []), (4, [7])],
      adjT := [(1, [2, 4]), (2, [0]), (9, []), (3, [3]), (7, []), (5, [7]), (6, [6]), (4, [])],
      nmeta := [(1, []), (2, []), (9, []), (3, []), (7, []), (5, []), (6, []), (4, [])],
      nextId := 8, hmeta := [(0, 0), (1, 2)] } := by decide +kernel

example : ReachableD C12.exampleObject := ⟨C12.exampleHistory, 0, C02.cmds_WF_of_ok _ (by decide +kernel), rfl⟩
/-- the listings of the object (note the re-inserted `((5,),(6,))` after `((3,7),(1,))`) and of the changed copy -/
example : listing C12.exampleObject = [([1], [2]), ([2], [1]), ([1], [3]), ([3, 7], [1]), ([5], [6]), ([4], [5])] ∧
    C02.nodes C12.exampleObject = [1, 2, 9, 3, 7, 5, 6, 4] ∧
    (AL.get? (C02.runCmds [] C12.exampleHistory) 1).map listing = some [([5], [6]), ([4], [5])] := by decide +kernel
/-- the hypotheses of `C12_link_degrees` hold for node 1 and each kind of filter; the values are non-trivial -/
example : C02.checkNode C12.exampleObject 1 = true ∧ C02.Filt.target (.size 2) = some (some 2) ∧
    C02.Filt.target (.order 2) = some (some 3) ∧
    C02.inDegree C12.exampleObject 1 .all = some 2 ∧ inDegree (listing C12.exampleObject) none 1 = 2 ∧
    C02.outDegree C12.exampleObject 1 (.size 2) = some 1 ∧ outDegree (listing C12.exampleObject) (some 2) 1 = 1 ∧
    C02.outDegree C12.exampleObject 1 (.order 2) = some 1 ∧ outDegree (listing C12.exampleObject) (some 3) 1 = 1 ∧
    C02.sourceEdges C12.exampleObject 1 .all = some [([1], [2]), ([1], [3])] := by rw [C12.exampleObject_eq]; decide +kernel
/-- the rejections are real: node 8 was removed, and `both` raises -/
example : C02.checkNode C12.exampleObject 8 = false ∧ C02.inDegree C12.exampleObject 8 .all = none ∧
    C02.outDegree C12.exampleObject 1 .both = none := by rw [C12.exampleObject_eq]; decide +kernel
example : C02.inDegreeSeq C12.exampleObject (.size 2) =
      some [(1, 2), (2, 1), (9, 0), (3, 0), (7, 0), (5, 1), (6, 0), (4, 1)] ∧
    inDegreeSeq (C02.nodes C12.exampleObject) (listing C12.exampleObject) (some 2) =
      [(1, 2), (2, 1), (9, 0), (3, 0), (7, 0), (5, 1), (6, 0), (4, 1)] ∧
    C02.outDegreeSeq C12.exampleObject .all =
      some [(1, 2), (2, 1), (9, 0), (3, 1), (7, 0), (5, 1), (6, 1), (4, 0)] := by rw [C12.exampleObject_eq]; decide +kernel
/-- on this object the three ratios differ: exact < strong for size 2, strong < weak for size 3 -/
example : recCount isExact (bounded 3 (listing C12.exampleObject)) 2 <
      recCount isStrong (bounded 3 (listing C12.exampleObject)) 2 ∧
    recCount isStrong (bounded 3 (listing C12.exampleObject)) 3 <
      recCount isWeak (bounded 3 (listing C12.exampleObject)) 3 ∧
    C02.edges C12.exampleObject (.size 2) false =
      some [([1], [2]), ([2], [1]), ([1], [3]), ([5], [6]), ([4], [5])] ∧
    total (bounded 3 (listing C12.exampleObject)) 2 = 5 := by rw [C12.exampleObject_eq]; decide +kernel
/-- `check_edge` of the reverse: `((1,),(2,))` is exactly reciprocated, `((1,),(3,))` is not -/
example : ([1], [2]) ∈ bounded 3 (listing C12.exampleObject) ∧ ([1], [3]) ∈ bounded 3 (listing C12.exampleObject) ∧
    C02.checkEdge C12.exampleObject (C02.RawEdge.ofKey ([2], [1])) = some true ∧
    C02.checkEdge C12.exampleObject (C02.RawEdge.ofKey ([3], [1])) = some false := by rw [C12.exampleObject_eq]; decide +kernel
/-- signature: default bound 3, cells `(1,1)` = 5, `(2,1)` = 1, sum = 6 = `num_edges()`; bound 2 drops one hyperedge -/
example : C02.maxSize C12.exampleObject = some 3 ∧ signature (listing C12.exampleObject) 3 = [5, 0, 1, 0] ∧
    C02.numEdges C12.exampleObject = 6 ∧ signature (listing C12.exampleObject) 2 = [5] ∧
    (C02.edges C12.exampleObject (.size 2) true).map List.length = some 5 ∧
    C02.maxSize (C02.clear C12.exampleObject) = none := by rw [C12.exampleObject_eq]; decide +kernel

example : inDegreeCall (C02.nodes C12.exampleObject) (listing C12.exampleObject) (some 1) none 1 = some 2 ∧
    C02.inDegree C12.exampleObject 1 (C12.filtOf (some 1) none) = some 2 ∧
    outDegreeCall (C02.nodes C12.exampleObject) (listing C12.exampleObject) (some 1) (some 2) 1 = none ∧
    C02.outDegree C12.exampleObject 1 (C12.filtOf (some 1) (some 2)) = none ∧
    inDegreeCall (C02.nodes C12.exampleObject) (listing C12.exampleObject) none none 8 = none ∧
    C02.inDegree C12.exampleObject 8 (C12.filtOf none none) = none := by rw [C12.exampleObject_eq]; decide +kernel

/-! `Driver/C12.lean` executes the calls of a history - constructor, copies, insertions, REJECTED calls, removals,
`remove_node` with both `keep_edges` values - with `C02.step` and hands the listings of a slot to the routines above. -/

/-- **The history the driver runs is the history of the link theorems.**  `histRun` (one `C02.step` per line of the
protocol, REJECTED calls included - they leave the state as it was and answer `rej`) is `C02.runCmds`; the listings the
driver hands to the routines are `listing s` / `C02.nodes s` of the link theorems. -/
theorem C12_hist_run (st : C02.State) (cs : List C02.Cmd) :
    histRun st cs = C02.runCmds st cs ∧ ∀ s : C02.Store, histListing s = listing s ∧ histNodes s = C02.nodes s := by
  refine ⟨?_, fun s => ⟨rfl, rfl⟩⟩
  induction cs generalizing st with
  | nil => rfl
  | cons c cs ih => exact ih _

/-- **What the driver answers after any history satisfies the property.**  For every sequence of constructor calls,
copies and mutating calls whose `add_edge` arguments have duplicate-free, disjoint, non-empty sides (`Cmd.WF`, the
property's quantifier; nothing is asked of weights, of the presence of what is removed, of the nodes handed to
`remove_node`: those calls may be rejected), for the object in any slot, every bound and size:
exact ≤ strong ≤ weak, within [0, 1]; the degree sequences list every node of `get_nodes()` once, in order (their values
are `C12_sequences`); the cells of the signature sum to the number of listed hyperedges within the bound. -/
theorem C12_hist_measures (cs : List C02.Cmd) (hcs : ∀ c ∈ cs, c.WF) (slot : Nat) (s : C02.Store)
    (hs : AL.get? (histRun [] cs) slot = some s) (m k : Nat) (size : Option Nat) :
    reciprocity isExact (histListing s) m k ≤ reciprocity isStrong (histListing s) m k ∧
    reciprocity isStrong (histListing s) m k ≤ reciprocity isWeak (histListing s) m k ∧
    0 ≤ reciprocity isExact (histListing s) m k ∧ reciprocity isWeak (histListing s) m k ≤ 1 ∧
    (inDegreeSeq (histNodes s) (histListing s) size).map (·.1) = histNodes s ∧
    (outDegreeSeq (histNodes s) (histListing s) size).map (·.1) = histNodes s ∧
    (histNodes s).Nodup ∧ (histListing s).Nodup ∧
    (signature (histListing s) m).sum = (histListing s).countP (fun e => esize e ≤ m) := by
  rw [(C12_hist_run [] cs).1] at hs
  have g := good_of_history cs hcs slot s hs
  have o := C12_link_order s ⟨cs, slot, hcs, hs⟩ m k
  have sq := C12_sequences (C02.nodes s) (listing s) size
  exact ⟨o.1, o.2.1, o.2.2.1, o.2.2.2.1, sq.1, sq.2.1, nodes_nodup g, listing_nodup g,
    C12_signature_sum (listing s) m (listing_nonempty g)⟩

/-- after every history of public calls (C02's quantifier; rejected calls included), for the object in any slot, every
filter: Σ in-degrees = Σ source sizes, Σ out-degrees = Σ target sizes of the selected hyperedges of `get_edges()`; the
flattened 2-d accumulation is the signature; the anti-diagonals of the signature are the reciprocity denominators; the
three routines run loop by loop return the closed-form tables; the exactly reciprocated hyperedges of a size are even
in number -/
theorem C12_hist_identities (cs : List C02.Cmd) (hcs : ∀ c ∈ cs, c.WF) (slot : Nat) (s : C02.Store)
    (hs : AL.get? (histRun [] cs) slot = some s) (m k : Nat) (size : Option Nat) :
    sumInDegrees (histNodes s) (histListing s) size = sumSourceSizes (histListing s) size ∧
    sumOutDegrees (histNodes s) (histListing s) size = sumTargetSizes (histListing s) size ∧
    signatureLoop (histListing s) m = signature (histListing s) m ∧
    (2 ≤ k → k ≤ m → sigDiagonal (signature (histListing s) m) m k = total (bounded m (histListing s)) k) ∧
    exactRun (histListing s) m = reciprocityTable isExact (histListing s) m ∧
    strongRun (histListing s) m = reciprocityTable isStrong (histListing s) m ∧
    weakRun (histListing s) m = reciprocityTable isWeak (histListing s) m ∧
    recCount isExact (bounded m (histListing s)) k % 2 = 0 := by
  rw [(C12_hist_run [] cs).1] at hs
  have g := good_of_history cs hcs slot s hs
  have hne := listing_nonempty g
  have h := C12_handshake (C02.nodes s) (listing s) size (nodes_nodup g) (listing_sides g)
  have hl := C12_loops (listing s) m (listing_nodup g)
  exact ⟨h.1, h.2.1, C12_signature_loop _ m hne, fun h1 h2 => C12_signature_diagonal _ m k h1 h2 hne,
    hl.1, hl.2.1, hl.2.2, C12_exact_even (listing s) m k (listing_nodup g) fun e he =>
      ⟨(hne e he).1, (listing_wf g e he).1.disj⟩⟩

/-! Non-vacuity: a rejected call, its retry, and a shrunk hyperedge that coincides with a stored one.
`add_edge(((3,),(1,)), weight=2)` on a hypergraph that is not weighted is REJECTED and leaves no trace; the retry
without weight inserts it; `remove_node(2, keep_edges=True)` shrinks `((1,2),(3,))` onto the stored `((1,),(3,))`:
ONE hyperedge, counted once by the degrees. -/
def C12.rejectHistory : List C02.Cmd :=
  [ .new 0 false none none none none none,
    .op 0 (.addEdge (.ofLists [1, 2] [3]) none none),
    .op 0 (.addEdge (.ofLists [1] [3]) none none),
    .op 0 (.addEdge (.ofLists [3] [1]) (some 8) none),
    .op 0 (.addEdge (.ofLists [3] [1]) none none),
    .op 0 (.removeNode 2 true) ]

example : (∀ c ∈ C12.rejectHistory, c.WF) := C02.cmds_WF_of_ok _ (by decide +kernel)
/-- the rejected call answers `rej` and changes nothing -/
example : (C02.step (histRun [] (C12.rejectHistory.take 3)) (.op 0 (.addEdge (.ofLists [3] [1]) (some 8) none))) =
    (histRun [] (C12.rejectHistory.take 3), .rej) := by decide +kernel
example : (AL.get? (histRun [] (C12.rejectHistory.take 4)) 0).map histListing = some [([1, 2], [3]), ([1], [3])] ∧
    (AL.get? (histRun [] C12.rejectHistory) 0).map histListing = some [([1], [3]), ([3], [1])] ∧
    (AL.get? (histRun [] C12.rejectHistory) 0).map histNodes = some [1, 3] ∧
    (AL.get? (histRun [] C12.rejectHistory) 0).map (fun s => inDegreeSeq (histNodes s) (histListing s) none) =
      some [(1, 1), (3, 1)] ∧
    (AL.get? (histRun [] C12.rejectHistory) 0).map (fun s => outDegreeSeq (histNodes s) (histListing s) (some 2)) =
      some [(1, 1), (3, 1)] ∧
    (AL.get? (histRun [] C12.rejectHistory) 0).map (fun s => signature (histListing s) 3) = some [2, 0, 0, 0] ∧
    (AL.get? (histRun [] C12.rejectHistory) 0).map (fun s => recCount isExact (bounded 3 (histListing s)) 2) = some 2 := by
  decide +kernel
