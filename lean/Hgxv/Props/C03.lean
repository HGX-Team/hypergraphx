import Hgxv.Proofs.C03Cor
import Hgxv.Proofs.C03Ref
import Hgxv.Proofs.C03Keep
import Hgxv.Proofs.C03Full
import Hgxv.Model.C03Kind
import Hgxv.Proofs.C03Ext
import Hgxv.Proofs.C03Raw
/-! # C03 - TemporalHypergraph keeps (time, hyperedge) records; windows / snapshots / aggregate agree

Model: `Hgxv/Model/C03.lean` (mirror of `hypergraphx/core/temporal_hypergraph.py` after the `fix:` commits of branch
`wC03`), `Model/C03Spec.lean` (the map `Spec`, `abs`), `Model/C03Full.lean` (whole objects with the incidence table, routes),
`Model/C03Kind.lean` (kinds of answers), `Model/C03Ext.lean` (constructor, hashing view, mapping, raw tables, `xstep`),
`Model/C03Raw.lean` (raw setters, `rstep`).  The notions of the statements that no model file defines are in the proof
modules: `Inv`, `SOp.WF`, `Op.WF`, `StateInv` (`Proofs/C03Inv`); `Reachable`, `absState` (`Proofs/C03Ref`); `recWeights`,
`windowRecs`, `inWindow` (`Proofs/C03Agg`); `shrinkKey` (`Proofs/C03Keep`); `FOp.WF`, `FOp.target`, `FReachable`
(`Proofs/C03Full`); `CtorArgs.WF`, `XOp.WF`, `XReachable`, `xspecRun` (`Proofs/C03Ext`); the histories and objects of the
examples `demoOps`, `demoStore` (`Proofs/C03Cor`), `fullOps`, `fullObj` (`Proofs/C03Full`), `keepOps`, `keepStore` (`Proofs/C03Keep`).

Hypotheses.  `Reachable s` = `s` is the content of some slot after some finite history of well-formed public calls
(`Op.WF`: every inserted hyperedge is a duplicate-free node tuple - the property quantifies over node SETS; nothing else
is assumed, malformed calls included); `FReachable` / `XReachable` are the same for the machines with incidence calls and
routes / with constructor calls (`CtorArgs.WF`, `XOp.WF`: node sets again), and `C03_full_reachable`, `C03_ext_projection`
bring their objects back to `Reachable`.  The theorems about one store assume `Reachable s` or nothing, those about
histories well-formed calls or nothing (`C03_raw_echo_history` besides: every raw assignment is an echo), and besides that
only the hypotheses each theorem names for the call in question, such as: the node is a node (`C03_incident_once`,
`C03_remove_node_keep`), slot `i` holds an object (`C03_copy_complete`, `C03_tables_route`), the record is there and the
weight is one the flag admits (`C03_reinsert`), the width is positive (`C03_aggregate`, `C03_aggregate_partition`, the latter
for an object with a record: `maxTime s = some M`), the window misses every record (`C03_window_miss`), `a ≤ b ≤ c`
(`C03_windows_partition`).
`get?`-statements are "equal as maps"; listings are compared as multisets (`List.Perm`) or membership + `Nodup`. -/
open C03 AL

/-! ## the invariant and the refinement: the store is the map of its history -/

/-- Invariant for every history, after every prefix (a prefix of a history is a history): in every object the edge index
has distinct canonical keys, `_reverse_edge_list` is its inverse, ids are below `_next_edge_id`, `_weights` and
`_edge_metadata` have exactly the live ids, `_adj[n]` is exactly the list of ids of the records containing `n` (each once,
in creation order), every node of every record is a node, `_adj` and `_node_metadata` have the same keys, and an
unweighted hypergraph only stores weight 1. -/
theorem C03_inv (ops : List Op) (hwf : ∀ op ∈ ops, op.WF) : StateInv (run [] ops) :=
  run_inv ops hwf [] (by intro p hp; cases hp)

/-- **Refinement of the state.** Running any history of well-formed public calls on the concrete stores and then
forgetting ids, reverse table and adjacency (`abs`: weightedness, nodes with metadata, the map
`(time, node set) ↦ (weight, metadata)` in creation order, hypergraph metadata) gives exactly the result of running the
same history on the abstract maps (`Spec.applyOp`: plain map updates).  Holds for every list, hence after every prefix. -/
theorem C03_refines_state (ops : List Op) (hwf : ∀ op ∈ ops, op.WF) : absState (run [] ops) = specRun [] ops :=
  (run_sim ops hwf [] (by intro p hp; cases hp)).2

/-- **Refinement of the outcomes.** After any history, a further public mutating call is accepted / rejected by the
store exactly as by the map. -/
theorem C03_refines_outcome (ops : List Op) (hwf : ∀ op ∈ ops, op.WF) (i : Nat) (o : SOp) (ho : o.WF) :
    (step (run [] ops) (.on i o)).2 =
      match get? (specRun [] ops) i with
      | none => .out .rej
      | some sp => .out (Spec.applyOp sp o).2 := by
  rw [← C03_refines_state ops hwf]
  exact step_out_abs _ (C03_inv ops hwf) i o ho

/-- **Refinement of the queries.** After any history, every query (hyperedges with or without time window and
order/size filter, counts, weights, times of a hyperedge, min/max time, incident hyperedges, neighbours, degrees, degree
sequence/distribution, sizes, uniformity, all metadata getters, isolated nodes, snapshots, aggregate) is answered by the
store exactly as by the map of the same history (`Spec.answer`: the same query code read off the map, where "incident to
n" is "node set contains n").  Excluded: the two listings that expose internal edge ids. -/
theorem C03_refines (ops : List Op) (hwf : ∀ op ∈ ops, op.WF) (i : Nat) (q : Query) (hq : q.exposesIds = false) :
    (step (run [] ops) (.query i q)).2 =
      match get? (specRun [] ops) i with
      | none => .ans .rej
      | some sp => .ans (Spec.answer sp q) := by
  rw [← C03_refines_state ops hwf]
  simp only [step, absState, get?_mapVals]
  cases hg : get? (run [] ops) i with
  | none => rfl
  | some s =>
    simp only [Option.map_some]
    rw [answer_abs s ((C03_inv ops hwf).get hg) q hq]

/-- The record listing and the weight / metadata lookups of a reachable store ARE the key list and the values of the map
of its history - so the statements below about `edgeKeys`, `weightOfKey`, `metaOfKey`, `s.nmeta` are statements about
the map `(time, node set) ↦ (weight, metadata)` and its nodes. -/
theorem C03_content_is_map (s : Store) (hs : Reachable s) :
    edgeKeys s = keys (abs s).recs ∧ (keys (abs s).recs).Nodup ∧ s.nmeta = (abs s).nodes ∧
    (∀ k, weightOfKey s k = (get? (abs s).recs k).map (·.1)) ∧ (∀ k, metaOfKey s k = (get? (abs s).recs k).map (·.2)) := by
  have h := reachable_inv hs
  exact ⟨(keys_records s).symm, (abs_tab h).knd, rfl, weightOfKey_abs s h, metaOfKey_abs s h⟩

/-! ## the mutating calls: rejected calls, node order, re-insertion, `remove_node(keep_edges=True)` -/

/-- Non-integer or negative times are rejected and leave the object untouched - single insertions and whole batches. -/
theorem C03_time_rejected (s : Store) (t : TimeArg) (ht : t = .bad ∨ ∃ i, t = .int i ∧ i < 0) :
    (∀ raw w md, addEdge s raw t w md = (s, .rej)) ∧
    (∀ raws ts ws mds, t ∈ ts → addEdges s raws ts ws mds = (s, .rej)) :=
  ⟨fun raw w md => addEdge_bad_time s raw t w md ((validTime_none_iff t).mpr ht),
   fun raws ts ws mds hm => addEdges_bad_time s raws ts ws mds t hm ((validTime_none_iff t).mpr ht)⟩

/-- Every rejected call - single or batched - is a no-op on the whole state. -/
theorem C03_rejected_noop (st : State) (i : Nat) (o : SOp) (hr : (step st (.on i o)).2 = .out .rej) :
    (step st (.on i o)).1 = st := by
  simp only [step] at *
  cases hg : get? st i with
  | none => rfl
  | some s =>
    rw [hg] at hr
    simp only [] at *
    have : (applyOp s o).2 = .rej := by simpa using hr
    rw [applyOp_rej s o this]; exact set_same st i s hg

/-- The order in which the nodes of a hyperedge are given is irrelevant for insertion, removal, the id lookup `idOf`
(through which `set_weight` and the metadata setters find their record) and `get_times_for_edge`. -/
theorem C03_order_irrelevant (s : Store) (r1 r2 : List Nat) (h : r1.Perm r2) (t : TimeArg) :
    (∀ w md, addEdge s r1 t w md = addEdge s r2 t w md) ∧ removeEdge s r1 t = removeEdge s r2 t ∧
    idOf s r1 t = idOf s r2 t ∧ timesFor s r1 = timesFor s r2 :=
  ⟨fun w md => addEdge_perm s r1 r2 h t w md, removeEdge_perm s r1 r2 h t, idOf_perm s r1 r2 h t,
   by simp [timesFor, V.timesFor, canon_eq_of_perm r1 r2 h]⟩

/-- Re-inserting an existing `(time, node set)` record: accepted; the key set is unchanged; weighted: the weights add;
unweighted: the weight stays; the metadata is replaced. -/
theorem C03_reinsert (s : Store) (raw : List Nat) (t : Nat) (w : Option Int) (md : Option Meta) (id : Nat)
    (hget : get? s.edgeList (t, canon raw) = some id) (hok : s.weighted = true ∨ w = none ∨ w = some one) :
    (addEdge s raw (.int t) w md).2 = .ok ∧
    (addEdge s raw (.int t) w md).1.edgeList = s.edgeList ∧
    (addEdge s raw (.int t) w md).1.weights =
      (if s.weighted then AL.set s.weights id (((get? s.weights id).getD 0) + w.getD one) else s.weights) ∧
    (addEdge s raw (.int t) w md).1.emeta = AL.set s.emeta id (md.getD []) := by
  rw [addEdge_eq, edgeArgs_nat _ _ _ _ hok]
  simp only [addEdgeKey, hget, addEdgeOld]
  exact ⟨trivial, (touchNodes_fields _ _).1, (touchNodes_fields _ _).2.2.1, (touchNodes_fields _ _).2.2.2.1⟩

/-- **`remove_node(n, keep_edges=True)`, record by record** (the fold of delete + re-insert that the code runs, in closed
form, independent of the order in which the incident records are processed).  On every reachable object, for a node `n`:
the call succeeds; no record containing `n` is left; every record `k ∋ n` whose node set minus `n` is non-empty ends up
under `shrinkKey n k = (time, node set minus n)` MERGED with the record that was already there (`Spec.recVal`: weighted -
the two weights add, unweighted - the weight stays 1; the moved record's metadata wins; without a record there the moved
weight and metadata are kept); a record `{n}` is dropped; every other record (no `n`, no record shrinking onto it) is
unchanged.  With `C03_inv` / `C03_incident_once` the merged record is ONE record with one id, listed once per node.
`abs` is the map of the object (`C03_content_is_map`). -/
theorem C03_remove_node_keep (s : Store) (hs : Reachable s) (n : Node) (hn : (get? s.nmeta n).isSome) :
    (removeNode s n true).2 = .ok ∧
    (abs (removeNode s n true).1).weighted = s.weighted ∧
    (∀ k', n ∈ k'.2 → get? (abs (removeNode s n true).1).recs k' = none) ∧
    (∀ k', n ∉ k'.2 → (∀ k, (get? (abs s).recs k).isSome → n ∈ k.2 → shrinkKey n k = k' → k'.2 = []) →
      get? (abs (removeNode s n true).1).recs k' = get? (abs s).recs k') ∧
    (∀ k w md, get? (abs s).recs k = some (w, md) → n ∈ k.2 → (shrinkKey n k).2 ≠ [] →
      get? (abs (removeNode s n true).1).recs (shrinkKey n k) =
        some (Spec.recVal s.weighted (get? (abs s).recs (shrinkKey n k)) w md)) := by
  have hinv := reachable_inv hs
  obtain ⟨_, h1, h2⟩ := removeNode_sim s hinv n true
  rw [h1, h2]
  exact removeNode_keep_spec (abs s) (specWF_abs s hinv) n hn

/-! ## listings: time windows, times of a hyperedge, min / max time, incident records, kinds of answers -/

/-- A time window `(a, b)` selects exactly the records with `a ≤ t < b` (membership). -/
theorem C03_window (s : Store) (a b : Int) (k : Key) :
    k ∈ window s a b ↔ k ∈ edgeKeys s ∧ a ≤ (k.1 : Int) ∧ (k.1 : Int) < b :=
  mem_window s a b k

/-- ... and with the same multiplicities: the windowed listing is a permutation of the filtered key list (with `window_nodup`
it is duplicate-free whenever the key list is, as on every reachable store). -/
theorem C03_window_listing (s : Store) (a b : Int) :
    (window s a b).Perm ((edgeKeys s).filter (fun k => decide (a ≤ (k.1 : Int)) && decide ((k.1 : Int) < b))) :=
  window_perm s a b

/-- `get_edges(time_window=(a,b), order|size, up_to)`: rejected iff both `order` and `size` are given; otherwise the
records in the window whose size passes the filter (`size = k` is `order = k-1`; `up_to` is `≤`). -/
theorem C03_get_edges_window (s : Store) (a b : Int) (f : Filt) :
    (f.order.isSome ∧ f.size.isSome → getEdges s (.pair a b) f = none) ∧
    (¬ (f.order.isSome ∧ f.size.isSome) → ∃ l, getEdges s (.pair a b) f = some l ∧ ∀ k, k ∈ l ↔
      (k ∈ edgeKeys s ∧ a ≤ (k.1 : Int) ∧ (k.1 : Int) < b ∧
        ∀ o, effOrder f.order f.size = some o →
          if f.upTo then ((k.2.length : Int) - 1 ≤ o) else ((k.2.length : Int) - 1 = o))) := by
  constructor
  · intro h; simp [getEdges, V.getEdges, h.1, h.2]
  · intro h
    have hb : (f.order.isSome && f.size.isSome) = false := by
      cases h1 : f.order.isSome <;> cases h2 : f.size.isSome <;> simp_all
    refine ⟨applyFilt f (window s a b), by simp [getEdges, V.getEdges, view, window, hb], ?_⟩
    intro k
    rw [mem_applyFilt, mem_window]
    constructor
    · rintro ⟨⟨h1, h2, h3⟩, h4⟩
      exact ⟨h1, h2, h3, fun o ho => (passes_iff o f.upTo k).mp (h4 o ho)⟩
    · rintro ⟨h1, h2, h3, h4⟩
      exact ⟨⟨h1, h2, h3⟩, fun o ho => (passes_iff o f.upTo k).mpr (h4 o ho)⟩

/-- A window that selects no record (it lies before the first or after the last time, between two times, is empty or
inverted - or the object has no records at all) is answered with the EMPTY container of the kind the options call for:
the empty list of records without `metadata`, the empty map record ↦ metadata with it, whatever the order / size /
up_to filter (rejected, as always, iff both `order` and `size` are given). -/
theorem C03_window_miss (s : Store) (a b : Int) (f : Filt) (m : Bool)
    (hmiss : ∀ k ∈ edgeKeys s, ¬ (a ≤ (k.1 : Int) ∧ (k.1 : Int) < b)) :
    (f.order.isSome ∧ f.size.isSome → answer s (.edges (.pair a b) f m) = .rej) ∧
    (¬ (f.order.isSome ∧ f.size.isSome) → answer s (.edges (.pair a b) f m) = if m then .recsMeta [] else .recs []) := by
  constructor
  · intro h
    have := (C03_get_edges_window s a b f).1 h
    simp only [getEdges] at this
    cases m <;> simp [answer, V.answer, this, optAns]
  · intro h
    obtain ⟨l, hl, hmem⟩ := (C03_get_edges_window s a b f).2 h
    have hnil : l = [] := by
      apply List.eq_nil_iff_forall_not_mem.mpr
      intro k hk
      have := (hmem k).mp hk
      exact hmiss k this.1 ⟨this.2.1, this.2.2.1⟩
    subst hnil
    simp only [getEdges] at hl
    cases m <;> simp [answer, V.answer, hl, optAns]

/-- **Consecutive half-open windows partition the records.** For `a ≤ b ≤ c` (on every store): a record is in the window
`(a, c)` iff it is in `(a, b)` or in `(b, c)`, never in both, and the listing of `(a, c)` is as long as the two together
(with `C03_window_listing`: each record of `[a, c)` is listed once in exactly one of the two). -/
theorem C03_windows_partition (s : Store) (a b c : Int) (hab : a ≤ b) (hbc : b ≤ c) :
    (∀ k, k ∈ window s a c ↔ (k ∈ window s a b ∨ k ∈ window s b c)) ∧
    (∀ k, ¬ (k ∈ window s a b ∧ k ∈ window s b c)) ∧
    (window s a c).length = (window s a b).length + (window s b c).length := by
  refine ⟨?_, ?_, window_length_split s a b c hab hbc⟩
  · intro k; simp only [mem_window]; constructor
    · rintro ⟨h1, h2, h3⟩
      by_cases h : (k.1 : Int) < b
      · exact .inl ⟨h1, h2, h⟩
      · exact .inr ⟨h1, by omega, h3⟩
    · rintro (⟨h1, h2, h3⟩ | ⟨h1, h2, h3⟩)
      · exact ⟨h1, h2, by omega⟩
      · exact ⟨h1, by omega, h3⟩
  · intro k; simp only [mem_window]; rintro ⟨⟨_, _, h3⟩, ⟨_, h5, _⟩⟩; omega

/-- `get_times_for_edge(e)` lists exactly the times at which the node set of `e` has a record (node order irrelevant). -/
theorem C03_times_for_edge (s : Store) (raw : List Nat) (t : Nat) :
    t ∈ timesFor s raw ↔ (t, canon raw) ∈ edgeKeys s := by
  simp only [timesFor, V.timesFor, view]
  simp only [List.mem_map, List.mem_filter, beq_iff_eq]
  constructor
  · rintro ⟨k, ⟨hk, he⟩, ht⟩
    obtain ⟨t', e⟩ := k
    simp at he ht; subst he; subst ht; exact hk
  · intro h; exact ⟨(t, canon raw), ⟨h, rfl⟩, rfl⟩

/-- `min_time()` / `max_time()`: `±inf` (`none`) exactly when there is no record, else the least / largest recorded time. -/
theorem C03_min_max_time (s : Store) :
    ((minTime s = none ↔ edgeKeys s = []) ∧
      ∀ m, minTime s = some m → (∃ k ∈ edgeKeys s, k.1 = m) ∧ ∀ k ∈ edgeKeys s, m ≤ k.1) ∧
    ((maxTime s = none ↔ edgeKeys s = []) ∧
      ∀ m, maxTime s = some m → (∃ k ∈ edgeKeys s, k.1 = m) ∧ ∀ k ∈ edgeKeys s, k.1 ≤ m) :=
  ⟨minTime_spec s, maxTime_spec s⟩

/-- On a reachable store `get_incident_edges(n)` is exactly the list of records containing `n` (creation order), each
once; hence `degree(n)` counts every record once. -/
theorem C03_incident_once (s : Store) (hs : Reachable s) (n : Node) (hn : (get? s.adj n).isSome) :
    incident s n none none = some ((edgeKeys s).filter (fun k => k.2.contains n)) ∧
    ((edgeKeys s).filter (fun k => k.2.contains n)).Nodup ∧
    degree s n none none = some ((edgeKeys s).filter (fun k => k.2.contains n)).length := by
  have hinv := reachable_inv hs
  have h1 := incident_eq s hinv n hn
  exact ⟨h1, hinv.keysNodup.filter _, by simp only [degree, V.degree]; rw [show V.incident (view s) n none none = incident s n none none from rfl, h1]; rfl⟩

/-- None of the derivations (any query: listings, windows, times, min/max, snapshots, aggregate, degrees, metadata)
changes the temporal hypergraph: in the model a query step returns the state it was given (the code side of this
claim is the before/after digest comparison of the harness). -/
theorem C03_pure (st : State) (i : Nat) (q : Query) : (step st (.query i q)).1 = st := by
  simp only [step]; split <;> rfl

/-- Whatever the content of the object and wherever a window lies: a query is either rejected, or its answer has the
kind (`Ans.kind`: list of records / map record ↦ metadata / map record ↦ weight / numbers / counts / snapshots / number /
truth value ...) that the query and its options call for (`Query.kind`); the only content-dependent case is
`min_time()` / `max_time()`, which answer `±inf` only on an object without records (with `C03_min_max_time`: exactly
there).  In particular
`get_edges(time_window, order|size, up_to, metadata=True)` is a map record ↦ metadata on every store and for every
window (seeded C03-e1: a fast path for windows that miss every record returned the empty LIST). -/
theorem C03_answer_kind (s : Store) (q : Query) :
    answer s q = .rej ∨ (answer s q).kind = q.kind ∨
      ((q = .minTime ∨ q = .maxTime) ∧ edgeKeys s = [] ∧ (answer s q).kind = .inf) := by
  -- an optional answer is a rejection or has the kind of its `some` branch; every other answer is a constructor
  have hopt : ∀ {α : Type} (o : Option α) (f : α → Ans) (k : Kind), (∀ a, (f a).kind = k) →
      optAns o f = .rej ∨ (optAns o f).kind = k ∨ ((q = .minTime ∨ q = .maxTime) ∧ edgeKeys s = [] ∧ (answer s q).kind = .inf) := by
    intro α o f k hf
    cases o with
    | none => exact Or.inl rfl
    | some a => exact Or.inr (Or.inl (hf a))
  cases q with
  | edges w f m => cases m <;> exact hopt _ _ _ fun _ => rfl
  | weights f d => cases d <;> exact hopt _ _ _ fun _ => rfl
  | minTime =>
    cases h : V.minTime (view s) with
    | none => exact Or.inr (Or.inr ⟨Or.inl rfl, (C03_min_max_time s).1.1.mp h, by simp only [answer, V.answer, h, Ans.kind]⟩)
    | some t => exact Or.inr (Or.inl (by simp only [answer, V.answer, h, Ans.kind, Query.kind]))
  | maxTime =>
    cases h : V.maxTime (view s) with
    | none => exact Or.inr (Or.inr ⟨Or.inr rfl, (C03_min_max_time s).2.1.mp h, by simp only [answer, V.answer, h, Ans.kind]⟩)
    | some t => exact Or.inr (Or.inl (by simp only [answer, V.answer, h, Ans.kind, Query.kind]))
  | nodes | nodesMeta | checkNode _ | numNodes | checkEdge _ _ | sizes | orders | distSizes | uniform | weighted
  | allEdgeMeta | hMeta | len | iter | timesFor _ => exact Or.inr (Or.inl rfl)
  | _ => exact hopt _ _ _ fun _ => rfl

/-! ## snapshots and aggregate -/

/-- Per-time snapshots (`subhypergraph(time_window)`): a window that is not a tuple is rejected; otherwise the call
succeeds, a time `t` is a key iff it lies in the window and some record has time `t`, and the hypergraph of `t` has the
weightedness of the temporal hypergraph and exactly the node sets recorded at `t`, each with the record's weight. -/
theorem C03_snapshot (s : Store) (hs : Reachable s) (w : Win) :
    (w = .bad → snapshots s w = none) ∧
    (∀ a b, (w = .none ∧ a = none ∧ b = none) ∨ (∃ x y, w = .pair x y ∧ a = some x ∧ b = some y) →
      ∃ r, snapshots s w = some r ∧
        (∀ t, (get? r t).isSome ↔ (insideOpt a b t = true ∧ ∃ k ∈ edgeKeys s, k.1 = t)) ∧
        (∀ t h, get? r t = some h → h.weighted = s.weighted ∧
          (∀ e, (get? h.edges e).isSome ↔ (t, e) ∈ edgeKeys s) ∧
          (∀ e, (t, e) ∈ edgeKeys s → (get? h.edges e).map (·.1) = weightOfKey s (t, e)))) := by
  constructor
  · intro h; subst h; rfl
  · intro a b hab
    have ok := keysOK_of_inv s (reachable_inv hs)
    obtain ⟨r, hr, h1, h2⟩ := snapshots_spec s ok a b
    simp only [snapshots, V.snapshots, view, snapshotsOf]
    refine ⟨r, ?_, h1, h2⟩
    rcases hab with ⟨hw, ha, hb⟩ | ⟨x, y, hw, ha, hb⟩
    · subst hw ha hb; exact hr
    · subst hw ha hb; exact hr

/-- **The per-time snapshots partition the records.** On a reachable object `subhypergraph()` (no window) succeeds, and
`(t, e)` is a record IFF the snapshot of time `t` exists and has the hyperedge `e`: every record lies in exactly one
snapshot (its time's), no snapshot has a hyperedge that is not a record of its time, and no snapshot is empty. -/
theorem C03_snapshots_partition (s : Store) (hs : Reachable s) :
    ∃ r, snapshots s .none = some r ∧
      (∀ t e, (t, e) ∈ edgeKeys s ↔ ∃ h, get? r t = some h ∧ (get? h.edges e).isSome = true) ∧
      (∀ t h, get? r t = some h → ∃ e, (t, e) ∈ edgeKeys s) := by
  obtain ⟨r, hr, h1, h2⟩ := (C03_snapshot s hs .none).2 none none (.inl ⟨rfl, rfl, rfl⟩)
  refine ⟨r, hr, ?_, ?_⟩
  · intro t e
    constructor
    · intro hk
      have hsome : (get? r t).isSome = true := (h1 t).mpr ⟨by simp [insideOpt], (t, e), hk, rfl⟩
      obtain ⟨h, hh⟩ := Option.isSome_iff_exists.mp hsome
      exact ⟨h, hh, ((h2 t h hh).2.1 e).mpr hk⟩
    · rintro ⟨h, hh, he⟩
      exact ((h2 t h hh).2.1 e).mp he
  · intro t h hh
    obtain ⟨_, k, hk, hkt⟩ := (h1 t).mp (by rw [hh]; rfl)
    exact ⟨k.2, by rw [← hkt]; exact hk⟩

/-- `aggregate(w)` is rejected when `w` is not an integer or `w ≤ 0`. -/
theorem C03_aggregate_rejects (s : Store) (w : TimeArg) (hw : w = .bad ∨ ∃ i, w = .int i ∧ i ≤ 0) :
    aggregate s w = none := by
  rcases hw with h | ⟨i, h, hi⟩
  · subst h; rfl
  · subst h
    have : ¬ 0 < i := by omega
    simp [aggregate, V.aggregate, aggregateOf, this]

/-- `aggregate(w)`, `w` a positive integer, on a reachable store: without records the result is empty; otherwise, with
`M` the maximal time, the result has exactly the indices `0..⌊M/w⌋`, and the hypergraph of index `j` has the weightedness
of the temporal hypergraph, ALL its nodes with their metadata (and no other node), exactly the node sets having a record
with `j·w ≤ t < (j+1)·w`, each weighing the sum of the weights of those records when weighted and 1 otherwise. -/
theorem C03_aggregate (s : Store) (hs : Reachable s) (i : Int) (hi : 0 < i) :
    (edgeKeys s = [] → aggregate s (.int i) = some []) ∧
    (∀ M, maxTime s = some M → ∃ res, aggregate s (.int i) = some res ∧
      res.map (·.1) = List.range (M / i.toNat + 1) ∧
      ∀ j h, (j, h) ∈ res →
        h.weighted = s.weighted ∧
        (∀ n, get? h.nodes n = get? s.nmeta n) ∧
        (∀ e, (get? h.edges e).isSome ↔ ∃ t, (t, e) ∈ edgeKeys s ∧ j * i.toNat ≤ t ∧ t < (j + 1) * i.toNat) ∧
        (∀ e v, get? h.edges e = some v →
          v.1 = if s.weighted then (recWeights s (windowRecs s i.toNat j) e).sum else one)) := by
  have hinv := reachable_inv hs
  obtain ⟨h1, h2⟩ := aggregate_spec s (keysOK_of_inv s hinv) (nodesOK_of_inv s hinv) i hi
  refine ⟨h1, ?_⟩
  intro M hM
  obtain ⟨res, hr, hmap, hall⟩ := h2 M hM
  exact ⟨res, hr, hmap, fun j h hm => ⟨(hall j h hm).weighted, (hall j h hm).nodes, (hall j h hm).edges, (hall j h hm).weights⟩⟩

/-- **The windows of `aggregate(w)` partition the time axis and the records.** `w` a positive integer, reachable object with
a record: time `t` lies in window `j` (`j·w ≤ t < (j+1)·w`) IFF `j = ⌊t / w⌋`; every record `(t, e)` has its window
`⌊t / w⌋` among the results and `e` is a hyperedge of that window's hypergraph - and (by `C03_aggregate`) of no other
window's unless another record of the same node set falls there. -/
theorem C03_aggregate_partition (s : Store) (hs : Reachable s) (i : Int) (hi : 0 < i) (M : Nat) (hM : maxTime s = some M) :
    (∀ j t, (j * i.toNat ≤ t ∧ t < (j + 1) * i.toNat) ↔ j = t / i.toNat) ∧
    ∃ res, aggregate s (.int i) = some res ∧
      (∀ t e, (t, e) ∈ edgeKeys s → ∃ h, (t / i.toNat, h) ∈ res ∧ (get? h.edges e).isSome = true) ∧
      (∀ j h e, (j, h) ∈ res → (get? h.edges e).isSome = true → ∃ t, (t, e) ∈ edgeKeys s ∧ t / i.toNat = j) := by
  have hw : 0 < i.toNat := by omega
  refine ⟨window_index i.toNat hw, ?_⟩
  obtain ⟨res, hr, hmap, hall⟩ := (C03_aggregate s hs i hi).2 M hM
  refine ⟨res, hr, ?_, ?_⟩
  · intro t e hk
    have hle : t ≤ M := ((C03_min_max_time s).2.2 M hM).2 (t, e) hk
    have hj : t / i.toNat ∈ res.map (·.1) := by
      rw [hmap, List.mem_range]
      exact Nat.lt_succ_of_le (Nat.div_le_div_right hle)
    obtain ⟨p, hp, hpj⟩ := List.mem_map.mp hj
    refine ⟨p.2, by rw [← hpj]; exact hp, ?_⟩
    have hp' : (p.1, p.2) ∈ res := hp
    exact ((hall p.1 p.2 hp').2.2.1 e).mpr ⟨t, hk, by rw [hpj]; exact ((window_index i.toNat hw _ t).mpr rfl)⟩
  · intro j h e hm he
    obtain ⟨t, hk, h1, h2⟩ := ((hall j h hm).2.2.1 e).mp he
    exact ⟨t, hk, ((window_index i.toNat hw j t).mp ⟨h1, h2⟩).symm⟩

/-! ## non-vacuity: the hypotheses hold on a concrete non-trivial history (`demoOps`: 13 calls with a re-insertion in
permuted node order, two rejected times, a copy, a removal, a shrink-merge by `remove_node(keep_edges=True)`, a weighted
batch) and the conclusions are the expected concrete values -/

/-- the tables `demoOps` ends in; the history is run once, here, and the examples about `demoStore` are evaluated on them -/
def demoTables : Store :=
    { weighted := true
      edgeList := [((0, [1, 2]), 0), ((3, [1, 2]), 2), ((4, [1, 5]), 4), ((5, [2, 3]), 5)]
      rev := [(0, (0, [1, 2])), (2, (3, [1, 2])), (4, (4, [1, 5])), (5, (5, [2, 3]))]
      weights := [(0, 8), (2, 12), (4, 4), (5, 2)]
      emeta := [(0, []), (2, []), (4, []), (5, [])]
      adj := [(1, [0, 2, 4]), (2, [0, 2, 5]), (4, []), (5, [4]), (3, [5])]
      nmeta := [(1, []), (2, []), (4, []), (5, []), (3, [])]
      nextId := 6
      hmeta := [(100, 91), (101, 92)] }

theorem demoRun : get? (run [] demoOps) 0 = some demoTables := by decide +kernel
theorem demoStore_eq : demoStore = demoTables := by rw [demoStore, demoRun]; rfl
example : ∀ op ∈ demoOps, op.WF := by decide +kernel
example : get? (run [] demoOps) 0 = some demoStore := demoStore_eq ▸ demoRun
theorem demoStore_reachable : Reachable demoStore := ⟨demoOps, by decide +kernel, 0, demoStore_eq ▸ demoRun⟩
example : Reachable demoStore := demoStore_reachable
example : StateInv (run [] demoOps) := C03_inv demoOps (by decide +kernel)
example : edgeKeys demoStore = [(0, [1, 2]), (3, [1, 2]), (4, [1, 5]), (5, [2, 3])] := by rw [demoStore_eq]; decide +kernel
example : window demoStore 3 5 = [(3, [1, 2]), (4, [1, 5])] := by rw [demoStore_eq]; decide +kernel
example : maxTime demoStore = some 5 ∧ minTime demoStore = some 0 ∧ timesFor demoStore [2, 1] = [0, 3] := by rw [demoStore_eq]; decide +kernel
example : weightOfKey demoStore (3, [1, 2]) = some 12 := by rw [demoStore_eq]; decide +kernel
example : ∃ res, aggregate demoStore (.int 2) = some res ∧ res.map (·.1) = [0, 1, 2] := by
  obtain ⟨res, h1, h2, _⟩ := (C03_aggregate demoStore demoStore_reachable 2 (by decide +kernel)).2 5 (by rw [demoStore_eq]; decide +kernel)
  exact ⟨res, h1, by rw [h2]; decide +kernel⟩
example : (step [(0, demoStore)] (.on 0 (.addEdge [1] (.int (-1)) none none))).2 = .out .rej := by rw [demoStore_eq]; decide +kernel
example : (get? demoStore.adj 1).isSome = true := by rw [demoStore_eq]; decide +kernel
example : get? (specRun [] demoOps) 0 = some (abs demoStore) := by rw [demoStore_eq]; decide +kernel
example : (abs demoStore).recs = [((0, [1, 2]), (8, [])), ((3, [1, 2]), (12, [])), ((4, [1, 5]), (4, [])), ((5, [2, 3]), (2, []))] := by rw [demoStore_eq]; decide +kernel
example : Spec.answer (abs demoStore) (.degree 1 none none) = .int 3 ∧ answer demoStore (.degree 1 none none) = .int 3 := by rw [demoStore_eq]; decide +kernel
example : Reachable keepStore := ⟨keepOps, by decide +kernel, 0, by decide +kernel⟩
example : (get? keepStore.nmeta 1).isSome = true := by decide +kernel
example : (abs keepStore).recs =
    [((5, [1, 2, 3]), (8, [(0, 1)])), ((5, [2, 3]), (12, [])), ((6, [1]), (4, [])), ((6, [1, 4]), (2, []))] := by decide +kernel
example : shrinkKey 1 (5, [1, 2, 3]) = (5, [2, 3]) ∧ shrinkKey 1 (6, [1]) = (6, []) := by decide +kernel
example : (abs (removeNode keepStore 1 true).1).recs = [((5, [2, 3]), (20, [(0, 1)])), ((6, [4]), (2, []))] := by decide +kernel
example : answer (removeNode keepStore 1 true).1 (.incident 2 none none) = .recs [(5, [2, 3])] := by decide +kernel
example : answer demoStore (.edges (.pair 6 9) {} true) = .recsMeta [] ∧ answer demoStore (.edges (.pair 6 9) {} false) = .recs [] ∧
    answer demoStore (.edges (.pair 1 3) { size := some 2 } true) = .recsMeta [] ∧
    answer (Store.new true) (.edges (.pair 0 5) {} true) = .recsMeta [] ∧
    (answer demoStore (.edges (.pair 3 5) {} true)).kind = .recsMeta ∧ (answer demoStore (.edges (.pair 3 5) {} false)).kind = .recs ∧
    (answer demoStore .minTime).kind = .int ∧ (answer (Store.new false) .maxTime).kind = .inf := by rw [demoStore_eq]; decide +kernel
example : ∀ k ∈ edgeKeys demoStore, ¬ ((6 : Int) ≤ (k.1 : Int) ∧ (k.1 : Int) < 9) := by rw [demoStore_eq]; decide +kernel

/-! ## the whole object: incidence metadata, `copy()` and the other routes from one object to another
(`Obj` = `Store` + `_incidences_metadata`, `FState`/`fstep`/`frun` = slots of whole objects with
the incidence calls and the routes `Route.copy` (`copy()`, deepcopy, pickle of the object: every table) and `Route.tables`
(`expose_data_structures` → `populate_from_dict`, the binary file format: every table but the incidence table)) -/

/-- **Projection.** Forgetting the incidence tables of a full history gives exactly the run of its base calls on the
machine of the theorems above (both routes become its slot copy, incidence calls and queries vanish).  This equation is what
`C03_full_reachable` rests on: the base of every object of a full history - objects obtained through either route
included - is `Reachable`, so the theorems above apply to it. -/
theorem C03_full_projection (ops : List FOp) :
    baseState (frun [] ops) = run [] (ops.filterMap FOp.toBase?) := frun_base ops []

theorem C03_full_reachable (o : Obj) (h : FReachable o) : Reachable o.base := freachable_base h

/-- **`copy()` is complete.** The object the copy route puts into slot `j` IS the content of slot `i` - every table,
the incidence table included - so every query whatsoever (base queries, `get_incidence_metadata`,
`get_all_incidences_metadata`) is answered on the copy as on the original; the original is still there. -/
theorem C03_copy_complete (st : FState) (i j : Nat) (o : Obj) (h : get? st i = some o) :
    get? (fstep st (.derive .copy i j)).1 j = some o ∧
    (∀ q, (fstep (fstep st (.derive .copy i j)).1 (.query j q)).2 = (fstep st (.query i q)).2) ∧
    (i ≠ j → get? (fstep st (.derive .copy i j)).1 i = some o) := by
  have h1 : get? (fstep st (.derive .copy i j)).1 j = some o := fstep_derive_get st .copy i j o h
  refine ⟨h1, ?_, ?_⟩
  · intro q; simp only [fstep, h] at h1 ⊢; rw [h1]
  · intro hij
    rw [fstep_other st (.derive .copy i j) i (by simp [FOp.target]; exact fun e => hij e.symm)]; exact h

/-- **The serialisation route** (`populate_from_dict(expose_data_structures())`, binary save / load) carries every table
except the incidence table: every base query is answered as on the source, `get_all_incidences_metadata()` is empty and
every `get_incidence_metadata` raises.  (This is why `copy()` must not be built on it - seeded change C03-d2.) -/
theorem C03_tables_route (st : FState) (i j : Nat) (o : Obj) (h : get? st i = some o) :
    get? (fstep st (.derive .tables i j)).1 j = some { base := o.base } ∧
    (∀ q, ({ base := o.base } : Obj).answer (.base q) = o.answer (.base q)) ∧
    ({ base := o.base } : Obj).answer .allInc = .incs [] ∧
    (∀ raw t n, ({ base := o.base } : Obj).answer (.inc raw t n) = .base .rej) := by
  refine ⟨fstep_derive_get st .tables i j o h, fun q => rfl, rfl, ?_⟩
  intro raw t n
  simp only [Obj.answer, getInc]
  cases recKey { base := o.base } raw t <;> rfl

/-- **Independence of the objects.** Calls that write other slots (any number of them, of any kind - a call on the
original after the copy was taken, a call on the copy, further copies elsewhere) leave the object of slot `k` as it is,
incidence table included. -/
theorem C03_copy_independent (st : FState) (ops : List FOp) (k : Nat) (hk : ∀ op ∈ ops, op.target ≠ some k) :
    get? (frun st ops) k = get? st k := by
  induction ops generalizing st with
  | nil => rfl
  | cons op ops ih =>
    simp only [frun, List.foldl_cons]
    have h := ih (fstep st op).1 (fun o ho => hk o (by simp [ho]))
    simp only [frun] at h
    rw [h]
    exact fstep_other st op k (hk op (by simp))

/-- **The incidence table** is written by `set_incidence_metadata` only: every other public mutating call - removal of
the record, removal of a node, `clear()` included, as in the code - leaves it as it is; `set_incidence_metadata` leaves all
other tables as they are, is accepted exactly when `(time, node set)` is a record (the node order of the hyperedge is
irrelevant, the node is not looked at), then the entry reads back and no other entry changes; rejected, it changes nothing. -/
theorem C03_incidence_table (o : Obj) :
    (∀ op, (o.apply (.base op)).1.inc = o.inc) ∧
    (∀ raw t n md, (setInc o raw t n md).1.base = o.base) ∧
    (∀ raw t n md k, recKey o raw t = some k →
      (setInc o raw t n md).2 = .ok ∧ getInc (setInc o raw t n md).1 raw t n = some md ∧
      ∀ p, p ≠ (k, n) → get? (setInc o raw t n md).1.inc p = get? o.inc p) ∧
    (∀ raw t n md, recKey o raw t = none → setInc o raw t n md = (o, .rej)) ∧
    (∀ r1 r2 : List Nat, r1.Perm r2 → ∀ t n md, setInc o r1 t n md = setInc o r2 t n md) := by
  refine ⟨fun op => rfl, setInc_base o, setInc_ok o, setInc_rej o, ?_⟩
  intro r1 r2 hp t n md
  simp only [setInc, recKey_perm o r1 r2 hp t]

/-! non-vacuity (`fullOps`: two records, three incidence entries - one for a node outside the hyperedge -, a rejected
one, an in-place edit, both routes, removal of the record on the original, later calls on the two derived objects) -/

example : ∀ op ∈ fullOps, op.WF := by decide +kernel
example : FReachable (fullObj 1) := ⟨fullOps, by decide +kernel, 1, by decide +kernel⟩
example : (fullObj 0).inc = [(((3, [1, 2]), 2), [(0, 5), (1, 4)]), (((3, [1, 2, 3]), 7), [(1, 1)])] := by decide +kernel
example : (fullObj 1).inc = (fullObj 0).inc ++ [(((3, [1, 2]), 1), [])] := by decide +kernel
example : (fullObj 2).inc = [] ∧ edgeKeys (fullObj 2).base = [(3, [1, 2]), (3, [1, 2, 3]), (0, [5])] ∧ (fullObj 2).base.nextId = 3 := by decide +kernel

/-- the entry of a removed record stays in the table (as in the code) but cannot be read while the record is absent -/
example : edgeKeys (fullObj 0).base = [(3, [1, 2, 3])] ∧ getInc (fullObj 0) [1, 2] (.int 3) 2 = none ∧
    getInc (fullObj 1) [2, 1] (.int 3) 2 = some [(0, 5), (1, 4)] := by decide +kernel

/-- witness for the seeded change C03-d2: the two routes differ on an object with an incidence entry -/
example : derive (fullObj 1) .copy ≠ derive (fullObj 1) .tables := by decide +kernel

example : recKey (fullObj 1) [2, 1] (.int 3) = some (3, [1, 2]) ∧ recKey (fullObj 1) [2, 1] (.int 4) = none := by decide +kernel
example : baseState (frun [] fullOps) = run [] (fullOps.filterMap FOp.toBase?) := C03_full_projection fullOps

/-! ## the constructor, the hashing view, the label mapping, the raw tables
(`Model/C03Ext.lean`: `construct`, `hashView`, `mapping`, `exposeTables` / `populate`, `edgeTable` / `adjTable`; the
machine `xstep` / `xrun` = the machine of the whole objects plus constructor calls `XOp.ctor` and the questions `XOp.ask`.
`CtorArgs.WF`: the hyperedges handed to the constructor are duplicate-free node tuples - the quantifier's node sets) -/

/-- **The constructor.** For all constructor arguments (`edge_list` with embedded times or with `time_list`, `weighted`,
`weights`, `hypergraph_metadata`, `node_metadata`, `edge_metadata`) whose hyperedges are node sets: the constructor of
the tables is accepted iff the constructor of the map is, and then the abstraction of the object IS the constructed map;
an accepted constructor call is the run of the public calls `ctorCalls a` (`set_hypergraph_metadata`, one `add_node` per
entry of `node_metadata`, ONE `add_edges`) on `TemporalHypergraph(weighted=w)`, all of them well-formed, so the object is
`Reachable` and every theorem above holds for constructed objects. -/
theorem C03_constructor (a : CtorArgs) (ha : a.WF) :
    (construct a).map abs = Spec.construct a ∧
    ∀ s, construct a = some s →
      (∃ calls, ctorCalls a = some calls ∧ (∀ c ∈ calls, c.WF) ∧ s = runCalls (Store.new a.weighted) calls) ∧
      Reachable s ∧ Spec.construct a = some (abs s) := by
  refine ⟨construct_abs a ha, fun s hs => ⟨?_, construct_reachable a ha s hs, ?_⟩⟩
  · obtain ⟨calls, h1, h2⟩ := construct_some a s hs
    exact ⟨calls, h1, ctorCalls_wf a ha calls h1, h2⟩
  · rw [← construct_abs a ha, hs]; rfl

/-- The constructor raises (there is no object) exactly when the time information has none of the accepted forms -
`time_list` without `edge_list`, an element of `edge_list` that is not a `(time, edge)` pair when `time_list` is missing,
lists of different lengths - or when the single `add_edges` call refuses the batch (`addEdgesOk`: a time that is not a
non-negative integer, wrong number of weights / metadata entries, a repeated hyperedge together with weights); this is
decided by the arguments alone. -/
theorem C03_constructor_rejects (a : CtorArgs) :
    construct a = none ↔
      (ctorBatch a.edges = none ∨ ∃ raws ts, ctorBatch a.edges = some (some (raws, ts)) ∧
        addEdgesOk raws ts a.weights a.edgeMeta = false) := by
  unfold construct
  cases hb : ctorBatch a.edges with
  | none => simp
  | some b =>
    cases b with
    | none => simp
    | some p =>
      obtain ⟨raws, ts⟩ := p
      simp only [addEdges]
      cases hok : addEdgesOk raws ts a.weights a.edgeMeta with
      | false =>
        simp only [Bool.false_eq_true, if_false]
        constructor
        · intro _; exact Or.inr ⟨raws, ts, rfl, hok⟩
        · intro _; trivial
      | true =>
        simp only [if_true]
        constructor
        · intro h; cases h
        · rintro (h | ⟨r, t, h1, h2⟩)
          · cases h
          · simp only [Option.some.injEq, Prod.mk.injEq] at h1
            obtain ⟨rfl, rfl⟩ := h1
            rw [hok] at h2; cases h2

/-- **Projection of histories with constructor calls.** Running any history over `XOp` (every call of the whole-object
machine, constructor calls into any slot - accepted or refused -, the questions `XOp.ask`) gives the very state that the
whole-object machine reaches on the expanded history (`XOp.expand`: an accepted constructor call = `new` + `ctorCalls`,
a refused one and a question = nothing); well-formedness is preserved, so every object of such a history is `FReachable`
and its tables are `Reachable`. -/
theorem C03_ext_projection (ops : List XOp) (st : FState) :
    xrun st ops = frun st (ops.flatMap XOp.expand) ∧
    ((∀ op ∈ ops, op.WF) → ∀ b ∈ ops.flatMap XOp.expand, b.WF) ∧
    (∀ o, XReachable o → FReachable o ∧ Reachable o.base) :=
  ⟨xrun_expand ops st, expand_wf ops, fun _ h => ⟨xreachable_full h, freachable_base (xreachable_full h)⟩⟩

/-- **Refinement from any constructor call on.** For every history of well-formed calls over `XOp` (constructor calls
included): the abstraction of the tables of every slot is the run of the same history on the maps (`xspecRun`: base calls
as before, a constructor call = `Spec.construct`); every base query that does not expose ids is answered as by the map;
`expose_attributes_for_hashing()` and `get_mapping()` are answered as by the map (`Spec.xanswer`); every slot satisfies
the invariant. -/
theorem C03_ext_refines (ops : List XOp) (hwf : ∀ op ∈ ops, op.WF) :
    absState (baseState (xrun [] ops)) = xspecRun [] ops ∧ StateInv (baseState (xrun [] ops)) ∧
    (∀ i q, q.exposesIds = false →
      (xstep (xrun [] ops) (.f (.query i (.base q)))).2 =
        match get? (xspecRun [] ops) i with
        | none => .f (.ans (.base .rej))
        | some sp => .f (.ans (.base (Spec.answer sp q)))) ∧
    (∀ i xq sp a, get? (xspecRun [] ops) i = some sp → Spec.xanswer sp xq = some a →
      (xstep (xrun [] ops) (.ask i xq)).2 = .ans a) := by
  have hinv := xrun_inv ops hwf [] (by intro p hp; cases hp)
  have habs : absState (baseState (xrun [] ops)) = xspecRun [] ops := xrun_abs ops hwf [] (by intro p hp; cases hp)
  have hget : ∀ i, get? (xspecRun [] ops) i = (get? (xrun [] ops) i).map fun o => abs o.base := fun i => by
    rw [← habs, absState, get?_mapVals, get?_baseState, Option.map_map]; rfl
  refine ⟨habs, hinv, fun i q hq => ?_, fun i xq sp a hsp ha => ?_⟩
  · rw [hget]
    simp only [xstep, fstep]
    cases hg : get? (xrun [] ops) i with
    | none => rfl
    | some o => exact congrArg (fun x => XRes.f (.ans (.base x))) (answer_abs o.base (slot_inv hinv hg) q hq)
  · rw [hget] at hsp
    simp only [xstep]
    cases hg : get? (xrun [] ops) i with
    | none => rw [hg] at hsp; cases hsp
    | some o =>
      rw [hg] at hsp
      cases hsp
      exact congrArg (fun x => (XRes.ans x)) (xanswer_abs o.base (slot_inv hinv hg) xq a ha)

/-- `expose_attributes_for_hashing()` on a reachable object never raises and returns the flag, the hypergraph metadata,
the entries of the map `(time, node set) ↦ (weight, metadata)` - exactly those, each once - in strictly increasing key
order (time first, then the sorted node tuple), and the nodes with their metadata in strictly increasing label order. -/
theorem C03_hashing (s : Store) (hs : Reachable s) :
    ∃ v, hashView s = some v ∧ v = Spec.hashView (abs s) ∧ v.weighted = s.weighted ∧ v.hmeta = s.hmeta ∧
      v.edges.Perm (abs s).recs ∧ v.edges.Pairwise (fun x y => ltKey x.1 y.1 = true) ∧
      v.nodes.Perm s.nmeta ∧ v.nodes.Pairwise (fun x y => x.1 < y.1) := by
  have h := reachable_inv hs
  exact ⟨_, hashView_abs s h, rfl, rfl, rfl, sortBy_perm _ _ _, sortBy_sorted _ _ st_ltKey _ (abs_tab h).knd,
    sortBy_perm _ _ _, sortBy_ltNat_sorted _ _ h.nt.nmetaNodup⟩

/-- **The hashing view is canonical.** Two reachable objects (any histories, any insertion orders, any internal ids)
have the same `expose_attributes_for_hashing()` IFF they have the same weighted flag, the same hypergraph metadata, the
same records with weight and metadata and the same nodes with metadata as SETS: the view forgets exactly the history
(order, ids) and nothing of the content. -/
theorem C03_hashing_canonical (s1 s2 : Store) (h1 : Reachable s1) (h2 : Reachable s2) :
    hashView s1 = hashView s2 ↔
      s1.weighted = s2.weighted ∧ s1.hmeta = s2.hmeta ∧ (abs s1).recs.Perm (abs s2).recs ∧ s1.nmeta.Perm s2.nmeta := by
  have i1 := reachable_inv h1
  have i2 := reachable_inv h2
  rw [hashView_abs s1 i1, hashView_abs s2 i2]
  simp only [Option.some.injEq]
  exact Spec.hashView_eq_iff (abs s1) (abs s2)
    (abs_tab i1).knd i1.nt.nmetaNodup

/-- `get_mapping()`: the encoder's classes are exactly the nodes, each once, in strictly increasing label order; a
label is encoded (`transform`) iff it is a node, and the code of a node is its position in that list - a bijection
between the nodes and `0 .. num_nodes-1`. -/
theorem C03_mapping (s : Store) (hs : Reachable s) :
    (mapping s).Perm (keys s.nmeta) ∧ (mapping s).Pairwise (· < ·) ∧ (mapping s).length = (keys s.nmeta).length ∧
    (∀ n, (indexOf? (mapping s) n).isSome ↔ (get? s.nmeta n).isSome) ∧
    (∀ n i, indexOf? (mapping s) n = some i → (mapping s)[i]? = some n) := by
  have h := reachable_inv hs
  have hp : (mapping s).Perm (keys s.nmeta) := sortBy_perm _ _ _
  refine ⟨hp, sortBy_ltNat_sorted id _ (by rw [List.map_id]; exact h.nt.nmetaNodup), hp.length_eq, fun n => ?_,
    fun n i hi => indexOf?_get _ n i hi⟩
  rw [indexOf?_some_iff, hp.mem_iff, mem_keys_iff]

/-- The raw tables of a reachable object (`get_edge_list()`, `get_adj_dict()`, `expose_data_structures()`): the keys of
the edge table are the records; its ids are pairwise different and below `_next_edge_id`; the reverse table is its
inverse; `_weights` and `_edge_metadata` have exactly the live ids as keys; a node's adjacency list is exactly the ids of
the records containing it, in the order of the edge table; the adjacency table has exactly the nodes as keys. -/
theorem C03_raw_tables (s : Store) (hs : Reachable s) :
    keys (edgeTable s) = edgeKeys s ∧ ((edgeTable s).map (·.2)).Nodup ∧ (∀ p ∈ edgeTable s, p.2 < s.nextId) ∧
    (∀ k id, get? (edgeTable s) k = some id ↔ get? s.rev id = some k) ∧
    (∀ id, (get? s.weights id).isSome ↔ (get? s.rev id).isSome) ∧ (∀ id, (get? s.emeta id).isSome ↔ (get? s.rev id).isSome) ∧
    (∀ n ids, get? (adjTable s) n = some ids →
      ids = ((edgeTable s).filter (fun p => p.1.2.contains n)).map (·.2)) ∧
    (∀ n, (get? (adjTable s) n).isSome ↔ (get? s.nmeta n).isSome) := by
  have h := reachable_inv hs
  refine ⟨rfl, ids_nodup s h, ?_, fun k id => ⟨h.rev_of_edge k id, h.edge_of_rev k id⟩, h.wKeys, h.mKeys,
    fun n ids hg => h.adj_char n ids hg, h.nt.same⟩
  intro p hp
  exact h.id_lt _ _ (h.rev_of_edge _ _ (get?_of_mem _ _ _ h.keysNodup hp))

/-- `populate_from_dict(expose_data_structures())` rebuilds every table of `Store` - this IS the route `Route.tables`
of the whole-object machine (incidence table empty) - while `populate_from_dict({})` gives an unweighted object without
hypergraph metadata (not the constructor's `{"weighted": .., "type": ..}`). -/
theorem C03_expose_populate (s : Store) (o : Obj) :
    populate (exposeTables s) = s ∧ derive o .tables = { base := populate (exposeTables o.base) } ∧
    populate {} = { weighted := false } :=
  ⟨rfl, rfl, rfl⟩

/-- **`set_edge_list` / `set_adj_dict` on EVERY object (reachable or not).** The getter after the setter returns what was
set, no other table moves (the dictionary of `expose_data_structures()` differs in that one entry only), handing a table
back is the identity, and the two setters commute. -/
theorem C03_raw_setters (s : Store) (t : List (Key × Nat)) (u : List (Node × List Nat)) :
    edgeTable (setEdgeList s t) = t ∧ adjTable (setAdjDict s u) = u ∧
    exposeTables (setEdgeList s t) = { exposeTables s with edgeList := some t } ∧
    exposeTables (setAdjDict s u) = { exposeTables s with adj := some u } ∧
    setEdgeList s (edgeTable s) = s ∧ setAdjDict s (adjTable s) = s ∧
    setAdjDict (setEdgeList s t) u = setEdgeList (setAdjDict s u) t ∧
    (setAdjDict s u).nmeta = s.nmeta ∧ records (setAdjDict s u) = records s :=
  ⟨rfl, rfl, rfl, rfl, rfl, rfl, rfl, rfl, rfl⟩

/-- **Histories with raw assignments that are echoes.** A history over `ROp` - every call of the extended machine
(constructor calls, all public mutators, copies and routes, questions) mixed with `set_edge_list` / `set_adj_dict` on any
slot - in which every raw assignment hands back (an equal copy of) the table the object holds at that moment ends in
exactly the state of its public calls alone; so, the public calls being well-formed, every slot satisfies the invariant,
the abstraction is the run of the maps, and every object is reachable: all earlier theorems apply to such histories. -/
theorem C03_raw_echo_history (ops : List ROp) (he : echoes [] ops = true) (hwf : ∀ op ∈ pubOps ops, op.WF) :
    rrun [] ops = xrun [] (pubOps ops) ∧ StateInv (baseState (rrun [] ops)) ∧
    absState (baseState (rrun [] ops)) = xspecRun [] (pubOps ops) ∧
    (∀ i o, get? (rrun [] ops) i = some o → Reachable o.base) := by
  have e := rrun_echo ops [] he
  have r := C03_ext_refines (pubOps ops) hwf
  rw [e]
  refine ⟨rfl, r.2.1, r.1, ?_⟩
  intro i o hg
  exact ((C03_ext_projection (pubOps ops) []).2.2 o ⟨pubOps ops, hwf, i, hg⟩).2

/-! non-vacuity: a constructor call with hypergraph metadata (one key colliding with "weighted"),
node metadata, the embedded form and a weighted batch on an unweighted object (promotion inside the constructor), then a
second object built by single calls in another order with other ids - same hashing view -, and one differing in a weight -/

def extArgs : CtorArgs :=
  { weighted := false, hm := some [(100, 7), (3, 4)], nodeMeta := [(9, [(1, 1)]), (2, [])],
    edges := .embedded [.pair (.int 5) [3, 1], .pair (.int 2) [2, 1], .pair (.int 5) [1, 2]],
    weights := some [8, 4, 6], edgeMeta := none }

def extStore : Store := (construct extArgs).getD (Store.new false)

def extOps2 : List XOp := [
  .f (.new 1 true),
  .f (.on 1 (.base (.addEdge [2, 1] (.int 5) (some 2) none))),
  .f (.on 1 (.base (.addEdge [1, 2] (.int 2) (some 4) none))),
  .f (.on 1 (.base (.removeEdge [1, 2] (.int 5)))),
  .f (.on 1 (.base (.addEdge [1, 3] (.int 5) (some 8) none))),
  .f (.on 1 (.base (.addEdge [1, 2] (.int 5) (some 6) none))),
  .f (.on 1 (.base (.addNode 9 (some [(1, 1)])))),
  .f (.on 1 (.base (.setHMeta [(100, 90), (3, 4), (101, 92)]))),
  .ctor 0 extArgs,
  .ctor 2 { edges := .timesOnly },
  .ask 0 .hashing]

def extStore2 : Store := ((get? (xrun [] extOps2) 1).map Obj.base).getD (Store.new false)

/-- the tables the constructor call builds; it is run once, here -/
def extTables : Store :=
    { weighted := true
      edgeList := [((5, [1, 3]), 0), ((2, [1, 2]), 1), ((5, [1, 2]), 2)]
      rev := [(0, (5, [1, 3])), (1, (2, [1, 2])), (2, (5, [1, 2]))]
      weights := [(0, 8), (1, 4), (2, 6)]
      emeta := [(0, []), (1, []), (2, [])]
      adj := [(9, []), (2, [1, 2]), (1, [0, 1, 2]), (3, [0])]
      nmeta := [(9, [(1, 1)]), (2, []), (1, []), (3, [])]
      nextId := 3
      hmeta := [(100, 90), (3, 4), (101, 92)] }

theorem extConstruct : construct extArgs = some extTables := by decide +kernel
theorem extStore_eq : extStore = extTables := by rw [extStore, extConstruct]; rfl
example : extArgs.WF := by decide +kernel
example : construct extArgs = some extStore := extStore_eq ▸ extConstruct
example : ∀ op ∈ extOps2, op.WF := by decide +kernel
theorem extStore_reachable : Reachable extStore :=
  (C03_constructor extArgs (by decide +kernel)).2 extStore (extStore_eq ▸ extConstruct) |>.2.1
example : Reachable extStore := extStore_reachable
example : extStore.weighted = true ∧ extStore.hmeta = [(100, 90), (3, 4), (101, 92)] ∧ extStore.nextId = 3 ∧
    (abs extStore).recs = [((5, [1, 3]), (8, [])), ((2, [1, 2]), (4, [])), ((5, [1, 2]), (6, []))] ∧
    keys extStore.nmeta = [9, 2, 1, 3] := by rw [extStore_eq]; decide +kernel
example : ctorCalls extArgs = some [.setHMeta [(100, 90), (3, 4), (101, 92)], .addNode 9 (some [(1, 1)]), .addNode 2 (some []),
    .addEdges [[3, 1], [2, 1], [1, 2]] [.int 5, .int 2, .int 5] (some [8, 4, 6]) none] := rfl
example : construct { edges := .timesOnly } = none ∧ construct { edges := .embedded [.pair (.int 1) [1], .other] } = none ∧
    construct { edges := .separate [[1], [2]] [.int 1] } = none ∧ construct { edges := .separate [[1]] [.int (-1)] } = none ∧
    construct { edges := .separate [[1, 2], [1, 2]] [.int 1, .int 2], weights := some [4, 4] } = none ∧
    (construct { weighted := true, edges := .absent, weights := some [4] }).isSome = true := by decide +kernel
example : (get? (xrun [] extOps2) 0).map Obj.base = some extStore ∧ get? (xrun [] extOps2) 2 = none := by decide +kernel
example : hashView extStore = some ⟨true, [(100, 90), (3, 4), (101, 92)],
    [((2, [1, 2]), (4, [])), ((5, [1, 2]), (6, [])), ((5, [1, 3]), (8, []))],
    [(1, []), (2, []), (3, []), (9, [(1, 1)])]⟩ := by rw [extStore_eq]; decide +kernel
example : extStore2.edgeList = [((2, [1, 2]), 1), ((5, [1, 3]), 2), ((5, [1, 2]), 3)] ∧ extStore ≠ extStore2 ∧
    hashView extStore = hashView extStore2 := by decide +kernel
example : hashView extStore ≠ hashView (setWeight extStore [1, 2] (.int 2) 8).1 := by rw [extStore_eq]; decide +kernel
example : mapping extStore = [1, 2, 3, 9] ∧ indexOf? (mapping extStore) 9 = some 3 ∧ indexOf? (mapping extStore) 4 = none := by rw [extStore_eq]; decide +kernel
example : edgeTable extStore = [((5, [1, 3]), 0), ((2, [1, 2]), 1), ((5, [1, 2]), 2)] ∧
    adjTable extStore = [(9, []), (2, [1, 2]), (1, [0, 1, 2]), (3, [0])] := by rw [extStore_eq]; decide +kernel
example : populate (exposeTables extStore) = extStore ∧ populate { nextId := some 4 } = { weighted := false, nextId := 4 } := by rw [extStore_eq]; decide +kernel
example : xrun [] extOps2 = frun [] (extOps2.flatMap XOp.expand) := (C03_ext_projection extOps2 []).1
example : get? (xspecRun [] extOps2) 0 = some (abs extStore) := by rw [extStore_eq]; decide +kernel

/-! non-vacuity: a history with raw assignments that are echoes (`rawOps`: the constructor call of `extArgs`, the two
setters handing back the tables of that moment, one on an empty slot, public calls in between), an assignment that is not
an echo, and the three partitions on `extStore` -/

def rawOps : List ROp := [
  .x (.ctor 0 extArgs),
  .setEdgeList 0 [((5, [1, 3]), 0), ((2, [1, 2]), 1), ((5, [1, 2]), 2)],
  .x (.f (.on 0 (.base (.removeEdge [1, 2] (.int 2))))),
  .setAdjDict 0 [(9, []), (2, [2]), (1, [0, 2]), (3, [0])],
  .setAdjDict 5 [],
  .x (.f (.on 0 (.base (.addEdge [2, 9] (.int 7) (some 4) none))))]

example : echoes [] rawOps = true ∧ (∀ op ∈ pubOps rawOps, op.WF) ∧ (pubOps rawOps).length = 3 := by decide +kernel
example : rrun [] rawOps = xrun [] (pubOps rawOps) := (C03_raw_echo_history rawOps (by decide +kernel) (by decide +kernel)).1

/-- an assignment that is NOT an echo: the object stops answering like the map (node 1 loses its incident records) -/
example : echoes [] [.x (.ctor 0 extArgs), .setAdjDict 0 (dropAt (adjTable extStore) 2)] = false ∧
    adjTable (setAdjDict extStore (dropAt (adjTable extStore) 2)) = [(9, []), (2, [1, 2]), (3, [0])] ∧
    edgeTable (setEdgeList extStore (dropAt (edgeTable extStore) 0)) = [((2, [1, 2]), 1), ((5, [1, 2]), 2)] ∧
    revAt (adjTable extStore) 2 = [(9, []), (2, [1, 2]), (1, [2, 1, 0]), (3, [0])] := by rw [extStore_eq]; decide +kernel

example : window extStore 2 6 = [(2, [1, 2]), (5, [1, 2]), (5, [1, 3])] ∧ window extStore 2 5 = [(2, [1, 2])] ∧
    window extStore 5 6 = [(5, [1, 2]), (5, [1, 3])] := by rw [extStore_eq]; decide +kernel
example : (snapshots extStore .none).map (fun r => r.map (fun p => (p.1, keys p.2.edges))) =
    some [(5, [[1, 3], [1, 2]]), (2, [[1, 2]])] := by rw [extStore_eq]; decide +kernel
example : maxTime extStore = some 5 ∧ ∃ res, aggregate extStore (.int 3) = some res ∧
    (∃ h, (1, h) ∈ res ∧ (get? h.edges [1, 3]).isSome = true) ∧ (∃ h, (0, h) ∈ res ∧ (get? h.edges [1, 2]).isSome = true) := by
  obtain ⟨_, res, h1, h2, _⟩ := C03_aggregate_partition extStore extStore_reachable 3 (by decide +kernel) 5 (by rw [extStore_eq]; decide +kernel)
  exact ⟨by rw [extStore_eq]; decide +kernel, res, h1, h2 5 [1, 3] (by rw [extStore_eq]; decide +kernel), h2 2 [1, 2] (by rw [extStore_eq]; decide +kernel)⟩
