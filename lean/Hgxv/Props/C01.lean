import Hgxv.Proofs.C01Cor
import Hgxv.Proofs.C01Query
import Hgxv.Proofs.C01Shrink
import Hgxv.Proofs.C01Batch
import Hgxv.Proofs.C01X
import Hgxv.Proofs.C01Sub
import Hgxv.Proofs.C01SubOrders
import Hgxv.Proofs.C01SubEdges
import Hgxv.Proofs.C01Ext
import Hgxv.Proofs.C01Lcc
/-! # C01 - property theorems

Model and vocabulary: `Hgxv/Model/C01.lean` (concrete `Store`/`step`/`answer`, abstract `Spec`), `Model/C01X.lean` (the
whole object `Full` / `FSpec`, the extraction routines), `Model/C01Ext.lean` (constructor, hashing view, mapping, raw
tables), `Model/C01Lcc.lean` (largest component); helper lemmas:
`Hgxv/Proofs/C01Basic.lean` (association lists, `canon`), `C01Inv.lean` (`Inv` and the primitive updates),
`C01Ops.lean` (table setters, `remove_node`, acceptance of the validated loops), `C01Cor.lean` (corollaries), `C01Abs.lean` /
`C01Ref.lean` / `C01Query.lean` (abstraction, one-step commutation for the 18 operations, the 32 queries, histories; `Sim` is defined in
`C01Ref.lean`, `StateSim` in `C01Query.lean`, `SWF` in `C01Shrink.lean`, `KeepLoop` in `C01Ops.lean`), `C01Shrink.lean`
(`remove_node` in closed form), `C01Batch.lean` (batched calls), `C01X.lean` (whole object, extraction routines),
`C01Sub*.lean` (closed forms of the extraction routines), `C01Ext.lean` / `C01Lcc.lean` (constructor, hashing view,
mapping, largest component).

Hypotheses used below and why they are the property's own:
* `c.WF` for every command of a history: every raw hyperedge handed to `add_edge(s)` is a duplicate-free
  node tuple (the quantifier speaks of node *sets*).
* `C01.Reachable s`: `s` is a slot of the state after some history of well-formed public calls
  (`new`, `copy`, and the 18 mutating calls), starting from fresh hypergraphs. -/
open C01 AL

/-- states reachable by a history of well-formed public calls -/
def C01.Reachable (s : Store) : Prop :=
  ∃ (k : Nat) (cs : List Cmd) (i : Nat), (∀ c ∈ cs, c.WF) ∧ (run (init k) cs)[i]? = some s

/-- the queries that take the `order/size/up_to` arguments -/
def C01.filterQueries (n : Node) : List (Filter → Query) :=
  [Query.edges, Query.edgesMeta, Query.numEdges, Query.weights, Query.weightsDict, Query.incident n,
   Query.neighbors n, Query.degree n, Query.degreeSeq, Query.degreeDist, Query.isolated, Query.isIsolated n]

/-- a history with a re-insertion in another node order, a removal and re-insertion, a weight update, a
`remove_node(keep_edges=True)` that merges `{1,2,3}` into `{1,2}`, a rejected batch, a copy and a batched
node removal on the copy; used by the non-vacuity examples -/
def C01.demo : List Cmd :=
  [.new 0 true [], .on 0 (.addEdge [3, 1, 2] (some 8) (some [(2, 5)])), .on 0 (.addEdge [2, 1] (some 4) none),
   .on 0 (.addEdge [1, 2, 3] (some 6) none), .on 0 (.addEdge [4, 3] none none), .on 0 (.removeEdge [3, 4]),
   .on 0 (.addEdge [3, 4] (some 2) none), .on 0 (.addNodes [7, 8] none), .on 0 (.setWeight [2, 1] 12),
   .on 0 (.removeNode 3 true), .on 0 (.removeEdges [[1, 2], [2, 1]]), .copy 0 1,
   .on 1 (.removeNodes [1, 4] false)]

theorem C01.demo_wf : ∀ c ∈ C01.demo, c.WF := by
  intro c hc
  simp only [C01.demo, List.mem_cons, List.not_mem_nil, or_false] at hc
  rcases hc with h | h | h | h | h | h | h | h | h | h | h | h | h <;> subst h <;> simp [Cmd.WF, Op.WF]

/-- **Invariant for every history.** After any finite sequence of well-formed public calls every slot satisfies
`Inv`: `_reverse_edge_list` inverts `_edge_list`, keys are canonical and listed once, weights / metadata tables
have exactly the ids in use, `_adj[n]` holds exactly the ids of the hyperedges containing `n` - each once -
every node of every hyperedge is a node, node metadata has exactly the nodes, ids are below `_next_edge_id`. -/
theorem C01_inv (k : Nat) (cs : List Cmd) (hwf : ∀ c ∈ cs, c.WF) : ∀ s ∈ run (init k) cs, Inv s :=
  run_inv cs (init k) hwf (init_inv k)

theorem C01.Reachable.inv {s : Store} (h : C01.Reachable s) : Inv s := by
  obtain ⟨k, cs, i, hwf, hs⟩ := h
  exact C01_inv k cs hwf s (List.mem_of_getElem? hs)

/-- non-vacuity: the demo history is well-formed, and it does what its comment says -/
example : (∀ c ∈ C01.demo, c.WF) ∧
    query (run (init 2) C01.demo) 0 (.weightsDict {}) = .ews [([1, 2], 26), ([4], 2)] ∧
    query (run (init 2) C01.demo) 1 (.nodes) = .nats [2, 7, 8] :=
  ⟨C01.demo_wf, by decide +kernel⟩

/-- the hypothesis `WF` is needed (and is where the quantifier's "node sets" enters): the code accepts a tuple
with a repeated node and then lists that hyperedge twice for the node - as does the model -/
example : query (run (init 1) [.on 0 (.addEdge [1, 1] none none)]) 0 (.incident 1 {}) = .edges [[1, 1], [1, 1]] := by
  decide +kernel

/-- **Refinement: every query, after every history, is answered as the abstract hypergraph of that history.**
`Spec` is a list of nodes with metadata plus an association list from node sets to (weight, metadata);
`Spec.step` is the plain map update, `Spec.query` a filter / map over those two lists.  For every number of
slots, every finite history of well-formed public calls (`new`, `copy`, the 18 mutating calls, accepted or
rejected), every slot and every query (32 kinds, every `order/size/up_to` filter) the tables of the
implementation model answer *identically* (same value, same listing order).  Since `cs` is arbitrary the
statement holds after every prefix of a history. -/
theorem C01_refines (k : Nat) (cs : List Cmd) (hwf : ∀ c ∈ cs, c.WF) (i : Nat) (q : Query) :
    query (run (init k) cs) i q = Spec.query (Spec.run (Spec.init k) cs) i q :=
  query_sim _ _ (run_sim cs _ _ hwf (init_sim k)) i q

/-- the same for states and outcomes: the abstract state after a history is the abstraction (forget the ids)
of the concrete one, slot by slot, and the next well-formed command is accepted by the one iff by the other -/
theorem C01_refines_state (k : Nat) (cs : List Cmd) (hwf : ∀ c ∈ cs, c.WF) (c : Cmd) (hc : c.WF) :
    Spec.run (Spec.init k) cs = (run (init k) cs).map abs ∧
    (step (run (init k) cs) c).2 = (Spec.step (Spec.run (Spec.init k) cs) c).2 := by
  have h := run_sim cs _ _ hwf (init_sim k)
  exact ⟨h.1, (step_sim _ _ c hc h).2⟩

/-- the abstract states are what the property calls them: the node list and the key list are duplicate-free,
every key is a duplicate-free sorted node tuple (a node *set*), and all its nodes are nodes of the hypergraph -/
theorem C01_spec_wellformed (k : Nat) (cs : List Cmd) (hwf : ∀ c ∈ cs, c.WF) :
    ∀ a ∈ Spec.run (Spec.init k) cs,
      (keys a.nodes).Nodup ∧ (keys a.edges).Nodup ∧
      ∀ e ∈ keys a.edges, e.Nodup ∧ canon e = e ∧ ∀ n ∈ e, n ∈ keys a.nodes := by
  intro a ha
  obtain ⟨s, h, rfl⟩ := Spec.run_abs k cs hwf ha
  have t := abs_tab h
  exact ⟨t.nnd, t.knd, fun e he => ⟨(t.of_key he).1.1, (t.of_key he).1.2, (t.of_key he).2⟩⟩

/-- non-vacuity: the spec run of the demo history gives the expected (non-trivial) answers, and a rejected
command is rejected by the spec as well -/
example :
    Spec.query (Spec.run (Spec.init 2) C01.demo) 0 (.weightsDict {}) = .ews [([1, 2], 26), ([4], 2)] ∧
    Spec.query (Spec.run (Spec.init 2) C01.demo) 0 (.degreeSeq {}) = .pairs [(1, 1), (2, 1), (4, 1), (7, 0), (8, 0)] ∧
    Spec.query (Spec.run (Spec.init 2) C01.demo) 1 (.nodesMeta) = .nmetas [(2, []), (7, []), (8, [])] ∧
    (Spec.step (Spec.run (Spec.init 2) (C01.demo.take 10)) (.on 0 (.removeEdges [[1, 2], [2, 1]]))).2 = .rej := by
  decide +kernel

/-- **Incident exactly once, and to no other node.** In every reachable state: a hyperedge key is listed once;
every node of a key is a node of the hypergraph; and for a node `n` and any admissible filter,
`get_incident_edges(n, …)` lists without repetition exactly the keys that contain `n` (and pass the filter),
so a key is never reported for a node it does not contain; `degree` is the number of those keys. -/
theorem C01_incident_once (s : Store) (hr : C01.Reachable s) (n : Node) (f : Filter) (o : Option Int)
    (hf : f.resolve = some o) :
    (keys s.edgeList).Nodup ∧
    (∀ e ∈ keys s.edgeList, n ∈ e → answer s (.checkNode n) = .bool true) ∧
    (answer s (.checkNode n) = .bool true →
      ∃ L, answer s (.incident n f) = .edges L ∧ L.Nodup ∧
        (∀ e, e ∈ L ↔ (e ∈ keys s.edgeList ∧ n ∈ e ∧ keepEdge o false e = true)) ∧
        answer s (.degree n f) =
          .int ((keys s.edgeList).filter fun e => decide (n ∈ e) && keepEdge o false e).length) := by
  have h := hr.inv
  refine ⟨h.el_nodup, ?_, ?_⟩
  · intro e he hne
    obtain ⟨id, hid⟩ := Option.isSome_iff_exists.mp ((C01.mem_keys_iff _ _).mp he)
    have := h.nodes_in id e (h.rev_of_edge _ _ hid) n hne
    simp [answer, this]
  · intro hn
    have hn' : (get? s.adj n).isSome = true := by simpa [answer] using hn
    have hL : incidentF s n f = some ((keys s.edgeList).filter fun e => decide (n ∈ e) && keepEdge o false e) := by
      simp only [incidentF, hn', hf, Bool.not_true, Bool.false_eq_true, if_false, Option.map_some,
        h.incidentKeys_filter n, List.filter_filter]
      exact congrArg some (List.filter_congr fun e _ => Bool.and_comm _ _)
    refine ⟨(keys s.edgeList).filter fun e => decide (n ∈ e) && keepEdge o false e, by simp only [answer, hL, ofOpt],
      (List.filter_sublist).nodup h.el_nodup, fun e => ?_, by simp only [answer, hL, ofOpt]⟩
    rw [List.mem_filter, Bool.and_eq_true, decide_eq_true_eq]

/-- non-vacuity: node 1 of the demo prefix has two incident hyperedges, node 5 is not a node -/
example :
    query (run (init 2) (C01.demo.take 7)) 0 (.incident 1 {}) = .edges [[1, 2, 3], [1, 2]] ∧
    query (run (init 2) (C01.demo.take 7)) 0 (.incident 3 { size := some 2 }) = .edges [[3, 4]] ∧
    query (run (init 2) (C01.demo.take 7)) 0 (.checkNode 5) = .bool false := by decide +kernel

/-- **Node order is irrelevant.** Every entry point that takes a hyperedge behaves identically on any two
listings of the same node set (in every state, no hypothesis): `add_edge`, `remove_edge`, `set_weight`,
`set_edge_metadata`, `set_attr_to_edge_metadata`, `remove_attr_from_edge_metadata`, `check_edge`, `get_weight`,
`get_edge_metadata`; `remove_edges` and `add_edges` on batches whose members are re-listed.  The one
hypothesis, for `add_edges` **with weights** only: that call first tests the *raw* tuples for repetitions
(`[(1,2),(2,1)]` passes, `[(1,2),(1,2)]` is rejected), so the two listings must agree on that test. -/
theorem C01_order_irrelevant (s : Store) (r1 r2 : List Nat) (hp : r1.Perm r2) :
    (∀ w md, apply s (.addEdge r1 w md) = apply s (.addEdge r2 w md)) ∧
    apply s (.removeEdge r1) = apply s (.removeEdge r2) ∧
    (∀ w, apply s (.setWeight r1 w) = apply s (.setWeight r2 w)) ∧
    (∀ md, apply s (.setEdgeMeta r1 md) = apply s (.setEdgeMeta r2 md)) ∧
    (∀ k v, apply s (.setAttrEdge r1 k v) = apply s (.setAttrEdge r2 k v)) ∧
    (∀ k, apply s (.delAttrEdge r1 k) = apply s (.delAttrEdge r2 k)) ∧
    answer s (.checkEdge r1) = answer s (.checkEdge r2) ∧
    answer s (.weight r1) = answer s (.weight r2) ∧
    answer s (.edgeMeta r1) = answer s (.edgeMeta r2) ∧
    (∀ ps : List (List Nat × List Nat), (∀ p ∈ ps, p.1.Perm p.2) →
      apply s (.removeEdges (ps.map (·.1))) = apply s (.removeEdges (ps.map (·.2))) ∧
      ∀ ws mds, (ws.isSome = true → ((ps.map (·.1)).Nodup ↔ (ps.map (·.2)).Nodup)) →
        apply s (.addEdges (ps.map (·.1)) ws mds) = apply s (.addEdges (ps.map (·.2)) ws mds)) := by
  have hc := canon_eq_of_perm hp
  refine ⟨?_, ?_, ?_, ?_, ?_, ?_, ?_, ?_, ?_, ?_⟩
  · intro w md; simp only [apply, addEdge, hc]
  · simp only [apply, removeEdge, hc]
  · intro w; simp only [apply, setWeight, hc]
  · intro md; simp only [apply, setEdgeMeta, hc]
  · intro k v; simp only [apply, setAttrEdge, hc]
  · intro k; simp only [apply, delAttrEdge, hc]
  · simp only [answer, hc]
  · simp only [answer, hc]
  · simp only [answer, hc]
  · intro ps h; exact ⟨removeEdges_congr s ps h, fun ws mds hnd => addEdges_congr s ps h ws mds hnd⟩

/-- non-vacuity: two different listings of `{1,2,3}` -/
example : [3, 1, 2].Perm [1, 2, 3] ∧ [3, 1, 2] ≠ [1, 2, 3] := by decide +kernel

/-- **Re-insertion.** In a reachable state, an accepted `add_edge` of a hyperedge that is already present
(under any listing of its nodes) leaves the key list, the incidence lists and the nodes as they are; in a
weighted hypergraph the stored weight becomes old + given (given = 1 when omitted), in an unweighted one it
stays (= 1); weight and metadata of every other hyperedge are untouched. (No clause speaks of the metadata of the
re-inserted hyperedge itself: the model replaces it by the given one, as `add_edge` documents.) -/
theorem C01_reinsert (s : Store) (hr : C01.Reachable s) (raw : List Nat) (w : Option Int) (md : Option Meta)
    (hpres : answer s (.checkEdge raw) = .bool true) (hacc : (apply s (.addEdge raw w md)).2 = .ok) :
    let s' := (apply s (.addEdge raw w md)).1
    s'.edgeList = s.edgeList ∧ s'.adj = s.adj ∧ s'.nmeta = s.nmeta ∧
    weightOf s' (canon raw) = (if s.weighted then weightOf s (canon raw) + w.getD one else one) ∧
    (s.weighted = false → weightOf s (canon raw) = one) ∧
    (∀ e, e ≠ canon raw → weightOf s' e = weightOf s e ∧ emetaOf s' e = emetaOf s e) := by
  have h := hr.inv
  have hp : (get? s.edgeList (canon raw)).isSome = true := by simpa [answer] using hpres
  obtain ⟨id, hid⟩ := Option.isSome_iff_exists.mp hp
  simp only [apply] at hacc ⊢
  rw [addEdge_present s raw w md id hid hacc]
  -- on the abstraction the call is one `AL.set` at the key
  have habs := abs_addEdgeOld s (canon raw) id (w.getD one) (md.getD []) h hid
  have hwid : (wm s id).1 = weightOf s (canon raw) := by simp only [wm, weightOf, hid, Option.bind_some]
  refine ⟨rfl, rfl, rfl, ?_, fun hwt => h.weightOf_one hwt hp, fun e he => ?_⟩
  · rw [← abs_weightOf, habs]
    simp only [Spec.weightOf, get?_set_self, Option.map_some, Option.getD_some, hwid]
    cases hwt : s.weighted with
    | true => rfl
    | false => exact h.weightOf_one hwt hp
  · rw [← abs_weightOf, ← abs_emetaOf, habs, ← abs_weightOf s e, ← abs_emetaOf s e]
    simp only [Spec.weightOf, Spec.emetaOf, get?_set_ne _ _ _ _ (Ne.symm he), and_self]

/-- non-vacuity: step 3 of the demo re-inserts `{1,2,3}` as `[1,2,3]` after `[3,1,2]`: 8 + 6 = 14; the same
on an unweighted hypergraph keeps weight 1 (= 4 quanta) -/
example :
    query (run (init 2) (C01.demo.take 3)) 0 (.checkEdge [1, 2, 3]) = .bool true ∧
    query (run (init 2) (C01.demo.take 4)) 0 (.weight [2, 3, 1]) = .int 14 ∧
    query (run (init 1) [.on 0 (.addEdge [3, 1] none none), .on 0 (.addEdge [1, 3] (some 4) none)]) 0
      (.weightsDict {}) = .ews [([1, 3], 4)] := by decide +kernel

/-- **A rejected call changes nothing.** For every history of well-formed calls and every next command
(single or batched, well-formed or not): if it is rejected, the whole state - every table of every slot -
is exactly what it was. -/
theorem C01_rejected_noop (k : Nat) (cs : List Cmd) (hwf : ∀ c ∈ cs, c.WF) (c : Cmd)
    (hrej : (step (run (init k) cs) c).2 = .rej) : (step (run (init k) cs) c).1 = run (init k) cs :=
  step_rej _ c (C01_inv k cs hwf) hrej

/-- the same for one hypergraph: a rejected operation returns the store unchanged -/
theorem C01_rejected_noop_store (s : Store) (hr : C01.Reachable s) (op : Op)
    (hrej : (apply s op).2 = .rej) : (apply s op).1 = s :=
  apply_rej s op hr.inv hrej

/-- non-vacuity: rejected calls occur - a batch with a repeated member (command 10 of the demo), a batch
with a missing member, a weight on an unweighted hypergraph, short metadata list, `remove_node` of a non-node -/
example :
    (step (run (init 2) (C01.demo.take 10)) (.on 0 (.removeEdges [[1, 2], [2, 1]]))).2 = .rej ∧
    (step (run (init 2) (C01.demo.take 10)) (.on 0 (.removeNodes [1, 3] true))).2 = .rej ∧
    (step (run (init 2) (C01.demo.take 10)) (.on 1 (.addEdge [1, 2] (some 8) none))).2 = .rej ∧
    (step (run (init 2) (C01.demo.take 10)) (.on 0 (.addEdges [[1, 5], [5, 6]] (some [4, 4]) (some [[]])))).2 = .rej ∧
    (step (run (init 2) (C01.demo.take 10)) (.on 0 (.removeNode 3 false))).2 = .rej := by decide +kernel

/-- **`remove_node`, declaratively: dropping or shrinking the incident hyperedges.**  `Spec.removeNode` is written as the
code runs (re-insert each incident hyperedge without the node, remove the incident ones, drop the node); this theorem
says what that *is*, for every abstract state `a` of every history and every node `n` of it
(`Spec.weightOf` / `Spec.emetaOf` read 0 / `[]` for an absent key):
* `keep_edges=False`: accepted; the node list loses exactly `n`; a key is looked up as before unless it contains `n`,
  and then it is gone;
* `keep_edges=True`: accepted; the node list loses exactly `n`; the new key set is exactly `{ e \ {n} : e a key }`
  (nothing is dropped, nothing else appears, no key contains `n`); in a weighted hypergraph the weight of a key `x`
  is its old weight plus the weights of the hyperedges containing `n` that shrink onto it (so a shrunk hyperedge that
  meets an existing one *adds* its weight, and one that is new carries its weight over); in an unweighted one every
  weight stays 1; a key onto which no hyperedge shrinks keeps weight and metadata; a key onto which one shrinks gets the
  metadata of a hyperedge that shrinks onto it.
With `C01_refines` / `C01_refines_state` the same holds for the tables of the implementation model. -/
theorem C01_remove_node (k : Nat) (cs : List Cmd) (hwf : ∀ c ∈ cs, c.WF) (a : Spec)
    (ha : a ∈ Spec.run (Spec.init k) cs) (n : Node) (hn : n ∈ keys a.nodes) :
    (∃ a', Spec.removeNode a n false = (a', .ok) ∧ keys a'.nodes = (keys a.nodes).filter (· ≠ n) ∧
        a'.weighted = a.weighted ∧ a'.hmeta = a.hmeta ∧
        ∀ x, get? a'.edges x = if n ∈ x then none else get? a.edges x) ∧
    (∃ a', Spec.removeNode a n true = (a', .ok) ∧ keys a'.nodes = (keys a.nodes).filter (· ≠ n) ∧
        a'.weighted = a.weighted ∧ a'.hmeta = a.hmeta ∧
        (∀ x, x ∈ keys a'.edges ↔ ∃ e ∈ keys a.edges, e.filter (· ≠ n) = x) ∧
        (a.weighted = true → ∀ x, n ∉ x → Spec.weightOf a' x = Spec.weightOf a x +
            (((Spec.incidentKeys a n).filter (fun e => decide (e.filter (· ≠ n) = x))).map (Spec.weightOf a)).sum) ∧
        (a.weighted = false → ∀ x ∈ keys a'.edges, Spec.weightOf a' x = one) ∧
        (∀ x, n ∉ x → (∀ e ∈ keys a.edges, n ∈ e → e.filter (· ≠ n) ≠ x) → get? a'.edges x = get? a.edges x) ∧
        (∀ x, (∃ e ∈ keys a.edges, n ∈ e ∧ e.filter (· ≠ n) = x) →
          ∃ e ∈ keys a.edges, n ∈ e ∧ e.filter (· ≠ n) = x ∧ Spec.emetaOf a' x = Spec.emetaOf a e)) := by
  have hswf := Spec.run_swf k cs hwf ha
  have hn' : (get? a.nodes n).isSome := (C01.mem_keys_iff _ _).mp hn
  obtain ⟨a1, d1, d2, d3, d4, d5⟩ := spec_removeNode_drop _ hswf n hn'
  obtain ⟨a2, k1, k2, k3, k4, k5, k6, k7, k8, k9⟩ := spec_removeNode_keep _ hswf n hn'
  -- the closed forms speak of `(get? _ e).isSome`, the statement of `e ∈ keys _`
  simp only [← C01.mem_keys_iff] at k6 k8 k9
  refine ⟨⟨a1, d1, by rw [d2, keys_del], d3, d4, d5⟩, a2, k1, by rw [k2, keys_del], k3, k4, k6, k7, fun hw x hx => ?_, k8, k9⟩
  obtain ⟨⟨w, md⟩, hp⟩ := Option.isSome_iff_exists.mp ((C01.mem_keys_iff _ _).mp hx)
  rw [(spec_weightOf_get a2 x w md hp).1]
  exact k5.unw (by rw [k3]; exact hw) x w md hp

/-- non-vacuity: in the demo history, after the first 9 commands, node 3 lies in `{1,2,3}` (weight 14) and `{3,4}` (weight 2) next to
`{1,2}` (weight 12): shrinking merges 14 into 12 and turns `{3,4}` into `{4}`; dropping leaves `{1,2}` alone -/
example : ∃ a ∈ Spec.run (Spec.init 2) (C01.demo.take 9), 3 ∈ keys a.nodes ∧ a.weighted = true ∧
    (a.edges.map fun p => (p.1, p.2.1)) = [([1, 2, 3], 14), ([1, 2], 12), ([3, 4], 2)] ∧
    ((Spec.removeNode a 3 true).1.edges.map fun p => (p.1, p.2.1)) = [([1, 2], 26), ([4], 2)] ∧
    ((Spec.removeNode a 3 false).1.edges.map fun p => (p.1, p.2.1)) = [([1, 2], 12)] := by
  refine ⟨_, List.mem_cons_self, ?_⟩
  decide +kernel

/-- **Filters.** For every store and every query with a filter: `size = k` answers exactly as `order = k - 1`
(with the same `up_to`); giving both `order` and `size` is rejected; and the hyperedge listing with
`order = o` keeps exactly the keys with `len - 1 = o`, with `up_to` exactly those with `len - 1 ≤ o`.
No hypothesis: holds in every state. -/
theorem C01_filters (s : Store) (n : Node) (k o : Int) (u : Bool) :
    (∀ q ∈ C01.filterQueries n,
        answer s (q { size := some k, upTo := u }) = answer s (q { order := some (k - 1), upTo := u })
      ∧ answer s (q { order := some o, size := some k, upTo := u }) = Ans.rej)
    ∧ answer s (.edges { order := some o }) = .edges ((keys s.edgeList).filter fun e => (e.length : Int) - 1 == o)
    ∧ answer s (.edges { order := some o, upTo := true })
        = .edges ((keys s.edgeList).filter fun e => decide ((e.length : Int) - 1 ≤ o)) := by
  refine ⟨?_, ?_, ?_⟩
  · intro q hq
    simp only [C01.filterQueries, List.mem_cons, List.not_mem_nil, or_false] at hq
    rcases hq with h | h | h | h | h | h | h | h | h | h | h | h <;> subst h <;>
      simp [answer, edgesF, incidentF, neighborsF, degreeSeqF, Filter.resolve, ofOpt]
  · simp only [answer, edgesF, Filter.resolve, ofOpt, Option.map]
    congr 1
  · simp only [answer, edgesF, Filter.resolve, ofOpt, Option.map]
    congr 1

/-- non-vacuity: a store with keys of sizes 3, 2, 0; `size=2`, `order=1`, `order=1, up_to`, both -/
example :
    let s := (run (init 1) [.on 0 (.addEdge [3, 1, 2] none none), .on 0 (.addEdge [2, 1] none none),
                            .on 0 (.addEdge [] none none)])
    query s 0 (.edges { size := some 2 }) = .edges [[1, 2]] ∧
    query s 0 (.edges { order := some 1 }) = .edges [[1, 2]] ∧
    query s 0 (.edges { order := some 1, upTo := true }) = .edges [[1, 2], []] ∧
    query s 0 (.edges { order := some 1, size := some 2 }) = .rej := by decide +kernel

/-- **Single or batched.** For every store (no hypothesis) and every batched call that is accepted: running its members
one call each - `seqOps apply` stops at the first rejection, as a caller would - rejects nowhere and ends in the very
same store (hence, by `C01_refines`, in the same abstract hypergraph and the same answer to every query):
`add_nodes(ns, md)` = `add_node(n, md[n])` for `n` in `ns`; `remove_edges`, `remove_nodes(.., keep_edges)` likewise;
`add_edges(es, weights, metadata)` = `add_edge(es[i], weights[i], metadata[i])` in order (last clause: that is what the
`i`-th triple is), started from the store after the EMPTY batch `add_edges([], weights=[])`, which is all a batch with
weights does beyond its members (it switches an unweighted hypergraph to weighted; without weights it is the identity).
Weights are arbitrary `Int` quanta: no magnitude or mix of magnitudes inside one batch is special. -/
theorem C01_batched_is_sequence (s : Store) :
    (∀ ns mds, (apply s (.addNodes ns mds)).2 = .ok →
        seqOps apply s (ns.map fun n => Op.addNode n (mds.bind fun t => get? t n)) = apply s (.addNodes ns mds))
    ∧ (∀ raws ws mds, (apply s (.addEdges raws ws mds)).2 = .ok →
        seqOps apply (apply s (.addEdges [] (ws.map fun _ => []) none)).1
          ((zipArgs raws ws mds).map fun x => Op.addEdge x.1 (if ws.isSome then x.2.1 else none) x.2.2)
          = apply s (.addEdges raws ws mds))
    ∧ (∀ raws, (apply s (.removeEdges raws)).2 = .ok →
        seqOps apply s (raws.map Op.removeEdge) = apply s (.removeEdges raws))
    ∧ (∀ ns keep, (apply s (.removeNodes ns keep)).2 = .ok →
        seqOps apply s (ns.map fun n => Op.removeNode n keep) = apply s (.removeNodes ns keep))
    ∧ (∀ ws : Option (List Int),
        (apply s (.addEdges [] (ws.map fun _ => []) none)).1 = { s with weighted := s.weighted || ws.isSome })
    ∧ (∀ (raws : List (List Nat)) (ws : Option (List Int)) (mds : Option (List Meta)) (i : Nat),
        (zipArgs raws ws mds)[i]? = raws[i]?.map fun r => (r, ws.bind (·[i]?), mds.bind (·[i]?))) :=
  ⟨C01.addNodes_singles s, C01.addEdges_singles s, C01.removeEdges_singles s, C01.removeNodes_singles s,
   C01.addEdges_empty s, C01.zipArgs_getElem?⟩

/-- non-vacuity: on the UNWEIGHTED store after `add_edge((7, 8))` the batch `add_edges([(1,2),(2,3,4),(2,1)],
weights=[2^53 + 1, 1/2, 3])` (quanta of 1/4: an integer beyond 2^53 next to a fraction in one batch; `{1,2}` twice in
two node orders) is accepted, its three single calls are accepted, both give `{7,8}: 1, {1,2}: 2^53 + 4, {2,3,4}: 1/2`,
and the hypergraph is weighted afterwards -/
example :
    let s := (apply (Store.new false []) (.addEdge [7, 8] none none)).1
    let big : Int := 4 * (2 ^ 53 + 1)
    let b := Op.addEdges [[1, 2], [2, 3, 4], [2, 1]] (some [big, 2, 12]) none
    (apply s b).2 = .ok ∧
    seqOps apply { s with weighted := true }
      [.addEdge [1, 2] (some big) none, .addEdge [2, 3, 4] (some 2) none, .addEdge [2, 1] (some 12) none] = apply s b ∧
    answer (apply s b).1 (.weightsDict {}) = .ews [([7, 8], 4), ([1, 2], 4 * (2 ^ 53 + 4)), ([2, 3, 4], 2)] ∧
    answer (apply s b).1 .isWeighted = .bool true := by decide +kernel

/-! ## The whole object and the extraction routines

Vocabulary: `Hgxv/Model/C01X.lean`.  `Full` = the tables of `Store` + `_incidences_metadata` + `_empty_edges`;
`FCmd` = constructor | `copy` | every `Op`, `set_incidence_metadata`, `add_empty_edge` on a slot | extraction
(`subhypergraph`, `subhypergraph_by_orders`, `get_edges(subhypergraph=True)`) from slot `i` into slot `j`;
`FQuery` = every `Query` + `get_incidence_metadata` + `get_all_incidences_metadata`.  The extraction routines are modelled
as the code runs them (calls of the public mutators on a fresh object, every `raise` on the way = `rej`).
Hypothesis `c.WF` as before (raw hyperedges handed to `add_edge(s)` are duplicate-free); nothing is assumed about the
arguments of `set_incidence_metadata`, `add_empty_edge` and the extraction calls. -/

/-- a history over all four kinds of commands: an incidence entry under an unsorted spelling for a node that is none, a
rejected `set_incidence_metadata` (absent hyperedge), a rejected second `add_empty_edge`, an induced sub-hypergraph, a
rejected one (absent node), an extraction by orders without the isolated nodes, a removal after which the incidence entry
is stale, a `get_edges(size=2, subhypergraph=True, keep_isolated_nodes=True)`, and `clear()` on a copy -/
def C01.demoX : List FCmd :=
  [.new 0 true [], .on 0 (.base (.addEdge [3, 1, 2] (some 8) (some [(2, 5)]))), .on 0 (.base (.addEdge [2, 1] (some 4) none)),
   .on 0 (.base (.addEdge [4, 3] none none)), .on 0 (.base (.addNode 9 (some [(1, 1)]))),
   .on 0 (.setIncMeta [2, 1] 7 [(2, 3)]), .on 0 (.setIncMeta [5, 1] 7 [(2, 3)]),
   .on 0 (.addEmptyEdge 3 []), .on 0 (.addEmptyEdge 3 [(0, 0)]),
   .extract 0 1 (.sub [1, 2, 9]), .extract 0 2 (.sub [1, 2, 8]), .extract 0 2 (.orders (some [1, 2]) none false),
   .copy 0 3, .on 3 (.base .clear), .on 0 (.base (.removeEdge [1, 2])), .extract 0 3 (.edges { size := some 2 } true)]

theorem C01.demoX_wf : ∀ c ∈ C01.demoX, c.WF := by
  intro c hc
  simp only [C01.demoX, List.mem_cons, List.not_mem_nil, or_false] at hc
  rcases hc with h | h | h | h | h | h | h | h | h | h | h | h | h | h | h | h <;> subst h <;>
    simp [FCmd.WF, FOp.WF, Op.WF]

/-- **Refinement of the whole object, for every history and every query.**  After any finite sequence of constructor
calls, copies, the 18 mutating calls, `set_incidence_metadata`, `add_empty_edge` and extractions (`subhypergraph`,
`subhypergraph_by_orders`, `get_edges(subhypergraph=True)`, accepted or rejected), every query - the 32 of `C01_refines`,
`get_incidence_metadata`, `get_all_incidences_metadata` - on every slot is answered by the tables exactly as by the abstract
hypergraph (node list + map from node sets to (weight, metadata) + the two side tables) that went through the same calls. -/
theorem C01_full_refines (k : Nat) (cs : List FCmd) (hwf : ∀ c ∈ cs, c.WF) (i : Nat) (q : FQuery) :
    fquery (frun (finit k) cs) i q = FSpec.query (FSpec.run (FSpec.init k) cs) i q :=
  fquery_sim _ _ (frun_sim cs _ _ hwf (finit_sim k)) i q

/-- state form: the abstract state is the abstraction of the concrete one slot by slot, every slot (also every extracted
object) satisfies the representation invariant, and the next command - in particular the next extraction - is accepted by
the tables iff it is accepted by the abstract hypergraph -/
theorem C01_full_refines_state (k : Nat) (cs : List FCmd) (hwf : ∀ c ∈ cs, c.WF) (c : FCmd) (hc : c.WF) :
    FSpec.run (FSpec.init k) cs = (frun (finit k) cs).map fabs ∧
    (∀ s ∈ frun (finit k) cs, Inv s.base) ∧
    (fstep (frun (finit k) cs) c).2 = (FSpec.step (FSpec.run (FSpec.init k) cs) c).2 := by
  have h := frun_sim cs _ _ hwf (finit_sim k)
  exact ⟨h.1, h.2, (fstep_sim _ _ c hc h).2⟩

/-- non-vacuity: the demo history does what its comment says (slot 1: induced by {1,2,9}; slot 2: hyperedges of order
1 and 2 with their nodes only; slot 3: after the removal of {1,2} only {3,4} has size 2, all five nodes kept; slot 0 keeps
the stale incidence entry, and `get_incidence_metadata` raises for it) -/
example : (∀ c ∈ C01.demoX, c.WF) ∧
    fquery (frun (finit 4) C01.demoX) 1 (.base (.weightsDict {})) = .base (.ews [([1, 2], 4)]) ∧
    fquery (frun (finit 4) C01.demoX) 1 (.base .nodesMeta) = .base (.nmetas [(1, []), (2, []), (9, [(1, 1)])]) ∧
    fquery (frun (finit 4) C01.demoX) 2 (.base (.weightsDict {})) = .base (.ews [([1, 2], 4), ([3, 4], 4), ([1, 2, 3], 8)]) ∧
    fquery (frun (finit 4) C01.demoX) 2 (.base .nodes) = .base (.nats [1, 2, 3, 4]) ∧
    fquery (frun (finit 4) C01.demoX) 3 (.base (.weightsDict {})) = .base (.ews [([3, 4], 4)]) ∧
    fquery (frun (finit 4) C01.demoX) 3 (.base .nodes) = .base (.nats [1, 2, 3, 4, 9]) ∧
    fquery (frun (finit 4) C01.demoX) 0 .allIncMeta = .imetas [(([2, 1], 7), [(2, 3)])] ∧
    fquery (frun (finit 4) C01.demoX) 0 (.incMeta [2, 1] 7) = .base .rej ∧
    fquery (frun (finit 4) C01.demoX) 3 .allIncMeta = .imetas [] :=
  ⟨C01.demoX_wf, by decide +kernel⟩

/-- **A rejected call leaves the whole state unchanged** - also a rejected extraction (absent node in `subhypergraph`,
`orders` and `sizes` both or neither given, `order` and `size` both given), a rejected `set_incidence_metadata` (absent
hyperedge) and a rejected `add_empty_edge` (name taken): no slot, no table changes. -/
theorem C01_full_rejected_noop (k : Nat) (cs : List FCmd) (hwf : ∀ c ∈ cs, c.WF) (c : FCmd)
    (h : (fstep (frun (finit k) cs) c).2 = .rej) : (fstep (frun (finit k) cs) c).1 = frun (finit k) cs :=
  fstep_rej _ c (frun_sim cs _ _ hwf (finit_sim k)).2 h

/-- non-vacuity: commands 6, 8 and 10 of the demo history are rejected -/
example :
    (fstep (frun (finit 4) (C01.demoX.take 6)) (.on 0 (.setIncMeta [5, 1] 7 [(2, 3)]))).2 = .rej ∧
    (fstep (frun (finit 4) (C01.demoX.take 8)) (.on 0 (.addEmptyEdge 3 [(0, 0)]))).2 = .rej ∧
    (fstep (frun (finit 4) (C01.demoX.take 10)) (.extract 0 2 (.sub [1, 2, 8]))).2 = .rej ∧
    (fstep (frun (finit 4) (C01.demoX.take 10)) (.extract 0 2 (.orders none none true))).2 = .rej ∧
    (fstep (frun (finit 4) (C01.demoX.take 10)) (.extract 0 2 (.edges { order := some 1, size := some 2 } false))).2 = .rej := by
  decide +kernel

/-- **The whole-object machine extends the machine of `C01_refines`**: on a history of base commands its node / hyperedge
tables are exactly the states of `C01.run`, and the base queries are answered alike.  (So everything proved about
`C01.run` - `C01_inv`, `C01_incident_once`, `C01_reinsert`, ... - holds for the tables of the whole object.) -/
theorem C01_full_extends (k : Nat) (cs : List Cmd) :
    (frun (finit k) (cs.map Cmd.lift)).map (·.base) = run (init k) cs ∧
    ∀ i q, fquery (frun (finit k) (cs.map Cmd.lift)) i (.base q) = .base (query (run (init k) cs) i q) := by
  have h1 : (frun (finit k) (cs.map Cmd.lift)).map (·.base) = run (init k) cs := by
    rw [frun_lift, finit_base]
  refine ⟨h1, ?_⟩
  intro i q
  rw [← h1]
  simp only [fquery, query, List.getElem?_map]
  cases (frun (finit k) (cs.map Cmd.lift))[i]? <;> rfl

example : (frun (finit 2) (C01.demo.map Cmd.lift)).map (·.base) = run (init 2) C01.demo := (C01_full_extends 2 C01.demo).1

/-- **One extraction call** on the tables of any reachable object is matched by the same routine on its abstraction: same
outcome, the new object's abstraction is the abstract result, and the new object (new ids from 0) satisfies `Inv`. -/
theorem C01_extraction_refines (s : Store) (hr : C01.Reachable s) (x : Extract) :
    abs (extract s x).1 = (Spec.extract (abs s) x).1 ∧ (extract s x).2 = (Spec.extract (abs s) x).2 ∧
      Inv (extract s x).1 :=
  sim_extract s x hr.inv

/-- **What `subhypergraph(nodes)` is** (the abstract routine is written as the code runs: `add_nodes`, then
`set_node_metadata(get_node_metadata)` per listed node, then `add_edge(get_weight, get_edge_metadata)` per hyperedge inside
the list).  For every abstract hypergraph `a` of every history: the call is accepted iff every listed node is a node
(repetitions are fine); then the new hypergraph has the source's weighted flag, the constructor's hypergraph metadata,
exactly the listed nodes with the source's metadata, and exactly the source's hyperedges all of whose nodes are listed - in
the source's order, each with the source's weight and metadata. -/
theorem C01_subhypergraph (k : Nat) (cs : List FCmd) (hwf : ∀ c ∈ cs, c.WF) (a : FSpec)
    (ha : a ∈ FSpec.run (FSpec.init k) cs) (ns : List Node) :
    ((Spec.subhypergraph a.base ns).2 = .ok ↔ ∀ n ∈ ns, (get? a.base.nodes n).isSome) ∧
    ((∀ n ∈ ns, (get? a.base.nodes n).isSome) →
      (Spec.subhypergraph a.base ns).1.weighted = a.base.weighted ∧
      (Spec.subhypergraph a.base ns).1.hmeta = initHMeta a.base.weighted [] ∧
      (∀ m, get? (Spec.subhypergraph a.base ns).1.nodes m = if m ∈ ns then get? a.base.nodes m else none) ∧
      keys (Spec.subhypergraph a.base ns).1.edges = (keys a.base.edges).filter (insideOf ns) ∧
      ∀ x, get? (Spec.subhypergraph a.base ns).1.edges x = if insideOf ns x then get? a.base.edges x else none) :=
  spec_subhypergraph a.base (FSpec.run_swf k cs hwf ha) ns

/-- non-vacuity: slot 0 of the demo history after the first 9 commands, nodes [1, 2, 9] (accepted; the result is slot 1 above) and
[1, 2, 8] (8 is no node) -/
example : ∃ a ∈ FSpec.run (FSpec.init 4) (C01.demoX.take 9),
    (∀ n ∈ [1, 2, 9], (get? a.base.nodes n).isSome) ∧ ¬ (∀ n ∈ [1, 2, 8], (get? a.base.nodes n).isSome) ∧
    keys (Spec.subhypergraph a.base [1, 2, 9]).1.edges = [[1, 2]] ∧ keys a.base.edges = [[1, 2, 3], [1, 2], [3, 4]] :=
  ⟨_, List.mem_of_getElem? (show (FSpec.run (FSpec.init 4) (C01.demoX.take 9))[0]? = some _ from rfl), by decide +kernel⟩

/-- **What `subhypergraph_by_orders(orders | sizes)` is** (default `keep_nodes=True`; the abstract routine is written as the
code runs: `add_nodes(get_nodes())`, `set_node_metadata(get_node_metadata)` per node, then for every size of
`dict.fromkeys(sizes)` - orders are sizes minus one - `add_edge(get_weight, get_edge_metadata)` per hyperedge of
`get_edges(size=size)`).  For every abstract hypergraph `a` of every history: the call raises iff `orders` and `sizes` are
both given or both missing (whatever `keep_nodes`); otherwise it is accepted, and the new hypergraph has the source's
weighted flag, the constructor's hypergraph metadata, all the source's nodes with their metadata, and exactly the source's
hyperedges whose size is listed, each ONCE (also when a size is listed twice: no weight is added twice) with the source's
weight and metadata, listed size by size in order of first mention and within a size in the source's order. -/
theorem C01_subhypergraph_by_orders (k : Nat) (cs : List FCmd) (hwf : ∀ c ∈ cs, c.WF) (a : FSpec)
    (ha : a ∈ FSpec.run (FSpec.init k) cs) (os ks : Option (List Int)) :
    (sizesArg os ks = none → ∀ keep, (Spec.subOrders a.base os ks keep).2 = .rej) ∧
    (∀ sz, sizesArg os ks = some sz →
      (Spec.subOrders a.base os ks true).2 = .ok ∧
      (Spec.subOrders a.base os ks true).1.weighted = a.base.weighted ∧
      (Spec.subOrders a.base os ks true).1.hmeta = initHMeta a.base.weighted [] ∧
      (∀ m, get? (Spec.subOrders a.base os ks true).1.nodes m = get? a.base.nodes m) ∧
      keys (Spec.subOrders a.base os ks true).1.edges = edgesOfSizes sz (keys a.base.edges) ∧
      ∀ x, get? (Spec.subOrders a.base os ks true).1.edges x =
        if (x.length : Int) ∈ sz then get? a.base.edges x else none) :=
  spec_subOrders_keep a.base (FSpec.run_swf k cs hwf ha) os ks

/-- non-vacuity: slot 0 of the demo history after the first 9 commands (hyperedges {1,2,3}:8, {1,2}:4, {3,4}:4, node 9 isolated),
orders [1, 2, 1] = sizes [2, 3, 2]: both hyperedges of size 2 first, then {1,2,3}; no weight doubled -/
example : ∃ a ∈ FSpec.run (FSpec.init 4) (C01.demoX.take 9),
    sizesArg (some [1, 2, 1]) none = some [2, 3, 2] ∧ sizesArg (some [1]) (some [2]) = none ∧ sizesArg none none = none ∧
    keys (Spec.subOrders a.base (some [1, 2, 1]) none true).1.edges = [[1, 2], [3, 4], [1, 2, 3]] ∧
    get? (Spec.subOrders a.base (some [1, 2, 1]) none true).1.edges [1, 2] = some (4, []) ∧
    keys (Spec.subOrders a.base (some [1, 2, 1]) none true).1.nodes = [1, 2, 3, 4, 9] :=
  ⟨_, List.mem_of_getElem? (show (FSpec.run (FSpec.init 4) (C01.demoX.take 9))[0]? = some _ from rfl), by decide +kernel⟩

/-- **`subhypergraph_by_orders(.., keep_nodes=False)`**: accepted whenever exactly one of `orders` / `sizes` is given; the
hyperedges are those of `C01_subhypergraph_by_orders` (each once, source order within a size, the source's weight and
metadata), and the nodes are exactly the nodes of the selected hyperedges, with the source's metadata - isolated nodes and
nodes of other hyperedges are gone. -/
theorem C01_subhypergraph_by_orders_drop_nodes (k : Nat) (cs : List FCmd) (hwf : ∀ c ∈ cs, c.WF) (a : FSpec)
    (ha : a ∈ FSpec.run (FSpec.init k) cs) (os ks : Option (List Int)) (sz : List Int) (hsz : sizesArg os ks = some sz) :
    (Spec.subOrders a.base os ks false).2 = .ok ∧
    (Spec.subOrders a.base os ks false).1.weighted = a.base.weighted ∧
    (Spec.subOrders a.base os ks false).1.hmeta = initHMeta a.base.weighted [] ∧
    (∀ m, get? (Spec.subOrders a.base os ks false).1.nodes m =
      if m ∈ (edgesOfSizes sz (keys a.base.edges)).flatten then get? a.base.nodes m else none) ∧
    keys (Spec.subOrders a.base os ks false).1.edges = edgesOfSizes sz (keys a.base.edges) ∧
    ∀ x, get? (Spec.subOrders a.base os ks false).1.edges x =
      if (x.length : Int) ∈ sz then get? a.base.edges x else none :=
  spec_subOrders_drop a.base (FSpec.run_swf k cs hwf ha) os ks sz hsz

/-- non-vacuity: slot 0 of the demo history after the first 9 commands, `sizes=[2]`, `keep_nodes=False`: {1,2} and {3,4} with the
nodes 1..4; node 9 (isolated) is gone -/
example : ∃ a ∈ FSpec.run (FSpec.init 4) (C01.demoX.take 9),
    sizesArg none (some [2]) = some [2] ∧
    keys (Spec.subOrders a.base none (some [2]) false).1.edges = [[1, 2], [3, 4]] ∧
    keys (Spec.subOrders a.base none (some [2]) false).1.nodes = [1, 2, 3, 4] ∧ 9 ∈ keys a.base.nodes :=
  ⟨_, List.mem_of_getElem? (show (FSpec.run (FSpec.init 4) (C01.demoX.take 9))[0]? = some _ from rfl), by decide +kernel⟩

/-- **What `get_edges(order, size, up_to, subhypergraph=True, keep_isolated_nodes)` is** (the abstract routine is written as
the code runs: optionally `add_nodes(get_nodes())`, then ONE `add_edges(edges, [get_weight(e) for e in edges])` resp.
`add_edges(edges)`, then `set_node_metadata(get_node_metadata)` for every node the new object has, then
`set_edge_metadata(get_edge_metadata)` per selected hyperedge).  For every abstract hypergraph `a` of every history: the call
raises iff `order` and `size` are both given; otherwise it is accepted, and the new hypergraph has the source's weighted flag,
the constructor's hypergraph metadata, exactly the source's hyperedges that pass the filter - in the source's order, each with the
source's weight and metadata - and as nodes, with the source's metadata: ALL nodes of the source with `keep_isolated_nodes`,
exactly the nodes of the selected hyperedges without. -/
theorem C01_get_edges_subhypergraph (k : Nat) (cs : List FCmd) (hwf : ∀ c ∈ cs, c.WF) (a : FSpec)
    (ha : a ∈ FSpec.run (FSpec.init k) cs) (f : Filter) (iso : Bool) :
    (f.resolve = none → (Spec.subEdges a.base f iso).2 = .rej) ∧
    (∀ o, f.resolve = some o →
      (Spec.subEdges a.base f iso).2 = .ok ∧
      (Spec.subEdges a.base f iso).1.weighted = a.base.weighted ∧
      (Spec.subEdges a.base f iso).1.hmeta = initHMeta a.base.weighted [] ∧
      (∀ m, get? (Spec.subEdges a.base f iso).1.nodes m =
        if iso = true ∨ m ∈ ((keys a.base.edges).filter (keepEdge o f.upTo)).flatten then get? a.base.nodes m else none) ∧
      keys (Spec.subEdges a.base f iso).1.edges = (keys a.base.edges).filter (keepEdge o f.upTo) ∧
      ∀ x, get? (Spec.subEdges a.base f iso).1.edges x = if keepEdge o f.upTo x then get? a.base.edges x else none) :=
  spec_subEdges a.base (FSpec.run_swf k cs hwf ha) f iso

/-- non-vacuity: slot 0 of the demo history after the first 9 commands (hyperedges {1,2,3}:8 with metadata, {1,2}:4, {3,4}:4, node 9
isolated with metadata), `size=3` without and `order=1, up_to` with the isolated nodes; `order=1, size=2` raises -/
example : ∃ a ∈ FSpec.run (FSpec.init 4) (C01.demoX.take 9),
    ({ size := some 3 } : Filter).resolve = some (some 2) ∧ ({ order := some 1, size := some 2 } : Filter).resolve = none ∧
    (Spec.subEdges a.base { size := some 3 } false).1.edges = [([1, 2, 3], (8, [(2, 5)]))] ∧
    keys (Spec.subEdges a.base { size := some 3 } false).1.nodes = [1, 2, 3] ∧
    keys (Spec.subEdges a.base { order := some 1, upTo := true } true).1.edges = [[1, 2], [3, 4]] ∧
    (Spec.subEdges a.base { order := some 1, upTo := true } true).1.nodes = [(1, []), (2, []), (3, []), (4, []), (9, [(1, 1)])] :=
  ⟨_, List.mem_of_getElem? (show (FSpec.run (FSpec.init 4) (C01.demoX.take 9))[0]? = some _ from rfl), by decide +kernel⟩

/-- **The two side tables** (`_incidences_metadata`, `_empty_edges`), for ANY object `s`.
(1) `set_incidence_metadata(edge, node, md)` on a present hyperedge is accepted and changes nothing but the entry
`(edge as written, node)`, which `get_incidence_metadata` then returns under the same spelling; (2) on an absent hyperedge
setter and getter raise and nothing changes; (3) no call of the 18 other than `clear()` touches the two tables - in
particular an entry survives `remove_edge` / `remove_node` of its hyperedge (while it is gone the getter raises, by
(2)); (4) `clear()` empties both; (5) `add_empty_edge(name)` is accepted iff the
name is not registered, and then it is. -/
theorem C01_side_tables (s : Full) (raw : List Nat) (n : Node) (md : Meta) (name : Nat) (op : Op) :
    ((get? s.base.edgeList (canon raw)).isSome →
      (s.apply (.setIncMeta raw n md)).2 = .ok ∧
      (s.apply (.setIncMeta raw n md)).1.base = s.base ∧ (s.apply (.setIncMeta raw n md)).1.empties = s.empties ∧
      (s.apply (.setIncMeta raw n md)).1.answer (.incMeta raw n) = .base (.dict md) ∧
      ∀ k, k ≠ (raw, n) → get? (s.apply (.setIncMeta raw n md)).1.inc k = get? s.inc k) ∧
    ((get? s.base.edgeList (canon raw)).isSome = false →
      s.apply (.setIncMeta raw n md) = (s, .rej) ∧ s.answer (.incMeta raw n) = .base .rej) ∧
    (isClear op = false → (s.apply (.base op)).1.inc = s.inc ∧ (s.apply (.base op)).1.empties = s.empties) ∧
    ((s.apply (.base .clear)).1.inc = [] ∧ (s.apply (.base .clear)).1.empties = []) ∧
    ((s.apply (.addEmptyEdge name md)).2 = .ok ↔ (get? s.empties name).isSome = false) ∧
    ((s.apply (.addEmptyEdge name md)).2 = .ok →
      (get? (s.apply (.addEmptyEdge name md)).1.empties name).isSome ∧
      ((s.apply (.addEmptyEdge name md)).1.apply (.addEmptyEdge name md)).2 = .rej) := by
  refine ⟨?_, ?_, ?_, ?_, ?_, ?_⟩
  · intro hp
    simp only [Full.apply, regSetInc, hp, if_true, Full.answer, regGetInc, get?_set_self]
    refine ⟨trivial, trivial, trivial, trivial, ?_⟩
    intro k hk
    exact get?_set_ne _ _ _ _ (fun h => hk h.symm)
  · intro hp
    simp [Full.apply, regSetInc, hp, Full.answer, regGetInc]
  · intro hc
    simp [Full.apply, hc]
  · exact ⟨rfl, rfl⟩
  · simp only [Full.apply, regAddEmpty]
    cases (get? s.empties name).isSome <;> simp
  · simp only [Full.apply, regAddEmpty]
    by_cases hp : (get? s.empties name).isSome = true
    · simp [hp]
    · simp [hp]

/-! ## The constructor as one call, the hashing view, `get_mapping`, the raw tables
(`Model/C01Ext.lean`, `Proofs/C01Ext.lean`) -/

/-- **The constructor is one modelled call.**  For all constructor arguments whose hyperedges are node sets: the
constructor on the tables is accepted iff the constructor on the map is, and then `abs` of the object is the map's object;
an accepted call IS the history `new`, `add_node(node, metadata)` per `node_metadata` item, one `add_edges(edge_list,
weights, edge_metadata)` (none when `edge_list` is empty / None) on a fresh slot, every call well-formed - so the object is
`Reachable`, satisfies `Inv`, and every other theorem of this file speaks about constructed objects. -/
theorem C01_constructor (a : CtorArgs) (ha : a.WF) :
    (construct a).map abs = Spec.construct a ∧
    ∀ s, construct a = some s →
      run (init 1) (ctorCmds 0 a) = [s] ∧ (∀ c ∈ ctorCmds 0 a, c.WF) ∧ C01.Reachable s ∧ Inv s := by
  refine ⟨(construct_sim a ha).1, fun s hs => ?_⟩
  have hrun := construct_run a s hs
  have hwf := ctorCmds_wf a ha
  exact ⟨hrun, hwf, ⟨1, ctorCmds 0 a, 0, hwf, by rw [hrun]; rfl⟩, (construct_sim a ha).2 s hs⟩

/-- **When the constructor raises.**  With an empty / absent `edge_list` it never raises (whatever `weights` and
`edge_metadata` are); otherwise it raises iff its own length test fires (`weighted and weights is not None and
len(edge_list) != len(weights)`) or the one `add_edges` call on the object holding the `node_metadata` nodes raises; a
failed validation of `add_edges` (repeated tuple with weights, wrong number of weights, too few metadata entries) is
such a case; and the tables raise exactly when the map does. -/
theorem C01_constructor_rejects (a : CtorArgs) (ha : a.WF) :
    (a.edges = [] → (construct a).isSome) ∧
    (construct a = none ↔ a.edges ≠ [] ∧ (ctorLenBad a = true ∨
        (addEdges (ctorNodes (Store.new a.weighted a.hm) a.nodeMeta) a.edges a.weights a.emetas).2 = .rej)) ∧
    (a.edges ≠ [] → addEdgesValid a.edges a.weights a.emetas = false → construct a = none) ∧
    (construct a = none ↔ Spec.construct a = none) := by
  have key : construct a = none ↔ a.edges ≠ [] ∧ (ctorLenBad a = true ∨
        (addEdges (ctorNodes (Store.new a.weighted a.hm) a.nodeMeta) a.edges a.weights a.emetas).2 = .rej) := by
    unfold construct
    simp only []
    by_cases he : a.edges = []
    · simp [he]
    · have he' : a.edges.isEmpty = false := by simpa using he
      simp only [he', Bool.false_eq_true, if_false, ne_eq, he, not_false_eq_true, true_and]
      by_cases hb : ctorLenBad a = true
      · simp [hb]
      · simp only [hb, Bool.false_eq_true, if_false, false_or]
        generalize addEdges (ctorNodes (Store.new a.weighted a.hm) a.nodeMeta) a.edges a.weights a.emetas = r
        obtain ⟨s', o⟩ := r
        cases o <;> simp
  refine ⟨?_, key, ?_, ?_⟩
  · intro he
    cases h : construct a with
    | some _ => rfl
    | none => exact absurd he (key.mp h).1
  · intro he hv
    exact key.mpr ⟨he, Or.inr (by simp [addEdges, hv])⟩
  · rw [← (construct_sim a ha).1]; simp

/-- non-vacuity: a weighted constructor call with node metadata, an unsorted hyperedge and a repeated one in another node
order (weights add up) is accepted; its history is well-formed; a call with 2 hyperedges and 1 weight raises; so does an
unweighted one with a repeated tuple and weights; `edge_list=[]` with a stray weight list does not -/
example :
    let a : CtorArgs := { weighted := true, hm := [(5, 6)], nodeMeta := [(9, [(1, 1)]), (2, [])],
                          edges := [[3, 1, 2], [2, 4]], weights := some [8, 4], emetas := some [[(2, 5)], []] }
    a.WF ∧ (construct a).isSome = true ∧ (construct a).map abs = Spec.construct a ∧
    (construct a).map (fun s => answer s .nodes) = some (.nats [9, 2, 1, 3, 4]) ∧
    construct { a with weights := some [8] } = none ∧
    construct { a with weighted := false, edges := [[1, 2], [1, 2]], weights := some [4, 4] } = none ∧
    (construct { a with edges := [], weights := some [4] }).isSome = true := by decide +kernel

/-- **`populate_from_dict ∘ expose_data_structures = id`** on the nine tables (and the exposed dictionary of a populated
object is the dictionary): the route is a faithful copy of node and hyperedge tables, ids and id counter included. -/
theorem C01_tables_roundtrip (s : Store) (d : TableDict) :
    populate (exposeTables s) = s ∧ exposeTables (populate d) = d ∧
    abs (populate (exposeTables s)) = abs s ∧ (Inv s → Inv (populate (exposeTables s))) :=
  ⟨rfl, rfl, rfl, id⟩

/-- **The hashing view is the abstract hypergraph in canonical order.**  On every reachable object
`expose_attributes_for_hashing()` cannot raise and returns the flag, the hypergraph metadata, exactly the map's entries
(key, weight, metadata), each once, in strictly increasing (lexicographic) key order, and exactly the nodes with their
metadata in strictly increasing label order. -/
theorem C01_hashing (s : Store) (hr : C01.Reachable s) :
    hashView s = some (Spec.hashView (abs s)) ∧
    (Spec.hashView (abs s)).edges.Perm (abs s).edges ∧
    (Spec.hashView (abs s)).edges.Pairwise (fun x y => C03.ltList x.1 y.1 = true) ∧
    (Spec.hashView (abs s)).nodes.Perm (abs s).nodes ∧
    (Spec.hashView (abs s)).nodes.Pairwise (fun x y => x.1 < y.1) := by
  have h := hr.inv
  exact ⟨hashView_abs s h, C03.sortBy_perm _ _ _, C03.sortBy_sorted _ _ st_ltList _ (abs_tab h).knd,
    C03.sortBy_perm _ _ _, C03.sortBy_ltNat_sorted _ _ (abs_tab h).nnd⟩

/-- **The hashing view is canonical.**  Two reachable objects (any histories, insertion orders, ids) have the same
hashing view IFF they have the same flag, the same hypergraph metadata, the same (key, weight, metadata) entries and the
same nodes with metadata up to order. -/
theorem C01_hashing_canonical (s t : Store) (hs : C01.Reachable s) (ht : C01.Reachable t) :
    hashView s = hashView t ↔
      (s.weighted = t.weighted ∧ s.hmeta = t.hmeta ∧ (abs s).edges.Perm (abs t).edges ∧ (abs s).nodes.Perm (abs t).nodes) := by
  have h1 := hs.inv
  rw [hashView_abs s h1, hashView_abs t ht.inv, Option.some.injEq]
  unfold Spec.hashView
  rw [HashView.mk.injEq, C03.sortBy_eq_iff _ _ st_ltList _ _ (abs_tab h1).knd,
    C03.sortBy_eq_iff _ _ C03.st_ltNat _ _ (abs_tab h1).nnd]
  exact Iff.rfl

/-- **`get_mapping()` is a bijection in label order.**  On every reachable object the encoder's classes are exactly the
nodes, each once, in strictly increasing label order (the same list the abstract hypergraph gives); `transform` answers
for a label iff it is a node, the class at the returned position is that label, and two nodes with the same position are
the same node. -/
theorem C01_mapping (s : Store) (hr : C01.Reachable s) :
    mapping s = Spec.mapping (abs s) ∧
    (mapping s).Perm (keys s.adj) ∧ (mapping s).Nodup ∧ (mapping s).Pairwise (· < ·) ∧
    (∀ n, (C03.indexOf? (mapping s) n).isSome ↔ answer s (.checkNode n) = .bool true) ∧
    (∀ n i, C03.indexOf? (mapping s) n = some i → (mapping s)[i]? = some n) ∧
    (∀ n m i, C03.indexOf? (mapping s) n = some i → C03.indexOf? (mapping s) m = some i → n = m) := by
  have h := hr.inv
  have hperm : (mapping s).Perm (keys s.adj) := C03.sortBy_perm _ _ _
  have hsorted : (mapping s).Pairwise (· < ·) := C03.sortBy_ltNat_sorted id _ (by rw [List.map_id]; exact h.adj_nodup)
  refine ⟨?_, hperm, hperm.nodup_iff.mpr h.adj_nodup, hsorted, ?_, fun n i hi => C03.indexOf?_get _ n i hi, ?_⟩
  · show C03.sortBy id C03.ltNat (keys s.adj) = C03.sortBy id C03.ltNat (keys s.nmeta)
    rw [h.nm_keys]
  · intro n
    rw [C03.indexOf?_some_iff, hperm.mem_iff, C01.mem_keys_iff]
    simp [answer]
  · intro n m i hn hm
    have a := C03.indexOf?_get _ n i hn
    have b := C03.indexOf?_get _ m i hm
    rw [a] at b; exact Option.some.inj b

/-- non-vacuity on the demo history (slot 0 holds nodes inserted as 3,1,2,4,7,8 with 3 removed, one hyperedge left):
the hashing view exists and lists the nodes in label order, the mapping is sorted, `transform` of the removed node raises,
the view of the table route is the source's -/
example :
    let s := ((run (init 2) C01.demo)[0]?).getD {}
    answer s .nodes = .nats [1, 2, 4, 7, 8] ∧ mapping s = [1, 2, 4, 7, 8] ∧
    C03.indexOf? (mapping s) 4 = some 2 ∧ C03.indexOf? (mapping s) 3 = none ∧
    (hashView s).map (fun v => v.nodes.map (·.1)) = some [1, 2, 4, 7, 8] ∧
    (hashView s).map (fun v => v.edges.map (·.1)) = some ((abs s).edges.map (·.1)) ∧
    hashView (populate (exposeTables s)) = hashView s := by decide +kernel

/-- **`subhypergraph_largest_component(size, order)` as a modelled call** (`Model/C01Lcc.lean`: the component routine and
`max(components, key=len)` of `Model/C08.lean` on the object's own listings, then `subhypergraph`).  On every reachable
object: (1) the call on the tables is matched by the same call on the abstract hypergraph - same outcome, `abs` of the new
object is the abstract result, the new object satisfies `Inv`; (2) it raises iff `size` and `order` are both given or the
hypergraph has no node (`max()` of no component); (3) otherwise the node list handed on is a member of
`connected_components(size, order)` of maximal length (the FIRST such in the order of `get_nodes()`: `C08.maxByLen`), all
its members are nodes, and the result is `subhypergraph` of it: the source's flag, fresh hypergraph metadata, exactly the
component's nodes with the source's metadata, exactly the source's hyperedges inside the component, in the source's order,
each with the source's weight and metadata. -/
theorem C01_subhypergraph_largest_component (s : Store) (hr : C01.Reachable s) (o k : Option Int) :
    (abs (subLcc s o k).1 = (Spec.subLcc (abs s) o k).1 ∧ (subLcc s o k).2 = (Spec.subLcc (abs s) o k).2 ∧
      Inv (subLcc s o k).1) ∧
    ((subLcc s o k).2 = .ok ↔ ¬ (o.isSome = true ∧ k.isSome = true) ∧ answer s .numNodes ≠ .int 0) ∧
    (∀ f comp, lccFilt o k = some f → C08.largestComponent (keys s.adj) (keys s.edgeList) f = some comp →
      comp ∈ C08.components (keys s.adj) (keys s.edgeList) f ∧
      (∀ d ∈ C08.components (keys s.adj) (keys s.edgeList) f, d.length ≤ comp.length) ∧
      (∀ n ∈ comp, answer s (.checkNode n) = .bool true) ∧
      (subLcc s o k).2 = .ok ∧
      abs (subLcc s o k).1 = (Spec.subhypergraph (abs s) comp).1 ∧
      (abs (subLcc s o k).1).weighted = s.weighted ∧
      (abs (subLcc s o k).1).hmeta = initHMeta s.weighted [] ∧
      (∀ m, get? (abs (subLcc s o k).1).nodes m = if m ∈ comp then get? (abs s).nodes m else none) ∧
      keys (abs (subLcc s o k).1).edges = (keys (abs s).edges).filter (insideOf comp) ∧
      ∀ x, get? (abs (subLcc s o k).1).edges x = if insideOf comp x then get? (abs s).edges x else none) := by
  have h := hr.inv
  refine ⟨subLcc_sim s h o k, ?_, ?_⟩
  · rw [subLcc_ok_iff s h o k]
    have e1 : ((lccFilt o k).isSome = true) ↔ ¬ (o.isSome = true ∧ k.isSome = true) := by
      cases o <;> cases k <;> simp [lccFilt]
    have e2 : keys s.adj ≠ [] ↔ answer s .numNodes ≠ .int 0 := by
      simp only [answer, ne_eq, Ans.int.injEq]
      cases keys s.adj with
      | nil => simp
      | cons a t =>
        have : ¬ ((t.length : Int) + 1 = 0) := by omega
        simpa using this
    rw [e1, e2]
  · intro f comp hf hc
    have hl : lccNodes (keys s.adj) (keys s.edgeList) o k = some comp := by unfold lccNodes; rw [hf]; exact hc
    obtain ⟨_, hok, habs⟩ := subLcc_eq s h o k comp hl
    obtain ⟨d1, d2, d3, d4, d5⟩ := (spec_subhypergraph (abs s) (abs_swf h) comp).2 (comp_nodes_some s h o k comp hl)
    rw [habs]
    refine ⟨(maxByLen_some _ _ hc).1, (maxByLen_some _ _ hc).2, ?_, hok, rfl, d1, d2, d3, d4, d5⟩
    intro n hn
    have := lccNodes_sub s h o k comp hl n hn
    have := (C01.mem_keys_iff _ _).mp this
    simp [answer, this]

/-- non-vacuity on slot 0 of the demo history (nodes 1,2,4,7,8): the call is accepted there (by part (2): the component
routine is defined by well-founded recursion and does not reduce in the kernel); with both arguments it raises; on a fresh
object it raises -/
example :
    let s := ((run (init 2) C01.demo)[0]?).getD {}
    C01.Reachable s ∧ (subLcc s none none).2 = .ok ∧
    (subLcc s (some 1) (some 2)).2 = .rej ∧ (subLcc (Store.new true []) none none).2 = .rej := by
  have hr : C01.Reachable (((run (init 2) C01.demo)[0]?).getD {}) := ⟨2, C01.demo, 0, C01.demo_wf, by decide⟩
  exact ⟨hr, ((C01_subhypergraph_largest_component _ hr none none).2.1).mpr ⟨by decide, by decide⟩, by decide, by decide⟩
