import Hgxv.Proofs.C06
import Hgxv.Proofs.C06WF
import Hgxv.Proofs.C06Hgr
import Hgxv.Proofs.C06Hif
import Hgxv.Proofs.C06HifRecords
import Hgxv.Proofs.C06LinkH
import Hgxv.Proofs.C06LinkD
import Hgxv.Proofs.C06LinkT
import Hgxv.Proofs.C06LinkM
import Hgxv.Proofs.C06Text
import Hgxv.Proofs.C06Str
import Hgxv.Proofs.C06Json
import Hgxv.Proofs.C06HgrText
/-! # C06 — save then load returns the same hypergraph, for every type and format

Property theorems about the models `Hgxv/Model/C06*.lean` (records and `.hgr` lines, HIF, text framing, string
literals, JSON characters, `.hgr` characters) and their links to the container models C01 … C04
(`Proofs/C06Link*.lean`).  A `Content κ` is what the
public API shows of a container; `WF` is what every object built through that API satisfies
(distinct nodes, distinct canonical keys, hyperedges only over listed nodes, weight 1 everywhere when
unweighted) — the harness evaluates `WF` on the digest of every real object it saves.
Notions of the statements that are defined beside their lemmas: `LawfulKind`, `decorated` (`Proofs/C06`),
`CanonKind` (`Proofs/C06WF`), `dropSkips` (`Proofs/C06Hgr`), `TabOK`, `incList` (`Proofs/C06Hif`), `SpecOps` with `replay` /
`okRecs`, `TMeta`, `decMeta` and the token numbering (`Proofs/C06Link`), `ofSpec0x`, `specX`, `StoreX`, `storeX`
(`Proofs/C06LinkH/D/T/M`). -/
open C06

/-- the generic statement, with the reserved keys still visible: `load (save c)` is `c` with the
    metadata of every hyperedge decorated by what `save` wrote (same listing order, same weights) -/
theorem C06_json_load_save {κ : Type} [DecidableEq κ] [Kind κ] [LawfulKind κ] (c : Content κ) (h : WF c) :
    load (save c) = some { c with edges := c.edges.map (decorated c.weighted) } :=
  load_save c h

theorem C06_json_roundtrip {κ : Type} [DecidableEq κ] [Kind κ] [LawfulKind κ] (c : Content κ) (h : WF c) :
    (load (save c)).map Content.erased = some c.erased := by
  rw [load_save c h]; simp [erased_decorated]

/-- Hypergraph: same type, nodes (with metadata, isolated ones included), hyperedges, weightedness,
    weights, hypergraph / node metadata; hyperedge metadata modulo `weight`, `time`, `layer` -/
theorem C06_json_roundtrip_H (c : Content HKey) (h : WF c) :
    (loadAny (saveAny (.H c))).map AnyContent.erased = some (.H c.erased) := by
  simp only [saveAny, loadAny, lastHeader_save, Kind.ty, load_save c h]
  simp [AnyContent.erased, erased_decorated]

/-- DirectedHypergraph (keys = (sources, targets)) -/
theorem C06_json_roundtrip_D (c : Content DKey) (h : WF c) :
    (loadAny (saveAny (.D c))).map AnyContent.erased = some (.D c.erased) := by
  simp only [saveAny, loadAny, lastHeader_save, Kind.ty, load_save c h]
  simp [AnyContent.erased, erased_decorated]

/-- TemporalHypergraph (keys = (time, nodes); the time travels in the record's metadata) -/
theorem C06_json_roundtrip_T (c : Content TKey) (h : WF c) :
    (loadAny (saveAny (.T c))).map AnyContent.erased = some (.T c.erased) := by
  simp only [saveAny, loadAny, lastHeader_save, Kind.ty, load_save c h]
  simp [AnyContent.erased, erased_decorated]

/-- MultiplexHypergraph (keys = (nodes, layer); the layer travels in the record's metadata) -/
theorem C06_json_roundtrip_M (c : Content MKey) (h : WF c) :
    (loadAny (saveAny (.M c))).map AnyContent.erased = some (.M c.erased) := by
  simp only [saveAny, loadAny, lastHeader_save, Kind.ty, load_save c h]
  simp [AnyContent.erased, erased_decorated]

/-- what `load_hypergraph` returns for a saved well-formed object is well-formed again: the round-trip
    theorems apply to it, and by `C06_wf_reachable` to everything built from it with further `add_node` /
    `add_edge` / `set_hypergraph_metadata` calls -/
theorem C06_json_loaded_wf {κ : Type} [DecidableEq κ] [Kind κ] [LawfulKind κ] (c : Content κ) (h : WF c) :
    ∃ c1 : Content κ, load (save c) = some c1 ∧ WF c1 :=
  ⟨_, load_save c h, WF_decorated c h⟩

/-- save → load → save → load: the object loaded the second time is still the first one (hyperedge
    metadata modulo the reserved keys; weights are exact integers of any magnitude) -/
theorem C06_json_reload {κ : Type} [DecidableEq κ] [Kind κ] [LawfulKind κ] (c : Content κ) (h : WF c) :
    ∃ c1 : Content κ, load (save c) = some c1 ∧ (load (save c1)).map Content.erased = some c.erased := by
  refine ⟨_, load_save c h, ?_⟩
  have h1 := WF_decorated c h
  rw [load_save _ h1]
  simp only [Option.map_some]
  have e1 := erased_decorated ({ c with edges := c.edges.map (decorated c.weighted) } : Content κ)
  have e2 := erased_decorated c
  exact congrArg some (e1.trans e2)

/-- a further accepted `add_edge` on the loaded object and then a second round trip: nothing is lost -/
theorem C06_json_loaded_add_edge {κ : Type} [DecidableEq κ] [Kind κ] [LawfulKind κ] [CanonKind κ] (c c1 c2 : Content κ)
    (h : WF c) (h1 : load (save c) = some c1) (raw : κ) (w : Option Int) (m : Option Meta)
    (h2 : addEdge c1 raw w m = some c2) :
    (load (save c2)).map Content.erased = some c2.erased := by
  rw [load_save c h] at h1
  have hw1 : WF c1 := by
    have := WF_decorated c h
    rw [Option.some.injEq] at h1
    rw [← h1]; exact this
  exact C06_json_roundtrip c2 (WF_addEdge c1 c2 raw w m hw1 h2)

/-- the run of `save_hypergraph` on the live object leaves it as it was and writes `save c` -/
theorem C06_save_pure {κ : Type} [DecidableEq κ] [Kind κ] (c : Content κ) :
    saveRun true c = (c, save c) := by
  simp [saveRun, saveEdgeRun, save, saveEdge]

/-- D20: writing into the live dict changes the saved object -/
theorem C06_save_live_witness :
    ∃ c : Content HKey, WF c ∧ (saveRun false c).1 ≠ c := by
  refine ⟨{ weighted := true, hmeta := [], nodes := [(1, []), (2, [])], edges := [(⟨[1, 2]⟩, (6, []))] }, by decide, ?_⟩
  intro h
  have := congrArg Content.edges h
  revert this; decide

/-- `.hgx`: the loaded object has the same content (listing order and reserved keys included) and the
    same layer registry; the two tables the pickled dict does not carry come back empty -/
theorem C06_hgx_roundtrip {κ : Type} [Kind κ] (s : Full κ) :
    loadPickle (expose s) = some { s with incidences := [], emptyEdges := [] } := by
  simp [loadPickle, expose, populate]

theorem C06_hgx_content {κ : Type} [Kind κ] (s : Full κ) :
    (loadPickle (expose s)).map (·.c) = some s.c := by
  simp [C06_hgx_roundtrip]

/-! ## non-vacuity: concrete well-formed contents (isolated node, repeated node set across times /
layers, user metadata under a reserved key, weighted) -/

def exH : Content HKey :=
  { weighted := false, hmeta := [(.user 2, .tok 13)],
    nodes := [(3, [(.user 4, .tok 10)]), (1, []), (2, []), (9, [])],
    edges := [(⟨[1, 2, 3]⟩, (4, [(.weight, .tok 19)])), (⟨[2]⟩, (4, []))] }
def exD : Content DKey :=
  { weighted := true, hmeta := [],
    nodes := [(1, []), (2, [(.user 2, .tok 7)]), (3, []), (4, [])],
    edges := [(⟨[1, 2], [3]⟩, (10, [(.user 3, .tok 1)])), (⟨[3], [1, 2]⟩, (-4, []))] }
def exT : Content TKey :=
  { weighted := true, hmeta := [(.user 0, .tok 0)],
    nodes := [(1, [(.user 3, .tok 4)]), (2, []), (7, [])],
    edges := [(⟨0, [1, 2]⟩, (6, [(.user 2, .tok 9), (.time, .tok 3)])), (⟨5, [1, 2]⟩, (4, []))] }
def exM : Content MKey :=
  { weighted := false, hmeta := [(.user 0, .tok 0), (.user 1, .tok 5)],
    nodes := [(1, []), (2, []), (5, [(.user 2, .tok 2)])],
    edges := [(⟨[1, 2], 0⟩, (4, [])), (⟨[1, 2], 1⟩, (4, [(.layer, .tok 3), (.user 2, .tok 2)]))] }

/-- `exT` is well-formed: evaluated once for the examples that apply a round-trip theorem to it -/
theorem exT_wf : WF exT := by decide +kernel

example : WF exH := by decide +kernel
example : WF exD := by decide +kernel
example : WF exT := exT_wf
example : WF exM := by decide +kernel
example : (loadAny (saveAny (.T exT))).map AnyContent.erased = some (.T exT.erased) := C06_json_roundtrip_T exT exT_wf
/-- the reserved keys really are in the loaded metadata (the comparison must erase them) -/
example : (load (κ := TKey) (save exT)).map (fun c => c.edges.map (fun e => e.2.2)) =
    some [[(.user 2, .tok 9), (.time, .tm 0), (.weight, .wq 6)], [(.weight, .wq 4), (.time, .tm 5)]] := by decide +kernel
/-- without `WF` the round trip can fail: a hyperedge over an unlisted node brings the node back -/
example : (load (κ := HKey) (save ({ weighted := false, hmeta := [], nodes := [], edges := [(⟨[1]⟩, (4, []))] } : Content HKey))).map
    (fun c => c.nodes) = some [(1, [])] := by decide +kernel

/-- weights beyond 2^53 / 2^63 are ordinary contents of the model (quanta `4·(2^53+1)`, `4·(2^64+3)`, negative) -/
def exBig : Content DKey :=
  { weighted := true, hmeta := [],
    nodes := [(1, []), (2, []), (3, [])],
    edges := [(⟨[1, 2], [3]⟩, (36028797018963972, [])), (⟨[3], [1]⟩, (73786976294838206476, [(.user 2, .tok 24)])),
              (⟨[2], [1]⟩, (-36893488147419103236, []))] }
example : WF exBig := by decide +kernel
example : (load (κ := DKey) (save exBig)).map (fun c => c.edges.map (fun e => e.2.1)) =
    some [36028797018963972, 73786976294838206476, -36893488147419103236] := by decide +kernel
example : ∃ c1 : Content TKey, load (save exT) = some c1 ∧ (load (save c1)).map Content.erased = some exT.erased :=
  C06_json_reload exT exT_wf
example : ∃ c1 : Content DKey, load (save exBig) = some c1 ∧ WF c1 := C06_json_loaded_wf exBig (by decide)

/-- `WF` holds of the constructor and is preserved by `add_node`, `add_edge` (accepted calls) and
    `set_hypergraph_metadata`: the four facts by which every content built through these calls is well-formed -/
theorem C06_wf_reachable {κ : Type} [DecidableEq κ] [Kind κ] [CanonKind κ] (w : Bool) :
    WF (construct κ w) ∧
    (∀ (c : Content κ) n m, WF c → WF (addNode c n m)) ∧
    (∀ (c c' : Content κ) raw wt m, WF c → addEdge c raw wt m = some c' → WF c') ∧
    (∀ (c : Content κ) hm, WF c → WF (setHMeta c hm)) :=
  ⟨WF_construct w, fun c n m h => WF_addNode c n m h, fun c c' raw wt m h h' => WF_addEdge c c' raw wt m h h',
   fun c hm h => WF_setHMeta c hm h⟩

/-- The reader builds exactly the listed hyperedges with their weights.  `s` is what the line scanner
    lists (`s.es` node sets, `s.ws` weights, see `C06_hgr_listing_*`).  Hypothesis: a weighted file lists
    distinct node sets (`add_edges` would add up / reject repeated ones).
    Conclusion: the reader succeeds, the object is (un)weighted as the mode says, its hyperedges are
    exactly the sorted listed node sets (each once), its nodes exactly the nodes of the listed sets, a
    weighted file gives every listed set its listed weight, an unweighted one weight 1 everywhere;
    every hyperedge's metadata is empty (node and hypergraph metadata are not part of the statement). -/
theorem C06_hgr (ls : List Line) (s : HgrSt) (hs : hgrScan {} ls = some s)
    (hd : hgrWeighted s.mode = true → (s.es.map sort).Nodup) :
    ∃ c, parseHgr ls = some c ∧ WF c ∧ c.weighted = hgrWeighted s.mode ∧
      (∀ k, k ∈ AL.keys c.edges ↔ ∃ e ∈ s.es, k = ⟨sort e⟩) ∧
      (∀ n, n ∈ AL.keys c.nodes ↔ ∃ e ∈ s.es, n ∈ e) ∧
      (hgrWeighted s.mode = true →
        ∀ p ∈ s.es.zip s.ws, AL.get? c.edges ⟨sort p.1⟩ = some (unit * (p.2 : Int), [])) ∧
      (hgrWeighted s.mode = false → ∀ e ∈ c.edges, e.2 = (unit, [])) := by
  obtain ⟨c, h1, h⟩ := buildHgr_spec (hgrWeighted s.mode) s.ws s.es (scanInv_scan {} s ls scanInv_init hs).2 hd
  exact ⟨c, by simp only [parseHgr, hs]; exact h1, h⟩

/-- what a weighted file lists: after dropping comment / blank lines, a header `E N mode` with
    `mode % 10 = 1`, `E` lines `w v₁ v₂ …` and at most `N` node-weight lines -/
theorem C06_hgr_listing_weighted (ls : List Line) (E N mode : Nat) (el : List (Nat × Nat × List Nat))
    (nl : List (List Nat)) (hN : N ≠ 0) (hm : hgrWeighted mode = true) (hE : el.length = E) (hnl : nl.length ≤ N)
    (hls : dropSkips ls = .toks [E, N, mode] :: (el.map (fun p => Line.toks (p.1 :: p.2.1 :: p.2.2)) ++ nl.map Line.toks)) :
    ∃ s, hgrScan {} ls = some s ∧ s.mode = mode ∧ s.ws = el.map (·.1) ∧ s.es = el.map (fun p => p.2.1 :: p.2.2) := by
  rw [hgrScan_dropSkips, hls]
  simp only [hgrScan, hgrStep, hgrHeader, if_true]
  rw [hgrScan_edges_weighted _ el _ hN hm (by simp [hE])]
  rw [hgrScan_nodeLines _ nl hN (by simp [hE]) (by simpa using hnl)]
  exact ⟨_, rfl, rfl, by simp, by simp⟩

/-- what an unweighted file lists: header `E N` or `E N mode` with `mode % 10 ≠ 1`, `E` lines
    `v₁ v₂ …`, at most `N` node-weight lines -/
theorem C06_hgr_listing_plain (ls : List Line) (E N : Nat) (modeTok : List Nat) (el : List (Nat × List Nat))
    (nl : List (List Nat)) (hN : N ≠ 0)
    (hm : modeTok = [] ∨ ∃ m, modeTok = [m] ∧ hgrWeighted m = false) (hE : el.length = E) (hnl : nl.length ≤ N)
    (hls : dropSkips ls = .toks (E :: N :: modeTok) :: (el.map (fun p => Line.toks (p.1 :: p.2)) ++ nl.map Line.toks)) :
    ∃ s, hgrScan {} ls = some s ∧ hgrWeighted s.mode = false ∧ s.ws = [] ∧ s.es = el.map (fun p => p.1 :: p.2) := by
  rw [hgrScan_dropSkips, hls]
  rcases hm with rfl | ⟨m, rfl, hm⟩
  · simp only [hgrScan, hgrStep, hgrHeader, if_true]
    rw [hgrScan_edges_plain _ el _ hN rfl (by simp [hE])]
    rw [hgrScan_nodeLines _ nl hN (by simp [hE]) (by simpa using hnl)]
    exact ⟨_, rfl, rfl, by simp, by simp⟩
  · simp only [hgrScan, hgrStep, hgrHeader, if_true]
    rw [hgrScan_edges_plain _ el _ hN hm (by simp [hE])]
    rw [hgrScan_nodeLines _ nl hN (by simp [hE]) (by simpa using hnl)]
    exact ⟨_, rfl, hm, by simp, by simp⟩

/-- non-vacuity: a weighted file with a comment, a blank line, and a node-weight line -/
example : (parseHgr [.skip, .toks [2, 3, 1], .toks [5, 3, 1], .skip, .toks [7, 2], .toks [1]]).map (fun c => c.edges) =
    some [(⟨[1, 3]⟩, (20, [])), (⟨[2]⟩, (28, []))] := by decide +kernel
example : (parseHgr [.toks [3, 3], .toks [2, 1], .toks [1, 2], .toks [3]]).map (fun c => c.edges) =
    some [(⟨[1, 2]⟩, (4, [])), (⟨[3]⟩, (4, []))] := by decide +kernel
example : (parseHgr [.toks [3, 3], .toks [2, 1], .toks [1, 2], .toks [3]]).map (fun c => AL.keys c.nodes) =
    some [1, 2, 3] := by decide +kernel
/-- a weighted file that repeats a node set in another order accumulates (outside the hypothesis of `C06_hgr`) -/
example : (parseHgr [.toks [2, 2, 1], .toks [5, 2, 1], .toks [7, 1, 2]]).map (fun c => c.edges) =
    some [(⟨[1, 2]⟩, (48, []))] := by decide +kernel

/-- The HIF reader (network-type undirected / asc / absent) builds an unweighted, well-formed
    `Hypergraph` with **one hyperedge per distinct incidence set**: its keys are exactly the sorted
    incidence lists `l` that the first loop collected per edge (`(hifPass1 d).tmp`, characterised by
    `C06_hif_incidence_lists`), each once; and **the edge records without incidences** are exactly the
    names in the empty-edge table.  For every document on which the reader does not raise. -/
theorem C06_hif (d : HifDoc) (r : HifResult) (h : readHif d = some r) :
    WF r.c ∧ r.c.weighted = false ∧
    (∀ k, k ∈ AL.keys r.c.edges ↔ ∃ eu l, AL.get? (hifPass1 d).tmp eu = some l ∧ k = ⟨sort l⟩) ∧
    (∀ name, name ∈ AL.keys r.empties ↔ name ∈ d.edges ∧ ∀ p ∈ d.incidences, p.1 ≠ name) := by
  obtain ⟨s, rfl, inv, cov⟩ := readHif_inv d r h
  refine ⟨inv.wf, inv.unw, fun k => ⟨fun hk => ?_, ?_⟩, inv.emptiesIff⟩
  · obtain ⟨name, l, hl, hk'⟩ := inv.keysSound k hk
    obtain ⟨eu, _, h2⟩ := keyList_some hl
    exact ⟨eu, l, h2, hk'⟩
  · rintro ⟨eu, l, hl, rfl⟩
    -- a number with a list is the number of an incidence's edge name, and every incidence's key is marked
    obtain ⟨p, hp, hpe⟩ := (Inv1_pass1 d).tmpSound eu l hl
    obtain ⟨l', h1, h2⟩ := cov p hp
    have : keyList d p.1 = some l := by unfold keyList; rw [hpe]; exact hl
    rw [this] at h1; cases h1
    exact (inv.addedIff _).mp h2

/-- What the first loop collects: the numbering of edge / node names is injective (`TabOK`), every
    incidence's names are numbered, and the list kept for (the id of) edge name `e` is the list of the
    ids of the nodes incident to `e`, in file order (`incList`) — so the keys of `C06_hif` are the
    sorted incidence sets, and two edge names give the same key iff they have the same sorted list. -/
theorem C06_hif_incidence_lists (d : HifDoc) :
    TabOK (hifPass1 d).etab ∧ TabOK (hifPass1 d).ntab ∧
    (∀ p ∈ d.incidences, ∃ eu nu, AL.get? (hifPass1 d).etab p.1 = some eu ∧ AL.get? (hifPass1 d).ntab p.2 = some nu ∧
        AL.get? (hifPass1 d).tmp eu = some (incList (hifPass1 d).ntab d.incidences p.1) ∧
        nu ∈ incList (hifPass1 d).ntab d.incidences p.1) ∧
    (∀ eu l, AL.get? (hifPass1 d).tmp eu = some l → ∃ p ∈ d.incidences, AL.get? (hifPass1 d).etab p.1 = some eu) := by
  have inv := Pass1_pass1 d
  refine ⟨inv.eok, inv.nok, ?_, inv.tmpSound⟩
  intro p hp
  obtain ⟨eu, nu, h1, h2⟩ := inv.seenOk p hp
  refine ⟨eu, nu, h1, h2, inv.lists p.1 eu h1, ?_⟩
  unfold incList
  exact List.mem_filterMap.mpr ⟨p, List.mem_filter.mpr ⟨hp, by simp⟩, h2⟩

/-- node records: the (last) record naming a node is the metadata of that node (`recMeta i` stands for
    the record at position `i`); the node's id is its number in the final node table -/
theorem C06_hif_node_records (d : HifDoc) (r : HifResult) (h : readHif d = some r) (pre post : List Nat) (name : Nat)
    (hd : d.nodes = pre ++ name :: post) (hnot : name ∉ post) :
    ∃ u, AL.get? (hifNodes (hifPass1 d) 1 d.nodes).ntab name = some u ∧
      AL.get? r.c.nodes u = some (recMeta (pre.length + 1)) := by
  obtain ⟨s3, s4, h3, h4, rfl⟩ := readHif_stages d r h
  have e1 : hifNodes (hifPass1 d) 1 d.nodes =
      hifNodes (hifNode (hifNodes (hifPass1 d) 1 pre) name (1 + pre.length)) (1 + pre.length + 1) post := by
    rw [hd, hifNodes_append]; rfl
  have tb := Tabs_node (Tabs_nodes (Tabs_pass1 d) 1 pre) name (1 + pre.length)
  obtain ⟨g1, g2⟩ := hifNode_sets (hifNodes (hifPass1 d) 1 pre) name (1 + pre.length)
  have k2 := hifNodes_keep _ (1 + pre.length + 1) post name _ _ tb.nok g1 g2 hnot
  have k1 := hifNodes_ntab (hifNode (hifNodes (hifPass1 d) 1 pre) name (1 + pre.length)) (1 + pre.length + 1) post _ _ g1
  rw [← e1] at k1 k2
  refine ⟨_, k1, ?_⟩
  have := (hifIncs2_kept s3 s4 1 d.incidences h4).1 _ _ (hifEdges_nodesKept _ s3 1 d.edges h3 _ _ k2)
  rw [Nat.add_comm] at this
  exact this

/-- edge records: the record of an edge with incidence list `l` is the metadata of the hyperedge
    `sort l` (weight 1), provided no later edge record has the same incidence set (then the later one
    wins, as `set_edge_metadata` overwrites) -/
theorem C06_hif_edge_records (d : HifDoc) (r : HifResult) (h : readHif d = some r)
    (pre post : List Nat) (name eu : Nat) (l : List Nat) (hd : d.edges = pre ++ name :: post)
    (he : AL.get? (hifPass1 d).etab name = some eu) (hl : AL.get? (hifPass1 d).tmp eu = some l)
    (hlast : ∀ n' ∈ post, ∀ eu' l', AL.get? (hifPass1 d).etab n' = some eu' →
      AL.get? (hifPass1 d).tmp eu' = some l' → sort l' ≠ sort l) :
    AL.get? r.c.edges ⟨sort l⟩ = some (unit, recMeta (pre.length + 1)) := by
  obtain ⟨s3, s4, h3, h4, rfl⟩ := readHif_stages d r h
  rw [hd, hifEdges_eq] at h3
  obtain ⟨sa, sb, ha, hb, h3⟩ := foldIdx?_split hifEdge _ s3 1 pre name post h3
  rw [← hifEdges_eq] at ha h3
  obtain ⟨ta, inva⟩ := Inv2_edges 1 pre (Tabs_nodes (Tabs_pass1 d) 1 d.nodes) (Inv2_nodes d [] _ 1 d.nodes (Inv2_pass1 d)) ha
  have hkl : keyList d name = some l := by unfold keyList; rw [he]; exact hl
  have hsb : sort l ∈ sb.added ∧ AL.get? sb.c.edges ⟨sort l⟩ = some (unit, recMeta (pre.length + 1)) := by
    rcases hifEdge_key ta name _ hb with ⟨l', c1, g1, g2, rfl⟩ | ⟨g1, _⟩
    · rw [hkl] at g1; cases g1
      refine ⟨(mem_markAdded_iff _ _ _).mpr (Or.inr rfl), ?_⟩
      -- the new or old entry of the key has weight 1, as the hypergraph is unweighted
      have hwf1 := WF_addEdge sa.c c1 _ none none inva.wf g2
      have hw1 := addEdge_weighted g2
      have hkin : (⟨sort l⟩ : HKey) ∈ AL.keys c1.edges :=
        (addEdge_keys_iff sa.c c1 _ none none g2 _).mpr (Or.inr (by rw [canonH, sort_idem]))
      obtain ⟨old, hold⟩ := AL.exists_get?_of_mem_keys _ _ hkin
      have hunit : old.1 = unit := hwf1.2.2.2.2 (hw1.trans inva.unw) _ (AL.mem_of_get? _ _ _ hold)
      show AL.get? (setEdgeMeta c1 ⟨sort l⟩ (recMeta (1 + pre.length))).edges ⟨sort l⟩ = _
      rw [get?_setEdgeMeta_self _ _ _ old hold, hunit, Nat.add_comm]
    · rw [(keyList_none_iff d name).mpr g1] at hkl; cases hkl
  obtain ⟨k1, k2⟩ := hifEdges_keep d sb s3 _ post l _ (Tabs_edge ta name _ hb) h3 hsb.1 hsb.2
    fun n' hn' l' hk' => by obtain ⟨eu', a1, a2⟩ := keyList_some hk'; exact hlast n' hn' eu' l' a1 a2
  exact ((hifIncs2_kept s3 s4 1 d.incidences h4).2 _ _ k1 k2).2

/-- incidence records: the record of incidence `(e, n)` is attached to the pair (key of `e`, id of `n`),
    provided no later incidence record names the same node with an edge of the same incidence set -/
theorem C06_hif_incidence_records (d : HifDoc) (r : HifResult) (h : readHif d = some r)
    (pre post : List (Nat × Nat)) (p : Nat × Nat) (eu nu : Nat) (l : List Nat)
    (hd : d.incidences = pre ++ p :: post)
    (he : AL.get? (hifPass1 d).etab p.1 = some eu) (hn : AL.get? (hifPass1 d).ntab p.2 = some nu)
    (hl : AL.get? (hifPass1 d).tmp eu = some l)
    (hlast : ∀ q ∈ post, q.2 = p.2 → ∀ eu' l', AL.get? (hifPass1 d).etab q.1 = some eu' →
      AL.get? (hifPass1 d).tmp eu' = some l' → sort l' ≠ sort l) :
    AL.get? r.incid (sort l, nu) = some (pre.length + 1) := by
  obtain ⟨s3, s4, h3, h4, rfl⟩ := readHif_stages d r h
  have t3 := Tabs_edges (Tabs_nodes (Tabs_pass1 d) 1 d.nodes) 1 d.edges h3
  have hmem : ∀ q ∈ p :: post, q ∈ d.incidences := fun q hq => hd ▸ List.mem_append_right _ hq
  rw [hd, hifIncs2_eq] at h4
  obtain ⟨sa, sb, ha, hb, h4⟩ := foldIdx?_split hifInc2 s3 s4 1 pre p post h4
  rw [← hifIncs2_eq] at ha h4
  have ta := Tabs_incs2 t3 1 pre ha
  obtain ⟨nu0, l0, a1, a2, a4⟩ := hifInc2_incid ta p (hmem p List.mem_cons_self) _ hb
  have hkl : keyList d p.1 = some l := by unfold keyList; rw [he]; exact hl
  rw [hkl] at a1; cases a1
  rw [hn] at a2; cases a2
  have hset : AL.get? sb.incid (sort l, nu) = some (pre.length + 1) := by
    rw [a4, AL.get?_set_self, Nat.add_comm]
  apply hifIncs2_incid_keep d sb s4 _ post _ _ (Tabs_inc2 ta p _ hb) (fun q hq => hmem q (List.mem_cons_of_mem _ hq)) h4 hset
  intro q hq nu' l' b1 b2 hc
  -- same node id, so the same node name
  have hc2 : nu' = nu := congrArg Prod.snd hc
  have hq2 : q.2 = p.2 := (Inv1_pass1 d).nok.1 _ _ _ (hc2 ▸ b2) hn
  obtain ⟨eu', x1, x2⟩ := keyList_some b1
  exact hlast q hq hq2 eu' l' x1 x2 (congrArg Prod.fst hc)

/-- non-vacuity: edges 70 and 71 share the incidence set {50, 51}, edge 73 has no incidence, node 52
    has no incidence, node 51 has no record -/
def exDoc : HifDoc := { incidences := [(70, 50), (70, 51), (71, 51), (71, 50)], nodes := [50, 52], edges := [70, 73, 71] }
example : (readHif exDoc).map (fun r => AL.keys r.c.edges) = some [⟨[0, 1]⟩] := by decide +kernel
example : (readHif exDoc).map (fun r => r.c.nodes) = some [(0, recMeta 1), (2, recMeta 2), (1, [])] := by decide +kernel
example : (readHif exDoc).map (fun r => r.c.edges.map (fun e => e.2.2)) = some [recMeta 3] := by decide +kernel
example : (readHif exDoc).map (fun r => r.empties) = some [(73, 2)] := by decide +kernel
example : (readHif exDoc).map (fun r => r.incid) =
    some [(([0, 1], 0), 4), (([0, 1], 1), 3)] := by decide +kernel

/-! ## Links to the full container models (C01 … C04)

The content-level `addNode` / `addEdge` of `Model/C06.lean` (the ones `load` goes through) are not a private invention of
that model: they are the `add_node` / `add_edge` of the abstract specifications `C0x.Spec` of the four complete container
models, which `C01_refines … C04_refines` prove equal to the id-indexed stores for every history.
`Proofs/C06Link*.lean`: `ofSpec0x : C0x.Spec → Content κ` reads a spec state as a content (node labels, keys,
weights unchanged; a token dict `List (Nat × Nat)` read through the numbering `decKey` / `decVal` of C06's metadata
vocabulary, onto — `C06_link_onto`: every content is such a reading); `specX : SpecOps κ C0x.Spec` are the
spec's own constructor / `add_node` / `add_edge` (`C06_link_ops_X` shows them), `SpecOps.replay` is `load_hypergraph`
written with them; `storeX : SpecOps κ StoreX` are the same three entry points of the ID-INDEXED model on stores carrying
their invariant (`StoreX = {s // C0x.Inv s}`; C02: `{s // C02.Inv s ∧ C02.Ord s}`), linked for hyperedges that satisfy that model's quantifier (`okKey`).
`ReachableX s`: `s` is an object of the full model after some history of public calls that
satisfy that model's quantifier (`WF`: hyperedges are node sets; C02: non-empty disjoint sides). -/

def C06.ReachableH (s : C01.Store) : Prop :=
  ∃ (k : Nat) (cs : List C01.Cmd), (∀ c ∈ cs, c.WF) ∧ s ∈ C01.run (C01.init k) cs
def C06.ReachableD (s : C02.Store) : Prop :=
  ∃ (cs : List C02.Cmd) (slot : Nat), (∀ c ∈ cs, c.WF) ∧ AL.get? (C02.runCmds [] cs) slot = some s
def C06.ReachableT (s : C03.Store) : Prop :=
  ∃ (ops : List C03.Op) (i : Nat), (∀ op ∈ ops, op.WF) ∧ AL.get? (C03.run [] ops) i = some s
def C06.ReachableM (s : C04.Store) : Prop :=
  ∃ (w : Bool) (hm : C04.HMeta) (ops : List C04.Op), (∀ op ∈ ops, op.WF) ∧ s = C04.run (C04.init w hm) ops

theorem C06.ReachableH.inv {s : C01.Store} : ReachableH s → C01.Inv s
  | ⟨k, cs, hwf, hs⟩ => C01.run_inv cs (C01.init k) hwf (C01.init_inv k) s hs

theorem C06.ReachableD.inv {s : C02.Store} : ReachableD s → C02.Inv s ∧ C02.Ord s ∧ C02.Unw s
  | ⟨cs, slot, hcs, hs⟩ =>
    have h := C02.of_history cs hcs slot s hs
    ⟨h.1, h.2.1, h.2.2.1⟩

theorem C06.ReachableT.inv {s : C03.Store} : ReachableT s → C03.Inv s
  | ⟨ops, i, hwf, hi⟩ => C03.reachable_inv ⟨ops, hwf, i, hi⟩

theorem C06.ReachableM.inv {s : C04.Store} : ReachableM s → C04.Inv s
  | ⟨w, hm, ops, hw, hs⟩ => hs ▸ C04.run_inv _ ops (C04.inv_init w hm) hw

/-- every content is the reading of a spec state, for the four types: C06's theorems about all (well-formed) contents
are statements about all (well-formed) spec states -/
theorem C06_link_onto :
    (∀ c : Content HKey, ∃ a : C01.Spec, ofSpec01 a = c) ∧ (∀ c : Content DKey, ∃ a : C02.Spec, ofSpec02 a = c) ∧
    (∀ c : Content TKey, ∃ a : C03.Spec, ofSpec03 a = c) ∧ (∀ c : Content MKey, ∃ a : C04.Spec, ofSpec04 a = c) :=
  ⟨ofSpec01_onto, ofSpec02_onto, ofSpec03_onto, ofSpec04_onto⟩

/-- the constructors: a fresh spec state reads as `construct κ w`, except for the hypergraph-metadata dict, where each
model has its own token names for `{"weighted": w, "type": <class>}` (C06: keys `user 0/1`, values `tok 0/1`, `tok 2+i`);
`load` overwrites that dict with the saved one, so the difference never reaches a loaded object -/
theorem C06_link_constructor (w : Bool) :
    ofSpec01 (C01.Spec.new w []) = setHMeta (construct HKey w) (decMeta (C01.initHMeta w [])) ∧
    ofSpec02 (C02.Spec.ctor w none none none none none).1 = setHMeta (construct DKey w) (decMeta (C02.ctorHMeta none w)) ∧
    ofSpec03 (C03.Spec.new w) = setHMeta (construct TKey w) (decMeta (C03.Spec.new w).hmeta) ∧
    ofSpec04 (C04.Spec.init w []) = setHMeta (construct MKey w) (decMeta (C04.Spec.init w []).hmeta) :=
  ⟨rfl, rfl, rfl, rfl⟩

/-- what `specH` is made of: `C01.Spec`'s own operations -/
theorem C06_link_ops_H (w : Bool) (hm md : TMeta) (a : C01.Spec) (n : Nat) (k : HKey) (wt : Option Int) :
    specH.of a = ofSpec01 a ∧
    specH.new w hm = (C01.Spec.apply (C01.Spec.new w []) (.setHMeta hm)).1 ∧
    specH.addNode a n md = (C01.Spec.apply a (.addNode n (some md))).1 ∧
    specH.addEdge a k wt md = (match C01.Spec.apply a (.addEdge k.nodes wt (some md)) with
      | (a', .ok) => some a'
      | (_, .rej) => none) :=
  ⟨rfl, rfl, rfl, rfl⟩

/-- `add_node` on the spec of the full model is `addNode` on the content -/
theorem C06_link_add_node_H (a : C01.Spec) (n : Nat) (md : Option C01.Meta) :
    ofSpec01 (C01.Spec.apply a (.addNode n md)).1 = addNode (ofSpec01 a) n (md.map decMeta) :=
  link_addNode01 a n md

/-- `add_edge` on the spec of the full model is `addEdge` on the content: same verdict, same resulting content -/
theorem C06_link_add_edge_H (a : C01.Spec) (raw : List Nat) (w : Option Int) (md : Option C01.Meta) :
    addEdge (ofSpec01 a) ⟨raw⟩ w (md.map decMeta) =
      match C01.Spec.apply a (.addEdge raw w md) with
      | (a', .ok) => some (ofSpec01 a')
      | (_, .rej) => none :=
  link_addEdge01 a raw w md

/-- the same one step below the spec, on the id-indexed tables of a reachable object (hyperedge = node set) -/
theorem C06_link_store_H (s : C01.Store) (hr : ReachableH s) (n : Nat) (raw : List Nat) (hraw : raw.Nodup)
    (w : Option Int) (md : Option C01.Meta) :
    ofSpec01 (C01.abs (C01.apply s (.addNode n md)).1) = addNode (ofSpec01 (C01.abs s)) n (md.map decMeta) ∧
    addEdge (ofSpec01 (C01.abs s)) ⟨raw⟩ w (md.map decMeta) =
      match C01.apply s (.addEdge raw w md) with
      | (s', .ok) => some (ofSpec01 (C01.abs s'))
      | (_, .rej) => none :=
  ⟨link_store_addNode01 s hr.inv n md, link_store_addEdge01 s hr.inv raw hraw w md⟩

/-- the hypothesis `WF` of the round-trip theorems follows from the invariant of the full model -/
theorem C06_link_wf_H (s : C01.Store) (hr : ReachableH s) : WF (ofSpec01 (C01.abs s)) := WF_ofSpec01_abs s hr.inv

/-- `C06_json_roundtrip_H` for every reachable object of the full model -/
theorem C06_link_roundtrip_H (s : C01.Store) (hr : ReachableH s) :
    (loadAny (saveAny (.H (ofSpec01 (C01.abs s))))).map AnyContent.erased = some (.H (ofSpec01 (C01.abs s)).erased) :=
  C06_json_roundtrip_H _ (C06_link_wf_H s hr)

/-- `load_hypergraph` on any record list = replaying the records through `C01.Spec`'s constructor, `add_node`, `add_edge` -/
theorem C06_link_load_H (rs : List Record) : load (κ := HKey) rs = (specH.replay rs).map ofSpec01 :=
  specH.load_eq_replay rs (specH.okRecs_of_all (fun _ => trivial) _)

/-- replaying what `save` wrote for a reachable object succeeds on the spec and ends in a state that shows the same
content (hyperedge metadata modulo the reserved keys) and is well-formed again -/
theorem C06_link_reload_H (s : C01.Store) (hr : ReachableH s) :
    ∃ a1 : C01.Spec, specH.replay (save (ofSpec01 (C01.abs s))) = some a1 ∧
      (ofSpec01 a1).erased = (ofSpec01 (C01.abs s)).erased ∧ WF (ofSpec01 a1) :=
  specH.reload _ (C06_link_wf_H s hr) (fun _ _ => trivial)

/-- `C06_json_loaded_add_edge` read on the full model: reload a reachable object, make one more accepted `add_edge` on
the spec, and the result still round-trips -/
theorem C06_link_loaded_add_edge_H (s : C01.Store) (hr : ReachableH s) (a1 a2 : C01.Spec)
    (h1 : specH.replay (save (ofSpec01 (C01.abs s))) = some a1) (raw : List Nat) (w : Option Int) (md : Option C01.Meta)
    (h2 : C01.Spec.apply a1 (.addEdge raw w md) = (a2, .ok)) :
    (load (save (ofSpec01 a2))).map Content.erased = some (ofSpec01 a2).erased :=
  C06_json_loaded_add_edge (ofSpec01 (C01.abs s)) (ofSpec01 a1) (ofSpec01 a2) (C06_link_wf_H s hr)
    (by rw [C06_link_load_H, h1]; rfl) ⟨raw⟩ w (md.map decMeta) (by rw [C06_link_add_edge_H, h2])

/-- `load_hypergraph` as a run of the ID-INDEXED model (`storeH`: `C01.Store.new`, `C01.apply` with `setHMeta` / `addNode` /
`addEdge`, states = stores with their invariant `C01.Inv`): for every record list whose hyperedge records are node sets
(`storeH.okRecs`: duplicate-free node lists, the quantifier under which C01 proves its refinement) -/
theorem C06_link_store_load_H (rs : List Record) (h : storeH.okRecs (edgeRecs rs)) :
    load (κ := HKey) rs = (storeH.replay rs).map (fun s => ofSpec01 (C01.abs s.1)) :=
  storeH.load_eq_replay rs h

/-- the records saved from a reachable object, replayed on the id-indexed model, build an object `s1` of that model
(tables + invariant, `s1 : StoreH`) whose abstraction shows the same content modulo the reserved keys -/
theorem C06_link_store_reload_H (s : C01.Store) (hr : ReachableH s) :
    ∃ s1 : StoreH, storeH.replay (save (ofSpec01 (C01.abs s))) = some s1 ∧
      (ofSpec01 (C01.abs s1.1)).erased = (ofSpec01 (C01.abs s)).erased :=
  (storeH.reload _ (C06_link_wf_H s hr) (okKeys01 s hr.inv)).imp fun _ h => ⟨h.1, h.2.1⟩

/-- non-vacuity: a history with a permuted re-insertion, a removal, a node with metadata, user metadata under the
reserved key `weight` (token 0 = `weight`, 16 = `tok 4`) -/
def C06.exHistH : List C01.Cmd :=
  [.new 0 true [], .on 0 (.addEdge [3, 1, 2] (some 8) (some [(5, 8)])), .on 0 (.addNode 9 (some [(4, 12)])),
   .on 0 (.addEdge [2, 1] none none), .on 0 (.removeEdge [1, 2]), .on 0 (.addEdge [1, 2, 3] (some 4) none),
   .on 0 (.addEdge [9, 2] none (some [(0, 16)]))]

theorem C06.exHistH_wf : ∀ c ∈ exHistH, c.WF := by
  intro c hc
  simp only [exHistH, List.mem_cons, List.not_mem_nil, or_false] at hc
  rcases hc with h | h | h | h | h | h | h <;> subst h <;> simp [C01.Cmd.WF, C01.Op.WF]

example : ∃ s, ReachableH s ∧
    (ofSpec01 (C01.abs s)).nodes = [(1, []), (2, []), (3, []), (9, [(.user 1, .tok 3)])] ∧
    (ofSpec01 (C01.abs s)).edges = [(⟨[1, 2, 3]⟩, (12, [])), (⟨[2, 9]⟩, (4, [(.weight, .tok 4)]))] := by
  have h : ∃ s ∈ C01.run (C01.init 1) exHistH,
      (ofSpec01 (C01.abs s)).nodes = [(1, []), (2, []), (3, []), (9, [(.user 1, .tok 3)])] ∧
      (ofSpec01 (C01.abs s)).edges = [(⟨[1, 2, 3]⟩, (12, [])), (⟨[2, 9]⟩, (4, [(.weight, .tok 4)]))] := by decide +kernel
  obtain ⟨s, hs, h1⟩ := h
  exact ⟨s, ⟨1, exHistH, exHistH_wf, hs⟩, h1⟩
/-- its saved records replayed on `C01.Spec`: same keys and weights; the metadata carries what `save` wrote under
`weight` (token 0; 99 = `wq 12`, 35 = `wq 4`), the user entry under that key is overwritten (the comparison erases it) -/
example : ∃ s ∈ C01.run (C01.init 1) exHistH,
    (specH.replay (save (ofSpec01 (C01.abs s)))).map (fun (a : C01.Spec) => a.edges.map (fun e => (e.1, e.2.1))) =
      some [([1, 2, 3], 12), ([2, 9], 4)] ∧
    (specH.replay (save (ofSpec01 (C01.abs s)))).map (fun (a : C01.Spec) => a.edges.map (fun e => e.2.2)) =
      some [[(0, 99)], [(0, 35)]] := by decide +kernel
/-- a rejected call is rejected on both sides -/
example : (C01.Spec.apply (C01.Spec.new false []) (.addEdge [1, 2] (some 8) none)).2 = .rej ∧
    addEdge (ofSpec01 (C01.Spec.new false [])) ⟨[1, 2]⟩ (some 8) none = none := by decide +kernel

/-- … and replayed on the id-indexed tables: the saved object had ids 0 and 2 (id 1 was removed, `_next_edge_id` = 3), the
loaded one has ids 0, 1 and `_next_edge_id` = 2, with its adjacency lists -/
example : ∃ s ∈ C01.run (C01.init 1) exHistH, s.edgeList = [([1, 2, 3], 0), ([2, 9], 2)] ∧ s.nextId = 3 ∧
    (storeH.replay (save (ofSpec01 (C01.abs s)))).map (fun (s1 : StoreH) => s1.1.edgeList) =
      some [([1, 2, 3], 0), ([2, 9], 1)] ∧
    (storeH.replay (save (ofSpec01 (C01.abs s)))).map (fun (s1 : StoreH) => s1.1.nextId) = some 2 ∧
    (storeH.replay (save (ofSpec01 (C01.abs s)))).map (fun (s1 : StoreH) => s1.1.adj) =
      some [(1, [0]), (2, [0, 1]), (3, [0]), (9, [1])] := by decide +kernel

theorem C06_link_ops_D (w : Bool) (hm md : TMeta) (a : C02.Spec) (n : Nat) (k : DKey) (wt : Option Int) :
    specD.of a = ofSpec02 a ∧
    specD.new w hm = (C02.Spec.applyOp (C02.Spec.ctor w none none none none none).1 (.setHMeta hm)).1 ∧
    specD.addNode a n md = (C02.Spec.applyOp a (.addNode n (some md))).1 ∧
    specD.addEdge a k wt md = (match C02.Spec.applyOp a (.addEdge (.ofLists k.src k.tgt) wt (some md)) with
      | (a', .ok) => some a'
      | (_, .rej) => none) :=
  ⟨rfl, rfl, rfl, rfl⟩

theorem C06_link_add_node_D (a : C02.Spec) (n : Nat) (md : Option C02.Meta) :
    ofSpec02 (C02.Spec.applyOp a (.addNode n md)).1 = addNode (ofSpec02 a) n (md.map decMeta) :=
  link_addNode02 a n md

/-- a side given as an iterable or as a bare node (`Side.scalar`, accepted by `add_edge` only) -/
theorem C06_link_add_edge_D (a : C02.Spec) (e : C02.RawEdge) (w : Option Int) (md : Option C02.Meta) :
    addEdge (ofSpec02 a) ⟨e.src.toList, e.tgt.toList⟩ w (md.map decMeta) =
      match C02.Spec.applyOp a (.addEdge e w md) with
      | (a', .ok) => some (ofSpec02 a')
      | (_, .rej) => none :=
  link_addEdge02 a e w md

theorem C06_link_wf_D (s : C02.Store) (hr : ReachableD s) : WF (ofSpec02 (C02.abs s)) :=
  WF_ofSpec02_abs s hr.inv.1 hr.inv.2.2

/-- one step on the id-indexed tables of a reachable object (`RawWF`: duplicate-free, disjoint, non-empty sides) -/
theorem C06_link_store_D (s : C02.Store) (hr : ReachableD s) (n : Nat) (e : C02.RawEdge) (he : C02.RawWF e)
    (w : Option Int) (md : Option C02.Meta) :
    ofSpec02 (C02.abs (C02.applyOp s (.addNode n md)).1) = addNode (ofSpec02 (C02.abs s)) n (md.map decMeta) ∧
    addEdge (ofSpec02 (C02.abs s)) ⟨e.src.toList, e.tgt.toList⟩ w (md.map decMeta) =
      match C02.applyOp s (.addEdge e w md) with
      | (s', .ok) => some (ofSpec02 (C02.abs s'))
      | (_, .rej) => none :=
  ⟨link_store_addNode02 s hr.inv.1 hr.inv.2.1 n md, link_store_addEdge02 s hr.inv.1 hr.inv.2.1 e he w md⟩

theorem C06_link_roundtrip_D (s : C02.Store) (hr : ReachableD s) :
    (loadAny (saveAny (.D (ofSpec02 (C02.abs s))))).map AnyContent.erased = some (.D (ofSpec02 (C02.abs s)).erased) :=
  C06_json_roundtrip_D _ (C06_link_wf_D s hr)

theorem C06_link_load_D (rs : List Record) : load (κ := DKey) rs = (specD.replay rs).map ofSpec02 :=
  specD.load_eq_replay rs (specD.okRecs_of_all (fun _ => trivial) _)

theorem C06_link_reload_D (s : C02.Store) (hr : ReachableD s) :
    ∃ a1 : C02.Spec, specD.replay (save (ofSpec02 (C02.abs s))) = some a1 ∧
      (ofSpec02 a1).erased = (ofSpec02 (C02.abs s)).erased ∧ WF (ofSpec02 a1) :=
  specD.reload _ (C06_link_wf_D s hr) (fun _ _ => trivial)

theorem C06_link_loaded_add_edge_D (s : C02.Store) (hr : ReachableD s) (a1 a2 : C02.Spec)
    (h1 : specD.replay (save (ofSpec02 (C02.abs s))) = some a1) (e : C02.RawEdge) (w : Option Int) (md : Option C02.Meta)
    (h2 : C02.Spec.applyOp a1 (.addEdge e w md) = (a2, .ok)) :
    (load (save (ofSpec02 a2))).map Content.erased = some (ofSpec02 a2).erased :=
  C06_json_loaded_add_edge (ofSpec02 (C02.abs s)) (ofSpec02 a1) (ofSpec02 a2) (C06_link_wf_D s hr)
    (by rw [C06_link_load_D, h1]; rfl) ⟨e.src.toList, e.tgt.toList⟩ w (md.map decMeta)
    (by rw [C06_link_add_edge_D, h2])

/-- `load_hypergraph` as a run of the id-indexed model (`storeD`: `C02.ctor`, `C02.applyOp`; states = stores with `C02.Inv`
and `C02.Ord`), for record lists whose hyperedges have duplicate-free, disjoint, non-empty sides (`C02.RawWF`) -/
theorem C06_link_store_load_D (rs : List Record) (h : storeD.okRecs (edgeRecs rs)) :
    load (κ := DKey) rs = (storeD.replay rs).map (fun s => ofSpec02 (C02.abs s.1)) :=
  storeD.load_eq_replay rs h

theorem C06_link_store_reload_D (s : C02.Store) (hr : ReachableD s) :
    ∃ s1 : StoreD, storeD.replay (save (ofSpec02 (C02.abs s))) = some s1 ∧
      (ofSpec02 (C02.abs s1.1)).erased = (ofSpec02 (C02.abs s)).erased :=
  (storeD.reload _ (C06_link_wf_D s hr) (okKeys02 s hr.inv.1)).imp fun _ h => ⟨h.1, h.2.1⟩

/-- non-vacuity: constructor with a hyperedge and node metadata, a permuted re-insertion (6 + 2), a bare-node source,
an insertion that is removed again (its node 4 stays) -/
def C06.exHistD : List C02.Cmd :=
  [.new 0 true none (some [(7, [(4, 12)])]) (some [.ofLists [2, 1] [3]]) (some [6]) none,
   .op 0 (.addEdge (.ofLists [1, 2] [3]) (some 2) (some [(5, 8)])),
   .op 0 (.addEdge ⟨.scalar 3, .nodes [2, 1]⟩ none none),
   .op 0 (.addEdge (.ofLists [4] [1]) none none), .op 0 (.removeEdge (.ofLists [4] [1]))]

example : ∃ s, ReachableD s ∧
    (ofSpec02 (C02.abs s)).nodes = [(7, [(.user 1, .tok 3)]), (1, []), (2, []), (3, []), (4, [])] ∧
    (ofSpec02 (C02.abs s)).edges = [(⟨[1, 2], [3]⟩, (8, [(.user 2, .tok 2)])), (⟨[3], [1, 2]⟩, (4, []))] :=
  ⟨(AL.get? (C02.runCmds [] exHistD) 0).getD {}, ⟨exHistD, 0, C02.cmds_WF_of_ok _ (by decide), by decide⟩,
    by decide, by decide⟩
example : (AL.get? (C02.runCmds [] exHistD) 0).bind (fun s => (specD.replay (save (ofSpec02 (C02.abs s)))).map
      (fun (a : C02.Spec) => a.edges.map (fun e => (e.1, e.2.1)))) = some [(([1, 2], [3]), 8), (([3], [1, 2]), 4)] := by
  decide +kernel

example : (AL.get? (C02.runCmds [] exHistD) 0).bind (fun s => (storeD.replay (save (ofSpec02 (C02.abs s)))).map
      (fun (s1 : StoreD) => (s1.1.nextId, s1.1.adjS, s1.1.adjT))) =
    some (2, [(7, []), (1, [0]), (2, [0]), (3, [1]), (4, [])], [(7, []), (1, [1]), (2, [1]), (3, [0]), (4, [])]) := by
  decide +kernel

theorem C06_link_ops_T (w : Bool) (hm md : TMeta) (a : C03.Spec) (n : Nat) (k : TKey) (wt : Option Int) :
    specT.of a = ofSpec03 a ∧
    specT.new w hm = (C03.Spec.applyOp (C03.Spec.new w) (.setHMeta hm)).1 ∧
    specT.addNode a n md = (C03.Spec.applyOp a (.addNode n (some md))).1 ∧
    specT.addEdge a k wt md = (match C03.Spec.applyOp a (.addEdge k.nodes (.int k.time) wt (some md)) with
      | (a', .ok) => some a'
      | (_, .rej) => none) :=
  ⟨rfl, rfl, rfl, rfl⟩

theorem C06_link_add_node_T (a : C03.Spec) (n : Nat) (md : Option C03.Meta) :
    ofSpec03 (C03.Spec.applyOp a (.addNode n md)).1 = addNode (ofSpec03 a) n (md.map decMeta) :=
  link_addNode03 a n md

/-- for a time `t ≥ 0` (a C06 key carries a natural number; `C03.Spec.addEdge` rejects every other time argument, and
`load` fails on a record without a readable time: `readKey`) -/
theorem C06_link_add_edge_T (a : C03.Spec) (raw : List Nat) (t : Nat) (w : Option Int) (md : Option C03.Meta) :
    addEdge (ofSpec03 a) ⟨t, raw⟩ w (md.map decMeta) =
      match C03.Spec.applyOp a (.addEdge raw (.int t) w md) with
      | (a', .ok) => some (ofSpec03 a')
      | (_, .rej) => none :=
  link_addEdge03 a raw t w md

theorem C06_link_wf_T (s : C03.Store) (hr : ReachableT s) : WF (ofSpec03 (C03.abs s)) := WF_ofSpec03_abs s hr.inv

theorem C06_link_store_T (s : C03.Store) (hr : ReachableT s) (n : Nat) (raw : List Nat) (hraw : raw.Nodup) (t : Nat)
    (w : Option Int) (md : Option C03.Meta) :
    ofSpec03 (C03.abs (C03.applyOp s (.addNode n md)).1) = addNode (ofSpec03 (C03.abs s)) n (md.map decMeta) ∧
    addEdge (ofSpec03 (C03.abs s)) ⟨t, raw⟩ w (md.map decMeta) =
      match C03.applyOp s (.addEdge raw (.int t) w md) with
      | (s', .ok) => some (ofSpec03 (C03.abs s'))
      | (_, .rej) => none :=
  ⟨link_store_addNode03 s hr.inv n md, link_store_addEdge03 s hr.inv raw hraw t w md⟩

theorem C06_link_roundtrip_T (s : C03.Store) (hr : ReachableT s) :
    (loadAny (saveAny (.T (ofSpec03 (C03.abs s))))).map AnyContent.erased = some (.T (ofSpec03 (C03.abs s)).erased) :=
  C06_json_roundtrip_T _ (C06_link_wf_T s hr)

theorem C06_link_load_T (rs : List Record) : load (κ := TKey) rs = (specT.replay rs).map ofSpec03 :=
  specT.load_eq_replay rs (specT.okRecs_of_all (fun _ => trivial) _)

theorem C06_link_reload_T (s : C03.Store) (hr : ReachableT s) :
    ∃ a1 : C03.Spec, specT.replay (save (ofSpec03 (C03.abs s))) = some a1 ∧
      (ofSpec03 a1).erased = (ofSpec03 (C03.abs s)).erased ∧ WF (ofSpec03 a1) :=
  specT.reload _ (C06_link_wf_T s hr) (fun _ _ => trivial)

theorem C06_link_loaded_add_edge_T (s : C03.Store) (hr : ReachableT s) (a1 a2 : C03.Spec)
    (h1 : specT.replay (save (ofSpec03 (C03.abs s))) = some a1) (raw : List Nat) (t : Nat) (w : Option Int)
    (md : Option C03.Meta) (h2 : C03.Spec.applyOp a1 (.addEdge raw (.int t) w md) = (a2, .ok)) :
    (load (save (ofSpec03 a2))).map Content.erased = some (ofSpec03 a2).erased :=
  C06_json_loaded_add_edge (ofSpec03 (C03.abs s)) (ofSpec03 a1) (ofSpec03 a2) (C06_link_wf_T s hr)
    (by rw [C06_link_load_T, h1]; rfl) ⟨t, raw⟩ w (md.map decMeta) (by rw [C06_link_add_edge_T, h2])

/-- `load_hypergraph` as a run of the id-indexed model (`storeT`: `C03.Store.new`, `C03.applyOp`; states = stores with
`C03.Inv`), for record lists whose hyperedge records are node sets -/
theorem C06_link_store_load_T (rs : List Record) (h : storeT.okRecs (edgeRecs rs)) :
    load (κ := TKey) rs = (storeT.replay rs).map (fun s => ofSpec03 (C03.abs s.1)) :=
  storeT.load_eq_replay rs h

theorem C06_link_store_reload_T (s : C03.Store) (hr : ReachableT s) :
    ∃ s1 : StoreT, storeT.replay (save (ofSpec03 (C03.abs s))) = some s1 ∧
      (ofSpec03 (C03.abs s1.1)).erased = (ofSpec03 (C03.abs s)).erased :=
  (storeT.reload _ (C06_link_wf_T s hr) (okKeys03 s hr.inv)).imp fun _ h => ⟨h.1, h.2.1⟩

/-- non-vacuity: the same node set at two times, a re-insertion (6 + 2), a node added between two hyperedges, a record
removed again (its node 3 stays) -/
def C06.exHistT : List C03.Op :=
  [.new 0 true, .on 0 (.addEdge [2, 1] (.int 5) (some 6) (some [(5, 8)])), .on 0 (.addEdge [1, 2] (.int 0) none none),
   .on 0 (.addNode 7 (some [(4, 12)])), .on 0 (.addEdge [1, 2] (.int 5) (some 2) none),
   .on 0 (.addEdge [3] (.int 2) none none), .on 0 (.removeEdge [3] (.int 2))]

example : ∃ s, ReachableT s ∧
    (ofSpec03 (C03.abs s)).nodes = [(1, []), (2, []), (7, [(.user 1, .tok 3)]), (3, [])] ∧
    (ofSpec03 (C03.abs s)).edges = [(⟨5, [1, 2]⟩, (8, [])), (⟨0, [1, 2]⟩, (4, []))] :=
  ⟨(AL.get? (C03.run [] exHistT) 0).getD { weighted := false }, ⟨exHistT, 0, by decide, by decide⟩, by decide, by decide⟩
/-- replayed on `C03.Spec`: the metadata carries `weight` (token 0) and `time` (token 1; 21 = `tm 5`, 1 = `tm 0`) -/
example : (AL.get? (C03.run [] exHistT) 0).bind (fun s => (specT.replay (save (ofSpec03 (C03.abs s)))).map
      (fun (a : C03.Spec) => a.recs.map (fun e => e.2.2))) = some [[(0, 67), (1, 21)], [(0, 35), (1, 1)]] := by decide +kernel
/-- a time that is not a non-negative integer is rejected by the spec; no C06 key has such a time -/
example : (C03.Spec.applyOp (C03.Spec.new true) (.addEdge [1, 2] (.int (-1)) none none)).2 = .rej ∧
    (C03.Spec.applyOp (C03.Spec.new true) (.addEdge [1, 2] .bad none none)).2 = .rej := by decide +kernel

example : (AL.get? (C03.run [] exHistT) 0).bind (fun s => (storeT.replay (save (ofSpec03 (C03.abs s)))).map
      (fun (s1 : StoreT) => s1.1.edgeList)) = some [((5, [1, 2]), 0), ((0, [1, 2]), 1)] ∧
    (AL.get? (C03.run [] exHistT) 0).bind (fun s => (storeT.replay (save (ofSpec03 (C03.abs s)))).map
      (fun (s1 : StoreT) => s1.1.adj)) = some [(1, [0, 1]), (2, [0, 1]), (7, []), (3, [])] := by decide +kernel

theorem C06_link_ops_M (w : Bool) (hm md : TMeta) (a : C04.Spec) (n : Nat) (k : MKey) (wt : Option Int) :
    specM.of a = ofSpec04 a ∧
    specM.new w hm = (C04.Spec.step (C04.Spec.init w []) (.setHMeta hm)).1 ∧
    specM.addNode a n md = (C04.Spec.step a (.addNode n (some md))).1 ∧
    specM.addEdge a k wt md = (match C04.Spec.step a (.addEdge k.nodes k.layer wt (some md)) with
      | (a', .ok) => some a'
      | (_, .rej) => none) :=
  ⟨rfl, rfl, rfl, rfl⟩

theorem C06_link_add_node_M (a : C04.Spec) (n : Nat) (md : Option C04.Meta) :
    ofSpec04 (C04.Spec.step a (.addNode n md)).1 = addNode (ofSpec04 a) n (md.map decMeta) :=
  link_addNode04 a n md

theorem C06_link_add_edge_M (a : C04.Spec) (raw : List Nat) (l : Nat) (w : Option Int) (md : Option C04.Meta) :
    addEdge (ofSpec04 a) ⟨raw, l⟩ w (md.map decMeta) =
      match C04.Spec.step a (.addEdge raw l w md) with
      | (a', .ok) => some (ofSpec04 a')
      | (_, .rej) => none :=
  link_addEdge04 a raw l w md

theorem C06_link_wf_M (s : C04.Store) (hr : ReachableM s) : WF (ofSpec04 (C04.abs s)) := WF_ofSpec04_abs s hr.inv

theorem C06_link_store_M (s : C04.Store) (hr : ReachableM s) (n : Nat) (raw : List Nat) (hraw : raw.Nodup) (l : Nat)
    (w : Option Int) (md : Option C04.Meta) :
    ofSpec04 (C04.abs (C04.step s (.addNode n md)).1) = addNode (ofSpec04 (C04.abs s)) n (md.map decMeta) ∧
    addEdge (ofSpec04 (C04.abs s)) ⟨raw, l⟩ w (md.map decMeta) =
      match C04.step s (.addEdge raw l w md) with
      | (s', .ok) => some (ofSpec04 (C04.abs s'))
      | (_, .rej) => none :=
  ⟨link_store_addNode04 s hr.inv n md, link_store_addEdge04 s hr.inv raw hraw l w md⟩

theorem C06_link_roundtrip_M (s : C04.Store) (hr : ReachableM s) :
    (loadAny (saveAny (.M (ofSpec04 (C04.abs s))))).map AnyContent.erased = some (.M (ofSpec04 (C04.abs s)).erased) :=
  C06_json_roundtrip_M _ (C06_link_wf_M s hr)

theorem C06_link_load_M (rs : List Record) : load (κ := MKey) rs = (specM.replay rs).map ofSpec04 :=
  specM.load_eq_replay rs (specM.okRecs_of_all (fun _ => trivial) _)

theorem C06_link_reload_M (s : C04.Store) (hr : ReachableM s) :
    ∃ a1 : C04.Spec, specM.replay (save (ofSpec04 (C04.abs s))) = some a1 ∧
      (ofSpec04 a1).erased = (ofSpec04 (C04.abs s)).erased ∧ WF (ofSpec04 a1) :=
  specM.reload _ (C06_link_wf_M s hr) (fun _ _ => trivial)

theorem C06_link_loaded_add_edge_M (s : C04.Store) (hr : ReachableM s) (a1 a2 : C04.Spec)
    (h1 : specM.replay (save (ofSpec04 (C04.abs s))) = some a1) (raw : List Nat) (l : Nat) (w : Option Int)
    (md : Option C04.Meta) (h2 : C04.Spec.step a1 (.addEdge raw l w md) = (a2, .ok)) :
    (load (save (ofSpec04 a2))).map Content.erased = some (ofSpec04 a2).erased :=
  C06_json_loaded_add_edge (ofSpec04 (C04.abs s)) (ofSpec04 a1) (ofSpec04 a2) (C06_link_wf_M s hr)
    (by rw [C06_link_load_M, h1]; rfl) ⟨raw, l⟩ w (md.map decMeta) (by rw [C06_link_add_edge_M, h2])

/-- `load_hypergraph` as a run of the id-indexed model (`storeM`: `C04.init`, `C04.step`; states = stores with `C04.Inv`),
for record lists whose hyperedge records are node sets -/
theorem C06_link_store_load_M (rs : List Record) (h : storeM.okRecs (edgeRecs rs)) :
    load (κ := MKey) rs = (storeM.replay rs).map (fun s => ofSpec04 (C04.abs s.1)) :=
  storeM.load_eq_replay rs h

theorem C06_link_store_reload_M (s : C04.Store) (hr : ReachableM s) :
    ∃ s1 : StoreM, storeM.replay (save (ofSpec04 (C04.abs s))) = some s1 ∧
      (ofSpec04 (C04.abs s1.1)).erased = (ofSpec04 (C04.abs s)).erased :=
  (storeM.reload _ (C06_link_wf_M s hr) (okKeys04 s hr.inv)).imp fun _ h => ⟨h.1, h.2.1⟩

/-- non-vacuity: the same node set in two layers, a re-insertion that replaces the metadata, a node added between two
hyperedges, a record in a third layer that is removed again -/
def C06.exOpsM : List C04.Op :=
  [.addEdge [2, 1] 0 none (some [(5, 8)]), .addEdge [1, 2] 1 none none, .addNode 5 (some [(4, 12)]),
   .addEdge [1, 2] 0 none none, .addEdge [3] 2 none none, .removeEdge [3] 2]

theorem C06.exOpsM_wf : ∀ op ∈ exOpsM, op.WF := by
  intro c hc
  simp only [exOpsM, List.mem_cons, List.not_mem_nil, or_false] at hc
  rcases hc with h | h | h | h | h | h <;> subst h <;> simp [C04.Op.WF]

example : ReachableM (C04.run (C04.init false []) exOpsM) ∧
    (ofSpec04 (C04.abs (C04.run (C04.init false []) exOpsM))).nodes = [(1, []), (2, []), (5, [(.user 1, .tok 3)]), (3, [])] ∧
    (ofSpec04 (C04.abs (C04.run (C04.init false []) exOpsM))).edges = [(⟨[1, 2], 0⟩, (4, [])), (⟨[1, 2], 1⟩, (4, []))] :=
  ⟨⟨false, [], exOpsM, exOpsM_wf, rfl⟩, by decide, by decide⟩
/-- replayed on `C04.Spec`: the metadata carries `layer` (token 2; 2 = `lay 0`, 6 = `lay 1`); the layer REGISTRY of the
replayed state lists the layers that hold a record, the saved object's registry also had layer 2 (`_existing_layers` is
not part of a JSON file - as on the real code; the binary path keeps it, `C06_hgx_roundtrip`) -/
example : (specM.replay (save (ofSpec04 (C04.abs (C04.run (C04.init false []) exOpsM))))).map
      (fun (a : C04.Spec) => (a.edges.map (fun e => e.2.2), a.layers)) = some ([[(2, 2)], [(2, 6)]], [0, 1]) ∧
    (C04.run (C04.init false []) exOpsM).layers = [0, 1, 2] := by decide +kernel
example : (storeM.replay (save (ofSpec04 (C04.abs (C04.run (C04.init false []) exOpsM))))).map
      (fun (s1 : StoreM) => s1.1.edgeList) = some [(([1, 2], 0), 0), (([1, 2], 1), 1)] ∧
    (storeM.replay (save (ofSpec04 (C04.abs (C04.run (C04.init false []) exOpsM))))).map
      (fun (s1 : StoreM) => s1.1.adj) = some [(1, [0, 1]), (2, [0, 1]), (5, []), (3, [])] := by decide +kernel

/-! ## the text file itself: framing of the record stream

`save_hypergraph(.json)` writes the array by hand (`[`, then per record an optional `,` and the record, then `]`) and
`json.load` parses it again.  `Piece`, `writeText` (the loop with its `first` flag), `readText` (the array grammar) are in
`Model/C06Text.lean`.  No statement below mentions a number of records: they hold for files of every size. -/

/-- the file is `[`, the records with exactly one separator between two neighbours, `]` - for every record list -/
theorem C06_text_framing {α : Type} (rs : List α) :
    writeText rs = .opn :: ((rs.map Piece.item).intersperse .sep ++ [.cls]) :=
  writeText_framed rs

/-- number of pieces in the file: 2 brackets, one piece per record, one separator per pair of neighbours -/
theorem C06_text_pieces {α : Type} (rs : List α) :
    (writeText rs).length = 2 + rs.length + (rs.length - 1) :=
  writeText_length rs

/-- the array grammar reads back exactly the written record list, whatever its length -/
theorem C06_text_read_write {α : Type} (rs : List α) : readText (writeText rs) = some rs :=
  readText_writeText rs

/-- through the file text: `load_hypergraph(save_hypergraph(c))` is the record-level `load (save c)` (all four types) -/
theorem C06_text_load_save {κ : Type} [DecidableEq κ] [Kind κ] (c : Content κ) :
    loadText (κ := κ) (saveText c) = load (save c) := by
  simp [loadText, saveText, readText_writeText]

theorem C06_text_load_save_any (a : AnyContent) : loadTextAny (saveTextAny a) = loadAny (saveAny a) := by
  simp [loadTextAny, saveTextAny, readText_writeText]

/-- the round trip of `C06_json_roundtrip`, stated on the file text -/
theorem C06_text_roundtrip {κ : Type} [DecidableEq κ] [Kind κ] [LawfulKind κ] (c : Content κ) (h : WF c) :
    (loadText (κ := κ) (saveText c)).map Content.erased = some c.erased := by
  rw [C06_text_load_save]; exact C06_json_roundtrip c h

/-- seeded change C06-c2 (records buffered, `",\n".join(chunk)` per flush, nothing between two flushes), chunk size 2:
up to 2 records the file is the same, with 3 records a record directly follows a record and the array grammar rejects
the file; the code's writer reads back -/
theorem C06_text_buffered_witness :
    writeBuffered 2 [10, 11] = writeText [10, 11] ∧
    writeBuffered 2 [10, 11, 12] = [.opn, .item 10, .sep, .item 11, .item 12, .cls] ∧
    readText (writeBuffered 2 [10, 11, 12]) = none ∧
    readText (writeText [10, 11, 12]) = some [10, 11, 12] := by decide +kernel

/-- non-vacuity: the pieces of `exT`'s file (header, 3 node records, 2 hyperedge records: 6 records, 5 separators) and
its round trip through the text -/
example : (saveText exT).length = 13 ∧ (saveText exT).head? = some .opn ∧ (saveText exT).getLast? = some .cls := by decide +kernel
example : (loadText (κ := TKey) (saveText exT)).map Content.erased = some exT.erased := C06_text_roundtrip exT exT_wf
example : readText ([.opn, .cls] : List (Piece Nat)) = some [] ∧ readText ([.opn, .item 1, .sep, .cls] : List (Piece Nat)) = none ∧
    readText ([.opn, .item 1, .cls, .cls] : List (Piece Nat)) = none ∧ readText ([.item 1] : List (Piece Nat)) = none := by decide +kernel

/-! ## STRING CONTENT: the string-literal layer of the text format

Node labels, layer names, metadata keys and string values reach the text file as JSON string literals written by
`json.dump` with its default `ensure_ascii=True` and come back through `json.load` (`Hgxv/Model/C06Str.lean`,
on lists of code points; the harness compares `Str.encode` with the bytes of the real files, label by label). -/

/-- every Python `str` (code points below 0x110000, LONE SURROGATES INCLUDED) in which no high surrogate is immediately
    followed by a low one is read back exactly.  Hypotheses: `Valid` is what a `str` is; `NoPair` is the assumption of
    the check (list `ASSUMPTIONS` of `harness/c06.py`: such a `str` has no JSON text of its own, see `C06_str_pair_witness`). -/
theorem C06_str_roundtrip (s : List Nat) (hv : C06.Str.Valid s) (hp : C06.Str.NoPair s) :
    C06.Str.decode (C06.Str.encode s) = some s :=
  C06.Str.decode_encode s hv hp

/-- non-vacuity: `caf\udce9` (os.fsdecode of an undecodable name), NUL, U+2028, an astral character, a low surrogate
    BEFORE a high one, `"` and `\` -/
example : C06.Str.Valid [99, 97, 102, 56553, 0, 8232, 128512, 56320, 55296, 34, 92] ∧
    C06.Str.NoPair [99, 97, 102, 56553, 0, 8232, 128512, 56320, 55296, 34, 92] := by
  refine ⟨by unfold C06.Str.Valid; decide, ?_⟩
  simp [C06.Str.NoPair, C06.Str.isHigh, C06.Str.isLow]

/-- the text written is printable ASCII only (codes 32 … 126), for every list of code points: no raw line separator,
    control character, NUL or surrogate reaches the file (so any ASCII-compatible locale encoding can write it; the
    encoders themselves are not modelled) -/
theorem C06_str_ascii (s : List Nat) : ∀ u ∈ C06.Str.encode s, 32 ≤ u ∧ u ≤ 126 :=
  C06.Str.encode_printable s

example : C06.Str.encode [233, 55296, 10] =
    [34, 92, 117, 48, 48, 101, 57, 92, 117, 100, 56, 48, 48, 92, 110, 34] := by decide +kernel

/-- why `NoPair` is assumed (defect of the FORMAT, not of the code): the two-code-point string U+D83D U+DE00 is written
    as `"\ud83d\ude00"`, which is also the text of the one-code-point string U+1F600 - and is read as that -/
theorem C06_str_pair_witness : C06.Str.decode (C06.Str.encode [55357, 56832]) = some [128512] := by
  show C06.Str.decBody (C06.Str.esc4 55357 ++ (C06.Str.esc4 56832 ++ [34])) = some [128512]
  rw [C06.Str.decBody_pair _ _ (by decide) (by decide), C06.Str.decBody]
  simp

/-- the `ensure_ascii=False` variant (seeded change C06-e3): every code point from 127 on - in particular a lone
    surrogate, which has no UTF-8 form - is handed to the file's encoder as it is: the text is no longer ASCII (what the locale encoding then does
    with it, e.g. refuse a surrogate, is outside the model) -/
theorem C06_str_raw_witness (c : Nat) (h : 127 ≤ c) : c ∈ C06.Str.encodeRaw [c] ∧ ¬ (32 ≤ c ∧ c ≤ 126) := by
  have h32 : ¬ c < 32 := by omega
  refine ⟨?_, by omega⟩
  simp [C06.Str.encodeRaw, C06.Str.encCharRaw, C06.Str.short_of_gt c (by omega), h32]

example : C06.Str.encodeRaw [55296] = [34, 55296, 34] := by decide +kernel

/-! ## The character level of the `.json` file (`Model/C06Json.lean`)

Numbers, whole JSON values as `json.dump(..., separators=(",", ":"))` writes them, the file as `[` LF, one record per
line (`,` LF between two), LF `]`, and the file read back line by line.  Floats are a parameter (`repr`, contract:
printable ASCII text); the reader of ONE record's text is a parameter `dec` whose contract `dec (enc r) = some r` is
demanded only for the records the saved object has. -/
open C06.Json

/-- integers of every size: `int(str(i)) = i` through the JSON number grammar `-?(0|[1-9][0-9]*)` -/
theorem C06_num_roundtrip (i : Int) : C06.Num.decInt (C06.Num.encInt i) = some i :=
  C06.Num.decInt_encInt i

/-- distinct integers have distinct texts (no two values share a number token) -/
theorem C06_num_injective (i j : Int) (h : C06.Num.encInt i = C06.Num.encInt j) : i = j := by
  have hi := C06.Num.decInt_encInt i
  rw [h, C06.Num.decInt_encInt j] at hi
  exact (Option.some.inj hi).symm

/-- the text of an integer is `-` and decimal digits only -/
theorem C06_num_chars (i : Int) : ∀ u ∈ C06.Num.encInt i, u = 45 ∨ (48 ≤ u ∧ u ≤ 57) :=
  C06.Num.encInt_chars i

example : C06.Num.encInt (-18446744073709551616) =
    [45, 49, 56, 52, 52, 54, 55, 52, 52, 48, 55, 51, 55, 48, 57, 53, 53, 49, 54, 49, 54] := by
  show C06.Num.encInt (Int.negSucc 18446744073709551615) = _
  simp [C06.Num.encInt, C06.Num.natDigits]
example : C06.Num.decInt [45, 48] = some 0 ∧ C06.Num.encInt 0 = [48] := by
  refine ⟨by decide, ?_⟩
  show C06.Num.natDigits 0 = _
  simp [C06.Num.natDigits]

/-- the reader is strict (JSON grammar): ``, `-`, `+1`, `01`, `-01`, `1a`, `--1` are no integers -/
theorem C06_num_strict_witness :
    C06.Num.decInt [] = none ∧ C06.Num.decInt [45] = none ∧ C06.Num.decInt [43, 49] = none ∧
    C06.Num.decInt [48, 49] = none ∧ C06.Num.decInt [45, 48, 49] = none ∧ C06.Num.decInt [49, 97] = none ∧
    C06.Num.decInt [45, 45, 49] = none := by decide +kernel

/-- every character `json.dump` writes for a record - any JSON value: nested arrays / objects, strings with arbitrary
    code points as keys and values, integers of any size, floats whose `repr` is printable - is printable ASCII -/
theorem C06_json_record_ascii {F : Type} (repr : F → List Nat) (hr : ∀ f, ∀ u ∈ repr f, 32 ≤ u ∧ u ≤ 126)
    (j : J F) : ∀ u ∈ J.emit repr j, 32 ≤ u ∧ u ≤ 126 :=
  emit_pr repr hr j

/-- hence the writer never emits a raw LF, CR or NUL inside a record (every other `splitlines` separator is outside
    32 … 126: `C06_json_record_ascii`) -/
theorem C06_json_record_no_newline {F : Type} (repr : F → List Nat) (hr : ∀ f, ∀ u ∈ repr f, 32 ≤ u ∧ u ≤ 126)
    (j : J F) : 10 ∉ J.emit repr j ∧ 13 ∉ J.emit repr j ∧ 0 ∉ J.emit repr j := by
  refine ⟨fun h => ?_, fun h => ?_, fun h => ?_⟩ <;> have := emit_pr repr hr j _ h <;> unfold Pr at this <;> omega

/-- `{"type":"node","idx":"a\n","metadata":{"k":[null,true,-12]}}` -/
example : J.emit (Empty.elim : Empty → List Nat)
    (.obj (.cons [116] (.str [97, 10]) (.cons [107] (.arr (.cons .null (.cons (.bool true) (.cons (.int (-12)) .nil)))) .nil))) =
    [123, 34, 116, 34, 58, 34, 97, 92, 110, 34, 44, 34, 107, 34, 58, 91, 110, 117, 108, 108, 44, 116, 114, 117, 101,
     44, 45, 49, 50, 93, 125] := by
  have h : C06.Num.encInt (-12) = [45, 49, 50] := by
    show C06.Num.encInt (Int.negSucc 11) = _
    simp [C06.Num.encInt, C06.Num.natDigits]
  simp only [J.emit, JL.emitTail, JO.emitTail, h]
  decide +kernel

/-- the characters of the file `write_item` produces (the pieces of `writeText` rendered) for a non-empty record list -/
theorem C06_json_file_chars {α : Type} (enc : α → List Nat) (r : α) (rs : List α) :
    render enc (writeText (r :: rs)) = fileText enc (r :: rs) :=
  render_writeText enc r rs

/-- the line structure: when no record's text holds a LF, the file's lines are `[`, then ONE record per line (each but
    the last followed by `,`), then `]` - no record is split, whatever the number of records -/
theorem C06_json_file_lines {α : Type} (enc : α → List Nat) (r : α) (rs : List α)
    (hn : ∀ x ∈ r :: rs, 10 ∉ enc x) :
    splitLF (render enc (writeText (r :: rs))) = [91] :: recLines enc r rs := by
  rw [render_writeText]; exact splitLF_fileText enc r rs hn

/-- number of lines of the file: one per record, `[` and `]` (a file of n ≥ 1 records has n + 2 lines, n + 1 LF) -/
theorem C06_json_file_line_count {α : Type} (enc : α → List Nat) (r : α) (rs : List α)
    (hn : ∀ x ∈ r :: rs, 10 ∉ enc x) :
    (splitLF (render enc (writeText (r :: rs)))).length = (r :: rs).length + 2 := by
  rw [C06_json_file_lines enc r rs hn]
  have : ∀ (r : α) (rs : List α), (recLines enc r rs).length = rs.length + 2 := by
    intro r rs
    induction rs generalizing r with
    | nil => rfl
    | cons r' rs ih => simp [recLines, ih r']
  simp [this r rs]

/-- reading the file line by line gives back the written record list -/
theorem C06_json_file_read_write {α : Type} (enc : α → List Nat) (dec : List Nat → Option α) (r : α) (rs : List α)
    (h0 : enc r ≠ []) (hn : ∀ x ∈ r :: rs, 10 ∉ enc x) (hd : ∀ x ∈ r :: rs, dec (enc x) = some x) :
    readFile dec (render enc (writeText (r :: rs))) = some (r :: rs) := by
  rw [render_writeText]; exact readFile_fileText enc dec r rs h0 hn hd

/-- no record: the file is `[` LF LF `]` and is read as the empty array -/
theorem C06_json_file_empty {α : Type} (enc : α → List Nat) (dec : List Nat → Option α) :
    render enc (writeText ([] : List α)) = [91, 10, 10, 93] ∧ readFile dec (render enc (writeText ([] : List α))) = some [] := by
  rw [render_writeText_nil]; exact ⟨rfl, readFile_fileText_nil enc dec⟩

/-- why the first record's text must not be empty: a lone record with the empty text IS the empty array's file -/
example : readFile some (render id (writeText [([] : List Nat)])) = some [] := by decide +kernel

example : readFile some (render id (writeText [[123, 125], [49], [91, 93]])) = some [[123, 125], [49], [91, 93]] ∧
    render id (writeText [[123, 125], [49]]) = [91, 10, 123, 125, 44, 10, 49, 10, 93] := by decide +kernel

/-- why the record text must hold no LF: a record `1` LF `2` would be read as two lines and the file rejected -/
theorem C06_json_file_split_witness :
    readFile some (render id (writeText [[49, 10, 50]])) = none ∧
    splitLF (render id (writeText [[49, 10, 50]])) = [[91], [49], [50], [93]] := by decide +kernel

/-- END TO END on characters, one class: records written as JSON values (`toJ`, floats through a printable `repr`),
    read by a record reader that inverts the writer ON THE RECORDS OF THIS OBJECT: loading the saved characters is the
    record-level `load (save c)`.  No hypothesis about newlines: `C06_json_record_no_newline` discharges it. -/
theorem C06_json_file_load_save {κ : Type} [DecidableEq κ] [Kind κ] {F : Type} (repr : F → List Nat)
    (hr : ∀ f, ∀ u ∈ repr f, 32 ≤ u ∧ u ≤ 126) (hr0 : ∀ f, repr f ≠ []) (toJ : Record → J F) (dec : List Nat → Option Record)
    (c : Content κ) (hd : ∀ x ∈ save c, dec (J.emit repr (toJ x)) = some x) :
    loadFile (κ := κ) dec (saveFile (fun x => J.emit repr (toJ x)) c) = load (save c) := by
  unfold loadFile saveFile saveText
  have hs : save c = .header (Kind.ty κ) c.weighted c.hmeta ::
      (c.nodes.map saveNode ++ c.edges.map (saveEdge c.weighted)) := rfl
  rw [hs] at hd ⊢
  rw [C06_json_file_read_write _ dec _ _ (emit_ne_nil repr hr0 _)
    (fun x _ => (C06_json_record_no_newline repr hr (toJ x)).1) hd]
  rfl

/-- the property's sentence on the characters of the `.json` file: same content modulo the reserved keys -/
theorem C06_json_file_roundtrip {κ : Type} [DecidableEq κ] [Kind κ] [LawfulKind κ] {F : Type} (repr : F → List Nat)
    (hr : ∀ f, ∀ u ∈ repr f, 32 ≤ u ∧ u ≤ 126) (hr0 : ∀ f, repr f ≠ []) (toJ : Record → J F) (dec : List Nat → Option Record)
    (c : Content κ) (h : WF c) (hd : ∀ x ∈ save c, dec (J.emit repr (toJ x)) = some x) :
    (loadFile (κ := κ) dec (saveFile (fun x => J.emit repr (toJ x)) c)).map Content.erased = some c.erased := by
  rw [C06_json_file_load_save repr hr hr0 toJ dec c hd]; exact C06_json_roundtrip c h

/-- the same through the type dispatch (all four classes): loading the saved characters is the record-level
    `loadAny (saveAny a)` (to which `C06_json_roundtrip_H/D/T/M` apply) -/
theorem C06_json_file_roundtrip_any {F : Type} (repr : F → List Nat)
    (hr : ∀ f, ∀ u ∈ repr f, 32 ≤ u ∧ u ≤ 126) (hr0 : ∀ f, repr f ≠ []) (toJ : Record → J F) (dec : List Nat → Option Record)
    (a : AnyContent) (hd : ∀ x ∈ saveAny a, dec (J.emit repr (toJ x)) = some x) :
    loadFileAny dec (saveFileAny (fun x => J.emit repr (toJ x)) a) = loadAny (saveAny a) := by
  unfold loadFileAny saveFileAny saveTextAny
  have hs : ∃ r rs, saveAny a = r :: rs := by cases a <;> exact ⟨_, _, rfl⟩
  obtain ⟨r, rs, hs⟩ := hs
  rw [hs] at hd ⊢
  rw [C06_json_file_read_write _ dec _ _ (emit_ne_nil repr hr0 _)
    (fun x _ => (C06_json_record_no_newline repr hr (toJ x)).1) hd]
  rfl

/-- non-vacuity of the reader contract: the records of `exT` written as a JSON string of as many `a` as their position,
    read back by length + lookup (a codec that is right on the records of this object and on nothing else) -/
example : ∃ (toJ : Record → J Empty) (dec : List Nat → Option Record),
    (∀ x ∈ save exT, dec (J.emit (Empty.elim : Empty → List Nat) (toJ x)) = some x) ∧
    (loadFile (κ := TKey) dec (saveFile (fun x => J.emit (Empty.elim : Empty → List Nat) (toJ x)) exT)).map Content.erased
      = some exT.erased := by
  let toJ : Record → J Empty := fun x => J.str (List.replicate ((save exT).idxOf x) 97)
  let dec : List Nat → Option Record := fun l => (save exT)[l.length - 2]?
  have hd : ∀ x ∈ save exT, dec (J.emit (Empty.elim : Empty → List Nat) (toJ x)) = some x := by decide +kernel
  exact ⟨toJ, dec, hd, C06_json_file_roundtrip Empty.elim (fun f => f.elim) (fun f => f.elim) toJ dec exT exT_wf hd⟩

/-! ## The `.hgr` reader from the characters of the file (`Model/C06HgrText.lean`)

`strip`, `split(" ")`, `int` of `load_hypergraph(.hgr)` on character codes; a valid data line = decimal numbers separated by
one blank (`dataLine`), a valid file = such lines each ended by LF (`unlines`). -/
open C06.HgrText

/-- a data line is read as exactly the numbers written on it (any number of tokens, numbers of any size) -/
theorem C06_hgr_lex_line (t : Nat) (ts : List Nat) : lexLine (dataLine (t :: ts)) = some (.toks (t :: ts)) :=
  lexLine_dataLine t ts

/-- blank lines, white-space lines and `%` comments are skipped; surrounding white space (CR of a CRLF file, TAB, NBSP) and
    repeated blanks do not matter; a TAB between two numbers is no separator (`int("1\t2")` raises) -/
theorem C06_hgr_lex_witness :
    lexLine [] = some .skip ∧ lexLine [32, 9, 13] = some .skip ∧ lexLine [32, 37, 32, 49, 32, 50] = some .skip ∧
    lexLine [160, 9, 49, 50, 32, 32, 48, 55, 32, 13] = some (.toks [12, 7]) ∧ lexLine [49, 9, 50] = none := by decide +kernel

/-- a whole valid file: from its characters the reader sees exactly the rows written -/
theorem C06_hgr_text (rows : List (List Nat)) (h : ∀ r ∈ rows, r ≠ []) :
    parseHgrText (unlines (rows.map dataLine)) = parseHgr (rows.map Line.toks) := by
  unfold parseHgrText
  rw [lexText_rows rows h]
  simp only [Option.bind_some, parseHgr, hgrScan_skip]

/-- `C06_hgr` from the characters of the file: the hypergraph built from the text `unlines (rows.map dataLine)` has exactly
    the listed node sets with the listed weights -/
theorem C06_hgr_text_content (rows : List (List Nat)) (h : ∀ r ∈ rows, r ≠ []) (s : HgrSt)
    (hs : hgrScan {} (rows.map Line.toks) = some s) (hd : hgrWeighted s.mode = true → (s.es.map sort).Nodup) :
    ∃ c, parseHgrText (unlines (rows.map dataLine)) = some c ∧ WF c ∧ c.weighted = hgrWeighted s.mode ∧
      (∀ k, k ∈ AL.keys c.edges ↔ ∃ e ∈ s.es, k = ⟨sort e⟩) ∧
      (∀ n, n ∈ AL.keys c.nodes ↔ ∃ e ∈ s.es, n ∈ e) ∧
      (hgrWeighted s.mode = true →
        ∀ p ∈ s.es.zip s.ws, AL.get? c.edges ⟨sort p.1⟩ = some (unit * (p.2 : Int), [])) ∧
      (hgrWeighted s.mode = false → ∀ e ∈ c.edges, e.2 = (unit, [])) := by
  rw [C06_hgr_text rows h]
  exact C06_hgr (rows.map Line.toks) s hs hd

/-- `2 3` LF `% x` LF LF `1 2` LF -/
example : lexText [50, 32, 51, 10, 37, 32, 120, 10, 10, 49, 32, 50, 10] =
    some [.toks [2, 3], .skip, .skip, .toks [1, 2], .skip] := by decide +kernel
