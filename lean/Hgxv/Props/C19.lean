import Hgxv.Proofs.C19Filter
import Hgxv.Proofs.C19RemoveNode
import Hgxv.Proofs.C19RemoveList
import Hgxv.Proofs.C19WeightSum
import Hgxv.Proofs.C19Occurrences
import Hgxv.Proofs.C19BinomialTail
import Hgxv.Proofs.C19Threshold
import Hgxv.Proofs.C19C
import Hgxv.Proofs.C19TestCount
import Hgxv.Proofs.C01Query
import Hgxv.Proofs.C19LinkC01
import Hgxv.Proofs.C19LinkC02
import Hgxv.Proofs.C19LinkC03
import Hgxv.Proofs.C19LinkC04

/-! # C19 - filters keep exactly what the criteria say; validation p-values follow the definition

Model: `Hgxv/Model/C19.lean`.  Part A is generic in the container (`KeyOps κ`: `nodesOf`, `shrink`, `first`, `batch`) and in the
weight type.  Hypotheses `(AL.keys c.nodes).Nodup`, `(AL.keys c.edges).Nodup`, `WF ops c` are the class
invariants of the four containers (distinct nodes, distinct keys, nodes of keys are nodes: C01-C04);
`Lawful ops` (a shrunk key has the same nodes except the removed one) is proved for the three `KeyOps`
instances below.  Part B: `edges` is `get_edges()` with `get_weight`, keys distinct and strictly increasing
tuples (`Hypergraph.add_edge` sorts; hyperedges are duplicate-free node tuples).  Order of the file: Part A, the links to the
full container models C01 … C04, then Part B by subject: the step-up rule, the binomial tail, the tables of `get_svh`, `get_svc`
(model `Hgxv/Model/C19C.lean`).  Notions of the statements
that are defined in proof modules: `SameCrit?` (`Proofs/C19Filter`); `mdOf`, `Dyn`, `filterVia` (`Proofs/C19LinkBase`); `ofSpec0x`,
`view0x`, `rmNode0x`, `rmEdge0x`, `keyH/T/M`, `Dyn02`, `NoNone`, `Inv02` (`Proofs/C19LinkC01 … C04`). -/
open C19

/-! ## Part A: `filter_hypergraph` -/

/-- criteria matching: every attribute's value (`None` when missing) is among the allowed values -/
theorem C19_matches_def (md : Md) (crit : Crit) :
    matchesCrit md crit = true ↔ ∀ p ∈ crit, mdGet md p.1 ∈ p.2 := by
  simp only [matchesCrit, List.all_eq_true, List.contains_iff_mem]

/-- an item survives its criteria iff it matches them (mode keep) / does not match them (mode remove);
without criteria everything survives -/
theorem C19_survives_iff (crit : Option Crit) (mode : Mode) (md : Md) :
    critSel crit mode md = false ↔
      match crit, mode with
      | none, _ => True
      | some cr, .keep => matchesCrit md cr = true
      | some cr, .remove => matchesCrit md cr = false := by
  cases crit <;> cases mode <;> simp [critSel, selected]

/-- the removed nodes are exactly the nodes whose metadata fail the node criteria -/
theorem C19_removed_iff {κ ω : Type} (c : Content κ ω) (nc : Option Crit) (mode : Mode)
    (n : Node) :
    n ∈ removedNodes c nc mode ↔ ∃ md, (n, md) ∈ c.nodes ∧ critSel nc mode md = true := by
  cases nc with
  | none => simp [removedNodes, critSel]
  | some cr =>
    simp only [removedNodes, nodesToProcess, critSel, List.mem_map, List.mem_filter]
    constructor
    · rintro ⟨x, ⟨hx, hs⟩, rfl⟩; exact ⟨x.2, hx, hs⟩
    · rintro ⟨md, hx, hs⟩; exact ⟨(n, md), ⟨hx, hs⟩, rfl⟩

/-- `keep_edges=False`, closed form: the result is the input with the failing nodes filtered out and with
exactly the records that pass the hyperedge criteria and contain no removed node; order, weights and metadata
of everything that survives are untouched (the result lists are sublists of the input lists). -/
theorem C19_filter_drop {κ ω : Type} [DecidableEq κ] [Add ω] (ops : KeyOps κ) (c : Content κ ω)
    (nc ec : Option Crit) (mode : Mode) (hn : (AL.keys c.nodes).Nodup) (he : (AL.keys c.edges).Nodup) :
    filterHg ops c nc ec mode false =
      { weighted := c.weighted,
        nodes := c.nodes.filter (fun x => !critSel nc mode x.2),
        edges := c.edges.filter (fun e =>
          (ops.nodesOf e.1).all (fun m => !(removedNodes c nc mode).contains m) && !critSel ec mode e.2.2) } :=
  filterHg_drop ops c nc ec mode hn he

/-- `keep_edges=False` in the property's words. -/
theorem C19_filter {κ ω : Type} [DecidableEq κ] [Add ω] (ops : KeyOps κ) (c : Content κ ω)
    (nc ec : Option Crit) (mode : Mode) (hn : (AL.keys c.nodes).Nodup) (he : (AL.keys c.edges).Nodup) :
    let r := filterHg ops c nc ec mode false
    (∀ x, x ∈ r.nodes ↔ x ∈ c.nodes ∧ critSel nc mode x.2 = false) ∧
    (∀ e, e ∈ r.edges ↔ e ∈ c.edges ∧ critSel ec mode e.2.2 = false ∧
        ∀ n ∈ ops.nodesOf e.1, n ∉ removedNodes c nc mode) ∧
    (AL.keys r.nodes).Nodup ∧ (AL.keys r.edges).Nodup ∧ r.weighted = c.weighted := by
  intro r
  have hr : r = _ := filterHg_drop ops c nc ec mode hn he
  rw [hr]
  refine ⟨fun x => ?_, fun e => ?_, AL.keys_filter_nodup _ _ hn, AL.keys_filter_nodup _ _ he, rfl⟩
  · simp [List.mem_filter]
  · simp only [List.mem_filter, Bool.and_eq_true, List.all_eq_true, Bool.not_eq_true', ← Bool.not_eq_true,
      List.contains_iff_mem]
    constructor
    · rintro ⟨h1, h2, h3⟩; exact ⟨h1, by simpa using h3, h2⟩
    · rintro ⟨h1, h2, h3⟩; exact ⟨h1, h3, by simpa using h2⟩

/-! ### `keep_edges=True`: hyperedges incident to removed nodes are shrunk and merged -/

/-- the three container instances satisfy the law used below: the shrunk key has the nodes of the key except `n` -/
theorem C19_lawful_H : Lawful opsH := lawful_H

theorem C19_lawful_T : Lawful opsT := lawful_T

theorem C19_lawful_D : Lawful opsD := lawful_D

/-- for `Hypergraph` the key after the removal of `R` is the key without the nodes of `R` (also when it is `()`) -/
theorem C19_shrinkAll_H (R : List Node) (k : Key) :
    shrinkAll opsH R k = some (k.1.filter (fun m => !R.contains m), k.2) := by
  induction R generalizing k with
  | nil => simp [shrinkAll]
  | cons n R ih =>
    have hstep : stepKey opsH n k = some (without k.1 n, k.2) := by
      by_cases h : n ∈ opsH.nodesOf k
      · exact stepKey_of_mem opsH h
      · rw [stepKey_of_not_mem opsH h,
          show without k.1 n = k.1 from List.filter_eq_self.mpr fun a ha => decide_eq_true fun hh => h (hh ▸ ha)]
    rw [shrinkAll_cons, hstep, Option.bind_some, ih]
    simp only [without, List.filter_filter]
    congr 2
    apply List.filter_congr
    intro a _
    rw [Bool.eq_iff_iff]
    simp only [Bool.and_eq_true, Bool.not_eq_true', ← Bool.not_eq_true, List.contains_iff_mem, List.mem_cons, not_or,
      decide_eq_true_eq, ne_eq]
    exact And.comm

/-- the two loop shapes of `remove_node(keep_edges=True)` - all re-insertions then all removals (`Hypergraph`,
`DirectedHypergraph`; `ops.batch = true`) or record by record (`TemporalHypergraph`, `MultiplexHypergraph`) - leave
the same content, so everything below holds for both -/
theorem C19_loop_orders_agree {κ ω : Type} [DecidableEq κ] [Add ω] (ops : KeyOps κ) (hlaw : Lawful ops)
    (c : Content κ ω) (n : Node) :
    keepLoop ops n c (incident ops c n) = (incident ops c n).foldl (shrinkOne ops n) c :=
  keepLoop_eq ops hlaw c n

/-- ONE `remove_node(n, keep_edges=True)` (the shrink-merge semantics of the containers): the result is well formed,
the node is gone, no key contains `n`, and a key `k2` without `n` holds the old value of `k2` (if any) merged, in
adjacency order, with the records incident to `n` whose shrunk key is `k2` (`mergeInto`: weights add when weighted,
the incoming metadata replaces the old one). -/
theorem C19_removeNode_keep {κ ω : Type} [DecidableEq κ] [Add ω] (ops : KeyOps κ) (hlaw : Lawful ops)
    (c : Content κ ω) (hwf : WF ops c) (n : Node) :
    let r := removeNode ops true c n
    WF ops r ∧ r.weighted = c.weighted ∧ r.nodes = AL.erase c.nodes n ∧
    ∀ k2, AL.get? r.edges k2 =
      if n ∈ ops.nodesOf k2 then none
      else ((incident ops c n).filter (fun e => decide (ops.shrink e.1 n = some k2))).foldl
            (mergeInto c.weighted) (AL.get? c.edges k2) :=
  ⟨removeNode_keep_wf ops hlaw c hwf n, removeNode_keep_weighted ops hlaw c n, removeNode_keep_nodes ops hlaw c hwf n,
   removeNode_keep_get? ops hlaw c hwf n⟩

/-- `keep_edges=True` in the property's words.  `s` is the content after the node phase (the shrunk hyperedges):
* the nodes are exactly the nodes passing the node criteria, with their metadata;
* the hyperedges are exactly the shrunk hyperedges passing the hyperedge criteria, with the weight and metadata
  they have in `s`;
* the keys of `s` are exactly the images `shrinkAll R k` of the input keys (`R` = removed nodes), none of them
  contains a removed node, the metadata of a shrunk hyperedge is the metadata of an input hyperedge shrunk to it,
  and an input hyperedge that is the only one shrunk to its image keeps its weight and metadata (in particular
  every hyperedge that no removal touches). -/
theorem C19_filter_keep {κ ω : Type} [DecidableEq κ] [Add ω] (ops : KeyOps κ) (hlaw : Lawful ops)
    (c : Content κ ω) (hwf : WF ops c) (nc ec : Option Crit) (mode : Mode) :
    let R := removedNodes c nc mode
    let s := nodePhase ops c nc mode true
    let r := filterHg ops c nc ec mode true
    (∀ x, x ∈ r.nodes ↔ x ∈ c.nodes ∧ critSel nc mode x.2 = false) ∧
    (∀ e, e ∈ r.edges ↔ e ∈ s.edges ∧ critSel ec mode e.2.2 = false) ∧
    WF ops r ∧ r.weighted = c.weighted ∧
    (∀ k2, k2 ∈ AL.keys s.edges ↔ ∃ k ∈ AL.keys c.edges, shrinkAll ops R k = some k2) ∧
    (∀ e ∈ s.edges, ∀ n ∈ R, n ∉ ops.nodesOf e.1) ∧
    (∀ e2 ∈ s.edges, ∃ e ∈ c.edges, shrinkAll ops R e.1 = some e2.1 ∧ e2.2.2 = e.2.2) ∧
    (∀ e ∈ c.edges, ∀ k2, shrinkAll ops R e.1 = some k2 →
        (∀ e' ∈ c.edges, shrinkAll ops R e'.1 = some k2 → e' = e) → (k2, e.2) ∈ s.edges) := by
  intro R s r
  have hs : s = R.foldl (removeNode ops true) c := nodePhase_eq ops c nc mode true
  obtain ⟨h1, h2, h3, h4, h6⟩ := foldl_removeNode_keep ops hlaw R c hwf
  have h5 := foldl_removeNode_keep_md ops hlaw R c hwf
  rw [← hs] at h1 h2 h3 h4 h5 h6
  have hr : r = { s with edges := s.edges.filter (fun e => !critSel ec mode e.2.2) } :=
    edgePhase_eq s ec mode h1.keysNodup
  have hnodes : ∀ x, x ∈ s.nodes ↔ x ∈ c.nodes ∧ critSel nc mode x.2 = false := by
    intro x
    rw [h3, List.mem_filter]
    constructor
    · rintro ⟨hx, hc⟩
      rw [removedNodes_contains c nc mode hwf.nodesNodup hx] at hc
      exact ⟨hx, by simpa using hc⟩
    · rintro ⟨hx, hc⟩
      rw [removedNodes_contains c nc mode hwf.nodesNodup hx]
      exact ⟨hx, by simpa using hc⟩
  have hfree : ∀ e ∈ s.edges, ∀ n ∈ R, n ∉ ops.nodesOf e.1 := by
    intro e he n hn hmem
    have := h1.closed e he n hmem
    obtain ⟨x, hx, hxn⟩ := List.mem_map.mp this
    rw [h3, List.mem_filter] at hx
    have hxn' : x.1 = n := hxn
    rw [hxn'] at hx
    simp only [Bool.not_eq_true', ← Bool.not_eq_true, List.contains_iff_mem] at hx
    exact hx.2 hn
  refine ⟨?_, ?_, filterHg_wf ops true (fun _ => hlaw) c hwf nc ec mode, ?_, h4, hfree, h5, h6⟩
  · intro x; rw [hr]; exact hnodes x
  · intro e; rw [hr]; simp [List.mem_filter]
  · rw [hr]; exact h2

/-- weights of the shrunk hyperedges (`s` as above).  Weighted container, weights in any commutative additive
monoid: the weight of a shrunk hyperedge is the SUM of the weights of the input hyperedges shrunk to it.
Unweighted container: weights are never combined, every weight is the weight of an input hyperedge shrunk to
that key (so all weights stay `1` when all were `1`). -/
theorem C19_filter_keep_weight {κ ω : Type} [DecidableEq κ] [AddCommMonoid ω] (ops : KeyOps κ) (hlaw : Lawful ops)
    (c : Content κ ω) (hwf : WF ops c) (nc : Option Crit) (mode : Mode) :
    let R := removedNodes c nc mode
    let s := nodePhase ops c nc mode true
    (c.weighted = true → ∀ e2 ∈ s.edges,
      e2.2.1 = ((c.edges.filter (fun e => decide (shrinkAll ops R e.1 = some e2.1))).map (·.2.1)).sum) ∧
    (c.weighted = false → ∀ e2 ∈ s.edges, ∃ e ∈ c.edges, shrinkAll ops R e.1 = some e2.1 ∧ e2.2.1 = e.2.1) := by
  intro R s
  have hs : s = R.foldl (removeNode ops true) c := nodePhase_eq ops c nc mode true
  constructor
  · intro hw e2 he2
    have hwf2 : WF ops s := hs ▸ (foldl_removeNode_keep ops hlaw R c hwf).1
    have h1 := foldl_removeNode_keep_wsum ops hlaw R (fun k => decide (k = e2.1)) c hwf hw
    rw [← hs, wsum_eq_key s.edges hwf2.keysNodup e2 he2] at h1
    rw [h1]
    unfold wsum
    congr 2
    apply List.filter_congr
    intro e _
    exact pullAll_eq_key ops R e.1 e2.1
  · intro hw
    rw [hs]
    exact foldl_removeNode_keep_w_unweighted ops hlaw R c hwf hw

/-- `filter_hypergraph` returns: in the model with rejections (`remove_node` raises on an absent node, `remove_edge`
on an absent key) no call made by the filter is rejected, and the result is the one characterised above.
(Exceptions of other kinds - the `TypeError`s of D12/D15 - are outside the model; the harness observes them.
For `opsD` the content model speaks about the code only when no hyperedge has a node on both sides - the quantifier of
C02 / C19 and part of the C02 invariant; with such a hyperedge `DirectedHypergraph.remove_node` raises, see
`C19_link_C02_overlap`.) -/
theorem C19_filter_returns {κ ω : Type} [DecidableEq κ] [Add ω] (ops : KeyOps κ) (hlaw : Lawful ops)
    (c : Content κ ω) (hwf : WF ops c) (nc ec : Option Crit) (mode : Mode) (keepEdges : Bool) :
    filterHg? ops c nc ec mode keepEdges = some (filterHg ops c nc ec mode keepEdges) :=
  filterHg?_eq ops keepEdges (fun _ => hlaw) c hwf nc ec mode

/-! #### non-vacuity: a weighted `Hypergraph` with a shrink-merge, both modes -/

/-- nodes 1 (type=1), 2 (type=2), 3 (no metadata); hyperedges (1,2,3):2, (1,3):1, (2):4 -/
def C19.exampleContent : Content Key Nat :=
  { weighted := true,
    nodes := [(1, [(0, some 1)]), (2, [(0, some 2)]), (3, [])],
    edges := [(([1, 2, 3], []), (2, [(5, some 1)])), (([1, 3], []), (1, [])), (([2], []), (4, [(5, some 2)]))] }

theorem C19.exampleContent_wf : WF opsH C19.exampleContent := ⟨by decide +kernel, by decide +kernel, by decide +kernel⟩

example : WF opsH C19.exampleContent := C19.exampleContent_wf

/-- the hypotheses of the keep-mode theorems hold on it (weights in the commutative monoid `Nat`) -/
example := C19_filter_keep opsH C19_lawful_H C19.exampleContent C19.exampleContent_wf
  (some [(0, [some 1, none])]) (some [(5, [some 1])]) .keep

example := (C19_filter_keep_weight opsH C19_lawful_H C19.exampleContent C19.exampleContent_wf
  (some [(0, [some 1, none])]) .keep).1 rfl

/-- the rejections are real: an absent node / key is refused -/
example : (removeNode? opsH true C19.exampleContent 7).isNone ∧
    (removeEdge? C19.exampleContent ([1, 2], [])).isNone ∧
    (removeEdge? C19.exampleContent ([1, 3], [])).isSome := by decide +kernel

example : removedNodes C19.exampleContent (some [(0, [some 1, none])]) .keep = [2] := by decide +kernel

example : shrinkAll opsH [2] ([1, 2, 3], []) = some ([1, 3], []) ∧ shrinkAll opsT [2] ([2], [0]) = none ∧
    shrinkAll opsD [2] ([1, 2], [3]) = some ([1], [3]) ∧ shrinkAll opsD [2] ([1], [2]) = none := by decide +kernel

/-- keep nodes whose `type` is 1 or missing, shrink: (1,2,3) merges into (1,3) (weights 2+1, metadata of (1,2,3)),
(2) becomes the empty hyperedge -/
example : (filterHg opsH C19.exampleContent (some [(0, [some 1, none])]) none .keep true).edges =
    [(([1, 3], []), (3, [(5, some 1)])), (([], []), (4, [(5, some 2)]))] := by decide +kernel

example : (filterHg opsH C19.exampleContent (some [(0, [some 1, none])]) (some [(5, [some 1])]) .remove false).edges =
    [(([2], []), (4, [(5, some 2)]))] := by decide +kernel

example : (filterHg opsT C19.exampleContent (some [(0, [some 2])]) none .remove true).nodes =
    [(1, [(0, some 1)]), (3, [])] := by decide +kernel

/-! ### the allowed values of a criterion count as a set -/

/-- Criteria matching is `metadata.get(attr) in values`: only the MEMBERSHIP of the allowed values matters. Two criteria
dictionaries with the same attributes whose allowed values have the same members - in whatever order and multiplicity,
i.e. whether the caller hands them over as a list, a tuple, a set, a frozenset, the keys of a dict or a range - select the
same items, remove the same nodes and leave the same content, for every container type, both modes, both `keep_edges`.
(Object identity does not exist in the model: that equal label / value OBJECTS are treated alike by the implementation
is what the correspondence check on freshly constructed objects establishes.) -/
theorem C19_allowed_values_as_set {κ ω : Type} [DecidableEq κ] [Add ω] (ops : KeyOps κ) (c : Content κ ω)
    (nc nc' ec ec' : Option Crit) (hn : SameCrit? nc nc') (he : SameCrit? ec ec') (mode : Mode) (keep : Bool) :
    (∀ md, critSel nc mode md = critSel nc' mode md) ∧ (∀ md, critSel ec mode md = critSel ec' mode md) ∧
    removedNodes c nc mode = removedNodes c nc' mode ∧
    filterHg ops c nc ec mode keep = filterHg ops c nc' ec' mode keep :=
  ⟨critSel_congr hn mode, critSel_congr he mode, removedNodes_congr c hn mode, filterHg_congr ops c hn he mode keep⟩

example : SameCrit? (some [(0, [some 1, none, some 1]), (3, [])]) (some [(0, [none, some 1]), (3, [])]) ∧
    ¬ SameCrit? (some [(0, [some 1])]) (some [(0, [some 1, none])]) ∧ ¬ SameCrit? (some []) none := by
  refine ⟨?_, ?_, ?_⟩
  · simp only [SameCrit?, SameCrit, true_and, and_true]
    refine ⟨fun v => ?_, fun _ => trivial⟩
    simp only [List.mem_cons, List.mem_nil_iff, or_false]
    constructor
    · rintro (h | h | h) <;> simp [h]
    · rintro (h | h) <;> simp [h]
  · simp only [SameCrit?, SameCrit, true_and, and_true]
    intro h
    have := (h none).2 (by simp)
    simp at this
  · simp [SameCrit?]

/-! ## Links to the full container models C01 … C04

`Proofs/C19LinkBase.lean`, `C19LinkC01 … C19LinkC04.lean`.  `ofSpec0x : C0x.Spec → Content Key Int` reads the abstract
state of a container model (C01 `Hypergraph`, C02 `DirectedHypergraph`, C03 `TemporalHypergraph`, C04
`MultiplexHypergraph`) as C19 content (`view0x s = ofSpec0x (C0x.abs s)` for a concrete store; weights are the models'
`Int` quanta, metadata values `v` become `some v`).  Hypothesis `C0x.Inv s` (`Inv02 s = C02.Inv ∧ C02.Ord ∧ C02.Unw` for
C02) is the class invariant C01 … C04 prove for every reachable object (`C19_link_reachable`); `WF`, `Lawful`, distinct
keys are discharged from it.  C02 with `keep_edges=True` has one more hypothesis, `NoNone (view02 s)`: no stored hyperedge
metadata is the bare value None (`C02.metaNone`; C02's metadata may be any JSON value); reachable objects can violate it
- see `C19_link_C02_calls`, `C19_link_C02_noneMeta`. -/

/-- criteria read the container's metadata: `metadata.get(attr)` on the image is the plain lookup -/
theorem C19_link_mdGet (m : List (Nat × Nat)) (a : Nat) : mdGet (mdOf m) a = AL.get? m a := mdGet_mdOf m a

/-- every object reachable by a history of well-formed public calls of the four full models satisfies the class
invariant that the link theorems ask for, and its content is well formed in C19's sense.  (`NoNone`, the further
hypothesis of the C02 link for `keep_edges=True`, is NOT implied by reachability: the object of `C19_link_C02_noneMeta`
is reachable and violates it.) -/
theorem C19_link_reachable :
    (∀ (k : Nat) (cs : List C01.Cmd), (∀ c ∈ cs, c.WF) → ∀ s ∈ C01.run (C01.init k) cs,
      C01.Inv s ∧ WF opsH (view01 s)) ∧
    (∀ (cs : List C02.Cmd), (∀ c ∈ cs, c.WF) → ∀ slot s, AL.get? (C02.runCmds [] cs) slot = some s →
      Inv02 s ∧ WF opsD (view02 s)) ∧
    (∀ (s : C03.Store), C03.Reachable s → C03.Inv s ∧ WF opsT (view03 s)) ∧
    (∀ (w : Bool) (hm : C04.HMeta) (ops : List C04.Op), (∀ op ∈ ops, op.WF) →
      C04.Inv (C04.run (C04.init w hm) ops) ∧ WF opsT (view04 (C04.run (C04.init w hm) ops))) := by
  refine ⟨?_, ?_, ?_, ?_⟩
  · intro k cs hwf s hs
    have h := C01.run_inv cs (C01.init k) hwf (C01.init_inv k) s hs
    exact ⟨h, (dyn01_of_inv s h).wf⟩
  · intro cs hcs slot s hs
    have h := C02.of_history cs hcs slot s hs
    have h2 : Inv02 s := ⟨h.1, h.2.1, h.2.2.1⟩
    exact ⟨h2, (dyn02_of_inv s h2).wf⟩
  · intro s hr
    have h := C03.reachable_inv hr
    exact ⟨h, (dyn03_of_inv s h).wf⟩
  · intro w hm ops hw
    have h := C04.run_inv _ ops (C04.inv_init w hm) hw
    exact ⟨h, (dyn04_of_inv _ h).wf⟩

/-- **C01, call by call.**  On the abstract `Hypergraph` of a store satisfying the invariant, `remove_node(n, keep_edges)`
and `remove_edge(raw)` of `C01.Spec` are C19's content operations under `ofSpec01`, accepted exactly when C19's checked
twins `removeNode?` / `removeEdge?` accept; a rejected call leaves the state as it is. -/
theorem C19_link_C01_calls (s : C01.Store) (h : C01.Inv s) (n : Node) (keep : Bool) (raw : List Nat) :
    let a := C01.abs s
    (((C01.Spec.removeNode a n keep).2 = .ok ↔ (removeNode? opsH keep (ofSpec01 a) n).isSome) ∧
     ((C01.Spec.removeNode a n keep).2 = .ok →
        ofSpec01 (C01.Spec.removeNode a n keep).1 = removeNode opsH keep (ofSpec01 a) n) ∧
     ((C01.Spec.removeNode a n keep).2 = .rej → (C01.Spec.removeNode a n keep).1 = a)) ∧
    (((C01.Spec.removeEdge a raw).2 = .ok ↔ (removeEdge? (ofSpec01 a) (keyH (C01.canon raw))).isSome) ∧
     ((C01.Spec.removeEdge a raw).2 = .ok →
        ofSpec01 (C01.Spec.removeEdge a raw).1 = removeEdge (ofSpec01 a) (keyH (C01.canon raw))) ∧
     ((C01.Spec.removeEdge a raw).2 = .rej → (C01.Spec.removeEdge a raw).1 = a)) := by
  intro a
  have hd := dyn01_of_inv s h
  constructor
  · rw [removeNode?_isSome, nodes01_get, Option.isSome_map]
    exact verdict (removeNode01 a hd n keep) nofun
  · rw [removeEdge?_isSome]
    exact verdict (removeEdge01 a raw (keys_nodup_of_mapKV keyH recOf _ hd.wf.keysNodup)) nofun

/-- **C02, call by call** (keys with sorted sides; the invariant includes "no node on both sides", see
`C19_link_C02_overlap` for what happens without it).  For `keep_edges=True` there is the hypothesis `hnn`: no stored
hyperedge metadata is the bare value None (`NoNone`).  A stored None would be reset to `{}` by
`remove_node(keep_edges=True)` (the re-insertion passes it as the `metadata` ARGUMENT of `add_edge`, where None means
"not given"), which the content model of C19 does not express (`C19_link_C02_noneMeta`); C19's filters never read
metadata of re-inserted hyperedges, they carry it.  `keep_edges=False` needs no such hypothesis. -/
theorem C19_link_C02_calls (s : C02.Store) (h : Inv02 s) (n : Node) (keep : Bool) (k : Key)
    (hk : k.1.Pairwise (· ≤ ·) ∧ k.2.Pairwise (· ≤ ·)) (hnn : keep = true → NoNone (ofSpec02 (C02.abs s))) :
    let a := C02.abs s
    (((C02.Spec.removeNode a n keep).2 = .ok ↔ (removeNode? opsD keep (ofSpec02 a) n).isSome) ∧
     ((C02.Spec.removeNode a n keep).2 = .ok →
        ofSpec02 (C02.Spec.removeNode a n keep).1 = removeNode opsD keep (ofSpec02 a) n) ∧
     ((C02.Spec.removeNode a n keep).2 = .rej → (C02.Spec.removeNode a n keep).1 = a)) ∧
    (((C02.Spec.removeEdge a (C02.RawEdge.ofKey k)).2 = .ok ↔ (removeEdge? (ofSpec02 a) k).isSome) ∧
     ((C02.Spec.removeEdge a (C02.RawEdge.ofKey k)).2 = .ok →
        ofSpec02 (C02.Spec.removeEdge a (C02.RawEdge.ofKey k)).1 = removeEdge (ofSpec02 a) k) ∧
     ((C02.Spec.removeEdge a (C02.RawEdge.ofKey k)).2 = .rej → (C02.Spec.removeEdge a (C02.RawEdge.ofKey k)).1 = a)) := by
  intro a
  constructor
  · rw [removeNode?_isSome, nodes02_get, Option.isSome_map]
    exact verdict (removeNode02 a (dyn02_of_inv s h) n keep hnn) nofun
  · rw [removeEdge?_isSome, removeEdge02 a k hk]
    exact verdict (removeEdgeKey02 a k) nofun

/-- the corner outside the invariant, where the two semantics differ: `add_edge(((1,2),(1,3)))` is accepted; then
`remove_node(1)` is REJECTED by the abstract `DirectedHypergraph` in both modes (as by the code: the hyperedge is listed
once per role, the second `remove_edge` raises `ValueError`), while C19's content model - which lists it once - accepts.
The content of that state violates the invariant (node 1 on both sides), so no link theorem speaks about it. -/
theorem C19_link_C02_overlap :
    let a := (C02.Spec.addEdge {} (C02.RawEdge.ofLists [1, 2] [1, 3]) none none).1
    (C02.Spec.addEdge {} (C02.RawEdge.ofLists [1, 2] [1, 3]) none none).2 = .ok ∧
    (C02.Spec.removeNode a 1 false).2 = .rej ∧ (C02.Spec.removeNode a 1 true).2 = .rej ∧
    (removeNode? opsD true (ofSpec02 a) 1).isSome = true ∧ ¬ Dyn02 (ofSpec02 a) := overlap02_rejected

/-- the corner outside the side condition `NoNone` of `keep_edges=True`: after `set_edge_metadata(((1,2),(3)), None)` the
stored metadata is the bare value None; `remove_node(2, keep_edges=True)` on the object re-inserts `((1),(3))` with `{}`
(as the code: `add_edge(.., metadata=None)`), the content model of C19 carries None over; with `keep_edges=False` the two
agree on that state. -/
theorem C19_link_C02_noneMeta :
    let s := C02.run {} [.addEdge (.ofLists [1, 2] [3]) none none, .setEdgeMeta (.ofLists [1, 2] [3]) C02.metaNone]
    (view02 s).edges = [(([1, 2], [3]), (C02.one, mdOf C02.metaNone))] ∧ ¬ NoNone (view02 s) ∧
    (rmNode02 true s 2).2 = true ∧
    (view02 (rmNode02 true s 2).1).edges = [(([1], [3]), (C02.one, []))] ∧
    (removeNode opsD true (view02 s) 2).edges = [(([1], [3]), (C02.one, mdOf C02.metaNone))] ∧
    (view02 (rmNode02 false s 2).1).edges = (removeNode opsD false (view02 s) 2).edges := noneMeta02_differs

/-- **C03, call by call.** -/
theorem C19_link_C03_calls (s : C03.Store) (h : C03.Inv s) (n : Node) (keep : Bool) (k : C03.Key) :
    let a := C03.abs s
    (((C03.Spec.removeNode a n keep).2 = .ok ↔ (removeNode? opsT keep (ofSpec03 a) n).isSome) ∧
     ((C03.Spec.removeNode a n keep).2 = .ok →
        ofSpec03 (C03.Spec.removeNode a n keep).1 = removeNode opsT keep (ofSpec03 a) n) ∧
     ((C03.Spec.removeNode a n keep).2 = .rej → (C03.Spec.removeNode a n keep).1 = a)) ∧
    (((C03.Spec.removeKey a k).2 = .ok ↔ (removeEdge? (ofSpec03 a) (keyT k)).isSome) ∧
     ((C03.Spec.removeKey a k).2 = .ok → ofSpec03 (C03.Spec.removeKey a k).1 = removeEdge (ofSpec03 a) (keyT k)) ∧
     ((C03.Spec.removeKey a k).2 = .rej → (C03.Spec.removeKey a k).1 = a)) := by
  intro a
  constructor
  · rw [removeNode?_isSome, nodes03_get, Option.isSome_map]
    exact verdict (removeNode03 a (dyn03_of_inv s h) n keep) nofun
  · rw [removeEdge?_isSome]
    exact verdict (removeKey03 a k) nofun

/-- **C04, call by call.** -/
theorem C19_link_C04_calls (s : C04.Store) (h : C04.Inv s) (n : Node) (keep : Bool) (raw : List Nat) (l : C04.Layer) :
    let a := C04.abs s
    (((C04.Spec.removeNode a n keep).2 = .ok ↔ (removeNode? opsT keep (ofSpec04 a) n).isSome) ∧
     ((C04.Spec.removeNode a n keep).2 = .ok →
        ofSpec04 (C04.Spec.removeNode a n keep).1 = removeNode opsT keep (ofSpec04 a) n) ∧
     ((C04.Spec.removeNode a n keep).2 = .rej → (C04.Spec.removeNode a n keep).1 = a)) ∧
    (((C04.Spec.removeEdge a raw l).2 = .ok ↔ (removeEdge? (ofSpec04 a) (keyM (C04.canon raw, l))).isSome) ∧
     ((C04.Spec.removeEdge a raw l).2 = .ok →
        ofSpec04 (C04.Spec.removeEdge a raw l).1 = removeEdge (ofSpec04 a) (keyM (C04.canon raw, l))) ∧
     ((C04.Spec.removeEdge a raw l).2 = .rej → (C04.Spec.removeEdge a raw l).1 = a)) := by
  intro a
  have hd := dyn04_of_inv s h
  constructor
  · rw [removeNode?_isSome, nodes04_get, Option.isSome_map]
    exact verdict (removeNode04 a hd n keep) nofun
  · rw [removeEdge?_isSome]
    exact verdict (removeEdge04 a raw l (keys_nodup_of_mapKV keyM recOf _ hd.wf.keysNodup)) nofun

/-- **`filter_hypergraph` on the objects of the four full models.**  `filterVia view rmNode rmEdge` is the run of public
calls the filter makes on an object (`remove_node(n, keep_edges)` for the nodes listed from the object's content, then
`remove_edge` for the hyperedges listed from the object left by the node phase; `rmNode0x` / `rmEdge0x` are the models'
`apply … (.removeNode ..)` / `(.removeEdge ..)` with their verdicts).  For every object satisfying the class invariant:
no call is rejected, the invariant holds afterwards, and the content of the resulting object is `filterHg` of the content
of the input (for a `DirectedHypergraph` object with `keep_edges=True`: provided no stored hyperedge metadata is the
bare value None, which `remove_node(keep_edges=True)` would reset to `{}` and the content model of C19 carries over;
C19's filters never read metadata of the hyperedges they re-insert; the side condition `NoNone` holds again
afterwards) - so `C19_filter`, `C19_filter_keep`, `C19_filter_keep_weight`, `C19_filter_returns` speak about the
objects of the full models (`C19_link_words_*` below spell that out). -/
theorem C19_link_filter (nc ec : Option Crit) (mode : Mode) (keep : Bool) :
    (∀ s, C01.Inv s →
      let r := filterVia view01 (rmNode01 keep) rmEdge01 s nc ec mode
      r.2 = true ∧ C01.Inv r.1 ∧ view01 r.1 = filterHg opsH (view01 s) nc ec mode keep) ∧
    (∀ s, Inv02 s → (keep = true → NoNone (view02 s)) →
      let r := filterVia view02 (rmNode02 keep) rmEdge02 s nc ec mode
      r.2 = true ∧ Inv02 r.1 ∧ view02 r.1 = filterHg opsD (view02 s) nc ec mode keep ∧
        (keep = true → NoNone (view02 r.1))) ∧
    (∀ s, C03.Inv s →
      let r := filterVia view03 (rmNode03 keep) rmEdge03 s nc ec mode
      r.2 = true ∧ C03.Inv r.1 ∧ view03 r.1 = filterHg opsT (view03 s) nc ec mode keep) ∧
    (∀ s, C04.Inv s →
      let r := filterVia view04 (rmNode04 keep) rmEdge04 s nc ec mode
      r.2 = true ∧ C04.Inv r.1 ∧ view04 r.1 = filterHg opsT (view04 s) nc ec mode keep) :=
  ⟨fun s h => filter01 s h nc ec mode keep, fun s h hnn => filter02 s h nc ec mode keep hnn,
   fun s h => filter03 s h nc ec mode keep, fun s h => filter04 s h nc ec mode keep⟩

/-- **`keep_edges=False` in the property's words**, for contents as `C19_link_filter` delivers them (the statement
itself mentions no store): `c` = content of the object before, `c'` = content of the object after the filter's calls
(any of the four models):
the nodes are exactly the nodes passing the node criteria, the hyperedges exactly those passing the hyperedge criteria and
containing no removed node, each with its weight and metadata. -/
theorem C19_link_words_drop (ops : KeyOps Key) (c c' : Content Key Int) (hwf : WF ops c) (nc ec : Option Crit)
    (mode : Mode) (hc' : c' = filterHg ops c nc ec mode false) :
    (∀ x, x ∈ c'.nodes ↔ x ∈ c.nodes ∧ critSel nc mode x.2 = false) ∧
    (∀ e, e ∈ c'.edges ↔ e ∈ c.edges ∧ critSel ec mode e.2.2 = false ∧
        ∀ n ∈ ops.nodesOf e.1, n ∉ removedNodes c nc mode) ∧
    WF ops c' := by
  have h := C19_filter ops c nc ec mode hwf.nodesNodup hwf.keysNodup
  rw [← hc'] at h
  exact ⟨h.1, h.2.1, hc' ▸ filterHg_wf ops false nofun c hwf nc ec mode⟩

/-- **`keep_edges=True` in the property's words**, for contents as `C19_link_filter` delivers them (`u` = the model's
unit weight, `C0x.one`; `Dyn` is what `dyn0x_of_inv` gives; of it only `WF` and the unit weights are used): nodes exact; hyperedges = the shrunk hyperedges (content `sN` after the node phase) passing the
hyperedge criteria; the keys of `sN` are the images of the input keys; weighted: every weight is the SUM of the weights of
the input hyperedges shrunk to that key; unweighted: every weight is still the unit weight. -/
theorem C19_link_words_keep (ops : KeyOps Key) (hlaw : Lawful ops) (u : Int) (Canon : Key → Prop) (c c' : Content Key Int)
    (hd : Dyn ops u Canon c) (nc ec : Option Crit) (mode : Mode) (hc' : c' = filterHg ops c nc ec mode true) :
    let R := removedNodes c nc mode
    let sN := nodePhase ops c nc mode true
    (∀ x, x ∈ c'.nodes ↔ x ∈ c.nodes ∧ critSel nc mode x.2 = false) ∧
    (∀ e, e ∈ c'.edges ↔ e ∈ sN.edges ∧ critSel ec mode e.2.2 = false) ∧
    WF ops c' ∧
    (∀ k2, k2 ∈ AL.keys sN.edges ↔ ∃ k ∈ AL.keys c.edges, shrinkAll ops R k = some k2) ∧
    (∀ e ∈ sN.edges, ∀ n ∈ R, n ∉ ops.nodesOf e.1) ∧
    (c.weighted = true → ∀ e2 ∈ sN.edges,
      e2.2.1 = ((c.edges.filter (fun e => decide (shrinkAll ops R e.1 = some e2.1))).map (·.2.1)).sum) ∧
    (c.weighted = false → ∀ e2 ∈ sN.edges, e2.2.1 = u) := by
  intro R sN
  have h := C19_filter_keep ops hlaw c hd.wf nc ec mode
  have hw := C19_filter_keep_weight ops hlaw c hd.wf nc mode
  rw [← hc'] at h
  refine ⟨h.1, h.2.1, h.2.2.1, h.2.2.2.2.1, h.2.2.2.2.2.1, hw.1, ?_⟩
  intro hwt e2 he2
  obtain ⟨e, he, _, hew⟩ := hw.2 hwt e2 he2
  rw [hew]
  exact hd.unitw hwt e he

/-- non-vacuity of the links: a weighted `Hypergraph` built by public calls of the C01 model (nodes 1 (type=1),
2 (type=2), 3; hyperedges (1,2,3):2, (1,3):1, (2):4 in quanta 8, 4, 16) -/
def C19.linkDemo : List C01.Cmd :=
  [.new 0 true [], .on 0 (.addNode 1 (some [(0, 1)])), .on 0 (.addNode 2 (some [(0, 2)])),
   .on 0 (.addEdge [3, 2, 1] (some 8) (some [(5, 1)])), .on 0 (.addEdge [1, 3] (some 4) none),
   .on 0 (.addEdge [2] (some 16) (some [(5, 2)]))]

example : ∀ c ∈ C19.linkDemo, c.WF := by
  intro c hc
  simp only [C19.linkDemo, List.mem_cons, List.not_mem_nil, or_false] at hc
  rcases hc with h | h | h | h | h | h <;> subst h <;> simp [C01.Cmd.WF, C01.Op.WF]

/-- on the object that history builds, the filter "keep type ∈ {1, missing}" with `keep_edges=True` runs without rejection on the
STORE and leaves (1,3) with weight 8+4 and the empty hyperedge -/
example :
    ∃ s, (C01.run (C01.init 1) C19.linkDemo)[0]? = some s ∧
      (view01 s).edges = [(([1, 2, 3], []), (8, [(5, some 1)])), (([1, 3], []), (4, [])), (([2], []), (16, [(5, some 2)]))] ∧
      removedNodes (view01 s) (some [(0, [some 1, none])]) .keep = [2] ∧
      (filterVia view01 (rmNode01 true) rmEdge01 s (some [(0, [some 1, none])]) none .keep).2 = true ∧
      (view01 (filterVia view01 (rmNode01 true) rmEdge01 s (some [(0, [some 1, none])]) none .keep).1).edges =
        [(([1, 3], []), (12, [(5, some 1)])), (([], []), (16, [(5, some 2)]))] ∧
      (view01 (filterVia view01 (rmNode01 true) rmEdge01 s (some [(0, [some 1, none])]) none .keep).1).nodes =
        [(1, [(0, some 1)]), (3, [])] :=
  ⟨_, rfl, by decide, by decide, by decide, by decide, by decide⟩

/-- a directed object: `remove_node(2, keep_edges=True)` on the store, read as content -/
example : (view02 (rmNode02 true (C02.run { weighted := true }
      [.addEdge (.ofLists [1, 2] [3]) (some 8) none, .addEdge (.ofLists [1] [2, 3]) (some 4) none]) 2).1).edges =
    [(([1], [3]), (12, []))] := by decide +kernel

/-- the hypotheses of the C02 link with `keep_edges=True` are satisfiable: that object has no bare-None hyperedge metadata -/
example : NoNone (view02 (C02.run { weighted := true }
      [.addEdge (.ofLists [1, 2] [3]) (some 8) none, .addEdge (.ofLists [1] [2, 3]) (some 4) none])) := by
  intro e he
  have : e.2.2 = [] := by
    revert e
    decide
  rw [this]; decide

/-- the same on a temporal object -/
example : (view03 (rmNode03 true (C03.applyOp (C03.applyOp (C03.Store.new true)
      (.addEdge [1, 2] (.int 5) (some 8) none)).1 (.addEdge [2] (.int 5) (some 4) none)).1 2).1).edges =
    [(([1], [5]), (8, []))] := by decide +kernel

/-- the same on a multiplex object -/
example : (view04 (rmNode04 true (C04.run (C04.init true)
      [.addEdge [1, 2] 7 (some 8) none, .addEdge [1] 7 (some 4) none, .addEdge [2] 3 (some 4) none]) 2).1).edges =
    [(([1], [7]), (12, []))] := by decide +kernel

/-! ## Part B: the step-up rule

`Proofs/C19Threshold.lean`.  `threshold` / `validated` are shared by `get_svh` (`sizeTable`) and `get_svc` (`coreTable`): the
statements about them hold for both. -/

/-- the threshold is the step-up value: with `p_(1) ≤ p_(2) ≤ ..` the sorted p-values and `k_i = i * bonf`, it is
`0` when no `p_(i) < k_i`, and `k_i` for the LAST `i` with `p_(i) < k_i` otherwise. -/
theorem C19_svh_threshold (ps : List Rat) (bonf : Rat) :
    let s := ps.mergeSort (fun a b => a ≤ b)
    s.Perm ps ∧ s.Pairwise (· ≤ ·) ∧
    ((∀ j (h : j < s.length), ¬ s[j] < ((j + 1 : Nat) : Rat) * bonf) → threshold ps bonf = 0) ∧
    (∀ j (h : j < s.length), s[j] < ((j + 1 : Nat) : Rat) * bonf →
      (∀ j' (h' : j' < s.length), j < j' → ¬ s[j'] < ((j' + 1 : Nat) : Rat) * bonf) →
      threshold ps bonf = ((j + 1 : Nat) : Rat) * bonf) := by
  intro s
  refine ⟨List.mergeSort_perm _ _, sorted_mergeSort ps, fun hno => ?_, fun j hj hhit hlast => ?_⟩
  · rcases threshold_cases ps bonf with ⟨heq, _⟩ | ⟨j, hj, hhit, _, _⟩
    · exact heq
    · exact absurd hhit (hno j hj)
  · rcases threshold_cases ps bonf with ⟨_, hno⟩ | ⟨j0, hj0, hhit0, hlast0, heq⟩
    · exact absurd hhit (hno j hj)
    · rcases Nat.lt_trichotomy j j0 with h | h | h
      · exact absurd hhit0 (hlast j0 hj0 h)
      · rw [h]; exact heq
      · exact absurd hhit (hlast0 j hj h)

/-- step-up, not step-down: with `bonf ≥ 0` (i.e. `alpha ≥ 0`), if the `(j+1)`-th smallest p-value is below its line
`(j+1)·bonf`, then the threshold is at least that line and ALL of the `j+1` smallest p-values are validated - also those
that are not below their own line. (`C19_svh_threshold` says which line the threshold is; this is the consequence that
distinguishes the rule from a scan that stops at the first failure.) -/
theorem C19_svh_step_up (ps : List Rat) (bonf : Rat) (hb : 0 ≤ bonf) :
    let s := ps.mergeSort (fun a b => a ≤ b)
    ∀ j (h : j < s.length), s[j] < ((j + 1 : Nat) : Rat) * bonf →
      ((j + 1 : Nat) : Rat) * bonf ≤ threshold ps bonf ∧
      ∀ i (hi : i ≤ j), validated ps bonf (s[i]'(by omega)) = true := by
  intro s j hj hhit
  have hthr := threshold_ge_hit ps bonf hb j hj hhit
  refine ⟨hthr, fun i hi => ?_⟩
  have hle : s[i]'(by omega) ≤ s[j] := by
    rcases Nat.lt_or_eq_of_le hi with hlt | heq
    · exact (List.pairwise_iff_getElem.mp (sorted_mergeSort ps)) i j (Nat.lt_trans hlt hj) hj hlt
    · subst heq; exact le_refl _
  exact decide_eq_true (lt_of_le_of_lt hle (lt_of_lt_of_le hhit hthr))

/-- the inequality of the rule is STRICT: if from rank `i+1` on (0-based position `i`) every sorted p-value lies ON or
above its line `(j+1)·bonf` - equality included -, then the threshold is at most the line `i·bonf` of the rank before,
and none of those p-values is validated. With `i = 0`: when no p-value is strictly below its line, the threshold is 0
and nothing is validated, however many p-values sit exactly on their lines (a rule reading `p ≤ line` would take such
a rank for the threshold and validate every smaller p-value: seeded change C19-d2). Hypothesis `bonf ≥ 0` = `alpha ≥ 0`. -/
theorem C19_svh_on_the_line (ps : List Rat) (bonf : Rat) (hb : 0 ≤ bonf) :
    let s := ps.mergeSort (fun a b => a ≤ b)
    ∀ i, (∀ j (hj : j < s.length), i ≤ j → ((j + 1 : Nat) : Rat) * bonf ≤ s[j]) →
      threshold ps bonf ≤ ((i : Nat) : Rat) * bonf ∧
      ∀ j (hj : j < s.length), i ≤ j → validated ps bonf s[j] = false := by
  intro s i hon
  have hthr : threshold ps bonf ≤ ((i : Nat) : Rat) * bonf :=
    threshold_le ps bonf _ (mul_nonneg (Nat.cast_nonneg _) hb) (fun j hj hhit =>
      line_mono hb (Nat.succ_le_of_lt (Nat.lt_of_not_le fun hij => absurd hhit (not_lt.mpr (hon j hj hij)))))
  refine ⟨hthr, fun j hj hij => decide_eq_false (not_lt.mpr ?_)⟩
  exact le_trans hthr (le_trans (line_mono hb (Nat.le_succ_of_le hij)) (hon j hj hij))

/-- the FDR step-up procedure returns exactly the set given by the largest rank below its line: for `bonf > 0` let `k`
be the number of validated p-values. Then the threshold is `k * bonf`; a p-value is validated iff it is below `k * bonf`;
`k` is 0 or the `k`-th smallest p-value is below its line `k * bonf`; and every rank `j+1` whose p-value is below its
line `(j+1) * bonf` is at most `k` (so `k` is the LARGEST such rank, 0 when there is none). -/
theorem C19_fdr_rank (ps : List Rat) (bonf : Rat) (hb : 0 < bonf) :
    let s := ps.mergeSort (fun a b => a ≤ b)
    let k := (ps.filter (fun p => validated ps bonf p)).length
    threshold ps bonf = (k : Rat) * bonf ∧ k ≤ s.length ∧
    (∀ p, validated ps bonf p = true ↔ p < (k : Rat) * bonf) ∧
    (∀ _ : 0 < k, ∃ h' : k - 1 < s.length, s[k - 1] < (k : Rat) * bonf) ∧
    (∀ j (h : j < s.length), s[j] < ((j + 1 : Nat) : Rat) * bonf → j + 1 ≤ k) := by
  intro s k
  obtain ⟨h1, h2, h3, h4⟩ := threshold_rank ps bonf (le_of_lt hb)
  refine ⟨h1, h2, fun p => ?_, h3, h4⟩
  simp only [validated, decide_eq_true_eq]
  rw [h1]

/-- monotone in the level: with `0 ≤ bonf ≤ bonf'` the threshold does not fall and every validated p-value stays
validated -/
theorem C19_fdr_monotone (ps : List Rat) (bonf bonf' : Rat) (hb : 0 ≤ bonf) (hbb : bonf ≤ bonf') :
    threshold ps bonf ≤ threshold ps bonf' ∧
    ∀ p, validated ps bonf p = true → validated ps bonf' p = true := by
  have h := threshold_mono ps bonf bonf' hb hbb
  refine ⟨h, fun p hp => ?_⟩
  simp only [validated, decide_eq_true_eq] at hp ⊢
  exact lt_of_lt_of_le hp h

/-- Bonferroni ⊆ FDR ⊆ "below the last line": with `bonf ≥ 0`, a p-value of the table below the Bonferroni line `bonf`
is validated by the step-up rule, and a validated p-value is below `m * bonf`, `m` the number of tests of the table -/
theorem C19_bonferroni_sub_fdr (ps : List Rat) (bonf : Rat) (hb : 0 ≤ bonf) (p : Rat) (hp : p ∈ ps) :
    (p < bonf → validated ps bonf p = true) ∧
    (validated ps bonf p = true → p < (ps.length : Rat) * bonf) := by
  simp only [validated, decide_eq_true_eq]
  exact ⟨fun h => lt_of_lt_of_le h (threshold_ge_bonf ps bonf hb p hp h),
    fun h => lt_of_lt_of_le h (threshold_le_all ps bonf hb)⟩

/-- step-up: sorted p-values 1/1000 < 1/100, 1/300 < 2/100, 1/2 ≥ 3/100: threshold 2/100 -/
theorem C19.threshold_demo : threshold [1/1000, 1/2, 1/300] (1/100) = 1/50 := by
  rw [threshold_of_sorted _ [1/1000, 1/300, 1/2] _ (by decide +kernel) (by decide +kernel)]; decide +kernel

example : threshold [1/1000, 1/2, 1/300] (1/100) = 1/50 := C19.threshold_demo

example : validated [1/1000, 1/2, 1/300] (1/100) (1/300) = true ∧
    validated [1/1000, 1/2, 1/300] (1/100) (1/2) = false := by
  unfold validated
  rw [C19.threshold_demo]; decide +kernel

/-- no hit: threshold 0, nothing validated -/
example : threshold [1/2, 1/3] (1/100) = 0 := by
  rw [threshold_of_sorted _ [1/3, 1/2] _ (by decide +kernel) (by decide +kernel)]; decide +kernel

/-- positions 1 and 2 are not below their lines (3/100 ≥ 1/80, 3/100 ≥ 2/80) but position 3 is (3/100 < 3/80):
the threshold is 3/80 and all three tied rows are validated (a step-down scan would stop at position 1) -/
example : threshold [3/100, 3/100, 3/100] (1/80) = 3/80 ∧ validated [3/100, 3/100, 3/100] (1/80) (3/100) = true := by
  unfold validated
  rw [threshold_of_sorted _ [3/100, 3/100, 3/100] _ (by decide +kernel) (by decide +kernel)]; decide +kernel

/-- p_(1) = 1/50 ≥ 1/60 but p_(2) = 1/40 < 2/60: both validated -/
example : threshold [1/40, 1/50] (1/60) = 1/30 ∧ validated [1/40, 1/50] (1/60) (1/50) = true := by
  unfold validated
  rw [threshold_of_sorted _ [1/50, 1/40] _ (by decide +kernel) (by decide +kernel)]; decide +kernel

/-- ON the line: p_(2) = 1/20 = 2·(1/40) exactly and p_(1) = 3/100 ≥ 1/40: no rank is strictly below its line, the
threshold is 0 and 3/100 is NOT validated (with `p ≤ line` the threshold would be 1/20 and 3/100 validated) -/
example : threshold [1/20, 3/100] (1/40) = 0 ∧ validated [1/20, 3/100] (1/40) (3/100) = false := by
  unfold validated
  rw [threshold_of_sorted _ [3/100, 1/20] _ (by decide +kernel) (by decide +kernel)]; decide +kernel

/-- the hypothesis of `C19_svh_on_the_line` with `i = 0` holds for that table (second rank with equality) -/
example : (3/100 : Rat) ∈ [1/20, 3/100] ∧ ((0 + 1 : Nat) : Rat) * (1/40) ≤ 3/100 ∧ ((1 + 1 : Nat) : Rat) * (1/40) ≤ 1/20 ∧
    ((1 + 1 : Nat) : Rat) * (1/40) = 1/20 := by decide +kernel

/-- rank 1 strictly below (1/100 < 1/40), rank 2 on its line (1/20 = 2/40): the threshold stays the first line -/
example : threshold [1/20, 1/100] (1/40) = 1/40 ∧ validated [1/20, 1/100] (1/40) (1/100) = true ∧
    validated [1/20, 1/100] (1/40) (1/20) = false := by
  unfold validated
  rw [threshold_of_sorted _ [1/100, 1/20] _ (by decide +kernel) (by decide +kernel)]; decide +kernel

/-- sorted 1/1000, 1/300, 1/2 with bonf 1/100: two validated, threshold 2/100 = k * bonf, third rank not below 3/100 -/
example : ([(1:Rat)/1000, 1/2, 1/300].filter (fun p => validated [1/1000, 1/2, 1/300] (1/100) p)).length = 2 ∧
    threshold [(1:Rat)/1000, 1/2, 1/300] (1/100) = ((2 : Nat) : Rat) * (1/100) := by
  unfold validated
  rw [C19.threshold_demo]; decide +kernel

/-- a strict gain from a larger level: 1/50 is not validated with bonf 1/100 but with bonf 1/40 -/
example : validated [(1:Rat)/50, 1/2] (1/100) (1/50) = false ∧ validated [(1:Rat)/50, 1/2] (1/40) (1/50) = true := by
  unfold validated
  have hs := fun b => threshold_of_sorted [(1:Rat)/50, 1/2] [1/50, 1/2] b (by decide +kernel) (by decide +kernel)
  rw [hs, hs]; decide +kernel

/-- FDR is strictly larger than Bonferroni: 1/50 ≥ bonf = 1/60 is validated (rank 2 is below 2/60) -/
example : ¬ ((1:Rat)/50 < 1/60) ∧ validated [(1:Rat)/40, 1/50] (1/60) (1/50) = true ∧
    (1:Rat)/50 < (([(1:Rat)/40, 1/50].length : Nat) : Rat) * (1/60) := by
  unfold validated
  rw [threshold_of_sorted _ [1/50, 1/40] _ (by decide +kernel) (by decide +kernel)]; decide +kernel

/-! ## Part B: the exact binomial tail and the p-value of a row

`Proofs/C19BinomialTail.lean`. -/

/-- the p-value: with the exact survival function in place of `scipy.stats.binom.sf`, the p-value of a row of
weight `w ≥ 1` is `P(X ≥ w) = Σ_{j=w}^{N} C(N,j) p^j (1-p)^(N-j)` with `p = Π_i K_i / N`. -/
theorem C19_svh_pvalue (w N : Nat) (ks : List Nat) (hw : 1 ≤ w) :
    pvalueWith sfExact w N ks =
      ∑ j ∈ Finset.Ico w (N + 1), (N.choose j : ℚ) * ((ks.map (fun (k : Nat) => (k : ℚ) / (N : ℚ))).prod) ^ j *
        (1 - (ks.map (fun (k : Nat) => (k : ℚ) / (N : ℚ))).prod) ^ (N - j) := by
  unfold pvalueWith sfExact
  rw [Nat.sub_add_cancel hw, tail_eq_sum, prodRatio_eq]

/-- sanity of the exact tail: the whole law has mass one -/
theorem C19_svh_tail_total (N : Nat) (p : ℚ) : tail 0 N p = 1 := tail_zero N p

/-- a p-value is never 0: for a weight `1 ≤ w ≤ N` and degrees `0 < K_i ≤ N` (the parameters of a row of `get_svh` are
such numbers - `K_i ≥ w`, `N ≥ K_i`, all three count occurrences -, which is not a theorem here) the exact binomial tail is at least
`(prod_i K_i/N) ^ N > 0` and at most 1. (A hyperedge reported with p-value 0 is below every line and is validated
whatever alpha is: seeded change C19-d1 returned 0.0 for `prod K_i/N < 1e-16`.) -/
theorem C19_svh_pvalue_pos (w N : Nat) (ks : List Nat) (hw : 1 ≤ w) (hwN : w ≤ N) (hk : ∀ k ∈ ks, 0 < k ∧ k ≤ N) :
    ((ks.map (fun (k : Nat) => (k : ℚ) / (N : ℚ))).prod) ^ N ≤ pvalueWith sfExact w N ks ∧
    0 < pvalueWith sfExact w N ks ∧ pvalueWith sfExact w N ks ≤ 1 := by
  obtain ⟨hp0, hp1⟩ := ratios_prod_bounds ks N hk
  unfold pvalueWith sfExact
  rw [Nat.sub_add_cancel hw, prodRatio_eq]
  exact tail_bounds w N _ hwN hp0 hp1

/-- survival-function identities of the exact binomial tail `tail w N p = P(X ≥ w)`, `sfExact k = P(X > k)`:
recurrence, nothing above `N`, `P(X ≥ N) = p^N`, `P(X ≥ 1) = 1 - (1-p)^N`, complement of the distribution function -/
theorem C19_sf_identities (N : Nat) (p : ℚ) :
    (∀ w, w ≤ N → tail w N p = pmf N p w + tail (w + 1) N p) ∧
    (∀ w, N < w → tail w N p = 0) ∧
    tail N N p = p ^ N ∧
    tail 1 N p = 1 - (1 - p) ^ N ∧
    (∀ k, k ≤ N → sfExact k N p = 1 - ∑ j ∈ Finset.range (k + 1), pmf N p j) ∧
    (∀ j, pmf N p j = (N.choose j : ℚ) * p ^ j * (1 - p) ^ (N - j)) :=
  ⟨fun w hw => tail_step w N p hw, fun w hw => tail_above w N p hw, tail_top N p, tail_one N p,
    fun k hk => sf_compl k N p hk, pmf_eq N p⟩

/-- reflection of the binomial tail (successes with probability `p` are failures with probability `1 - p`):
`P(X ≥ w | N, p) = 1 - P(X ≥ N + 1 - w | N, 1 - p)` for `w ≤ N + 1` - the identity by which the harness's 150-digit
oracle sums the short side of the law -/
theorem C19_sf_reflection (w N : Nat) (p : ℚ) (hw : w ≤ N + 1) : tail w N p = 1 - tail (N + 1 - w) N (1 - p) :=
  tail_reflect w N p hw

/-- the p-value of a row falls when the weight grows (same `N`, same degrees `0 < K_i ≤ N`), and a hyperedge seen
once has the closed form `1 - (1 - prod K_i/N)^N` -/
theorem C19_pvalue_weight (N : Nat) (ks : List Nat) (hk : ∀ k ∈ ks, 0 < k ∧ k ≤ N) :
    (∀ w w', 1 ≤ w → w ≤ w' → pvalueWith sfExact w' N ks ≤ pvalueWith sfExact w N ks) ∧
    pvalueWith sfExact 1 N ks = 1 - (1 - (ks.map (fun (k : Nat) => (k : ℚ) / (N : ℚ))).prod) ^ N := by
  obtain ⟨hp0, hp1⟩ := ratios_prod_bounds ks N hk
  constructor
  · intro w w' hw hww
    unfold pvalueWith sfExact
    rw [Nat.sub_add_cancel hw, Nat.sub_add_cancel (Nat.le_trans hw hww), prodRatio_eq]
    exact tail_antitone w w' N _ (le_of_lt hp0) hp1 hww
  · unfold pvalueWith sfExact
    rw [prodRatio_eq]
    exact tail_one N _

/-- symmetry in the nodes: the parameters and the p-value of a hyperedge do not depend on the order in which its
nodes are listed - the co-occurrence count is the same, the degrees are the same up to order, and the p-value of a
tuple of degrees is invariant under every permutation (any `sf`) -/
theorem C19_pvalue_symmetric (sf : Nat → Nat → Rat → Rat) (sub : List (List Nat)) (e e' : List Nat) (hp : e.Perm e')
    (w N : Nat) :
    n12 sub e = n12 sub e' ∧ (e.map (degK sub)).Perm (e'.map (degK sub)) ∧
    (∀ ks ks' : List Nat, ks.Perm ks' → pvalueWith sf w N ks = pvalueWith sf w N ks') ∧
    pvalueWith sf w N (e.map (degK sub)) = pvalueWith sf w N (e'.map (degK sub)) := by
  have hpv : ∀ ks ks' : List Nat, ks.Perm ks' → pvalueWith sf w N ks = pvalueWith sf w N ks' := by
    intro ks ks' h
    unfold pvalueWith
    rw [prodRatio_eq, prodRatio_eq, (h.map _).prod_eq]
  refine ⟨?_, hp.map _, hpv, hpv _ _ (hp.map _)⟩
  unfold n12
  congr 2
  funext b
  rw [Bool.eq_iff_iff]
  simp only [List.all_eq_true]
  exact ⟨fun h i hi => h i (hp.mem_iff.mpr hi), fun h i hi => h i (hp.mem_iff.mp hi)⟩

/-- p-value of (1,2): N = 4, K = (3, 4), weight 3: P(Bin(4, 3/4) ≥ 3) = 189/256 -/
example : pvalueWith sfExact 3 4 [3, 4] = 189/256 := by decide +kernel

/-- ten nodes of degree 1 among 50 hyperedges seen once: the p-value is the tiny positive number
1 - (1 - 50^-10)^50, not 0 -/
example : 0 < pvalueWith sfExact 1 50 [1, 1, 1, 1, 1, 1, 1, 1, 1, 1] ∧
    ((1 : ℚ) / 50) ^ 10 ≤ pvalueWith sfExact 1 50 [1, 1, 1, 1, 1, 1, 1, 1, 1, 1] :=
  ⟨(C19_svh_pvalue_pos 1 50 _ (by decide +kernel) (by decide +kernel) (by decide +kernel)).2.1, by decide +kernel⟩

/-- identities on Bin(4, 3/4): P(X ≥ 4) = 81/256, P(X ≥ 1) = 255/256, sf(2) = P(X ≥ 3) = 189/256 -/
example : tail 4 4 (3/4) = (3/4 : ℚ) ^ 4 ∧ tail 1 4 (3/4) = 1 - (1 - 3/4 : ℚ) ^ 4 ∧ sfExact 2 4 (3/4) = 189/256 :=
  ⟨(C19_sf_identities 4 (3/4)).2.2.1, (C19_sf_identities 4 (3/4)).2.2.2.1, by decide +kernel⟩

example : tail 3 4 (3/4) = 1 - tail 2 4 (1/4) ∧ tail 3 4 (3/4) = 189/256 :=
  ⟨(C19_sf_reflection 3 4 (3/4) (by decide +kernel)).trans (by decide +kernel), by decide +kernel⟩

/-- hypotheses of `C19_pvalue_weight` / `C19_pvalue_symmetric` on a concrete row -/
example : (∀ k ∈ [3, 4], 0 < k ∧ k ≤ 4) ∧ [3, 4].Perm [4, 3] ∧ [1, 2].Perm [2, 1] := by
  refine ⟨by decide +kernel, by decide +kernel, by decide +kernel⟩

example : pvalueWith sfExact 2 4 [3, 4] ≠ pvalueWith sfExact 3 4 [3, 4] := by decide +kernel

/-! ## Part B: the tables of `get_svh`

`Proofs/C19Occurrences.lean`, `Proofs/C19TestCount.lean`. -/

/-- parameters of the null model: for a hyperedge `e` of weight `w`, `n12(e) = w`; `N_n` is the total weight of
the size-`n` hyperedges; `K_i` the total weight of the size-`n` hyperedges containing `i`. -/
theorem C19_svh_params (edges : List (List Nat × Nat)) (hnd : (edges.map (·.1)).Nodup)
    (hsorted : ∀ f ∈ edges, f.1.Pairwise (· < ·)) :
    (∀ e w, (e, w) ∈ edges → n12 (subOcc (expand edges) e.length) e = w) ∧
    (∀ n, (subOcc (expand edges) n).length =
        ((edges.filter (fun f => decide (f.1.length = n))).map (·.2)).sum) ∧
    (∀ n i, degK (subOcc (expand edges) n) i =
        ((edges.filter (fun f => f.1.contains i && decide (f.1.length = n))).map (·.2)).sum) :=
  ⟨fun e w he => n12_eq_weight edges hnd hsorted e w he, subOcc_length edges, degK_eq edges⟩

/-- the rows of the table of size `n` carry exactly these parameters -/
theorem C19_svh_rows (sf : Nat → Nat → Rat → Rat) (occ : List (List Nat)) (n : Nat) :
    ∀ r ∈ rowsOf sf occ n, r.w = n12 (subOcc occ n) r.edge ∧ r.N = (subOcc occ n).length ∧
      r.ks = r.edge.map (degK (subOcc occ n)) ∧ r.p = sf (r.w - 1) r.N (prodRatio r.ks r.N) := by
  intro r hr
  simp only [rowsOf, List.mem_map] at hr
  obtain ⟨e, _, rfl⟩ := hr
  exact ⟨rfl, rfl, rfl, rfl⟩

/-- every hyperedge of positive weight and of size within `[2, bound]` is reported exactly once, under its size:
there is exactly one table per occurring size (and none for other sizes), the rows of a table are distinct and are
exactly the hyperedges of that size. -/
theorem C19_svh_once (sf : Nat → Nat → Rat → Rat) (alpha : Rat) (edges : List (List Nat × Nat)) (bound : Nat) :
    let tables := svh sf alpha edges bound
    (tables.map (·.size)).Nodup ∧
    (∀ n, n ∈ tables.map (·.size) ↔ (2 ≤ n ∧ n ≤ bound) ∧ ∃ e w, (e, w) ∈ edges ∧ 0 < w ∧ e.length = n) ∧
    (∀ t ∈ tables, ((t.rows.map (·.1.edge)).Nodup ∧
        ∀ e, e ∈ t.rows.map (·.1.edge) ↔ (∃ w, (e, w) ∈ edges ∧ 0 < w) ∧ e.length = t.size)) := by
  intro tables
  have hsizes : tables.map (·.size) = sizesOf (expand edges) bound := svh_sizes sf alpha edges bound
  refine ⟨hsizes ▸ sizesOf_nodup _ _, fun n => ?_, fun t ht => ?_⟩
  · rw [hsizes, mem_sizesOf]
    constructor
    · rintro ⟨h, o, ho, hl⟩
      obtain ⟨w, hw, hpos⟩ := (mem_expand edges o).mp ho
      exact ⟨h, o, w, hw, hpos, hl⟩
    · rintro ⟨h, e, w, hw, hpos, hl⟩
      exact ⟨h, e, (mem_expand edges e).mpr ⟨w, hw, hpos⟩, hl⟩
  · obtain ⟨n, _, rfl⟩ := List.mem_map.mp ht
    rw [sizeTable_edges]
    refine ⟨tuplesOf_nodup _ _, fun e => ?_⟩
    rw [mem_tuplesOf, mem_expand]
    rfl

/-- the table of one size: the threshold is the step-up threshold of the table's own p-values with
`bonf = alpha / C(n_a, n)`, and a row is validated iff its p-value is strictly below it. -/
theorem C19_svh_flags (sf : Nat → Nat → Rat → Rat) (alpha : Rat) (occ : List (List Nat)) (n : Nat) :
    let t := sizeTable sf alpha occ n
    t.bonf = alpha / ((numNodes occ n).choose n : ℚ) ∧
    t.thr = threshold (t.rows.map (·.1.p)) t.bonf ∧
    ∀ r ∈ t.rows, (r.2 = true ↔ r.1.p < t.thr) := by
  intro t
  refine ⟨by simp [t, sizeTable, bonfOf, choose_eq], ?_, ?_⟩
  · simp only [t, sizeTable, List.map_map]
    congr 1
  · intro r hr
    simp only [t, sizeTable, List.mem_map] at hr
    obtain ⟨r0, _, rfl⟩ := hr
    simp [t, sizeTable, validated]

/-- the validated set is a lower set of the p-values: a hyperedge is never validated while another one of the same
size with a smaller (or equal) p-value is not. -/
theorem C19_svh_lower_set (sf : Nat → Nat → Rat → Rat) (alpha : Rat) (occ : List (List Nat)) (n : Nat) :
    ∀ r1 ∈ (sizeTable sf alpha occ n).rows, ∀ r2 ∈ (sizeTable sf alpha occ n).rows,
      r1.1.p ≤ r2.1.p → r2.2 = true → r1.2 = true := by
  intro r1 h1 r2 h2 hle hv
  have hf := (C19_svh_flags sf alpha occ n).2.2
  exact (hf r1 h1).mpr (lt_of_le_of_lt hle ((hf r2 h2).mp hv))

/-- `get_svh` is monotone in `alpha`: the table of a size has the same rows for every `alpha`, and a hyperedge
validated at level `alpha ≥ 0` is validated at every level `alpha' ≥ alpha` -/
theorem C19_svh_alpha_monotone (sf : Nat → Nat → Rat → Rat) (alpha alpha' : Rat) (h0 : 0 ≤ alpha) (hle : alpha ≤ alpha')
    (occ : List (List Nat)) (n : Nat) :
    (sizeTable sf alpha occ n).rows.map (·.1) = (sizeTable sf alpha' occ n).rows.map (·.1) ∧
    ∀ r, (r, true) ∈ (sizeTable sf alpha occ n).rows → (r, true) ∈ (sizeTable sf alpha' occ n).rows := by
  have hC : (0 : ℚ) ≤ (choose (numNodes occ n) n : ℚ) := by exact_mod_cast Nat.zero_le _
  have hb : 0 ≤ bonfOf alpha occ n := div_nonneg h0 hC
  have hbb : bonfOf alpha occ n ≤ bonfOf alpha' occ n := div_le_div_of_nonneg_right hle hC
  refine ⟨by simp [sizeTable, List.map_map, Function.comp_def], fun r hr => ?_⟩
  simp only [sizeTable, List.mem_map, Prod.mk.injEq] at hr ⊢
  obtain ⟨r0, hr0, rfl, hv⟩ := hr
  exact ⟨r0, hr0, rfl, (C19_fdr_monotone _ _ _ hb hbb).2 _ hv⟩

/-- `get_svh`: the number of tests of a size never exceeds the number `C(n_a, n)` of possible hyperedges the
Bonferroni unit divides by; hence (for `alpha ≥ 0`) a validated hyperedge has a p-value below `alpha` itself.
Hypothesis: occurrences are strictly increasing tuples (`Hypergraph.add_edge` sorts, nodes distinct). -/
theorem C19_svh_validated_below_alpha (sf : Nat → Nat → Rat → Rat) (alpha : Rat) (h0 : 0 ≤ alpha)
    (occ : List (List Nat)) (hs : ∀ b ∈ occ, b.Pairwise (· < ·)) (n : Nat) :
    (sizeTable sf alpha occ n).rows.length ≤ (numNodes occ n).choose n ∧
    ∀ r ∈ (sizeTable sf alpha occ n).rows, r.2 = true → r.1.p < alpha := by
  have hlen := svh_rows_le_choose sf occ hs n
  refine ⟨by simpa [sizeTable] using hlen, ?_⟩
  intro r hr hv
  simp only [sizeTable, List.mem_map] at hr
  obtain ⟨r0, hr0, rfl⟩ := hr
  simp only [bonfOf, choose_eq] at hv
  exact validated_lt_alpha _ alpha _ h0 (by simpa using hlen) r0.p (List.mem_map.mpr ⟨r0, hr0, rfl⟩) hv

/-! #### non-vacuity of part B: hyperedges (1,2):3, (2,3):1, (1,2,3):2, (7):5 -/

def C19.exampleEdges : List (List Nat × Nat) := [([1, 2], 3), ([2, 3], 1), ([1, 2, 3], 2), ([7], 5)]

example : (C19.exampleEdges.map (·.1)).Nodup ∧ ∀ f ∈ C19.exampleEdges, f.1.Pairwise (· < ·) := by decide +kernel

example : n12 (subOcc (expand C19.exampleEdges) 2) [1, 2] = 3 ∧ (subOcc (expand C19.exampleEdges) 2).length = 4 ∧
    degK (subOcc (expand C19.exampleEdges) 2) 2 = 4 ∧ degK (subOcc (expand C19.exampleEdges) 2) 1 = 3 := by decide +kernel

example : tuplesOf (expand C19.exampleEdges) 2 = [[1, 2], [2, 3]] := by decide +kernel

/-- sizes 2 and 3 are reported, size 1 (the hyperedge (7)) and size 4 are not -/
example : let sizes := (svh sfExact (1/100) C19.exampleEdges 5).map (·.size)
    2 ∈ sizes ∧ 3 ∈ sizes ∧ 1 ∉ sizes ∧ 4 ∉ sizes := by
  intro sizes
  have h := (C19_svh_once sfExact (1/100) C19.exampleEdges 5).2.1
  refine ⟨(h 2).mpr ⟨by decide +kernel, [1, 2], 3, by decide +kernel⟩, (h 3).mpr ⟨by decide +kernel, [1, 2, 3], 2, by decide +kernel⟩, ?_, ?_⟩
  · intro h1; exact absurd ((h 1).mp h1).1.1 (by decide +kernel)
  · intro h4
    obtain ⟨_, e, w, he, _, hl⟩ := (h 4).mp h4
    have : ∀ f ∈ C19.exampleEdges, f.1.length ≠ 4 := by decide +kernel
    exact this (e, w) he hl

/-- with bound 2 the size-3 hyperedge is not reported -/
example : 3 ∉ (svh sfExact (1/100) C19.exampleEdges 2).map (·.size) := by
  intro h3
  exact absurd ((C19_svh_once sfExact (1/100) C19.exampleEdges 2).2.1 3 |>.mp h3).1.2 (by decide +kernel)

/-! ## Part B: `get_svc` (statistically validated cores)

`Proofs/C19C.lean`, `Proofs/C19TestCount.lean`, model `Model/C19C.lean`. -/

/-- which orders `get_svc` reports: the call raises exactly when the hypergraph has no hyperedge occurrence or the range
of orders is empty; otherwise one frame per order from `min(max_order, longest)` (`longest` when `max_order` is `None`
or 0) DOWN to `min_order`, in that order -/
theorem C19_svc_orders (sf : Nat → Nat → Rat → Rat) (alpha : Rat) (edges : List (List Nat × Nat)) (lo : Nat)
    (hi : Option Nat) :
    (svc sf alpha edges lo hi = none ↔
      expand edges = [] ∨ ∃ m, maxLen (expand edges) = some m ∧ effMax hi m < lo) ∧
    ∀ ts, svc sf alpha edges lo hi = some ts →
      ∃ m, maxLen (expand edges) = some m ∧ (∃ b ∈ expand edges, b.length = m) ∧
        (∀ b ∈ expand edges, b.length ≤ m) ∧ lo ≤ effMax hi m ∧
        ts.map (·.order) = ordersDesc lo (effMax hi m) ∧ ts.length = effMax hi m + 1 - lo ∧
        ∀ i (h : i < ts.length), ts[i].order = effMax hi m - i := by
  constructor
  · constructor
    · intro hnone
      cases hml : maxLen (expand edges) with
      | none => exact Or.inl ((maxLen_spec _).1.mp hml)
      | some m =>
        refine Or.inr ⟨m, rfl, Nat.lt_of_not_le fun hlo => ?_⟩
        rw [(svc_eq_some sf alpha edges lo hi _).mpr ⟨m, hml, hlo, rfl⟩] at hnone
        cases hnone
    · intro h
      cases hs : svc sf alpha edges lo hi with
      | none => rfl
      | some ts =>
        obtain ⟨m, hm, hlo, _⟩ := (svc_eq_some sf alpha edges lo hi ts).mp hs
        rcases h with h | ⟨m', hm', hlt⟩
        · rw [(maxLen_spec _).1.mpr h] at hm; cases hm
        · rw [hm] at hm'; cases hm'; exact absurd hlo (Nat.not_le_of_lt hlt)
  · intro ts hts
    obtain ⟨m, hml, hlo, rfl⟩ := (svc_eq_some sf alpha edges lo hi ts).mp hts
    obtain ⟨hex, hall⟩ := (maxLen_spec _).2 m hml
    refine ⟨m, hml, hex, hall, hlo, coreLoop_orders .., by rw [coreLoop_length, ordersDesc_length], fun i h => ?_⟩
    rw [coreLoop_order]
    exact ordersDesc_getElem lo (effMax hi m) i _

/-- one frame of `get_svc` (loop body on the occurrences `occ` with `sg` = the groups validated so far): the tested
groups are listed once each and are exactly the `order`-sublists of the occurrences that are not a sublist of a group
in `sg`; each row carries `w` = number of (occurrence, combination) pairs equal to the group, `N` = number of all
occurrences, `K_i` = `deg_a[i]`, `p = sf(w - 1; N, prod K_i / N)`; the Bonferroni unit is `alpha / C(na, order)` with
`na` the number of all nodes; the threshold is the step-up threshold of the frame's own p-values; a group is validated
iff its p-value is strictly below it -/
theorem C19_svc_rows (sf : Nat → Nat → Rat → Rat) (alpha : Rat) (occ sg : List (List Nat)) (k : Nat) :
    let t := coreTable sf alpha occ sg k
    (t.rows.map (·.1.edge)).Nodup ∧
    (∀ g, g ∈ t.rows.map (·.1.edge) ↔ g.length = k ∧ (∃ b ∈ occ, g.Sublist b) ∧ ¬ ∃ v ∈ sg, g.Sublist v) ∧
    (∀ r ∈ t.rows, r.1.w = countOf occ k r.1.edge ∧ r.1.N = occ.length ∧ r.1.ks = r.1.edge.map (degAll occ) ∧
      r.1.p = sf (r.1.w - 1) r.1.N (prodRatio r.1.ks r.1.N)) ∧
    t.order = k ∧ t.N = occ.length ∧ t.na = nodesAll occ ∧
    t.bonf = alpha / ((nodesAll occ).choose k : ℚ) ∧
    t.thr = threshold (t.rows.map (·.1.p)) t.bonf ∧
    (∀ r ∈ t.rows, (r.2 = true ↔ r.1.p < t.thr)) ∧
    (∀ g, g ∈ validGroups t ↔ ∃ r ∈ t.rows, r.1.edge = g ∧ r.1.p < t.thr) := by
  intro t
  have hflag : ∀ r ∈ t.rows, (r.2 = true ↔ r.1.p < t.thr) := by
    intro r hr
    simp only [t, coreTable, List.mem_map] at hr
    obtain ⟨r0, _, rfl⟩ := hr
    simp [t, coreTable, validated]
  refine ⟨?_, ?_, ?_, rfl, rfl, rfl, by simp [t, coreTable, choose_eq], ?_, hflag, ?_⟩
  · rw [coreTable_edges]; exact groupsOf_nodup occ sg k
  · intro g; rw [coreTable_edges]; exact mem_groupsOf occ sg k g
  · intro r hr
    simp only [t, coreTable, coreRows, List.mem_map] at hr
    obtain ⟨r0, ⟨g, _, rfl⟩, rfl⟩ := hr
    exact ⟨rfl, rfl, rfl, rfl⟩
  · simp only [t, coreTable, List.map_map]
    congr 1
  · intro g
    simp only [validGroups, List.mem_map, List.mem_filter]
    constructor
    · rintro ⟨r, ⟨hr, hv⟩, rfl⟩; exact ⟨r, hr, rfl, (hflag r hr).mp hv⟩
    · rintro ⟨r, hr, rfl, hlt⟩; exact ⟨r, ⟨hr, (hflag r hr).mpr hlt⟩, rfl⟩

/-- the parameters in terms of the weighted hyperedge list (repetition-free tuples): the count of a group is the total
weight of the hyperedges it is a sublist of (for strictly increasing tuples: that contain it), `deg_a[i]` the total
weight of the hyperedges containing `i` (ALL sizes - unlike `get_svh`), `N` the total weight -/
theorem C19_svc_params (edges : List (List Nat × Nat)) (h : ∀ f ∈ edges, f.1.Nodup) :
    (∀ k g, g.length = k →
      countOf (expand edges) k g = ((edges.filter (fun f => g.isSublist f.1)).map (·.2)).sum) ∧
    (∀ i, degAll (expand edges) i = ((edges.filter (fun f => f.1.contains i)).map (·.2)).sum) ∧
    (expand edges).length = (edges.map (·.2)).sum :=
  ⟨fun k g hg => countOf_weight edges h k g hg, degAll_weight edges h, expand_length edges⟩

/-- the loop: the frame at position `i` of the result is the loop body run with `sg` = all groups validated in the
frames before it (the higher orders), on the same occurrences -/
theorem C19_svc_loop (sf : Nat → Nat → Rat → Rat) (alpha : Rat) (edges : List (List Nat × Nat)) (lo : Nat)
    (hi : Option Nat) (ts : List CoreTable) (hts : svc sf alpha edges lo hi = some ts) :
    ∀ i (h : i < ts.length),
      ts[i] = coreTable sf alpha (expand edges) ((ts.take i).flatMap validGroups) ts[i].order := by
  intro i h
  obtain ⟨m, _, _, rfl⟩ := (svc_eq_some sf alpha edges lo hi ts).mp hts
  rw [coreLoop_order]
  exact coreLoop_getElem sf alpha (expand edges) (ordersDesc lo (effMax hi m)) [] i
    (coreLoop_length sf alpha (expand edges) _ [] ▸ h)

/-- validated cores are maximal: a group tested at a lower order (a later frame) is never a sublist of a group validated
at a higher order (an earlier frame) - in particular no validated group is contained in another validated group; and
nothing else is left out: every `order`-sublist of an occurrence that is in no earlier validated group is a row -/
theorem C19_svc_cores (sf : Nat → Nat → Rat → Rat) (alpha : Rat) (edges : List (List Nat × Nat)) (lo : Nat)
    (hi : Option Nat) (ts : List CoreTable) (hts : svc sf alpha edges lo hi = some ts) :
    ∀ j (hj : j < ts.length),
      (∀ i (hij : i < j), ∀ v ∈ validGroups (ts[i]'(by omega)), ∀ r ∈ ts[j].rows, ¬ r.1.edge.Sublist v) ∧
      (∀ g, g.length = ts[j].order → (∃ b ∈ expand edges, g.Sublist b) →
        (∀ i (hij : i < j), ∀ v ∈ validGroups (ts[i]'(by omega)), ¬ g.Sublist v) →
        g ∈ ts[j].rows.map (·.1.edge)) := by
  intro j hj
  have hloop := C19_svc_loop sf alpha edges lo hi ts hts j hj
  have hrows := (C19_svc_rows sf alpha (expand edges) ((ts.take j).flatMap validGroups) ts[j].order).2.1
  have hin : ∀ i (hij : i < j), ∀ v ∈ validGroups (ts[i]'(by omega)), v ∈ (ts.take j).flatMap validGroups := by
    intro i hij v hv
    refine List.mem_flatMap.mpr ⟨ts[i]'(by omega), ?_, hv⟩
    rw [List.mem_take_iff_getElem]
    exact ⟨i, by omega, rfl⟩
  constructor
  · intro i hij v hv r hr hsub
    have hmem : r.1.edge ∈ ts[j].rows.map (·.1.edge) := List.mem_map.mpr ⟨r, hr, rfl⟩
    rw [hloop] at hmem
    exact ((hrows r.1.edge).mp hmem).2.2 ⟨v, hin i hij v hv, hsub⟩
  · intro g hlen hocc hfree
    rw [hloop]
    refine (hrows g).mpr ⟨hlen, hocc, ?_⟩
    rintro ⟨v, hv, hsub⟩
    obtain ⟨t, ht, hvt⟩ := List.mem_flatMap.mp hv
    obtain ⟨i, hi', rfl⟩ := List.mem_take_iff_getElem.mp ht
    exact hfree i (by omega) v hvt hsub

/-- the validated cores form an antichain: two groups validated in different frames of one `get_svc` result are never
contained one in the other (the later one has the smaller order and was tested only because it is in no earlier core) -/
theorem C19_svc_antichain (sf : Nat → Nat → Rat → Rat) (alpha : Rat) (edges : List (List Nat × Nat)) (lo : Nat)
    (hi : Option Nat) (ts : List CoreTable) (hts : svc sf alpha edges lo hi = some ts) :
    ∀ i j (hij : i < j) (hj : j < ts.length), ∀ v ∈ validGroups (ts[i]'(by omega)), ∀ u ∈ validGroups ts[j],
      v.length = ts[i].order ∧ u.length = ts[j].order ∧ u.length < v.length ∧ ¬ u.Sublist v ∧ ¬ v.Sublist u := by
  intro i j hij hj v hv u hu
  have hi' : i < ts.length := Nat.lt_trans hij hj
  obtain ⟨m, _, _, _, _, _, hlen, hord⟩ := (C19_svc_orders sf alpha edges lo hi).2 ts hts
  have hlenOf : ∀ a (ha : a < ts.length), ∀ g ∈ validGroups ts[a], g.length = ts[a].order := by
    intro a ha g hg
    rw [C19_svc_loop sf alpha edges lo hi ts hts a ha] at hg
    exact validGroups_length _ _ _ _ _ g hg
  have hv' := hlenOf i hi' v hv
  have hu' := hlenOf j hj u hu
  have hlt : u.length < v.length := by
    rw [hv', hu', hord i hi', hord j hj]
    have hjE : j ≤ effMax hi m := Nat.le_of_lt_succ (Nat.lt_of_lt_of_le (hlen ▸ hj) (Nat.sub_le _ _))
    exact Nat.sub_lt_sub_left (Nat.lt_of_lt_of_le hij hjE) hij
  refine ⟨hv', hu', hlt, ?_, fun h => absurd h.length_le (Nat.not_le_of_lt hlt)⟩
  obtain ⟨r, hr, rfl⟩ := List.mem_map.mp (validGroups_sub ts[j] u hu)
  exact (C19_svc_cores sf alpha edges lo hi ts hts j hj).1 i hij v hv r hr

/-- tie between the two routines: on strictly increasing tuples the count `w` of `get_svc` is the co-occurrence count
`n12` of `get_svh`, taken over the occurrences of ALL sizes (sublist = subset for sorted tuples) -/
theorem C19_svc_count_is_cooccurrence (occ : List (List Nat)) (hs : ∀ b ∈ occ, b.Pairwise (· < ·)) (g : List Nat)
    (hg : g.Pairwise (· < ·)) :
    countOf occ g.length g = n12 occ g ∧
    (∀ b ∈ occ, (g.Sublist b ↔ ∀ i ∈ g, i ∈ b)) :=
  ⟨countOf_eq_n12 occ hs g hg,
    fun b hb => ⟨fun h i hi => h.subset hi, NatSort.sublist_of_strict_subset hg (hs b hb)⟩⟩

/-- `get_svc`, as `C19_svh_validated_below_alpha` for `get_svh`: a frame tests at most `C(na, order)` groups, hence (for
`alpha ≥ 0`) a validated core has `p < alpha`; occurrences are strictly increasing tuples -/
theorem C19_svc_validated_below_alpha (sf : Nat → Nat → Rat → Rat) (alpha : Rat) (h0 : 0 ≤ alpha)
    (occ sg : List (List Nat)) (hs : ∀ b ∈ occ, b.Pairwise (· < ·)) (k : Nat) :
    (coreTable sf alpha occ sg k).rows.length ≤ (nodesAll occ).choose k ∧
    ∀ r ∈ (coreTable sf alpha occ sg k).rows, r.2 = true → r.1.p < alpha := by
  have hlen := svc_rows_le_choose sf occ sg hs k
  refine ⟨by simpa [coreTable] using hlen, ?_⟩
  intro r hr hv
  simp only [coreTable, List.mem_map] at hr
  obtain ⟨r0, hr0, rfl⟩ := hr
  simp only [choose_eq] at hv
  exact validated_lt_alpha _ alpha _ h0 (by simpa using hlen) r0.p (List.mem_map.mpr ⟨r0, hr0, rfl⟩) hv

/-- the size of the validated set IS the step-up rank, in both routines: with a positive Bonferroni unit the number of
validated rows of a `get_svh` table / a `get_svc` frame times the unit equals the table's threshold -/
theorem C19_validated_count (sf : Nat → Nat → Rat → Rat) (alpha : Rat) (occ sg : List (List Nat)) (n : Nat) :
    (0 < (sizeTable sf alpha occ n).bonf →
      (((sizeTable sf alpha occ n).rows.filter (·.2)).length : Rat) * (sizeTable sf alpha occ n).bonf =
        (sizeTable sf alpha occ n).thr) ∧
    (0 < (coreTable sf alpha occ sg n).bonf →
      (((coreTable sf alpha occ sg n).rows.filter (·.2)).length : Rat) * (coreTable sf alpha occ sg n).bonf =
        (coreTable sf alpha occ sg n).thr) := by
  constructor
  · intro hb
    simp only [sizeTable] at hb ⊢
    rw [flagged_count _ _ _ rfl]
    exact ((C19_fdr_rank _ _ hb).1).symm
  · intro hb
    simp only [coreTable] at hb ⊢
    rw [flagged_count _ _ _ rfl]
    exact ((C19_fdr_rank _ _ hb).1).symm

/-- hyperedges (1,2,3):5, (1,2):3, (2,3,4):1, (4,5):1, (5,6,7,8):2 (a worked example of `get_svc`) -/
def C19.svcEdges : List (List Nat × Nat) := [([1, 2, 3], 5), ([1, 2], 3), ([2, 3, 4], 1), ([4, 5], 1), ([5, 6, 7, 8], 2)]

example : (∀ f ∈ C19.svcEdges, f.1.Nodup) ∧ maxLen (expand C19.svcEdges) = some 4 ∧
    effMax none 4 = 4 ∧ effMax (some 0) 4 = 4 ∧ effMax (some 3) 4 = 3 ∧ effMax (some 9) 4 = 4 ∧
    ordersDesc 2 4 = [4, 3, 2] ∧ ordersDesc 3 2 = [] := by decide +kernel

/-- counts and degrees: (1,2) is in 5 + 3 occurrences, node 2 in 9, N = 12; groups of order 2 with (5,6,7,8) validated -/
example : countOf (expand C19.svcEdges) 2 [1, 2] = 8 ∧ degAll (expand C19.svcEdges) 2 = 9 ∧
    (expand C19.svcEdges).length = 12 ∧ nodesAll (expand C19.svcEdges) = 8 ∧
    groupsOf (expand C19.svcEdges) [[5, 6, 7, 8]] 2 = [[1, 2], [1, 3], [2, 3], [2, 4], [3, 4], [4, 5]] ∧
    groupsOf (expand C19.svcEdges) [] 4 = [[5, 6, 7, 8]] ∧
    combos 2 [5, 6, 7] = [[5, 6], [5, 7], [6, 7]] := by decide +kernel

/-- the call raises on an empty hypergraph and on an empty range of orders, and returns otherwise -/
example : svc sfExact (1/100) [] 2 none = none ∧ svc sfExact (1/100) C19.svcEdges 5 none = none ∧
    (svc sfExact (1/100) C19.svcEdges 2 none).isSome = true := by
  refine ⟨rfl, ?_, ?_⟩
  · have := (C19_svc_orders sfExact (1/100) C19.svcEdges 5 none).1.mpr (Or.inr ⟨4, by decide +kernel, by decide +kernel⟩)
    exact this
  · cases h : svc sfExact (1/100) C19.svcEdges 2 none with
    | some ts => rfl
    | none =>
      rcases (C19_svc_orders sfExact (1/100) C19.svcEdges 2 none).1.mp h with h1 | ⟨m, hm, hlt⟩
      · exact absurd h1 (by decide +kernel)
      · have : m = 4 := by
          have h4 : maxLen (expand C19.svcEdges) = some 4 := by decide +kernel
          rw [h4] at hm; exact (Option.some.inj hm).symm
        subst this
        exact absurd hlt (by decide +kernel)

/-- the worked example: (1,2) is a sublist of 5 + 3 occurrences = its co-occurrence count over all sizes -/
example : (∀ b ∈ expand C19.svcEdges, b.Pairwise (· < ·)) ∧ n12 (expand C19.svcEdges) [1, 2] = 8 ∧
    countOf (expand C19.svcEdges) 2 [1, 2] = 8 := by decide +kernel

/-- order 3 of the example: 6 tested groups, at most C(8, 3) = 56 possible -/
example : (groupsOf (expand C19.svcEdges) [] 3).length = 6 ∧ (nodesAll (expand C19.svcEdges)).choose 3 = 56 := by decide +kernel

/-- the hypothesis of `C19_validated_count` holds for the example tables: `bonf = (1/100) / C(3, 2)` resp. `/ C(8, 2)` -/
example : 0 < (sizeTable sfExact (1/100) (expand C19.exampleEdges) 2).bonf ∧
    0 < (coreTable sfExact (1/100) (expand C19.svcEdges) [[5, 6, 7, 8]] 2).bonf := by decide +kernel
