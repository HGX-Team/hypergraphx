import Hgxv.Model.C18
import Hgxv.Proofs.C18RW
import Hgxv.Proofs.C18Cont
import Hgxv.Proofs.C18Conn
import Hgxv.Proofs.C18Hist
import Hgxv.Proofs.C18Ext
import Hgxv.Proofs.C18ContRun
import Mathlib.Tactic.NormNum

/-! # C18 — random walks are stochastic and stationary; contagion exact when deterministic

Property theorems about the model `Hgxv/Model/C18.lean`.

Hypotheses used throughout (exactly what the routines / the property's quantifier guarantee):
* `Valid es N`: every hyperedge has distinct members, all `< N` (`Hypergraph.get_edges()` on nodes `0..N-1`);
* `connectedB es N = true`: the assertion `HG.is_connected()` of `transition_matrix` passed;
* `2 ≤ N`: the one-node hypergraph is connected but has the all-`nan` matrix `[[0/0]]`; excluded;
* `UnitDraws f`: every `np.random.random()` result lies in `[0, 1)`; `nodes.Nodup`: `get_nodes()` lists dict keys. -/

open C18

/-! ## non-vacuity: the hypotheses hold on concrete non-trivial inputs and the theorems apply (the `example`s that close
each group); here the inputs -/

/-- triangle + edge, non-regular: `d = (4, 4, 5, 1)` -/
private def exE : List Edge := [[0, 1, 2], [2, 3]]
private theorem exValid : Valid exE 4 := by unfold Valid exE; decide
private theorem exConn : connectedB exE 4 = true := by decide
/-- a pair, a second pair and a triangle: `0 – 1`, `1 – 2`, `{0, 2, 3}` -/
private def exC : List Edge := [[0, 1], [1, 2], [0, 2, 3]]
private def exNodes : List Nat := [2, 0, 3, 1]
private theorem exNodup : exNodes.Nodup := by decide
private def exI0 : Nat → Bool := fun v => v == 0
private def exF : Nat → Rat := fun n => if n % 2 = 0 then 1 / 2 else 7 / 8
private theorem exUnit : UnitDraws exF := by
  intro n; unfold exF; split <;> norm_num
/-- a pair and an isolated node `2`; `[1]` is a hyperedge with one member -/
private def exI : List Edge := [[0, 1], [1]]
private theorem exIValid : Valid exI 3 := by unfold Valid exI; decide
private theorem exNI : ∀ i, i < 4 → ∃ e ∈ exE, i ∈ e ∧ 2 ≤ e.length := by decide

/-! ## connectivity and the rows of `T` -/

/-- the executable test behind the hypothesis `connectedB es N = true` (the model of the assertion
`HG.is_connected()`) holds exactly when every node is joined to node `0` by a chain of nodes sharing hyperedges -/
theorem C18_connected_iff (es : List Edge) (N : Nat) (hN : 0 < N) : connectedB es N = true ↔ Connected es N := by
  constructor
  · intro hc v hv
    exact connected_induct es N hc hN (Reach es N) Reach.zero
      (fun a b _ hb ha hs => Reach.step a b ha hb hs) v hv
  · intro h
    unfold connectedB
    rw [List.all_eq_true]
    intro v hv
    rw [List.contains_iff_mem]
    exact reach_mem es N hN v (h v (List.mem_range.mp hv))

/-- `T.sum(axis=1)[i] = Σ_{e ∋ i} (|e| − 1)²` -/
theorem C18_rowsum (es : List Edge) (N : Nat) (hv : Valid es N) (i : Nat) :
    rowSum es N i = deg2 es i :=
  rowSum_eq_deg2 es N hv i

/-- connected with at least two nodes: no row of `T` is zero, so `T / T.sum(axis=1)` has no `nan` -/
theorem C18_rows_positive (es : List Edge) (N : Nat) (hv : Valid es N) (hc : connectedB es N = true) (hN : 2 ≤ N)
    (i : Nat) (hi : i < N) : 0 < rowSum es N i :=
  rowSum_pos es N hv hc hN i hi

/-! "Node `i` is not isolated" is written out: `∃ e ∈ es, i ∈ e ∧ 2 ≤ e.length`. -/

/-- a row of `T` is zero (so `T / T.sum(axis=1)` is `0/0 = nan` in that row) exactly for a node that lies in no
hyperedge with at least two members -/
theorem C18_zero_row_iff (es : List Edge) (N : Nat) (hv : Valid es N) (i : Nat) :
    rowSum es N i = 0 ↔ ¬ ∃ e ∈ es, i ∈ e ∧ 2 ≤ e.length := by
  rw [← rowSum_pos_iff es N hv i, Nat.pos_iff_ne_zero, not_not]

/-- WITH an isolated node (`N ≥ 2`): the connectivity assertion fails, so `transition_matrix`, `RW_stationary_state` and
`random_walk_density` raise instead of dividing `0/0` -/
theorem C18_isolated_node (es : List Edge) (N : Nat) (hv : Valid es N) (hN : 2 ≤ N) (i : Nat) (hi : i < N)
    (hiso : ¬ ∃ e ∈ es, i ∈ e ∧ 2 ≤ e.length) :
    connectedB es N = false ∧ transitionMatrix es N = none ∧ stationary es N = none
    ∧ ∀ s t, randomWalkDensity es N s t = none := by
  have hc : connectedB es N = false := by
    cases hcb : connectedB es N with
    | false => rfl
    | true =>
      have := rowSum_pos es N hv hcb hN i hi
      have hz := (C18_zero_row_iff es N hv i).mpr hiso
      omega
  refine ⟨hc, by simp [transitionMatrix, hc], by simp [stationary, hc], fun s t => ?_⟩
  unfold randomWalkDensity; simp [hc]

/-- the one case where a zero row passes the assertion: a single node is "connected" and its `1 × 1` matrix is `0/0` -/
theorem C18_single_node (es : List Edge) (hv : Valid es 1) :
    connectedB es 1 = true ∧ rowSum es 1 0 = 0 ∧ rowsPositive es 1 = false := by
  have hz : rowSum es 1 0 = 0 := by
    simp [rowSum, List.range_succ, tEntry_diag es 1 hv 0]
  refine ⟨by simp [connectedB, growN, grow, List.range_succ], hz, ?_⟩
  simp [rowsPositive, List.range_succ, hz]

example : Connected exE 4 := (C18_connected_iff exE 4 (by decide)).mp exConn
example : ¬ Connected [[0, 1], [2, 3]] 4 := by rw [← C18_connected_iff _ 4 (by decide)]; decide
example : rowSum exE 4 2 = 5 := by rw [C18_rowsum exE 4 exValid]; decide
example : 0 < rowSum exE 4 3 := C18_rows_positive exE 4 exValid exConn (by decide) 3 (by decide)
example : rowSum exI 3 2 = 0 := (C18_zero_row_iff exI 3 exIValid 2).mpr (by decide)
example : transitionMatrix exI 3 = none := (C18_isolated_node exI 3 exIValid (by decide) 2 (by decide) (by decide)).2.1
example : rowsPositive [] 1 = false := (C18_single_node [] (by intro e he; cases he)).2.2

/-! ## the transition matrix -/

/-- entry `(i, j)` is the sum over the hyperedges containing both `i` and `j` of `(size − 1)`, divided by the
row total `Σ_{e ∋ i} (size − 1)²`; the diagonal is `0` -/
theorem C18_entry (es : List Edge) (N : Nat) (hv : Valid es N) (i j : Nat) :
    kEntry es N i j = (if i = j then 0 else (shared es i j : Rat)) / (deg2 es i : Rat) := by
  unfold kEntry
  rw [rowSum_eq_deg2 es N hv i]
  by_cases h : i = j
  · subst h; simp [tEntry_diag es N hv i]
  · simp [h, tEntry_eq_shared es N hv i j h]

/-- what `transition_matrix` returns is the table of `kEntry` -/
theorem C18_matrix_entries (es : List Edge) (N : Nat) (K : List (List Rat)) (h : transitionMatrix es N = some K)
    (i j : Nat) (hi : i < N) (hj : j < N) : (K[i]?.bind (·[j]?)) = some (kEntry es N i j) := by
  unfold transitionMatrix at h
  split at h
  · cases h; simp [hi, hj]
  · cases h

theorem C18_row_stochastic (es : List Edge) (N : Nat) (hv : Valid es N) (hc : connectedB es N = true) (hN : 2 ≤ N)
    (i : Nat) (hi : i < N) :
    sumTo N (kEntry es N i) = 1 ∧ ∀ j, 0 ≤ kEntry es N i j :=
  ⟨kRow_sum es N i (rowSum_pos es N hv hc hN i hi), kEntry_nonneg es N i⟩

/-- row-stochasticity is a fact about every non-isolated node of EVERY hypergraph (connected or not): the row sums
to one and its entries lie in `[0, 1]` -/
theorem C18_row_stochastic_general (es : List Edge) (N : Nat) (hv : Valid es N) (i : Nat)
    (h : ∃ e ∈ es, i ∈ e ∧ 2 ≤ e.length) :
    sumTo N (kEntry es N i) = 1 ∧ ∀ j, j < N → 0 ≤ kEntry es N i j ∧ kEntry es N i j ≤ 1 :=
  ⟨kRow_sum es N i ((rowSum_pos_iff es N hv i).mpr h), fun j hj => ⟨kEntry_nonneg es N i j, kEntry_le_one es N i j hj⟩⟩

/-- `K[i][j] > 0` exactly when `i ≠ j` lie in a common hyperedge -/
theorem C18_walk_support (es : List Edge) (N : Nat) (hv : Valid es N) (hc : connectedB es N = true) (hN : 2 ≤ N)
    (i j : Nat) (hi : i < N) :
    0 < kEntry es N i j ↔ i ≠ j ∧ ∃ e ∈ es, i ∈ e ∧ j ∈ e :=
  ⟨kEntry_pos_imp es N hv i j, fun h => kEntry_pos es N hv i j (rowSum_pos es N hv hc hN i hi) h.1 h.2⟩

/-- `K ** t`: `K⁰ = I`, `K^(t+1) = K @ K^t` entrywise; every power is row-stochastic with non-negative entries -/
theorem C18_power_stochastic (es : List Edge) (N : Nat) (hv : Valid es N)
    (hni : ∀ i, i < N → ∃ e ∈ es, i ∈ e ∧ 2 ≤ e.length) (t i : Nat) (hi : i < N) :
    sumTo N (kPow es N t i) = 1
    ∧ (∀ j, j < N → 0 ≤ kPow es N t i j)
    ∧ (∀ j, j < N → kPow es N 0 i j = if i = j then 1 else 0)
    ∧ (∀ j, j < N → kPow es N (t + 1) i j = sumTo N (fun k => kEntry es N i k * kPow es N t k j)) :=
  ⟨kPow_row_sum es N (fun i hi => (rowSum_pos_iff es N hv i).mpr (hni i hi)) t i hi,
    fun j hj => kPow_nonneg es N t i j hi hj, fun j hj => kPow_zero es N i j hi hj,
    fun j hj => kPow_succ es N t i j hi hj⟩

private theorem exK23 : kEntry exE 4 2 3 = 1 / 5 := by
  have h1 : shared exE 2 3 = 1 := by decide
  have h2 : deg2 exE 2 = 5 := by decide
  rw [C18_entry exE 4 exValid, h1, h2]; norm_num
example : kEntry exE 4 2 3 = 1 / 5 := exK23
example : ∃ K, transitionMatrix exE 4 = some K := by simp [transitionMatrix, exConn]
example : sumTo 4 (kEntry exE 4 2) = 1 := (C18_row_stochastic exE 4 exValid exConn (by decide) 2 (by decide)).1
example : sumTo 3 (kEntry exI 3 1) = 1 :=
  (C18_row_stochastic_general exI 3 exIValid 1 ⟨[0, 1], by decide, by decide, by decide⟩).1
example : 0 < kEntry exE 4 2 3 :=
  (C18_walk_support exE 4 exValid exConn (by decide) 2 3 (by decide)).mpr ⟨by decide, [2, 3], by decide, by decide, by decide⟩
example : ¬ 0 < kEntry exE 4 0 3 := by
  rw [C18_walk_support exE 4 exValid exConn (by decide) 0 3 (by decide)]; decide
example : sumTo 4 (kPow exE 4 3 2) = 1 := (C18_power_stochastic exE 4 exValid exNI 3 2 (by decide)).1

/-! ## the stationary state and the two linear systems -/

/-- `π = d / Σ d` (with `d_i = Σ_{e ∋ i} (size − 1)²`) is a probability vector fixed by `K` -/
theorem C18_stationary (es : List Edge) (N : Nat) (hv : Valid es N) (hc : connectedB es N = true) (hN : 2 ≤ N) :
    (∀ j, sumTo N (fun i => piEntry es N i * kEntry es N i j) = piEntry es N j)
    ∧ sumTo N (piEntry es N) = 1
    ∧ (∀ i, 0 ≤ piEntry es N i)
    ∧ (∀ i, piEntry es N i = (deg2 es i : Rat) / sumTo N (fun k => (deg2 es k : Rat))) := by
  have hr : ∀ i, i < N → 0 < rowSum es N i := fun i hi => rowSum_pos es N hv hc hN i hi
  refine ⟨pi_fixed es N hr, pi_sum es N (by omega) hr, pi_nonneg es N, fun i => ?_⟩
  unfold piEntry; simp only [rowSum_eq_deg2 es N hv]

/-- detailed balance `π_i K[i][j] = π_j K[j][i]` (the walk is reversible; `T` is symmetric) -/
theorem C18_detailed_balance (es : List Edge) (N : Nat) (hv : Valid es N) (hc : connectedB es N = true) (hN : 2 ≤ N)
    (i j : Nat) (hi : i < N) (hj : j < N) :
    piEntry es N i * kEntry es N i j = piEntry es N j * kEntry es N j i ∧ tEntry es i j = tEntry es j i :=
  ⟨detailed_balance es N i j (rowSum_pos es N hv hc hN i hi) (rowSum_pos es N hv hc hN j hj), tEntry_symm es i j⟩

/-- D31, proof side: the system `(I − Kᵀ) x = 𝟙` solved by the unrepaired `RW_stationary_state` has no solution,
for any row-stochastic `K` whatsoever (add up the equations: `0 = N`) -/
theorem C18_solve_is_inconsistent (K : Nat → Nat → Rat) (N : Nat) (hN : 0 < N)
    (hK : ∀ i, i < N → sumTo N (K i) = 1) : ¬ ∃ x, SolvesOriginal K N x := by
  rintro ⟨x, hx⟩
  exact original_inconsistent K N hN hK x hx

/-- in particular for the transition matrix of every connected hypergraph -/
theorem C18_solve_is_inconsistent_for_K (es : List Edge) (N : Nat) (hv : Valid es N) (hc : connectedB es N = true)
    (hN : 2 ≤ N) : ¬ ∃ x, SolvesOriginal (kEntry es N) N x :=
  C18_solve_is_inconsistent _ N (by omega) (fun i hi => (C18_row_stochastic es N hv hc hN i hi).1)

/-- the repaired system (last equation of `(I − Kᵀ) x = 0` replaced by `Σ x = 1`) is solved by `π` -/
theorem C18_pi_solves_repaired (es : List Edge) (N : Nat) (hv : Valid es N) (hc : connectedB es N = true) (hN : 2 ≤ N) :
    SolvesRepaired (kEntry es N) N (piEntry es N) :=
  have h := C18_stationary es N hv hc hN
  (solvesRepaired_iff _ N _).mpr ⟨fun i _ => h.1 i, h.2.1⟩

/-- ... and by nothing else: under connectivity every solution of the repaired system equals `π = d / Σ d`
(maximum principle for `x_i / d_i` along shared hyperedges), so the system is non-singular and the routine's
result is determined -/
theorem C18_repaired_solution_is_pi (es : List Edge) (N : Nat) (hv : Valid es N) (hc : connectedB es N = true)
    (hN : 2 ≤ N) (x : Nat → Rat) (hx : SolvesRepaired (kEntry es N) N x) :
    ∀ i, i < N → x i = piEntry es N i :=
  solution_unique es N hv hc hN x hx.1 hx.2

/-- every vector with `x K = x` and `Σ x = 1` is `π = d / Σ d`: the stationary state is unique -/
theorem C18_stationary_unique (es : List Edge) (N : Nat) (hv : Valid es N) (hc : connectedB es N = true) (hN : 2 ≤ N)
    (x : Nat → Rat) (hfix : ∀ j, j < N → sumTo N (fun i => x i * kEntry es N i j) = x j) (hsum : sumTo N x = 1) :
    ∀ i, i < N → x i = piEntry es N i :=
  C18_repaired_solution_is_pi es N hv hc hN x ((solvesRepaired_iff _ N x).mpr ⟨fun i hi => hfix i (by omega), hsum⟩)

example : sumTo 4 (piEntry exE 4) = 1 := (C18_stationary exE 4 exValid exConn (by decide)).2.1
example : piEntry exE 4 2 * kEntry exE 4 2 3 = piEntry exE 4 3 * kEntry exE 4 3 2 :=
  (C18_detailed_balance exE 4 exValid exConn (by decide) 2 3 (by decide) (by decide)).1
example : ¬ ∃ x, SolvesOriginal (fun _ _ => (1 / 2 : Rat)) 2 x :=
  C18_solve_is_inconsistent _ 2 (by decide) (fun _ _ => by decide +kernel)
example : ¬ ∃ x, SolvesOriginal (kEntry exE 4) 4 x := C18_solve_is_inconsistent_for_K exE 4 exValid exConn (by decide)
example : SolvesRepaired (kEntry exE 4) 4 (piEntry exE 4) := C18_pi_solves_repaired exE 4 exValid exConn (by decide)
example (x : Nat → Rat) (hx : SolvesRepaired (kEntry exE 4) 4 x) : x 3 = piEntry exE 4 3 :=
  C18_repaired_solution_is_pi exE 4 exValid exConn (by decide) x hx 3 (by decide)
example (x : Nat → Rat) (h1 : ∀ j, j < 4 → sumTo 4 (fun i => x i * kEntry exE 4 i j) = x j) (h2 : sumTo 4 x = 1) :
    x 2 = piEntry exE 4 2 := C18_stationary_unique exE 4 exValid exConn (by decide) x h1 h2 2 (by decide)

/-! ## densities -/

/-- `random_walk_density`: the list starts with `s`, every later vector is the previous one times `K`
(entry `j` is `Σ_i s_i K[i][j]`), and every vector has length `N` and sums to one -/
theorem C18_density (es : List Edge) (N : Nat) (hv : Valid es N) (hc : connectedB es N = true) (hN : 2 ≤ N)
    (time : Nat) (s : List Rat) (hlen : s.length = N) (hsum : s.sum = 1) :
    (densityList es N time s).head? = some s
    ∧ (densityList es N time s).length = time + 1
    ∧ Adj (fun a b => b = densityNext es N a) (densityList es N time s)
    ∧ (∀ w ∈ densityList es N time s, w.length = N ∧ w.sum = 1)
    ∧ (∀ (w : List Rat) (j : Nat), j < N →
        (densityNext es N w)[j]? = some (sumTo N (fun i => vecOf w i * kEntry es N i j))) := by
  refine ⟨by cases time <;> rfl, densityList_length es N time s, densityList_adj es N time s, fun w hw => ?_,
    densityNext_getElem? es N⟩
  obtain ⟨h1, h2⟩ := densityList_mass es N (fun i hi => rowSum_pos es N hv hc hN i hi) time s hlen w hw
  exact ⟨h1, h2.trans hsum⟩

/-- `s @ K` has the total of `s` for EVERY vector `s` (signed, any total), on every hypergraph without isolated nodes -/
theorem C18_density_mass_signed (es : List Edge) (N : Nat) (hv : Valid es N)
    (hni : ∀ i, i < N → ∃ e ∈ es, i ∈ e ∧ 2 ≤ e.length) (v : List Rat) (hl : v.length = N) :
    (densityNext es N v).length = N ∧ (densityNext es N v).sum = v.sum :=
  ⟨densityNext_length es N v, densityNext_sum es N (fun i hi => (rowSum_pos_iff es N hv i).mpr (hni i hi)) v hl⟩

/-- `s ↦ s @ K` is linear: `(a v + b w) @ K = a (v @ K) + b (w @ K)` -/
theorem C18_density_linear (es : List Edge) (N : Nat) (a b : Rat) (v w : List Rat) (hl : v.length = w.length) :
    densityNext es N (List.zipWith (fun x y => a * x + b * y) v w)
      = List.zipWith (fun x y => a * x + b * y) (densityNext es N v) (densityNext es N w) := by
  apply List.ext_getElem
  · simp [densityNext]
  · intro j h1 h2
    simp only [densityNext, List.getElem_map, List.getElem_range, List.getElem_zipWith]
    rw [← densityStep_linear]
    congr 1
    funext i
    exact vecOf_zipWith a b v w hl i

/-- a non-negative vector stays non-negative -/
theorem C18_density_nonneg (es : List Edge) (N : Nat) (v : List Rat) (hv : ∀ x ∈ v, 0 ≤ x) :
    ∀ y ∈ densityNext es N v, 0 ≤ y := by
  intro y hy
  obtain ⟨j, _, rfl⟩ := List.mem_map.mp hy
  rw [densityStep, sumTo_eq]
  exact Finset.sum_nonneg (fun i _ => mul_nonneg (vecOf_nonneg v hv i) (kEntry_nonneg es N i j))

/-- the `k`-th vector returned by `random_walk_density` is the start times `K ** k` (no hypothesis on the hypergraph
or on the signs / total of `s`: an algebraic identity of the loop) -/
theorem C18_density_power (es : List Edge) (N t : Nat) (s : List Rat) (hl : s.length = N) (k : Nat) (hk : k ≤ t) :
    (densityList es N t s)[k]? = some (densityAt es N k s)
    ∧ ∀ j, j < N → (densityAt es N k s)[j]? = some (sumTo N (fun i => vecOf s i * kPow es N k i j)) := by
  refine ⟨densityList_getElem es N t s hl k hk, fun j hj => ?_⟩
  simp [densityAt_eq, hj]

/-- started in the stationary state the density never moves -/
theorem C18_stationary_density_constant (es : List Edge) (N : Nat) (hv : Valid es N) (hc : connectedB es N = true)
    (hN : 2 ≤ N) (p : List Rat) (hp : stationary es N = some p) (t : Nat) :
    ∀ w ∈ densityList es N t p, w = p := by
  have : p = (List.range N).map (piEntry es N) := by
    unfold stationary at hp; rw [if_pos hc] at hp; exact (Option.some.inj hp).symm
  subst this
  exact densityList_const es N _ (piList_fixed es N (fun i hi => rowSum_pos es N hv hc hN i hi)) t

/-- the executable test is `np.isclose(x, 1)`: `|x − 1| ≤ 1e-8 + 1e-5` -/
theorem C18_isclose (x : Rat) : closeToOne x = true ↔ |x - 1| ≤ 1001 / 100000000 := by
  rw [closeToOne, Bool.and_eq_true, decide_eq_true_eq, decide_eq_true_eq, abs_le, neg_le, neg_sub]
  exact and_comm

/-- the routine answers exactly when the total of `s` is `isclose` to one and the hypergraph is connected; then
EVERY returned vector has the total of `s` (so it passes the same test), whatever the signs of `s` -/
theorem C18_density_accepts (es : List Edge) (N : Nat) (hv : Valid es N) (hN : 2 ≤ N) (s : List Rat)
    (hl : s.length = N) (t : Nat) :
    (randomWalkDensity es N s t = none ↔ (¬ |s.sum - 1| ≤ 1001 / 100000000) ∨ connectedB es N = false)
    ∧ ∀ L, randomWalkDensity es N s t = some L →
        L = densityList es N t s ∧ ∀ w ∈ L, w.length = N ∧ w.sum = s.sum ∧ closeToOne w.sum = true := by
  unfold randomWalkDensity
  cases hcl : closeToOne s.sum with
  | false =>
    have : ¬ |s.sum - 1| ≤ 1001 / 100000000 := by rw [← C18_isclose, hcl]; simp
    simp [this]
  | true =>
    have hcl' := (C18_isclose s.sum).mp hcl
    cases hc : connectedB es N with
    | false => simp
    | true =>
      simp only [if_true, hcl', not_true_eq_false, Bool.true_eq_false, or_self, Option.some.injEq,
        reduceCtorEq, true_and]
      intro L hL
      subst hL
      refine ⟨rfl, fun w hw => ?_⟩
      obtain ⟨h1, h2⟩ := densityList_mass es N (fun i hi => rowSum_pos es N hv hc hN i hi) t s hl w hw
      exact ⟨h1, h2, by rw [h2]; exact hcl⟩

example : ∀ w ∈ densityList exE 4 3 [1 / 2, 1 / 2, 0, 0], w.length = 4 ∧ w.sum = 1 :=
  (C18_density exE 4 exValid exConn (by decide) 3 [1 / 2, 1 / 2, 0, 0] rfl (by decide +kernel)).2.2.2.1
/-- the theorem does not ask for non-negative entries: a signed start (what `np.isclose(np.sum(s), 1)` admits) -/
example : ∀ w ∈ densityList exE 4 2 [3 / 2, -1, 0, 1 / 2], w.length = 4 ∧ w.sum = 1 :=
  (C18_density exE 4 exValid exConn (by decide) 2 [3 / 2, -1, 0, 1 / 2] rfl (by decide +kernel)).2.2.2.1
/-- disconnected (two pairs), signed, total 3: the mass identity needs neither connectivity nor a probability vector -/
example : (densityNext [[0, 1], [2, 3]] 4 [5, -2, 0, 0]).sum = 3 := by
  rw [(C18_density_mass_signed [[0, 1], [2, 3]] 4 (by unfold Valid; decide) (by decide) [5, -2, 0, 0] rfl).2]
  decide +kernel
example : densityNext exE 4 (List.zipWith (fun x y => 2 * x + -3 * y) [1, 0, 0, 0] [0, 0, 1, 0])
    = List.zipWith (fun x y => 2 * x + -3 * y) (densityNext exE 4 [1, 0, 0, 0]) (densityNext exE 4 [0, 0, 1, 0]) :=
  C18_density_linear exE 4 2 (-3) [1, 0, 0, 0] [0, 0, 1, 0] rfl
example : ∀ y ∈ densityNext exE 4 [1 / 2, 0, 1 / 2, 0], 0 ≤ y :=
  C18_density_nonneg exE 4 _ (by decide +kernel)
example : (densityList exE 4 3 [3 / 2, -1, 0, 1 / 2])[2]? = some (densityAt exE 4 2 [3 / 2, -1, 0, 1 / 2]) :=
  (C18_density_power exE 4 3 _ rfl 2 (by decide)).1
example : ∃ p, stationary exE 4 = some p ∧ ∀ w ∈ densityList exE 4 5 p, w = p :=
  ⟨(List.range 4).map (piEntry exE 4), by simp [stationary, exConn],
    C18_stationary_density_constant exE 4 exValid exConn (by decide) _ (by simp [stationary, exConn]) 5⟩
example : closeToOne (1 + 1 / 200000) = true := by rw [C18_isclose]; norm_num [abs_le]
example : closeToOne (1 + 1 / 50000) = false := by
  rw [Bool.eq_false_iff, Ne, C18_isclose]; norm_num [abs_le]
example : ∃ L, randomWalkDensity exE 4 [3 / 2, -1, 0, 1 / 2] 2 = some L := by
  rw [randomWalkDensity, if_pos (by decide +kernel), if_pos exConn]; exact ⟨_, rfl⟩
example : randomWalkDensity exE 4 [1, 1, 0, 0] 2 = none := by
  rw [(C18_density_accepts exE 4 exValid (by decide) [1, 1, 0, 0] rfl 2).1]; exact Or.inl (by decide +kernel)

/-! ## walks -/

/-- a walk replayed from recorded `np.random.choice` results that honour the sampler's contract (positive
probability) starts at `s`, has one node more than there are choices, and only steps between distinct nodes sharing a hyperedge -/
theorem C18_walk (es : List Edge) (N : Nat) (hv : Valid es N) (s : Nat) (cs ns : List Nat)
    (h : walk es N s cs = some ns) :
    ns.head? = some s ∧ ns.length = cs.length + 1
    ∧ Adj (fun a b => a ≠ b ∧ ∃ e ∈ es, a ∈ e ∧ b ∈ e) ns := by
  obtain ⟨rfl, hadj⟩ := (walk_eq_some es N cs s ns).mp h
  exact ⟨rfl, rfl, adj_mono _ _ (fun a b hab => kEntry_pos_imp es N hv a b ((validChoice_iff es N a b).mp hab).2) _ hadj⟩

/-- `np.random.choice(N, p=p)` (inverse cdf of ONE uniform draw `u ∈ [0, 1)`) on a vector with total one returns an
index below `N` whose probability is positive: the index with `cdf[idx-1] ≤ u < cdf[idx]` -/
theorem C18_choice_support (p : Nat → Rat) (N : Nat) (hp : sumTo N p = 1) (u : Rat) (h0 : 0 ≤ u) (h1 : u < 1) :
    chooseIdx p N u < N ∧ 0 < p (chooseIdx p N u)
    ∧ sumTo (chooseIdx p N u) p ≤ u ∧ u < sumTo (chooseIdx p N u + 1) p :=
  chooseIdx_spec p N u h0 (by rw [hp]; exact h1)

/-- for EVERY list of uniform draws in `[0, 1)` and every start below `N` the sampled walk has one node more than there are draws, all
below `N`, starts at `s`, only steps between distinct nodes sharing a hyperedge, and is accepted by the
recorded-choice model `walk` (whose hypothesis "the choice has positive probability" is therefore always met) -/
theorem C18_walk_every_draw (es : List Edge) (N : Nat) (hv : Valid es N) (hc : connectedB es N = true) (hN : 2 ≤ N)
    (us : List Rat) (hu : ∀ u ∈ us, 0 ≤ u ∧ u < 1) (s : Nat) (hs : s < N) :
    (walkU es N s us).head? = some s ∧ (walkU es N s us).length = us.length + 1
    ∧ (∀ v ∈ walkU es N s us, v < N)
    ∧ Adj (fun a b => a ≠ b ∧ ∃ e ∈ es, a ∈ e ∧ b ∈ e) (walkU es N s us)
    ∧ walk es N s (walkU es N s us).tail = some (walkU es N s us) := by
  have hval := walkU_valid es N (fun i hi => (C18_row_stochastic es N hv hc hN i hi).1) us hu s hs
  have hlen := walkU_length es N us s
  obtain ⟨rest, hrest⟩ : ∃ rest, walkU es N s us = s :: rest := ⟨_, walkU_eq_cons es N s us⟩
  rw [hrest] at hval hlen ⊢
  refine ⟨rfl, hlen, fun v hv' => ?_, ?_, (walk_eq_some es N rest s _).mpr ⟨rfl, hval⟩⟩
  · rcases List.mem_cons.mp hv' with rfl | hv'
    · exact hs
    · exact adj_tail_forall _ (· < N) (fun a b hab => ((validChoice_iff es N a b).mp hab).1) s rest hval v hv'
  · exact adj_mono _ _ (fun a b hab => kEntry_pos_imp es N hv a b ((validChoice_iff es N a b).mp hab).2) _ hval

private theorem exChoice (i j : Nat) (hi : i < 4) :
    validChoice exE 4 i j = (decide (j < 4) && decide (i ≠ j ∧ ∃ e ∈ exE, i ∈ e ∧ j ∈ e)) := by
  unfold validChoice
  congr 1
  rw [decide_eq_decide]
  exact C18_walk_support exE 4 exValid exConn (by decide) i j hi
example : walk exE 4 0 [1, 2, 3, 2] = some [0, 1, 2, 3, 2] := by
  simp only [walk, exChoice 0 1 (by decide), exChoice 1 2 (by decide), exChoice 2 3 (by decide), exChoice 3 2 (by decide)]
  decide
example : chooseIdx (fun i => if i = 1 then 1 / 4 else if i = 3 then 3 / 4 else 0) 4 (1 / 2) = 3 := by
  decide +kernel
example : (walkU exE 4 0 [1 / 4, 3 / 4, 9 / 10, 0]).length = 5 :=
  (C18_walk_every_draw exE 4 exValid exConn (by decide) _ (by decide +kernel) 0 (by decide)).2.1

/-! ## contagion: one sweep -/

/-- no infection without a source: a susceptible node with no infected pairwise neighbour and no 3-hyperedge whose two
other members are infected is still susceptible after the sweep - for all rates and all draws (no hypothesis on `f`) -/
theorem C18_no_spontaneous_infection (es : List Edge) (nodes : List Nat) (hnd : nodes.Nodup) (r : Rates) (f : Nat → Rat)
    (I : Nat → Bool) (p v : Nat) (hI : I v = false) (hp : (pairNbrs es nodes v).any I = false)
    (ht : (triplets es v).any (triHit I v) = false) : (step es nodes r f I p).1 v = false :=
  step_value es nodes hnd r f I p v false (fun _ => hI) (fun _ q => by
    rw [newVal_susceptible es nodes r f I v q hI, loopHits_none _ _ _ _ ((any_map_id _ _).trans hp),
      loopHits_none _ _ _ _ ((any_map_id _ _).trans ht)]; rfl)

/-- `β = 1` alone (any `β_D`, `μ`, any draws in `[0,1)`): a susceptible node with an infected pairwise neighbour is infected
after the sweep -/
theorem C18_beta1_certain (es : List Edge) (nodes : List Nat) (hnd : nodes.Nodup) (r : Rates) (f : Nat → Rat)
    (hf : UnitDraws f) (hb : r.beta = 1) (I : Nat → Bool) (p v : Nat) (hv : v ∈ nodes) (hI : I v = false)
    (hp : (pairNbrs es nodes v).any I = true) : (step es nodes r f I p).1 v = true :=
  step_value es nodes hnd r f I p v true (absurd hv) (fun _ q => by
    rw [newVal_susceptible es nodes r f I v q hI, hb, loopHits_succeed f 1 (fun n => (hf n).2), any_map_id, hp]; rfl)

/-- `β_D = 1` alone: a susceptible node in a 3-hyperedge whose two other members are infected is infected after the sweep -/
theorem C18_betaD1_certain (es : List Edge) (nodes : List Nat) (hnd : nodes.Nodup) (r : Rates) (f : Nat → Rat)
    (hf : UnitDraws f) (hbd : r.betaD = 1) (I : Nat → Bool) (p v : Nat) (hv : v ∈ nodes) (hI : I v = false)
    (ht : (triplets es v).any (triHit I v) = true) : (step es nodes r f I p).1 v = true :=
  step_value es nodes hnd r f I p v true (absurd hv) (fun _ q => by
    rw [newVal_susceptible es nodes r f I v q hI, hbd, loopHits_succeed f 1 (fun n => (hf n).2), any_map_id, ht,
      Bool.or_true])

/-- `μ = 1` alone: every infected node is susceptible after the sweep (it may be re-infected only in a later sweep) -/
theorem C18_mu1_certain (es : List Edge) (nodes : List Nat) (hnd : nodes.Nodup) (r : Rates) (f : Nat → Rat)
    (hf : UnitDraws f) (hmu : r.mu = 1) (I : Nat → Bool) (p v : Nat) (hv : v ∈ nodes) (hI : I v = true) :
    (step es nodes r f I p).1 v = false :=
  step_value es nodes hnd r f I p v false (absurd hv) (fun _ q => by
    rw [newVal_infected es nodes r f I v q hI, hmu, decide_eq_true (hf q).2]; rfl)

/-- rates in `{0, 1}`, EVERY draw stream: one sweep is the closed-form spreading, read entirely from the old
state (`spread`: a susceptible node becomes infected iff `β = 1` and a pairwise neighbour is infected, or
`β_D = 1` and both other members of a 3-node hyperedge are infected; an infected node recovers iff `μ = 1`),
and the whole trajectory is the iterated closed form -/
theorem C18_deterministic (es : List Edge) (nodes keys : List Nat) (hnd : nodes.Nodup) (r : Rates) (f : Nat → Rat)
    (hf : UnitDraws f) (hb : r.beta = 0 ∨ r.beta = 1) (hbd : r.betaD = 0 ∨ r.betaD = 1) (hmu : r.mu = 0 ∨ r.mu = 1) :
    (∀ I p, (step es nodes r f I p).1 = spread es nodes r I)
    ∧ ∀ I0 T, counts es nodes keys r f I0 T = infected keys I0 :: spreadCounts es nodes keys r (T - 1) I0 := by
  refine ⟨fun I p => step_det es nodes hnd r f hf hb hbd hmu I p, fun I0 T => ?_⟩
  unfold counts
  rw [run_det es nodes keys hnd r f hf hb hbd hmu]

theorem C18_spread_meaning (es : List Edge) (nodes : List Nat) (hcov : ∀ e ∈ es, ∀ u ∈ e, u ∈ nodes) (r : Rates)
    (I : Nat → Bool) (v : Nat) (hv : v ∈ nodes) :
    spread es nodes r I v = true ↔
      (I v = false ∧
        ((r.beta = 1 ∧ ∃ u, u ≠ v ∧ I u = true ∧ ∃ e ∈ es, e.length = 2 ∧ v ∈ e ∧ u ∈ e)
         ∨ (r.betaD = 1 ∧ ∃ e ∈ es, e.length = 3 ∧ v ∈ e ∧ ∀ u ∈ e, u ≠ v → I u = true)))
      ∨ (I v = true ∧ r.mu ≠ 1) := by
  rw [spread, if_pos (List.contains_iff_mem.mpr hv)]
  cases hI : I v with
  | true =>
    rw [if_neg (fun h => Bool.noConfusion h)]
    constructor
    · intro h; exact Or.inr ⟨rfl, of_decide_eq_true h⟩
    · rintro (⟨h, _⟩ | ⟨_, h⟩)
      · cases h
      · exact decide_eq_true h
  | false =>
    rw [if_pos rfl, Bool.or_eq_true, Bool.and_eq_true, Bool.and_eq_true, decide_eq_true_eq, decide_eq_true_eq,
      List.any_eq_true, List.any_eq_true]
    constructor
    · rintro (⟨hb, u, hu, hIu⟩ | ⟨hbd, e, he, hall⟩)
      · obtain ⟨_, hne, hex⟩ := (mem_pairNbrs es nodes v u).mp hu
        exact Or.inl ⟨rfl, Or.inl ⟨hb, u, hne, hIu, hex⟩⟩
      · obtain ⟨he, hl, hve⟩ := (mem_triplets es v e).mp he
        exact Or.inl ⟨rfl, Or.inr ⟨hbd, e, he, hl, hve, (triHit_iff I v e).mp hall⟩⟩
    · rintro (⟨_, ⟨hb, u, hne, hIu, e, he, hl, hve, hue⟩ | ⟨hbd, e, he, hl, hve, hall⟩⟩ | ⟨h, _⟩)
      -- `pairNbrs` lists nodes of `nodes` only: `hcov` makes the infected neighbour `u` one of them
      · exact Or.inl ⟨hb, u, (mem_pairNbrs es nodes v u).mpr ⟨hcov e he u hue, hne, e, he, hl, hve, hue⟩, hIu⟩
      · exact Or.inr ⟨hbd, e, (mem_triplets es v e).mpr ⟨he, hl, hve⟩, (triHit_iff I v e).mpr hall⟩
      · cases h

/-- the order in which Python iterates over the neighbour *set* (or over the triplets) is irrelevant: the
attempt loop only depends on how many candidates satisfy the condition -/
theorem C18_order_irrelevant (f : Nat → Rat) (rate : Rat) (I : Nat → Bool) (l l' : List Nat) (h : l.Perm l') (p : Nat) :
    loopHits f rate (l.map I) p = loopHits f rate (l'.map I) p :=
  loopHits_perm f rate (h.map I) p

/-- node `3` has no pairwise neighbour and its triangle `{0, 2, 3}` has only one infected member -/
example : (step exC exNodes ⟨1 / 3, 1 / 4, 1 / 5⟩ exF exI0 0).1 3 = false :=
  C18_no_spontaneous_infection exC exNodes exNodup _ exF exI0 0 3 (by decide) (by decide) (by decide)
example : (step exC exNodes ⟨1, 1 / 4, 1 / 5⟩ exF exI0 0).1 1 = true :=
  C18_beta1_certain exC exNodes exNodup _ exF exUnit rfl exI0 0 1 (by decide) (by decide) (by decide)
example : (step exC exNodes ⟨1 / 3, 1, 1 / 5⟩ exF (fun v => v == 0 || v == 2) 0).1 3 = true :=
  C18_betaD1_certain exC exNodes exNodup _ exF exUnit rfl _ 0 3 (by decide) (by decide) (by decide)
example : (step exC exNodes ⟨1 / 3, 1 / 4, 1⟩ exF exI0 0).1 0 = false :=
  C18_mu1_certain exC exNodes exNodup _ exF exUnit rfl exI0 0 0 (by decide) (by decide)
/-- `β = β_D = 1`, `μ = 0`: `{0} → {0,1} → {0,1,2} → {0,1,2,3}` (node 3 only through the triangle) -/
example : counts exC exNodes exNodes ⟨1, 1, 0⟩ exF exI0 5 = [1, 2, 3, 4, 4] := by
  rw [(C18_deterministic exC exNodes exNodes exNodup ⟨1, 1, 0⟩ exF exUnit (Or.inr rfl) (Or.inr rfl) (Or.inl rfl)).2]
  decide
example : spread exC exNodes ⟨1, 1, 0⟩ exI0 1 = true :=
  (C18_spread_meaning exC exNodes (by decide) ⟨1, 1, 0⟩ exI0 1 (by decide)).mpr
    (Or.inl ⟨rfl, Or.inl ⟨rfl, 0, by decide, rfl, [0, 1], by decide, rfl, by decide, by decide⟩⟩)
example : loopHits exF (1 / 2) ([3, 0, 1].map exI0) 0 = loopHits exF (1 / 2) ([0, 1, 3].map exI0) 0 :=
  C18_order_irrelevant exF (1 / 2) exI0 [3, 0, 1] [0, 1, 3] (by decide) 0

/-! ## contagion: the run -/

/-- the returned array has `T` entries, all in `[0, 1]`, the first one being the initial infected fraction -/
theorem C18_range (es : List Edge) (nodes keys : List Nat) (r : Rates) (f : Nat → Rat) (I0 : Nat → Bool) (T : Nat)
    (hT : 1 ≤ T) (hk : keys ≠ []) :
    (fractions es nodes keys r f I0 T).length = T
    ∧ (fractions es nodes keys r f I0 T).head? = some ((infected keys I0 : Rat) / (keys.length : Rat))
    ∧ ∀ x ∈ fractions es nodes keys r f I0 T, 0 ≤ x ∧ x ≤ 1 := by
  have hpos : (0 : Rat) < (keys.length : Rat) := Nat.cast_pos.mpr (List.length_pos_iff.mpr hk)
  refine ⟨?_, rfl, fun x hx => ?_⟩
  · rw [fractions, List.length_map, counts_length]; omega
  · obtain ⟨c, hc, rfl⟩ := List.mem_map.mp hx
    have hle : c ≤ keys.length := by
      rcases List.mem_cons.mp hc with rfl | hc
      · exact infected_le _ _
      · obtain ⟨s, _, rfl⟩ := List.mem_map.mp hc; exact infected_le _ _
    exact ⟨div_nonneg (Nat.cast_nonneg _) (Nat.cast_nonneg _), (div_le_one hpos).mpr (Nat.cast_le.mpr hle)⟩

/-- recovery rate `0`: the infected fraction never decreases, whatever the draws and the infection rates -/
theorem C18_mu0_monotone (es : List Edge) (nodes keys : List Nat) (hnd : nodes.Nodup) (r : Rates) (f : Nat → Rat)
    (hf : UnitDraws f) (hmu : r.mu = 0) (I0 : Nat → Bool) (T : Nat) :
    Adj (fun a b => a ≤ b) (fractions es nodes keys r f I0 T) :=
  fractions_adj es nodes keys r f I0 T _ (fun t a b ha hb =>
    fraction_mono keys _ _ (run_set_grows es nodes keys hnd r f hf hmu (T - 1) I0 0 t a b ha hb))

/-- both infection rates `0`: the infected fraction never increases, whatever the draws and the recovery rate -/
theorem C18_beta0_monotone (es : List Edge) (nodes keys : List Nat) (hnd : nodes.Nodup) (r : Rates) (f : Nat → Rat)
    (hf : UnitDraws f) (hb : r.beta = 0) (hbd : r.betaD = 0) (I0 : Nat → Bool) (T : Nat) :
    Adj (fun a b => b ≤ a) (fractions es nodes keys r f I0 T) :=
  fractions_adj es nodes keys r f I0 T _ (fun t a b ha hb' =>
    fraction_mono keys _ _ (run_set_shrinks es nodes keys hnd r f hf hb hbd (T - 1) I0 0 t a b ha hb'))

/-- all three rates `0`: nothing ever changes -/
theorem C18_all_rates_zero (es : List Edge) (nodes keys : List Nat) (hnd : nodes.Nodup) (r : Rates) (f : Nat → Rat)
    (hf : UnitDraws f) (hb : r.beta = 0) (hbd : r.betaD = 0) (hmu : r.mu = 0) (I0 : Nat → Bool) (T : Nat) :
    Adj (fun a b => a = b) (fractions es nodes keys r f I0 T) := fun t a b ha hb' =>
  le_antisymm (C18_mu0_monotone es nodes keys hnd r f hf hmu I0 T t a b ha hb')
    (C18_beta0_monotone es nodes keys hnd r f hf hb hbd I0 T t a b ha hb')

/-- `numberInf[t]` is the size of the infected set after sweep `t` -/
theorem C18_counts_are_set_sizes (es : List Edge) (nodes keys : List Nat) (r : Rates) (f : Nat → Rat) (I0 : Nat → Bool)
    (T : Nat) :
    counts es nodes keys r f I0 T = (keys.filter I0 :: infectedSets es nodes keys r f I0 T).map List.length := by
  simp [counts, infectedSets, infected, List.map_map, Function.comp_def]

/-- recovery rate `0`: the infected SET only grows from sweep to sweep (not only its size), for every draw stream
and all infection rates -/
theorem C18_mu0_set_grows (es : List Edge) (nodes keys : List Nat) (hnd : nodes.Nodup) (r : Rates) (f : Nat → Rat)
    (hf : UnitDraws f) (hmu : r.mu = 0) (I0 : Nat → Bool) (T : Nat) :
    Adj (fun a b => ∀ v, v ∈ a → v ∈ b) (keys.filter I0 :: infectedSets es nodes keys r f I0 T) :=
  infectedSets_adj es nodes keys r f I0 T _ (fun t a b ha hb =>
    filter_mono keys _ _ (run_set_grows es nodes keys hnd r f hf hmu (T - 1) I0 0 t a b ha hb))

/-- both infection rates `0`: the infected set only shrinks -/
theorem C18_beta0_set_shrinks (es : List Edge) (nodes keys : List Nat) (hnd : nodes.Nodup) (r : Rates) (f : Nat → Rat)
    (hf : UnitDraws f) (hb : r.beta = 0) (hbd : r.betaD = 0) (I0 : Nat → Bool) (T : Nat) :
    Adj (fun a b => ∀ v, v ∈ b → v ∈ a) (keys.filter I0 :: infectedSets es nodes keys r f I0 T) :=
  infectedSets_adj es nodes keys r f I0 T _ (fun t a b ha hb' =>
    filter_mono keys _ _ (run_set_shrinks es nodes keys hnd r f hf hb hbd (T - 1) I0 0 t a b ha hb'))

/-- keys of `I_0` that are not nodes of the hypergraph are never touched: they keep their initial value in every
state of the run -/
theorem C18_outside_nodes_unchanged (es : List Edge) (nodes keys : List Nat) (hnd : nodes.Nodup) (r : Rates)
    (f : Nat → Rat) (I0 : Nat → Bool) (T : Nat) :
    ∀ s ∈ runStates es nodes keys r f (T - 1) I0 0, ∀ u, u ∉ nodes → s.1 u = I0 u :=
  run_outside_unchanged es nodes keys hnd r f (T - 1) I0 0

/-- the run is a function of the draws it consumes: two streams that agree on the first `consumed` positions give the
same counts, fractions and number of draws (so replaying the finite recorded list, continued arbitrarily, is exact) -/
theorem C18_draws_local (es : List Edge) (nodes keys : List Nat) (r : Rates) (f g : Nat → Rat) (I0 : Nat → Bool) (T : Nat)
    (h : ∀ q, q < consumed es nodes keys r f I0 T → f q = g q) :
    counts es nodes keys r g I0 T = counts es nodes keys r f I0 T
    ∧ fractions es nodes keys r g I0 T = fractions es nodes keys r f I0 T
    ∧ consumed es nodes keys r g I0 T = consumed es nodes keys r f I0 T := by
  have e : runStates es nodes keys r g (T - 1) I0 0 = runStates es nodes keys r f (T - 1) I0 0 :=
    runStates_congr es nodes keys r f g _ h (T - 1) I0 0 (consumed_bound es nodes keys r f I0 T)
  unfold fractions counts consumed
  rw [e]
  exact ⟨rfl, rfl, rfl⟩

/-- a longer horizon only appends: the result for `T` is the first `T` entries of the result for `T + 1` (same draws) -/
theorem C18_horizon_prefix (es : List Edge) (nodes keys : List Nat) (r : Rates) (f : Nat → Rat) (I0 : Nat → Bool)
    (T : Nat) (hT : 1 ≤ T) :
    counts es nodes keys r f I0 T = (counts es nodes keys r f I0 (T + 1)).take T
    ∧ fractions es nodes keys r f I0 T = (fractions es nodes keys r f I0 (T + 1)).take T := by
  have h := counts_prefix es nodes keys r f I0 T hT
  refine ⟨h, ?_⟩
  unfold fractions; rw [h, List.map_take]

/-- extinction is absorbing (`while Infected > 0`): after a `0` every later entry is `0` -/
theorem C18_absorbing (es : List Edge) (nodes keys : List Nat) (r : Rates) (f : Nat → Rat) (I0 : Nat → Bool) (T t : Nat)
    (h : (counts es nodes keys r f I0 T)[t]? = some 0) :
    ∀ t', t ≤ t' → t' < T → (counts es nodes keys r f I0 T)[t']? = some 0 := by
  intro t' h1 h2
  have hp : (counts es nodes keys r f I0 T).Pairwise (fun a b => a = 0 → b = 0) :=
    adj_pairwise _ (fun _ _ _ h1 h2 h => h2 (h1 h)) _
      (adj_map _ (fun s : (Nat → Bool) × Nat => infected keys s.1) ((I0, 0) :: runStates es nodes keys r f (T - 1) I0 0)
        (runStates_adj es nodes keys r f _ (fun _ _ h => h) (fun _ _ hz h => absurd h hz) (T - 1) I0 0))
  have hlt : t' < (counts es nodes keys r f I0 T).length := by
    rw [counts_length]; omega
  obtain ⟨ht, h0⟩ := List.getElem?_eq_some_iff.mp h
  rcases Nat.eq_or_lt_of_le h1 with rfl | h1
  · exact h
  · rw [List.getElem?_eq_getElem hlt]
    exact congrArg some (List.pairwise_iff_getElem.mp hp t t' ht hlt h1 h0)

/-- `β = β_D = 0`, `μ = 1`, every key of `I_0` a node: everybody recovers in the first sweep -/
theorem C18_extinction (es : List Edge) (nodes keys : List Nat) (hnd : nodes.Nodup) (hk : ∀ k ∈ keys, k ∈ nodes)
    (r : Rates) (f : Nat → Rat) (hf : UnitDraws f) (hb : r.beta = 0) (hbd : r.betaD = 0) (hmu : r.mu = 1)
    (I0 : Nat → Bool) (T : Nat) :
    counts es nodes keys r f I0 T = infected keys I0 :: List.replicate (T - 1) 0 := by
  rw [(C18_deterministic es nodes keys hnd r f hf (Or.inl hb) (Or.inl hbd) (Or.inr hmu)).2]
  congr 1
  have hs : ∀ J, infected keys (spread es nodes r J) = 0 := by
    intro J
    unfold infected
    rw [List.length_eq_zero_iff, List.filter_eq_nil_iff]
    intro k hk'
    have hkn : k ∈ nodes := hk k hk'
    unfold spread
    cases J k <;> simp [hkn, hb, hbd, hmu]
  generalize T - 1 = n
  induction n generalizing I0 with
  | zero => rfl
  | succ n ih =>
    unfold spreadCounts
    split
    · rfl
    · rw [hs, ih]; rfl

example : (fractions exC exNodes exNodes ⟨1 / 3, 1 / 4, 1 / 5⟩ exF exI0 6).length = 6 :=
  (C18_range exC exNodes exNodes _ exF exI0 6 (by decide) (by decide)).1
example : Adj (fun a b => a ≤ b) (fractions exC exNodes exNodes ⟨1 / 3, 1 / 4, 0⟩ exF exI0 6) :=
  C18_mu0_monotone exC exNodes exNodes exNodup _ exF exUnit rfl exI0 6
example : Adj (fun a b => b ≤ a) (fractions exC exNodes exNodes ⟨0, 0, 3 / 4⟩ exF exI0 6) :=
  C18_beta0_monotone exC exNodes exNodes exNodup _ exF exUnit rfl rfl exI0 6
example : Adj (fun a b => a = b) (fractions exC exNodes exNodes ⟨0, 0, 0⟩ exF exI0 6) :=
  C18_all_rates_zero exC exNodes exNodes exNodup _ exF exUnit rfl rfl rfl exI0 6
example : counts exC exNodes exNodes ⟨1 / 3, 1 / 4, 1 / 5⟩ exF exI0 4
    = (exNodes.filter exI0 :: infectedSets exC exNodes exNodes ⟨1 / 3, 1 / 4, 1 / 5⟩ exF exI0 4).map List.length :=
  C18_counts_are_set_sizes exC exNodes exNodes ⟨1 / 3, 1 / 4, 1 / 5⟩ exF exI0 4
example : Adj (fun a b => ∀ v, v ∈ a → v ∈ b)
    (exNodes.filter exI0 :: infectedSets exC exNodes exNodes ⟨1 / 3, 1 / 4, 0⟩ exF exI0 6) :=
  C18_mu0_set_grows exC exNodes exNodes exNodup _ exF exUnit rfl exI0 6
example : Adj (fun a b => ∀ v, v ∈ b → v ∈ a)
    (exNodes.filter exI0 :: infectedSets exC exNodes exNodes ⟨0, 0, 3 / 4⟩ exF exI0 6) :=
  C18_beta0_set_shrinks exC exNodes exNodes exNodup _ exF exUnit rfl rfl exI0 6
/-- key `7` is not a node: it stays infected whatever happens -/
example : ∀ s ∈ runStates exC exNodes [0, 1, 7] ⟨1 / 3, 1 / 4, 1⟩ exF (5 - 1) (fun v => v == 7 || v == 0) 0, s.1 7 = true :=
  fun s hs => C18_outside_nodes_unchanged exC exNodes [0, 1, 7] exNodup _ exF _ 5 s hs 7 (by decide)
example (g : Nat → Rat) (h : ∀ q, q < consumed exC exNodes exNodes ⟨1, 1 / 4, 1 / 5⟩ exF exI0 4 → exF q = g q) :
    counts exC exNodes exNodes ⟨1, 1 / 4, 1 / 5⟩ g exI0 4 = counts exC exNodes exNodes ⟨1, 1 / 4, 1 / 5⟩ exF exI0 4 :=
  (C18_draws_local exC exNodes exNodes _ exF g exI0 4 h).1
example : counts exC exNodes exNodes ⟨1, 1, 0⟩ exF exI0 4 = [1, 2, 3, 4] := by
  rw [(C18_horizon_prefix exC exNodes exNodes ⟨1, 1, 0⟩ exF exI0 4 (by decide)).1,
    (C18_deterministic exC exNodes exNodes exNodup ⟨1, 1, 0⟩ exF exUnit (Or.inr rfl) (Or.inr rfl) (Or.inl rfl)).2]
  decide
example : counts exC exNodes exNodes ⟨0, 0, 1⟩ exF exI0 4 = [1, 0, 0, 0] :=
  C18_extinction exC exNodes exNodes exNodup (fun _ h => h) _ exF exUnit rfl rfl rfl exI0 4
example : (counts exC exNodes exNodes ⟨0, 0, 1⟩ exF exI0 4)[3]? = some 0 :=
  C18_absorbing exC exNodes exNodes _ exF exI0 4 1
    (by rw [C18_extinction exC exNodes exNodes exNodup (fun _ h => h) _ exF exUnit rfl rfl rfl exI0 4]; rfl)
    3 (by decide) (by decide)

/-! ## the listing order of the hyperedges -/

/-- `Hypergraph.get_edges()` lists the stored hyperedges in the order of an internal dictionary, which depends on the
history of the object (removal + re-insertion moves a hyperedge to the end; copied, saved + loaded, rebuilt objects may
list the same hyperedges differently).  Every routine of the model is invariant under a permutation of that list:
the connectivity assertion, the transition matrix, the stationary state, the densities, the replayed walks, the whole
contagion run (counts, fractions, number of draws consumed, for every draw stream) and the closed-form spreading are
functions of the content only.  (The correspondence loads the canonical listing whatever history built the object.) -/
theorem C18_listing_irrelevant (es es' : List Edge) (h : es.Perm es') :
    connectedB es = connectedB es' ∧ kEntry es = kEntry es' ∧ transitionMatrix es = transitionMatrix es'
    ∧ stationary es = stationary es'
    ∧ (∀ N t v, densityList es N t v = densityList es' N t v)
    ∧ (∀ N s cs, walk es N s cs = walk es' N s cs)
    ∧ (∀ nodes keys r f I0 T, counts es nodes keys r f I0 T = counts es' nodes keys r f I0 T
        ∧ fractions es nodes keys r f I0 T = fractions es' nodes keys r f I0 T
        ∧ consumed es nodes keys r f I0 T = consumed es' nodes keys r f I0 T)
    ∧ (∀ nodes keys r n I, spreadCounts es nodes keys r n I = spreadCounts es' nodes keys r n I) := by
  refine ⟨connectedB_perm h, kEntry_perm h, transitionMatrix_perm h, stationary_perm h, densityList_perm h,
    walk_perm h, fun nodes keys r f I0 T => ?_, spreadCounts_perm h⟩
  unfold fractions counts consumed
  simp only [runStates_perm h]
  exact ⟨trivial, trivial, trivial⟩

/-- `C18_listing_irrelevant` for the remaining definitions: matrix powers, `t`-step densities,
`random_walk_density` with its assertions, walks driven by uniform draws, the infected sets -/
theorem C18_listing_irrelevant_ext (es es' : List Edge) (h : es.Perm es') :
    (∀ N t, kPowMat es N t = kPowMat es' N t) ∧ (∀ N t v, densityAt es N t v = densityAt es' N t v)
    ∧ (∀ N s t, randomWalkDensity es N s t = randomWalkDensity es' N s t)
    ∧ (∀ N s us, walkU es N s us = walkU es' N s us)
    ∧ (∀ nodes keys r f I0 T, infectedSets es nodes keys r f I0 T = infectedSets es' nodes keys r f I0 T) := by
  exact ⟨kPowMat_perm h, fun N t v => by simp only [densityAt, kPowMat_perm h],
    fun N s t => by simp only [randomWalkDensity, connectedB_perm h, densityList_perm h], walkU_perm h,
    fun nodes keys r f I0 T => by simp only [infectedSets, runStates_perm h]⟩

example : [[0, 1, 2], [2, 3]].Perm [[2, 3], [0, 1, 2]] := by decide
example : kEntry [[2, 3], [0, 1, 2]] 4 2 3 = 1 / 5 := by
  rw [← (C18_listing_irrelevant exE [[2, 3], [0, 1, 2]] (by decide)).2.1]; exact exK23
example : walkU [[2, 3], [0, 1, 2]] 4 0 [1 / 4, 3 / 4] = walkU exE 4 0 [1 / 4, 3 / 4] :=
  ((C18_listing_irrelevant_ext exE [[2, 3], [0, 1, 2]] (by decide)).2.2.2.1 4 0 _).symm
