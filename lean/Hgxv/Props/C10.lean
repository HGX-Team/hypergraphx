import Hgxv.Proofs.C10Graph
import Hgxv.Proofs.C10Line
import Hgxv.Proofs.C10Simplicial
import Hgxv.Proofs.C10Bipartite
import Hgxv.Proofs.C10Similarity
import Hgxv.Proofs.C10Link
import Hgxv.Proofs.C10Rel
import Mathlib.Data.List.Nodup
import Mathlib.Tactic.NormNum.Ineq
/-! # C10 — graph projections encode exactly the incidence structure of the hypergraph

Property theorems about the models `Hgxv/Model/C10.lean` and `Hgxv/Model/C10Rel.lean`, and (section Links) about the
routines applied to the stores of the container models C01 / C02.  Inputs are what the public API returns: the node list and
the list of distinct canonical hyperedges.  Hypotheses used below, all guaranteed by the containers (C01/C02) and the
property's quantifier: hyperedges are duplicate-free (`e.Nodup`), pairwise distinct (`es.Nodup`), their members are
nodes, the node list is duplicate-free.  A graph is read through its tables: `AL.keys g.nodes` is the vertex list,
`AL.get? g.adj (u, v) = some a` says "`u — v` (resp. `u → v`) is an edge with attribute `a`".
Notions of the statements defined outside the two model files: `distV` in `Proofs/C10Line.lean`; `nodesH`, `edgesH`, `incTableH`,
the routines `…H` / `…D`, `buildH`, `demoH`, `demoD` in `Proofs/C10Link.lean`. -/
open C10

/-! ## clique projection -/

/-- `u — v` is an edge (without attributes) exactly when `u ≠ v` and some hyperedge contains both; the vertices are
the nodes that have a neighbour, plus all nodes when `keep_isolated`; no vertex is listed twice. -/
theorem C10_clique (keepIso : Bool) (nodes : List Nat) (es : List Edge) (hnd : ∀ e ∈ es, e.Nodup) :
    (∀ u v a, AL.get? (clique keepIso nodes es).adj (u, v) = some a ↔
        a = none ∧ u ≠ v ∧ ∃ e ∈ es, u ∈ e ∧ v ∈ e) ∧
    (∀ x, x ∈ AL.keys (clique keepIso nodes es).nodes ↔
        (keepIso = true ∧ x ∈ nodes) ∨ ∃ e ∈ es, x ∈ e ∧ ∃ y ∈ e, y ≠ x) ∧
    (AL.keys (clique keepIso nodes es).nodes).Nodup := by
  rw [clique_eq]
  refine ⟨fun u v a => ?_, fun x => ?_, nodup_keys_addEdges _ _ (nodup_keys_addNodesFrom _ _ List.nodup_nil)⟩
  · rw [get_adj_addEdges, adj_addNodesFrom, show AL.get? ({} : Graph Nat).adj (u, v) = none from rfl,
      Option.ite_none_right_eq_some, mem_flatMap_pairsOf hnd, Option.some.injEq, and_comm, eq_comm]
  · have h0 : x ∈ (if keepIso then nodes else []) ↔ keepIso = true ∧ x ∈ nodes := by cases keepIso <;> simp
    simp only [mem_keys_addEdges, mem_keys_addNodesFrom, mem_flatMap_pairsOf hnd, h0,
      show AL.keys ({} : Graph Nat).nodes = [] from rfl, List.not_mem_nil, false_or]
    -- a vertex brought in by an edge is a member with a partner in the same hyperedge
    exact or_congr Iff.rfl ⟨fun ⟨y, hne, e, he, hx, hy⟩ => ⟨e, he, hx, y, hy, hne.symm⟩,
      fun ⟨e, he, hx, y, hy, hne⟩ => ⟨y, hne.symm, e, he, hx, hy⟩⟩

/-- with `keep_isolated=True` the vertex set is the node set (members of hyperedges are nodes) -/
theorem C10_clique_keep_isolated (nodes : List Nat) (es : List Edge) (hnd : ∀ e ∈ es, e.Nodup)
    (hmem : ∀ e ∈ es, ∀ n ∈ e, n ∈ nodes) (x : Nat) :
    x ∈ AL.keys (clique true nodes es).nodes ↔ x ∈ nodes := by
  rw [(C10_clique true nodes es hnd).2.1]
  constructor
  · rintro (⟨_, h⟩ | ⟨e, he, hx, _⟩)
    · exact h
    · exact hmem e he x hx
  · intro h; exact Or.inl ⟨rfl, h⟩

/-- with `keep_isolated=True` the vertex LIST of the clique projection is `get_nodes()`, in that order (node list
duplicate-free, members of hyperedges are nodes) -/
theorem C10_clique_keep_isolated_vertex_list (nodes : List Nat) (es : List Edge) (hn : nodes.Nodup)
    (hmem : ∀ e ∈ es, ∀ n ∈ e, n ∈ nodes) : AL.keys (clique true nodes es).nodes = nodes := by
  -- the nodes come first, and the end points of the edges are among them
  have h0 : AL.keys (({} : Graph Nat).addNodesFrom nodes).nodes = nodes := keys_addNodesFrom nodes {} hn
  rw [clique_eq, if_pos rfl, addEdges_nodes_of_mem, h0]
  intro p hp
  obtain ⟨e, he, hpe⟩ := List.mem_flatMap.1 hp
  have hm := mem_pairsOf_mem (x := p.1) (y := p.2) hpe
  rw [h0]
  exact ⟨hmem e he _ hm.1, hmem e he _ hm.2⟩

theorem C10_clique_symmetric_loop_free (keepIso : Bool) (nodes : List Nat) (es : List Edge) (hnd : ∀ e ∈ es, e.Nodup) :
    (∀ u v a, AL.get? (clique keepIso nodes es).adj (u, v) = some a →
      AL.get? (clique keepIso nodes es).adj (v, u) = some a) ∧
    (∀ u, AL.get? (clique keepIso nodes es).adj (u, u) = none) := by
  have h := (C10_clique keepIso nodes es hnd).1
  constructor
  · intro u v a hu
    obtain ⟨ha, hne, e, he, h1, h2⟩ := (h u v a).1 hu
    exact (h v u a).2 ⟨ha, hne.symm, e, he, h2, h1⟩
  · intro u
    exact get?_eq_none_of_iff (h u u) fun a ⟨_, hne, _⟩ => hne rfl

/-- **insertion order does not matter**: listings of the same hypergraph (node lists and hyperedge lists permutations of
each other) give clique projections with the same edges and the same vertex set -/
theorem C10_clique_listing_order_invariant (keepIso : Bool) (nodes nodes' : List Nat) (es es' : List Edge)
    (hn : nodes.Perm nodes') (hp : es.Perm es') (hnd : ∀ e ∈ es, e.Nodup) :
    (∀ u v a, AL.get? (clique keepIso nodes' es').adj (u, v) = some a ↔
      AL.get? (clique keepIso nodes es).adj (u, v) = some a) ∧
    (∀ x, x ∈ AL.keys (clique keepIso nodes' es').nodes ↔ x ∈ AL.keys (clique keepIso nodes es).nodes) := by
  obtain ⟨h1, h2, _⟩ := C10_clique keepIso nodes es hnd
  obtain ⟨h1', h2', _⟩ := C10_clique keepIso nodes' es' (fun e he => hnd e (hp.mem_iff.2 he))
  constructor
  · intro u v a
    rw [h1, h1']
    simp only [hp.mem_iff]
  · intro x
    rw [h2, h2']
    simp only [hp.mem_iff, hn.mem_iff]

/-- **relabelling**: renaming the nodes by an injective map renames the clique projection: `f u — f v` exactly when
`u — v`, and `f x` is a vertex exactly when `x` is -/
theorem C10_clique_relabel (f : Nat → Nat) (hf : Function.Injective f) (keepIso : Bool) (nodes : List Nat)
    (es : List Edge) (hnd : ∀ e ∈ es, e.Nodup) :
    (∀ u v a, AL.get? (clique keepIso (nodes.map f) (es.map (List.map f))).adj (f u, f v) = some a ↔
      AL.get? (clique keepIso nodes es).adj (u, v) = some a) ∧
    (∀ x, f x ∈ AL.keys (clique keepIso (nodes.map f) (es.map (List.map f))).nodes ↔
      x ∈ AL.keys (clique keepIso nodes es).nodes) := by
  obtain ⟨h1, h2, _⟩ := C10_clique keepIso nodes es hnd
  obtain ⟨h1', h2', _⟩ := C10_clique keepIso (nodes.map f) (es.map (List.map f))
    (by intro e he; obtain ⟨e0, he0, rfl⟩ := List.mem_map.1 he; exact (hnd e0 he0).map hf)
  have hm : ∀ (e : Edge) x, f x ∈ e.map f ↔ x ∈ e := by
    intro e x
    constructor
    · intro h; obtain ⟨y, hy, he⟩ := List.mem_map.1 h; exact hf he ▸ hy
    · intro h; exact List.mem_map.2 ⟨x, h, rfl⟩
  constructor
  · intro u v a
    rw [h1, h1']
    simp only [List.mem_map, exists_exists_and_eq_and, hm, ne_eq, hf.eq_iff]
  · intro x
    rw [h2, h2']
    simp only [List.mem_map, exists_exists_and_eq_and, hm, ne_eq, hf.eq_iff]

example : AL.get? (clique false [1, 2, 3, 4, 5, 9] [[1, 2], [1, 2, 3], [3, 4, 5], [9]]).adj (3, 1) = some none ∧
    AL.get? (clique false [1, 2, 3, 4, 5, 9] [[1, 2], [1, 2, 3], [3, 4, 5], [9]]).adj (1, 4) = none ∧
    AL.keys (clique true [1, 2, 3, 4, 5, 9] [[1, 2], [1, 2, 3], [3, 4, 5], [9]]).nodes = [1, 2, 3, 4, 5, 9] ∧
    AL.keys (clique false [1, 2, 3, 4, 5, 9] [[1, 2], [1, 2, 3], [3, 4, 5], [9]]).nodes = [1, 2, 3, 4, 5] := by
  decide +kernel

example : AL.keys (clique true [4, 1, 3, 2, 9] [[1, 2], [1, 2, 3], [3, 4]]).nodes = [4, 1, 3, 2, 9] ∧
    AL.keys (clique false [4, 1, 3, 2, 9] [[1, 2], [1, 2, 3], [3, 4]]).nodes = [1, 2, 3, 4] := by decide +kernel

/-! ## directed line graph

`distV d a b` is the value the property names: `|a ∩ b|`, or the Jaccard similarity `|a ∩ b| / |a ∪ b|`
(see `C10_similarity`). -/

/-- The routine returns (no exception) a digraph on the vertices `0..m-1`, one per hyperedge, with an arc `i → j`
exactly when `i ≠ j` and the value of (target set of `e_i`, source set of `e_j`) is at least `s`; the arc carries that
value as weight when `weighted`, no attribute otherwise.  For every threshold `s`.
Hypothesis `hne` (Jaccard only): the union of the two sets is never empty - true when sides are non-empty; without it
the code divides by zero (`C10_directed_line_raises`). -/
theorem C10_directed_line (es : List DEdge) (d : Dist) (s : Rat) (weighted : Bool) (hes : es.Nodup)
    (hne : d = .jaccard → ∀ e ∈ es, ∀ f ∈ es, e ≠ f → e.2 ≠ [] ∨ f.1 ≠ []) :
    ∃ g, directedLineGraph es d s weighted = some g ∧
      AL.keys g.nodes = List.range es.length ∧
      ∀ i j a, AL.get? g.adj (i, j) = some a ↔
        ∃ (hi : i < es.length) (hj : j < es.length), i ≠ j ∧ s ≤ distV d es[i].2 es[j].1 ∧
          a = if weighted then some (distV d es[i].2 es[j].1) else none := by
  obtain ⟨g, hg, hI⟩ := dlg_fold_inv es d s weighted hne
  refine ⟨g, hg, hI.keys, fun i j a => ?_⟩
  rw [hI.adj, mem_allOrdered_ids hes]
  refine ⟨fun ⟨⟨hi, hj⟩, hij, r⟩ => ⟨hi, hj, hij, ?_⟩, fun ⟨hi, hj, hij, r⟩ => ⟨⟨hi, hj⟩, hij, ?_⟩⟩
  · rwa [dVal_eq d hi hj] at r
  · rwa [dVal_eq d hi hj]

/-- without non-empty sides the Jaccard directed line graph divides by zero: whenever some hyperedge has an empty
target set and another one an empty source set, `directed_line_graph(h, "jaccard", ...)` raises (model: `none`) -/
theorem C10_directed_line_raises (es : List DEdge) (s : Rat) (weighted : Bool) (e f : DEdge)
    (he : e ∈ es) (hf : f ∈ es) (hne : e ≠ f) (h1 : e.2 = []) (h2 : f.1 = []) :
    directedLineGraph es .jaccard s weighted = none := by
  refine ListLib.foldlM_none_of_mem _ (e, f) (fun g => ?_) _ (mem_allOrdered.2 ⟨he, hf⟩) _
  simp [dlgVisit, hne, h1, h2, dist?, jaccard?, unionSize]

/-- no loops; raising `s` only removes arcs (the arcs that stay keep their attribute) -/
theorem C10_directed_line_loop_free_monotone (es : List DEdge) (d : Dist) (s s' : Rat) (weighted : Bool) (hes : es.Nodup)
    (hne : d = .jaccard → ∀ e ∈ es, ∀ f ∈ es, e ≠ f → e.2 ≠ [] ∨ f.1 ≠ []) (hss : s ≤ s') :
    ∃ g g', directedLineGraph es d s weighted = some g ∧ directedLineGraph es d s' weighted = some g' ∧
      (∀ i, AL.get? g.adj (i, i) = none) ∧
      (∀ i j a, AL.get? g'.adj (i, j) = some a → AL.get? g.adj (i, j) = some a) := by
  obtain ⟨g, hg, _, h3⟩ := C10_directed_line es d s weighted hes hne
  obtain ⟨g', hg', _, h3'⟩ := C10_directed_line es d s' weighted hes hne
  refine ⟨g, g', hg, hg', ?_, ?_⟩
  · intro i
    exact get?_eq_none_of_iff (h3 i i) fun a ⟨_, _, hn, _⟩ => hn rfl
  · intro i j a h
    obtain ⟨hi, hj, hn, hle, ha⟩ := (h3' i j a).1 h
    exact (h3 i j a).2 ⟨hi, hj, hn, le_trans hss hle, ha⟩

/-- **reversing every hyperedge transposes the directed line graph**: with sources and targets swapped there is an arc
`i → j` exactly when the original has `j → i`, with the same attribute (sides duplicate-free) -/
theorem C10_directed_line_reverse (es : List DEdge) (d : Dist) (s : Rat) (weighted : Bool) (hes : es.Nodup)
    (hside : ∀ e ∈ es, e.1.Nodup ∧ e.2.Nodup)
    (hne : d = .jaccard → ∀ e ∈ es, ∀ f ∈ es, e ≠ f → (e.2 ≠ [] ∨ f.1 ≠ []) ∧ (e.1 ≠ [] ∨ f.2 ≠ [])) :
    ∃ g g', directedLineGraph es d s weighted = some g ∧
      directedLineGraph (es.map Prod.swap) d s weighted = some g' ∧
      ∀ i j a, AL.get? g'.adj (i, j) = some a ↔ AL.get? g.adj (j, i) = some a := by
  obtain ⟨g, hg, h⟩ := dlg_fold_inv es d s weighted (fun hd e he f hf hn => (hne hd e he f hf hn).1)
  obtain ⟨g', hg', h'⟩ := dlg_fold_inv (es.map Prod.swap) d s weighted (by
    intro hd e he f hf hn
    obtain ⟨e0, he0, rfl⟩ := List.mem_map.1 he
    obtain ⟨f0, hf0, rfl⟩ := List.mem_map.1 hf
    have := (hne hd e0 he0 f0 hf0 (fun h => hn (by rw [h]))).2
    simpa using this)
  refine ⟨g, g', hg, hg', fun i j a => ?_⟩
  rw [h.adj, h'.adj, mem_allOrdered_ids hes, mem_allOrdered_ids (hes.map Prod.swap_injective), List.length_map]
  have key : ∀ (hi : i < es.length) (hj : j < es.length), dVal (es.map Prod.swap) d i j = dVal es d j i := fun hi hj => by
    rw [dVal_eq d (by simpa using hi) (by simpa using hj), dVal_eq d hj hi, List.getElem_map, List.getElem_map]
    exact distV_comm d _ _ (hside _ (List.getElem_mem hi)).1 (hside _ (List.getElem_mem hj)).2
  exact ⟨fun ⟨⟨hi, hj⟩, hn, r⟩ => ⟨⟨hj, hi⟩, hn.symm, key hi hj ▸ r⟩,
    fun ⟨⟨hj, hi⟩, hn, r⟩ => ⟨⟨hi, hj⟩, hn.symm, (key hi hj).symm ▸ r⟩⟩

/-- `directed_line_graph` with an unknown `distance` raises exactly when there are two distinct hyperedges; otherwise it
returns the arcless digraph on `0..m-1` -/
theorem C10_directed_line_unknown_distance (es : List DEdge) :
    (directedLineGraphUnknown es = none ↔ ∃ e ∈ es, ∃ f ∈ es, e ≠ f) ∧
    (∀ g, directedLineGraphUnknown es = some g → AL.keys g.nodes = List.range es.length ∧ g.adj = []) := by
  unfold directedLineGraphUnknown
  rw [dlg_unknown_fold]
  refine ite_some_none_spec ⟨fun hn => ?_, ?_⟩ ⟨keys_emptyOn _, adj_emptyOn _⟩
  · obtain ⟨p, hp, hne⟩ : ∃ p, p ∈ allOrdered es ∧ p.1 ≠ p.2 :=
      Classical.byContradiction fun hc => hn fun p hp => Classical.byContradiction fun hne => hc ⟨p, hp, hne⟩
    exact ⟨p.1, (mem_allOrdered.1 hp).1, p.2, (mem_allOrdered.1 hp).2, hne⟩
  · rintro ⟨e, he, f, hf, hne⟩ hall
    exact hne (hall (e, f) (mem_allOrdered.2 ⟨he, hf⟩))

example : ∃ g, directedLineGraph [([1, 2], [3]), ([3], [1, 4]), ([3, 4], [2])] .intersection 1 false = some g ∧
    AL.get? g.adj (0, 1) = some none ∧ AL.get? g.adj (2, 1) = none := by
  obtain ⟨g, h1, _, h3⟩ := C10_directed_line [([1, 2], [3]), ([3], [1, 4]), ([3, 4], [2])] .intersection 1 false
    (by decide) (by intro h; cases h)
  have i01 : interSize [3] [3] = 1 := by decide
  have i21 : interSize [2] [3] = 0 := by decide
  refine ⟨g, h1, ?_, ?_⟩
  · rw [h3]; exact ⟨by decide, by decide, by decide, by simp [distV, i01], by simp⟩
  · exact get?_eq_none_of_iff (h3 2 1) fun a ⟨_, _, _, hle, _⟩ => by simp [distV, i21] at hle; norm_num at hle

/-- the reversed directed hypergraph: arc `1 → 0` there for the arc `0 → 1` here -/
example : ∃ g g', directedLineGraph [([1, 2], [3]), ([3], [1, 4])] .intersection 1 false = some g ∧
    directedLineGraph [([3], [1, 2]), ([1, 4], [3])] .intersection 1 false = some g' ∧
    (AL.get? g'.adj (1, 0) = some none ↔ AL.get? g.adj (0, 1) = some none) := by
  obtain ⟨g, g', h1, h2, h3⟩ := C10_directed_line_reverse [([1, 2], [3]), ([3], [1, 4])] .intersection 1 false
    (by decide) (by decide) (by intro h; cases h)
  exact ⟨g, g', h1, h2, h3 1 0 _⟩

/-! ## line graph -/

/-- `line_graph` returns (no exception) a graph on the vertices `0..m-1`, one per hyperedge; `i — j` is an edge exactly
when `i ≠ j` and the value (intersection size or Jaccard similarity) of `e_i, e_j` is at least `s`; the edge carries that
value as `weight` when `weighted` (and `1` otherwise).  For every threshold `s > 0`, which covers the integers `≥ 1`
for the intersection and `(0, 1]` for Jaccard.  The last two parts say that the enumeration of pairs through the
per-node incident lists with the `vis` table calls `_distance` exactly once for every unordered pair of distinct
hyperedges that share a node (`r.vis` is the log of those calls) and for no other pair.
Hypotheses: hyperedges distinct, duplicate-free, their members are nodes. -/
theorem C10_line (nodes : List Nat) (es : List Edge) (d : Dist) (s : Rat) (weighted : Bool)
    (hes : es.Nodup) (hnd : ∀ e ∈ es, e.Nodup) (hmem : ∀ e ∈ es, ∀ n ∈ e, n ∈ nodes) (hs : 0 < s) :
    ∃ r, lineGraph nodes es d s weighted = some r ∧
      AL.keys r.g.nodes = List.range es.length ∧
      (∀ i j a, AL.get? r.g.adj (i, j) = some a ↔
        ∃ (hi : i < es.length) (hj : j < es.length), i ≠ j ∧ s ≤ distV d es[i] es[j] ∧
          a = some (if weighted then distV d es[i] es[j] else 1)) ∧
      r.vis.Nodup ∧
      (∀ i j, (i, j) ∈ r.vis ↔
        i < j ∧ ∃ (hi : i < es.length) (hj : j < es.length), ∃ n, n ∈ es[i] ∧ n ∈ es[j]) := by
  obtain ⟨hA, hC, hB⟩ := incident_table_ok nodes es hes hmem
  exact lineGraphFrom_spec_pos es d s weighted _ hes hnd hs hA hC hB

/-- the same for ANY table of incident lists (one duplicate-free list of hyperedges with a common node per node, every
two intersecting hyperedges together in some list): the vertex list and every adjacency look-up do not depend on the
order in which `get_incident_edges` lists the hyperedges (the order of the entries of `g.adj` does) -/
theorem C10_line_any_incident_order (es : List Edge) (d : Dist) (s : Rat) (weighted : Bool) (adj : List (List Edge))
    (hes : es.Nodup) (hnd : ∀ e ∈ es, e.Nodup) (hs : 0 < s)
    (hA : ∀ l ∈ adj, l.Nodup ∧ ∀ e ∈ l, e ∈ es)
    (hC : ∀ l ∈ adj, ∀ a ∈ l, ∀ b ∈ l, ∃ n, n ∈ a ∧ n ∈ b)
    (hB : ∀ a ∈ es, ∀ b ∈ es, (∃ n, n ∈ a ∧ n ∈ b) → ∃ l ∈ adj, a ∈ l ∧ b ∈ l) :
    ∃ r, lineGraphFrom es d s weighted adj = some r ∧
      AL.keys r.g.nodes = List.range es.length ∧
      (∀ i j a, AL.get? r.g.adj (i, j) = some a ↔
        ∃ (hi : i < es.length) (hj : j < es.length), i ≠ j ∧ s ≤ distV d es[i] es[j] ∧
          a = some (if weighted then distV d es[i] es[j] else 1)) :=
  let ⟨r, h1, h2, h3, _⟩ := lineGraphFrom_spec_pos es d s weighted adj hes hnd hs hA hC hB
  ⟨r, h1, h2, h3⟩

/-- the id table returned with the line graphs lists the hyperedges by position -/
theorem C10_id_table {α : Type} (es : List α) (i : Nat) : AL.get? (idTable es) i = es[i]? := by
  simpa [idTable] using get?_zipIdx_map id (fun _ _ h => h) id es 0 i

example : ∃ r, lineGraph [1, 2, 3, 4, 5, 9] [[1, 2], [1, 2, 3], [3, 4, 5]] .jaccard (1 / 2) true = some r ∧
    AL.get? r.g.adj (1, 0) = some (some (2 / 3)) ∧ AL.get? r.g.adj (1, 2) = none ∧ (0, 1) ∈ r.vis ∧ (1, 2) ∈ r.vis := by
  obtain ⟨r, h1, _, h3, _, h5⟩ := C10_line [1, 2, 3, 4, 5, 9] [[1, 2], [1, 2, 3], [3, 4, 5]] .jaccard (1 / 2) true
    (by decide) (by decide) (by decide) (by norm_num)
  have i10 : interSize [1, 2, 3] [1, 2] = 2 := by decide
  have u10 : unionSize [1, 2, 3] [1, 2] = 3 := by decide
  have i12 : interSize [1, 2, 3] [3, 4, 5] = 1 := by decide
  have u12 : unionSize [1, 2, 3] [3, 4, 5] = 5 := by decide
  refine ⟨r, h1, ?_, ?_, ?_, ?_⟩
  · rw [h3]; refine ⟨by decide, by decide, by decide, ?_, ?_⟩
    · simp [distV, i10, u10]; norm_num
    · simp [distV, i10, u10]
  · exact get?_eq_none_of_iff (h3 1 2) fun a ⟨_, _, _, hle, _⟩ => by simp [distV, i12, u12] at hle; norm_num at hle
  · rw [h5]; exact ⟨by decide, by decide, by decide, 1, by decide, by decide⟩
  · rw [h5]; exact ⟨by decide, by decide, by decide, 3, by decide, by decide⟩

/-! ## the incident table of the object at hand

`line_graph` reads `h.get_incident_edges(n)`, a second piece of container state next to `get_edges()`.  For an object
reached through a history (removals, a copy whose original is edited afterwards, ...) the harness sends the table the
real object returns to the driver, which evaluates `incidentOK` on it and runs `lineGraphFrom` on that very table. -/

/-- `incidentOK` decides exactly the three hypotheses of `C10_line_any_incident_order` -/
theorem C10_incidentOK_iff (es : List Edge) (adj : List (List Edge)) :
    incidentOK es adj = true ↔
      (∀ l ∈ adj, l.Nodup ∧ ∀ e ∈ l, e ∈ es) ∧
      (∀ l ∈ adj, ∀ a ∈ l, ∀ b ∈ l, ∃ n, n ∈ a ∧ n ∈ b) ∧
      (∀ a ∈ es, ∀ b ∈ es, (∃ n, n ∈ a ∧ n ∈ b) → ∃ l ∈ adj, a ∈ l ∧ b ∈ l) := by
  -- the third check reads `!sharesNode a b || found` for "if they share a node then found"
  simp only [incidentOK, incListsOK, incSharesOK, incCoversOK, Bool.and_eq_true, List.all_eq_true, decide_eq_true_eq,
    List.contains_iff_mem, and_assoc, Bool.or_eq_true, Bool.not_eq_true', ← Bool.not_eq_true, ← imp_iff_not_or]
  simp only [sharesNode_iff, List.any_eq_true, Bool.and_eq_true, List.contains_iff_mem]

/-- the line graph computed from a table that passed the check is the right one: vertices `0..m-1`, `i — j` exactly
when `i ≠ j` and the value of `e_i, e_j` is at least `s`, with the value (or 1) as weight -/
theorem C10_line_checked_incident_table (es : List Edge) (d : Dist) (s : Rat) (weighted : Bool)
    (adj : List (List Edge)) (hes : es.Nodup) (hnd : ∀ e ∈ es, e.Nodup) (hs : 0 < s)
    (hok : incidentOK es adj = true) :
    ∃ r, lineGraphFrom es d s weighted adj = some r ∧
      AL.keys r.g.nodes = List.range es.length ∧
      (∀ i j a, AL.get? r.g.adj (i, j) = some a ↔
        ∃ (hi : i < es.length) (hj : j < es.length), i ≠ j ∧ s ≤ distV d es[i] es[j] ∧
          a = some (if weighted then distV d es[i] es[j] else 1)) :=
  let ⟨hA, hC, hB⟩ := (C10_incidentOK_iff es adj).1 hok
  C10_line_any_incident_order es d s weighted adj hes hnd hs hA hC hB

/-- the table of a container whose incident lists are what `get_edges()` says (any node order) passes the check -/
theorem C10_incidentOK_of_listing (nodes : List Nat) (es : List Edge) (hes : es.Nodup)
    (hmem : ∀ e ∈ es, ∀ n ∈ e, n ∈ nodes) : incidentOK es (nodes.map (incident es)) = true := by
  rw [C10_incidentOK_iff]
  exact incident_table_ok nodes es hes hmem

/-- what a STALE table does (e.g. the per-node id lists of a copy that shares them with its edited original): if the
lists are still sound (members are hyperedges of `get_edges()` with a common node) but two hyperedges `e_i`, `e_j` are
together in no list, then `line_graph` returns a graph without the edge `i — j`, whatever their value and whatever
the threshold - so the third conjunct of `incidentOK` is necessary for `C10_line_checked_incident_table` -/
theorem C10_line_stale_incident_table (es : List Edge) (d : Dist) (s : Rat) (weighted : Bool)
    (adj : List (List Edge)) (hnd : ∀ e ∈ es, e.Nodup)
    (hA : ∀ l ∈ adj, ∀ e ∈ l, e ∈ es)
    (hC : ∀ l ∈ adj, ∀ a ∈ l, ∀ b ∈ l, ∃ n, n ∈ a ∧ n ∈ b)
    (i j : Nat) (hi : i < es.length) (hj : j < es.length)
    (hmiss : ∀ l ∈ adj, ¬ (es[i] ∈ l ∧ es[j] ∈ l)) :
    ∃ r, lineGraphFrom es d s weighted adj = some r ∧ AL.get? r.g.adj (i, j) = none := by
  obtain ⟨r, hr, hI⟩ := lg_fold_inv (d := d) (s := s) (weighted := weighted) hnd _ (pairs_mem_shares hA hC)
  refine ⟨r, hr, Option.eq_none_iff_forall_ne_some.2 fun a h => ?_⟩
  -- an edge `i — j` comes from a pair taken from one of the lists
  obtain ⟨a', b', hp, rfl, rfl⟩ := (pairKey_mem_keys es adj _ _).1 ((hI.adj _ _ a).1 h).1
  obtain ⟨l, hl, hm⟩ : ∃ l ∈ adj, a' ∈ l ∧ b' ∈ l := by
    rcases hp with hp | hp <;> obtain ⟨l, hl, h⟩ := List.mem_flatMap.1 hp
    · exact ⟨l, hl, mem_pairsOf_mem h⟩
    · exact ⟨l, hl, (mem_pairsOf_mem h).symm⟩
  refine hmiss l hl ⟨?_, ?_⟩
  · rw [getElem_idOf (hA l hl _ hm.1)]; exact hm.1
  · rw [getElem_idOf (hA l hl _ hm.2)]; exact hm.2

/-- the seeded situation in small: hyperedges `(1,2,3)`, `(2,3,4)`, `(3,4,5)` over the nodes `1..5`; the fresh table
passes the check; the table in which `(2,3,4)` was dropped from every list (it was removed from the object that
shares the lists) fails it, and the line graph computed from it has lost both links of that hyperedge -/
example : incidentOK [[1, 2, 3], [2, 3, 4], [3, 4, 5]] ([1, 2, 3, 4, 5].map (incident [[1, 2, 3], [2, 3, 4], [3, 4, 5]])) = true ∧
    incidentOK [[1, 2, 3], [2, 3, 4], [3, 4, 5]] [[[1, 2, 3]], [[1, 2, 3]], [[1, 2, 3], [3, 4, 5]], [[3, 4, 5]], [[3, 4, 5]]] = false ∧
    (∃ r, lineGraphFrom [[1, 2, 3], [2, 3, 4], [3, 4, 5]] .intersection 1 false
        [[[1, 2, 3]], [[1, 2, 3]], [[1, 2, 3], [3, 4, 5]], [[3, 4, 5]], [[3, 4, 5]]] = some r ∧
      AL.get? r.g.adj (0, 1) = none ∧ AL.get? r.g.adj (1, 2) = none) := by
  refine ⟨by decide, by decide, ?_⟩
  obtain ⟨r, hr, h01⟩ := C10_line_stale_incident_table [[1, 2, 3], [2, 3, 4], [3, 4, 5]] .intersection 1 false
    [[[1, 2, 3]], [[1, 2, 3]], [[1, 2, 3], [3, 4, 5]], [[3, 4, 5]], [[3, 4, 5]]] (by decide) (by decide) (by decide)
    0 1 (by decide) (by decide) (by decide)
  obtain ⟨r', hr', h12⟩ := C10_line_stale_incident_table [[1, 2, 3], [2, 3, 4], [3, 4, 5]] .intersection 1 false
    [[[1, 2, 3]], [[1, 2, 3]], [[1, 2, 3], [3, 4, 5]], [[3, 4, 5]], [[3, 4, 5]]] (by decide) (by decide) (by decide)
    1 2 (by decide) (by decide) (by decide)
  rw [hr] at hr'; cases hr'
  exact ⟨r, hr, h01, h12⟩

/-! ### every threshold, and corollaries of the characterisation -/

/-- **`line_graph` for EVERY threshold** (also `s ≤ 0`, outside the property's quantifier): `i — j` is an edge exactly when
`i ≠ j`, the two hyperedges share a node AND their value is at least `s` - the pair enumeration through the incident
lists never evaluates disjoint hyperedges, so for `s ≤ 0` the result is NOT the complete graph.  For `s > 0` the
"share a node" clause is implied by the value (`C10_line`). -/
theorem C10_line_all_thresholds (nodes : List Nat) (es : List Edge) (d : Dist) (s : Rat) (weighted : Bool)
    (hes : es.Nodup) (hnd : ∀ e ∈ es, e.Nodup) (hmem : ∀ e ∈ es, ∀ n ∈ e, n ∈ nodes) :
    ∃ r, lineGraph nodes es d s weighted = some r ∧
      AL.keys r.g.nodes = List.range es.length ∧
      (∀ i j a, AL.get? r.g.adj (i, j) = some a ↔
        ∃ (hi : i < es.length) (hj : j < es.length), i ≠ j ∧ (∃ n, n ∈ es[i] ∧ n ∈ es[j]) ∧
          s ≤ distV d es[i] es[j] ∧ a = some (if weighted then distV d es[i] es[j] else 1)) := by
  obtain ⟨hA, hC, hB⟩ := incident_table_ok nodes es hes hmem
  obtain ⟨r, h1, h2, h3, _⟩ := lineGraphFrom_spec es d s weighted _ hes hnd hA hC hB
  exact ⟨r, h1, h2, h3⟩

/-- the same, read by HYPEREDGE instead of by id: for two listed hyperedges `e`, `f` the vertices `edge_to_id[e]`,
`edge_to_id[f]` are joined exactly when `e ≠ f`, they share a node and their value is at least `s`.  The right-hand
side mentions neither the node list nor the order of `get_edges()`. -/
theorem C10_line_by_hyperedge (nodes : List Nat) (es : List Edge) (d : Dist) (s : Rat) (weighted : Bool)
    (hes : es.Nodup) (hnd : ∀ e ∈ es, e.Nodup) (hmem : ∀ e ∈ es, ∀ n ∈ e, n ∈ nodes) :
    ∃ r, lineGraph nodes es d s weighted = some r ∧
      ∀ e ∈ es, ∀ f ∈ es, ∀ a, AL.get? r.g.adj (idOf es e, idOf es f) = some a ↔
        e ≠ f ∧ (∃ n, n ∈ e ∧ n ∈ f) ∧ s ≤ distV d e f ∧ a = some (if weighted then distV d e f else 1) := by
  obtain ⟨r, hr, _, h3⟩ := C10_line_all_thresholds nodes es d s weighted hes hnd hmem
  refine ⟨r, hr, ?_⟩
  intro e he f hf a
  rw [h3]
  constructor
  · rintro ⟨hi, hj, hne, hsh, hle, ha⟩
    rw [getElem_idOf he, getElem_idOf hf] at hsh hle ha
    exact ⟨fun h => hne (by rw [h]), hsh, hle, ha⟩
  · rintro ⟨hne, hsh, hle, ha⟩
    refine ⟨idOf_lt he, idOf_lt hf, fun h => hne (idOf_inj he hf h), ?_, ?_, ?_⟩
    · rw [getElem_idOf he, getElem_idOf hf]; exact hsh
    · rw [getElem_idOf he, getElem_idOf hf]; exact hle
    · rw [getElem_idOf he, getElem_idOf hf]; exact ha

/-- **insertion order does not matter**: two listings of the same hypergraph (hyperedge lists permutations of each other,
ANY two node lists that contain all members) give line graphs that join the same hyperedges with the same weights - only
the vertex numbers `edge_to_id` move with the listing. -/
theorem C10_line_listing_order_invariant (nodes nodes' : List Nat) (es es' : List Edge) (d : Dist) (s : Rat)
    (weighted : Bool) (hp : es.Perm es') (hes : es.Nodup) (hnd : ∀ e ∈ es, e.Nodup)
    (hmem : ∀ e ∈ es, ∀ n ∈ e, n ∈ nodes) (hmem' : ∀ e ∈ es, ∀ n ∈ e, n ∈ nodes') :
    ∃ r r', lineGraph nodes es d s weighted = some r ∧ lineGraph nodes' es' d s weighted = some r' ∧
      ∀ e ∈ es, ∀ f ∈ es, ∀ a,
        AL.get? r'.g.adj (idOf es' e, idOf es' f) = some a ↔ AL.get? r.g.adj (idOf es e, idOf es f) = some a := by
  obtain ⟨r, hr, h⟩ := C10_line_by_hyperedge nodes es d s weighted hes hnd hmem
  obtain ⟨r', hr', h'⟩ := C10_line_by_hyperedge nodes' es' d s weighted (hp.nodup_iff.1 hes)
    (fun e he => hnd e (hp.mem_iff.2 he)) (fun e he => hmem' e (hp.mem_iff.2 he))
  refine ⟨r, r', hr, hr', ?_⟩
  intro e he f hf a
  rw [h e he f hf, h' e (hp.mem_iff.1 he) f (hp.mem_iff.1 hf)]

theorem C10_line_symmetric_loop_free (nodes : List Nat) (es : List Edge) (d : Dist) (s : Rat) (weighted : Bool)
    (hes : es.Nodup) (hnd : ∀ e ∈ es, e.Nodup) (hmem : ∀ e ∈ es, ∀ n ∈ e, n ∈ nodes) :
    ∃ r, lineGraph nodes es d s weighted = some r ∧
      (∀ i j a, AL.get? r.g.adj (i, j) = some a → AL.get? r.g.adj (j, i) = some a) ∧
      (∀ i, AL.get? r.g.adj (i, i) = none) := by
  obtain ⟨r, hr, _, h3⟩ := C10_line_all_thresholds nodes es d s weighted hes hnd hmem
  refine ⟨r, hr, ?_, ?_⟩
  · intro i j a h
    obtain ⟨hi, hj, hne, ⟨n, h1, h2⟩, hle, ha⟩ := (h3 i j a).1 h
    have hc := distV_comm d es[i] es[j] (hnd _ (List.getElem_mem hi)) (hnd _ (List.getElem_mem hj))
    refine (h3 j i a).2 ⟨hj, hi, hne.symm, ⟨n, h2, h1⟩, ?_, ?_⟩
    · rw [← hc]; exact hle
    · rw [← hc]; exact ha
  · intro i
    exact get?_eq_none_of_iff (h3 i i) fun a ⟨_, _, hne, _⟩ => hne rfl

/-- **monotone in `s`**: raising the threshold only removes edges; the edges that stay keep their attribute -/
theorem C10_line_monotone_in_s (nodes : List Nat) (es : List Edge) (d : Dist) (s s' : Rat) (weighted : Bool)
    (hes : es.Nodup) (hnd : ∀ e ∈ es, e.Nodup) (hmem : ∀ e ∈ es, ∀ n ∈ e, n ∈ nodes) (hss : s ≤ s') :
    ∃ r r', lineGraph nodes es d s weighted = some r ∧ lineGraph nodes es d s' weighted = some r' ∧
      ∀ i j a, AL.get? r'.g.adj (i, j) = some a → AL.get? r.g.adj (i, j) = some a := by
  obtain ⟨r, hr, _, h3⟩ := C10_line_all_thresholds nodes es d s weighted hes hnd hmem
  obtain ⟨r', hr', _, h3'⟩ := C10_line_all_thresholds nodes es d s' weighted hes hnd hmem
  refine ⟨r, r', hr, hr', ?_⟩
  intro i j a h
  obtain ⟨hi, hj, hne, hsh, hle, ha⟩ := (h3' i j a).1 h
  exact (h3 i j a).2 ⟨hi, hj, hne, hsh, le_trans hss hle, ha⟩

/-- `weighted` changes the attribute only: the weighted and the unweighted line graph have the same edges -/
theorem C10_line_weighted_same_edges (nodes : List Nat) (es : List Edge) (d : Dist) (s : Rat)
    (hes : es.Nodup) (hnd : ∀ e ∈ es, e.Nodup) (hmem : ∀ e ∈ es, ∀ n ∈ e, n ∈ nodes) :
    ∃ r r', lineGraph nodes es d s false = some r ∧ lineGraph nodes es d s true = some r' ∧
      ∀ i j, (∃ a, AL.get? r'.g.adj (i, j) = some a) ↔ AL.get? r.g.adj (i, j) = some (some 1) := by
  obtain ⟨r, hr, _, h3⟩ := C10_line_all_thresholds nodes es d s false hes hnd hmem
  obtain ⟨r', hr', _, h3'⟩ := C10_line_all_thresholds nodes es d s true hes hnd hmem
  refine ⟨r, r', hr, hr', ?_⟩
  intro i j
  constructor
  · rintro ⟨a, h⟩
    obtain ⟨hi, hj, hne, hsh, hle, _⟩ := (h3' i j a).1 h
    exact (h3 i j _).2 ⟨hi, hj, hne, hsh, hle, by simp⟩
  · intro h
    obtain ⟨hi, hj, hne, hsh, hle, _⟩ := (h3 i j _).1 h
    exact ⟨_, (h3' i j _).2 ⟨hi, hj, hne, hsh, hle, rfl⟩⟩

/-- **`s = 1` with the intersection distance is the intersection graph** (and so is every `s ≤ 1`): `i — j` exactly when
the hyperedges `i ≠ j` share a node -/
theorem C10_line_intersection_graph (nodes : List Nat) (es : List Edge) (s : Rat) (weighted : Bool)
    (hes : es.Nodup) (hnd : ∀ e ∈ es, e.Nodup) (hmem : ∀ e ∈ es, ∀ n ∈ e, n ∈ nodes) (hs : s ≤ 1) :
    ∃ r, lineGraph nodes es .intersection s weighted = some r ∧
      ∀ i j, (∃ a, AL.get? r.g.adj (i, j) = some a) ↔
        ∃ (hi : i < es.length) (hj : j < es.length), i ≠ j ∧ ∃ n, n ∈ es[i] ∧ n ∈ es[j] :=
  line_edges_of_le nodes es .intersection s weighted hes hnd hmem fun a b hsh => by
    have hpos : 0 < interSize a b := (interSize_pos_iff a b).2 hsh
    have : (1 : Rat) ≤ (interSize a b : Rat) := by exact_mod_cast hpos
    exact le_trans hs this

/-- **a threshold `s ≤ 0`** (outside the quantifier) does not give the complete graph: still only hyperedges that share a
node are joined, whatever the distance -/
theorem C10_line_nonpositive_threshold (nodes : List Nat) (es : List Edge) (d : Dist) (s : Rat) (weighted : Bool)
    (hes : es.Nodup) (hnd : ∀ e ∈ es, e.Nodup) (hmem : ∀ e ∈ es, ∀ n ∈ e, n ∈ nodes) (hs : s ≤ 0) :
    ∃ r, lineGraph nodes es d s weighted = some r ∧
      ∀ i j, (∃ a, AL.get? r.g.adj (i, j) = some a) ↔
        ∃ (hi : i < es.length) (hj : j < es.length), i ≠ j ∧ ∃ n, n ∈ es[i] ∧ n ∈ es[j] :=
  line_edges_of_le nodes es d s weighted hes hnd hmem fun a b _ => le_trans hs (by
    cases d with
    | intersection => simp [distV]
    | jaccard => simp only [distV]; exact div_nonneg (Nat.cast_nonneg _) (Nat.cast_nonneg _))

/-- **relabelling**: renaming the nodes by an injective map changes nothing in the line graph (same vertices, same
edges, same weights): the routine sees the nodes only through membership -/
theorem C10_line_relabel (f : Nat → Nat) (hf : Function.Injective f) (nodes : List Nat) (es : List Edge) (d : Dist)
    (s : Rat) (weighted : Bool) (hes : es.Nodup) (hnd : ∀ e ∈ es, e.Nodup) (hmem : ∀ e ∈ es, ∀ n ∈ e, n ∈ nodes) :
    ∃ r r', lineGraph nodes es d s weighted = some r ∧
      lineGraph (nodes.map f) (es.map (List.map f)) d s weighted = some r' ∧
      AL.keys r'.g.nodes = AL.keys r.g.nodes ∧
      ∀ i j a, AL.get? r'.g.adj (i, j) = some a ↔ AL.get? r.g.adj (i, j) = some a := by
  obtain ⟨r, hr, hk, h3⟩ := C10_line_all_thresholds nodes es d s weighted hes hnd hmem
  have hinj : Function.Injective (List.map f) := List.map_injective_iff.2 hf
  obtain ⟨r', hr', hk', h3'⟩ := C10_line_all_thresholds (nodes.map f) (es.map (List.map f)) d s weighted
    (hes.map hinj)
    (by intro e he; obtain ⟨e0, he0, rfl⟩ := List.mem_map.1 he; exact (hnd e0 he0).map hf)
    (by intro e he n hn; obtain ⟨e0, he0, rfl⟩ := List.mem_map.1 he
        obtain ⟨n0, hn0, rfl⟩ := List.mem_map.1 hn; exact List.mem_map.2 ⟨n0, hmem e0 he0 n0 hn0, rfl⟩)
  simp only [List.length_map, List.getElem_map, distV_map hf, shares_map hf] at h3'
  exact ⟨r, r', hr, hr', by rw [hk, hk', List.length_map], fun i j a => (h3' i j a).trans (h3 i j a).symm⟩

/-- **the Jaccard line graph is a subgraph of the intersection graph**, the similarity of two joined hyperedges lies in
`[s, 1)`, and for `s ≥ 1` it has no edge at all: two distinct canonical hyperedges never have Jaccard similarity 1 -/
theorem C10_line_jaccard_range (nodes : List Nat) (es : List Edge) (s : Rat) (weighted : Bool)
    (hes : es.Nodup) (hsorted : ∀ e ∈ es, e.Pairwise (· < ·)) (hmem : ∀ e ∈ es, ∀ n ∈ e, n ∈ nodes) (hs : 0 < s) :
    ∃ r, lineGraph nodes es .jaccard s weighted = some r ∧
      (∀ i j a, AL.get? r.g.adj (i, j) = some a →
        ∃ (hi : i < es.length) (hj : j < es.length), (∃ n, n ∈ es[i] ∧ n ∈ es[j]) ∧
          s ≤ distV .jaccard es[i] es[j] ∧ distV .jaccard es[i] es[j] < 1) ∧
      (1 ≤ s → ∀ i j, AL.get? r.g.adj (i, j) = none) := by
  have hnd : ∀ e ∈ es, e.Nodup := fun e he => NatSort.nodup_of_strict (hsorted e he)
  obtain ⟨r, hr, _, h3, _⟩ := C10_line nodes es .jaccard s weighted hes hnd hmem hs
  have hlt : ∀ i j (hi : i < es.length) (hj : j < es.length), i ≠ j → distV .jaccard es[i] es[j] < 1 :=
    fun i j hi hj hne => jaccard_lt_one (hsorted _ (List.getElem_mem hi)) (hsorted _ (List.getElem_mem hj))
      (fun h => hne ((hes.getElem_inj_iff).1 h))
  refine ⟨r, hr, ?_, ?_⟩
  · intro i j a h
    obtain ⟨hi, hj, hne, hle, _⟩ := (h3 i j a).1 h
    exact ⟨hi, hj, shares_of_le_distV hs hle, hle, hlt i j hi hj hne⟩
  · intro h1 i j
    exact get?_eq_none_of_iff (h3 i j) fun a ⟨hi, hj, hne, hle, _⟩ =>
      absurd (lt_of_le_of_lt (le_trans h1 hle) (hlt i j hi hj hne)) (lt_irrefl _)

/-- With an unknown `distance` string the local `_distance` returns `None` and `None >= s` raises `TypeError` - but only
when a pair is evaluated: `line_graph` raises exactly when two distinct hyperedges share a node, and otherwise returns
the edgeless graph on `0..m-1`. -/
theorem C10_line_unknown_distance (nodes : List Nat) (es : List Edge) (hes : es.Nodup)
    (hmem : ∀ e ∈ es, ∀ n ∈ e, n ∈ nodes) :
    (lineGraphUnknown nodes es = none ↔ ∃ e ∈ es, ∃ f ∈ es, e ≠ f ∧ ∃ n, n ∈ e ∧ n ∈ f) ∧
    (∀ r, lineGraphUnknown nodes es = some r →
      AL.keys r.g.nodes = List.range es.length ∧ r.g.adj = [] ∧ r.vis = []) := by
  obtain ⟨hA, hC, hB⟩ := incident_table_ok nodes es hes hmem
  unfold lineGraphUnknown
  rw [lineGraphUnknownFrom_eq]
  -- a pair is evaluated exactly when two distinct hyperedges are together in an incident list
  refine ite_some_none_spec ⟨fun hne => ?_, ?_⟩ ⟨keys_emptyOn _, adj_emptyOn _, rfl⟩
  · obtain ⟨⟨e, f⟩, hp⟩ := List.exists_mem_of_ne_nil _ hne
    obtain ⟨l, hl, hpl⟩ := List.mem_flatMap.1 hp
    have hm := mem_pairsOf_mem hpl
    exact ⟨e, (hA l hl).2 e hm.1, f, (hA l hl).2 f hm.2, mem_pairsOf_ne (hA l hl).1 hpl, hC l hl e hm.1 f hm.2⟩
  · rintro ⟨e, he, f, hf, hne, hsh⟩ hnil
    obtain ⟨l, hl, h1, h2⟩ := hB e he f hf hsh
    have := (mem_flatMap_pairsOf (fun l hl => (hA l hl).1) e f).2 ⟨hne, l, hl, h1, h2⟩
    rw [hnil] at this
    simp at this

/-- threshold `-1` (Jaccard): the disjoint hyperedges `0`, `2` are NOT joined, the intersecting ones are -/
example : ∃ r, lineGraph [1, 2, 3, 4, 5, 9] [[1, 2], [1, 2, 3], [3, 4, 5]] .jaccard (-1) false = some r ∧
    (¬ ∃ a, AL.get? r.g.adj (0, 2) = some a) ∧ (∃ a, AL.get? r.g.adj (1, 2) = some a) := by
  obtain ⟨r, hr, h⟩ := C10_line_nonpositive_threshold [1, 2, 3, 4, 5, 9] [[1, 2], [1, 2, 3], [3, 4, 5]] .jaccard (-1) false
    (by decide) (by decide) (by decide) (by norm_num)
  refine ⟨r, hr, ?_, ?_⟩
  · rw [h]; rintro ⟨_, _, _, n, h1, h2⟩
    revert h1 h2; simp; omega
  · rw [h]; exact ⟨by decide, by decide, by decide, 3, by decide, by decide⟩

/-- relabelling `n ↦ n + 10` and a reversed listing: hypotheses satisfiable, statements non-trivial (an edge exists) -/
example : (∃ r r', lineGraph [1, 2, 3, 4, 5] [[1, 2], [1, 2, 3], [3, 4, 5]] .intersection 1 true = some r ∧
      lineGraph [11, 12, 13, 14, 15] [[11, 12], [11, 12, 13], [13, 14, 15]] .intersection 1 true = some r' ∧
      (AL.get? r'.g.adj (0, 1) = some (some 2) ↔ AL.get? r.g.adj (0, 1) = some (some 2))) ∧
    AL.get? (clique false [11, 12, 13] [[11, 12], [12, 13]]).adj (11, 12) = some none ∧
    (∃ r r', lineGraph [1, 2, 3, 4, 5] [[1, 2], [1, 2, 3], [3, 4, 5]] .intersection 1 true = some r ∧
      lineGraph [5, 4, 3, 2, 1] [[3, 4, 5], [1, 2, 3], [1, 2]] .intersection 1 true = some r' ∧
      (AL.get? r'.g.adj (2, 1) = some (some 2) ↔ AL.get? r.g.adj (0, 1) = some (some 2))) := by
  refine ⟨?_, by decide, ?_⟩
  · obtain ⟨r, r', h1, h2, _, h4⟩ := C10_line_relabel (· + 10) (fun a b h => by simpa using h) [1, 2, 3, 4, 5]
      [[1, 2], [1, 2, 3], [3, 4, 5]] .intersection 1 true (by decide) (by decide) (by decide)
    exact ⟨r, r', h1, h2, h4 0 1 _⟩
  · obtain ⟨r, r', h1, h2, h3⟩ := C10_line_listing_order_invariant [1, 2, 3, 4, 5] [5, 4, 3, 2, 1]
      [[1, 2], [1, 2, 3], [3, 4, 5]] [[3, 4, 5], [1, 2, 3], [1, 2]] .intersection 1 true (by decide) (by decide) (by decide)
      (by decide) (by decide)
    exact ⟨r, r', h1, h2, h3 [1, 2] (by decide) [1, 2, 3] (by decide) _⟩

/-- Jaccard at `s = 1`: hypotheses satisfiable, the nested hyperedges `{1,2} ⊂ {1,2,3}` are not joined -/
example : ∃ r, lineGraph [1, 2, 3, 4, 5] [[1, 2], [1, 2, 3], [3, 4, 5]] .jaccard 1 true = some r ∧
    AL.get? r.g.adj (0, 1) = none := by
  obtain ⟨r, hr, _, h⟩ := C10_line_jaccard_range [1, 2, 3, 4, 5] [[1, 2], [1, 2, 3], [3, 4, 5]] 1 true
    (by decide) (by decide) (by decide) (by norm_num)
  exact ⟨r, hr, h (le_refl _) 0 1⟩

/-! ## simplicial complex -/

/-- The hyperedges of `simplicial_complex(h)` are exactly the canonical (strictly increasing) tuples whose members all
lie in one hyperedge of `h` - the downward closure; the listing has no repetition.  So it contains every hyperedge
and every non-empty subset of every hyperedge, and each non-empty member is a subset of an input hyperedge
(corollaries below).  It also contains the empty tuple as soon as `h` has a hyperedge (the property only speaks of
non-empty members).  Hypothesis: hyperedges as returned by `get_edges()`, i.e. sorted and duplicate-free. -/
theorem C10_simplicial (es : List Edge) (hsorted : ∀ e ∈ es, e.Pairwise (· < ·)) :
    (∀ k, k ∈ simplicial es ↔ k.Pairwise (· < ·) ∧ ∃ e ∈ es, ∀ x ∈ k, x ∈ e) ∧ (simplicial es).Nodup := by
  refine ⟨fun k => ?_, nodup_simplicial es⟩
  rw [mem_simplicial_iff es hsorted]
  constructor
  · rintro ⟨e, he, hs⟩; exact ⟨(hsorted e he).sublist hs, e, he, fun x hx => hs.subset hx⟩
  · rintro ⟨hp, e, he, hsub⟩; exact ⟨e, he, NatSort.sublist_of_strict_subset hp (hsorted e he) hsub⟩

theorem C10_simplicial_contains_edges (es : List Edge) (hsorted : ∀ e ∈ es, e.Pairwise (· < ·)) (e : Edge)
    (he : e ∈ es) : e ∈ simplicial es :=
  ((C10_simplicial es hsorted).1 e).2 ⟨hsorted e he, e, he, fun _ h => h⟩

theorem C10_simplicial_downward (es : List Edge) (hsorted : ∀ e ∈ es, e.Pairwise (· < ·)) (e k : Edge)
    (he : e ∈ es) (hk : k.Pairwise (· < ·)) (hsub : ∀ x ∈ k, x ∈ e) : k ∈ simplicial es :=
  ((C10_simplicial es hsorted).1 k).2 ⟨hk, e, he, hsub⟩

theorem C10_simplicial_below (es : List Edge) (hsorted : ∀ e ∈ es, e.Pairwise (· < ·)) (k : Edge)
    (hk : k ∈ simplicial es) : ∃ e ∈ es, ∀ x ∈ k, x ∈ e :=
  (((C10_simplicial es hsorted).1 k).1 hk).2

/-- `get_all_subsets` lists exactly the sub-tuples (position-increasing selections) of its argument -/
theorem C10_all_subsets {α : Type} (e k : List α) : k ∈ allSubsets e ↔ k.Sublist e := mem_allSubsets e k

/-- the downward closure is a closure operator on listings: **idempotent** (closing the complex again adds nothing),
**monotone** (more hyperedges, larger complex) and **independent of the order** of `get_edges()` -/
theorem C10_simplicial_closure (es es' : List Edge) (hsorted : ∀ e ∈ es, e.Pairwise (· < ·))
    (hsorted' : ∀ e ∈ es', e.Pairwise (· < ·)) :
    (∀ k, k ∈ simplicial (simplicial es) ↔ k ∈ simplicial es) ∧
    ((∀ e ∈ es, e ∈ es') → ∀ k, k ∈ simplicial es → k ∈ simplicial es') ∧
    (es.Perm es' → ∀ k, k ∈ simplicial es' ↔ k ∈ simplicial es) := by
  have hS := (C10_simplicial es hsorted).1
  have hS' := (C10_simplicial es' hsorted').1
  refine ⟨?_, ?_, ?_⟩
  · have hSS := (C10_simplicial (simplicial es) (fun k hk => ((hS k).1 hk).1)).1
    intro k
    rw [hSS, hS]
    constructor
    · rintro ⟨hk, m, hm, hsub⟩
      obtain ⟨_, e, he, hme⟩ := (hS m).1 hm
      exact ⟨hk, e, he, fun x hx => hme x (hsub x hx)⟩
    · rintro ⟨hk, e, he, hsub⟩
      exact ⟨hk, e, C10_simplicial_contains_edges es hsorted e he, hsub⟩
  · intro hsub k hk
    obtain ⟨hp, e, he, hke⟩ := (hS k).1 hk
    exact (hS' k).2 ⟨hp, e, hsub e he, hke⟩
  · intro hp k
    rw [hS, hS']
    simp only [hp.mem_iff]

/-- **relabelling by an order-preserving map** (any renaming that keeps the sorted tuples sorted): the complex of the
renamed hypergraph is the renamed complex -/
theorem C10_simplicial_relabel (f : Nat → Nat) (hf : ∀ a b, a < b → f a < f b) (es : List Edge)
    (hsorted : ∀ e ∈ es, e.Pairwise (· < ·)) (k : Edge) :
    k ∈ simplicial (es.map (List.map f)) ↔ ∃ k0 ∈ simplicial es, k = k0.map f := by
  have hmapS : ∀ e ∈ es.map (List.map f), e.Pairwise (· < ·) := by
    intro e he; obtain ⟨e0, he0, rfl⟩ := List.mem_map.1 he
    exact List.pairwise_map.2 ((hsorted e0 he0).imp (fun h => hf _ _ h))
  -- sub-tuples of a renamed hyperedge are the renamed sub-tuples
  simp only [mem_simplicial_iff _ hmapS, mem_simplicial_iff es hsorted, List.mem_map, exists_exists_and_eq_and,
    List.sublist_map_iff]
  constructor
  · rintro ⟨e, he, k0, hs, rfl⟩; exact ⟨k0, ⟨e, he, hs⟩, rfl⟩
  · rintro ⟨k0, ⟨e, he, hs⟩, rfl⟩; exact ⟨e, he, k0, hs, rfl⟩

example : simplicial [[1, 2, 3], [3, 4]] = [[], [1], [2], [3], [1, 2], [1, 3], [2, 3], [1, 2, 3], [4], [3, 4]] := by
  decide +kernel

/-! ## bipartite projection -/

/-- The bipartite graph has the vertices `N0..N(n-1)` (attribute `bipartite=0`), one per node in `get_nodes()` order,
then `E0..E(m-1)` (`bipartite=1`), one per hyperedge in `get_edges()` order; `N_i — E_j` is an edge (in both directions
of the symmetric adjacency, without attributes) exactly when node `i` belongs to hyperedge `j`; there is no edge inside
a side; the id table maps `N_i` to node `i` and `E_j` to hyperedge `j` and nothing else.
Hypotheses: node list duplicate-free, members of hyperedges are nodes. -/
theorem C10_bipartite (nodes : List Nat) (es : List Edge) (hnd : nodes.Nodup)
    (hmem : ∀ e ∈ es, ∀ x ∈ e, x ∈ nodes) :
    AL.keys (bipartite nodes es).g.nodes = (List.range nodes.length).map BV.N ++ (List.range es.length).map BV.E ∧
    (∀ i, i < nodes.length → AL.get? (bipartite nodes es).g.nodes (.N i) = some (some 0)) ∧
    (∀ j, j < es.length → AL.get? (bipartite nodes es).g.nodes (.E j) = some (some 1)) ∧
    (∀ i j a, AL.get? (bipartite nodes es).g.adj (.N i, .E j) = some a ↔
      a = none ∧ ∃ x e, nodes[i]? = some x ∧ es[j]? = some e ∧ x ∈ e) ∧
    (∀ u v a, AL.get? (bipartite nodes es).g.adj (u, v) = some a → AL.get? (bipartite nodes es).g.adj (v, u) = some a) ∧
    (∀ i i', AL.get? (bipartite nodes es).g.adj (.N i, .N i') = none) ∧
    (∀ j j', AL.get? (bipartite nodes es).g.adj (.E j, .E j') = none) ∧
    (∀ i, AL.get? (bipartite nodes es).idToObj (.N i) = nodes[i]?.map Obj.node) ∧
    (∀ j, AL.get? (bipartite nodes es).idToObj (.E j) = es[j]?.map Obj.edge) := by
  have hI := bipartite_inv nodes hnd es hmem
  refine ⟨hI.keys, ?_, ?_, fun i j a => hI.adj (.N i) (.E j) a, hI.symm, hI.adj_same.1, hI.adj_same.2, fun i => hI.tab _, fun j => hI.tab _⟩
  · intro i hi; rw [hI.attr]; simp only [List.getElem?_eq_getElem hi]; rfl
  · intro j hj; rw [hI.attr]; simp only [List.getElem?_eq_getElem hj]; rfl

example : AL.keys (bipartite [10, 20, 30, 40] [[10, 20], [20, 30, 10], [30]]).g.nodes =
      [.N 0, .N 1, .N 2, .N 3, .E 0, .E 1, .E 2] ∧
    AL.get? (bipartite [10, 20, 30, 40] [[10, 20], [20, 30, 10], [30]]).g.adj (.N 2, .E 1) = some none ∧
    AL.get? (bipartite [10, 20, 30, 40] [[10, 20], [20, 30, 10], [30]]).g.adj (.N 2, .E 0) = none ∧
    AL.get? (bipartite [10, 20, 30, 40] [[10, 20], [20, 30, 10], [30]]).idToObj (.E 2) = some (.edge [30]) := by
  decide +kernel

/-- **the id table of the bipartite projection is a bijection** between the vertices of the graph and the nodes plus the
hyperedges: a vertex has an entry exactly when it is a vertex of the graph, two vertices never share an object, every node
and every hyperedge is the object of some vertex (node list and hyperedge list duplicate-free) -/
theorem C10_bipartite_id_table_bijection (nodes : List Nat) (es : List Edge) (hn : nodes.Nodup) (hes : es.Nodup)
    (hmem : ∀ e ∈ es, ∀ x ∈ e, x ∈ nodes) :
    (∀ v, (∃ o, AL.get? (bipartite nodes es).idToObj v = some o) ↔ v ∈ AL.keys (bipartite nodes es).g.nodes) ∧
    (∀ u v o, AL.get? (bipartite nodes es).idToObj u = some o → AL.get? (bipartite nodes es).idToObj v = some o → u = v) ∧
    (∀ x ∈ nodes, ∃ i, AL.get? (bipartite nodes es).idToObj (.N i) = some (.node x)) ∧
    (∀ e ∈ es, ∃ j, AL.get? (bipartite nodes es).idToObj (.E j) = some (.edge e)) := by
  have hI := bipartite_inv nodes hn es hmem
  refine ⟨fun v => ?_, fun u v o hu hv => ?_, fun x hx => ?_, fun e he => ?_⟩
  · -- both tables are read by position: `l[i]?.map _`
    rw [← Option.isSome_iff_exists, AL.mem_keys_iff, hI.tab, hI.attr]
    cases v <;> simp only [Option.isSome_map]
  · -- a node and a hyperedge are different objects; inside a kind, positions are told apart by the entries
    cases u <;> cases v <;> simp only [hI.tab] at hu hv
    · rw [getElem?_map_inj (fun _ _ h => Obj.node.inj h) hn hu hv]
    · obtain ⟨_, _, rfl⟩ := Option.map_eq_some_iff.1 hu
      obtain ⟨_, _, h⟩ := Option.map_eq_some_iff.1 hv; cases h
    · obtain ⟨_, _, rfl⟩ := Option.map_eq_some_iff.1 hu
      obtain ⟨_, _, h⟩ := Option.map_eq_some_iff.1 hv; cases h
    · rw [getElem?_map_inj (fun _ _ h => Obj.edge.inj h) hes hu hv]
  · obtain ⟨i, hi⟩ := List.getElem?_of_mem hx
    exact ⟨i, (hI.tab _).trans (congrArg (Option.map Obj.node) hi)⟩
  · obtain ⟨j, hj⟩ := List.getElem?_of_mem he
    exact ⟨j, (hI.tab _).trans (congrArg (Option.map Obj.edge) hj)⟩

example : AL.get? (bipartite [10, 20, 30, 40] [[10, 20], [20, 30, 10], [30]]).idToObj (.N 3) = some (.node 40) ∧
    AL.get? (bipartite [10, 20, 30, 40] [[10, 20], [20, 30, 10], [30]]).idToObj (.N 4) = none ∧
    AL.get? (bipartite [10, 20, 30, 40] [[10, 20], [20, 30, 10], [30]]).idToObj (.E 1) = some (.edge [20, 30, 10]) := by
  decide +kernel

/-! ### labels that are hyperedge tuples (D54)

Node labels are arbitrary hashable objects; a node may be labelled by a tuple that equals the node tuple of a hyperedge
(`tl e = some n`).  `C10_bipartite` above is about `bipartite`, whose `obj_to_id` holds node labels only (the upstream code from
28cc012 on): it needs no hypothesis about `tl`.  `bipartiteShared` keeps both kinds of keys in one table (the upstream code up to 28cc012). -/

/-- With the one shared table the routine is right whenever no node label equals a hyperedge tuple (all int / str labelled
hypergraphs): same graph and same id table as `bipartite`, for which `C10_bipartite` holds. -/
theorem C10_bipartite_shared_table_no_collision (tl : Edge → Option Nat) (nodes : List Nat) (es : List Edge)
    (hno : ∀ e ∈ es, tl e = none) :
    (bipartiteShared tl nodes es).g = (bipartite nodes es).g ∧
    (bipartiteShared tl nodes es).idToObj = (bipartite nodes es).idToObj := by
  have hmem : ∀ p ∈ es.zipIdx, tl p.1 = none := by
    intro p hp
    have := List.mem_zipIdx hp
    simp at this
    exact hno p.1 (by rw [this.2]; exact List.getElem_mem _)
  have h := bipShared_fold_sim tl es.zipIdx hmem
    (a := nodes.zipIdx.foldl bipNode {}) (b := nodes.zipIdx.foldl bipNode {}) ⟨rfl, rfl, fun _ => rfl⟩
  exact ⟨h.1, h.2.1⟩

/-- The hypothesis is necessary (witness of D54): nodes `1, 2, (1,2), (3,4)` (ranks 0..3), hyperedges `{1,2}` and
`{(1,2),(3,4)}`; the node of rank 2 IS the tuple of the first hyperedge.  With the shared table the second hyperedge is
joined to the vertex `E0` of the first hyperedge instead of the vertex `N2` of its member; `bipartite` joins
`E1 — N2` and has no `E — E` edge. -/
example :
    let tl : Edge → Option Nat := fun e => if e = [0, 1] then some 2 else none
    AL.get? (bipartiteShared tl [0, 1, 2, 3] [[0, 1], [2, 3]]).g.adj (.E 1, .E 0) = some none ∧
    AL.get? (bipartiteShared tl [0, 1, 2, 3] [[0, 1], [2, 3]]).g.adj (.E 1, .N 2) = none ∧
    AL.get? (bipartite [0, 1, 2, 3] [[0, 1], [2, 3]]).g.adj (.E 1, .N 2) = some none ∧
    AL.get? (bipartite [0, 1, 2, 3] [[0, 1], [2, 3]]).g.adj (.E 1, .E 0) = none := by
  decide +kernel

/-! ### degrees, the incidence matrix and its Gram matrices -/

/-- entries of the two Gram matrices of the binary incidence matrix of the listing: `(B·Bᵀ)[u][v]` is the number of
hyperedges that contain both `u` and `v` (diagonal: the degree of `u`, the length of `get_incident_edges(u)`);
`(Bᵀ·B)[a][b]` is `|a ∩ b|` (diagonal: the size of `a`). -/
theorem C10_gram_matrices (nodes : List Nat) (es : List Edge) (hn : nodes.Nodup) (hnd : ∀ e ∈ es, e.Nodup)
    (hmem : ∀ e ∈ es, ∀ n ∈ e, n ∈ nodes) :
    nodeGram nodes es = nodes.map (fun u => nodes.map (fun v => es.countP (fun e => e.contains u && e.contains v))) ∧
    (∀ u, cooc es u u = (incident es u).length) ∧
    edgeGram nodes es = es.map (fun a => es.map (fun b => interSize a b)) ∧
    (∀ e ∈ es, overlap nodes e e = e.length) := by
  refine ⟨?_, ?_, ?_, ?_⟩
  · unfold nodeGram
    apply List.map_congr_left; intro u _
    apply List.map_congr_left; intro v _
    exact cooc_eq es u v
  · intro u
    rw [cooc_eq]; unfold incident
    rw [List.countP_eq_length_filter]
    congr 1; apply List.filter_congr; intro e _; simp
  · unfold edgeGram
    apply List.map_congr_left; intro a ha
    apply List.map_congr_left; intro b _
    exact overlap_eq nodes a b hn (hnd a ha) (hmem a ha)
  · intro e he
    rw [overlap_eq nodes e e hn (hnd e he) (hmem e he), interSize_self]

/-- **degree identities**: in the bipartite projection the vertex `N_i` of a node has as many neighbours as the node has
incident hyperedges (`len(h.get_incident_edges(node))`, the node's degree), the vertex `E_j` of a hyperedge has as many
neighbours as the hyperedge has members (its size).  `degreeOf` is networkx's `g.degree(v)` on the (loop-free) graph.
Hypotheses: node list duplicate-free, members are nodes, hyperedges duplicate-free. -/
theorem C10_bipartite_degrees (nodes : List Nat) (es : List Edge) (hn : nodes.Nodup)
    (hmem : ∀ e ∈ es, ∀ x ∈ e, x ∈ nodes) (hnd : ∀ e ∈ es, e.Nodup) :
    (∀ i x, nodes[i]? = some x → (bipartite nodes es).g.degreeOf (.N i) = (incident es x).length) ∧
    (∀ j e, es[j]? = some e → (bipartite nodes es).g.degreeOf (.E j) = e.length) ∧
    (∀ i x, nodes[i]? = some x → (bipartite nodes es).g.degreeOf (.N i) = cooc es x x) ∧
    (∀ j e, es[j]? = some e → (bipartite nodes es).g.degreeOf (.E j) = overlap nodes e e) := by
  refine ⟨fun i x hx => bip_degree_N nodes es hn hmem i x hx, fun j e he => bip_degree_E nodes es hn hmem hnd j e he,
    ?_, ?_⟩
  · intro i x hx
    rw [bip_degree_N nodes es hn hmem i x hx, (C10_gram_matrices nodes es hn hnd hmem).2.1]
  · intro j e he
    rw [bip_degree_E nodes es hn hmem hnd j e he,
      (C10_gram_matrices nodes es hn hnd hmem).2.2.2 e (List.mem_of_getElem? he)]

/-- **handshake**: the degrees of the node vertices and the degrees of the hyperedge vertices of the bipartite projection
both add up to the number of incidences `Σ |e|` (= the number of edges of the bipartite graph) -/
theorem C10_bipartite_handshake (nodes : List Nat) (es : List Edge) (hn : nodes.Nodup)
    (hmem : ∀ e ∈ es, ∀ x ∈ e, x ∈ nodes) (hnd : ∀ e ∈ es, e.Nodup) :
    ((List.range nodes.length).map (fun i => (bipartite nodes es).g.degreeOf (.N i))).sum = (es.map List.length).sum ∧
    ((List.range es.length).map (fun j => (bipartite nodes es).g.degreeOf (.E j))).sum = (es.map List.length).sum := by
  obtain ⟨hN, hE, _, _⟩ := C10_bipartite_degrees nodes es hn hmem hnd
  constructor
  · rw [map_range_getElem nodes _ (fun x => (incident es x).length) hN]
    have h1 : nodes.map (fun x => (incident es x).length) = nodes.map (fun x => es.countP (fun e => e.contains x)) := by
      apply List.map_congr_left; intro x _; unfold incident; rw [List.countP_eq_length_filter]
    rw [h1, ListLib.sum_countP_comm nodes es (fun x e => e.contains x)]
    congr 1
    apply List.map_congr_left
    intro e he
    simpa only [List.contains_eq_mem] using ListLib.countP_mem_of_subset nodes e hn (hnd e he) (hmem e he)
  · rw [map_range_getElem es _ List.length hE]

/-- **the binary incidence matrix `B` is the adjacency of the bipartite projection**: `B[i][j] = 1` exactly when the vertices
`N_i`, `E_j` are joined, i.e. when node `i` belongs to hyperedge `j` (all other entries are 0); `B·Bᵀ` / `Bᵀ·B` are built
from its rows (`incRow`) and columns (`incCol` = the `j`-th entries of all rows) -/
theorem C10_incidence_matrix (nodes : List Nat) (es : List Edge) (hn : nodes.Nodup)
    (hmem : ∀ e ∈ es, ∀ x ∈ e, x ∈ nodes) :
    (∀ i j : Nat, ((incMatrix nodes es)[i]?.bind (fun row : List Nat => row[j]?)) = some 1 ↔
      AL.get? (bipartite nodes es).g.adj (.N i, .E j) = some none) ∧
    (∀ (i j b : Nat), ((incMatrix nodes es)[i]?.bind (fun row : List Nat => row[j]?)) = some b → b = 0 ∨ b = 1) ∧
    (∀ j e, es[j]? = some e → incCol nodes e = (incMatrix nodes es).map (fun row => row.getD j 0)) := by
  have hb := (C10_bipartite nodes es hn hmem).2.2.2.1
  refine ⟨fun i j => ?_, fun i j b => ?_, fun j e he => ?_⟩
  · rw [incMatrix_entry_iff, hb, eq_self, true_and]
    exact exists_congr fun x => exists_congr fun e => and_congr_right fun _ => and_congr_right fun _ => by
      split <;> simp [*]
  · rw [incMatrix_entry_iff]
    rintro ⟨x, e, -, -, rfl⟩
    split <;> simp
  · simp only [incCol, incMatrix, List.map_map]
    apply List.map_congr_left
    intro x _
    simp [incRow, List.getD_eq_getElem?_getD, List.getElem?_map, he]

example : incMatrix [1, 2, 3, 4] [[1, 2], [1, 2, 3], [3, 4]] = [[1, 1, 0], [1, 1, 0], [0, 1, 1], [0, 0, 1]] := by decide +kernel

example : (bipartite [1, 2, 3, 4, 5, 9] [[1, 2], [1, 2, 3], [3, 4, 5]]).g.degrees = [2, 2, 2, 1, 1, 0, 2, 3, 3] ∧
    nodeGram [1, 2, 3, 4] [[1, 2], [1, 2, 3], [3, 4]] = [[2, 2, 1, 0], [2, 2, 1, 0], [1, 1, 2, 1], [0, 0, 1, 1]] ∧
    edgeGram [1, 2, 3, 4] [[1, 2], [1, 2, 3], [3, 4]] = [[2, 2, 0], [2, 3, 1], [0, 1, 2]] ∧
    lineGraphUnknown [1, 2, 3, 4] [[1, 2], [1, 2, 3], [3, 4]] = none ∧
    (∃ r, lineGraphUnknown [1, 2, 3] [[1], [2, 3]] = some r ∧ AL.keys r.g.nodes = [0, 1]) ∧
    directedLineGraphUnknown [([1], [2]), ([2], [3])] = none ∧
    (∃ g, directedLineGraphUnknown [([1], [2])] = some g ∧ AL.keys g.nodes = [0]) ∧
    simplicial (simplicial [[1, 2, 3], [3, 4]]) = simplicial [[1, 2, 3], [3, 4]] := by
  refine ⟨?_, by decide +kernel⟩
  rw [degrees_bipartite _ _ (by decide) (by decide) (by decide)]
  decide +kernel

/-! ## relations between the projections -/

/-- **the clique projection is the off-diagonal support of `B·Bᵀ`**: `u — v` exactly when `u ≠ v` and the number of
hyperedges containing both is positive -/
theorem C10_clique_is_gram_support (keepIso : Bool) (nodes : List Nat) (es : List Edge) (hnd : ∀ e ∈ es, e.Nodup)
    (u v : Nat) (a : Option Rat) :
    AL.get? (clique keepIso nodes es).adj (u, v) = some a ↔ a = none ∧ u ≠ v ∧ 0 < cooc es u v := by
  rw [(C10_clique keepIso nodes es hnd).1, cooc_pos_iff]

/-- **the line graph (intersection distance) is `Bᵀ·B` thresholded at `s`**, off the diagonal; the weight is the entry -/
theorem C10_line_is_gram_threshold (nodes : List Nat) (es : List Edge) (s : Rat) (weighted : Bool)
    (hn : nodes.Nodup) (hes : es.Nodup) (hnd : ∀ e ∈ es, e.Nodup) (hmem : ∀ e ∈ es, ∀ n ∈ e, n ∈ nodes) (hs : 0 < s) :
    ∃ r, lineGraph nodes es .intersection s weighted = some r ∧
      ∀ i j a, AL.get? r.g.adj (i, j) = some a ↔
        ∃ (hi : i < es.length) (hj : j < es.length), i ≠ j ∧ s ≤ (overlap nodes es[i] es[j] : Rat) ∧
          a = some (if weighted then (overlap nodes es[i] es[j] : Rat) else 1) := by
  obtain ⟨r, hr, _, h3, _⟩ := C10_line nodes es .intersection s weighted hes hnd hmem hs
  refine ⟨r, hr, ?_⟩
  intro i j a
  rw [h3]
  have key : ∀ (hi : i < es.length) (hj : j < es.length),
      distV .intersection es[i] es[j] = (overlap nodes es[i] es[j] : Rat) := by
    intro hi hj
    rw [overlap_eq nodes _ _ hn (hnd _ (List.getElem_mem hi)) (hmem _ (List.getElem_mem hi))]; rfl
  constructor
  · rintro ⟨hi, hj, hne, hle, ha⟩
    rw [key hi hj] at hle ha; exact ⟨hi, hj, hne, hle, ha⟩
  · rintro ⟨hi, hj, hne, hle, ha⟩
    rw [← key hi hj] at hle ha; exact ⟨hi, hj, hne, hle, ha⟩

/-- **clique projection = two-step walks of the bipartite projection**: `u — v` exactly when `u ≠ v` and the vertices
`N_p`, `N_q` of the two nodes have a common hyperedge vertex `E_j` in the bipartite graph -/
theorem C10_clique_via_bipartite (keepIso : Bool) (nodes : List Nat) (es : List Edge) (hn : nodes.Nodup)
    (hnd : ∀ e ∈ es, e.Nodup) (hmem : ∀ e ∈ es, ∀ x ∈ e, x ∈ nodes) (u v : Nat) (a : Option Rat) :
    AL.get? (clique keepIso nodes es).adj (u, v) = some a ↔
      a = none ∧ u ≠ v ∧ ∃ p q j, nodes[p]? = some u ∧ nodes[q]? = some v ∧
        AL.get? (bipartite nodes es).g.adj (.N p, .E j) = some none ∧
        AL.get? (bipartite nodes es).g.adj (.N q, .E j) = some none := by
  rw [(C10_clique keepIso nodes es hnd).1]
  have hb := (C10_bipartite nodes es hn hmem).2.2.2.1
  constructor
  · rintro ⟨ha, hne, e, he, hu, hv⟩
    obtain ⟨p, hp⟩ := List.getElem?_of_mem (hmem e he u hu)
    obtain ⟨q, hq⟩ := List.getElem?_of_mem (hmem e he v hv)
    obtain ⟨j, hj⟩ := List.getElem?_of_mem he
    exact ⟨ha, hne, p, q, j, hp, hq, (hb p j none).2 ⟨rfl, u, e, hp, hj, hu⟩, (hb q j none).2 ⟨rfl, v, e, hq, hj, hv⟩⟩
  · rintro ⟨ha, hne, p, q, j, hp, hq, h1, h2⟩
    obtain ⟨_, x, e, hx, he, hxe⟩ := (hb p j none).1 h1
    obtain ⟨_, y, e', hy, he', hye⟩ := (hb q j none).1 h2
    rw [hp] at hx; rw [hq] at hy; rw [he] at he'
    cases hx; cases hy; cases he'
    exact ⟨ha, hne, e, List.mem_of_getElem? he, hxe, hye⟩

/-- **line graph (intersection) = common neighbours in the bipartite projection**: the value of two hyperedges is the
number of node vertices `N_p` joined to both `E_i` and `E_j` -/
theorem C10_line_value_via_bipartite (nodes : List Nat) (es : List Edge) (hn : nodes.Nodup)
    (hnd : ∀ e ∈ es, e.Nodup) (hmem : ∀ e ∈ es, ∀ x ∈ e, x ∈ nodes) (i j : Nat) (hi : i < es.length) (hj : j < es.length) :
    interSize es[i] es[j] = (List.range nodes.length).countP (fun p =>
      (bipartite nodes es).g.hasEdge (.E i) (.N p) && (bipartite nodes es).g.hasEdge (.E j) (.N p)) := by
  have hI := bipartite_inv nodes hn es hmem
  rw [← overlap_eq nodes _ _ hn (hnd _ (List.getElem_mem hi)) (hmem _ (List.getElem_mem hi)), overlap_eq_countP]
  symm
  apply countP_range_getElem
  intro p x hx
  rw [bip_hasEdge_comm hI, bip_hasEdge hI hx (List.getElem?_eq_getElem hi), bip_hasEdge_comm hI,
    bip_hasEdge hI hx (List.getElem?_eq_getElem hj)]

/-- **the clique projection of the simplicial complex is the clique projection of the hypergraph**: the downward closure
adds no new pair of co-occurring nodes -/
theorem C10_clique_of_simplicial (keepIso : Bool) (nodes : List Nat) (es : List Edge)
    (hsorted : ∀ e ∈ es, e.Pairwise (· < ·)) (u v : Nat) (a : Option Rat) :
    AL.get? (clique keepIso nodes (simplicial es)).adj (u, v) = some a ↔
      AL.get? (clique keepIso nodes es).adj (u, v) = some a := by
  have hS := (C10_simplicial es hsorted).1
  rw [(C10_clique keepIso nodes es (fun e he => NatSort.nodup_of_strict (hsorted e he))).1,
    (C10_clique keepIso nodes (simplicial es) (fun k hk => NatSort.nodup_of_strict ((hS k).1 hk).1)).1]
  constructor
  · rintro ⟨ha, hne, k, hk, hu, hv⟩
    obtain ⟨_, e, he, hsub⟩ := (hS k).1 hk
    exact ⟨ha, hne, e, he, hsub u hu, hsub v hv⟩
  · rintro ⟨ha, hne, e, he, hu, hv⟩
    exact ⟨ha, hne, e, C10_simplicial_contains_edges es hsorted e he, hu, hv⟩

/-! ## the similarity functions -/

/-- on duplicate-free tuples `intersection` is `|A ∩ B|`, the denominator is `|A ∪ B|`, `jaccard_similarity` is their
quotient (a `ZeroDivisionError`, `none`, exactly when both are empty), `jaccard_distance` is one minus it (by
definition), and the value `distV` is symmetric for both distances -/
theorem C10_similarity (a b : List Nat) (ha : a.Nodup) (hb : b.Nodup) :
    interSize a b = (a.toFinset ∩ b.toFinset).card ∧
    unionSize a b = (a.toFinset ∪ b.toFinset).card ∧
    (jaccard? a b = if a = [] ∧ b = [] then none
      else some (((a.toFinset ∩ b.toFinset).card : Rat) / ((a.toFinset ∪ b.toFinset).card : Rat))) ∧
    jaccardDistance? a b = (jaccard? a b).map (fun x => 1 - x) ∧
    (∀ d, distV d a b = distV d b a) ∧
    distV .intersection a b = ((a.toFinset ∩ b.toFinset).card : Rat) ∧
    distV .jaccard a b = ((a.toFinset ∩ b.toFinset).card : Rat) / ((a.toFinset ∪ b.toFinset).card : Rat) := by
  have hi := interSize_eq_card a b ha
  have hu := unionSize_eq_card a b ha hb
  refine ⟨hi, hu, ?_, rfl, fun d => distV_comm d a b ha hb, by simp [distV, hi], by simp [distV, hi, hu]⟩
  unfold jaccard?
  by_cases h : a = [] ∧ b = []
  · obtain ⟨rfl, rfl⟩ := h; simp [unionSize]
  · have hne : unionSize a b ≠ 0 := by
      by_cases h1 : a = []
      · exact unionSize_ne_zero_right (fun h2 => h ⟨h1, h2⟩)
      · exact unionSize_ne_zero_left h1
    rw [if_neg hne, if_neg h, ← hi, ← hu]

/-! ## float thresholds

The code computes the Jaccard similarity as the ROUNDED quotient `fl (i / u)` (a float) and compares it with the
threshold the caller hands in, which is a float too; the theorems above speak of the exact quotient and a rational `s`.
The two lemmas below are the reduction the harness uses (`model_threshold` in `harness/c10.py`) to hand a float
threshold to the model; they hold for ANY monotone rounding `fl` (IEEE round-to-nearest is one; that is TRUSTED[0]):
* a threshold that IS the float of a ratio `q` (`s = 0.2`, `s = 1/3`) accepts exactly the ratios `w ≥ q`, provided the
  rounding keeps the ratios that can occur (`A`: quotients of integers ≤ 12) apart,
* any other float threshold `s` (one ulp above `3/5`, `3 * 0.2`, `0.5 * (1 + 1e-10)`), which is the float of no ratio
  that occurs, accepts exactly the ratios `w ≥ s` with `s` read as the exact dyadic rational.
In both cases no tolerance is involved: a pair whose similarity is below the threshold by one ulp is not joined. -/

/-- threshold = the float of a ratio that can occur -/
theorem C10_threshold_on_rounded_value (fl : Rat → Rat) (mono : ∀ a b, a ≤ b → fl a ≤ fl b)
    (A : Rat → Prop) (inj : ∀ a b, A a → A b → fl a = fl b → a = b) (w q : Rat) (hw : A w) (hq : A q) :
    fl q ≤ fl w ↔ q ≤ w := by
  constructor
  · intro h
    rcases lt_or_ge w q with hlt | hge
    · have h1 : fl w ≤ fl q := mono _ _ (le_of_lt hlt)
      have h2 : fl w = fl q := le_antisymm h1 h
      exact absurd (inj w q hw hq h2) (ne_of_lt hlt)
    · exact hge
  · intro h
    exact mono _ _ h

/-- threshold = a float that is the float of no ratio at hand -/
theorem C10_threshold_off_rounded_values (fl : Rat → Rat) (mono : ∀ a b, a ≤ b → fl a ≤ fl b)
    (s : Rat) (hs : fl s = s) (w : Rat) (hne : fl w ≠ s) :
    s ≤ fl w ↔ s ≤ w := by
  constructor
  · intro h
    rcases lt_or_ge w s with hlt | hge
    · have h1 : fl w ≤ fl s := mono _ _ (le_of_lt hlt)
      rw [hs] at h1
      exact absurd (le_antisymm h1 h) hne
    · exact hge
  · intro h
    have h1 := mono _ _ h
    rwa [hs] at h1

/-- non-vacuity (the hypotheses are satisfiable: the identity is a monotone rounding): the threshold 3/5 + 2^-53, one
ulp above the ratio 3/5, is the rounded value of no ratio at hand and does not accept 3/5 -/
example : ((3 : Rat) / 5 + 1 / 9007199254740992 ≤ id ((3 : Rat) / 5)) ↔ ((3 : Rat) / 5 + 1 / 9007199254740992 ≤ 3 / 5) :=
  C10_threshold_off_rounded_values id (fun _ _ h => h) _ rfl _ (by norm_num)

example : (id ((3 : Rat) / 5) ≤ id ((2 : Rat) / 3)) ↔ ((3 : Rat) / 5 ≤ 2 / 3) :=
  C10_threshold_on_rounded_value id (fun _ _ h => h) (fun _ => True) (fun _ _ _ _ h => h) _ _ trivial trivial

/-! ## Links to the full container models: objects reached through ANY history

Everything above takes listings as input.  `Hgxv/Proofs/C10Link.lean` reads the listings off the full container models
(C01 `Hypergraph`, C02 `DirectedHypergraph`): `nodesH s`, `edgesH s`, `incidentH s n`, `incTableH s` are what
`C01.answer s` returns for `get_nodes()`, `get_edges()`, `get_incident_edges(n)`; `edgesD s` is what `C02.edges s`
returns; `bipartiteH`, `cliqueH`, `lineGraphH`, `simplicialH`, `directedLineGraphD` are the routines applied to those
answers, i.e. to the object.  The theorems below quantify over EVERY history of well-formed public calls (`C01.Cmd` /
`C02.Cmd`: constructor, copy, the 18 mutating calls, accepted or rejected; well-formed = the containers' own
quantifier: hyperedges are node sets, directed sides non-empty and disjoint), every slot `i`, the object `s` in that
slot and the ABSTRACT content `a` of the same slot after the same history (`C01.Spec` / `C02.Spec`: a list of nodes
and a map from node sets to records) and state the result of the routine on the object in terms of `a` alone.
No hypothesis about the object is left: all of them are discharged from `C01.Inv` / `C02.Inv` (`C01_inv`, `C02_inv`). -/

/-- **What the object lists after any history** is the listing of the abstract content, and it has every property the
theorems above assume: `get_nodes()` is the duplicate-free node list of `a`; `get_edges()` is the duplicate-free key list
of `a`; `len(h)` is its length; for every node, `get_incident_edges(n)` answers (no exception) exactly the hyperedges of
`get_edges()` that contain `n`, in that order; every hyperedge is a strictly increasing (hence duplicate-free) tuple of
nodes of `get_nodes()`. -/
theorem C10_link_listings (k : Nat) (cs : List C01.Cmd) (hwf : ∀ c ∈ cs, c.WF) (i : Nat) (s : C01.Store)
    (a : C01.Spec) (hs : (C01.run (C01.init k) cs)[i]? = some s)
    (ha : (C01.Spec.run (C01.Spec.init k) cs)[i]? = some a) :
    C01.query (C01.run (C01.init k) cs) i .nodes = .nats (AL.keys a.nodes) ∧
    C01.query (C01.run (C01.init k) cs) i (.edges {}) = .edges (AL.keys a.edges) ∧
    C01.query (C01.run (C01.init k) cs) i .len = .int ((AL.keys a.edges).length : Nat) ∧
    (∀ n ∈ AL.keys a.nodes,
      C01.query (C01.run (C01.init k) cs) i (.incident n {}) = .edges (incident (AL.keys a.edges) n)) ∧
    nodesH s = AL.keys a.nodes ∧ edgesH s = AL.keys a.edges ∧
    incTableH s = (AL.keys a.nodes).map (incident (AL.keys a.edges)) ∧
    (AL.keys a.nodes).Nodup ∧ (AL.keys a.edges).Nodup ∧
    (∀ e ∈ AL.keys a.edges, e.Pairwise (· < ·) ∧ e.Nodup ∧ ∀ n ∈ e, n ∈ AL.keys a.nodes) := by
  obtain ⟨h, rfl⟩ := history01 k cs hwf i s a hs ha
  obtain ⟨e1, e2⟩ := abs_listings s h
  have ok := listingOK_of_inv s h
  rw [e1, e2]
  simp only [C01.query, hs]
  refine ⟨(nodesH_eq s).1, (edgesH_eq s).1, (edgesH_eq s).2.2, fun n hn => (incidentH_eq s h n hn).1,
    (nodesH_eq s).2, (edgesH_eq s).2.1, incTableH_eq s h, ok.nodesNodup, ok.edgesNodup,
    fun e he => ⟨ok.sorted e he, ok.edgeNodup e he, ok.members e he⟩⟩

/-- **The incident table of every reachable object passes the check** the driver evaluates on the table of the real
object (`incidentOK`: lists duplicate-free and made of hyperedges of `get_edges()`, members of one list share a node,
every two intersecting hyperedges are together in some list). -/
theorem C10_link_incident_table (k : Nat) (cs : List C01.Cmd) (hwf : ∀ c ∈ cs, c.WF) (i : Nat) (s : C01.Store)
    (hs : (C01.run (C01.init k) cs)[i]? = some s) : incidentOK (edgesH s) (incTableH s) = true := by
  have h := C01.run_inv cs (C01.init k) hwf (C01.init_inv k) s (List.mem_of_getElem? hs)
  have ok := listingOK_of_inv s h
  rw [incTableH_eq s h, (edgesH_eq s).2.1]
  exact C10_incidentOK_of_listing _ _ ok.edgesNodup ok.members

/-- **`line_graph` of any reachable object is the line graph of its abstract content.**  For every history, every
threshold `thr > 0`, both distances, weighted or not: the routine run on the listing and on the incident table the
object answers returns (no exception) the same as the definition-level enumeration on `a`; the result has one vertex
`0..m-1` per hyperedge of `a` (in key order), `i — j` is an edge exactly when `i ≠ j` and the value (intersection size /
Jaccard similarity) of the two keys is at least `thr`, with the value (or 1) as weight; and `_distance` was called
exactly once for every unordered pair of distinct keys of `a` that share a node, for no other pair. -/
theorem C10_link_line (k : Nat) (cs : List C01.Cmd) (hwf : ∀ c ∈ cs, c.WF) (i : Nat) (s : C01.Store)
    (a : C01.Spec) (hs : (C01.run (C01.init k) cs)[i]? = some s)
    (ha : (C01.Spec.run (C01.Spec.init k) cs)[i]? = some a) (d : Dist) (thr : Rat) (weighted : Bool) (hthr : 0 < thr) :
    lineGraphH s d thr weighted = lineGraph (AL.keys a.nodes) (AL.keys a.edges) d thr weighted ∧
    ∃ r, lineGraphH s d thr weighted = some r ∧
      AL.keys r.g.nodes = List.range (AL.keys a.edges).length ∧
      (∀ x y w, AL.get? r.g.adj (x, y) = some w ↔
        ∃ (hx : x < (AL.keys a.edges).length) (hy : y < (AL.keys a.edges).length), x ≠ y ∧
          thr ≤ distV d (AL.keys a.edges)[x] (AL.keys a.edges)[y] ∧
          w = some (if weighted then distV d (AL.keys a.edges)[x] (AL.keys a.edges)[y] else 1)) ∧
      r.vis.Nodup ∧
      (∀ x y, (x, y) ∈ r.vis ↔
        x < y ∧ ∃ (hx : x < (AL.keys a.edges).length) (hy : y < (AL.keys a.edges).length),
          ∃ n, n ∈ (AL.keys a.edges)[x] ∧ n ∈ (AL.keys a.edges)[y]) := by
  obtain ⟨_, e2, e3, ok⟩ := listing_of_history k cs hwf i s a hs ha
  have heq := lineGraphH_eq e2 e3 d thr weighted
  exact ⟨heq, heq ▸ C10_line _ _ d thr weighted ok.edgesNodup ok.edgeNodup ok.members hthr⟩

/-- **`clique_projection` of any reachable object**: `u — v` is an edge (without attributes) exactly when `u ≠ v` and
some key of the abstract content contains both; the vertices are the nodes with a neighbour, plus all nodes of `a` when
`keep_isolated`; no vertex twice; with `keep_isolated=True` the vertex set is exactly the node set of `a`. -/
theorem C10_link_clique (k : Nat) (cs : List C01.Cmd) (hwf : ∀ c ∈ cs, c.WF) (i : Nat) (s : C01.Store)
    (a : C01.Spec) (hs : (C01.run (C01.init k) cs)[i]? = some s)
    (ha : (C01.Spec.run (C01.Spec.init k) cs)[i]? = some a) (keepIso : Bool) :
    (∀ u v x, AL.get? (cliqueH keepIso s).adj (u, v) = some x ↔
        x = none ∧ u ≠ v ∧ ∃ e ∈ AL.keys a.edges, u ∈ e ∧ v ∈ e) ∧
    (∀ x, x ∈ AL.keys (cliqueH keepIso s).nodes ↔
        (keepIso = true ∧ x ∈ AL.keys a.nodes) ∨ ∃ e ∈ AL.keys a.edges, x ∈ e ∧ ∃ y ∈ e, y ≠ x) ∧
    (AL.keys (cliqueH keepIso s).nodes).Nodup ∧
    (∀ x, x ∈ AL.keys (cliqueH true s).nodes ↔ x ∈ AL.keys a.nodes) := by
  obtain ⟨e1, e2, _, ok⟩ := listing_of_history k cs hwf i s a hs ha
  unfold cliqueH
  rw [e1, e2]
  obtain ⟨c1, c2, c3⟩ := C10_clique keepIso (AL.keys a.nodes) (AL.keys a.edges) ok.edgeNodup
  exact ⟨c1, c2, c3, C10_clique_keep_isolated _ _ ok.edgeNodup ok.members⟩

/-- **`bipartite_projection` of any reachable object**: vertices `N0..N(n-1)` (`bipartite=0`), one per node of the
abstract content in its order, then `E0..E(m-1)` (`bipartite=1`), one per key; `N_i — E_j` (symmetric, no attributes)
exactly when node `i` belongs to key `j`; no edge inside a side; the id table maps `N_i` to node `i`, `E_j` to key `j`. -/
theorem C10_link_bipartite (k : Nat) (cs : List C01.Cmd) (hwf : ∀ c ∈ cs, c.WF) (i : Nat) (s : C01.Store)
    (a : C01.Spec) (hs : (C01.run (C01.init k) cs)[i]? = some s)
    (ha : (C01.Spec.run (C01.Spec.init k) cs)[i]? = some a) :
    AL.keys (bipartiteH s).g.nodes =
      (List.range (AL.keys a.nodes).length).map BV.N ++ (List.range (AL.keys a.edges).length).map BV.E ∧
    (∀ p, p < (AL.keys a.nodes).length → AL.get? (bipartiteH s).g.nodes (.N p) = some (some 0)) ∧
    (∀ q, q < (AL.keys a.edges).length → AL.get? (bipartiteH s).g.nodes (.E q) = some (some 1)) ∧
    (∀ p q x, AL.get? (bipartiteH s).g.adj (.N p, .E q) = some x ↔
      x = none ∧ ∃ n e, (AL.keys a.nodes)[p]? = some n ∧ (AL.keys a.edges)[q]? = some e ∧ n ∈ e) ∧
    (∀ u v x, AL.get? (bipartiteH s).g.adj (u, v) = some x → AL.get? (bipartiteH s).g.adj (v, u) = some x) ∧
    (∀ p p', AL.get? (bipartiteH s).g.adj (.N p, .N p') = none) ∧
    (∀ q q', AL.get? (bipartiteH s).g.adj (.E q, .E q') = none) ∧
    (∀ p, AL.get? (bipartiteH s).idToObj (.N p) = (AL.keys a.nodes)[p]?.map Obj.node) ∧
    (∀ q, AL.get? (bipartiteH s).idToObj (.E q) = (AL.keys a.edges)[q]?.map Obj.edge) := by
  obtain ⟨e1, e2, _, ok⟩ := listing_of_history k cs hwf i s a hs ha
  unfold bipartiteH
  rw [e1, e2]
  exact C10_bipartite _ _ ok.nodesNodup ok.members

/-- **`simplicial_complex` of any reachable object** is the downward closure of the abstract content: its hyperedges
are exactly the strictly increasing tuples all of whose members lie in one key of `a`, listed once; in particular every
key of `a` is among them. -/
theorem C10_link_simplicial (k : Nat) (cs : List C01.Cmd) (hwf : ∀ c ∈ cs, c.WF) (i : Nat) (s : C01.Store)
    (a : C01.Spec) (hs : (C01.run (C01.init k) cs)[i]? = some s)
    (ha : (C01.Spec.run (C01.Spec.init k) cs)[i]? = some a) :
    (∀ t, t ∈ simplicialH s ↔ t.Pairwise (· < ·) ∧ ∃ e ∈ AL.keys a.edges, ∀ x ∈ t, x ∈ e) ∧
    (simplicialH s).Nodup ∧ (∀ e ∈ AL.keys a.edges, e ∈ simplicialH s) := by
  obtain ⟨_, e2, _, ok⟩ := listing_of_history k cs hwf i s a hs ha
  unfold simplicialH
  rw [e2]
  obtain ⟨c1, c2⟩ := C10_simplicial (AL.keys a.edges) ok.sorted
  exact ⟨c1, c2, C10_simplicial_contains_edges _ ok.sorted⟩

/-- **The object `simplicial_complex` returns.**  The routine ends with `S = Hypergraph(s_edges)`, `s_edges` a Python
set: `buildH l` is the full C01 model of that constructor call for the order `l` in which the set happens to be iterated
(any permutation of `simplicialH s`).  For every history and every such order: the constructor call is accepted (no
exception); `S` is itself an object reached through a history of well-formed public calls - so `C01_inv`,
`C01_refines`, `C01_incident_once` and every `C10_link_*` theorem apply to it again; `S.get_edges()` is `l`, i.e. exactly
the strictly increasing tuples inside one key of the abstract content `a` (the downward closure, every member once); and
the nodes of `S` are exactly the nodes that lie in some key of `a` (isolated nodes of `h` are not nodes of `S`). -/
theorem C10_link_simplicial_object (k : Nat) (cs : List C01.Cmd) (hwf : ∀ c ∈ cs, c.WF) (i : Nat) (s : C01.Store)
    (a : C01.Spec) (hs : (C01.run (C01.init k) cs)[i]? = some s)
    (ha : (C01.Spec.run (C01.Spec.init k) cs)[i]? = some a) (l : List Edge) (hl : l.Perm (simplicialH s)) :
    (buildH l).2 = .ok ∧
    ((∀ c ∈ [C01.Cmd.on 0 (.addEdges l none none)], c.WF) ∧
      (C01.run (C01.init 1) [.on 0 (.addEdges l none none)])[0]? = some (buildH l).1) ∧
    edgesH (buildH l).1 = l ∧ (edgesH (buildH l).1).Nodup ∧
    (∀ t, t ∈ edgesH (buildH l).1 ↔ t.Pairwise (· < ·) ∧ ∃ e ∈ AL.keys a.edges, ∀ x ∈ t, x ∈ e) ∧
    (∀ n, n ∈ nodesH (buildH l).1 ↔ ∃ e ∈ AL.keys a.edges, n ∈ e) := by
  obtain ⟨c1, c2, c3⟩ := C10_link_simplicial k cs hwf i s a hs ha
  have hsorted : ∀ t ∈ l, t.Pairwise (· < ·) := fun t ht => ((c1 t).1 (hl.mem_iff.1 ht)).1
  have hdf : ∀ t ∈ l, t.Nodup := fun t ht => NatSort.nodup_of_strict (hsorted t ht)
  have hcan : ∀ t ∈ l, C01.canon t = t := fun t ht =>
    C01.canon_of_sorted (NatSort.sorted_of_strict (hsorted t ht))
  have hnd : l.Nodup := hl.nodup_iff.2 c2
  obtain ⟨b1, _, b3, b4⟩ := buildH_spec l hcan hnd hdf
  refine ⟨b1, ⟨?_, rfl⟩, b3, by rw [b3]; exact hnd, ?_, ?_⟩
  · intro c hc
    simp only [List.mem_singleton] at hc
    subst hc
    exact hdf
  · intro t
    rw [b3, hl.mem_iff]
    exact c1 t
  · intro n
    rw [b4]
    constructor
    · rintro ⟨t, ht, hn⟩
      obtain ⟨_, e, he, hsub⟩ := (c1 t).1 (hl.mem_iff.1 ht)
      exact ⟨e, he, hsub n hn⟩
    · rintro ⟨e, he, hn⟩
      exact ⟨e, hl.mem_iff.2 (c3 e he), hn⟩

/-- **`directed_line_graph` of any reachable `DirectedHypergraph`.**  For every history of constructor calls, copies
and public calls (C02's quantifier: sides non-empty and disjoint), the object `s` in a slot and the abstract content
`a` of that slot: `get_edges()` answers the key list of `a` (distinct pairs, `len(h)` many, `get_sources` /
`get_targets` its components); the routine returns - for BOTH distances, no `ZeroDivisionError`: sides of reachable
hyperedges are non-empty - a digraph on `0..m-1` with an arc `x → y` exactly when `x ≠ y` and the value of (target set
of key `x`, source set of key `y`) is at least `thr`, carrying the value as weight when `weighted`.  Every `thr`. -/
theorem C10_link_directed_line (cs : List C02.Cmd) (hcs : ∀ c ∈ cs, c.WF) (slot : Nat) (s : C02.Store)
    (a : C02.Spec) (hs : AL.get? (C02.runCmds [] cs) slot = some s)
    (ha : AL.get? (C02.Spec.runCmds [] cs) slot = some a) (d : Dist) (thr : Rat) (weighted : Bool) :
    C02.edges s .all false = some (AL.keys a.edges) ∧ C02.numEdges s = (AL.keys a.edges).length ∧
    C02.sources s = (AL.keys a.edges).map (·.1) ∧ C02.targets s = (AL.keys a.edges).map (·.2) ∧
    (AL.keys a.edges).Nodup ∧
    ∃ g, directedLineGraphD s d thr weighted = some g ∧
      AL.keys g.nodes = List.range (AL.keys a.edges).length ∧
      ∀ x y w, AL.get? g.adj (x, y) = some w ↔
        ∃ (hx : x < (AL.keys a.edges).length) (hy : y < (AL.keys a.edges).length), x ≠ y ∧
          thr ≤ distV d (AL.keys a.edges)[x].2 (AL.keys a.edges)[y].1 ∧
          w = if weighted then some (distV d (AL.keys a.edges)[x].2 (AL.keys a.edges)[y].1) else none := by
  obtain ⟨e1, e2, hnd, hside⟩ := dlisting_of_history cs hcs slot s a hs ha
  obtain ⟨q1, _, q3, q4, q5⟩ := edgesD_eq s
  rw [← e1] at q1 q3 q4 q5
  refine ⟨q1, q3, q4, q5, hnd, ?_⟩
  unfold directedLineGraphD
  rw [e2]
  exact C10_directed_line _ d thr weighted hnd (fun _ e he f _ _ => Or.inl (hside e he).2.1)

/-- **`line_graph` of any reachable object, every threshold** (also `thr ≤ 0`): `x — y` exactly when `x ≠ y`, the two keys
of the abstract content share a node and their value is at least `thr`; the graph is symmetric, loop-free, and the intersection
value of two keys is the entry of `Bᵀ·B` of the content. -/
theorem C10_link_line_all_thresholds (k : Nat) (cs : List C01.Cmd) (hwf : ∀ c ∈ cs, c.WF) (i : Nat) (s : C01.Store)
    (a : C01.Spec) (hs : (C01.run (C01.init k) cs)[i]? = some s)
    (ha : (C01.Spec.run (C01.Spec.init k) cs)[i]? = some a) (d : Dist) (thr : Rat) (weighted : Bool) :
    ∃ r, lineGraphH s d thr weighted = some r ∧
      AL.keys r.g.nodes = List.range (AL.keys a.edges).length ∧
      (∀ x y w, AL.get? r.g.adj (x, y) = some w ↔
        ∃ (hx : x < (AL.keys a.edges).length) (hy : y < (AL.keys a.edges).length), x ≠ y ∧
          (∃ n, n ∈ (AL.keys a.edges)[x] ∧ n ∈ (AL.keys a.edges)[y]) ∧
          thr ≤ distV d (AL.keys a.edges)[x] (AL.keys a.edges)[y] ∧
          w = some (if weighted then distV d (AL.keys a.edges)[x] (AL.keys a.edges)[y] else 1)) ∧
      (∀ x y w, AL.get? r.g.adj (x, y) = some w → AL.get? r.g.adj (y, x) = some w) ∧
      (∀ x, AL.get? r.g.adj (x, x) = none) ∧
      (∀ (x y : Nat) (hx : x < (AL.keys a.edges).length) (hy : y < (AL.keys a.edges).length),
        distV .intersection (AL.keys a.edges)[x] (AL.keys a.edges)[y] =
          (overlap (AL.keys a.nodes) (AL.keys a.edges)[x] (AL.keys a.edges)[y] : Rat)) := by
  obtain ⟨_, e2, e3, ok⟩ := listing_of_history k cs hwf i s a hs ha
  have heq := lineGraphH_eq e2 e3 d thr weighted
  obtain ⟨r, hr, hk, h3⟩ := C10_line_all_thresholds _ _ d thr weighted ok.edgesNodup ok.edgeNodup ok.members
  obtain ⟨r', hr', hsym, hloop⟩ := C10_line_symmetric_loop_free _ _ d thr weighted ok.edgesNodup ok.edgeNodup ok.members
  rw [hr] at hr'; cases hr'
  refine ⟨r, heq ▸ hr, hk, h3, hsym, hloop, ?_⟩
  intro x y hx hy
  rw [overlap_eq _ _ _ ok.nodesNodup (ok.edgeNodup _ (List.getElem_mem hx)) (ok.members _ (List.getElem_mem hx))]; rfl

/-- **degrees and Gram matrices for any reachable object**: in `bipartite_projection(h)` the vertex of the `p`-th node has
degree `len(h.get_incident_edges(node))` (what the OBJECT answers), the vertex of the `q`-th key has degree = size of the
key, both sides add up to `Σ |key|`; `clique_projection(h)` is the off-diagonal support of `B·Bᵀ` of the abstract content. -/
theorem C10_link_degrees_and_gram (k : Nat) (cs : List C01.Cmd) (hwf : ∀ c ∈ cs, c.WF) (i : Nat) (s : C01.Store)
    (a : C01.Spec) (hs : (C01.run (C01.init k) cs)[i]? = some s)
    (ha : (C01.Spec.run (C01.Spec.init k) cs)[i]? = some a) :
    (∀ p x, (AL.keys a.nodes)[p]? = some x →
      (bipartiteH s).g.degreeOf (.N p) = (incidentH s x).length ∧
      (bipartiteH s).g.degreeOf (.N p) = cooc (AL.keys a.edges) x x) ∧
    (∀ q e, (AL.keys a.edges)[q]? = some e → (bipartiteH s).g.degreeOf (.E q) = e.length) ∧
    ((List.range (AL.keys a.nodes).length).map (fun p => (bipartiteH s).g.degreeOf (.N p))).sum =
      ((AL.keys a.edges).map List.length).sum ∧
    (∀ keepIso u v w, AL.get? (cliqueH keepIso s).adj (u, v) = some w ↔
      w = none ∧ u ≠ v ∧ 0 < cooc (AL.keys a.edges) u v) := by
  obtain ⟨h, rfl⟩ := history01 k cs hwf i s a hs ha
  obtain ⟨e1, e2, _, ok⟩ := listing_of_history k cs hwf i s _ hs ha
  unfold bipartiteH cliqueH
  rw [e1, e2]
  obtain ⟨hN, hEd, hN', _⟩ := C10_bipartite_degrees _ _ ok.nodesNodup ok.members ok.edgeNodup
  refine ⟨?_, hEd, (C10_bipartite_handshake _ _ ok.nodesNodup ok.members ok.edgeNodup).1, ?_⟩
  · intro p x hx
    refine ⟨?_, hN' p x hx⟩
    rw [hN p x hx]
    have hxn : x ∈ AL.keys s.adj := by
      have := List.mem_of_getElem? hx
      rwa [← e1, (nodesH_eq s).2] at this
    rw [(incidentH_eq s h x hxn).2, ← e2, (edgesH_eq s).2.1]
  · intro keepIso u v w
    exact C10_clique_is_gram_support keepIso _ _ ok.edgeNodup u v w

/-- **directed line graph of any reachable `DirectedHypergraph`** (C02 link): no loops, monotone in the threshold, and with an
unknown `distance` the routine raises exactly when the object has at least two hyperedges -/
theorem C10_link_directed_structure (cs : List C02.Cmd) (hcs : ∀ c ∈ cs, c.WF) (slot : Nat) (s : C02.Store)
    (a : C02.Spec) (hs : AL.get? (C02.runCmds [] cs) slot = some s)
    (ha : AL.get? (C02.Spec.runCmds [] cs) slot = some a) (d : Dist) (thr thr' : Rat) (weighted : Bool)
    (hle : thr ≤ thr') :
    ∃ g g', directedLineGraphD s d thr weighted = some g ∧ directedLineGraphD s d thr' weighted = some g' ∧
      (∀ x, AL.get? g.adj (x, x) = none) ∧
      (∀ x y w, AL.get? g'.adj (x, y) = some w → AL.get? g.adj (x, y) = some w) ∧
      (directedLineGraphUnknown (edgesD s) = none ↔ 2 ≤ (AL.keys a.edges).length) := by
  obtain ⟨_, e2, hnd, hside⟩ := dlisting_of_history cs hcs slot s a hs ha
  unfold directedLineGraphD
  rw [e2]
  obtain ⟨g, g', h1, h2, h3, h4⟩ := C10_directed_line_loop_free_monotone _ d thr thr' weighted hnd
    (fun _ e he f _ _ => Or.inl (hside e he).2.1) hle
  refine ⟨g, g', h1, h2, h3, h4, ?_⟩
  rw [(C10_directed_line_unknown_distance _).1]
  exact two_distinct_iff _ hnd

/-! ### non-vacuity: concrete histories (`C10.demoH`, `C10.demoD` in `Proofs/C10Link.lean`)

`demoH` (11 commands, 2 slots): insertions in permuted node order, a re-insertion, two removals (id gaps, isolated
nodes 8, 9 left behind), `{1,2}` removed and inserted again (it moves to the end of the listing), a copy,
`remove_node(3, keep_edges=True)` on the copy, a node added to the original afterwards. -/

/-- the hypotheses of the link theorems hold for `demoH`, slot 0 and slot 1, and the listings are non-trivial -/
example : (∀ c ∈ demoH, c.WF) ∧
    (∃ s a, (C01.run (C01.init 2) demoH)[0]? = some s ∧ (C01.Spec.run (C01.Spec.init 2) demoH)[0]? = some a ∧
      AL.keys a.nodes = [1, 2, 3, 8, 9, 4, 5, 7] ∧ AL.keys a.edges = [[1, 2, 3], [3, 4, 5], [1, 2]] ∧
      nodesH s = [1, 2, 3, 8, 9, 4, 5, 7] ∧ edgesH s = [[1, 2, 3], [3, 4, 5], [1, 2]] ∧
      incTableH s = [[[1, 2, 3], [1, 2]], [[1, 2, 3], [1, 2]], [[1, 2, 3], [3, 4, 5]], [], [], [[3, 4, 5]], [[3, 4, 5]], []] ∧
      incidentOK (edgesH s) (incTableH s) = true) ∧
    (∃ s a, (C01.run (C01.init 2) demoH)[1]? = some s ∧ (C01.Spec.run (C01.Spec.init 2) demoH)[1]? = some a ∧
      AL.keys a.nodes = [1, 2, 8, 9, 4, 5] ∧ edgesH s = [[1, 2], [4, 5]] ∧
      incTableH s = [[[1, 2]], [[1, 2]], [], [], [[4, 5]], [[4, 5]]]) := by
  obtain ⟨s, a, hs, ha, hn, he⟩ := demoH_slot0
  obtain ⟨e1, e2, e3, _⟩ := listing_of_history 2 demoH demoH_wf 0 s a hs ha
  simp only [hn, he] at e1 e2 e3
  exact ⟨demoH_wf, ⟨s, a, hs, ha, hn, he, e1, e2, e3.trans (by decide), C10_link_incident_table 2 demoH demoH_wf 0 s hs⟩,
    ⟨_, _, rfl, rfl, by decide +kernel⟩⟩

/-- clique, bipartite and simplicial projections of the object in slot 0 of `demoH`, evaluated -/
example : ∃ s, (C01.run (C01.init 2) demoH)[0]? = some s ∧
    AL.get? (cliqueH false s).adj (5, 3) = some none ∧ AL.get? (cliqueH false s).adj (2, 4) = none ∧
    AL.keys (cliqueH false s).nodes = [1, 2, 3, 4, 5] ∧ AL.keys (cliqueH true s).nodes = [1, 2, 3, 8, 9, 4, 5, 7] ∧
    AL.get? (bipartiteH s).g.adj (.N 5, .E 1) = some none ∧ AL.get? (bipartiteH s).g.adj (.N 5, .E 2) = none ∧
    AL.get? (bipartiteH s).idToObj (.N 5) = some (.node 4) ∧ AL.get? (bipartiteH s).idToObj (.E 2) = some (.edge [1, 2]) ∧
    simplicialH s = [[], [1], [2], [3], [1, 2], [1, 3], [2, 3], [1, 2, 3], [4], [5], [3, 4], [3, 5], [4, 5], [3, 4, 5]] := by
  obtain ⟨s, a, hs, ha, hn, he⟩ := demoH_slot0
  obtain ⟨e1, e2, _⟩ := listing_of_history 2 demoH demoH_wf 0 s a hs ha
  refine ⟨s, hs, ?_⟩
  simp only [cliqueH, bipartiteH, simplicialH, e1, e2, hn, he]
  decide +kernel

/-- the object returned by `simplicial_complex` for slot 0 of `demoH` (set iterated in insertion order): accepted,
14 hyperedges, the isolated nodes 7, 8, 9 of the input are not nodes of it -/
example : ∃ s, (C01.run (C01.init 2) demoH)[0]? = some s ∧ (buildH (simplicialH s)).2 = .ok ∧
    (edgesH (buildH (simplicialH s)).1).length = 14 ∧ nodesH (buildH (simplicialH s)).1 = [1, 2, 3, 4, 5] ∧
    incidentH (buildH (simplicialH s)).1 4 = [[4], [3, 4], [4, 5], [3, 4, 5]] := by
  obtain ⟨s, a, hs, ha, _, he⟩ := demoH_slot0
  refine ⟨s, hs, ?_⟩
  simp only [simplicialH, (listing_of_history 2 demoH demoH_wf 0 s a hs ha).2.1, he]
  decide +kernel

/-- the line graph of the object in slot 0 of `demoH` (keys `{1,2,3}`, `{3,4,5}`, `{1,2}`), Jaccard, `s = 1/2`,
weighted: `0 — 2` with weight 2/3, no edge `0 — 1` (1/5 < 1/2), and `_distance` was called for the pairs (0,1), (0,2)
only -/
example : ∃ s r, (C01.run (C01.init 2) demoH)[0]? = some s ∧ lineGraphH s .jaccard (1 / 2) true = some r ∧
    AL.get? r.g.adj (2, 0) = some (some (2 / 3)) ∧ AL.get? r.g.adj (0, 1) = none ∧
    (0, 1) ∈ r.vis ∧ (0, 2) ∈ r.vis ∧ (1, 2) ∉ r.vis := by
  obtain ⟨s, a, hs, ha, _, hk⟩ := demoH_slot0
  obtain ⟨_, r, h1, _, h3, _, h5⟩ := C10_link_line 2 demoH demoH_wf 0 s a hs ha .jaccard (1 / 2) true (by norm_num)
  generalize AL.keys a.edges = es at hk h3 h5
  subst hk
  have i20 : interSize [1, 2] [1, 2, 3] = 2 := by decide
  have u20 : unionSize [1, 2] [1, 2, 3] = 3 := by decide
  have i01 : interSize [1, 2, 3] [3, 4, 5] = 1 := by decide
  have u01 : unionSize [1, 2, 3] [3, 4, 5] = 5 := by decide
  refine ⟨s, r, hs, h1, ?_, ?_, ?_, ?_, ?_⟩
  · rw [h3]; refine ⟨by decide, by decide, by decide, ?_, ?_⟩
    · simp [distV, i20, u20]; norm_num
    · simp [distV, i20, u20]
  · exact get?_eq_none_of_iff (h3 0 1) fun w ⟨_, _, _, hle, _⟩ => by simp [distV, i01, u01] at hle; norm_num at hle
  · rw [h5]; exact ⟨by decide, by decide, by decide, 3, by decide, by decide⟩
  · rw [h5]; exact ⟨by decide, by decide, by decide, 1, by decide, by decide⟩
  · rw [h5]; rintro ⟨_, _, _, n, hn1, hn2⟩
    have g1 : n ∈ [3, 4, 5] := hn1
    have g2 : n ∈ [1, 2] := hn2
    simp at g1 g2; omega

/-- `demoD` (6 commands, 2 slots) is well-formed; the object in slot 0 lists `((3),(1,4))`, `((4),(2))`, `((1,2),(3))`
(the last one removed and inserted again), the copy in slot 1 lost node 4 (`keep_edges=True`) -/
example : (∀ c ∈ demoD, c.WF) ∧
    (∃ s a, AL.get? (C02.runCmds [] demoD) 0 = some s ∧ AL.get? (C02.Spec.runCmds [] demoD) 0 = some a ∧
      edgesD s = [([3], [1, 4]), ([4], [2]), ([1, 2], [3])] ∧ AL.keys a.edges = [([3], [1, 4]), ([4], [2]), ([1, 2], [3])]) ∧
    (∃ s a, AL.get? (C02.runCmds [] demoD) 1 = some s ∧ AL.get? (C02.Spec.runCmds [] demoD) 1 = some a ∧
      edgesD s = [([1, 2], [3]), ([3], [1])] ∧ AL.keys a.edges = [([1, 2], [3]), ([3], [1])]) :=
  let ⟨s, a, hs, ha, hk⟩ := demoD_slot0
  ⟨demoD_wf, ⟨s, a, hs, ha, (dlisting_of_history demoD demoD_wf 0 s a hs ha).2.1.trans hk, hk⟩,
    ⟨_, _, rfl, rfl, by decide⟩⟩

/-- the directed line graph of the object in slot 0 of `demoD`, intersection, `s = 1`, unweighted: `0 → 1` (target
`{1,4}` meets source `{4}`), `2 → 0`, no arc `1 → 0` -/
example : ∃ s g, AL.get? (C02.runCmds [] demoD) 0 = some s ∧ directedLineGraphD s .intersection 1 false = some g ∧
    AL.get? g.adj (0, 1) = some none ∧ AL.get? g.adj (2, 0) = some none ∧ AL.get? g.adj (1, 0) = none := by
  obtain ⟨s, a, hs, ha, hk⟩ := demoD_slot0
  obtain ⟨_, _, _, _, _, g, h1, _, h3⟩ := C10_link_directed_line demoD demoD_wf 0 s a hs ha .intersection 1 false
  generalize AL.keys a.edges = es at hk h3
  subst hk
  have i01 : interSize [1, 4] [4] = 1 := by decide
  have i20 : interSize [3] [3] = 1 := by decide
  have i10 : interSize [2] [3] = 0 := by decide
  refine ⟨s, g, hs, h1, ?_, ?_, ?_⟩
  · rw [h3]; exact ⟨by decide, by decide, by decide, by simp [distV, i01], by simp⟩
  · rw [h3]; exact ⟨by decide, by decide, by decide, by simp [distV, i20], by simp⟩
  · exact get?_eq_none_of_iff (h3 1 0) fun w ⟨_, _, _, hle, _⟩ => by simp [distV, i10] at hle; norm_num at hle

example : ∃ s, (C01.run (C01.init 2) demoH)[0]? = some s ∧
    (bipartiteH s).g.degrees = [2, 2, 2, 0, 0, 1, 1, 0, 3, 3, 2] := by
  obtain ⟨s, a, hs, ha, hn, he⟩ := demoH_slot0
  obtain ⟨e1, e2, _⟩ := listing_of_history 2 demoH demoH_wf 0 s a hs ha
  refine ⟨s, hs, ?_⟩
  rw [bipartiteH, e1, e2, hn, he, degrees_bipartite _ _ (by decide) (by decide) (by decide)]
  decide

/-- slot 0 of `demoD` holds three hyperedges: with an unknown `distance` the routine raises; the history satisfies the hypotheses -/
example : ∃ s, AL.get? (C02.runCmds [] demoD) 0 = some s ∧ directedLineGraphUnknown (edgesD s) = none := by
  obtain ⟨s, a, hs, ha, hk⟩ := demoD_slot0
  exact ⟨s, hs, by rw [(dlisting_of_history demoD demoD_wf 0 s a hs ha).2.1, hk]; decide⟩
