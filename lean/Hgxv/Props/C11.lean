import Hgxv.Model.C11
import Hgxv.Proofs.C11Tables
import Hgxv.Proofs.C11EsuRoot
import Hgxv.Proofs.C11Census
import Hgxv.Proofs.C11Dir
import Hgxv.Proofs.C11DirIso
import Hgxv.Proofs.C11Relabel
import Hgxv.Proofs.C11DirCensus
import Hgxv.Proofs.C11Stats
import Hgxv.Proofs.C11Enum
/-! # C11 - motif census equals exhaustive enumeration and is relabelling-invariant

Property theorems about the models `Hgxv/Model/C11Tables.lean` (pattern tables of `generate_motifs`),
`Hgxv/Model/C11.lean` (the passes of `compute_motifs`), `Hgxv/Model/C11Enum.lean` (the census as an enumeration) and
`Hgxv/Model/C11Stats.lean` (the null-model arithmetic).  The notions of the statements that are no model functions are
defined in proof modules: `WF`, `hadj`, `Reach`, `Conn` in `Proofs/C11Passes.lean`; `SSorted`, `relabelSet` in
`Proofs/C11Sets.lean`; `ReachIn`, `sameSet` in `Proofs/C11Esu.lean`; `RootValid` in `Proofs/C11EsuRoot.lean`; `WFPat` in
`Proofs/C11Dir.lean`; `DWF`, `sset`, `rankE` in `Proofs/C11DirIso.lean`. -/
open C11

/-! ## the class tables

`classes n` is the loop of `generate_motifs(n)`; `tbls n` holds one hyperedge-index table per node
permutation (`relabel`), `applyPerm t m` is the relabelled pattern, `connected` is `_is_connected`.
The representative of a class is the least of its relabellings (`canon`; `Proofs/C11Cert.lean`, every `n ≥ 2`), from
which the loop is evaluated in closed form; the kernel only counts the representatives (`Proofs/C11Tables.lean`); no
`native_decide`. -/

/-- 6 classes for order 3, 171 for order 4; every class is reported once (`Nodup`); two different
classes are never relabellings of each other; every connected labelled pattern is a relabelling of
exactly one class. -/
theorem C11_classes :
    ((classes 3).length = 6 ∧ (classes 4).length = 171) ∧
    ∀ n, n = 3 ∨ n = 4 →
      (classes n).Nodup ∧
      (∀ c₁ ∈ classes n, ∀ c₂ ∈ classes n, ∀ t ∈ tbls n, applyPerm t c₁ = c₂ → c₁ = c₂) ∧
      (∀ m, m < numMasks n → connected n (masks n) m = true →
        ∃ c, (c ∈ classes n ∧ ∃ t ∈ tbls n, applyPerm t c = m) ∧
          ∀ c', (c' ∈ classes n ∧ ∃ t ∈ tbls n, applyPerm t c' = m) → c' = c) := by
  refine ⟨⟨classes3_length, classes4_length⟩, ?_⟩
  intro n hn
  have C := certAll (n := n) (by omega)
  refine ⟨classes_nodup C, ?_, ?_⟩
  · intro c₁ h₁ c₂ h₂ t ht h
    exact classes_noniso C h₁ h₂ ht h
  · intro m hm hc
    have hne := (C.conn m hm).mp hc
    refine ⟨cidC n m, ⟨cid_mem_classes C hm hne, C.ofRep m hm hne⟩, ?_⟩
    rintro c' ⟨hc', t, ht, h⟩
    exact (cid_of_relabel C hc' ht h).2.symm

/-- the labelled patterns a pass may count (`labeling` keys) are exactly the connected ones -/
theorem C11_labeling_connected (n : Nat) (hn : n = 3 ∨ n = 4) (p : Nat) :
    p ∈ labeling n ↔ p < numMasks n ∧ connected n (masks n) p = true := by
  have C := certAll (n := n) (by omega)
  rw [mem_labeling C]
  constructor
  · rintro ⟨h1, h2⟩; exact ⟨h1, (C.conn p h1).mpr h2⟩
  · rintro ⟨h1, h2⟩; exact ⟨h1, (C.conn p h1).mp h2⟩

example : classes 3 = [1, 3, 6, 7, 14, 15] := classes3_eq
example : (labeling 3).length = 12 := by
  rw [labeling, tbls3_eq, classes3_eq]; decide +kernel

/-! ## the ESU pass of `_motifs_standard`

`esuSets n E`: the node sets handed to `count_motif`, for all roots `v` of the dyadic skeleton
(`nbrs E` = `graph`).  `RootValid g v S`: `v ∈ S`, every other node of `S` is larger than `v`, and
every node of `S` is reachable from `v` inside `S`.  No hypothesis on `E` is needed. -/

/-- every node set the ESU pass classifies is a duplicate-free set of `n` nodes, connected in the
dyadic skeleton, whose minimum is the root it was grown from -/
theorem C11_esu_sound (n : Nat) (hn : 1 ≤ n) (E : HG) :
    ∀ o ∈ esuSets n E, o.Nodup ∧ o.length = n ∧ ∃ v ∈ roots E, RootValid (nbrs E) v o :=
  esuW_out hn (nbrs_nodup E)

/-- every `n`-set that is connected in the dyadic skeleton (rooted at its minimum) is produced exactly
once, every other `n`-set never (`sameSet S o`: `o` lists the nodes of `S` in some order) -/
theorem C11_esu_complete_unique (n : Nat) (hn : 1 ≤ n) (E : HG) (S : List Nat) (hS : S.Nodup)
    (hlen : S.length = n) :
    ((∃ v ∈ roots E, RootValid (nbrs E) v S) → (esuSets n E).countP (sameSet S) = 1) ∧
    ((¬ ∃ v ∈ roots E, RootValid (nbrs E) v S) → (esuSets n E).countP (sameSet S) = 0) :=
  esuW_count hn (nbrs_nodup E) (roots_nodup E) S hS hlen

example : esuSets 3 [[0,1],[1,2],[0,2],[2,3]] = [[0, 1, 2], [0, 2, 3], [1, 2, 3]] := by
  unfold esuSets
  simp only [extend_eq_extendS 3 _ _ 2 [_] _ _ rfl]
  decide +kernel

/-- with the `visited` filter of `count_motif`: the sorted node sets the ESU pass really counts are the
connected-by-pairs `n`-sets (rooted at their minimum) not visited by an earlier pass, each once -/
theorem C11_esu_visited (n : Nat) (hn : 1 ≤ n) (E : HG) (vis : List (List Nat)) :
    (stdSets n E vis).Nodup ∧
    ∀ S, S ∈ stdSets n E vis ↔
      S ∉ vis ∧ SSorted S ∧ S.length = n ∧ ∃ v ∈ roots E, RootValid (nbrs E) v S := by
  refine ⟨List.Pairwise.filter _ (esu_sorted_nodup hn E), ?_⟩
  intro S
  unfold stdSets
  rw [List.mem_filter, ← mem_esu_sorted hn]
  simp only [List.mem_map, Bool.not_eq_true', List.contains_eq_mem, decide_eq_false_iff_not]
  constructor
  · rintro ⟨h1, h2⟩; exact ⟨h2, h1⟩
  · rintro ⟨h1, h2⟩; exact ⟨h2, h1⟩

example : RootValid (nbrs [[0,1],[1,2],[0,2],[2,3]]) 1 [1,2,3] := by
  have e12 : 2 ∈ nbrs [[0,1],[1,2],[0,2],[2,3]] 1 := by decide
  have e23 : 3 ∈ nbrs [[0,1],[1,2],[0,2],[2,3]] 2 := by decide
  refine ⟨by decide, by decide, ?_⟩
  intro x hx
  have h1 : ReachIn (nbrs [[0,1],[1,2],[0,2],[2,3]]) [1,2,3] [1] 1 := ReachIn.base (by simp)
  have h2 := ReachIn.step h1 e12 (by decide)
  have h3 := ReachIn.step h2 e23 (by decide)
  simp only [List.mem_cons, List.not_mem_nil, or_false] at hx
  rcases hx with rfl | rfl | rfl <;> assumption

/-! ## the two higher-order passes

`WF E`: the hyperedges are distinct and each is a strictly increasing list of labels - what
`Hypergraph.get_edges()` returns (keys of a dict of `tuple(sorted(edge))`). -/

/-- `_motifs_ho_full`: the node sets visited are exactly the hyperedges of size `n`, each once -/
theorem C11_full (n : Nat) (E : HG) (hE : WF E) :
    (fullSets n E).Nodup ∧ ∀ S, S ∈ fullSets n E ↔ S ∈ E ∧ S.length = n :=
  ⟨List.Pairwise.filter _ hE.nodup, fun _ => mem_fullSets⟩

/-- `_motifs_ho_not_full` (order 4): the newly visited node sets are exactly the 4-sets that are not a
hyperedge and are the union of a hyperedge `e` of size 3 and a hyperedge `e'` of size < 4 meeting `e`;
each is visited once -/
theorem C11_not_full (E : HG) (hE : WF E) :
    (notFullSets 4 E (fullSets 4 E)).Nodup ∧
    ∀ S, S ∈ notFullSets 4 E (fullSets 4 E) ↔
      SSorted S ∧ S.length = 4 ∧ S ∉ E ∧
      ∃ e ∈ E, e.length = 3 ∧ (∀ z ∈ e, z ∈ S) ∧ ∃ e' ∈ E, e'.length < 4 ∧ (∀ z ∈ e', z ∈ S) ∧
        (∃ x ∈ e, x ∈ e') ∧ ∀ z ∈ S, z ∈ e ∨ z ∈ e' :=
  ⟨nodup_visitNew, fun _ => mem_notFullSets⟩

example : WF [[0,1],[1,2],[0,1,2],[2,3],[1,2,3,4]] := ⟨by decide, by decide⟩
example : notFullSets 4 [[0,1],[1,2],[0,1,2],[2,3],[1,2,3,4]] (fullSets 4 [[0,1],[1,2],[0,1,2],[2,3],[1,2,3,4]])
    = [[0,1,2,3]] := by decide

/-! ## the census

`Conn E S`: every two nodes of `S` are joined by a chain of hyperedges of `E` that lie inside `S`
(`Reach`, `hadj` in `Proofs/C11Passes.lean`).  `nodesOf E`: the sorted node set.
`pattern n E S`: the labelled pattern of `S` (which of its sub-hyperedges of size `2..n` are in `E`). -/

open Classical in
/-- `compute_motifs(h, n, 0)['observed']`: for every class `c` of `generate_motifs(n)`, in that order, the
count is the number of `n`-subsets `S` of the node set that are connected by the hyperedges inside them
and whose labelled pattern is a relabelling of `c`.  (With `C11_classes`: each connected subset is filed
under exactly one class.) -/
theorem C11_census (n : Nat) (hn : n = 3 ∨ n = 4) (E : HG) (hE : WF E) :
    census n E = (classes n).map fun c =>
      (c, ((subsetsOfSize n (nodesOf E)).filter fun S =>
              decide (Conn E S ∧ ∃ t ∈ tbls n, applyPerm t c = pattern n E S)).length) :=
  census_spec hn hE

/-- no connected subset is lost: the labelled pattern of a connected `n`-set is connected in the sense of
`_is_connected`, hence (by `C11_classes`) a relabelling of exactly one class, under which `C11_census`
counts it -/
theorem C11_connected_classified (n : Nat) (hn : n = 3 ∨ n = 4) (E : HG) (hE : WF E) (S : List Nat)
    (hS : SSorted S) (hlen : S.length = n) (hc : Conn E S) :
    connected n (masks n) (pattern n E S) = true ∧
    ∃ c ∈ classes n, ∃ t ∈ tbls n, applyPerm t c = pattern n E S := by
  have C := certAll (n := n) (by omega)
  have hconn := conn_pattern (by rcases hn with h | h <;> omega) hE hS hlen hc
  have hlt := pattern_lt E hlen
  have hne := (C.conn _ hlt).mp hconn
  exact ⟨hconn, cidC n (pattern n E S), cid_mem_classes C hlt hne, C.ofRep _ hlt hne⟩

theorem C11.stdSets_ex3 : stdSets 3 [[0,1],[1,2],[0,1,2],[2,3],[1,3]] [[0,1,2]] = [[0, 1, 3], [1, 2, 3]] := by
  unfold stdSets esuSets
  simp only [extend_eq_extendS 3 _ _ 2 [_] _ _ rfl]
  decide +kernel
theorem C11.upTo_ex3 : upTo 3 [[0,1],[1,2],[0,1,2],[2,3],[1,3]] = [[0,1],[1,2],[0,1,2],[2,3],[1,3]] := by decide
theorem C11.fullSets_ex3 : fullSets 3 [[0,1],[1,2],[0,1,2],[2,3],[1,3]] = [[0,1,2]] := by decide

theorem C11.census_ex3 :
    census 3 [[0,1],[1,2],[0,1,2],[2,3],[1,3]] = [(1, 0), (3, 0), (6, 1), (7, 1), (14, 1), (15, 0)] := by
  unfold census censusWith stdPats
  simp only [upTo_ex3, fullSets_ex3, stdSets_ex3, labeling, tbls3_eq, classes3_eq]
  decide +kernel

/-- non-vacuity: a hyperedge of size 3 with two of its pairs, plus a triangle and a path of pairs -/
example : WF [[0,1],[1,2],[0,1,2],[2,3],[1,3]] := ⟨by decide, by decide⟩
example : census 3 [[0,1],[1,2],[0,1,2],[2,3],[1,3]] = [(1, 0), (3, 0), (6, 1), (7, 1), (14, 1), (15, 0)] :=
  census_ex3

/-- the census does not depend on the order in which the hyperedges were inserted -/
theorem C11_insertion_order_invariant (n : Nat) (hn : n = 3 ∨ n = 4) (E E' : HG) (hE : WF E)
    (hperm : E.Perm E') : census n E' = census n E := by
  have hE' : WF E' := ⟨hperm.nodup_iff.mp hE.nodup, fun e he => hE.sorted e (hperm.mem_iff.mpr he)⟩
  rw [census_closed hn hE, census_closed hn hE']
  apply List.map_congr_left
  intro c _
  rw [(counted_perm hn hE hperm).countP_eq]
  congr 1
  apply List.countP_congr
  intro S _
  rw [pattern_congr fun e _ _ _ => hperm.symm.contains_eq]

/-- the census does not depend on the node labels: renaming the nodes by any injective map `π`
(`relabelHG π E`: every hyperedge mapped and re-sorted, as `Hypergraph.add_edge` stores it) gives the same
count for every class, in the same order -/
theorem C11_relabel_invariant (n : Nat) (hn : n = 3 ∨ n = 4) (E : HG) (hE : WF E) (π : Nat → Nat)
    (hπ : ∀ a b, π a = π b → a = b) : census n (relabelHG π E) = census n E := by
  rw [census_closed hn hE, census_closed hn (relabelHG_wf hπ hE)]
  apply List.map_congr_left
  intro c _
  rw [(counted_relabel hπ hn hE).countP_eq, List.countP_map]
  congr 1
  apply List.countP_congr
  intro S hS
  obtain ⟨hSs, hlen, _⟩ := (mem_counted hn hE).mp hS
  obtain ⟨t, ht, hpat⟩ := pattern_relabel hπ hE hSs hlen
  simp only [Function.comp]
  rw [← hpat, ((certAll (n := n) (by omega)).inv _ (pattern_lt _ (by rw [relabelSet_length, hlen])) t ht).2]

/-- non-vacuity: a renaming that reverses the order of the labels -/
example : relabelHG (fun x => 10 - x) [[0,1],[1,2],[0,1,2],[2,3],[1,3]] = [[9,10],[8,9],[8,9,10],[7,8],[7,9]] := by
  decide

/-- hyperedges with more than `n` nodes are ignored -/
theorem C11_ignores_large (n : Nat) (E : HG) : census n E = census n (E.filter (·.length ≤ n)) := by
  show censusWith _ _ _ n E = censusWith _ _ _ n (upTo n E)
  unfold censusWith; rw [upTo_idem]

/-! ## every connected subset is counted exactly once -/

open Classical in
/-- the per-class counts of `compute_motifs(h, n, 0)['observed']` add up to the number of connected `n`-subsets of
the node set: with `C11_census` (class `c` counts the connected subsets whose pattern is a relabelling of `c`) this
says that every connected subset is counted exactly once - under one class, by one of the three passes -/
theorem C11_census_total (n : Nat) (hn : n = 3 ∨ n = 4) (E : HG) (hE : WF E) :
    ((census n E).map (·.2)).sum
      = ((subsetsOfSize n (nodesOf E)).filter fun S => decide (Conn E S)).length :=
  census_total hn hE

/-- non-vacuity: the census of the example above reports 3 connected 3-subsets (`{0,1,2}`, `{0,1,3}`, `{1,2,3}`;
`{0,2,3}` is not connected) -/
example : ((census 3 [[0,1],[1,2],[0,1,2],[2,3],[1,3]]).map (·.2)).sum = 3 := by
  rw [census_ex3]; rfl

/-! ## the undirected census as an enumeration

`countedPats n E` (`Model/C11Enum.lean`): every node set classified by `_motifs_ho_full`, then (order 4) by
`_motifs_ho_not_full` with the `visited` dict of the first pass, then by `_motifs_standard` (ESU on the pairwise
links) with the `visited` dict of both, each with the labelled pattern that pass hands to the class table (computed
from the pass's own table `T`); `counted n E` = the node sets alone.  `countedWith n E inc g rts` is the same loop
with the incidence lists `graph[x]` of the not-full pass (`inc`), the adjacency lists `graph[w]` (`g`) and the key
order `graph.keys()` (`rts`) of the ESU pass as parameters.  `WF E` as above; `n ∈ {3, 4}`. -/

/-- each connected `n`-set is classified exactly once across the passes, and nothing else is: `counted n E` is
duplicate-free and lists exactly the strictly increasing `n`-lists `S` with `Conn E S` (any two nodes of `S` joined
by a chain of hyperedges lying inside `S`) -/
theorem C11_counted_sets (n : Nat) (hn : n = 3 ∨ n = 4) (E : HG) (hE : WF E) :
    (counted n E).Nodup ∧ ∀ S, S ∈ counted n E ↔ SSorted S ∧ S.length = n ∧ Conn E S :=
  ⟨counted_nodup hn hE, fun _ => mem_counted hn hE⟩

/-- the enumeration does not depend on the insertion order of the hyperedges: the same node sets are classified,
each once (possibly visited in another order) -/
theorem C11_counted_insertion_order (n : Nat) (hn : n = 3 ∨ n = 4) (E E' : HG) (hE : WF E) (hperm : E.Perm E') :
    (counted n E').Perm (counted n E) :=
  counted_perm hn hE hperm

/-- ... nor on the order of the incidence lists: whatever lists `graph[x]` (not-full pass: the hyperedges with
fewer than `n` nodes that contain `x`, in any order, repetitions allowed), `graph[w]` (ESU pass: the pair-neighbours
of `w`, each once, in any order - this also varies the order in which `ext` is filled and popped) and whatever key
order `graph.keys()` (the nodes that lie in a pair, each once) the passes run with, the same (node set, pattern)
pairs are produced, each once, up to order -/
theorem C11_counted_incidence_order (n : Nat) (hn : n = 3 ∨ n = 4) (E : HG)
    (inc : Nat → HG) (g : Nat → List Nat) (rts : List Nat)
    (hinc : ∀ x e, e ∈ inc x ↔ e ∈ E ∧ e.length < n ∧ x ∈ e)
    (hg : ∀ w, (g w).Nodup ∧ ∀ u, u ∈ g w ↔ ∃ e ∈ E, e.length = 2 ∧ w ∈ e ∧ u ∈ e ∧ u ≠ w)
    (hr : rts.Nodup ∧ ∀ v, v ∈ rts ↔ ∃ e ∈ E, e.length = 2 ∧ v ∈ e) :
    (countedWith n E inc g rts).Perm (countedPats n E) :=
  countedWith_perm_of_content (by rcases hn with h | h <;> omega) E hinc hg hr

/-- the pattern a pass hands to the class table is the induced sub-hypergraph with nodes replaced by ranks: for
every produced pair `(S, p)`, `S` is a classified set and `p` - computed from the pass's own table (`T` without the
hyperedges of size `n` in the not-full pass, pairs only in the ESU pass) - equals `inducedMask n E S`, whose bit `i`
says whether the `i`-th rank set of `generate_motifs`' list `A`, read through the sorted list `S`, is a hyperedge
of `E` -/
theorem C11_pattern_induced (n : Nat) (hn : n = 3 ∨ n = 4) (E : HG) (hE : WF E) (sp : List Nat × Nat)
    (h : sp ∈ countedPats n E) :
    sp.1 ∈ counted n E ∧ sp.2 = pattern n E sp.1 ∧ sp.2 = inducedMask n E sp.1 := by
  obtain ⟨h1, h2⟩ := countedPats_pattern hn hE h
  refine ⟨h1, h2, ?_⟩
  rw [h2]; exact pattern_induced E ((mem_counted hn hE).mp h1).2.1

/-- `compute_motifs(h, n, 0)['observed']` is the tally of the enumeration: for every class `c`, in `generate_motifs`
order, the count is the number of produced (node set, pattern) pairs whose pattern is a relabelling of `c`
(`isRelabelOf n c p` ↔ `∃ t ∈ tbls n, applyPerm t c = p`); the per-class `max` over the three passes loses nothing -/
theorem C11_census_counted (n : Nat) (hn : n = 3 ∨ n = 4) (E : HG) (hE : WF E) :
    census n E = (classes n).map fun c =>
      (c, ((countedPats n E).filter fun sp => isRelabelOf n c sp.2).length) := by
  rw [census_closed hn hE]
  apply List.map_congr_left
  intro c hc
  congr 1
  unfold counted
  rw [← List.countP_eq_length_filter, List.countP_map]
  apply List.countP_congr
  intro sp hsp
  obtain ⟨hin, hp⟩ := countedPats_pattern hn hE hsp
  have hiff := exists_relabel_iff_cidC (by omega) hc (pattern_lt E ((mem_counted hn hE).mp hin).2.1)
  simp only [Function.comp, ← hp] at hiff ⊢
  rw [beq_iff_eq, isRelabelOf_iff, hiff]

/-- relabelling: the enumeration of the relabelled hypergraph is the image of the enumeration (`relabelSet π S` =
sorted image of `S`), up to visiting order; together with `C11_pattern_induced`, `C11_census_counted` and the table
theorems this is the route by which `C11_relabel_invariant` (census of a relabelled hypergraph = census) holds -/
theorem C11_counted_relabel (n : Nat) (hn : n = 3 ∨ n = 4) (E : HG) (hE : WF E) (π : Nat → Nat)
    (hπ : ∀ a b, π a = π b → a = b) :
    (counted n (relabelHG π E)).Perm ((counted n E).map (relabelSet π)) :=
  counted_relabel hπ hn hE

/-- non-vacuity, order 3 (the example hypergraph of `C11_census`): the full pass classifies `{0,1,2}` (pattern 11 =
the hyperedge and the pairs `01`, `12`), the ESU pass `{0,1,3}` and `{1,2,3}`; `{0,2,3}` is not connected -/
example : countedPats 3 [[0,1],[1,2],[0,1,2],[2,3],[1,3]] = [([0,1,2], 11), ([0,1,3], 10), ([1,2,3], 14)] := by
  have h2 : sets2 3 [[0,1],[1,2],[0,1,2],[2,3],[1,3]] = [] := rfl
  rw [countedPats_eq, upTo_ex3]
  unfold sets3
  rw [h2, fullSets_ex3, List.nil_append, stdSets_ex3]
  decide
example : inducedMask 3 [[0,1],[1,2],[0,1,2],[2,3],[1,3]] [0,1,3] = 10 ∧
    hyperedges 3 = [[0,1,2],[0,1],[0,2],[1,2]] := by decide

/-- non-vacuity, order 4, all three passes contribute: `{3,4,5,6}` is a hyperedge (and also a path of pairs: the
ESU pass reaches it and skips it as visited), `{0,1,2,3}` is a 3-node hyperedge plus an attached pair, `{2,3,4,5}`
is a path of pairs -/
example : WF [[0,1,2],[2,3],[3,4],[4,5],[5,6],[3,4,5,6]] := ⟨by decide, by decide⟩
example : countedPats 4 [[0,1,2],[2,3],[3,4],[4,5],[5,6],[3,4,5,6]]
    = [([3,4,5,6], 1313), ([0,1,2,3], 1026), ([2,3,4,5], 1312)] := by
  have hu : upTo 4 [[0,1,2],[2,3],[3,4],[4,5],[5,6],[3,4,5,6]] = [[0,1,2],[2,3],[3,4],[4,5],[5,6],[3,4,5,6]] := by
    decide
  have hf : fullSets 4 [[0,1,2],[2,3],[3,4],[4,5],[5,6],[3,4,5,6]] = [[3,4,5,6]] := by decide
  have h2 : sets2 4 [[0,1,2],[2,3],[3,4],[4,5],[5,6],[3,4,5,6]] = [[0,1,2,3]] := by decide
  have h : stdSets 4 [[0,1,2],[2,3],[3,4],[4,5],[5,6],[3,4,5,6]] [[0,1,2,3],[3,4,5,6]] = [[2,3,4,5]] := by
    unfold stdSets esuSets
    simp only [extend_eq_extendS 4 _ _ 3 [_] _ _ rfl]
    decide +kernel
  rw [countedPats_eq, hu]
  unfold sets3
  rw [h2, hf, List.cons_append, List.nil_append, h]
  decide

/-- reversed adjacency lists and reversed key order visit the same sets in another order (order 3 never reads the incidence
lists `inc`; the empty ones passed here do not meet `hinc` of `C11_counted_incidence_order`, so this run shows the effect of
`g` and `rts` only) -/
example : (countedWith 3 [[0,1],[1,2],[0,1,2],[2,3],[1,3]] (fun _ => [])
    (fun w => (nbrs [[0,1],[1,2],[0,1,2],[2,3],[1,3]] w).reverse) [3,2,1,0]).map (·.1)
      = [[0,1,2],[1,2,3],[0,1,3]] := by
  unfold countedWith esuSetsWith
  simp only [extend_eq_extendS 3 _ _ 2 [_] _ _ rfl]
  decide +kernel

/-- the reported counts add up to the number of classified node sets: every node set the three passes classify is
counted under exactly one class (the undirected twin of `C11_dir_census_total`) -/
theorem C11_census_total_counted (n : Nat) (hn : n = 3 ∨ n = 4) (E : HG) (hE : WF E) :
    ((census n E).map (·.2)).sum = (counted n E).length := by
  rw [census_total hn hE, (counted_perm_conn hn hE).length_eq]

/-! ## directed census

Patterns are sorted lists of directed hyperedges over the ranks `1..n`; `drelabel p` relabels by the
permutation `p` of `0..n-1` (and re-sorts), `dpatLe` is Python's order on tuples of tuples, which is a
total order (`Proofs/C11DirOrder.lean`), so "minimum" determines the pattern.  `hn` restricts the statements to the
orders the code accepts; the proofs of the three theorems of this section hold for every `n`. -/

/-- every pattern reported by `compute_directed_motifs` is the least of all its relabellings, i.e. the
canonical representative of its isomorphism class; and no pattern is reported twice -/
theorem C11_dir_canonical (n : Nat) (hn : n = 3 ∨ n = 4) (E : DHG) :
    ((dirCensus n E).map (·.1)).Nodup ∧
    ∀ kc ∈ dirCensus n E, ∀ p ∈ perms (List.range n), dpatLe kc.1 (drelabel p kc.1) = true := by
  refine ⟨dirCensus_keys_nodup n E, ?_⟩
  intro kc h p hp
  obtain ⟨S, hlen, hk⟩ := dirCensus_key h
  rw [hk]
  exact dcanon_min _ (dpattern_wf _ hlen) p hp

/-- the representative depends only on the isomorphism type of the labelled pattern: relabelling a
pattern over the ranks `1..n` does not change its canonical form -/
theorem C11_dir_canon_invariant (n : Nat) (hn : n = 3 ∨ n = 4) (pat : List DEdge) (hw : WFPat n pat)
    (p : List Nat) (hp : p ∈ perms (List.range n)) : dcanon n (drelabel p pat) = dcanon n pat :=
  dcanon_relabel pat hw p hp

/-- the directed census depends only on the isomorphism type of the directed hypergraph: renaming the
nodes by any injective `π` (`relabelDHG π E`: both sides of every hyperedge mapped and re-sorted) yields
the same (canonical pattern, count) pairs, possibly listed in another order.  `DWF E`: distinct
hyperedges with strictly increasing sides, as `DirectedHypergraph.get_edges()` returns them. -/
theorem C11_dir_iso_invariant (n : Nat) (hn : n = 3 ∨ n = 4) (E : DHG) (hE : DWF E) (π : Nat → Nat)
    (hπ : ∀ a b, π a = π b → a = b) : (dirCensus n (relabelDHG π E)).Perm (dirCensus n E) :=
  dirCensus_relabel hπ hE

example : DWF [([0],[1,2]), ([0,1],[2]), ([3],[0,1,2,4])] := ⟨by decide, by decide⟩
example : dirCensus 3 (relabelDHG (fun x => 10 - x) [([0],[1,2]), ([0,1],[2]), ([3],[0,1,2,4])])
    = [([([1],[2,3]), ([1,2],[3])], 1)] := by decide

/-- directed hyperedges with more than `n` nodes are ignored -/
theorem C11_dir_ignores_large (n : Nat) (E : DHG) :
    dirCensus n E = dirCensus n (E.filter (dsize · ≤ n)) := by
  have : dUpTo n (dUpTo n E) = dUpTo n E := by unfold dUpTo; rw [List.filter_filter]; simp
  show dirCensus n E = dirCensus n (dUpTo n E)
  unfold dirCensus; simp only [this]

example : dirCensus 3 [([0],[1,2]), ([0,1],[2]), ([3],[0,1,2,4])] = [([([1],[2,3]), ([1,2],[3])], 1)] := by decide
example : dcanon 3 [([2],[1,3]), ([1,2],[3])] = [([1],[2,3]), ([1,2],[3])] := by decide
example : WFPat 3 [([2],[1,3]), ([1,2],[3])] := by
  intro e he; simp at he; rcases he with rfl | rfl <;> simp

/-! ## the directed census as an enumeration

`dCounted n F`: the node sets classified by the two directed passes (`_directed_motifs_ho_full`, then for order 4
`_directed_motifs_ho_not_full` with the `visited` dict of the first).  Hypotheses of the census theorems: `DWF E`
and both sides of every hyperedge non-empty.  The second one is needed: `DirectedHypergraph.add_edge` accepts an
empty side, such a hyperedge on `n` nodes is visited by the full pass but is no member of
`_all_directed_hyperedges`, its pattern can then coincide with a not-full pattern and the dict merge
`mappa[key] = count` of `compute_directed_motifs` overwrites the full-pass count (witness below). -/

/-- which node sets the directed census classifies, each exactly once: the `n`-sets spanned by one hyperedge
(`dnodes e = S`), and for order 4 the 4-sets that are the union of a hyperedge `e` on 3 distinct nodes and a
hyperedge `f` with disjoint sides that shares a node with `e` (and are not spanned by a single hyperedge - the
`visited` test; a set qualifying both ways is listed by the full pass only) -/
theorem C11_dir_counted_sets (n : Nat) (F : DHG) :
    (dCounted n F).Nodup ∧
    ∀ S, S ∈ dCounted n F ↔ S.length = n ∧
      ((∃ e ∈ F, dnodes e = S) ∨
       (n = 4 ∧ ∃ e ∈ F, (dnodes e).length + 1 = n ∧ dsize e + 1 = n ∧
          ∃ x, (x ∈ e.1 ∨ x ∈ e.2) ∧ ∃ f ∈ F, (x ∈ f.1 ∨ x ∈ f.2) ∧ (dnodes f).length = dsize f ∧
            S = sset (e.1 ++ e.2 ++ f.1 ++ f.2))) :=
  ⟨dCounted_nodup n F, fun _ => mem_dCounted⟩

/-- `compute_directed_motifs(h, n, 0)['observed']` is the enumeration: a pair `(k, c)` is reported iff `c > 0` and
`c` is the number of classified node sets `S` whose induced labelled pattern `dpattern F S` has canonical form `k`
(`F` = the hyperedges with at most `n` nodes).  In particular the dict merge of the two passes loses nothing. -/
theorem C11_dir_census (n : Nat) (hn : n = 3 ∨ n = 4) (E : DHG) (hE : DWF E)
    (hne : ∀ e ∈ E, e.1 ≠ [] ∧ e.2 ≠ []) (k : List DEdge) (c : Nat) :
    (k, c) ∈ dirCensus n E ↔
      0 < c ∧ c = ((dCounted n (dUpTo n E)).filter fun S => dcanon n (dpattern (dUpTo n E) S) == k).length := by
  rw [dirCensus_closed hn hE hne]
  generalize hg : (fun S => dcanon n (dpattern (dUpTo n E) S)) = g
  have hgk : ∀ S, dcanon n (dpattern (dUpTo n E) S) = g S := fun S => by rw [← hg]
  simp only [hgk]
  unfold dCounted
  rw [List.filter_append, List.length_append, ← count_map_keys g, ← count_map_keys g, List.mem_append]
  have hpos : ∀ L : List (List DEdge), k ∈ L ↔ 0 < L.count k := fun L => List.count_pos_iff.symm
  by_cases h4 : (n == 4) = true
  · simp only [h4, if_true, mem_dspec]
    have hdis : ((dFullSets n (dUpTo n E)).map g).count k = 0 ∨
        ((dNotFullSets n (dUpTo n E) (dFullSets n (dUpTo n E))).map g).count k = 0 := by
      by_cases hs : hasSpan n k = true
      · refine Or.inr (List.count_eq_zero_of_not_mem fun hk => ?_)
        rw [notFull_key_no_span (by rw [hg]; exact hk)] at hs
        exact absurd hs (by simp)
      · exact Or.inl (List.count_eq_zero_of_not_mem fun hk => hs (full_key_span hE hne (by rw [hg]; exact hk)))
    rw [hpos, hpos]
    omega
  · simp only [h4, Bool.false_eq_true, if_false, List.not_mem_nil, or_false, mem_dspec, List.map_nil,
      List.count_nil, Nat.add_zero]
    rw [hpos]
    omega

/-- every classified node set is counted exactly once: the reported counts add up to the number of classified
node sets -/
theorem C11_dir_census_total (n : Nat) (hn : n = 3 ∨ n = 4) (E : DHG) (hE : DWF E)
    (hne : ∀ e ∈ E, e.1 ≠ [] ∧ e.2 ≠ []) :
    ((dirCensus n E).map (·.2)).sum = (dCounted n (dUpTo n E)).length := by
  rw [dirCensus_closed hn hE hne]
  unfold dCounted
  rw [List.map_append, List.sum_append, dspec_total, List.length_append, List.length_map]
  split
  · rw [dspec_total, List.length_map]
  · rfl

/-- non-vacuity (order 4, both passes contribute): `{0,1,2,3}` is spanned by one hyperedge, `{0,1,2,4}` and
`{5,6,7,8}` are a 3-node hyperedge plus an attached pair -/
example : DWF [([0],[1,2,3]), ([0],[1,2]), ([2],[4]), ([5],[6,7]), ([7],[8])] ∧
    ∀ e ∈ [([0],[1,2,3]), ([0],[1,2]), ([2],[4]), ([5],[6,7]), ([7],[8])], e.1 ≠ [] ∧ e.2 ≠ [] :=
  ⟨⟨by decide, by decide⟩, by decide⟩
example : dCounted 4 [([0],[1,2,3]), ([0],[1,2]), ([2],[4]), ([5],[6,7]), ([7],[8])]
    = [[0,1,2,3], [0,1,2,4], [5,6,7,8]] := by decide
example : dirCensus 4 [([0],[1,2,3]), ([0],[1,2]), ([2],[4]), ([5],[6,7]), ([7],[8])]
    = [([([1],[2,3]), ([1],[2,3,4])], 1), ([([1],[2]), ([3],[1,4])], 2)] := by
  unfold dirCensus
  simp (disch := decide) only [dpattern_induced]
  decide +kernel

/-- the hypothesis "non-empty sides" is needed: with the empty-source hyperedge `([], [1,2,3,4])` the full pass
files `{1,2,3,4}` under the same key as the not-full pass files `{11,12,13,14}`, and the merge keeps only the
latter count - two classified node sets, reported count 1 (the implementation does the same) -/
example : dCounted 4 [([], [1,2,3,4]), ([1],[2,3]), ([3],[4]), ([11],[12,13]), ([13],[14])]
    = [[1,2,3,4], [11,12,13,14]] := by decide
example : dirCensus 4 [([], [1,2,3,4]), ([1],[2,3]), ([3],[4]), ([11],[12,13]), ([13],[14])]
    = [([([1],[2]), ([3],[1,4])], 1)] := by
  unfold dirCensus
  simp (disch := decide) only [dpattern_induced]
  decide +kernel

/-- the class a node set is filed under is the class of its induced sub-hypergraph: for every classified node set
`S` (strictly increasing) the labelled pattern handed to `dcanon` consists exactly of the hyperedges of `F` that lie
inside `S` (non-empty disjoint sides), nodes replaced by their ranks `1..n` in `S` -/
theorem C11_dir_pattern_induced (n : Nat) (F : DHG) (hF : DWF F) (S : List Nat) (hS : S ∈ dCounted n F)
    (e' : DEdge) :
    SSorted S ∧
    (e' ∈ dpattern F S ↔ ∃ e ∈ F, e.1 ≠ [] ∧ e.2 ≠ [] ∧ (∀ x ∈ e.1, x ∈ S) ∧ (∀ x ∈ e.2, x ∈ S ∧ x ∉ e.1) ∧
      e' = rankE S e) :=
  ⟨dCounted_sorted hS, mem_dpattern hF (dCounted_sorted hS)⟩

example : dpattern [([0],[1,2,3]), ([0],[1,2]), ([2],[4]), ([5],[6,7]), ([7],[8])] [0,1,2,4]
    = [([1],[2,3]), ([3],[4])] := by
  rw [dpattern_induced (by decide)]; decide +kernel

/-! ## the null-model arithmetic (`runs_config_model > 0`)

`diffSum obs nulls` = `utils.diff_sum` on the counts of the observed census and of the configuration-model rounds
(`Model/C11Stats.lean`), `normVector` = `utils.norm_vector` with `math.sqrt` as a parameter, `dDiffSum` =
`utils.directed_diff_sum`.  The guard of `diffSum` (at least one round, every round lists the classes of the
observed census) is what `compute_motifs` guarantees. -/

/-- `diff_sum`: one entry per class; entry `i` is `(o - u) / (o + u + 4)` with `o` the observed count and `u` the
mean of the rounds' counts of class `i` (the denominator is positive - no division by zero); every entry lies
strictly between -1 and 1, and it is positive / negative exactly when the observed count is above / below the
mean (the total over the rounds `(nulls.map fun m => m[i]?.getD 0).sum` is compared with `obs[i] * nulls.length`, without
division) -/
theorem C11_diff_sum (obs : List Nat) (nulls : List (List Nat)) (d : List Rat) (h : diffSum obs nulls = some d) :
    d.length = obs.length ∧ (∀ x ∈ d, -1 < x ∧ x < 1) ∧
    ∀ i (hi : i < obs.length),
      d[i]? = some (relAb obs[i] (((nulls.map fun m => m[i]?.getD 0).sum : Nat) / (nulls.length : Rat))) ∧
      (0 : Rat) < (obs[i] : Rat) + (((nulls.map fun m => m[i]?.getD 0).sum : Nat) / (nulls.length : Rat)) + 4 ∧
      (∀ x, d[i]? = some x → ((0 < x ↔ (nulls.map fun m => m[i]?.getD 0).sum < obs[i] * nulls.length) ∧
        (x < 0 ↔ obs[i] * nulls.length < (nulls.map fun m => m[i]?.getD 0).sum))) := by
  unfold diffSum at h
  split at h
  · rename_i hok
    obtain ⟨hne, hlen⟩ := statsOk_iff.mp hok
    have hd : d = List.zipWith relAb obs (avgNull obs.length nulls) := by simpa using h.symm
    have hR : (0 : Rat) < (nulls.length : Rat) := by
      have : 0 < nulls.length := List.length_pos_iff.mpr hne
      exact_mod_cast this
    refine ⟨?_, ?_, ?_⟩
    · rw [hd, List.length_zipWith]
      unfold avgNull
      rw [List.length_map, colSums_length hlen]; simp
    · intro x hx
      rw [hd] at hx
      obtain ⟨o, _, u, hu, rfl⟩ := mem_zipWith_relAb hx
      exact relAb_bounds o (avgNull_nonneg u hu)
    · intro i hi
      have hu : (0 : Rat) ≤ (((nulls.map fun m => m[i]?.getD 0).sum : Nat) : Rat) / (nulls.length : Rat) :=
        div_nonneg (Nat.cast_nonneg _) (le_of_lt hR)
      have hentry : d[i]? = some (relAb obs[i]
          (((nulls.map fun m => m[i]?.getD 0).sum : Nat) / (nulls.length : Rat))) := by
        rw [hd, List.getElem?_zipWith]
        unfold avgNull
        rw [List.getElem?_map, colSums_getElem? hlen hi, List.getElem?_eq_getElem hi]
        rfl
      refine ⟨hentry, relAb_den_pos _ hu, ?_⟩
      intro x hx
      rw [hentry] at hx
      have hx' := Option.some.inj hx
      subst hx'
      rw [relAb_pos_iff _ hu, relAb_neg_iff _ hu, div_lt_iff₀ hR, lt_div_iff₀ hR]
      constructor <;> constructor <;> intro h' <;> exact_mod_cast h'
  · exact absurd h (by simp)

/-- `norm_vector`: a vector whose sum of squares is 0 is the zero vector and is returned unchanged; otherwise, with
`s` the square root of the sum of squares, the result has as many entries and its squares add up to 1 -/
theorem C11_norm_vector (s : Rat) (a : List Rat) :
    (sumSq a = 0 → normVector s a = a ∧ ∀ x ∈ a, x = 0) ∧
    (sumSq a ≠ 0 → s * s = sumSq a →
      (normVector s a).length = a.length ∧ sumSq (normVector s a) = 1) := by
  unfold normVector
  constructor
  · intro h; exact ⟨by rw [if_pos h], sumSq_eq_zero h⟩
  · intro h hs
    rw [if_neg h, List.length_map, sumSq_div, hs]
    exact ⟨rfl, div_self h⟩

/-- `directed_diff_sum`: its two branches are one formula - a canonical pattern that no round reported is treated
as mean 0 - namely `(o - u) / (o + u + 4)` with `u` = (total count of that key over the rounds) / rounds; every
entry lies strictly between -1 and 1 -/
theorem C11_dir_diff_sum {K : Type} [DecidableEq K] (obs : List (K × Nat)) (nulls : List (List (K × Nat))) :
    dDiffSum obs nulls = (obs.map fun p => relAb p.2 ((dKeySum nulls p.1 : Rat) / (nulls.length : Rat))) ∧
    ∀ x ∈ dDiffSum obs nulls, -1 < x ∧ x < 1 := by
  have key : dDiffSum obs nulls
      = (obs.map fun p => relAb p.2 ((dKeySum nulls p.1 : Rat) / (nulls.length : Rat))) := by
    unfold dDiffSum
    apply List.map_congr_left
    intro p _
    split
    · rfl
    · rename_i hk
      rw [dKeySum_eq_zero (by simpa using hk)]
      simp [relAb_zero_right]
  refine ⟨key, ?_⟩
  intro x hx
  rw [key] at hx
  obtain ⟨p, _, rfl⟩ := List.mem_map.mp hx
  exact relAb_bounds _ (div_nonneg (Nat.cast_nonneg _) (Nat.cast_nonneg _))

/-- non-vacuity: two rounds, observed above / equal to / below the mean -/
example : diffSum [4, 1, 0] [[2, 1, 3], [2, 1, 5]] = some [1/5, 0, -1/2] := by decide +kernel
example : normVector 5 [3, -4, 0] = [3/5, -4/5, 0] ∧ (5 : Rat) * 5 = sumSq [3, -4, 0] := by decide +kernel
example : dDiffSum [(7, 4), (9, 2)] [[(7, 2)], [(7, 2), (8, 1)]] = [1/5, 1/3] := by decide +kernel
