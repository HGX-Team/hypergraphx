import Hgxv.Proofs.C13
import Hgxv.Proofs.C13Relabel
import Hgxv.Proofs.C13Ext
import Hgxv.Proofs.C13Layer
import Hgxv.Proofs.C13Obj
/-! # C13 — configuration models preserve every node's degree and every hyperedge size

Theorems about the models `Hgxv/Model/C13.lean` (the runs), `C13Ext.lean` (entry point, reports) and `C13Obj.lean`
(integer arguments, unknown labels, the returned object) of `generation/configuration_model.py`
(`label ∈ {'edge','stub'}`, for which the code runs the same routine) and `generation/directed_configuration_model.py`.

Every statement is for **all** lists of draws (`ds`): the random choices of the Python code are the
elements of that list, so the theorems cover every seed and every execution that returns
(`= .ok _`; `.error .diverge` is an exhausted draw list, `.error .raise` an exception of the code).

Hypotheses used, and why the real code guarantees them:
* `hnd : ∀ e ∈ es, e.Nodup` — a stored hyperedge is a node *set* (the property's quantifier;
  `Hypergraph` stores the sorted tuple of the nodes it was given);
* `hdist : es.Nodup` (where it is stated: the calls with `size=` / `order=`, `n_steps = 0`, and
  `C13_int_invariants` for every call) — `Hypergraph.get_edges()` lists the keys of a dict;
* `hs` (`C13_zero_steps`), `hf` (`C13_singleton_layer`): the hyperedges concerned are strictly increasing tuples — `Hypergraph`
  stores `tuple(sorted(edge))`; needed because the call sorts what it returns.

Observables: `degK es n k` = number of hyperedges of size `k` containing `n`, `deg es n` = number of
hyperedges containing `n`, `sizes es` = list of sizes, `incidences es` = all (node, size) pairs and
`stubs es` = all node occurrences, with multiplicity. -/
open C13

/-- both sizes are kept, both results are duplicate-free, the nodes are redistributed -/
theorem C13_reshuffle (f1 f2 : Edge) (ds : List Draw) (g1 g2 : Edge) (ds' : List Draw)
    (h : reshuffle f1 f2 ds = .ok (g1, g2, ds')) (h1 : f1.Nodup) (h2 : f2.Nodup) :
    g1.length = f1.length ∧ g2.length = f2.length ∧ g1.Nodup ∧ g2.Nodup ∧
      (g1 ++ g2).Perm (f1 ++ f2) := by
  have g := reshuffle_good h h1 h2
  refine ⟨g.len1, g.len2, g.nd1, g.nd2, List.perm_iff_count.mpr fun a => ?_⟩
  rw [List.count_append, List.count_append]; exact g.cnt a

example : reshuffle [0, 1, 2] [1, 3] [.coin false, .coin true] = .ok ([1, 2, 3], [0, 1], [.coin true]) := rfl

theorem C13_step_sizes (detailed : Bool) (es : List Edge) (ds : List Draw) (es' : List Edge)
    (ds' : List Draw) (h : mhStep detailed es ds = .ok (es', ds')) (hnd : ∀ e ∈ es, e.Nodup) :
    sizes es' = sizes es := (mhStep_inv h hnd).sizes

theorem C13_step_nodup (detailed : Bool) (es : List Edge) (ds : List Draw) (es' : List Edge)
    (ds' : List Draw) (h : mhStep detailed es ds = .ok (es', ds')) (hnd : ∀ e ∈ es, e.Nodup) :
    ∀ e ∈ es', e.Nodup := (mhStep_inv h hnd).nd

/-- the multiset of stubs is always unchanged; with `detailed` (the two sizes are equal) so is the
multiset of (node, size) incidences -/
theorem C13_step_incidences (detailed : Bool) (es : List Edge) (ds : List Draw) (es' : List Edge)
    (ds' : List Draw) (h : mhStep detailed es ds = .ok (es', ds')) (hnd : ∀ e ∈ es, e.Nodup) :
    (stubs es').Perm (stubs es) ∧ (detailed = true → (incidences es').Perm (incidences es)) :=
  ⟨(mhStep_inv h hnd).stubs, (mhStep_inv h hnd).incs⟩

-- a step that rejects the pair (0,2) of unequal sizes, accepts (0,1) and moves nodes
example : mhStep true [[0, 1], [2, 3], [0, 2, 4]]
    [.idx 0 2, .idx 0 1, .coin true, .coin false, .coin false, .coin true]
    = .ok ([[0, 3], [1, 2], [0, 2, 4]], [.coin true]) := rfl
-- not detailed: a pair of different sizes exchanges nodes, the per-size incidences do change
example : mhStep false [[0, 1], [1, 2, 3], [2, 4]] [.idx 1 2, .coin true, .coin false, .coin false]
    = .ok ([[0, 1], [1, 2, 4], [2, 3]], [.coin false]) := rfl

/-- after any number of steps: duplicate-free hyperedges, the same sizes position by position, every
node's degree unchanged, and with `detailed` every node's degree at every size unchanged -/
theorem C13_chain (detailed : Bool) (n : Nat) (es : List Edge) (ds : List Draw) (es' : List Edge)
    (ds' : List Draw) (h : chain detailed n es ds = .ok (es', ds')) (hnd : ∀ e ∈ es, e.Nodup) :
    (∀ e ∈ es', e.Nodup) ∧ sizes es' = sizes es ∧
      (stubs es').Perm (stubs es) ∧ (∀ x, deg es' x = deg es x) ∧
      (detailed = true → (incidences es').Perm (incidences es) ∧ ∀ x k, degK es' x k = degK es x k) := by
  have I := chain_inv h hnd
  exact ⟨I.nd, I.sizes, I.stubs, I.deg hnd, fun hd => ⟨I.incs hd, I.degK hnd hd⟩⟩

example : chain true 2 [[0, 1], [2, 3], [0, 2]]
    [.idx 0 1, .coin true, .coin false, .coin false, .idx 2 0, .coin true]
    = .ok ([[0, 3], [1, 2], [0, 2]], []) := rfl

/-- for every listing `F`: the merged listing has distinct members, the same members, never a higher
degree, and when nothing was merged it is `F` itself -/
theorem C13_dedupe (F : List Edge) :
    (dedup F).Nodup ∧ (∀ e, e ∈ dedup F ↔ e ∈ F) ∧
      (∀ x k, degK (dedup F) x k ≤ degK F x k) ∧ (∀ x, deg (dedup F) x ≤ deg F x) ∧
      ((dedup F).length = F.length → dedup F = F) :=
  ⟨dedup_nodup F, mem_dedup F, fun _ _ => (dedup_sublist F).countP_le,
    fun _ => (dedup_sublist F).countP_le, dedup_eq_of_length F⟩

example : dedup [[0, 3], [1, 2], [0, 3]] = [[1, 2], [0, 3]] := rfl

/-- `detailed=True`: the result is a valid hypergraph (distinct duplicate-free hyperedges) in which no
node has a higher degree at any size; when the number of hyperedges is preserved every node has exactly
its original degree at every size and the multiset of sizes is unchanged -/
theorem C13_detailed (label : Label) (n : Nat) (es : List Edge) (ds : List Draw) (out : List Edge)
    (h : configurationModel label true none n es ds = .ok out) (hnd : ∀ e ∈ es, e.Nodup) :
    out.Nodup ∧ (∀ e ∈ out, e.Nodup) ∧ out.length ≤ es.length ∧
      (∀ x k, degK out x k ≤ degK es x k) ∧
      (out.length = es.length → (∀ x k, degK out x k = degK es x k) ∧ (sizes out).Perm (sizes es)) := by
  have P := cmMCMC_preserved (label := label) h hnd
  exact ⟨P.distinct, P.edgesNodup, P.len_le, P.degK_le rfl, fun hl => ⟨P.degK_eq hl rfl, P.sizes_eq hl⟩⟩

/-- any `detailed`: only the total degree and the size multiset are claimed -/
theorem C13_not_detailed (label : Label) (detailed : Bool) (n : Nat) (es : List Edge) (ds : List Draw)
    (out : List Edge) (h : configurationModel label detailed none n es ds = .ok out)
    (hnd : ∀ e ∈ es, e.Nodup) :
    out.Nodup ∧ (∀ e ∈ out, e.Nodup) ∧ out.length ≤ es.length ∧
      (∀ x, deg out x ≤ deg es x) ∧
      (out.length = es.length → (∀ x, deg out x = deg es x) ∧ (sizes out).Perm (sizes es)) := by
  have P := cmMCMC_preserved (label := label) h hnd
  exact ⟨P.distinct, P.edgesNodup, P.len_le, P.deg_le, fun hl => ⟨P.deg_eq hl, P.sizes_eq hl⟩⟩

/-- the returned listing is canonical: every hyperedge is the strictly increasing tuple of its node
set and no two listed hyperedges have the same node set (coinciding hyperedges were merged), so
"the output has as many hyperedges as the input" means exactly that no two reshuffled hyperedges
coincided -/
theorem C13_canonical (label : Label) (detailed : Bool) (n : Nat) (es : List Edge) (ds : List Draw)
    (out : List Edge) (h : configurationModel label detailed none n es ds = .ok out)
    (hnd : ∀ e ∈ es, e.Nodup) :
    (∀ e ∈ out, e.Pairwise (· < ·)) ∧
      out.Pairwise (fun e1 e2 => ¬ ∀ x, x ∈ e1 ↔ x ∈ e2) := by
  have P := cmMCMC_preserved (label := label) h hnd
  refine ⟨P.sorted, ?_⟩
  have hd := P.distinct
  have hall : out.Pairwise (fun e1 e2 => e1 ∈ out ∧ e2 ∈ out) :=
    List.pairwise_of_forall_mem_list (fun a ha b hb => ⟨ha, hb⟩)
  exact List.Pairwise.imp₂ (fun e1 e2 hne hmem hset =>
    hne (NatSort.eq_of_mem_iff_of_strict hset (P.sorted e1 hmem.1) (P.sorted e2 hmem.2))) hd hall

/-- the theorems speak of the runs that return; for every non-empty input and every number of steps
such runs exist (e.g. when every drawn pair is `(0, 0)`), so their hypotheses are never vacuous.
Termination of *all* runs is false (`.diverge` example below): the resampling loop stops with
probability one only. -/
theorem C13_returns (label : Label) (detailed : Bool) (n : Nat) (es : List Edge)
    (hne : es ≠ []) (hnd : ∀ e ∈ es, e.Nodup) :
    ∃ ds out, configurationModel label detailed none n es ds = .ok out := by
  obtain ⟨es', h⟩ := chain_returns detailed n es [] hne hnd
  refine ⟨List.replicate n (.idx 0 0) ++ [], dedup (es'.map sortNodes), ?_⟩
  cases label <;> simp only [configurationModel, cmMCMC, stubEdgeMH, h]

-- two steps, number of hyperedges preserved, hyperedges changed
example : configurationModel .edge true none 2 [[0, 1], [2, 3], [0, 2]]
    [.idx 0 1, .coin true, .coin false, .coin false, .idx 2 0, .coin true]
    = .ok [[0, 3], [1, 2], [0, 2]] := rfl
-- one step after which two hyperedges coincide: node 0 and node 3 lose one unit of degree
example : configurationModel .stub true none 1 [[0, 1], [2, 3], [0, 3]]
    [.idx 0 1, .coin true, .coin false, .coin false] = .ok [[1, 2], [0, 3]] := rfl
example : degK [[1, 2], [0, 3]] 0 2 < degK [[0, 1], [2, 3], [0, 3]] 0 2 := by decide
example : configurationModel .stub false none 1 [[0, 1], [1, 2, 3], [2, 4]]
    [.idx 1 2, .coin true, .coin false, .coin false] = .ok [[0, 1], [1, 2, 4], [2, 3]] := rfl
-- the resampling loop can exhaust any finite draw list (stated limit)
example : configurationModel .edge true none 1 [[0, 1], [1, 2, 3]] [.idx 0 1, .idx 1 0, .idx 0 1]
    = .error .diverge := rfl

/-- hyperedges of the other sizes are returned intact (and nothing else of those sizes); for the
reshuffled size the claims of the plain call hold, so they hold for the whole hypergraph -/
theorem C13_restricted (label : Label) (detailed : Bool) (s n : Nat) (es : List Edge) (ds : List Draw)
    (out : List Edge) (h : configurationModel label detailed (some s) n es ds = .ok out)
    (hdist : es.Nodup) (hnd : ∀ e ∈ es, e.Nodup) :
    out.filter (fun e => e.length != s) = es.filter (fun e => e.length != s) ∧
      out.Nodup ∧ out.length ≤ es.length ∧
      (∀ x, deg out x ≤ deg es x) ∧ (detailed = true → ∀ x k, degK out x k ≤ degK es x k) ∧
      (out.length = es.length →
        (∀ x, deg out x = deg es x) ∧ (sizes out).Perm (sizes es) ∧
        (detailed = true → ∀ x k, degK out x k = degK es x k)) := by
  obtain ⟨nd, ⟨_, S, hsub, _⟩, hint⟩ := configurationModel_spec h (fun _ => hdist) hnd
  exact ⟨hint s rfl, nd, S.of_sublist hsub⟩

example : configurationModel .stub true (some 2) 1 [[0, 1], [1, 2, 3], [2, 3]]
    [.idx 0 1, .coin true, .coin false, .coin false] = .ok [[0, 3], [1, 2], [1, 2, 3]] := rfl
-- `size=` absent from the hypergraph: `np.random.randint(0, 0, 2)` raises
example : configurationModel .stub true (some 4) 1 [[0, 1], [1, 2, 3], [2, 3]] [.idx 0 1]
    = .error .raise := rfl

/-! ## `directed_configuration_model`, for every draw list

Hypothesis `hnd`: both sides of a stored hyperedge are node sets (duplicate-free tuples).
`outDeg es x` = number of hyperedges with `x` in the source set, `inDeg es x` = with `x` in the
target set, `shapes es` = list of (source size, target size). -/

/-- one iteration of either loop keeps the sides duplicate-free, the shapes position by position and
the multisets of source stubs and target stubs -/
theorem C13_directed_step (tgt : Bool) (es : List DEdge) (ds : List Nat) (es' : List DEdge) (ds' : List Nat)
    (h : swapStep tgt es ds = .ok (es', ds')) (hnd : ∀ e ∈ es, e.1.Nodup ∧ e.2.Nodup) :
    (∀ e ∈ es', e.1.Nodup ∧ e.2.Nodup) ∧ shapes es' = shapes es ∧
      (srcStubs es').Perm (srcStubs es) ∧ (tgtStubs es').Perm (tgtStubs es) := by
  have I := swapStep_inv h hnd
  exact ⟨I.nd, I.shp, I.stubs false, I.stubs true⟩

example : swapStep false [([0, 1], [2]), ([2], [3, 4])] [0, 1, 1, 0] = .ok ([([0, 2], [2]), ([1], [3, 4])], []) := rfl
-- first refusal test: node 1 is already in the other source set
example : swapStep false [([0, 1], [2]), ([1], [3, 4])] [0, 1, 0, 0] = .ok ([([0, 1], [2]), ([1], [3, 4])], []) := rfl

/-- the returned hypergraph has distinct hyperedges in canonical form (both sides strictly increasing
tuples, so distinct as pairs of node sets), not more than the input, and no node has a
higher out-degree (source side) or in-degree (target side) -/
theorem C13_directed_never_more (es : List DEdge) (ds : List Nat) (out : List DEdge)
    (h : directedCM es ds = .ok out) (hnd : ∀ e ∈ es, e.1.Nodup ∧ e.2.Nodup) :
    out.Nodup ∧ (∀ e ∈ out, e.1.Pairwise (· < ·) ∧ e.2.Pairwise (· < ·)) ∧ out.length ≤ es.length ∧
      (∀ x, outDeg out x ≤ outDeg es x) ∧ (∀ x, inDeg out x ≤ inDeg es x) := by
  have P := directedCM_preserved h hnd
  exact ⟨P.distinct, P.sorted, P.len_le, P.out_le, P.in_le⟩

/-- when the number of hyperedges is preserved, every node keeps its out- and in-degree and the
multiset of (source size, target size) shapes is unchanged -/
theorem C13_directed_preserved (es : List DEdge) (ds : List Nat) (out : List DEdge)
    (h : directedCM es ds = .ok out) (hnd : ∀ e ∈ es, e.1.Nodup ∧ e.2.Nodup)
    (hlen : out.length = es.length) :
    (∀ x, outDeg out x = outDeg es x) ∧ (∀ x, inDeg out x = inDeg es x) ∧
      (shapes out).Perm (shapes es) := by
  have P := directedCM_preserved h hnd
  exact ⟨P.out_eq hlen, P.in_eq hlen, P.shapes_eq hlen⟩

/-- for every non-empty input there are returning runs (no side is touched when `id1 = id2`) -/
theorem C13_directed_returns (es : List DEdge) (hne : es ≠ []) :
    ∃ ds out, directedCM es ds = .ok out := by
  refine ⟨List.replicate (2 * (es.length * 10)) 0 ++ (List.replicate (2 * (es.length * 10)) 0 ++ []),
    dedup (es.map sortSides), ?_⟩
  simp only [directedCM, swapLoop_returns _ _ es _ hne]

-- a run with one source swap and one target swap between hyperedges of different shapes
example : directedCM [([0, 1], [2]), ([2], [3, 4])]
    ([0, 1, 1, 0] ++ List.replicate 38 0 ++ [1, 0, 0, 0] ++ List.replicate 38 1)
    = .ok [([0, 2], [3]), ([1], [2, 4])] := rfl
-- a run after which two hyperedges coincide: node 1 loses one unit of out-degree
example : directedCM [([0], [2]), ([1], [2]), ([1], [3])]
    (List.replicate 60 0 ++ [0, 2, 0, 0] ++ List.replicate 58 0) = .ok [([0], [3]), ([1], [2])] := rfl
example : outDeg [([0], [3]), ([1], [2])] 1 < outDeg [([0], [2]), ([1], [2]), ([1], [3])] 1 := by decide
-- `random.choice` of an empty side raises
example : directedCM [([0], [1]), ([], [1])] [0, 1, 0] = .error .raise := rfl

/-! ## the node labels enter only through their order

The correspondence check (`harness/c13.py`) hands the model the RANK of every label in sorted order (the labels of the real runs
are ints of any magnitude, floats, strings, tuples; weights and metadata of the input are not arguments of the
model at all: it is a function of the hyperedge listing the object has when the call is made).  The two theorems say
that this abstraction loses nothing: for EVERY strictly increasing relabelling `f` and every draw list the run
on the relabelled input has the same outcome kind, and a returned hypergraph is the relabelled one.  Hypothesis
`hf` is exactly "order isomorphism onto its image" (what `sorted`, `==` and `in` of the Python code can see). -/

theorem C13_relabel (f : Nat → Nat) (hf : ∀ a b, a < b → f a < f b) (label : Label) (detailed : Bool)
    (size : Option Nat) (n : Nat) (es : List Edge) (ds : List Draw) :
    (∀ out, configurationModel label detailed size n es ds = .ok out →
        configurationModel label detailed size n (es.map (·.map f)) ds = .ok (out.map (·.map f))) ∧
    (∀ e, configurationModel label detailed size n es ds = .error e →
        configurationModel label detailed size n (es.map (·.map f)) ds = .error e) := by
  have h := configurationModel_map (f := f) hf label detailed size n es ds
  constructor
  · intro out ho; rw [ho] at h; exact h
  · intro e he; rw [he] at h; exact h

theorem C13_directed_relabel (f : Nat → Nat) (hf : ∀ a b, a < b → f a < f b) (es : List DEdge) (ds : List Nat) :
    (∀ out, directedCM es ds = .ok out →
        directedCM (es.map fun e => (e.1.map f, e.2.map f)) ds = .ok (out.map fun e => (e.1.map f, e.2.map f))) ∧
    (∀ e, directedCM es ds = .error e →
        directedCM (es.map fun e => (e.1.map f, e.2.map f)) ds = .error e) := by
  have h := directedCM_map (f := f) hf es ds
  constructor
  · intro out ho; rw [ho] at h; exact h
  · intro e he; rw [he] at h; exact h

-- non-vacuity: `v ↦ 10 v + 3` is strictly increasing; a run of `configurationModel` on ranks and on the stretched labels
example : ∀ a b : Nat, a < b → 10 * a + 3 < 10 * b + 3 := by intro a b h; omega
example : configurationModel .edge true none 2 [[0, 1], [2, 3], [0, 2]]
    [.idx 0 1, .coin true, .coin false, .coin false, .idx 2 0, .coin true] = .ok [[0, 3], [1, 2], [0, 2]] := rfl
example : configurationModel .edge true none 2 [[3, 13], [23, 33], [3, 23]]
    [.idx 0 1, .coin true, .coin false, .coin false, .idx 2 0, .coin true] = .ok [[3, 33], [13, 23], [3, 23]] := rfl
-- the hypothesis is needed: `0 ↦ 5` (not increasing) changes the order in which the nodes are dealt out; the run on
-- `[[0,1],[2,3]]` returns `[[0,3],[1,2]]`, whose image is `{5,3},{1,2}`, the run on the relabelled listing does not
example : configurationModel .edge true none 1 [[0, 1], [2, 3]] [.idx 0 1, .coin true, .coin false, .coin false]
    = .ok [[0, 3], [1, 2]] := rfl
example : configurationModel .edge true none 1 [[1, 5], [2, 3]] [.idx 0 1, .coin true, .coin false, .coin false]
    = .ok [[1, 3], [2, 5]] := rfl
example : directedCM [([3, 13], [23]), ([23], [33, 43])]
    ([0, 1, 1, 0] ++ List.replicate 38 0 ++ [1, 0, 0, 0] ++ List.replicate 38 1)
    = .ok [([3, 23], [33]), ([13], [23, 43])] := rfl

/-! ## the entry point, the returned object, the accounting of the draws

`Model/C13Ext.lean`: `cmCall` (argument handling of `configuration_model(..., order=, size=)`), `cmReport` /
`dcmReport` (the same runs, reporting also the node set of the returned object and how many draws of each kind the
run consumed). -/

/-- the entry point: `order` and `size` together are refused for every input, every draw list, before anything is
drawn; `order=o` is `size=o+1`; without `order` the call is the model `configurationModel` all theorems above speak
of — so every one of them holds for the public function with either spelling -/
theorem C13_call (label : Label) (detailed : Bool) (n : Nat) (es : List Edge) (ds : List Draw) :
    (∀ o s, cmCall label detailed (some o) (some s) n es ds = .error .raise) ∧
    (∀ o, cmCall label detailed (some o) none n es ds = configurationModel label detailed (some (o + 1)) n es ds) ∧
    (∀ size, cmCall label detailed none size n es ds = configurationModel label detailed size n es ds) :=
  ⟨fun _ _ => rfl, fun _ => rfl, fun size => cmCall_none label detailed size n es ds⟩

-- `order=0` reshuffles the singletons (size 1): positions are exchanged, the hyperedge of size 2 is intact
example : cmCall .edge true (some 0) none 1 [[0], [1], [0, 1]] [.idx 0 1, .coin false] = .ok [[1], [0], [0, 1]] := rfl
example : cmCall .edge true (some 1) (some 2) 1 [[0, 1], [2, 3]] [] = .error .raise := rfl

/-- the reports are `cmCall` / `directedCM` plus bookkeeping: their hyperedge listing is what `cmCall` / `directedCM`
answer, for every input and draw list, error outcomes included -/
theorem C13_report_refines :
    (∀ label detailed order size n es ds,
      (cmReport label detailed order size n es ds).map (·.edges) = cmCall label detailed order size n es ds) ∧
    (∀ es ds, (dcmReport es ds).map (·.edges) = directedCM es ds) :=
  ⟨cmReport_edges, dcmReport_edges⟩

example : cmReport .edge true none none 2 [[0, 1], [2, 3], [0, 2]]
    [.idx 0 1, .coin true, .coin false, .coin false, .idx 2 0, .coin true, .coin true]
    = .ok { edges := [[0, 3], [1, 2], [0, 2]], nodes := [0, 1, 2, 3], idx := 2, coins := 4, left := 1 } := rfl

/-- acceptance / rejection accounting of ONE `mh_step`, for every draw list: the step consumes exactly
(the pairs its proposal loop rejects — each a pair of hyperedges of different sizes, and none at all unless
`detailed`) ++ (the accepted pair `i, j`, admissible) ++ (coins only, at most `|f1| + |f2|`), and it rewrites
the listing at the two drawn positions only -/
theorem C13_step_accounting (detailed : Bool) (es : List Edge) (ds : List Draw) (es' : List Edge)
    (ds' : List Draw) (h : mhStep detailed es ds = .ok (es', ds')) :
    ∃ rej i j f1 f2 cs, ds = rej ++ .idx i j :: (cs ++ ds') ∧
      (∀ d ∈ rej, ∃ a b f g, d = .idx a b ∧ es[a]? = some f ∧ es[b]? = some g ∧ f.length ≠ g.length) ∧
      (detailed = false → rej = []) ∧
      es[i]? = some f1 ∧ es[j]? = some f2 ∧ (detailed = true → f1.length = f2.length) ∧
      (∀ c ∈ cs, isCoin c = true) ∧ cs.length ≤ f1.length + f2.length ∧
      es'.length = es.length ∧ (∀ k, k ≠ i → k ≠ j → es'[k]? = es[k]?) := by
  obtain ⟨rej, i, j, f1, f2, cs, g1, g2, e0, hrej, hi, hj, hadm, hcs, hlen, rfl⟩ := mhStep_used h
  refine ⟨rej, i, j, f1, f2, cs, e0, fun d hd => (hrej d hd).sizes, fun hd => rejected_nil (hd ▸ hrej), hi, hj,
    admissible_iff.mp hadm, hcs, hlen, by simp, ?_⟩
  · intro k hki hkj
    rw [List.getElem?_set_ne (Ne.symm hkj), List.getElem?_set_ne (Ne.symm hki)]

-- the step of the example above: one rejected pair (sizes 2 and 3), the accepted pair, three coins, one draw left
example : mhStep true [[0, 1], [2, 3], [0, 2, 4]]
    [.idx 0 2, .idx 0 1, .coin true, .coin false, .coin false, .coin true]
    = .ok ([[0, 3], [1, 2], [0, 2, 4]], [.coin true]) := rfl

/-- accounting of the chain, for every step count and every draw list: the consumed draws are a prefix of the
list; they contain at least `n_steps` index pairs (one accepted pair per step, the surplus are rejections) —
exactly `n_steps` unless `detailed` — and at most `2 · (largest size)` coins per step -/
theorem C13_chain_accounting (detailed : Bool) (n : Nat) (es : List Edge) (ds : List Draw) (es' : List Edge)
    (ds' : List Draw) (h : chain detailed n es ds = .ok (es', ds')) (hnd : ∀ e ∈ es, e.Nodup) :
    ∃ used, ds = used ++ ds' ∧ n ≤ used.countP isIdx ∧ (detailed = false → used.countP isIdx = n) ∧
      used.countP isCoin ≤ n * (2 * maxSize es) ∧ used.length = used.countP isIdx + used.countP isCoin := by
  obtain ⟨used, a, b, c, d⟩ := chain_used h hnd
  exact ⟨used, a, b, c, d, length_eq_idx_add_coin used⟩

/-- accounting of a whole call (plain, `size=`, `order=`): calls of `randint` + calls of `rand` + unused draws
= the draw list; `n_steps ≤` calls of `randint`, with equality unless `detailed`; the coins are bounded -/
theorem C13_report_accounting (label : Label) (detailed : Bool) (order size : Option Nat) (n : Nat)
    (es : List Edge) (ds : List Draw) (r : Report) (h : cmReport label detailed order size n es ds = .ok r)
    (hnd : ∀ e ∈ es, e.Nodup) :
    r.idx + r.coins + r.left = ds.length ∧ n ≤ r.idx ∧ (detailed = false → r.idx = n) ∧
      r.coins ≤ n * (2 * maxSize es) := by
  obtain ⟨sz, es', ds', _, hc, _, _, hi, hk, hl⟩ := cmReport_ok h
  obtain ⟨used, e, c1, c2, c3⟩ := chain_used hc (selected_nodup sz es hnd)
  subst e
  rw [usedOf_append] at hi hk
  have hm := maxSize_selected_le sz es
  have hmul : n * (2 * maxSize (selected sz es)) ≤ n * (2 * maxSize es) :=
    Nat.mul_le_mul_left n (Nat.mul_le_mul_left 2 hm)
  exact ⟨by rw [hi, hk, hl, List.length_append, length_eq_idx_add_coin used], hi ▸ c1, fun hd => hi ▸ c2 hd, hk ▸ Nat.le_trans c3 hmul⟩

-- no rejection: 2 calls of randint for 2 steps
example : cmReport .stub true none (some 2) 2 [[0, 1], [2, 3], [0, 2, 4]]
    [.idx 0 1, .coin true, .coin false, .coin false, .idx 1 1]
    = .ok { edges := [[0, 3], [1, 2], [0, 2, 4]], nodes := [0, 1, 2, 3, 4], idx := 2, coins := 3, left := 0 } := rfl
-- one rejection: 2 calls of randint for 1 step
example : cmReport .stub true none none 1 [[0, 1], [2, 3], [0, 2, 4]]
    [.idx 0 2, .idx 0 1, .coin true, .coin false, .coin false]
    = .ok { edges := [[0, 3], [1, 2], [0, 2, 4]], nodes := [0, 1, 2, 3, 4], idx := 2, coins := 3, left := 0 } := rfl

/-- node set and sizes of the returned listing, for every call (plain / `size=`), every step count, every draw
list, whether or not hyperedges were merged: a node occurs in a returned hyperedge iff it occurs in a hyperedge of
the input; no size is more frequent than in the input; hence no empty (degenerate) hyperedge appears unless the
input has one.  (`hdist`: the listing of a `Hypergraph` has distinct members; asked for `size=` only.) -/
theorem C13_nodes_and_sizes (label : Label) (detailed : Bool) (size : Option Nat) (n : Nat) (es : List Edge)
    (ds : List Draw) (out : List Edge) (h : configurationModel label detailed size n es ds = .ok out)
    (hdist : size.isSome = true → es.Nodup) (hnd : ∀ e ∈ es, e.Nodup) :
    (∀ x, x ∈ stubs out ↔ x ∈ stubs es) ∧ (∀ x, 0 < deg out x ↔ 0 < deg es x) ∧
      (∀ k, (sizes out).count k ≤ (sizes es).count k) ∧
      ((∀ e ∈ es, e ≠ []) → ∀ e ∈ out, e ≠ []) := by
  have K := configurationModel_kept h hdist hnd
  refine ⟨K.nodes, fun x => ?_, K.sizes_le, ?_⟩
  · rw [deg_pos_iff, deg_pos_iff]; exact K.nodes x
  · intro hne e he hnil
    subst hnil
    have h0 : 0 < (sizes out).count 0 := List.count_pos_iff.mpr (List.mem_map.mpr ⟨[], he, rfl⟩)
    have h1 := K.sizes_le 0
    obtain ⟨e0, hm, hl⟩ := List.mem_map.mp (List.count_pos_iff.mp (Nat.lt_of_lt_of_le h0 h1))
    exact hne e0 hm (List.eq_nil_of_length_eq_zero hl)

/-- the node set of the returned OBJECT (`get_nodes()`): strictly increasing, and exactly the nodes of the
input that lie in some hyperedge — isolated nodes of the input are not carried over (stated for calls without
`order`; `order=o` is `size=o+1`) -/
theorem C13_report_nodes (label : Label) (detailed : Bool) (size : Option Nat) (n : Nat)
    (es : List Edge) (ds : List Draw) (r : Report) (h : cmReport label detailed none size n es ds = .ok r)
    (hdist : size.isSome = true → es.Nodup) (hnd : ∀ e ∈ es, e.Nodup) :
    r.nodes.Pairwise (· < ·) ∧ ∀ x, x ∈ r.nodes ↔ 0 < deg es x := by
  have he := cmReport_edges label detailed none size n es ds
  rw [h, cmCall_none] at he
  have K := configurationModel_kept he.symm hdist hnd
  obtain ⟨_, _, _, _, _, _, hn, _⟩ := cmReport_ok h
  rw [hn]
  exact ⟨nodesOf_sorted _, fun x => by rw [mem_nodesOf, deg_pos_iff]; exact K.nodes x⟩

/-- `n_steps = 0`: nothing can fail (also when no hyperedge has the requested size), and the
call returns the hyperedges of the input — the listing itself for the plain call (for a listing of distinct, sorted
hyperedges: `hdist`, `hs`) -/
theorem C13_zero_steps (label : Label) (detailed : Bool) (size : Option Nat) (es : List Edge) (ds : List Draw)
    (hdist : es.Nodup) (hs : ∀ e ∈ es, e.Pairwise (· < ·)) :
    ∃ out, configurationModel label detailed size 0 es ds = .ok out ∧ out.Perm es ∧ (size = none → out = es) := by
  have run (l : List Edge) (hl : l.Sublist es) : cmMCMC label detailed 0 l ds = .ok l := by
    simp only [cmMCMC_eq, stubEdgeMH, chain, sortNodes_eq, (List.map_congr_left fun e he => NatSort.isort_of_strict (hs e (hl.subset he))).trans (List.map_id' l),
      dedup_of_nodup l (hdist.sublist hl)]
  cases size with
  | none => exact ⟨es, run es (.refl es), .refl _, fun _ => rfl⟩
  | some s =>
    refine ⟨_, ?_, List.filter_append_perm (fun e : Edge => e.length == s) es, nofun⟩
    rw [configurationModel, run _ List.filter_sublist]
    refine congrArg Except.ok (foldl_addEdge _ _ (hdist.sublist List.filter_sublist) fun e he hmem => ?_)
    have h1 := (List.mem_filter.mp he).2
    have h2 := (List.mem_filter.mp hmem).2
    simp_all

example : configurationModel .edge true (some 5) 0 [[0, 1], [1, 2, 3]] [] = .ok [[0, 1], [1, 2, 3]] := rfl
example : configurationModel .edge true (some 3) 0 [[0, 1], [1, 2, 3]] [.coin true] = .ok [[1, 2, 3], [0, 1]] := rfl

/-- accounting of the swap loops: an iteration consumes two draws and changes nothing when `id1 == id2`, four
otherwise; a loop of `n` iterations consumes a prefix of between `2n` and `4n` draws -/
theorem C13_directed_accounting (tgt : Bool) :
    (∀ es ds es' ds', swapStep tgt es ds = .ok (es', ds') →
      (∃ a, ds = a :: a :: ds' ∧ es' = es) ∨ (∃ a b c d, a ≠ b ∧ ds = a :: b :: c :: d :: ds')) ∧
    (∀ n es ds es' ds', swapLoop tgt n es ds = .ok (es', ds') →
      ∃ used, ds = used ++ ds' ∧ 2 * n ≤ used.length ∧ used.length ≤ 4 * n) :=
by
  refine ⟨fun _ _ _ _ h => ?_, fun _ _ _ _ _ h => swapLoop_used h⟩
  rcases swapStep_ok h with h | ⟨a, b, c, d, _, _, _, _, hne, hds, _⟩
  · exact .inl h
  · exact .inr ⟨a, b, c, d, hne, hds⟩

/-- accounting of a whole directed call with `m` hyperedges: each loop (10·m iterations) consumes between `20 m`
and `40 m` draws, and source draws + target draws + unused draws = the draw list -/
theorem C13_directed_report_accounting (es : List DEdge) (ds : List Nat) (r : DReport)
    (h : dcmReport es ds = .ok r) :
    r.usedSrc + r.usedTgt + r.left = ds.length ∧
      20 * es.length ≤ r.usedSrc ∧ r.usedSrc ≤ 40 * es.length ∧
      20 * es.length ≤ r.usedTgt ∧ r.usedTgt ≤ 40 * es.length := by
  obtain ⟨es1, ds1, es2, ds2, h1, h2, _, _, a, b, c⟩ := dcmReport_ok h
  obtain ⟨u1, rfl, l1, g1⟩ := swapLoop_used h1
  obtain ⟨u2, rfl, l2, g2⟩ := swapLoop_used h2
  rw [a, b, c]
  simp only [List.length_append, Nat.add_sub_cancel]
  have e20 : 2 * (es.length * 10) = 20 * es.length := by rw [Nat.mul_comm _ 10, ← Nat.mul_assoc]
  have e40 : 4 * (es.length * 10) = 40 * es.length := by rw [Nat.mul_comm _ 10, ← Nat.mul_assoc]
  exact ⟨Nat.add_assoc .., e20 ▸ l1, e40 ▸ g1, e20 ▸ l2, e40 ▸ g2⟩

example : dcmReport [([0, 1], [2]), ([2], [3, 4])]
    ([0, 1, 1, 0] ++ List.replicate 38 0 ++ [1, 0, 0, 0] ++ List.replicate 38 1 ++ [7])
    = .ok { edges := [([0, 2], [3]), ([1], [2, 4])], nodes := [0, 1, 2, 3, 4], usedSrc := 42, usedTgt := 42,
            left := 1 } := rfl

/-- node sets and shapes of the returned directed listing, for every draw list, merged or not: the set of nodes
that are a source (a target) of some hyperedge is unchanged, no (source size, target size) shape is more frequent
than in the input, and the node set of the returned object is strictly increasing = sources ∪ targets of the input -/
theorem C13_directed_nodes_and_shapes (es : List DEdge) (ds : List Nat) (r : DReport)
    (h : dcmReport es ds = .ok r) (hnd : ∀ e ∈ es, e.1.Nodup ∧ e.2.Nodup) :
    (∀ x, x ∈ srcStubs r.edges ↔ x ∈ srcStubs es) ∧ (∀ x, x ∈ tgtStubs r.edges ↔ x ∈ tgtStubs es) ∧
      (∀ x, 0 < outDeg r.edges x ↔ 0 < outDeg es x) ∧ (∀ x, 0 < inDeg r.edges x ↔ 0 < inDeg es x) ∧
      (∀ p, (shapes r.edges).count p ≤ (shapes es).count p) ∧
      r.nodes.Pairwise (· < ·) ∧ (∀ x, x ∈ r.nodes ↔ x ∈ srcStubs es ∨ x ∈ tgtStubs es) := by
  have he := dcmReport_edges es ds
  rw [h] at he
  have K := directedCM_kept he.symm hnd
  obtain ⟨_, _, _, _, _, _, _, hn, _⟩ := dcmReport_ok h
  refine ⟨K.src, K.tgt, fun x => ?_, fun x => ?_, K.shapes_le, ?_, fun x => ?_⟩
  · rw [outDeg_pos_iff, outDeg_pos_iff]; exact K.src x
  · rw [inDeg_pos_iff, inDeg_pos_iff]; exact K.tgt x
  · rw [hn]; exact dnodesOf_sorted _
  · rw [hn, mem_dnodesOf, K.src x, K.tgt x]

/-! ## degenerate layers of the `size=` / `order=` variant

`order` / `size` are the arguments as the caller spelled them (`resolveSize`: `order=o` is the layer of size `o+1`).
Hypotheses: `hdist` — `get_edges()` lists the keys of a dict; `hf` — a stored hyperedge is the sorted tuple of its
nodes; `hempty` / `hsel` — the case distinction itself (the layer is empty / holds exactly `f`). -/

/-- the requested layer is EMPTY (no hyperedge has the requested size — also when hyperedges of size `order` exist):
with `n_steps = 0` the call returns exactly the input listing, every hyperedge intact and in place; with
`n_steps > 0` there is no output (`np.random.randint(0, 0, 2)` raises) -/
theorem C13_empty_layer (label : Label) (detailed : Bool) (order size : Option Nat) (s n : Nat)
    (es : List Edge) (ds : List Draw) (hres : resolveSize order size = .ok (some s))
    (hempty : ∀ e ∈ es, e.length ≠ s) (hdist : es.Nodup) :
    cmCall label detailed order size n es ds = if n = 0 then .ok es else .error .raise := by
  have h1 : es.filter (fun e => e.length == s) = [] :=
    List.filter_eq_nil_iff.mpr (fun e he => by simpa using hempty e he)
  have h2 : es.filter (fun e => e.length != s) = es :=
    List.filter_eq_self.mpr (fun e he => by simpa using hempty e he)
  simp only [cmCall, hres, configurationModel, h1, h2, cmMCMC_nil]
  by_cases hn : n = 0 <;> simp [hn, foldl_addEdge_nil hdist]

-- `order=3` on a hypergraph with hyperedges of size 3 but none of size 4: everything comes back
example : cmCall .edge true (some 3) none 0 [[0, 1], [0, 1, 2], [1, 2, 3], [4]] [] = .ok [[0, 1], [0, 1, 2], [1, 2, 3], [4]] := rfl
example : cmCall .stub false none (some 4) 0 [[0, 1], [0, 1, 2], [1, 2, 3], [4]] [.coin true] = .ok [[0, 1], [0, 1, 2], [1, 2, 3], [4]] := rfl
example : cmCall .edge true (some 3) none 2 [[0, 1], [0, 1, 2]] [.idx 0 0, .idx 0 0] = .error .raise := rfl

/-- the requested layer holds ONE hyperedge `f`: every run that returns — for every `n_steps` and every list of
draws — returns `f` followed by all other hyperedges, intact (the only possible proposal pairs `f` with itself) -/
theorem C13_singleton_layer (label : Label) (detailed : Bool) (order size : Option Nat) (s n : Nat)
    (es : List Edge) (ds : List Draw) (f : Edge) (out : List Edge)
    (hres : resolveSize order size = .ok (some s))
    (hsel : es.filter (fun e => e.length == s) = [f]) (hf : f.Pairwise (· < ·)) (hdist : es.Nodup)
    (h : cmCall label detailed order size n es ds = .ok out) :
    out = f :: es.filter (fun e => e.length != s) ∧ out.Perm es := by
  have hfs : f.length = s := by
    have : f ∈ es.filter (fun e => e.length == s) := hsel ▸ List.mem_cons_self
    simpa using (List.mem_filter.mp this).2
  have hfold : (es.filter (fun e => e.length != s)).foldl addEdge [f] = [f] ++ es.filter (fun e => e.length != s) := by
    refine foldl_addEdge _ _ (hdist.sublist List.filter_sublist) fun e he hmem => ?_
    have h1 := (List.mem_filter.mp he).2
    rw [List.mem_singleton.mp hmem, hfs] at h1
    simp at h1
  have hperm := List.filter_append_perm (fun e : Edge => e.length == s) es
  rw [hsel] at hperm
  have hout : out = f :: es.filter (fun e => e.length != s) := by
    simp only [cmCall, hres, configurationModel_eq, selected, readd, hsel] at h
    obtain ⟨⟨es1, ds1⟩, h1, rfl⟩ := map_eq_ok h
    rw [chain_single detailed n f ds es1 ds1 hf h1]
    simp only [List.map_cons, List.map_nil, sortNodes_of_sorted hf]
    exact hfold
  exact ⟨hout, hout ▸ hperm⟩

example : cmCall .stub true (some 2) none 2 [[0, 1], [0, 1, 2], [3, 4]] [.idx 0 0, .idx 0 0]
    = .ok [[0, 1, 2], [0, 1], [3, 4]] := rfl

/-! ## integer arguments, unknown labels, what the returned object carries

`Model/C13Obj.lean`: `cmCallI` = `configuration_model(h, n_steps, label, order, size, ...)` with `order`, `size`,
`n_steps` INTEGERS of either sign and `label` either `'edge'` / `'stub'` (`LabelX.known`) or a label that
`_cm_MCMC` does not know (`LabelX.other`, `'vertex'` excluded); the answer is the listing of the returned object or
`none` (Python's `None`), together with the draws that were not consumed.  `cmObj` = the same call on an object with
weights and metadata.  Nothing below assumes anything about the draws. -/

/-- the integer entry point refines the models above.  `order` AND `size` are refused for every label, sign and
draw list; natural arguments resolve as in `resolveSize`; for a known label every answer is, for some natural size
`szN` (the requested one when it is non-negative, `none` exactly when neither argument was given), the answer of
`configurationModel … szN (max n_steps 0)` — so every theorem above holds for integer arguments of either sign -/
theorem C13_int_entry (detailed : Bool) (n : Int) (es : List Edge) (ds : List Draw) :
    (∀ lab o s, cmCallI lab detailed (some o) (some s) n es ds = .error .raise) ∧
    (∀ order size : Option Nat, resolveSizeI (order.map Int.ofNat) (size.map Int.ofNat)
        = (resolveSize order size).map (Option.map Int.ofNat)) ∧
    (∀ l order size sz, resolveSizeI order size = .ok sz →
      ∃ szN : Option Nat, (sz = none ↔ szN = none) ∧ (∀ s : Int, sz = some s → 0 ≤ s → szN = some s.toNat) ∧
        (cmCallI (.known l) detailed order size n es ds).map (·.1)
          = (configurationModel l detailed szN n.toNat es ds).map some) := by
  refine ⟨fun _ _ _ => rfl, resolveSizeI_cast, fun l order size sz hres => ?_⟩
  obtain ⟨szN, h1, h2, _, heq⟩ := cmCallI_known l detailed order size n es ds hres
  exact ⟨szN, h1, h2, heq⟩

-- `order=-1` is the layer of size 0; `order=-3` is an empty layer; a negative `n_steps` is no step
example : cmCallI (.known .edge) true (some (-1)) none 1 [[], [0, 1]] [.idx 0 0] = .ok (some [[], [0, 1]], []) := rfl
example : cmCallI (.known .stub) true (some (-3)) none (-2) [[0, 1], [2]] [.idx 0 0] = .ok (some [[0, 1], [2]], [.idx 0 0]) := rfl
example : cmCallI (.known .edge) true none (some 1) 1 [[0], [1], [0, 1]] [.idx 0 1, .coin false]
    = .ok (some [[1], [0], [0, 1]], []) := rfl

/-- a NEGATIVE requested size (`size=s` with `s < 0`, `order=o` with `o < -1`): with `n_steps ≤ 0` the call returns
exactly the input listing and consumes no draw, with `n_steps > 0` it raises (`np.random.randint(0, 0, 2)`) —
for every input and draw list (`hdist`: `get_edges()` lists the keys of a dict) -/
theorem C13_negative_size (l : Label) (detailed : Bool) (order size : Option Int) (n : Int) (es : List Edge)
    (ds : List Draw) (s : Int) (hres : resolveSizeI order size = .ok (some s)) (hs : s < 0) (hdist : es.Nodup) :
    cmCallI (.known l) detailed order size n es ds = if n ≤ 0 then .ok (some es, ds) else .error .raise := by
  have h1 : es.filter (inLayer s) = [] :=
    List.filter_eq_nil_iff.mpr (fun e _ => by simp [inLayer_neg s hs e])
  have h2 : es.filter (fun e => !inLayer s e) = es :=
    List.filter_eq_self.mpr (fun e _ => by simp [inLayer_neg s hs e])
  simp only [cmCallI, hres, selectedI, othersI, h1, h2, mcmcX, chain_nil]
  by_cases hn : n ≤ 0
  · have : n.toNat = 0 := by omega
    simp [hn, this, readdI, dedup, foldl_addEdge_nil hdist]
  · have : n.toNat ≠ 0 := by omega
    simp [hn, this]

example : cmCallI (.known .edge) false none (some (-1)) 0 [[0, 1], [2]] [.coin true] = .ok (some [[0, 1], [2]], [.coin true]) := rfl
example : cmCallI (.known .edge) false (some (-2)) none 3 [[0, 1], [2]] [.idx 0 0] = .error .raise := rfl

/-- the property for the integer entry point (known label, integers of either sign, every draw list): the returned
listing is duplicate-free, no node has a higher degree (at any size when `detailed`), a node has a hyperedge iff it
had one; when the number of hyperedges is preserved degrees (per size when `detailed`) and the multiset of sizes
are unchanged; with a size / order argument the hyperedges outside the requested layer are returned intact
(`hdist` is asked for every call, also without size / order, where the proof does not use it) -/
theorem C13_int_invariants (l : Label) (detailed : Bool) (order size : Option Int) (n : Int) (es : List Edge)
    (ds : List Draw) (out : List Edge) (ds' : List Draw)
    (h : cmCallI (.known l) detailed order size n es ds = .ok (some out, ds'))
    (hdist : es.Nodup) (hnd : ∀ e ∈ es, e.Nodup) :
    out.Nodup ∧ out.length ≤ es.length ∧
      (∀ x, deg out x ≤ deg es x) ∧ (detailed = true → ∀ x k, degK out x k ≤ degK es x k) ∧
      (∀ x, 0 < deg out x ↔ 0 < deg es x) ∧
      (out.length = es.length →
        (∀ x, deg out x = deg es x) ∧ (sizes out).Perm (sizes es) ∧
        (detailed = true → ∀ x k, degK out x k = degK es x k)) ∧
      (∀ s, resolveSizeI order size = .ok (some s) →
        out.filter (fun e => !inLayer s e) = es.filter (fun e => !inLayer s e)) := by
  cases hres : resolveSizeI order size with
  | error e => simp [cmCallI, hres] at h
  | ok sz =>
    obtain ⟨szN, _, _, hlay, heq⟩ := cmCallI_known l detailed order size n es ds hres
    obtain ⟨nd, ⟨L, S, hsub, hmem⟩, hint⟩ := configurationModel_spec (ok_of_map_fst h heq) (fun _ => hdist) hnd
    obtain ⟨a, b, c, d⟩ := S.of_sublist hsub
    refine ⟨nd, a, b, c, fun x => ?_, d, fun s hs => ?_⟩
    · rw [deg_pos_iff, deg_pos_iff]; exact (S.kept hsub hmem).nodes x
    · -- among hyperedges no larger than those of the input the integer layer is the layer of a natural size `k`
      obtain ⟨k, hk, hl⟩ := hlay s (Except.ok.inj hs)
      have e1 : out.filter (fun e => !inLayer s e) = out.filter (fun e => e.length != k) :=
        List.filter_congr fun e he => by rw [hl e (S.size_le (hsub.subset he))]; rfl
      have e2 : es.filter (fun e => !inLayer s e) = es.filter (fun e => e.length != k) :=
        List.filter_congr fun e he => by rw [hl e (mem_le_maxSize he)]; rfl
      rw [e1, e2]
      exact hint k hk

example : cmCallI (.known .stub) false (some 1) none 1 [[0, 1], [1, 2, 3], [2, 4]]
    [.idx 0 1, .coin true, .coin false, .coin false] = .ok (some [[0, 4], [1, 2], [1, 2, 3]], []) := rfl

/-- a label that `_cm_MCMC` does not know (anything but `'edge'`, `'stub'`, `'vertex'`): for every input, every
integer argument and every draw list NO draw is consumed; the plain call returns `None`; the `size=` / `order=`
variant returns `None` when every hyperedge lies in the requested layer and raises otherwise (`None.add_edge`);
`order` and `size` together are refused as for every label.  In particular no hypergraph is ever returned. -/
theorem C13_unknown_label (detailed : Bool) (order size : Option Int) (n : Int) (es : List Edge) (ds : List Draw) :
    (cmCallI .other detailed order size n es ds =
      match resolveSizeI order size with
      | .error e => .error e
      | .ok none => .ok (none, ds)
      | .ok (some s) => if es.all (inLayer s) then .ok (none, ds) else .error .raise) ∧
    (∀ r ds', cmCallI .other detailed order size n es ds = .ok (r, ds') → r = none ∧ ds' = ds) := by
  have h := cmCallI_other detailed order size n es ds
  refine ⟨h, fun r ds' hr => ?_⟩
  rw [h] at hr
  split at hr
  · cases hr
  · simp only [Except.ok.injEq, Prod.mk.injEq] at hr; exact ⟨hr.1.symm, hr.2.symm⟩
  · split at hr
    · simp only [Except.ok.injEq, Prod.mk.injEq] at hr; exact ⟨hr.1.symm, hr.2.symm⟩
    · cases hr

example : cmCallI .other true none none 5 [[0, 1], [2]] [.idx 0 1] = .ok (none, [.idx 0 1]) := rfl
example : cmCallI .other true none (some 2) 5 [[0, 1], [2, 3]] [.idx 0 1] = .ok (none, [.idx 0 1]) := rfl
example : cmCallI .other true (some 1) none 5 [[0, 1], [2]] [.idx 0 1] = .error .raise := rfl

/-- what the returned OBJECT carries (any label, any integer arguments, every draw list): whenever the call
returns a hypergraph it is `bare out` for the listing `out` the entry point answers — unweighted, default hypergraph
metadata, every hyperedge with weight 1 and empty metadata, its nodes exactly `nodesOf out` with empty metadata —
and the whole answer depends on the input object only through `get_edges()`: weights, metadata of hyperedges /
nodes / hypergraph and isolated nodes of the input have no influence -/
theorem C13_result_bare (label : LabelX) (detailed : Bool) (order size : Option Int) (n : Int) (hin : Obj)
    (ds : List Draw) :
    (∀ r ds', cmObj label detailed order size n hin ds = .ok (r, ds') →
      ∃ r0, cmCallI label detailed order size n hin.listing ds = .ok (r0, ds') ∧ r = r0.map bare ∧
        ∀ o, r = some o → ∃ out, r0 = some out ∧ o.listing = out ∧ o.weighted = false ∧ o.hmeta = 0 ∧
          (∀ x ∈ o.items, x.2.1 = 1 ∧ x.2.2 = 0) ∧ o.nodeMeta.map (·.1) = nodesOf out ∧
          (∀ x ∈ o.nodeMeta, x.2 = 0)) ∧
    (∀ hin' : Obj, hin'.listing = hin.listing →
      cmObj label detailed order size n hin' ds = cmObj label detailed order size n hin ds) := by
  refine ⟨fun r ds' hr => ?_, fun hin' hl => cmObj_listing_only label detailed order size n hin' hin ds hl⟩
  obtain ⟨r0, h0, rfl⟩ := cmObj_ok label detailed order size n hin ds r ds' hr
  refine ⟨r0, h0, rfl, fun o ho => ?_⟩
  cases r0 with
  | none => cases ho
  | some out =>
    simp only [Option.map_some, Option.some.injEq] at ho
    subst ho
    have B := bare_carries_nothing out
    exact ⟨out, rfl, bare_listing out, B.1, B.2.1, B.2.2.1, bare_nodes out, B.2.2.2⟩

-- a weighted input with metadata and an isolated node 9: the result is bare
example : cmObj (.known .edge) true none none 1
    { weighted := true, items := [([0, 1], 5, 3), ([2, 3], 7, 0)], nodeMeta := [(0, 1), (1, 0), (2, 0), (3, 2), (9, 4)], hmeta := 6 }
    [.idx 0 1, .coin true, .coin false, .coin false]
    = .ok (some { weighted := false, items := [([0, 3], 1, 0), ([1, 2], 1, 0)],
                  nodeMeta := [(0, 0), (1, 0), (2, 0), (3, 0)], hmeta := 0 }, []) := rfl
