import Hgxv.Proofs.C04Rej
import Hgxv.Proofs.C04Layers
import Hgxv.Proofs.C04Raw
import Hgxv.Proofs.C04Agg
import Hgxv.Proofs.C04Ext
/-! # C04 - MultiplexHypergraph keeps (hyperedge, layer) records; aggregation sums layers

Objects (see `Model/C04.lean`, `Model/C04Spec.lean`): `Store` = the tables of the Python object, `step`/`run` =
the public mutating calls, `Spec` = the map `(node set, layer) ↦ (weight, metadata)` with `Spec.step`/`Spec.run`,
`abs : Store → Spec` forgets ids / reverse table / adjacency.

Hypothesis used throughout: `Op.WF` (`CtorArgs.WF` for the constructor) - every hyperedge handed to `add_edge(s)` or the
constructor is duplicate free.  That is the property's quantifier ("node sets"); besides it only the hypotheses each theorem
names for the call in question.  A theorem is for every history `ops` (hence for every prefix of a history; weighted and
unweighted, any initial hypergraph metadata), or for every store `s` with `Inv s` - by `C04_inv` every reachable one -, or
for every store (`C04_rejected_noop`, `C04_raw_setters`, `C04_populate_expose`), or for every constructor argument
(`C04_constructor`, `C04_constructor_rejects`).

Where the notions of the statements are defined: `Inv` (`IdInv`, `NM`, `AdjInv`) and `Op.WF` in `Proofs/C04Inv.lean`,
`SSorted` in `Proofs/C04Basic.lean`, `insertedLayers` / `insertedRun` in `Proofs/C04Layers.lean`, `CtorArgs.WF`,
`StrictTotal` and the `DecidableEq Op` instance in `Proofs/C04Ext.lean`; everything else in the `Model/C04*.lean` files. -/
open C04 AL

/-- **Invariant, every history.** The id-indexed tables are mutually inverse, every id is below `_next_edge_id`,
weights / metadata exist exactly for the live ids, every adjacency list is strictly increasing and holds exactly the
ids of the records containing the node (each once), every node of a record is a node, `_adj` and `_node_metadata`
have the same keys, keys are canonical, an unweighted hypergraph only holds weight 1, every layer in use is registered;
`_edge_metadata` has no duplicate ids, the registry no duplicates, and ids grow along `_edge_list` (`IdInv.el_sorted`: what
makes an adjacency list list the records in the order of `_edge_list`, see `C04_raw_tables`). -/
theorem C04_inv (w : Bool) (hm : HMeta) (ops : List Op) (hw : ∀ op ∈ ops, op.WF) : Inv (run (init w hm) ops) :=
  run_inv _ ops (inv_init w hm) hw

/-- **Refinement, every history.** Running the calls on the concrete tables and forgetting the ids is the same as
running them on the abstract map - as structures (node order, record order, metadata included). -/
theorem C04_refines (w : Bool) (hm : HMeta) (ops : List Op) (hw : ∀ op ∈ ops, op.WF) :
    abs (run (init w hm) ops) = Spec.run (Spec.init w hm) ops := by
  rw [abs_run _ ops (inv_init w hm) hw, abs_init]

/-- **Accepted / rejected agree.** After any history the next call is accepted by the store iff the map accepts it
(and by `C04_refines` for `ops ++ [op]` the resulting states agree; a rejected call changes nothing, see
`C04_rejected_noop`). -/
theorem C04_refines_out (w : Bool) (hm : HMeta) (ops : List Op) (op : Op) (hw : ∀ o ∈ ops, o.WF) (hop : op.WF) :
    (step (run (init w hm) ops) op).2 = (Spec.step (Spec.run (Spec.init w hm) ops) op).2 := by
  rw [← C04_refines w hm ops hw]
  exact (abs_step _ op (C04_inv w hm ops hw) hop).2

/-- **Every query.** In every reachable state each query of the store is the query of the abstract map: nodes,
node metadata, records, weight, edge metadata, incident records and degree (with `size` / `order` filter, both
given = rejected), degree sequence, registry, hypergraph / layer / dataset metadata, weighted flag; the
`get_edges(metadata=True)` listing agrees as a multiset. -/
theorem C04_queries (w : Bool) (hm : HMeta) (ops : List Op) (hw : ∀ op ∈ ops, op.WF) :
    let s := run (init w hm) ops
    let sp := Spec.run (Spec.init w hm) ops
    nodes s = sp.nodeList ∧ s.nmeta = sp.nodes ∧ records s = sp.records ∧
    (∀ raw l, getWeight s raw l = sp.getWeight raw l) ∧
    (∀ raw l, getEdgeMeta s raw l = sp.getEdgeMeta raw l) ∧
    (∀ n f, incident s n f = sp.incident n f) ∧
    (∀ n f, degree s n f = sp.degree n f) ∧
    (∀ f, degreeSeq s f = sp.degreeSeq f) ∧
    (edgesMeta s).Perm sp.edgesMeta ∧
    s.layers = sp.layers ∧ s.hmeta = sp.hmeta ∧ (∀ l, layerMeta s l = sp.layerMeta l) ∧
    datasetMeta s = sp.datasetMeta ∧ s.weighted = sp.weighted := by
  intro s sp
  have h : Inv s := C04_inv w hm ops hw
  have he : abs s = sp := C04_refines w hm ops hw
  rw [← he]
  exact ⟨nodes_abs s, rfl, records_abs s, fun raw l => getWeight_abs s raw l h, fun raw l => getEdgeMeta_abs s raw l h,
    fun n f => incident_abs s n f h, fun n f => degree_abs s n f h, fun f => degreeSeq_abs s f h, edgesMeta_abs s h,
    rfl, rfl, fun _ => rfl, rfl, rfl⟩

/-- **The two derived objects.** After every history `aggregated_hypergraph()` is - as a structure: weighted flag,
metadata, nodes with metadata, hyperedges with weight and metadata - the declarative aggregate of the abstract map
(`Spec.aggregated`: the distinct node sets of all layers, each with Σ of its per-layer weights when weighted and 1 when
not, and the metadata of its last record), and `edge_overlap` is `Spec.overlap` (Σ of the per-layer weights). -/
theorem C04_refines_aggregate (w : Bool) (hm : HMeta) (ops : List Op) (hw : ∀ op ∈ ops, op.WF) :
    aggregated (run (init w hm) ops) = some (Spec.aggregated (Spec.run (Spec.init w hm) ops)) ∧
    ∀ raw, overlap (run (init w hm) ops) raw = Spec.overlap (Spec.run (Spec.init w hm) ops) raw := by
  have h := C04_inv w hm ops hw
  rw [← C04_refines w hm ops hw]
  exact ⟨aggregated_spec _ h, fun raw => overlap_spec _ raw h⟩

/-- **The abstract state is a map.** After every history the abstract records have pairwise distinct keys, every key is
a strictly increasing (canonical, duplicate-free) node list, the nodes are pairwise distinct and contain every node of
every record. -/
theorem C04_spec_is_map (w : Bool) (hm : HMeta) (ops : List Op) (hw : ∀ op ∈ ops, op.WF) :
    (keys (Spec.run (Spec.init w hm) ops).edges).Nodup ∧ (keys (Spec.run (Spec.init w hm) ops).nodes).Nodup ∧
    (∀ k ∈ keys (Spec.run (Spec.init w hm) ops).edges, k.1.Pairwise (· < ·) ∧
      ∀ n ∈ k.1, n ∈ keys (Spec.run (Spec.init w hm) ops).nodes) := by
  have t := abs_tab (C04_inv w hm ops hw)
  rw [C04_refines w hm ops hw] at t
  exact ⟨t.knd, t.nnd, fun k hk => t.of_key hk⟩

/-- **A rejected call is a no-op** (also the batched ones: validation precedes the first mutation). -/
theorem C04_rejected_noop (s : Store) (op : Op) (h : (step s op).2 = Out.rej) : (step s op).1 = s := by
  cases op with
  | addNode n md => simp [step] at h
  | addNodes ns mds => exact addNodes_rej s ns mds h
  | addEdge raw l w md => exact addEdge_rej s raw l w md h
  | addEdges raws ls ws mds => exact addEdges_rej s raws ls ws mds h
  | removeEdge raw l => exact removeEdge_rej s raw l h
  | removeNode n keep => exact removeNode_rej s n keep h
  | setWeight raw l w => exact setWeight_rej s raw l w h
  | setHMeta hm => simp [step] at h
  | setAttrH k v => simp [step] at h
  | setLayerMeta l v => simp [step] at h
  | setDatasetMeta v => simp [step] at h
  | setAttrNode n k v => exact setAttrNode_rej s n k v h
  | delAttrNode n k => exact delAttrNode_rej s n k h
  | setAttrEdge raw l k v => exact setAttrEdge_rej s raw l k v h
  | delAttrEdge raw l k => exact delAttrEdge_rej s raw l k h

/-- **Registry.** After every history: every layer in use is registered, the registry has no duplicates, and it
consists exactly of the layers of the accepted `add_edge` / `add_edges` calls of the history (`insertedRun`); removals,
`remove_node(keep_edges=True)` re-insertions, and rejected calls never change it. -/
theorem C04_registry (w : Bool) (hm : HMeta) (ops : List Op) (hw : ∀ op ∈ ops, op.WF) :
    (∀ k ∈ records (run (init w hm) ops), k.2 ∈ (run (init w hm) ops).layers) ∧
    (run (init w hm) ops).layers.Nodup ∧
    (∀ l, l ∈ (run (init w hm) ops).layers ↔ l ∈ insertedRun (init w hm) ops) := by
  have h := C04_inv w hm ops hw
  refine ⟨registry_covers _ h, h.id.layers_nodup, fun l => ?_⟩
  rw [run_layers_eq _ ops (inv_init w hm) hw, mem_foldl_addLayer]
  simp [init]

/-- **Layers are independent (single insertion).** In a state satisfying `Inv`, inserting `(raw, l)` changes neither weight
nor metadata of a key in another layer `l' ≠ l` - in particular of the same node set there. (Any other key, also one of
the same layer, is `addEdge_other_weight`.) -/
theorem C04_layers_independent (s : Store) (h : Inv s) (raw raw' : List Node) (l l' : Layer) (w : Option Int)
    (md : Option Meta) (hraw : raw.Nodup) (hl : l' ≠ l) :
    getWeight (addEdge s raw l w md).1 raw' l' = getWeight s raw' l' ∧
    getEdgeMeta (addEdge s raw l w md).1 raw' l' = getEdgeMeta s raw' l' :=
  addEdge_other_weight s raw raw' l l' w md h hraw (fun hk => hl (Prod.mk.inj hk).2)

/-- **Layers are independent (batch).** A batch none of whose members is the key `(raw', l')` leaves that key alone -
e.g. every record of a layer that does not occur in the batch. -/
theorem C04_layers_independent_batch (s : Store) (h : Inv s) (raws : List (List Node)) (ls : List Layer)
    (ws : Option (List Int)) (mds : Option (List Meta)) (raw' : List Node) (l' : Layer) (hr : ∀ r ∈ raws, r.Nodup)
    (hk : ∀ p ∈ raws.zip ls, (canon raw', l') ≠ (canon p.1, p.2)) :
    getWeight (addEdges s raws ls ws mds).1 raw' l' = getWeight s raw' l' ∧
    getEdgeMeta (addEdges s raws ls ws mds).1 raw' l' = getEdgeMeta s raw' l' := by
  obtain ⟨h1, e, _⟩ := addEdges_sim s raws ls ws mds h hr
  refine getters_congr s _ h h1 raw' l' ?_
  rw [e, Spec.addEdges_eq]
  split
  · rfl
  · rename_i p wl ml _
    rw [Spec.addEdgesLoop_other _ _ _ _ _ hk]
    cases p <;> rfl

/-- **The same node set twice in one weighted batch, in two layers** (D16): the batch is accepted and each of the
two records gets its own weight (added to what that layer held before; a fresh record starts at its weight). -/
theorem C04_batch_two_layers (s : Store) (h : Inv s) (r r' : List Node) (l1 l2 : Layer) (w1 w2 : Int)
    (hr : r.Nodup) (hr' : r'.Nodup) (hl : l1 ≠ l2) (hrr : canon r = canon r') :
    (addEdges s [r, r'] [l1, l2] (some [w1, w2]) none).2 = Out.ok ∧
    getWeight (addEdges s [r, r'] [l1, l2] (some [w1, w2]) none).1 r l1 =
      some (match getWeight s r l1 with | none => w1 | some w0 => w0 + w1) ∧
    getWeight (addEdges s [r, r'] [l1, l2] (some [w1, w2]) none).1 r l2 =
      some (match getWeight s r l2 with | none => w2 | some w0 => w0 + w2) := by
  have hrs : ∀ x ∈ [r, r'], x.Nodup := by
    intro x hx; simp at hx; rcases hx with rfl | rfl <;> assumption
  obtain ⟨h1, a1, a2⟩ := addEdges_sim s [r, r'] [l1, l2] (some [w1, w2]) none h hrs
  obtain ⟨b1, b2, b3⟩ := Spec.batch_two_layers (abs s) r r' l1 l2 w1 w2 hl hrr
  exact ⟨a2.trans b1, getWeight_merged s _ h h1 r l1 w1 [] (by rw [a1]; exact b2),
    getWeight_merged s _ h h1 r l2 w2 [] (by rw [a1]; exact b3)⟩

/-- **Aggregation.** In every state satisfying `Inv` `aggregated_hypergraph()` succeeds; the aggregate has the multiplex's
weighted flag, exactly its nodes with their metadata, its hyperedges are exactly the distinct node sets occurring in
some layer (each once), and each weighs the sum of its per-layer weights (as `get_weight` reports them) when the
hypergraph is weighted and 1 when it is not. -/
theorem C04_aggregated (s : Store) (h : Inv s) :
    ∃ a : HSpec, aggregated s = some a ∧ a.weighted = s.weighted ∧ a.nodes = s.nmeta ∧ (keys a.edges).Nodup ∧
      (∀ e, e ∈ keys a.edges ↔ ∃ l, (e, l) ∈ records s) ∧
      (∀ e ∈ keys a.edges, (get? a.edges e).map (·.1) =
        some (if s.weighted then (((records s).filter (fun k => k.1 = e)).map (fun k => (getWeight s k.1 k.2).getD 0)).sum
              else one)) := by
  refine ⟨_, aggregated_spec s h, rfl, rfl, ?_, fun e => ?_, fun e he => ?_⟩
  · exact (keys_declTable _ _).symm ▸ distinct_nodup _
  · show e ∈ keys (declTable s.weighted (abs s).edges) ↔ _
    rw [keys_declTable, mem_distinct, records_abs]
    simp only [Spec.records, keys, List.mem_map]
    constructor
    · rintro ⟨r, hr, rfl⟩; exact ⟨r.1.2, r, hr, rfl⟩
    · rintro ⟨l, r, hr, hk⟩; exact ⟨r, hr, by rw [hk]⟩
  · rw [← sumFor_concrete s e h]
    exact (congrArg (Option.map (·.1)) (get?_declTable s.weighted (abs s).edges e he)).trans rfl

/-- **Overlap.** In every state satisfying `Inv` `edge_overlap(e)` is the sum over the layers holding `e` of its weight there
(0 if none) - by `C04_aggregated`, for a weighted hypergraph, the weight of `e` in the aggregate. -/
theorem C04_overlap (s : Store) (h : Inv s) (raw : List Node) :
    overlap s raw =
      (((records s).filter (fun k => k.1 = canon raw)).map (fun k => (getWeight s k.1 k.2).getD 0)).sum := by
  rw [overlap_eq s raw h, sumFor_concrete s _ h]

/-- `aggregated` and `overlap` are functions of the store: in the model there is no post-state, purity holds by
typing (the implementation is tied to this by the harness' before/after comparison of the object's tables).  What the
theorem records is the content of defect D17: the aggregate carries its OWN metadata (the multiplex metadata updated
with `weighted` and `type = Hypergraph`), while the store's metadata - whatever it is - is not part of the result's
identity: every later query of the store is unaffected because `s` itself is the same value. -/
theorem C04_pure (s : Store) (h : Inv s) (raw : List Node) :
    ∃ a, aggregated s = some a ∧ get? a.hmeta hkType = some tokHypergraph ∧
      a.hmeta = AL.set (AL.set s.hmeta hkWeighted (tokBool s.weighted)) hkType tokHypergraph ∧
      (fun (_ : Option HSpec × Int) => s) (aggregated s, overlap s raw) = s := by
  refine ⟨_, aggregated_eq s h, ?_, rfl, rfl⟩
  simp only [get?_set_self]

/-- `C04_aggregated` and `C04_overlap` after every history (their hypothesis `Inv` is `C04_inv`): the aggregate exists,
has the same nodes, and for a weighted hypergraph the weight of every hyperedge `e` of the aggregate is its overlap - stated under
the hypothesis `e = canon e`, which every hyperedge of the aggregate satisfies (keys are canonical). -/
theorem C04_aggregated_history (w : Bool) (hm : HMeta) (ops : List Op) (hw : ∀ op ∈ ops, op.WF) :
    ∃ a : HSpec, aggregated (run (init w hm) ops) = some a ∧ a.nodes = (run (init w hm) ops).nmeta ∧
      (∀ e, e ∈ keys a.edges ↔ ∃ l, (e, l) ∈ records (run (init w hm) ops)) ∧
      (∀ e ∈ keys a.edges, e = canon e → (get? a.edges e).map (·.1) =
        some (if (run (init w hm) ops).weighted then overlap (run (init w hm) ops) e else one)) := by
  have h := C04_inv w hm ops hw
  obtain ⟨a, h1, _, h3, _, h5, h6⟩ := C04_aggregated _ h
  refine ⟨a, h1, h3, h5, ?_⟩
  intro e he hc
  rw [h6 e he, C04_overlap _ h e, ← hc]

/-- **Promotion by a weighted batch.** In every state satisfying `Inv`,
weighted or NOT, `add_edges([r], [l], weights=[w])` is accepted, the hypergraph is weighted afterwards, the record `(r, l)`
weighs `w` if it is new and `w0 + w` if it was there - and in an unweighted hypergraph `w0` is 1, so a record that predates
the promotion weighs `1 + w` -, and every other record keeps its weight and metadata.  (The trial changes `seeded/C04-b2` - a
promoting batch that drops its weights - and `seeded/C04-c2` - a record that predates the promotion weighing `w` instead of
`1 + w` - contradict it.) -/
theorem C04_promotion (s : Store) (h : Inv s) (r : List Node) (l : Layer) (w : Int) (hr : r.Nodup) :
    (addEdges s [r] [l] (some [w]) none).2 = Out.ok ∧
    (addEdges s [r] [l] (some [w]) none).1.weighted = true ∧
    getWeight (addEdges s [r] [l] (some [w]) none).1 r l =
      some (match getWeight s r l with | none => w | some w0 => w0 + w) ∧
    (s.weighted = false → ∀ w0, getWeight s r l = some w0 → w0 = one) ∧
    (∀ raw' l', (canon raw', l') ≠ (canon r, l) →
      getWeight (addEdges s [r] [l] (some [w]) none).1 raw' l' = getWeight s raw' l' ∧
      getEdgeMeta (addEdges s [r] [l] (some [w]) none).1 raw' l' = getEdgeMeta s raw' l') := by
  have hrs : ∀ x ∈ [r], x.Nodup := by
    intro x hx; simp at hx; rw [hx]; exact hr
  obtain ⟨h1, a1, a2⟩ := addEdges_sim s [r] [l] (some [w]) none h hrs
  obtain ⟨b1, b2, b3⟩ := Spec.promote_single (abs s) r l w
  refine ⟨a2.trans b1, (congrArg Spec.weighted a1).trans b2, getWeight_merged s _ h h1 r l w [] (by rw [a1]; exact b3),
    fun hu w0 hg => getWeight_unweighted s h hu r l w0 hg, fun raw' l' hk => ?_⟩
  refine C04_layers_independent_batch s h [r] [l] (some [w]) none raw' l' hrs ?_
  intro p hp
  rw [List.mem_singleton.mp hp]
  exact hk

/-- **After the promotion the hypergraph is an ordinary weighted one**: in a weighted state satisfying `Inv` `add_edge(raw, l, w, md)`
is accepted for every weight, a record that is already there (also one that predates a promotion) accumulates `w0 + w`, a new one
starts at `w`; the metadata is replaced. -/
theorem C04_weighted_reinsert (s : Store) (h : Inv s) (hw : s.weighted = true) (raw : List Node) (l : Layer) (w : Int)
    (md : Option Meta) (hraw : raw.Nodup) :
    (addEdge s raw l (some w) md).2 = Out.ok ∧
    getWeight (addEdge s raw l (some w) md).1 raw l =
      some (match getWeight s raw l with | none => w | some w0 => w0 + w) ∧
    getEdgeMeta (addEdge s raw l (some w) md).1 raw l = some (md.getD []) := by
  obtain ⟨h1, a1, a2⟩ := addEdge_sim s raw l (some w) md h hraw
  have hw' : (abs s).weighted = true := hw
  have e := Spec.addEdge_self (abs s) raw l w md hw'
  refine ⟨a2.trans (Spec.addEdge_ok_weighted _ _ _ _ _ hw'), getWeight_merged s _ h h1 raw l w _ (by rw [a1]; exact e), ?_⟩
  rw [getEdgeMeta_abs _ _ _ h1, a1]
  unfold Spec.getEdgeMeta
  rw [e]
  cases get? (abs s).edges (canon raw, l) <;> rfl

/-! non-vacuity: a concrete history over three layers with a re-insertion in permuted order, node sets that live in two
layers, a weighted batch holding one node set twice (in two layers), a removal, and `remove_node` with a shrink-merge -/

def C04_ops : List Op :=
  [.addEdge [3, 1, 2] 0 (some 10) (some [(100, 5)]), .addEdge [2, 3] 0 (some 2) none, .addEdge [2, 1, 3] 1 (some 6) none,
   .addEdges [[1, 2], [2, 1]] [0, 2] (some [4, 8]) none, .addEdge [1, 2, 3] 0 (some 1) none, .removeEdge [2, 1] 2,
   .removeNode 1 true]

example : ∀ op ∈ C04_ops, op.WF := by decide +kernel
example : records (run (init true) C04_ops) = [([2, 3], 0), ([2, 3], 1), ([2], 0)] := by decide +kernel
example : getWeight (run (init true) C04_ops) [3, 2] 0 = some 13 := by decide +kernel
example : (aggregated (run (init true) C04_ops)).map (·.edges) = some [([2, 3], (19, [])), ([2], (4, []))] := by decide +kernel
example : overlap (run (init true) C04_ops) [3, 2] = 19 := by decide +kernel
example : (run (init true) C04_ops).layers = [0, 1, 2] ∧ insertedRun (init true) C04_ops = [0, 0, 1, 0, 2, 0] := by decide +kernel
example : (step (run (init false) []) (.addEdges [[1, 2], [1, 2]] [0, 0] (some [4, 8]) none)).2 = Out.rej := by decide +kernel
example : (addEdges (init false) [[1, 2], [2, 1]] [0, 1] (some [4, 8]) none).2 = Out.ok ∧
    getWeight (addEdges (init false) [[1, 2], [2, 1]] [0, 1] (some [4, 8]) none).1 [1, 2] 1 = some 8 := by decide +kernel
example : Inv (run (init true) C04_ops) := C04_inv true [] C04_ops (by decide)

/-! non-vacuity of the promotion theorems: an UNWEIGHTED hypergraph with two records, promoted by a batch that names one of
them again (1 + 2 = 3 units = 12 quanta), then ordinary weighted calls on records that predate the promotion -/
def C04_promo_ops : List Op :=
  [.addEdge [1, 2] 0 none none, .addEdge [3, 1, 2] 0 none (some [(100, 5)]), .addEdges [[2, 1], [2, 3]] [0, 1] (some [8, 2]) none,
   .addEdge [1, 2] 0 (some 6) none, .setWeight [3, 2, 1] 0 10, .removeNode 3 true]

example : ∀ op ∈ C04_promo_ops, op.WF := by decide +kernel
example : (run (init false) (C04_promo_ops.take 2)).weighted = false ∧ (run (init false) (C04_promo_ops.take 3)).weighted = true := by decide +kernel
example : getWeight (run (init false) (C04_promo_ops.take 3)) [1, 2] 0 = some 12 ∧
    getWeight (run (init false) (C04_promo_ops.take 3)) [1, 2, 3] 0 = some 4 ∧
    getWeight (run (init false) (C04_promo_ops.take 3)) [2, 3] 1 = some 2 := by decide +kernel
example : getWeight (run (init false) (C04_promo_ops.take 4)) [2, 1] 0 = some 18 := by decide +kernel
example : records (run (init false) C04_promo_ops) = [([1, 2], 0), ([2], 1)] ∧
    getWeight (run (init false) C04_promo_ops) [1, 2] 0 = some 28 ∧ overlap (run (init false) C04_promo_ops) [2] = 2 := by decide +kernel
example : (aggregated (run (init false) C04_promo_ops)).map (fun a => (a.weighted, a.edges.map (fun e => (e.1, e.2.1)))) =
    some (true, [([1, 2], 28), ([2], 2)]) := by decide +kernel

/-- **A saved and re-loaded object is the same object, at every point of a history.**
`expose_data_structures()` followed by `populate_from_dict` (what `save_hypergraph(binary=True)` / `load_hypergraph` do around
a pickle of the dict) is accepted by the loader and gives back the store itself - all ten tables, the registry of layers
included, because every name written is the name read.  Hence a history that goes through the loader after `ops` and then
continues with `ops'` ends in the state of the uninterrupted history `ops ++ ops'`, and its abstraction is the run of the
map: every query, `aggregated` and `overlap` included, answers as `C04_queries` / `C04_refines_aggregate` say.  (The trial change
`seeded/C04-d2`, a registry written under one name and read under another, contradicts it.) -/
theorem C04_reload (w : Bool) (hm : HMeta) (ops ops' : List Op) (hw : ∀ op ∈ ops ++ ops', op.WF) :
    loadDump (expose (run (init w hm) ops)) = some (run (init w hm) ops) ∧
    run (reload (run (init w hm) ops)) ops' = run (init w hm) (ops ++ ops') ∧
    abs (run (reload (run (init w hm) ops)) ops') = Spec.run (Spec.init w hm) (ops ++ ops') ∧
    (∀ raw, overlap (run (reload (run (init w hm) ops)) ops') raw = Spec.overlap (Spec.run (Spec.init w hm) (ops ++ ops')) raw) := by
  have e : run (reload (run (init w hm) ops)) ops' = run (init w hm) (ops ++ ops') := by
    rw [reload_eq, run_append]
  refine ⟨loadDump_expose _, e, ?_, ?_⟩
  · rw [e]; exact C04_refines w hm _ hw
  · intro raw
    rw [e]; exact (C04_refines_aggregate w hm _ hw).2 raw

/-- **The overlap does not depend on the order in which the layers are walked** (the registry is a
Python `set`, its iteration order is arbitrary and the names need not be comparable with each other - the model never
compares two layer names by anything but equality). For every arrangement `order` of the registry the sum of
`get_weight(e, layer)` over `order` is `overlap`, i.e. (in a state satisfying `Inv`, `C04_overlap`) the sum over the records with that
node set.  (The trial change `seeded/C04-d3` sorts the registry first.) -/
theorem C04_overlap_any_order (s : Store) (h : Inv s) (raw : List Node) (order : List Layer) (hp : order.Perm s.layers) :
    overlapIn s order raw = overlap s raw ∧
    overlapIn s order raw =
      (((records s).filter (fun k => k.1 = canon raw)).map (fun k => (getWeight s k.1 k.2).getD 0)).sum := by
  have e : overlapIn s order raw = overlap s raw := by
    rw [overlapIn_perm s raw order s.layers hp, overlapIn_layers]
  exact ⟨e, e.trans (C04_overlap s h raw)⟩

/-! non-vacuity: the history `C04_ops` is cut after four calls, goes through the loader and continues; walking the registry
backwards gives the same overlap; and a witness of what the seeded change C04-d2 does - a dictionary whose registry is
written under another name than the one that is read: all records are there, no layer is, every overlap is 0 while the
aggregate still carries the sums -/
example : run (reload (run (init true) (C04_ops.take 4))) (C04_ops.drop 4) = run (init true) C04_ops :=
  (C04_reload true [] (C04_ops.take 4) (C04_ops.drop 4) (by decide)).2.1
example : (run (init true) (C04_ops.take 4)).layers = [0, 1, 2] ∧ (reload (run (init true) (C04_ops.take 4))).layers = [0, 1, 2] := by
  rw [reload_eq]; decide +kernel
example : overlapIn (run (init true) C04_ops) [2, 1, 0] [3, 2] = 19 := by decide +kernel

def C04_renamed (s : Store) : Dump :=
  (expose s).map (fun p => if p.1 = "existing_layers" then ("_existing_layers", p.2) else p)

example : records (populate (C04_renamed (run (init true) C04_ops))) = records (run (init true) C04_ops) ∧
    (populate (C04_renamed (run (init true) C04_ops))).layers = [] ∧
    overlap (populate (C04_renamed (run (init true) C04_ops))) [3, 2] = 0 ∧
    (aggregated (populate (C04_renamed (run (init true) C04_ops)))).map (fun a => a.edges.map (fun e => (e.1, e.2.1))) =
      some [([2, 3], 19), ([2], 4)] := by
  decide +kernel

/-- **The constructor is a history** (`MultiplexHypergraph(edge_list, edge_layer, weighted, weights, hypergraph_metadata,
node_metadata, edge_metadata)`, both forms of the layer argument).  For all arguments whose hyperedges are node sets:
the constructor of the tables is accepted iff the constructor of the map is, and then gives the same abstract state;
an accepted constructor IS the run of the public calls `ctorOps a` (one `add_node` per entry of `node_metadata`, then one
`add_edges`) on the empty object, those calls are well-formed, and every history `ops` continued on the constructed
object keeps the invariant and refines the map built by the map's constructor - so `C04_queries`, `C04_refines_aggregate`,
`C04_registry` ... hold for objects that were not built call by call (history `pre ++ ops`). -/
theorem C04_constructor (a : CtorArgs) (ha : a.WF) (ops : List Op) (hw : ∀ op ∈ ops, op.WF) :
    (construct a).map abs = Spec.construct a ∧
    ∀ s, construct a = some s →
      ∃ pre sp, ctorOps a = some pre ∧ (∀ op ∈ pre ++ ops, op.WF) ∧ Spec.construct a = some sp ∧
        s = run (init a.weighted a.hm) pre ∧ sp = Spec.run (Spec.init a.weighted a.hm) pre ∧
        run s ops = run (init a.weighted a.hm) (pre ++ ops) ∧
        Inv (run s ops) ∧ abs (run s ops) = Spec.run sp ops := by
  refine ⟨construct_abs a ha, fun s hs => ?_⟩
  obtain ⟨pre, hp, hrun⟩ := construct_some a s hs
  have hpre := ctorOps_wf a ha pre hp
  have hinv : Inv s := hrun ▸ C04_inv _ _ _ hpre
  refine ⟨pre, abs s, hp, fun op hop => (List.mem_append.mp hop).elim (hpre op) (hw op), ?_, hrun, ?_, ?_,
    run_inv _ _ hinv hw, abs_run _ _ hinv hw⟩
  · rw [← construct_abs a ha, hs]; rfl
  · rw [hrun, abs_run _ _ (inv_init _ _) hpre, abs_init]
  · rw [hrun, run_append]

/-- **When the constructor raises**: exactly when the layer argument has neither accepted form (`edge_layer` missing and
some element of `edge_list` is not an `(edge, layer)` pair; or the two lists differ in length), or the one `add_edges`
call it makes after the `node_metadata` loop is rejected (by `C04_refines_out`: iff the map rejects that call). -/
theorem C04_constructor_rejects (a : CtorArgs) :
    construct a = none ↔
      ctorBatch a.edges = none ∨
      ∃ raws ls, ctorBatch a.edges = some (some (raws, ls)) ∧
        (step (run (init a.weighted a.hm) (nodeOps a.nodeMeta)) (.addEdges raws ls a.weights a.edgeMeta)).2 = Out.rej := by
  unfold construct
  cases hb : ctorBatch a.edges with
  | none => simp
  | some b =>
    cases b with
    | none => simp
    | some p =>
      obtain ⟨raws, ls⟩ := p
      simp only [reduceCtorEq, false_or, Option.some.injEq, Prod.mk.injEq, ← ctorNodes_run]
      show _ ↔ ∃ raws' ls', (raws = raws' ∧ ls = ls') ∧
        (addEdges (ctorNodes (init a.weighted a.hm) a.nodeMeta) raws' ls' a.weights a.edgeMeta).2 = Out.rej
      generalize addEdges (ctorNodes (init a.weighted a.hm) a.nodeMeta) = f
      constructor
      · intro h
        refine ⟨raws, ls, ⟨rfl, rfl⟩, ?_⟩
        generalize f raws ls a.weights a.edgeMeta = r at h ⊢
        obtain ⟨s1, o⟩ := r
        cases o with
        | ok => simp at h
        | rej => rfl
      · rintro ⟨raws', ls', ⟨rfl, rfl⟩, h⟩
        generalize f raws ls a.weights a.edgeMeta = r at h ⊢
        obtain ⟨s1, o⟩ := r
        cases o with
        | ok => simp at h
        | rej => rfl

/-- **The hashing view** (`expose_attributes_for_hashing()`, digested by `readwrite.hashing.hash_hypergraph`).  After every
history the call succeeds (no `KeyError` on the re-canonicalised keys) and returns the weighted flag, the hypergraph
metadata, the entries of the map sorted by Python's order on `(node tuple, layer)` with their weights and metadata, and
the nodes in sorted order with their metadata. -/
theorem C04_hash_view (w : Bool) (hm : HMeta) (ops : List Op) (hw : ∀ op ∈ ops, op.WF) :
    hashView (run (init w hm) ops) = some (Spec.hashView (Spec.run (Spec.init w hm) ops)) := by
  rw [← C04_refines w hm ops hw]
  exact hashView_abs _ (C04_inv w hm ops hw)

/-- **The hashing view is canonical.** Two objects reached by any two histories (any flags, any initial metadata) have the
same hashing view IF AND ONLY IF their maps agree as sets: same weighted flag, same hypergraph metadata, the same
`(node set, layer) ↦ (weight, metadata)` entries and the same nodes with metadata, in whatever order they were inserted
and whatever record ids they got.  (So `hash_hypergraph` separates two multiplex hypergraphs exactly by their content.) -/
theorem C04_hash_canonical (w w' : Bool) (hm hm' : HMeta) (ops ops' : List Op) (hw : ∀ op ∈ ops, op.WF)
    (hw' : ∀ op ∈ ops', op.WF) :
    hashView (run (init w hm) ops) = hashView (run (init w' hm') ops') ↔
      (Spec.run (Spec.init w hm) ops).weighted = (Spec.run (Spec.init w' hm') ops').weighted ∧
      (Spec.run (Spec.init w hm) ops).hmeta = (Spec.run (Spec.init w' hm') ops').hmeta ∧
      (Spec.run (Spec.init w hm) ops).edges.Perm (Spec.run (Spec.init w' hm') ops').edges ∧
      (Spec.run (Spec.init w hm) ops).nodes.Perm (Spec.run (Spec.init w' hm') ops').nodes := by
  rw [C04_hash_view w hm ops hw, C04_hash_view w' hm' ops' hw', Option.some.injEq]
  obtain ⟨h1, h2, _⟩ := C04_spec_is_map w hm ops hw
  exact Spec.hashView_eq_iff _ _ h1 h2

/-- **The raw tables** `get_edge_list()` / `get_adj_dict()` after every history: the keys of the edge table are the records,
its ids increase in insertion order and lie below `_next_edge_id` (no id is ever re-used); a node's adjacency list is exactly
the ids of the records containing it, in that order; the adjacency dict has exactly the nodes as keys. -/
theorem C04_raw_tables (w : Bool) (hm : HMeta) (ops : List Op) (hw : ∀ op ∈ ops, op.WF) :
    let s := run (init w hm) ops
    keys (edgeTable s) = records s ∧ ((edgeTable s).map (·.2)).Pairwise (· < ·) ∧
    (∀ p ∈ edgeTable s, p.2 < s.nextId) ∧
    (∀ n ids, get? (adjTable s) n = some ids → ids = ((edgeTable s).filter (fun p => decide (n ∈ p.1.1))).map (·.2)) ∧
    (∀ n, (get? (adjTable s) n).isSome ↔ n ∈ nodes s) :=
  raw_tables _ (C04_inv w hm ops hw)

/-! non-vacuity: a constructor call with node metadata, the embedded form, the same node set in two layers of a weighted
batch on an UNWEIGHTED object (promotion inside the constructor), continued by a history; rejected forms; two histories
that insert the same content in different orders (different record ids) and hash alike; one that differs in a weight -/
def C04_ctor : CtorArgs :=
  { weighted := false, hm := [(100, 5)], nodeMeta := [(7, [(101, 6)]), (2, [])],
    edges := .embedded [.pair [3, 1, 2] 0, .pair [2, 1] 1, .pair [1, 2] 0], weights := some [10, 4, 8], edgeMeta := none }

example : C04_ctor.WF := by decide +kernel
example : ctorOps C04_ctor = some [.addNode 7 (some [(101, 6)]), .addNode 2 (some []),
    .addEdges [[3, 1, 2], [2, 1], [1, 2]] [0, 1, 0] (some [10, 4, 8]) none] := by decide +kernel
example : (construct C04_ctor).map (fun s => s.weighted) = some true ∧
    (construct C04_ctor).map nodes = some [7, 2, 1, 3] ∧
    (construct C04_ctor).map records = some [([1, 2, 3], 0), ([1, 2], 1), ([1, 2], 0)] ∧
    (construct C04_ctor).map (fun s => getWeight s [2, 1] 1) = some (some 4) ∧
    (construct C04_ctor).map edgeTable = some [(([1, 2, 3], 0), 0), (([1, 2], 1), 1), (([1, 2], 0), 2)] := by decide +kernel
example : (construct C04_ctor).map (fun s => records (run s [.removeNode 3 true])) = some [([1, 2], 1), ([1, 2], 0)] ∧
    (construct C04_ctor).map (fun s => getWeight (run s [.removeNode 3 true]) [1, 2] 0) = some (some 18) := by decide +kernel
example : construct { C04_ctor with edges := .embedded [.pair [1, 2] 0, .other] } = none ∧
    construct { C04_ctor with edges := .separate [[1, 2], [2, 3]] [0, 1, 2], weights := none } = none ∧
    construct { C04_ctor with edges := .separate [[1, 2], [1, 2]] [0, 0], weights := some [4, 4] } = none ∧
    (construct { C04_ctor with edges := .absent }).map records = some [] := by decide +kernel

def C04_h1 : List Op := [.addEdge [1, 2] 0 (some 6) none, .addEdge [5, 1] 1 none (some [(100, 5)]), .addNode 9 none]
def C04_h2 : List Op := [.addNode 9 none, .addEdge [3] 0 none none, .addEdge [1, 5] 1 none (some [(100, 5)]),
  .addEdge [2, 1] 0 (some 2) none, .removeEdge [3] 0, .removeNode 3 false, .addEdge [1, 2] 0 (some 4) none]
example : (run (init true) C04_h1).edgeList ≠ (run (init true) C04_h2).edgeList ∧
    nodes (run (init true) C04_h1) ≠ nodes (run (init true) C04_h2) ∧
    hashView (run (init true) C04_h1) = hashView (run (init true) C04_h2) := by decide +kernel
example : (hashView (run (init true) C04_h2)).map (fun v => v.edges.map (·.1)) = some [([1, 2], 0), ([1, 5], 1)] ∧
    (hashView (run (init true) C04_h2)).map (fun v => v.edges.map (·.2.1)) = some [6, 4] ∧
    (hashView (run (init true) C04_h2)).map (fun v => v.edges.map (·.2.2)) = some [[], [(100, 5)]] ∧
    (hashView (run (init true) C04_h2)).map (fun v => v.nodes) = some [(1, []), (2, []), (5, []), (9, [])] := by decide +kernel
example : hashView (run (init true) C04_h1) ≠ hashView (run (init true) (C04_h1 ++ [.setWeight [1, 2] 0 7])) := by decide +kernel
example : (adjTable (run (init true) C04_h2)) = [(9, []), (1, [1, 2]), (5, [1]), (2, [2])] := by decide +kernel

/-- **The raw setters are plain assignments** (`set_edge_list`, `set_adj_dict`, `set_existing_layers`), for EVERY store, broken
ones included: the matching getter returns what was set, no other table moves, handing a getter's result back changes
nothing, and two different raw setters commute. -/
theorem C04_raw_setters (s : Store) (t : List (Key × Nat)) (a : List (Node × List Nat)) (ls : List Layer) :
    edgeTable (setEdgeList s t) = t ∧ adjTable (setAdjDict s a) = a ∧ getExistingLayers (setExistingLayers s ls) = ls ∧
    adjTable (setEdgeList s t) = adjTable s ∧ getExistingLayers (setEdgeList s t) = getExistingLayers s ∧
    edgeTable (setAdjDict s a) = edgeTable s ∧ getExistingLayers (setAdjDict s a) = getExistingLayers s ∧
    edgeTable (setExistingLayers s ls) = edgeTable s ∧ adjTable (setExistingLayers s ls) = adjTable s ∧
    (setEdgeList s t).rev = s.rev ∧ (setEdgeList s t).weights = s.weights ∧ (setEdgeList s t).emeta = s.emeta ∧
    (setAdjDict s a).nmeta = s.nmeta ∧ (setAdjDict s a).rev = s.rev ∧
    abs (setAdjDict s a) = abs s ∧ abs (setExistingLayers s ls) = { abs s with layers := ls } ∧
    setEdgeList s (edgeTable s) = s ∧ setAdjDict s (adjTable s) = s ∧ setExistingLayers s (getExistingLayers s) = s ∧
    setEdgeList (setAdjDict s a) t = setAdjDict (setEdgeList s t) a ∧
    setExistingLayers (setAdjDict s a) ls = setAdjDict (setExistingLayers s ls) a ∧
    setExistingLayers (setEdgeList s t) ls = setEdgeList (setExistingLayers s ls) t := by
  refine ⟨rfl, rfl, rfl, rfl, rfl, rfl, rfl, rfl, rfl, rfl, rfl, rfl, rfl, rfl, rfl, rfl, rfl, rfl, rfl, rfl, rfl, rfl⟩

/-- **Histories that go through the raw surface.** A history in which public calls are mixed with raw calls
(`set_edge_list`, `set_adj_dict`, `set_existing_layers`, `populate_from_dict`) each of which hands back what the matching
getter (`get_edge_list()`, `get_adj_dict()`, `get_existing_layers()`, `expose_data_structures()`) returns at that moment ends in
the state of its public calls alone: the invariant holds and the abstraction is the run of the map, so every earlier theorem
(queries, aggregate, overlap, hashing view) applies to it. -/
theorem C04_raw_echo_history (w : Bool) (hm : HMeta) (rops : List RawOp) (he : echoes (init w hm) rops = true)
    (hw : ∀ op ∈ pubOps rops, op.WF) :
    rawRun (init w hm) rops = run (init w hm) (pubOps rops) ∧ Inv (rawRun (init w hm) rops) ∧
    abs (rawRun (init w hm) rops) = Spec.run (Spec.init w hm) (pubOps rops) := by
  have e := rawRun_echo _ rops he
  rw [e]
  exact ⟨rfl, C04_inv w hm _ hw, C04_refines w hm _ hw⟩

/-- **`populate_from_dict ∘ expose_data_structures = id` and back.** For EVERY store (reachable or not) writing the
dictionary and reading it gives the store back, whatever the receiving object held before (all ten tables are overwritten);
for every dictionary that carries the ten table names with values of the right kind, reading it and writing it again gives
back each of the ten entries. -/
theorem C04_populate_expose (s r : Store) (d : Dump) (hd : Dump.WF d) :
    populate (expose s) = s ∧ rawStep r (.populate (expose s)) = s ∧ (RawOp.populate (expose s)).echo s = true ∧
    (∀ name ∈ tableNames, lookup (expose (populate d)) name = lookup d name) ∧ Dump.WF (expose s) := by
  refine ⟨populate_expose s, populate_expose s, ?_, expose_populate d hd, expose_wf s⟩
  simp [RawOp.echo, loadDump_expose]

/-- **A registry handed in from outside** (`set_existing_layers`, what a loader or a filter does). After every history, any
duplicate-free collection of layer names that contains every layer in use may replace the registry: `edge_overlap` still is
the sum of the per-layer weights of the map, `get_existing_layers()` returns the collection, and nothing else of the
abstract state moves.  (A registry that misses a layer in use loses that layer's weight: see the example below.) -/
theorem C04_registry_set (w : Bool) (hm : HMeta) (ops : List Op) (hw : ∀ op ∈ ops, op.WF) (ls : List Layer) (hnd : ls.Nodup)
    (hsup : ∀ k ∈ records (run (init w hm) ops), k.2 ∈ ls) :
    (∀ raw, overlap (setExistingLayers (run (init w hm) ops) ls) raw = Spec.overlap (Spec.run (Spec.init w hm) ops) raw) ∧
    getExistingLayers (setExistingLayers (run (init w hm) ops) ls) = ls ∧
    abs (setExistingLayers (run (init w hm) ops) ls) = { Spec.run (Spec.init w hm) ops with layers := ls } := by
  have h := C04_inv w hm ops hw
  refine ⟨fun raw => ?_, rfl, ?_⟩
  · rw [← C04_refines w hm ops hw]; exact overlapIn_eq _ h ls hnd hsup raw
  · rw [← C04_refines w hm ops hw]; rfl

/-- **Layer metadata: replace semantics, every history.** `set_layer_metadata(l, v)` after any history makes
`get_layer_metadata(l)` return `v` - whatever was stored before (a second call REPLACES, it does not merge) -, leaves the
metadata of every other layer and the dataset metadata as they were, and touches neither nodes, records, weights nor the
registry; `set_dataset_metadata` leaves every layer's metadata alone. -/
theorem C04_layer_metadata_replace (w : Bool) (hm : HMeta) (ops : List Op) (l : Layer) (v v' : Nat) :
    let s := run (init w hm) ops
    (∀ l', layerMeta (run (init w hm) (ops ++ [.setLayerMeta l v])) l' = if l' = l then some v else layerMeta s l') ∧
    (∀ l', layerMeta (run (init w hm) (ops ++ [.setLayerMeta l v, .setLayerMeta l v'])) l' =
      if l' = l then some v' else layerMeta s l') ∧
    datasetMeta (run (init w hm) (ops ++ [.setLayerMeta l v])) = datasetMeta s ∧
    (∀ l', layerMeta (run (init w hm) (ops ++ [.setDatasetMeta v])) l' = layerMeta s l') ∧
    datasetMeta (run (init w hm) (ops ++ [.setDatasetMeta v])) = some v ∧
    { run (init w hm) (ops ++ [.setLayerMeta l v]) with hmeta := s.hmeta } = s := by
  intro s
  have e1 : run (init w hm) (ops ++ [.setLayerMeta l v]) = setLayerMeta s l v := by
    rw [run_append]; rfl
  have e2 : run (init w hm) (ops ++ [.setLayerMeta l v, .setLayerMeta l v']) = setLayerMeta (setLayerMeta s l v) l v' := by
    rw [run_append]; rfl
  have e3 : run (init w hm) (ops ++ [.setDatasetMeta v]) = setDatasetMeta s v := by
    rw [run_append]; rfl
  rw [e1, e2, e3]
  refine ⟨fun l' => layerMeta_set s l l' v, fun l' => ?_, datasetMeta_setLayer s l v, fun l' => layerMeta_setDataset s l' v, ?_, rfl⟩
  · rw [layerMeta_set, layerMeta_set]
    by_cases hl : l' = l <;> simp [hl]
  · unfold datasetMeta setDatasetMeta setAttrH
    exact get?_set_self _ _ _

/-- **Isolated nodes in the aggregate** (defect D17's neighbourhood). After every history the aggregate has exactly the nodes
of the multiplex hypergraph in the same order, each with the metadata the map holds for it - in particular a node that
belongs to no record (added by `add_node`, with or without metadata, or left behind by removals) is a node of the
aggregate with that metadata, and it is in no hyperedge of the aggregate. -/
theorem C04_aggregated_isolated (w : Bool) (hm : HMeta) (ops : List Op) (hw : ∀ op ∈ ops, op.WF) :
    ∃ a : HSpec, aggregated (run (init w hm) ops) = some a ∧ a.nodes = (Spec.run (Spec.init w hm) ops).nodes ∧
      keys a.nodes = nodes (run (init w hm) ops) ∧
      (∀ n, get? a.nodes n = get? (Spec.run (Spec.init w hm) ops).nodes n) ∧
      (∀ n, (∀ k ∈ records (run (init w hm) ops), n ∉ k.1) → ∀ e ∈ keys a.edges, n ∉ e) := by
  have h := C04_inv w hm ops hw
  obtain ⟨a, h1, _, h3, _, h5, _⟩ := C04_aggregated _ h
  have hq := (C04_queries w hm ops hw).2.1
  refine ⟨a, h1, h3.trans hq, by rw [h3]; rfl, fun n => by rw [h3, hq], ?_⟩
  intro n hn e he hne
  obtain ⟨l, hl⟩ := (h5 e).mp he
  exact hn _ hl hne

/-- **The hashing view when layer names cannot be ordered** (`ty l` = comparability class of the name of layer `l`; node
labels are comparable).  That the call raises (the `TypeError` of `sorted`; there is no fallback) exactly when `sorted` has to
compare two names of different classes is MODELLED (`hashViewT` tests `layerClash`; the argument why every comparison sort must
make such a comparison is in the header of `Model/C04Raw.lean`), not derived.  What is proved: after every history the modelled
call raises exactly when some node set of the map lives in two layers whose names are of different classes; otherwise - then
the listing only ever orders comparable names - it returns the hashing view of the map (`C04_hash_view`).  With names of one class
it never raises. -/
theorem C04_hash_unorderable (ty : Layer → Nat) (w : Bool) (hm : HMeta) (ops : List Op) (hw : ∀ op ∈ ops, op.WF) :
    let s := run (init w hm) ops
    let sp := Spec.run (Spec.init w hm) ops
    (hashViewT ty s = none ↔ ∃ e l l', (e, l) ∈ sp.records ∧ (e, l') ∈ sp.records ∧ ty l ≠ ty l') ∧
    ((¬ ∃ e l l', (e, l) ∈ sp.records ∧ (e, l') ∈ sp.records ∧ ty l ≠ ty l') → hashViewT ty s = some sp.hashView) ∧
    ((∀ l l', ty l = ty l') → hashViewT ty s = hashView s) := by
  intro s sp
  have hr : records s = sp.records := (C04_queries w hm ops hw).2.2.1
  have hv : hashView s = some sp.hashView := C04_hash_view w hm ops hw
  rw [← hr]
  -- the Boolean test decides all three clauses
  cases hc : layerClash ty (records s) with
  | true =>
    have hex := (layerClash_iff ty _).mp hc
    rw [hashViewT_of_clash ty s hc]
    refine ⟨⟨fun _ => hex, fun _ => rfl⟩, fun hn => absurd hex hn, fun hty => ?_⟩
    obtain ⟨_, l, l', _, _, ht⟩ := hex
    exact absurd (hty l l') ht
  | false =>
    have hnex : ¬ ∃ e l l', (e, l) ∈ records s ∧ (e, l') ∈ records s ∧ ty l ≠ ty l' :=
      fun hex => by rw [(layerClash_iff ty _).mpr hex] at hc; cases hc
    rw [hashViewT_of_noClash ty s hc, hv]
    exact ⟨⟨fun h0 => (nomatch h0), fun hex => absurd hex hnex⟩, fun _ => rfl, fun _ => rfl⟩

/-! non-vacuity: a mixed history of echoes, a raw assignment that is no echo, registries handed in, layer metadata,
isolated nodes, unorderable layer names -/
def C04_raw_h : List RawOp :=
  [.pub (.addEdge [2, 1] 0 (some 8) none), .setEdgeList [(([1, 2], 0), 0)], .pub (.addEdge [1, 2] 1 (some 12) (some [(100, 1)])),
   .setAdjDict [(1, [0, 1]), (2, [0, 1])], .setExistingLayers [0, 1], .pub (.addNode 7 (some [(101, 5)])),
   .populate (expose (run (init true) [.addEdge [2, 1] 0 (some 8) none, .addEdge [1, 2] 1 (some 12) (some [(100, 1)]),
                                      .addNode 7 (some [(101, 5)])])), .pub (.removeNode 1 true)]
example : echoes (init true) C04_raw_h = true := by decide +kernel
example : ∀ op ∈ pubOps C04_raw_h, op.WF := by decide +kernel
example : records (rawRun (init true) C04_raw_h) = [([2], 0), ([2], 1)] ∧ (pubOps C04_raw_h).length = 4 := by decide +kernel
-- a raw assignment that is NOT an echo leaves the refinement: the degree no longer is the map's
example : echoes (init true) [.pub (.addEdge [2, 1] 0 none none), .setAdjDict [(1, []), (2, [0])]] = false ∧
    degree (rawRun (init true) [.pub (.addEdge [2, 1] 0 none none), .setAdjDict [(1, []), (2, [0])]]) 1 .all = some 0 ∧
    (abs (rawRun (init true) [.pub (.addEdge [2, 1] 0 none none), .setAdjDict [(1, []), (2, [0])]])).degree 1 .all = some 1 := by decide +kernel
-- a registry that contains the layers in use (any order, extra names) keeps the overlap; one that misses a layer loses its weight
example : overlap (setExistingLayers (run (init true) C04_ops) [5, 1, 0, 2]) [3, 2] = 19 ∧
    overlap (setExistingLayers (run (init true) C04_ops) [1, 2]) [3, 2] < 19 := by decide +kernel
example : Dump.WF (expose (run (init true) C04_ops)) := expose_wf _
example : layerMeta (run (init false) [.setLayerMeta 1 7, .setAttrH 100 3, .setLayerMeta 1 8, .setLayerMeta 0 9]) 1 = some 8 ∧
    datasetMeta (run (init false) [.setLayerMeta 1 7, .setDatasetMeta 4, .setLayerMeta 2 8]) = some 4 := by decide +kernel
-- node 9 is isolated WITH metadata, node 8 isolated without: both are nodes of the aggregate, in no hyperedge
example : (aggregated (run (init true) [.addNode 9 (some [(100, 1)]), .addEdge [1, 2] 0 none none, .addNode 8 none])).map (·.nodes) =
    some [(9, [(100, 1)]), (1, []), (2, []), (8, [])] := by decide +kernel
-- layer names 0, 1 of class 0 (say ints) and 2 of class 1 (a string): {1,2} in layers 0 and 2 raises, in 0 and 1 does not;
-- different node sets in layers 0 and 2 do not; removing the offending record makes the call succeed again
example : hashViewT (tyOf [0, 0, 1]) (run (init true) [.addEdge [1, 2] 0 none none, .addEdge [2, 1] 2 none none]) = none ∧
    (hashViewT (tyOf [0, 0, 1]) (run (init true) [.addEdge [1, 2] 0 none none, .addEdge [2, 1] 1 none none])).isSome = true ∧
    (hashViewT (tyOf [0, 0, 1]) (run (init true) [.addEdge [1, 2] 0 none none, .addEdge [2, 3] 2 none none])).isSome = true ∧
    (hashViewT (tyOf [0, 0, 1]) (run (init true) [.addEdge [1, 2] 0 none none, .addEdge [2, 1] 2 none none,
      .removeEdge [1, 2] 0])).isSome = true := by decide +kernel
