import Hgxv.Proofs.C05WF
import Hgxv.Proofs.C05Node
import Hgxv.Proofs.C05LinkC01
import Hgxv.Proofs.C05GetEdges
import Hgxv.Proofs.C05Batch
import Hgxv.Proofs.C05LinkC02
/-! # C05 — sub-hypergraph extraction and copy are faithful and leave the source untouched

Property theorems about the model `Hgxv/Model/C05.lean` (`Content κ`: weighted flag, nodes with metadata,
hyperedge keys with weight and metadata, incidence metadata, empty edges, hypergraph-level metadata; `κ = UKey` for `Hypergraph`, `κ = DKey` for
`DirectedHypergraph`; the extraction theorems are generic in `κ`), with `Model/C05GetEdges.lean` (`get_edges` with all its
flags) and `Model/C05Batch.lean` (calls that raise half-way, the removal batches).

The only hypothesis on a source is `WF src`: distinct nodes, distinct keys, every node of a hyperedge is
a node, and an unweighted object carries weight 1 everywhere.  `C05_wf_reachable` shows that every
object built from the constructor by any sequence of public mutators satisfies it, so the hypothesis is
what the real code guarantees.  Selections are exactly the property's: any node list inside the source's
nodes (repetitions allowed), any list of orders or sizes (repetitions allowed), any
(order | size, up_to, keep_isolated_nodes), the node list returned by `largest_component`.

Notions of the statements that are not in the model files: `WF`, `aux` (`Proofs/C05Spec.lean`), `KeyedLaws`, `ShrinkInv`
(`C05Node.lean`), `KeyedLaws2` (`C05Batch.lean`), `ofSpec`, `liftOp`, `liftOp2` (`C05LinkC01.lean`), `ofSpecD`, `liftOpD`,
`NoNoneMeta` (`C05LinkC02.lean`). -/
open C05

variable {κ : Type} [DecidableEq κ] [Keyed κ]

/-- every history of `add_node, add_edge, remove_edge, set_weight, set_node_metadata, set_edge_metadata,
set_attr_to_node_metadata, set_attr_to_edge_metadata, set_incidence_metadata, get_incidence_metadata(..)[f] = v,
add_empty_edge, set_hypergraph_metadata, set_attr_to_hypergraph_metadata, add_nodes (with and without the metadata table),
remove_node (with and without keep_edges), clear` (rejected calls included) ends in a well-formed object.
`KeyedLaws κ` holds for both key types (instances in `Proofs/C05Node.lean`). -/
theorem C05_wf_reachable [KeyedLaws κ] (w : Bool) (ops : List (Op κ)) : WF (run (empty w : Content κ) ops) :=
  wf_run _ ops (wf_empty w)

/-- `subhypergraph(nodes)`: succeeds; same weightedness; the hyperedges are exactly the source's hyperedges
all of whose nodes are requested, each with the source's weight and metadata (as a list: in the source's
order); the nodes are exactly the requested ones, once each, with the source's metadata -/
theorem C05_induced (src : Content κ) (ns : List Node) (hwf : WF src) (hsub : ∀ n ∈ ns, n ∈ nodesOf src) :
    ∃ r, induced src ns = some r ∧ r.weighted = src.weighted ∧
      r.edges = src.edges.filter (fun e => decide (∀ n ∈ Keyed.members e.1, n ∈ ns)) ∧
      (∀ n, n ∈ nodesOf r ↔ n ∈ ns) ∧ (nodesOf r).Nodup ∧
      (∀ n ∈ ns, getNodeMeta r n = getNodeMeta src n) := by
  obtain ⟨r, h1, h2, h3, h4⟩ := induced_spec src ns hwf hsub
  refine ⟨r, h1, h2, ?_, h4⟩
  rw [h3]
  apply List.filter_congr
  intro e _
  rw [Bool.eq_iff_iff, inside_iff]; simp

/-- a requested node that is not a node of the source makes `subhypergraph` raise (`get_node_metadata`) -/
theorem C05_induced_rejects (src : Content κ) (ns : List Node) (n : Node) (hn : n ∈ ns) (hout : n ∉ nodesOf src) :
    induced src ns = none := by
  have hnone : ∀ h, copyNodeMeta src h n = none := by
    intro h
    simp [copyNodeMeta, getNodeMeta, (AL.get?_eq_none_iff _ _).2 hout]
  simp only [induced, Option.bind_eq_bind]
  rw [ListLib.foldlM_none_of_mem (copyNodeMeta src) n hnone ns hn]
  rfl

/-- `subhypergraph_largest_component(size, order)` is the induced sub-hypergraph on the node set `comp`
returned by `largest_component(size, order)` (a subset of the nodes) -/
theorem C05_largest_component (src : Content κ) (comp : List Node) (hwf : WF src)
    (hsub : ∀ n ∈ comp, n ∈ nodesOf src) :
    ∃ r, largestComponentSub src comp = some r ∧ r.weighted = src.weighted ∧
      r.edges = src.edges.filter (fun e => decide (∀ n ∈ Keyed.members e.1, n ∈ comp)) ∧
      (∀ n, n ∈ nodesOf r ↔ n ∈ comp) ∧ (nodesOf r).Nodup ∧
      (∀ n ∈ comp, getNodeMeta r n = getNodeMeta src n) :=
  C05_induced src comp hwf hsub

/-- which sizes `subhypergraph_by_orders(orders, sizes)` selects: `sizes`, or `order + 1` for each order;
both or none given is rejected -/
theorem C05_sizes_arg (orders sizes : Option (List Int)) :
    sizesArg orders sizes =
      match orders, sizes with
      | some os, none => some (os.map (· + 1))
      | none, some ss => some ss
      | _, _ => none := by
  cases orders <;> cases sizes <;> rfl

/-- `subhypergraph_by_orders(orders | sizes, keep_nodes)`: succeeds; same weightedness; a (key, weight,
metadata) entry is in the result iff it is in the source and its size is requested (each key once, also when
a size is requested several times); the nodes are all nodes of the source (`keep_nodes`) or the nodes of the
selected hyperedges, once each, with the source's metadata -/
theorem C05_by_sizes (src : Content κ) (orders sizes : Option (List Int)) (keep : Bool) (ss : List Int)
    (hwf : WF src) (hss : sizesArg orders sizes = some ss) :
    ∃ r, byOrders src orders sizes keep = some r ∧ r.weighted = src.weighted ∧
      (∀ e, e ∈ r.edges ↔ e ∈ src.edges ∧ ((Keyed.size e.1 : Nat) : Int) ∈ ss) ∧ (keysOf r).Nodup ∧
      (∀ n, n ∈ nodesOf r ↔ if keep then n ∈ nodesOf src else ∃ e ∈ r.edges, n ∈ Keyed.members e.1) ∧
      (nodesOf r).Nodup ∧ (∀ n ∈ nodesOf r, getNodeMeta r n = getNodeMeta src n) := by
  -- the selection as the code inserts it: size by size, in the order of first occurrence in `ss`; either build order returns exactly `L`
  let L := (dedup ss).flatMap (fun s => src.edges.filter (fun e => orderTest false (s - 1) e.1))
  have hkL : AL.keys L = (dedup ss).flatMap (keysOfSize src) := keys_flatMap_bySize src _
  have hL : Sel src L :=
    ⟨fun e he => by obtain ⟨s, _, h⟩ := List.mem_flatMap.1 he; exact (List.mem_filter.1 h).1,
     by rw [hkL]; exact nodup_flatMap_bySize src hwf.keys_nodup _ (nodup_dedup ss)⟩
  have hmemL : ∀ e, e ∈ L ↔ e ∈ src.edges ∧ ((Keyed.size e.1 : Nat) : Int) ∈ ss := by
    intro e
    simp only [L, List.mem_flatMap, List.mem_filter, mem_dedup, orderTest_eq_iff]
    constructor
    · rintro ⟨s, hs, he, hsz⟩; exact ⟨he, hsz ▸ hs⟩
    · rintro ⟨he, hs⟩; exact ⟨_, hs, he, rfl⟩
  cases keep with
  | true =>
    obtain ⟨h1, r, e1, e2, hw, he, hn, hnd, hg⟩ :=
      nodesThenEdges src hwf (nodesOf src) (fun _ h => h) L hL (hL.nodes_sub hwf)
    refine ⟨r, ?_, hw, fun e => he ▸ hmemL e, by rw [keysOf, he]; exact hL.nodup, hn, hnd,
      fun n hnr => hg n ((hn n).1 hnr)⟩
    rw [hkL] at e2
    simp only [byOrders, hss, Option.bind_eq_bind, Option.bind_some, ↓reduceIte]
    rw [e1, Option.bind_some, e2]; rfl
  | false =>
    obtain ⟨h1, r, e1, e2, hw, he, hn, hnd, hg⟩ := edgesThenNodes src hwf (reinserts_full hwf) L hL []
      (fun _ h => nomatch h)
    replace he : r.edges = L := he.trans (List.map_id L)
    refine ⟨r, ?_, hw, fun e => he ▸ hmemL e, by rw [keysOf, he]; exact hL.nodup, ?_, hnd, hg⟩
    · rw [hkL] at e1
      replace e1 : List.foldlM (reinsert src) (empty src.weighted) _ = some h1 := e1
      simp only [byOrders, hss, Option.bind_eq_bind, Option.bind_some, Bool.false_eq_true, ↓reduceIte]
      rw [e1, Option.bind_some]; exact e2
    · intro n
      rw [hn n, he, mem_nodesIn]
      simp

/-- the hyperedge selection of `get_edges(order, size, up_to)`: everything without filter; `size = s`
(`order = s - 1`) exactly, or `≤` with `up_to`; both given is rejected -/
theorem C05_edge_filter (order size : Option Int) (upTo : Bool) :
    (order = none → size = none → ∃ p, edgeFilter (κ := κ) order size upTo = some p ∧ ∀ k, p k = true) ∧
    (∀ s, order = none → size = some s → ∃ p, edgeFilter (κ := κ) order size upTo = some p ∧
        ∀ k, p k = true ↔ if upTo then ((Keyed.size k : Nat) : Int) ≤ s else ((Keyed.size k : Nat) : Int) = s) ∧
    (∀ o, order = some o → size = none → ∃ p, edgeFilter (κ := κ) order size upTo = some p ∧
        ∀ k, p k = true ↔ if upTo then ((Keyed.size k : Nat) : Int) ≤ o + 1 else ((Keyed.size k : Nat) : Int) = o + 1) ∧
    (∀ o s, order = some o → size = some s → edgeFilter (κ := κ) order size upTo = none) :=
  ⟨fun ho hs => by subst ho hs; exact ⟨_, rfl, fun _ => rfl⟩,
   fun s ho hs => by subst ho hs; exact ⟨_, rfl, orderTest_iff upTo (Int.sub_add_cancel s 1).symm⟩,
   fun o ho hs => by subst ho hs; exact ⟨_, rfl, orderTest_iff upTo rfl⟩,
   fun o s ho hs => by subst ho hs; rfl⟩

/-- `get_edges(order | size, up_to, subhypergraph=True, keep_isolated_nodes)`, all four
(`up_to`, `keep_isolated_nodes`) cases: succeeds; same weightedness; the hyperedges are exactly the
selected hyperedges of the source with their weights and metadata (in the source's order); the node set is
all nodes of the source (`keep_isolated_nodes`) or the nodes of the selected hyperedges, once each, with the
source's node metadata -/
theorem C05_edges_sub (src : Content κ) (order size : Option Int) (upTo keepIso : Bool) (p : κ → Bool)
    (hwf : WF src) (hp : edgeFilter order size upTo = some p) :
    ∃ r, edgesSub src order size upTo keepIso = some r ∧ r.weighted = src.weighted ∧
      r.edges = src.edges.filter (fun e => p e.1) ∧
      (∀ n, n ∈ nodesOf r ↔ if keepIso then n ∈ nodesOf src else ∃ e ∈ r.edges, n ∈ Keyed.members e.1) ∧
      (nodesOf r).Nodup ∧ (∀ n ∈ nodesOf r, getNodeMeta r n = getNodeMeta src n) := by
  have hL := Sel.filter hwf p
  have h0 : (if keepIso = true then touchAll (empty src.weighted) (nodesOf src) else (empty src.weighted : Content κ)) =
      touchAll (empty src.weighted) (if keepIso = true then nodesOf src else []) := by cases keepIso <;> rfl
  obtain ⟨h1, h2, e1, e2, hw2, he2, hn2, hnd2, hg2⟩ := edgesThenNodes src hwf (reinserts_bare hwf) _ hL
    (if keepIso = true then nodesOf src else []) (by cases keepIso <;> simp)
  have e3 := restoreSuffix src hwf.keys_nodup _ [] h2 hL.sub hL.nodup he2
  refine ⟨{ h2 with edges := src.edges.filter (fun e => p e.1) }, ?_, hw2, rfl, fun n => ?_, hnd2, hg2⟩
  · rw [AL.keys_filter_key] at e1 e3
    simp only [edgesSub, hp, Option.bind_eq_bind, Option.bind_some, keysOf]
    rw [h0, e1, Option.bind_some, e2, Option.bind_some]; exact e3
  · rw [show nodesOf ({ h2 with edges := src.edges.filter (fun e => p e.1) } : Content κ) = nodesOf h2 from rfl, hn2 n,
      mem_nodesIn]
    cases keepIso with
    | true =>
      simp only [↓reduceIte]
      exact ⟨fun h => h.elim id (fun h => hL.nodes_sub hwf n ((mem_nodesIn _ n).2 h)), Or.inl⟩
    | false => simp

/-- `get_edges(order, size, up_to, subhypergraph, keep_isolated_nodes, metadata)` (both classes), EVERY combination of the
flags.  Order and size together: rejected.  `keep_isolated_nodes` without `subhypergraph`: rejected (documented).  Otherwise,
with `p` the filter of `C05_edge_filter`:
* `subhypergraph = true` - whatever `metadata` says - the answer is the extracted hypergraph `r` of `C05_edges_sub` (same
  weightedness, exactly the selected hyperedges with the source's weights and metadata, all nodes / the nodes of the selected
  hyperedges with the source's node metadata): the `metadata` flag never turns an extraction into a listing and never changes it;
* `subhypergraph = false`: the plain listing of the selected hyperedges in the source's order; with `metadata` each with
  the metadata the per-hyperedge getter shows. -/
theorem C05_get_edges_flags (src : Content κ) (order size : Option Int) (upTo sub keepIso md : Bool) (hwf : WF src) :
    (order.isSome ∧ size.isSome → getEdges src order size upTo sub keepIso md = none) ∧
    (edgeFilter (κ := κ) order size upTo ≠ none → sub = false → keepIso = true →
        getEdges src order size upTo sub keepIso md = none) ∧
    (∀ p, edgeFilter (κ := κ) order size upTo = some p →
      (sub = true → ∃ r, getEdges src order size upTo sub keepIso md = some (.sub r) ∧
          edgesSub src order size upTo keepIso = some r ∧ r.weighted = src.weighted ∧
          r.edges = src.edges.filter (fun e => p e.1) ∧
          (∀ n, n ∈ nodesOf r ↔ if keepIso then n ∈ nodesOf src else ∃ e ∈ r.edges, n ∈ Keyed.members e.1) ∧
          (nodesOf r).Nodup ∧ (∀ n ∈ nodesOf r, getNodeMeta r n = getNodeMeta src n)) ∧
      (sub = false → keepIso = false → md = false →
          getEdges src order size upTo sub keepIso md = some (.keys ((src.edges.filter (fun e => p e.1)).map (·.1)))) ∧
      (sub = false → keepIso = false → md = true →
          getEdges src order size upTo sub keepIso md =
            some (.keysMd ((src.edges.filter (fun e => p e.1)).map (fun e => (e.1, e.2.2)))))) := by
  refine ⟨?_, ?_, ?_⟩
  · rintro ⟨ho, hs⟩
    obtain ⟨o, rfl⟩ := Option.isSome_iff_exists.1 ho
    obtain ⟨s, rfl⟩ := Option.isSome_iff_exists.1 hs
    rfl
  · intro hf hsub hkeep
    subst hsub; subst hkeep
    unfold getEdges
    cases hp : edgeFilter (κ := κ) order size upTo with
    | none => exact absurd hp hf
    | some p => simp
  · intro p hp
    refine ⟨?_, ?_, ?_⟩
    · intro hsub
      subst hsub
      obtain ⟨r, h1, h2, h3, h4, h5, h6⟩ := C05_edges_sub src order size upTo keepIso p hwf hp
      refine ⟨r, ?_, h1, h2, h3, h4, h5, h6⟩
      unfold getEdges
      simp [hp, h1]
    · intro hsub hkeep hmd
      subst hsub; subst hkeep; subst hmd
      unfold getEdges
      simp [hp, keysOf_filter]
    · intro hsub hkeep hmd
      subst hsub; subst hkeep; subst hmd
      unfold getEdges
      simp [hp, listingMd_filter src p hwf]

/-- `DirectedHypergraph.get_edges(size = sz | order = sz - 1, up_to, subhypergraph=True, keep_isolated_nodes)` for ANY
directed source - no disjointness of the two sides is assumed, so this covers hyperedges whose source and target sets
overlap (a self-loop `((6,),(6,))`, a feedback hyperedge `((1,),(1,2))`) and hyperedges with an empty side: the size that
is tested is `len(source) + len(target)` (what `get_sizes()` reports; a node on both sides counts twice) and nothing else
of the key is looked at; the nodes without `keep_isolated_nodes` are the nodes on either side of a selected hyperedge -/
theorem C05_directed_sub_by_size (src : Content DKey) (order size : Option Int) (sz : Int) (upTo keepIso : Bool)
    (hwf : WF src) (hsel : (order = none ∧ size = some sz) ∨ (order = some (sz - 1) ∧ size = none)) :
    ∃ r, edgesSub src order size upTo keepIso = some r ∧ r.weighted = src.weighted ∧
      r.edges = src.edges.filter (fun e =>
        if upTo then decide (((e.1.1.length + e.1.2.length : Nat) : Int) ≤ sz)
        else decide (((e.1.1.length + e.1.2.length : Nat) : Int) = sz)) ∧
      (∀ n, n ∈ nodesOf r ↔ if keepIso then n ∈ nodesOf src else ∃ e ∈ r.edges, n ∈ e.1.1 ∨ n ∈ e.1.2) ∧
      (nodesOf r).Nodup ∧ (∀ n ∈ nodesOf r, getNodeMeta r n = getNodeMeta src n) := by
  have hp : edgeFilter (κ := DKey) order size upTo = some (orderTest upTo (sz - 1)) := by
    rcases hsel with ⟨rfl, rfl⟩ | ⟨rfl, rfl⟩ <;> rfl
  obtain ⟨r, h1, h2, h3, h4, h5, h6⟩ := C05_edges_sub src order size upTo keepIso _ hwf hp
  refine ⟨r, h1, h2, ?_, ?_, h5, h6⟩
  · rw [h3]
    apply List.filter_congr
    intro e _
    rw [Bool.eq_iff_iff]
    refine (orderTest_iff upTo (Int.sub_add_cancel sz 1).symm e.1).trans ?_
    cases upTo <;> exact decide_eq_true_iff.symm
  · intro n
    rw [h4 n]
    cases keepIso
    · simp only [Bool.false_eq_true, if_false]
      constructor
      · rintro ⟨e, he, hn⟩
        exact ⟨e, he, List.mem_append.mp hn⟩
      · rintro ⟨e, he, hn⟩
        exact ⟨e, he, List.mem_append.mpr hn⟩
    · simp

/-- whatever the source and the selection: an extraction that returns, returns an object of the source's
weightedness (no well-formedness needed) -/
theorem C05_weightedness (src r : Content κ) :
    (∀ ns, induced src ns = some r → r.weighted = src.weighted) ∧
    (∀ comp, largestComponentSub src comp = some r → r.weighted = src.weighted) ∧
    (∀ os ss keep, byOrders src os ss keep = some r → r.weighted = src.weighted) ∧
    (∀ o s upTo keep, edgesSub src o s upTo keep = some r → r.weighted = src.weighted) ∧
    (copy src = r → r.weighted = src.weighted) := by
  have hw : frame r = frame (empty src.weighted : Content κ) → r.weighted = src.weighted := congrArg Prod.fst
  exact ⟨fun ns e => hw (induced_frame src r ns e), fun comp e => hw (induced_frame src r comp e),
    fun os ss keep e => hw (byOrders_frame src r os ss keep e),
    fun o s upTo keep e => hw (edgesSub_frame src r o s upTo keep e), fun e => by subst e; rfl⟩

/-- the result `r` of an extraction carries nothing but the constructor's defaults outside nodes and hyperedges -/
def C05.FreshAux (src r : Content κ) : Prop :=
  r.inc = [] ∧ r.emptyEdges = [] ∧
  r.hmeta = [(attrWeighted, if src.weighted then 1 else 0), (attrType, Keyed.typeTok κ)]

/-- what an extraction does NOT carry (as the code is: the result is a freshly constructed object filled through
`add_node / add_edge / set_*_metadata`): whatever the source and the selection, an extraction that returns has no
incidence metadata, no empty edges and the hypergraph-level metadata the constructor writes (`weighted`, `type`);
`copy()` in contrast keeps all three (it returns an equal object, `C05_copy_independent`) -/
theorem C05_extract_fresh_aux (src r : Content κ) :
    (∀ ns, induced src ns = some r → FreshAux src r) ∧
    (∀ comp, largestComponentSub src comp = some r → FreshAux src r) ∧
    (∀ os ss keep, byOrders src os ss keep = some r → FreshAux src r) ∧
    (∀ o s upTo keep, edgesSub src o s upTo keep = some r → FreshAux src r) ∧
    (copy src = r → r.inc = src.inc ∧ r.emptyEdges = src.emptyEdges ∧ r.hmeta = src.hmeta) := by
  have hf : frame r = frame (empty src.weighted : Content κ) → FreshAux src r := by
    intro h
    simp only [frame, aux, empty, Prod.mk.injEq] at h
    exact h.2
  exact ⟨fun ns e => hf (induced_frame src r ns e), fun comp e => hf (induced_frame src r comp e),
    fun os ss keep e => hf (byOrders_frame src r os ss keep e),
    fun o s upTo keep e => hf (edgesSub_frame src r o s upTo keep e), fun e => by subst e; exact ⟨rfl, rfl, rfl⟩⟩

/-- `clear()`: no nodes, no hyperedges, no incidence metadata are left, the weighted flag stays, the object is well-formed (so
every extraction theorem applies to it); `Hypergraph.clear()` also empties the hypergraph-level metadata and the empty edges,
`DirectedHypergraph.clear()` leaves its hypergraph-level metadata as it is (this is what the two classes do) -/
theorem C05_clear (c : Content κ) :
    WF (clear c) ∧ (clear c).weighted = c.weighted ∧ (clear c).nodes = [] ∧ (clear c).edges = [] ∧ (clear c).inc = [] ∧
    (Keyed.clearsHyper κ = true → (clear c).hmeta = [] ∧ (clear c).emptyEdges = []) ∧
    (Keyed.clearsHyper κ = false → (clear c).hmeta = c.hmeta ∧ (clear c).emptyEdges = c.emptyEdges) ∧
    Keyed.clearsHyper UKey = true ∧ Keyed.clearsHyper DKey = false := by
  refine ⟨wf_clear c, rfl, rfl, rfl, rfl, ?_, ?_, rfl, rfl⟩
  · intro h; simp [clear, h]
  · intro h; simp [clear, h]

/-- `add_nodes(node_list)`: never rejected; the nodes afterwards are the old ones and the listed ones (once each), an old
node keeps its metadata, a new one has `{}`; hyperedges, weights, flag, incidence / empty-edge / hypergraph metadata untouched -/
theorem C05_add_nodes (c : Content κ) (ns : List Node) :
    ∃ r, apply? c (.addNodes ns none) = some r ∧ r.weighted = c.weighted ∧ r.edges = c.edges ∧ aux r = aux c ∧
      (∀ m, m ∈ nodesOf r ↔ m ∈ nodesOf c ∨ m ∈ ns) ∧ ((nodesOf c).Nodup → (nodesOf r).Nodup) ∧
      (∀ m, getNodeMeta r m = if m ∈ nodesOf c then getNodeMeta c m else if m ∈ ns then some [] else none) :=
  ⟨touchAll c ns, rfl, rfl, rfl, rfl, fun _ => mem_keys_touchL _ _ _, nodup_keys_touchL _ _, fun _ => get?_touchL _ _ _⟩

/-- `Hypergraph.add_nodes(node_list, metadata)`: a node without an entry in the table rejects the whole batch (nothing is
added); otherwise the call is the run of the single calls `add_node(node, metadata[node])` in the order of the list -/
theorem C05_add_nodes_table (c : Content κ) (ns : List Node) (t : List (Node × Meta)) :
    ((∃ n ∈ ns, n ∉ AL.keys t) → apply? c (.addNodes ns (some t)) = none) ∧
    ((∀ n ∈ ns, n ∈ AL.keys t) →
      apply? c (.addNodes ns (some t)) = some (run c (ns.map (fun n => Op.addNode n ((AL.get? t n).getD []))))) := by
  constructor
  · rintro ⟨n, hn, hout⟩
    have : ns.all (fun n => AL.has t n) = false := by
      rw [List.all_eq_false]
      refine ⟨n, hn, ?_⟩
      intro hh; exact hout ((AL.has_iff _ _).1 hh)
    simp [apply?, addNodes, this]
  · intro hall
    have : ns.all (fun n => AL.has t n) = true :=
      List.all_eq_true.2 (fun n hn => (AL.has_iff _ _).2 (hall n hn))
    simp only [apply?, addNodes, this, ↓reduceIte, run, List.foldl_map]
    rfl

/-- `remove_node(node, keep_edges)` on a well-formed object.  An absent node: rejected (`KeyError`).  A present node (that is not
source and target of one directed hyperedge - never the case for `Hypergraph`): accepted, whatever the hyperedges; the result is
well-formed, has the same flag and the same incidence / empty-edge / hypergraph metadata; the node table is the old one without
the node (the other nodes keep their metadata); NO hyperedge of the result holds the node; without `keep_edges` the hyperedges
are exactly the old ones that do not hold the node (weights, metadata, order); with `keep_edges` the hyperedge SET is: the old
ones that do not hold the node, and, for every old hyperedge that holds it, what is left of it without the node
(`Keyed.without`; for a directed hyperedge only if both sides stay non-empty) -/
theorem C05_remove_node [KeyedLaws κ] (c : Content κ) (n : Node) (keep : Bool) (hwf : WF c) :
    (n ∉ nodesOf c → apply? c (.removeNode n keep) = none) ∧
    (n ∈ nodesOf c → onBothSides c n = false →
      ∃ r, apply? c (.removeNode n keep) = some r ∧ WF r ∧ r.weighted = c.weighted ∧ aux r = aux c ∧
        r.nodes = AL.erase c.nodes n ∧ n ∉ nodesOf r ∧ (∀ m, m ≠ n → getNodeMeta r m = getNodeMeta c m) ∧
        (∀ k ∈ keysOf r, n ∉ Keyed.members k) ∧
        (keep = false → r.edges = c.edges.filter (fun e => decide (n ∉ Keyed.members e.1))) ∧
        (keep = true → ∀ k, k ∈ keysOf r ↔ (k ∈ keysOf c ∧ n ∉ Keyed.members k) ∨
             (∃ k0 ∈ keysOf c, n ∈ Keyed.members k0 ∧ Keyed.without n k0 = some k))) := by
  constructor
  · exact removeNode_absent c n keep
  · intro hn htw
    obtain ⟨c1, e1, hi1, e2⟩ := removeNode_spec c n keep hwf hn htw
    refine ⟨_, e2, wf_removeNode c _ n keep hwf e2, hi1.weighted, hi1.aux, ?_, ?_, ?_, ?_, ?_, ?_⟩
    · show AL.erase c1.nodes n = _
      rw [hi1.nodes]
    · show n ∉ AL.keys (AL.erase c1.nodes n)
      rw [hi1.nodes, ← AL.get?_eq_none_iff]
      exact AL.get?_erase_self _ _ hwf.nodes_nodup
    · intro m hm
      show AL.get? (AL.erase c1.nodes n) m = _
      rw [hi1.nodes]
      exact AL.get?_erase_ne _ _ _ (fun e => hm e.symm)
    · intro k hk
      exact of_decide_eq_true ((AL.mem_keys_filter_key (fun k => decide (n ∉ Keyed.members k)) c1.edges k).1 hk).2
    · intro hk
      subst hk
      simp only [Bool.false_eq_true, ↓reduceIte, Option.some.injEq] at e1
      subst e1
      rfl
    · intro hk
      subst hk
      simp only [↓reduceIte] at e1
      intro k
      show k ∈ AL.keys (c1.edges.filter (fun e => decide (n ∉ Keyed.members e.1))) ↔ _
      rw [AL.mem_keys_filter_key (fun k => decide (n ∉ Keyed.members k)), decide_eq_true_eq]
      constructor
      · rintro ⟨h1, h2⟩
        rcases hi1.origin k h1 with h3 | h3
        · exact .inl ⟨h3, h2⟩
        · exact .inr h3
      · rintro (⟨h1, h2⟩ | ⟨k0, h1, h2, h3⟩)
        · exact ⟨hi1.keeps k h1, h2⟩
        · refine ⟨?_, KeyedLaws.without_not_mem n k0 k h3⟩
          exact (foldShrink_has n _ c c1 e1).2 k0 ((KeyedLaws.mem_incident n _ k0).2 ⟨h1, h2⟩) k h3

/-- the property's sentence for every object a user can reach: for EVERY history `ops` of the sixteen mutators (node removals
with and without `keep_edges`, `clear`, node batches, rejected calls included) from the constructor, every extraction of the
object `src` it ends in is faithful - `subhypergraph(nodes)` for nodes of `src`, `subhypergraph_by_orders` for any admissible
orders / sizes, `get_edges(.., subhypergraph=True)` for any admissible (order | size, up_to, keep_isolated_nodes): returns, same
weightedness, exactly the selected hyperedges with the weights and metadata `src` has NOW, the documented node set with
`src`'s node metadata (`C05_induced`, `C05_by_sizes`, `C05_edges_sub` without the hypothesis `WF`) -/
theorem C05_extractions_of_reachable [KeyedLaws κ] (w : Bool) (ops : List (Op κ)) :
    (∀ ns, (∀ n ∈ ns, n ∈ nodesOf (run (empty w : Content κ) ops)) →
      ∃ r, induced (run (empty w : Content κ) ops) ns = some r ∧ r.weighted = (run (empty w : Content κ) ops).weighted ∧
        r.edges = (run (empty w : Content κ) ops).edges.filter (fun e => decide (∀ n ∈ Keyed.members e.1, n ∈ ns)) ∧
        (∀ n, n ∈ nodesOf r ↔ n ∈ ns) ∧ (nodesOf r).Nodup ∧
        (∀ n ∈ ns, getNodeMeta r n = getNodeMeta (run (empty w : Content κ) ops) n)) ∧
    (∀ orders sizes keep ss, sizesArg orders sizes = some ss →
      ∃ r, byOrders (run (empty w : Content κ) ops) orders sizes keep = some r ∧
        r.weighted = (run (empty w : Content κ) ops).weighted ∧
        (∀ e, e ∈ r.edges ↔ e ∈ (run (empty w : Content κ) ops).edges ∧ ((Keyed.size e.1 : Nat) : Int) ∈ ss) ∧
        (keysOf r).Nodup ∧
        (∀ n, n ∈ nodesOf r ↔ if keep then n ∈ nodesOf (run (empty w : Content κ) ops)
                                else ∃ e ∈ r.edges, n ∈ Keyed.members e.1) ∧
        (nodesOf r).Nodup ∧ (∀ n ∈ nodesOf r, getNodeMeta r n = getNodeMeta (run (empty w : Content κ) ops) n)) ∧
    (∀ order size upTo keepIso p, edgeFilter (κ := κ) order size upTo = some p →
      ∃ r, edgesSub (run (empty w : Content κ) ops) order size upTo keepIso = some r ∧
        r.weighted = (run (empty w : Content κ) ops).weighted ∧
        r.edges = (run (empty w : Content κ) ops).edges.filter (fun e => p e.1) ∧
        (∀ n, n ∈ nodesOf r ↔ if keepIso then n ∈ nodesOf (run (empty w : Content κ) ops)
                                else ∃ e ∈ r.edges, n ∈ Keyed.members e.1) ∧
        (nodesOf r).Nodup ∧ (∀ n ∈ nodesOf r, getNodeMeta r n = getNodeMeta (run (empty w : Content κ) ops) n)) :=
  ⟨fun ns hsub => C05_induced _ ns (C05_wf_reachable w ops) hsub,
   fun orders sizes keep ss hss => C05_by_sizes _ orders sizes keep ss (C05_wf_reachable w ops) hss,
   fun order size upTo keepIso p hp => C05_edges_sub _ order size upTo keepIso p (C05_wf_reachable w ops) hp⟩

/-- the source is untouched: storing ANY extraction `f` of slot `i` (one of the functions above, `copy`, an
extraction that raises) into another slot `j` changes no slot but `j`; in particular slot `i` holds the same
object before and after.  (The extraction functions are functions of the source's value; on the code the
same statement is checked by comparing every public query of the source before and after.) -/
theorem C05_source_unchanged (sl : Slots κ) (i j : Nat) (f : Content κ → Option (Content κ)) (hij : j ≠ i) :
    AL.get? (extractInto sl i j f) i = AL.get? sl i ∧
    ∀ m, m ≠ j → AL.get? (extractInto sl i j f) m = AL.get? sl m :=
  ⟨get?_extractInto_ne sl i j i f hij, fun m hm => get?_extractInto_ne sl i j m f (fun e => hm e.symm)⟩

/-- `copy()` returns an equal object (equal as a `Content`: weighted flag, nodes, hyperedges with weights and
metadata, incidence metadata, empty edges, hypergraph-level metadata), and afterwards the copy (slot `j`) and the
original (slot `i`) are independent: after ANY interleaving `ops` of mutations addressed to any slots, the original is what it
would be had only its own mutations been applied, and so is the copy -/
theorem C05_copy_independent (sl : Slots κ) (i j : Nat) (hij : j ≠ i) (c : Content κ)
    (hc : AL.get? sl i = some c) (ops : List (Nat × Op κ)) :
    AL.get? (extractInto sl i j (fun x => some (copy x))) j = some c ∧
    AL.get? (runSlots (extractInto sl i j (fun x => some (copy x))) ops) i = some (run c (opsFor i ops)) ∧
    AL.get? (runSlots (extractInto sl i j (fun x => some (copy x))) ops) j = some (run c (opsFor j ops)) := by
  have hj := get?_extractInto_self sl i j (fun x => some (copy x)) c c hc rfl
  have hi := get?_extractInto_ne sl i j i (fun x => some (copy x)) hij
  refine ⟨hj, ?_, ?_⟩
  · rw [get?_runSlots, hi, hc]; rfl
  · rw [get?_runSlots, hj]; rfl

/-- malformed selections are rejected (and then nothing is assigned, see `C05_source_unchanged`):
both or none of orders/sizes; order and size together -/
theorem C05_malformed_rejected (src : Content κ) :
    (∀ keep, byOrders src none none keep = none) ∧
    (∀ os ss keep, byOrders src (some os) (some ss) keep = none) ∧
    (∀ o s upTo keep, edgesSub src (some o) (some s) upTo keep = none) :=
  ⟨fun _ => rfl, fun _ _ _ => rfl, fun _ _ _ _ => rfl⟩

/-! ## non-vacuity: the weighted hypergraph of defect D19 (weights 5.0 and 7.0 = 20 and 28 quanta, ids 0, 1) -/

/-- nodes 9 and 1 carry metadata, 9 is isolated, `(4,)` is a singleton hyperedge -/
def C05.exHistory : List (Op UKey) :=
  [.addNode 9 [(2, 0)], .addNode 1 [(0, 0)], .addEdge [1, 2] (some 20) [(1, 1)],
   .addEdge [2, 3, 4] (some 28) [(1, 2)], .addEdge [4] (some 8) [], .addEdge [1, 2] none [(1, 1)],
   .removeEdge [7]]

def C05.exSrc : Content UKey := run (empty true) exHistory

example : exSrc = ⟨true, [(9, [(2, 0)]), (1, [(0, 0)]), (2, []), (3, []), (4, [])],
    [([1, 2], (24, [(1, 1)])), ([2, 3, 4], (28, [(1, 2)])), ([4], (8, []))], [], [], [(100, 1), (101, 0)]⟩ := by decide +kernel

example : WF exSrc := C05_wf_reachable true exHistory

-- `C05_induced` applies (hypotheses hold) and its conclusion is the computed one: weights 24 and 8, not ids
example : ∀ n ∈ [4, 1, 2, 2], n ∈ nodesOf exSrc := by decide +kernel
example : induced exSrc [4, 1, 2, 2] =
    some ⟨true, [(4, []), (1, [(0, 0)]), (2, [])], [([1, 2], (24, [(1, 1)])), ([4], (8, []))], [], [],
      [(100, 1), (101, 0)]⟩ := by decide +kernel
example : induced exSrc [1, 77] = none := by decide +kernel

-- `C05_by_sizes`: sizes [1, 3, 1] (a repetition) without the isolated nodes
example : sizesArg none (some [1, 3, 1]) = some [1, 3, 1] := rfl
example : byOrders exSrc none (some [1, 3, 1]) false =
    some ⟨true, [(4, []), (2, []), (3, [])], [([4], (8, [])), ([2, 3, 4], (28, [(1, 2)]))], [], [],
      [(100, 1), (101, 0)]⟩ := by decide +kernel
example : (byOrders exSrc (some [1]) none true).map (·.edges) = some [([1, 2], (24, [(1, 1)]))] := by decide +kernel

-- `C05_edges_sub`: the four (up_to, keep_isolated_nodes) cases for size 2
example : edgesSub exSrc none (some 2) false false =
    some ⟨true, [(1, [(0, 0)]), (2, [])], [([1, 2], (24, [(1, 1)]))], [], [], [(100, 1), (101, 0)]⟩ := by decide +kernel
example : (edgesSub exSrc none (some 2) false true).map nodesOf = some [9, 1, 2, 3, 4] := by decide +kernel
example : (edgesSub exSrc none (some 2) true false).map (fun r => (nodesOf r, keysOf r)) =
    some ([1, 2, 4], [[1, 2], [4]]) := by decide +kernel
example : (edgesSub exSrc (some 1) none true true).map (fun r => (nodesOf r, keysOf r)) =
    some ([9, 1, 2, 3, 4], [[1, 2], [4]]) := by decide +kernel

/-- for the examples of `C05_get_edges_flags` on the same source (the three kinds of answers, and the `metadata` flag next to
`subhypergraph`): the answer of `get_edges` made comparable, kind of answer + content -/
def exShow (a : Option (Answer UKey)) : Option (String × List UKey × List (UKey × Meta) × List Node) :=
  a.map fun
    | .keys ks => ("list", ks, [], [])
    | .keysMd ks => ("dict", [], ks, [])
    | .sub r => ("hypergraph", keysOf r, r.edges.map (fun e => (e.1, e.2.2)), nodesOf r)
example : exShow (getEdges exSrc none (some 2) false false false false) = some ("list", [[1, 2]], [], []) := by rfl
example : exShow (getEdges exSrc none (some 2) false false false true) = some ("dict", [], [([1, 2], [(1, 1)])], []) := by rfl
example : exShow (getEdges exSrc none (some 2) false true false true) =
    some ("hypergraph", [[1, 2]], [([1, 2], [(1, 1)])], [1, 2]) := by rfl
example : exShow (getEdges exSrc none (some 2) false true true true) =
    exShow (getEdges exSrc none (some 2) false true true false) ∧
    exShow (getEdges exSrc none (some 2) false true true true) =
      some ("hypergraph", [[1, 2]], [([1, 2], [(1, 1)])], [9, 1, 2, 3, 4]) := ⟨by rfl, by rfl⟩
example : exShow (getEdges exSrc none (some 2) false false true true) = none ∧
    exShow (getEdges exSrc (some 1) (some 2) false true false false) = none := ⟨by rfl, by rfl⟩

-- directed: `get_edges(size=3, subhypergraph=True)` of an unweighted DirectedHypergraph
def C05.exD : Content DKey :=
  run (empty false) [.addNode 5 [(0, 1)], .addEdge ([1], [2]) none [(1, 1)], .addEdge ([2, 3], [1]) none [],
                     .addEdge ([1], [2]) (some 6) []]
example : WF exD := C05_wf_reachable false _
example : exD.edges = [(([1], [2]), (4, [(1, 1)])), (([2, 3], [1]), (4, []))] := by decide +kernel
example : edgesSub exD none (some 3) false false =
    some ⟨false, [(2, []), (3, []), (1, [])], [(([2, 3], [1]), (4, []))], [], [], [(100, 0), (101, 1)]⟩ := by decide +kernel

-- `C05_directed_sub_by_size`: overlapping sides (feedback hyperedge `((1,),(1,2))`, identical sides `((2,5),(2,5))`, the
-- self-loop `((6,),(6,))`) and an empty side `((),(7,))`; sizes as `get_sizes()` reports them: 3, 2, 4, 2, 3, 1
def C05.exLoop : Content DKey :=
  run (empty true) [.addNode 8 [(0, 1)], .addEdge ([1], [1, 2]) (some 4) [], .addEdge ([3], [4]) (some 8) [(1, 1)],
                    .addEdge ([2, 5], [2, 5]) (some 12) [], .addEdge ([6], [6]) (some 16) [(2, 2)],
                    .addEdge ([1, 2], [3]) (some 20) [], .addEdge ([], [7]) (some 24) []]
example : WF exLoop := C05_wf_reachable true _
example : nodesOf exLoop = [8, 1, 2, 3, 4, 5, 6, 7] ∧
    (keysOf exLoop).map Keyed.size = [3, 2, 4, 2, 3, 1] := by decide +kernel
-- size 2 takes the self-loop (one distinct node, size 2) and not the feedback hyperedge (two distinct nodes, size 3)
example : edgesSub exLoop none (some 2) false false =
    some ⟨true, [(3, []), (4, []), (6, [])], [(([3], [4]), (8, [(1, 1)])), (([6], [6]), (16, [(2, 2)]))], [], [],
      [(100, 1), (101, 1)]⟩ := by decide +kernel
example : (edgesSub exLoop (some 2) none false true).map (fun r => (nodesOf r, keysOf r)) =
    some ([8, 1, 2, 3, 4, 5, 6, 7], [([1], [1, 2]), ([1, 2], [3])]) := by decide +kernel
example : (edgesSub exLoop none (some 1) true false).map (fun r => (nodesOf r, keysOf r)) =
    some ([7], [([], [7])]) := by decide +kernel
example : (edgesSub exLoop none (some 4) false false).map (fun r => (nodesOf r, keysOf r)) =
    some ([2, 5], [([2, 5], [2, 5])]) := by decide +kernel

-- `C05_copy_independent` / `C05_source_unchanged` on a two-slot state
example : AL.get? (runSlots (extractInto [(0, exSrc)] 0 1 (fun x => some (copy x)))
    [(1, .removeEdge [4]), (0, .setWeight [4] 12), (1, .addNode 30 [])]) 0
    = some (run exSrc [.setWeight [4] 12]) := by decide +kernel

-- incidence metadata (stored under the tuple as given, kept after `remove_edge`), empty edges, hypergraph-level
-- metadata: `copy()` keeps them and makes them independent, extractions start from the constructor's defaults
def C05.exAuxSrc : Content UKey :=
  run (empty true) (exHistory ++ [.setIncMeta [1, 2] ([2, 1], []) 2 [(0, 3)], .setIncMeta [4] ([4], []) 4 [], .addEmptyEdge 0 [(1, 0)],
             .addEmptyEdge 0 [], .setHyperAttr 2 5, .setIncMeta [7, 8] ([7, 8], []) 7 [], .removeEdge [4],
             .setIncAttr [1, 2] ([2, 1], []) 2 1 1, .setIncAttr [1, 2] ([1, 2], []) 2 1 1])
example : exAuxSrc.inc = [((([2, 1], []), 2), [(0, 3), (1, 1)]), ((([4], []), 4), [])] ∧
    exAuxSrc.emptyEdges = [(0, [(1, 0)])] ∧ exAuxSrc.hmeta = [(100, 1), (101, 0), (2, 5)] ∧
    keysOf exAuxSrc = [[1, 2], [2, 3, 4]] := by decide +kernel
example : WF exAuxSrc := C05_wf_reachable true _
example : getIncMeta exAuxSrc [4] ([4], []) 4 = none ∧ getIncMeta exAuxSrc [1, 2] ([2, 1], []) 2 = some [(0, 3), (1, 1)] := by
  decide +kernel
example : ∃ r, induced exAuxSrc [1, 2] = some r ∧ r.inc = [] ∧ r.emptyEdges = [] ∧ r.hmeta = [(100, 1), (101, 0)] ∧
    keysOf r = [[1, 2]] := by decide +kernel
example : AL.get? (runSlots (extractInto [(0, exAuxSrc)] 0 1 (fun x => some (copy x)))
    [(1, .addEmptyEdge 0 []), (1, .addEmptyEdge 1 []), (0, .setHyperAttr 2 6), (1, .setIncAttr [1, 2] ([2, 1], []) 2 0 0)]) 1
    = some { exAuxSrc with emptyEdges := [(0, [(1, 0)]), (1, [])],
                           inc := [((([2, 1], []), 2), [(0, 0), (1, 1)]), ((([4], []), 4), [])] } := by decide +kernel

-- `C05_remove_node` / `C05_add_nodes(_table)` / `C05_clear` on the D19 source (hyperedges (1,2): 24, (2,3,4): 28, (4,): 8)
example : ∃ r, removeNode exSrc 2 true = some r ∧ r.nodes = [(9, [(2, 0)]), (1, [(0, 0)]), (3, []), (4, [])] ∧
    r.edges = [([4], (8, [])), ([1], (24, [(1, 1)])), ([3, 4], (28, [(1, 2)]))] := by decide +kernel
-- the shrunk hyperedge exists already: weights add up, metadata replaced
example : ∃ r, removeNode (run exSrc [.addEdge [3, 4] (some 4) [(5, 5)]]) 2 true = some r ∧
    r.edges = [([4], (8, [])), ([3, 4], (32, [(1, 2)])), ([1], (24, [(1, 1)]))] := by decide +kernel
example : ∃ r, removeNode exSrc 2 false = some r ∧ r.edges = [([4], (8, []))] ∧ nodesOf r = [9, 1, 3, 4] := by decide +kernel
-- a singleton hyperedge becomes the node-less hyperedge `()`
example : ∃ r, removeNode exSrc 4 true = some r ∧
    r.edges = [([1, 2], (24, [(1, 1)])), ([2, 3], (28, [(1, 2)])), ([], (8, []))] := by decide +kernel
example : removeNode exSrc 7 true = none ∧ onBothSides exSrc 2 = false ∧ 2 ∈ nodesOf exSrc := by decide +kernel
-- directed: a hyperedge whose side would become empty is not re-inserted
example : ∃ r, removeNode exD 3 true = some r ∧ keysOf r = [([1], [2]), ([2], [1])] ∧ nodesOf r = [5, 1, 2] := by decide +kernel
example : ∃ r, removeNode exD 2 true = some r ∧ keysOf r = [([3], [1])] ∧ nodesOf r = [5, 1, 3] := by decide +kernel
example : onBothSides exLoop 1 = true ∧ removeNode exLoop 1 true = none := by decide +kernel
example : ∃ r, addNodes exSrc [1, 50, 3] (some [(1, [(7, 7)]), (50, [(8, 8)]), (3, [(9, 9)]), (4, [])]) = some r ∧
    r.nodes = [(9, [(2, 0)]), (1, [(0, 0)]), (2, []), (3, [(9, 9)]), (4, []), (50, [(8, 8)])] := by decide +kernel
example : addNodes exSrc [1, 50, 3] (some [(1, [(7, 7)]), (50, [(8, 8)])]) = none := by decide +kernel
example : ∃ r, addNodes exSrc [60, 1, 60] none = some r ∧ nodesOf r = [9, 1, 2, 3, 4, 60] := by decide +kernel
example : clear exAuxSrc = ⟨true, [], [], [], [], []⟩ := by decide +kernel
example : clear (run exLoop [.setHyperAttr 3 3]) = ⟨true, [], [], [], [], [(100, 1), (101, 1), (3, 3)]⟩ := by decide +kernel
-- a history with node removals and node batches, then an extraction (`C05_wf_reachable` + `C05_edges_sub`)
def C05.exNodeHistory : List (Op UKey) :=
  exHistory ++ [.removeNode 2 true, .addNodes [2, 70] (some [(2, [(3, 3)]), (70, [])]), .removeNode 77 false,
                .addEdge [2, 70] (some 4) []]
example : WF (run (empty true) exNodeHistory) := C05_wf_reachable true _
example : (edgesSub (run (empty true) exNodeHistory) none (some 2) false false).map (fun r => (r.nodes, keysOf r)) =
    some ([(3, []), (4, []), (2, [(3, 3)]), (70, [])], [[3, 4], [2, 70]]) := by decide +kernel

/-! ## Link to the full model of `Hypergraph` (C01)

The content-level semantics used in this file is not an independent invention: one call of each modelled mutator on the
abstract spec of the complete `Hypergraph` model (`C01.Spec`, which `C01_refines` proves equal to the concrete
id-indexed store for every history) is exactly the C05 step on its content, with the same accept/reject verdict. -/
theorem C05_link_C01 (a : C01.Spec) (op : C01.Op) (op' : Op UKey) (hl : liftOp op = some op')
    (hwf : WF (ofSpec a)) :
    ofSpec (C01.Spec.apply a op).1 = step (ofSpec a) op' ∧
    ((C01.Spec.apply a op).2 = .ok ↔ (apply? (ofSpec a) op').isSome = true) :=
  link_C01 a op op' hl hwf

/-- `add_nodes(node_list[, metadata])` and `clear()` on `C01.Spec` are the C05 steps too (`liftOp2` extends `liftOp` by them) -/
theorem C05_link_C01_nodes (a : C01.Spec) (op : C01.Op) (op' : Op UKey) (hl : liftOp2 op = some op')
    (hwf : WF (ofSpec a)) :
    ofSpec (C01.Spec.apply a op).1 = step (ofSpec a) op' ∧
    ((C01.Spec.apply a op).2 = .ok ↔ (apply? (ofSpec a) op').isSome = true) :=
  link_C01_nodes a op op' hl hwf

/-- and for `remove_node(node, keep_edges)`, both values of `keep_edges`: the two-loop procedure on `C01.Spec` (which C01 proves to
be the abstraction of the concrete id tables, with the declarative description `C01.spec_removeNode_drop / _keep`: weights add up
on the shrunk keys, metadata of a hyperedge that shrinks onto it) gives exactly the C05 content - same nodes, same hyperedge
listing with weights and metadata, same verdict.  `hcan`: stored keys are canonical (what `C01.SWF.key` states for the abstract
state of every history, `C01.abs_swf`) -/
theorem C05_link_C01_remove_node (a : C01.Spec) (n : Node) (keep : Bool) (hwf : WF (ofSpec a))
    (hcan : ∀ k ∈ AL.keys a.edges, C01.canon k = k) :
    ofSpec (C01.Spec.removeNode a n keep).1 = step (ofSpec a) (.removeNode n keep) ∧
    ((C01.Spec.removeNode a n keep).2 = C01.Out.ok ↔ (apply? (ofSpec a) (.removeNode n keep)).isSome = true) :=
  link_C01_removeNode a n keep hwf hcan

-- non-vacuity of the two hypotheses and of the conclusion: node 2 removed with `keep_edges`, `(2,3,4)` shrinks onto the
-- existing `(3,4)` (weights 4 + 12 quanta, metadata replaced), `(1,2)` becomes `(1,)`
def C05.exSpec : C01.Spec :=
  { weighted := true, nodes := [(1, []), (2, [(0, 1)]), (3, []), (4, [])],
    edges := [([1, 2], (8, [(1, 1)])), ([2, 3, 4], (4, [])), ([3, 4], (12, [(2, 2)]))], hmeta := [] }
example : WF (ofSpec exSpec) := ⟨by decide +kernel, by decide +kernel, by decide +kernel, by decide +kernel⟩
example : ∀ k ∈ AL.keys exSpec.edges, C01.canon k = k := by decide +kernel
example : (C01.Spec.removeNode exSpec 2 true).2 = C01.Out.ok ∧
    (C01.Spec.removeNode exSpec 2 true).1.edges = [([3, 4], (16, [])), ([1], (8, [(1, 1)]))] ∧
    (step (ofSpec exSpec) (.removeNode 2 true)).edges = [([3, 4], (16, [])), ([1], (8, [(1, 1)]))] ∧
    (step (ofSpec exSpec) (.removeNode 2 true)).nodes = [(1, []), (3, []), (4, [])] := by decide +kernel

/-! ## Calls that raise half-way (`Model/C05Batch.lean`), link to `C02.Spec`

`OpX κ` = the sixteen single mutators + `remove_node` as the code runs it on EVERY node (also one that is source and target of
one directed hyperedge) + the batches `remove_edges`, `remove_nodes` (`Hypergraph`: the whole batch is validated first,
all-or-nothing; `DirectedHypergraph`: a plain loop - what was done before the first failing call stays done).  A call
answers (state left, returned?); `runX` keeps the state left by a call that raised. -/

/-- every history over the larger operation set - calls that raised half-way included, with the state they leave - ends in
a well-formed object (`KeyedLaws2`, `Batch` have instances for both key types) -/
theorem C05_wf_reachable_batch [KeyedLaws κ] [KeyedLaws2 κ] [Batch κ] (w : Bool) (ops : List (OpX κ)) :
    WF (runX (empty w : Content κ) ops) :=
  wf_runX _ ops (wf_empty w)

/-- the property's sentence for every object such a history ends in (in particular the half-done object a raising
`DirectedHypergraph.remove_node / remove_nodes / remove_edges` leaves): every extraction returns, keeps the weightedness, holds
exactly the selected hyperedges with the weights and metadata the object has NOW, and the documented node set with its node
metadata (the statement of `C05_extractions_of_reachable`, over `OpX`) -/
theorem C05_extractions_of_reachable_batch [KeyedLaws κ] [KeyedLaws2 κ] [Batch κ] (w : Bool) (ops : List (OpX κ))
    (src : Content κ) (hsrc : src = runX (empty w : Content κ) ops) :
    (∀ ns, (∀ n ∈ ns, n ∈ nodesOf src) →
      ∃ r, induced src ns = some r ∧ r.weighted = src.weighted ∧
        r.edges = src.edges.filter (fun e => decide (∀ n ∈ Keyed.members e.1, n ∈ ns)) ∧
        (∀ n, n ∈ nodesOf r ↔ n ∈ ns) ∧ (nodesOf r).Nodup ∧
        (∀ n ∈ ns, getNodeMeta r n = getNodeMeta src n)) ∧
    (∀ orders sizes keep ss, sizesArg orders sizes = some ss →
      ∃ r, byOrders src orders sizes keep = some r ∧ r.weighted = src.weighted ∧
        (∀ e, e ∈ r.edges ↔ e ∈ src.edges ∧ ((Keyed.size e.1 : Nat) : Int) ∈ ss) ∧
        (keysOf r).Nodup ∧
        (∀ n, n ∈ nodesOf r ↔ if keep then n ∈ nodesOf src else ∃ e ∈ r.edges, n ∈ Keyed.members e.1) ∧
        (nodesOf r).Nodup ∧ (∀ n ∈ nodesOf r, getNodeMeta r n = getNodeMeta src n)) ∧
    (∀ order size upTo keepIso p, edgeFilter (κ := κ) order size upTo = some p →
      ∃ r, edgesSub src order size upTo keepIso = some r ∧ r.weighted = src.weighted ∧
        r.edges = src.edges.filter (fun e => p e.1) ∧
        (∀ n, n ∈ nodesOf r ↔ if keepIso then n ∈ nodesOf src else ∃ e ∈ r.edges, n ∈ Keyed.members e.1) ∧
        (nodesOf r).Nodup ∧ (∀ n ∈ nodesOf r, getNodeMeta r n = getNodeMeta src n)) := by
  have hwf : WF src := hsrc ▸ C05_wf_reachable_batch w ops
  exact ⟨fun ns hsub => C05_induced _ ns hwf hsub,
   fun orders sizes keep ss hss => C05_by_sizes _ orders sizes keep ss hwf hss,
   fun order size upTo keepIso p hp => C05_edges_sub _ order size upTo keepIso p hwf hp⟩

/-- `remove_node(node, keep_edges)` as the code runs it, on a well-formed object, the three cases:
absent node - raises, nothing changed; present node on one side only - returns, and it is the call `C05_remove_node` describes;
present node that is source AND target of one hyperedge (directed only) - the call RAISES (the removal loop meets that hyperedge
a second time), and the object it leaves is well-formed, with the SAME node table (the node is still there, with its metadata),
the same flag, the same incidence / empty-edge / hypergraph metadata; what is gone are the hyperedges the loop removed before
the repeat (with `keep_edges` the shrunk hyperedges have all been inserted - the doubly incident one twice, its weight
counted twice; see the examples below) -/
theorem C05_remove_node_both_sides [KeyedLaws κ] [KeyedLaws2 κ] (c : Content κ) (n : Node) (keep : Bool) (hwf : WF c) :
    (n ∉ nodesOf c → removeNodeRaw c n keep = (c, false)) ∧
    (n ∈ nodesOf c → onBothSides c n = false →
      ∃ c', removeNode c n keep = some c' ∧ removeNodeRaw c n keep = (c', true)) ∧
    (n ∈ nodesOf c → onBothSides c n = true →
      (removeNodeRaw c n keep).2 = false ∧ WF (removeNodeRaw c n keep).1 ∧
      (removeNodeRaw c n keep).1.nodes = c.nodes ∧ (removeNodeRaw c n keep).1.weighted = c.weighted ∧
      (removeNodeRaw c n keep).1.inc = c.inc ∧ (removeNodeRaw c n keep).1.emptyEdges = c.emptyEdges ∧
      (removeNodeRaw c n keep).1.hmeta = c.hmeta) := by
  obtain ⟨h1, h2, h3⟩ := removeNodeRaw_spec c n keep hwf
  refine ⟨h1, h2, fun hn htw => ?_⟩
  obtain ⟨e, hk, hnodes, hw, haux⟩ := h3 hn htw
  simp only [aux, Prod.mk.injEq] at haux
  exact ⟨e, hk, hnodes, hw, haux.1, haux.2.1, haux.2.2⟩

/-- `Hypergraph.remove_edges(edge_list)` (the validating class): every listed hyperedge present and none listed twice - the batch
returns and the hyperedges left are exactly the old entries whose key is not listed (list equality: weights, metadata, order),
nothing else changes; otherwise it raises and NOTHING changed.  `hv` holds for `UKey` (`rfl`, example below) -/
theorem C05_remove_edges_all_or_nothing [Batch κ] (hv : Batch.validates κ = true) (c : Content κ) (ks : List κ) (hwf : WF c) :
    ((ks.all (fun k => AL.has c.edges k) && decide ks.Nodup) = true →
      removeEdgesB c ks = ({ c with edges := c.edges.filter (fun e => decide (e.1 ∉ ks)) }, true)) ∧
    ((ks.all (fun k => AL.has c.edges k) && decide ks.Nodup) = false → removeEdgesB c ks = (c, false)) := by
  constructor
  · intro h
    unfold removeEdgesB
    simp only [hv, h, Bool.not_true, Bool.and_false, Bool.false_eq_true, ↓reduceIte]
    simp only [Bool.and_eq_true, List.all_eq_true, decide_eq_true_eq] at h
    exact loopRaw_of_foldlM removeEdge _ _ _
      (foldRemove_eq ks c hwf.keys_nodup (fun k hk => (AL.has_iff _ _).1 (h.1 k hk)) h.2)
  · intro h
    unfold removeEdgesB
    simp [hv, h]

/-- `Hypergraph.remove_nodes(node_list, keep_edges)`: every listed node present and none listed twice - the batch returns and is
the run of the single `remove_node` calls (each described by `C05_remove_node`); otherwise it raises and NOTHING changed.
`hv`, `htw` hold for `UKey` (no node is on two sides of an undirected hyperedge; example below) -/
theorem C05_remove_nodes_all_or_nothing [KeyedLaws κ] [Batch κ] (hv : Batch.validates κ = true)
    (htw : ∀ (c : Content κ) (n : Node), onBothSides c n = false) (c : Content κ) (ns : List Node) (keep : Bool) (hwf : WF c) :
    ((ns.all (fun n => AL.has c.nodes n) && decide ns.Nodup) = true →
      removeNodesB c ns keep = (run c (ns.map (fun n => Op.removeNode n keep)), true)) ∧
    ((ns.all (fun n => AL.has c.nodes n) && decide ns.Nodup) = false → removeNodesB c ns keep = (c, false)) := by
  have h := removeNodesB_validating hv htw c ns keep hwf
  refine ⟨fun hv => ?_, h.2⟩
  rw [h.1 hv, run, List.foldl_map]

/-- the directed batches are plain loops: `remove_edges` / `remove_nodes` of `DirectedHypergraph` on any object is the loop of
the single `remove_edge` / `remove_node` calls that stops at the first one that raises; the state reached there is what the
call leaves -/
theorem C05_directed_batches_are_loops (c : Content DKey) (ks : List DKey) (ns : List Node) (keep : Bool) :
    removeEdgesB c ks = loopRaw (fun h k => orSame h (removeEdge h k)) c ks ∧
    removeNodesB c ns keep = loopRaw (fun h n => removeNodeRaw h n keep) c ns := by
  simp [removeEdgesB, removeNodesB, Batch.validates]

-- non-vacuity: the run of the real code shown in notes/C05.md (weights in quanta of 1/4): node 1 is source and target of
-- `((1,4),(1,5))`; `remove_node(1)` raises; left: the two hyperedges the loop did not reach / does not touch
def C05.exBoth : Content DKey :=
  run (empty true) [.addEdge ([1, 2], [3]) (some 8) [(0, 1)], .addEdge ([1, 4], [1, 5]) (some 12) [(1, 2)],
    .addEdge ([6], [1, 7]) (some 6) [], .addEdge ([4], [5]) (some 4) []]
example : WF exBoth := C05_wf_reachable true _
example : onBothSides exBoth 1 = true ∧ 1 ∈ nodesOf exBoth := by decide +kernel
example : (removeNodeRaw exBoth 1 false).2 = false ∧
    (removeNodeRaw exBoth 1 false).1.edges = [(([6], [1, 7]), (6, [])), (([4], [5]), (4, []))] ∧
    nodesOf (removeNodeRaw exBoth 1 false).1 = [1, 2, 3, 4, 5, 6, 7] := by decide +kernel
example : (removeNodeRaw exBoth 1 true).2 = false ∧
    (removeNodeRaw exBoth 1 true).1.edges =
      [(([6], [1, 7]), (6, [])), (([4], [5]), (28, [(1, 2)])), (([2], [3]), (8, [(0, 1)])), (([6], [7]), (6, []))] := by decide +kernel
example : firstRepeat [] (Keyed.incident 1 (keysOf exBoth)) = some ([([1, 2], [3]), ([1, 4], [1, 5])], ([1, 4], [1, 5])) := by
  decide +kernel
-- a history that goes on after the raising call, and an extraction of the object it ends in
example : ∃ r, edgesSub (runX exBoth [.removeNodeRaw 1 true, .removeEdges [([2], [3]), ([9], [9]), ([6], [7])],
      .base (.addEdge ([1], [4]) (some 4) [])]) none (some 2) false false = some r ∧
    keysOf r = [([4], [5]), ([6], [7]), ([1], [4])] ∧ nodesOf r = [4, 5, 6, 7, 1] := by decide +kernel
example : Batch.validates UKey = true ∧ Batch.validates DKey = false := ⟨rfl, rfl⟩
example : ∀ (c : Content UKey) (n : Node), onBothSides c n = false := onBothSides_UKey
-- the validating class: a batch with an absent / repeated item changes nothing; a valid one is one filter
example : removeEdgesB exSrc [[1, 2], [7, 8]] = (exSrc, false) ∧ removeEdgesB exSrc [[1, 2], [1, 2]] = (exSrc, false) ∧
    (removeEdgesB exSrc [[4], [1, 2]]).2 = true ∧ removeNodesB exSrc [1, 77] false = (exSrc, false) ∧
    (removeNodesB exSrc [1, 4] true).2 = true := by decide +kernel

/-! ### the content model at `κ = DKey` is C02's abstract specification -/

/-- one call of `add_node, add_nodes, add_edge, remove_edge, set_weight, set_node_metadata, set_edge_metadata, clear` on
`C02.Spec` (the abstract object C02 proves to be the abstraction of `DirectedHypergraph`'s id tables) is the C05 step on its
content, with the same verdict; no hypothesis on the spec.  The statement is about one call: that `C05.WF` is then an invariant
of every such `C02.Spec` history (with `wf_step`, from a well-formed start) is not stated as a theorem. -/
theorem C05_link_C02 (a : C02.Spec) (op : C02.Op) (op' : Op DKey) (hl : liftOpD op = some op') :
    ofSpecD (C02.Spec.applyOp a op).1 = step (ofSpecD a) op' ∧
    ((C02.Spec.applyOp a op).2 = .ok ↔ (apply? (ofSpecD a) op').isSome = true) :=
  link_C02 a op op' hl

/-- `remove_edges` on `C02.Spec` (C02 models it as the plain loop, half-done state kept) leaves the content the C05 batch
leaves, with the same verdict -/
theorem C05_link_C02_remove_edges (es : List C02.RawEdge) (ks : List DKey) (a : C02.Spec)
    (h : es.map C02.canonStrict = ks.map some) :
    ofSpecD (C02.Spec.removeEdges a es).1 = (removeEdgesB (ofSpecD a) ks).1 ∧
    ((C02.Spec.removeEdges a es).2 = .ok ↔ (removeEdgesB (ofSpecD a) ks).2 = true) :=
  link_C02_removeEdges es ks a h

/-- `remove_node(node, keep_edges)` on `C02.Spec`, EVERY node - also one that is source and target of one hyperedge, where C02
models the call as raising half-way and keeping the half-done state - leaves exactly the content `removeNodeRaw` leaves (nodes,
hyperedge listing with weights and metadata), with the same verdict.  `hcan`: stored keys are sorted (C02's canonical form, which
every key stored by C02's mutators has); `hm` (only with `keep_edges`): no stored hyperedge metadata is Python's `None`, which
C02 turns into `{}` when it hands it on and C05, a model of dict metadata, does not have -/
theorem C05_link_C02_remove_node (a : C02.Spec) (n : Node) (keep : Bool)
    (hcan : ∀ k ∈ AL.keys a.edges, C02.canonStrict (C02.RawEdge.ofKey k) = some k)
    (hm : keep = true → NoNoneMeta a) :
    ofSpecD (C02.Spec.removeNode a n keep).1 = (removeNodeRaw (ofSpecD a) n keep).1 ∧
    ((C02.Spec.removeNode a n keep).2 = .ok ↔ (removeNodeRaw (ofSpecD a) n keep).2 = true) :=
  link_C02_removeNode a n keep hcan hm

-- non-vacuity: a spec with node 1 on both sides of `((1,4),(1,5))`: hypotheses hold, C02 answers rej and keeps the half-done state
def C05.exSpecBoth : C02.Spec :=
  { weighted := true, nodes := [(1, []), (2, []), (3, []), (4, []), (5, []), (6, []), (7, [])],
    edges := [(([1, 2], [3]), (8, [(0, 1)])), (([1, 4], [1, 5]), (12, [(1, 2)])), (([6], [1, 7]), (6, [])), (([4], [5]), (4, []))] }
example : ∀ k ∈ AL.keys exSpecBoth.edges, C02.canonStrict (C02.RawEdge.ofKey k) = some k := by decide +kernel
example : NoNoneMeta exSpecBoth := by unfold NoNoneMeta; decide +kernel
example : (C02.Spec.removeNode exSpecBoth 1 true).2 = .rej ∧
    (C02.Spec.removeNode exSpecBoth 1 true).1.edges =
      [(([6], [1, 7]), (6, [])), (([4], [5]), (28, [(1, 2)])), (([2], [3]), (8, [(0, 1)])), (([6], [7]), (6, []))] ∧
    (removeNodeRaw (ofSpecD exSpecBoth) 1 true).1.edges =
      [(([6], [1, 7]), (6, [])), (([4], [5]), (28, [(1, 2)])), (([2], [3]), (8, [(0, 1)])), (([6], [7]), (6, []))] := by decide +kernel

def C05.exSpecD : C02.Spec :=
  { weighted := true, nodes := [(1, []), (2, [(0, 1)]), (3, [])],
    edges := [(([1], [2]), (8, [(1, 1)])), (([2, 3], [1]), (4, []))], hmeta := [] }
example : liftOpD (.addEdge ⟨.nodes [3, 2], .scalar 1⟩ (some 6) none) = some (.addEdge ([2, 3], [1]) (some 6) []) := rfl
example : (C02.Spec.applyOp exSpecD (.addEdge ⟨.nodes [3, 2], .scalar 1⟩ (some 6) none)).1.edges =
    [(([1], [2]), (8, [(1, 1)])), (([2, 3], [1]), (10, []))] ∧
    (step (ofSpecD exSpecD) (.addEdge ([2, 3], [1]) (some 6) [])).edges =
    [(([1], [2]), (8, [(1, 1)])), (([2, 3], [1]), (10, []))] := by decide +kernel
example : (C02.Spec.removeEdges exSpecD [⟨.nodes [1], .nodes [2]⟩, ⟨.nodes [5], .nodes [6]⟩, ⟨.nodes [3, 2], .nodes [1]⟩]).2 = .rej ∧
    (C02.Spec.removeEdges exSpecD [⟨.nodes [1], .nodes [2]⟩, ⟨.nodes [5], .nodes [6]⟩, ⟨.nodes [3, 2], .nodes [1]⟩]).1.edges =
      [(([2, 3], [1]), (4, []))] ∧
    removeEdgesB (ofSpecD exSpecD) [([1], [2]), ([5], [6]), ([2, 3], [1])] =
      ({ ofSpecD exSpecD with edges := [(([2, 3], [1]), (4, []))] }, false) := by decide +kernel
