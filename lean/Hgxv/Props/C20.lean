import Hgxv.Proofs.C20
import Hgxv.Proofs.C20Reads
import Hgxv.Proofs.C20Eigen
import Hgxv.Proofs.C20Cent
import Hgxv.Proofs.C20CentSum
import Hgxv.Proofs.C20CentHG
/-! # C20 - centralities are the advertised functionals of the hypergraph's projections  (PARTIAL by nature)

Proved here, in three parts.  First (`C20_edges_once` ... `C20_relabel_nodes`) the glue of
`hypergraphx/measures/s_centralities.py` (model `Hgxv/Model/C20.lean`; the readings of `line_graph` in `Model/C20Reads.lean`) for
EVERY centrality routine `cent : Graph V → V → Rat` (the networkx routine is a parameter; its contract is `C20.centDict`: one
item per vertex of the graph), every label type `α` with decidable equality, every `srt` (= `tuple(sorted(·))`).
Then (`C20_apply_spec` ... `C20_subhg`) the algebra of the two eigenvector iterations over exact rationals (norm and root vector
are parameters with their defining equation as hypothesis) and of the sub-hypergraph centrality, and `C20_memberless` on
hyperedges without members in the two projections.
In the last part (`C20_dist_spec` ... `C20_nx_relabel`) `cent` is instantiated by the model's own `closeness` / `betweenness`
(`Model/C20Cent.lean`, compared with networkx on every run) and what these compute is proved.
Not proved (trusted base, watched by the harness): that networkx's code is these two functions, `eigh`,
`logsumexp`, convergence of the power iterations to a positive vector.

Beside the model's, the statements speak of notions defined next to their lemmas: `edgeItems`, `nodeItems`, `total`, `relKey`,
`RelabelHyp` (`Proofs/C20.lean`), `getD2` (`Proofs/C20Eigen.lean`), `reachIn`, `walkCount`, `dist` (`Proofs/C20Cent.lean`), `pairInner`
(`Proofs/C20CentSum.lean`), `Graph.map` (`Proofs/C20CentHG.lean`).

Hypotheses are those the containers guarantee: `get_edges()` / `get_nodes()` list pairwise different keys
(`Nodup`), stored keys are sorted (`srt e = e`), `sorted` returns a permutation of its argument. -/
open C20

/-- `s_betweenness(H, s)` / `s_closeness(H, s)`: no `KeyError`; the result is the list `edgeItems`, i.e. its keys
are the hyperedges in `get_edges()` order, each exactly once, and hyperedge number `i` carries
`cent (line graph) i` - the centrality of ITS vertex of the s-line graph. -/
theorem C20_edges_once {α : Type} [DecidableEq α] (cent : Graph Nat → Nat → Rat) (srt : List α → List α)
    (H : HG α) (s : Nat) (hk : (H.edges.map srt).Nodup) :
    sEdges cent srt H s = some (edgeItems cent srt H s) ∧
    AL.keys (edgeItems cent srt H s) = H.edges.map srt ∧ (AL.keys (edgeItems cent srt H s)).Nodup ∧
    ∀ i (hi : i < H.edges.length),
      AL.get? (edgeItems cent srt H s) (srt H.edges[i]) = some (cent (lineGraph srt H s) i) := by
  obtain ⟨h1, h2, h3⟩ := zipIdx_items_once (H.edges.map srt) (cent (lineGraph srt H s)) hk
  refine ⟨?_, h2, h2.symm ▸ hk, fun i hi => ?_⟩
  · rw [sEdges, sEdgesItems_eq, Option.map_some]; exact congrArg some h1
  · have := h3 i (by rw [List.length_map]; exact hi)
    rwa [List.getElem_map] at this

example : sEdges (fun g v => (g.edges.length + v : Nat)) id ({ nodes := [1, 2, 3, 4], edges := [[1, 2, 3], [2, 4], [4]] } : HG Nat) 1
    = some [([1, 2, 3], 2), ([2, 4], 3), ([4], 4)] := by decide

/-! ### the readings of `line_graph`

`projections.line_graph` does not only read `get_edges()`: the vertices are `range(len(h))` and two hyperedges are
compared only when some `get_incident_edges(node)` lists both (`Model/C20Reads.lean`).  For an object whose three
readings fit together (`Coherent`: what we take a well-formed `Hypergraph` to guarantee - the content of the invariant of the container model
C01, to which no theorem links it: `len(h)` = number of listed hyperedges, `get_incident_edges(n)` = the listed hyperedges containing `n`, each
once, every member of a hyperedge is a node) the loops produce the line graph of the LISTING, and the centralities are
those of `C20_edges_once`.  The last two `example`s after the theorems are the shapes in which coherence fails (a hyperedge
registered half-way by a call that raised; member-less edges counted by `__len__`): there the statement is false -
such objects are what the harness's session stream hunts for. -/

/-- Coherent readings: no `KeyError`; the graph built by the loops of `line_graph` has the vertices of the
listing-level line graph, no edge twice, and exactly its edges. -/
theorem C20_line_reads {α : Type} [DecidableEq α] (srt : List α → List α) (R : Reads α) (hc : Coherent srt R) (s : Nat) :
    ∃ es, lineGraphR srt R s = some { verts := (lineGraph srt ⟨R.inc.map (·.1), R.edges⟩ s).verts, edges := es } ∧
      es.Nodup ∧ ∀ i j, (i, j) ∈ es ↔ (i, j) ∈ (lineGraph srt ⟨R.inc.map (·.1), R.edges⟩ s).edges := by
  refine ⟨edgesR s srt R, ?_, edgesR_nodup s srt R, fun i j => mem_edgesR_iff srt R hc s i j⟩
  simp [lineGraphR, lineEdgesR_eq srt R hc s, lineGraph, hc.len_eq]

/-- Coherent readings, `cent` a function of the vertex list and the edge SET of the graph (betweenness and closeness
are): `s_betweenness` / `s_closeness` as the code computes them from `len(h)` and `get_incident_edges` are the
listing-level ones - every listed hyperedge exactly one value, that of its vertex in the s-line graph. -/
theorem C20_edges_reads {α : Type} [DecidableEq α] (cent : Graph Nat → Nat → Rat)
    (hcent : ∀ g g' : Graph Nat, g.verts = g'.verts → (∀ e, e ∈ g.edges ↔ e ∈ g'.edges) → ∀ v, cent g v = cent g' v)
    (srt : List α → List α) (R : Reads α) (hc : Coherent srt R) (s : Nat) :
    sEdgesR cent srt R s = sEdges cent srt ⟨R.inc.map (·.1), R.edges⟩ s ∧
    sEdgesR cent srt R s = some (edgeItems cent srt ⟨R.inc.map (·.1), R.edges⟩ s) := by
  obtain ⟨es, hg, _, hes⟩ := C20_line_reads srt R hc s
  have h1 : sEdgesR cent srt R s = sEdges cent srt ⟨R.inc.map (·.1), R.edges⟩ s := by
    unfold sEdgesR
    rw [hg, Option.bind_some]
    unfold sEdges sEdgesItems centDict
    congr 2
    apply List.map_congr_left
    intro v _
    rw [hcent { verts := (lineGraph srt ⟨R.inc.map (·.1), R.edges⟩ s).verts, edges := es }
      (lineGraph srt ⟨R.inc.map (·.1), R.edges⟩ s) rfl (fun e => hes e.1 e.2) v]
  exact ⟨h1, h1.trans (C20_edges_once cent srt ⟨R.inc.map (·.1), R.edges⟩ s hc.keys_nodup).1⟩

/-- non-vacuity: the readings of a well-formed listing are coherent (`coherent_readsOf`), e.g. a 4-cycle of hyperedges -/
example : Coherent id (readsOf id ({ nodes := [0, 1, 2, 3, 4, 5, 6, 7], edges := [[0, 1, 2], [2, 3, 4], [4, 5, 6], [0, 6, 7]] } : HG Nat)) :=
  coherent_readsOf id _ (by decide) (by decide) (by decide)

example : (lineGraphR id (readsOf id ({ nodes := [0, 1, 2, 3, 4, 5, 6, 7], edges := [[0, 1, 2], [2, 3, 4], [4, 5, 6], [0, 6, 7]] } : HG Nat)) 1).map (·.edges)
    = some [(0, 3), (0, 1), (1, 2), (2, 3)] := by decide

/-- where coherence fails (1): the hyperedge `[0, 6, 7]` is listed by `get_edges()` / `len(h)` but no node is incident to
it (an `add_edge` that raised after registering the key): the loops see a path plus an isolated vertex, not the
4-cycle of the listing. -/
example : (lineGraphR id ({ edges := [[0, 1, 2], [2, 3, 4], [4, 5, 6], [0, 6, 7]], len := 4, inc := [(0, [[0, 1, 2]]), (1, [[0, 1, 2]]), (2, [[0, 1, 2], [2, 3, 4]]), (3, [[2, 3, 4]]), (4, [[2, 3, 4], [4, 5, 6]]), (5, [[4, 5, 6]]), (6, [[4, 5, 6]])] } : Reads Nat) 1).map (·.edges)
      = some [(0, 1), (1, 2)] ∧
    (lineGraph id ({ nodes := [0, 1, 2, 3, 4, 5, 6], edges := [[0, 1, 2], [2, 3, 4], [4, 5, 6], [0, 6, 7]] } : HG Nat) 1).edges
      = [(0, 1), (0, 3), (1, 2), (2, 3)] := by decide

/-- where coherence fails (2): `len(h)` counts a member-less edge: vertex 2 has no entry in the id table - `KeyError`,
no hyperedge receives a value, whatever `cent` is. -/
example (cent : Graph Nat → Nat → Rat) :
    sEdgesR cent id ({ edges := [[0, 1], [1, 2]], len := 3, inc := [(0, [[0, 1]]), (1, [[0, 1], [1, 2]]), (2, [[1, 2]])] } : Reads Nat) 1 = none := by
  rfl

/-- the test `"E" not in k` on the vertices of the bipartite projection selects exactly the node vertices `N<i>` -/
theorem C20_node_filter (i j : Nat) :
    isNodeName (nameN i) = true ∧ isNodeName (nameE j) = false ∧ nameN i ≠ nameE j ∧
    (∀ i', nameN i = nameN i' → i = i') :=
  ⟨isNodeName_nameN i, isNodeName_nameE j, nameN_ne_nameE i j, fun _ h => nameN_inj h⟩

/-- `s_betweenness_nodes(H)` / `s_closeness_nodes(H)`: no `KeyError`; the keys of the result are the nodes in
`get_nodes()` order, each exactly once (no hyperedge slips through the name filter), and node number `i` carries
`cent (bipartite projection) "N<i>"`. -/
theorem C20_nodes_once {α : Type} [DecidableEq α] (cent : Graph String → String → Rat) (srt : List α → List α)
    (H : HG α) (hn : H.nodes.Nodup) :
    sNodes cent srt H = some (nodeItems cent srt H) ∧
    AL.keys (nodeItems cent srt H) = H.nodes.map Sum.inl ∧ (AL.keys (nodeItems cent srt H)).Nodup ∧
    ∀ i (hi : i < H.nodes.length),
      AL.get? (nodeItems cent srt H) (Sum.inl H.nodes[i]) = some (cent (bipGraph srt H) (nameN i)) := by
  have hnd : (H.nodes.map (Sum.inl : α → Obj α)).Nodup := (nodup_map_inl H.nodes).mpr hn
  obtain ⟨h1, h2, h3⟩ := zipIdx_items_once (H.nodes.map (Sum.inl : α → Obj α)) (fun i => cent (bipGraph srt H) (nameN i)) hnd
  refine ⟨?_, h2, h2.symm ▸ hnd, fun i hi => ?_⟩
  · rw [sNodes, sNodesItems_eq, Option.map_some]; exact congrArg some h1
  · have := h3 i (by rw [List.length_map]; exact hi)
    rwa [List.getElem_map] at this

example : sNodes (fun g v => (g.edges.length + v.length : Nat)) id
      ({ nodes := ["ANNE", "E1", "x"], edges := [["ANNE", "E1"], ["x"]] } : HG String)
    = some [(Sum.inl "ANNE", 5), (Sum.inl "E1", 5), (Sum.inl "x", 5)] := by decide

/-- The averaged versions, generically: if every snapshot yields its items without exception (`hper`) with pairwise
different keys (`hnd`), the result has pairwise different keys, contains exactly the keys that occur in some
snapshot, and the value of `k` is (Σ over ALL snapshots of its value there, absent = 0) / #snapshots. -/
theorem C20_averaged {α κ : Type} [DecidableEq κ] (per : HG α → Option (List (κ × Rat)))
    (items : HG α → List (κ × Rat)) (snaps : List (HG α))
    (hper : ∀ H ∈ snaps, per H = some (items H)) (hnd : ∀ H ∈ snaps, (AL.keys (items H)).Nodup) :
    ∃ d, averaged per snaps = some d ∧ (AL.keys d).Nodup ∧
      (∀ k, (∃ H ∈ snaps, k ∈ AL.keys (items H)) →
        AL.get? d k = some (total (snaps.map items) k / (snaps.length : Rat))) ∧
      (∀ k, (¬ ∃ H ∈ snaps, k ∈ AL.keys (items H)) → AL.get? d k = none) := by
  have hmem : ∀ k, k ∈ AL.keys (List.foldl accumulate [] (snaps.map items)) ↔ ∃ H ∈ snaps, k ∈ AL.keys (items H) := by
    intro k
    rw [mem_keys_foldl_accumulate]
    constructor
    · rintro (h | ⟨l, hl, hk⟩)
      · exact absurd h List.not_mem_nil
      · obtain ⟨H, hH, rfl⟩ := List.mem_map.mp hl
        exact ⟨H, hH, hk⟩
    · rintro ⟨H, hH, hk⟩
      exact Or.inr ⟨_, List.mem_map_of_mem hH, hk⟩
  refine ⟨_, by rw [averaged, ListLib.mapM_eq_some_map per items snaps hper, Option.map_some], ?_, ?_, ?_⟩
  · rw [AL.keys_map_val _ (· / (snaps.length : Rat))]
    exact keys_foldl_accumulate_nodup _ [] List.nodup_nil
  · intro k hk
    obtain ⟨v, hv⟩ := AL.exists_get?_of_mem_keys _ k ((hmem k).mpr hk)
    have := getD_foldl_accumulate (snaps.map items) [] k fun l hl => by
      obtain ⟨H, hH, rfl⟩ := List.mem_map.mp hl
      exact hnd H hH
    rw [hv] at this
    rw [AL.get?_map_val _ (· / (snaps.length : Rat)), hv, Option.map_some, show v = total (snaps.map items) k from this.trans (Rat.zero_add _)]
  · intro k hk
    rw [AL.get?_map_val _ (· / (snaps.length : Rat)), (AL.get?_eq_none_iff _ k).mpr (mt (hmem k).mp hk)]
    rfl

/-- `s_betweenness_averaged(T, s)` / `s_closeness_averaged(T, s)` for temporal hypergraphs with pairwise different
`(time, key)` records and sorted keys: value = (Σ_t value in the snapshot of time `t`) / #snapshots, where the value in
a snapshot is `cent (its s-line graph) (id of the hyperedge)` by `C20_edges_once` and 0 if the hyperedge is absent. -/
theorem C20_averaged_edges {α : Type} [DecidableEq α] (cent : Graph Nat → Nat → Rat) (srt : List α → List α)
    (T : THG α) (s : Nat) (hT : T.edges.Nodup) (hcanon : ∀ p ∈ T.edges, srt p.2 = p.2) :
    ∃ d, sEdgesAveraged cent srt T s = some d ∧ (AL.keys d).Nodup ∧
      (∀ e, (∃ H ∈ snapshots srt T, e ∈ H.edges.map srt) → AL.get? d e =
        some (total ((snapshots srt T).map fun H => edgeItems cent srt H s) e / ((snapshots srt T).length : Rat))) ∧
      (∀ e, (¬ ∃ H ∈ snapshots srt T, e ∈ H.edges.map srt) → AL.get? d e = none) := by
  have := C20_averaged (fun H => sEdgesItems cent srt H s) (fun H => edgeItems cent srt H s) (snapshots srt T)
    (fun H _ => sEdgesItems_eq cent srt H s)
    (fun H hH => by
      obtain ⟨t, _, rfl⟩ := List.mem_map.mp hH
      rw [keys_edgeItems]; exact snapshot_edges_nodup srt T t hT hcanon)
  simpa only [keys_edgeItems, sEdgesAveraged] using this

/-- `s_betweenness_nodes_averaged(T)` / `s_closenness_nodes_averaged(T)` (after the repair of D33), for ANY label
type: every node of some snapshot gets exactly one value, (Σ_t value in snapshot `t`) / #snapshots. -/
theorem C20_averaged_nodes {α : Type} [DecidableEq α] (cent : Graph String → String → Rat) (srt : List α → List α)
    (T : THG α) :
    ∃ d, sNodesAveraged cent srt T = some d ∧ (AL.keys d).Nodup ∧
      (∀ o, (∃ H ∈ snapshots srt T, o ∈ H.nodes.map (Sum.inl : α → Obj α)) → AL.get? d o =
        some (total ((snapshots srt T).map fun H => nodeItems cent srt H) o / ((snapshots srt T).length : Rat))) ∧
      (∀ o, (¬ ∃ H ∈ snapshots srt T, o ∈ H.nodes.map (Sum.inl : α → Obj α)) → AL.get? d o = none) := by
  have := C20_averaged (sNodesItems cent srt) (nodeItems cent srt) (snapshots srt T)
    (fun H _ => sNodesItems_eq cent srt H)
    (fun H hH => by
      obtain ⟨t, _, rfl⟩ := List.mem_map.mp hH
      rw [keys_nodeItems, nodup_map_inl]
      exact snapshot_nodes_nodup srt T t)
  simpa only [keys_nodeItems, sNodesAveraged] using this

example : sNodesAveraged (fun g _ => (g.edges.length : Nat)) id
      ({ edges := [(1, [1, 2, 3]), (1, [2, 4]), (2, [1, 4])] } : THG Nat)
    = some [(Sum.inl 1, 7 / 2), (Sum.inl 2, 5 / 2), (Sum.inl 3, 5 / 2), (Sum.inl 4, 7 / 2)] := by
  decide +kernel

/-- Relabelling the nodes by an injective `f` (keys become `srt' (map f e)`): the s-line graph is THE SAME graph
(same vertices, same edge list), hence for every `cent` each relabelled hyperedge carries the value of the original. -/
theorem C20_relabel {α β : Type} [DecidableEq α] [DecidableEq β] (f : α → β) (srt : List α → List α)
    (srt' : List β → List β) (H : HG α) (h : RelabelHyp f srt srt' H) (cent : Graph Nat → Nat → Rat) (s : Nat) :
    lineGraph srt' (H.relabel f (relKey f srt')) s = lineGraph srt H s ∧
    sEdgesItems cent srt' (H.relabel f (relKey f srt')) s
      = (sEdgesItems cent srt H s).map (List.map fun p => (relKey f srt' p.1, p.2)) := by
  refine ⟨lineGraph_relabel h s, ?_⟩
  rw [sEdgesItems_eq, sEdgesItems_eq, edgeItems_relabel h, Option.map_some]

/-- ... and the bipartite projection has the same vertices and the same edges up to the order in which networkx
receives them; hence for every `cent` that depends on the edge SET only (`hcent`) each relabelled node carries the
value of the original. -/
theorem C20_relabel_nodes {α β : Type} [DecidableEq α] [DecidableEq β] (f : α → β) (srt : List α → List α)
    (srt' : List β → List β) (H : HG α) (h : RelabelHyp f srt srt' H) (cent : Graph String → String → Rat)
    (hcent : ∀ g g' : Graph String, g.verts = g'.verts → g.edges.Perm g'.edges → cent g = cent g') :
    (bipGraph srt' (H.relabel f (relKey f srt'))).verts = (bipGraph srt H).verts ∧
    (bipGraph srt' (H.relabel f (relKey f srt'))).edges.Perm (bipGraph srt H).edges ∧
    sNodesItems cent srt' (H.relabel f (relKey f srt'))
      = (sNodesItems cent srt H).map (List.map fun p => (Sum.map f (relKey f srt') p.1, p.2)) := by
  refine ⟨bipGraph_relabel_verts srt srt' _ H, bipGraph_relabel_edges h, ?_⟩
  rw [sNodesItems_eq, sNodesItems_eq, nodeItems_relabel h cent hcent, Option.map_some]

/-! ## Eigenvector centralities: the algebra of the two iterations (nodes `0..n-1`, exact rationals; the irrational
ingredients - the Euclidean norm `c` of `W x`, the root vector `r` of `apply x` - are parameters with their defining
equation as hypothesis; convergence and positivity are NOT proved). -/

/-- `apply(HG, x, g)[j]` with `g = prod` is, for duplicate-free hyperedges, the sum over the hyperedges containing `j`
of the product of the other members' scores - the left-hand side of the HEC eigen-equation. -/
theorem C20_apply_spec (n : Nat) (edges : List (List Nat)) (x : List Rat) (j : Nat) (hj : j < n)
    (h : ∀ e ∈ edges, e.Nodup) :
    (C20.apply n edges x).getD j 0 = (edges.map fun e => if j ∈ e then prodAt x (e.erase j) else 0).sum :=
  apply_spec n edges x j hj h

/-- the matrix handed to `power_method` is the clique-expansion matrix: `W[a,b]` = number of hyperedges containing
both `a` and `b` for `a ≠ b`, 0 on the diagonal -/
theorem C20_cecW_spec (n : Nat) (edges : List (List Nat)) (a b : Nat) (ha : a < n) (hb : b < n)
    (h : ∀ e ∈ edges, e.Nodup) :
    getD2 (cecW n edges) a b = (edges.map fun e => if a ∈ e ∧ b ∈ e ∧ a ≠ b then (1 : Rat) else 0).sum :=
  cecW_spec n edges a b ha hb h

/-- CEC: a fixed point of the power step `x ↦ W x / c` (`c = ‖W x‖₂ ≠ 0`) is an eigenvector, `W x = c x` -/
theorem C20_cec_fixed_point (W : List (List Rat)) (c : Rat) (x : List Rat) (hc : c ≠ 0)
    (h : cecStep W c x = x) : matVec W x = x.map (c * ·) := by
  rw [← scale_cecStep W c x hc, h]

example : cecStep (cecW 3 [[0, 1, 2]]) 2 [1, 1, 1] = [1, 1, 1] := by decide +kernel

/-- CEC, residual at the stopping rule: `‖W x − c x‖₂² = c² ‖x − W x / c‖₂²`; so when `power_method` stops with
`‖x − y/‖y‖‖₂ ≤ tol` the eigen-equation holds up to `c · tol` -/
theorem C20_cec_residual (W : List (List Rat)) (c tol : Rat) (x : List Rat) (hc : c ≠ 0)
    (hstop : sq2 (vsub x (cecStep W c x)) ≤ tol * tol) :
    sq2 (vsub (matVec W x) (x.map (c * ·))) = c * c * sq2 (vsub x (cecStep W c x)) ∧
    sq2 (vsub (matVec W x) (x.map (c * ·))) ≤ (c * tol) * (c * tol) := by
  have h := sq2_residual c hc (matVec W x) x
  refine ⟨h, ?_⟩
  rw [h]
  have : 0 ≤ c * c := mul_self_nonneg c
  calc c * c * sq2 (vsub x (cecStep W c x)) ≤ c * c * (tol * tol) := mul_le_mul_of_nonneg_left hstop this
    _ = (c * tol) * (c * tol) := by ring

example : sq2 (vsub [1, 2, 3] (cecStep (cecW 3 [[0, 1, 2]]) 2 [1, 2, 3])) ≤ 3 * 3 := by decide +kernel

/-- HEC: let `r` be the root vector of `apply x` (`r_i ^ m = apply(x)_i`, `m = size − 1`, what `np.power(·, 1/m)` returns)
with `r_0 > 0` (so `np.sign` is 1). If `x` is a fixed point of the step, `x = r / ‖r‖₁`, then for EVERY node `j` the sum
over its hyperedges of the product of the other members' scores equals `c · x_j ^ m` with the SAME `c = ‖r‖₁ ^ m`. -/
theorem C20_hec_fixed_point (n : Nat) (edges : List (List Nat)) (x r : List Rat) (m : Nat)
    (hnd : ∀ e ∈ edges, e.Nodup) (h0 : 0 < r.getD 0 0)
    (hroot : ∀ i, (r.getD i 0) ^ m = (C20.apply n edges x).getD i 0) (hfix : x = hecNormalize r) :
    ∀ j, j < n →
      (edges.map fun e => if j ∈ e then prodAt x (e.erase j) else 0).sum = (l1 r) ^ m * (x.getD j 0) ^ m := by
  intro j hj
  have hs := apply_spec n edges x j hj hnd
  simp only [contrib] at hs
  rw [← hs]
  have := hec_step_identity (C20.apply n edges x) r m h0 hroot j
  rw [← hfix] at this
  exact this

example : hecNormalize [1/3, 1/3, 1/3] = [1/3, 1/3, 1/3] ∧ C20.apply 3 [[0, 1, 2]] [1/3, 1/3, 1/3] = [1/9, 1/9, 1/9] := by
  decide +kernel

/-- HEC, sharp residual: for entries of `x` and of the next iterate in `[0, M]`,
`|apply(x)_j − c · x_j ^ m| ≤ c · m · M^(m-1) · |x_new_j − x_j|` (`c = ‖r‖₁ ^ m`). Summing the squares: at a stop with
`‖x_new − x‖₂ ≤ tol` the eigen-equation holds in the 2-norm up to `c · m · M^(m-1) · tol`, `M` the largest score. -/
theorem C20_hec_residual_sharp (y r x : List Rat) (m : Nat) (M : Rat) (h0 : 0 < r.getD 0 0)
    (hroot : ∀ i, (r.getD i 0) ^ m = y.getD i 0) (j : Nat)
    (hx0 : 0 ≤ x.getD j 0) (hx1 : x.getD j 0 ≤ M)
    (hn0 : 0 ≤ (hecNormalize r).getD j 0) (hn1 : (hecNormalize r).getD j 0 ≤ M) :
    |y.getD j 0 - (l1 r) ^ m * (x.getD j 0) ^ m| ≤
      (l1 r) ^ m * (m * M ^ (m - 1) * |(hecNormalize r).getD j 0 - x.getD j 0|) := by
  have hS : 0 ≤ (l1 r) ^ m := pow_nonneg (l1_nonneg r) m
  rw [hec_step_identity y r m h0 hroot j, ← mul_sub, abs_mul, abs_of_nonneg hS]
  exact mul_le_mul_of_nonneg_left (pow_sub_pow_le_of_le _ _ M hn0 hn1 hx0 hx1 m) hS

/-- HEC, residual at the stopping rule: with `x_new = r / ‖r‖₁` the next iterate, `apply(x)_j = c · x_new_j ^ m`
exactly, hence `|apply(x)_j − c · x_j ^ m| ≤ c · m · tol` whenever `|x_new_j − x_j| ≤ tol` (entries in `[0, 1]`):
when the iteration stops with `‖x − x_new‖₂ ≤ tol` every eigen-equation holds up to `c · m · tol`. -/
theorem C20_hec_residual (y r x : List Rat) (m : Nat) (tol : Rat) (h0 : 0 < r.getD 0 0)
    (hroot : ∀ i, (r.getD i 0) ^ m = y.getD i 0) (j : Nat)
    (hx0 : 0 ≤ x.getD j 0) (hx1 : x.getD j 0 ≤ 1)
    (hn0 : 0 ≤ (hecNormalize r).getD j 0) (hn1 : (hecNormalize r).getD j 0 ≤ 1)
    (hstop : |(hecNormalize r).getD j 0 - x.getD j 0| ≤ tol) :
    |y.getD j 0 - (l1 r) ^ m * (x.getD j 0) ^ m| ≤ (l1 r) ^ m * (m * tol) := by
  refine (C20_hec_residual_sharp y r x m 1 h0 hroot j hx0 hx1 hn0 hn1).trans ?_
  rw [one_pow, mul_one]
  exact mul_le_mul_of_nonneg_left (mul_le_mul_of_nonneg_left hstop (Nat.cast_nonneg m)) (pow_nonneg (l1_nonneg r) m)

/-- CEC, the vector `power_method` RETURNS: it returns `x' = W x / c` (`c = ‖W x‖₂`), one step after the iterate `x` the
stopping test was applied to. Proved: the identity `W x' − c x' = W (x' − x)`. NOT stated here (the argument behind the bound the harness demands of every run
within the documented budget): with `‖x' − x‖₂ ≤ tol` at the stop and `‖W‖₂ = λ_max` (symmetric `W`) the residual is at most
`λ_max · tol`, and the Rayleigh quotient can only make it smaller. -/
theorem C20_cec_returned (W : List (List Rat)) (c : Rat) (x : List Rat) (hc : c ≠ 0) (hlen : W.length = x.length) :
    vsub (matVec W (cecStep W c x)) ((cecStep W c x).map (c * ·)) = matVec W (vsub (cecStep W c x) x) := by
  rw [scale_cecStep W c x hc, matVec_vsub W _ x (by simp [cecStep, matVec, hlen])]

/-- non-vacuity (`c = 1`): `x = (1,2,3)`, `x' = W x = (5,4,3)`, `W x' − x' = (2,4,6) = W (x' − x)` -/
example : vsub (matVec (cecW 3 [[0, 1, 2]]) (cecStep (cecW 3 [[0, 1, 2]]) 1 [1, 2, 3]))
      ((cecStep (cecW 3 [[0, 1, 2]]) 1 [1, 2, 3]).map ((1 : Rat) * ·)) = [2, 4, 6] ∧
    matVec (cecW 3 [[0, 1, 2]]) (vsub (cecStep (cecW 3 [[0, 1, 2]]) 1 [1, 2, 3]) [1, 2, 3]) = [2, 4, 6] := by
  decide +kernel

/-- `power_method(W, max_iter = K, tol)` as a loop (`nrm` = `np.linalg.norm`): when the run is left by its test
(`passes < K`), (i) every larger budget `K' ≥ K` returns the same vector after the same number of passes - the default
`max_iter` does not matter once it suffices; (ii) the returned vector is `W xp / ‖W xp‖` for an iterate `xp` with
`‖xp − W xp / ‖W xp‖‖ ≤ tol` (for `nrm = ‖·‖₂` and `tol ≥ 0` this is the hypothesis `hstop` of `C20_cec_residual`, squared;
`C20_cec_returned` needs no such hypothesis). A run with a smaller
budget than the documented one is NOT covered: that is what the harness watches with the documented iteration. -/
theorem C20_power_budget (nrm : List Rat → Rat) (W : List (List Rat)) (K : Nat) (tol : Rat) (x : List Rat)
    (h : (powerMethod nrm W K tol x).2 < K) :
    (∀ K', K ≤ K' → powerMethod nrm W K' tol x = powerMethod nrm W K tol x) ∧
    ∃ xp, (powerMethod nrm W K tol x).1 = cecStep W (nrm (matVec W xp)) xp ∧
      nrm (vsub xp (cecStep W (nrm (matVec W xp)) xp)) ≤ tol := by
  obtain ⟨hst, ⟨hno, _⟩ | ⟨xp, h1, h2⟩⟩ := pmLoop_of_lt (pmBody nrm W) tol K none x h
  · exact Bool.noConfusion hno
  · exact ⟨hst, xp, h1.symm, Rat.not_lt.mp (of_decide_eq_false h2)⟩

/-- non-vacuity: residuals 1/2, 1/4, 1/16 against `tol = 1/8`: three passes with budget 10 (left by the test), two with budget 2 -/
example : pmLoop (fun (j : Nat) => (j + 1, ([1/2, 1/4, 1/16] : List Rat).getD j 0)) (1/8) 10 none 0 = (3, 3) ∧
    pmLoop (fun (j : Nat) => (j + 1, ([1/2, 1/4, 1/16] : List Rat).getD j 0)) (1/8) 2 none 0 = (2, 2) := by decide +kernel

/-- the HEC loop (`for iter in range(K): … if ‖x − new_x‖ ≤ tol: break`), generic in the step: when it is left by the
`break`, every larger budget gives the same result, at most `K` passes were made, and the RETURNED iterate passes the
stopping test - with `‖·‖₂ ≥ |·_j|` the hypothesis `hstop` of `C20_hec_residual`, and a bound on the quantity `|x_new_j − x_j|` of
`C20_hec_residual_sharp`. -/
theorem C20_hec_budget {X : Type} (step : X → X) (dist : X → X → Rat) (tol : Rat) (K : Nat) (x : X)
    (h : (hecLoop step dist tol K x).2.2 = true) :
    (∀ K', K ≤ K' → hecLoop step dist tol K' x = hecLoop step dist tol K x) ∧
    dist (hecLoop step dist tol K x).1 (step (hecLoop step dist tol K x).1) ≤ tol ∧
    (hecLoop step dist tol K x).2.1 ≤ K :=
  ⟨((hecLoop_spec step dist tol K x).2 h).2, ((hecLoop_spec step dist tol K x).2 h).1, (hecLoop_spec step dist tol K x).1⟩

example : hecLoop (fun (j : Nat) => j + 1) (fun j _ => ([1/2, 1/4, 1/16] : List Rat).getD j 0) (1/8) 10 0 = (2, 3, true) ∧
    hecLoop (fun (j : Nat) => j + 1) (fun j _ => ([1/2, 1/4, 1/16] : List Rat).getD j 0) (1/8) 2 0 = (2, 2, false) := by decide +kernel

/-- Relabelling the nodes `0..n-1` by an injective `σ` (a permutation): `apply` and the matrix `W` are carried
along entrywise (the step functions and the two loops are not restated for the relabelled input). -/
theorem C20_eigen_relabel (n : Nat) (edges : List (List Nat)) (x x' : List Rat) (σ : Nat → Nat)
    (hσ : Function.Injective σ) (hnd : ∀ e ∈ edges, e.Nodup)
    (hx : ∀ e ∈ edges, ∀ i ∈ e, getR x' (σ i) = getR x i) (a b : Nat) (ha : a < n) (hb : b < n)
    (hσa : σ a < n) (hσb : σ b < n) :
    (C20.apply n (edges.map (List.map σ)) x').getD (σ a) 0 = (C20.apply n edges x).getD a 0 ∧
    getD2 (cecW n (edges.map (List.map σ))) (σ a) (σ b) = getD2 (cecW n edges) a b :=
  ⟨apply_relabel n edges x x' σ hσ hnd hx a ha hσa, cecW_relabel n edges σ hσ hnd a b ha hb hσa hσb⟩

/-- For a real matrix `A` with an orthonormal eigendecomposition (`Uᵀ U = 1`, `A U = U diag(ev)` - what
`numpy.linalg.eigh` returns for the symmetric adjacency matrix), `(exp A)_ii = Σ_j U_ij² e^{ev_j}`; hence `log Σ_j U_ij² e^{ev_j}`,
what the routine asks `logsumexp(ev, b = U_i·²)` for, is the logarithm of the diagonal entry of the matrix exponential (that
`logsumexp` returns it is trusted, not stated). -/
theorem C20_subhg {n : ℕ} (A U : Matrix (Fin n) (Fin n) ℝ) (ev : Fin n → ℝ)
    (hU : U.transpose * U = 1) (hE : A * U = U * Matrix.diagonal ev) (i : Fin n) :
    (NormedSpace.exp A) i i = ∑ j, (U i j) ^ 2 * Real.exp (ev j) ∧
    Real.log (∑ j, (U i j) ^ 2 * Real.exp (ev j)) = Real.log ((NormedSpace.exp A) i i) := by
  have h := subhg_exp_diag A U ev hU (subhg_decomp_of_eigen A U ev hU hE) i
  exact ⟨h, by rw [h]⟩

/-- non-vacuity of `C20_subhg`: `A = 0`, `U = 1`, `ev = 0` -/
example : (1 : Matrix (Fin 2) (Fin 2) ℝ).transpose * 1 = 1 ∧
    (0 : Matrix (Fin 2) (Fin 2) ℝ) * 1 = 1 * Matrix.diagonal (fun _ => (0 : ℝ)) := by
  constructor <;> simp

/-- non-vacuity of the relabelling hypotheses: integer labels to their decimal strings (injective, not monotone) -/
example : RelabelHyp (fun x : Nat => toString x) id id ({ nodes := [9, 10, 11], edges := [[9, 10], [10, 11]] } : HG Nat) :=
  ⟨fun _ _ h => toString_inj h, fun _ => List.Perm.refl _, fun _ => List.Perm.refl _, fun _ => rfl, fun _ _ => rfl⟩

example : sEdgesItems (fun g v => (g.edges.length + v : Nat)) id
    (({ nodes := [9, 10, 11], edges := [[9, 10], [10, 11]] } : HG Nat).relabel (fun x => toString x) (relKey (fun x => toString x) id)) 1
    = some [(["9", "10"], 1), (["10", "11"], 2)] := by decide +kernel

/-- non-vacuity of `C20_averaged_edges`: distinct records, sorted keys -/
example : ([(1, [1, 2, 3]), (1, [2, 4]), (2, [1, 4])] : List (Nat × List Nat)).Nodup ∧
    sEdgesAveraged (fun g v => (g.edges.length + v : Nat)) id ({ edges := [(1, [1, 2, 3]), (1, [2, 4]), (2, [1, 4])] } : THG Nat) 1
      = some [([1, 2, 3], 1 / 2), ([2, 4], 1), ([1, 4], 0)] := by decide +kernel

/-- non-vacuity of `C20_hec_fixed_point` / `C20_hec_residual` / `C20_apply_spec`; the last conjunct shows the conclusion of
`C20_eigen_relabel` for the reversal `fun i => 3 - i` of the nodes 0..3, which is injective on 0..3 only (3 and 4 both go to 0), so it is
not an instance of that theorem's hypothesis `Function.Injective σ` -/
example : (0 : Rat) < ([1/3, 1/3, 1/3] : List Rat).getD 0 0 ∧
    (∀ i, i < 3 → (([1/3, 1/3, 1/3] : List Rat).getD i 0) ^ 2 = (C20.apply 3 [[0, 1, 2]] [1/3, 1/3, 1/3]).getD i 0) ∧
    C20.apply 4 [[0, 1, 2], [1, 2, 3]] [1/4, 1/2, 1/8, 1/8] = [1/16, 3/64, 3/16, 1/16] ∧
    C20.apply 4 ([[0, 1, 2], [1, 2, 3]].map (List.map fun i => 3 - i)) [1/8, 1/8, 1/2, 1/4] = [1/16, 3/16, 3/64, 1/16] := by
  decide +kernel

/-- the hyperedge WITHOUT members `()` (left behind by `remove_node(x, keep_edges=True)` on a singleton, or added as such) is a
hyperedge like any other: for every hypergraph - no hypothesis on the listing - both projections have one vertex per listed
hyperedge, member-less or not (so it counts in the number of vertices that networkx normalises with); in the line graph it is
adjacent to nothing for every `s` (even `s = 0`), and in the bipartite projection no edge leaves its vertex `E<j>`
(`sorted(()) = ()` is the only thing asked of `srt`). -/
theorem C20_memberless {α : Type} [DecidableEq α] (srt : List α → List α) (H : HG α) (s : Nat) :
    (lineGraph srt H s).verts = List.range H.edges.length ∧
    (bipGraph srt H).verts.length = H.nodes.length + H.edges.length ∧
    (∀ j, j < H.edges.length → nameE j ∈ (bipGraph srt H).verts) ∧
    (∀ b : List α, linked s ([] : List α) b = false ∧ linked s b ([] : List α) = false) ∧
    (∀ j, srt [] = [] → H.edges[j]? = some [] → ∀ p ∈ (bipGraph srt H).edges, p.1 ≠ nameE j) := by
  refine ⟨rfl, by simp [bipGraph], fun j hj => ?_, linked_nil s, fun j hs hj p hp heq => ?_⟩
  · exact List.mem_append_right _ (List.mem_map.mpr ⟨j, List.mem_range.mpr hj, rfl⟩)
  · obtain ⟨q, e, x, hq, hx, h1, _⟩ := (mem_bipEdges srt H p.1 p.2).mp hp
    rw [nameE_inj (h1.symm.trans heq), hj] at hq
    cases hq
    rw [hs] at hx
    exact absurd hx List.not_mem_nil

/-- non-vacuity of `C20_memberless`: the object left by `remove_node(6, keep_edges=True)` on `(0,1,2),(2,3),(3,4,5),(5,),(6,)`:
the member-less hyperedge has its vertex `E4` (11 vertices in all), no edge leaves it, and it is an isolated vertex 4 of the line graph -/
example : let H : HG Nat := { nodes := [0, 1, 2, 3, 4, 5], edges := [[0, 1, 2], [2, 3], [3, 4, 5], [5], []] }
    H.edges[4]? = some [] ∧ (bipGraph id H).verts.length = 11 ∧ nameE 4 ∈ (bipGraph id H).verts ∧
    ((bipGraph id H).edges.filter fun p => p.1 = nameE 4) = [] ∧ (bipGraph id H).edges.length = 9 ∧
    (lineGraph id H 1).verts = [0, 1, 2, 3, 4] ∧ (lineGraph id H 1).edges = [(0, 1), (1, 2), (2, 3)] := by
  decide +kernel

/-! ## The networkx routines themselves (`Model/C20Cent.lean`: `closeness`, `betweenness` in exact rationals,
compared with `nx.closeness_centrality` / `nx.betweenness_centrality` and - level by level - with networkx's own
breadth-first search on every run): what they compute. `reachIn g s k v` =
"there is a walk of length `k` from `s` to `v`"; `walkCount g s k v` = the number of such walks (`σ`-recursion of Brandes). -/

/-- `distSigma (levels g s) v = some (d, c)` (what the breadth-first search of networkx yields from source `s`): `d < |V|` is the
length of a SHORTEST walk from `s` to `v`, `c` is the number of walks of that length, i.e. the number of shortest paths, and it
obeys `σ_{k+1}(v) = Σ_{u ~ v} σ_k(u)` (`σ_0(v) = [v = s]` is the defining equation of `walkCount`); `none` iff no walk of length `< |V|` exists. -/
theorem C20_dist_spec {V : Type} [DecidableEq V] (g : Graph V) (s v : V) :
    (∀ d c, distSigma (levels g s) v = some (d, c) ↔
      d < g.verts.length ∧ reachIn g s d v ∧ (∀ j, j < d → ¬ reachIn g s j v) ∧ c = walkCount g s d v) ∧
    (distSigma (levels g s) v = none ↔ ∀ k, k < g.verts.length → ¬ reachIn g s k v) ∧
    (∀ k u, reachIn g s k u ↔ 0 < walkCount g s k u) ∧
    (∀ k u, walkCount g s (k + 1) u = if u ∈ g.verts then ((nbrs g u).map (walkCount g s k)).sum else 0) :=
  ⟨distSigma_spec g s v, distSigma_none g s v, reachIn_iff_walkCount g s, fun _ _ => rfl⟩

example : let g : Graph Nat := { verts := [0, 1, 2, 3, 4], edges := [(0, 1), (1, 2), (0, 3), (3, 2)] }
    distSigma (levels g 0) 2 = some (2, 2) ∧ distSigma (levels g 0) 4 = none ∧ walkCount g 0 2 2 = 2 := by decide +kernel

/-- the computed distance is a metric on each component: symmetric (also in "unreachable"), and it satisfies the triangle
inequality -/
theorem C20_dist_metric {V : Type} [DecidableEq V] (g : Graph V) (s u t : V) :
    dist g s t = dist g t s ∧
    (∀ a b c, dist g s u = some a → dist g u t = some b → dist g s t = some c → c ≤ a + b) :=
  ⟨dist_symm g s t, fun a b c => dist_triangle g s u t a b c⟩

example : let g : Graph Nat := { verts := [0, 1, 2, 3, 4], edges := [(0, 1), (1, 2), (0, 3), (3, 2)] }
    dist g 1 3 = some 2 ∧ dist g 3 1 = some 2 ∧ dist g 1 0 = some 1 ∧ dist g 0 3 = some 1 ∧ dist g 4 0 = none := by decide +kernel

/-- ... and the bound `< |V|` on the walk lengths that `levels` explores loses nothing (a shortest walk visits pairwise different
vertices): `dist g s v = some d` iff `d` is the length of a shortest walk from `s` to `v` among walks of ANY length, `none` iff
there is no walk at all. -/
theorem C20_dist_unbounded {V : Type} [DecidableEq V] (g : Graph V) (s v : V) :
    (∀ d, dist g s v = some d ↔ reachIn g s d v ∧ ∀ j, j < d → ¬ reachIn g s j v) ∧
    (dist g s v = none ↔ ∀ k, ¬ reachIn g s k v) :=
  ⟨dist_spec g s v, dist_none g s v⟩

example : let g : Graph Nat := { verts := [0, 1, 2, 3, 4], edges := [(0, 1), (1, 2), (0, 3), (3, 2)] }
    dist g 0 2 = some 2 ∧ dist g 0 4 = none := by decide +kernel

/-- `nx.closeness_centrality(G)[v]` (Wasserman-Faust, as `s_closeness` calls it): with `D` the distances from `v` to the vertices it
reaches (itself included), the value is `(|D|-1)/ΣD · (|D|-1)/(n-1)`, and 0 when nothing else is reached or `n ≤ 1`. -/
theorem C20_closeness_formula {V : Type} [DecidableEq V] (g : Graph V) (v : V) :
    closeness g v =
      if 0 < (g.verts.filterMap (dist g v)).sum ∧ 1 < g.verts.length then
        ((((g.verts.filterMap (dist g v)).length - 1 : Nat) : Rat) / (((g.verts.filterMap (dist g v)).sum : Nat) : Rat)) *
        ((((g.verts.filterMap (dist g v)).length - 1 : Nat) : Rat) / ((g.verts.length - 1 : Nat) : Rat))
      else 0 :=
  closeness_formula g v

example : let g : Graph Nat := { verts := [0, 1, 2, 3, 4], edges := [(0, 1), (1, 2), (2, 3)] }
    g.verts.filterMap (dist g 0) = [0, 1, 2, 3] ∧ closeness g 0 = 3 / 8 := by decide +kernel

/-- both routines (and the degree) read the vertex list and the edge SET only - not the order or multiplicity in which
networkx received the edges -/
theorem C20_nx_congr {V : Type} [DecidableEq V] (g g' : Graph V) (hv : g.verts = g'.verts)
    (he : ∀ e, e ∈ g.edges ↔ e ∈ g'.edges) :
    closeness g = closeness g' ∧ betweenness g = betweenness g' ∧ degree g = degree g' :=
  ⟨closeness_congr g g' hv he, betweenness_congr g g' hv he, by funext v; unfold degree; rw [nbrs_congr g g' hv he]⟩

example : let g : Graph Nat := { verts := [0, 1, 2], edges := [(0, 1), (1, 2)] }
    let g' : Graph Nat := { verts := [0, 1, 2], edges := [(1, 2), (0, 1), (1, 2)] }
    g.edges ≠ g'.edges ∧ (∀ e, e ∈ g.edges ↔ e ∈ g'.edges) ∧ betweenness g 1 = 1 ∧ betweenness g' 1 = 1 := by
  refine ⟨by decide, ?_, by decide +kernel, by decide +kernel⟩
  intro e; grind

/-- `C20_relabel_nodes` WITHOUT its hypothesis on `cent`, for the two routines the code calls: the node versions of the
s-centralities are carried along unchanged by an injective relabelling of the nodes. -/
theorem C20_relabel_nodes_nx {α β : Type} [DecidableEq α] [DecidableEq β] (f : α → β) (srt : List α → List α)
    (srt' : List β → List β) (H : HG α) (h : RelabelHyp f srt srt' H) :
    sNodesItems closeness srt' (H.relabel f (relKey f srt'))
      = (sNodesItems closeness srt H).map (List.map fun p => (Sum.map f (relKey f srt') p.1, p.2)) ∧
    sNodesItems betweenness srt' (H.relabel f (relKey f srt'))
      = (sNodesItems betweenness srt H).map (List.map fun p => (Sum.map f (relKey f srt') p.1, p.2)) :=
  ⟨(C20_relabel_nodes f srt srt' H h closeness fun g g' hv hp => closeness_congr g g' hv fun _ => hp.mem_iff).2.2,
   (C20_relabel_nodes f srt srt' H h betweenness fun g g' hv hp => betweenness_congr g g' hv fun _ => hp.mem_iff).2.2⟩

/-- `C20_edges_reads` WITHOUT its hypothesis on `cent`: on coherent readings `s_closeness` / `s_betweenness` as the loops of
`line_graph` + the networkx routine compute them give every listed hyperedge exactly one value, that of its vertex in the
listing-level s-line graph. -/
theorem C20_edges_reads_nx {α : Type} [DecidableEq α] (srt : List α → List α) (R : Reads α) (hc : Coherent srt R) (s : Nat) :
    sEdgesR closeness srt R s = some (edgeItems closeness srt ⟨R.inc.map (·.1), R.edges⟩ s) ∧
    sEdgesR betweenness srt R s = some (edgeItems betweenness srt ⟨R.inc.map (·.1), R.edges⟩ s) :=
  ⟨(C20_edges_reads closeness (fun g g' hv he v => by rw [closeness_congr g g' hv he]) srt R hc s).2,
   (C20_edges_reads betweenness (fun g g' hv he v => by rw [betweenness_congr g g' hv he]) srt R hc s).2⟩

/-- a vertex without neighbours gets closeness 0 and betweenness 0; a vertex with exactly ONE neighbour (a leaf) lies on no
shortest path between two other vertices: betweenness 0 -/
theorem C20_isolated_leaf {V : Type} [DecidableEq V] (g : Graph V) (v : V) :
    (nbrs g v = [] → closeness g v = 0 ∧ betweenness g v = 0) ∧
    (∀ u, nbrs g v = [u] → betweenness g v = 0) :=
  ⟨fun h => ⟨closeness_isolated g v h, betweenness_isolated g v h⟩, fun u h => betweenness_leaf g v u h⟩

example : let g : Graph Nat := { verts := [0, 1, 2, 3, 4], edges := [(0, 1), (1, 2), (2, 3)] }
    nbrs g 4 = [] ∧ nbrs g 0 = [1] ∧ nbrs g 1 = [0, 2] ∧ betweenness g 1 = 1 / 3 := by decide +kernel

/-- the hyperedge without members gets the value 0 from `s_closeness` and `s_betweenness`, for every `s` (it is an isolated
vertex of the s-line graph, `C20_memberless`) -/
theorem C20_memberless_value {α : Type} [DecidableEq α] (srt : List α → List α) (H : HG α) (s i : Nat)
    (hs : srt [] = []) (hi : H.edges[i]? = some []) :
    closeness (lineGraph srt H s) i = 0 ∧ betweenness (lineGraph srt H s) i = 0 := by
  have hn := nbrs_lineGraph_memberless srt H s i (by rw [List.getElem?_map, hi, Option.map_some, hs])
  exact ⟨closeness_isolated _ i hn, betweenness_isolated _ i hn⟩

example : let H : HG Nat := { nodes := [0, 1, 2, 3, 4, 5], edges := [[0, 1, 2], [2, 3], [3, 4, 5], [5], []] }
    H.edges[4]? = some [] ∧ closeness (lineGraph id H 1) 4 = 0 ∧ closeness (lineGraph id H 1) 1 = 9 / 16 := by decide +kernel

/-- Chapman-Kolmogorov for the walk counts (vertex list duplicate-free, as in every networkx graph): a walk of length `a + b`
from `s` to `t` splits at its `a`-th vertex. This is what makes `σ_sv · σ_vt` the number of shortest `s`-`t` paths through `v`. -/
theorem C20_walk_split {V : Type} [DecidableEq V] (g : Graph V) (hn : g.verts.Nodup) (s t : V) (a b : Nat) :
    walkCount g s (a + b) t = (g.verts.map fun v => walkCount g s a v * walkCount g v b t).sum :=
  walkCount_add g hn s t a b

example : let g : Graph Nat := { verts := [0, 1, 2, 3, 4], edges := [(0, 1), (1, 2), (0, 3), (3, 2), (2, 4)] }
    g.verts.Nodup ∧ walkCount g 0 3 4 = 2 ∧ walkCount g 0 2 2 = 2 ∧ walkCount g 2 1 4 = 1 := by decide +kernel

/-- **Sum identity for one pair.** `s ≠ t` at distance `d`: the pair dependencies `σ_st(v)/σ_st` (`pairDep`, the summand of
`nx.betweenness_centrality`) of all OTHER vertices add up to `d - 1` - every shortest path has `d - 1` inner vertices; and every
pair dependency of an unreachable pair is 0. -/
theorem C20_pair_dependency_sum {V : Type} [DecidableEq V] (g : Graph V) (hn : g.verts.Nodup) (s t : V) (hst : s ≠ t) :
    (∀ d, dist g s t = some d →
      (((g.verts.filter (· ≠ s)).filter (· ≠ t)).map fun v => pairDep (levels g s) (levels g v) v t).sum = ((d - 1 : Nat) : Rat)) ∧
    (dist g s t = none → ∀ v, pairDep (levels g s) (levels g v) v t = 0) :=
  ⟨fun d hd => pairDep_sum g hn s t hst d hd, fun hd v => pairDep_unreachable g s t v hd⟩

example : let g : Graph Nat := { verts := [0, 1, 2, 3, 4], edges := [(0, 1), (1, 2), (0, 3), (3, 2), (2, 4)] }
    dist g 0 4 = some 3 ∧ pairDep (levels g 0) (levels g 1) 1 4 = 1 / 2 ∧ pairDep (levels g 0) (levels g 3) 3 4 = 1 / 2 ∧
    pairDep (levels g 0) (levels g 2) 2 4 = 1 := by decide +kernel

/-- **Sum identity for betweenness.** The values `nx.betweenness_centrality` gives to ALL vertices add up to the sum over the ordered
pairs `s ≠ t` of connected vertices of `d(s,t) - 1` (`pairInner`), divided by `(n-1)(n-2)` when `n ≥ 3` (networkx's normalisation). -/
theorem C20_betweenness_sum {V : Type} [DecidableEq V] (g : Graph V) (hn : g.verts.Nodup) :
    (g.verts.map (betweenness g)).sum =
      if 3 ≤ g.verts.length then
        (g.verts.map fun s => ((g.verts.filter (· ≠ s)).map fun t => pairInner g s t).sum).sum
          / (((g.verts.length - 1) * (g.verts.length - 2) : Nat) : Rat)
      else (g.verts.map fun s => ((g.verts.filter (· ≠ s)).map fun t => pairInner g s t).sum).sum := by
  rw [← rawBetweenness_sum g hn]
  by_cases h : 3 ≤ g.verts.length
  · rw [if_pos h, ← qsum_div_const]
    apply qsum_congr
    intro v _
    rw [betweenness_eq_raw, if_pos h]
  · rw [if_neg h]
    apply qsum_congr
    intro v _
    rw [betweenness_eq_raw, if_neg h]

example : let g : Graph Nat := { verts := [0, 1, 2, 3], edges := [(0, 1), (1, 2), (2, 3)] }
    g.verts.map (betweenness g) = [0, 2 / 3, 2 / 3, 0] ∧
    (g.verts.map fun s => ((g.verts.filter (· ≠ s)).map fun t => pairInner g s t).sum).sum = 8 := by decide +kernel

/-- the hypothesis of the two sum identities and of `closeness ≤ 1` holds for both projections of every hypergraph -/
theorem C20_projection_verts_nodup {α : Type} [DecidableEq α] (srt : List α → List α) (H : HG α) (s : Nat) :
    (lineGraph srt H s).verts.Nodup ∧ (bipGraph srt H).verts.Nodup :=
  ⟨lineGraph_verts_nodup srt H s, bipGraph_verts_nodup srt H⟩

/-- ranges: betweenness and closeness are never negative, closeness is at most 1 -/
theorem C20_value_ranges {V : Type} [DecidableEq V] (g : Graph V) (v : V) :
    0 ≤ betweenness g v ∧ 0 ≤ closeness g v ∧ (g.verts.Nodup → closeness g v ≤ 1) :=
  ⟨betweenness_nonneg g v, closeness_nonneg g v, fun hn => closeness_le_one g hn v⟩

example : let g : Graph Nat := { verts := [0, 1, 2], edges := [(0, 1), (1, 2)] }
    g.verts.Nodup ∧ closeness g 1 = 1 ∧ closeness g 0 = 2 / 3 := by decide +kernel

/-- what "neighbour" means in the two projections, in terms of the hypergraph: in the s-line graph `i ≠ j` are neighbours iff the
hyperedges number `i`, `j` are `linked` (≥ max(1, s) common nodes); in the bipartite projection `E<j>` is a neighbour of `N<i>` iff
hyperedge number `j` has a member at position `i` of `get_nodes()`. With `C20_dist_spec` this makes the distances inside
`s_closeness` / `s_betweenness` lengths of shortest s-walks of hyperedges, resp. of node-hyperedge incidence walks. -/
theorem C20_adjacency_hypergraph {α : Type} [DecidableEq α] (srt : List α → List α) (H : HG α) (s i j : Nat) :
    (j ∈ nbrs (lineGraph srt H s) i ↔
      j < H.edges.length ∧ j ≠ i ∧ ∃ a b, (H.edges.map srt)[i]? = some a ∧ (H.edges.map srt)[j]? = some b ∧
        (if i < j then linked s a b else linked s b a) = true) ∧
    (nameE j ∈ nbrs (bipGraph srt H) (nameN i) ↔ ∃ e x, H.edges[j]? = some e ∧ x ∈ srt e ∧ H.nodes.idxOf x = i) :=
  ⟨mem_nbrs_lineGraph srt H s i j, mem_nbrs_bipGraph srt H i j⟩

example : let H : HG Nat := { nodes := [5, 6, 7, 8], edges := [[5, 6, 7], [7, 8], [6, 7, 8]] }
    nbrs (lineGraph id H 2) 2 = [0, 1] ∧ nbrs (lineGraph id H 2) 0 = [2] ∧
    nbrs (bipGraph id H) (nameN 3) = [nameE 1, nameE 2] := by decide +kernel

/-- both routines are carried along unchanged by an injective relabelling of the vertices of ANY graph (vertex list and edge
list mapped through `f`) -/
theorem C20_nx_relabel {V W : Type} [DecidableEq V] [DecidableEq W] (f : V → W) (hf : Function.Injective f) (g : Graph V) (v : V) :
    closeness (g.map f) (f v) = closeness g v ∧ betweenness (g.map f) (f v) = betweenness g v :=
  ⟨closeness_map f hf g v, betweenness_map f hf g v⟩

example : let g : Graph Nat := { verts := [0, 1, 2, 3], edges := [(0, 1), (1, 2), (2, 3)] }
    betweenness (g.map (· + 10)) 11 = betweenness g 1 ∧ (g.map (· + 10)).edges = [(10, 11), (11, 12), (12, 13)] :=
  ⟨(C20_nx_relabel (· + 10) (fun a b h => by simpa using h) _ 1).2, rfl⟩
