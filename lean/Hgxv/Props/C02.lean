import Hgxv.Model.C02
import Hgxv.Proofs.C02Total
import Hgxv.Proofs.C02Found
import Hgxv.Proofs.C02X
import Hgxv.Proofs.C02XSub
import Hgxv.Proofs.C02Y
import Hgxv.Proofs.C02All
/-! # C02 - property theorems (DirectedHypergraph faithfully stores (source set, target set) hyperedges)

Model: `Hgxv/Model/C02.lean` (concrete `Store` mirroring `core/directed_hypergraph.py` after the `fix:` commits
D5-D11, abstract `Spec`), `Model/C02X.lean` (`get_edges(subhypergraph=True)`, raw tables, dunder methods, the whole object
`Full`), `Model/C02Y.lean` (constructor, raw setters / `populate_from_dict`, `get_mapping`); helper lemmas:
`Hgxv/Proofs/C02*.lean`.  Notions the statements use that are declared there:
`KeyWF`, `Inv`, `RawWF` (`C02Inv`), `Op.WF`, `Cmd.WF`, `runCmds` (`C02Ops`), `runOuts`, `Spec.runOuts`, `absState`, `Spec.runCmds`,
`outsCmds`, `Spec.outsCmds` (`C02NodeRef`), `OptPerm` (`C02Abs`), `FOp.WF` (`C02X`), `RawOp.WF` (`C02Y`); the proofs also use `Ord`
(`C02Ord`), `Unw` (`C02Total`) and `SpecWF` (`C02XSub`). -/
open C02 AL

/-- **The order in which the nodes of a source or target set are listed is irrelevant.**
Two listings of the same source set and the same target set (`List.Perm`) have the same canonical key, hence every
entry point that takes a hyperedge - insertion, removal, weight and metadata updates, membership, weight and
metadata queries - returns the same store / the same answer.  A bare node `n` (accepted by `add_edge`) is the
singleton `(n,)`.  No hypothesis on the store: holds for every reachable and unreachable state. -/
theorem C02_listing_order_irrelevant (s : Store) (S S' T T' : List Node) (hS : S.Perm S') (hT : T.Perm T') :
    canonAdd (.ofLists S T) = canonAdd (.ofLists S' T') ∧
    (∀ w md, addEdge s (.ofLists S T) w md = addEdge s (.ofLists S' T') w md) ∧
    removeEdge s (.ofLists S T) = removeEdge s (.ofLists S' T') ∧
    (∀ w, setWeight s (.ofLists S T) w = setWeight s (.ofLists S' T') w) ∧
    (∀ md, setEdgeMeta s (.ofLists S T) md = setEdgeMeta s (.ofLists S' T') md) ∧
    (∀ a v, setAttrEdge s (.ofLists S T) a v = setAttrEdge s (.ofLists S' T') a v) ∧
    (∀ a, delAttrEdge s (.ofLists S T) a = delAttrEdge s (.ofLists S' T') a) ∧
    checkEdge s (.ofLists S T) = checkEdge s (.ofLists S' T') ∧
    getWeight s (.ofLists S T) = getWeight s (.ofLists S' T') ∧
    edgeMeta s (.ofLists S T) = edgeMeta s (.ofLists S' T') ∧
    (∀ n : Node, canonAdd ⟨.scalar n, .nodes T⟩ = canonAdd ⟨.nodes [n], .nodes T'⟩) := by
  have h1 : canonAdd (.ofLists S T) = canonAdd (.ofLists S' T') := by
    simp [canonAdd, RawEdge.ofLists, Side.toList, sortNodes_eq_of_perm hS, sortNodes_eq_of_perm hT]
  have h2 : canonStrict (.ofLists S T) = canonStrict (.ofLists S' T') := by
    simp [canonStrict, RawEdge.ofLists, Side.strict, sortNodes_eq_of_perm hS, sortNodes_eq_of_perm hT]
  refine ⟨h1, ?_, ?_, ?_, ?_, ?_, ?_, ?_, ?_, ?_, ?_⟩
  · intro w md; simp [addEdge, h1]
  · simp [removeEdge, h2]
  · intro w; simp [setWeight, h2]
  · intro md; simp [setEdgeMeta, h2]
  · intro a v; simp [setAttrEdge, h2]
  · intro a; simp [delAttrEdge, h2]
  · simp [checkEdge, h2]
  · simp [getWeight, h2]
  · simp [edgeMeta, h2]
  · intro n; simp [canonAdd, Side.toList, sortNodes_eq_of_perm hT]

/-- non-vacuity: `((3,1),(2,))` and `((1,3),(2,))` are the same hyperedge; the second insertion adds to its weight -/
example :
    let s0 : Store := { weighted := true }
    let s1 := (addEdge s0 (.ofLists [3, 1] [2]) (some 6) none).1
    let s2 := (addEdge s1 (.ofLists [1, 3] [2]) (some 2) none).1
    edges s2 .all false = some [([1, 3], [2])] ∧ getWeight s2 (.ofLists [3, 1] [2]) = some 8 := by decide +kernel

/-! ## Every history

`Reachable s`: `s` is one of the objects of a state reached from nothing by ANY finite sequence of constructor calls,
`copy`s and public mutating calls (`Cmd`), each satisfying the property's quantifier (`Cmd.WF`: hyperedges handed to
the constructor / `add_edge` / `add_edges` have duplicate-free, disjoint, non-empty sides; nothing is assumed about
the arguments of any other call, nor about acceptance). -/

def C02.Reachable (s : Store) : Prop :=
  ∃ (cs : List Cmd) (slot : Nat), (∀ c ∈ cs, c.WF) ∧ get? (runCmds [] cs) slot = some s

/-- a predicate kept by the primitive steps holds of every reachable object -/
theorem C02.Reachable.pres {P : Store → Prop} (hP : Pres P) {s : Store} (hr : Reachable s) : P s := by
  obtain ⟨cs, slot, hcs, hs⟩ := hr
  exact runCmds_pres hP [] cs hcs (fun _ _ h => by simp [get?] at h) slot s hs

/-- **An inserted hyperedge is found under every listing** (seeded change C02-c2 made `add_edge`
file a hyperedge under another key than the one the other entry points compute).  `add_edge` canonicalises with
`canonAdd` (a bare node stands for a one-element side), every other entry point with `canonStrict`.  For EVERY store
and every accepted `add_edge(e, w, md)`: whatever listing `(S', T')` of the same source set and the same target set is
used afterwards (any order; the collection TYPE is not a notion of the model: the harness hands the same node set
over as tuple, list, set, frozenset, range, generator, dict keys, array), the canonical key is the one `add_edge`
used, `check_edge` answers True, `get_edge_metadata` returns the metadata just given (`{}` if none), `remove_edge`,
`set_edge_metadata` and an admissible `set_weight` are accepted, and (store satisfying the invariant, well-formed
hyperedge: the quantifier) `get_weight` answers. -/
theorem C02_inserted_is_found (s : Store) (e : RawEdge) (w : Option Int) (md : Option Meta)
    (hok : (addEdge s e w md).2 = .ok) (S' T' : List Node) (hS : S'.Perm e.src.toList) (hT : T'.Perm e.tgt.toList) :
    canonStrict (.ofLists S' T') = some (canonAdd e) ∧
    checkEdge (addEdge s e w md).1 (.ofLists S' T') = some true ∧
    edgeMeta (addEdge s e w md).1 (.ofLists S' T') = some (md.getD []) ∧
    (removeEdge (addEdge s e w md).1 (.ofLists S' T')).2 = .ok ∧
    (∀ md', (setEdgeMeta (addEdge s e w md).1 (.ofLists S' T') md').2 = .ok) ∧
    (∀ w', ((addEdge s e w md).1.weighted = true ∨ w' = one) →
      (setWeight (addEdge s e w md).1 (.ofLists S' T') w').2 = .ok) ∧
    (Inv s → RawWF e → (getWeight (addEdge s e w md).1 (.ofLists S' T')).isSome = true) := by
  have hc := canonStrict_of_perm e S' T' hS hT
  unfold addEdge at hok ⊢
  obtain ⟨id, hid, hmd⟩ := addEdgeKey_found s (canonAdd e) w md hok
  refine ⟨hc, ?_, ?_, ?_, ?_, ?_, ?_⟩
  · simp [checkEdge, hc, has, hid]
  · simp [edgeMeta, hc, metaOfKey, hid, hmd]
  · simp [removeEdge, hc, removeEdgeKey, hid]
  · intro md'; simp [setEdgeMeta, hc, hid]
  · intro w' hw
    unfold setWeight
    rcases hw with hw | hw
    · simp [hw, hc, hid]
    · simp [hw, hc, hid]
  · intro h he
    have hi := addEdgeKey_inv s (canonAdd e) w md (keyWF_canonAdd e he) h
    have := hi.weights_of_edge _ id hid
    simp [getWeight, hc, weightOfKey, hid, this]

/-- non-vacuity: `((3,1), 2)` (bare-node target) inserted with weight 2 and metadata; found as `((1,3),(2,))`, its reverse
    is absent, and it can be removed under the other listing -/
example : let s0 : Store := { weighted := true }
    let s1 := (addEdge s0 ⟨.nodes [3, 1], .scalar 2⟩ (some 8) (some [(2, 3)])).1
    checkEdge s1 (.ofLists [1, 3] [2]) = some true ∧ getWeight s1 (.ofLists [3, 1] [2]) = some 8 ∧
    edgeMeta s1 (.ofLists [1, 3] [2]) = some [(2, 3)] ∧ checkEdge s1 (.ofLists [2] [1, 3]) = some false ∧
    (removeEdge s1 (.ofLists [1, 3] [2])).2 = .ok := by decide +kernel

/-- **Invariant for every history.**  After every prefix of every history, every object satisfies `Inv`:
`_edge_list` and `_reverse_edge_list` are inverse bijections between canonical well-formed keys (sorted, duplicate-free,
disjoint, non-empty sides) and ids below `_next_edge_id`; `_weights`/`_edge_metadata` have exactly those ids;
`_adj_source[n]` (`_adj_target[n]`) is a duplicate-free list of exactly the ids of the hyperedges having `n` as a
source (target); every node of a hyperedge has its rows; the three node tables have the same key set; no table has a
duplicate key. -/
theorem C02_inv (s : Store) (hr : Reachable s) : Inv s := hr.pres Inv.pres

/-- the same for a single object and its mutating calls -/
theorem C02_inv_object (w : Bool) (ops : List Op) (hops : ∀ o ∈ ops, o.WF) : Inv (run { weighted := w } ops) :=
  run_inv _ ops hops (inv_init w [])

/-- non-vacuity: a 12-command history (constructor with hyperedges, re-insertion in permuted order, removal,
copy, remove_node with keep_edges, clear) satisfies the hypothesis, and its final objects are what one expects -/
def C02.exampleHistory : List Cmd :=
  [ .new 0 true none (some [(7, [(2, 3)])]) (some [.ofLists [2, 1] [3], ⟨.scalar 1, .nodes [3, 2]⟩]) (some [6, 4]) none,
    .op 0 (.addEdge (.ofLists [1, 2] [3]) (some 2) (some [(2, 5)])),
    .op 0 (.addEdge (.ofLists [3] [1, 2]) none none),
    .op 0 (.addNode 7 (some [(3, 4)])),
    .op 0 (.removeEdge (.ofLists [1] [2, 3])),
    .copy 0 1,
    .op 0 (.removeNode 2 true),
    .op 1 (.removeNode 3 false),
    .op 1 (.setWeight (.ofLists [9] [8]) 4),
    .op 0 (.addEdges [.ofLists [4] [5, 6], .ofLists [5] [4]] (some [4, 8]) none),
    .op 1 .clear,
    .op 0 (.removeNodes [4] true) ]

/-- what the example history computes: object 0 (ids 3 and 4 live, 0-2, 5, 6 retired; node 7 isolated, with metadata) and
    object 1, its copy after `remove_node(3)`, a refused `set_weight` and `clear()` -/
theorem C02.exampleHistory_run : runCmds [] exampleHistory =
    [(0, { weighted := true, nextId := 7, hmeta := [(0, 1), (1, 2)]
           edgeList := [(([1], [3]), 3), (([3], [1]), 4)]
           rev := [(3, ([1], [3])), (4, ([3], [1]))]
           weights := [(3, 8), (4, 4)]
           emeta := [(3, [(2, 5)]), (4, [])]
           adjS := [(7, []), (1, [3]), (3, [4]), (5, []), (6, [])]
           adjT := [(7, []), (1, [4]), (3, [3]), (5, []), (6, [])]
           nmeta := [(7, [(2, 3)]), (1, []), (3, []), (5, []), (6, [])] }),
     (1, { weighted := true, nextId := 3, hmeta := [(0, 1), (1, 2)] })] := by decide +kernel

example : ∀ c ∈ exampleHistory, c.WF := cmds_WF_of_ok _ (by decide +kernel)
example : (get? (runCmds [] exampleHistory) 0).map (fun s => (nodes s, keys s.edgeList, s.weights.map (·.2))) =
    some ([7, 1, 3, 5, 6], [([1], [3]), ([3], [1])], [8, 4]) := by rw [exampleHistory_run]; decide +kernel
example : Reachable ((get? (runCmds [] exampleHistory) 0).getD {}) :=
  ⟨exampleHistory, 0, cmds_WF_of_ok _ (by decide +kernel), by rw [exampleHistory_run]; rfl⟩

/-- **A hyperedge is listed exactly once per role it plays for a node.**  For every reachable object, every present
node `n` and every admissible order/size filter: `get_source_edges` / `get_target_edges` succeed and are, as multisets,
the stored (source, target) pairs having `n` among the sources / targets and passing the filter - each exactly once
(the lists are duplicate-free and the key list is), none else; `get_incident_edges` is their concatenation, and no
hyperedge is in both lists. -/
theorem C02_once_per_role (s : Store) (hr : Reachable s) (n : Node) (hn : checkNode s n = true)
    (f : Filt) (t : Option Nat) (hf : f.target = some t) :
    ∃ LS LT, sourceEdges s n f = some LS ∧ targetEdges s n f = some LT ∧ incident s n f = some (LS ++ LT) ∧
      LS.Perm ((keys s.edgeList).filter (fun k => k.1.contains n && passes t false k)) ∧
      LT.Perm ((keys s.edgeList).filter (fun k => k.2.contains n && passes t false k)) ∧
      LS.Nodup ∧ LT.Nodup ∧ (∀ k ∈ LS, k ∉ LT) ∧
      inDegree s n f = some LS.length ∧ outDegree s n f = some LT.length ∧ degree s n f = some (LS.length + LT.length) := by
  have h := C02_inv s hr
  have hS : (get? s.adjS n).isSome := hn
  have hT : (get? s.adjT n).isSome := by rw [h.adj_same]; exact hS
  obtain ⟨idsS, hS⟩ := Option.isSome_iff_exists.mp hS
  obtain ⟨idsT, hT⟩ := Option.isSome_iff_exists.mp hT
  have e1 := h.sourceEdges_eq n idsS hS f t hf
  have e2 := h.targetEdges_eq n idsT hT f t hf
  have p1 := h.sourceEdges_perm n idsS hS t
  have p2 := h.targetEdges_perm n idsT hT t
  refine ⟨_, _, e1, e2, ?_, p1, p2, ?_, ?_, ?_, ?_, ?_, ?_⟩
  · simp [incident, e1, e2]
  · exact (filterMap_rev_nodup s h idsS (h.adjS_nodup n idsS hS)).filter _
  · exact (filterMap_rev_nodup s h idsT (h.adjT_nodup n idsT hT)).filter _
  · intro k hk hk'
    obtain ⟨⟨id, hid⟩, h1⟩ := h.indexS.roleEdges_mem n f _ e1 k hk
    obtain ⟨_, h2⟩ := h.indexT.roleEdges_mem n f _ e2 k hk'
    exact (h.key_wf id k hid).disj n h1 h2
  · simp [inDegree, e1]
  · simp [outDegree, e2]
  · simp [degree, incident, e1, e2]

/-- non-vacuity: node 3 of the example is a target of `((1,),(3,))` and a source of `((3,),(1,))` -/
example : let s := (get? (runCmds [] exampleHistory) 0).getD {}
    sourceEdges s 3 .all = some [([3], [1])] ∧ targetEdges s 3 (.size 2) = some [([1], [3])] ∧ degree s 3 (.order 1) = some 2 := by
  rw [exampleHistory_run]; decide +kernel

/-- **Direction is never lost or swapped.**  In every reachable object: every stored pair has non-empty disjoint
sides, so it differs from its reverse; `get_sources`/`get_targets` are the first/second components of the stored
pairs; a hyperedge is listed for node `n` in the source role iff `n` is in its FIRST component and in the target role
iff `n` is in its SECOND; inserting `(S,T)` changes the presence of no other pair - in particular it does not make
`(T,S)` present - and the key of `(T,S)` is never the key of `(S,T)`. -/
theorem C02_direction (s : Store) (hr : Reachable s) :
    (∀ k ∈ keys s.edgeList, k.1 ≠ [] ∧ k.2 ≠ [] ∧ (∀ n, n ∈ k.1 → n ∉ k.2) ∧ (k.2, k.1) ≠ k) ∧
    sources s = (keys s.edgeList).map (·.1) ∧ targets s = (keys s.edgeList).map (·.2) ∧
    (∀ n L, sourceEdges s n .all = some L → ∀ k, k ∈ L ↔ k ∈ keys s.edgeList ∧ n ∈ k.1) ∧
    (∀ n L, targetEdges s n .all = some L → ∀ k, k ∈ L ↔ k ∈ keys s.edgeList ∧ n ∈ k.2) ∧
    (∀ e w md k', k' ≠ canonAdd e → has (addEdge s e w md).1.edgeList k' = has s.edgeList k') ∧
    (∀ e, RawWF e → canonAdd ⟨e.tgt, e.src⟩ ≠ canonAdd e) := by
  have h := C02_inv s hr
  refine ⟨?_, rfl, rfl, ?_, ?_, ?_, ?_⟩
  · intro k hk
    obtain ⟨id, hid⟩ := (h.mem_keys_iff k).mp hk
    have wf := h.key_wf id k hid
    refine ⟨wf.neS, wf.neT, wf.disj, ?_⟩
    intro hc
    have h1 : k.2 = k.1 := congrArg Prod.fst hc
    cases hk1 : k.1 with
    | nil => exact wf.neS hk1
    | cons a t =>
      have ha : a ∈ k.1 := by rw [hk1]; exact List.mem_cons_self
      exact wf.disj a ha (h1 ▸ ha)
  · exact fun n L hL k => h.roleEdges_all_mem h.indexS n L hL k
  · exact fun n L hL k => h.roleEdges_all_mem h.indexT n L hL k
  · intro e w md k' hne
    exact addEdgeKey_has_other s _ w md k' hne
  · intro e he hc
    have wf := keyWF_canonAdd e he
    have h1 : sortNodes e.tgt.toList = sortNodes e.src.toList := congrArg Prod.fst hc
    cases hk1 : e.src.toList with
    | nil => exact he.neS hk1
    | cons a t =>
      have ha : a ∈ e.src.toList := by rw [hk1]; exact List.mem_cons_self
      have : a ∈ sortNodes e.tgt.toList := by rw [h1]; exact mem_sortNodes.mpr ha
      exact he.disj a ha (mem_sortNodes.mp this)

/-- non-vacuity: `((1,),(3,))` and its reverse are both present in the example and are different hyperedges;
    inserting `((1,),(3,))` into the empty store does not make its reverse present -/
example : let s := (get? (runCmds [] exampleHistory) 0).getD {}
    checkEdge s (.ofLists [1] [3]) = some true ∧ checkEdge s (.ofLists [3] [1]) = some true ∧
    checkEdge (addEdge {} (.ofLists [1] [3]) none none).1 (.ofLists [3] [1]) = some false := by rw [exampleHistory_run]; decide +kernel

/-- **Node metadata survives hyperedge insertions.**  For EVERY store (reachable or not), every node that is present
stays present and keeps exactly its metadata through `add_edge` and `add_edges`, whatever hyperedge, weight or
metadata is given and whether or not the call is accepted.  (Before fix D5 this failed for every endpoint.) -/
theorem C02_node_meta_survives_addEdge (s : Store) (m : Node) (hm : checkNode s m = true) :
    (∀ e w md, checkNode (addEdge s e w md).1 m = true ∧ nodeMeta (addEdge s e w md).1 m = nodeMeta s m) ∧
    (∀ es ws mds, checkNode (addEdges s es ws mds).1 m = true ∧ nodeMeta (addEdges s es ws mds).1 m = nodeMeta s m) := by
  have hm' : (get? s.adjS m).isSome := hm
  constructor
  · intro e w md
    have := addEdgeKey_node s (canonAdd e) w md m hm'
    exact ⟨this.1, by simp only [nodeMeta, has, addEdge, this.1, this.2, hm', if_true]⟩
  · intro es ws mds
    -- "`m` is present with the metadata it has in `s`" is kept by every `add_edge`, hence by the batch
    have := addEdges_pres (P := fun s' => (get? s'.adjS m).isSome ∧ get? s'.nmeta m = get? s.nmeta m) es
      (fun s' e _ w md h => ⟨(addEdgeKey_node s' _ w md m h.1).1, (addEdgeKey_node s' _ w md m h.1).2.trans h.2⟩)
      (fun _ h => h) s ws mds ⟨hm', rfl⟩
    exact ⟨this.1, by simp only [nodeMeta, has, this.1, this.2, hm', if_true]⟩

/-- non-vacuity: node 7 carries `{2: 3}` from the constructor of the example through all later insertions -/
example : nodeMeta ((get? (runCmds [] exampleHistory) 0).getD {}) 7 = some [(2, 3)] := by rw [exampleHistory_run]; decide +kernel

/-- a metadata value that is not a dict (`0`, `''`, `[]`, `None`, `False`, ... written `[(nonDict, value)]`) is not `{}` -/
theorem C02_isVal_ne_empty (md : Meta) (h : isVal md = true) : md ≠ [] := by
  intro h'; subst h'; cases h

/-- **Node metadata survives `add_node` / `add_nodes` on a present node** (the implicit `add_node` of `add_edge` is the
case `md' = none`, covered for whole insertions by `C02_node_meta_survives_addEdge`).  For EVERY store: a present node
whose stored metadata is anything but the empty dict `{}` - a non-empty dict, or any value that is not a dict, in
particular the falsy ones `0`, `''`, `[]`, `None`, `False` (`C02_isVal_ne_empty`) - keeps exactly that value through
`add_node(n, md')` for every `n` (itself included) and every `md'`, and through `add_nodes`.  (The seeded change
`C02-e1` - `not md` for `md == {}` - breaks exactly this for the falsy non-dict values.) -/
theorem C02_node_meta_survives_addNode (s : Store) (m : Node) (md : Meta)
    (hm : nodeMeta s m = some md) (hne : md ≠ []) :
    (∀ n md', nodeMeta (addNode s n md') m = some md) ∧ (∀ ns, nodeMeta (addNodes s ns) m = some md) := by
  have one : ∀ (s : Store) (n : Node) (md' : Option Meta), nodeMeta s m = some md → nodeMeta (addNode s n md') m = some md := by
    intro s n md' hm
    have hp : (get? s.adjS m).isSome := by
      unfold nodeMeta at hm; unfold has at hm; split at hm
      · assumption
      · cases hm
    have hg : get? s.nmeta m = some md := by
      unfold nodeMeta at hm; unfold has at hm; rw [if_pos hp] at hm; exact hm
    have hp' := addNode_present s n md' m hp
    have hk := addNode_nmeta_keep s n md' m md hp hg hne
    unfold nodeMeta; unfold has; rw [if_pos hp']; exact hk
  refine ⟨fun n md' => one s n md' hm, ?_⟩
  intro ns
  induction ns generalizing s with
  | nil => exact hm
  | cons n ns ih => exact ih (addNode s n none) (one s n none hm)

/-- non-vacuity: node 1 is given the metadata `0` (`[(nonDict, 8)]`); a repeated `add_node` with other metadata,
`add_nodes`, and two hyperedges touching it (one given the metadata `[]`, then shrunk by `remove_node(2, keep_edges)`)
leave it; item assignment on it is rejected -/
example :
    let s0 := (setNodeMeta (addNode {} 1 none) 1 [(nonDict, 8)]).1
    let s1 := addNodes (addNode s0 1 (some [(2, 3)])) [1, 3]
    let s2 := (addEdge (addEdge s1 (.ofLists [1, 2] [3]) none (some [(nonDict, 10)])).1 (.ofLists [3] [1]) none none).1
    let s3 := (removeNode s2 2 true).1
    nodeMeta s3 1 = some [(nonDict, 8)] ∧ isVal [(nonDict, 8)] = true ∧
    edgeMeta s3 (.ofLists [1] [3]) = some [(nonDict, 10)] ∧
    (setAttrNode s3 1 2 3).2 = .rej ∧ (setAttrEdge s3 (.ofLists [1] [3]) 2 3).2 = .rej ∧
    (setAttrNode s3 3 2 8).2 = .ok := by decide +kernel

/-- **A removed node is gone from every listing.**  In every reachable object, after an accepted
`remove_node(n, keep_edges)` (either mode): `n` is not a node, has no metadata entry and no adjacency row; no stored
(source, target) pair, no `get_edges` answer under any filter, no entry of `get_sources`/`get_targets`, no hyperedge
listed for any node in any role, no neighbour set mentions `n`; queries about `n` itself are rejected; and the result
satisfies the invariant again (so all the other theorems apply to it). -/
theorem C02_removed_node_gone (s : Store) (hr : Reachable s) (n : Node) (keep : Bool)
    (hok : (removeNode s n keep).2 = .ok) :
    let s' := (removeNode s n keep).1
    Inv s' ∧ get? s'.adjS n = none ∧ get? s'.adjT n = none ∧ get? s'.nmeta n = none ∧
    n ∉ nodes s' ∧ checkNode s' n = false ∧ nodeMeta s' n = none ∧
    (∀ k ∈ keys s'.edgeList, n ∉ k.1 ∧ n ∉ k.2) ∧
    (∀ f up L, edges s' f up = some L → ∀ k ∈ L, n ∉ k.1 ∧ n ∉ k.2) ∧
    (∀ S ∈ sources s', n ∉ S) ∧ (∀ T ∈ targets s', n ∉ T) ∧
    (∀ m f L, sourceEdges s' m f = some L → ∀ k ∈ L, n ∉ k.1 ∧ n ∉ k.2) ∧
    (∀ m f L, targetEdges s' m f = some L → ∀ k ∈ L, n ∉ k.1 ∧ n ∉ k.2) ∧
    (∀ m f L, incident s' m f = some L → ∀ k ∈ L, n ∉ k.1 ∧ n ∉ k.2) ∧
    (∀ m f L, neighbors s' m f = some L → n ∉ L) ∧
    (∀ f, sourceEdges s' n f = none ∧ targetEdges s' n f = none ∧ incident s' n f = none ∧ neighbors s' n f = none) := by
  intro s'
  obtain ⟨hinv, hg⟩ := removeNode_spec s n keep (C02_inv s hr)
  have g := hg hok
  exact ⟨hinv, g.adjS, g.adjT, g.nmeta, gone_queries hinv n g⟩

/-- **`remove_node` never raises half-way.**  In every reachable object, `remove_node(n, keep_edges)` on a present
node is accepted in both modes (so `C02_removed_node_gone` applies to every removal of a present node), and on an
absent node it is rejected and changes nothing.  Uses two further invariants of every history: ids increase along
`_edge_list` and along every adjacency list (`Ord`), and an unweighted hypergraph stores weight 1 everywhere (`Unw`,
needed because the re-insertion of a shrunk hyperedge passes the stored weight to `add_edge`). -/
theorem C02_removeNode_accepts (s : Store) (hr : Reachable s) (n : Node) (keep : Bool) :
    (checkNode s n = true → (removeNode s n keep).2 = .ok) ∧
    (checkNode s n = false → removeNode s n keep = (s, .rej)) := by
  have ⟨h, o⟩ := hr.pres ordPres
  constructor
  · exact removeNode_accepts s n keep h o (hr.pres unwPres).2
  · intro hn
    have hn' : has s.adjS n = false := hn
    simp [removeNode, hn']

/-- non-vacuity: removing node 2 with keep_edges=True from `{((1,2),(3,)):8, ((3,),(1,2)):4}` is accepted and yields
`{((1,),(3,)):8, ((3,),(1,)):4}`; with a node whose removal empties a side the hyperedge is dropped -/
example :
    let s := (run { weighted := true } [.addEdge (.ofLists [1, 2] [3]) (some 8) none, .addEdge (.ofLists [3] [1, 2]) none none])
    (removeNode s 2 true).2 = .ok ∧ weightsDict (removeNode s 2 true).1 .all false = some [(([1], [3]), 8), (([3], [1]), 4)] ∧
    (removeNode s 3 true).2 = .ok ∧ edges (removeNode s 3 true).1 .all false = some [] := by decide +kernel

/-! ## Refinement: the concrete store answers as the abstract object of its history

`Spec` (in `Model/C02.lean`) is what the property names: a duplicate-free list of nodes with their metadata and an
association list from (source set, target set) pairs - as sorted tuples - to (weight, metadata), plus the two flags.
`Spec.step` is the obvious map update for every call; `abs` forgets ids, reverse table and adjacency. -/

/-- **Simulation, every history.**  For every finite sequence of constructor calls, copies and public mutating calls
satisfying the quantifier: the abstraction of the reached concrete state IS the state the same sequence produces on
abstract objects (so after every prefix, every object `s` in slot `i` has `abs s` as its abstract twin), every call
is accepted / rejected identically, and a copy is an independent object (it is a separate slot on both sides). -/
theorem C02_refines (cs : List Cmd) (hcs : ∀ c ∈ cs, c.WF) :
    absState (runCmds [] cs) = Spec.runCmds [] cs ∧ outsCmds [] cs = Spec.outsCmds [] cs ∧
    (∀ slot, get? (Spec.runCmds [] cs) slot = (get? (runCmds [] cs) slot).map abs) := by
  have h0 : StateInv [] := fun _ _ h => by simp [get?] at h
  have o0 : StateOrd [] := fun _ _ h => by simp [get?] at h
  obtain ⟨h1, h2, _⟩ := abs_runCmds [] cs hcs h0 o0
  refine ⟨h1, h2, ?_⟩
  intro slot
  have : absState [] = [] := rfl
  rw [this] at h1
  rw [← h1]
  exact get?_map_val _ abs slot

/-- one object and its mutating calls, from any weightedness -/
theorem C02_refines_object (w : Bool) (ops : List Op) (hops : ∀ o ∈ ops, o.WF) :
    abs (run { weighted := w } ops) = Spec.run { weighted := w } ops ∧
    runOuts { weighted := w } ops = Spec.runOuts { weighted := w } ops :=
  let r := abs_run { weighted := w } ops hops (inv_init w []) (ord_init w [])
  ⟨r.1, r.2.1⟩

/-- non-vacuity: the example history, computed on both sides -/
example : absState (runCmds [] exampleHistory) = Spec.runCmds [] exampleHistory := by rw [exampleHistory_run]; decide +kernel
example : (get? (Spec.runCmds [] exampleHistory) 0).map (·.nodes) =
      some [(7, [(2, 3)]), (1, []), (3, []), (5, []), (6, [])] ∧
    (get? (Spec.runCmds [] exampleHistory) 0).map (·.edges) =
      some [(([1], [3]), ((8 : Int), [(2, 5)])), (([3], [1]), ((4 : Int), []))] := by
  decide +kernel

/-- **The abstract object is "a set of nodes plus a map".**  For every reachable object: the node list of `abs s` has
no duplicate, its hyperedge list has no duplicate key, every key is a canonical pair with non-empty, duplicate-free,
disjoint sides, and every endpoint of every key is a node. -/
theorem C02_abstract_wellformed (s : Store) (hr : Reachable s) :
    (keys (abs s).nodes).Nodup ∧ (keys (abs s).edges).Nodup ∧
    (∀ k ∈ keys (abs s).edges, KeyWF k ∧ ∀ n, (n ∈ k.1 ∨ n ∈ k.2) → n ∈ keys (abs s).nodes) := by
  have ⟨h, u⟩ := hr.pres unwPres
  have t := abs_tab h u
  exact ⟨t.nnd, t.knd, fun k hk => ⟨(t.of_key hk).1, fun n hn => (t.of_key hk).2 n (List.mem_append.mpr hn)⟩⟩

/-- **Every query equals the query on the abstract object.**  For every reachable object `s` (any history, any
prefix): nodes, nodes with metadata, membership, counts, hyperedges / hyperedges with metadata / weights under every
order-size filter with and without `up_to`, membership / weight / metadata of one hyperedge (in any listing order),
sources, targets, sizes (hence orders, size distribution, max size / order, uniformity, which are functions of the key
list), per-node metadata, source-role / target-role / incident listings (as multisets, rejected in the same cases),
degree, in-degree, out-degree, neighbours, isolation, the degree sequences and distribution, isolated nodes, and the
two all-metadata listings (as multisets) coincide with the answers computed from `abs s` by filter / map.
`Filt.both` (order and size together) is rejected on both sides wherever the implementation rejects it. -/
theorem C02_refines_queries (s : Store) (hr : Reachable s) :
    nodes s = (abs s).nodeList ∧ nodesMeta s = some (abs s).nodes ∧
    (∀ n, checkNode s n = has (abs s).nodes n ∧ nodeMeta s n = (abs s).nodeMeta n) ∧
    numNodes s = (abs s).nodes.length ∧ numEdges s = (abs s).edges.length ∧
    keys s.edgeList = (abs s).keyList ∧ sizes s = (abs s).sizes ∧
    sources s = (abs s).keyList.map (·.1) ∧ targets s = (abs s).keyList.map (·.2) ∧
    s.weighted = (abs s).weighted ∧ s.hmeta = (abs s).hmeta ∧
    (∀ f up, edges s f up = (abs s).edgesF f up ∧ edgesMeta s f up = (abs s).edgesMetaF f up ∧
      weightsDict s f up = (abs s).weightsDictF f up) ∧
    (∀ e, checkEdge s e = (abs s).checkEdge e ∧ getWeight s e = (abs s).getWeight e ∧ edgeMeta s e = (abs s).edgeMeta e) ∧
    (∀ n f, OptPerm (sourceEdges s n f) ((abs s).sourceEdges n f) ∧ OptPerm (targetEdges s n f) ((abs s).targetEdges n f) ∧
      OptPerm (incident s n f) ((abs s).incident n f) ∧
      degree s n f = (abs s).degree n f ∧ inDegree s n f = (abs s).inDegree n f ∧ outDegree s n f = (abs s).outDegree n f ∧
      neighbors s n f = (abs s).neighbors n f ∧ isIsolated s n f = (abs s).isIsolated n f) ∧
    (∀ f, degreeSeq s f = (abs s).degreeSeq f ∧ inDegreeSeq s f = (abs s).inDegreeSeq f ∧
      outDegreeSeq s f = (abs s).outDegreeSeq f ∧ degreeDist s f = (abs s).degreeDist f ∧
      isolatedNodes s f = (abs s).isolatedNodes f) ∧
    (allNodesMeta s).Perm ((abs s).nodes.map (·.2)) ∧ (allEdgesMeta s).Perm ((abs s).edges.map (·.2.2)) := by
  have h := C02_inv s hr
  have qn := q_numbers s
  refine ⟨q_nodes s, q_nodesMeta s h, fun n => ⟨q_checkNode s n, q_nodeMeta s h n⟩, qn.1, qn.2.1,
    (abs_edges_keys s).symm, qn.2.2.1, qn.2.2.2.1, qn.2.2.2.2, rfl, rfl,
    fun f up => ⟨q_edges s f up, q_edgesMeta s h f up, q_weightsDict s h f up⟩, q_edge s h, ?_, q_seqs s h,
    q_allNodesMeta s h, q_allEdgesMeta s h⟩
  intro n f
  have d := q_degrees s h n f
  exact ⟨q_sourceEdges s h n f, q_targetEdges s h n f, q_incident s h n f, d.1, d.2.1, d.2.2,
    q_neighbors s h n f, q_isIsolated s h n f⟩

/-- non-vacuity: queries on the final object of the example and on its abstraction -/
example : let s := (get? (runCmds [] exampleHistory) 0).getD {}
    sourceEdges s 1 .all = some [([1], [3])] ∧ (abs s).sourceEdges 1 .all = some [([1], [3])] ∧
    neighbors s 3 (.size 2) = some [1] ∧ (abs s).neighbors 3 (.size 2) = some [1] ∧
    degreeSeq s .both = none ∧ (abs s).degreeSeq .both = none := by rw [exampleHistory_run]; decide +kernel


/-! ## `get_edges(..., subhypergraph=True)`, the raw tables, the dunder methods (`Model/C02X.lean`) -/

/-- **`get_edges(order, size, up_to, subhypergraph=True, keep_isolated_nodes)` commutes with the abstraction.**
The routine builds a new `DirectedHypergraph` by calling the public mutators (`add_nodes`, `add_edges` with the weights read
by `get_weight`, `set_node_metadata(get_node_metadata)` for every node of the NEW object, `set_edge_metadata(
get_edge_metadata)` for every selected hyperedge).  For every reachable object `s`, every filter, `up_to` and
`keep_isolated_nodes`: (1) the call is accepted on the tables exactly when the same routine is accepted on the abstract
object `abs s` (a set of nodes plus a map), and the abstraction of the returned object IS the object the routine builds
from `abs s`; (2) the returned object is itself reachable (a fresh object followed by public calls satisfying the
quantifier), so the invariant and EVERY theorem of this file - all queries, direction, once-per-role - hold for it;
(3) order and size given together, or `keep_isolated_nodes` without `subhypergraph`, are rejected whatever the other
options are. -/
theorem C02_subhypergraph_refines (s : Store) (hr : Reachable s) (f : Filt) (up keep : Bool) :
    (subHG s f up keep).map abs = (abs s).subHG f up keep ∧
    (∀ h, subHG s f up keep = some h → Reachable h ∧ Inv h) ∧
    (∀ sub md, f.target = none → getEdgesCall s f up sub keep md = none) ∧
    (∀ md, keep = true → getEdgesCall s f up false keep md = none) ∧
    (f.target ≠ none → getEdgesCall s f up true keep false = (subHG s f up keep).map EdgesAns.hg) := by
  have hi := C02_inv s hr
  obtain ⟨h1, h2⟩ := subHG_abs s hi f up keep
  refine ⟨h1, ?_, ?_, ?_, ?_⟩
  · intro h hh
    obtain ⟨ops, hw, he, hinv, _⟩ := h2 h hh
    obtain ⟨c1, c2⟩ := fresh_history s.weighted ops hw
    exact ⟨⟨_, 0, c1, by rw [c2, he]⟩, hinv⟩
  · intro sub md ht
    simp [getEdgesCall, ht]
  · intro md hk
    simp [getEdgesCall, hk]
  · intro ht
    cases hft : f.target with
    | none => exact absurd hft ht
    | some t => simp [getEdgesCall, hft]

/-- the final object of the example history (weighted, two hyperedges, five nodes of which one isolated with metadata); the
examples that follow: extraction with and without the isolated nodes, with a size filter, rejected with order and size together -/
def C02.exampleFinal : Store := (get? (runCmds [] exampleHistory) 0).getD {}
example : (subHG exampleFinal .all false true).map abs = (abs exampleFinal).sub .all false true := by rw [exampleFinal, exampleHistory_run]; decide +kernel
example : (subHG exampleFinal .all false true).map nodes = some [7, 1, 3, 5, 6] ∧
    (subHG exampleFinal .all false true).map (fun h => keys h.edgeList) = some [([1], [3]), ([3], [1])] ∧
    (subHG exampleFinal .all false true).map (fun h => h.weights) = some [(0, (8 : Int)), (1, 4)] ∧
    (subHG exampleFinal .all false true).bind (fun h => nodeMeta h 7) = some [(2, 3)] := by rw [exampleFinal, exampleHistory_run]; decide +kernel
example : (subHG exampleFinal (.size 2) true false).map (fun h => (nodes h, edgeMeta h (.ofLists [1] [3]))) =
    some ([1, 3], some [(2, 5)]) := by rw [exampleFinal, exampleHistory_run]; decide +kernel
example : (subHG exampleFinal (.size 3) false false).map nodes = some [] := by rw [exampleFinal, exampleHistory_run]; decide +kernel
example : (subHG exampleFinal .both false true).isNone = true ∧ (abs exampleFinal).subHG .both false true = none := by rw [exampleFinal, exampleHistory_run]; decide +kernel

/-- **The hypergraph returned by `get_edges(..., subhypergraph=True)` IS the selected part of the abstract object.**
For every reachable object `s`, every filter, `up_to` and `keep_isolated_nodes`: the call is accepted whenever order and
size are not given together, and the abstraction of the returned object is `Spec.sub (abs s)`: exactly the hyperedges of
`abs s` that pass the filter, each with ITS weight and ITS metadata, in their order; the nodes are all nodes of `abs s`
(`keep_isolated_nodes`) or the endpoints of the selected hyperedges in order of first appearance, each with ITS
metadata; the same weightedness; fresh hypergraph metadata (`weighted`, `type`).  Nothing else: no other hyperedge, no
other node, no stale id (the new object is reachable, `C02_subhypergraph_refines`).  In an unweighted hypergraph the
routine does not pass weights; the statement holds because every stored weight is 1 there (invariant `Unw`). -/
theorem C02_subhypergraph_is_selected_part (s : Store) (hr : Reachable s) (f : Filt) (up keep : Bool) :
    (subHG s f up keep).map abs = (abs s).sub f up keep ∧
    (f.target ≠ none → (subHG s f up keep).isSome = true) ∧
    (∀ h t, f.target = some t → subHG s f up keep = some h →
      h.weighted = s.weighted ∧ h.hmeta = ctorHMeta none s.weighted ∧
      keys h.edgeList = (keys s.edgeList).filter (passes t up) ∧
      (keep = true → nodes h = nodes s) ∧
      (∀ n, checkNode h n = true → checkNode s n = true)) := by
  have ⟨h, u⟩ := hr.pres unwPres
  have wf := specWF_abs s h u
  have e1 := (subHG_abs s h f up keep).1
  rw [Spec.subHG_eq_sub (abs s) wf f up keep] at e1
  refine ⟨e1, ?_, ?_⟩
  · intro ht
    cases hft : f.target with
    | none => exact absurd hft ht
    | some t =>
      cases hsub : subHG s f up keep with
      | some h' => rfl
      | none => rw [hsub] at e1; simp [Spec.sub, hft] at e1
  · intro h' t ht hsub
    rw [hsub] at e1
    simp only [Spec.sub, ht, Option.map_some] at e1
    injection e1 with e1
    have ew : (abs h').weighted = h'.weighted := rfl
    have eh : (abs h').hmeta = h'.hmeta := rfl
    have ek := abs_edges_keys h'
    have en := abs_nodes_keys h'
    have ew0 : (abs s).weighted = s.weighted := rfl
    rw [e1] at ew eh ek en
    simp only at ew eh ek en
    refine ⟨ew.symm, eh.symm, ?_, ?_, ?_⟩
    · rw [← ek, ← abs_edges_keys s]
      simp only [keys, List.filter_map]
      rfl
    · intro hk
      subst hk
      simp only [if_true] at en
      show keys h'.adjS = keys s.adjS
      rw [← en, abs_nodes_keys]
    · intro n hn
      have hn' : n ∈ keys h'.adjS := (isSome_get?_iff _ _).mp hn
      rw [← en] at hn'
      show (get? s.adjS n).isSome = true
      rw [isSome_get?_iff, ← abs_nodes_keys]
      cases keep with
      | true => simpa using hn'
      | false =>
        simp only [Bool.false_eq_true, if_false, keys, List.map_map] at hn'
        obtain ⟨m, hm, rfl⟩ := List.mem_map.mp hn'
        have := (mem_firstOcc _ m).mp hm
        obtain ⟨p, hp, hmp⟩ := List.mem_flatMap.mp this
        exact wf.ends p (List.mem_filter.mp hp).1 m (List.mem_append.mp hmp)

/-- non-vacuity: on the example the selected part, computed by filter / map from the abstract object, is what the
routine returns -/
example : (abs exampleFinal).sub (.size 2) false false =
    some { weighted := true, nodes := [(1, []), (3, [])],
           edges := [(([1], [3]), ((8 : Int), [(2, 5)])), (([3], [1]), ((4 : Int), []))], hmeta := [(0, 1), (1, 2)] } ∧
    (subHG exampleFinal (.size 2) false false).map abs = (abs exampleFinal).sub (.size 2) false false ∧
    ((abs exampleFinal).sub .all true true).map (·.nodes) = some [(7, [(2, 3)]), (1, []), (3, []), (5, []), (6, [])] := by
  rw [exampleFinal, exampleHistory_run]; decide +kernel

/-- **The raw tables.**  `expose_data_structures()`, `get_edge_list()`, `get_adj_dict()`, `len`, `iter`, `str`,
`is_weighted` hand out the tables themselves (the correspondence run compares them with the model's `Store` entry by entry, in
their order).  For every reachable object: `len` = number of keys of the abstract object, iteration lists the keys of the
abstract object in its order, each with its id; `get_edge_list` and the reverse table are inverse to each other; ids are
below `next_edge_id` and pairwise different (no id is ever handed out twice, also after removals); a row of
`get_adj_dict('source')` (`'target'`) is a duplicate-free list of exactly the ids of the hyperedges having the node as a
source (target); the weight and metadata tables have exactly the live ids; `str` prints the counts and the size
distribution of the abstract object. -/
theorem C02_raw_tables (s : Store) (hr : Reachable s) :
    len s = (abs s).edges.length ∧ (iterItems s).map (·.1) = (abs s).keyList ∧ iterItems s = getEdgeList s ∧
    getEdgeList s = (expose s).edgeList ∧ isWeighted s = (abs s).weighted ∧
    strParts s = ((abs s).nodes.length, (abs s).edges.length, histogram (abs s).sizes) ∧
    (∀ k id, get? (getEdgeList s) k = some id ↔ get? (expose s).reverse id = some k) ∧
    (∀ k id, get? (getEdgeList s) k = some id → id < (expose s).nextId) ∧
    (∀ k k' id, get? (getEdgeList s) k = some id → get? (getEdgeList s) k' = some id → k = k') ∧
    (∀ n ids, get? (getAdjDict s true) n = some ids →
      ids.Nodup ∧ ∀ id, id ∈ ids ↔ ∃ k, get? (getEdgeList s) k = some id ∧ n ∈ k.1) ∧
    (∀ n ids, get? (getAdjDict s false) n = some ids →
      ids.Nodup ∧ ∀ id, id ∈ ids ↔ ∃ k, get? (getEdgeList s) k = some id ∧ n ∈ k.2) ∧
    (∀ id, (get? (expose s).weights id).isSome = (get? (expose s).reverse id).isSome ∧
      (get? (expose s).edgeMeta id).isSome = (get? (expose s).reverse id).isSome) := by
  have h := C02_inv s hr
  have qn := q_numbers s
  have conv : ∀ (proj : Key → List Node) n id, (∃ k, get? s.rev id = some k ∧ n ∈ proj k) ↔
      ∃ k, get? (getEdgeList s) k = some id ∧ n ∈ proj k := fun proj n id =>
    ⟨fun ⟨k, hk, hm⟩ => ⟨k, h.edge_of_rev k id hk, hm⟩, fun ⟨k, hk, hm⟩ => ⟨k, h.rev_of_edge k id hk, hm⟩⟩
  refine ⟨qn.2.1, (abs_edges_keys s).symm, rfl, rfl, rfl, ?_, ?_, ?_, ?_, ?_, ?_, ?_⟩
  · show (numNodes s, numEdges s, distSizes s) = _
    rw [qn.1, qn.2.1]
    unfold distSizes
    rw [qn.2.2.1]
  · intro k id
    exact ⟨h.rev_of_edge k id, h.edge_of_rev k id⟩
  · intro k id hk
    exact h.id_lt id k (h.rev_of_edge k id hk)
  · intro k k' id hk hk'
    have a := h.rev_of_edge k id hk
    have b := h.rev_of_edge k' id hk'
    rw [a] at b
    injection b
  · exact fun n ids hn => ⟨h.adjS_nodup n ids hn, fun id => (h.adjS_iff n ids hn id).trans (conv (·.1) n id)⟩
  · exact fun n ids hn => ⟨h.adjT_nodup n ids hn, fun id => (h.adjT_iff n ids hn id).trans (conv (·.2) n id)⟩
  · intro id
    exact ⟨h.weights_same id, h.emeta_same id⟩

/-- non-vacuity: the raw tables of the final object of the example history (ids 3 and 4 live, ids 0-2, 5, 6 retired) -/
example : let s := exampleFinal
    getEdgeList s = [(([1], [3]), 3), (([3], [1]), 4)] ∧ (expose s).nextId = 7 ∧ len s = 2 ∧
    getAdjDict s true = [(7, []), (1, [3]), (3, [4]), (5, []), (6, [])] ∧
    strParts s = (5, 2, [(2, 2)]) := by rw [exampleFinal, exampleHistory_run]; decide +kernel

/-- **Incidence metadata: the whole object refines the abstract object with the same side table.**
`Full` = the ten tables + `_incidences_metadata`; `FOp` = every public mutator + `set_incidence_metadata`.  For every
sequence of such calls on a fresh object (hyperedges handed to `add_edge(s)` satisfy the quantifier; nothing is assumed
about the arguments of `set_incidence_metadata`): the abstraction of the reached object is what the same sequence
produces on (set of nodes + map, side table); every `get_incidence_metadata(edge, node)` answers alike (raises alike:
absent hyperedge, missing entry, bare-node side), and the invariant holds. -/
theorem C02_incidence_refines (w : Bool) (ops : List FOp) (hops : ∀ o ∈ ops, o.WF) :
    fabs (Full.run { base := { weighted := w } } ops) = FSpec.run { base := { weighted := w } } ops ∧
    Inv (Full.run { base := { weighted := w } } ops).base ∧
    (∀ e n, (Full.run { base := { weighted := w } } ops).getInc e n =
      (FSpec.run { base := { weighted := w } } ops).getInc e n) := by
  have r := fabs_run { base := { weighted := w } } ops hops (inv_init w []) (ord_init w [])
  refine ⟨r.1, r.2, fun e n => ?_⟩
  rw [getInc_fabs, r.1]
  rfl

/-- **What `set_incidence_metadata` does and what leaves the side table alone** (every `Full` object, no hypothesis).
(1) The call is accepted exactly when `check_edge` says the hyperedge is present (a bare-node side raises);
(2) after an accepted call `get_incidence_metadata` returns the value under EVERY listing with the same canonical key
(any order of the nodes of either side), whatever the node (it is not checked);
(3) the entry of every other (hyperedge, node) pair is untouched, and so are the ten tables;
(4) every public mutator except `clear()` leaves the side table as it is - also `remove_edge` / `remove_node`: an entry
of a removed hyperedge is not pruned and shows again when the hyperedge is re-inserted (modelled as the code behaves);
`clear()` empties it;  (5) a rejected call changes nothing. -/
theorem C02_incidence_frame (x : Full) (e : RawEdge) (n : Node) (md : Meta) :
    ((x.apply (.setInc e n md)).2 = .ok ↔ checkEdge x.base e = some true) ∧
    ((x.apply (.setInc e n md)).2 = .ok → ∀ e', canonStrict e' = canonStrict e →
      (x.apply (.setInc e n md)).1.getInc e' n = some md) ∧
    (∀ k' n', some k' ≠ canonStrict e ∨ n' ≠ n →
      get? (x.apply (.setInc e n md)).1.inc (k', n') = get? x.inc (k', n')) ∧
    (x.apply (.setInc e n md)).1.base = x.base ∧
    (∀ o, (x.apply (.base o)).1.inc = if isClear o then [] else x.inc) ∧
    ((x.apply (.setInc e n md)).2 = .rej → (x.apply (.setInc e n md)).1 = x) := by
  have hb : ∀ o, (x.apply (.base o)).1.inc = if isClear o then [] else x.inc := fun _ => rfl
  have hap : x.apply (.setInc e n md) = ({ x with inc := (setIncG (fun k => has x.base.edgeList k) x.inc e n md).1 },
      (setIncG (fun k => has x.base.edgeList k) x.inc e n md).2) := rfl
  rcases setIncG_cases (fun k => has x.base.edgeList k) x.inc e n md with ⟨k, hc, hp, hs⟩ | ⟨hne, hs⟩
  · rw [hap, hs]
    refine ⟨⟨fun _ => by simp only [checkEdge, hc, Option.map_some, hp], fun _ => rfl⟩, fun _ e' he' => ?_,
      fun k' n' hne => ?_, rfl, hb, fun hc' => by cases hc'⟩
    · simp only [Full.getInc, getIncG, he', hc, hp, if_true, get?_set]
    · refine (get?_set _ _ _ _).trans (if_neg fun heq => ?_)
      injection heq with h1 h2
      exact hne.elim (fun h => h (by rw [hc, h1])) (fun h => h h2.symm)
  · rw [hap, hs]
    exact ⟨⟨fun h => (by cases h), fun h => absurd h hne⟩, fun h => (by cases h), fun _ _ _ => rfl, rfl, hb, fun _ => rfl⟩

/-- non-vacuity: two entries (one for a node that is not in the hypergraph), permuted listing, the entry survives the
removal of its hyperedge and shows again after re-insertion, `clear()` empties the table -/
example :
    let ops : List FOp := [.base (.addEdge (.ofLists [2, 1] [3]) none none), .setInc (.ofLists [1, 2] [3]) 2 [(2, 3)],
      .setInc (.ofLists [2, 1] [3]) 7 [], .setInc (.ofLists [1] [3]) 1 [], .base (.removeEdge (.ofLists [1, 2] [3]))]
    (∀ o ∈ ops, o.WF) ∧
    (Full.run {} ops).allInc = [((([1, 2], [3]), 2), [(2, 3)]), ((([1, 2], [3]), 7), [])] ∧
    (Full.run {} ops).getInc (.ofLists [2, 1] [3]) 2 = none ∧
    (Full.run {} (ops ++ [.base (.addEdge (.ofLists [1, 2] [3]) none none)])).getInc (.ofLists [2, 1] [3]) 2 = some [(2, 3)] ∧
    (Full.run {} (ops ++ [.base .clear])).allInc = [] := by
  refine ⟨?_, by decide +kernel, by decide +kernel, by decide +kernel, by decide +kernel⟩
  intro o ho
  simp only [List.mem_cons, List.mem_nil_iff, or_false] at ho
  rcases ho with rfl | rfl | rfl | rfl | rfl
  · exact RawWF_of_ok _ (by decide +kernel)
  all_goals trivial

/-! ## The constructor as one call, raw setters / `populate_from_dict`, `get_mapping` (`Model/C02Y.lean`) -/

/-- **The constructor as ONE modelled call.**  For all constructor arguments whose hyperedges satisfy the property's
quantifier (`RawWF`: duplicate-free, disjoint, non-empty sides; nothing is assumed about flag, weights, any metadata):
(1) the constructor of the tables is accepted iff the constructor of the abstract object (set of nodes + map) is, and the
abstraction of what it builds - also of the half-built object of a refused call - is what the abstract constructor builds;
(2) it is accepted iff every one of the PUBLIC calls it stands for (`ctorCalls`: `add_node(n, metadata)` per entry of
`node_metadata`, then one `add_edges(edge_list, weights, edge_metadata)`) is accepted on the empty object carrying the
constructor's hypergraph metadata, and likewise on the abstract side; (3) an accepted call IS that run of public calls,
all of them well-formed; (4) the object is `Reachable`, and for every well-formed continuation the invariant holds and
the abstraction is the abstract run from the abstract constructor's object - every theorem of this file applies to
constructed objects and their futures. -/
theorem C02_constructor (w : Bool) (hm : Option Meta) (nm : Option (List (Node × Meta))) (es : Option (List RawEdge))
    (ws : Option (List Int)) (mds : Option (List Meta)) (hes : ∀ e ∈ es.getD [], RawWF e) :
    ((ctor w hm nm es ws mds).2 = (Spec.ctor w hm nm es ws mds).2 ∧
      abs (ctor w hm nm es ws mds).1 = (Spec.ctor w hm nm es ws mds).1) ∧
    ((ctor w hm nm es ws mds).2 = .ok ↔ (runOk (ctorInit w hm) (ctorCalls nm es ws mds)).isSome = true) ∧
    ((Spec.ctor w hm nm es ws mds).2 = .ok ↔
      (Spec.runOk (Spec.ctorInit w hm) (ctorCalls nm es ws mds)).isSome = true) ∧
    (∀ o ∈ ctorCalls nm es ws mds, o.WF) ∧
    ((ctor w hm nm es ws mds).2 = .ok →
      runOk (ctorInit w hm) (ctorCalls nm es ws mds) = some (ctor w hm nm es ws mds).1 ∧
      (ctor w hm nm es ws mds).1 = run (ctorInit w hm) (ctorCalls nm es ws mds) ∧
      Reachable (ctor w hm nm es ws mds).1 ∧
      ∀ ops : List Op, (∀ o ∈ ops, o.WF) →
        Inv (run (ctor w hm nm es ws mds).1 ops) ∧
        abs (run (ctor w hm nm es ws mds).1 ops) = Spec.run (Spec.ctor w hm nm es ws mds).1 ops) := by
  obtain ⟨⟨hinv, a3⟩, a1, a2⟩ := ctor_sim ordPres w hm nm es ws mds hes
  obtain ⟨c1, c2⟩ := ctor_as_calls w hm nm es ws mds
  have hwf := ctorCalls_WF nm es ws mds hes
  have r := runOk_abs (ctorInit w hm) (ctorCalls nm es ws mds) hwf (inv_init _ _) (ord_init _ _)
  refine ⟨⟨a2, a1⟩, c1, ?_, hwf, ?_⟩
  · rw [← a2, c1]
    have : abs (ctorInit w hm) = Spec.ctorInit w hm := rfl
    rw [← this, ← r.1]
    cases runOk (ctorInit w hm) (ctorCalls nm es ws mds) <;> rfl
  · intro hok
    refine ⟨(c2 hok).1, (c2 hok).2, ?_, ?_⟩
    · refine ⟨[Cmd.new 0 w hm nm es ws mds], 0, ?_, ?_⟩
      · intro c hc
        simp only [List.mem_cons, List.mem_nil_iff, or_false] at hc
        subst hc; exact hes
      · cases hr : ctor w hm nm es ws mds with
        | mk s o =>
          rw [hr] at hok
          simp only at hok
          subst hok
          simp [runCmds, step, hr, AL.set, get?]
    · intro ops hops
      have q := abs_run (ctor w hm nm es ws mds).1 ops hops hinv a3
      exact ⟨q.2.2.1, by rw [q.1, a1]⟩

/-- non-vacuity: node metadata, hypergraph metadata with a free key, two hyperedges (permuted listing, a bare-node target),
weights on an UNWEIGHTED object (promotion inside the constructor), edge metadata: accepted, equal to the run of its
three public calls; continued by a removal -/
example :
    let c := ctor false (some [(5, 6)]) (some [(7, [(2, 3)])])
      (some [⟨.nodes [3, 1], .scalar 2⟩, ⟨.nodes [2], .nodes [4, 5]⟩]) (some [8, 12]) (some [[(1, 1)], []])
    let calls := ctorCalls (some [(7, [(2, 3)])])
      (some [⟨.nodes [3, 1], .scalar 2⟩, ⟨.nodes [2], .nodes [4, 5]⟩]) (some [8, 12]) (some [[(1, 1)], []])
    c.2 = .ok ∧ calls.length = 2 ∧ c.1 = run (ctorInit false (some [(5, 6)])) calls ∧ c.1.weighted = true ∧
    nodes c.1 = [7, 1, 3, 2, 4, 5] ∧ getWeight c.1 (.ofLists [1, 3] [2]) = some 8 ∧
    nodeMeta c.1 7 = some [(2, 3)] ∧ edges (run c.1 [.removeNode 2 false]) .all false = some [] := by decide +kernel

/-- **Rejected constructor calls, characterised by the arguments alone** (no hypothesis at all).  The constructor raises
iff an `edge_list` is given and either the number of `weights` differs from the number of hyperedges or a non-empty
`edge_metadata` list is shorter than `edge_list`.  In particular the constructor's own `ValueError` (weighted, weights
given, lengths differ) is subsumed: with `weighted=False` the same arguments are refused by `add_edges`; the flag, the
hypergraph / node metadata and the hyperedges themselves never cause a rejection, and without `edge_list` every other
argument is ignored. -/
theorem C02_constructor_rejects (w : Bool) (hm : Option Meta) (nm : Option (List (Node × Meta)))
    (es : Option (List RawEdge)) (ws : Option (List Int)) (mds : Option (List Meta)) :
    ((ctor w hm nm es ws mds).2 = .rej ↔ ctorRejArgs es ws mds = true) ∧
    (ctorOwnRej w es ws = true → ctorRejArgs es ws mds = true) ∧
    (es = none → (ctor w hm nm es ws mds).2 = .ok) := by
  have h := ctor_rej_iff w hm nm es ws mds
  refine ⟨h, ?_, ?_⟩
  · intro ho
    cases es with
    | none => simp [ctorOwnRej] at ho
    | some el =>
      cases ws with
      | none => simp [ctorOwnRej] at ho
      | some l =>
        simp [ctorOwnRej] at ho
        simp [ctorRejArgs, ho.2]
  · intro he; subst he; rfl

/-- non-vacuity: three refused forms (too few weights on an unweighted object - the constructor's own test is skipped,
`add_edges` refuses; too many weights on a weighted one; `edge_metadata` too short) and two accepted degenerate ones
(no `edge_list`: weights ignored; empty `edge_metadata` list counts as not given) -/
example :
    (ctor false none none (some [⟨.nodes [1], .nodes [2]⟩, ⟨.nodes [2], .nodes [3]⟩]) (some [4]) none).2 = .rej ∧
    (ctor true none none (some [⟨.nodes [1], .nodes [2]⟩]) (some [4, 8]) none).2 = .rej ∧
    (ctor false none none (some [⟨.nodes [1], .nodes [2]⟩, ⟨.nodes [2], .nodes [3]⟩]) none (some [[]])).2 = .rej ∧
    (ctor true none none none (some [4, 8]) (some [[]])).2 = .ok ∧
    (ctor false none none (some [⟨.nodes [1], .nodes [2]⟩]) none (some [])).2 = .ok := by decide +kernel

/-- **Raw setters and `populate_from_dict ∘ expose_data_structures = id`** (EVERY store, reachable or not; every table).
`populate_from_dict(expose_data_structures())` gives back the same ten tables whatever the receiver was, and
`expose_data_structures()` after `populate_from_dict(d)` returns `d`: the two are mutually inverse.  `get_edge_list`
after `set_edge_list(x)` returns `x` and no other table moves; `get_adj_dict` after `set_adj_dict(x, 'source' | 'target')` returns
`x`, the OTHER adjacency table and the hyperedge table do not move (the remaining tables are not spoken of), and the abstract
object does not see `set_adj_dict(.., 'target')`; setter ∘ getter = id. -/
theorem C02_populate_expose (s : Store) (t : Tables) (el : List (Key × Nat)) (adj : Adj) (b : Bool) :
    populate (expose s) = s ∧ expose (populate t) = t ∧
    getEdgeList (setEdgeList s el) = el ∧ { setEdgeList s el with edgeList := s.edgeList } = s ∧
    setEdgeList s (getEdgeList s) = s ∧
    getAdjDict (setAdjDict s b adj) b = adj ∧ getAdjDict (setAdjDict s b adj) (!b) = getAdjDict s (!b) ∧
    setAdjDict s b (getAdjDict s b) = s ∧ (setAdjDict s b adj).edgeList = s.edgeList ∧
    abs (setAdjDict s false adj) = abs s := by
  refine ⟨populate_expose s, expose_populate t, rfl, by cases s; rfl, by cases s; rfl, ?_, ?_, ?_, ?_, ?_⟩
  · cases b <;> rfl
  · cases b <;> rfl
  · cases s; cases b <;> rfl
  · cases b <;> rfl
  · rfl

/-- **Echo histories.**  A history that mixes public calls (all `Op`s and `set_incidence_metadata`) with raw calls
(`set_edge_list`, `set_adj_dict`, `populate_from_dict`) each of which hands back what the matching getter returns at
that moment (`echoes`) ends in the state of its public calls alone - a `populate_from_dict(expose_data_structures())`
additionally EMPTIES the incidence table, because `expose_data_structures()` does not hand that table out (`forget`) -;
its ten tables are those of the run of its base calls, so (calls satisfying the quantifier) the invariant holds and the
abstraction is the abstract run: every theorem of this file applies to such histories. -/
theorem C02_raw_echo_history (w : Bool) (ops : List RawOp) (hops : ∀ o ∈ ops, o.WF)
    (he : echoes { base := { weighted := w } } ops = true) :
    rawRun { base := { weighted := w } } ops = pubRun { base := { weighted := w } } (pubOps ops) ∧
    (rawRun { base := { weighted := w } } ops).base = run { weighted := w } (baseOps ops) ∧
    Inv (rawRun { base := { weighted := w } } ops).base ∧
    abs (rawRun { base := { weighted := w } } ops).base = Spec.run { weighted := w } (baseOps ops) := by
  have h1 := rawRun_echo _ ops he
  have h2 := rawRun_base _ ops he
  have hw := baseOps_WF ops hops
  have q := abs_run { weighted := w } (baseOps ops) hw (inv_init w []) (ord_init w [])
  refine ⟨h1, h2, ?_, ?_⟩
  · rw [h2]; exact q.2.2.1
  · rw [h2]; exact q.1

/-- non-vacuity: all raw calls as echoes inside a history with an incidence entry; the populate forgets the entry, the
hyperedge and its weight stay; a NON-echo `set_adj_dict` breaks the tie (degree 0 on the tables, the hyperedge still listed) -/
example :
    let x0 : Full := { base := { weighted := true } }
    let s1 := (addEdge x0.base (.ofLists [2, 1] [3]) (some 8) none).1
    let ops : List RawOp := [.pub (.base (.addEdge (.ofLists [2, 1] [3]) (some 8) none)),
      .pub (.setInc (.ofLists [1, 2] [3]) 2 [(2, 3)]), .setEL s1.edgeList, .setAdj true s1.adjS, .setAdj false s1.adjT,
      .pop (expose s1), .pub (.base (.addNode 9 none))]
    echoes x0 ops = true ∧ (rawRun x0 ops).inc = [] ∧ (rawRun x0 (ops.take 5)).inc ≠ [] ∧
    getWeight (rawRun x0 ops).base (.ofLists [1, 2] [3]) = some 8 ∧ nodes (rawRun x0 ops).base = [1, 2, 3, 9] ∧
    echoes x0 (ops.take 3 ++ [.setAdj true []]) = false ∧
    degree (rawRun x0 (ops.take 3 ++ [.setAdj true []])).base 1 .all = none ∧
    edges (rawRun x0 (ops.take 3 ++ [.setAdj true []])).base .all false = some [([1, 2], [3])] := by decide +kernel

/-- **`get_mapping()` is a bijection nodes ↔ 0..n-1 in label order** (every reachable object).  `classes_` lists exactly
the nodes, each once, strictly increasing, as many as `num_nodes()`; it depends on the abstract object only; a label is
encoded iff it is a node (otherwise `transform` raises); the code of a node is its position in `classes_`
(`transform` / `inverse_transform` are mutually inverse), so a smaller label has a smaller code. -/
theorem C02_mapping (s : Store) (hr : Reachable s) :
    (mapping s).Pairwise (· < ·) ∧ (∀ n, n ∈ mapping s ↔ checkNode s n = true) ∧
    (mapping s).length = numNodes s ∧ mapping s = Spec.mapping (abs s) ∧
    (∀ n i, indexOf? s n = some i ↔ labelOf? s i = some n) ∧
    (∀ n, indexOf? s n = none ↔ checkNode s n = false) ∧
    (∀ n m i j, indexOf? s n = some i → indexOf? s m = some j → (n < m ↔ i < j)) := by
  obtain ⟨m1, m2, m3⟩ := mapping_props s (C02_inv s hr)
  have hiff : ∀ n i, indexOf? s n = some i ↔ labelOf? s i = some n := fun n i => by
    rw [indexOf?_eq]; exact idxOf?_eq_some_iff (NatSort.nodup_of_strict m1) n i
  refine ⟨m1, m2, m3, by unfold mapping Spec.mapping; rw [q_nodes], hiff, fun n => ?_,
    fun n m i j hn hm => NatSort.lt_iff_of_strict m1 ((hiff n i).mp hn) ((hiff m j).mp hm)⟩
  rw [indexOf?_eq, List.idxOf?_eq_none_iff, m2, Bool.not_eq_true]

/-- non-vacuity: the last object of the example history has nodes in non-sorted insertion order; the mapping sorts them -/
example : nodes exampleFinal ≠ mapping exampleFinal ∧ (mapping exampleFinal).length = numNodes exampleFinal ∧
    indexOf? exampleFinal ((mapping exampleFinal).getD 1 0) = some 1 ∧ indexOf? exampleFinal 1000 = none := by rw [exampleFinal, exampleHistory_run]; decide +kernel
