import Hgxv.Proofs.C14Gen
import Hgxv.Proofs.C14Trace
import Hgxv.Proofs.C14Hoad
import Hgxv.Proofs.C14Shuffle
import Hgxv.Proofs.C14Raw
import Hgxv.Proofs.C14Count
import Hgxv.Proofs.C14Pool
import Hgxv.Proofs.C14Meta
import Hgxv.Proofs.C14Seed
/-! # C14 — random generators honour their structural contracts and their seeds

Property theorems about the models `Hgxv/Model/C14.lean`, `C14Raw`, `C14Trace`, `C14Meta`, `C14Seed`.  Every statement is for ALL draws that satisfy the
sampler contracts (`IsSample`: `k` distinct members of the population - trusted base), hence for every seed and
every execution.  The notions the statements use beside the models are defined in the proof modules: `IsSample`, `GroupsOK`,
`RandomDrawsOK`, `SfDrawsOK` in `Proofs/C14Gen`; `WF`, `recAfter` in `C14Store`; `Equiv`, `keptList`, `ShuffleDrawsOK`, `ShuffleAllOK` in
`C14Shuffle`; `CallResultM.proj` in `C14Meta`. -/
open C14

/-- `random_hypergraph(n, req)` for every outcome of `random.sample`.  Hypotheses: `req` comes from a dict (distinct
sizes); the recorded groups hold at least `count` samples per size, each `size` distinct members of `range n`.
Conclusion: the call is accepted; nodes are exactly `0..n-1`; hyperedges are pairwise distinct, sorted, have distinct
nodes `< n` and a requested size (requested at least once); per size `count ≤ requested` and `≥ 1` when `requested ≥ 1`;
no hyperedge of a size that was not requested. -/
theorem C14_random (n : Nat) (req : List (Nat × Nat)) (groups : List (List (List Nat)))
    (hkeys : (req.map (·.1)).Nodup) (hdraws : RandomDrawsOK n req groups) :
    randomHypergraph? n req groups = some (randomHypergraph n req groups) ∧
    (randomHypergraph n req groups).nodes = List.range n ∧
    (randomHypergraph n req groups).weighted = false ∧
    (keys (randomHypergraph n req groups)).Nodup ∧
    (∀ e ∈ keys (randomHypergraph n req groups),
      (∃ sc ∈ req, e.length = sc.1 ∧ 0 < sc.2) ∧ e.Nodup ∧ (∀ x ∈ e, x < n) ∧ sortE e = e) ∧
    (∀ sc ∈ req, countSize (randomHypergraph n req groups) sc.1 ≤ sc.2 ∧
      (1 ≤ sc.2 → 1 ≤ countSize (randomHypergraph n req groups) sc.1)) ∧
    (∀ s, s ∉ req.map (·.1) → countSize (randomHypergraph n req groups) s = 0) := by
  have hadm : admissible n req = true := by
    apply admissible_of_groups n _ _ req groups hdraws
    intro s c g ⟨hlen, hs⟩ hc
    cases g with
    | nil => simp at hlen; omega
    | cons d g => exact (hs d (by cases c with | zero => omega | succ c => simp)).size_le.trans_eq List.length_range
  exact ⟨by simp [randomHypergraph?, hadm],
    genLoop_range sizeEdges n (fun c m => m ≤ c ∧ (1 ≤ c → 1 ≤ m))
      (fun s c g => c ≤ g.length ∧ ∀ d ∈ g.take c, IsSample (List.range n) s d)
      (fun s c g hq => sizeEdges_ok _ s c g hq.2) (fun s c g hq => sizeEdges_bound c g hq.1) req groups hdraws hkeys rfl⟩

/-- `random_uniform_hypergraph(n, size, count)`: the same guarantees for the single requested size -/
theorem C14_random_uniform (n size count : Nat) (group : List (List Nat))
    (hlen : count ≤ group.length) (hdraws : ∀ d ∈ group.take count, IsSample (List.range n) size d) :
    (randomUniform n size count group).nodes = List.range n ∧
    (∀ e ∈ keys (randomUniform n size count group), e.length = size ∧ e.Nodup ∧ (∀ x ∈ e, x < n)) ∧
    countSize (randomUniform n size count group) size ≤ count ∧
    (1 ≤ count → 1 ≤ countSize (randomUniform n size count group) size) := by
  have h := C14_random n [(size, count)] [group] (by simp) (by simp [RandomDrawsOK, GroupsOK]; exact ⟨hlen, hdraws⟩)
  refine ⟨h.2.1, ?_, ?_⟩
  · intro e he
    obtain ⟨⟨sc, hsc, hl, _⟩, h2, h3, _⟩ := h.2.2.2.2.1 e he
    simp at hsc; subst hsc; exact ⟨hl, h2, h3⟩
  · exact h.2.2.2.2.2.1 (size, count) (by simp)

/-- non-vacuity: a concrete request whose third sample repeats the first one -/
example : RandomDrawsOK 5 [(2, 3), (3, 1)] [[[4, 1], [0, 2], [1, 4]], [[3, 0, 2]]] ∧
    keys (randomHypergraph 5 [(2, 3), (3, 1)] [[[4, 1], [0, 2], [1, 4]], [[3, 0, 2]]]) = [[1, 4], [0, 2], [0, 2, 3]] := by
  refine ⟨?_, by decide⟩
  simp only [RandomDrawsOK, GroupsOK, IsSample]
  decide

/-- `scale_free_hypergraph` (repaired, D26) for every outcome of the exponential draws, the swaps and
`np.random.choice`.  Hypotheses: the arguments pass the validation; `edges_by_size` is a dict (distinct sizes, one count per
size); the recorded groups belong to a run that returned (`SfDrawsOK`).  Conclusion: the call is accepted; nodes are
exactly `0..n-1`; exactly the requested number of pairwise distinct hyperedges per size, each with distinct nodes `< n`;
nothing of another size. -/
theorem C14_scale_free (n : Nat) (sizes : List Nat) (counts : List Int) (scaleKeys : List Nat) (correlated : Bool)
    (corr : Option Rat) (shuffles : Int) (groups : List (List (List Nat)))
    (hvalid : sfValid sizes counts scaleKeys correlated corr shuffles = true)
    (hkeys : sizes.Nodup) (hlen : counts.length = sizes.length)
    (hdraws : SfDrawsOK n (sizes.zip (counts.map Int.toNat)) groups) :
    ∃ h, scaleFree n sizes counts scaleKeys correlated corr shuffles groups = some h ∧
      h.nodes = List.range n ∧ (keys h).Nodup ∧
      (∀ sc ∈ sizes.zip (counts.map Int.toNat), countSize h sc.1 = sc.2) ∧
      (∀ s, s ∉ sizes → countSize h s = 0) ∧
      (∀ e ∈ keys h, e.length ∈ sizes ∧ e.Nodup ∧ (∀ x ∈ e, x < n)) := by
  have hmap : (sizes.zip (counts.map Int.toNat)).map (·.1) = sizes := by
    apply List.map_fst_zip; simp [hlen]
  have hadm : admissible n (sizes.zip (counts.map Int.toNat)) = true := by
    apply admissible_of_groups n _ _ _ groups hdraws
    intro s c g ⟨hs, hcons⟩ hc
    obtain ⟨d, hd⟩ := List.exists_mem_of_ne_nil g (consumedExactly_pos hcons hc)
    exact (hs d hd).size_le.trans_eq List.length_range
  obtain ⟨h1, _, h3, h4, h5, h6⟩ := genLoop_range (fun c g => collect c [] g) n (fun c m => m = c)
    (fun s c g => (∀ d ∈ g, IsSample (List.range n) s d) ∧ consumedExactly c [] g = true)
    (fun s c g hq => collect_ok _ s c g hq.1)
    (fun s c g hq => collect_length c g [] hq.2 (by simp))
    (sizes.zip (counts.map Int.toNat)) groups hdraws (by rw [hmap]; exact hkeys) rfl
  refine ⟨_, by simp only [scaleFree, hvalid, hadm, Bool.and_self, if_true]; rfl, h1, h3, h5, ?_, fun e he => ?_⟩
  · rwa [hmap] at h6
  · obtain ⟨⟨sc, hsc, hl, _⟩, h2, h3, _⟩ := h4 e he
    exact ⟨by rw [hl, ← hmap]; exact List.mem_map_of_mem (f := (·.1)) hsc, h2, h3⟩

/-- the default arguments (`correlated=True, corr_target=None, num_shuffles=0`) are accepted whenever every size has a
scale and every count is non-negative: the repaired validation does not compare `None` with a number (D26) -/
theorem C14_scale_free_defaults (sizes : List Nat) (counts : List Int) (hc : ∀ c ∈ counts, 0 ≤ c) :
    sfValid sizes counts sizes true none 0 = true := by
  simp only [sfValid]
  simp only [bne_self_eq_false, Bool.false_and, Bool.not_false, Bool.true_and, Option.isSome_none, Bool.and_true,
    Bool.and_eq_true, List.all_eq_true, List.contains_iff_mem, imp_self, implies_true,
    Bool.not_eq_true', decide_eq_false_iff_not, Int.not_lt]
  refine ⟨by decide, hc⟩

/-- non-vacuity: a returning run whose second choice repeats the first hyperedge -/
example : SfDrawsOK 4 [(2, 2)] [[[3, 1], [1, 3], [0, 2]]] ∧
    (scaleFree 4 [2] [2] [2] true none 0 [[[3, 1], [1, 3], [0, 2]]]).map keys = some [[1, 3], [0, 2]] := by
  refine ⟨?_, by decide⟩
  simp only [SfDrawsOK, GroupsOK, IsSample]
  decide

/-- `random_hypergraph(n, req, seed)` with a seed: the output is a function of `(n, req, seed)` and the generator
algorithm alone - it does not depend on the ambient state `w` of any random source.  (All draws of the program come from
the source it seeded; compare `shuffleIndicesM` below, where this fails.) -/
theorem C14_seeded {σ : Type} (g : RNG σ) (n : Nat) (req : List (Nat × Nat)) (seed : Nat) (w w' : World σ) :
    (randomHypergraphM g n req (some seed) w).1 = (randomHypergraphM g n req (some seed) w').1 ∧
    (randomHypergraphM g n req (some seed) w).1 =
      randomHypergraph n req (groupsOf g (List.range n) req (g.seed seed)) ∧
    ∀ size count, (randomUniformM g n size count (some seed) w).1 = (randomUniformM g n size count (some seed) w').1 := by
  refine ⟨rfl, ?_, fun _ _ => rfl⟩
  simp only [randomHypergraphM, seedPy, randomHypergraph]
  exact randomLoopS_eq g _ req _ _

/-- without a seed the output is the same pure function of the draws taken from the ambient `random` state -/
theorem C14_unseeded {σ : Type} (g : RNG σ) (n : Nat) (req : List (Nat × Nat)) (w : World σ) :
    (randomHypergraphM g n req none w).1 = randomHypergraph n req (groupsOf g (List.range n) req w.py) := by
  simp only [randomHypergraphM, seedPy, randomHypergraph]
  exact randomLoopS_eq g _ req _ _

/-- the statement has teeth: `random_shuffle` seeds `np.random` but draws its indices from `random`; for that program
ambient independence is FALSE (toy generator: the state is a counter, a sample is `[state % 3]`).  The property does not
claim seed reproducibility for `random_shuffle`. -/
example : ∃ (g : RNG Nat) (w w' : World Nat),
    (shuffleIndicesM g 3 1 (some 7) w).1 ≠ (shuffleIndicesM g 3 1 (some 7) w').1 :=
  ⟨{ seed := fun s => s, sample := fun st _ _ => ([st % 3], st + 1) }, ⟨0, 0⟩, ⟨1, 0⟩, by decide⟩

/-- `HOADmodel(N, activities_per_order, time)` for every outcome of the coins and samples and for activity vectors of
ANY length (no hypothesis on the arguments).  `hoad .. = .done out` says that the call returned on a recording that
follows the pattern `random() [sample]` and in which every sample satisfies the contract of
`random.sample(range(N), order)` (`sampleOK`); the correspondence check shows that real runs are of this kind.
Conclusion: the records are pairwise distinct; each has a time in `[0, time)`, and for some order of the dict size
`order + 1`, distinct nodes, all below `N`. -/
theorem C14_hoad (N time : Nat) (acts : List (Nat × List Rat)) (draws : List HoadDraw) (out : List (Nat × Edge))
    (h : hoad N time acts draws = .done out) :
    out.Nodup ∧ ∀ r ∈ out, r.1 < time ∧ ∃ oa ∈ acts, r.2.length = oa.1 + 1 ∧ r.2.Nodup ∧ ∀ x ∈ r.2, x < N := by
  obtain ⟨o, ho, rfl⟩ := hoad_eq_done h
  exact ⟨nodup_dedup _, fun r hr => hoadOrders_spec ho r (mem_dedup.mp hr)⟩

/-- the nodes that can fire are `0..N-1`, whatever the length of the activity vectors: the entries of a vector beyond
position `N` are never read - the run on the vectors cut to their first `N` entries is the same run (same outcome
`done`/`raised`/`stuck`, same records) on every recording -/
theorem C14_hoad_surplus (N time : Nat) (acts : List (Nat × List Rat)) (draws : List HoadDraw) :
    hoad N time (acts.map (fun oa => (oa.1, oa.2.take N))) draws = hoad N time acts draws := by
  simp only [hoad, hoadOrders_take]

/-- an activity vector shorter than `N` never yields a result when at least one time step is simulated (the real
routine raises `IndexError` at `act_vect[node_i]`) -/
theorem C14_hoad_short (N time : Nat) (acts : List (Nat × List Rat)) (draws : List HoadDraw) (ht : 0 < time)
    (hex : ∃ oa ∈ acts, oa.2.length < N) : ∀ out, hoad N time acts draws ≠ .done out := by
  intro out h
  obtain ⟨o, ho, _⟩ := hoad_eq_done h
  exact hoadOrders_short N time ht acts draws hex _ ho

/-- vectors with at least `N` entries and orders `≤ N` (the admissible arguments): the routine never raises -/
theorem C14_hoad_no_raise (N time : Nat) (acts : List (Nat × List Rat)) (draws : List HoadDraw)
    (hall : ∀ oa ∈ acts, N ≤ oa.2.length ∧ oa.1 ≤ N) : ∀ r, hoad N time acts draws ≠ .raised r := by
  exact fun r h => hoadOrders_no_raise N time acts draws hall _ (hoad_eq_raised h)

/-- non-vacuity (activities and coins are quarters): node 0 is activated and samples node 2; node 1 is activated but
samples itself (dropped); node 2 is not activated -/
example : hoad 3 1 [(1, [3/4, 3/4, 1/4])]
    [⟨1/4, true, [2]⟩, ⟨1/2, true, [1]⟩, ⟨1/2, false, []⟩] = .done [(0, [0, 2])] := by decide +kernel

/-- the same run with a vector of five entries (the seeded change C14-c2 let nodes 3 and 4 fire here): three coins are
consumed, not five, and no record contains a node `≥ 3` -/
example : hoad 3 1 [(1, [3/4, 3/4, 1/4, 1, 1])]
    [⟨1/4, true, [2]⟩, ⟨1/2, true, [1]⟩, ⟨1/2, false, []⟩] = .done [(0, [0, 2])] := by decide +kernel

/-- a vector of two entries for `N = 3`: the call raises after the coins of nodes 0 and 1 -/
example : hoad 3 1 [(1, [3/4, 1/4])] [⟨1/4, true, [2]⟩, ⟨1/2, false, []⟩] = .raised [] := by decide +kernel

/-- order 3 with `N = 2`: the first activated node makes `random.sample(range(2), 3)` raise -/
example : hoad 2 1 [(3, [1/4, 3/4])] [⟨1/2, false, []⟩, ⟨1/2, false, []⟩] = .raised [] := by decide +kernel

/-- how a call hands back its result: `inplace=False` leaves the argument as it was and returns the new object,
`inplace=True` changes the argument and returns nothing -/
theorem C14_inplace (h h' : HG) :
    (finish false h h').arg = h ∧ (finish false h h').ret = some h' ∧
    (finish true h h').arg = h' ∧ (finish true h h').ret = none := by
  simp [finish]

/-- the same at the level of OBJECTS (`finishObj`, `finishObjAll`: `h = hg if inplace else hg.copy()`).  Hypothesis: the
argument is a live object `a` with content `h`.  With `inplace=False` the returned object is a different, new object
(not the argument, not any object that existed before), the argument keeps its content, the result carries `h'`, and
WHATEVER is written into the returned object afterwards (`x`: a later in-place shuffle, `add_edge`, ...) the argument
still has its content; every other object is untouched too.  With `inplace=True` the argument carries `h'`. -/
theorem C14_inplace_objects (H : Heap) (a : Nat) (h h' : HG) (ha : AL.get? H a = some h) :
    (∃ r, (finishObj H a false h').2 = some r ∧ (finishObjAll H a false h').2 = some r ∧
      finishObjAll H a false h' = finishObj H a false h' ∧
      r ≠ a ∧ AL.get? H r = none ∧
      AL.get? (finishObj H a false h').1 a = some h ∧ AL.get? (finishObj H a false h').1 r = some h' ∧
      (∀ b, b ≠ r → AL.get? (finishObj H a false h').1 b = AL.get? H b) ∧
      (∀ x b, b ≠ r → AL.get? (AL.set (finishObj H a false h').1 r x) b = AL.get? H b) ∧
      (∀ x, AL.get? (AL.set (finishObj H a false h').1 r x) a = some h)) ∧
    (finishObj H a true h').2 = none ∧ AL.get? (finishObj H a true h').1 a = some h' ∧
    (finishObjAll H a true h').2 = some a ∧ AL.get? (finishObjAll H a true h').1 a = some h' := by
  have hne : freshId H ≠ a := fresh_ne ha
  refine ⟨⟨freshId H, by simp [finishObj], by simp [finishObjAll], by simp [finishObj, finishObjAll], hne,
    get?_fresh H, (get?_foldl_set_ne _ a hne.symm [h'] H).trans ha, by simp [finishObj],
    fun b hb => get?_foldl_set_ne _ b hb [h'] H, fun x b hb => get?_foldl_set_ne _ b hb [h', x] H,
    fun x => (get?_foldl_set_ne _ a hne.symm [h', x] H).trans ha⟩,
    by simp [finishObj], by simp [finishObj], by simp [finishObjAll], by simp [finishObjAll]⟩

/-- non-vacuity: two live objects 3 and 7; the call on object 3 with `inplace=False` returns the new object 8 -/
example : (finishObj [(3, ⟨false, [0, 1], [([0, 1], (1, 0))]⟩), (7, {})] 3 false ⟨false, [0, 1], []⟩).2 = some 8 ∧
    AL.get? (finishObj [(3, ⟨false, [0, 1], [([0, 1], (1, 0))]⟩), (7, {})] 3 false ⟨false, [0, 1], []⟩).1 3
      = some ⟨false, [0, 1], [([0, 1], (1, 0))]⟩ := by decide

/-- `add_random_edge` for every outcome of `random.sample(nodes, size)`.  Hypotheses: the class invariants `WF`;
exactly one of `order`/`size`; the sample contract.  Conclusion (for the object `h'` that carries the result, see
`C14_inplace`): node list and weighted flag unchanged; the only key that may be new is the sorted sample, which has the
requested size and distinct existing nodes; every other hyperedge keeps its weight and metadata; the sampled hyperedge
itself follows `add_edge` (`recAfter`). -/
theorem C14_add_random (h : HG) (wf : WF h) (order size : Option Nat) (inplace : Bool) (s : Nat)
    (hs : resolveSize order size = some s) (draw : List Nat) (hd : IsSample h.nodes s draw) :
    ∃ h', addRandomEdge h order size inplace draw = some (finish inplace h h') ∧
      h'.nodes = h.nodes ∧ h'.weighted = h.weighted ∧ WF h' ∧
      keys h' = insNew (keys h) (sortE draw) ∧
      (sortE draw).length = s ∧ (sortE draw).Nodup ∧ (∀ x ∈ sortE draw, x ∈ h.nodes) ∧
      (∀ k, k ≠ sortE draw → AL.get? h'.edges k = AL.get? h.edges k) ∧
      AL.get? h'.edges (sortE draw) = some (recAfter h (sortE draw) 1 0) := by
  have hle := hd.size_le
  obtain ⟨h1, h2, h3⟩ := hd
  refine ⟨addEdge h draw 1 0, by simp [addRandomEdge, hs, hle], nodes_addEdge_of_subset _ _ _ _ h3, by simp,
    wf.addEdge draw 1 0 h3, keys_addEdge _ _ _ _, by simp [h2], by simpa using h1,
    fun x hx => h3 x (by simpa using hx), ?_, get?_addEdge_self _ _ _ _⟩
  intro k hk
  exact get?_addEdge_ne _ _ _ _ _ (Ne.symm hk)

/-- `add_random_edges(hg, k, ..)` for every outcome of the samples of a run that returned.  Conclusion: node list and
flag unchanged; the new keys are exactly the `k` pairwise distinct collected hyperedges, each of the requested size
over distinct existing nodes; every hyperedge that was not drawn keeps its weight and metadata. -/
theorem C14_add_random_edges (h : HG) (wf : WF h) (k : Nat) (order size : Option Nat) (inplace : Bool) (s : Nat)
    (hs : resolveSize order size = some s) (draws : List (List Nat)) (hd : ∀ d ∈ draws, IsSample h.nodes s d)
    (hret : consumedExactly k [] draws = true) :
    ∃ h', addRandomEdges h k order size inplace draws = some (finish inplace h h') ∧
      h'.nodes = h.nodes ∧ h'.weighted = h.weighted ∧ WF h' ∧
      (∀ e, e ∈ keys h' ↔ e ∈ keys h ∨ e ∈ collect k [] draws) ∧
      (collect k [] draws).Nodup ∧ (collect k [] draws).length = k ∧
      (∀ e ∈ collect k [] draws, e.length = s ∧ e.Nodup ∧ ∀ x ∈ e, x ∈ h.nodes) ∧
      (∀ e, e ∉ collect k [] draws → AL.get? h'.edges e = AL.get? h.edges e) := by
  have hc := collect_ok h.nodes s k draws hd
  have hacc := consumedExactly_admissible hd hret
  obtain ⟨A, hkeys⟩ := addEdges_out h (collect k [] draws) fun e he => ⟨(hc.2 e he).2.2.1, (hc.2 e he).2.2.2.1⟩
  refine ⟨addEdges h (collect k [] draws), by simp [addRandomEdges, hs, hacc], A.nodes, A.weighted, A.wf wf,
    fun e => by rw [hkeys, mem_insAll], hc.1, collect_length k draws [] hret (by simp),
    fun e he => ⟨(hc.2 e he).1, (hc.2 e he).2.1, (hc.2 e he).2.2.1⟩, fun e he => A.other e ?_⟩
  intro t ht hte
  obtain ⟨e', he', rfl⟩ := List.mem_map.mp ht
  exact he (hte ▸ ((hc.2 e' he').2.2.2.1).symm ▸ he')

/-- non-vacuity: a weighted hypergraph, the sample re-draws the existing hyperedge `[1,2]` (weight 5 -> 6, metadata
reset), the hyperedge `[0,1,2]` is untouched -/
example : (addRandomEdge ⟨true, [0, 1, 2], [([1, 2], (5, 7)), ([0, 1, 2], (2, 3))]⟩ none (some 2) true [2, 1]).map
    (fun r => r.arg.edges) = some [([1, 2], (6, 0)), ([0, 1, 2], (2, 3))] := by decide

/-- `random_shuffle` (repaired, D27) for every outcome of the index sample and of the choices.  Hypotheses: class
invariants; exactly one of `order`/`size`; `0 ≤ p = pn/pd ≤ 1`; `random.sample(range(m), k)` returned `k = int(p*m)`
indices; every `np.random.choice` returned `s` distinct members of the pool (`ShuffleDrawsOK`).  Conclusion for the
object `h'` carrying the result (`C14_inplace`: with `inplace=False` the argument stays `h`):
node list and flag kept; hyperedges of other sizes keep weight and metadata and none appears or disappears; every
hyperedge of the result has size `s` or is such an untouched one (sizes of rewired hyperedges are kept); a size-`s`
hyperedge is one that was not selected (`keptList`) or has distinct nodes all taken from the selected (rewired) hyperedges; and for
`p = 0` the result has the same records (weights and metadata included) as the argument. -/
theorem C14_shuffle (h : HG) (wf : WF h) (order size : Option Nat) (inplace : Bool) (pn : Int) (pd s : Nat)
    (hs : resolveSize order size = some s) (hp : 0 ≤ pn ∧ pn ≤ pd)
    (idx : List Nat) (choices : List (List Nat))
    (hidx : idx.length = numToRandomize pn.toNat pd (edgesOfSize h s).length)
    (hd : ShuffleDrawsOK h s idx choices) :
    ∃ h', randomShuffle h order size inplace pn pd idx choices = some (finish inplace h h') ∧
      WF h' ∧ h'.nodes = h.nodes ∧ h'.weighted = h.weighted ∧
      (∀ k : Edge, k.length ≠ s → AL.get? h'.edges k = AL.get? h.edges k) ∧
      (∀ k ∈ keys h', k.length = s ∨ (k ∈ keys h ∧ k.length ≠ s)) ∧
      (∀ k ∈ keys h', k.length = s →
        (∃ t ∈ keptList idx (edgesOfSize h s) 0, k = t.1) ∨
        (k.Nodup ∧ ∀ x ∈ k, ∃ j ∈ idx, ∃ e, ((edgesOfSize h s)[j]?).map (·.1) = some e ∧ x ∈ e)) ∧
      (pn = 0 → Equiv h' h ∧ ∀ k, AL.get? h'.edges k = AL.get? h.edges k) := by
  have hspec := shuffleCore_spec h wf s idx choices hd
  refine ⟨shuffleCore h s idx choices, by simp [randomShuffle, hs, hp], hspec.wf, hspec.nodes, hspec.weighted,
    hspec.other, hspec.sizes, ?_, ?_⟩
  · intro k hk hl
    rcases hspec.fromPool k hk hl with h1 | ⟨h1, h2⟩
    · exact Or.inl h1
    · refine Or.inr ⟨h1, ?_⟩
      intro x hx
      obtain ⟨e, he, hxe⟩ := h2 x hx
      obtain ⟨j, hj, hc⟩ := (mem_selected_iff _ _ 0 e).mp he
      exact ⟨j, by simpa using hj, e, hc, hxe⟩
  · intro h0
    subst h0
    have : idx = [] := by
      apply List.eq_nil_of_length_eq_zero
      rw [hidx]; simp [numToRandomize]
    subst this
    have e := shuffleCore_p0 h wf s choices
    exact ⟨e, fun k => e.get? hspec.wf k⟩

/-- `random_shuffle_all_orders`: the same per-size step for every size of the hypergraph, in any iteration order.
Node list and flag kept, class invariants kept, hyperedges whose size is not shuffled untouched, no hyperedge of a new
size; `p = 0` (no index drawn at any size) changes no record; `inplace=False` leaves the argument as it was. -/
theorem C14_shuffle_all (h : HG) (wf : WF h) (inplace : Bool) (pn : Int) (pd : Nat) (hp : 0 ≤ pn ∧ pn ≤ pd)
    (sizes : List Nat) (draws : List (List Nat × List (List Nat))) (hd : ShuffleAllOK h sizes draws) :
    ∃ h', randomShuffleAll h inplace pn pd sizes draws = some ⟨if inplace then h' else h, some h'⟩ ∧
      WF h' ∧ h'.nodes = h.nodes ∧ h'.weighted = h.weighted ∧
      (∀ k : Edge, k.length ∉ sizes → AL.get? h'.edges k = AL.get? h.edges k) ∧
      (∀ k ∈ keys h', k ∈ keys h ∨ k.length ∈ sizes) ∧
      ((∀ d ∈ draws, d.1 = []) → Equiv h' h ∧ ∀ k, AL.get? h'.edges k = AL.get? h.edges k) := by
  obtain ⟨h1, h2, h3, h4, h5⟩ := shuffleAllLoop_spec sizes draws h wf hd
  refine ⟨shuffleAllLoop h sizes draws, ?_, h1, h2, h3, h4, h5, ?_⟩
  · simp only [randomShuffleAll, hp, and_self, if_true]
    cases inplace <;> simp
  · intro hnil
    have e := shuffleAllLoop_p0 sizes draws h wf hnil
    exact ⟨e, fun k => e.get? h1 k⟩

/-- non-vacuity for `C14_shuffle`: weighted hypergraph with metadata; index 0 is selected, the choice `[1,0]` comes from
the pool `[0,1]`; `[1,2]` keeps (3,2) and the size-3 hyperedge keeps (4,3) -/
example : ShuffleDrawsOK ⟨true, [0, 1, 2, 3], [([0, 1], (2, 1)), ([1, 2], (3, 2)), ([1, 2, 3], (4, 3))]⟩ 2 [0] [[1, 0]] ∧
    (shuffleCore ⟨true, [0, 1, 2, 3], [([0, 1], (2, 1)), ([1, 2], (3, 2)), ([1, 2, 3], (4, 3))]⟩ 2 [0] [[1, 0]]).edges
      = [([1, 2, 3], (4, 3)), ([0, 1], (1, 0)), ([1, 2], (3, 2))] := by
  refine ⟨?_, by decide⟩
  intro c hc
  simp only [List.mem_singleton] at hc
  subst hc
  simp only [IsSample]
  decide

/-- non-vacuity for `p = 0`: the unrepaired routine returned weights 1 and metadata `{}` here (D27) -/
example : (shuffleCore ⟨true, [0, 1, 2, 3], [([0, 1], (2, 1)), ([1, 2], (3, 2)), ([1, 2, 3], (4, 3))]⟩ 2 [] []).edges
    = [([1, 2, 3], (4, 3)), ([0, 1], (2, 1)), ([1, 2], (3, 2))] := by decide

/-- witness of D27 in the model of the routine as it was before the repair: `p = 0` on the same weighted hypergraph
resets the weights of the size-2 hyperedges to 1 and their metadata to `{}` -/
example : (shuffleCoreUnrepaired ⟨true, [0, 1, 2, 3], [([0, 1], (2, 1)), ([1, 2], (3, 2)), ([1, 2, 3], (4, 3))]⟩ 2 [] []).edges
    = [([1, 2, 3], (4, 3)), ([0, 1], (1, 0)), ([1, 2], (1, 0))] := by decide

/-- the class invariants hold for the weighted example hypergraph used above -/
example : WF ⟨true, [0, 1, 2, 3], [([0, 1], (2, 1)), ([1, 2], (3, 2)), ([1, 2, 3], (4, 3))]⟩ :=
  ⟨by decide, by decide, by decide, by decide⟩

/-- `C14_seeded` on a toy generator (state = counter, a sample = the first `k` members of the population rotated by the
state): seed 1, two different ambient worlds, the same non-trivial hypergraph -/
example :
    (randomHypergraphM ⟨fun s => s, fun st pop k => ((pop.rotateLeft st).take k, st + 1)⟩ 4 [(2, 3)] (some 1) ⟨0, 0⟩).1.edges
      = [([1, 2], (1, 0)), ([2, 3], (1, 0)), ([0, 3], (1, 0))] ∧
    (randomHypergraphM ⟨fun s => s, fun st pop k => ((pop.rotateLeft st).take k, st + 1)⟩ 4 [(2, 3)] (some 1) ⟨5, 9⟩).1.edges
      = [([1, 2], (1, 0)), ([2, 3], (1, 0)), ([0, 3], (1, 0))] ∧
    (randomHypergraphM ⟨fun s => s, fun st pop k => ((pop.rotateLeft st).take k, st + 1)⟩ 4 [(2, 3)] none ⟨6, 9⟩).1.edges
      ≠ [([1, 2], (1, 0)), ([2, 3], (1, 0)), ([0, 3], (1, 0))] := by decide

/-- `C14_add_random_edges`: three samples, the second repeats the first hyperedge, so the loop needs all three to reach
`k = 2`; the existing hyperedge `[0,1]` (weight 5, metadata 7) is untouched -/
example : consumedExactly 2 [] [[2, 1], [1, 2], [0, 3]] = true ∧
    (addRandomEdges ⟨true, [0, 1, 2, 3], [([0, 1], (5, 7))]⟩ 2 (some 1) none false [[2, 1], [1, 2], [0, 3]]).map
      (fun r => (r.arg.edges, r.ret.map (·.edges)))
      = some ([([0, 1], (5, 7))], some [([0, 1], (5, 7)), ([1, 2], (1, 0)), ([0, 3], (1, 0))]) := by decide

/-- `C14_shuffle_all`: sizes 2 and 3; at size 2 position 1 is rewired (choice from the pool `[1,2]`), at size 3 nothing is
selected; the draws satisfy `ShuffleAllOK` -/
example : ShuffleAllOK ⟨true, [0, 1, 2, 3], [([0, 1], (2, 1)), ([1, 2], (3, 2)), ([1, 2, 3], (4, 3))]⟩ [2, 3]
      [([1], [[2, 1]]), ([], [])] ∧
    (randomShuffleAll ⟨true, [0, 1, 2, 3], [([0, 1], (2, 1)), ([1, 2], (3, 2)), ([1, 2, 3], (4, 3))]⟩ false 1 2 [2, 3]
      [([1], [[2, 1]]), ([], [])]).map (fun r => r.ret.map (·.edges))
      = some (some [([0, 1], (2, 1)), ([1, 2], (1, 0)), ([1, 2, 3], (4, 3))]) := by
  refine ⟨?_, by decide⟩
  simp only [ShuffleAllOK, ShuffleDrawsOK, IsSample, and_true]
  refine ⟨?_, ?_⟩
  · intro c hc
    simp only [List.mem_singleton] at hc
    subst hc
    decide
  · intro c hc; simp at hc

/-! The requested numbers reach the routines as Python objects (`Num`: int / bool / real of any type / text).  The theorems
above speak about the numbers the routines WORK WITH; the ones below say which numbers these are. -/

/-- The two conversions the generators apply to a requested number.  `loopCount x = k` is the exit point of
`while len(acc) < x` under Python's own exact comparison: the test holds at every length below `k` and fails at `k`;
it has no value exactly when the test raises (a `str`).  `int(x)` of a non-negative real is its floor.  The two differ by
at most one and agree exactly on integral values - for `3.7` they are 3 and 4. -/
theorem C14_count_conversions (x : Num) :
    (∀ k, x.loopCount = some k → (∀ j, j < k → x.natLt j = some true) ∧ x.natLt k = some false) ∧
    (x.loopCount = none ↔ ∀ j, x.natLt j = none) ∧
    (∀ n d k c, x = .real n d → 0 ≤ n → x.toInt = some k → x.loopCount = some c →
      k * ((d : Int) + 1) ≤ n ∧ n < (k + 1) * ((d : Int) + 1) ∧ k ≤ c ∧ (c : Int) ≤ k + 1 ∧
      (n = k * ((d : Int) + 1) → (c : Int) = k)) := by
  refine ⟨fun k h => Num.loopCount_spec x k h, Num.loopCount_none x, ?_⟩
  intro n d k c hx hn hk hc
  subst hx
  obtain ⟨_, h1, h2⟩ := Num.toInt_real_floor n d k hn hk
  obtain ⟨h3, h4, h5⟩ := Num.toInt_le_loopCount n d k c hn hk hc
  exact ⟨h1, h2, h3, h4, h5⟩

/-- with integer `n`, sizes and `num_shuffles` the routine on the caller's raw counts IS the routine on `int(count)` -/
theorem scaleFreeRaw_int (n : Nat) (sizes : List Nat) (counts : List Num) (cs : List Int) (scaleKeys : List Nat)
    (correlated : Bool) (corr : Option Rat) (shuffles : Int) (groups : List (List (List Nat)))
    (hconv : optAll Num.toInt counts = some cs) :
    scaleFreeRaw (Num.ofNat n) (sizes.map Num.ofNat) counts scaleKeys correlated corr (.int shuffles) groups =
      scaleFree n sizes cs scaleKeys correlated corr shuffles groups := by
  have h1 : optAll Num.natValue (sizes.map Num.ofNat) = some sizes :=
    optAll_map_some Num.natValue Num.ofNat Num.natValue_ofNat sizes
  have h2 : (sizes.map Num.ofNat).map (Num.choiceK n) = sizes := by
    simp [Function.comp_def, Num.choiceK_ofNat]
  have h3 : (if (sizes.map Num.ofNat).isEmpty then (Num.ofNat n).index
      else (Num.ofNat n).npSize) = some (n : Int) := by
    split <;> rfl
  unfold scaleFreeRaw
  rw [h3]
  simp only [h1, hconv, shufflesArg, Num.index, Int.toNat_natCast, h2, scaleFree]
  simp

/-- `scale_free_hypergraph` returns exactly `int(count)` distinct hyperedges per size WHATEVER THE VALUE TYPE of the
requested numbers (`3.7` and `"3"` mean 3, `True` means 1): hypotheses and conclusion of `C14_scale_free` with
`cs = [int(c) for c in counts]`; a count whose conversion raises, or is negative, is refused. -/
theorem C14_scale_free_counts (n : Nat) (sizes : List Nat) (counts : List Num) (cs : List Int) (scaleKeys : List Nat)
    (correlated : Bool) (corr : Option Rat) (shuffles : Int) (groups : List (List (List Nat)))
    (hconv : optAll Num.toInt counts = some cs)
    (hvalid : sfValid sizes cs scaleKeys correlated corr shuffles = true)
    (hkeys : sizes.Nodup) (hlen : counts.length = sizes.length)
    (hdraws : SfDrawsOK n (sizes.zip (cs.map Int.toNat)) groups) :
    (∀ p ∈ counts.zip cs, p.1.toInt = some p.2 ∧ 0 ≤ p.2) ∧
    ∃ h, scaleFreeRaw (Num.ofNat n) (sizes.map Num.ofNat) counts scaleKeys correlated corr (.int shuffles)
          groups = some h ∧
      h.nodes = List.range n ∧ (keys h).Nodup ∧
      (∀ sc ∈ sizes.zip (cs.map Int.toNat), countSize h sc.1 = sc.2) ∧
      (∀ s, s ∉ sizes → countSize h s = 0) ∧
      (∀ e ∈ keys h, e.length ∈ sizes ∧ e.Nodup ∧ (∀ x ∈ e, x < n)) := by
  have hl : cs.length = sizes.length := (optAll_spec _ _ _ hconv).1.trans hlen
  refine ⟨?_, ?_⟩
  · intro p hp
    refine ⟨(optAll_spec _ _ _ hconv).2 p hp, ?_⟩
    have hc : cs.all (fun c => !(c < 0)) = true := by
      simp only [sfValid, Bool.and_eq_true] at hvalid
      exact hvalid.2
    have := List.all_eq_true.mp hc p.2 (List.of_mem_zip hp).2
    simpa using this
  · rw [scaleFreeRaw_int n sizes counts cs scaleKeys correlated corr shuffles groups hconv]
    exact C14_scale_free n sizes cs scaleKeys correlated corr shuffles groups hvalid hkeys hl hdraws

/-- `optAll` refuses the whole request when one conversion raises: `"3.0"`, `"abc"` (`int` raises ValueError) -/
example : scaleFreeRaw (.int 4) [.int 2] [.text none] [2] true none (.int 0) [] = none := by decide

/-- non-vacuity and the witness for the seeded change C14-d1: a request of `3.7` hyperedges of size 2 on 4 nodes with
four recorded choices.  The code (`int(count)` stored back) stops after three distinct hyperedges and leaves the fourth
choice unused (`sfReturned = false`: this recording does not belong to a run of the code); the variant whose generation
loop reads the raw value collects four. -/
example : (scaleFreeRaw (.int 4) [.int 2] [.real 37 9] [2] true none (.int 0) [[[3, 1], [0, 2], [2, 1], [0, 3]]]).map keys
      = some [[1, 3], [0, 2], [1, 2]] ∧
    (scaleFreeUnconverted 4 [2] [.real 37 9] [2] true none 0 [[[3, 1], [0, 2], [2, 1], [0, 3]]]).map keys
      = some [[1, 3], [0, 2], [1, 2], [0, 3]] ∧
    Num.toInt (.real 37 9) = some 3 ∧ Num.loopCount (.real 37 9) = some 4 ∧
    Num.toInt (.text (some 4)) = some 4 ∧ Num.loopCount (.text (some 4)) = none ∧
    Num.toInt (.real (-1) 1) = some 0 ∧ Num.toInt (.real 5 0) = some 5 ∧ Num.loopCount (.real 5 0) = some 5 := by
  decide

/-- `random_hypergraph` on the caller's raw counts is the routine on the number of passes of `while len(edges) <
count` (`ceil` of a real, 0 for a non-positive one); hence, with `C14_random`: at most that many hyperedges per size and
at least one when it is positive.  A count that cannot be compared with a length (`str`) is refused. -/
theorem C14_random_counts (n : Nat) (sizes : List Nat) (counts : List Num) (cs : List Nat)
    (groups : List (List (List Nat))) (hconv : optAll Num.loopCount counts = some cs)
    (hkeys : sizes.Nodup) (hlen : counts.length = sizes.length) (hdraws : RandomDrawsOK n (sizes.zip cs) groups) :
    randomHypergraphRaw? (Num.ofNat n) (sizes.map Num.ofNat) counts groups
      = some (randomHypergraph n (sizes.zip cs) groups) ∧
    (randomHypergraph n (sizes.zip cs) groups).nodes = List.range n ∧
    (∀ sc ∈ sizes.zip cs, countSize (randomHypergraph n (sizes.zip cs) groups) sc.1 ≤ sc.2 ∧
      (1 ≤ sc.2 → 1 ≤ countSize (randomHypergraph n (sizes.zip cs) groups) sc.1)) ∧
    (∀ e ∈ keys (randomHypergraph n (sizes.zip cs) groups), e.length ∈ sizes ∧ e.Nodup ∧ (∀ x ∈ e, x < n)) := by
  have hl : cs.length = sizes.length := (optAll_spec _ _ _ hconv).1.trans hlen
  have hmap : (sizes.zip cs).map (·.1) = sizes := by
    apply List.map_fst_zip; simp [hl]
  have h2 : (sizes.map Num.ofNat).map (Num.sampleK n) = sizes := by
    simp [Function.comp_def, Num.sampleK_ofNat]
  have h := C14_random n (sizes.zip cs) groups (by rw [hmap]; exact hkeys) hdraws
  refine ⟨?_, h.2.1, h.2.2.2.2.2.1, ?_⟩
  · simp only [randomHypergraphRaw?, Num.index_ofNat, hconv, Int.toNat_natCast, h2]
    exact h.1
  · intro e he
    obtain ⟨⟨sc, hsc, hl', _⟩, hnd, hlt, _⟩ := h.2.2.2.2.1 e he
    refine ⟨?_, hnd, hlt⟩
    rw [hl', ← hmap]
    exact List.mem_map_of_mem (f := (·.1)) hsc

/-- non-vacuity: `{2: 2.5}` makes three samples (the third repeats the first), `{2: "3"}` is refused -/
example : (randomHypergraphRaw? (.int 5) [.int 2] [.real 5 1] [[[4, 1], [0, 2], [1, 4]]]).map keys = some [[1, 4], [0, 2]] ∧
    randomHypergraphRaw? (.int 5) [.int 2] [.text (some 3)] [[[4, 1], [0, 2], [1, 4]]] = none ∧
    randomHypergraphRaw? (.real 5 0) [.int 2] [.int 1] [[[4, 1]]] = none ∧
    randomHypergraphRaw? (.int 5) [.real 2 0] [.int 1] [[[4, 1]]] = none ∧
    (randomHypergraphRaw? (.int 5) [.real 2 0] [.real (-1) 1] [[]]).map keys = some [] := by decide

/-- `add_random_edges(hg, k, size=s)` on the caller's raw `k` is the routine on the number of passes of
`while len(edges) < k` -/
theorem C14_add_random_edges_count (h : HG) (k : Num) (kc s : Nat) (inplace : Bool) (draws : List (List Nat))
    (hk : k.loopCount = some kc) :
    addRandomEdgesRaw h k none (some (Num.ofNat s)) inplace draws = addRandomEdges h kc none (some s) inplace draws ∧
    addRandomEdgesRaw h k (some (Num.ofNat s)) none inplace draws = addRandomEdges h kc (some s) none inplace draws := by
  simp [addRandomEdgesRaw, resolveSizeRaw, hk, Num.sampleK_ofNat, Num.succ_ofNat, addRandomEdges, resolveSize]

/-- `HOADmodel` on raw `N`, `time` and orders of any value type: whenever the call returns, `N` and `time` were
indices (or never looked at: no order / no time step, then nothing is emitted) and every emitted record has a time below
`time`, distinct nodes below `N`, and `order + 1` nodes for an order of the dict that IS an index -/
theorem C14_hoad_raw (N time : Num) (acts : List (Num × List Rat)) (draws : List HoadDraw) (out : List (Nat × Edge))
    (h : hoadRaw N time acts draws = .done out) :
    out.Nodup ∧ ∀ r ∈ out, ∃ n t : Int, N.index = some n ∧ time.index = some t ∧ (r.1 : Int) < t ∧
      ∃ oa ∈ acts, ∃ o : Int, oa.1.index = some o ∧ 0 ≤ o ∧ (r.2.length : Int) = o + 1 ∧ r.2.Nodup ∧
        ∀ x ∈ r.2, (x : Int) < n := by
  rcases hoadRaw_eq_done h with rfl | ⟨n, t, hn, ht, h⟩
  · exact ⟨List.nodup_nil, fun _ h => nomatch h⟩
  · obtain ⟨o, ho, rfl⟩ := hoad_eq_done h
    refine ⟨nodup_dedup _, fun r hr => ?_⟩
    obtain ⟨ht', oa', hoa', hlen, hnd, hlt⟩ := hoadOrders_spec ho r (mem_dedup.mp hr)
    obtain ⟨oa, hoa, rfl⟩ := List.mem_map.mp hoa'
    have hle : r.2.length ≤ n.toNat := by
      simpa using hnd.length_le_of_subset (l₂ := List.range n.toNat) (fun x hx => List.mem_range.mpr (hlt x hx))
    obtain ⟨o, ho1, ho2, ho3⟩ := Num.sampleK_le n.toNat oa.1 (by simp only at hlen; omega)
    refine ⟨n, t, hn, ht, by omega, oa, hoa, o, ho1, ho2, by simp only at hlen; omega, hnd, fun x hx => ?_⟩
    have := hlt x hx
    omega

/-- non-vacuity: `N = True` (one node), order `False` (no partner): the node fires alone; a float order raises when the
first node fires, a float `time` raises before any draw, and is never looked at when there is no order -/
example : hoadRaw (.bool true) (.int 1) [(.bool false, [1])] [⟨1/2, true, []⟩] = .done [(0, [0])] ∧
    hoadRaw (.int 2) (.int 1) [(.real 1 0, [1, 1])] [⟨1/2, false, []⟩] = .raised [] ∧
    hoadRaw (.int 2) (.real 1 0) [(.int 1, [1, 1])] [] = .raised [] ∧
    hoadRaw (.int 2) (.real 1 0) [] [] = .done [] := by decide +kernel

/-- The rejection loop `edges = set(); while len(edges) < k: edges.add(tuple(sorted(draw)))` of `add_random_edges` and
`scale_free_hypergraph` on EVERY stream of draws (no hypothesis): it returns the first `k` distinct sorted hyperedges of
the stream; it takes `collectUsed` draws and what lies behind them is never looked at; it stops within the first `m`
draws as soon as these hold `k` distinct hyperedges (termination bound) and not before; a stream that holds `k` distinct
hyperedges makes it return; and the draws of a run that returned hold exactly `k` distinct hyperedges, i.e. the run took
`k` draws plus one for every repetition. -/
theorem C14_rejection_loop (k : Nat) (ds : List (List Nat)) :
    collect k [] ds = (dedup (ds.map sortE)).take k ∧
    collectUsed k [] ds ≤ ds.length ∧
    collect k [] (ds.take (collectUsed k [] ds)) = collect k [] ds ∧
    (∀ m, k ≤ (dedup ((ds.take m).map sortE)).length → collectUsed k [] ds ≤ m) ∧
    (∀ m, m < collectUsed k [] ds → (dedup ((ds.take m).map sortE)).length < k) ∧
    (k ≤ (dedup (ds.map sortE)).length → consumedExactly k [] (ds.take (collectUsed k [] ds)) = true) ∧
    (consumedExactly k [] ds = true →
      (dedup (ds.map sortE)).length = k ∧ collectUsed k [] ds = ds.length ∧ (collect k [] ds).length = k ∧ k ≤ ds.length) := by
  have R := loopRun k ds []
  exact ⟨collect_eq_take k ds [] (by simp), R.used_le, (R.stable _ (Nat.le_refl _)).2,
    fun m h => Nat.not_lt.mp fun hm => Nat.not_le.mpr (R.drawing m hm) h, R.drawing, consumed_prefix k ds [], fun h => ⟨consumed_distinct k ds [] h (by simp), (R.returned.mp h).1,
      collect_length k ds [] h (by simp), consumed_length_ge k ds h⟩⟩

/-- non-vacuity: the second draw repeats the first hyperedge; the loop for `k = 2` takes three draws, the fourth is
never looked at -/
example : collectUsed 2 [] [[2, 1], [1, 2], [0, 3], [5, 6]] = 3 ∧
    collect 2 [] [[2, 1], [1, 2], [0, 3], [5, 6]] = [[1, 2], [0, 3]] ∧
    consumedExactly 2 [] [[2, 1], [1, 2], [0, 3]] = true ∧ consumedExactly 2 [] [[2, 1], [1, 2], [0, 3], [5, 6]] = false := by
  decide

/-- WHICH requests can be met (the near-saturated and the infeasible ones).  Hypothesis: the sampler contract for every
draw.  Whatever the draws, the loop never holds more than `C(n, s)` hyperedges; a request above `C(n, s)` is met by NO
draw list (the real call does not return: `while len(edges) < k` can never fail); so every run that returned was asked for at
most `C(n, s)` (the example below meets a request of exactly `C(3, 2)`). -/
theorem C14_saturation (n s k : Nat) (ds : List (List Nat)) (hs : ∀ d ∈ ds, IsSample (List.range n) s d) :
    (collect k [] ds).length ≤ n.choose s ∧
    (n.choose s < k → consumedExactly k [] ds = false) ∧
    (consumedExactly k [] ds = true → k ≤ n.choose s) := by
  have hret := returning_feasible n s k ds hs
  refine ⟨?_, ?_, hret⟩
  · rw [collect_eq_take k ds [] (by simp), List.length_take]
    have := distinct_le_choose n s ds hs
    unfold dedup at this
    omega
  · intro hk
    cases hc : consumedExactly k [] ds with
    | false => rfl
    | true => have := hret hc; omega

/-- non-vacuity: three nodes have `C(3,2) = 3` pairs; a request of 3 returns after the draws below (one repetition), a
request of 4 does not return on them (nor on any other list) -/
example : (∀ d ∈ [[0, 1], [2, 1], [1, 0], [2, 0]], IsSample (List.range 3) 2 d) ∧
    consumedExactly 3 [] [[0, 1], [2, 1], [1, 0], [2, 0]] = true ∧
    consumedExactly 4 [] [[0, 1], [2, 1], [1, 0], [2, 0]] = false ∧ Nat.choose 3 2 = 3 := by
  refine ⟨?_, by decide, by decide, by decide⟩
  simp only [IsSample]; decide

/-- `random_hypergraph` takes exactly `count` samples per size (`while len(edges) < count: edges.append(..)`, a list):
the number of draws is the sum of the requested counts for every generator algorithm and state - it always terminates -/
theorem C14_random_draws {σ : Type} (g : RNG σ) (pop : List Nat) : ∀ (req : List (Nat × Nat)) (s : σ),
    (groupsOf g pop req s).map List.length = req.map (·.2) := by
  intro req
  induction req with
  | nil => intro s; rfl
  | cons sc req ih =>
    intro s
    obtain ⟨sz, c⟩ := sc
    simp only [groupsOf, List.map_cons, drawN_length, ih]

/-- `HOADmodel`: a run that returns took exactly one coin per (order, time step, node) - `len(orders) * time * N` draws
of `random.random`, whatever the coins decide - and emitted at most one hyperlink per coin -/
theorem C14_hoad_draws (N time : Nat) (acts : List (Nat × List Rat)) (draws : List HoadDraw) (out : List (Nat × Edge))
    (h : hoad N time acts draws = .done out) :
    draws.length = acts.length * (time * N) ∧ out.length ≤ acts.length * (time * N) := by
  obtain ⟨o, hr, rfl⟩ := hoad_eq_done h
  rw [hoadOrders_eq] at hr
  have := runAll_count hr (fun oa _ _ _ _ hs => hoadTimes_count hs)
  have h2 := length_dedup_le o
  simp only [List.length_nil, Nat.zero_add] at this
  exact ⟨this.1, by omega⟩

/-- `scale_free_hypergraph` with ALL its options, as a function of the complete sequence of its calls on `np.random`
(`scaleFreeTrace`).  Hypotheses: `edges_by_size` is a dict; every hyperedge choice obeys the sampler contract for the size
IT WAS ASKED WITH; the run returned `h` after exactly the calls `evs`.  Conclusion, for `correlated` on or off,
`corr_target` given or not, any `num_shuffles`: the nodes are `0..n-1`; exactly the requested number of pairwise distinct
hyperedges per size, nothing of another size, distinct nodes `< n`; every requested number is at most `C(n, size)`;
`np.random.exponential` was called once per size; no swap call when `correlated` is off, exactly `num_shuffles` per size when
no `corr_target` is given (at least that many otherwise); every choice was asked with a requested size; and the choices,
grouped per size, are a run of the model `scaleFree` that held exactly `count` distinct hyperedges per size. -/
theorem C14_scale_free_options (n : Nat) (sizes : List Nat) (counts : List Int) (scaleKeys : List Nat)
    (correlated : Bool) (corr : Option Rat) (shuffles : Int) (evs : List SfEv) (h : HG)
    (hkeys : sizes.Nodup) (hlen : counts.length = sizes.length)
    (hsample : ∀ s d, SfEv.choice s d ∈ evs → IsSample (List.range n) s d)
    (hrun : scaleFreeTrace n sizes counts scaleKeys correlated corr shuffles evs = .done h) :
    h.nodes = List.range n ∧ (keys h).Nodup ∧
    (∀ sc ∈ sizes.zip (counts.map Int.toNat), countSize h sc.1 = sc.2) ∧
    (∀ s, s ∉ sizes → countSize h s = 0) ∧
    (∀ e ∈ keys h, e.length ∈ sizes ∧ e.Nodup ∧ (∀ x ∈ e, x < n)) ∧
    (∀ sc ∈ sizes.zip (counts.map Int.toNat), sc.2 ≤ n.choose sc.1) ∧
    countExp evs = sizes.length ∧
    (correlated = false → countSwap evs = 0) ∧
    (correlated = true → corr = none → countSwap evs = sizes.length * shuffles.toNat) ∧
    sizes.length * shuffles.toNat * correlated.toNat ≤ countSwap evs ∧
    (∀ s d, SfEv.choice s d ∈ evs → s ∈ sizes) ∧
    ∃ groups, sfParse n correlated corr shuffles.toNat true (sizes.zip (counts.map Int.toNat)) evs = some groups ∧
      scaleFree n sizes counts scaleKeys correlated corr shuffles groups = some h ∧
      countChoice evs = (groups.map List.length).sum ∧
      GroupsOK (fun _ c g => (dedup (g.map sortE)).length = c ∧ c ≤ g.length) (sizes.zip (counts.map Int.toNat)) groups := by
  have hreqlen : (sizes.zip (counts.map Int.toNat)).length = sizes.length := by simp [hlen]
  have hmap : (sizes.zip (counts.map Int.toNat)).map (·.1) = sizes := by
    apply List.map_fst_zip; simp [hlen]
  obtain ⟨hvalid, hadm, groups, hparse, hret, rfl⟩ := scaleFreeTrace_eq_done hrun
  have P := sfParse_spec n correlated corr shuffles.toNat _ true evs groups hparse
  have hcons := sfReturned_groupsOK _ _ hret P.len
  have hdraws : SfDrawsOK n (sizes.zip (counts.map Int.toNat)) groups :=
    groupsOK_and _ _ (groupsOK_imp (fun s _ g hg d hd => hsample s d (hg d hd)) _ _ P.mem) hcons
  obtain ⟨h', hsf, h1, h2, h3, h4, h5⟩ :=
    C14_scale_free n sizes counts scaleKeys correlated corr shuffles groups hvalid hkeys hlen hdraws
  have hsf' : scaleFree n sizes counts scaleKeys correlated corr shuffles groups =
      some (sfLoop (addNodes {} (List.range n)) (sizes.zip (counts.map Int.toNat)) groups) := by
    simp only [scaleFree, hvalid, hadm, Bool.and_self, if_true]
  rw [hsf'] at hsf
  cases hsf
  refine ⟨h1, h2, h3, h4, h5, ?_, by rw [P.exps, hreqlen], P.uncorr, ?_, ?_, ?_, groups, hparse, hsf', P.choices, ?_⟩
  · intro sc hsc
    obtain ⟨g, hg1, hg2⟩ := groupsOK_forall _ _ hdraws sc hsc
    exact returning_feasible n sc.1 sc.2 g hg1 hg2
  · intro hc hn; rw [P.shuffled hc hn, hreqlen]
  · have := P.atleast; rwa [hreqlen] at this
  · intro s d hm
    obtain ⟨sc, hsc, heq⟩ := P.only s d hm
    rw [← heq, ← hmap]; exact List.mem_map_of_mem (f := (·.1)) hsc
  · exact groupsOK_imp (fun _ c g hg => ⟨consumed_distinct c g [] hg (by simp), consumed_length_ge c g hg⟩) _ _ hcons

/-- non-vacuity: `num_shuffles=1` on 4 nodes, sizes 2 (two hyperedges, the second choice repeats the first) and 1: one
`exponential` and one swap per size -/
example : scaleFreeTrace 4 [2, 1] [2, 1] [1, 2] true none 1
      [.exp 4, .swap 0 1, .choice 2 [3, 1], .choice 2 [1, 3], .choice 2 [0, 2], .exp 4, .swap 2 3, .choice 1 [2]]
    = .done ⟨false, [0, 1, 2, 3], [([1, 3], (1, 0)), ([0, 2], (1, 0)), ([2], (1, 0))]⟩ := by decide +kernel

/-- `corr_target = 1/2`: the Spearman loop (two swaps here) runs for the second size only; a swap in front of the first
size, a choice asked with another size, or a missing `exponential` call are not runs of the routine -/
example : scaleFreeTrace 4 [2, 1] [1, 1] [2, 1] true (some (1/2)) 0
      [.exp 4, .choice 2 [3, 1], .exp 4, .swap 2 3, .swap 0 1, .choice 1 [2]]
      = .done ⟨false, [0, 1, 2, 3], [([1, 3], (1, 0)), ([2], (1, 0))]⟩ ∧
    scaleFreeTrace 4 [2, 1] [1, 1] [2, 1] true (some (1/2)) 0
      [.exp 4, .swap 2 3, .choice 2 [3, 1], .exp 4, .choice 1 [2]] = .stuck ∧
    scaleFreeTrace 4 [2, 1] [1, 1] [2, 1] true none 0 [.exp 4, .choice 3 [3, 1, 0], .exp 4, .choice 1 [2]] = .stuck ∧
    scaleFreeTrace 4 [2, 1] [1, 1] [2, 1] true none 0 [.exp 4, .choice 2 [3, 1], .choice 1 [2]] = .stuck ∧
    scaleFreeTrace 1 [1] [1] [1] true none 2 [.exp 1] = .rej ∧
    scaleFreeTrace 1 [1] [1] [1] false none 0 [.exp 1, .choice 1 [0]] = .done ⟨false, [0], [([0], (1, 0))]⟩ := by
  refine ⟨by decide +kernel, by decide +kernel, by decide +kernel, by decide +kernel, by decide +kernel,
    by decide +kernel⟩

/-- The node pool `random_shuffle` hands to `np.random.choice(pool, size, replace=False, p=weights/sum)` and the option
`preserve_degree`, for every index sample `idx`.  The pool has no repetitions and consists exactly of the nodes of the
selected (rewired) hyperedges; there is one weight per pool node and every weight is at least 1 (no zero probability);
with `preserve_degree=False` all weights are 1; with `preserve_degree=True` a node's weight is its number of occurrences in
the selected hyperedges and the weights add up to the number of node slots of these hyperedges; and a selected hyperedge
with distinct nodes is not larger than the pool, so the choice of `size` distinct pool nodes is possible. -/
theorem C14_shuffle_pool (cur : List (Edge × Rec)) (idx : List Nat) (preserve : Bool) :
    (pool cur idx).Nodup ∧
    (∀ x, x ∈ pool cur idx ↔ ∃ e ∈ selected cur idx 0, x ∈ e) ∧
    (poolWeights cur idx preserve).length = (pool cur idx).length ∧
    (∀ w ∈ poolWeights cur idx preserve, 1 ≤ w) ∧
    (∀ w ∈ poolWeights cur idx false, w = 1) ∧
    poolWeights cur idx true = (pool cur idx).map (fun x => (selected cur idx 0).flatten.count x) ∧
    (poolWeights cur idx true).sum = ((selected cur idx 0).map List.length).sum ∧
    (∀ e ∈ selected cur idx 0, e.Nodup → e.length ≤ (pool cur idx).length) :=
  ⟨nodup_dedup _, mem_pool cur idx, by simp [poolWeights], poolWeights_pos cur idx preserve,
    poolWeights_uniform cur idx, by simp [poolWeights], poolWeights_sum cur idx,
    fun e he hnd => pool_large_enough cur idx e he hnd⟩

/-- non-vacuity: positions 0 and 2 of three pairs are selected; node 1 occurs in both -/
example : pool [([0, 1], (1, 0)), ([2, 3], (1, 0)), ([1, 4], (1, 0))] [2, 0] = [0, 1, 4] ∧
    poolWeights [([0, 1], (1, 0)), ([2, 3], (1, 0)), ([1, 4], (1, 0))] [2, 0] true = [1, 2, 1] ∧
    poolWeights [([0, 1], (1, 0)), ([2, 3], (1, 0)), ([1, 4], (1, 0))] [2, 0] false = [1, 1, 1] := by decide

/-- The validation of `scale_free_hypergraph` (lines 37-59) as the code runs it: `sfError` is the number of the first
`raise ValueError` that is reached, the checks in the order of the code.  It reports nothing exactly when the arguments
are valid in the sense of `sfValid` (the hypothesis of `C14_scale_free`); it only reports numbers 1..8; and the checks on
the two maps and on the counts have a witness: a size without scale (6), a scale without size (7), a negative number (8). -/
theorem C14_scale_free_validation (sizes : List Nat) (counts : List Int) (scaleKeys : List Nat) (correlated : Bool)
    (corr : Option Rat) (shuffles : Int) :
    (sfError sizes counts scaleKeys correlated corr shuffles = none ↔
      sfValid sizes counts scaleKeys correlated corr shuffles = true) ∧
    (∀ i, sfError sizes counts scaleKeys correlated corr shuffles = some i → 1 ≤ i ∧ i ≤ 8) ∧
    (sfError sizes counts scaleKeys correlated corr shuffles = some 1 ↔ (shuffles ≠ 0 ∧ correlated = false)) ∧
    (sfError sizes counts scaleKeys correlated corr shuffles = some 6 → ∃ k ∈ sizes, k ∉ scaleKeys) ∧
    (sfError sizes counts scaleKeys correlated corr shuffles = some 7 → ∃ k ∈ scaleKeys, k ∉ sizes) ∧
    (sfError sizes counts scaleKeys correlated corr shuffles = some 8 → ∃ c ∈ counts, c < 0) := by
  rw [sfError_eq, sfValid_eq]
  refine ⟨firstTrue_eq_none _ _, fun i h => ?_, ?_, fun h => ?_, fun h => ?_, fun h => ?_⟩
  · exact ⟨(firstTrue_range h).1, Nat.le_of_lt_succ (firstTrue_range h).2⟩
  · refine ⟨fun h => ?_, fun h => ?_⟩
    · simpa [sfTests] using firstTrue_holds (i := 1) (k := 0) h
    · simp [sfTests, firstTrue, h]
  · simpa [sfTests] using firstTrue_holds (i := 1) (k := 5) h
  · simpa [sfTests] using firstTrue_holds (i := 1) (k := 6) h
  · simpa [sfTests] using firstTrue_holds (i := 1) (k := 7) h

/-- non-vacuity: the order of the checks - a negative `num_shuffles` without `correlated` is reported as 1, with it as 2;
a missing scale comes before a negative count -/
example : sfError [2] [3] [2] false none (-1) = some 1 ∧ sfError [2] [3] [2] true none (-1) = some 2 ∧
    sfError [2, 3] [-1, 1] [2] true none 0 = some 6 ∧ sfError [2] [-1] [2] true none 0 = some 8 ∧
    sfError [2] [3] [2] true (some (3/2)) 0 = some 3 ∧ sfError [2] [3] [2] true (some (1/2)) 4 = some 5 ∧
    sfError [2] [3] [2] true (some (1/2)) 0 = none := by
  refine ⟨by decide, by decide, by decide, by decide, by decide +kernel, by decide +kernel, by decide +kernel⟩

/-- The argument checks of `random_shuffle` and `add_random_edge(s)` in the order of the code (`argError`: 1 both of
`order`/`size`, 2 neither, 3 `p` outside `[0, 1]`): no error exactly when the model accepts the call; `order`/`size` are
looked at before `p`. -/
theorem C14_argument_errors (h : HG) (order size : Option Nat) (inplace : Bool) (pn : Int) (pd : Nat)
    (idx : List Nat) (cs : List (List Nat)) (p : Option (Int × Nat)) :
    (argError order size (some (pn, pd)) = none ↔ (randomShuffle h order size inplace pn pd idx cs).isSome = true) ∧
    (argError order size none = none ↔ (resolveSize order size).isSome = true) ∧
    (argError order size p = some 1 ↔ (order.isSome = true ∧ size.isSome = true)) ∧
    (argError order size p = some 2 ↔ (order = none ∧ size = none)) ∧
    (argError order size p = some 3 ↔
      ((resolveSize order size).isSome = true ∧ ∃ a b, p = some (a, b) ∧ ¬ (0 ≤ a ∧ a ≤ b))) := by
  cases order <;> cases size <;> rcases p with _ | ⟨a, b⟩ <;> simp [argError, randomShuffle, resolveSize]

example : argError (some 1) (some 2) (some (5, 4)) = some 1 ∧ argError none none (some (5, 4)) = some 2 ∧
    argError none (some 2) (some (5, 4)) = some 3 ∧ argError none (some 2) (some (-1, 4)) = some 3 ∧
    argError (some 1) none (some (3, 4)) = none := by decide

/-- The model with the metadata tables (`HGM`) refines the content-level model: forgetting the tables, every call of
`add_random_edge(s)` / `random_shuffle(_all_orders)` IS the call of `Hgxv/Model/C14.lean` - for all arguments and draws, the
rejected calls included.  So every theorem above speaks about the content of the objects of this model as well. -/
theorem C14_metadata_refines (m : HGM) (order size : Option Nat) (inplace : Bool) (k : Nat) (pn : Int) (pd : Nat)
    (draw idx sizes : List Nat) (draws : List (List Nat)) (all : List (List Nat × List (List Nat))) :
    (addRandomEdgeM m order size inplace draw).map CallResultM.proj = addRandomEdge m.core order size inplace draw ∧
    (addRandomEdgesM m k order size inplace draws).map CallResultM.proj
      = addRandomEdges m.core k order size inplace draws ∧
    (randomShuffleM m order size inplace pn pd idx draws).map CallResultM.proj
      = randomShuffle m.core order size inplace pn pd idx draws ∧
    (randomShuffleAllM m inplace pn pd sizes all).map CallResultM.proj = randomShuffleAll m.core inplace pn pd sizes all := by
  refine ⟨?_, ?_, ?_, ?_⟩
  · unfold addRandomEdgeM addRandomEdge
    cases resolveSize order size with
    | none => rfl
    | some s => simp only; split <;> cases inplace <;> simp [finishM, finish, CallResultM.proj]
  · unfold addRandomEdgesM addRandomEdges
    cases resolveSize order size with
    | none => rfl
    | some s =>
      simp only; split <;> cases inplace <;>
        simp [finishM, finish, CallResultM.proj, addEdgesM, addEdges, addManyM_core]
  · unfold randomShuffleM randomShuffle
    cases resolveSize order size with
    | none => rfl
    | some s =>
      simp only; split <;> cases inplace <;> simp [finishM, finish, CallResultM.proj, shuffleCoreM_core]
  · unfold randomShuffleAllM randomShuffleAll
    simp only; split <;> cases inplace <;> simp [CallResultM.proj, shuffleAllLoopM_core]

/-- "... and leave everything else intact", for the tables the content does not show.  Hypotheses: class invariants of the
content (`WF`) and every node has an entry in the node-metadata table (`add_node` creates it); exactly one of
order/size; the draws obey their contracts.  Conclusion for `add_random_edge`, `add_random_edges`, `random_shuffle` and
`random_shuffle_all_orders`: the object that carries the result has the SAME node-metadata table (no node gained or lost
an entry, no dict was replaced), the same hypergraph-level metadata and the same incidence-metadata table as the
argument, and its content is the content-level result; with `inplace=False` the argument keeps all its tables. -/
theorem C14_metadata_intact (m : HGM) (wf : WF m.core) (hn : ∀ x ∈ m.core.nodes, x ∈ m.nmeta.map (·.1)) :
    (∀ (order size : Option Nat) (inplace : Bool) (s : Nat) (draw : List Nat),
      resolveSize order size = some s → IsSample m.core.nodes s draw →
      ∃ m', addRandomEdgeM m order size inplace draw = some (finishM inplace m m') ∧
        m'.core = addEdge m.core draw 1 0 ∧ m'.nmeta = m.nmeta ∧ m'.hmeta = m.hmeta ∧ m'.imeta = m.imeta) ∧
    (∀ (k : Nat) (order size : Option Nat) (inplace : Bool) (s : Nat) (draws : List (List Nat)),
      resolveSize order size = some s → (∀ d ∈ draws, IsSample m.core.nodes s d) →
      consumedExactly k [] draws = true →
      ∃ m', addRandomEdgesM m k order size inplace draws = some (finishM inplace m m') ∧
        m'.core = addEdges m.core (collect k [] draws) ∧
        m'.nmeta = m.nmeta ∧ m'.hmeta = m.hmeta ∧ m'.imeta = m.imeta) ∧
    (∀ (order size : Option Nat) (inplace : Bool) (pn : Int) (pd s : Nat) (idx : List Nat) (cs : List (List Nat)),
      resolveSize order size = some s → 0 ≤ pn ∧ pn ≤ pd → ShuffleDrawsOK m.core s idx cs →
      ∃ m', randomShuffleM m order size inplace pn pd idx cs = some (finishM inplace m m') ∧
        m'.core = shuffleCore m.core s idx cs ∧ m'.nmeta = m.nmeta ∧ m'.hmeta = m.hmeta ∧ m'.imeta = m.imeta) ∧
    (∀ (inplace : Bool) (pn : Int) (pd : Nat) (sizes : List Nat) (draws : List (List Nat × List (List Nat))),
      0 ≤ pn ∧ pn ≤ pd → ShuffleAllOK m.core sizes draws →
      ∃ m', randomShuffleAllM m inplace pn pd sizes draws = some ⟨if inplace then m' else m, some m'⟩ ∧
        m'.core = shuffleAllLoop m.core sizes draws ∧
        m'.nmeta = m.nmeta ∧ m'.hmeta = m.hmeta ∧ m'.imeta = m.imeta) ∧
    (∀ m', finishM false m m' = ⟨m, some m'⟩ ∧ finishM true m m' = ⟨m', none⟩) := by
  refine ⟨?_, ?_, ?_, ?_, fun m' => ⟨rfl, rfl⟩⟩
  · intro order size inplace s draw hs hd
    have hle := hd.size_le
    refine ⟨addEdgeM m draw 1 0, by simp [addRandomEdgeM, hs, hle], rfl, ?_, rfl, rfl⟩
    exact addEdgeM_nmeta m draw 1 0 (fun x hx => hn x (hd.2.2 x hx))
  · intro k order size inplace s draws hs hd hret
    have hc := collect_ok m.core.nodes s k draws hd
    have hacc := consumedExactly_admissible hd hret
    have hmeta := addManyM_meta ((collect k [] draws).map (fun e => (e, ((1 : Nat), (0 : Nat))))) m (by
      intro t ht x hx
      obtain ⟨e, he, rfl⟩ := List.mem_map.mp ht
      exact hn x ((hc.2 e he).2.2.1 x hx))
    exact ⟨addEdgesM m (collect k [] draws), by simp [addRandomEdgesM, hs, hacc],
      by simp [addEdgesM, addEdges, addManyM_core], HGM.tables_eq hmeta⟩
  · intro order size inplace pn pd s idx cs hs hp hd
    have hmeta := shuffleCoreM_meta m wf hn s idx cs hd
    exact ⟨shuffleCoreM m s idx cs, by simp [randomShuffleM, hs, hp], shuffleCoreM_core m s idx cs, HGM.tables_eq hmeta⟩
  · intro inplace pn pd sizes draws hp hd
    have hmeta := shuffleAllLoopM_meta sizes draws m wf hn hd
    refine ⟨shuffleAllLoopM m sizes draws, ?_, shuffleAllLoopM_core sizes draws m, HGM.tables_eq hmeta⟩
    simp only [randomShuffleAllM, hp, and_self, if_true]
    cases inplace <;> simp

/-- non-vacuity: nodes 0..3 with node metadata 5, 0, 6, 0, hypergraph metadata 9, an incidence entry for the hyperedge
that is rewired; position 0 of the two pairs is rewired - all three tables are as before (the incidence entry of the
removed hyperedge `[0,1]` is still there: `remove_edge` does not clear it) -/
example : (shuffleCoreM ⟨⟨true, [0, 1, 2, 3], [([0, 1], (2, 1)), ([1, 2], (3, 2))]⟩, [(0, 5), (1, 0), (2, 6), (3, 0)], 9,
      [(([0, 1], 1), 4)]⟩ 2 [0] [[1, 0]])
    = ⟨⟨true, [0, 1, 2, 3], [([0, 1], (1, 0)), ([1, 2], (3, 2))]⟩, [(0, 5), (1, 0), (2, 6), (3, 0)], 9,
      [(([0, 1], 1), 4)]⟩ := by decide

/-- the hypothesis "every node has an entry" matters: `add_edge` over a node the table does not know creates `{}` for it -/
example : (addEdgeM ⟨⟨false, [0, 1], []⟩, [(0, 5)], 0, []⟩ [1, 0] 1 0).nmeta = [(0, 5), (1, 0)] := by decide

/-- `add_random_edge(.., seed)` as a program over the named sources, for EVERY generator algorithm `g`, hypergraph,
arguments, seed (0 included: `seed : Nat` is arbitrary) and ambient states `w`, `w'`: the outcome (argument afterwards and
returned object, or the rejection) does not depend on the ambient states - same seed, same output; `np.random` is never
touched; for admissible arguments the outcome is the pure `addRandomEdge` on the first sample of the stream that `seed`
determines, and `random` is left in the same state; without a seed it is the same function of the ambient `random`
state; the seeded program rejects exactly the calls the pure routine rejects.  No hypothesis. -/
theorem C14_add_random_seeded {σ : Type} (g : RNG σ) (h : HG) (order size : Option Nat) (inplace : Bool) (seed : Nat)
    (w w' : World σ) :
    (addRandomEdgeS g h order size inplace (some seed) w).1 = (addRandomEdgeS g h order size inplace (some seed) w').1 ∧
    (addRandomEdgeS g h order size inplace (some seed) w).2.np = w.np ∧
    (addRandomEdgeS g h order size inplace none w).2.np = w.np ∧
    (∀ s, resolveSize order size = some s →
      (addRandomEdgeS g h order size inplace (some seed) w).2.py
        = (addRandomEdgeS g h order size inplace (some seed) w').2.py) ∧
    (∀ s, resolveSize order size = some s → s ≤ h.nodes.length →
      (addRandomEdgeS g h order size inplace (some seed) w).1
        = addRandomEdge h order size inplace (g.sample (g.seed seed) h.nodes s).1 ∧
      (addRandomEdgeS g h order size inplace none w).1
        = addRandomEdge h order size inplace (g.sample w.py h.nodes s).1) ∧
    ((addRandomEdgeS g h order size inplace (some seed) w).1 = none ↔ addRandomEdge h order size inplace [] = none) := by
  cases hr : resolveSize order size with
  | none => simp [addRandomEdgeS, addRandomEdge, hr]
  | some s =>
    by_cases hle : s ≤ h.nodes.length
    · simp [addRandomEdgeS, addRandomEdge, seedPy, hr, hle]
    · simp [addRandomEdgeS, addRandomEdge, seedPy, hr, hle]

/-- non-vacuity, SEED 0: from the ambient states 5 and 9 the call with `seed=0` gives the same hypergraph (hyperedge
`[0,1]`), a different one than the unseeded call from state 2 (`[2,3]`), and with the bug `if seed:` (`seedPyTruthy`) seed
0 would leave the ambient state in charge -/
example : (addRandomEdgeS demoRNG ⟨false, [0, 1, 2, 3], []⟩ none (some 2) false (some 0) ⟨5, 5⟩).1
      = some ⟨⟨false, [0, 1, 2, 3], []⟩, some ⟨false, [0, 1, 2, 3], [([0, 1], (1, 0))]⟩⟩ ∧
    (addRandomEdgeS demoRNG ⟨false, [0, 1, 2, 3], []⟩ none (some 2) false (some 0) ⟨9, 9⟩).1
      = (addRandomEdgeS demoRNG ⟨false, [0, 1, 2, 3], []⟩ none (some 2) false (some 0) ⟨5, 5⟩).1 ∧
    (addRandomEdgeS demoRNG ⟨false, [0, 1, 2, 3], []⟩ none (some 2) false none ⟨2, 2⟩).1
      = some ⟨⟨false, [0, 1, 2, 3], []⟩, some ⟨false, [0, 1, 2, 3], [([2, 3], (1, 0))]⟩⟩ ∧
    (seedPyTruthy demoRNG (some 0) ⟨2, 2⟩).py = 2 ∧ (seedPy demoRNG (some 0) ⟨2, 2⟩).py = 0 := by decide

/-- `add_random_edges(.., seed)` (`while len(edges) < k` run on a generator, at most `fuel` draws): for every generator,
hypergraph, arguments, seed (0 included), fuel and ambient states the outcome does not depend on the ambient states and
`np.random` is not touched; the loop takes at most `fuel` draws; for admissible arguments a run that returned is the pure
`addRandomEdges` on the draws the seed determines (the loop stopped exactly at their end), and then MORE fuel gives the
same outcome and the same generator state (fuel only decides whether a run is followed to its end); without a seed
the same holds with the ambient `random` state in place of `g.seed seed`.  No hypothesis. -/
theorem C14_add_random_edges_seeded {σ : Type} (g : RNG σ) (h : HG) (k : Nat) (order size : Option Nat) (inplace : Bool)
    (seed fuel : Nat) (w w' : World σ) :
    (addRandomEdgesS g h k order size inplace (some seed) fuel w).1
      = (addRandomEdgesS g h k order size inplace (some seed) fuel w').1 ∧
    (addRandomEdgesS g h k order size inplace (some seed) fuel w).2.np = w.np ∧
    (addRandomEdgesS g h k order size inplace none fuel w).2.np = w.np ∧
    (∀ s, resolveSize order size = some s →
      (addRandomEdgesS g h k order size inplace (some seed) fuel w).2.py
        = (addRandomEdgesS g h k order size inplace (some seed) fuel w').2.py) ∧
    (∀ s st, (drawUntil g h.nodes s k fuel [] st).1.length ≤ fuel) ∧
    (∀ s, resolveSize order size = some s → (k = 0 ∨ s ≤ h.nodes.length) →
      ∀ sd : Option Nat, consumedExactly k [] (drawUntil g h.nodes s k fuel [] (seedPy g sd w).py).1 = true →
        (addRandomEdgesS g h k order size inplace sd fuel w).1
          = addRandomEdges h k order size inplace (drawUntil g h.nodes s k fuel [] (seedPy g sd w).py).1 ∧
        (addRandomEdgesS g h k order size inplace sd fuel w).1 ≠ none ∧
        ∀ d, addRandomEdgesS g h k order size inplace sd (fuel + d) w
          = addRandomEdgesS g h k order size inplace sd fuel w) := by
  exact ⟨(addRandomEdgesS_ambient g h k order size inplace fuel seed w w').1, addRandomEdgesS_np g h k order size inplace fuel _ w,
    addRandomEdgesS_np g h k order size inplace fuel _ w, (addRandomEdgesS_ambient g h k order size inplace fuel seed w w').2,
    fun s st => drawUntil_length g h.nodes s k fuel [] st,
    fun s hr hle sd hc => addRandomEdgesS_returned g h k inplace fuel w hr hle sd hc⟩

/-- non-vacuity: `k = 2` pairs over 4 nodes with seed 0 from the ambient state 7: two draws (the generator repeats
nothing here: states 0, 1 give `[0,1]`, `[1,2]`), the loop returned, fuel 5 or 50 makes no difference, fuel 1 is not enough -/
example : (addRandomEdgesS demoRNG ⟨false, [0, 1, 2, 3], []⟩ 2 none (some 2) true (some 0) 5 ⟨7, 7⟩).1
      = some ⟨⟨false, [0, 1, 2, 3], [([0, 1], (1, 0)), ([1, 2], (1, 0))]⟩, none⟩ ∧
    (addRandomEdgesS demoRNG ⟨false, [0, 1, 2, 3], []⟩ 2 none (some 2) true (some 0) 50 ⟨7, 7⟩).1
      = (addRandomEdgesS demoRNG ⟨false, [0, 1, 2, 3], []⟩ 2 none (some 2) true (some 0) 5 ⟨7, 7⟩).1 ∧
    (addRandomEdgesS demoRNG ⟨false, [0, 1, 2, 3], []⟩ 2 none (some 2) true (some 0) 50 ⟨7, 7⟩).2.py = 2 ∧
    (addRandomEdgesS demoRNG ⟨false, [0, 1, 2, 3], []⟩ 2 none (some 2) true (some 0) 1 ⟨7, 7⟩).1 = none := by decide

/-- `random_shuffle(.., seed)`: the routine seeds **np.random** and draws the rewired positions from **random**.  For every
generator, choice routine, hypergraph, arguments, seed (0 included) and ambient states: the outcome does not depend on
the ambient state of `np.random`; with equal ambient `random` states the outcomes AND the states left behind are equal
("same seed and same `random` state, same output"); the outcome is the pure `randomShuffle` on the positions
`random.sample(range(m), int(p*m))` from the ambient `random` state and the choices the seeded `np.random` stream gives
for the pool and weights of these positions; the seeded program rejects exactly what the pure routine rejects.  (That the
positions come from the UNSEEDED source is the negative witness after `C14_unseeded`.) -/
theorem C14_shuffle_seeded {σ : Type} (g : RNG σ) (c : Choice σ) (h : HG) (order size : Option Nat) (inplace : Bool)
    (pn : Int) (pd : Nat) (preserve : Bool) (seed : Nat) (w w' : World σ) (hpy : w.py = w'.py) :
    (randomShuffleS g c h order size inplace pn pd preserve (some seed) w).1
      = (randomShuffleS g c h order size inplace pn pd preserve (some seed) w').1 ∧
    (∀ s, resolveSize order size = some s → 0 ≤ pn ∧ pn ≤ pd →
      randomShuffleS g c h order size inplace pn pd preserve (some seed) w
        = randomShuffleS g c h order size inplace pn pd preserve (some seed) w' ∧
      ∀ sd : Option Nat,
        (randomShuffleS g c h order size inplace pn pd preserve sd w).1
          = randomShuffle h order size inplace pn pd
              (g.sample w.py (List.range (edgesOfSize h s).length)
                (numToRandomize pn.toNat pd (edgesOfSize h s).length)).1
              (drawChoices c
                (pool (edgesOfSize h s) (g.sample w.py (List.range (edgesOfSize h s).length)
                  (numToRandomize pn.toNat pd (edgesOfSize h s).length)).1)
                (poolWeights (edgesOfSize h s) (g.sample w.py (List.range (edgesOfSize h s).length)
                  (numToRandomize pn.toNat pd (edgesOfSize h s).length)).1 preserve) s
                (g.sample w.py (List.range (edgesOfSize h s).length)
                  (numToRandomize pn.toNat pd (edgesOfSize h s).length)).1
                (edgesOfSize h s) 0 (seedNp g sd w).np).1) ∧
    ((randomShuffleS g c h order size inplace pn pd preserve (some seed) w).1 = none
      ↔ randomShuffle h order size inplace pn pd [] [] = none) := by
  cases hr : resolveSize order size with
  | none => simp [randomShuffleS, randomShuffle, hr]
  | some s =>
    by_cases hp : 0 ≤ pn ∧ pn ≤ pd
    · refine ⟨by simp [randomShuffleS, seedNp, hr, hp, hpy], ?_, by simp [randomShuffleS, randomShuffle, hr, hp]⟩
      intro s' hs' _
      cases hs'
      refine ⟨by simp [randomShuffleS, seedNp, hr, hp, hpy], ?_⟩
      intro sd
      cases sd <;> simp [randomShuffleS, seedNp, hr, hp]
    · refine ⟨by simp [randomShuffleS, hr, hp], ?_, by simp [randomShuffleS, randomShuffle, hr, hp]⟩
      intro s' _ hp'
      exact absurd hp' hp

/-- `seed=0` is a seed: for every generator and ambient state, `random.seed(0)` / `np.random.seed(0)` is executed (the state
is `g.seed 0`, whatever it was); the outcomes of `random_hypergraph` and `add_random_edge(s)` with `seed=0` do not depend
on the ambient state; the program with the test `if seed:` (`seedPyTruthy`) differs from the code exactly at seed 0. -/
theorem C14_seed_zero {σ : Type} (g : RNG σ) (w : World σ) :
    (seedPy g (some 0) w).py = g.seed 0 ∧ (seedPy g (some 0) w).np = w.np ∧
    (seedNp g (some 0) w).np = g.seed 0 ∧ (seedNp g (some 0) w).py = w.py ∧
    seedPy g none w = w ∧ seedNp g none w = w ∧
    (∀ s : Nat, s ≠ 0 → seedPyTruthy g (some s) w = seedPy g (some s) w) ∧ seedPyTruthy g (some 0) w = w ∧
    (∀ n req w', (randomHypergraphM g n req (some 0) w).1 = (randomHypergraphM g n req (some 0) w').1) ∧
    (∀ h order size inplace w',
      (addRandomEdgeS g h order size inplace (some 0) w).1 = (addRandomEdgeS g h order size inplace (some 0) w').1) ∧
    (∀ h k order size inplace fuel w', (addRandomEdgesS g h k order size inplace (some 0) fuel w).1
      = (addRandomEdgesS g h k order size inplace (some 0) fuel w').1) := by
  refine ⟨rfl, rfl, rfl, rfl, rfl, rfl, ?_, rfl, ?_, ?_, ?_⟩
  · intro s hs
    cases s with
    | zero => exact absurd rfl hs
    | succ s => rfl
  · intro n req w'; exact (C14_seeded g n req 0 w w').1
  · intro h order size inplace w'; exact (C14_add_random_seeded g h order size inplace 0 w w').1
  · intro h k order size inplace fuel w'; exact (C14_add_random_edges_seeded g h k order size inplace 0 fuel w w').1

example : (seedPy demoRNG (some 0) ⟨4, 6⟩).py = 0 ∧ (seedPy demoRNG (some 0) ⟨4, 6⟩).np = 6 ∧
    (seedNp demoRNG (some 0) ⟨4, 6⟩).py = 4 ∧ (seedNp demoRNG (some 0) ⟨4, 6⟩).np = 0 := by decide

/-- non-vacuity: two pairs and a triple, `p = 1/2` (one of the two pairs is rewired), seed 0, ambient `random` state 1
(position 1 = `[2,3]` is rewired: pool `[2,3]`, choice from state 0 = `[2,3]`): equal outcomes from the `np.random` states 4
and 8; the kept pair keeps weight 2 and metadata 1 -/
example : (randomShuffleS demoRNG demoChoice ⟨true, [0, 1, 2, 3], [([0, 1], (2, 1)), ([2, 3], (3, 2)), ([0, 1, 2], (4, 3))]⟩
      none (some 2) true 1 2 false (some 0) ⟨1, 4⟩).1
      = some ⟨⟨true, [0, 1, 2, 3], [([0, 1, 2], (4, 3)), ([0, 1], (2, 1)), ([2, 3], (1, 0))]⟩, none⟩ ∧
    (randomShuffleS demoRNG demoChoice ⟨true, [0, 1, 2, 3], [([0, 1], (2, 1)), ([2, 3], (3, 2)), ([0, 1, 2], (4, 3))]⟩
      none (some 2) true 1 2 false (some 0) ⟨1, 8⟩).1
      = (randomShuffleS demoRNG demoChoice ⟨true, [0, 1, 2, 3], [([0, 1], (2, 1)), ([2, 3], (3, 2)), ([0, 1, 2], (4, 3))]⟩
      none (some 2) true 1 2 false (some 0) ⟨1, 4⟩).1 := by decide

/-- how deep `copy()` is, as a statement about OBJECTS WITH ALL THEIR TABLES (`HeapM`: object id -> content with weights and
hyperedge metadata, node metadata, hypergraph metadata, incidence metadata).  Hypothesis: the argument is a live object
`a` holding `m`.  For EVERY result `m'` a routine computes (so for `add_random_edge`, `add_random_edges`, `random_shuffle`,
`random_shuffle_all_orders` alike - `C14_metadata_intact` says what `m'` is): with `inplace=False` the result is handed back
in an object that did not exist before and is not the argument; the argument still holds `m` - content, weights and all
three metadata tables; every other object is untouched; and after ANY sequence of later writes into the returned object
(`pokes`: whatever the caller does to it - nothing of the argument is shared with it) the argument and every other old
object still hold what they held.  With `inplace=True` the argument holds `m'`. -/
theorem C14_copy_depth (H : HeapM) (a : Nat) (m m' : HGM) (ha : AL.get? H a = some m) :
    (∃ r, (finishObjM H a false m').2 = some r ∧ (finishObjAllM H a false m').2 = some r ∧
      finishObjAllM H a false m' = finishObjM H a false m' ∧
      r ≠ a ∧ AL.get? H r = none ∧
      AL.get? (finishObjM H a false m').1 r = some m' ∧
      (∀ b, b ≠ r → AL.get? (finishObjM H a false m').1 b = AL.get? H b) ∧
      (∀ pokes : List HGM, ∀ b, b ≠ r → AL.get? (pokes.foldl (fun G x => poke G r x) (finishObjM H a false m').1) b = AL.get? H b) ∧
      (∀ pokes : List HGM, ∃ m₁, AL.get? (pokes.foldl (fun G x => poke G r x) (finishObjM H a false m').1) a = some m₁ ∧
        m₁.core = m.core ∧ m₁.nmeta = m.nmeta ∧ m₁.hmeta = m.hmeta ∧ m₁.imeta = m.imeta)) ∧
    (finishObjM H a true m').2 = none ∧ AL.get? (finishObjM H a true m').1 a = some m' ∧
    (finishObjAllM H a true m').2 = some a ∧ AL.get? (finishObjAllM H a true m').1 a = some m' := by
  have hne : freshIdM H ≠ a := fresh_ne ha
  refine ⟨⟨freshIdM H, by simp [finishObjM], by simp [finishObjAllM], by simp [finishObjM, finishObjAllM], hne,
    get?_fresh H, by simp [finishObjM], fun b hb => get?_foldl_set_ne _ b hb [m'] H,
    fun pokes b hb => get?_foldl_set_ne _ b hb (m' :: pokes) H,
    fun pokes => ⟨m, (get?_foldl_set_ne _ a hne.symm (m' :: pokes) H).trans ha, rfl, rfl, rfl, rfl⟩⟩,
    by simp [finishObjM], by simp [finishObjM], by simp [finishObjAllM], by simp [finishObjAllM]⟩

/-- non-vacuity: objects 3 (with node metadata, hypergraph metadata 9, an incidence entry) and 7; the call on 3 with
`inplace=False` returns the new object 8; two later writes into 8 leave object 3 as it was -/
example : (finishObjM [(3, ⟨⟨false, [0, 1], [([0, 1], (1, 0))]⟩, [(0, 5), (1, 0)], 9, [(([0, 1], 1), 4)]⟩), (7, {})] 3 false {}).2
      = some 8 ∧
    AL.get? ([({} : HGM), ⟨⟨true, [], []⟩, [], 1, []⟩].foldl (fun G x => poke G 8 x)
      (finishObjM [(3, ⟨⟨false, [0, 1], [([0, 1], (1, 0))]⟩, [(0, 5), (1, 0)], 9, [(([0, 1], 1), 4)]⟩), (7, {})] 3 false {}).1) 3
      = some ⟨⟨false, [0, 1], [([0, 1], (1, 0))]⟩, [(0, 5), (1, 0)], 9, [(([0, 1], 1), 4)]⟩ := by decide

/-- TERMINATION BOUND of `add_random_edges` on a generator.  For every generator, state, hypergraph, admissible
arguments, seed (or none) and bound `fuel`: the loop's draws are a prefix of the generator's stream (`drawN`: the first
`fuel` samples) - exactly as many as the pure loop takes (`collectUsed`); and if the first `fuel` samples of the stream
hold `k` distinct hyperedges the call returns within `fuel` draws, with the first `k` distinct hyperedges of the stream,
and every larger bound gives the same.  (Hypothesis = "the draw list contains enough distinct proposals"; for requests
above `C(n, size)` no stream has that, `C14_saturation`.) -/
theorem C14_add_random_edges_terminates {σ : Type} (g : RNG σ) (h : HG) (k : Nat) (order size : Option Nat)
    (inplace : Bool) (sd : Option Nat) (fuel s : Nat) (w : World σ) (hr : resolveSize order size = some s)
    (hle : k = 0 ∨ s ≤ h.nodes.length) :
    (drawUntil g h.nodes s k fuel [] (seedPy g sd w).py).1
      = (drawN g h.nodes s fuel (seedPy g sd w).py).1.take
          (collectUsed k [] (drawN g h.nodes s fuel (seedPy g sd w).py).1) ∧
    (k ≤ (dedup ((drawN g h.nodes s fuel (seedPy g sd w).py).1.map sortE)).length →
      (addRandomEdgesS g h k order size inplace sd fuel w).1
        = some (finish inplace h (addEdges h ((dedup ((drawN g h.nodes s fuel (seedPy g sd w).py).1.map sortE)).take k))) ∧
      ∀ d, addRandomEdgesS g h k order size inplace sd (fuel + d) w = addRandomEdgesS g h k order size inplace sd fuel w) := by
  have e := drawUntil_eq g h.nodes s k fuel [] (seedPy g sd w).py
  refine ⟨e, ?_⟩
  intro hk
  have hc : consumedExactly k [] (drawUntil g h.nodes s k fuel [] (seedPy g sd w).py).1 = true := by
    rw [e]; exact consumed_prefix k _ [] hk
  obtain ⟨hpure, _, hfuel⟩ := addRandomEdgesS_returned g h k inplace fuel w hr hle sd hc
  refine ⟨?_, hfuel⟩
  rw [hpure, e, addRandomEdges, hr]
  simp only [hle, if_true]
  rw [((loopRun k _ []).stable _ (Nat.le_refl _)).2, collect_eq_take k _ [] (by simp)]
  rfl

/-- non-vacuity: the first 3 samples of the stream from seed 0 hold 2 distinct pairs -/
example : 2 ≤ (dedup ((drawN demoRNG [0, 1, 2, 3] 2 3 0).1.map sortE)).length := by decide
