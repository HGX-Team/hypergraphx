import Hgxv.Proofs.C15Node
import Hgxv.Proofs.C15Session
import Hgxv.Proofs.C15Init
/-! # C15 — Hy-MMSBM quantities equal their definitions; EM ascends, fixed inputs stay

Theorems about the executable model `Hgxv/Model/C15.lean` and (constructor, initial draws, `fitSeed`, `emLoop?`)
`Hgxv/Model/C15Init.lean` (exact rationals; `Real.log` for the likelihood).  Notions of the statements that are defined in
the proof modules `Hgxv/Proofs/C15*`: `nodesOf N e` = the nodes of hyperedge `e` among `0..N-1`,
`aij K u w i j = bf K (u i) (u j) w = u_iᵀ w u_j`, `pairSum K u w s = Σ_{i<j∈s} u_iᵀ w u_j` (`C15Sum`); `cnt3` (`C15Count`);
`chat u s a b = ½ Σ_{i≠j∈s} u_ia u_jb` (`C15Update`); `penLik d u r w = Σ_e A_e log λ_e(w) − Σ_{i<j} u_iᵀ w u_j − Σ_ab r_ab w_ab` (`C15Ascent`);
`fitState` (`C15Stop`); `exactLik` (`C15Exact`); `logLikMethod`, `exSeed` (`C15Init`);
the test data `witU`, `witD`, `witW0`, `witW1`, `witW2`, `witR`, `sglU`, `exW`, `exStop` (`C15Witness`).
Hyperedges of size 1 (Poisson parameter 0) are outside the hypotheses `0 < λ_e` of the update theorems. -/
open C15 Finset

/-- `poisson_params`: for a symmetric affinity the code's `0.5·(s_eᵀ w s_e − Σ_{i∈e} u_iᵀ w u_i)` is the sum
over the node pairs of the hyperedge.  Hypothesis = the constructor's check `w == w.T`. -/
theorem C15_poisson (N K : ℕ) (u w : Mat) (e : List ℕ) (hw : ∀ a < K, ∀ b < K, w a b = w b a) :
    poisson N K u w e = ∑ p ∈ (nodesOf N e).offDiag with p.1 < p.2, bf K (u p.1) (u p.2) w :=
  poisson_eq_pairSum N K u w e hw

/-- `bf_and_sum(u, w) = Σ_{i<j} u_iᵀ w u_j` -/
theorem C15_bf_and_sum (N K : ℕ) (u w : Mat) (hw : ∀ a < K, ∀ b < K, w a b = w b a) :
    bfSum N K u w = ∑ p ∈ (range N).offDiag with p.1 < p.2, bf K (u p.1) (u p.2) w :=
  bfSum_eq_pairSum N K u w hw

/-- over all hyperedges of size `d ≥ 2` on the node set `V`, every node pair is counted `C(|V|−2, d−2)` times -/
theorem C15_count (V : Finset ℕ) (d : ℕ) (hd : 2 ≤ d) (a : ℕ → ℕ → ℚ) :
    ∑ e ∈ V.powersetCard d, ∑ p ∈ e.offDiag with p.1 < p.2, a p.1 p.2
      = (Nat.choose (V.card - 2) (d - 2) : ℚ) * ∑ p ∈ V.offDiag with p.1 < p.2, a p.1 p.2 :=
  count_pairs_lt V d hd a

/-- the same over the hyperedges that contain node `i`: pairs through `i` are counted `C(|V|−2, d−2)` times,
pairs avoiding `i` are counted `C(|V|−3, d−3)` times (`cnt3`: never when `d = 2`) -/
theorem C15_count_node (V : Finset ℕ) (d : ℕ) (hd : 2 ≤ d) (i : ℕ) (hi : i ∈ V) (a : ℕ → ℕ → ℚ) :
    ∑ e ∈ V.powersetCard d with i ∈ e, ∑ p ∈ e.offDiag with p.1 < p.2, a p.1 p.2
      = ∑ p ∈ V.offDiag with p.1 < p.2, a p.1 p.2 *
          (if i = p.1 ∨ i = p.2 then (Nat.choose (V.card - 2) (d - 2) : ℚ) else (cnt3 V.card d : ℚ)) := by
  simpa only [Finset.sum_filter, ite_mul, zero_mul] using
    count_pairs_node V d hd i hi (fun i j => if i < j then a i j else 0)

/-- `κ_d = C(N−2, d−2) · C(d, 2)`: (hyperedges of size `d` through a node pair) × (node pairs in one) -/
theorem C15_kappa (N d : ℕ) (hd : 2 ≤ d) :
    kappa N d = (Nat.choose (N - 2) (d - 2) : ℚ) * (Nat.choose d 2 : ℚ) := by
  rw [kappa_eq, Nat.choose_two_right, Nat.cast_div (Nat.even_mul_pred_self d).two_dvd (by norm_num),
    Nat.cast_mul, Nat.cast_pred (by omega)]
  push_cast; ring

/-- summand of `C`: `2/(d(d−1)) = C(N−2, d−2)/κ_d` (the formula in the docstring of `HyMMSBM.C`) -/
theorem C15_C_term (N d : ℕ) (hd : 2 ≤ d) (hN : d ≤ N) :
    Cterm d = (Nat.choose (N - 2) (d - 2) : ℚ) / kappa N d :=
  Cterm_eq N d hd hN

/-- `log_binomial(n, k)` holds the coefficient as two products, `np.arange(n−k+1, n+1)` over `np.arange(1, k+1)`:
the numerator is the denominator times `C(n, k)` — exact naturals, whatever their size.  Hypothesis `k ≤ n`:
`log_kappa` calls it with `n = N − 2`, `k = d − 2`, `d ≤ N`. -/
theorem C15_log_binomial_products (n k : ℕ) (hk : k ≤ n) :
    binomNum n k = binomDen k * Nat.choose n k ∧ choose n k = Nat.choose n k :=
  ⟨binomNum_eq n k hk, choose_eq n k⟩

/-- `log_binomial(n, k) = np.log(np.arange(n−k+1, n+1)).sum() − np.log(np.arange(1, k+1)).sum()` is `log C(n, k)`
(over `ℝ`; `k ≤ n`).  No size restriction: the statement is about the sums of logarithms, the coefficient itself is
never formed. -/
theorem C15_log_binomial (n k : ℕ) (hk : k ≤ n) :
    (∑ i ∈ range k, Real.log ((n - k + 1 + i : ℕ) : ℝ)) - ∑ i ∈ range k, Real.log ((1 + i : ℕ) : ℝ)
      = Real.log (Nat.choose n k : ℝ) := by
  rw [← log_prodFrom (n - k + 1) k (by omega), ← log_prodFrom 1 k (le_refl 1)]
  have hnum : (prodFrom (n - k + 1) k : ℝ) = (prodFrom 1 k : ℝ) * (Nat.choose n k : ℝ) := by
    have := binomNum_eq n k hk
    unfold binomNum binomDen at this
    exact_mod_cast this
  have hden : ((prodFrom 1 k : ℕ) : ℝ) ≠ 0 := by
    have := prodFrom_pos 1 k (le_refl 1)
    exact_mod_cast this.ne'
  have hch : ((Nat.choose n k : ℕ) : ℝ) ≠ 0 := by
    have := Nat.choose_pos hk
    exact_mod_cast this.ne'
  rw [hnum, Real.log_mul hden hch]; ring

/-- `log_kappa(d) = log_binomial(N−2, d−2) + log d + log(d−1) − log 2` is the logarithm of the normalisation
`κ_d = C(N−2, d−2)·d(d−1)/2` of the model, for every `2 ≤ d ≤ N` (any magnitude of the coefficient); and the product form
the driver evaluates (`kappaProd`) is `kappa`. -/
theorem C15_log_kappa (N d : ℕ) (hd : 2 ≤ d) (hN : d ≤ N) :
    ((∑ i ∈ range (d - 2), Real.log ((N - 2 - (d - 2) + 1 + i : ℕ) : ℝ)) - ∑ i ∈ range (d - 2), Real.log ((1 + i : ℕ) : ℝ))
        + Real.log (d : ℝ) + Real.log ((d : ℝ) - 1) - Real.log 2
      = Real.log ((kappa N d : ℚ) : ℝ) ∧ kappaProd N d = kappa N d := by
  refine ⟨?_, kappaProd_eq N d hd hN⟩
  have hch : ((Nat.choose (N - 2) (d - 2) : ℕ) : ℝ) ≠ 0 := Nat.cast_ne_zero.mpr (Nat.choose_pos (by omega)).ne'
  have hd0 : (d : ℝ) ≠ 0 := Nat.cast_ne_zero.mpr (by omega)
  have hd1 : (d : ℝ) - 1 ≠ 0 := sub_ne_zero.mpr (Nat.cast_ne_one.mpr (by omega))
  rw [C15_log_binomial (N - 2) (d - 2) (by omega), kappa_eq]
  push_cast
  rw [Real.log_div (mul_ne_zero (mul_ne_zero hch hd0) hd1) two_ne_zero, Real.log_mul (mul_ne_zero hch hd0) hd1,
    Real.log_mul hch hd0]

example : kappaProd 7 4 = 60 ∧ kappa 7 4 = 60 ∧ binomNum 5 2 = 20 ∧ binomDen 2 = 2 := by decide +kernel

/-- `dimension_sequence(expected=True)[d] = C(d)·bf_and_sum(u, w)` is the expected number of hyperedges of
size `d`: the sum over all `d`-subsets `e` of `λ_e/κ_d`.  Hypotheses: `w` symmetric, `2 ≤ d ≤ N`. -/
theorem C15_dim_seq (N K : ℕ) (u w : Mat) (hw : ∀ a < K, ∀ b < K, w a b = w b a) (d : ℕ) (hd : 2 ≤ d) (hN : d ≤ N) :
    Cterm d * bfSum N K u w = ∑ e ∈ (range N).powersetCard d, pairSum K u w e / kappa N d := by
  rw [dim_closed N K u w d hd hN, bfSum_eq_pairSum N K u w hw]

/-- the returned dictionary holds exactly the sizes with a positive expected count -/
theorem C15_dim_seq_mem (N K : ℕ) (u w : Mat) (ds : List ℕ) (p : ℕ × ℚ) :
    p ∈ expDimSeq N K u w ds ↔ p.1 ∈ ds ∧ p.2 = Cterm p.1 * bfSum N K u w ∧ 0 < p.2 := by
  unfold expDimSeq
  simp only [List.mem_filter, List.mem_map, decide_eq_true_eq]
  constructor
  · rintro ⟨⟨d, hd, rfl⟩, hpos⟩; exact ⟨hd, rfl, hpos⟩
  · rintro ⟨hd, hv, hpos⟩; exact ⟨⟨p.1, hd, by rw [← hv]⟩, hpos⟩

/-- `expected_degree(per_node=False, d=ds) = C''(ds)·bf_and_sum(u, w)` is the average over the nodes of the
expected degree, the expected degree of node `i` being the sum over all hyperedges `e ∋ i` with a size in `ds`
of `λ_e/κ_|e|`.  Hypotheses: `w` symmetric, every size in `2..N` (`N ≥ 1` is not used). -/
theorem C15_exp_degree_avg (N K : ℕ) (u w : Mat) (hw : ∀ a < K, ∀ b < K, w a b = w b a) (hN : 1 ≤ N)
    (ds : List ℕ) (hds : ∀ d ∈ ds, 2 ≤ d ∧ d ≤ N) :
    expDegAvg N K u w ds
      = 1 / (N : ℚ) * ∑ i ∈ range N, sumL ds fun d =>
          ∑ e ∈ (range N).powersetCard d with i ∈ e, pairSum K u w e / kappa N d := by
  clear hN -- for `N = 0` both sides are 0
  unfold expDegAvg Csecond
  rw [sum_sumL, mul_sumL, mul_sumL, sumL_mul]
  apply sumL_congr
  intro d hd
  obtain ⟨h2, hdN⟩ := hds d hd
  rw [sum_nodes_powerset N d (fun e => pairSum K u w e / kappa N d), dim_closed N K u w d h2 hdN,
    bfSum_eq_pairSum N K u w hw, ← mul_assoc (d : ℚ), mul_Cterm d h2]
  ring

/-- `expected_degree(per_node=True, d=ds)[i] = C(ds)·Σ_{j≠i} u_iᵀ w u_j + C'(ds)·Σ_{j<k, j,k≠i} u_jᵀ w u_k` is the
expected degree of node `i`: the sum over all hyperedges `e ∋ i` with a size in `ds` of `λ_e/κ_|e|`
(`degree_sequence(expected=True)` is the same call).  Hypotheses: `w` symmetric, `N ≥ 3` (the code divides
by `N−2`), `i < N`, every size in `2..N`. -/
theorem C15_exp_degree_node (N K : ℕ) (u w : Mat) (hw : ∀ a < K, ∀ b < K, w a b = w b a) (hN : 3 ≤ N)
    (i : ℕ) (hi : i < N) (ds : List ℕ) (hds : ∀ d ∈ ds, 2 ≤ d ∧ d ≤ N) :
    expDegNode N K u w ds i
      = sumL ds fun d => ∑ e ∈ (range N).powersetCard d with i ∈ e, pairSum K u w e / kappa N d := by
  unfold expDegNode C Cprime
  simp only []
  rw [sumL_mul, mul_sumL, sumL_mul, sumL_add]
  apply sumL_congr
  intro d hd
  obtain ⟨h2, hdN⟩ := hds d hd
  rw [node_closed N K u w hN d h2 hdN i _ _ (node_total N K u w hw d h2 i hi)]

/-! ## `fit` never changes a supplied parameter
For every data set, every supplied array, every value of the random initialisation (`u0`, `w0`), every prior,
every `n`: the returned object holds the very array that was supplied (the model is pure, so the caller's
array cannot be written either; on the code this is checked by comparing with a copy). -/

theorem C15_fixed_u (d : Data) (us : List (List Rat)) (wSup : Option (List (List Rat)))
    (Dsup : Option Nat) (u0 w0 : List (List Rat)) (ru rw : Mat) (sqrtC : Rat) (stop : Option Stop) (n D : Nat)
    (p : Params) (h : fit d (some us) wSup Dsup u0 w0 ru rw sqrtC stop n = some (D, p)) : p.u = us :=
  fit_keeps (·.u = us) d (some us) wSup Dsup u0 w0 ru rw sqrtC stop n D p (fun _ h => h)
    (fun q h => (finish_u_fixed d _ _ sqrtC q).trans h) rfl h

theorem C15_fixed_w (d : Data) (uSup : Option (List (List Rat))) (ws : List (List Rat))
    (Dsup : Option Nat) (u0 w0 : List (List Rat)) (ru rw : Mat) (sqrtC : Rat) (stop : Option Stop) (n D : Nat)
    (p : Params) (h : fit d uSup (some ws) Dsup u0 w0 ru rw sqrtC stop n = some (D, p)) : p.w = ws :=
  fit_keeps (·.w = ws) d uSup (some ws) Dsup u0 w0 ru rw sqrtC stop n D p (fun _ h => h)
    (fun q h => (finish_w_fixed d _ _ sqrtC q).trans h) rfl h

/-- a supplied `max_hye_size` stays, and `fit` only succeeds when it covers the data -/
theorem C15_fixed_max_size (d : Data) (uSup wSup : Option (List (List Rat))) (D0 : Nat)
    (u0 w0 : List (List Rat)) (ru rw : Mat) (sqrtC : Rat) (stop : Option Stop) (n D : Nat) (p : Params)
    (h : fit d uSup wSup (some D0) u0 w0 ru rw sqrtC stop n = some (D, p)) : D = D0 ∧ maxSize d ≤ D :=
  fitMaxSize_some d D0 D (fit_some d uSup wSup (some D0) u0 w0 ru rw sqrtC stop n D p h).1

/-- the model's convergence test (rational, no square root) is the code's
`norm(w − old_w)/K < tolerance and norm(u − old_u)/N < tolerance` with the Frobenius norm over `ℝ` -/
theorem C15_stop_rule (d : Data) (tol : Rat) (p old : Params) (hK : 0 < d.K) (hN : 0 < d.N) :
    converged d tol p old = true ↔
      Real.sqrt ((∑ a ∈ range d.K, ∑ b ∈ range d.K, (matOf p.w a b - matOf old.w a b) ^ 2 : ℚ) : ℝ) / (d.K : ℝ) < (tol : ℝ) ∧
      Real.sqrt ((∑ i ∈ range d.N, ∑ a ∈ range d.K, (matOf p.u i a - matOf old.u i a) ^ 2 : ℚ) : ℝ) / (d.N : ℝ) < (tol : ℝ) := by
  unfold converged
  rw [Bool.and_eq_true, normLt_iff _ _ _ _ _ hK, normLt_iff _ _ _ _ _ hN, sqDist_eq, sqDist_eq]

/-- **`fit` with `n_iter = n ≥ 1`, any `tolerance` / `check_convergence_every`, both exits of the loop.**
`fitState .. m` = the parameters after `m` passes of the loop body.  The loop is left at an index `it < n`
(`training_iter`); the returned parameters are the state after `it + 1` passes, divided by `C()` (`finish`:
`w / C()` when `w` is inferred, else `u / sqrt(C())` when `u` is inferred) — through `break` exactly as at the end of
the range; the `break` test failed at every earlier index; `tolerance_reached` is the value of the test at `it`;
and without `break` all `n` passes were made. -/
theorem C15_fit_returns (d : Data) (uSup wSup : Option (List (List Rat))) (Dsup : Option Nat)
    (u0 w0 : List (List Rat)) (ru rw : Mat) (sqrtC : Rat) (stop : Option Stop) (n D : Nat) (p : Params) (hn : 1 ≤ n)
    (h : fit d uSup wSup Dsup u0 w0 ru rw sqrtC stop n = some (D, p)) :
    (fitRun d uSup wSup u0 w0 ru rw stop n).it < n ∧
    p = finish d uSup.isSome wSup.isSome (C (dims 2 D)) sqrtC
          (fitState d uSup wSup u0 w0 ru rw ((fitRun d uSup wSup u0 w0 ru rw stop n).it + 1)) ∧
    (∀ i < (fitRun d uSup wSup u0 w0 ru rw stop n).it,
      stopNow d stop i (fitState d uSup wSup u0 w0 ru rw (i + 1)) (fitState d uSup wSup u0 w0 ru rw i) = false) ∧
    (fitRun d uSup wSup u0 w0 ru rw stop n).reached
      = stopNow d stop (fitRun d uSup wSup u0 w0 ru rw stop n).it
          (fitState d uSup wSup u0 w0 ru rw ((fitRun d uSup wSup u0 w0 ru rw stop n).it + 1))
          (fitState d uSup wSup u0 w0 ru rw (fitRun d uSup wSup u0 w0 ru rw stop n).it) ∧
    ((fitRun d uSup wSup u0 w0 ru rw stop n).reached = false → (fitRun d uSup wSup u0 w0 ru rw stop n).it = n - 1) := by
  obtain ⟨_, _, hp⟩ := fit_some d uSup wSup Dsup u0 w0 ru rw sqrtC stop n D p h
  obtain ⟨h1, h2, h3, h4, h5⟩ := fitRun_spec d uSup wSup u0 w0 ru rw stop n hn
  exact ⟨h1, by rw [hp, ← h2], h3, h4, h5⟩

/-- `tolerance=None` (the default): all `n` passes, then the division -/
theorem C15_fit_no_tolerance (d : Data) (uSup wSup : Option (List (List Rat))) (Dsup : Option Nat)
    (u0 w0 : List (List Rat)) (ru rw : Mat) (sqrtC : Rat) (n D : Nat) (p : Params)
    (h : fit d uSup wSup Dsup u0 w0 ru rw sqrtC none n = some (D, p)) :
    p = finish d uSup.isSome wSup.isSome (C (dims 2 D)) sqrtC (fitState d uSup wSup u0 w0 ru rw n) ∧
    (fitRun d uSup wSup u0 w0 ru rw none n).it = n - 1 ∧ (fitRun d uSup wSup u0 w0 ru rw none n).reached = false := by
  obtain ⟨_, _, hp⟩ := fit_some d uSup wSup Dsup u0 w0 ru rw sqrtC none n D p h
  have hr : fitRun d uSup wSup u0 w0 ru rw none n
      = { p := fitState d uSup wSup u0 w0 ru rw n, it := n - 1, reached := false } := emRun_none _ _ _ _ _ _ _
  rw [hp, hr]
  exact ⟨rfl, rfl, rfl⟩

/-- once the tolerance was reached with `n_iter = n`, `n_iter = n + 1` returns the same (the two runs are the same `Run`:
`loopFrom_reached_succ`) -/
theorem C15_fit_converged_stays (d : Data) (uSup wSup : Option (List (List Rat))) (Dsup : Option Nat)
    (u0 w0 : List (List Rat)) (ru rw : Mat) (sqrtC : Rat) (stop : Option Stop) (n : Nat)
    (hr : (fitRun d uSup wSup u0 w0 ru rw stop n).reached = true) :
    fit d uSup wSup Dsup u0 w0 ru rw sqrtC stop (n + 1) = fit d uSup wSup Dsup u0 w0 ru rw sqrtC stop n := by
  have : fitRun d uSup wSup u0 w0 ru rw stop (n + 1) = fitRun d uSup wSup u0 w0 ru rw stop n :=
    loopFrom_reached_succ d _ stop n 0 _ _ hr
  unfold fit
  rw [this]

/-- `_w_update`: for `u, w, A ≥ 0` every entry of the new `w` is `≥ 0` (whatever the prior: the guarded update, D46,
divides by positive denominators only); it is symmetric where `w` and the prior are, and zero where `w` is zero
(diagonal stays diagonal).  (`u ≥ 0`, `w ≥ 0` symmetric are the constructor's checks; weights `≥ 0` suffice here.) -/
theorem C15_update_nonneg_sym (d : Data) (u w r : Mat) (hu : ∀ i a, 0 ≤ u i a) (hw : ∀ a b, 0 ≤ w a b)
    (hA : ∀ e < d.E, 0 ≤ d.A e) :
    (∀ a b, 0 ≤ wUpdate d u w r a b) ∧
    (∀ a b, w a b = w b a → r a b = r b a → wUpdate d u w r a b = wUpdate d u w r b a) ∧
    (∀ a b, w a b = 0 → wUpdate d u w r a b = 0) :=
  ⟨wUpdate_nonneg d u w r hu hw hA, fun a b h1 h2 => wUpdate_symm d u w r a b h1 h2,
   fun a b h => wUpdate_zero d u w r a b h⟩

/-- `_u_update`: for `u, w, A ≥ 0` every entry of the new `u` is `≥ 0` -/
theorem C15_u_update_nonneg (d : Data) (u w r : Mat) (hu : ∀ i a, 0 ≤ u i a) (hw : ∀ a b, 0 ≤ w a b)
    (hA : ∀ e < d.E, 0 ≤ d.A e) :
    ∀ i < d.N, ∀ a, 0 ≤ uUpdate d u w r i a :=
  fun i hi a => uUpdate_nonneg d u w r hu hw hA i hi a

/-- finite: when every Poisson parameter of the data is positive no division by zero occurs in either update (the
guarded updates return the arrays) - the denominators may vanish: the code (D46) divides where they are
positive and stores 0 elsewhere -/
theorem C15_update_finite (d : Data) (u w ru rw : Mat)
    (hlam : ∀ e < d.E, 0 < poisson d.N d.K u w (d.edge e)) :
    wUpdate? d u w rw = some (wUpdate d u w rw) ∧ uUpdate? d u w ru = some (uUpdate d u w ru) := by
  have h : multOk d u w = true := (multOk_iff d u w).mpr fun e he => (hlam e he).ne'
  unfold wUpdate? uUpdate?
  rw [if_pos h, if_pos h]
  exact ⟨rfl, rfl⟩

/-- **the entries the guarded division (D46) sets to 0 are `0 / 0`**: where the denominator of an update is not positive
(`u, w, r ≥ 0`, `w` symmetric: the constructor's checks; then it is exactly 0) its numerator vanishes too; for `_w_update`
the entry moreover occurs in no Poisson parameter (all its coefficients `ĉ` vanish, `poisson_lin`) and is unpenalised, so
no likelihood depends on it.  The new entry is 0 (by `safeDiv`), elsewhere it is the quotient. -/
theorem C15_update_vanishing_den (d : Data) (u w ru rw : Mat) (hu : ∀ i a, 0 ≤ u i a) (hw : ∀ a b, 0 ≤ w a b)
    (hsym : ∀ a < d.K, ∀ b < d.K, w a b = w b a) (hru : ∀ i a, 0 ≤ ru i a) (hrw : ∀ a b, 0 ≤ rw a b) :
    (∀ a b, ¬ 0 < wDen d.N u a b + rw a b →
        wNum d u w a b = 0 ∧ (∀ e, chat u (nodesOf d.N (d.edge e)) a b = 0) ∧ rw a b = 0 ∧ wUpdate d u w rw a b = 0) ∧
    (∀ i < d.N, ∀ a < d.K, ¬ 0 < uDen d u w i a + ru i a → uNum d u w i a = 0 ∧ uUpdate d u w ru i a = 0) ∧
    (∀ a b, 0 < wDen d.N u a b + rw a b → wUpdate d u w rw a b = wNum d u w a b / (wDen d.N u a b + rw a b)) ∧
    (∀ i a, 0 < uDen d u w i a + ru i a → uUpdate d u w ru i a = uNum d u w i a / (uDen d u w i a + ru i a)) := by
  refine ⟨fun a b h => ?_, fun i hi a ha h => ⟨uNum_zero_of_den d u w ru hu hw hsym hru i hi a ha h, safeDiv_of_not_pos _ _ h⟩,
    fun a b h => safeDiv_of_pos _ _ h, fun i a h => safeDiv_of_pos _ _ h⟩
  obtain ⟨h1, h2, h3⟩ := wNum_zero_of_den d u w rw hu hrw a b h
  exact ⟨h1, h2, h3, safeDiv_of_not_pos _ _ h⟩

/-- **One `_w_update` never decreases the penalised log-likelihood** `penLik` (rate matrix `r`; for `r = 0` it
is the Poisson log-likelihood up to a constant).  Hypotheses: `u, w ≥ 0`, positive weights, positive Poisson
parameters of the data hyperedges (sizes ≥ 2 with overlapping memberships).  Nothing is assumed about the
denominators: an entry whose denominator vanishes occurs neither in a Poisson parameter nor in the penalty and is set to 0
by the guarded update (D46).  The invariants needed to iterate are part of the conclusion. -/
theorem C15_ascent_step (d : Data) (u w r : Mat) (hu : ∀ i a, 0 ≤ u i a) (hw : ∀ a b, 0 ≤ w a b)
    (hA : ∀ e < d.E, 0 < d.A e) (hr : ∀ a b, 0 ≤ r a b)
    (hlam : ∀ e < d.E, 0 < poisson d.N d.K u w (d.edge e)) :
    penLik d u r w ≤ penLik d u r (wUpdate d u w r) ∧
    (∀ a b, 0 ≤ wUpdate d u w r a b) ∧
    (∀ e < d.E, 0 < poisson d.N d.K u (wUpdate d u w r) (d.edge e)) :=
  ⟨ascent_step d u w r hu hw hA hr hlam, wUpdate_nonneg d u w r hu hw (fun e he => (hA e he).le),
   poisson_pos_after d u w r hu hw hA hr hlam⟩

/-- **Memberships supplied ⇒ the penalised log-likelihood of the affinity after `n+1` passes of `fit`'s loop
is at least that after `n` passes**, for every initial draw `w0 ≥ 0` with positive Poisson parameters.
With `w_prior = 0` this is the property's statement (`penLik` with `r = 0` is the exact Poisson
log-likelihood of the data under the returned `w/C` up to an additive constant, `C15_exact_likelihood`). -/
theorem C15_ascent (d : Data) (us w0 : List (List Rat)) (ru rw : Mat)
    (hu : ∀ i a, 0 ≤ matOf us i a) (hw0 : ∀ a b, 0 ≤ matOf w0 a b) (hA : ∀ e < d.E, 0 < d.A e)
    (hr : ∀ a b, 0 ≤ rw a b)
    (hlam : ∀ e < d.E, 0 < poisson d.N d.K (matOf us) (matOf w0) (d.edge e)) (n : ℕ) :
    penLik d (matOf us) rw (matOf (emLoop d true false ru rw n { u := us, w := w0 }).w)
      ≤ penLik d (matOf us) rw (matOf (emLoop d true false ru rw (n + 1) { u := us, w := w0 }).w) :=
  (emStep_asc d us ru rw hu hA hr _ (emLoop_ascInv d us w0 ru rw hu hw0 hA hr hlam n)).2

/-- the normaliser of the Poisson model: the sum over ALL possible hyperedges of size `2..D` of `λ_s/κ_|s|`
is `C()·bf_and_sum(u, w)` (what `log_likelihood` / the loop use) -/
theorem C15_normaliser (N K D : ℕ) (u w : Mat) (hw : ∀ a < K, ∀ b < K, w a b = w b a) (hD : D ≤ N) :
    (sumL (dims 2 D) fun dd => ∑ s ∈ (range N).powersetCard dd, pairSum K u w s / kappa N dd)
      = C (dims 2 D) * bfSum N K u w :=
  normaliser_closed N K D u w hw hD

/-- `exactLik` = exact Poisson log-likelihood of the data (all possible hyperedges of size `2..D`, means
`λ_s/κ_|s|`) minus the prior term; under the returned `w = w̃/C` it is `penLik(w̃)` minus a constant -/
theorem C15_exact_likelihood (d : Data) (D : ℕ) (u r w : Mat)
    (hw : ∀ a < d.K, ∀ b < d.K, w a b = w b a) (hD2 : 2 ≤ D) (hDN : D ≤ d.N)
    (hsize : ∀ e < d.E, 2 ≤ (d.edge e).length ∧ (d.edge e).length ≤ d.N)
    (hlam : ∀ e < d.E, 0 < poisson d.N d.K u w (d.edge e)) :
    exactLik d D u r (fun a b => w a b / C (dims 2 D))
      = penLik d u r w
        - ∑ e ∈ range d.E, ((d.A e : ℚ) : ℝ) *
            Real.log (((C (dims 2 D) * kappa d.N (d.edge e).length : ℚ)) : ℝ) :=
  exactLik_eq d D u r w hw hD2 hDN hsize hlam

/-- **The property's statement about `fit`.**  Memberships supplied, affinity inferred: the exact Poisson
log-likelihood of the data under the parameters returned by `fit(n_iter = n+1)` (penalised by the prior term
when `w_prior > 0`; for `w_prior = 0` it is the plain likelihood) is at least that of `fit(n_iter = n)`, for
the same initial draw and the same `tolerance` / `check_convergence_every` (any value, `none` = no stopping rule:
a run that stops early returns the state of the stopping iteration, which the longer run reaches too).  Hypotheses: `u ≥ 0` (constructor check), initial draw `w0 ≥ 0` symmetric (what
`_init_w` produces) with positive Poisson parameters, positive weights, prior `≥ 0` symmetric,
hyperedge sizes in `2..N`, `2 ≤ max_hye_size ≤ N` (no hypothesis on the denominators: D46). -/
theorem C15_ascent_fit (d : Data) (us u0 w0 : List (List Rat)) (Dsup : Option ℕ) (ru rw : Mat) (sqrtC : Rat)
    (stop : Option Stop)
    (hu : ∀ i a, 0 ≤ matOf us i a) (hw0 : ∀ a b, 0 ≤ matOf w0 a b) (hA : ∀ e < d.E, 0 < d.A e)
    (hr : ∀ a b, 0 ≤ rw a b)
    (hlam : ∀ e < d.E, 0 < poisson d.N d.K (matOf us) (matOf w0) (d.edge e))
    (hsym0 : ∀ a b, matOf w0 a b = matOf w0 b a) (hrsym : ∀ a b, rw a b = rw b a)
    (hsize : ∀ e < d.E, 2 ≤ (d.edge e).length ∧ (d.edge e).length ≤ d.N)
    (n D D' : ℕ) (p p' : Params)
    (h1 : fit d (some us) none Dsup u0 w0 ru rw sqrtC stop n = some (D, p))
    (h2 : fit d (some us) none Dsup u0 w0 ru rw sqrtC stop (n + 1) = some (D', p'))
    (hD2 : 2 ≤ D) (hDN : D ≤ d.N) :
    D' = D ∧ exactLik d D (matOf us) rw (matOf p.w) ≤ exactLik d D (matOf us) rw (matOf p'.w) := by
  obtain ⟨hm1, hp1⟩ := fit_supplied_u d us Dsup u0 w0 ru rw sqrtC stop n D p h1
  obtain ⟨hm2, hp2⟩ := fit_supplied_u d us Dsup u0 w0 ru rw sqrtC stop (n + 1) D' p' h2
  obtain rfl : D = D' := by rw [hm1] at hm2; exact Option.some.inj hm2
  refine ⟨rfl, ?_⟩
  have hasc := emStep_asc d us ru rw hu hA hr
  have hsymm := emStep_inv (fun _ _ => False) d true false ru rw (fun e he => (hA e he).le) hrsym
  have lik : ∀ q, AscInv d us q → PInv (fun _ _ => False) q →
      exactLik d D (matOf us) rw (matOf (toRows d.K d.K fun a b => matOf q.w a b / C (dims 2 D)))
        = penLik d (matOf us) rw (matOf q.w)
          - ∑ e ∈ range d.E, ((d.A e : ℚ) : ℝ) * Real.log (((C (dims 2 D) * kappa d.N (d.edge e).length : ℚ)) : ℝ) := by
    intro q hq hq'
    rw [exactLik_congr d D (matOf us) rw _ (fun a b => matOf q.w a b / C (dims 2 D))
      (fun a ha b hb => matOf_toRows_in _ _ _ a b ha hb)]
    exact exactLik_eq d D (matOf us) rw _ (fun a _ b _ => hq'.w_symm a b) hD2 hDN hsize hq.lam_pos
  -- the state with which the shorter run leaves the loop (either exit) has `AscInv` and `PInv` (zero pattern `False`: only `w_symm` is used)
  obtain ⟨hq, hq'⟩ := emRun_keeps (fun q => AscInv d us q ∧ PInv (fun _ _ => False) q) d true false ru rw stop n
    (fun q h => ⟨(hasc q h.1).1, hsymm q h.2⟩) { u := us, w := w0 } ⟨⟨rfl, hw0, hlam⟩, hu, hw0, hsym0, fun _ _ h => h.elim⟩
  -- the longer run leaves it with the same state or after one more pass
  rw [hp1, hp2]
  rcases emRun_succ d true false ru rw stop n { u := us, w := w0 } with h | h
  · rw [h]
  · rw [h, lik _ hq hq', lik _ (hasc _ hq).1 (hsymm _ hq')]
    exact sub_le_sub_right (hasc _ hq).2 _

/-! ## one long-lived model object: several calls of `fit`, queries in between

The query functions of the model (`poisson`, `expDegNode`, `expDegAvg`, `expDimSeq`, `C`, ..) are pure: their value is
a function of the parameter arrays they are given and of their own argument, so every theorem above holds for the arrays
an object holds at the time of the query, whatever was called before (`C15_session_query`).  What IS state is written down
in `Obj` / `fitObj` (`Model/C15.lean`): `u`, `w`, `max_hye_size` and the training attributes.  The theorems below say what
an earlier call of `fit` leaves behind for a later one. -/

/-- `obj.fit(..)` on an object in state `o` returns exactly when the first-call function `fit` (about which
`C15_fixed_*`, `C15_fit_returns`, `C15_ascent_fit` speak) has a value for the object's current `u`, `w`, `max_hye_size`,
and then the object holds that value: all theorems about `fit` apply to every call of a session. -/
theorem C15_session_fit_is_fit (o : Obj) (d : Data) (u0 w0 : List (List Rat)) (ru rw : Mat) (sqrtC : Rat)
    (stop : Option Stop) (n : Nat) :
    match fit d o.u o.w o.D u0 w0 ru rw sqrtC stop n with
    | some (D, p) =>
        fitObj o d u0 w0 ru rw sqrtC stop n
          = ({ u := some p.u, w := some p.w, D := some D, tolerance := stop.map (·.tol), trained := true,
               it := some (fitRun d o.u o.w u0 w0 ru rw stop n).it,
               reached := (fitRun d o.u o.w u0 w0 ru rw stop n).reached }, true)
    | none => (fitObj o d u0 w0 ru rw sqrtC stop n).2 = false := by
  cases hm : fitMaxSize d o.D with
  | none =>
    have : fit d o.u o.w o.D u0 w0 ru rw sqrtC stop n = none := by unfold fit; simp only [hm]
    rw [this, fitObj_reject o d u0 w0 ru rw sqrtC stop n hm]
  | some D =>
    cases hs : stopOk stop with
    | true =>
      have : fit d o.u o.w o.D u0 w0 ru rw sqrtC stop n
          = some (D, finish d o.u.isSome o.w.isSome (C (dims 2 D)) sqrtC (fitRun d o.u o.w u0 w0 ru rw stop n).p) := by
        unfold fit; simp only [hm, hs, if_true]
      rw [this]
      exact fitObj_return o d u0 w0 ru rw sqrtC stop n D hm hs
    | false =>
      have : fit d o.u o.w o.D u0 w0 ru rw sqrtC stop n = none := by
        unfold fit; simp only [hm, hs, Bool.false_eq_true, if_false]
      rw [this, fitObj_zerodiv o d u0 w0 ru rw sqrtC stop n D hm hs]

/-- **Fixed inputs stay, over a whole session.**  Whatever calls of `fit` are made on the object - any data, draws,
priors, stopping arguments, `n_iter`, calls that raise included - a parameter array that is set and a `max_hye_size`
that is set are the same at the end. -/
theorem C15_session_params_stay (o : Obj) (cs : List FitCall) :
    (∀ us, o.u = some us → (runSession o cs).u = some us) ∧
    (∀ ws, o.w = some ws → (runSession o cs).w = some ws) ∧
    (∀ D0, o.D = some D0 → (runSession o cs).D = some D0) :=
  ⟨fun us h => runSession_u_stays cs o us h, fun ws h => runSession_w_stays cs o ws h,
   fun D0 h => runSession_D_stays cs o D0 h⟩

/-- after the FIRST call of `fit` (returned or raised) both arrays are set - `fit` treats what it inferred as fixed from
then on (`self.w is None` is its only test) - so no later call, on whatever data, changes `u` or `w` -/
theorem C15_session_after_first_fit (o : Obj) (c : FitCall) (cs : List FitCall) :
    (callFit o c).u.isSome = true ∧ (callFit o c).w.isSome = true ∧
    (runSession o (c :: cs)).u = (callFit o c).u ∧ (runSession o (c :: cs)).w = (callFit o c).w := by
  obtain ⟨hu, hw⟩ := fitObj_both_set o c.d c.u0 c.w0 c.ru c.rw c.sqrtC c.stop c.n
  refine ⟨hu, hw, ?_, ?_⟩
  · obtain ⟨us, hus⟩ := Option.isSome_iff_exists.mp hu
    have hus' : (callFit o c).u = some us := hus
    rw [runSession_cons, runSession_u_stays cs (callFit o c) us hus', hus']
  · obtain ⟨ws, hws⟩ := Option.isSome_iff_exists.mp hw
    have hws' : (callFit o c).w = some ws := hws
    rw [runSession_cons, runSession_w_stays cs (callFit o c) ws hws', hws']

/-- **a call of `fit` does not depend on what earlier calls left behind**, except through `u`, `w`, `max_hye_size`: two
objects that agree on these three (whatever their `tolerance`, `trained`, `training_iter`, `tolerance_reached`) give the
same outcome, the same arrays, the same `max_hye_size`, `tolerance`, `tolerance_reached`, and, when the call returns, the
same object altogether (same draws `u0`, `w0` = same seed on a fresh generator) -/
theorem C15_session_fit_ignores_history (o o' : Obj) (d : Data) (u0 w0 : List (List Rat)) (ru rw : Mat) (sqrtC : Rat)
    (stop : Option Stop) (n : Nat) (hu : o.u = o'.u) (hw : o.w = o'.w) (hD : o.D = o'.D) :
    (fitObj o d u0 w0 ru rw sqrtC stop n).2 = (fitObj o' d u0 w0 ru rw sqrtC stop n).2 ∧
    (fitObj o d u0 w0 ru rw sqrtC stop n).1.u = (fitObj o' d u0 w0 ru rw sqrtC stop n).1.u ∧
    (fitObj o d u0 w0 ru rw sqrtC stop n).1.w = (fitObj o' d u0 w0 ru rw sqrtC stop n).1.w ∧
    (fitObj o d u0 w0 ru rw sqrtC stop n).1.D = (fitObj o' d u0 w0 ru rw sqrtC stop n).1.D ∧
    (fitObj o d u0 w0 ru rw sqrtC stop n).1.tolerance = (fitObj o' d u0 w0 ru rw sqrtC stop n).1.tolerance ∧
    (fitObj o d u0 w0 ru rw sqrtC stop n).1.reached = (fitObj o' d u0 w0 ru rw sqrtC stop n).1.reached ∧
    ((fitObj o d u0 w0 ru rw sqrtC stop n).2 = true →
      fitObj o d u0 w0 ru rw sqrtC stop n = fitObj o' d u0 w0 ru rw sqrtC stop n) := by
  cases hm : fitMaxSize d o.D with
  | none =>
    have hm' : fitMaxSize d o'.D = none := by rw [← hD]; exact hm
    rw [fitObj_reject o d u0 w0 ru rw sqrtC stop n hm, fitObj_reject o' d u0 w0 ru rw sqrtC stop n hm']
    refine ⟨rfl, ?_, ?_, hD, rfl, rfl, fun h => by simp at h⟩
    · show some (o.u.getD u0) = some (o'.u.getD u0); rw [hu]
    · show some (o.w.getD w0) = some (o'.w.getD w0); rw [hw]
  | some D =>
    have hm' : fitMaxSize d o'.D = some D := by rw [← hD]; exact hm
    cases hs : stopOk stop with
    | true =>
      rw [fitObj_return o d u0 w0 ru rw sqrtC stop n D hm hs, fitObj_return o' d u0 w0 ru rw sqrtC stop n D hm' hs,
        hu, hw]
      exact ⟨rfl, rfl, rfl, rfl, rfl, rfl, fun _ => rfl⟩
    | false =>
      rw [fitObj_zerodiv o d u0 w0 ru rw sqrtC stop n D hm hs, fitObj_zerodiv o' d u0 w0 ru rw sqrtC stop n D hm' hs,
        hu, hw]
      exact ⟨rfl, rfl, rfl, rfl, rfl, rfl, fun h => by simp at h⟩

/-- **every query is a function of (current parameters, its own argument)**: after any session the Poisson parameter
the object reports for a hyperedge `e` - of the training data or of any other input - is the one a FRESH object built from
the current arrays reports, and for a symmetric `w` it is the sum over the node pairs of `e` of `u_iᵀ w u_j` -/
theorem C15_session_query (o : Obj) (cs : List FitCall) (e : List ℕ) (u w : List (List Rat))
    (hu : (runSession o cs).u = some u) (hw : (runSession o cs).w = some w)
    (hsym : ∀ a < w.length, ∀ b < w.length, matOf w a b = matOf w b a) :
    poisObj (runSession o cs) e = poisObj (newObj (some u) (some w) (runSession o cs).D) e ∧
    poisObj (runSession o cs) e
      = some (∑ p ∈ (nodesOf u.length e).offDiag with p.1 < p.2, bf w.length (matOf u p.1) (matOf u p.2) (matOf w)) := by
  have h : poisObj (runSession o cs) e = some (poisson u.length w.length (matOf u) (matOf w) e) := by
    unfold poisObj; rw [hu, hw]
  exact ⟨h, by rw [h, C15_poisson u.length w.length (matOf u) (matOf w) e hsym]⟩

/-! ## D28 — the property's plain-likelihood claim fails when `w_prior > 0` (by design: MAP step)

`C15_ascent` with `rw > 0` is about the PENALISED objective.  The unpenalised log-likelihood (`penLik` with
rate 0) can strictly decrease from `n_iter = 1` to `n_iter = 2`; all hypotheses of `C15_ascent` hold for this
input, and (a conjunct that no theorem asks for) all denominators of `_w_update` are positive, so the failure is neither a
matter of ill-posed data nor of a guarded entry.  The harness replays these numbers on the real code. -/

theorem C15_plain_likelihood_can_decrease :
    ∃ (d : Data) (us w0 : List (List Rat)) (rw : Mat),
      (∀ i a, 0 ≤ matOf us i a) ∧ (∀ a b, 0 ≤ matOf w0 a b) ∧ (∀ e < d.E, 0 < d.A e) ∧ (∀ a b, 0 < rw a b) ∧
      (∀ e < d.E, 0 < poisson d.N d.K (matOf us) (matOf w0) (d.edge e)) ∧
      (∀ a < d.K, ∀ b < d.K, 0 < wDen d.N (matOf us) a b + rw a b) ∧
      ∀ ru : Mat,
        penLik d (matOf us) (fun _ _ => 0) (matOf (emLoop d true false ru rw 2 { u := us, w := w0 }).w)
          < penLik d (matOf us) (fun _ _ => 0) (matOf (emLoop d true false ru rw 1 { u := us, w := w0 }).w) := by
  refine ⟨witD, witU, witW0, witR, witU_nonneg, witW0_nonneg, witD_A, fun _ _ => by simp [witR], witD_lam,
    witD_den, fun ru => ?_⟩
  rw [wit_after1 ru, wit_after2 ru, wit_lik1, wit_lik2]
  exact wit_ineq

example : poisson 3 2 (matOf witU) exW [0, 2, 1]
    = ∑ p ∈ (nodesOf 3 [0, 2, 1]).offDiag with p.1 < p.2, bf 2 (matOf witU p.1) (matOf witU p.2) exW :=
  C15_poisson 3 2 (matOf witU) exW [0, 2, 1] exW_symm

example : Cterm 3 * bfSum 4 2 (matOf witU) exW
    = ∑ e ∈ (range 4).powersetCard 3, pairSum 2 (matOf witU) exW e / kappa 4 3 :=
  C15_dim_seq 4 2 (matOf witU) exW exW_symm 3 (by decide) (by decide)

example : expDegAvg 3 2 (matOf witU) exW [2, 3]
    = 1 / ((3 : ℕ) : ℚ) * ∑ i ∈ range 3, sumL [2, 3] fun d =>
        ∑ e ∈ (range 3).powersetCard d with i ∈ e, pairSum 2 (matOf witU) exW e / kappa 3 d :=
  C15_exp_degree_avg 3 2 (matOf witU) exW exW_symm (by decide) [2, 3] (by decide)

example : expDegNode 4 2 (matOf witU) exW [2, 3, 4] 1
    = sumL [2, 3, 4] fun d => ∑ e ∈ (range 4).powersetCard d with 1 ∈ e, pairSum 2 (matOf witU) exW e / kappa 4 d :=
  C15_exp_degree_node 4 2 (matOf witU) exW exW_symm (by decide) 1 (by decide) [2, 3, 4] (by decide)

example : ∃ D p, fit witD (some witU) none none [] witW0 (fun _ _ => 0) witR 1 exStop 3 = some (D, p) ∧ p.u = witU :=
  ⟨_, _, rfl, C15_fixed_u witD witU none none [] witW0 (fun _ _ => 0) witR 1 exStop 3 _ _ rfl⟩

example : ∃ D p, fit witD none (some witW0) (some 5) witU [] (fun _ _ => 0) witR 1 exStop 3 = some (D, p) ∧ p.w = witW0 ∧ D = 5 :=
  ⟨5, _, rfl, C15_fixed_w witD none witW0 (some 5) witU [] (fun _ _ => 0) witR 1 exStop 3 _ _ rfl, rfl⟩

example : wUpdate? witD (matOf witU) (matOf witW0) witR = some (wUpdate witD (matOf witU) (matOf witW0) witR) :=
  (C15_update_finite witD _ _ witR witR witD_lam).1

/-- the guarded branch (D46) is really taken: community 1 held by node 0 alone, no prior - the denominator of the
entry `(1, 1)` is 0, the update is defined (`some`), stores 0 there, and the likelihood still ascends along the loop -/
example : ¬ 0 < wDen witD.N (matOf sglU) 1 1 + 0 ∧
    wUpdate? witD (matOf sglU) (matOf witW0) (fun _ _ => 0) = some (wUpdate witD (matOf sglU) (matOf witW0) fun _ _ => 0) ∧
    wUpdate witD (matOf sglU) (matOf witW0) (fun _ _ => 0) 1 1 = 0 ∧
    ∀ n, penLik witD (matOf sglU) (fun _ _ => 0) (matOf (emLoop witD true false (fun _ _ => 0) (fun _ _ => 0) n { u := sglU, w := witW0 }).w)
      ≤ penLik witD (matOf sglU) (fun _ _ => 0) (matOf (emLoop witD true false (fun _ _ => 0) (fun _ _ => 0) (n + 1) { u := sglU, w := witW0 }).w) := by
  have h0 : ¬ 0 < wDen witD.N (matOf sglU) 1 1 + 0 := by rw [sgl_den]; exact lt_irrefl 0
  exact ⟨h0, (C15_update_finite witD _ _ (fun _ _ => 0) (fun _ _ => 0) sgl_lam).1,
    ((C15_update_vanishing_den witD (matOf sglU) (matOf witW0) (fun _ _ => 0) (fun _ _ => 0) sglU_nonneg witW0_nonneg
      (fun a _ b _ => witW0_symm a b) (fun _ _ => le_refl 0) (fun _ _ => le_refl 0)).1 1 1 h0).2.2.2,
    C15_ascent witD sglU witW0 (fun _ _ => 0) (fun _ _ => 0) sglU_nonneg witW0_nonneg witD_A (fun _ _ => le_refl 0) sgl_lam⟩

example : ∀ n, penLik witD (matOf witU) witR (matOf (emLoop witD true false (fun _ _ => 0) witR n { u := witU, w := witW0 }).w)
    ≤ penLik witD (matOf witU) witR (matOf (emLoop witD true false (fun _ _ => 0) witR (n + 1) { u := witU, w := witW0 }).w) :=
  C15_ascent witD witU witW0 (fun _ _ => 0) witR witU_nonneg witW0_nonneg witD_A (fun _ _ => by simp [witR])
    witD_lam

example (n : ℕ) (stop : Option Stop) (hs : stopOk stop = true) :
    ∃ D p p', fit witD (some witU) none none [] witW0 (fun _ _ => 0) witR 1 stop n = some (D, p) ∧
    fit witD (some witU) none none [] witW0 (fun _ _ => 0) witR 1 stop (n + 1) = some (D, p') ∧
    exactLik witD D (matOf witU) witR (matOf p.w) ≤ exactLik witD D (matOf witU) witR (matOf p'.w) := by
  have h : ∀ m, fit witD (some witU) none none [] witW0 (fun _ _ => 0) witR 1 stop m
      = some (2, finish witD true false (C (dims 2 2)) 1 (fitRun witD (some witU) none [] witW0 (fun _ _ => 0) witR stop m).p) := by
    intro m; unfold fit; rw [hs]; rfl
  exact ⟨_, _, _, h n, h (n + 1),
    (C15_ascent_fit witD witU [] witW0 none (fun _ _ => 0) witR 1 stop witU_nonneg witW0_nonneg witD_A
      (fun _ _ => by simp [witR]) witD_lam witW0_symm (fun _ _ => rfl) witD_size n _ _ _ _ (h n) (h (n + 1))
      (by decide) (by decide)).2⟩

/-- the early exit is really taken: with `tolerance = 1/2`, `check_convergence_every = 1`, `n_iter = 3` the loop of
the D28 data breaks at `it = 1` -/
example : (fitRun witD (some witU) none [] witW0 (fun _ _ => 0) witR exStop 3).reached = true ∧
    (fitRun witD (some witU) none [] witW0 (fun _ _ => 0) witR exStop 3).it = 1 :=
  ⟨wit_run.1, wit_run.2.1⟩

/-- and `fit` returns `finish` (the division by `C() = 1`) of the state after `it + 1 = 2` passes -/
example : ∃ D p, fit witD (some witU) none none [] witW0 (fun _ _ => 0) witR 1 exStop 3 = some (D, p) ∧
    p = finish witD true false (C (dims 2 D)) 1
          (fitState witD (some witU) none [] witW0 (fun _ _ => 0) witR
            ((fitRun witD (some witU) none [] witW0 (fun _ _ => 0) witR exStop 3).it + 1)) :=
  ⟨_, _, rfl, (C15_fit_returns witD (some witU) none none [] witW0 (fun _ _ => 0) witR 1 exStop 3 _ _ (by decide) rfl).2.1⟩

example : fit witD (some witU) none none [] witW0 (fun _ _ => 0) witR 1 exStop 4
    = fit witD (some witU) none none [] witW0 (fun _ _ => 0) witR 1 exStop 3 :=
  C15_fit_converged_stays witD (some witU) none none [] witW0 (fun _ _ => 0) witR 1 exStop 3 wit_run.1

example : Real.sqrt ((∑ a ∈ range 2, ∑ b ∈ range 2, (matOf witW2 a b - matOf witW1 a b) ^ 2 : ℚ) : ℝ) / ((2 : ℕ) : ℝ) < ((1 / 2 : ℚ) : ℝ) ∧
    Real.sqrt ((∑ i ∈ range 3, ∑ a ∈ range 2, (matOf witU i a - matOf witU i a) ^ 2 : ℚ) : ℝ) / ((3 : ℕ) : ℝ) < ((1 / 2 : ℚ) : ℝ) :=
  (C15_stop_rule witD (1 / 2) { u := witU, w := witW2 } { u := witU, w := witW1 } (by decide) (by decide)).mp
    (by decide +kernel)

/-! a session on the D28 data: `fit` (breaks at `it = 1`), then `fit` on a hypergraph with a hyperedge of size 3 (raises:
`max_hye_size = 2` was inferred by the first call), then `fit` on the first data again: the supplied memberships and the
affinity inferred by the FIRST call are what the object holds at the end -/

def sesC1 : FitCall := { d := witD, u0 := [], w0 := witW0, ru := fun _ _ => 0, rw := witR, sqrtC := 1, stop := exStop, n := 3 }
def sesC2 : FitCall := { d := dataOf 3 2 [[0, 1, 2], [1, 2]] [1, 2], u0 := sglU, w0 := witW1, ru := fun _ _ => 0, rw := witR,
                         sqrtC := 1, stop := none, n := 2 }

theorem ses_first : (callFit (newObj (some witU) none none) sesC1).w = some witW2 ∧
    (callFit (newObj (some witU) none none) sesC1).D = some 2 := by
  have h := fitObj_return (newObj (some witU) none none) witD [] witW0 (fun _ _ => 0) witR 1 exStop 3 2 (by decide) rfl
  have hc : callFit (newObj (some witU) none none) sesC1
      = (fitObj (newObj (some witU) none none) witD [] witW0 (fun _ _ => 0) witR 1 exStop 3).1 := rfl
  rw [hc, h]
  refine ⟨?_, rfl⟩
  show some (toRows 2 2 fun a b => matOf (fitRun witD (some witU) none [] witW0 (fun _ _ => 0) witR exStop 3).p.w a b
    / C (dims 2 2)) = some witW2
  rw [wit_run.2.2]
  decide +kernel

example : (runSession (newObj (some witU) none none) [sesC1, sesC2, sesC1]).u = some witU ∧
    (runSession (newObj (some witU) none none) [sesC1, sesC2, sesC1]).w = (callFit (newObj (some witU) none none) sesC1).w ∧
    (callFit (newObj (some witU) none none) sesC1).w = some witW2 ∧
    (fitObj (callFit (newObj (some witU) none none) sesC1) sesC2.d sesC2.u0 sesC2.w0 sesC2.ru sesC2.rw 1 none 2).2 = false ∧
    (runSession (newObj (some witU) none none) [sesC1, sesC2, sesC1]).D = some 2 := by
  refine ⟨(C15_session_params_stay _ _).1 witU rfl, (C15_session_after_first_fit _ sesC1 [sesC2, sesC1]).2.2.2,
    ses_first.1, ?_, ?_⟩
  · rw [fitObj_reject _ _ _ _ _ _ _ _ _ (by rw [ses_first.2]; decide)]
  · rw [runSession_cons]
    exact (C15_session_params_stay (callFit (newObj (some witU) none none) sesC1) [sesC2, sesC1]).2.2 2 ses_first.2

example (e : List ℕ) : poisObj (runSession (newObj (some witU) none none) [sesC1, sesC2, sesC1]) e
    = some (∑ p ∈ (nodesOf 3 e).offDiag with p.1 < p.2, bf 2 (matOf witU p.1) (matOf witU p.2) (matOf witW2)) := by
  have hw : (runSession (newObj (some witU) none none) [sesC1, sesC2, sesC1]).w = some witW2 := by
    rw [(C15_session_after_first_fit _ sesC1 [sesC2, sesC1]).2.2.2]; exact ses_first.1
  exact (C15_session_query _ _ e witU witW2 ((C15_session_params_stay _ _).1 witU rfl) hw
    (by decide +kernel)).2

/-! ## constructor, initial draws, the whole run from the raw draws, `log_likelihood`

The hypotheses "`u ≥ 0`, `w ≥ 0` symmetric (constructor's checks)", "initial draw `≥ 0` symmetric (what `_init_w` produces)" of the
theorems above are theorems about the modelled constructor (`construct`) and the modelled `_init_w` / `_init_u` (`initW`, `initU`);
`fitSeed` is the whole path constructor → draws → loop (with its failing division) → normalisation. -/

/-- **what the constructor guarantees** (`_check_and_infer_param_consistency`): an accepted affinity is non-negative, symmetric on
`K × K` and diagonal when the model is assortative; accepted memberships are non-negative; `u` and `w` agree on the number of
communities; `K` / `assortative` are the passed ones, else inferred (`w.shape[0]` before `u.shape[1]`; `assortative` = "`w` is diagonal"). -/
theorem C15_constructor (c : Ctor) (h : Hyper) (hc : construct c = .ok h) :
    (∀ w, c.w = some w → (∀ a b, 0 ≤ matOf w a b) ∧ (∀ a < w.length, ∀ b < w.length, matOf w a b = matOf w b a) ∧
        (h.assortative = true → ∀ a < w.length, ∀ b < w.length, a ≠ b → matOf w a b = 0)) ∧
    (∀ u, c.u = some u → ∀ i a, 0 ≤ matOf u i a) ∧
    (∀ u w, c.u = some u → c.w = some w → ncols u = w.length) ∧
    (∀ k, c.K = some k → h.K = k) ∧ (∀ w, c.K = none → c.w = some w → h.K = w.length) ∧
    (∀ u, c.K = none → c.w = none → c.u = some u → h.K = ncols u) ∧
    (∀ a, c.assortative = some a → h.assortative = a) ∧
    (∀ w, c.assortative = none → c.w = some w →
        (h.assortative = true ↔ ∀ a < w.length, ∀ b < w.length, a ≠ b → matOf w a b = 0)) := by
  obtain ⟨hA, hK, hW, hU, hUW⟩ := construct_ok c h hc
  have hw3 : ∀ w, c.w = some w → anyNeg w = false ∧ (∀ a < w.length, ∀ b < w.length, matOf w a b = matOf w b a) ∧
      (h.assortative = true → upperZero w.length (matOf w) = true) := by
    intro w hw
    obtain ⟨h1, h2, h3⟩ := checkW_none _ w (hW w hw)
    exact ⟨h1, (symmetricB_iff _ _).mp h2, h3⟩
  refine ⟨?_, ?_, hUW, ?_, ?_, ?_, ?_, ?_⟩
  · intro w hw
    obtain ⟨h1, h2, h3⟩ := hw3 w hw
    exact ⟨matOf_nonneg_of_mem w ((anyNeg_false_iff w).mp h1), h2, fun ha => (upperZero_diag _ _ h2).mp (h3 ha)⟩
  · intro u hu
    exact matOf_nonneg_of_mem u ((anyNeg_false_iff u).mp (hU u hu))
  · intro k hk
    unfold inferK at hK; rw [hk] at hK; exact (Option.some.inj hK).symm
  · intro w hk hw
    unfold inferK at hK; rw [hk, hw] at hK; exact (Option.some.inj hK).symm
  · intro u hk hw hu
    unfold inferK at hK; rw [hk, hw, hu] at hK; exact (Option.some.inj hK).symm
  · intro a ha
    unfold inferAssortative at hA; rw [ha] at hA; exact (Option.some.inj hA).symm
  · intro w ha hw
    unfold inferAssortative at hA; rw [ha, hw] at hA
    have hA' : upperZero w.length (matOf w) = h.assortative := Option.some.inj hA
    rw [← hA']
    exact upperZero_diag _ _ (hw3 w hw).2.1

/-- **inputs with both arrays supplied and `assortative` passed are accepted**: non-negative `u`, non-negative symmetric `w`
(diagonal when `assortative=True` is passed) with as many communities as `u` has columns - whatever `K` is passed or left out -/
theorem C15_constructor_accepts (k : Option ℕ) (u w : List (List Rat)) (ass : Bool)
    (hu : ∀ row ∈ u, ∀ v ∈ row, 0 ≤ v) (hw : ∀ row ∈ w, ∀ v ∈ row, 0 ≤ v)
    (hs : ∀ a < w.length, ∀ b < w.length, matOf w a b = matOf w b a)
    (hd : ass = true → ∀ a < w.length, ∀ b < w.length, a ≠ b → matOf w a b = 0)
    (hK : ncols u = w.length) :
    construct { K := k, u := some u, w := some w, assortative := some ass }
      = .ok { K := k.getD w.length, assortative := ass } := by
  have h1 : checkW ass w = none :=
    checkW_of ass w ((anyNeg_false_iff w).mpr hw) ((symmetricB_iff _ _).mpr hs)
      (fun h => (upperZero_diag _ _ hs).mpr (hd h))
  have h2 : anyNeg u = false := (anyNeg_false_iff u).mpr hu
  unfold construct inferAssortative inferK
  cases k <;> simp [h1, h2, hK]

/-- **`_init_w`**, all four branches (prior the float `0.0` or not × assortative or not), for EVERY value of the raw draws `g ≥ 0`
and every prior with rates `≥ 0`: the initial affinity is non-negative, symmetric, diagonal when assortative; in the uniform
non-assortative branch its upper triangle is the draw itself, in the exponential branches the entries are `draw / rate`. -/
theorem C15_init_w (K : ℕ) (ass : Bool) (prior : Prior) (g : List (List Rat)) (hg : ∀ a b, 0 ≤ matOf g a b)
    (hp : ∀ a b, 0 ≤ prior.mat a b) :
    (∀ a b, 0 ≤ matOf (initW K ass prior g) a b) ∧
    (∀ a b, matOf (initW K ass prior g) a b = matOf (initW K ass prior g) b a) ∧
    (ass = true → ∀ a b, a ≠ b → matOf (initW K ass prior g) a b = 0) ∧
    (prior.isZeroFloat = true → ∀ a < K, ∀ b < K, a ≤ b → (ass = false ∨ a = b) → matOf (initW K ass prior g) a b = matOf g a b) ∧
    (prior.isZeroFloat = false → ass = false → ∀ a < K, ∀ b < K, a ≤ b →
        matOf (initW K ass prior g) a b = 1 / prior.mat a b * matOf g a b) ∧
    (prior.isZeroFloat = false → ass = true → ∀ a < K, matOf (initW K ass prior g) a a = 1 / prior.mat a a * matOf g 0 a) := by
  refine ⟨initW_nonneg K ass prior g hg hp, initW_symm K ass prior g,
    fun ha a b hab => by subst ha; exact initW_diag K prior g a b hab, ?_, ?_, ?_⟩
  · intro hz a ha b hb hab hor
    unfold initW
    rw [matOf_toRows_in _ _ _ a b ha hb]
    unfold initWMat
    rw [if_pos hz]
    rcases hor with h | h
    · subst h; simp [symUpper, hab]
    · subst h; cases ass <;> simp [symUpper, diagOnly]
  · intro hz ha a haK b hb hab
    subst ha
    unfold initW
    rw [matOf_toRows_in _ _ _ a b haK hb]
    unfold initWMat
    simp [hz, symUpper, hab]
  · intro hz ha a haK
    subst ha
    unfold initW
    rw [matOf_toRows_in _ _ _ a a haK haK]
    unfold initWMat
    simp [hz]

/-- **`_init_u`**: non-negative for every raw draw `≥ 0` and every prior with rates `≥ 0` -/
theorem C15_init_u (N K : ℕ) (prior : Prior) (g : List (List Rat)) (hg : ∀ i a, 0 ≤ matOf g i a)
    (hp : ∀ i a, 0 ≤ prior.mat i a) : ∀ i a, 0 ≤ matOf (initU N K prior g) i a :=
  initU_nonneg N K prior g hg hp

/-- **the loop with its failing division is the loop**: whenever no `hye_weights / poisson_params` divided by zero in `n` passes
(`emLoop? = some`), the state is the one `emLoop` computes (about which `C15_fit_returns`, `C15_ascent` speak) - the totalised
division `x / 0 = 0` of `Rat` is never what a theorem about a guarded run rests on. -/
theorem C15_guarded_loop (d : Data) (fu fw : Bool) (ru rw : Mat) (n : ℕ) (p q : Params)
    (h : emLoop? d fu fw ru rw n p = some q) : q = emLoop d fu fw ru rw n p := by
  induction n generalizing q with
  | zero => simp only [emLoop?, Option.some.injEq] at h; exact h.symm
  | succ n ih =>
    simp only [emLoop?] at h
    cases hm : emLoop? d fu fw ru rw n p with
    | none => simp [hm] at h
    | some r =>
      rw [hm] at h
      simp only [Option.bind_some] at h
      rw [emStep?_eq d fu fw ru rw r q h, ih r hm]
      rfl

/-- **finite, memberships supplied**: for every `n`, every initial affinity `≥ 0` under which the data have positive Poisson
parameters, every prior `≥ 0`: no pass of the loop ever divides by zero (the Poisson parameters stay positive). -/
theorem C15_fit_finite_supplied_u (d : Data) (us w0 : List (List Rat)) (ru rw : Mat)
    (hu : ∀ i a, 0 ≤ matOf us i a) (hw0 : ∀ a b, 0 ≤ matOf w0 a b) (hA : ∀ e < d.E, 0 < d.A e)
    (hr : ∀ a b, 0 ≤ rw a b)
    (hlam : ∀ e < d.E, 0 < poisson d.N d.K (matOf us) (matOf w0) (d.edge e)) (n : ℕ) :
    emLoop? d true false ru rw n { u := us, w := w0 } = some (emLoop d true false ru rw n { u := us, w := w0 }) :=
  emLoop?_supplied_u d us w0 ru rw hu hw0 hA hr hlam n

/-- **`fit` keeps the parameters non-negative, `w` symmetric and diagonal** - the whole call, BOTH updates alternating, either
exit of the loop, every `n_iter`, then the division by `C()` / `sqrt(C())`: if the parameters the loop starts from are non-negative,
`w` symmetric and zero on a pattern `Z` (off the diagonal: assortative), so are the returned ones.  Hypotheses: weights `≥ 0`,
`w_prior` symmetric, `sqrt(C()) ≥ 0`. -/
theorem C15_fit_keeps_shape (Z : ℕ → ℕ → Prop) (d : Data) (uSup wSup : Option (List (List Rat))) (Dsup : Option ℕ)
    (u0 w0 : List (List Rat)) (ru rw : Mat) (sqrtC : Rat) (stop : Option Stop) (n D : ℕ) (p : Params)
    (hA : ∀ e < d.E, 0 ≤ d.A e) (hrs : ∀ a b, rw a b = rw b a) (hs : 0 ≤ sqrtC)
    (hu0 : ∀ i a, 0 ≤ matOf (uSup.getD u0) i a) (hw0 : ∀ a b, 0 ≤ matOf (wSup.getD w0) a b)
    (hsym : ∀ a b, matOf (wSup.getD w0) a b = matOf (wSup.getD w0) b a)
    (hZ : ∀ a b, Z a b → matOf (wSup.getD w0) a b = 0)
    (h : fit d uSup wSup Dsup u0 w0 ru rw sqrtC stop n = some (D, p)) :
    (∀ i a, 0 ≤ matOf p.u i a) ∧ (∀ a b, 0 ≤ matOf p.w a b) ∧ (∀ a b, matOf p.w a b = matOf p.w b a) ∧
    (∀ a b, Z a b → matOf p.w a b = 0) := by
  have := fit_inv Z d uSup wSup Dsup u0 w0 ru rw sqrtC stop n D p hA hrs hs ⟨hu0, hw0, hsym, hZ⟩ h
  exact ⟨this.u_nonneg, this.w_nonneg, this.w_symm, this.w_zero⟩

/-- **the property's sentence about `fit`, from the constructor arguments and the RAW draws of the generator**, for both variants
(`assortative` true / false, passed or inferred), every prior branch, either parameter supplied or none, every `n_iter`, tolerance
and `check_convergence_every`: when `HyMMSBM(..).fit(..)` returns (`fitSeed = ok`: accepted by the constructor, `max_hye_size` covers
the data, no division by a vanishing Poisson parameter on the way) then a supplied `u` / `w` is returned as it was, all parameters are
`≥ 0`, `w` is symmetric, and diagonal when the model is assortative.  Hypotheses: raw draws `≥ 0` (uniform / standard exponential
variates), prior rates `≥ 0` and `w_prior` symmetric, weights `≥ 0`, `sqrt(C()) ≥ 0`, a supplied `w` is a `K × K` array. -/
theorem C15_fit_from_seed (s : Seed) (N : ℕ) (edges : List (List ℕ)) (A : List Rat) (D : ℕ) (p : Params) (it : ℕ) (reached : Bool)
    (hgw : ∀ a b, 0 ≤ matOf s.gw a b) (hgu : ∀ i a, 0 ≤ matOf s.gu i a)
    (hpu : ∀ i a, 0 ≤ s.uPrior.mat i a) (hpw : ∀ a b, 0 ≤ s.wPrior.mat a b)
    (hpws : ∀ a b, s.wPrior.mat a b = s.wPrior.mat b a)
    (hA : ∀ x ∈ A, 0 ≤ x) (hs : 0 ≤ s.sqrtC)
    (hsq : ∀ w, s.ctor.w = some w → ∀ row ∈ w, row.length = w.length)
    (h : fitSeed s N edges A = .ok D p it reached) :
    ∃ hy, construct s.ctor = .ok hy ∧
      (∀ us, s.ctor.u = some us → p.u = us) ∧ (∀ ws, s.ctor.w = some ws → p.w = ws) ∧
      (∀ i a, 0 ≤ matOf p.u i a) ∧ (∀ a b, 0 ≤ matOf p.w a b) ∧ (∀ a b, matOf p.w a b = matOf p.w b a) ∧
      (hy.assortative = true → ∀ a b, a ≠ b → matOf p.w a b = 0) ∧
      (∀ D0, s.Dsup = some D0 → D = D0) ∧ maxSize (dataOf N hy.K edges A) ≤ D := by
  obtain ⟨hy, w0, u0, hc, hw, hu, hf, _, _, _⟩ := fitSeed_ok s N edges A D p it reached h
  obtain ⟨cW, cU, _, _, _, _, _, _⟩ := C15_constructor s.ctor hy hc
  have hA' : ∀ e < (dataOf N hy.K edges A).E, 0 ≤ (dataOf N hy.K edges A).A e := by
    intro e _
    show 0 ≤ A.getD e 0
    rw [List.getD_eq_getElem?_getD]
    cases hx : A[e]? with
    | none => simp
    | some x => simpa using hA x (List.mem_of_getElem? hx)
  have hu0 : ∀ i a, 0 ≤ matOf (s.ctor.u.getD u0) i a := by
    cases hsu : s.ctor.u with
    | some us => exact cU us hsu
    | none =>
      obtain ⟨_, rfl⟩ := seedU0_inferred s hy N u0 hsu hu
      exact initU_nonneg N hy.K s.uPrior s.gu hgu hpu
  have hw0 : (∀ a b, 0 ≤ matOf (s.ctor.w.getD w0) a b) ∧
      (∀ a b, matOf (s.ctor.w.getD w0) a b = matOf (s.ctor.w.getD w0) b a) ∧
      (∀ a b, (hy.assortative = true ∧ a ≠ b) → matOf (s.ctor.w.getD w0) a b = 0) := by
    cases hsw : s.ctor.w with
    | some ws =>
      obtain ⟨h1, h2, h3⟩ := cW ws hsw
      exact ⟨h1, matOf_symm_square ws (hsq ws hsw) h2,
        fun a b hab => matOf_diag_square ws (hsq ws hsw) (h3 hab.1) a b hab.2⟩
    | none =>
      obtain ⟨_, rfl⟩ := seedW0_inferred s hy w0 hsw hw
      refine ⟨initW_nonneg _ _ _ _ hgw hpw, initW_symm _ _ _ _, fun a b hab => ?_⟩
      have hass := hab.1
      rw [hass]
      exact initW_diag _ _ _ a b hab.2
  obtain ⟨r1, r2, r3, r4⟩ := C15_fit_keeps_shape (fun a b => hy.assortative = true ∧ a ≠ b) _ s.ctor.u s.ctor.w s.Dsup u0 w0
    s.uPrior.mat s.wPrior.mat s.sqrtC s.stop s.n D p hA' hpws hs hu0 hw0.1 hw0.2.1 hw0.2.2 hf
  refine ⟨hy, hc, ?_, ?_, r1, r2, r3, fun ha a b hab => r4 a b ⟨ha, hab⟩, ?_, ?_⟩
  · intro us hus
    rw [hus] at hf
    exact C15_fixed_u _ us s.ctor.w s.Dsup u0 w0 _ _ s.sqrtC s.stop s.n D p hf
  · intro ws hws
    rw [hws] at hf
    exact C15_fixed_w _ s.ctor.u ws s.Dsup u0 w0 _ _ s.sqrtC s.stop s.n D p hf
  · intro D0 hD0
    rw [hD0] at hf
    exact (C15_fixed_max_size _ s.ctor.u s.ctor.w D0 u0 w0 _ _ s.sqrtC s.stop s.n D p hf).1
  · exact fitMaxSize_le _ s.Dsup D (fit_some _ s.ctor.u s.ctor.w s.Dsup u0 w0 _ _ s.sqrtC s.stop s.n D p hf).1

/-- **ascent from the raw draws, for each variant** (assortative or not, prior the float `0.0` or positive rates): memberships
supplied to the constructor, affinity drawn by `_init_w` from ANY raw draw `g ≥ 0`: if `fit(n_iter = n)` and `fit(n_iter = n + 1)`
return (same seed), the exact Poisson log-likelihood of the data under the returned affinity (penalised by the prior term when the
rates are positive - D28 -, the plain likelihood for `w_prior = 0.0`) does not decrease.  The facts `C15_ascent_fit` assumed about the
supplied memberships and the initial affinity are derived here from the modelled constructor and `_init_w`; what remains is what the
property's quantifier gives (weights `> 0`, sizes in `2..N`, `2 ≤ max_hye_size ≤ N`, symmetric rates `≥ 0`) and positive Poisson
parameters of the data under the initial draw. -/
theorem C15_ascent_from_seed (s : Seed) (N : ℕ) (edges : List (List ℕ)) (A : List Rat) (us : List (List Rat))
    (hus : s.ctor.u = some us) (hws : s.ctor.w = none)
    (hgw : ∀ a b, 0 ≤ matOf s.gw a b) (hpw : ∀ a b, 0 ≤ s.wPrior.mat a b) (hpws : ∀ a b, s.wPrior.mat a b = s.wPrior.mat b a)
    (D D' : ℕ) (p p' : Params) (it it' : ℕ) (r r' : Bool)
    (h1 : fitSeed s N edges A = .ok D p it r)
    (h2 : fitSeed { s with n := s.n + 1 } N edges A = .ok D' p' it' r')
    (hy : Hyper) (hc : construct s.ctor = .ok hy)
    (hA : ∀ e < (dataOf N hy.K edges A).E, 0 < (dataOf N hy.K edges A).A e)
    (hsize : ∀ e < (dataOf N hy.K edges A).E, 2 ≤ ((dataOf N hy.K edges A).edge e).length ∧ ((dataOf N hy.K edges A).edge e).length ≤ N)
    (hlam : ∀ e < (dataOf N hy.K edges A).E, 0 < poisson N hy.K (matOf us)
        (matOf (initW hy.K hy.assortative s.wPrior s.gw)) ((dataOf N hy.K edges A).edge e))
    (hD2 : 2 ≤ D) (hDN : D ≤ N) :
    D' = D ∧ exactLik (dataOf N hy.K edges A) D (matOf us) s.wPrior.mat (matOf p.w)
      ≤ exactLik (dataOf N hy.K edges A) D (matOf us) s.wPrior.mat (matOf p'.w) := by
  obtain ⟨hy1, w0, u0, hc1, hw1, hu1, hf1, _, _, _⟩ := fitSeed_ok s N edges A D p it r h1
  obtain ⟨hy2, w0', u0', hc2, hw2, hu2, hf2, _, _, _⟩ := fitSeed_ok _ N edges A D' p' it' r' h2
  have e1 : hy1 = hy := by rw [hc] at hc1; injection hc1 with h; exact h.symm
  have e2 : hy2 = hy := by
    have : construct s.ctor = .ok hy2 := hc2
    rw [hc] at this; injection this with h; exact h.symm
  rw [e1] at hw1 hu1 hf1
  rw [e2] at hw2 hu2 hf2
  obtain ⟨_, hw0⟩ := seedW0_inferred s hy w0 hws hw1
  have hw2' : seedW0 s hy = some w0' := hw2
  obtain ⟨_, hw0'⟩ := seedW0_inferred s hy w0' hws hw2'
  have hu2' : seedU0 s hy N = some u0' := hu2
  have hu0 : u0' = u0 := by rw [hu1] at hu2'; exact (Option.some.inj hu2').symm
  subst hw0; subst hw0'; subst hu0
  obtain ⟨_, cU, _⟩ := C15_constructor s.ctor hy hc
  rw [hus, hws] at hf1
  have hf2' : fit (dataOf N hy.K edges A) s.ctor.u s.ctor.w s.Dsup u0' (initW hy.K hy.assortative s.wPrior s.gw)
      s.uPrior.mat s.wPrior.mat s.sqrtC s.stop (s.n + 1) = some (D', p') := hf2
  rw [hus, hws] at hf2'
  exact C15_ascent_fit (dataOf N hy.K edges A) us u0' (initW hy.K hy.assortative s.wPrior s.gw) s.Dsup s.uPrior.mat
    s.wPrior.mat s.sqrtC s.stop (cU us hus) (initW_nonneg _ _ _ _ hgw hpw) hA hpw hlam (initW_symm _ _ _ _) hpws hsize
    s.n D D' p p' hf1 hf2' hD2 hDN

/-- **the monitored quantity IS the model's log-likelihood**: `HyMMSBM.log_likelihood(H)` evaluated on parameters `(u, w)`
(`−bf_and_sum(u, w) + Σ_e A_e log λ_e`, assembled from the ingredients the driver reports) is the objective `penLik` with rate 0
that `C15_ascent_step` / `C15_ascent` speak about, hence - for symmetric `w` and positive Poisson parameters - the exact Poisson
log-likelihood of the data under the normalised affinity `w / C()` plus a constant that depends on the data only. -/
theorem C15_log_likelihood (d : Data) (D : ℕ) (u w : Mat)
    (hw : ∀ a < d.K, ∀ b < d.K, w a b = w b a) (hD2 : 2 ≤ D) (hDN : D ≤ d.N)
    (hsize : ∀ e < d.E, 2 ≤ (d.edge e).length ∧ (d.edge e).length ≤ d.N)
    (hlam : ∀ e < d.E, 0 < poisson d.N d.K u w (d.edge e)) :
    logLikMethod d u w = penLik d u (fun _ _ => 0) w ∧
    logLikMethod d u w = exactLik d D u (fun _ _ => 0) (fun a b => w a b / C (dims 2 D))
      + ∑ e ∈ range d.E, ((d.A e : ℚ) : ℝ) * Real.log (((C (dims 2 D) * kappa d.N (d.edge e).length : ℚ)) : ℝ) := by
  refine ⟨logLikMethod_eq_penLik d u w, ?_⟩
  rw [logLikMethod_eq_penLik, C15_exact_likelihood d D u (fun _ _ => 0) w hw hD2 hDN hsize hlam]
  ring

/-- **`log_likelihood` never decreases along the w-updates of `fit`** when the memberships are supplied and `w_prior = 0.0`
(evaluated on the loop's own, not yet normalised, affinity), for every initial draw `≥ 0` with positive Poisson parameters. -/
theorem C15_log_likelihood_ascends (d : Data) (us w0 : List (List Rat)) (ru : Mat)
    (hu : ∀ i a, 0 ≤ matOf us i a) (hw0 : ∀ a b, 0 ≤ matOf w0 a b) (hA : ∀ e < d.E, 0 < d.A e)
    (hlam : ∀ e < d.E, 0 < poisson d.N d.K (matOf us) (matOf w0) (d.edge e)) (n : ℕ) :
    logLikMethod d (matOf us) (matOf (emLoop d true false ru (fun _ _ => 0) n { u := us, w := w0 }).w)
      ≤ logLikMethod d (matOf us) (matOf (emLoop d true false ru (fun _ _ => 0) (n + 1) { u := us, w := w0 }).w) := by
  rw [logLikMethod_eq_penLik, logLikMethod_eq_penLik]
  exact C15_ascent d us w0 ru (fun _ _ => 0) hu hw0 hA (fun _ _ => le_refl 0) hlam n

example : construct { K := none, u := some witU, w := some witW0, assortative := none } = .ok { K := 2, assortative := true } ∧
    construct { K := some 2, u := none, w := some [[1, 2], [3, 1]], assortative := some false } = .error .wNotSymmetric ∧
    construct { K := none, u := some witU, w := some [[1, 2], [2, 1]], assortative := some true } = .error .wNotDiagonal ∧
    construct { K := none, u := some witU, w := none, assortative := none } = .error .noAssortative := by decide +kernel

example : ∀ a < 2, ∀ b < 2, a ≠ b → matOf witW0 a b = 0 :=
  ((C15_constructor { K := none, u := some witU, w := some witW0, assortative := none } { K := 2, assortative := true }
    (by decide +kernel)).1 witW0 rfl).2.2 rfl

example : construct { K := none, u := some witU, w := some witW0, assortative := some true }
    = .ok { K := (none : Option ℕ).getD witW0.length, assortative := true } :=
  C15_constructor_accepts none witU witW0 true (by decide) (by decide) (fun a _ b _ => witW0_symm a b)
    (fun _ => by decide +kernel)
    rfl

/-- the four branches of `_init_w` on concrete raw draws -/
example : initW 2 true (.scalar 1) [[1, 1]] = witW0 ∧ initW 2 false (.scalar 0) [[1/2, 1/4], [1/8, 3/4]] = [[1/2, 1/4], [1/4, 3/4]] ∧
    initW 2 true (.scalar 0) [[1/2, 1/4], [1/8, 3/4]] = [[1/2, 0], [0, 3/4]] ∧
    initW 2 false (.array [[1, 2], [2, 4]]) [[1/2, 1/4], [1/8, 3/4]] = [[1/2, 1/8], [1/8, 3/16]] ∧
    initU 3 2 (.scalar (1/2)) [[1, 2], [3, 4], [5, 6]] = [[2, 4], [6, 8], [10, 12]] := by decide +kernel

example : (∀ a b, 0 ≤ matOf (initW 2 false (.array [[1, 2], [2, 4]]) [[1/2, 1/4], [1/8, 3/4]]) a b) ∧
    (∀ a b, matOf (initW 2 false (.array [[1, 2], [2, 4]]) [[1/2, 1/4], [1/8, 3/4]]) a b
      = matOf (initW 2 false (.array [[1, 2], [2, 4]]) [[1/2, 1/4], [1/8, 3/4]]) b a) := by
  have hg : ∀ a b, 0 ≤ matOf [[(1/2 : ℚ), 1/4], [1/8, 3/4]] a b :=
    matOf_nonneg_of_mem _ (by decide +kernel)
  have hp : ∀ a b, 0 ≤ (Prior.array [[1, 2], [2, 4]]).mat a b := matOf_nonneg_of_mem _ (by decide +kernel)
  obtain ⟨h1, h2, _⟩ := C15_init_w 2 false (.array [[1, 2], [2, 4]]) [[1/2, 1/4], [1/8, 3/4]] hg hp
  exact ⟨h1, h2⟩

example (n : ℕ) : emLoop? witD true false (fun _ _ => 0) witR n { u := witU, w := witW0 }
    = some (emLoop witD true false (fun _ _ => 0) witR n { u := witU, w := witW0 }) :=
  C15_fit_finite_supplied_u witD witU witW0 (fun _ _ => 0) witR witU_nonneg witW0_nonneg witD_A (fun _ _ => by simp [witR]) witD_lam n

/-- the guard really fails somewhere: a hyperedge of size 1 has Poisson parameter 0 -/
example : emLoop? (dataOf 3 2 [[0]] [1]) true false (fun _ _ => 0) witR 1 { u := witU, w := witW0 } = none := by decide +kernel

/-- the whole path on the D28 data returns for every `n_iter`, the returned parameters have the property's shape, and the exact
penalised likelihood ascends from `n_iter = n` to `n + 1` -/
example (n : ℕ) : ∃ p it r p' it' r', fitSeed (exSeed n) 3 [[0, 1], [0, 2]] [3, 3] = .ok 2 p it r ∧
    fitSeed (exSeed (n + 1)) 3 [[0, 1], [0, 2]] [3, 3] = .ok 2 p' it' r' ∧ p.u = witU ∧
    (∀ a b, 0 ≤ matOf p.w a b) ∧ (∀ a b, a ≠ b → matOf p.w a b = 0) ∧
    exactLik witD 2 (matOf witU) witR (matOf p.w) ≤ exactLik witD 2 (matOf witU) witR (matOf p'.w) := by
  obtain ⟨p, it, r, h⟩ := exSeed_ok n
  obtain ⟨p', it', r', h'⟩ := exSeed_ok (n + 1)
  have hg : ∀ a b, 0 ≤ matOf (exSeed n).gw a b :=
    (show ∀ a b, 0 ≤ matOf [[(1 : ℚ), 1]] a b from matOf_nonneg_of_mem _ (by decide +kernel))
  obtain ⟨hy, hc, hu, _, _, hw, _, hd, _, _⟩ := C15_fit_from_seed (exSeed n) 3 [[0, 1], [0, 2]] [3, 3] 2 p it r hg
    (show ∀ i a, 0 ≤ matOf ([] : List (List ℚ)) i a from matOf_nonneg_of_mem _ (by simp)) (fun _ _ => le_refl 0)
    (fun _ _ => by simp [exSeed, Prior.mat])
    (fun _ _ => rfl) (by decide +kernel) (show (0 : ℚ) ≤ 1 by norm_num) (fun w hw => by simp [exSeed] at hw) h
  have hyv : hy = { K := 2, assortative := true } := by
    have := exSeed_ctor n; rw [hc] at this; injection this
  subst hyv
  refine ⟨p, it, r, p', it', r', h, h', hu witU rfl, hw, hd rfl, ?_⟩
  exact (C15_ascent_from_seed (exSeed n) 3 [[0, 1], [0, 2]] [3, 3] witU rfl rfl hg (fun _ _ => by simp [exSeed, Prior.mat])
    (fun _ _ => rfl) 2 2 p p' it it' r r' h h' { K := 2, assortative := true } (exSeed_ctor n) witD_A witD_size
    (by rw [show initW 2 true (exSeed n).wPrior (exSeed n).gw = witW0 by (show initW 2 true (.scalar 1) [[1, 1]] = witW0); decide +kernel]
        exact witD_lam)
    (by decide) (by decide)).2

example : logLikMethod witD (matOf witU) (matOf witW1) = penLik witD (matOf witU) (fun _ _ => 0) (matOf witW1) :=
  logLikMethod_eq_penLik _ _ _

example (n : ℕ) : logLikMethod witD (matOf sglU) (matOf (emLoop witD true false (fun _ _ => 0) (fun _ _ => 0) n { u := sglU, w := witW0 }).w)
    ≤ logLikMethod witD (matOf sglU) (matOf (emLoop witD true false (fun _ _ => 0) (fun _ _ => 0) (n + 1) { u := sglU, w := witW0 }).w) :=
  C15_log_likelihood_ascends witD sglU witW0 (fun _ _ => 0) sglU_nonneg witW0_nonneg witD_A sgl_lam n
