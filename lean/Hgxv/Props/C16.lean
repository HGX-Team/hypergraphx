import Hgxv.Proofs.C16Chain
import Hgxv.Proofs.C16Match
import Hgxv.Proofs.C16Output
import Hgxv.Proofs.C16Sample
import Hgxv.Proofs.C16Relabel
import Hgxv.Proofs.C16Ext
import Hgxv.Proofs.C16Deg
import Hgxv.Proofs.C16Run
import Hgxv.Model.C16Guard
import Hgxv.Proofs.C16Trunc
/-! # C16 — Hy-MMSBM sampler: valid hypergraphs, conditioning respected, seed decides the sequence

Theorems about the models `Hgxv/Model/C16.lean` (the sampler), `C16Ext` (all flag pairs, raising calls), `C16Deg` / `C16Run`
(hyperedges with fewer than two nodes), `C16Guard` (argument checks), `C16Trunc` (the truncated-Poisson draw).  Every statement is for **all oracle values**: all picks of
`rng.choice`, all accept bits, all weight vectors, all burn-in / thinning block lengths (the blocks are
lists of arbitrary lengths), all sequences.  The hypotheses are (i) that the model function returned
(`= some _`, i.e. numpy's `choice` contract held on every draw and no call raised — "returning runs"), and
(ii) what the Python data structures guarantee: hyperedges are sets (`Nodup`), the label encoder's classes
are sorted and distinct, the dyadic hyperedges of the inner model are pairs of nodes (`hfix`), and (iii) in the last two
sections what the statement is about: a model with at least two nodes (`hN`), a rate `e = exp(-lambd) < 1` (`he1`), a
monotone cdf (`hmono`).  One notion of the statements is defined beside the proofs: `rd` (residual degree,
`Proofs/C16Match.lean`).  The most general entry points are `matchFull` (all four flag pairs, exceptions kept), `sampleFromHygD` /
`sampleFromHygG` (initial hypergraph of any sizes / any label type) and `runSessionG` (sessions with argument checks); `matchSequences`,
`sampleFromHyg`, `runSession`, `runSessionX` are their restrictions, tied by `C16_match_full_refines`, `C16_run_agrees`, `C16.sampleFromHygG_nat`,
`C16_callX_extends`, `C16_guard_call`.  The `example`s after the theorems are non-vacuity witnesses: the hypotheses `= some _` are met on
concrete non-trivial inputs (kernel-evaluated). -/
open C16

/-- `_pairwise_reshuffle`: both sizes and the node multiset of the pair are kept, the results are sets -/
theorem C16_step_preserves (h1 h2 pick a b : Hye) (n1 : h1.Nodup) (n2 : h2.Nodup)
    (h : pairReshuffle h1 h2 pick = some (a, b)) :
    a.length = h1.length ∧ b.length = h2.length ∧ (a ++ b).Perm (h1 ++ h2) ∧ a.Nodup ∧ b.Nodup := by
  obtain ⟨hA, hB, hla, hlb, hp⟩ := pairReshuffle_spec n1 n2 h
  exact ⟨hla, hlb, hp, hA, hB⟩

-- {1,2,3}, {3,4}, pick {4,1} from the disjoint union {1,2,4}
example : pairReshuffle [1, 2, 3] [3, 4] [4, 1] = some ([4, 1, 3], [2, 3]) := by decide +kernel
-- a pick that breaks numpy's contract (too short) is refused
example : pairReshuffle [1, 2, 3] [3, 4] [4] = none := by decide +kernel

/-- `_mcmc_step` (accepted or not): position-wise sizes, every node's degree, set-ness -/
theorem C16_mcmc_step_preserves (cfg cfg' : Config) (d : StepDraw) (hn : AllNodup cfg)
    (h : mcmcStep cfg d = some cfg') :
    cfg'.map List.length = cfg.map List.length ∧ (∀ n, degOf n cfg' = degOf n cfg) ∧ AllNodup cfg' :=
  let ⟨k, hn'⟩ := mcmcStep_spec hn h
  ⟨k.sizes, k.degs, hn'⟩

-- an accepted and a rejected proposal
example : mcmcStep [[1, 2, 3], [3, 4], [5, 6]] ⟨0, 1, [4, 1], true⟩ = some [[4, 1, 3], [2, 3], [5, 6]] := by decide +kernel
example : mcmcStep [[1, 2, 3], [3, 4], [5, 6]] ⟨0, 1, [4, 1], false⟩ = some [[1, 2, 3], [3, 4], [5, 6]] := by decide +kernel

/-- `_mcmc_routine`: one yield per thinning block, and **every** yielded configuration has, for every node,
the degree and, for every size, the count of `initial configuration + fixed hyperedges` (sizes even
position by position) -/
theorem C16_chain_preserves (cfg fixed : Config) (burn : List StepDraw) (thins : List (List StepDraw))
    (ys : List Config) (hn : AllNodup cfg) (h : mcmcRoutine cfg fixed burn thins = some ys) :
    ys.length = thins.length ∧ ∀ y ∈ ys,
      (∀ n, degOf n y = degOf n (cfg ++ fixed)) ∧ (∀ s, sizeCount s y = sizeCount s (cfg ++ fixed)) ∧
      y.map List.length = (cfg ++ fixed).map List.length ∧ (AllNodup fixed → AllNodup y) := by
  obtain ⟨hl, hall⟩ := mcmcRoutine_spec hn h
  exact ⟨hl, fun y hy => ⟨(hall y hy).1.degs, (hall y hy).1.sizeCount, (hall y hy).1.sizes, (hall y hy).2⟩⟩

-- one burn-in step, two yields (thinning blocks of length 1 and 0), one fixed hyperedge
example : mcmcRoutine [[1, 2, 3], [3, 4], [5, 6]] [[7, 8]] [⟨0, 1, [4, 1], true⟩]
    [[⟨2, 0, [4, 5], true⟩], []] =
    some [[[6, 1, 3], [2, 3], [4, 5], [7, 8]], [[6, 1, 3], [2, 3], [4, 5], [7, 8]]] := by decide +kernel

/-- `_deg_seq_to_dict`: distinct keys, and node `n` sits in the set stored under `d` exactly when `deg(n) = d` —
the dictionary is the bucket index (`bucket`) of the residual-degree map the model of `_extract_hye` works on -/
theorem C16_degToDict (degSeq : List Nat) :
    (AL.keys (degToDict degSeq)).Nodup ∧
    ∀ d n, n ∈ (AL.get? (degToDict degSeq) d).getD [] ↔ n ∈ bucket degSeq d :=
  ⟨degToDict_eq degSeq ▸ foldl_dictStep_keys _ [] List.nodup_nil, fun d n => (mem_degToDict degSeq d n).trans mem_bucket.symm⟩

example : degToDict [2, 0, 2, 1] = [(2, [0, 2]), (0, [1]), (1, [3])] := by decide +kernel

/-- `_match_sequences` (every flag pair that `matchSequences` runs: all but `force_deg_seq` alone): the hyperedges are sets of nodes `< N` of size ≥ 2;
the sizes are exactly the requested ones (in order; hence every size `≥ 2` has exactly its count) whether or
not the sequences match; and when `matching_sequences` stays `True` (sizes ≥ 2) no node is used more often
than its degree, and with equal totals every node is used exactly `deg(n)` times. -/
theorem C16_initial_matching (degSeq : List Nat) (dimSeq : List (Nat × Nat)) (fd fm : Bool)
    (picks : List (List Nat)) (st : MState) (h : matchSequences degSeq dimSeq fd fm picks = some st) :
    (∀ e ∈ st.cfg, e.Nodup ∧ 2 ≤ e.length ∧ ∀ x ∈ e, x < degSeq.length) ∧
    st.cfg.map List.length = sizesOfSeq dimSeq ∧
    (∀ s, 2 ≤ s → sizeCount s st.cfg = dimCount dimSeq s) ∧
    (st.flag = true → (∀ p ∈ dimSeq, 2 ≤ p.1) →
      (∀ n (hn : n < degSeq.length), degOf n st.cfg ≤ degSeq[n]) ∧
      (degSeq.sum = (dimSeq.map (fun p => p.1 * p.2)).sum →
        ∀ n (hn : n < degSeq.length), degOf n st.cfg = degSeq[n])) := by
  unfold matchSequences at h
  split at h
  · exact absurd h (by simp)
  · rename_i hflags
    have htop : (fm || !fd) = true := by
      cases fd <;> cases fm <;> simp_all
    obtain ⟨b1, _, hu, _⟩ := matchLoop_init h
    have hsizes : st.cfg.map List.length = sizesOfSeq dimSeq := by simpa using matchLoop_sizes htop h
    refine ⟨b1.edges, hsizes, ?_, ?_⟩
    · intro s hs
      unfold sizeCount
      rw [hsizes]
      exact count_sizesOfSeq dimSeq s hs
    · intro hflag hall
      obtain ⟨u1, u2⟩ := hu hall hflag
      constructor
      · intro n hn
        have := u1 n
        rw [rd_eq_getElem hn] at this
        omega
      · intro htot n hn
        have hsum : (st.cfg.map List.length).sum = (dimSeq.map (fun p => p.1 * p.2)).sum := by
          rw [hsizes]; exact sum_sizesOfSeq hall
        have hz : st.resid.sum = 0 := by omega
        have := u1 n
        rw [rd_eq_getElem hn, rd_eq_zero_of_sum_zero hz n] at this
        omega

-- a matching pair (flag stays true, every node is used deg(n) times, residual degrees 0) ...
-- (the third draw is the size-0 draw from the bucket of degree 2, which has become empty but is still a key)
example : (matchSequences [2, 2, 1, 1] [(3, 2)] true true [[0, 1], [3], [], [2, 0, 1]]).map
    (fun st => (st.cfg, st.flag, st.resid, st.keys)) =
    some ([[0, 1, 3], [2, 0, 1]], true, [0, 0, 0, 0], [2, 1, 0]) := by decide +kernel
-- ... and a pair with equal totals that the greedy construction cannot realise: top-up from degree-0 nodes,
-- flag false, node 1 used twice although deg(1) = 1, size counts still respected
example : (matchSequences [4, 1, 1] [(2, 3)] true true [[0], [2], [], [0], [1], [], [], [0], [], [1]]).map
    (fun st => (st.cfg, st.flag, st.resid, st.keys)) =
    some ([[0, 2], [0, 1], [0, 1]], false, [1, 0, 0], [4, 1, 3, 0, 2]) := by decide +kernel
-- no node of degree 0 and no key 0 (`KeyError`): no output
example : (extractHye [1] [1, 1, 1] 4 true true [[0, 1, 2]]).isNone = true := by decide +kernel

/-- every yielded hypergraph (a list of hyperedge ↦ weight, i.e. always weighted): no repeated hyperedge —
the keys are pairwise different *and* strictly increasing lists, the canonical representatives of their node
sets —, positive integer weights, every hyperedge has the size of a hyperedge of the configuration, and its
nodes are nodes of the configuration (no initial hypergraph) / labels of the initial hypergraph -/
theorem C16_output_valid (cfg : Config) (ws : List Nat) (labels : Option (List Nat))
    (out : List (Hye × Nat)) (hn : AllNodup cfg)
    (hl : ∀ ls, labels = some ls → ls.Pairwise (· < ·))
    (h : outputStage cfg ws labels = some out) :
    (out.map (·.1)).Nodup ∧ (∀ p ∈ out, 0 < p.2) ∧ (∀ p ∈ out, p.1.Pairwise (· < ·)) ∧
    (∀ p ∈ out, ∃ e ∈ cfg, p.1.length = e.length) ∧
    (∀ p ∈ out, ∀ x ∈ p.1, match labels with
      | none => ∃ e ∈ cfg, x ∈ e
      | some ls => x ∈ ls) := by
  obtain ⟨hlen, Y, hr, rfl⟩ := outputStage_eq_some h
  obtain ⟨g, y1, hg⟩ := relabelAll_eq_map hr
  have hposY : ∀ p ∈ Y, 0 < p.2 := by
    intro p hp
    rw [y1] at hp
    obtain ⟨q, hq, rfl⟩ := List.mem_map.mp hp
    exact dropZeros_pos _ _ q hq
  obtain ⟨ms, m1, m3, _⟩ := mergeDup_spec Y hposY
  -- every key is the relabelled `canon e` of some `e ∈ cfg` that survived the zero-weight filter
  have hk : ∀ p ∈ mergeDup Y, ∃ q ∈ dropZeros (cfg.map canon) ws, ∃ e ∈ cfg, q.1 = canon e ∧ p.1 = (canon e).map g := by
    intro p hp
    obtain ⟨q', hq', hqp⟩ := List.mem_map.mp (ms.subset (List.mem_map_of_mem (f := (·.1)) hp))
    rw [y1] at hq'
    obtain ⟨q, hq, rfl⟩ := List.mem_map.mp hq'
    have := (dropZeros_keys_sublist (cfg.map canon) ws hlen).subset (List.mem_map_of_mem (f := (·.1)) hq)
    obtain ⟨e, he, hqe⟩ := List.mem_map.mp this
    exact ⟨q, hq, e, he, hqe.symm, by rw [← hqp, ← hqe]⟩
  refine ⟨m1, m3, fun p hp => ?_, fun p hp => ?_, fun p hp x hx => ?_⟩
  · obtain ⟨q, hq, e, he, hqe, hpe⟩ := hk p hp
    rw [hpe]
    cases labels with
    | none => rw [hg, List.map_id]; exact canon_strict (hn e he)
    | some ls => rw [hg.1]; exact lab_strict (hl ls rfl) (hqe ▸ hg.2 q hq) (canon_strict (hn e he))
  · obtain ⟨_, _, e, he, _, hpe⟩ := hk p hp
    exact ⟨e, he, by rw [hpe, List.length_map, canon_length]⟩
  · obtain ⟨q, hq, e, he, hqe, hpe⟩ := hk p hp
    rw [hpe] at hx
    obtain ⟨i, hi, rfl⟩ := List.mem_map.mp hx
    cases labels with
    | none => exact ⟨e, he, hg ▸ mem_canon.mp hi⟩
    | some ls => exact hg.1 ▸ lab_mem (hg.2 q hq i (hqe ▸ hi))

/-- no initial hypergraph (nodes are indices): in the yielded hypergraph no node has a higher degree and no size
a higher count than in the chain configuration; equal when no weight was zero (nothing dropped) and no two
hyperedges of the configuration coincide (nothing merged) -/
theorem C16_output_bounds (cfg : Config) (ws : List Nat) (out : List (Hye × Nat))
    (h : outputStage cfg ws none = some out) :
    (∀ n, degOf n (out.map (·.1)) ≤ degOf n cfg) ∧ (∀ s, sizeCount s (out.map (·.1)) ≤ sizeCount s cfg) ∧
    ((∀ w ∈ ws, 0 < w) → (cfg.map canon).Nodup →
      (∀ n, degOf n (out.map (·.1)) = degOf n cfg) ∧ (∀ s, sizeCount s (out.map (·.1)) = sizeCount s cfg)) := by
  obtain ⟨hlen, Y, hr, rfl⟩ := outputStage_eq_some h
  cases hr
  obtain ⟨ms, _, _, m5⟩ := mergeDup_spec _ (dropZeros_pos (cfg.map canon) ws)
  have hsub := ms.trans (dropZeros_keys_sublist (cfg.map canon) ws hlen)
  refine ⟨fun n => ?_, fun s => ?_, fun hpos hnd => ?_⟩
  · rw [degOf_eq_sumBy, ← sumBy_count_canon n]
    exact sumBy_sublist hsub
  · rw [sizeCount_eq_sumBy, ← sumBy_size_canon s]
    exact sumBy_sublist hsub
  · have hall := dropZeros_all (cfg.map canon) ws hlen hpos
    rw [m5 (by rw [hall]; exact hnd), hall]
    exact ⟨fun n => by rw [degOf_eq_sumBy, sumBy_count_canon], fun s => by rw [sizeCount_eq_sumBy, sumBy_size_canon]⟩

/-- with an initial hypergraph (`labels` = the encoder's classes, distinct): the degree of label `labels[i]` in
the yielded hypergraph is at most the degree of index `i` in the chain configuration, no size count grows;
equal when nothing was dropped or merged -/
theorem C16_output_bounds_labels (cfg : Config) (ws : List Nat) (ls : List Nat) (out : List (Hye × Nat))
    (hls : ls.Nodup) (h : outputStage cfg ws (some ls) = some out) :
    (∀ i (hi : i < ls.length), degOf ls[i] (out.map (·.1)) ≤ degOf i cfg) ∧
    (∀ s, sizeCount s (out.map (·.1)) ≤ sizeCount s cfg) ∧
    ((∀ w ∈ ws, 0 < w) → (cfg.map canon).Nodup →
      (∀ i (hi : i < ls.length), degOf ls[i] (out.map (·.1)) = degOf i cfg) ∧
      (∀ s, sizeCount s (out.map (·.1)) = sizeCount s cfg)) := by
  obtain ⟨f, hf, hfl, out0, h0, rfl⟩ := outputStage_labels hls h
  obtain ⟨b1, b2, b3⟩ := C16_output_bounds cfg ws out0 h0
  have hd : ∀ i (hi : i < ls.length), degOf ls[i] ((mapOut f out0).map (·.1)) = degOf i (out0.map (·.1)) := fun i hi => by
    rw [keys_mapOut, getElem_eq_lab hi, ← hfl i hi]
    exact degOfG_map f hf _ i
  have hs : ∀ s, sizeCount s ((mapOut f out0).map (·.1)) = sizeCount s (out0.map (·.1)) := fun s => by
    rw [keys_mapOut]
    exact sizeCountG_map f _ s
  exact ⟨fun i hi => hd i hi ▸ b1 i, fun s => hs s ▸ b2 s, fun hp hn =>
    ⟨fun i hi => (hd i hi).trans ((b3 hp hn).1 i), fun s => (hs s).trans ((b3 hp hn).2 s)⟩⟩

/-- duplicates are merged by *summing* and only zero weights are dropped: the total weight of the yielded hypergraph
is the sum of the sampled weights -/
theorem C16_output_weight_total (cfg : Config) (ws : List Nat) (labels : Option (List Nat))
    (out : List (Hye × Nat)) (h : outputStage cfg ws labels = some out) :
    (out.map (·.2)).sum = ws.sum := by
  obtain ⟨hlen, Y, hr, rfl⟩ := outputStage_eq_some h
  obtain ⟨g, y1, _⟩ := relabelAll_eq_map hr
  have hY : valSum Y = valSum (dropZeros (cfg.map canon) ws) := by
    rw [y1]; simp [valSum, Function.comp_def]
  exact (mergeDup_valSum Y).trans (hY.trans (dropZeros_valSum (cfg.map canon) ws hlen))

-- a zero weight is dropped, a duplicate is merged (weights summed),
-- indices are mapped back to labels
example : outputStage [[2, 1], [1, 2], [3, 4], [5, 6]] [1, 2, 0, 4] (some [10, 20, 30, 40, 50, 60, 70]) =
    some [([20, 30], 3), ([60, 70], 4)] := by decide +kernel
example : outputStage [[2, 1], [1, 2], [3, 4], [5, 6]] [1, 2, 0, 4] none = some [([1, 2], 3), ([5, 6], 4)] := by decide +kernel
-- nothing dropped, nothing merged: the equality case
example : outputStage [[2, 1], [0, 2], [3, 4]] [1, 2, 5] none = some [([1, 2], 1), ([0, 2], 2), ([3, 4], 5)] := by decide +kernel

/-- "returning runs" are exactly the runs in which numpy's `choice` contract holds: with two distinct valid
indices and a valid pick the step is defined -/
theorem C16_step_defined (cfg : Config) (d : StepDraw) (hi : d.i < cfg.length) (hj : d.j < cfg.length)
    (hij : d.i ≠ d.j)
    (hp : validPick (disjUnion cfg[d.i] cfg[d.j]) (cfg[d.i].length - (inter cfg[d.i] cfg[d.j]).length) d.pick
      = true) :
    (mcmcStep cfg d).isSome = true := by
  unfold mcmcStep
  simp only [hi, hj, hij, ne_eq, not_false_eq_true, and_self, dite_true]
  unfold pairReshuffle
  simp only [hp, if_true]
  rfl

/-! ## whole runs: every element of the generated sequence -/

/-- what `C16_sample_seqs` and `C16_sample_degonly` share: a run from any configuration of sets respects `cfg ++ fixed` -/
theorem C16.sampleFromConfig_respects {cfg fixed : Config} {t : OwnTape} {outs : List (List (Hye × Nat))}
    (hn : AllNodup cfg) (hf : AllNodup fixed) (h : sampleFromConfig cfg fixed none t = some outs) :
    outs.length = t.thins.length ∧ ∀ k (hk : k < outs.length),
      ValidOut outs[k] ∧
      (∀ p ∈ outs[k], (∀ x ∈ p.1, ∃ e ∈ cfg ++ fixed, x ∈ e) ∧ ∃ e ∈ cfg ++ fixed, p.1.length = e.length) ∧
      (∀ n, degOf n (outs[k].map (·.1)) ≤ degOf n (cfg ++ fixed)) ∧
      (∀ s, sizeCount s (outs[k].map (·.1)) ≤ sizeCount s (cfg ++ fixed)) ∧
      ∃ y q, t.quantiles[k]? = some q ∧ outputStage y (truncWeights q) none = some outs[k] ∧
        ((y.map canon).Nodup → (∀ n, degOf n (outs[k].map (·.1)) = degOf n (cfg ++ fixed)) ∧
          (∀ s, sizeCount s (outs[k].map (·.1)) = sizeCount s (cfg ++ fixed))) := by
  obtain ⟨hlen, hall⟩ := sampleFromConfig_yields hn hf h
  refine ⟨hlen, fun k hk => ?_⟩
  obtain ⟨y, q, hq, ho, hkeep, hny⟩ := hall k hk
  obtain ⟨v1, v2, v3, v4, v5⟩ := C16_output_valid y (truncWeights q) none outs[k] hny (by simp) ho
  obtain ⟨b1, b2, b3⟩ := C16_output_bounds y (truncWeights q) outs[k] ho
  refine ⟨⟨v1, fun p hp => ⟨v2 p hp, v3 p hp⟩⟩, fun p hp => ⟨fun x hx => ?_, ?_⟩, fun n => ?_, fun s => ?_,
    y, q, hq, ho, fun hnd => ?_⟩
  · obtain ⟨e, he, hxe⟩ := v5 p hp x hx
    exact hkeep.mem_node he hxe
  · obtain ⟨e, he, hpe⟩ := v4 p hp
    obtain ⟨e0, he0, hl⟩ := hkeep.mem_size he
    exact ⟨e0, he0, hpe.trans hl⟩
  · rw [← hkeep.degs n]; exact b1 n
  · rw [← hkeep.sizeCount s]; exact b2 s
  · obtain ⟨e1, e2⟩ := b3 (truncWeights_pos q) hnd
    exact ⟨fun n => (e1 n).trans (hkeep.degs n), fun s => (e2 s).trans (hkeep.sizeCount s)⟩

/-- `sample(deg_seq, dim_seq)` (flags `true,true`, `fixed = []`) and `sample()` (flags `false,false`, sequences and
dyadic hyperedges `fixed` drawn by the inner model): for **every** `k`, the `k`-th yielded hypergraph is
well-formed, its nodes are `< N`, its hyperedges have size ≥ 2 and at most any bound `D ≥ 2` on the sizes of the
size sequence; with `fixed = []`: no size `≥ 2` exceeds its conditioned count — matching or not —, no node exceeds
its conditioned degree when the sampler reports matching sequences and every requested size is `>= 2`, and whenever no two hyperedges of the chain
state coincide, the counts are exact and (report `True`, sizes `>= 2`, equal totals) so are the degrees - for every list of quantiles scipy may
deliver (the weights are `truncWeights q`, at least 1 by the clamp `np.maximum(quantile, 1)`, D44; no hypothesis on the weights). -/
theorem C16_sample_seqs (degSeq : List Nat) (dimSeq : List (Nat × Nat)) (fd fm : Bool) (fixed : Config)
    (t : OwnTape) (flag : Bool) (outs : List (List (Hye × Nat)))
    (hfix : ∀ e ∈ fixed, e.Nodup ∧ e.length = 2 ∧ ∀ x ∈ e, x < degSeq.length)
    (h : sampleFromSeqs degSeq dimSeq fd fm fixed t = some (flag, outs)) :
    outs.length = t.thins.length ∧ ∀ k (hk : k < outs.length),
      ValidOut outs[k] ∧
      (∀ p ∈ outs[k], (∀ x ∈ p.1, x < degSeq.length) ∧ 2 ≤ p.1.length ∧
        ∀ D, 2 ≤ D → (∀ q ∈ dimSeq, q.1 ≤ D) → p.1.length ≤ D) ∧
      (fixed = [] →
        (∀ s, 2 ≤ s → sizeCount s (outs[k].map (·.1)) ≤ dimCount dimSeq s) ∧
        (flag = true → (∀ q ∈ dimSeq, 2 ≤ q.1) →
          ∀ n (hn : n < degSeq.length), degOf n (outs[k].map (·.1)) ≤ degSeq[n]) ∧
        ∃ y q, t.quantiles[k]? = some q ∧ outputStage y (truncWeights q) none = some outs[k] ∧
          ((y.map canon).Nodup →
            (∀ s, 2 ≤ s → sizeCount s (outs[k].map (·.1)) = dimCount dimSeq s) ∧
            (flag = true → (∀ q ∈ dimSeq, 2 ≤ q.1) →
              degSeq.sum = (dimSeq.map (fun p => p.1 * p.2)).sum →
              ∀ n (hn : n < degSeq.length), degOf n (outs[k].map (·.1)) = degSeq[n]))) := by
  obtain ⟨st, hm, h'⟩ := Option.bind_eq_some_iff.mp h
  obtain ⟨os, hs, hh⟩ := Option.map_eq_some_iff.mp h'
  obtain ⟨hflag, rfl⟩ := Prod.mk.inj hh
  obtain ⟨m1, m2, m3, m4⟩ := C16_initial_matching degSeq dimSeq fd fm t.picks st hm
  obtain ⟨hlen, hall⟩ := sampleFromConfig_respects (fun e he => (m1 e he).1) (fun e he => (hfix e he).1) hs
  refine ⟨hlen, fun k hk => ?_⟩
  obtain ⟨v, hmem, hdeg, hsz, y, q, hq, ho, hex⟩ := hall k hk
  refine ⟨v, fun p hp => ⟨fun x hx => ?_, ?_⟩, ?_⟩
  · obtain ⟨e0, he0, hx0⟩ := (hmem p hp).1 x hx
    rcases List.mem_append.mp he0 with he0 | he0
    · exact (m1 e0 he0).2.2 x hx0
    · exact (hfix e0 he0).2.2 x hx0
  · obtain ⟨e0, he0, hl0⟩ := (hmem p hp).2
    rcases List.mem_append.mp he0 with he0 | he0
    · obtain ⟨h2, q', hq', hqs⟩ := mem_sizesOfSeq (m2 ▸ List.mem_map_of_mem he0)
      exact ⟨by omega, fun D _ hD => by have := hD q' hq'; omega⟩
    · have := (hfix e0 he0).2.1
      exact ⟨by omega, fun D hD _ => by omega⟩
  · rintro rfl
    simp only [List.append_nil] at hdeg hsz hex
    refine ⟨fun s hs2 => m3 s hs2 ▸ hsz s,
      fun hf hall n hn => Nat.le_trans (hdeg n) ((m4 (hflag.trans hf) hall).1 n hn), y, q, hq, ho, fun hnd => ?_⟩
    obtain ⟨e1, e2⟩ := hex hnd
    exact ⟨fun s hs2 => (e2 s).trans (m3 s hs2),
      fun hf hall htot n hn => (e1 n).trans ((m4 (hflag.trans hf) hall).2 htot n hn)⟩

-- non-matching sequences, burn-in 1, thinning blocks of length 1 and 0, a duplicate and a zero
-- quantile (second sample: its hyperedge keeps weight 1 and is merged with its duplicate)
example : sampleFromSeqs [4, 1, 1] [(2, 3)] true true []
    ⟨[[0], [2], [], [0], [1], [], [], [0], [], [1]], [⟨0, 1, [1], true⟩], [[⟨1, 2, [1], true⟩], []],
      [[1, 2, 3], [0, 1, 1]]⟩ =
    some (false, [[([0, 1], 3), ([0, 2], 3)], [([0, 1], 2), ([0, 2], 1)]]) := by decide +kernel
-- matching sequences, an accepted and a rejected proposal; degrees 2,2,1,1 and two hyperedges of size 3 throughout
example : sampleFromSeqs [2, 2, 1, 1] [(3, 2)] true true []
    ⟨[[0, 1], [3], [], [2, 0, 1]], [⟨0, 1, [2], true⟩], [[⟨1, 0, [2], true⟩], [⟨0, 1, [2], false⟩]],
      [[1, 2], [3, 1]]⟩ =
    some (true, [[([0, 1, 3], 1), ([0, 1, 2], 2)], [([0, 1, 3], 3), ([0, 1, 2], 1)]]) := by decide +kernel
-- sampling from the model: sequences and one dyadic hyperedge delivered by the inner model
example : sampleFromSeqs [1, 1, 1, 0] [(3, 1)] false false [[0, 3]] ⟨[[2, 0, 1]], [], [[], []], [[2, 1], [0, 4]]⟩ =
    some (true, [[([0, 1, 2], 2), ([0, 3], 1)], [([0, 1, 2], 1), ([0, 3], 4)]]) := by decide +kernel

/-- `sample(initial_hyg=h)`: `labels` = the sorted distinct nodes of `h`, `edges` = its hyperedges (sets).  For
**every** `k` the `k`-th yielded hypergraph is well-formed, its nodes are nodes of `h`, every hyperedge has the
size of a hyperedge of `h`; no node exceeds its degree in `h`, no size its count in `h`; and whenever no two
hyperedges of the chain state coincide, all degrees and size counts are exactly those of `h` - for every list of
quantiles scipy may deliver (weights `truncWeights q`; no hypothesis on the weights). -/
theorem C16_sample_hyg (labels : List Nat) (edges : Config) (t : OwnTape)
    (outs : List (List (Hye × Nat))) (hl : labels.Pairwise (· < ·)) (he : AllNodup edges)
    (h : sampleFromHyg labels edges t = some outs) :
    outs.length = t.thins.length ∧ ∀ k (hk : k < outs.length),
      ValidOut outs[k] ∧
      (∀ p ∈ outs[k], (∀ x ∈ p.1, x ∈ labels) ∧ ∃ e ∈ edges, p.1.length = e.length) ∧
      (∀ x ∈ labels, degOf x (outs[k].map (·.1)) ≤ degOf x edges) ∧
      (∀ s, sizeCount s (outs[k].map (·.1)) ≤ sizeCount s edges) ∧
      ∃ y q, t.quantiles[k]? = some q ∧ outputStage y (truncWeights q) (some labels) = some outs[k] ∧
        ((y.map canon).Nodup →
          (∀ x ∈ labels, degOf x (outs[k].map (·.1)) = degOf x edges) ∧
          (∀ s, sizeCount s (outs[k].map (·.1)) = sizeCount s edges)) := by
  obtain ⟨cfg, ht, h'⟩ := Option.bind_eq_some_iff.mp h
  have hnd : labels.Nodup := hl.imp (fun hab => Nat.ne_of_lt hab)
  obtain ⟨hn0, t1, hsz, hdeg'⟩ := transformAll_keeps he ht
  have hdeg := hdeg' hnd
  obtain ⟨hlen, hall⟩ := sampleFromConfig_yields hn0 (fun e he => by cases he) h'
  refine ⟨hlen, fun k hk => ?_⟩
  obtain ⟨y, q, hq, ho, hkeep, hny⟩ := hall k hk
  rw [List.append_nil] at hkeep
  obtain ⟨v1, v2, v3, v4, v5⟩ :=
    C16_output_valid y (truncWeights q) (some labels) outs[k] hny (by intro ls hls; cases hls; exact hl) ho
  obtain ⟨b1, b2, b3⟩ := C16_output_bounds_labels y (truncWeights q) labels outs[k] hnd ho
  refine ⟨⟨v1, fun p hp => ⟨v2 p hp, v3 p hp⟩⟩, fun p hp => ⟨fun x hx => v5 p hp x hx, ?_⟩, ?_, ?_,
    y, q, hq, ho, fun hndy => ?_⟩
  · obtain ⟨e, hey, hpe⟩ := v4 p hp
    obtain ⟨e0, he0, hl0⟩ := hkeep.mem_size hey
    exact ⟨e0.map (lab labels), t1 ▸ List.mem_map_of_mem he0, by rw [List.length_map]; omega⟩
  · intro x hx
    obtain ⟨i, hi, rfl⟩ := List.getElem_of_mem hx
    rw [hdeg i hi, ← hkeep.degs i]
    exact b1 i hi
  · intro s
    rw [hsz s, ← hkeep.sizeCount s]
    exact b2 s
  · obtain ⟨e1, e2⟩ := b3 (truncWeights_pos q) hndy
    refine ⟨fun x hx => ?_, fun s => by rw [e2 s, hsz s, hkeep.sizeCount s]⟩
    obtain ⟨i, hi, rfl⟩ := List.getElem_of_mem hx
    rw [hdeg i hi, e1 i hi, hkeep.degs i]

-- labels 10..50, three hyperedges, two accepted proposals, a zero quantile in the second sample
-- (the hyperedge stays, with weight 1)
example : sampleFromHyg [10, 20, 30, 40, 50] [[10, 20, 30], [30, 40], [20, 50]]
    ⟨[], [⟨0, 1, [1, 3], true⟩], [[⟨2, 1, [0, 4], true⟩], []], [[1, 2, 2], [1, 0, 3]]⟩ =
    some [[([20, 30, 40], 1), ([20, 30], 2), ([10, 50], 2)], [([20, 30, 40], 1), ([20, 30], 1), ([10, 50], 3)]] := by decide +kernel
-- structurally-zero Poisson parameters (quantile 0 for the two
-- cross-community dyads), no MCMC step: the sample is the initial hypergraph, every weight positive
example : sampleFromHyg [0, 1, 2, 3, 4, 5, 6, 7] [[0, 4], [1, 5], [2, 3, 6]] ⟨[], [], [[]], [[0, 0, 7]]⟩ =
    some [[([0, 4], 1), ([1, 5], 1), ([2, 3, 6], 7)]] := by decide +kernel

/-! ## node labels of any type

`C16_sample_hyg` is stated for labels that are naturals.  The sampler sees a label only through equality with other
labels (`transformG`: position in the encoder's classes, `relabelG`: indexing the classes, label tuples as dictionary
keys), so its run on labels of ANY type `α` - integers of any size, negative numbers, floats, strings, fractions - is
the image of a run on naturals under the naming `f` of the labels, for every injective `f` (an infinite label type
has one extending any finite class list).  In particular the internal ids are never an output: every node of every
sample is `f` of a label, also when the sorted labels look like the ids `0..N-1` without being them. -/

/-- the run on the labels `labels.map f` (hyperedges `edges.map (List.map f)`) is the image under `f` of the run of the model over the naturals -/
theorem C16_hyg_any_labels {α : Type} [DecidableEq α] (f : Nat → α) (hf : ∀ a b, f a = f b → a = b)
    (labels : List Nat) (edges : Config) (t : OwnTape) :
    sampleFromHygG (labels.map f) (edges.map (List.map f)) t
      = (sampleFromHyg labels edges t).map (List.map (mapOut f)) := by
  rw [sampleFromHygG_map f hf, sampleFromHygG_nat]

/-- the clauses of the property for an initial hypergraph over labels of any type (hypotheses: the classes are
listed without repetition in the order `f` carries over from the naturals, hyperedges are sets, the run returned):
every sample has no repeated hyperedge, positive weights, only nodes that are labels of the initial hypergraph, only
sizes of the initial hypergraph; no label exceeds its degree and no size its count; both are met exactly whenever no
two hyperedges of the chain state coincide -/
theorem C16_sample_hyg_any_labels {α : Type} [DecidableEq α] (f : Nat → α) (hf : ∀ a b, f a = f b → a = b)
    (labels : List Nat) (edges : Config) (t : OwnTape) (outs : List (List (List α × Nat)))
    (hl : labels.Pairwise (· < ·)) (he : AllNodup edges)
    (h : sampleFromHygG (labels.map f) (edges.map (List.map f)) t = some outs) :
    outs.length = t.thins.length ∧ ∀ k (hk : k < outs.length),
      (outs[k].map (·.1)).Nodup ∧
      (∀ p ∈ outs[k], 0 < p.2 ∧ p.1.Nodup ∧ (∀ x ∈ p.1, x ∈ labels.map f) ∧ ∃ e ∈ edges, p.1.length = e.length) ∧
      (∀ x ∈ labels, degOfG (f x) (outs[k].map (·.1)) ≤ degOfG (f x) (edges.map (List.map f))) ∧
      (∀ s, sizeCountG s (outs[k].map (·.1)) ≤ sizeCountG s (edges.map (List.map f))) ∧
      ∃ y q, t.quantiles[k]? = some q ∧ outputStageG y (truncWeights q) (labels.map f) = some outs[k] ∧
        ((y.map canon).Nodup →
          (∀ x ∈ labels, degOfG (f x) (outs[k].map (·.1)) = degOfG (f x) (edges.map (List.map f))) ∧
          (∀ s, sizeCountG s (outs[k].map (·.1)) = sizeCountG s (edges.map (List.map f)))) := by
  rw [C16_hyg_any_labels f hf] at h
  obtain ⟨outsN, hn, rfl⟩ := Option.map_eq_some_iff.mp h
  obtain ⟨c1, c2⟩ := C16_sample_hyg labels edges t outsN hl he hn
  refine ⟨by simpa using c1, ?_⟩
  intro k hk
  have hk' : k < outsN.length := by simpa using hk
  obtain ⟨⟨v1, v2⟩, n1, d1, s1, y, q, hq, ho, hex⟩ := c2 k hk'
  have hfl : ∀ a b : List Nat, a.map f = b.map f → a = b := fun a b e => (List.map_inj_right hf).mp e
  have hget : (outsN.map (mapOut f))[k] = mapOut f outsN[k] := by simp
  -- over the naturals `degOfG`, `sizeCountG`, `outputStageG` are `degOf`, `sizeCount`, `outputStage` by definition (`degOfG_nat`, `sizeCountG_nat`, `outputStageG_nat`)
  rw [hget, keys_mapOut]
  refine ⟨ListLib.nodup_map_inj _ hfl v1, ?_, ?_, ?_, y, q, hq, ?_, ?_⟩
  · intro p hp
    obtain ⟨pN, hpN, rfl⟩ := List.mem_map.mp hp
    obtain ⟨w1, w2⟩ := v2 pN hpN
    obtain ⟨m1, m2⟩ := n1 pN hpN
    refine ⟨w1, ListLib.nodup_map_inj f hf (w2.imp (fun hab => Nat.ne_of_lt hab)), ?_, ?_⟩
    · intro x hx
      obtain ⟨x0, hx0, rfl⟩ := List.mem_map.mp hx
      exact List.mem_map_of_mem (m1 x0 hx0)
    · obtain ⟨e, he1, he2⟩ := m2
      exact ⟨e, he1, by simpa using he2⟩
  · intro x hx
    rw [degOfG_map f hf, degOfG_map f hf]
    exact d1 x hx
  · intro s
    rw [sizeCountG_map, sizeCountG_map]
    exact s1 s
  · rw [outputStageG_map f hf]
    exact congrArg (Option.map (mapOut f)) ho
  · intro hnd
    obtain ⟨e1, e2⟩ := hex hnd
    refine ⟨fun x hx => ?_, fun s => ?_⟩
    · rw [degOfG_map f hf, degOfG_map f hf]
      exact e1 x hx
    · rw [sizeCountG_map, sizeCountG_map]
      exact e2 s

-- the generic code on labels that are no naturals.  Integer labels
-- -1, 0, 1, 3: sorted they end at N-1 = 3 without being the ids 0..3; no step before the first sample (it is the initial
-- hypergraph, the zero quantile gives weight 1), one accepted proposal before the second - no internal id (2) shows up
example : sampleFromHygG ([-1, 0, 1, 3] : List Int) [[3, -1], [0, 1, 3], [1, -1]]
    ⟨[], [], [[], [⟨0, 1, [2], true⟩]], [[1, 0, 3], [2, 1, 1]]⟩ =
    some [[([-1, 3], 1), ([0, 1, 3], 1), ([-1, 1], 3)], [([1, 3], 2), ([-1, 0, 3], 1), ([-1, 1], 1)]] := by decide +kernel
-- string labels; the same draws as in the example of C16_sample_hyg (labels 10..50): the image under 10 ↦ "a", ...
example : sampleFromHygG ["a", "b", "c", "d", "e"] [["a", "b", "c"], ["c", "d"], ["b", "e"]]
    ⟨[], [⟨0, 1, [1, 3], true⟩], [[⟨2, 1, [0, 4], true⟩], []], [[1, 2, 2], [1, 0, 3]]⟩ =
    some [[(["b", "c", "d"], 1), (["b", "c"], 2), (["a", "e"], 2)], [(["b", "c", "d"], 1), (["b", "c"], 1), (["a", "e"], 3)]] := by
  decide +kernel

/-- the generated sequence is a stream: the first `k` samples do not depend on how many samples are drawn afterwards
(same initial configuration, same draws for the first `k` blocks) -/
theorem C16_sequence_prefix (cfg fixed : Config) (labels : Option (List Nat)) (t : OwnTape)
    (outs : List (List (Hye × Nat))) (k : Nat) (h : sampleFromConfig cfg fixed labels t = some outs) :
    sampleFromConfig cfg fixed labels { t with thins := t.thins.take k } = some (outs.take k) := by
  unfold sampleFromConfig at h ⊢
  obtain ⟨ys, hm, h'⟩ := Option.bind_eq_some_iff.mp h
  simp only [mcmcRoutine_take k hm, Option.bind_some]
  exact outputsOf_take k h'

/-- `sample_truncated_poisson` with the clamp `np.maximum(quantile, 1)` (D44): every weight is positive whatever
quantiles scipy delivers, so the filter `np.where(weights > 0)` of `sample` drops nothing: the yielded hypergraph
has one (weight-carrying) entry per hyperedge of the chain state before duplicates are merged (its total weight
is then the sum of the clamped quantiles by `C16_output_weight_total`). -/
theorem C16_trunc_weights (cfg : Config) (qs : List Nat) (h : qs.length = cfg.length) :
    (∀ w ∈ truncWeights qs, 1 ≤ w) ∧
    dropZeros (cfg.map canon) (truncWeights qs) = (cfg.map canon).zip (truncWeights qs) ∧
    (dropZeros (cfg.map canon) (truncWeights qs)).map (·.1) = cfg.map canon := by
  have hpos := truncWeights_pos qs
  have hlen : (truncWeights qs).length = (cfg.map canon).length := by simp [truncWeights, h]
  refine ⟨fun w hw => hpos w hw, ?_, dropZeros_all _ _ hlen hpos⟩
  unfold dropZeros
  rw [List.filter_eq_self]
  intro p hp
  have := hpos p.2 (List.of_mem_zip hp).2
  simpa using this

/-- D44, weights without the clamp (quantiles used as they come): a quantile 0 makes the output stage drop a
hyperedge although no two hyperedges of the chain state coincide - node 1 and size 2 fall below their
conditioned values.  With the clamp (`truncWeights`) the same draws keep everything. -/
theorem C16_unclamped_weight_drops :
    ∃ (cfg : Config) (qs : List Nat) (out : List (Hye × Nat)),
      (cfg.map canon).Nodup ∧ outputStage cfg qs none = some out ∧
      degOf 1 (out.map (·.1)) < degOf 1 cfg ∧ sizeCount 2 (out.map (·.1)) < sizeCount 2 cfg ∧
      ∃ out', outputStage cfg (truncWeights qs) none = some out' ∧
        degOf 1 (out'.map (·.1)) = degOf 1 cfg ∧ sizeCount 2 (out'.map (·.1)) = sizeCount 2 cfg :=
  ⟨[[0, 4], [1, 5], [2, 3, 6]], [1, 0, 7], [([0, 4], 1), ([2, 3, 6], 7)], by decide, by decide, by decide, by decide,
    [([0, 4], 1), ([1, 5], 1), ([2, 3, 6], 7)], by decide, by decide, by decide⟩

/-- The sampler whose inner model is built with the sampler's seed (D29) draws only from generators built from its own seed: a run `sample()` of
`HyMMSBMSampler(..., seed)` is a function of the parameters and the seed alone — whatever the state of any
other randomness source (`ambient`) is.  This is definitional in the model (`rfl`): the wiring with the seeded inner model has no other
input; that the CODE has none is what the harness shows by recording every generator call with its source.  (For `sample(deg_seq, dim_seq)` and `sample(initial_hyg=...)` the
model functions `samplerRunSeqs`, `samplerRunHyg` have no other argument at all.) -/
theorem C16_seeded (G : Gens) (seed : Nat) (ambient₁ ambient₂ : InnerTape) :
    samplerRunModel true G seed ambient₁ = samplerRunModel true G seed ambient₂ := rfl

/-- D29, the sampler whose inner model is seeded from the operating system: equal parameters and seed do
not determine the samples -/
theorem C16_unseeded_differs :
    ∃ (G : Gens) (seed : Nat) (a₁ a₂ : InnerTape),
      samplerRunModel false G seed a₁ ≠ samplerRunModel false G seed a₂ := by
  refine ⟨⟨fun _ => ⟨[[0, 1, 2]], [], [[]], [[2, 1]]⟩, fun _ => ⟨[], [], []⟩⟩, 0,
    ⟨[1, 1, 1], [(3, 1)], [[0, 1]]⟩, ⟨[1, 1, 1], [(3, 1)], [[1, 2]]⟩, ?_⟩
  decide +kernel

-- a run of `samplerRunModel true` that returns
example : samplerRunModel true
    ⟨fun _ => ⟨[[0, 1, 2]], [], [[]], [[2, 1]]⟩, fun _ => ⟨[1, 1, 1], [(3, 1)], [[0, 1]]⟩⟩ 7 ⟨[], [], []⟩ =
    some (true, [[([0, 1, 2], 2), ([0, 1], 1)]]) := by decide +kernel

/-! ## one sampler object, several `sample(...)` calls (sampler-state record `Sampler`) -/

/-- A call's result depends only on this call's arguments and on what the generators deliver to it - not on the state
earlier calls left on the sampler object: two samplers in arbitrary states `s`, `s'` answer the same call with the
same samples and the same report.  (With the reset of D48; the only attribute `sample` reads or writes is
`matching_sequences`, see `Sampler`.) -/
theorem C16_call_local (s s' : Sampler) (c : Call) : (callStep true s c).2 = (callStep true s' c).2 := by
  rw [callStep_snd, callStep_snd]

/-- Several calls on ONE sampler, in any order of conditioning kinds: the `k`-th call delivers exactly what the same
call (same arguments, same draws delivered) delivers on a sampler that has just been built. -/
theorem C16_session_local (s : Sampler) (cs : List Call) : runSession true s cs = cs.map freshCall := by
  induction cs generalizing s with
  | nil => rfl
  | cons c cs ih =>
    simp only [runSession, List.map_cons, ih]
    congr 1
    exact C16_call_local s ⟨none⟩ c

/-- What a call on a used sampler delivers, by conditioning kind: the samples of `sampleFromHyg` / `sampleFromSeqs` on
this call's arguments - so `C16_sample_hyg` / `C16_sample_seqs` apply to every call of a session with the conditioning
of THAT call - and the report `matching_sequences` is the flag of this call's own `_match_sequences` run ("the
sampler reports as matching" is about the call at hand); `sample(initial_hyg=...)` makes no report. -/
theorem C16_call_result (s : Sampler) (c : Call) :
    (callStep true s c).2 =
      match c.args with
      | .hyg labels edges => (sampleFromHyg labels edges c.own).map (fun o => ⟨none, o⟩)
      | .seqs d m => (sampleFromSeqs d m true true [] c.own).map (fun p => ⟨some p.1, p.2⟩)
      | .model =>
        (sampleFromSeqs c.inner.degSeq c.inner.dimSeq false false c.inner.dyads c.own).map
          (fun p => ⟨some p.1, p.2⟩) :=
  callStep_snd s c

/-- the clause "only nodes of the model" of `C16_sample_seqs`, for all samples of a run at once -/
theorem C16.sampleFromSeqs_nodes {degSeq : List Nat} {dimSeq : List (Nat × Nat)} {fd fm : Bool} {fixed : Config}
    {t : OwnTape} {ok : Bool} {outs : List (List (Hye × Nat))}
    (hfix : ∀ e ∈ fixed, e.Nodup ∧ e.length = 2 ∧ ∀ x ∈ e, x < degSeq.length)
    (h : sampleFromSeqs degSeq dimSeq fd fm fixed t = some (ok, outs)) :
    ∀ o ∈ outs, ValidOut o ∧ ∀ p ∈ o, ∀ x ∈ p.1, x < degSeq.length := by
  obtain ⟨_, hall⟩ := C16_sample_seqs degSeq dimSeq fd fm fixed t ok outs hfix h
  intro o ho
  obtain ⟨i, hi, rfl⟩ := List.getElem_of_mem ho
  obtain ⟨v, hn, _⟩ := hall i hi
  exact ⟨v, fun p hp x hx => (hn p hp).1 x hx⟩

/-- The clause "only nodes of the model (of the initial hypergraph when one is given)" for every call of a session
on one sampler started in any state: the hyperedges of every sample of the `k`-th call consist of labels of the
initial hypergraph of the `k`-th call, resp. of node indices `< N` (`N` = length of that call's degree sequence),
whatever the earlier calls were conditioned on; every sample is well-formed. -/
theorem C16_session_nodes (s : Sampler) (cs : List Call) (k : Nat) (hk : k < cs.length) (r : CallOut)
    (h : (runSession true s cs)[k]? = some (some r)) :
    (∀ labels edges, cs[k].args = .hyg labels edges → labels.Pairwise (· < ·) → AllNodup edges →
      r.report = none ∧ sampleFromHyg labels edges cs[k].own = some r.outs ∧
        ∀ o ∈ r.outs, ValidOut o ∧ ∀ p ∈ o, ∀ x ∈ p.1, x ∈ labels) ∧
    (∀ d m, cs[k].args = .seqs d m →
      ∃ ok, r.report = some ok ∧ sampleFromSeqs d m true true [] cs[k].own = some (ok, r.outs) ∧
        ∀ o ∈ r.outs, ValidOut o ∧ ∀ p ∈ o, ∀ x ∈ p.1, x < d.length) ∧
    (cs[k].args = .model →
      (∀ e ∈ cs[k].inner.dyads, e.Nodup ∧ e.length = 2 ∧ ∀ x ∈ e, x < cs[k].inner.degSeq.length) →
      ∃ ok, r.report = some ok ∧
        sampleFromSeqs cs[k].inner.degSeq cs[k].inner.dimSeq false false cs[k].inner.dyads cs[k].own =
          some (ok, r.outs) ∧
        ∀ o ∈ r.outs, ValidOut o ∧ ∀ p ∈ o, ∀ x ∈ p.1, x < cs[k].inner.degSeq.length) := by
  rw [C16_session_local, List.getElem?_map, List.getElem?_eq_getElem hk, Option.map_some,
    Option.some.injEq] at h
  unfold freshCall at h
  rw [C16_call_result] at h
  refine ⟨?_, ?_, ?_⟩
  · intro labels edges ha hl he
    rw [ha] at h
    obtain ⟨outs, hs, rfl⟩ := Option.map_eq_some_iff.mp h
    obtain ⟨_, hall⟩ := C16_sample_hyg labels edges cs[k].own outs hl he hs
    refine ⟨rfl, hs, fun o ho => ?_⟩
    obtain ⟨i, hi, rfl⟩ := List.getElem_of_mem ho
    obtain ⟨v, hn, _⟩ := hall i hi
    exact ⟨v, fun p hp x hx => (hn p hp).1 x hx⟩
  · intro d m ha
    rw [ha] at h
    obtain ⟨⟨ok, outs⟩, hs, rfl⟩ := Option.map_eq_some_iff.mp h
    exact ⟨ok, rfl, hs, sampleFromSeqs_nodes (by simp) hs⟩
  · intro ha hfix
    rw [ha] at h
    obtain ⟨⟨ok, outs⟩, hs, rfl⟩ := Option.map_eq_some_iff.mp h
    exact ⟨ok, rfl, hs, sampleFromSeqs_nodes hfix hs⟩

/-- D48, `_match_sequences` without the reset of `matching_sequences`: after a call whose sequences did not
match, a later call on the same sampler whose sequences DO match (the fresh sampler reports `True` and delivers the
same sample) reports `False`; with the reset the session reports `True`. -/
theorem C16_stale_report :
    ∃ (c₁ c₂ : Call) (o : List (List (Hye × Nat))),
      (runSession false ⟨none⟩ [c₁, c₂])[1]? = some (some ⟨some false, o⟩) ∧
      freshCall c₂ = some ⟨some true, o⟩ ∧
      (runSession true ⟨none⟩ [c₁, c₂])[1]? = some (some ⟨some true, o⟩) :=
  ⟨⟨.seqs [4, 1, 1] [(2, 3)], ⟨[[0], [2], [], [0], [1], [], [], [0], [], [1]], [], [[]], [[1, 2, 3]]⟩, ⟨[], [], []⟩⟩,
    ⟨.seqs [2, 2, 1, 1] [(3, 2)], ⟨[[0, 1], [3], [], [2, 0, 1]], [], [[]], [[1, 2]]⟩, ⟨[], [], []⟩⟩,
    [[([0, 1, 3], 1), ([0, 1, 2], 2)]], by decide, by decide, by decide⟩

-- ONE sampler, four calls - around an initial hypergraph with
-- labels 10..50, then on sequences that do not match (report False), then on sequences that match (report True; its
-- nodes are 0..3, not labels of the hypergraph of the first call), then sampling from the model; started in a state with a stale report
example : runSession true ⟨some false⟩
    [⟨.hyg [10, 20, 30, 40, 50] [[10, 20, 30], [30, 40], [20, 50]],
        ⟨[], [⟨0, 1, [1, 3], true⟩], [[⟨2, 1, [0, 4], true⟩]], [[1, 2, 2]]⟩, ⟨[], [], []⟩⟩,
     ⟨.seqs [4, 1, 1] [(2, 3)], ⟨[[0], [2], [], [0], [1], [], [], [0], [], [1]], [], [[]], [[1, 2, 3]]⟩, ⟨[], [], []⟩⟩,
     ⟨.seqs [2, 2, 1, 1] [(3, 2)], ⟨[[0, 1], [3], [], [2, 0, 1]], [], [[]], [[1, 2]]⟩, ⟨[], [], []⟩⟩,
     ⟨.model, ⟨[[2, 0, 1]], [], [[]], [[2, 1]]⟩, ⟨[1, 1, 1, 0], [(3, 1)], [[0, 3]]⟩⟩] =
    [some ⟨none, [[([20, 30, 40], 1), ([20, 30], 2), ([10, 50], 2)]]⟩,
     some ⟨some false, [[([0, 2], 1), ([0, 1], 5)]]⟩,
     some ⟨some true, [[([0, 1, 3], 1), ([0, 1, 2], 2)]]⟩,
     some ⟨some true, [[([0, 1, 2], 2), ([0, 3], 1)]]⟩] := by decide +kernel

/-! ## all four flag pairs of `_match_sequences`, its error path, `sample(deg_seq=...)`,
`sample(dim_seq=...)`, raising calls inside sessions (`Model/C16Ext.lean`) -/

/-- `matchFull` (the run of `_match_sequences` with its exceptions kept) refines `matchSequences` on the three flag pairs
the latter models: it returns exactly when and what `matchSequences` returns, and it raises exactly when `matchSequences`
answers `none` - so every theorem about `matchSequences` / `sampleFromSeqs` is a theorem about the returning runs of
`matchFull`, and what a raising run leaves on the sampler is additional information. -/
theorem C16_match_full_refines (degSeq : List Nat) (dimSeq : List (Nat × Nat)) (fd fm : Bool) (picks : List (List Nat))
    (hp : (fd && !fm) = false) :
    (∀ st, matchFull degSeq dimSeq fd fm picks = .done st ↔ matchSequences degSeq dimSeq fd fm picks = some st) ∧
    ((∃ ok, matchFull degSeq dimSeq fd fm picks = .raised ok) ↔ matchSequences degSeq dimSeq fd fm picks = none) := by
  rw [← matchFull_toOption degSeq dimSeq fd fm picks hp]
  exact ⟨fun st => MRes.toOption_eq_some.symm, MRes.toOption_eq_none.symm⟩

/-- `force_dim_seq` (alone - `sample(dim_seq=m)`, the degree sequence `degSeq` is whatever the inner model drew - or together
with `force_deg_seq`, or neither flag): whenever `_match_sequences` returns, for every draw list, the hyperedges are sets
of `>= 2` nodes `< N` and the size sequence is matched EXACTLY - the list of sizes is the requested one in order, every
size `>= 2` has exactly its count - whether or not the sequences match. -/
theorem C16_force_dim (degSeq : List Nat) (dimSeq : List (Nat × Nat)) (fd fm : Bool) (picks : List (List Nat))
    (st : MState) (hp : (fd && !fm) = false) (h : matchFull degSeq dimSeq fd fm picks = .done st) :
    (∀ e ∈ st.cfg, e.Nodup ∧ 2 ≤ e.length ∧ ∀ x ∈ e, x < degSeq.length) ∧
    st.cfg.map List.length = sizesOfSeq dimSeq ∧
    (∀ s, 2 ≤ s → sizeCount s st.cfg = dimCount dimSeq s) := by
  have hm := ((C16_match_full_refines degSeq dimSeq fd fm picks hp).1 st).mp h
  obtain ⟨m1, m2, m3, _⟩ := C16_initial_matching degSeq dimSeq fd fm picks st hm
  exact ⟨m1, m2, m3⟩

/-- `force_deg_seq` alone (`sample(deg_seq=d)`, the size sequence is whatever the inner model drew): whenever
`_match_sequences` returns, for every draw list and WHATEVER the report says, the hyperedges are sets of `>= 2` nodes `< N`;
no node is used more often than its degree - hyperedges built plus residual degree never exceed `deg(n)`: the construction
shrinks hyperedges instead of adding nodes of degree 0 -; at most ONE node keeps residual degree (the exit condition of the
second phase; with two or more the code as it stands raises `AttributeError`, `phase2`); and a report `True` (sizes `>= 2`)
means every node is used exactly `deg(n)` times. -/
theorem C16_force_deg (degSeq : List Nat) (dimSeq : List (Nat × Nat)) (picks : List (List Nat)) (st : MState)
    (h : matchFull degSeq dimSeq true false picks = .done st) :
    (∀ e ∈ st.cfg, e.Nodup ∧ 2 ≤ e.length ∧ ∀ x ∈ e, x < degSeq.length) ∧
    (∀ n (hn : n < degSeq.length), degOf n st.cfg + rd st.resid n ≤ degSeq[n]) ∧
    (∀ a b, 0 < rd st.resid a → 0 < rd st.resid b → a = b) ∧
    (st.flag = true → (∀ p ∈ dimSeq, 2 ≤ p.1) → ∀ n (hn : n < degSeq.length), degOf n st.cfg = degSeq[n]) := by
  obtain ⟨st1, hl, h2⟩ := matchFull_forceDeg degSeq dimSeq picks st h
  obtain ⟨e1, e2, e3, e4, e5⟩ := phase2_done h2
  obtain ⟨b1, hcov, hu, hcap⟩ := matchLoop_init hl
  refine ⟨?_, ?_, ?_, ?_⟩
  · rw [e1]; exact b1.edges
  · intro n hn
    have := hcap rfl n
    rw [rd_eq_getElem hn] at this
    rw [e1, e2]; exact this
  · intro a b ha hb
    rw [e2] at ha hb
    rw [e2, e3] at e4
    exact available_le_one hcov e4 ha hb
  · intro hf hall n hn
    obtain ⟨f1, f2⟩ := e5 hf
    obtain ⟨u1, _⟩ := hu hall f1
    have hz : rd st1.resid n = 0 := by
      unfold rd
      cases hr : st1.resid[n]? with
      | none => rfl
      | some d => simpa using f2 d (hcov n d hr)
    have := u1 n
    rw [rd_eq_getElem hn, hz] at this
    rw [e1]; omega

/-- The dead second phase of `force_deg_seq` alone, for every input: when the size sequence is exhausted (the loops returned
`st1`) and two different nodes still have residual degree, `_match_sequences` - hence `sample(deg_seq=d)` - raises
(`self.model`: `AttributeError`) and leaves `matching_sequences = False`.  Together with `C16_force_deg` (a returning run
leaves at most one such node): the call returns only if at most one node keeps residual degree.  A defect of the unchanged
tree outside the property's quantifier (noted, modelled as the code stands). -/
theorem C16_force_deg_attribute_error (degSeq : List Nat) (dimSeq : List (Nat × Nat)) (picks : List (List Nat))
    (st1 : MState) (h : matchLoop true false dimSeq (matchInit degSeq picks) = some st1)
    (a b : Nat) (hne : a ≠ b) (ha : 0 < rd st1.resid a) (hb : 0 < rd st1.resid b) :
    matchFull degSeq dimSeq true false picks = .raised false ∧
    flagOfRes (matchFull degSeq dimSeq true false picks) = some false := by
  have hcov : MCover st1.keys st1.resid := (matchLoop_init h).2.1
  obtain ⟨g1, g2⟩ := available_ge_two hcov hne ha hb
  rw [matchFull_of_loop h]
  unfold phase2
  simp [g1, g2, flagOfRes]

/-- `sample(deg_seq=d)` (the size sequence `dimSeq` and all draws arbitrary): for **every** `k`, the `k`-th yielded hypergraph is
well-formed, its nodes are `< N`, its hyperedges have size `>= 2`, and NO NODE EXCEEDS ITS CONDITIONED DEGREE - whatever
`matching_sequences` reports, for every quantile list; when the report is `True` (sizes `>= 2`) and no two hyperedges of the
chain state coincide, every node has exactly its conditioned degree. -/
theorem C16_sample_degonly (degSeq : List Nat) (dimSeq : List (Nat × Nat)) (t : OwnTape) (flag : Bool)
    (outs : List (List (Hye × Nat))) (h : sampleFromDeg degSeq dimSeq t = some (flag, outs)) :
    outs.length = t.thins.length ∧ ∀ k (hk : k < outs.length),
      ValidOut outs[k] ∧
      (∀ p ∈ outs[k], (∀ x ∈ p.1, x < degSeq.length) ∧ 2 ≤ p.1.length) ∧
      (∀ n (hn : n < degSeq.length), degOf n (outs[k].map (·.1)) ≤ degSeq[n]) ∧
      ∃ y q, t.quantiles[k]? = some q ∧ outputStage y (truncWeights q) none = some outs[k] ∧
        ((y.map canon).Nodup → flag = true → (∀ q ∈ dimSeq, 2 ≤ q.1) →
          ∀ n (hn : n < degSeq.length), degOf n (outs[k].map (·.1)) = degSeq[n]) := by
  unfold sampleFromDeg at h
  cases hm : matchFull degSeq dimSeq true false t.picks with
  | raised ok => simp [hm] at h
  | done st =>
    simp only [hm] at h
    obtain ⟨os, hs, hh⟩ := Option.map_eq_some_iff.mp h
    obtain ⟨hflag, rfl⟩ := Prod.mk.inj hh
    obtain ⟨m1, m2, _, m4⟩ := C16_force_deg degSeq dimSeq t.picks st hm
    obtain ⟨hlen, hall⟩ := sampleFromConfig_respects (fun e he => (m1 e he).1) (fun e he => by cases he) hs
    refine ⟨hlen, fun k hk => ?_⟩
    obtain ⟨v, hmem, hdeg, _, y, q, hq, ho, hex⟩ := hall k hk
    simp only [List.append_nil] at hmem hdeg hex
    refine ⟨v, fun p hp => ⟨fun x hx => ?_, ?_⟩, fun n hn => ?_, y, q, hq, ho, fun hnd hf hall n hn => ?_⟩
    · obtain ⟨e0, he0, hx0⟩ := (hmem p hp).1 x hx
      exact (m1 e0 he0).2.2 x hx0
    · obtain ⟨e0, he0, hl0⟩ := (hmem p hp).2
      have := (m1 e0 he0).2.1
      omega
    · have := hdeg n
      have := m2 n hn
      omega
    · exact ((hex hnd).1 n).trans (m4 (hflag.trans hf) hall n hn)

/-- `sample(dim_seq=m)` (`force_dim_seq` alone; the degree sequence `degSeq` is whatever the inner model drew, all draws
arbitrary): for **every** `k`, the `k`-th yielded hypergraph is well-formed, its nodes are `< N`, its hyperedges have size
`>= 2`, no size `>= 2` exceeds its conditioned count - whatever `matching_sequences` reports - and whenever no two hyperedges
of the chain state coincide every size has EXACTLY its conditioned count. -/
theorem C16_sample_dimonly (degSeq : List Nat) (dimSeq : List (Nat × Nat)) (t : OwnTape) (flag : Bool)
    (outs : List (List (Hye × Nat))) (h : sampleFromSeqs degSeq dimSeq false true [] t = some (flag, outs)) :
    outs.length = t.thins.length ∧ ∀ k (hk : k < outs.length),
      ValidOut outs[k] ∧
      (∀ p ∈ outs[k], (∀ x ∈ p.1, x < degSeq.length) ∧ 2 ≤ p.1.length) ∧
      (∀ s, 2 ≤ s → sizeCount s (outs[k].map (·.1)) ≤ dimCount dimSeq s) ∧
      ∃ y q, t.quantiles[k]? = some q ∧ outputStage y (truncWeights q) none = some outs[k] ∧
        ((y.map canon).Nodup → ∀ s, 2 ≤ s → sizeCount s (outs[k].map (·.1)) = dimCount dimSeq s) := by
  obtain ⟨h1, h2⟩ := C16_sample_seqs degSeq dimSeq false true [] t flag outs (by simp) h
  refine ⟨h1, fun k hk => ?_⟩
  obtain ⟨a1, a2, a3⟩ := h2 k hk
  obtain ⟨b1, _, y, q, hq, ho, b3⟩ := a3 rfl
  exact ⟨a1, fun p hp => ⟨(a2 p hp).1, (a2 p hp).2.1⟩, b1, y, q, hq, ho, fun hnd => (b3 hnd).1⟩

/-- The error path of `_match_sequences` on the sampler object (the attribute is `None` at its
start, D48): a call that raises inside `_match_sequences` delivers nothing and leaves `matching_sequences = None` or `False` -
NEVER a stale `True`, for every flag pair and draw list; and `False` exactly when the run had left the sequences
(`ok = false`) before the exception. -/
theorem C16_raise_state (degSeq : List Nat) (dimSeq : List (Nat × Nat)) (fd fm : Bool) (fixed : Config) (t : OwnTape)
    (ok : Bool) (h : matchFull degSeq dimSeq fd fm t.picks = .raised ok) :
    (seqCallX degSeq dimSeq fd fm fixed t).2 = none ∧
    (seqCallX degSeq dimSeq fd fm fixed t).1.flag ≠ some true ∧
    ((seqCallX degSeq dimSeq fd fm fixed t).1.flag = some false ↔ ok = false) := by
  unfold seqCallX
  simp only [h, flagOfRes]
  cases ok <;> simp

/-- What a call of each of the FIVE kinds delivers on a used sampler in any state `s`: `sample(initial_hyg=...)`,
`sample(deg_seq, dim_seq)`, `sample()` as in `C16_call_result`; `sample(dim_seq=m)` is `sampleFromSeqs` with `force_dim_seq` alone on
the degree sequence the inner model drew (so `C16_sample_seqs` applies: size counts respected, exact without duplicates);
`sample(deg_seq=d)` is `sampleFromDeg` (`C16_sample_degonly`). -/
theorem C16_callX_result (s : Sampler) (c : CallX) :
    (callStepX s c).2 =
      match c.args with
      | .hyg labels edges => (sampleFromHyg labels edges c.own).map (fun o => ⟨none, o⟩)
      | .seqs d m => (sampleFromSeqs d m true true [] c.own).map (fun p => ⟨some p.1, p.2⟩)
      | .model =>
        (sampleFromSeqs c.inner.degSeq c.inner.dimSeq false false c.inner.dyads c.own).map (fun p => ⟨some p.1, p.2⟩)
      | .degOnly d => (sampleFromDeg d c.inner.dimSeq c.own).map (fun p => ⟨some p.1, p.2⟩)
      | .dimOnly m => (sampleFromSeqs c.inner.degSeq m false true [] c.own).map (fun p => ⟨some p.1, p.2⟩) := by
  unfold callStepX
  cases c.args with
  | hyg labels edges => rfl
  | seqs d m => exact seqCallX_snd rfl ..
  | model => exact seqCallX_snd rfl ..
  | dimOnly m => exact seqCallX_snd rfl ..
  | degOnly d =>
    simp only
    unfold seqCallX sampleFromDeg
    cases matchFull d c.inner.dimSeq true false c.own.picks with
    | raised ok => simp
    | done st => simp only [Option.map_map]; rfl

/-- Several calls of all five kinds on ONE sampler, RAISING CALLS INCLUDED (an exception inside `_match_sequences`, in the
chain, in the output stage): the `k`-th call delivers exactly what the same call delivers on a sampler that has just been
built; and the attribute after a call through `_sampling_from_sequences` is a function of that call alone (two samplers in
arbitrary states end in the same state), while `sample(initial_hyg=...)` leaves it alone - nothing leaks between calls.
(`cs` is the session of the first conjunct; `c` is any single call, not an element of `cs`.) -/
theorem C16_sessionX_local (s s' : Sampler) (cs : List CallX) (c : CallX) :
    (runSessionX s cs).map (·.1) = cs.map freshCallX ∧
    (callStepX s c).2 = (callStepX s' c).2 ∧
    ((∀ l e, c.args ≠ .hyg l e) → (callStepX s c).1 = (callStepX s' c).1) ∧
    (∀ l e, c.args = .hyg l e → (callStepX s c).1 = s) := by
  refine ⟨runSessionX_outs s cs, callStepX_snd_local s s' c, ?_, ?_⟩
  · intro hne
    unfold callStepX
    cases hc : c.args with
    | hyg l e => exact absurd hc (hne l e)
    | seqs d m => rfl
    | model => rfl
    | degOnly d => rfl
    | dimOnly m => rfl
  · intro l e hc
    unfold callStepX
    rw [hc]

/-- The five-kind session model extends the three-kind one (`callStep`): on `sample(initial_hyg)`,
`sample(deg_seq, dim_seq)`, `sample()` it delivers the same, and leaves the same attribute whenever the call returns
(`callStep` does not say what a raising call leaves). -/
theorem C16_callX_extends (s : Sampler) (c : Call) :
    (callStepX s c.toX).2 = (callStep true s c).2 ∧
    ((callStep true s c).2 ≠ none → (callStepX s c.toX).1 = (callStep true s c).1) := by
  unfold callStepX callStep Call.toX
  cases hc : c.args with
  | hyg l e => simp [CallArgs.toX]
  | seqs d m => simpa [CallArgs.toX] using seqCallX_eq_seqCall [] c.own s rfl
  | model => simpa [CallArgs.toX] using seqCallX_eq_seqCall c.inner.dyads c.own s rfl

-- force_deg_seq alone, degrees 2,1,1, two hyperedges of size 2 requested: both built, nobody above its degree,
-- nothing left; the report is False all the same (the stale keys 2 and 1 are "degrees != 0" for the second phase)
example : (match matchFull [2, 1, 1] [(2, 2)] true false [[0], [1], [], [0, 2]] with
    | .done st => some (st.cfg, st.flag, st.keys, st.resid) | .raised _ => none) =
    some ([[0, 1], [0, 2]], false, [2, 1, 0], [0, 0, 0]) := by decide +kernel
-- a hyperedge shrinks (size 3 requested, two nodes with degree left), one node keeps residual degree: returned
example : (match matchFull [3, 1, 0] [(2, 1), (3, 1)] true false [[0], [1], [], [0], []] with
    | .done st => some (st.cfg, st.flag, st.resid) | .raised _ => none) = some ([[0, 1]], false, [2, 0, 0]) := by decide +kernel
-- two nodes keep residual degree: the second phase enters its loop, `self.model` -> AttributeError, the attribute is False
example : (match matchFull [2, 2, 2] [(2, 1)] true false [[0, 1]] with
    | .done _ => none | .raised ok => some ok) = some false := by decide +kernel
-- the loops return with the nodes 1 and 2 holding residual degree
example : (matchLoop true false [(2, 1)] (matchInit [2, 2, 2] [[0, 1]])).map (fun st => st.resid) = some [1, 1, 2] := by decide +kernel
-- all degrees 0: `set.union()` of nothing (TypeError) after the report was set to False
example : (match matchFull [0, 0] [(2, 1)] true false [] with | .done _ => none | .raised ok => some ok) = some false := by decide +kernel
-- a size < 1 before anything ran out: ValueError, the attribute stays None; after an exhausted extraction: False
example : (match matchFull [1, 1] [(0, 1)] true true [] with | .done _ => none | .raised ok => some ok) = some true := by decide +kernel
example : (match matchFull [1, 0, 0] [(3, 1), (0, 1)] true true [[0], [1, 2]] with
    | .done _ => none | .raised ok => some ok) = some false := by decide +kernel
-- C16_force_dim with force_dim_seq alone: degrees 1,0,0 drawn by the inner model, one hyperedge of size 3 requested and built
example : (match matchFull [1, 0, 0] [(3, 1)] false true [[0], [1, 2]] with
    | .done st => some (st.cfg, st.flag) | .raised _ => none) = some ([[0, 1, 2]], false) := by decide +kernel
-- the inner model drew the degrees 1,0,0; sizes 3 and 2 requested, both delivered
example : sampleFromSeqs [1, 0, 0] [(3, 1), (2, 1)] false true [] ⟨[[0], [1, 2], [], [0, 1]], [], [[]], [[2, 2]]⟩ =
    some (false, [[([0, 1, 2], 2), ([0, 1], 2)]]) := by decide +kernel
example : sampleFromDeg [2, 1, 1] [(2, 2)] ⟨[[0], [1], [], [0, 2]], [], [[], [⟨0, 1, [2], true⟩]], [[3, 0], [1, 1]]⟩ =
    some (false, [[([0, 1], 3), ([0, 2], 1)], [([0, 2], 1), ([0, 1], 1)]]) := by decide +kernel
-- ONE sampler started with a stale report, six calls: a sequence call
-- that raises after leaving the sequences (attribute False), sample(deg_seq) that returns, a call that raises at once
-- (attribute None), sample(dim_seq), sample(deg_seq) that runs into `self.model` (attribute False), matching sequences (True)
example : runSessionX ⟨some true⟩
    [⟨.seqs [1, 0, 0] [(3, 1), (0, 1)], ⟨[[0], [1, 2]], [], [[]], [[1]]⟩, ⟨[], [], []⟩⟩,
     ⟨.degOnly [2, 1, 1], ⟨[[0], [1], [], [0, 2]], [], [[]], [[3, 0]]⟩, ⟨[], [(2, 2)], []⟩⟩,
     ⟨.seqs [1, 1] [(0, 1)], ⟨[], [], [[]], [[1]]⟩, ⟨[], [], []⟩⟩,
     ⟨.dimOnly [(3, 1), (2, 1)], ⟨[[0], [1, 2], [], [0, 1]], [], [[]], [[2, 2]]⟩, ⟨[1, 0, 0], [], []⟩⟩,
     ⟨.degOnly [2, 2, 2], ⟨[[0, 1]], [], [[]], [[1]]⟩, ⟨[], [(2, 1)], []⟩⟩,
     ⟨.seqs [2, 2, 1, 1] [(3, 2)], ⟨[[0, 1], [3], [], [2, 0, 1]], [], [[]], [[1, 2]]⟩, ⟨[], [], []⟩⟩] =
    [(none, some false),
     (some ⟨some false, [[([0, 1], 3), ([0, 2], 1)]]⟩, some false),
     (none, none),
     (some ⟨some false, [[([0, 1, 2], 2), ([0, 1], 2)]]⟩, some false),
     (none, some false),
     (some ⟨some true, [[([0, 1, 3], 1), ([0, 1, 2], 2)]]⟩, some true)] := by decide +kernel

/-! ## degenerate hyperedges (fewer than two nodes) in the chain state

`Model/C16Deg.lean`: a hyperedge with fewer than two nodes has a nan Poisson mean, hence a non-positive weight
(`degenWeights`), whatever the quantile tape holds.  No hypothesis on the sizes of the configuration below. -/

/-- the sample made from a chain state with degenerate hyperedges is the sample made from its hyperedges of
size >= 2 alone (every theorem about `outputStage` applies to the right-hand side) -/
theorem C16_degenerate_refines (cfg : Config) (ws : List Nat) (labels : Option (List Nat)) (h : ws.length = cfg.length) :
    outputStage cfg (degenWeights cfg ws) labels = outputStage (properCfg cfg ws) (properWs cfg ws) labels := by
  unfold outputStage
  rw [if_pos (degenWeights_length cfg ws h), if_pos (proper_lengths cfg ws), dropZeros_degen]

/-- "only hyperedges of size at least two" for EVERY configuration (initial hypergraphs / size sequences with one-node
or empty hyperedges included): every hyperedge of the yielded hypergraph has at least two nodes and is (the relabelled
canonical form of) a hyperedge of size >= 2 of the chain state; no repeated hyperedge, positive weights -/
theorem C16_degenerate_sizes (cfg : Config) (ws : List Nat) (labels : Option (List Nat)) (out : List (Hye × Nat))
    (hn : AllNodup cfg) (hl : ∀ ls, labels = some ls → ls.Pairwise (· < ·)) (hlen : ws.length = cfg.length)
    (h : outputStage cfg (degenWeights cfg ws) labels = some out) :
    (∀ p ∈ out, 2 ≤ p.1.length) ∧ (out.map (·.1)).Nodup ∧ (∀ p ∈ out, 0 < p.2) ∧
    (∀ p ∈ out, ∃ e ∈ cfg, 2 ≤ e.length ∧ p.1.length = e.length) := by
  rw [C16_degenerate_refines cfg ws labels hlen] at h
  have hn' : AllNodup (properCfg cfg ws) := fun e he => hn e (properCfg_mem he).1
  obtain ⟨v1, v2, _, v4, _⟩ := C16_output_valid _ _ labels out hn' hl h
  have key : ∀ p ∈ out, ∃ e ∈ cfg, 2 ≤ e.length ∧ p.1.length = e.length := by
    intro p hp
    obtain ⟨e, he, hpe⟩ := v4 p hp
    exact ⟨e, (properCfg_mem he).1, (properCfg_mem he).2, hpe⟩
  refine ⟨?_, v1, v2, key⟩
  intro p hp
  obtain ⟨e, _, h2, hpe⟩ := key p hp
  omega

/-- conditioning with degenerate hyperedges in the chain state (nodes are indices): no node / size of the yielded
hypergraph exceeds its count among the hyperedges of size >= 2 of the chain state, and whenever no two of THESE
coincide the yielded hypergraph has exactly their degrees and size counts - whatever quantiles scipy delivers -/
theorem C16_degenerate_exact (cfg : Config) (qs : List Nat) (out : List (Hye × Nat)) (hlen : qs.length = cfg.length)
    (h : outputStageD cfg qs none = some out) :
    (∀ n, degOf n (out.map (·.1)) ≤ degOf n (properCfg cfg (truncWeights qs))) ∧
    (∀ s, sizeCount s (out.map (·.1)) ≤ sizeCount s (properCfg cfg (truncWeights qs))) ∧
    (((properCfg cfg (truncWeights qs)).map canon).Nodup →
      (∀ n, degOf n (out.map (·.1)) = degOf n (properCfg cfg (truncWeights qs))) ∧
      (∀ s, sizeCount s (out.map (·.1)) = sizeCount s (properCfg cfg (truncWeights qs)))) := by
  have hl : (truncWeights qs).length = cfg.length := by simp [truncWeights, hlen]
  unfold outputStageD at h
  rw [C16_degenerate_refines cfg _ none hl] at h
  obtain ⟨b1, b2, b3⟩ := C16_output_bounds _ _ out h
  refine ⟨b1, b2, fun hnd => b3 ?_ hnd⟩
  exact properWs_pos (truncWeights_pos qs)

/-- on configurations whose hyperedges all have at least two nodes `outputStageD` is `outputStage` -/
theorem C16_degenerate_agrees (cfg : Config) (qs : List Nat) (labels : Option (List Nat)) (hlen : qs.length = cfg.length)
    (h2 : ∀ e ∈ cfg, 2 ≤ e.length) :
    outputStageD cfg qs labels = outputStage cfg (truncWeights qs) labels :=
  outputStageD_agrees cfg qs labels hlen h2

-- non-vacuity: a one-node hyperedge (quantile 5) and the empty hyperedge are dropped, a quantile 0 is clamped to 1
example : outputStageD [[0, 1], [2], [3, 1, 2], []] [3, 5, 0, 2] none = some [([0, 1], 3), ([1, 2, 3], 1)] := by decide +kernel
example : outputStageD [[0, 1], [1], [1, 0]] [3, 5, 2] (some [4, 9]) = some [([4, 9], 5)] := by decide +kernel
example : properCfg [[0, 1], [2], [3, 1, 2], []] (truncWeights [3, 5, 0, 2]) = [[0, 1], [3, 1, 2]] := by decide +kernel

/-! ## whole runs without the hypothesis "every hyperedge has at least two nodes"

`Model/C16Run.lean`: `sampleFromHygD` = transform, chain, and per yield the output stage with the nan mean of a degenerate
hyperedge (`outputStageD`; the quantile tape of a yield has one entry per hyperedge of the chain state).  A run from an
initial hypergraph with one-node / empty hyperedges is ONE model run; the theorems below have no hypothesis on sizes. -/

/-- on hypergraphs whose hyperedges are sets of at least two nodes `sampleFromHygD` is `sampleFromHyg` - for every tape, also where either refuses (a tape of the wrong length) -/
theorem C16_run_agrees (labels : List Nat) (edges : Config) (t : OwnTape) (he : AllNodup edges)
    (h2 : ∀ e ∈ edges, 2 ≤ e.length) : sampleFromHygD labels edges t = sampleFromHyg labels edges t := by
  unfold sampleFromHygD sampleFromHyg
  cases ht : edges.mapM (transform labels) with
  | none => rfl
  | some cfg =>
    simp only [Option.bind_some]
    obtain ⟨hn0, t1, _, _⟩ := transformAll_keeps he ht
    unfold sampleFromConfigD sampleFromConfig
    cases hm : mcmcRoutine cfg [] t.burn t.thins with
    | none => rfl
    | some ys =>
      simp only [Option.bind_some]
      apply outputsOfD_agrees
      intro y hy e hey
      obtain ⟨e0, he0, hl0⟩ := ((mcmcRoutine_spec hn0 hm).2 y hy).1.mem_size hey
      rw [List.append_nil] at he0
      have := h2 (e0.map (lab labels)) (by rw [t1]; exact List.mem_map_of_mem he0)
      rw [List.length_map] at this
      omega

/-- `sample(initial_hyg=h)` for EVERY hypergraph `h` of sets (one-node and empty hyperedges included), every `k`, every
step and quantile tape: the `k`-th yielded hypergraph is well-formed; every hyperedge has at least two nodes, nodes of
`h`, and the size of a hyperedge of size >= 2 of `h`; no node exceeds its degree in `h` and no size its count in `h`
(the degenerate hyperedges count in the conditioning); and whenever no two hyperedges of size >= 2 of the chain state
`y` coincide, every size >= 2 has exactly its count in `h`, no hyperedge of size < 2 is delivered, and the degree of every
node is its degree among the hyperedges of size >= 2 of `y` - where `y` has node by node the degrees of `h`
(the difference is the one-node hyperedges the node sits in at that moment). -/
theorem C16_sample_hyg_all_sizes (labels : List Nat) (edges : Config) (t : OwnTape)
    (outs : List (List (Hye × Nat))) (hl : labels.Pairwise (· < ·)) (he : AllNodup edges)
    (h : sampleFromHygD labels edges t = some outs) :
    outs.length = t.thins.length ∧ ∀ k (hk : k < outs.length),
      ValidOut outs[k] ∧
      (∀ p ∈ outs[k], 2 ≤ p.1.length ∧ (∀ x ∈ p.1, x ∈ labels) ∧
        ∃ e ∈ edges, 2 ≤ e.length ∧ p.1.length = e.length) ∧
      (∀ x ∈ labels, degOf x (outs[k].map (·.1)) ≤ degOf x edges) ∧
      (∀ s, sizeCount s (outs[k].map (·.1)) ≤ sizeCount s edges) ∧
      ∃ y q, t.quantiles[k]? = some q ∧ outputStageD y q (some labels) = some outs[k] ∧
        (∀ i (hi : i < labels.length), degOf i y = degOf labels[i] edges) ∧
        (((properCfg y (truncWeights q)).map canon).Nodup →
          (∀ s, sizeCount s (outs[k].map (·.1)) = if 2 ≤ s then sizeCount s edges else 0) ∧
          (∀ i (hi : i < labels.length),
            degOf labels[i] (outs[k].map (·.1)) = degOf i (properCfg y (truncWeights q)))) := by
  obtain ⟨cfg, ht, h'⟩ := Option.bind_eq_some_iff.mp h
  have hnd : labels.Nodup := hl.imp (fun hab => Nat.ne_of_lt hab)
  obtain ⟨hn0, t1, hsz, hdeg'⟩ := transformAll_keeps he ht
  have hdeg := hdeg' hnd
  obtain ⟨hlen, hall⟩ := sampleFromConfigD_yields hn0 (fun e he => by cases he) h'
  refine ⟨hlen, fun k hk => ?_⟩
  obtain ⟨y, q, hq, hql, ho, hkeep, hny⟩ := hall k hk
  rw [List.append_nil] at hkeep
  have hwl : (truncWeights q).length = y.length := by simp [truncWeights, hql]
  -- the sample is the output stage on the hyperedges of size >= 2 of `y`
  have ho' := ho
  unfold outputStageD at ho'
  rw [C16_degenerate_refines _ _ _ hwl] at ho'
  have hnp : AllNodup (properCfg y (truncWeights q)) := fun e he => hny e (properCfg_mem he).1
  obtain ⟨v1, v2, v3, v4, v5⟩ :=
    C16_output_valid _ _ (some labels) outs[k] hnp (by intro ls hls; cases hls; exact hl) ho'
  obtain ⟨b1, b2, b3⟩ := C16_output_bounds_labels _ _ labels outs[k] hnd ho'
  refine ⟨⟨v1, fun p hp => ⟨v2 p hp, v3 p hp⟩⟩, ?_, ?_, ?_, y, q, hq, ho, ?_, ?_⟩
  · intro p hp
    obtain ⟨e, hey, hpe⟩ := v4 p hp
    obtain ⟨hey', he2⟩ := properCfg_mem hey
    obtain ⟨e0, he0, hl0⟩ := hkeep.mem_size hey'
    exact ⟨by omega, fun x hx => v5 p hp x hx, e0.map (lab labels), t1 ▸ List.mem_map_of_mem he0,
      by rw [List.length_map]; omega, by rw [List.length_map]; omega⟩
  · intro x hx
    obtain ⟨i, hi, rfl⟩ := List.getElem_of_mem hx
    rw [hdeg i hi, ← hkeep.degs i]
    exact Nat.le_trans (b1 i hi) (degOf_proper_le i hwl)
  · intro s
    rw [hsz s, ← hkeep.sizeCount s]
    have := b2 s
    rw [sizeCount_proper s hwl] at this
    split at this <;> omega
  · intro i hi
    rw [hdeg i hi, hkeep.degs i]
  · intro hndy
    obtain ⟨e1, e2⟩ := b3 (properWs_pos (truncWeights_pos q)) hndy
    refine ⟨fun s => ?_, e1⟩
    rw [e2 s, sizeCount_proper s hwl, hsz s, hkeep.sizeCount s]

-- non-vacuity: a one-node hyperedge and the empty hyperedge in the initial hypergraph (no chain step); the degenerate hyperedges are dropped whatever their quantiles, a quantile 0 is clamped to 1
example : sampleFromHygD [4, 9, 11] [[4, 9], [9], [11, 4], []] ⟨[], [], [[]], [[3, 5, 0, 2]]⟩ =
    some [[([4, 9], 3), ([4, 11], 1)]] := by decide +kernel
example : sampleFromHygD [4, 9, 11] [[4, 9], [9], [11, 4]] ⟨[], [], [[]], [[3, 5]]⟩ = none := by decide +kernel
example : sampleFromHygD [10, 20, 30, 40, 50] [[10, 20, 30], [30, 40], [20, 50]]
    ⟨[], [⟨0, 1, [1, 3], true⟩], [[⟨2, 1, [0, 4], true⟩], []], [[1, 2, 2], [1, 0, 3]]⟩ =
    sampleFromHyg [10, 20, 30, 40, 50] [[10, 20, 30], [30, 40], [20, 50]]
    ⟨[], [⟨0, 1, [1, 3], true⟩], [[⟨2, 1, [0, 4], true⟩], []], [[1, 2, 2], [1, 0, 3]]⟩ := by decide +kernel

/-! ## the argument checks before `_match_sequences` (`Model/C16Guard.lean`) -/

/-- characterisation of the error path: a call through `_sampling_from_sequences` gets past the two `assert`s iff the
degree sequence has one entry per node of the model and no size of the size sequence exceeds the number of nodes;
otherwise the FIRST failing check in the order of the code is the one that raises -/
theorem C16_guard_accepts_iff (N : Nat) (degSeq : List Nat) (dimSeq : List (Nat × Nat)) :
    (argGuard N degSeq dimSeq = .ok ↔ degSeq.length = N ∧ ∀ p ∈ dimSeq, p.1 ≤ N) ∧
    (argGuard N degSeq dimSeq = .badShape ↔ degSeq.length ≠ N) ∧
    (argGuard N degSeq dimSeq = .badDim ↔ degSeq.length = N ∧ ∃ p ∈ dimSeq, N < p.1) := by
  unfold argGuard
  by_cases hl : degSeq.length = N
  · by_cases hd : dimSeq.all (fun p => decide (p.1 ≤ N)) = true
    · rw [if_pos hl, if_pos hd]
      have hall : ∀ p ∈ dimSeq, p.1 ≤ N := by
        intro p hp
        have := List.all_eq_true.mp hd p hp
        simpa using this
      refine ⟨⟨fun _ => ⟨hl, hall⟩, fun _ => rfl⟩, ⟨(fun h => by cases h), fun h => absurd hl h⟩, ?_⟩
      constructor
      · intro h; cases h
      · rintro ⟨_, p, hp, hlt⟩
        have := hall p hp
        omega
    · rw [if_pos hl, if_neg hd]
      have hex : ∃ p ∈ dimSeq, N < p.1 := by
        apply Decidable.byContradiction
        intro hne
        apply hd
        apply List.all_eq_true.mpr
        intro p hp
        apply decide_eq_true
        apply Decidable.byContradiction
        intro hn
        exact hne ⟨p, hp, by omega⟩
      refine ⟨⟨(fun h => by cases h), ?_⟩, ⟨(fun h => by cases h), fun h => absurd hl h⟩, ⟨fun _ => ⟨hl, hex⟩, fun _ => rfl⟩⟩
      rintro ⟨_, hall⟩
      obtain ⟨p, hp, hlt⟩ := hex
      have := hall p hp
      omega
  · rw [if_neg hl]
    refine ⟨⟨(fun h => by cases h), fun h => absurd h.1 hl⟩, ⟨fun _ => hl, fun _ => rfl⟩, ⟨(fun h => by cases h), fun h => absurd h.1 hl⟩⟩

/-- a call refused by the argument checks delivers nothing and leaves `matching_sequences` exactly as it was - a stale
`True` of an earlier call included (contrast `C16_raise_state`: an exception INSIDE `_match_sequences` never leaves
`True`); a call that passes them is the call of `callStepX`, to which the theorems above apply; and
`sample(initial_hyg=...)` is never refused here -/
theorem C16_guard_call (N : Nat) (s : Sampler) (c : CallX) :
    (accepted N c = false → callStepG N s c = (s, none)) ∧
    (accepted N c = true → callStepG N s c = callStepX s c) ∧
    (∀ l e, c.args = .hyg l e → accepted N c = true) ∧
    (∀ d m, c.args = .seqs d m → (accepted N c = true ↔ d.length = N ∧ ∀ p ∈ m, p.1 ≤ N)) := by
  refine ⟨?_, ?_, ?_, ?_⟩
  · intro h; unfold callStepG; rw [h]; rfl
  · intro h; unfold callStepG; rw [h]; rfl
  · intro l e h; unfold accepted seqsOf; rw [h]
  · intro d m h
    unfold accepted seqsOf
    rw [h]
    simp only [decide_eq_true_eq]
    exact (C16_guard_accepts_iff N d m).1

/-- sessions with refused calls anywhere: a refused call is invisible to the rest of the session (the session continues
as if the call had not been made), an accepted call acts as in the session model without the checks -/
theorem C16_guard_session (N : Nat) (s : Sampler) (c : CallX) (cs : List CallX) :
    (accepted N c = false → runSessionG N s (c :: cs) = (none, s.flag) :: runSessionG N s cs) ∧
    (accepted N c = true →
      runSessionG N s (c :: cs) = ((callStepX s c).2, (callStepX s c).1.flag) :: runSessionG N (callStepX s c).1 cs) ∧
    ((∀ c' ∈ c :: cs, accepted N c' = true) → runSessionG N s (c :: cs) = runSessionX s (c :: cs)) := by
  refine ⟨?_, ?_, ?_⟩
  · intro h
    have := (C16_guard_call N s c).1 h
    simp only [runSessionG, this]
  · intro h
    have := (C16_guard_call N s c).2.1 h
    simp only [runSessionG, this]
  · intro hall
    generalize c :: cs = l at hall
    induction l generalizing s with
    | nil => rfl
    | cons a l ih =>
      have ha := (C16_guard_call N s a).2.1 (hall a List.mem_cons_self)
      simp only [runSessionG, runSessionX, ha]
      rw [ih _ (fun c' hc' => hall c' (List.mem_cons_of_mem _ hc'))]

/-- accepted `sample(deg_seq=d, dim_seq=m)` on a model with `N >= 2` nodes: every node of every delivered hyperedge is a
node of the model and no hyperedge has more than `N` nodes (the accepted size sequence has no larger size) -/
theorem C16_guard_accepted_sizes (N : Nat) (hN : 2 ≤ N) (s : Sampler) (c : CallX) (d : List Nat) (m : List (Nat × Nat))
    (hc : c.args = .seqs d m) (ha : accepted N c = true) (r : CallOut) (hr : (callStepG N s c).2 = some r) :
    ∀ k (hk : k < r.outs.length), ∀ p ∈ r.outs[k], (∀ x ∈ p.1, x < N) ∧ 2 ≤ p.1.length ∧ p.1.length ≤ N := by
  obtain ⟨hlen, hdim⟩ := ((C16_guard_call N s c).2.2.2 d m hc).mp ha
  rw [(C16_guard_call N s c).2.1 ha, C16_callX_result, hc] at hr
  simp only at hr
  cases hs : sampleFromSeqs d m true true [] c.own with
  | none => simp [hs] at hr
  | some fo =>
    obtain ⟨flag, outs⟩ := fo
    simp only [hs, Option.map_some, Option.some.injEq] at hr
    subst hr
    obtain ⟨_, hall⟩ := C16_sample_seqs d m true true [] c.own flag outs (by intro e he; simp at he) hs
    intro k hk p hp
    obtain ⟨_, h2, _⟩ := hall k hk
    obtain ⟨a1, a2, a3⟩ := h2 p hp
    refine ⟨fun x hx => by have := a1 x hx; omega, a2, a3 N hN hdim⟩

-- non-vacuity: the three verdicts; a session of two refused calls started with a stale `True`, which stays
example : argGuard 3 [1, 1, 2] [(2, 2), (3, 0)] = .ok ∧ argGuard 3 [1, 1] [(2, 1)] = .badShape ∧
    argGuard 3 [1, 1, 2] [(2, 1), (4, 1)] = .badDim ∧ argGuard 3 [1, 1, 2, 0] [(4, 1)] = .badShape := by decide +kernel
example : (runSessionG 3 ⟨some true⟩ [⟨.seqs [1, 1, 2] [(4, 1)], ⟨[], [], [], []⟩, ⟨[], [], []⟩⟩,
    ⟨.seqs [1, 1] [(2, 1)], ⟨[], [], [], []⟩, ⟨[], [], []⟩⟩]).map (·.2) = [some true, some true] := by decide +kernel

/-! ## the contract of `sample_truncated_poisson` at model level (`Model/C16Trunc.lean`)

`Y = X | X > 0` by the inverse-cdf scheme `p = u + (1 - u) exp(-lambd)`, `max(ppf(p), 1)`, over every linearly ordered field;
`e` = `exp(-lambd)` (any number in `(0, 1)` for a positive rate), `cdf` = the Poisson cdf as a parameter. -/

/-- the contract: every delivered draw is at least 1 - for EVERY uniform, every `e`, every cdf table, clipped or not -/
theorem C16_trunc_contract {α : Type} [Field α] [LinearOrder α] [IsStrictOrderedRing α]
    (cdf : Nat → α) (u e pmax : α) (fuel k : Nat) (h : truncDraw cdf u e pmax fuel = some k) : 1 ≤ k := by
  unfold truncDraw at h
  cases hq : ppfFrom cdf (truncP u e pmax) fuel 0 with
  | none => simp [hq] at h
  | some q =>
    simp only [hq, Option.map_some, Option.some.injEq] at h
    omega

/-- where the clamp `np.maximum(., 1)` is needed in exact arithmetic: for a positive rate (`e < 1`) and a uniform in
`[0, 1)` the quantile of `p = u + (1 - u) e` is 0 exactly when `u = 0` (then `p = P(X = 0)`: without the clamp the
draw would be 0 - defect D44 of the unclamped code); for every `u > 0` the quantile itself is already >= 1;
and `p < 1` always (the quantile is finite) -/
theorem C16_trunc_clamp_only_at_zero {α : Type} [Field α] [LinearOrder α] [IsStrictOrderedRing α]
    (cdf : Nat → α) (u e : α) (fuel q : Nat) (hu0 : 0 ≤ u) (hu1 : u < 1) (he1 : e < 1) (h0 : cdf 0 = e)
    (h : ppfFrom cdf (u + (1 - u) * e) fuel 0 = some q) :
    (q = 0 ↔ u = 0) ∧ u + (1 - u) * e < 1 := by
  obtain ⟨_, _, hle, hleast⟩ := ppfFrom_spec cdf _ fuel 0 q h
  have hz : u + (1 - u) * e ≤ cdf 0 ↔ u ≤ 0 := by rw [h0, unclipped_le_iff u e e he1, sub_self, zero_div]
  refine ⟨⟨fun hq => le_antisymm (hz.mp (hq ▸ hle)) hu0, fun hu => ?_⟩, unclipped_lt_one hu1 he1⟩
  apply Decidable.byContradiction
  intro hq
  exact hleast 0 (Nat.le_refl 0) (by omega) (hz.mpr (le_of_eq hu))

/-- the law of the draw (when the clip `np.minimum(p, nextafter(1, 0))` is not active): for a monotone cdf with
`cdf 0 = e < 1`, the draw is `k >= 1` exactly for the uniforms in
`((cdf (k-1) - e) / (1 - e), (cdf k - e) / (1 - e)]` (from 0 for `k = 1`) - an interval of length
`(cdf k - cdf (k-1)) / (1 - cdf 0) = P(X = k | X > 0)`: the truncated Poisson law, nothing else -/
theorem C16_trunc_law {α : Type} [Field α] [LinearOrder α] [IsStrictOrderedRing α]
    (cdf : Nat → α) (hmono : ∀ i j, i ≤ j → cdf i ≤ cdf j) (u e pmax : α) (fuel k : Nat)
    (he1 : e < 1) (hp : u + (1 - u) * e ≤ pmax) (hk : 1 ≤ k) (hf : k < fuel) :
    truncDraw cdf u e pmax fuel = some k ↔
      (u ≤ (cdf k - e) / (1 - e) ∧ (2 ≤ k → (cdf (k - 1) - e) / (1 - e) < u)) := by
  have hP : truncP u e pmax = u + (1 - u) * e := if_pos hp
  have hG : ∀ j, j < fuel → ((∃ q, ppfFrom cdf (u + (1 - u) * e) fuel 0 = some q ∧ q ≤ j) ↔ u ≤ (cdf j - e) / (1 - e)) :=
    fun j hj => (ppfFrom_le_iff hmono _ hj).trans (unclipped_le_iff u e _ he1)
  -- for `k >= 1` the clamped quantile is `k` iff the quantile is `<= k` and not `<= k - 1`
  unfold truncDraw
  rw [hP, ← hG k hf, Option.map_eq_some_iff]
  constructor
  · rintro ⟨q, hq, hqk⟩
    refine ⟨⟨q, hq, by omega⟩, fun h2 => lt_of_not_ge fun hle => ?_⟩
    obtain ⟨q', hq', hle'⟩ := (hG (k - 1) (by omega)).mpr hle
    rw [hq] at hq'
    cases hq'
    omega
  · rintro ⟨⟨q, hq, hqk⟩, hgt⟩
    refine ⟨q, hq, ?_⟩
    by_cases h2 : 2 ≤ k
    · have : ¬ q ≤ k - 1 := fun hle => not_le_of_gt (hgt h2) ((hG (k - 1) (by omega)).mp ⟨q, hq, hle⟩)
      omega
    · omega

-- non-vacuity (a table with cdf 0 = e = 1/4): u = 1/2 gives p = 5/8, quantile 2; u = 0 gives quantile 0, draw 1;
-- the quantile 0 itself; a quantile beyond the table
example : truncDrawTab [1/4, 1/2, 3/4, 1] (1/2) (1/4) (99/100) = some 2 := by decide +kernel
example : truncDrawTab [1/4, 1/2, 3/4, 1] 0 (1/4) (99/100) = some 1 := by decide +kernel
example : ppfFrom (fun k => [(1/4 : Rat), 1/2, 3/4, 1].getD k 0) (1/4) 4 0 = some 0 := by decide +kernel
example : truncDrawTab [1/4, 1/2, 3/4] (9/10) (1/4) (99/100) = none := by decide +kernel
