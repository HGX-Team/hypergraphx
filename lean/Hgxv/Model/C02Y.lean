import Hgxv.Model.C02X
/-! # C02 - the constructor as public calls, the raw setters, `populate_from_dict`, `get_mapping`

Core Lean only (compiled into `driver_c02`).  This file sits on top of `Model/C02.lean` and `Model/C02X.lean`.

* `ctorInit / ctorCalls / ctorOwnRej`: `DirectedHypergraph(edge_list, weighted, weights, hypergraph_metadata, node_metadata,
  edge_metadata)` (`ctor` of `Model/C02.lean`) read as the PUBLIC calls it makes on the empty object whose hypergraph
  metadata was written by the first two statements: `add_node(n, metadata=md)` per entry of `node_metadata`, then ONE
  `add_edges(edge_list, weights, edge_metadata)` when `edge_list is not None`; `ctorOwnRej` is the constructor's own
  `ValueError` (weighted, weights given, different lengths).  `ctorRejArgs`: the rejection read off the arguments alone.
* raw setters `set_edge_list`, `set_adj_dict(.., 'source'|'target')` (plain attribute assignment; any other second argument
  raises `ValueError`), `populate_from_dict(data)` (`data.get(name, default)` per table, incl. `incidences_metadata`,
  which `expose_data_structures()` does NOT hand out - so a populate of an expose result EMPTIES the incidence table).
* `RawOp` = public call (`FOp`) | the raw calls; `rawStep / rawRun`; `RawOp.echo`: the raw call hands back what the
  matching getter returns at that moment; `pubOps`: the public calls of a mixed history (a `populate` of an expose result
  stands for "forget the incidence table": `RawOp.pop`).
* `mapping / indexOf?`: `get_mapping()` = `LabelEncoder().fit(self.get_nodes())`: `classes_` = the sorted distinct
  nodes, `transform([n])` = position in `classes_` (unseen label: `ValueError`). -/
namespace C02
open AL

/-! ### constructor as public calls -/

/-- the object after the first statements of `__init__` (before any `add_node` / `add_edges`) -/
def ctorInit (w : Bool) (hm : Option Meta) : Store := { weighted := w, hmeta := ctorHMeta hm w }

/-- the `add_node` calls of the `node_metadata` loop -/
def ctorNodeCalls (nm : Option (List (Node × Meta))) : List Op :=
  (nm.getD []).map (fun p => Op.addNode p.1 (some p.2))

/-- every public call the constructor makes, in order -/
def ctorCalls (nm : Option (List (Node × Meta))) (es : Option (List RawEdge)) (ws : Option (List Int))
    (mds : Option (List Meta)) : List Op :=
  ctorNodeCalls nm ++ (match es with
    | none => []
    | some el => [Op.addEdges el ws mds])

/-- the constructor's own `ValueError` -/
def ctorOwnRej (w : Bool) (es : Option (List RawEdge)) (ws : Option (List Int)) : Bool :=
  match es with
  | none => false
  | some el => w && ws.isSome && decide (el.length ≠ (ws.getD []).length)

/-- rejection decided by the arguments alone: an `edge_list` is given and either the number of weights differs from the
    number of hyperedges or a non-empty `edge_metadata` list is shorter than `edge_list` -/
def ctorRejArgs (es : Option (List RawEdge)) (ws : Option (List Int)) (mds : Option (List Meta)) : Bool :=
  match es with
  | none => false
  | some el =>
    (match ws with
     | some l => decide (el.length ≠ l.length)
     | none => false) ||
    (match mds with
     | some m => !m.isEmpty && decide (m.length < el.length)
     | none => false)

/-- the constructor's abstract twin as public calls -/
def Spec.ctorInit (w : Bool) (hm : Option Meta) : Spec := { weighted := w, hmeta := ctorHMeta hm w }

/-! ### raw setters, `populate_from_dict` -/

/-- `set_edge_list(edge_list)` -/
def setEdgeList (s : Store) (el : List (Key × Nat)) : Store := { s with edgeList := el }
/-- `set_adj_dict(adj, 'source')` (`true`) / `set_adj_dict(adj, 'target')` (`false`) -/
def setAdjDict (s : Store) (source : Bool) (adj : Adj) : Store :=
  if source then { s with adjS := adj } else { s with adjT := adj }

/-- `populate_from_dict(data)` for a dictionary holding the ten tables -/
def populate (t : Tables) : Store :=
  { weighted := t.weighted, edgeList := t.edgeList, rev := t.reverse, weights := t.weights, emeta := t.edgeMeta,
    adjS := t.adjSource, adjT := t.adjTarget, nmeta := t.nodeMeta, nextId := t.nextId, hmeta := t.hmeta }

/-- `populate_from_dict` on the whole object: `incidences_metadata` is read with default `{}`; `inc = none`: key absent
    (as in every `expose_data_structures()` result) -/
def Full.populate (t : Tables) (inc : Option IncTable) : Full := { base := C02.populate t, inc := inc.getD [] }

/-- `populate_from_dict({})`: every default -/
def populateEmpty : Store := {}

inductive RawOp
  | pub (o : FOp)
  | setEL (el : List (Key × Nat))
  | setAdj (source : Bool) (adj : Adj)
  | pop (t : Tables)                     -- `populate_from_dict(d)`, `d` without `incidences_metadata`
  deriving Repr

def rawStep (x : Full) : RawOp → Full
  | .pub o => (Full.apply x o).1
  | .setEL el => { x with base := setEdgeList x.base el }
  | .setAdj b adj => { x with base := setAdjDict x.base b adj }
  | .pop t => Full.populate t none

def rawRun (x : Full) : List RawOp → Full
  | [] => x
  | o :: os => rawRun (rawStep x o) os

/-- the raw call hands back what the matching getter returns at that moment -/
def RawOp.echo (x : Full) : RawOp → Bool
  | .pub _ => true
  | .setEL el => el == getEdgeList x.base
  | .setAdj b adj => adj == getAdjDict x.base b
  | .pop t => t == expose x.base

/-- all raw calls of the history are echoes, each judged at its own moment -/
def echoes (x : Full) : List RawOp → Bool
  | [] => true
  | o :: os => o.echo x && echoes (rawStep x o) os

/-- what a mixed history does when its raw calls are echoes: the public calls; `populate(expose())` forgets the
    incidence table (`forget`) -/
inductive PubStep
  | call (o : FOp)
  | forget
  deriving Repr

def pubStep (x : Full) : PubStep → Full
  | .call o => (Full.apply x o).1
  | .forget => { x with inc := [] }

def pubRun (x : Full) : List PubStep → Full
  | [] => x
  | o :: os => pubRun (pubStep x o) os

def pubOps : List RawOp → List PubStep
  | [] => []
  | .pub o :: os => .call o :: pubOps os
  | .pop _ :: os => .forget :: pubOps os
  | _ :: os => pubOps os

/-- the base calls of a mixed history -/
def baseOps : List RawOp → List Op
  | [] => []
  | .pub (.base o) :: os => o :: baseOps os
  | _ :: os => baseOps os

/-! ### `get_mapping` -/

/-- `get_mapping().classes_` -/
def mapping (s : Store) : List Node := sortNodes (nodes s)

def indexFrom (n : Node) : List Node → Nat → Option Nat
  | [], _ => none
  | a :: l, i => if a = n then some i else indexFrom n l (i + 1)

/-- `get_mapping().transform([n])[0]`; `none`: `ValueError` (unseen label) -/
def indexOf? (s : Store) (n : Node) : Option Nat := indexFrom n (mapping s) 0

/-- `get_mapping().inverse_transform([i])[0]`; `none`: out of range -/
def labelOf? (s : Store) (i : Nat) : Option Node := (mapping s)[i]?

def Spec.mapping (s : Spec) : List Node := sortNodes s.nodeList

end C02
