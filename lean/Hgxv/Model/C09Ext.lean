import Hgxv.Model.C09
/-! Model of the remaining routines of `hypergraphx/linalg/linalg.py` - core Lean only:
`annealed_adjacency_matrices_all_orders` (average of the per-time matrices of one order), `adjacency_factor`
(for a `Hypergraph`), and the incidence matrix of the dual hypergraph (`dualHyes`, `dualInc`). -/
namespace C09

/-- `{d : Option M}` -> `{d : M}`, `none` as soon as one value is `none` (the Python loop raises at that order) -/
def allSome {β : Type} : List (Nat × Option β) → Option (List (Nat × β))
  | [] => some []
  | (_, none) :: _ => none
  | (d, some M) :: rest => (allSome rest).map ((d, M) :: ·)

section
variable {α : Type} [Add α] [Mul α] [Sub α] [Zero α] [NatCast α] [DecidableEq α] [Div α]

/-- all matrices have as many rows as the first one (the per-time adjacency matrices are square: equal shapes;
scipy's `+` raises `ValueError: inconsistent shapes` otherwise) -/
def sameLen : List (List (List α)) → Bool
  | [] => true
  | M :: rest => rest.all fun M' => M'.length == M.length

/-- `M / T` for a scalar -/
def divScalar (M : List (List α)) (c : α) : List (List α) := M.map fun r => r.map fun x => x / c

/-- one iteration of the loop of `annealed_adjacency_matrices_all_orders`: `sum(A_d(t) for t) / T`, `T` the number of
times; `none` = raises (snapshots with different numbers of nodes: inconsistent shapes; no time at all: `0 / 0`). -/
def annealedOne (d : Nat) (recs : List (Rec α)) : Option (List (List α)) :=
  let Ms := (times recs).map (temporalAdjByOrder d recs)
  if sameLen Ms then (matSum Ms).map fun S => divScalar S ((Ms.length : Nat) : α) else none

/-- `annealed_adjacency_matrices_all_orders(th)` : `{d : average over the times of A_d(t)}` for `d = 1..max_order`;
`none` = raises (no record: `max_order()`; or inconsistent shapes at the first order). -/
def annealedAllOrders (recs : List (Rec α)) : Option (List (Nat × List (List α))) :=
  (temporalMaxOrder recs).bind fun m =>
    allSome (((List.range m).map (· + 1)).map fun d => (d, annealedOne d recs))

/-- `val ** t` for a natural exponent -/
def powN (x : α) : Nat → α
  | 0 => ((1 : Nat) : α)
  | n + 1 => powN x n * x

/-- entry with the defaults of a dense matrix -/
def entryD (M : List (List α)) (i j : Nat) : α := (M.getD i []).getD j 0

/-- `adjacency_factor(hypergraph, t)` for a `Hypergraph`: for every node `a` (in `get_nodes()` order) the sum over the
other nodes `b` with `A[a, b] != 0` of `A[a, b] ** t`, `A` the (unweighted) adjacency matrix read through the node mapping. -/
def adjFactor (t : Nat) (nodes : List Nat) (edges : List Edge) : List (Nat × α) :=
  let A : List (List α) := adj nodes edges
  let cls := classes nodes
  nodes.map fun a => (a, ((nodes.filter fun b => b != a).map fun b =>
    let v := entryD A (encode cls a) (encode cls b)
    if v = 0 then 0 else powN v t).sum)

/-- hyperedge list of the DUAL hypergraph in index form: one hyperedge per node (row `i` of the incidence matrix, i.e. the
`i`-th label of the encoder) holding the indices of the hyperedges that contain it -/
def dualHyes (nodes : List Nat) (edges : List Edge) : List (List Nat) :=
  (classes nodes).map fun a => (List.range edges.length).filter fun j => (edges.getD j []).contains a

/-- `hye_list_to_binary_incidence(dual hyperedges, shape=(E, N))` : the incidence matrix of the dual hypergraph -/
def dualInc (nodes : List Nat) (edges : List Edge) : Option (List (List α)) :=
  hyeBinInc (dualHyes nodes edges) (some (edges.length, nodes.length))

end
end C09
