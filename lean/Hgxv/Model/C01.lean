import Hgxv.Model.AList
/-!
# C01 - executable model of `hypergraphx.Hypergraph` (hypergraphx/core/hypergraph.py) and its abstract spec

Core Lean only (compiled into `driver_c01`).  Everything lives in `namespace C01`.

## API (what the properties C03, C04, C05, C06, C07, C08, C10, C19 build on)

* Types: `Node := Nat` (rank of the label), `Edge := List Nat` (canonical = sorted, see `canon`),
  `Meta := List (Nat × Nat)` (attribute token ↦ value token, an `AL` association list),
  weights are `Int` quanta of 1/4 (`one = 4`), `Filter` = the `order/size/up_to` arguments.
* **Concrete level** `Store`: the tables of the Python object (insertion-ordered association lists)
  `edgeList : key ↦ id`, `rev : id ↦ key`, `weights : id ↦ w`, `emeta : id ↦ Meta`,
  `adj : node ↦ [id]`, `nmeta : node ↦ Meta`, `nextId`, `weighted`, `hmeta`.
  One function per Python method (helpers per branch: `touchNode fillNodeMeta linkNodes addEdgeNew addEdgeOld
  addEdgesValid zipArgs addEdgesLoop unlinkNodes removeEdgeId incidentKeys shrinkInto dropNode`):
  `addNode addNodes addEdge addEdges removeEdge removeEdges removeNode
  removeNodes setWeight setNodeMeta setEdgeMeta setHMeta setAttrH setAttrNode setAttrEdge delAttrNode
  delAttrEdge clear`, all `Store → … → Store × Out` (`Out = ok | rej`; `rej` = the method raised).
  `apply : Store → Op → Store × Out` dispatches; `answer : Store → Query → Ans` are the read-only methods.
* **Abstract level** `Spec`: `nodes : List (Node × Meta)` and `edges : List (Edge × (Int × Meta))`
  (both association lists with distinct keys), `weighted`, `hmeta`.  `Spec.apply`, `Spec.answer` are the
  plain map updates / filters the property speaks of.  `abs : Store → Spec` is the abstraction.
* **Histories**: `State = List Store` (slots, for `copy`), `Cmd = new i w hm | copy i j | on i op`,
  `step : State → Cmd → State × Out`, `run : State → List Cmd → State`, `init k`; same on the spec side
  (`SState`, `Spec.step`, `Spec.run`, `Spec.init`).  `query : State → Nat → Query → Ans`.
* Proved facts to build on (`Hgxv/Proofs/C01*.lean`): `Inv` (representation invariant) with `run_inv`;
  `sim_apply : Inv s → op.WF → Sim (apply s op) (Spec.apply (abs s) op)`; `answer_abs : Inv s → answer s q =
  Spec.answer (abs s) q`; `run_sim`, `query_sim`; `apply_rej`; `Inv.incidentKeys_eq`.
* Well-formedness of inputs (the property's quantifier: hyperedges are node *sets*): `Op.WF`, `Cmd.WF`
  say that every raw hyperedge handed to the store is duplicate-free.

## Conventions

* The model follows the *repaired* code (fix commits for D1 duplicate adjacency, D2
  `remove_attr_from_edge_metadata`, D3 batched calls validate before mutating, D4 `remove_node` deletes
  the node's metadata).
* Python exceptions that are reachable from the public API (validation failures, weight on an unweighted
  hypergraph, missing node/hyperedge/attribute, `max` of nothing, `order` and `size` both given) are modelled
  (`Out.rej` / `Ans.rej`).  A rejection *inside* a loop returns the partially mutated store, as Python
  does (`seqOps`); that this never happens after validation is a theorem, not a definition.
* `KeyError`s on *internal* tables that need a broken state (an id in `_adj` without `_reverse_edge_list`
  entry, a node in `_adj` without `_node_metadata` entry, `list.remove` of an absent id) are totalised with
  neutral defaults (`getD`, `filterMap`); every theorem about such a function carries `Inv`, which excludes
  those states, and `C01_inv` shows that every reachable state satisfies `Inv`.
-/
namespace C01
open AL

abbrev Node := Nat
abbrev Edge := List Nat
abbrev Meta := List (Nat × Nat)

/-- weight 1 in quanta of 1/4 -/
def one : Int := 4

inductive Out | ok | rej deriving DecidableEq, Repr

/-- `del d[k]` (all entries with that key; dict keys are unique, so this is the one entry) -/
def del {α β : Type} [DecidableEq α] (l : List (α × β)) (k : α) : List (α × β) :=
  l.filter (fun p => p.1 ≠ k)

def insertSorted (a : Nat) : List Nat → List Nat
  | [] => [a]
  | b :: bs => if a ≤ b then a :: b :: bs else b :: insertSorted a bs
/-- `tuple(sorted(edge))` -/
def canon (l : List Nat) : Edge := l.foldr insertSorted []

/-- metadata token conventions: attribute 0 = "weighted", attribute 1 = "type";
    value 0 = False, 1 = True, 2 = "Hypergraph" -/
def initHMeta (weighted : Bool) (hm : Meta) : Meta :=
  AL.set (AL.set hm 0 (if weighted then 1 else 0)) 1 2

structure Store where
  weighted : Bool := false
  edgeList : List (Edge × Nat) := []
  rev : List (Nat × Edge) := []
  weights : List (Nat × Int) := []
  emeta : List (Nat × Meta) := []
  adj : List (Node × List Nat) := []
  nmeta : List (Node × Meta) := []
  nextId : Nat := 0
  hmeta : Meta := []
  deriving DecidableEq, Repr

/-- `Hypergraph(weighted=w, hypergraph_metadata=hm)` -/
def Store.new (w : Bool) (hm : Meta) : Store := { weighted := w, hmeta := initHMeta w hm }

/-- the `order= / size= / up_to=` arguments of the query methods -/
structure Filter where
  order : Option Int := none
  size : Option Int := none
  upTo : Bool := false
  deriving DecidableEq, Repr

/-- `none` = both `order` and `size` given (ValueError); `some none` = no filter;
    `some (some o)` = keep hyperedges with `len(edge) - 1 == o` (or `<= o` with up_to) -/
def Filter.resolve (f : Filter) : Option (Option Int) :=
  match f.order, f.size with
  | some _, some _ => none
  | none, none => some none
  | some o, none => some (some o)
  | none, some k => some (some (k - 1))

/-- the test `len(edge) - 1 == order` / `len(edge) - 1 <= order` -/
def keepEdge (o : Option Int) (upTo : Bool) (e : Edge) : Bool :=
  match o with
  | none => true
  | some o => if upTo then ((e.length : Int) - 1 ≤ o) else ((e.length : Int) - 1 == o)

/-- run a list of sub-calls; the first rejection aborts and leaves the store as it is at that moment -/
def seqOps {α σ : Type} (f : σ → α → σ × Out) : σ → List α → σ × Out
  | s, [] => (s, .ok)
  | s, a :: as =>
    match f s a with
    | (s', .ok) => seqOps f s' as
    | (s', .rej) => (s', .rej)

/-! ### nodes -/

/-- `if node not in self._adj: self._adj[node] = []; self._node_metadata[node] = {}` -/
def touchNode (s : Store) (n : Node) : Store :=
  if (get? s.adj n).isSome then s
  else { s with adj := AL.set s.adj n [], nmeta := AL.set s.nmeta n [] }

/-- `if self._node_metadata[node] == {}: self._node_metadata[node] = metadata` -/
def fillNodeMeta (s : Store) (n : Node) (md : Meta) : Store :=
  match get? s.nmeta n with
  | some [] => { s with nmeta := AL.set s.nmeta n md }
  | _ => s

/-- `add_node(node, metadata)` - never raises -/
def addNode (s : Store) (n : Node) (md : Option Meta) : Store :=
  fillNodeMeta (touchNode s n) n (md.getD [])

/-- `add_nodes(node_list, metadata)`: `metadata` (a dict node ↦ dict) must cover the list (validated first) -/
def addNodes (s : Store) (ns : List Node) (mds : Option (List (Node × Meta))) : Store × Out :=
  match mds with
  | none => (ns.foldl (fun s n => addNode s n none) s, .ok)
  | some t =>
    if ns.all (fun n => (get? t n).isSome) then
      (ns.foldl (fun s n => addNode s n (get? t n)) s, .ok)
    else (s, .rej)

/-! ### hyperedges -/

/-- `for node in edge: self.add_node(node); self._adj[node].append(id)`
    (`add_node(node)` without metadata is `touchNode`: the `== {}` branch replaces `{}` by `{}`) -/
def linkNodes (s : Store) (id : Nat) : List Node → Store
  | [] => s
  | n :: ns =>
    let s := touchNode s n
    let s := { s with adj := AL.set s.adj n (((get? s.adj n).getD []) ++ [id]) }
    linkNodes s id ns

/-- branch `edge not in self._edge_list` of `add_edge` -/
def addEdgeNew (s : Store) (e : Edge) (wt : Int) (md : Meta) : Store :=
  let id := s.nextId
  linkNodes { s with edgeList := AL.set s.edgeList e id, rev := AL.set s.rev id e,
                     weights := AL.set s.weights id (if s.weighted then wt else one),
                     emeta := AL.set s.emeta id md, nextId := id + 1 } id e

/-- branch `edge in self._edge_list` of `add_edge` (adjacency untouched) -/
def addEdgeOld (s : Store) (id : Nat) (wt : Int) (md : Meta) : Store :=
  { s with weights := if s.weighted then AL.set s.weights id (((get? s.weights id).getD 0) + wt) else s.weights,
           emeta := AL.set s.emeta id md }

/-- `add_edge(edge, weight, metadata)` -/
def addEdge (s : Store) (raw : List Nat) (w : Option Int) (md : Option Meta) : Store × Out :=
  if !s.weighted && w.isSome && w != some one then (s, .rej) else
  match get? s.edgeList (canon raw) with
  | none => (addEdgeNew s (canon raw) (w.getD one) (md.getD []), .ok)
  | some id => (addEdgeOld s id (w.getD one) (md.getD []), .ok)

/-- the `i`-th call of the loop in `add_edges` -/
def addEdgesLoop (useW : Bool) : Store → List (List Nat × Option Int × Option Meta) → Store × Out :=
  seqOps (fun s (x : List Nat × Option Int × Option Meta) => addEdge s x.1 (if useW then x.2.1 else none) x.2.2)

/-- pair every hyperedge with `weights[i]` and `metadata[i]` -/
def zipArgs : List (List Nat) → Option (List Int) → Option (List Meta) → List (List Nat × Option Int × Option Meta)
  | [], _, _ => []
  | r :: rs, ws, mds =>
    (r, (ws.bind List.head?), (mds.bind List.head?)) :: zipArgs rs (ws.map List.tail) (mds.map List.tail)

/-- the checks `add_edges` makes before the first mutation -/
def addEdgesValid (raws : List (List Nat)) (ws : Option (List Int)) (mds : Option (List Meta)) : Bool :=
  (match ws with
    | none => true
    | some l => decide raws.Nodup && l.length == raws.length) &&
  (match mds with
    | none => true
    | some l => decide (raws.length ≤ l.length))

/-- `add_edges(edge_list, weights, metadata)`: with `weights` the *raw* tuples must be pairwise different
    and as many as the weights; `metadata` must not be shorter than the list; then (and only then) an
    unweighted hypergraph that is given weights becomes weighted -/
def addEdges (s : Store) (raws : List (List Nat)) (ws : Option (List Int)) (mds : Option (List Meta)) : Store × Out :=
  if addEdgesValid raws ws mds then
    addEdgesLoop ws.isSome { s with weighted := s.weighted || ws.isSome } (zipArgs raws ws mds)
  else (s, .rej)

/-- `for node in edge: self._adj[node].remove(id)` -/
def unlinkNodes (adj : List (Node × List Nat)) (id : Nat) : List Node → List (Node × List Nat)
  | [] => adj
  | n :: ns =>
    let adj := match get? adj n with
      | some ids => AL.set adj n (ids.erase id)
      | none => adj
    unlinkNodes adj id ns

/-- the deletions of `remove_edge` once the id is known -/
def removeEdgeId (s : Store) (e : Edge) (id : Nat) : Store :=
  { s with adj := unlinkNodes s.adj id e, rev := del s.rev id, emeta := del s.emeta id,
           weights := del s.weights id, edgeList := del s.edgeList e }

/-- `remove_edge(edge)` -/
def removeEdge (s : Store) (raw : List Nat) : Store × Out :=
  match get? s.edgeList (canon raw) with
  | none => (s, .rej)
  | some id => (removeEdgeId s (canon raw) id, .ok)

/-- `remove_edges(edge_list)`: every member present and no member twice (validated first) -/
def removeEdges (s : Store) (raws : List (List Nat)) : Store × Out :=
  if raws.all (fun r => (get? s.edgeList (canon r)).isSome) && decide (raws.map canon).Nodup then
    seqOps removeEdge s raws
  else (s, .rej)

/-- `[self._reverse_edge_list[id] for id in self._adj[node]]` -/
def incidentKeys (s : Store) (n : Node) : List Edge :=
  ((get? s.adj n).getD []).filterMap (get? s.rev)

def weightOf (s : Store) (e : Edge) : Int := ((get? s.edgeList e).bind (get? s.weights)).getD 0
def emetaOf (s : Store) (e : Edge) : Meta := ((get? s.edgeList e).bind (get? s.emeta)).getD []

/-- body of the `keep_edges=True` loop: re-insert the hyperedge without the node -/
def shrinkInto (n : Node) (s : Store) (e : Edge) : Store × Out :=
  addEdge s (e.filter (· ≠ n)) (some (weightOf s e)) (some (emetaOf s e))

/-- `del self._adj[node]; del self._node_metadata[node]` -/
def dropNode (s : Store) (n : Node) : Store :=
  { s with adj := del s.adj n, nmeta := del s.nmeta n }

/-- `remove_node(node, keep_edges)` -/
def removeNode (s : Store) (n : Node) (keep : Bool) : Store × Out :=
  if !(get? s.adj n).isSome then (s, .rej) else
  let es := incidentKeys s n
  match (if keep then seqOps (shrinkInto n) s es else (s, .ok)) with
  | (s1, .rej) => (s1, .rej)
  | (s1, .ok) =>
    match removeEdges s1 es with
    | (s2, .rej) => (s2, .rej)
    | (s2, .ok) => (dropNode s2 n, .ok)

/-- `remove_nodes(node_list, keep_edges)`: every member present and no member twice (validated first) -/
def removeNodes (s : Store) (ns : List Node) (keep : Bool) : Store × Out :=
  if ns.all (fun n => (get? s.adj n).isSome) && decide ns.Nodup then
    seqOps (fun s n => removeNode s n keep) s ns
  else (s, .rej)

/-- `set_weight(edge, weight)` -/
def setWeight (s : Store) (raw : List Nat) (w : Int) : Store × Out :=
  if !s.weighted && w != one then (s, .rej) else
  match get? s.edgeList (canon raw) with
  | none => (s, .rej)
  | some id => ({ s with weights := AL.set s.weights id w }, .ok)

/-! ### metadata -/

def setNodeMeta (s : Store) (n : Node) (md : Meta) : Store × Out :=
  if (get? s.adj n).isSome then ({ s with nmeta := AL.set s.nmeta n md }, .ok) else (s, .rej)

def setEdgeMeta (s : Store) (raw : List Nat) (md : Meta) : Store × Out :=
  match get? s.edgeList (canon raw) with
  | none => (s, .rej)
  | some id => ({ s with emeta := AL.set s.emeta id md }, .ok)

def setHMeta (s : Store) (md : Meta) : Store × Out := ({ s with hmeta := md }, .ok)

def setAttrH (s : Store) (k v : Nat) : Store × Out := ({ s with hmeta := AL.set s.hmeta k v }, .ok)

def setAttrNode (s : Store) (n : Node) (k v : Nat) : Store × Out :=
  match get? s.nmeta n with
  | none => (s, .rej)
  | some md => ({ s with nmeta := AL.set s.nmeta n (AL.set md k v) }, .ok)

def setAttrEdge (s : Store) (raw : List Nat) (k v : Nat) : Store × Out :=
  match get? s.edgeList (canon raw) with
  | none => (s, .rej)
  | some id => ({ s with emeta := AL.set s.emeta id (AL.set ((get? s.emeta id).getD []) k v) }, .ok)

/-- `del self._node_metadata[node][field]` (KeyError when the field is absent) -/
def delAttrNode (s : Store) (n : Node) (k : Nat) : Store × Out :=
  match get? s.nmeta n with
  | none => (s, .rej)
  | some md => if (get? md k).isSome then ({ s with nmeta := AL.set s.nmeta n (del md k) }, .ok) else (s, .rej)

def delAttrEdge (s : Store) (raw : List Nat) (k : Nat) : Store × Out :=
  match get? s.edgeList (canon raw) with
  | none => (s, .rej)
  | some id =>
    let md := (get? s.emeta id).getD []
    if (get? md k).isSome then ({ s with emeta := AL.set s.emeta id (del md k) }, .ok) else (s, .rej)

/-- `clear()`: every table and the hypergraph metadata; `_weighted` and `_next_edge_id` stay -/
def clear (s : Store) : Store × Out :=
  ({ s with edgeList := [], rev := [], weights := [], emeta := [], adj := [], nmeta := [], hmeta := [] }, .ok)

/-! ### operations and histories -/

inductive Op
  | addNode (n : Node) (md : Option Meta)
  | addNodes (ns : List Node) (mds : Option (List (Node × Meta)))
  | addEdge (raw : List Nat) (w : Option Int) (md : Option Meta)
  | addEdges (raws : List (List Nat)) (ws : Option (List Int)) (mds : Option (List Meta))
  | removeEdge (raw : List Nat)
  | removeEdges (raws : List (List Nat))
  | removeNode (n : Node) (keep : Bool)
  | removeNodes (ns : List Node) (keep : Bool)
  | setWeight (raw : List Nat) (w : Int)
  | setNodeMeta (n : Node) (md : Meta)
  | setEdgeMeta (raw : List Nat) (md : Meta)
  | setHMeta (md : Meta)
  | setAttrH (k v : Nat)
  | setAttrNode (n : Node) (k v : Nat)
  | setAttrEdge (raw : List Nat) (k v : Nat)
  | delAttrNode (n : Node) (k : Nat)
  | delAttrEdge (raw : List Nat) (k : Nat)
  | clear
  deriving DecidableEq, Repr

/-- every raw hyperedge the operation hands to the store is duplicate-free (a node *set*) -/
def Op.WF : Op → Prop
  | .addEdge raw _ _ => raw.Nodup
  | .addEdges raws _ _ => ∀ r ∈ raws, r.Nodup
  | _ => True

def apply (s : Store) : Op → Store × Out
  | .addNode n md => (addNode s n md, .ok)
  | .addNodes ns mds => addNodes s ns mds
  | .addEdge raw w md => addEdge s raw w md
  | .addEdges raws ws mds => addEdges s raws ws mds
  | .removeEdge raw => removeEdge s raw
  | .removeEdges raws => removeEdges s raws
  | .removeNode n keep => removeNode s n keep
  | .removeNodes ns keep => removeNodes s ns keep
  | .setWeight raw w => setWeight s raw w
  | .setNodeMeta n md => setNodeMeta s n md
  | .setEdgeMeta raw md => setEdgeMeta s raw md
  | .setHMeta md => setHMeta s md
  | .setAttrH k v => setAttrH s k v
  | .setAttrNode n k v => setAttrNode s n k v
  | .setAttrEdge raw k v => setAttrEdge s raw k v
  | .delAttrNode n k => delAttrNode s n k
  | .delAttrEdge raw k => delAttrEdge s raw k
  | .clear => clear s

/-- a command of a history: the state is an array of hypergraphs (slots) -/
inductive Cmd
  | new (i : Nat) (weighted : Bool) (hm : Meta)
  | copy (i j : Nat)
  | on (i : Nat) (op : Op)
  deriving DecidableEq, Repr

def Cmd.WF : Cmd → Prop
  | .on _ op => op.WF
  | _ => True

abbrev State := List Store

def init (k : Nat) : State := List.replicate k (Store.new false [])

def step (st : State) : Cmd → State × Out
  | .new i w hm => if i < st.length then (st.set i (Store.new w hm), .ok) else (st, .rej)
  | .copy i j =>
    match st[i]? with
    | some s => if j < st.length then (st.set j s, .ok) else (st, .rej)
    | none => (st, .rej)
  | .on i op =>
    match st[i]? with
    | some s => let r := apply s op; (st.set i r.1, r.2)
    | none => (st, .rej)

def run (st : State) (cs : List Cmd) : State := cs.foldl (fun st c => (step st c).1) st

/-! ### queries (concrete level: read the tables the way the methods do) -/

inductive Ans
  | rej
  | bool (b : Bool)
  | int (i : Int)
  | nats (l : List Nat)
  | ints (l : List Int)
  | edges (l : List Edge)
  | dict (m : Meta)
  | nmetas (l : List (Node × Meta))
  | emetas (l : List (Edge × Meta))
  | ews (l : List (Edge × Int))
  | pairs (l : List (Int × Nat))
  deriving DecidableEq, Repr

inductive Query
  | nodes | nodesMeta | checkNode (n : Node) | numNodes
  | edges (f : Filter) | edgesMeta (f : Filter) | numEdges (f : Filter) | len | iter
  | checkEdge (raw : List Nat) | weight (raw : List Nat) | weights (f : Filter) | weightsDict (f : Filter)
  | incident (n : Node) (f : Filter) | neighbors (n : Node) (f : Filter)
  | degree (n : Node) (f : Filter) | degreeSeq (f : Filter) | degreeDist (f : Filter)
  | sizes | orders | sizeDist | maxSize | maxOrder | isUniform | isWeighted
  | nodeMeta (n : Node) | edgeMeta (raw : List Nat) | allNodesMeta | allEdgesMeta | hmeta
  | isolated (f : Filter) | isIsolated (n : Node) (f : Filter)
  deriving DecidableEq, Repr

/-- `dict(Counter(xs))` : value ↦ multiplicity, in order of first appearance -/
def counter (xs : List Int) : List (Int × Nat) :=
  xs.foldl (fun acc x => AL.set acc x (((get? acc x).getD 0) + 1)) []

/-- maximum of a non-empty list (`max([])` raises) -/
def maxOf : List Int → Option Int
  | [] => none
  | x :: xs => some (xs.foldl max x)

/-- `set().update(edge) for edge in edges; discard(node)` as a duplicate-free list -/
def unionWithout (n : Node) (es : List Edge) : List Nat :=
  (es.flatten.eraseDups).filter (· ≠ n)

/-- `get_edges(order, size, up_to)` -/
def edgesF (s : Store) (f : Filter) : Option (List Edge) :=
  f.resolve.map fun o => (keys s.edgeList).filter (keepEdge o f.upTo)

/-- `get_incident_edges(node, order, size)` (no `up_to`); outer `none` = raised -/
def incidentF (s : Store) (n : Node) (f : Filter) : Option (List Edge) :=
  if !(get? s.adj n).isSome then none else
  f.resolve.map fun o => (incidentKeys s n).filter (keepEdge o false)

def neighborsF (s : Store) (n : Node) (f : Filter) : Option (List Nat) :=
  (incidentF s n f).map (unionWithout n)

/-- `measures.degree.degree_sequence`: both given rejected, else `{node: degree(node, order)}` -/
def degreeSeqF (s : Store) (f : Filter) : Option (List (Node × Nat)) :=
  f.resolve.map fun o => (keys s.adj).map fun n => (n, ((incidentKeys s n).filter (keepEdge o false)).length)

def ofOpt {α} (mk : α → Ans) : Option α → Ans
  | none => .rej
  | some a => mk a

def answer (s : Store) : Query → Ans
  | .nodes => .nats (keys s.adj)
  | .nodesMeta => .nmetas ((keys s.adj).map fun n => (n, (get? s.nmeta n).getD []))
  | .checkNode n => .bool (get? s.adj n).isSome
  | .numNodes => .int (keys s.adj).length
  | .edges f => ofOpt .edges (edgesF s f)
  | .edgesMeta f => ofOpt .emetas ((edgesF s f).map fun es => es.map fun e => (e, emetaOf s e))
  | .numEdges f => ofOpt (fun es => .int (List.length es)) (edgesF s f)
  | .len => .int s.edgeList.length
  | .iter => .edges (keys s.edgeList)
  | .checkEdge raw => .bool (get? s.edgeList (canon raw)).isSome
  | .weight raw => match get? s.edgeList (canon raw) with
    | none => .rej
    | some id => .int ((get? s.weights id).getD 0)
  | .weights f => ofOpt .ints ((edgesF s f).map fun es => es.map (weightOf s))
  | .weightsDict f => ofOpt .ews ((edgesF s f).map fun es => es.map fun e => (e, weightOf s e))
  | .incident n f => ofOpt .edges (incidentF s n f)
  | .neighbors n f => ofOpt .nats (neighborsF s n f)
  | .degree n f => ofOpt (fun es => .int (List.length es)) (incidentF s n f)
  | .degreeSeq f => ofOpt (fun l => .pairs (l.map fun p => ((p.1 : Int), p.2))) (degreeSeqF s f)
  | .degreeDist f => ofOpt (fun l => .pairs (counter (l.map fun p => (p.2 : Int)))) (degreeSeqF s f)
  | .sizes => .ints ((keys s.edgeList).map fun e => (e.length : Int))
  | .orders => .ints ((keys s.edgeList).map fun e => (e.length : Int) - 1)
  | .sizeDist => .pairs (counter ((keys s.edgeList).map fun e => (e.length : Int)))
  | .maxSize => ofOpt .int (maxOf ((keys s.edgeList).map fun e => (e.length : Int)))
  | .maxOrder => ofOpt .int ((maxOf ((keys s.edgeList).map fun e => (e.length : Int))).map (· - 1))
  | .isUniform => .bool (match keys s.edgeList with
    | [] => true
    | e :: es => es.all fun e' => e'.length == e.length)
  | .isWeighted => .bool s.weighted
  | .nodeMeta n => if (get? s.adj n).isSome then .dict ((get? s.nmeta n).getD []) else .rej
  | .edgeMeta raw => match get? s.edgeList (canon raw) with
    | none => .rej
    | some id => .dict ((get? s.emeta id).getD [])
  | .allNodesMeta => .nmetas s.nmeta
  | .allEdgesMeta => .emetas (s.edgeList.map fun p => (p.1, (get? s.emeta p.2).getD []))
  | .hmeta => .dict s.hmeta
  | .isolated f => ofOpt .nats (f.resolve.map fun o =>
      (keys s.adj).filter fun n => (unionWithout n ((incidentKeys s n).filter (keepEdge o false))).isEmpty)
  | .isIsolated n f =>
    -- `utils.cc.is_isolated`: both given is rejected first, then `get_neighbors` (missing node raises)
    match f.resolve with
    | none => .rej
    | some _ => ofOpt (fun l => .bool (List.isEmpty l)) (neighborsF s n f)

def query (st : State) (i : Nat) (q : Query) : Ans :=
  match st[i]? with
  | some s => answer s q
  | none => .rej

/-! ## The abstract hypergraph: nodes with metadata + map from node sets to (weight, metadata) -/

structure Spec where
  weighted : Bool := false
  nodes : List (Node × Meta) := []
  edges : List (Edge × (Int × Meta)) := []
  hmeta : Meta := []
  deriving DecidableEq, Repr

namespace Spec

def new (w : Bool) (hm : Meta) : Spec := { weighted := w, hmeta := initHMeta w hm }

def touchNode (a : Spec) (n : Node) : Spec :=
  if (get? a.nodes n).isSome then a else { a with nodes := AL.set a.nodes n [] }

def addNode (a : Spec) (n : Node) (md : Option Meta) : Spec :=
  let a := touchNode a n
  match get? a.nodes n with
  | some [] => { a with nodes := AL.set a.nodes n (md.getD []) }
  | _ => a

def addNodes (a : Spec) (ns : List Node) (mds : Option (List (Node × Meta))) : Spec × Out :=
  match mds with
  | none => (ns.foldl (fun a n => addNode a n none) a, .ok)
  | some t =>
    if ns.all (fun n => (get? t n).isSome) then (ns.foldl (fun a n => addNode a n (get? t n)) a, .ok)
    else (a, .rej)

/-- map update: a new key gets `(w, md)` (weight 1 when unweighted) and its nodes join the node set;
    an existing key gets its weight increased (weighted) and its metadata replaced -/
def addEdge (a : Spec) (raw : List Nat) (w : Option Int) (md : Option Meta) : Spec × Out :=
  if !a.weighted && w.isSome && w != some one then (a, .rej) else
  let e := canon raw
  match get? a.edges e with
  | none =>
    let a := { a with edges := AL.set a.edges e (if a.weighted then w.getD one else one, md.getD []) }
    (e.foldl touchNode a, .ok)
  | some (w0, _) =>
    ({ a with edges := AL.set a.edges e (if a.weighted then w0 + w.getD one else w0, md.getD []) }, .ok)

def addEdges (a : Spec) (raws : List (List Nat)) (ws : Option (List Int)) (mds : Option (List Meta)) : Spec × Out :=
  if addEdgesValid raws ws mds then
    seqOps (fun a (x : List Nat × Option Int × Option Meta) => addEdge a x.1 (if ws.isSome then x.2.1 else none) x.2.2)
      { a with weighted := a.weighted || ws.isSome } (zipArgs raws ws mds)
  else (a, .rej)

def removeEdge (a : Spec) (raw : List Nat) : Spec × Out :=
  if (get? a.edges (canon raw)).isSome then ({ a with edges := del a.edges (canon raw) }, .ok) else (a, .rej)

def removeEdges (a : Spec) (raws : List (List Nat)) : Spec × Out :=
  if raws.all (fun r => (get? a.edges (canon r)).isSome) && decide (raws.map canon).Nodup then
    seqOps removeEdge a raws
  else (a, .rej)

/-- the keys that contain the node, in map order -/
def incidentKeys (a : Spec) (n : Node) : List Edge := (keys a.edges).filter (fun e => decide (n ∈ e))

def weightOf (a : Spec) (e : Edge) : Int := ((get? a.edges e).map (·.1)).getD 0
def emetaOf (a : Spec) (e : Edge) : Meta := ((get? a.edges e).map (·.2)).getD []

def shrinkInto (n : Node) (a : Spec) (e : Edge) : Spec × Out :=
  addEdge a (e.filter (· ≠ n)) (some (weightOf a e)) (some (emetaOf a e))

def removeNode (a : Spec) (n : Node) (keep : Bool) : Spec × Out :=
  if !(get? a.nodes n).isSome then (a, .rej) else
  let es := incidentKeys a n
  match (if keep then seqOps (shrinkInto n) a es else (a, .ok)) with
  | (a1, .rej) => (a1, .rej)
  | (a1, .ok) =>
    match removeEdges a1 es with
    | (a2, .rej) => (a2, .rej)
    | (a2, .ok) => ({ a2 with nodes := del a2.nodes n }, .ok)

def removeNodes (a : Spec) (ns : List Node) (keep : Bool) : Spec × Out :=
  if ns.all (fun n => (get? a.nodes n).isSome) && decide ns.Nodup then
    seqOps (fun a n => removeNode a n keep) a ns
  else (a, .rej)

def setWeight (a : Spec) (raw : List Nat) (w : Int) : Spec × Out :=
  if !a.weighted && w != one then (a, .rej) else
  match get? a.edges (canon raw) with
  | none => (a, .rej)
  | some (_, md) => ({ a with edges := AL.set a.edges (canon raw) (w, md) }, .ok)

def setNodeMeta (a : Spec) (n : Node) (md : Meta) : Spec × Out :=
  if (get? a.nodes n).isSome then ({ a with nodes := AL.set a.nodes n md }, .ok) else (a, .rej)

def setEdgeMeta (a : Spec) (raw : List Nat) (md : Meta) : Spec × Out :=
  match get? a.edges (canon raw) with
  | none => (a, .rej)
  | some (w, _) => ({ a with edges := AL.set a.edges (canon raw) (w, md) }, .ok)

def setAttrNode (a : Spec) (n : Node) (k v : Nat) : Spec × Out :=
  match get? a.nodes n with
  | none => (a, .rej)
  | some md => ({ a with nodes := AL.set a.nodes n (AL.set md k v) }, .ok)

def setAttrEdge (a : Spec) (raw : List Nat) (k v : Nat) : Spec × Out :=
  match get? a.edges (canon raw) with
  | none => (a, .rej)
  | some (w, md) => ({ a with edges := AL.set a.edges (canon raw) (w, AL.set md k v) }, .ok)

def delAttrNode (a : Spec) (n : Node) (k : Nat) : Spec × Out :=
  match get? a.nodes n with
  | none => (a, .rej)
  | some md => if (get? md k).isSome then ({ a with nodes := AL.set a.nodes n (del md k) }, .ok) else (a, .rej)

def delAttrEdge (a : Spec) (raw : List Nat) (k : Nat) : Spec × Out :=
  match get? a.edges (canon raw) with
  | none => (a, .rej)
  | some (w, md) =>
    if (get? md k).isSome then ({ a with edges := AL.set a.edges (canon raw) (w, del md k) }, .ok) else (a, .rej)

def apply (a : Spec) : Op → Spec × Out
  | .addNode n md => (addNode a n md, .ok)
  | .addNodes ns mds => addNodes a ns mds
  | .addEdge raw w md => addEdge a raw w md
  | .addEdges raws ws mds => addEdges a raws ws mds
  | .removeEdge raw => removeEdge a raw
  | .removeEdges raws => removeEdges a raws
  | .removeNode n keep => removeNode a n keep
  | .removeNodes ns keep => removeNodes a ns keep
  | .setWeight raw w => setWeight a raw w
  | .setNodeMeta n md => setNodeMeta a n md
  | .setEdgeMeta raw md => setEdgeMeta a raw md
  | .setHMeta md => ({ a with hmeta := md }, .ok)
  | .setAttrH k v => ({ a with hmeta := AL.set a.hmeta k v }, .ok)
  | .setAttrNode n k v => setAttrNode a n k v
  | .setAttrEdge raw k v => setAttrEdge a raw k v
  | .delAttrNode n k => delAttrNode a n k
  | .delAttrEdge raw k => delAttrEdge a raw k
  | .clear => ({ a with nodes := [], edges := [], hmeta := [] }, .ok)

def edgesF (a : Spec) (f : Filter) : Option (List Edge) :=
  f.resolve.map fun o => (keys a.edges).filter (keepEdge o f.upTo)

def incidentF (a : Spec) (n : Node) (f : Filter) : Option (List Edge) :=
  if !(get? a.nodes n).isSome then none else
  f.resolve.map fun o => (incidentKeys a n).filter (keepEdge o false)

def neighborsF (a : Spec) (n : Node) (f : Filter) : Option (List Nat) :=
  (incidentF a n f).map (unionWithout n)

def degreeSeqF (a : Spec) (f : Filter) : Option (List (Node × Nat)) :=
  f.resolve.map fun o => (keys a.nodes).map fun n => (n, ((incidentKeys a n).filter (keepEdge o false)).length)

/-- every query as a filter / map over the node list and the key ↦ (weight, metadata) map -/
def answer (a : Spec) : Query → Ans
  | .nodes => .nats (keys a.nodes)
  | .nodesMeta => .nmetas a.nodes
  | .checkNode n => .bool (get? a.nodes n).isSome
  | .numNodes => .int (keys a.nodes).length
  | .edges f => ofOpt .edges (edgesF a f)
  | .edgesMeta f => ofOpt .emetas ((edgesF a f).map fun es => es.map fun e => (e, emetaOf a e))
  | .numEdges f => ofOpt (fun es => .int (List.length es)) (edgesF a f)
  | .len => .int a.edges.length
  | .iter => .edges (keys a.edges)
  | .checkEdge raw => .bool (get? a.edges (canon raw)).isSome
  | .weight raw => match get? a.edges (canon raw) with
    | none => .rej
    | some (w, _) => .int w
  | .weights f => ofOpt .ints ((edgesF a f).map fun es => es.map (weightOf a))
  | .weightsDict f => ofOpt .ews ((edgesF a f).map fun es => es.map fun e => (e, weightOf a e))
  | .incident n f => ofOpt .edges (incidentF a n f)
  | .neighbors n f => ofOpt .nats (neighborsF a n f)
  | .degree n f => ofOpt (fun es => .int (List.length es)) (incidentF a n f)
  | .degreeSeq f => ofOpt (fun l => .pairs (l.map fun p => ((p.1 : Int), p.2))) (degreeSeqF a f)
  | .degreeDist f => ofOpt (fun l => .pairs (counter (l.map fun p => (p.2 : Int)))) (degreeSeqF a f)
  | .sizes => .ints ((keys a.edges).map fun e => (e.length : Int))
  | .orders => .ints ((keys a.edges).map fun e => (e.length : Int) - 1)
  | .sizeDist => .pairs (counter ((keys a.edges).map fun e => (e.length : Int)))
  | .maxSize => ofOpt .int (maxOf ((keys a.edges).map fun e => (e.length : Int)))
  | .maxOrder => ofOpt .int ((maxOf ((keys a.edges).map fun e => (e.length : Int))).map (· - 1))
  | .isUniform => .bool (match keys a.edges with
    | [] => true
    | e :: es => es.all fun e' => e'.length == e.length)
  | .isWeighted => .bool a.weighted
  | .nodeMeta n => match get? a.nodes n with
    | some md => .dict md
    | none => .rej
  | .edgeMeta raw => match get? a.edges (canon raw) with
    | none => .rej
    | some (_, md) => .dict md
  | .allNodesMeta => .nmetas a.nodes
  | .allEdgesMeta => .emetas (a.edges.map fun p => (p.1, p.2.2))
  | .hmeta => .dict a.hmeta
  | .isolated f => ofOpt .nats (f.resolve.map fun o =>
      (keys a.nodes).filter fun n => (unionWithout n ((incidentKeys a n).filter (keepEdge o false))).isEmpty)
  | .isIsolated n f =>
    match f.resolve with
    | none => .rej
    | some _ => ofOpt (fun l => .bool (List.isEmpty l)) (neighborsF a n f)

end Spec

abbrev SState := List Spec

def Spec.init (k : Nat) : SState := List.replicate k (Spec.new false [])

def Spec.step (st : SState) : Cmd → SState × Out
  | .new i w hm => if i < st.length then (st.set i (Spec.new w hm), .ok) else (st, .rej)
  | .copy i j =>
    match st[i]? with
    | some s => if j < st.length then (st.set j s, .ok) else (st, .rej)
    | none => (st, .rej)
  | .on i op =>
    match st[i]? with
    | some s => let r := Spec.apply s op; (st.set i r.1, r.2)
    | none => (st, .rej)

def Spec.run (st : SState) (cs : List Cmd) : SState := cs.foldl (fun st c => (Spec.step st c).1) st

def Spec.query (st : SState) (i : Nat) (q : Query) : Ans :=
  match st[i]? with
  | some s => Spec.answer s q
  | none => .rej

/-- abstraction of a concrete store: forget the ids -/
def abs (s : Store) : Spec :=
  { weighted := s.weighted
    nodes := s.nmeta
    edges := s.edgeList.map fun p => (p.1, ((get? s.weights p.2).getD 0, (get? s.emeta p.2).getD []))
    hmeta := s.hmeta }

end C01
