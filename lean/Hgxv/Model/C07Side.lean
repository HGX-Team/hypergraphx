import Hgxv.Model.C07Dumps
/-! # C07 — the tables of the four classes that `expose_attributes_for_hashing` does NOT read (core Lean only)

`_incidences_metadata` (Hypergraph, DirectedHypergraph, TemporalHypergraph: `set_incidence_metadata`) and the
registry `_empty_edges` (Hypergraph: `add_empty_edge`) are part of the object, are copied, saved and cleared, but are
no part of the hashed view.  `Obj κ` = the hashing tables of `Model/C07.lean` plus these two; `OOp` = the operations
of `Op` plus the two setters; `ostep` / `orun` as the code runs them. -/
namespace C07
open AL

/-- what differs between the classes on the side tables -/
class SideKind (κ : Type) where
  /-- the class has `set_incidence_metadata` (Multiplex has not: AttributeError) -/
  hasInc : Bool
  /-- Hypergraph stores the incidence record under the edge AS PASSED, the others under the canonical key -/
  incRaw : Bool
  /-- `clear()` empties `_incidences_metadata` (Hypergraph, Directed; Temporal leaves it) -/
  clearInc : Bool
  /-- the class has `add_empty_edge` / `_empty_edges` (Hypergraph only) -/
  hasEmpty : Bool

instance : SideKind KH := { hasInc := true, incRaw := true, clearInc := true, hasEmpty := true }
instance : SideKind KD := { hasInc := true, incRaw := false, clearInc := true, hasEmpty := false }
instance : SideKind KT := { hasInc := true, incRaw := false, clearInc := false, hasEmpty := false }
instance : SideKind KM := { hasInc := false, incRaw := false, clearInc := false, hasEmpty := false }

structure Obj (κ : Type) where
  base : Tables κ
  inc : List ((κ × Nat) × JTree) := []       -- `_incidences_metadata`: (edge key as stored, node) ↦ record
  empties : List (String × JTree) := []      -- `_empty_edges`: name ↦ record

inductive OOp (κ : Type) where
  | base (op : Op κ)
  | setInc (raw : κ) (n : Nat) (md : JTree)
  | addEmpty (name : String) (md : JTree)

variable {κ : Type} [Kind κ] [SideKind κ]

/-- `set_incidence_metadata(edge, node, metadata)`: ValueError unless the canonical key is a hyperedge; the node is
not looked at; an earlier record of the pair is replaced -/
def setInc (o : Obj κ) (raw : κ) (n : Nat) (md : JTree) : Obj κ × Bool :=
  if SideKind.hasInc κ && has o.base.edgeList (Kind.canonK raw) then
    ({ o with inc := set o.inc (if SideKind.incRaw κ then raw else Kind.canonK raw, n) md }, true)
  else (o, false)

/-- `add_empty_edge(name, metadata)`: a new name is registered, a known one raises -/
def addEmpty (o : Obj κ) (name : String) (md : JTree) : Obj κ × Bool :=
  if SideKind.hasEmpty κ && !has o.empties name then ({ o with empties := set o.empties name md }, true)
  else (o, false)

/-- what a call of `Op` does to the side tables: only `clear()` touches them -/
def sideAfter (o : Obj κ) : Op κ → List ((κ × Nat) × JTree) × List (String × JTree)
  | .clear => (if SideKind.clearInc κ then [] else o.inc, if SideKind.hasEmpty κ then [] else o.empties)
  | _ => (o.inc, o.empties)

def ostep (o : Obj κ) : OOp κ → Obj κ × Bool
  | .base op => ({ base := (step o.base op).1, inc := (sideAfter o op).1, empties := (sideAfter o op).2 }, (step o.base op).2)
  | .setInc raw n md => setInc o raw n md
  | .addEmpty name md => addEmpty o name md

def orun (o : Obj κ) (ops : List (OOp κ)) : Obj κ := ops.foldl (fun s op => (ostep s op).1) o

/-- the calls of a history that belong to `Op` -/
def OOp.toBase? : OOp κ → Option (Op κ)
  | .base op => some op
  | _ => none

/-- a freshly constructed object -/
def oinit (κ : Type) [Kind κ] (weighted : Bool) (hm : List (String × JTree)) : Obj κ := { base := init κ weighted hm }

/-- `hash_hypergraph` of an object: the text of its hashing tables -/
def hashTextObj (f : Fmt) (o : Obj κ) : Option String := hashText f o.base

end C07
