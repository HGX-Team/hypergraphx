import Hgxv.Model.AList
/-! Content-level model of `Hypergraph` / `DirectedHypergraph` and of the extraction functions
`subhypergraph`, `subhypergraph_by_orders`, `get_edges(subhypergraph=True)`,
`subhypergraph_largest_component`, `copy` (hypergraphx/core/hypergraph.py,
hypergraphx/core/directed_hypergraph.py).  Core Lean only.

A `Content κ` is what the public API shows of an object: the weighted flag, the nodes (insertion
ordered, with their metadata), the hyperedges (insertion ordered, canonical key ↦ weight and
metadata), the incidence metadata, the empty edges and the hypergraph-level metadata.  `κ = UKey` (sorted node tuple) for `Hypergraph`, `κ = DKey` (sorted sources, sorted
targets) for `DirectedHypergraph`.  Weights are integer multiples of a quantum (1/4); the weight
`1` the code uses for "no weight given" is `unitW`.  Metadata are association lists of tokens.

The extraction functions are written the way the Python builds them: a fresh object, `add_node`
for nodes, then the selected keys re-inserted one by one with `get_weight` / `get_edge_metadata`
of the source.  A Python exception is `none`. -/
namespace C05

abbrev Node := Nat
abbrev Meta := List (Nat × Nat)
abbrev W := Int
/-- the weight `1` in quanta of 1/4 -/
def unitW : W := 4

abbrev UKey := List Nat
abbrev DKey := List Nat × List Nat

/-! ## canonical keys from raw input -/

def insertSorted (a : Nat) : List Nat → List Nat
  | [] => [a]
  | b :: bs => if a ≤ b then a :: b :: bs else b :: insertSorted a bs
/-- `tuple(sorted(edge))` -/
def canonU (raw : List Nat) : UKey := raw.foldr insertSorted []
/-- `(tuple(sorted(source)), tuple(sorted(target)))` -/
def canonD (raw : List Nat × List Nat) : DKey := (canonU raw.1, canonU raw.2)

/-- what the code needs of a hyperedge key: its nodes and its size; for `remove_node` / `clear` also what is left of
a key when a node is taken out, the order in which `remove_node` walks the hyperedges of a node, and which tables
`clear()` empties -/
class Keyed (κ : Type) where
  members : κ → List Node
  size : κ → Nat
  /-- token of the class name the constructor writes into the hypergraph-level metadata (`"type"`) -/
  typeTok : Nat
  /-- `remove_node(node, keep_edges=True)`: the hyperedge that is re-inserted for an incident hyperedge
  (`none`: nothing is re-inserted, the hyperedge just disappears) -/
  without : Node → κ → Option κ
  /-- the hyperedges `remove_node(node)` walks, in its order, out of the hyperedge listing -/
  incident : Node → List κ → List κ
  /-- the node occurs twice in the key (`DirectedHypergraph`: source and target of the same hyperedge) -/
  twice : Node → κ → Bool
  /-- `clear()` also empties the hypergraph-level metadata and the empty edges -/
  clearsHyper : Bool

/-- `Hypergraph.remove_node`: `tuple(sorted(n for n in edge if n != node))` (the node-less `()` included), the
hyperedges in the order of `self._adj[node]`; `Hypergraph.clear()` empties every table -/
instance : Keyed UKey :=
  { members := fun k => k, size := fun k => k.length, typeTok := 0,
    without := fun n k => some (canonU (k.filter (fun m => m ≠ n))),
    incident := fun n ks => ks.filter (fun k => decide (n ∈ k)),
    twice := fun _ _ => false,
    clearsHyper := true }
/-- `_get_edge_size(edge) = len(edge[0]) + len(edge[1])`; nodes are linked sources first.
`DirectedHypergraph.remove_node(keep_edges=True)` re-inserts `(source - node, target - node)` only `if source and target`,
walks `get_source_edges(node) + get_target_edges(node)`; `DirectedHypergraph.clear()` leaves `_hypergraph_metadata` alone -/
instance : Keyed DKey :=
  { members := fun k => k.1 ++ k.2, size := fun k => k.1.length + k.2.length, typeTok := 1,
    without := fun n k =>
      let s := k.1.filter (fun m => m ≠ n)
      let t := k.2.filter (fun m => m ≠ n)
      if s.isEmpty || t.isEmpty then none else some (canonD (s, t)),
    incident := fun n ks => ks.filter (fun k => decide (n ∈ k.1)) ++ ks.filter (fun k => decide (n ∈ k.2)),
    twice := fun n k => decide (n ∈ k.1) && decide (n ∈ k.2),
    clearsHyper := false }

/-- the key under which `set_incidence_metadata(edge, node, md)` stores: `(edge, node)` where `edge` is the
tuple AS GIVEN for `Hypergraph` (not sorted; rendered `(raw, [])`) and the canonical pair for
`DirectedHypergraph` -/
abbrev IncKey := (List Nat × List Nat) × Node

/-- attribute tokens of the two entries the constructor puts into the hypergraph-level metadata -/
def attrWeighted : Nat := 100
def attrType : Nat := 101

structure Content (κ : Type) where
  weighted : Bool
  nodes : List (Node × Meta)
  edges : List (κ × (W × Meta))
  /-- `_incidences_metadata` (insertion ordered; NOT touched by `remove_edge`, not carried by extractions) -/
  inc : List (IncKey × Meta) := []
  /-- `_empty_edges` (`Hypergraph.add_empty_edge`: name ↦ metadata) -/
  emptyEdges : List (Nat × Meta) := []
  /-- `_hypergraph_metadata` -/
  hmeta : Meta := []
deriving DecidableEq, Repr

variable {κ : Type} [DecidableEq κ] [Keyed κ]

/-- `Hypergraph(weighted=w)` -/
def empty (w : Bool) : Content κ :=
  { weighted := w, nodes := [], edges := [],
    hmeta := [(attrWeighted, if w then 1 else 0), (attrType, Keyed.typeTok κ)] }

/-! ## mutators (`Hypergraph` methods; `DirectedHypergraph` has the same bodies on its keys) -/

/-- `add_node(node, metadata)` on the node table: a new node is stored with `metadata`; an existing
node gets the metadata only when its current metadata is `{}` (`add_node` touches nothing else) -/
def addNodeL (l : List (Node × Meta)) (n : Node) (md : Meta) : List (Node × Meta) :=
  match AL.get? l n with
  | none => l ++ [(n, md)]
  | some cur => if cur = [] then AL.set l n md else l

def addNode (c : Content κ) (n : Node) (md : Meta) : Content κ :=
  { c with nodes := addNodeL c.nodes n md }

/-- `add_nodes(node_list)` (no metadata) / the `for node in edge: self.add_node(node)` loop -/
def touchL (l : List (Node × Meta)) (ns : List Node) : List (Node × Meta) :=
  ns.foldl (fun l n => addNodeL l n []) l

def touchAll (c : Content κ) (ns : List Node) : Content κ :=
  { c with nodes := touchL c.nodes ns }

/-- `set_node_metadata(node, metadata)` (raises when the node is absent) -/
def setNodeMeta (c : Content κ) (n : Node) (md : Meta) : Option (Content κ) :=
  if AL.has c.nodes n then some { c with nodes := AL.set c.nodes n md } else none

/-- `get_node_metadata(node)` -/
def getNodeMeta (c : Content κ) (n : Node) : Option Meta := AL.get? c.nodes n
/-- `get_weight(edge)` -/
def getWeight (c : Content κ) (k : κ) : Option W := (AL.get? c.edges k).map (·.1)
/-- `get_edge_metadata(edge)` -/
def getEdgeMeta (c : Content κ) (k : κ) : Option Meta := (AL.get? c.edges k).map (·.2)

/-- the first test of `add_edge`: an unweighted hypergraph accepts only weight `None` or `1` -/
def weightOk (weighted : Bool) (w : Option W) : Bool :=
  match w with
  | none => true
  | some x => weighted || x == unitW

/-- `add_edge`, branch `edge not in self._edge_list` -/
def addEdgeNew (c : Content κ) (k : κ) (w : W) (md : Meta) : Content κ :=
  touchAll { c with edges := c.edges ++ [(k, (if c.weighted then w else unitW, md))] } (Keyed.members k)

/-- `add_edge`, branch `edge in self._edge_list`: weights add up when weighted, metadata replaced -/
def addEdgeOld (c : Content κ) (k : κ) (w0 w : W) (md : Meta) : Content κ :=
  { c with edges := AL.set c.edges k (if c.weighted then w0 + w else w0, md) }

/-- `add_edge(edge, weight, metadata)` once the weight test has passed (`weight=None` ↦ `1`) -/
def addEdgeCore (c : Content κ) (k : κ) (w : W) (md : Meta) : Content κ :=
  match AL.get? c.edges k with
  | none => addEdgeNew c k w md
  | some v => addEdgeOld c k v.1 w md

/-- `add_edge(edge, weight, metadata)` on a canonical key -/
def addEdge (c : Content κ) (k : κ) (w : Option W) (md : Meta) : Option (Content κ) :=
  if weightOk c.weighted w then some (addEdgeCore c k (w.getD unitW) md) else none

/-- `set_edge_metadata(edge, metadata)` -/
def setEdgeMeta (c : Content κ) (k : κ) (md : Meta) : Option (Content κ) :=
  match AL.get? c.edges k with
  | none => none
  | some v => some { c with edges := AL.set c.edges k (v.1, md) }

/-- `set_weight(edge, weight)` -/
def setWeight (c : Content κ) (k : κ) (w : W) : Option (Content κ) :=
  if !c.weighted && w != unitW then none else
  match AL.get? c.edges k with
  | none => none
  | some v => some { c with edges := AL.set c.edges k (w, v.2) }

/-- `remove_edge(edge)` -/
def removeEdge (c : Content κ) (k : κ) : Option (Content κ) :=
  if AL.has c.edges k then some { c with edges := AL.erase c.edges k } else none

/-- `set_attr_to_node_metadata(node, field, value)` (updates the node's dict in place) -/
def setNodeAttr (c : Content κ) (n : Node) (a v : Nat) : Option (Content κ) :=
  match AL.get? c.nodes n with
  | none => none
  | some md => some { c with nodes := AL.set c.nodes n (AL.set md a v) }

/-- `set_attr_to_edge_metadata(edge, field, value)` (updates the hyperedge's dict in place) -/
def setEdgeAttr (c : Content κ) (k : κ) (a v : Nat) : Option (Content κ) :=
  match AL.get? c.edges k with
  | none => none
  | some x => some { c with edges := AL.set c.edges k (x.1, AL.set x.2 a v) }

/-- `set_incidence_metadata(edge, node, metadata)`: the hyperedge must exist (canonical key `k`); the entry is
stored under the key `(store, n)` (see `IncKey`); the node is not looked at -/
def setIncMeta (c : Content κ) (k : κ) (store : List Nat × List Nat) (n : Node) (md : Meta) : Option (Content κ) :=
  if AL.has c.edges k then some { c with inc := AL.set c.inc (store, n) md } else none

/-- `get_incidence_metadata(edge, node)` (`ValueError` without the hyperedge, `KeyError` without the entry) -/
def getIncMeta (c : Content κ) (k : κ) (store : List Nat × List Nat) (n : Node) : Option Meta :=
  if AL.has c.edges k then AL.get? c.inc (store, n) else none

/-- `get_incidence_metadata(edge, node)[field] = value` (the getter returns the stored dict itself) -/
def setIncAttr (c : Content κ) (k : κ) (store : List Nat × List Nat) (n : Node) (a v : Nat) : Option (Content κ) :=
  match getIncMeta c k store n with
  | none => none
  | some md => some { c with inc := AL.set c.inc (store, n) (AL.set md a v) }

/-- `Hypergraph.add_empty_edge(name, metadata)`: a name that is already there raises -/
def addEmptyEdge (c : Content κ) (name : Nat) (md : Meta) : Option (Content κ) :=
  if AL.has c.emptyEdges name then none else some { c with emptyEdges := c.emptyEdges ++ [(name, md)] }

/-- `set_hypergraph_metadata(metadata)` -/
def setHyperMeta (c : Content κ) (md : Meta) : Content κ := { c with hmeta := md }

/-- `set_attr_to_hypergraph_metadata(field, value)` -/
def setHyperAttr (c : Content κ) (a v : Nat) : Content κ := { c with hmeta := AL.set c.hmeta a v }

/-! ## node batches, node removal, `clear()` -/

/-- `add_nodes(node_list)` / `Hypergraph.add_nodes(node_list, metadata)`: with a metadata table the whole batch is
validated first (every node needs an entry, else `ValueError` and nothing is added), then `add_node(node, metadata[node])`
one by one (so a node that already has non-empty metadata keeps it) -/
def addNodes (c : Content κ) (ns : List Node) (tbl : Option (List (Node × Meta))) : Option (Content κ) :=
  match tbl with
  | none => some (touchAll c ns)
  | some t =>
    if ns.all (fun n => AL.has t n) then some (ns.foldl (fun h n => addNode h n ((AL.get? t n).getD [])) c)
    else none

/-- one round of the `keep_edges=True` loop of `remove_node`:
`self.add_edge(<edge without node>, weight=self.get_weight(edge), metadata=self.get_edge_metadata(edge))` -/
def shrinkInto (n : Node) (h : Content κ) (k : κ) : Option (Content κ) :=
  match Keyed.without n k with
  | none => some h
  | some k' => do
    let w ← getWeight h k
    let md ← getEdgeMeta h k
    addEdge h k' (some w) md

/-- the node is source and target of one hyperedge (never for `Hypergraph`) -/
def onBothSides (c : Content κ) (n : Node) : Bool := (AL.keys c.edges).any (Keyed.twice n)

/-- `remove_node(node, keep_edges)`: `KeyError` for an absent node; with `keep_edges` every incident hyperedge is
re-inserted without the node (weights add up on a hyperedge that exists already, metadata replaced); then the incident
hyperedges are removed one by one; then the node leaves the node table.  Incidence metadata is not touched.
NOT modelled: a node that is source AND target of one directed hyperedge - there the code removes that hyperedge twice,
the second `remove_edge` raises half-way (outside C02's quantifier); the model answers `none` and the correspondence
never sends such a call (harness `on_both_sides`). -/
def removeNode (c : Content κ) (n : Node) (keep : Bool) : Option (Content κ) :=
  if !AL.has c.nodes n then none
  else if onBothSides c n then none
  else do
    let es := Keyed.incident n (AL.keys c.edges)
    let c1 ← if keep then es.foldlM (shrinkInto n) c else some c
    let c2 ← es.foldlM removeEdge c1
    some { c2 with nodes := AL.erase c2.nodes n }

/-- `clear()`: nodes, hyperedges and incidence metadata are emptied; the weighted flag stays; `Hypergraph.clear()` also empties
the hypergraph-level metadata and the empty edges, `DirectedHypergraph.clear()` keeps both (`Keyed.clearsHyper`) -/
def clear (c : Content κ) : Content κ :=
  { weighted := c.weighted, nodes := [], edges := [], inc := [],
    emptyEdges := if Keyed.clearsHyper κ then [] else c.emptyEdges,
    hmeta := if Keyed.clearsHyper κ then [] else c.hmeta }

/-! ## histories -/

inductive Op (κ : Type) where
  | addNode (n : Node) (md : Meta)
  | addEdge (k : κ) (w : Option W) (md : Meta)
  | removeEdge (k : κ)
  | setWeight (k : κ) (w : W)
  | setNodeMeta (n : Node) (md : Meta)
  | setEdgeMeta (k : κ) (md : Meta)
  | setNodeAttr (n : Node) (a v : Nat)
  | setEdgeAttr (k : κ) (a v : Nat)
  | setIncMeta (k : κ) (store : List Nat × List Nat) (n : Node) (md : Meta)
  | setIncAttr (k : κ) (store : List Nat × List Nat) (n : Node) (a v : Nat)
  | addEmptyEdge (name : Nat) (md : Meta)
  | setHyperMeta (md : Meta)
  | setHyperAttr (a v : Nat)
  | addNodes (ns : List Node) (tbl : Option (List (Node × Meta)))
  | removeNode (n : Node) (keep : Bool)
  | clear

/-- one call; `none` = the call raised -/
def apply? (c : Content κ) : Op κ → Option (Content κ)
  | .addNode n md => some (addNode c n md)
  | .addEdge k w md => addEdge c k w md
  | .removeEdge k => removeEdge c k
  | .setWeight k w => setWeight c k w
  | .setNodeMeta n md => setNodeMeta c n md
  | .setEdgeMeta k md => setEdgeMeta c k md
  | .setNodeAttr n a v => setNodeAttr c n a v
  | .setEdgeAttr k a v => setEdgeAttr c k a v
  | .setIncMeta k st n md => setIncMeta c k st n md
  | .setIncAttr k st n a v => setIncAttr c k st n a v
  | .addEmptyEdge name md => addEmptyEdge c name md
  | .setHyperMeta md => some (setHyperMeta c md)
  | .setHyperAttr a v => some (setHyperAttr c a v)
  | .addNodes ns tbl => addNodes c ns tbl
  | .removeNode n keep => removeNode c n keep
  | .clear => some (clear c)

/-- a rejected call leaves the object as it was -/
def step (c : Content κ) (op : Op κ) : Content κ := (apply? c op).getD c

def run (c : Content κ) (ops : List (Op κ)) : Content κ := ops.foldl step c

/-! ## selections -/

/-- order-preserving removal of repetitions (`dict.fromkeys(xs)`) -/
def dedup {α : Type} [DecidableEq α] : List α → List α
  | [] => []
  | x :: xs => x :: (dedup xs).filter (fun y => y ≠ x)

/-- `set(edge).issubset(set(nodes))` -/
def inside (ns : List Node) (k : κ) : Bool := (Keyed.members k).all (fun n => ns.contains n)

/-- `len(edge) - 1 == order` / `<= order` -/
def orderTest (upTo : Bool) (order : Int) (k : κ) : Bool :=
  if upTo then ((Keyed.size k : Nat) : Int) - 1 ≤ order else ((Keyed.size k : Nat) : Int) - 1 == order

/-- the hyperedge filter of `get_edges(order, size, up_to)`; `none` = both given (rejected).
`size` wins when given: `order = size - 1` -/
def edgeFilter (order size : Option Int) (upTo : Bool) : Option (κ → Bool) :=
  match order, size with
  | some _, some _ => none
  | none, none => some (fun _ => true)
  | some o, none => some (orderTest upTo o)
  | none, some s => some (orderTest upTo (s - 1))

/-! ## re-insertion of selected keys of a source into a hypergraph under construction -/

/-- `h.add_edge(edge, self.get_weight(edge), self.get_edge_metadata(edge))` when weighted,
`h.add_edge(edge, metadata=self.get_edge_metadata(edge))` when not -/
def reinsert (src h : Content κ) (k : κ) : Option (Content κ) := do
  let w ← getWeight src k
  let md ← getEdgeMeta src k
  addEdge h k (if src.weighted then some w else none) md

/-- `h.add_edges(edges, [self.get_weight(e) for e in edges])` / `h.add_edges(edges)`: every key is
added with empty metadata (the batch validations of `add_edges` - distinct keys, equal lengths -
hold by construction of the two lists) -/
def reinsertBare (src h : Content κ) (k : κ) : Option (Content κ) := do
  let w ← getWeight src k
  addEdge h k (if src.weighted then some w else none) []

/-- `h.set_edge_metadata(edge, self.get_edge_metadata(edge))` -/
def copyEdgeMeta (src h : Content κ) (k : κ) : Option (Content κ) := do
  let md ← getEdgeMeta src k
  setEdgeMeta h k md

/-- `h.set_node_metadata(node, self.get_node_metadata(node))` -/
def copyNodeMeta (src h : Content κ) (n : Node) : Option (Content κ) := do
  let md ← getNodeMeta src n
  setNodeMeta h n md

def keysOf (c : Content κ) : List κ := AL.keys c.edges
def nodesOf (c : Content κ) : List Node := AL.keys c.nodes

/-! ## the extraction functions -/

/-- `Hypergraph.subhypergraph(nodes)` -/
def induced (src : Content κ) (ns : List Node) : Option (Content κ) := do
  let h0 : Content κ := touchAll (empty src.weighted) ns
  let h1 ← ns.foldlM (copyNodeMeta src) h0
  ((keysOf src).filter (inside ns)).foldlM (reinsert src) h1

/-- `Hypergraph.subhypergraph_largest_component(size, order)`; `comp` is what
`largest_component(size, order)` returned (utils/cc.py, modelled in C08) -/
def largestComponentSub (src : Content κ) (comp : List Node) : Option (Content κ) := induced src comp

/-- the `sizes` list of `subhypergraph_by_orders` -/
def sizesArg (orders sizes : Option (List Int)) : Option (List Int) :=
  match orders, sizes with
  | none, none => none
  | some _, some _ => none
  | some os, none => some (os.map (· + 1))
  | none, some ss => some ss

/-- `self.get_edges(size=size)` -/
def keysOfSize (src : Content κ) (s : Int) : List κ := (keysOf src).filter (orderTest false (s - 1))

/-- `Hypergraph.subhypergraph_by_orders(orders, sizes, keep_nodes)` -/
def byOrders (src : Content κ) (orders sizes : Option (List Int)) (keepNodes : Bool) :
    Option (Content κ) := do
  let ss ← sizesArg orders sizes
  let h0 : Content κ := empty src.weighted
  let h1 ← if keepNodes then (nodesOf src).foldlM (copyNodeMeta src) (touchAll h0 (nodesOf src)) else some h0
  let h2 ← ((dedup ss).flatMap (keysOfSize src)).foldlM (reinsert src) h1
  if keepNodes then some h2 else (nodesOf h2).foldlM (copyNodeMeta src) h2

/-- `get_edges(order, size, up_to, subhypergraph=True, keep_isolated_nodes)` -/
def edgesSub (src : Content κ) (order size : Option Int) (upTo keepIso : Bool) :
    Option (Content κ) := do
  let p ← edgeFilter order size upTo
  let ks := (keysOf src).filter p
  let h0 : Content κ := if keepIso then touchAll (empty src.weighted) (nodesOf src) else empty src.weighted
  let h1 ← ks.foldlM (reinsertBare src) h0
  let h2 ← (nodesOf h1).foldlM (copyNodeMeta src) h1
  ks.foldlM (copyEdgeMeta src) h2

/-- `copy()` is `copy.deepcopy(self)`: an equal value that shares nothing -/
def copy (src : Content κ) : Content κ := src

/-! ## several objects side by side: a state array of slots (for source-unchanged / copy independence) -/

abbrev Slots (κ : Type) := List (Nat × Content κ)

/-- a mutation of the object in slot `i` -/
def mutateSlot (sl : Slots κ) (i : Nat) (op : Op κ) : Slots κ :=
  match AL.get? sl i with
  | none => sl
  | some c => AL.set sl i (step c op)

/-- `slot j := f(slot i)` for an extraction `f` (a raised exception assigns nothing) -/
def extractInto (sl : Slots κ) (i j : Nat) (f : Content κ → Option (Content κ)) : Slots κ :=
  match AL.get? sl i with
  | none => sl
  | some c => match f c with
    | none => sl
    | some r => AL.set sl j r

def runSlots (sl : Slots κ) (ops : List (Nat × Op κ)) : Slots κ :=
  ops.foldl (fun sl t => mutateSlot sl t.1 t.2) sl

/-- the mutations addressed to slot `i` -/
def opsFor (i : Nat) (ops : List (Nat × Op κ)) : List (Op κ) :=
  (ops.filter (fun t => t.1 = i)).map (·.2)

end C05
