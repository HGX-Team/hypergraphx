/-! # C11 - pattern tables of `hypergraphx/motifs/utils.py generate_motifs` (core Lean only)

Patterns on `n` labelled nodes (positions `0..n-1`) are bit masks over `hyperedges n`
(the list `A` of `generate_motifs`: all node subsets of size `n, n-1, .., 2`, each size in
`itertools.combinations` order); bit `i` = hyperedge `i` present (the `power_set` mask).
`classes n`, `labeling n`, `orbit n c` follow `generate_motifs`, `connected` follows
`_is_connected`, `applyPerm (edgePerm ..)` follows `relabel`. -/
namespace C11

abbrev HG := List (List Nat)

/-! ## small list utilities -/

def insertSorted (a : Nat) : List Nat → List Nat
  | [] => [a]
  | b :: bs => if a ≤ b then a :: b :: bs else b :: insertSorted a bs
/-- `sorted(..)` on node labels -/
def isort (l : List Nat) : List Nat := l.foldr insertSorted []

/-- `list(set(..))` up to order: first occurrences -/
def dedup {α} [BEq α] (l : List α) : List α :=
  l.foldl (fun acc x => if acc.contains x then acc else acc ++ [x]) []

/-- `itertools.combinations(xs, k)` -/
def subsetsOfSize : Nat → List Nat → List (List Nat)
  | 0, _ => [[]]
  | _+1, [] => []
  | k+1, x :: xs => (subsetsOfSize k xs).map (x :: ·) ++ subsetsOfSize (k+1) xs

/-- `n, n-1, .., 2` -/
def sizesDesc (n : Nat) : List Nat := ((List.range (n+1)).reverse).filter (2 ≤ ·)

/-- the sub-hyperedges of size `n..2` of the node list `S`, in the order of `generate_motifs`' `A` -/
def hyperedgesOf (n : Nat) (S : List Nat) : List (List Nat) :=
  (sizesDesc n).flatMap fun k => subsetsOfSize k S

def hyperedges (n : Nat) : List (List Nat) := hyperedgesOf n (List.range n)

def insertions (x : Nat) : List Nat → List (List Nat)
  | [] => [[x]]
  | y :: ys => (x :: y :: ys) :: (insertions x ys).map (y :: ·)
/-- all permutations (as lists `p` with `p[i]` = image of `i` when applied to `range n`) -/
def perms : List Nat → List (List Nat)
  | [] => [[]]
  | x :: xs => (perms xs).flatMap (insertions x)

/-! ## pattern tables (`generate_motifs`) -/

def nodeMask (e : List Nat) : Nat := e.foldl (fun a v => a ||| (1 <<< v)) 0

/-- `relabel` on one hyperedge, as a map on hyperedge indices: hyperedge `i` goes to the index of
`sorted(p[v] for v in e_i)` -/
def edgePerm (es : List (List Nat)) (p : List Nat) : List Nat :=
  es.map fun e => es.findIdx (· == isort (e.map fun v => p[v]!))

/-- bit `i` of `m`, moved to position `j` -/
def moveBit (m i j : Nat) : Nat := Nat.shiftLeft (Nat.land (Nat.shiftRight m i) 1) j
def applyPermGo : List Nat → Nat → Nat → Nat → Nat
  | [], _, _, acc => acc
  | j :: ts, i, m, acc => applyPermGo ts (i+1) m (Nat.lor acc (moveBit m i j))
/-- `relabel(edges, p)` on a mask: bit `i` of `m` moves to bit `tbl[i]` -/
def applyPerm (tbl : List Nat) (m : Nat) : Nat := applyPermGo tbl 0 m 0

/-- `_is_connected(edges, n)`: the present hyperedges cover all `n` nodes and one breadth-first
closure from the first hyperedge reaches all of them (`masks` = node masks of `hyperedges n`) -/
def connected (n : Nat) (masks : List Nat) (m : Nat) : Bool :=
  let present := (masks.zipIdx).filterMap fun (nm, i) => if m.testBit i then some nm else none
  match present with
  | [] => false
  | first :: _ =>
    let full := (1 <<< n) - 1
    let cover := present.foldl (· ||| ·) 0
    let step := fun (r : Nat) => present.foldl (fun r nm => if r &&& nm != 0 then r ||| nm else r) r
    let reach := (List.range n).foldl (fun r _ => step r) first
    cover == full && reach == full

def masks (n : Nat) : List Nat := (hyperedges n).map nodeMask
/-- one index table per node permutation -/
def tbls (n : Nat) : List (List Nat) := (perms (List.range n)).map (edgePerm (hyperedges n))
def numMasks (n : Nat) : Nat := 1 <<< (hyperedges n).length

/-- the loop of `generate_motifs`: a connected mask opens a new class unless one of its relabellings
is already a class -/
def genStep (n : Nat) (ms : List Nat) (tb : List (List Nat)) (acc : List Nat) (m : Nat) : List Nat :=
  if connected n ms m && !(tb.any fun t => acc.contains (applyPerm t m)) then acc ++ [m] else acc

def genClassesWith (n : Nat) (ms : List Nat) (tb : List (List Nat)) (count : Nat) : List Nat :=
  (List.range count).foldl (genStep n ms tb) []

/-- `isom_classes` of `generate_motifs(n)` in order of discovery (increasing mask) -/
def classes (n : Nat) : List Nat := genClassesWith n (masks n) (tbls n) (numMasks n)

/-- `mapping[c]`: the set of relabellings of the class representative `c` -/
def orbitWith (tb : List (List Nat)) (c : Nat) : List Nat := dedup (tb.map (applyPerm · c))
def orbit (n : Nat) (c : Nat) : List Nat := orbitWith (tbls n) c

/-- keys of `labeling`: every relabelling of every class -/
def labelingWith (tb : List (List Nat)) (cls : List Nat) : List Nat := dedup (cls.flatMap (orbitWith tb))
def labeling (n : Nat) : List Nat := labelingWith (tbls n) (classes n)

/-- smallest mask in the orbit (used by the specification, not by the passes) -/
def canonWith (tb : List (List Nat)) (m : Nat) : Nat := tb.foldl (fun best t => min best (applyPerm t m)) m
def canon (n : Nat) (m : Nat) : Nat := canonWith (tbls n) m

/-- the tail of every pass: `labeling[label] += 1` only `if labeled_motif in labeling`, then per
class the sum over `mapping[c]` -/
def tallyWith (tb : List (List Nat)) (cls lab : List Nat) (pats : List Nat) : List (Nat × Nat) :=
  let counted := pats.filter lab.contains
  cls.map fun c => (c, ((orbitWith tb c).map fun l => counted.count l).sum)

end C11
