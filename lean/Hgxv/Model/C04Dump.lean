import Hgxv.Model.C04
/-! # C04 - the serialisation dictionary of a `MultiplexHypergraph`

`expose_data_structures()` hands out the tables of the object in a dict keyed by NAMES, `populate_from_dict(data)`
reads them back with `data.get(name, default)`.  `save_hypergraph(h, path, binary=True)` pickles the first,
`load_hypergraph("*.hgx")` builds `MultiplexHypergraph(weighted=data["_weighted"])` and calls the second; `pickle` /
`copy.deepcopy` of the object itself copy the attribute dict.  A loaded object is a starting point (or a mid-point) of a
history like any other, so the model has to be able to say what it is: `reload s = populate (expose s)`.

Python                                   | model
-----------------------------------------|-----------------------------------------------------------
the dict returned by `expose_...`        | `Dump = List (String × Field)` (one constructor of `Field` per table type)
`data.get(name, default)`                | `lookup d name` + the `Store` default of that field
`_load_pickle` (type test, ctor, populate) | `loadDump`

A value of the wrong type under a name cannot be expressed in Python's `get` (it is simply stored); the model totalises it
to the default - `expose` never produces one.  Core Lean only. -/
namespace C04

inductive Field
  | str (s : String)
  | flag (b : Bool)
  | num (n : Nat)
  | hmeta (m : HMeta)
  | nmeta (m : List (Node × Meta))
  | emeta (m : List (Nat × Meta))
  | weights (m : List (Nat × Int))
  | edgeList (m : List (Key × Nat))
  | adj (m : List (Node × List Nat))
  | rev (m : List (Nat × Key))
  | layers (l : List Layer)
  deriving Repr

abbrev Dump := List (String × Field)

/-- `expose_data_structures()`: the key names are those of the Python method -/
def expose (s : Store) : Dump :=
  [ ("type", .str "MultiplexHypergraph"),
    ("hypergraph_metadata", .hmeta s.hmeta),
    ("node_metadata", .nmeta s.nmeta),
    ("edge_metadata", .emeta s.emeta),
    ("_weighted", .flag s.weighted),
    ("_weights", .weights s.weights),
    ("_edge_list", .edgeList s.edgeList),
    ("_adj", .adj s.adj),
    ("reverse_edge_list", .rev s.rev),
    ("next_edge_id", .num s.nextId),
    ("existing_layers", .layers s.layers) ]

/-- `data.get(name)` -/
def lookup : Dump → String → Option Field
  | [], _ => none
  | (k, v) :: t, name => if k = name then some v else lookup t name

/-- `populate_from_dict(data)`: every table is read by name, a missing name gives the empty table / `False` / `0` -/
def populate (d : Dump) : Store :=
  { hmeta := match lookup d "hypergraph_metadata" with | some (.hmeta m) => m | _ => []
    nmeta := match lookup d "node_metadata" with | some (.nmeta m) => m | _ => []
    emeta := match lookup d "edge_metadata" with | some (.emeta m) => m | _ => []
    weighted := match lookup d "_weighted" with | some (.flag b) => b | _ => false
    weights := match lookup d "_weights" with | some (.weights m) => m | _ => []
    edgeList := match lookup d "_edge_list" with | some (.edgeList m) => m | _ => []
    adj := match lookup d "_adj" with | some (.adj m) => m | _ => []
    rev := match lookup d "reverse_edge_list" with | some (.rev m) => m | _ => []
    nextId := match lookup d "next_edge_id" with | some (.num n) => n | _ => 0
    layers := match lookup d "existing_layers" with | some (.layers l) => l | _ => [] }

/-- `_load_pickle`: the dict must say it is a multiplex hypergraph and carry `_weighted` (`data["_weighted"]` raises
otherwise); the freshly constructed object is then overwritten table by table -/
def loadDump (d : Dump) : Option Store :=
  match lookup d "type", lookup d "_weighted" with
  | some (.str "MultiplexHypergraph"), some (.flag _) => some (populate d)
  | _, _ => none

/-- save (binary) and load again / `populate_from_dict(expose_data_structures())` -/
def reload (s : Store) : Store := populate (expose s)

/-- names of the serialisation dictionary (compared with the keys of the real dict by the harness) -/
def dumpKeys (s : Store) : List String := (expose s).map (·.1)

/-- `edge_overlap` walks a SET of layer names: any order of the registry -/
def overlapIn (s : Store) (order : List Layer) (raw : List Node) : Int :=
  (order.map (fun l => (getWeight s raw l).getD 0)).sum

end C04
