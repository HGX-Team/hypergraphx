import Hgxv.Model.C14Meta
/-!
# C14: the `seed` option of every seeded routine as a program over the named sources; objects with their tables

`add_random_edge`, `add_random_edges` seed and draw from **random**; `random_shuffle` seeds **np.random**, draws the
indices from **random** (never seeded by the routine) and the replacement nodes from **np.random**.  `seed` is an
`Option Nat`: `if seed is not None` - `some 0` seeds like any other seed.  Then the object store whose objects carry all
their tables (`HeapM`, `poke`) and the concrete generators of the examples (`demoRNG`, `demoChoice`).  Core Lean only.
-/
namespace C14


/-- `add_random_edge(hg, order, size, inplace, seed)`: argument check, THEN `random.seed`, then one `random.sample`
    (which raises - without a draw - when `size` exceeds the number of nodes) -/
def addRandomEdgeS {σ} (g : RNG σ) (h : HG) (order size : Option Nat) (inplace : Bool) (seed : Option Nat)
    (w : World σ) : Option CallResult × World σ :=
  match resolveSize order size with
  | none => (none, w)
  | some s =>
    let w1 := seedPy g seed w
    if s ≤ h.nodes.length then
      let r := g.sample w1.py h.nodes s
      (addRandomEdge h order size inplace r.1, { w1 with py := r.2 })
    else (none, w1)

/-- `while len(edges) < k: edges.add(tuple(sorted(random.sample(nodes, size))))` run on a generator: the draws it
    takes.  `fuel` bounds the number of draws (STATED fuel: the loop of the code has no bound; a run that needs more
    than `fuel` draws is reported as "did not return", see `addRandomEdgesS`). -/
def drawUntil {σ} (g : RNG σ) (pop : List Nat) (size k : Nat) : Nat → List Edge → σ → List (List Nat) × σ
  | 0, _, s => ([], s)
  | f + 1, acc, s =>
    if acc.length < k then
      let r := g.sample s pop size
      let rest := drawUntil g pop size k f (insNew acc (sortE r.1)) r.2
      (r.1 :: rest.1, rest.2)
    else ([], s)

/-- `add_random_edges(hg, k, order, size, inplace, seed)` within `fuel` draws; `none` = rejected arguments / `sample`
    raised / the loop did not stop within `fuel` draws -/
def addRandomEdgesS {σ} (g : RNG σ) (h : HG) (k : Nat) (order size : Option Nat) (inplace : Bool) (seed : Option Nat)
    (fuel : Nat) (w : World σ) : Option CallResult × World σ :=
  match resolveSize order size with
  | none => (none, w)
  | some s =>
    let w1 := seedPy g seed w
    if k = 0 ∨ s ≤ h.nodes.length then
      let r := drawUntil g h.nodes s k fuel [] w1.py
      (if consumedExactly k [] r.1 then addRandomEdges h k order size inplace r.1 else none, { w1 with py := r.2 })
    else (none, w1)

/-- `np.random.choice(pool, size, replace=False, p=weights)`: state, pool, (unnormalised) weights, size -/
abbrev Choice (σ : Type) := σ → List Nat → List Nat → Nat → List Nat × σ

/-- one `np.random.choice` per selected position, in the order of `current_edges` -/
def drawChoices {σ} (c : Choice σ) (pl wts : List Nat) (size : Nat) (idx : List Nat) :
    List (Edge × Rec) → Nat → σ → List (List Nat) × σ
  | [], _, s => ([], s)
  | _ :: rest, i, s =>
    if i ∈ idx then
      let r := c s pl wts size
      let more := drawChoices c pl wts size idx rest (i + 1) r.2
      (r.1 :: more.1, more.2)
    else drawChoices c pl wts size idx rest (i + 1) s

/-- `random_shuffle(hg, order, size, inplace, p = pn/pd, preserve_degree, seed)`: argument checks, `np.random.seed`,
    `random.sample(range(m), int(p*m))` from **random**, the replacement nodes from **np.random** -/
def randomShuffleS {σ} (g : RNG σ) (c : Choice σ) (h : HG) (order size : Option Nat) (inplace : Bool) (pn : Int)
    (pd : Nat) (preserve : Bool) (seed : Option Nat) (w : World σ) : Option CallResult × World σ :=
  match resolveSize order size with
  | none => (none, w)
  | some s =>
    if 0 ≤ pn ∧ pn ≤ pd then
      let w1 := seedNp g seed w
      let cur := edgesOfSize h s
      let r := g.sample w1.py (List.range cur.length) (numToRandomize pn.toNat pd cur.length)
      let ch := drawChoices c (pool cur r.1) (poolWeights cur r.1 preserve) s r.1 cur 0 w1.np
      (randomShuffle h order size inplace pn pd r.1 ch.1, { py := r.2, np := ch.2 })
    else (none, w)

/-- the seeded BUG `if seed:` for `if seed is not None:` - a witness only (no theorem is about it): seed 0 is ignored -/
def seedPyTruthy {σ} (g : RNG σ) (seed : Option Nat) (w : World σ) : World σ :=
  match seed with
  | some 0 => w
  | some s => { w with py := g.seed s }
  | none => w

/-! ### objects WITH their tables: how deep `copy()` is
An object of this store is a hypergraph with all its tables (`HGM`: content incl. weights and hyperedge metadata, node
metadata, hypergraph metadata, incidence metadata).  `hg.copy()` allocates a new object whose tables are VALUES of
their own (no table, weight or metadata record is shared with the argument): writing into the new object is `AL.set`
at ITS id with any new content. -/
abbrev HeapM := List (Nat × HGM)

def freshIdM (H : HeapM) : Nat := (AL.keys H).foldl max 0 + 1

def finishObjM (H : HeapM) (a : Nat) (inplace : Bool) (m' : HGM) : HeapM × Option Nat :=
  if inplace then (AL.set H a m', none) else (AL.set H (freshIdM H) m', some (freshIdM H))

def finishObjAllM (H : HeapM) (a : Nat) (inplace : Bool) (m' : HGM) : HeapM × Option Nat :=
  if inplace then (AL.set H a m', some a) else (AL.set H (freshIdM H) m', some (freshIdM H))

/-- a later mutation of an object by the caller: ANY new content and tables -/
def poke (H : HeapM) (r : Nat) (x : HGM) : HeapM := AL.set H r x

/-- a concrete generator algorithm for the examples: the state is a counter, `seed s` sets it to `s`, a sample is the
population rotated by the state -/
def demoRNG : RNG Nat where
  seed := fun s => s
  sample := fun s pop k => ((pop.rotateLeft (s % (pop.length + 1))).take k, s + 1)

/-- a concrete `np.random.choice` for the examples: the pool rotated by the state -/
def demoChoice : Choice Nat := fun s pl _ k => ((pl.rotateLeft (s % (pl.length + 1))).take k, s + 1)

end C14
