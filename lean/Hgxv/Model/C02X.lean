import Hgxv.Model.C02
/-! # C02 - `get_edges(..., subhypergraph=True)`, the raw tables, the dunder methods

Core Lean only (compiled into `driver_c02`).  Same `namespace C02`; this file sits on top of `Hgxv/Model/C02.lean`.

* **Extraction** `get_edges(order, size, up_to, subhypergraph=True, keep_isolated_nodes)`: written as the code is, i.e. as the
  list of calls of the PUBLIC MUTATORS (`Op`) that the routine makes on a fresh `DirectedHypergraph(weighted=self._weighted)`:
  `add_nodes(list(self.get_nodes()))` (only with `keep_isolated_nodes`), `add_edges(edges[, [get_weight(e) ...]])`,
  `set_node_metadata(n, self.get_node_metadata(n))` for every node of the NEW object, `set_edge_metadata(e,
  self.get_edge_metadata(e))` for every selected hyperedge (`subProgram`).  A read of `self` that raises, or a call on the new
  object that raises, makes the whole call raise (`none`; Python throws the half-built object away).
  `Spec.sub` is what the property's words say the result is: the selected part of the abstract object, as filter / map.
* `getEdgesCall`: the option check of `get_edges` (`order` and `size` together, `keep_isolated_nodes` without
  `subhypergraph`).
* **Raw tables** `Tables` / `expose`: what `expose_data_structures()`, `get_edge_list()`, `get_adj_dict('source'|'target')`
  hand out - the ten attributes themselves, IN THEIR ORDER (dict insertion order, list order).
* `len`, `iterItems`, `strParts`, `isWeighted`: `__len__`, `__iter__`, `__str__`, `is_weighted`.
* **The whole object** `Full` = `Store` + `_incidences_metadata` (keyed by the CANONICAL hyperedge and the node; the node is
  not checked; never pruned by `remove_edge` / `remove_node`, so an entry of a removed hyperedge shows again when the
  hyperedge is re-inserted; emptied by `clear()`; copied by `copy()`; not carried into a subhypergraph).  `FOp` = every `Op` +
  `set_incidence_metadata`; queries `getInc` (`get_incidence_metadata`: `ValueError` for an absent hyperedge, `KeyError`
  for a missing entry) and `allInc`.  `FSpec` is the same over the abstract object. -/
namespace C02
open AL

/-! ### extraction -/

/-- `DirectedHypergraph(weighted=w)` -/
def fresh (w : Bool) : Store := { weighted := w, hmeta := ctorHMeta none w }

/-- `[f x for x in l]` where `f` may raise -/
def collect {α β : Type} (f : α → Option β) : List α → Option (List β)
  | [] => some []
  | a :: l =>
    match f a, collect f l with
    | some b, some r => some (b :: r)
    | _, _ => none

/-- the calls `add_nodes` / `add_edges` of the routine, given the reads of `self` (`self._weighted`, `self.get_nodes()`,
    `self.get_weight`); `none`: `self.get_weight(edge)` raised -/
def subOps1G (weighted : Bool) (nodeList : List Node) (weightOf : RawEdge → Option Int) (ks : List Key) (keep : Bool) :
    Option (List Op) :=
  let pre : List Op := if keep then [Op.addNodes nodeList] else []
  let es := ks.map RawEdge.ofKey
  if weighted then
    (collect (fun k => weightOf (RawEdge.ofKey k)) ks).map (fun ws => pre ++ [Op.addEdges es (some ws) none])
  else some (pre ++ [Op.addEdges es none none])

/-- `for node in h.get_nodes(): h.set_node_metadata(node, self.get_node_metadata(node))` -/
def subOps2G (nodeMetaOf : Node → Option Meta) (ns : List Node) : Option (List Op) :=
  collect (fun n => (nodeMetaOf n).map (fun md => Op.setNodeMeta n md)) ns

/-- `for edge in edges: h.set_edge_metadata(edge, self.get_edge_metadata(edge))` -/
def subOps3G (edgeMetaOf : RawEdge → Option Meta) (ks : List Key) : Option (List Op) :=
  collect (fun k => (edgeMetaOf (RawEdge.ofKey k)).map (fun md => Op.setEdgeMeta (RawEdge.ofKey k) md)) ks

/-- every call the routine makes on the new object, in order.  `selected` = the hyperedges `get_edges` selected,
    `nodesAfter o1` = `h.get_nodes()` after the calls `o1`. -/
def subProgramG (weighted : Bool) (nodeList : List Node) (weightOf : RawEdge → Option Int)
    (nodeMetaOf : Node → Option Meta) (edgeMetaOf : RawEdge → Option Meta) (nodesAfter : List Op → List Node)
    (selected : Option (List Key)) (keep : Bool) : Option (List Op) :=
  match selected with
  | none => none
  | some ks =>
    match subOps1G weighted nodeList weightOf ks keep with
    | none => none
    | some o1 =>
      match subOps2G nodeMetaOf (nodesAfter o1), subOps3G edgeMetaOf ks with
      | some o2, some o3 => some (o1 ++ o2 ++ o3)
      | _, _ => none

/-- the routine reading the concrete tables -/
def subProgram (s : Store) (f : Filt) (upTo keep : Bool) : Option (List Op) :=
  subProgramG s.weighted (nodes s) (getWeight s) (nodeMeta s) (edgeMeta s)
    (fun o1 => nodes (run (fresh s.weighted) o1)) (edges s f upTo) keep

/-- run a list of calls; `none` as soon as one raises -/
def runOk (s : Store) : List Op → Option Store
  | [] => some s
  | o :: os =>
    match (applyOp s o).2 with
    | .ok => runOk (applyOp s o).1 os
    | .rej => none

/-- `self.get_edges(order, size, up_to, subhypergraph=True, keep_isolated_nodes=keep)`; `none`: the call raised -/
def subHG (s : Store) (f : Filt) (upTo keep : Bool) : Option Store :=
  (subProgram s f upTo keep).bind (runOk (fresh s.weighted))

/-! the same routine on the abstract object (reads and writes of a set of nodes plus a map) -/

def Spec.fresh (w : Bool) : Spec := { weighted := w, hmeta := ctorHMeta none w }

def Spec.subProgram (s : Spec) (f : Filt) (upTo keep : Bool) : Option (List Op) :=
  subProgramG s.weighted s.nodeList s.getWeight s.nodeMeta s.edgeMeta
    (fun o1 => (Spec.run (Spec.fresh s.weighted) o1).nodeList) (s.edgesF f upTo) keep

def Spec.runOk (s : Spec) : List Op → Option Spec
  | [] => some s
  | o :: os =>
    match (Spec.applyOp s o).2 with
    | .ok => Spec.runOk (Spec.applyOp s o).1 os
    | .rej => none

def Spec.subHG (s : Spec) (f : Filt) (upTo keep : Bool) : Option Spec :=
  (Spec.subProgram s f upTo keep).bind (Spec.runOk (Spec.fresh s.weighted))

/-- what `get_edges` returns -/
inductive EdgesAns
  | keys (l : List Key)
  | withMeta (l : List (Key × Meta))
  | hg (h : Store)
  deriving Repr

/-- `get_edges(order, size, up_to, subhypergraph, keep_isolated_nodes, metadata)` with all its options -/
def getEdgesCall (s : Store) (f : Filt) (upTo sub keep md : Bool) : Option EdgesAns :=
  if f.target.isNone then none
  else if !sub && keep then none
  else if sub then (subHG s f upTo keep).map EdgesAns.hg
  else if md then (edgesMeta s f upTo).map EdgesAns.withMeta
  else (edges s f upTo).map EdgesAns.keys

/-- first occurrences, in order (`add_node` creates a row only for a node that has none) -/
def addK (acc : List Node) (n : Node) : List Node := if acc.contains n then acc else acc ++ [n]
def firstOcc (l : List Node) : List Node := l.foldl addK []

/-- the selected part of the abstract object: hyperedges that pass the filter with their weight and metadata; all
    nodes (`keep_isolated_nodes`) or the endpoints of the selected hyperedges, with their metadata -/
def Spec.sub (s : Spec) (f : Filt) (upTo keep : Bool) : Option Spec :=
  f.target.map (fun t =>
    let es := s.edges.filter (fun p => passes t upTo p.1)
    let ends := firstOcc (es.flatMap (fun p => p.1.1 ++ p.1.2))
    { weighted := s.weighted
      nodes := if keep then s.nodes else ends.map (fun n => (n, (get? s.nodes n).getD []))
      edges := es
      hmeta := ctorHMeta none s.weighted })

/-! ### raw tables -/

/-- `expose_data_structures()` (the `type` entry is a constant) -/
structure Tables where
  weighted : Bool
  adjSource : Adj
  adjTarget : Adj
  edgeList : List (Key × Nat)
  weights : List (Nat × Int)
  hmeta : Meta
  nodeMeta : List (Node × Meta)
  edgeMeta : List (Nat × Meta)
  reverse : List (Nat × Key)
  nextId : Nat
  deriving DecidableEq, Repr

def expose (s : Store) : Tables :=
  ⟨s.weighted, s.adjS, s.adjT, s.edgeList, s.weights, s.hmeta, s.nmeta, s.emeta, s.rev, s.nextId⟩

/-- `get_edge_list()` -/
def getEdgeList (s : Store) : List (Key × Nat) := s.edgeList
/-- `get_adj_dict(source_target)`: `true` = 'source', `false` = 'target' -/
def getAdjDict (s : Store) (source : Bool) : Adj := if source then s.adjS else s.adjT

/-! ### dunder methods -/

/-- `len(h)` -/
def len (s : Store) : Nat := s.edgeList.length
/-- `iter(h)`: `(hyperedge, id)` pairs -/
def iterItems (s : Store) : List (Key × Nat) := s.edgeList
/-- the three numbers `str(h)` prints -/
def strParts (s : Store) : Nat × Nat × List (Nat × Nat) := (numNodes s, numEdges s, distSizes s)
/-- `is_weighted()` -/
def isWeighted (s : Store) : Bool := s.weighted

/-! ### the whole object: incidence metadata -/

abbrev IncTable := List ((Key × Node) × Meta)

structure Full where
  base : Store := {}
  inc : IncTable := []
  deriving DecidableEq, Repr

inductive FOp
  | base (o : Op)
  | setInc (e : RawEdge) (n : Node) (md : Meta)
  deriving Repr

/-- `set_incidence_metadata(edge, node, metadata)` given the membership test of the hyperedge table -/
def setIncG (present : Key → Bool) (inc : IncTable) (e : RawEdge) (n : Node) (md : Meta) : IncTable × Out :=
  match canonStrict e with
  | none => (inc, .rej)
  | some k => if present k then (set inc (k, n) md, .ok) else (inc, .rej)

/-- `get_incidence_metadata(edge, node)` -/
def getIncG (present : Key → Bool) (inc : IncTable) (e : RawEdge) (n : Node) : Option Meta :=
  match canonStrict e with
  | none => none
  | some k => if present k then get? inc (k, n) else none

def isClear : Op → Bool
  | .clear => true
  | _ => false

def Full.apply (x : Full) : FOp → Full × Out
  | .base o =>
    let r := applyOp x.base o
    ({ base := r.1, inc := if isClear o then [] else x.inc }, r.2)
  | .setInc e n md =>
    let r := setIncG (fun k => has x.base.edgeList k) x.inc e n md
    ({ x with inc := r.1 }, r.2)

def Full.run (x : Full) : List FOp → Full
  | [] => x
  | o :: os => Full.run (Full.apply x o).1 os

def Full.getInc (x : Full) (e : RawEdge) (n : Node) : Option Meta :=
  getIncG (fun k => has x.base.edgeList k) x.inc e n
/-- `get_all_incidences_metadata()` -/
def Full.allInc (x : Full) : IncTable := x.inc

structure FSpec where
  base : Spec := {}
  inc : IncTable := []
  deriving DecidableEq, Repr

def FSpec.apply (x : FSpec) : FOp → FSpec × Out
  | .base o =>
    let r := Spec.applyOp x.base o
    ({ base := r.1, inc := if isClear o then [] else x.inc }, r.2)
  | .setInc e n md =>
    let r := setIncG (fun k => has x.base.edges k) x.inc e n md
    ({ x with inc := r.1 }, r.2)

def FSpec.run (x : FSpec) : List FOp → FSpec
  | [] => x
  | o :: os => FSpec.run (FSpec.apply x o).1 os

def FSpec.getInc (x : FSpec) (e : RawEdge) (n : Node) : Option Meta :=
  getIncG (fun k => has x.base.edges k) x.inc e n

def fabs (x : Full) : FSpec := { base := abs x.base, inc := x.inc }

end C02
