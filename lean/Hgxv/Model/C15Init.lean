import Hgxv.Model.C15
/-! # C15 — construction, initial draws and the guarded run of `fit` (core Lean only)

Extension round: the parts of `HyMMSBM` that `Model/C15.lean` takes as parameters or leaves to hypotheses.

* `HyMMSBM.__init__` / `_check_and_infer_param_consistency`      ↔ `Ctor`, `CtorErr`, `Hyper`, `inferAssortative`, `inferK`, `construct`
* the prior arguments (`float` or array; `isinstance(.., float) and .. == 0.0`) ↔ `Prior`, `Prior.mat`, `Prior.isZeroFloat`
* `_init_w` (all four branches: uniform / exponential draw, `np.triu(w, 0) + np.triu(w, 1).T`,
  `np.diag(np.diag(w))`, `np.diag(rng.exponential(prior_mean))`, `prior_mean = 1 / prior`) ↔ `symUpper`, `diagOnly`, `initWMat`, `initW`, `initWOk`
* `_init_u` (three branches)                                     ↔ `initUMat`, `initU`, `initUOk`
* the loop of `fit` as the code runs it INCLUDING `multiplier = hye_weights / poisson_params` failing
  (division by a vanishing Poisson parameter: `inf` / `nan` in binary64, `ZeroDivisionError` in exact arithmetic)
                                                                 ↔ `emStep?`, `emLoop?`
* the whole path `HyMMSBM(K, u, w, assortative, max_hye_size, u_prior, w_prior, seed).fit(H, n_iter, tolerance,
  check_convergence_every)` from the RAW draws of the generator ↔ `Seed`, `Outcome`, `fitSeed`
* `HyMMSBM.log_likelihood` (its two rational ingredients; the logarithm is taken in `Proofs/C15Init.lean`) ↔ `logLikParts`

The raw draws are what the generator hands out before the code touches them: `rng.random(shape)` (uniform) resp. the
standard exponential variates `g` of `rng.exponential(scale) = scale * g` (NumPy's definition; trusted). -/
namespace C15

/-! ## priors as the code sees them -/

/-- `u_prior` / `w_prior`: a Python float or an array -/
inductive Prior where
  | scalar (q : Rat)
  | array (r : List (List Rat))

/-- the rate matrix the updates add to their denominators (a float broadcasts) -/
def Prior.mat : Prior → Mat
  | .scalar q => fun _ _ => q
  | .array r => matOf r

/-- `isinstance(prior, float) and prior == 0.0` -/
def Prior.isZeroFloat : Prior → Bool
  | .scalar q => q == 0
  | .array _ => false

/-! ## `__init__`: `_check_and_infer_param_consistency` -/

/-- the arguments `K`, `u`, `w`, `assortative` of the constructor -/
structure Ctor where
  K : Option Nat
  u : Option (List (List Rat))
  w : Option (List (List Rat))
  assortative : Option Bool

/-- the `ValueError`s of `_check_and_infer_param_consistency`, in the order of the code -/
inductive CtorErr where
  | noAssortative | noK | wNegative | wNotSymmetric | wNotDiagonal | uNegative | kMismatch
  deriving DecidableEq, Repr

/-- `K` and `assortative` of the constructed object (given or inferred) -/
structure Hyper where
  K : Nat
  assortative : Bool
  deriving DecidableEq, Repr

/-- `np.any(x < 0)` -/
def anyNeg (x : List (List Rat)) : Bool := x.any fun row => row.any fun v => decide (v < 0)

/-- `np.all(np.triu(w, 1) == 0)` for a `K × K` array -/
def upperZero (K : Nat) (w : Mat) : Bool := allTo K fun a => allTo K fun b => decide (a < b → w a b = 0)

/-- `np.all(w == w.T)` for a `K × K` array -/
def symmetricB (K : Nat) (w : Mat) : Bool := allTo K fun a => allTo K fun b => decide (w a b = w b a)

/-- `u.shape[1]` -/
def ncols (u : List (List Rat)) : Nat := (u.headD []).length

/-- `if self.assortative is None: ... np.all(np.triu(self.w, 1) == 0)` -/
def inferAssortative (c : Ctor) : Option Bool :=
  match c.assortative with
  | some a => some a
  | none => c.w.map fun w => upperZero w.length (matOf w)

/-- `if self.K is None: ...` (`w.shape[0]` wins over `u.shape[1]`) -/
def inferK (c : Ctor) : Option Nat :=
  match c.K with
  | some K => some K
  | none =>
    match c.w with
    | some w => some w.length
    | none => c.u.map ncols

/-- the checks on `w` (only made when `w` is supplied) -/
def checkW (ass : Bool) (w : List (List Rat)) : Option CtorErr :=
  if anyNeg w then some .wNegative
  else if !symmetricB w.length (matOf w) then some .wNotSymmetric
  else if ass && !upperZero w.length (matOf w) then some .wNotDiagonal
  else none

/-- `_check_and_infer_param_consistency`: accepted (with the inferred `K`, `assortative`) or the first error -/
def construct (c : Ctor) : Except CtorErr Hyper :=
  match inferAssortative c with
  | none => .error .noAssortative
  | some ass =>
    match inferK c with
    | none => .error .noK
    | some K =>
      match c.w.bind (checkW ass) with
      | some e => .error e
      | none =>
        if (c.u.map anyNeg).getD false then .error .uNegative
        else
          match c.u, c.w with
          | some u, some w => if ncols u = w.length then .ok { K := K, assortative := ass } else .error .kMismatch
          | _, _ => .ok { K := K, assortative := ass }

/-! ## `_init_w`, `_init_u` -/

/-- `np.triu(x, 0) + np.triu(x, 1).T` -/
def symUpper (x : Mat) : Mat := fun a b => if a ≤ b then x a b else x b a

/-- `np.diag(np.diag(x))` -/
def diagOnly (x : Mat) : Mat := fun a b => if a = b then x a b else 0

/-- `_init_w` on the raw draws `g`: `rng.random((K, K))` when the prior is the float `0.0`; else the standard
exponential variates behind `rng.exponential(prior_mean)` - a `K`-vector (row 0 of `g`) in the assortative branch
(`prior_mean = np.diag(np.eye(K) / w_prior)` resp. `1 / np.diag(w_prior)`), a `K × K` array otherwise
(`prior_mean = np.ones((K, K)) / w_prior` resp. `1 / w_prior`) -/
def initWMat (ass : Bool) (prior : Prior) (g : Mat) : Mat :=
  if prior.isZeroFloat then
    (if ass then diagOnly (symUpper g) else symUpper g)
  else if ass then
    fun a b => if a = b then (1 / prior.mat a a) * g 0 a else 0
  else
    symUpper fun a b => (1 / prior.mat a b) * g a b

def initW (K : Nat) (ass : Bool) (prior : Prior) (g : List (List Rat)) : List (List Rat) :=
  toRows K K (initWMat ass prior (matOf g))

/-- the exponential branches divide by the prior and hand `1 / prior` to the generator as a scale: every rate that is
read must be positive (`1 / 0 = inf`; a negative scale makes `rng.exponential` raise) -/
def initWOk (K : Nat) (ass : Bool) (prior : Prior) : Bool :=
  prior.isZeroFloat ||
    (if ass then allTo K fun a => decide (0 < prior.mat a a)
     else allTo K fun a => allTo K fun b => decide (0 < prior.mat a b))

/-- `_init_u(N)`: `rng.random((N, K))` when the prior is the float `0.0`, else `rng.exponential(1 / u_prior)` -/
def initUMat (prior : Prior) (g : Mat) : Mat :=
  if prior.isZeroFloat then g else fun i a => (1 / prior.mat i a) * g i a

def initU (N K : Nat) (prior : Prior) (g : List (List Rat)) : List (List Rat) :=
  toRows N K (initUMat prior (matOf g))

def initUOk (N K : Nat) (prior : Prior) : Bool :=
  prior.isZeroFloat || allTo N fun i => allTo K fun a => decide (0 < prior.mat i a)

/-! ## the loop with its failing division -/

/-- one pass of the loop body as the code runs it: each update that is made first forms
`multiplier = hye_weights / poisson_params`; `none` = a Poisson parameter of the data is 0 there -/
def emStep? (d : Data) (fixedU fixedW : Bool) (ru rw : Mat) (p : Params) : Option Params :=
  match (if fixedW then some p.w else (wUpdate? d (matOf p.u) (matOf p.w) rw).map (toRows d.K d.K)) with
  | none => none
  | some w' =>
    match (if fixedU then some p.u else (uUpdate? d (matOf p.u) (matOf w') ru).map (toRows d.N d.K)) with
    | none => none
    | some u' => some { u := u', w := w' }

/-- `n` passes, `none` as soon as one division fails -/
def emLoop? (d : Data) (fixedU fixedW : Bool) (ru rw : Mat) : Nat → Params → Option Params
  | 0, p => some p
  | n + 1, p => (emLoop? d fixedU fixedW ru rw n p).bind (emStep? d fixedU fixedW ru rw)

/-! ## the whole path from the constructor arguments and the raw draws -/

/-- everything `HyMMSBM(..).fit(..)` depends on: constructor arguments, the raw draws the seeded generator hands out
(`gw` first: `_init_w` is called before `_init_u`), the value of `np.sqrt(C())`, the arguments of `fit` -/
structure Seed where
  ctor : Ctor
  Dsup : Option Nat
  uPrior : Prior
  wPrior : Prior
  gw : List (List Rat)
  gu : List (List Rat)
  sqrtC : Rat
  stop : Option Stop
  n : Nat

inductive Outcome where
  /-- the constructor raises -/
  | ctorErr (e : CtorErr)
  /-- an initial draw needs `1 / prior` of a rate that is not positive -/
  | badPrior
  /-- `fit` raises (`max_hye_size` too small; `check_convergence_every = 0` with a tolerance) -/
  | rej
  /-- a Poisson parameter of the data vanished before an update: the parameters are not finite -/
  | nonfinite
  /-- `fit` returns: `max_hye_size`, the parameters, `training_iter`, `tolerance_reached` -/
  | ok (D : Nat) (p : Params) (it : Nat) (reached : Bool)

/-- the draw for the initial `w` of `fit`: `_init_w` when `w` is not supplied (`none` = bad prior); a placeholder `[]` when it is
(`fit` then reads the supplied array through `getD`, never this value) -/
def seedW0 (s : Seed) (h : Hyper) : Option (List (List Rat)) :=
  match s.ctor.w with
  | some _ => some []
  | none => if initWOk h.K h.assortative s.wPrior then some (initW h.K h.assortative s.wPrior s.gw) else none

/-- the draw for the initial `u` of `fit`: `_init_u(num_nodes)` when `u` is not supplied, a placeholder `[]` when it is -/
def seedU0 (s : Seed) (h : Hyper) (N : Nat) : Option (List (List Rat)) :=
  match s.ctor.u with
  | some _ => some []
  | none => if initUOk N h.K s.uPrior then some (initU N h.K s.uPrior s.gu) else none

/-- `HyMMSBM(**ctor, max_hye_size=Dsup, u_prior, w_prior, seed).fit(H, n_iter=n, tolerance, check_convergence_every)`
on the hypergraph with `N` nodes, hyperedges `edges`, weights `A` -/
def fitSeed (s : Seed) (N : Nat) (edges : List (List Nat)) (A : List Rat) : Outcome :=
  match construct s.ctor with
  | .error e => .ctorErr e
  | .ok h =>
    match seedW0 s h with
    | none => .badPrior
    | some w0 =>
      match seedU0 s h N with
      | none => .badPrior
      | some u0 =>
        let d := dataOf N h.K edges A
        let ru := s.uPrior.mat
        let rw := s.wPrior.mat
        match fit d s.ctor.u s.ctor.w s.Dsup u0 w0 ru rw s.sqrtC s.stop s.n with
        | none => .rej
        | some (D, p) =>
          let r := fitRun d s.ctor.u s.ctor.w u0 w0 ru rw s.stop s.n
          if (emLoop? d s.ctor.u.isSome s.ctor.w.isSome ru rw (r.it + 1)
                { u := s.ctor.u.getD u0, w := s.ctor.w.getD w0 }).isSome
          then .ok D p r.it r.reached else .nonfinite

/-! ## `log_likelihood` -/

/-- the two ingredients of `HyMMSBM.log_likelihood(H)`: `bf_and_sum(u, w)` and the Poisson parameters of the
hyperedges of `H`; the method returns `- first + Σ_e A_e log(second_e)` -/
def logLikParts (d : Data) (u w : Mat) : Rat × List Rat :=
  (bfSum d.N d.K u w, (List.range d.E).map fun e => poisson d.N d.K u w (d.edge e))

end C15
