import Hgxv.Model.C08
/-! # C08 history model - the content of every Hypergraph object a user can hold (core Lean only)

The C08 functions (`Hgxv/Model/C08.lean`) take what `get_nodes()` / `get_edges()` list.  "For every hypergraph" ranges
over every object reachable through a history of the public operations over SEVERAL objects; this file models what
such a history makes of the content (set semantics, labels = ranks):

* `Hypergraph.add_node` / `add_edge` (`tuple(sorted(edge))`, a known hyperedge is not registered again)  <-> `addNode` / `addEdge`
* `remove_edge` (KeyError when absent)                                                                   <-> `removeEdge`
* `remove_node(node, keep_edges)` (incident hyperedges dropped, or re-inserted without the node - possibly `()`) <-> `removeNode`
* `clear`, `copy` (an independent object with the same content), `subhypergraph(nodes)`                  <-> `clear`, `Op.copy`, `sub`
* `populate_from_dict(deepcopy(other.expose_data_structures()))` (restore a snapshot)                    <-> `Op.restore`
* an object a loader / generator / filter hands over (`load_hypergraph`, `random_hypergraph`, `subhypergraph_by_orders`,
  `get_edges(subhypergraph=True)`, ...) enters a program with the content it LISTS                        <-> `Op.load`
* the listing of an object taken as its new starting point (after a call that raised, `add_random_edge`)  <-> `Op.put`

A call the code REJECTS (KeyError for an absent hyperedge / node) is part of a history like any other call: `stepSkip` /
`runSkip` leave every object as it was and go on (`run` stops there) - a user catches the exception and continues.

A program state is the list of the objects created so far; `step` applies one operation to ONE object and leaves every
other object as it is (`Hgxv/Props/C08.lean`, `C08_history_frame`): that is the specification a shallow `copy()`
violates.  `add_edges` / `remove_edges` / `remove_nodes` / the constructor are sequences of the single operations. -/
namespace C08
namespace Hist

/-- nodes in insertion order, canonical hyperedges in insertion order -/
structure Content where
  nodes : List Nat := []
  es : List Edge := []
deriving Repr, DecidableEq

/-- `sorted(edge)` -/
def insSorted (a : Nat) : List Nat → List Nat
  | [] => [a]
  | b :: t => if a ≤ b then a :: b :: t else b :: insSorted a t
def sortL (l : List Nat) : List Nat := l.foldr insSorted []

/-- `add_node`: `if node not in self._adj: self._adj[node] = []` -/
def addNode (c : Content) (x : Nat) : Content :=
  if x ∈ c.nodes then c else { c with nodes := c.nodes ++ [x] }

def addNodes (c : Content) (xs : List Nat) : Content := xs.foldl addNode c

/-- `add_edge`: canonical tuple; a new hyperedge is registered and its nodes are added -/
def addEdge (c : Content) (e : Edge) : Content :=
  if sortL e ∈ c.es then c else addNodes { c with es := c.es ++ [sortL e] } (sortL e)

/-- `remove_edge`: KeyError (`none`) when the hyperedge is absent -/
def removeEdge (c : Content) (e : Edge) : Option Content :=
  if sortL e ∈ c.es then some { c with es := c.es.filter (fun e' => e' != sortL e) } else none

/-- the hyperedge without the node -/
def dropNode (x : Nat) (e : Edge) : Edge := e.filter (fun y => y != x)

/-- `remove_node(node, keep_edges)`: KeyError (`none`) for an absent node; with `keep_edges` every incident hyperedge
is first re-inserted without the node (`add_edge(tuple(sorted(...)))`, possibly the empty hyperedge), then all
incident hyperedges and the node go -/
def removeNode (c : Content) (x : Nat) (keep : Bool) : Option Content :=
  if x ∈ c.nodes then
    let inc := c.es.filter (fun e => decide (x ∈ e))
    let c1 := if keep then inc.foldl (fun c e => addEdge c (dropNode x e)) c else c
    some { nodes := c1.nodes.filter (fun y => y != x), es := c1.es.filter (fun e => !decide (x ∈ e)) }
  else none

def clear (_ : Content) : Content := {}

/-- `subhypergraph(nodes)`: a new object with the listed nodes and the hyperedges inside them -/
def sub (c : Content) (ns : List Nat) : Content :=
  { nodes := (addNodes {} ns).nodes, es := c.es.filter (fun e => e.all (fun y => decide (y ∈ ns))) }

/-- one operation of a program over several objects (`i` = index of the object it is applied to) -/
inductive Op where
  | addNode (i x : Nat)
  | addEdge (i : Nat) (e : Edge)
  | removeEdge (i : Nat) (e : Edge)
  | removeNode (i x : Nat) (keep : Bool)
  | clear (i : Nat)
  | copy (i : Nat)
  | sub (i : Nat) (ns : List Nat)
  | restore (i src : Nat)
  | load (c : Content)
  | put (i : Nat) (c : Content)
deriving Repr, DecidableEq

/-- apply `f` to object `i` only -/
def modifyAt (st : List Content) (i : Nat) (f : Content → Option Content) : Option (List Content) :=
  match st[i]? with
  | some c => (f c).map (fun c' => st.set i c')
  | none => none

/-- one step; `copy` / `sub` append a new object, everything else changes object `i` alone -/
def step (st : List Content) : Op → Option (List Content)
  | .addNode i x => modifyAt st i (fun c => some (addNode c x))
  | .addEdge i e => modifyAt st i (fun c => some (addEdge c e))
  | .removeEdge i e => modifyAt st i (fun c => removeEdge c e)
  | .removeNode i x keep => modifyAt st i (fun c => removeNode c x keep)
  | .clear i => modifyAt st i (fun c => some (clear c))
  | .copy i => (st[i]?).map (fun c => st ++ [c])
  | .sub i ns => (st[i]?).map (fun c => st ++ [sub c ns])
  | .restore i src => match st[src]? with
    | some c => modifyAt st i (fun _ => some c)
    | none => none
  | .load c => some (st ++ [c])
  | .put i c => modifyAt st i (fun _ => some c)

/-- a whole program, run from the state `st`; `none` at the first rejected call -/
def run : List Content → List Op → Option (List Content)
  | st, [] => some st
  | st, op :: ops => match step st op with
    | some st' => run st' ops
    | none => none

/-- one call of a history in which rejected calls are caught: a rejected call changes nothing -/
def stepSkip (st : List Content) (op : Op) : List Content := (step st op).getD st

/-- a whole program with rejected calls inside: they are skipped, the calls after them are applied -/
def runSkip (st : List Content) (ops : List Op) : List Content := ops.foldl stepSkip st

end Hist
end C08
