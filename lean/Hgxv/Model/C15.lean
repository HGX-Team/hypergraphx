/-! # C15 — executable model of `hypergraphx.communities.hy_mmsbm` (core Lean only)

Python function ↔ definition here (all over exact rationals `Rat`):

* `_linear_ops.qf / bf / qf_and_sum / bf_and_sum`            ↔ `qf`, `bf`, `qfSum`, `bfSum`
* `HyMMSBM._edge_sum`, `poisson_params`                       ↔ `edgeSum`, `poisson`
* `HyMMSBM.C`, `_C_prime`, `_C_second`, `exp(log_kappa)`      ↔ `Cterm`/`C`, `Cprime`, `Csecond`, `kappa`
* `expected_degree(per_node=True/False)`                      ↔ `expDegNode`, `expDegAvg`
* `dimension_sequence(expected=True)`                         ↔ `expDimSeq`
* `_w_update`, `_u_update` (entry 0 where the denominator vanishes) ↔ `safeDiv`, `wUpdate`, `uUpdate` (+ guards `wUpdate?`, `uUpdate?`)
* the loop of `fit`, its `fixed_w / fixed_u` flags, the inferred `max_hye_size`, the final division
                                                              ↔ `emStep`, `emLoop`, `finish`, `fit`
* `fit(tolerance=, check_convergence_every=)`: the convergence test, `break`, `training_iter`,
  `tolerance_reached`                                         ↔ `Stop`, `normLt`, `converged`, `checkAt`, `stopNow`,
                                                                `loopFrom`, `emRun`, `fitRun`, `Run`
* one `HyMMSBM` instance across calls: its attributes, `fit` on an object that earlier calls have
  left in some state, a session of calls, queries on the object   ↔ `Obj`, `newObj`, `fitObj`, `FitCall`, `callFit`,
                                                                `runSession`, `poisObj`, `edgeSumObj`

Arrays are total index functions (`Vec = Nat → Rat`, `Mat = Nat → Nat → Rat`) together with their
dimensions; numpy's `@`, `*`, `.sum` become the index sums `sumTo`.  A hyperedge is the list of its
node indices; column `e` of the binary incidence matrix is `inc e`.  Random initialisation
(`_init_u`, `_init_w`) and `np.sqrt(C)` are explicit parameters (`u0`, `w0`, `sqrtC`). -/
namespace C15

abbrev Vec := Nat → Rat
abbrev Mat := Nat → Nat → Rat

/-- `Σ_{i<n} f i` (numpy `.sum` along an axis of length `n`) -/
def sumTo : Nat → (Nat → Rat) → Rat
  | 0, _ => 0
  | n + 1, f => sumTo n f + f n

/-- the float literal `0.5` -/
def half : Rat := 1 / 2

/-! ## `_linear_ops.py` -/

/-- `x @ w` for one row vector `x` of length `K` -/
def vecMat (K : Nat) (x : Vec) (w : Mat) : Vec := fun b => sumTo K fun a => x a * w a b

/-- `qf(x, w) = ((x @ w) * x).sum(axis=-1)` for one row -/
def qf (K : Nat) (x : Vec) (w : Mat) : Rat := sumTo K fun b => vecMat K x w b * x b

/-- `bf(x, y, w) = (x @ w) @ y.T` for one pair of rows -/
def bf (K : Nat) (x y : Vec) (w : Mat) : Rat := sumTo K fun b => vecMat K x w b * y b

/-- `qf_and_sum(u, w) = ((u @ w) * u).sum()` -/
def qfSum (N K : Nat) (u w : Mat) : Rat := sumTo N fun i => qf K (u i) w

/-- `u.sum(axis=0)` -/
def colSum (N : Nat) (u : Mat) : Vec := fun a => sumTo N fun i => u i a

/-- `bf_and_sum(u, w) = 0.5 * (qf(u.sum(axis=0), w) - qf_and_sum(u, w))` -/
def bfSum (N K : Nat) (u w : Mat) : Rat := half * (qf K (colSum N u) w - qfSum N K u w)

/-! ## Poisson parameters -/

/-- column of the binary incidence matrix of the hyperedge `e` -/
def inc (e : List Nat) (i : Nat) : Rat := if i ∈ e then 1 else 0

/-- `_edge_sum`: row `e` of `binary_incidence.T @ u` -/
def edgeSum (N : Nat) (u : Mat) (e : List Nat) : Vec := fun a => sumTo N fun i => inc e i * u i a

/-- `poisson_params` for one hyperedge:
`0.5 * (qf(edge_sum, w) - binary_incidence.T @ qf(u, w))` -/
def poisson (N K : Nat) (u w : Mat) (e : List Nat) : Rat :=
  half * (qf K (edgeSum N u e) w - sumTo N fun i => inc e i * qf K (u i) w)

/-! ## closed-form constants (`kappa_fn = "binom+avg"`) -/

/-- binomial coefficient by Pascal's rule -/
def choose : Nat → Nat → Nat
  | _, 0 => 1
  | 0, _ + 1 => 0
  | n + 1, k + 1 => choose n k + choose n (k + 1)

/-- `exp(log_kappa(d))`: `binom(N-2, d-2) * d * (d-1) / 2` -/
def kappa (N d : Nat) : Rat := (choose (N - 2) (d - 2) : Nat) * (d : Rat) * ((d : Rat) - 1) / 2

/-! ### `log_kappa` / `log_binomial`: the binomial coefficient in log space

`log_binomial(n, k) = np.log(np.arange(n - k + 1, n + 1)).sum() - np.log(np.arange(1, k + 1)).sum()` never forms the
coefficient: it holds it as the two products whose factors it takes the logarithms of.  The model keeps exactly these
two products (exact naturals of any size; this is also how the driver evaluates `kappa` for thousands of nodes, where
Pascal's rule is hopeless); `C15_log_binomial` / `C15_log_kappa` say that the sums of logarithms are `log C(n,k)` and
`log kappa`. -/

/-- product of `np.arange(lo, lo + len)` -/
def prodFrom (lo : Nat) : Nat → Nat
  | 0 => 1
  | len + 1 => prodFrom lo len * (lo + len)

/-- product of `np.arange(n - k + 1, n + 1)` -/
def binomNum (n k : Nat) : Nat := prodFrom (n - k + 1) k

/-- product of `np.arange(1, k + 1)` -/
def binomDen (k : Nat) : Nat := prodFrom 1 k

/-- `exp(log_kappa(d))` from the two products of `log_binomial(N - 2, d - 2)` and the factors `d`, `d - 1`, `1/2` whose
logarithms `log_kappa` adds -/
def kappaProd (N d : Nat) : Rat :=
  ((binomNum (N - 2) (d - 2) : Nat) : Rat) / ((binomDen (d - 2) : Nat) : Rat) * (d : Rat) * ((d : Rat) - 1) / 2

/-- summand of `C`: `2 / (d * (d - 1))` -/
def Cterm (d : Nat) : Rat := 2 / ((d : Rat) * ((d : Rat) - 1))

def sumL (ds : List Nat) (f : Nat → Rat) : Rat := ds.foldr (fun d acc => f d + acc) 0

/-- `C(d)` (sum of the summands over the dimensions `ds`) -/
def C (ds : List Nat) : Rat := sumL ds Cterm

/-- `_C_prime(d) = 2 / (N - 2) * sum((d - 2) / (d * (d - 1)))` -/
def Cprime (N : Nat) (ds : List Nat) : Rat :=
  2 / ((N : Rat) - 2) * sumL ds fun d => ((d : Rat) - 2) / ((d : Rat) * ((d : Rat) - 1))

/-- `_C_second(d) = 2 / N * sum(1 / (d - 1))` -/
def Csecond (N : Nat) (ds : List Nat) : Rat :=
  2 / (N : Rat) * sumL ds fun d => 1 / ((d : Rat) - 1)

/-- `np.arange(lo, D + 1)` -/
def dims (lo D : Nat) : List Nat := List.range' lo (D + 1 - lo)

/-- the constants divide by `d`, `d - 1`, `N - 2`, `N`: they are finite when this holds (the domain the driver admits) -/
def constsOk (N : Nat) (ds : List Nat) : Bool := decide (3 ≤ N) && ds.all (fun d => decide (2 ≤ d))

/-- `C` and `_C_second` only divide by `d`, `d - 1` and `N` -/
def sizesOk (N : Nat) (ds : List Nat) : Bool := decide (1 ≤ N) && ds.all (fun d => decide (2 ≤ d))

/-! ## expected statistics -/

/-- `expected_degree(per_node=True, d=ds)[i]` -/
def expDegNode (N K : Nat) (u w : Mat) (ds : List Nat) (i : Nat) : Rat :=
  let uSum := colSum N u
  let first := bf K (u i) uSum w - qf K (u i) w
  let second := half * (qf K (fun a => uSum a - u i a) w - qfSum N K u w + qf K (u i) w)
  C ds * first + Cprime N ds * second

/-- `expected_degree(per_node=False, d=ds)` -/
def expDegAvg (N K : Nat) (u w : Mat) (ds : List Nat) : Rat := Csecond N ds * bfSum N K u w

/-- `dimension_sequence(expected=True)`: `{d: C(d) * bf_and_sum(u, w) if > 0}` -/
def expDimSeq (N K : Nat) (u w : Mat) (ds : List Nat) : List (Nat × Rat) :=
  (ds.map fun d => (d, Cterm d * bfSum N K u w)).filter fun p => decide (0 < p.2)

/-! ## EM / MAP updates -/

/-- the data: `E` hyperedges (`edge e` for `e < E`) with weights `A e`, on `N` nodes; `K` communities -/
structure Data where
  N : Nat
  K : Nat
  E : Nat
  edge : Nat → List Nat
  A : Nat → Rat

/-- `multiplier = hye_weights / poisson_params` -/
def mult (d : Data) (u w : Mat) (e : Nat) : Rat := d.A e / poisson d.N d.K u w (d.edge e)

/-- `weighting = (binary_incidence * multiplier[None, :])` -/
def weighting (d : Data) (u w : Mat) (i e : Nat) : Rat := inc (d.edge e) i * mult d u w e

/-- numerator of `_w_update` -/
def wNum (d : Data) (u w : Mat) (a b : Nat) : Rat :=
  let first := sumTo d.E fun e => edgeSum d.N u (d.edge e) a * (edgeSum d.N u (d.edge e) b * mult d u w e)
  let second := sumTo d.N fun i => u i a * (u i b * sumTo d.E fun e => weighting d u w i e)
  half * w a b * (first - second)

/-- denominator of `_w_update` (without the prior): `0.5 * (outer(u_sum, u_sum) - u.T @ u)` -/
def wDen (N : Nat) (u : Mat) (a b : Nat) : Rat :=
  half * (colSum N u a * colSum N u b - sumTo N fun i => u i a * u i b)

/-- the guarded division of the two multiplicative updates (repair of D46):
`np.divide(numerator, denominator, out=np.zeros_like(numerator), where=denominator > 0)` for one entry -
an entry whose denominator vanishes is set to 0, no `0 / 0`.  (Stated as a branch of its own and not through
`x / 0 = 0` of `Rat`: `C15_update_vanishing_den` shows that the numerator vanishes on that branch.) -/
def safeDiv (x y : Rat) : Rat := if 0 < y then x / y else 0

/-- `_w_update`: `numerator / (denominator + w_prior)`, `0` where `denominator + w_prior` is not positive -/
def wUpdate (d : Data) (u w r : Mat) : Mat := fun a b => safeDiv (wNum d u w a b) (wDen d.N u a b + r a b)

/-- numerator of `_u_update` -/
def uNum (d : Data) (u w : Mat) (i a : Nat) : Rat :=
  let first := fun c => sumTo d.E fun e => weighting d u w i e * edgeSum d.N u (d.edge e) c
  let second := fun c => (sumTo d.E fun e => weighting d u w i e) * u i c
  u i a * sumTo d.K fun c => (first c - second c) * w c a

/-- denominator of `_u_update` (without the prior): `(w @ u_sum)[None, :] - u @ w` -/
def uDen (d : Data) (u w : Mat) (i a : Nat) : Rat :=
  (sumTo d.K fun c => w a c * colSum d.N u c) - sumTo d.K fun c => u i c * w c a

/-- `_u_update`: `numerator / (denominator + u_prior)`, `0` where `denominator + u_prior` is not positive -/
def uUpdate (d : Data) (u w r : Mat) : Mat := fun i a => safeDiv (uNum d u w i a) (uDen d u w i a + r i a)

def allTo (n : Nat) (p : Nat → Bool) : Bool := (List.range n).all p

/-- no division by zero in `multiplier = hye_weights / poisson_params` (numpy would produce `inf`/`nan`, exact
arithmetic raises); the division by the denominators is guarded by the code itself (`safeDiv`) -/
def multOk (d : Data) (u w : Mat) : Bool :=
  allTo d.E (fun e => decide (poisson d.N d.K u w (d.edge e) ≠ 0))

def wUpdate? (d : Data) (u w r : Mat) : Option Mat :=
  if multOk d u w then some (wUpdate d u w r) else none

def uUpdate? (d : Data) (u w r : Mat) : Option Mat :=
  if multOk d u w then some (uUpdate d u w r) else none

/-! ## `fit` -/

/-- an array received / stored as nested lists (out-of-range reads give 0 and are never used) -/
def matOf (rows : List (List Rat)) : Mat := fun i a => (rows.getD i []).getD a 0
/-- the `n × m` array holding the values of `x` (what `self.w = ...` stores) -/
def toRows (n m : Nat) (x : Mat) : List (List Rat) :=
  (List.range n).map fun i => (List.range m).map fun a => x i a

/-- the two parameter arrays of the model object -/
structure Params where
  u : List (List Rat)
  w : List (List Rat)

/-- one pass of the training loop: `if not fixed_w: w = _w_update(); if not fixed_u: u = _u_update()`
(the u-update sees the new `w`) -/
def emStep (d : Data) (fixedU fixedW : Bool) (ru rw : Mat) (p : Params) : Params :=
  let w' := if fixedW then p.w else toRows d.K d.K (wUpdate d (matOf p.u) (matOf p.w) rw)
  let u' := if fixedU then p.u else toRows d.N d.K (uUpdate d (matOf p.u) (matOf w') ru)
  { u := u', w := w' }

/-- the state after `n` passes of the loop body (no stopping rule: `tolerance=None`, the default) -/
def emLoop (d : Data) (fixedU fixedW : Bool) (ru rw : Mat) : Nat → Params → Params
  | 0, p => p
  | n + 1, p => emStep d fixedU fixedW ru rw (emLoop d fixedU fixedW ru rw n p)

/-! ### early stopping: `fit(..., tolerance=tol, check_convergence_every=every)` -/

/-- the two arguments of the stopping rule (`tolerance is not None`) -/
structure Stop where
  tol : Rat
  every : Nat

/-- `np.linalg.norm(x - y) ** 2` for `n × m` arrays (Frobenius norm: the sum of the squared entries) -/
def sqDist (n m : Nat) (x y : List (List Rat)) : Rat :=
  sumTo n fun i => sumTo m fun a => (matOf x i a - matOf y i a) * (matOf x i a - matOf y i a)

/-- `np.linalg.norm(x - y) / s < tol`, decided without the square root: the norm is `≥ 0`, so the test fails for
`tol ≤ 0` and is `‖x − y‖² < (tol·s)²` otherwise (`C15_stop_rule` states the equivalence over `ℝ`) -/
def normLt (n m : Nat) (x y : List (List Rat)) (s : Nat) (tol : Rat) : Bool :=
  decide (0 < tol) && decide (sqDist n m x y < (tol * (s : Rat)) * (tol * (s : Rat)))

/-- `converged = norm(self.w - old_w) / self.K < tolerance and norm(self.u - old_u) / num_nodes < tolerance` -/
def converged (d : Data) (tol : Rat) (p old : Params) : Bool :=
  normLt d.K d.K p.w old.w d.K tol && normLt d.N d.K p.u old.u d.N tol

/-- `(not it % check_convergence_every) and (it > 0)` -/
def checkAt (every it : Nat) : Bool := it % every == 0 && decide (0 < it)

/-- the block `if tolerance is not None: ...` of iteration `it`: does the loop `break`?
`p` = parameters after the updates of this iteration, `old` = `(old_u, old_w)` -/
def stopNow (d : Data) (stop : Option Stop) (it : Nat) (p old : Params) : Bool :=
  match stop with
  | none => false
  | some s => checkAt s.every it && converged d s.tol p old

/-- how the training loop was left: the parameters, the last value of the loop variable `it`
(`training_iter`), and `tolerance_reached` -/
structure Run where
  p : Params
  it : Nat
  reached : Bool

/-- `for it in range(..)`: `k` iterations left, the next one has index `it`; `step` is the loop body
(`emStep`), `old` the parameters stored by `old_w, old_u = self.w, self.u` in the previous iteration
(not read when `it = 0`).  Leaving through `break` keeps `it`; running out leaves `it` at the last index. -/
def loopFrom (d : Data) (step : Params → Params) (stop : Option Stop) : Nat → Nat → Params → Params → Run
  | 0, it, p, _ => { p := p, it := it - 1, reached := false }
  | k + 1, it, p, old =>
    let p' := step p
    if stopNow d stop it p' old then { p := p', it := it, reached := true }
    else loopFrom d step stop k (it + 1) p' p'

/-- the training loop of `fit(n_iter = n, tolerance, check_convergence_every)` started from `p0` -/
def emRun (d : Data) (fixedU fixedW : Bool) (ru rw : Mat) (stop : Option Stop) (n : Nat) (p0 : Params) : Run :=
  loopFrom d (emStep d fixedU fixedW ru rw) stop n 0 p0 p0

/-- with a tolerance, `it % check_convergence_every` raises `ZeroDivisionError` for `check_convergence_every = 0` -/
def stopOk : Option Stop → Bool
  | some s => s.every != 0
  | none => true

/-- after the loop: `w /= C()` when `w` was inferred, else `u /= sqrt(C())` when `u` was inferred
(the code reaches these lines from both exits of the loop) -/
def finish (d : Data) (fixedU fixedW : Bool) (c sqrtC : Rat) (p : Params) : Params :=
  if !fixedW then { u := p.u, w := toRows d.K d.K fun a b => matOf p.w a b / c }
  else if !fixedU then { u := toRows d.N d.K fun i a => matOf p.u i a / sqrtC, w := p.w }
  else p

/-- `max(len(hye) for hye in hypergraph.get_edges())` -/
def maxSize (d : Data) : Nat := (List.range d.E).foldl (fun m e => max m (d.edge e).length) 0

/-- `max_hye_size` after `fit`: the supplied one (rejected if smaller than the data's), else inferred -/
def fitMaxSize (d : Data) (Dsup : Option Nat) : Option Nat :=
  match Dsup with
  | none => some (maxSize d)
  | some D => if D < maxSize d then none else some D

/-- the loop of `HyMMSBM(u=uSup, w=wSup, ...).fit(data, n_iter=n, tolerance, check_convergence_every)`;
`u0`, `w0` are the arrays `_init_u`, `_init_w` would draw -/
def fitRun (d : Data) (uSup wSup : Option (List (List Rat))) (u0 w0 : List (List Rat)) (ru rw : Mat)
    (stop : Option Stop) (n : Nat) : Run :=
  emRun d uSup.isSome wSup.isSome ru rw stop n { u := uSup.getD u0, w := wSup.getD w0 }

/-- `HyMMSBM(u=uSup, w=wSup, max_hye_size=Dsup, u_prior=ru, w_prior=rw).fit(data, n_iter=n, tolerance=..,
check_convergence_every=..)` (`stop = none` is `tolerance=None`); `sqrtC` is the value of `np.sqrt(C())`.
Result: `none` = the call raises (`ValueError` for a too small `max_hye_size`, `ZeroDivisionError` for
`check_convergence_every = 0` with a tolerance), else (`max_hye_size`, parameters). `n ≥ 1` (for `n_iter = 0`
the code fails on the unbound loop variable). -/
def fit (d : Data) (uSup wSup : Option (List (List Rat))) (Dsup : Option Nat)
    (u0 w0 : List (List Rat)) (ru rw : Mat) (sqrtC : Rat) (stop : Option Stop) (n : Nat) : Option (Nat × Params) :=
  match fitMaxSize d Dsup with
  | none => none
  | some D =>
    if stopOk stop then
      some (D, finish d uSup.isSome wSup.isSome (C (dims 2 D)) sqrtC (fitRun d uSup wSup u0 w0 ru rw stop n).p)
    else none

/-! ## one long-lived model object: several calls of `fit`, queries in between

Every definition above is a pure function of its arguments: a query (`poisson`, `expDegNode`, `expDegAvg`,
`expDimSeq`, `C`, ..) reads nothing but the parameter arrays it is given and its own argument.  What a
`HyMMSBM` instance carries from one call to the next is written down here: the attributes `u`, `w`
(`None` until supplied or first initialised), `max_hye_size`, and the training attributes that `fit` writes.
There is no other state (no cache of hyperedge sums, of the incidence matrix, of the data). -/

/-- the attributes of a `HyMMSBM` instance that its methods read or write -/
structure Obj where
  u : Option (List (List Rat))
  w : Option (List (List Rat))
  /-- `max_hye_size` -/
  D : Option Nat
  /-- `self.tolerance` (the argument of the last call of `fit`) -/
  tolerance : Option Rat := none
  trained : Bool := false
  /-- `training_iter` -/
  it : Option Nat := none
  /-- `tolerance_reached` -/
  reached : Bool := false

/-- `HyMMSBM(u=uSup, w=wSup, max_hye_size=Dsup, ..)` -/
def newObj (uSup wSup : Option (List (List Rat))) (Dsup : Option Nat) : Obj := { u := uSup, w := wSup, D := Dsup }

/-- one call `obj.fit(data, n_iter = n, tolerance, check_convergence_every)` on an object in state `o`, in the
order of the code: `self.tolerance = tolerance; self.tolerance_reached = False`; a parameter that is `None` is
drawn (`u0`, `w0`; one that is set - supplied at construction OR left by an earlier call - counts as fixed); the
size check (`ValueError`: the draws stay stored); the loop (`ZeroDivisionError` of `it % 0` in iteration 0, after
its updates: they stay stored, like the inferred `max_hye_size`); the division; `trained`, `training_iter`.
Result: the object after the call and whether the call returned (`false` = it raised).  `n ≥ 1`. -/
def fitObj (o : Obj) (d : Data) (u0 w0 : List (List Rat)) (ru rw : Mat) (sqrtC : Rat) (stop : Option Stop) (n : Nat) :
    Obj × Bool :=
  let p0 : Params := { u := o.u.getD u0, w := o.w.getD w0 }
  match fitMaxSize d o.D with
  | none => ({ o with u := some p0.u, w := some p0.w, tolerance := stop.map (·.tol), reached := false }, false)
  | some D =>
    if stopOk stop then
      let r := fitRun d o.u o.w u0 w0 ru rw stop n
      let p := finish d o.u.isSome o.w.isSome (C (dims 2 D)) sqrtC r.p
      ({ u := some p.u, w := some p.w, D := some D, tolerance := stop.map (·.tol), trained := true,
         it := some r.it, reached := r.reached }, true)
    else
      let p := emStep d o.u.isSome o.w.isSome ru rw p0
      ({ o with u := some p.u, w := some p.w, D := some D, tolerance := stop.map (·.tol), reached := false }, false)

/-- the arguments of one call of `fit` (data, the draws the generator would deliver, the priors and `sqrt(C())` at the
time of the call, the stopping arguments, `n_iter`) -/
structure FitCall where
  d : Data
  u0 : List (List Rat)
  w0 : List (List Rat)
  ru : Mat
  rw : Mat
  sqrtC : Rat
  stop : Option Stop
  n : Nat

def callFit (o : Obj) (c : FitCall) : Obj := (fitObj o c.d c.u0 c.w0 c.ru c.rw c.sqrtC c.stop c.n).1

/-- a session: the calls of `fit` made on one object, in order (calls that raise included) -/
def runSession (o : Obj) (cs : List FitCall) : Obj := cs.foldl callFit o

/-- `obj.poisson_params(B)` for one column `e` of `B`: `None` = `ValueError` ("not initialized"); the answer is
`poisson` of the CURRENT arrays and of `e` - nothing else of the object is read -/
def poisObj (o : Obj) (e : List Nat) : Option Rat :=
  match o.u, o.w with
  | some u, some w => some (poisson u.length w.length (matOf u) (matOf w) e)
  | _, _ => none

/-- `obj._edge_sum(B)` for one column -/
def edgeSumObj (o : Obj) (e : List Nat) : Option (List Rat) :=
  match o.u, o.w with
  | some u, some w => some ((List.range w.length).map (edgeSum u.length (matOf u) e))
  | _, _ => none

/-! ## arrays from the wire -/

def dataOf (N K : Nat) (edges : List (List Nat)) (A : List Rat) : Data :=
  { N := N, K := K, E := edges.length, edge := fun e => edges.getD e [], A := fun e => A.getD e 0 }

end C15
