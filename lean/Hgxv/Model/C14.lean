import Hgxv.Model.AList
/-! Model of the random generators (core Lean only):
`hypergraphx/generation/random.py`  (`random_hypergraph`, `random_uniform_hypergraph`, `add_random_edge(s)`,
`random_shuffle` **as repaired for D27**, `random_shuffle_all_orders`),
`hypergraphx/generation/scale_free.py` (**as repaired for D26**) and
`hypergraphx/generation/activity_driven.py` (`HOADmodel`).

Every routine is a deterministic function of its *draws* (results of `random.sample`, `np.random.choice`,
`random.random`), which are explicit arguments.  A `Hypergraph` is its abstract content: weighted flag, node list
(insertion order), insertion-ordered association list hyperedge -> (weight, metadata token); token `0` is `{}`.
The stateful core (`add_edge`, `remove_edge`) is the abstract specification proved for the class in C01. -/
namespace C14

abbrev Edge := List Nat
/-- (weight, metadata token) -/
abbrev Rec := Nat × Nat

structure HG where
  weighted : Bool := false
  nodes : List Nat := []
  edges : List (Edge × Rec) := []
deriving Repr, DecidableEq, Inhabited

def insertSorted (a : Nat) : List Nat → List Nat
  | [] => [a]
  | b :: bs => if a ≤ b then a :: b :: bs else b :: insertSorted a bs
/-- `tuple(sorted(edge))` (insertion sort: structural, so that closed examples reduce in the kernel) -/
def sortE (e : List Nat) : Edge := e.foldr insertSorted []

/-- append if absent: `set.add`, `add_node` on the node table, a new dict key -/
def insNew {α} [DecidableEq α] (acc : List α) (x : α) : List α := if x ∈ acc then acc else acc ++ [x]
def insAll {α} [DecidableEq α] (acc : List α) (l : List α) : List α := l.foldl insNew acc
/-- `set(list)` / a set filled element by element, in first-occurrence order -/
def dedup {α} [DecidableEq α] (l : List α) : List α := insAll [] l

def keys (h : HG) : List Edge := AL.keys h.edges

/-- `add_edge`, branch "hyperedge is new": id allocated, weight `1` when unweighted, nodes touched -/
def addEdgeNew (h : HG) (e : Edge) (w md : Nat) : HG :=
  { h with edges := h.edges ++ [(e, ((if h.weighted then w else 1), md))], nodes := insAll h.nodes e }
/-- `add_edge`, branch "hyperedge exists": weight accumulated when weighted, metadata replaced -/
def addEdgeOld (h : HG) (e : Edge) (w0 w md : Nat) : HG :=
  { h with edges := AL.set h.edges e ((if h.weighted then w0 + w else w0), md) }
/-- `Hypergraph.add_edge(edge, weight=w, metadata=md)` (`weight=None` is `w = 1`, `metadata=None` is `md = 0`) -/
def addEdge (h : HG) (raw : List Nat) (w md : Nat) : HG :=
  match AL.get? h.edges (sortE raw) with
  | none => addEdgeNew h (sortE raw) w md
  | some r => addEdgeOld h (sortE raw) r.1 w md
/-- a sequence of `add_edge(nodes, weight, metadata)` calls -/
def addMany (h : HG) (L : List (List Nat × Rec)) : HG := L.foldl (fun h t => addEdge h t.1 t.2.1 t.2.2) h
/-- `add_edges(list)` without weights / metadata -/
def addEdges (h : HG) (es : List (List Nat)) : HG := addMany h (es.map (fun e => (e, (1, 0))))
def addNodes (h : HG) (ns : List Nat) : HG := { h with nodes := insAll h.nodes ns }
/-- `remove_edge` of a present hyperedge -/
def removeEdge (h : HG) (e : Edge) : HG := { h with edges := AL.erase h.edges (sortE e) }
def removeEdges (h : HG) (es : List Edge) : HG := es.foldl removeEdge h

def countSize (h : HG) (s : Nat) : Nat := ((keys h).filter (fun e => e.length == s)).length

/-- `order=`/`size=` arguments: both or neither is a `ValueError` (`none`) -/
def resolveSize : Option Nat → Option Nat → Option Nat
  | some _, some _ => none
  | none, none => none
  | none, some s => some s
  | some o, none => some (o + 1)

/-! ## random_hypergraph / random_uniform_hypergraph -/

/-- the inner loop for one size: `count` samples are appended, sorted, then `set(...)` -/
def sizeEdges (count : Nat) (group : List (List Nat)) : List Edge := dedup ((group.take count).map sortE)

/-- the per-size loop shared by `random_hypergraph` and `scale_free_hypergraph`: `E count group` are the distinct
    sorted hyperedges obtained from the draws of one size; they are handed to `add_edges` -/
def genLoop (E : Nat → List (List Nat) → List Edge) (h : HG) : List (Nat × Nat) → List (List (List Nat)) → HG
  | (_, c) :: req, g :: gs => genLoop E (addEdges h (E c g)) req gs
  | _, _ => h

def randomLoop (h : HG) (req : List (Nat × Nat)) (groups : List (List (List Nat))) : HG :=
  genLoop sizeEdges h req groups

/-- `random.sample(nodes, size)` raises when `size > len(nodes)`; it is only called when `count ≥ 1` -/
def admissible (n : Nat) (req : List (Nat × Nat)) : Bool := req.all (fun r => r.2 == 0 || r.1 ≤ n)

/-- `random_hypergraph(n, {size: count})` as a function of the samples, grouped per size in dict order -/
def randomHypergraph (n : Nat) (req : List (Nat × Nat)) (groups : List (List (List Nat))) : HG :=
  randomLoop (addNodes {} (List.range n)) req groups
def randomHypergraph? (n : Nat) (req : List (Nat × Nat)) (groups : List (List (List Nat))) : Option HG :=
  if admissible n req then some (randomHypergraph n req groups) else none
/-- `random_uniform_hypergraph(n, size, count)` = `random_hypergraph(n, {size: count})` -/
def randomUniform (n size count : Nat) (group : List (List Nat)) : HG := randomHypergraph n [(size, count)] [group]

/-! ### the same routine as a program over named random sources (for seed reproducibility) -/

/-- an arbitrary generator algorithm: `seed` determines the state; a draw returns a value and the next state -/
structure RNG (σ : Type) where
  seed : Nat → σ
  sample : σ → List Nat → Nat → List Nat × σ

/-- the ambient states of the two global sources: `random` (py) and `np.random` (np) -/
structure World (σ : Type) where
  py : σ
  np : σ

def drawN {σ} (g : RNG σ) (pop : List Nat) (size : Nat) : Nat → σ → List (List Nat) × σ
  | 0, s => ([], s)
  | c + 1, s =>
    let r := g.sample s pop size
    let rest := drawN g pop size c r.2
    (r.1 :: rest.1, rest.2)

def randomLoopS {σ} (g : RNG σ) (pop : List Nat) (h : HG) : List (Nat × Nat) → σ → HG × σ
  | [], s => (h, s)
  | (sz, c) :: req, s =>
    let r := drawN g pop sz c s
    randomLoopS g pop (addEdges h (sizeEdges c r.1)) req r.2

/-- `if seed is not None: random.seed(seed)` -/
def seedPy {σ} (g : RNG σ) (seed : Option Nat) (w : World σ) : World σ :=
  match seed with
  | some s => { w with py := g.seed s }
  | none => w
def seedNp {σ} (g : RNG σ) (seed : Option Nat) (w : World σ) : World σ :=
  match seed with
  | some s => { w with np := g.seed s }
  | none => w

/-- `random_hypergraph(n, req, seed)`: seeds `random`, then draws every sample from `random` -/
def randomHypergraphM {σ} (g : RNG σ) (n : Nat) (req : List (Nat × Nat)) (seed : Option Nat) (w : World σ) :
    HG × World σ :=
  let w1 := seedPy g seed w
  let r := randomLoopS g (List.range n) (addNodes {} (List.range n)) req w1.py
  (r.1, { w1 with py := r.2 })
def randomUniformM {σ} (g : RNG σ) (n size count : Nat) (seed : Option Nat) (w : World σ) : HG × World σ :=
  randomHypergraphM g n [(size, count)] seed w

/-- the samples the generator hands out, grouped per size (what a recording of the run contains) -/
def groupsOf {σ} (g : RNG σ) (pop : List Nat) : List (Nat × Nat) → σ → List (List (List Nat))
  | [], _ => []
  | (sz, c) :: req, s => (drawN g pop sz c s).1 :: groupsOf g pop req (drawN g pop sz c s).2

/-- lines 122-131 of `random_shuffle`: seeds **np.random**, then draws the indices from **random** -/
def shuffleIndicesM {σ} (g : RNG σ) (m k : Nat) (seed : Option Nat) (w : World σ) : List Nat × World σ :=
  let w1 := seedNp g seed w
  let r := g.sample w1.py (List.range m) k
  (r.1, { w1 with py := r.2 })

/-- replay generator: the state is the queue of recorded results -/
def replayRNG (recorded : List (List Nat)) : RNG (List (List Nat)) where
  seed := fun _ => recorded
  sample := fun q _ _ => match q with
    | d :: r => (d, r)
    | [] => ([], [])

/-! ## add_random_edge / add_random_edges -/

/-- `while len(edges) < k: edges.add(tuple(sorted(sample)))` over the stream of samples -/
def collect (k : Nat) (acc : List Edge) : List (List Nat) → List Edge
  | [] => acc
  | d :: ds => if acc.length < k then collect k (insNew acc (sortE d)) ds else acc

/-- the run returned after consuming exactly these draws -/
def consumedExactly (k : Nat) (acc : List Edge) : List (List Nat) → Bool
  | [] => decide (k ≤ acc.length)
  | d :: ds => decide (acc.length < k) && consumedExactly k (insNew acc (sortE d)) ds

/-- a call returns (argument afterwards, returned object) -/
structure CallResult where
  arg : HG
  ret : Option HG
deriving Repr, DecidableEq

def finish (inplace : Bool) (h h' : HG) : CallResult :=
  if inplace then { arg := h', ret := none } else { arg := h, ret := some h' }

/-! ### which OBJECT carries the result
The routines with an `inplace` option end in `h = hg if inplace else hg.copy()` ... `return h`.  Objects are entries of a
store (object id -> content); mutating an object is `AL.set` at its id. -/

/-- live objects: object id -> content -/
abbrev Heap := List (Nat × HG)

/-- `hg.copy()` allocates an object that did not exist before: an id above every id in use -/
def freshId (H : Heap) : Nat := (AL.keys H).foldl max 0 + 1

/-- hand back the result `h'` of a call on the object `a`: `inplace=True` writes it into `a` and returns nothing (`none`),
    `inplace=False` writes it into a new object and returns that object.  (For `random_shuffle_all_orders(inplace=True)`
    the returned object is `a` itself - see `finishObjAll`.) -/
def finishObj (H : Heap) (a : Nat) (inplace : Bool) (h' : HG) : Heap × Option Nat :=
  if inplace then (AL.set H a h', none) else (AL.set H (freshId H) h', some (freshId H))

/-- `random_shuffle_all_orders` returns `target_hg` in both modes -/
def finishObjAll (H : Heap) (a : Nat) (inplace : Bool) (h' : HG) : Heap × Option Nat :=
  if inplace then (AL.set H a h', some a) else (AL.set H (freshId H) h', some (freshId H))

def addRandomEdge (h : HG) (order size : Option Nat) (inplace : Bool) (draw : List Nat) : Option CallResult :=
  match resolveSize order size with
  | none => none
  | some s => if s ≤ h.nodes.length then some (finish inplace h (addEdge h draw 1 0)) else none

def addRandomEdges (h : HG) (k : Nat) (order size : Option Nat) (inplace : Bool) (draws : List (List Nat)) :
    Option CallResult :=
  match resolveSize order size with
  | none => none
  | some s => if k = 0 ∨ s ≤ h.nodes.length then some (finish inplace h (addEdges h (collect k [] draws))) else none

/-! ## random_shuffle (repaired, D27) / random_shuffle_all_orders -/

/-- `hg.get_edges(size=size)` with weights and metadata -/
def edgesOfSize (h : HG) (size : Nat) : List (Edge × Rec) := h.edges.filter (fun r => r.1.length == size)

/-- `int(p * num_edges)` for `p = pn/pd` -/
def numToRandomize (pn pd m : Nat) : Nat := pn * m / pd

/-- the hyperedges selected for replacement, in the order of `current_edges` -/
def selected (cur : List (Edge × Rec)) (idx : List Nat) (i : Nat) : List Edge :=
  match cur with
  | [] => []
  | r :: rest => if i ∈ idx then r.1 :: selected rest idx (i + 1) else selected rest idx (i + 1)

/-- `pool_nodes`: nodes of the selected hyperedges (first-occurrence order) -/
def pool (cur : List (Edge × Rec)) (idx : List Nat) : List Nat := dedup (selected cur idx 0).flatten
/-- the (unnormalised) weights handed to `np.random.choice` -/
def poolWeights (cur : List (Edge × Rec)) (idx : List Nat) (preserve : Bool) : List Nat :=
  (pool cur idx).map (fun x => if preserve then (selected cur idx 0).flatten.count x else 1)

/-- the re-insertion loop as the list of `add_edge` calls it makes: a selected hyperedge is replaced by the next
    choice (`add_edge(new)`: weight `None`, no metadata), the others come back with their weight and metadata -/
def readdList (idx : List Nat) : List (Edge × Rec) → Nat → List (List Nat) → List (List Nat × Rec)
  | [], _, _ => []
  | r :: rest, i, cs =>
    if i ∈ idx then
      match cs with
      | c :: cs' => (c, (1, 0)) :: readdList idx rest (i + 1) cs'
      | [] => readdList idx rest (i + 1) []
    else r :: readdList idx rest (i + 1) cs

def shuffleCore (h : HG) (size : Nat) (idx : List Nat) (choices : List (List Nat)) : HG :=
  addMany (removeEdges h ((edgesOfSize h size).map (·.1))) (readdList idx (edgesOfSize h size) 0 choices)

/-- `random_shuffle` BEFORE the repair of D27 - kept as a witness only, no theorem is about it: every hyperedge of
    the size is removed and `add_edges(new_edges)` re-inserts all of them without weight and metadata -/
def shuffleCoreUnrepaired (h : HG) (size : Nat) (idx : List Nat) (choices : List (List Nat)) : HG :=
  addEdges (removeEdges h ((edgesOfSize h size).map (·.1)))
    ((readdList idx (edgesOfSize h size) 0 choices).map (·.1))

/-- `random_shuffle(hg, order, size, inplace, p = pn/pd, ...)`; `pn` may be negative or exceed `pd` (rejected) -/
def randomShuffle (h : HG) (order size : Option Nat) (inplace : Bool) (pn : Int) (pd : Nat)
    (idx : List Nat) (choices : List (List Nat)) : Option CallResult :=
  match resolveSize order size with
  | none => none
  | some s => if 0 ≤ pn ∧ pn ≤ pd then some (finish inplace h (shuffleCore h s idx choices)) else none

/-- one pair (indices, choices) per size, in the iteration order of `set(hg.get_sizes())` -/
def shuffleAllLoop (h : HG) : List Nat → List (List Nat × List (List Nat)) → HG
  | s :: sizes, d :: ds => shuffleAllLoop (shuffleCore h s d.1 d.2) sizes ds
  | _, _ => h

def randomShuffleAll (h : HG) (inplace : Bool) (pn : Int) (pd : Nat) (sizes : List Nat)
    (draws : List (List Nat × List (List Nat))) : Option CallResult :=
  if 0 ≤ pn ∧ pn ≤ pd then
    let h' := shuffleAllLoop h sizes draws
    some (if inplace then { arg := h', ret := some h' } else { arg := h, ret := some h' })
  else none

/-! ## scale_free_hypergraph (repaired, D26) -/

/-- the argument checks of lines 37-59, in order; `corr = none` is the default `corr_target=None` -/
def sfValid (sizes : List Nat) (counts : List Int) (scaleKeys : List Nat) (correlated : Bool)
    (corr : Option Rat) (shuffles : Int) : Bool :=
  !(shuffles != 0 && !correlated)
  && !(shuffles < 0)
  && (match corr with | none => true | some c => !(c < 0 || c > 1))
  && !(corr.isSome && !correlated)
  && !(corr.isSome && shuffles != 0)
  && sizes.all (fun k => scaleKeys.contains k)
  && scaleKeys.all (fun k => sizes.contains k)
  && counts.all (fun c => !(c < 0))

def sfLoop (h : HG) (req : List (Nat × Nat)) (groups : List (List (List Nat))) : HG :=
  genLoop (fun c g => collect c [] g) h req groups

def sfReturned : List (Nat × Nat) → List (List (List Nat)) → Bool
  | (_, c) :: req, g :: gs => consumedExactly c [] g && sfReturned req gs
  | (_, c) :: req, [] => c == 0 && sfReturned req []
  | [], gs => gs.isEmpty

/-- `scale_free_hypergraph(n, edges_by_size, scale_by_size, ..)` on the grouped hyperedge choices; `admissible`:
    `np.random.choice(nodes, size, replace=False)` raises when `size > n` (only called when `count ≥ 1`) -/
def scaleFree (n : Nat) (sizes : List Nat) (counts : List Int) (scaleKeys : List Nat) (correlated : Bool)
    (corr : Option Rat) (shuffles : Int) (groups : List (List (List Nat))) : Option HG :=
  let req := sizes.zip (counts.map Int.toNat)
  if sfValid sizes counts scaleKeys correlated corr shuffles && admissible n req then
    some (sfLoop (addNodes {} (List.range n)) req groups)
  else none

/-! ## HOADmodel -/

/-- one (order, t, node) step: the coin decides activation; an activated node samples `order` partners -/
structure HoadDraw where
  coin : Rat
  sampled : Bool
  sample : List Nat
deriving Repr, DecidableEq

/-- `neigh_list.append(node_i); if len(neigh_list) == len(set(neigh_list))` -/
def hoadEmit (t i : Nat) (s : List Nat) : List (Nat × Edge) :=
  if (s ++ [i]).Nodup then [(t, sortE (s ++ [i]))] else []

/-- contract of `random.sample(range(N), order)` as far as the routine relies on it -/
def sampleOK (N order : Nat) (s : List Nat) : Bool := s.length == order && s.all (· < N)

/-- outcome of a run of the routine on a recording: it returned (`done`), it raised (`raised`: `act_vect[node_i]`
    beyond the end of the activity vector, or `random.sample(range(N), order)` with `order > N`; carries the part of the
    recording that was not consumed), or the recording does not belong to a run of this routine (`stuck`) -/
inductive Run (α : Type) where
  | done (a : α)
  | raised (rest : List HoadDraw)
  | stuck
deriving Repr, DecidableEq

/-- one node: `stuck` when the recording contradicts the branch taken by the model or the sampler's contract;
    an activated node with `order > N` makes `random.sample` raise (after the coin, before any sample is recorded) -/
def hoadNode (N order : Nat) (act : Rat) (t i : Nat) (d : HoadDraw) (ds : List HoadDraw) : Run (List (Nat × Edge)) :=
  if act > d.coin then
    (if order > N then (if d.sampled then .stuck else .raised ds)
     else if d.sampled && sampleOK N order d.sample then .done (hoadEmit t i d.sample) else .stuck)
  else (if d.sampled then .stuck else .done [])

/-- `for node_i in range(N)`: nodes `i, i+1, .., i+k-1` of one time step; the activity is LOOKED UP at position `node_i`
    of the vector (`act_vect[node_i]`), whatever the length of the vector: entries beyond `N` are never read, a vector
    that is too short raises `IndexError` when the loop reaches its end -/
def hoadNodes (N order t : Nat) (acts : List Rat) : Nat → Nat → List HoadDraw → Run (List (Nat × Edge) × List HoadDraw)
  | 0, _, ds => .done ([], ds)
  | k + 1, i, ds =>
    match acts[i]? with
    | none => .raised ds
    | some a =>
      match ds with
      | [] => .stuck
      | d :: ds =>
        match hoadNode N order a t i d ds with
        | .stuck => .stuck
        | .raised r => .raised r
        | .done out =>
          match hoadNodes N order t acts k (i + 1) ds with
          | .done (outs, rest) => .done (out ++ outs, rest)
          | .raised r => .raised r
          | .stuck => .stuck

/-- time steps `t, t+1, .., t+steps-1` -/
def hoadTimes (N order : Nat) (acts : List Rat) : Nat → Nat → List HoadDraw → Run (List (Nat × Edge) × List HoadDraw)
  | 0, _, ds => .done ([], ds)
  | steps + 1, t, ds =>
    match hoadNodes N order t acts N 0 ds with
    | .stuck => .stuck
    | .raised r => .raised r
    | .done (out, rest) =>
      match hoadTimes N order acts steps (t + 1) rest with
      | .done (outs, rest') => .done (out ++ outs, rest')
      | .raised r => .raised r
      | .stuck => .stuck

/-- `for order in activities_per_order.keys()` (dict order) -/
def hoadOrders (N time : Nat) : List (Nat × List Rat) → List HoadDraw → Run (List (Nat × Edge) × List HoadDraw)
  | [], ds => .done ([], ds)
  | (order, acts) :: more, ds =>
    match hoadTimes N order acts time 0 ds with
    | .stuck => .stuck
    | .raised r => .raised r
    | .done (out, rest) =>
      match hoadOrders N time more rest with
      | .done (outs, rest') => .done (out ++ outs, rest')
      | .raised r => .raised r
      | .stuck => .stuck

/-- `HOADmodel(N, activities_per_order, time)`: `done out` = the distinct (time, hyperedge) records of the returned
    `TemporalHypergraph`; `acts` lists (order, activity vector) in dict order, the vectors have ANY length;
    `raised []` = the call raised exactly at the end of the recording; `stuck`: the draws do not follow the pattern
    coin [sample], break the sampler's contract, or are not used up -/
def hoad (N time : Nat) (acts : List (Nat × List Rat)) (draws : List HoadDraw) : Run (List (Nat × Edge)) :=
  match hoadOrders N time acts draws with
  | .done (out, []) => .done (dedup out)
  | .raised [] => .raised []
  | _ => .stuck

end C14
