import Hgxv.Model.C01X
import Hgxv.Model.C03Ext
/-!
# C01: the constructor as ONE call, the hashing view, `get_mapping`, the raw tables

Core Lean only.  These definitions sit on top of `Model/C01.lean` and `Model/C01X.lean`.  The generic
`sortBy` / `ltList` / `ltNat` / `indexOf?` are the ones of `Model/C03Ext.lean` (labels are ranks: Python's order on
labels is `<` on `Nat`, on sorted node tuples it is the lexicographic `ltList`).
-/
namespace C01
open AL

/-! ## `Hypergraph(edge_list, weighted, weights, hypergraph_metadata, node_metadata, edge_metadata)` -/

/-- the constructor's arguments.  `hm` = `hypergraph_metadata or {}`; `nodeMeta` = the items of `node_metadata` in dict
order (`None` / `{}`: `[]`, the loop `if node_metadata:` does not run); `edges` = `edge_list` (`None` / empty: `[]`,
`if edge_list:` is false) -/
structure CtorArgs where
  weighted : Bool := false
  hm : Meta := []
  nodeMeta : List (Node × Meta) := []
  edges : List (List Nat) := []
  weights : Option (List Int) := none
  emetas : Option (List Meta) := none
  deriving DecidableEq, Repr

/-- `for node, metadata in node_metadata.items(): self.add_node(node, metadata=metadata)` -/
def ctorNodes (s : Store) (nm : List (Node × Meta)) : Store := nm.foldl (fun s p => addNode s p.1 (some p.2)) s

/-- `weighted and weights is not None and len(edge_list) != len(weights)` -/
def ctorLenBad (a : CtorArgs) : Bool :=
  a.weighted && (match a.weights with
    | some ws => decide (a.edges.length ≠ ws.length)
    | none => false)

/-- `__init__` as the code runs it; `none` = it raised (there is no object) -/
def construct (a : CtorArgs) : Option Store :=
  let s := ctorNodes (Store.new a.weighted a.hm) a.nodeMeta
  if a.edges.isEmpty then some s
  else if ctorLenBad a then none
  else match addEdges s a.edges a.weights a.emetas with
    | (s', .ok) => some s'
    | (_, .rej) => none

def Spec.ctorNodes (sp : Spec) (nm : List (Node × Meta)) : Spec := nm.foldl (fun sp p => Spec.addNode sp p.1 (some p.2)) sp

/-- the same text on the abstract hypergraph -/
def Spec.construct (a : CtorArgs) : Option Spec :=
  let sp := Spec.ctorNodes (Spec.new a.weighted a.hm) a.nodeMeta
  if a.edges.isEmpty then some sp
  else if ctorLenBad a then none
  else match Spec.addEdges sp a.edges a.weights a.emetas with
    | (sp', .ok) => some sp'
    | (_, .rej) => none

/-- the public calls an accepted constructor call stands for, on slot `i` -/
def ctorCmds (i : Nat) (a : CtorArgs) : List Cmd :=
  Cmd.new i a.weighted a.hm :: (a.nodeMeta.map (fun p => Cmd.on i (.addNode p.1 (some p.2)))
    ++ (if a.edges.isEmpty then [] else [Cmd.on i (.addEdges a.edges a.weights a.emetas)]))

/-- the property's quantifier: hyperedges are node SETS -/
def CtorArgs.WF (a : CtorArgs) : Prop := ∀ r ∈ a.edges, r.Nodup

instance (a : CtorArgs) : Decidable a.WF := by unfold CtorArgs.WF; infer_instance

/-! ## `expose_attributes_for_hashing()` -/

structure HashView where
  weighted : Bool
  hmeta : Meta
  edges : List (Edge × (Int × Meta))
  nodes : List (Node × Meta)
  deriving DecidableEq, Repr

/-- one record of the loop `for edge in sorted(self._edge_list.keys())`: `sorted(edge)`, `edge_id = self._edge_list[edge]`
(the entry itself), `_weights.get(edge_id, 1)`, `_edge_metadata.get(edge_id, {})` -/
def hashEdge (s : Store) (p : Edge × Nat) : Edge × (Int × Meta) :=
  (canon p.1, ((get? s.weights p.2).getD one, (get? s.emeta p.2).getD []))

/-- `self._node_metadata[node]` for the given nodes; `none` = KeyError -/
def lookupAll (t : List (Node × Meta)) : List Node → Option (List (Node × Meta))
  | [] => some []
  | n :: ns =>
    match get? t n with
    | none => none
    | some m => (lookupAll t ns).map (fun r => (n, m) :: r)

/-- `expose_attributes_for_hashing()`; `none` = raises -/
def hashView (s : Store) : Option HashView :=
  match lookupAll s.nmeta (C03.sortBy id C03.ltNat (keys s.adj)) with
  | none => none
  | some ns =>
    some { weighted := s.weighted, hmeta := s.hmeta
           edges := (C03.sortBy (fun (p : Edge × Nat) => p.1) C03.ltList s.edgeList).map (hashEdge s)
           nodes := ns }

/-- the map's entries in key order, the nodes in label order -/
def Spec.hashView (sp : Spec) : HashView :=
  { weighted := sp.weighted, hmeta := sp.hmeta
    edges := C03.sortBy (fun (r : Edge × (Int × Meta)) => r.1) C03.ltList sp.edges
    nodes := C03.sortBy (fun (p : Node × Meta) => p.1) C03.ltNat sp.nodes }

/-! ## `get_mapping()` -/

/-- `LabelEncoder().fit(self.get_nodes()).classes_`: the sorted node labels; `transform` = position (`C03.indexOf?`) -/
def mapping (s : Store) : List Node := C03.sortBy id C03.ltNat (keys s.adj)
def Spec.mapping (sp : Spec) : List Node := C03.sortBy id C03.ltNat (keys sp.nodes)

/-! ## raw tables -/

/-- `expose_data_structures()`: the nine tables by name (the dictionary's `"type"` entry is a constant) -/
structure TableDict where
  weighted : Bool
  adj : List (Node × List Nat)
  edgeList : List (Edge × Nat)
  weights : List (Nat × Int)
  hmeta : Meta
  nmeta : List (Node × Meta)
  emeta : List (Nat × Meta)
  rev : List (Nat × Edge)
  nextId : Nat
  deriving DecidableEq, Repr

def exposeTables (s : Store) : TableDict :=
  { weighted := s.weighted, adj := s.adj, edgeList := s.edgeList, weights := s.weights, hmeta := s.hmeta,
    nmeta := s.nmeta, emeta := s.emeta, rev := s.rev, nextId := s.nextId }

/-- `populate_from_dict(data)` with every table present -/
def populate (d : TableDict) : Store :=
  { weighted := d.weighted, adj := d.adj, edgeList := d.edgeList, weights := d.weights, hmeta := d.hmeta,
    nmeta := d.nmeta, emeta := d.emeta, rev := d.rev, nextId := d.nextId }

/-- `get_adj_dict()` read through `_reverse_edge_list` (id-free view of the two tables): node ↦ its hyperedges in
adjacency order; an id without reverse entry shows as `none` -/
def adjKeys (s : Store) : List (Node × List (Option Edge)) := s.adj.map (fun p => (p.1, p.2.map (get? s.rev)))

/-- the same view from the map: the keys containing the node, in map order -/
def Spec.adjKeys (sp : Spec) : List (Node × List (Option Edge)) :=
  sp.nodes.map (fun p => (p.1, ((keys sp.edges).filter (fun e => decide (p.1 ∈ e))).map some))

end C01
