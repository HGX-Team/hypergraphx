/-! # C08 model - degrees and connected components (core Lean only)

Input of every function: what `get_nodes()` / `get_edges()` of the containers return, i.e. a node list and a
list of distinct canonical hyperedges (the stateful container itself is C01..C04).  Python function <-> Lean:

* `measures/degree.py`   `degree` / `degree_sequence` / `degree_distribution`  <-> `degree?` / `degreeSeq` / `degreeDist`
  (generic over a key type `κ` with `members : κ → List Nat`: Hypergraph `κ = List Nat`, Temporal `(time, nodes)`,
  Multiplex `(nodes, layer)`, Directed `(sources, targets)` with `dirDeg` = source-incident + target-incident)
* `Hypergraph.get_incident_edges` / `get_neighbors` (order/size filter)          <-> `incident` / `neighbors`
* `utils/visits.py _bfs` (queue + visited, `max_depth=None`)                       <-> `bfs` (well-founded, no fuel) / `bfsFrom`
* `utils/cc.py connected_components` loop                                          <-> `compLoop` / `components`
* `utils/cc.py` wrappers, each with the filter it is given                         <-> `isConnected`, `numComponents`,
  `nodeComponent`, `largestComponent`, `largestComponentSize`, `isolatedNodes`, `isIsolated?`
-/
namespace C08

/-- the `order=` / `size=` keyword pair (both given is rejected before any of the code below runs) -/
inductive Filt where
  | none
  | size (s : Int)
  | order (o : Int)
deriving Repr, DecidableEq

/-- `len(edge) - 1 == order`, with `order = size - 1` when a size is given (`get_incident_edges`) -/
def passes : Filt → Nat → Bool
  | .none, _ => true
  | .size s, len => (len : Int) - 1 == s - 1
  | .order o, len => (len : Int) - 1 == o

/-- `degree_sequence` / `degree_distribution`: `if size is not None: order = size - 1` -/
def toOrder : Filt → Filt
  | .size s => .order (s - 1)
  | f => f

/-! ## degrees, generic over the key type -/
section Generic
variable {κ : Type} (members : κ → List Nat)

/-- `get_incident_edges(node, order|size)`: the keys containing the node that pass the filter -/
def incidentG (keys : List κ) (n : Nat) (f : Filt) : List κ :=
  keys.filter (fun k => decide (n ∈ members k) && passes f (members k).length)

/-- `len(hg.get_incident_edges(node, ...))` -/
def degG (keys : List κ) (n : Nat) (f : Filt) : Nat := (incidentG members keys n f).length

/-- `degree(hg, node, order, size)`; a node that is not in the hypergraph is rejected (ValueError) -/
def degreeG? (nodes : List Nat) (keys : List κ) (n : Nat) (f : Filt) : Option Nat :=
  if n ∈ nodes then some (degG members keys n f) else none

/-- `degree_sequence`: `{node: hg.degree(node, order=order) for node in hg.get_nodes()}` -/
def degreeSeqG (nodes : List Nat) (keys : List κ) (f : Filt) : List (Nat × Nat) :=
  nodes.map (fun n => (n, degG members keys n (toOrder f)))

/-- `if deg not in degree_dist: degree_dist[deg] = 0` ; `degree_dist[deg] += 1` on an insertion-ordered dict -/
def bump (d : Nat) : List (Nat × Nat) → List (Nat × Nat)
  | [] => [(d, 1)]
  | (k, c) :: t => if k = d then (k, c + 1) :: t else (k, c) :: bump d t

/-- `degree_distribution`: histogram of the degree sequence -/
def degreeDistG (nodes : List Nat) (keys : List κ) (f : Filt) : List (Nat × Nat) :=
  (degreeSeqG members nodes keys (toOrder f)).foldl (fun acc p => bump p.2 acc) []

end Generic

def lookup (d : Nat) : List (Nat × Nat) → Option Nat
  | [] => none
  | (k, c) :: t => if k = d then some c else lookup d t

def dirMembers (k : List Nat × List Nat) : List Nat := k.1 ++ k.2

/-- `DirectedHypergraph.get_incident_edges` = `get_source_edges + get_target_edges`, each filtered by the size
of the whole hyperedge; the degree is the length of that concatenation -/
def dirDeg (keys : List (List Nat × List Nat)) (n : Nat) (f : Filt) : Nat :=
  (keys.filter (fun k => decide (n ∈ k.1) && passes f (k.1.length + k.2.length))).length
  + (keys.filter (fun k => decide (n ∈ k.2) && passes f (k.1.length + k.2.length))).length

def dirDegreeSeq (nodes : List Nat) (keys : List (List Nat × List Nat)) (f : Filt) : List (Nat × Nat) :=
  nodes.map (fun n => (n, dirDeg keys n (toOrder f)))

def dirDegreeDist (nodes : List Nat) (keys : List (List Nat × List Nat)) (f : Filt) : List (Nat × Nat) :=
  (dirDegreeSeq nodes keys (toOrder f)).foldl (fun acc p => bump p.2 acc) []

/-! ## Hypergraph: incident hyperedges, neighbours -/

abbrev Edge := List Nat

def incident (es : List Edge) (n : Nat) (f : Filt) : List Edge := incidentG id es n f
def deg (es : List Edge) (n : Nat) (f : Filt) : Nat := degG id es n f
def degree? (nodes : List Nat) (es : List Edge) (n : Nat) (f : Filt) : Option Nat := degreeG? id nodes es n f
def degreeSeq (nodes : List Nat) (es : List Edge) (f : Filt) : List (Nat × Nat) := degreeSeqG id nodes es f
def degreeDist (nodes : List Nat) (es : List Edge) (f : Filt) : List (Nat × Nat) := degreeDistG id nodes es f

/-- `set.add` on a duplicate-free list -/
def addNew (acc : List Nat) (x : Nat) : List Nat := if x ∈ acc then acc else acc ++ [x]

/-- `neigh.update(edge)` -/
def addAll (acc : List Nat) (e : Edge) : List Nat := e.foldl addNew acc

/-- `get_neighbors(node, order|size)`: union of the filtered incident hyperedges, the node itself removed -/
def neighbors (es : List Edge) (f : Filt) (n : Nat) : List Nat :=
  ((incident es n f).foldl addAll []).filter (fun x => x != n)

/-! ## breadth-first search (`_bfs`, `max_depth=None`) -/

theorem filter_length_le {α} (p q : α → Bool) (l : List α) (h : ∀ a, q a = true → p a = true) :
    (l.filter q).length ≤ (l.filter p).length := by
  induction l with
  | nil => simp
  | cons a t ih =>
    simp only [List.filter_cons]
    cases hq : q a <;> cases hp : p a <;> simp <;> try omega
    have := h a hq; rw [hp] at this; cases this

theorem filter_length_lt {α} (p q : α → Bool) (l : List α) (h : ∀ a, q a = true → p a = true)
    (x : α) (hx : x ∈ l) (hpx : p x = true) (hqx : q x = false) :
    (l.filter q).length < (l.filter p).length := by
  induction l with
  | nil => cases hx
  | cons a t ih =>
    simp only [List.filter_cons]
    cases hx with
    | head => rw [hpx, hqx]; simp; have := filter_length_le p q t h; omega
    | tail _ hx' =>
      have := ih hx'
      cases hq : q a <;> cases hp : p a <;> simp <;> try omega
      have := h a hq; rw [hp] at this; cases this

/-- number of nodes of the universe not yet visited (termination measure only) -/
def unvisited (univ visited : List Nat) : Nat := (univ.filter (fun n => decide (n ∉ visited))).length

theorem unvisited_cons_of_not_mem (univ visited : List Nat) (x : Nat) (hx : x ∉ univ) :
    unvisited univ (x :: visited) = unvisited univ visited := by
  unfold unvisited
  congr 1
  apply List.filter_congr
  intro a ha
  have : a ≠ x := fun h => hx (h ▸ ha)
  simp [this]

/-- The `while queue:` loop of `_bfs`: pop the head; if it is new, mark it and append its not yet visited
neighbours.  `univ`/`h` say that only finitely many nodes have neighbours - needed for termination only
(measure: (unvisited nodes of `univ`, queue length), lexicographic); no fuel, no extra branch. -/
def bfs (univ : List Nat) (nbrs : Nat → List Nat) (h : ∀ x, x ∉ univ → nbrs x = []) :
    (queue : List Nat) → (visited : List Nat) → List Nat
  | [], visited => visited
  | x :: q, visited =>
    if x ∈ visited then bfs univ nbrs h q visited
    else bfs univ nbrs h (q ++ (nbrs x).filter (fun n => decide (n ∉ x :: visited))) (x :: visited)
termination_by queue visited => (unvisited univ visited, queue.length)
decreasing_by
  · exact Prod.Lex.right _ (by simp)
  · rename_i hx
    by_cases hu : x ∈ univ
    · apply Prod.Lex.left
      unfold unvisited
      apply filter_length_lt _ _ univ _ x hu
      · simpa using hx
      · simp
      · intro a; simp
    · rw [h x hu, unvisited_cons_of_not_mem univ visited x hu]
      exact Prod.Lex.right _ (by simp)

/-! `neigh.update(edge)` per hyperedge leaves the first occurrences of the concatenation of the hyperedges -/
namespace Link

theorem foldl_addNew_eq (xs : List Nat) : ∀ acc : List Nat,
    xs.foldl addNew acc = acc ++ (xs.filter (fun x => decide (x ∉ acc))).eraseDups := by
  induction xs with
  | nil => intro acc; simp
  | cons a t ih =>
    intro acc
    simp only [List.foldl_cons, List.filter_cons]
    by_cases ha : a ∈ acc
    · simp only [addNew, ha, if_true, not_true_eq_false, decide_false, Bool.false_eq_true, if_false]
      exact ih acc
    · simp only [addNew, ha, if_false, not_false_eq_true, decide_true, if_true]
      rw [ih, List.eraseDups_cons, List.append_assoc, List.filter_filter]
      simp only [List.singleton_append]
      congr 3
      apply List.filter_congr
      intro x _
      by_cases hxa : x = a
      · subst hxa; simp
      · simp [hxa]

theorem foldl_addAll_eq (l : List Edge) : l.foldl addAll [] = l.flatten.eraseDups := by
  have h : ∀ (l : List Edge) (acc : List Nat), l.foldl addAll acc = l.flatten.foldl addNew acc := by
    intro l
    induction l with
    | nil => intro acc; rfl
    | cons e t ih => intro acc; simp only [List.foldl_cons, List.flatten_cons, List.foldl_append, ih]; rfl
  rw [h, foldl_addNew_eq, List.nil_append]
  congr 1
  apply List.filter_eq_self.mpr
  intro a _
  simp

end Link

/-- characterisation of `get_neighbors` -/
theorem mem_neighbors (es : List Edge) (f : Filt) (n v : Nat) :
    v ∈ neighbors es f n ↔ v ≠ n ∧ ∃ e ∈ es, passes f e.length = true ∧ n ∈ e ∧ v ∈ e := by
  simp only [neighbors, List.mem_filter, Link.foldl_addAll_eq, List.mem_eraseDups, List.mem_flatten, incident, incidentG,
    id, Bool.and_eq_true, decide_eq_true_eq, bne_iff_ne, ne_eq]
  constructor
  · rintro ⟨⟨e, ⟨he, hn, hp⟩, hv⟩, hne⟩
    exact ⟨hne, e, he, hp, hn, hv⟩
  · rintro ⟨hne, e, he, hp, hn, hv⟩
    exact ⟨⟨e, ⟨he, hn, hp⟩, hv⟩, hne⟩

theorem neighbors_nil_of_not_mem (es : List Edge) (f : Filt) (x : Nat) (hx : x ∉ es.flatten) :
    neighbors es f x = [] := by
  apply List.eq_nil_iff_forall_not_mem.mpr
  intro v hv
  obtain ⟨_, e, he, _, hn, _⟩ := (mem_neighbors es f x v).mp hv
  exact hx (List.mem_flatten.mpr ⟨e, he, hn⟩)

/-- the visited set of `_bfs(hg, start, order|size)` for a start node of the hypergraph -/
def bfsH (es : List Edge) (f : Filt) (start : Nat) : List Nat :=
  bfs es.flatten (neighbors es f) (neighbors_nil_of_not_mem es f) [start] []

/-- `_bfs`: `if not hg.check_node(start): raise ValueError` -/
def bfsFrom (nodes : List Nat) (es : List Edge) (f : Filt) (start : Nat) : Option (List Nat) :=
  if start ∈ nodes then some (bfsH es f start) else none

/-! ## connected components and the wrappers of `utils/cc.py` -/

/-- the `for node in hg.get_nodes()` loop of `connected_components` (`visited += component`,
`components.append(component)`) -/
def compLoop (cls : Nat → List Nat) : List Nat → List Nat → List (List Nat) → List (List Nat)
  | [], _, comps => comps
  | n :: rest, visited, comps =>
    if n ∈ visited then compLoop cls rest visited comps
    else compLoop cls rest (visited ++ cls n) (comps ++ [cls n])

def components (nodes : List Nat) (es : List Edge) (f : Filt) : List (List Nat) :=
  compLoop (bfsH es f) nodes [] []

/-- `is_connected`: `len(connected_components(order, size)) == 1` -/
def isConnected (nodes : List Nat) (es : List Edge) (f : Filt) : Bool := (components nodes es f).length == 1

/-- `num_connected_components` -/
def numComponents (nodes : List Nat) (es : List Edge) (f : Filt) : Nat := (components nodes es f).length

/-- `node_connected_component`: `_bfs(hg, node, order, size)` -/
def nodeComponent (nodes : List Nat) (es : List Edge) (f : Filt) (n : Nat) : Option (List Nat) := bfsFrom nodes es f n

/-- Python `max(components, key=len)`: the first element of maximal length; `ValueError` on the empty list -/
def maxByLen : List (List Nat) → Option (List Nat)
  | [] => none
  | c :: t => some (t.foldl (fun best d => if best.length < d.length then d else best) c)

/-- `largest_component` -/
def largestComponent (nodes : List Nat) (es : List Edge) (f : Filt) : Option (List Nat) :=
  maxByLen (components nodes es f)

/-- `largest_component_size`: `len(hg.largest_component(...))` -/
def largestComponentSize (nodes : List Nat) (es : List Edge) (f : Filt) : Option Nat :=
  (largestComponent nodes es f).map List.length

/-- `isolated_nodes`: nodes whose filtered neighbourhood is empty, in `get_nodes()` order -/
def isolatedNodes (nodes : List Nat) (es : List Edge) (f : Filt) : List Nat :=
  nodes.filter (fun n => (neighbors es f n).isEmpty)

/-- `is_isolated` (`get_neighbors` rejects a node that is not in the hypergraph) -/
def isIsolated? (nodes : List Nat) (es : List Edge) (f : Filt) (n : Nat) : Option Bool :=
  if n ∈ nodes then some (neighbors es f n).isEmpty else none

end C08
