import Hgxv.Model.C01
/-!
# C01 - the WHOLE `Hypergraph` object and the routines that build a new object from it

Core Lean only (compiled into `driver_c01`).  Same `namespace C01`; this file puts a second machine on top of
`Hgxv/Model/C01.lean` (which other properties build on):

* **Extraction** (`Extract`, `extract : Store → Extract → Store × Out`, `Spec.extract`): `subhypergraph(nodes)`,
  `subhypergraph_by_orders(orders | sizes, keep_nodes)`, `get_edges(order, size, up_to, subhypergraph=True,
  keep_isolated_nodes)` - written as the code is, i.e. as calls of the public mutators on a fresh object
  (`add_nodes`, `set_node_metadata(get_node_metadata)`, `add_edge(get_weight, get_edge_metadata)`, `add_edges`,
  `set_edge_metadata(get_edge_metadata)`), loops as `seqOps`, every `raise` on the way as `Out.rej`
  (`andThen` = "the next statement runs only if the one before returned").  On `rej` the store that is returned is the
  half-built object, which Python throws away (`fstep` ignores it).
* **The whole object** `Full` = `Store` + incidence metadata table (`_incidences_metadata`, keyed by the hyperedge
  *as the caller spelled it* and the node; never pruned by removals) + registry of empty hyperedges (`_empty_edges`,
  write-only: the only observable is that a second `add_empty_edge` of a name raises).  `FOp` = every `Op` +
  `set_incidence_metadata` + `add_empty_edge`; `clear()` also empties the two tables.  `FCmd` = constructor, `copy`,
  `FOp` on a slot, extraction from slot `i` into slot `j`.  `FQuery` = every `Query` + `get_incidence_metadata` +
  `get_all_incidences_metadata`.
* The abstract side (`FSpec`, `Spec.extract`, `FSpec.apply/step/run/query`) is the same over `Spec`; `fabs` forgets ids.
-/
namespace C01
open AL

/-- `r; f` where `f` runs only if `r` returned normally -/
def andThen {σ : Type} (r : σ × Out) (f : σ → σ × Out) : σ × Out :=
  match r with
  | (s, .ok) => f s
  | (s, .rej) => (s, .rej)

/-! ### extraction routines on the tables -/

/-- `h.set_node_metadata(node, self.get_node_metadata(node))` (either call raises for a node it does not have) -/
def copyNodeMeta (src h : Store) (n : Node) : Store × Out :=
  if (get? src.adj n).isSome then setNodeMeta h n ((get? src.nmeta n).getD []) else (h, .rej)

/-- `h.add_edge(edge, weight=self.get_weight(edge), metadata=self.get_edge_metadata(edge))` in a weighted
    hypergraph, `h.add_edge(edge, metadata=self.get_edge_metadata(edge))` otherwise; `edge` is a key of `self` -/
def copyEdge (src h : Store) (e : Edge) : Store × Out :=
  addEdge h e (if src.weighted then some (weightOf src e) else none) (some (emetaOf src e))

/-- `h.set_edge_metadata(edge, self.get_edge_metadata(edge))` -/
def copyEdgeMeta (src h : Store) (e : Edge) : Store × Out := setEdgeMeta h e (emetaOf src e)

/-- `set(edge).issubset(set(nodes))` -/
def insideOf (ns : List Node) (e : Edge) : Bool := e.all fun x => ns.contains x

/-- `subhypergraph(nodes)` -/
def subhypergraph (src : Store) (ns : List Node) : Store × Out :=
  andThen (addNodes (Store.new src.weighted []) ns none) fun h =>
  andThen (seqOps (copyNodeMeta src) h ns) fun h =>
  seqOps (copyEdge src) h ((keys src.edgeList).filter (insideOf ns))

/-- the `orders` / `sizes` arguments: exactly one must be given; orders become sizes -/
def sizesArg : Option (List Int) → Option (List Int) → Option (List Int)
  | none, none => none
  | some _, some _ => none
  | some os, none => some (os.map (· + 1))
  | none, some ks => some ks

/-- `for size in dict.fromkeys(sizes): for edge in self.get_edges(size=size)` -/
def edgesOfSizes (ks : List Int) (es : List Edge) : List Edge :=
  ks.eraseDups.flatMap fun k => es.filter (keepEdge (some (k - 1)) false)

/-- `subhypergraph_by_orders(orders, sizes, keep_nodes)` -/
def subOrders (src : Store) (os ks : Option (List Int)) (keep : Bool) : Store × Out :=
  match sizesArg os ks with
  | none => (Store.new src.weighted [], .rej)
  | some sz =>
    andThen (if keep then
        andThen (addNodes (Store.new src.weighted []) (keys src.adj) none) fun h =>
          seqOps (copyNodeMeta src) h (keys src.adj)
      else (Store.new src.weighted [], .ok)) fun h =>
    andThen (seqOps (copyEdge src) h (edgesOfSizes sz (keys src.edgeList))) fun h =>
    if keep then (h, .ok) else seqOps (copyNodeMeta src) h (keys h.adj)

/-- `get_edges(order, size, up_to, subhypergraph=True, keep_isolated_nodes=iso)` -/
def subEdges (src : Store) (f : Filter) (iso : Bool) : Store × Out :=
  match edgesF src f with
  | none => (Store.new src.weighted [], .rej)
  | some es =>
    andThen (if iso then addNodes (Store.new src.weighted []) (keys src.adj) none
             else (Store.new src.weighted [], .ok)) fun h =>
    andThen (addEdges h es (if src.weighted then some (es.map (weightOf src)) else none) none) fun h =>
    andThen (seqOps (copyNodeMeta src) h (keys h.adj)) fun h =>
    seqOps (copyEdgeMeta src) h es

inductive Extract
  | sub (ns : List Node)
  | orders (os ks : Option (List Int)) (keep : Bool)
  | edges (f : Filter) (iso : Bool)
  deriving DecidableEq, Repr

def extract (src : Store) : Extract → Store × Out
  | .sub ns => subhypergraph src ns
  | .orders os ks keep => subOrders src os ks keep
  | .edges f iso => subEdges src f iso

/-! ### the same routines on the abstract hypergraph -/
namespace Spec

def copyNodeMeta (src h : Spec) (n : Node) : Spec × Out :=
  if (get? src.nodes n).isSome then setNodeMeta h n ((get? src.nodes n).getD []) else (h, .rej)

def copyEdge (src h : Spec) (e : Edge) : Spec × Out :=
  addEdge h e (if src.weighted then some (weightOf src e) else none) (some (emetaOf src e))

def copyEdgeMeta (src h : Spec) (e : Edge) : Spec × Out := setEdgeMeta h e (emetaOf src e)

def subhypergraph (src : Spec) (ns : List Node) : Spec × Out :=
  andThen (addNodes (Spec.new src.weighted []) ns none) fun h =>
  andThen (seqOps (copyNodeMeta src) h ns) fun h =>
  seqOps (copyEdge src) h ((keys src.edges).filter (insideOf ns))

def subOrders (src : Spec) (os ks : Option (List Int)) (keep : Bool) : Spec × Out :=
  match sizesArg os ks with
  | none => (Spec.new src.weighted [], .rej)
  | some sz =>
    andThen (if keep then
        andThen (addNodes (Spec.new src.weighted []) (keys src.nodes) none) fun h =>
          seqOps (copyNodeMeta src) h (keys src.nodes)
      else (Spec.new src.weighted [], .ok)) fun h =>
    andThen (seqOps (copyEdge src) h (edgesOfSizes sz (keys src.edges))) fun h =>
    if keep then (h, .ok) else seqOps (copyNodeMeta src) h (keys h.nodes)

def subEdges (src : Spec) (f : Filter) (iso : Bool) : Spec × Out :=
  match edgesF src f with
  | none => (Spec.new src.weighted [], .rej)
  | some es =>
    andThen (if iso then addNodes (Spec.new src.weighted []) (keys src.nodes) none
             else (Spec.new src.weighted [], .ok)) fun h =>
    andThen (addEdges h es (if src.weighted then some (es.map (weightOf src)) else none) none) fun h =>
    andThen (seqOps (copyNodeMeta src) h (keys h.nodes)) fun h =>
    seqOps (copyEdgeMeta src) h es

def extract (src : Spec) : Extract → Spec × Out
  | .sub ns => subhypergraph src ns
  | .orders os ks keep => subOrders src os ks keep
  | .edges f iso => subEdges src f iso

end Spec

/-! ### the whole object -/

/-- key of `_incidences_metadata`: (the hyperedge as the caller wrote it, node) -/
abbrev IncKey := List Nat × Node

structure Full where
  base : Store := {}
  inc : List (IncKey × Meta) := []
  empties : List (Nat × Meta) := []
  deriving DecidableEq, Repr

structure FSpec where
  base : Spec := {}
  inc : List (IncKey × Meta) := []
  empties : List (Nat × Meta) := []
  deriving DecidableEq, Repr

inductive FOp
  | base (op : Op)
  | setIncMeta (raw : List Nat) (n : Node) (md : Meta)
  | addEmptyEdge (name : Nat) (md : Meta)
  deriving DecidableEq, Repr

def FOp.WF : FOp → Prop
  | .base op => op.WF
  | _ => True

/-- is the operation `clear()`?  (In `Full.apply`, `clear()` also empties `_incidences_metadata` and `_empty_edges`; every other
`Op` leaves them alone.) -/
def isClear : Op → Bool
  | .clear => true
  | _ => false

/-- `self._incidences_metadata[(edge, node)] = metadata` -/
def regSetInc (inc : List (IncKey × Meta)) (present : Bool) (raw : List Nat) (n : Node) (md : Meta) :
    List (IncKey × Meta) × Out :=
  if present then (AL.set inc (raw, n) md, .ok) else (inc, .rej)

/-- `self._empty_edges[name] = metadata` (a registered name raises) -/
def regAddEmpty (em : List (Nat × Meta)) (name : Nat) (md : Meta) : List (Nat × Meta) × Out :=
  if (get? em name).isSome then (em, .rej) else (AL.set em name md, .ok)

def Full.apply (s : Full) : FOp → Full × Out
  | .base op =>
    let r := C01.apply s.base op
    (if isClear op then { base := r.1 } else { s with base := r.1 }, r.2)
  | .setIncMeta raw n md =>
    -- `if tuple(sorted(edge)) not in self._edge_list: raise ValueError`
    let r := regSetInc s.inc (get? s.base.edgeList (canon raw)).isSome raw n md
    ({ s with inc := r.1 }, r.2)
  | .addEmptyEdge name md =>
    let r := regAddEmpty s.empties name md
    ({ s with empties := r.1 }, r.2)

def FSpec.apply (a : FSpec) : FOp → FSpec × Out
  | .base op =>
    let r := Spec.apply a.base op
    (if isClear op then { base := r.1 } else { a with base := r.1 }, r.2)
  | .setIncMeta raw n md =>
    let r := regSetInc a.inc (get? a.base.edges (canon raw)).isSome raw n md
    ({ a with inc := r.1 }, r.2)
  | .addEmptyEdge name md =>
    let r := regAddEmpty a.empties name md
    ({ a with empties := r.1 }, r.2)

inductive FCmd
  | new (i : Nat) (weighted : Bool) (hm : Meta)
  | copy (i j : Nat)
  | on (i : Nat) (op : FOp)
  | extract (i j : Nat) (x : Extract)
  deriving DecidableEq, Repr

def FCmd.WF : FCmd → Prop
  | .on _ op => op.WF
  | _ => True

abbrev FState := List Full
abbrev FSState := List FSpec

def finit (k : Nat) : FState := List.replicate k { base := Store.new false [] }
def FSpec.init (k : Nat) : FSState := List.replicate k { base := Spec.new false [] }

def fstep (st : FState) : FCmd → FState × Out
  | .new i w hm => if i < st.length then (st.set i { base := Store.new w hm }, .ok) else (st, .rej)
  | .copy i j =>
    match st[i]? with
    | some s => if j < st.length then (st.set j s, .ok) else (st, .rej)
    | none => (st, .rej)
  | .on i op =>
    match st[i]? with
    | some s => let r := s.apply op; (st.set i r.1, r.2)
    | none => (st, .rej)
  | .extract i j x =>
    match st[i]? with
    | some s =>
      if j < st.length then
        match C01.extract s.base x with
        | (h, .ok) => (st.set j { base := h }, .ok)
        | (_, .rej) => (st, .rej)
      else (st, .rej)
    | none => (st, .rej)

def FSpec.step (st : FSState) : FCmd → FSState × Out
  | .new i w hm => if i < st.length then (st.set i { base := Spec.new w hm }, .ok) else (st, .rej)
  | .copy i j =>
    match st[i]? with
    | some s => if j < st.length then (st.set j s, .ok) else (st, .rej)
    | none => (st, .rej)
  | .on i op =>
    match st[i]? with
    | some s => let r := s.apply op; (st.set i r.1, r.2)
    | none => (st, .rej)
  | .extract i j x =>
    match st[i]? with
    | some s =>
      if j < st.length then
        match Spec.extract s.base x with
        | (h, .ok) => (st.set j { base := h }, .ok)
        | (_, .rej) => (st, .rej)
      else (st, .rej)
    | none => (st, .rej)

def frun (st : FState) (cs : List FCmd) : FState := cs.foldl (fun st c => (fstep st c).1) st
def FSpec.run (st : FSState) (cs : List FCmd) : FSState := cs.foldl (fun st c => (FSpec.step st c).1) st

inductive FQuery
  | base (q : Query)
  | incMeta (raw : List Nat) (n : Node)
  | allIncMeta
  deriving DecidableEq, Repr

inductive FAns
  | base (a : Ans)
  | imetas (l : List (IncKey × Meta))
  deriving DecidableEq, Repr

/-- `get_incidence_metadata(edge, node)`: ValueError for an absent hyperedge, KeyError for an absent entry -/
def regGetInc (inc : List (IncKey × Meta)) (present : Bool) (raw : List Nat) (n : Node) : FAns :=
  if present then
    match get? inc (raw, n) with
    | some md => .base (.dict md)
    | none => .base .rej
  else .base .rej

def Full.answer (s : Full) : FQuery → FAns
  | .base q => .base (C01.answer s.base q)
  | .incMeta raw n => regGetInc s.inc (get? s.base.edgeList (canon raw)).isSome raw n
  | .allIncMeta => .imetas s.inc

def FSpec.answer (a : FSpec) : FQuery → FAns
  | .base q => .base (Spec.answer a.base q)
  | .incMeta raw n => regGetInc a.inc (get? a.base.edges (canon raw)).isSome raw n
  | .allIncMeta => .imetas a.inc

def fquery (st : FState) (i : Nat) (q : FQuery) : FAns :=
  match st[i]? with
  | some s => s.answer q
  | none => .base .rej

def FSpec.query (st : FSState) (i : Nat) (q : FQuery) : FAns :=
  match st[i]? with
  | some s => s.answer q
  | none => .base .rej

def fabs (s : Full) : FSpec := { base := abs s.base, inc := s.inc, empties := s.empties }

/-- a history of the base machine as a history of the whole-object machine -/
def Cmd.lift : Cmd → FCmd
  | .new i w hm => .new i w hm
  | .copy i j => .copy i j
  | .on i op => .on i (.base op)

end C01
