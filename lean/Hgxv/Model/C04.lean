import Hgxv.Model.AList
/-! # C04 - concrete model of `hypergraphx.core.multiplex_hypergraph.MultiplexHypergraph`

Core Lean only (compiled into `driver_c04`).  Models the code AFTER the repairs D14-D18, D41, D42
(branch `wC04`).  Python attribute  ↔  field of `Store`:

| Python                         | model                                                            |
|--------------------------------|------------------------------------------------------------------|
| `_edge_list : (nodes, layer) → id`     | `edgeList : List (Key × Nat)` (insertion ordered, `AL`)  |
| `_reverse_edge_list : id → key`        | `rev      : List (Nat × Key)`                            |
| `_weights`, `_edge_metadata` (by id)   | `weights : List (Nat × Int)`, `emeta : List (Nat × Meta)`|
| `_adj : node → [ids]`                  | `adj : List (Node × List Nat)`                           |
| `_node_metadata`                       | `nmeta : List (Node × Meta)`                             |
| `_next_edge_id`, `_weighted`           | `nextId`, `weighted`                                     |
| `_hypergraph_metadata`                 | `hmeta : HMeta` (token keys, see below)                  |
| `_existing_layers` (a set)             | `layers : List Layer` (duplicate free, order of first use)|

Conventions: node labels and layer names are `Nat` (rank of the Python label), weights are
`Int` numbers of quanta of 1/4 (Python's default weight `1` is `one = 4`), metadata dicts are association
lists of `Nat` tokens.  Keys of the hypergraph-metadata dict: `hkWeighted = 0` ("weighted"),
`hkType = 1` ("type"), `hkDataset = 2` ("multiplex_metadata"), `hkLayer L = 10 + L` (a layer name used as
key by `set_layer_metadata`), anything `≥ 100` a free field.  Value tokens: `0/1` = `False/True`,
`tokMultiplex = 2`, `tokHypergraph = 3`, others free.

API for later users (C06, C07, C08, C19):
* `Store`, `init w hm`, `Op`, `step : Store → Op → Store × Out`, `run`;
* single operations `addNode`, `addNodes`, `addEdge`, `addEdges`, `removeEdge`, `removeNode`, `setWeight`,
  `setAttrEdge` ... (each mirrors one Python method; `Out.rej` = the call raises and the state is unchanged);
* queries `nodes`, `records`, `getWeight`, `getEdgeMeta`, `incident`, `degree`, `degreeSeq`, `edgesMeta`,
  `layerMeta`, `datasetMeta`, `aggregated : Store → Option HSpec`, `overlap`;
* `HSpec` - abstract plain hypergraph (what C01 proves `Hypergraph` to be) with `HSpec.addNode/addEdge`.
The abstract specification of the multiplex container is `Hgxv/Model/C04Spec.lean`. -/
namespace C04

abbrev Node := Nat
abbrev Layer := Nat
abbrev Edge := List Node
abbrev Key := Edge × Layer
abbrev Meta := List (Nat × Nat)
abbrev HMeta := List (Nat × Nat)

/-- `del d[k]`: drop the entry with key `k` (dict keys are unique; written as a filter so that no
duplicate-freeness hypothesis is needed to reason about it) -/
def del {α β : Type} [DecidableEq α] (l : List (α × β)) (k : α) : List (α × β) :=
  l.filter (fun p => p.1 ≠ k)

/-- Python's weight `1` in quanta of 1/4 -/
def one : Int := 4

def hkWeighted : Nat := 0
def hkType : Nat := 1
def hkDataset : Nat := 2
def hkLayer (l : Layer) : Nat := 10 + l
def tokBool (b : Bool) : Nat := if b then 1 else 0
def tokMultiplex : Nat := 2
def tokHypergraph : Nat := 3

inductive Out | ok | rej deriving DecidableEq, Repr

/-- the `order=` / `size=` arguments of `get_incident_edges`, `degree`, `degree_sequence` -/
inductive Filt
  | all                 -- neither given
  | size (k : Nat)
  | order (k : Nat)
  | both                -- both given: the call raises
  deriving DecidableEq, Repr

structure Store where
  weighted : Bool := false
  edgeList : List (Key × Nat) := []
  rev : List (Nat × Key) := []
  weights : List (Nat × Int) := []
  emeta : List (Nat × Meta) := []
  adj : List (Node × List Nat) := []
  nmeta : List (Node × Meta) := []
  nextId : Nat := 0
  hmeta : HMeta := []
  layers : List Layer := []
  deriving Repr

/-- `MultiplexHypergraph(weighted=w, hypergraph_metadata=hm)`:
`self._hypergraph_metadata = hm or {}` then `.update({"weighted": w, "type": "MultiplexHypergraph"})` -/
def init (w : Bool) (hm : HMeta := []) : Store :=
  { weighted := w, hmeta := AL.set (AL.set hm hkWeighted (tokBool w)) hkType tokMultiplex }

/-! ## canonical form of a hyperedge: `tuple(sorted(edge))` -/
def insertSorted (a : Nat) : List Nat → List Nat
  | [] => [a]
  | b :: bs => if a ≤ b then a :: b :: bs else b :: insertSorted a bs
def canon (l : List Nat) : Edge := l.foldr insertSorted []

/-! ## nodes -/

/-- first half of `add_node`: `if node not in self._adj: self._adj[node] = []; self._node_metadata[node] = {}` -/
def ensureNode (s : Store) (n : Node) : Store :=
  if (AL.get? s.adj n).isSome then s
  else { s with adj := AL.set s.adj n [], nmeta := AL.set s.nmeta n [] }

/-- second half of `add_node`: `if self._node_metadata[node] == {}: self._node_metadata[node] = metadata` -/
def fillNodeMeta (s : Store) (n : Node) (md : Meta) : Store :=
  match AL.get? s.nmeta n with
  | some [] => { s with nmeta := AL.set s.nmeta n md }
  | _ => s

/-- `add_node(node, metadata)`; `metadata=None` is `{}` -/
def addNode (s : Store) (n : Node) (md : Option Meta) : Store :=
  fillNodeMeta (ensureNode s n) n (md.getD [])

/-- `add_nodes(node_list, node_metadata)` (after D42: the dict must cover the whole list, tested first) -/
def addNodes (s : Store) (ns : List Node) (mds : Option (List (Node × Meta))) : Store × Out :=
  match mds with
  | none => (ns.foldl (fun s n => addNode s n none) s, .ok)
  | some d =>
    if ns.all (fun n => (AL.get? d n).isSome) then (ns.foldl (fun s n => addNode s n (AL.get? d n)) s, .ok)
    else (s, .rej)

/-! ## insertion -/

/-- `self._existing_layers.add(layer)` -/
def addLayer (ls : List Layer) (l : Layer) : List Layer := if l ∈ ls then ls else ls ++ [l]

/-- `for node in edge: self.add_node(node)` -/
def touchNodes (s : Store) : List Node → Store
  | [] => s
  | n :: ns => touchNodes (addNode s n none) ns

/-- `for node in edge: self._adj[node].append(e_id)` (only for a new record) -/
def linkNodes (adj : List (Node × List Nat)) (id : Nat) : List Node → List (Node × List Nat)
  | [] => adj
  | n :: ns => linkNodes (AL.set adj n (((AL.get? adj n).getD []) ++ [id])) id ns

/-- `e_id = self._next_edge_id; rev[e_id] = k; edge_list[k] = e_id; next_id += 1; weights[e_id] = weight` and
(later in `add_edge`) `edge_metadata[e_id] = metadata` -/
def allocRecord (s : Store) (k : Key) (w : Int) (md : Meta) : Store :=
  { s with rev := AL.set s.rev s.nextId k, edgeList := AL.set s.edgeList k s.nextId, nextId := s.nextId + 1,
           weights := AL.set s.weights s.nextId w, emeta := AL.set s.emeta s.nextId md }

def linkAll (s : Store) (id : Nat) (ns : List Node) : Store := { s with adj := linkNodes s.adj id ns }

/-- branch `k not in self._edge_list` of `add_edge` -/
def addEdgeNew (s : Store) (k : Key) (w : Int) (md : Meta) : Store :=
  linkAll (touchNodes (allocRecord s k w md) k.1) s.nextId k.1

/-- `if self._weighted: weights[id] += weight` and `edge_metadata[id] = metadata` -/
def bumpRecord (s : Store) (id : Nat) (w : Int) (md : Meta) : Store :=
  { s with weights := if s.weighted then AL.set s.weights id (((AL.get? s.weights id).getD 0) + w) else s.weights,
           emeta := AL.set s.emeta id md }

/-- branch `k in self._edge_list` of `add_edge`: weight added when weighted, metadata replaced, adjacency
untouched -/
def addEdgeOld (s : Store) (k : Key) (id : Nat) (w : Int) (md : Meta) : Store :=
  touchNodes (bumpRecord s id w md) k.1

/-- `add_edge` after the weight test: registry, canonical key, new / old branch -/
def addEdgeCore (s : Store) (raw : List Node) (l : Layer) (w : Int) (md : Meta) : Store :=
  match AL.get? s.edgeList (canon raw, l) with
  | none => addEdgeNew { s with layers := addLayer s.layers l } (canon raw, l) w md
  | some id => addEdgeOld { s with layers := addLayer s.layers l } (canon raw, l) id w md

/-- `add_edge(edge, layer, weight, metadata)`; `weight=None` is 1; an unweighted hypergraph rejects `weight != 1` -/
def addEdge (s : Store) (raw : List Node) (l : Layer) (w : Option Int) (md : Option Meta) : Store × Out :=
  if !s.weighted && w.getD one != one then (s, .rej) else (addEdgeCore s raw l (w.getD one) (md.getD []), .ok)

/-- the loop of `add_edges`: one `add_edge` per position -/
def addEdgesLoop (s : Store) : List (List Node × Layer) → List (Option Int) → List (Option Meta) → Store
  | (raw, l) :: es, w :: ws, md :: mds => addEdgesLoop (addEdge s raw l w md).1 es ws mds
  | _, _, _ => s

/-- `metadata is None or len(metadata) >= len(edge_list)` (surplus entries are ignored, as surplus layers are) -/
def mdsLenOK (mds : Option (List Meta)) (n : Nat) : Bool :=
  match mds with
  | some m => decide (n ≤ m.length)
  | none => true

/-- `add_edges(edge_list, edge_layer, weights, metadata)` after D16 (duplicate test on (edge, layer) pairs as
given) and D42 (all tests first; `weights` given switches the hypergraph to weighted) -/
def addEdges (s : Store) (raws : List (List Node)) (ls : List Layer) (ws : Option (List Int))
    (mds : Option (List Meta)) : Store × Out :=
  let n := raws.length
  if ls.length < n then (s, .rej)
  else if !(mdsLenOK mds n) then (s, .rej)
  else
    let mdl : List (Option Meta) := match mds with | some m => m.map some | none => List.replicate n none
    match ws with
    | some wl =>
      if ¬ (raws.zip ls).Nodup then (s, .rej)
      else if wl.length ≠ n then (s, .rej)
      else (addEdgesLoop { s with weighted := true } (raws.zip ls) (wl.map some) mdl, .ok)
    | none => (addEdgesLoop s (raws.zip ls) (List.replicate n none) mdl, .ok)

/-! ## removal -/

/-- `for node in nodes: if edge_id in self._adj[node]: self._adj[node].remove(edge_id)` -/
def unlinkNodes (adj : List (Node × List Nat)) (id : Nat) : List Node → List (Node × List Nat)
  | [] => adj
  | n :: ns =>
    let adj := match AL.get? adj n with
      | some ids => AL.set adj n (ids.erase id)
      | none => adj
    unlinkNodes adj id ns

/-- body of `remove_edge` for a key known to have id `id` -/
def removeKey (s : Store) (k : Key) (id : Nat) : Store :=
  { s with rev := del s.rev id, weights := del s.weights id, emeta := del s.emeta id,
           adj := unlinkNodes s.adj id k.1, edgeList := del s.edgeList k }

/-- `remove_edge((nodes, layer))` after D15 -/
def removeEdge (s : Store) (raw : List Node) (l : Layer) : Store × Out :=
  match AL.get? s.edgeList (canon raw, l) with
  | none => (s, .rej)
  | some id => (removeKey s (canon raw, l) id, .ok)

/-- one iteration of the `keep_edges=False` loop of `remove_node`.  (`self._reverse_edge_list[edge_id]` for a
dangling id would raise in Python; the invariant `C04_inv` excludes it, the model skips the id.) -/
def dropRecord (s : Store) (id : Nat) : Store :=
  match AL.get? s.rev id with
  | none => s
  | some (e, l) => (removeEdge s e l).1

/-- one iteration of the `keep_edges=True` loop of `remove_node` (after D41: weight and metadata are read
before the record is removed) -/
def shrinkRecord (s : Store) (n : Node) (id : Nat) : Store :=
  match AL.get? s.rev id with
  | none => s
  | some (e, l) =>
    let e' := e.filter (· ≠ n)
    let w := (AL.get? s.weights id).getD one
    let md := (AL.get? s.emeta id).getD []
    let s1 := (removeEdge s e l).1
    if e'.isEmpty then s1 else (addEdge s1 e' l (some w) (some md)).1

/-- `remove_node(node, keep_edges)` -/
def removeNode (s : Store) (n : Node) (keep : Bool) : Store × Out :=
  match AL.get? s.adj n with
  | none => (s, .rej)
  | some ids =>
    let s1 := ids.foldl (fun s id => if keep then shrinkRecord s n id else dropRecord s id) s
    ({ s1 with adj := del s1.adj n, nmeta := del s1.nmeta n }, .ok)

/-! ## weights and metadata -/

/-- `set_weight(edge, layer, weight)` -/
def setWeight (s : Store) (raw : List Node) (l : Layer) (w : Int) : Store × Out :=
  if !s.weighted && w != one then (s, .rej) else
  match AL.get? s.edgeList (canon raw, l) with
  | none => (s, .rej)
  | some id => ({ s with weights := AL.set s.weights id w }, .ok)

def setHMeta (s : Store) (hm : HMeta) : Store := { s with hmeta := hm }
def setAttrH (s : Store) (k v : Nat) : Store := { s with hmeta := AL.set s.hmeta k v }
/-- `set_layer_metadata(layer_name, metadata)` -/
def setLayerMeta (s : Store) (l : Layer) (v : Nat) : Store := setAttrH s (hkLayer l) v
/-- `set_dataset_metadata(metadata)` -/
def setDatasetMeta (s : Store) (v : Nat) : Store := setAttrH s hkDataset v

/-- `set_attr_to_node_metadata(node, field, value)` -/
def setAttrNode (s : Store) (n : Node) (k v : Nat) : Store × Out :=
  match AL.get? s.nmeta n with
  | none => (s, .rej)
  | some md => ({ s with nmeta := AL.set s.nmeta n (AL.set md k v) }, .ok)

/-- `remove_attr_from_node_metadata(node, field)`: `del` of a missing field raises -/
def delAttrNode (s : Store) (n : Node) (k : Nat) : Store × Out :=
  match AL.get? s.nmeta n with
  | none => (s, .rej)
  | some md => if (AL.get? md k).isSome then ({ s with nmeta := AL.set s.nmeta n (del md k) }, .ok) else (s, .rej)

/-- `set_attr_to_edge_metadata(edge, layer, field, value)` after D14 -/
def setAttrEdge (s : Store) (raw : List Node) (l : Layer) (k v : Nat) : Store × Out :=
  match AL.get? s.edgeList (canon raw, l) with
  | none => (s, .rej)
  | some id =>
    match AL.get? s.emeta id with
    | none => (s, .rej)
    | some md => ({ s with emeta := AL.set s.emeta id (AL.set md k v) }, .ok)

/-- `remove_attr_from_edge_metadata(edge, layer, field)` after D14 -/
def delAttrEdge (s : Store) (raw : List Node) (l : Layer) (k : Nat) : Store × Out :=
  match AL.get? s.edgeList (canon raw, l) with
  | none => (s, .rej)
  | some id =>
    match AL.get? s.emeta id with
    | none => (s, .rej)
    | some md => if (AL.get? md k).isSome then ({ s with emeta := AL.set s.emeta id (del md k) }, .ok) else (s, .rej)

/-! ## operations and histories -/

inductive Op
  | addNode (n : Node) (md : Option Meta)
  | addNodes (ns : List Node) (mds : Option (List (Node × Meta)))
  | addEdge (raw : List Node) (l : Layer) (w : Option Int) (md : Option Meta)
  | addEdges (raws : List (List Node)) (ls : List Layer) (ws : Option (List Int)) (mds : Option (List Meta))
  | removeEdge (raw : List Node) (l : Layer)
  | removeNode (n : Node) (keep : Bool)
  | setWeight (raw : List Node) (l : Layer) (w : Int)
  | setHMeta (hm : HMeta)
  | setAttrH (k v : Nat)
  | setLayerMeta (l : Layer) (v : Nat)
  | setDatasetMeta (v : Nat)
  | setAttrNode (n : Node) (k v : Nat)
  | delAttrNode (n : Node) (k : Nat)
  | setAttrEdge (raw : List Node) (l : Layer) (k v : Nat)
  | delAttrEdge (raw : List Node) (l : Layer) (k : Nat)
  deriving Repr

def step (s : Store) : Op → Store × Out
  | .addNode n md => (addNode s n md, .ok)
  | .addNodes ns mds => addNodes s ns mds
  | .addEdge raw l w md => addEdge s raw l w md
  | .addEdges raws ls ws mds => addEdges s raws ls ws mds
  | .removeEdge raw l => removeEdge s raw l
  | .removeNode n keep => removeNode s n keep
  | .setWeight raw l w => setWeight s raw l w
  | .setHMeta hm => (setHMeta s hm, .ok)
  | .setAttrH k v => (setAttrH s k v, .ok)
  | .setLayerMeta l v => (setLayerMeta s l v, .ok)
  | .setDatasetMeta v => (setDatasetMeta s v, .ok)
  | .setAttrNode n k v => setAttrNode s n k v
  | .delAttrNode n k => delAttrNode s n k
  | .setAttrEdge raw l k v => setAttrEdge s raw l k v
  | .delAttrEdge raw l k => delAttrEdge s raw l k

def run (s : Store) (ops : List Op) : Store := ops.foldl (fun s op => (step s op).1) s

/-! ## queries -/

/-- `get_nodes()` -/
def nodes (s : Store) : List Node := AL.keys s.nmeta
/-- `get_edges()` -/
def records (s : Store) : List Key := AL.keys s.edgeList
/-- `get_weight(edge, layer)`; `none` = raises -/
def getWeight (s : Store) (raw : List Node) (l : Layer) : Option Int :=
  match AL.get? s.edgeList (canon raw, l) with
  | none => none
  | some id => AL.get? s.weights id
/-- `get_edge_metadata(edge, layer)` -/
def getEdgeMeta (s : Store) (raw : List Node) (l : Layer) : Option Meta :=
  match AL.get? s.edgeList (canon raw, l) with
  | none => none
  | some id => AL.get? s.emeta id
/-- `get_edges(metadata=True)`: `{rev[id]: md for id in _edge_metadata}` -/
def edgesMeta (s : Store) : List (Key × Meta) :=
  s.emeta.filterMap (fun (p : Nat × Meta) => (AL.get? s.rev p.1).map (fun k => (k, p.2)))

def sizeOK (f : Filt) (e : Edge) : Bool :=
  match f with
  | .all => true
  | .size k => e.length == k
  | .order k => e.length == k + 1
  | .both => false

/-- `get_incident_edges(node, order, size)` after D18; `none` = raises -/
def incident (s : Store) (n : Node) (f : Filt) : Option (List Key) :=
  match AL.get? s.adj n with
  | none => none
  | some ids => if f = .both then none else some ((ids.filterMap (AL.get? s.rev)).filter (fun k => sizeOK f k.1))

/-- `degree(node, order, size)` -/
def degree (s : Store) (n : Node) (f : Filt) : Option Nat := (incident s n f).map List.length

/-- `degree_sequence(order, size)` -/
def degreeSeq (s : Store) (f : Filt) : Option (List (Node × Nat)) :=
  if f = .both then none else (nodes s).mapM (fun n => (degree s n f).map (fun d => (n, d)))

/-- `get_layer_metadata(layer_name)` / `get_dataset_metadata()`: plain dict lookups, raise when absent -/
def layerMeta (s : Store) (l : Layer) : Option Nat := AL.get? s.hmeta (hkLayer l)
def datasetMeta (s : Store) : Option Nat := AL.get? s.hmeta hkDataset

/-! ## aggregation -/

/-- abstract plain hypergraph: what the public API of `Hypergraph` shows (property C01) -/
structure HSpec where
  weighted : Bool
  nodes : List (Node × Meta) := []
  edges : List (Edge × (Int × Meta)) := []
  hmeta : HMeta := []
  deriving Repr

/-- `Hypergraph.add_node(node, metadata)` -/
def HSpec.addNode (h : HSpec) (n : Node) (md : Meta) : HSpec :=
  match AL.get? h.nodes n with
  | none => { h with nodes := AL.set h.nodes n md }
  | some [] => { h with nodes := AL.set h.nodes n md }
  | some _ => h

/-- `Hypergraph.add_edge(edge, weight, metadata)` with an explicit weight; `none` = raises -/
def HSpec.addEdge (h : HSpec) (e : Edge) (w : Int) (md : Meta) : Option HSpec :=
  if !h.weighted && w != one then none else
  match AL.get? h.edges e with
  | none =>
    let h1 : HSpec := { h with edges := AL.set h.edges e (if h.weighted then w else one, md) }
    some (e.foldl (fun h n => h.addNode n []) h1)
  | some (w0, _) => some { h with edges := AL.set h.edges e (if h.weighted then w0 + w else w0, md) }

/-- the second loop of `aggregated_hypergraph`: `for (edge, layer) in get_edges(): h.add_edge(edge,
get_weight(edge, layer), get_edge_metadata(edge, layer))` -/
def aggEdges (s : Store) : List Key → HSpec → Option HSpec
  | [], h => some h
  | (e, l) :: ks, h =>
    match getWeight s e l, getEdgeMeta s e l with
    | some w, some md =>
      match h.addEdge e w md with
      | some h' => aggEdges s ks h'
      | none => none
    | _, _ => none

/-- `aggregated_hypergraph()` after D17 (the metadata dict is copied): a `Hypergraph` with the same weighted
flag, the multiplex metadata overwritten by `weighted`/`type`, all nodes with their metadata, then all records.
`none` = the call raises. -/
def aggregated (s : Store) : Option HSpec :=
  let h0 : HSpec := { weighted := s.weighted,
                      hmeta := AL.set (AL.set s.hmeta hkWeighted (tokBool s.weighted)) hkType tokHypergraph }
  let h1 := s.nmeta.foldl (fun h (p : Node × Meta) => h.addNode p.1 p.2) h0
  aggEdges s (records s) h1

/-- `measures.multiplex.edge_overlap(h, edge)`: sum of `get_weight(edge, layer)` over the registered layers
that hold the hyperedge -/
def overlap (s : Store) (raw : List Node) : Int :=
  (s.layers.map (fun l => (getWeight s raw l).getD 0)).sum

end C04
