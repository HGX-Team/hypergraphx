import Hgxv.Model.C04Dump
import Hgxv.Model.C04Ext
/-! # C04 - the raw setters, histories with raw calls, the hashing view for layer names
that cannot be ordered

Core Lean only (compiled into `driver_c04`).

* `setEdgeList` / `setAdjDict` / `setExistingLayers` - `set_edge_list(d)`, `set_adj_dict(d)`, `set_existing_layers(s)`:
  plain attribute assignments (nothing is checked, nothing else is touched), `getExistingLayers` the getter of the
  registry.  `RawOp` / `rawStep` / `rawRun`: histories in which public calls are mixed with raw assignments and with
  `populate_from_dict(data)`.
* `hashViewT ty` - `expose_attributes_for_hashing()` when layer names have Python types that need not be mutually
  orderable: `ty l` is the comparability class of layer name `l` (`a < b` is defined iff `ty a = ty b`; node labels
  are mutually orderable - the property's "comparable node universe").  `sorted(self._edge_list.keys())` compares two
  keys `(e, l)`, `(e', l')` as tuples: the first component that differs under `==` decides, so two layer names are
  compared with `<` only when the node tuples are equal.  A comparison of two names of different classes raises
  `TypeError`, which leaves `sorted` and the method (no fallback, no `key=`).  Every comparison sort must compare
  the two members of such a pair directly or through a chain of keys with the same node tuple (otherwise its answer
  would be the same for the two total orders that extend the comparisons made in opposite ways), so the call raises
  exactly when some node set lives in two layers whose names are of different classes: `layerClash`. -/
namespace C04

/-! ## raw setters -/

/-- `set_edge_list(edge_list)`: `self._edge_list = edge_list` -/
def setEdgeList (s : Store) (t : List (Key × Nat)) : Store := { s with edgeList := t }
/-- `set_adj_dict(adj_dict)`: `self._adj = adj_dict` -/
def setAdjDict (s : Store) (t : List (Node × List Nat)) : Store := { s with adj := t }
/-- `set_existing_layers(existing_layers)`: `self._existing_layers = existing_layers` -/
def setExistingLayers (s : Store) (ls : List Layer) : Store := { s with layers := ls }
/-- `get_existing_layers()` -/
def getExistingLayers (s : Store) : List Layer := s.layers

/-- a call of the public OR the raw surface -/
inductive RawOp
  | pub (op : Op)
  | setEdgeList (t : List (Key × Nat))
  | setAdjDict (t : List (Node × List Nat))
  | setExistingLayers (ls : List Layer)
  | populate (d : Dump)
  deriving Repr

def rawStep (s : Store) : RawOp → Store
  | .pub op => (step s op).1
  | .setEdgeList t => setEdgeList s t
  | .setAdjDict t => setAdjDict s t
  | .setExistingLayers ls => setExistingLayers s ls
  | .populate d => populate d

def rawRun (s : Store) (ops : List RawOp) : Store := ops.foldl rawStep s

/-- the raw call hands back what the matching getter (`get_edge_list()`, `get_adj_dict()`, `get_existing_layers()`,
`expose_data_structures()`) returns at that moment -/
def RawOp.echo (s : Store) : RawOp → Bool
  | .pub _ => true
  | .setEdgeList t => decide (t = edgeTable s)
  | .setAdjDict t => decide (t = adjTable s)
  | .setExistingLayers ls => decide (ls = getExistingLayers s)
  | .populate d => match loadDump d with
    | some s' => decide (s'.weighted = s.weighted ∧ s'.edgeList = s.edgeList ∧ s'.rev = s.rev ∧ s'.weights = s.weights ∧
        s'.emeta = s.emeta ∧ s'.adj = s.adj ∧ s'.nmeta = s.nmeta ∧ s'.nextId = s.nextId ∧ s'.hmeta = s.hmeta ∧
        s'.layers = s.layers)
    | none => false

/-- every raw call of the history is an echo at the moment it is made -/
def echoes (s : Store) : List RawOp → Bool
  | [] => true
  | op :: ops => op.echo s && echoes (rawStep s op) ops

/-- the public calls of a mixed history -/
def pubOps : List RawOp → List Op
  | [] => []
  | .pub op :: ops => op :: pubOps ops
  | _ :: ops => pubOps ops

/-- the ten table names a well-typed serialisation dictionary carries -/
structure Dump.WF (d : Dump) : Prop where
  hm : ∃ m, lookup d "hypergraph_metadata" = some (.hmeta m)
  nm : ∃ m, lookup d "node_metadata" = some (.nmeta m)
  em : ∃ m, lookup d "edge_metadata" = some (.emeta m)
  wd : ∃ b, lookup d "_weighted" = some (.flag b)
  ws : ∃ m, lookup d "_weights" = some (.weights m)
  el : ∃ m, lookup d "_edge_list" = some (.edgeList m)
  ad : ∃ m, lookup d "_adj" = some (.adj m)
  rv : ∃ m, lookup d "reverse_edge_list" = some (.rev m)
  nx : ∃ n, lookup d "next_edge_id" = some (.num n)
  ly : ∃ l, lookup d "existing_layers" = some (.layers l)

def tableNames : List String :=
  ["hypergraph_metadata", "node_metadata", "edge_metadata", "_weighted", "_weights", "_edge_list", "_adj",
   "reverse_edge_list", "next_edge_id", "existing_layers"]

/-! ## the hashing view when layer names are of several comparability classes -/

/-- some node set lives in two layers whose names cannot be compared -/
def layerClash (ty : Layer → Nat) (ks : List Key) : Bool :=
  ks.any (fun k => ks.any (fun k' => decide (k.1 = k'.1) && decide (ty k.2 ≠ ty k'.2)))

/-- `expose_attributes_for_hashing()` with layer names of classes `ty`; `none` = raises (`TypeError` out of `sorted`,
or the `KeyError` of `hashView`) -/
def hashViewT (ty : Layer → Nat) (s : Store) : Option HashView :=
  if layerClash ty (records s) then none else hashView s

/-- the class table as the driver receives it: position = layer rank, names beyond the table are class 0 -/
def tyOf (classes : List Nat) (l : Layer) : Nat := classes.getD l 0

end C04
