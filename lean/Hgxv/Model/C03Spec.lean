import Hgxv.Model.C03
/-! # C03 - the abstract specification: a map `(time, node set) ↦ (weight, metadata)` plus nodes with metadata

`Spec` is what the property names: no ids, no reverse table, no adjacency lists.  Keys are `(time, sorted node list)`
(a sorted duplicate-free list IS the node set), the association list is kept in creation order, as Python's dict order: it is the order
of every listing (`Spec.view.keys`) and says which record `remove_node(keep_edges=True)` processes first.
`Spec.applyOp` is the obvious map update for every public mutator, `Spec.answer` answers every query by a
`filter`/`map` over the record list (the two observables that expose edge ids read the empty `idMeta` / `items` of
`Spec.view`; `Query.exposesIds` excludes them from the refinement theorem).  The refinement theorem
(`Proofs/C03Ref.lean`, `Props/C03.lean`) says that `abs : Store → Spec` commutes with every operation and query. -/
namespace C03

structure Spec where
  weighted : Bool
  nodes : List (Node × Meta) := []
  recs : List (Key × (Int × Meta)) := []
  hmeta : Meta := []
  deriving DecidableEq

/-- the abstraction of a concrete store -/
def abs (s : Store) : Spec := { weighted := s.weighted, nodes := s.nmeta, recs := records s, hmeta := s.hmeta }

def Spec.new (w : Bool) : Spec := { weighted := w, hmeta := [(100, if w then 91 else 90), (101, 92)] }

/-- node table: insert with empty metadata if absent -/
def touchTable (t : List (Node × Meta)) (n : Node) : List (Node × Meta) :=
  if (AL.get? t n).isSome then t else AL.set t n []

/-- node table: metadata is stored only while the current metadata is empty -/
def fillTable (t : List (Node × Meta)) (n : Node) (md : Meta) : List (Node × Meta) :=
  if AL.get? t n = some [] then AL.set t n md else t

namespace Spec

def addNode (sp : Spec) (n : Node) (md : Option Meta) : Spec :=
  { sp with nodes := fillTable (touchTable sp.nodes n) n (md.getD []) }

def addNodes (sp : Spec) (ns : List Node) (mds : Option (List (Node × Meta))) : Spec × Out :=
  match mds with
  | none => (ns.foldl (fun sp n => addNode sp n none) sp, .ok)
  | some d =>
    if ns.all (fun n => (AL.get? d n).isSome) then (ns.foldl (fun sp n => addNode sp n (AL.get? d n)) sp, .ok)
    else (sp, .rej)

/-- the value of a record after (re-)insertion -/
def recVal (weighted : Bool) (old : Option (Int × Meta)) (wt : Int) (md : Meta) : Int × Meta :=
  match old with
  | none => (wt, md)
  | some (w0, _) => (if weighted then w0 + wt else w0, md)

/-- map update of an insertion: weights add on an existing key when weighted, metadata replaced, nodes created -/
def addKey (sp : Spec) (k : Key) (wt : Int) (md : Meta) : Spec :=
  { sp with recs := AL.set sp.recs k (recVal sp.weighted (AL.get? sp.recs k) wt md),
            nodes := k.2.foldl touchTable sp.nodes }

def addEdge (sp : Spec) (raw : List Nat) (t : TimeArg) (w : Option Int) (md : Option Meta) : Spec × Out :=
  match t with
  | .bad => (sp, .rej)
  | .int i =>
    if !sp.weighted && w.isSome && w != some one then (sp, .rej)
    else if i < 0 then (sp, .rej)
    else (addKey sp (i.toNat, canon raw) (w.getD one) (md.getD []), .ok)

def addEdgesLoop (sp : Spec) (ws : Option (List Int)) (mds : Option (List Meta)) :
    Nat → List (List Nat × TimeArg) → Spec
  | _, [] => sp
  | i, (raw, t) :: rest => addEdgesLoop (addEdge sp raw t (nth? ws i) (nth? mds i)).1 ws mds (i + 1) rest

def addEdges (sp : Spec) (raws : List (List Nat)) (ts : List TimeArg) (ws : Option (List Int))
    (mds : Option (List Meta)) : Spec × Out :=
  if addEdgesOk raws ts ws mds then
    (addEdgesLoop (if ws.isSome then { sp with weighted := true } else sp) ws mds 0 (raws.zip ts), .ok)
  else (sp, .rej)

def removeKey (sp : Spec) (k : Key) : Spec × Out :=
  if (AL.get? sp.recs k).isSome then ({ sp with recs := AL.erase sp.recs k }, .ok) else (sp, .rej)

def removeEdge (sp : Spec) (raw : List Nat) (t : TimeArg) : Spec × Out :=
  match mkKey raw t with
  | none => (sp, .rej)
  | some k => removeKey sp k

def removeEdges (sp : Spec) (recs : List (TimeArg × List Nat)) : Spec × Out :=
  match recs.mapM (fun r => mkKey r.2 r.1) with
  | none => (sp, .rej)
  | some ks =>
    if ks.all (fun k => (AL.get? sp.recs k).isSome) && keysDistinct ks then
      (ks.foldl (fun sp k => (removeKey sp k).1) sp, .ok)
    else (sp, .rej)

/-- a record containing the removed node: dropped, or (keep_edges) re-keyed without the node, keeping weight and
metadata and merging with an existing record of the shrunk key; a record that becomes empty is dropped -/
def dropKey (sp : Spec) (n : Node) (keep : Bool) (k : Key) : Spec :=
  match AL.get? sp.recs k with
  | none => sp
  | some (w, md) =>
    let sp1 := { sp with recs := AL.erase sp.recs k }
    let upd := k.2.filter (· != n)
    if keep && !upd.isEmpty then (addEdge sp1 upd (.int k.1) (some w) (some md)).1 else sp1

def removeNode (sp : Spec) (n : Node) (keep : Bool) : Spec × Out :=
  if (AL.get? sp.nodes n).isSome then
    let ks := (sp.recs.filter (fun p => p.1.2.contains n)).map (·.1)
    let sp1 := ks.foldl (fun sp k => dropKey sp n keep k) sp
    ({ sp1 with nodes := AL.erase sp1.nodes n }, .ok)
  else (sp, .rej)

def removeNodes (sp : Spec) (ns : List Node) (keep : Bool) : Spec × Out :=
  if ns.all (fun n => (AL.get? sp.nodes n).isSome) && nodesDistinct ns then
    (ns.foldl (fun sp n => (removeNode sp n keep).1) sp, .ok)
  else (sp, .rej)

def recOf (sp : Spec) (raw : List Nat) (t : TimeArg) : Option (Key × (Int × Meta)) :=
  (mkKey raw t).bind (fun k => (AL.get? sp.recs k).map (fun v => (k, v)))

def setWeight (sp : Spec) (raw : List Nat) (t : TimeArg) (w : Int) : Spec × Out :=
  if !sp.weighted && w != one then (sp, .rej) else
  match recOf sp raw t with
  | none => (sp, .rej)
  | some (k, v) => ({ sp with recs := AL.set sp.recs k (w, v.2) }, .ok)

def setNodeMeta (sp : Spec) (n : Node) (md : Meta) : Spec × Out :=
  if (AL.get? sp.nodes n).isSome then ({ sp with nodes := AL.set sp.nodes n md }, .ok) else (sp, .rej)

def setEdgeMeta (sp : Spec) (raw : List Nat) (t : TimeArg) (md : Meta) : Spec × Out :=
  match recOf sp raw t with
  | none => (sp, .rej)
  | some (k, v) => ({ sp with recs := AL.set sp.recs k (v.1, md) }, .ok)

def attrNode (sp : Spec) (n : Node) (k v : Nat) : Spec × Out :=
  match AL.get? sp.nodes n with
  | none => (sp, .rej)
  | some md => ({ sp with nodes := AL.set sp.nodes n (AL.set md k v) }, .ok)

def attrEdge (sp : Spec) (raw : List Nat) (t : TimeArg) (k v : Nat) : Spec × Out :=
  match recOf sp raw t with
  | none => (sp, .rej)
  | some (key, val) => ({ sp with recs := AL.set sp.recs key (val.1, AL.set val.2 k v) }, .ok)

def delAttrNode (sp : Spec) (n : Node) (k : Nat) : Spec × Out :=
  match AL.get? sp.nodes n with
  | none => (sp, .rej)
  | some md => if (AL.get? md k).isSome then ({ sp with nodes := AL.set sp.nodes n (AL.erase md k) }, .ok) else (sp, .rej)

def delAttrEdge (sp : Spec) (raw : List Nat) (t : TimeArg) (k : Nat) : Spec × Out :=
  match recOf sp raw t with
  | none => (sp, .rej)
  | some (key, val) =>
    if (AL.get? val.2 k).isSome then ({ sp with recs := AL.set sp.recs key (val.1, AL.erase val.2 k) }, .ok) else (sp, .rej)

def applyOp (sp : Spec) : SOp → Spec × Out
  | .addNode n md => (addNode sp n md, .ok)
  | .addNodes ns mds => addNodes sp ns mds
  | .addEdge raw t w md => addEdge sp raw t w md
  | .addEdges raws ts ws mds => addEdges sp raws ts ws mds
  | .removeEdge raw t => removeEdge sp raw t
  | .removeEdges recs => removeEdges sp recs
  | .removeNode n keep => removeNode sp n keep
  | .removeNodes ns keep => removeNodes sp ns keep
  | .setWeight raw t w => setWeight sp raw t w
  | .setNodeMeta n md => setNodeMeta sp n md
  | .setEdgeMeta raw t md => setEdgeMeta sp raw t md
  | .setHMeta md => ({ sp with hmeta := md }, .ok)
  | .attrH k v => ({ sp with hmeta := AL.set sp.hmeta k v }, .ok)
  | .attrNode n k v => attrNode sp n k v
  | .attrEdge raw t k v => attrEdge sp raw t k v
  | .delAttrNode n k => delAttrNode sp n k
  | .delAttrEdge raw t k => delAttrEdge sp raw t k
  | .clear => ({ weighted := sp.weighted }, .ok)

end Spec

/-- what the getters read, on the abstract map: the listing is the key list, weight / metadata are the map's values,
the incident records of a node are the records whose node set contains it; the two id-exposing fields are empty -/
def Spec.view (sp : Spec) : View :=
  { weighted := sp.weighted, nodes := sp.nodes, keys := AL.keys sp.recs,
    wOf := fun k => (AL.get? sp.recs k).map (·.1), mOf := fun k => (AL.get? sp.recs k).map (·.2),
    has := fun k => (AL.get? sp.recs k).isSome,
    inc := fun n => if (AL.get? sp.nodes n).isSome then some ((AL.keys sp.recs).filter (fun k => k.2.contains n)) else none,
    hmeta := sp.hmeta, idMeta := [], items := [] }

/-- the answer of the abstract map to a query (same query code `V.answer`, read off the map) -/
def Spec.answer (sp : Spec) (q : Query) : Ans := V.answer (Spec.view sp) q

/-- the two observables that expose internal edge ids (`get_all_edges_metadata`, `__iter__`) have no meaning on the map -/
def Query.exposesIds : Query → Bool
  | .allEdgeMeta => true
  | .iter => true
  | _ => false

/-- abstract state: one `Spec` per slot -/
abbrev SpecState := List (Nat × Spec)

/-- the history on the abstract side (queries do not change anything) -/
def specStep (st : SpecState) : Op → SpecState
  | .new i w => AL.set st i (Spec.new w)
  | .on i o =>
    match AL.get? st i with
    | none => st
    | some sp => AL.set st i (Spec.applyOp sp o).1
  | .copy i j =>
    match AL.get? st i with
    | none => st
    | some sp => AL.set st j sp
  | .query _ _ => st

def specRun (st : SpecState) (ops : List Op) : SpecState := ops.foldl specStep st

end C03
