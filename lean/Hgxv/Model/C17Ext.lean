import Hgxv.Model.C17
/-! Second part of the C17 model (core Lean only): the parts of `HypergraphMT.fit` / `HySC.fit` that are pure functions of
the raw random draws / of the hypergraph and that `Model/C17.lean` takes as arguments.

* `_randomize_u0`, `_randomize_w0`, `_add_noise_input` and the HySC branch of `_initialize_u_w`: the initial `u0`, `w0`
  handed to `initState`, computed from the RAW outputs of `prng.random_sample` (`initFromDraws`);
* `_update_em` with the options `fix_w`, `fix_communities` (`wHalf`, `uHalf`, `emSweepFix`);
* `HySC._extract_laplacian` (binary and `weighted_L`), with the square root as the only parameter (`sq`);
  `HySC._init_data`: node degrees.
Same conventions as `Model/C17.lean`: generic number type, index style. -/
namespace C17

section
variable {α : Type} [Add α] [Mul α] [Sub α] [Div α] [Zero α] [One α] [LT α] [DecidableLT α]
variable (c : Cfg α)

/-! ### initial values from raw draws -/

/-- `_randomize_u0`: `u0 = random_sample((N, K))`, rows with a positive sum divided by it -/
def randU0 (du : Mat α) : Mat α :=
  tab2 c.N c.K (fun i k =>
    if 0 < sumR c.K (fun k' => at2 du i k') then at2 du i k / sumR c.K (fun k' => at2 du i k') else at2 du i k)

def maxOf (a b : α) : α := if a < b then b else a
/-- `np.max(par0)` over the `n × m` matrix (`0` for an empty one, where numpy raises) -/
def matMax (n m : Nat) (X : Mat α) : α :=
  match (tab2 n m (fun i k => at2 X i k)).flatten with
  | [] => 0
  | x :: xs => xs.foldl maxOf x

/-- `_add_noise_input` (and the HySC branch of `_initialize_u_w`):
`par0 + max_entry * noise_input_par * random_sample(par0.shape)` -/
def addNoise (n m : Nat) (noise : α) (X dr : Mat α) : Mat α :=
  tab2 n m (fun i k => at2 X i k + matMax n m X * noise * at2 dr i k)

/-- some hyperedge has size `d + 2` -/
def sizePresent (d : Nat) : Bool := c.edges.any (fun e => e.length == d + 2)
/-- `_randomize_w0`: `random_sample((D-1, K))`, the rows of the sizes that do not occur set to 0 -/
def randW0 (dw : Mat α) : Mat α :=
  tab2 (c.D - 1) c.K (fun d k => if sizePresent c d then at2 dw d k else 0)

/-- `u0_current_real_t0`: around `X` (`some X`: the HySC solution in realisation 0 with `baseline_r0`, else the input of
`initialize_u0`), else random -/
def u0Of (hysc : Option (Mat α)) (noise : α) (du : Mat α) : Mat α :=
  match hysc with
  | some X => addNoise c.N c.K noise X du
  | none => randU0 c du

/-- the initial `w`: around the input `W` of `initialize_w0` (`some W`), else random -/
def w0Of (winit : Option (Mat α)) (noise : α) (dw : Mat α) : Mat α :=
  match winit with
  | some W => addNoise (c.D - 1) c.K noise W dw
  | none => randW0 c dw

/-- the state after the whole initialisation of a realisation, from the raw draws `uk` (`random_sample(K)`),
`du` (`random_sample((N, K))`), `dw` (`random_sample((D-1, K))`) in the order the code draws them; `hysc` = the matrix the
start of `u` is placed around (the HySC solution in realisation 0 with `baseline_r0`, else the input of `initialize_u0`),
`winit` = the input of `initialize_w0` -/
def initFromDraws (r0 : Bool) (hysc winit : Option (Mat α)) (noise : α) (uk : List α) (du dw : Mat α) (lams : List α) : St α :=
  initState c r0 uk (u0Of c hysc noise du) (w0Of c winit noise dw) lams

/-! ### `_update_em` with the options `fix_w`, `fix_communities` -/

/-- first half of `_update_em`: `if not self.fix_w: _update_w(); _update_rho()` -/
def wHalf (fixW : Bool) (s : St α) : St α :=
  if fixW then s
  else { s with w := wUpdate c s.rho s.psi, rho := rhoUpdate c s.u (wUpdate c s.rho s.psi) }
/-- second half: `if not self.fix_communities: _update_u(); _update_rho()` (no permutation is drawn when it is skipped) -/
def uHalf (fixU : Bool) (s : St α) (perm : List Nat) : St α :=
  if fixU then s
  else { uSweep c s perm with rho := rhoUpdate c (uSweep c s perm).u (uSweep c s perm).w }
/-- `_update_em` for any setting of the two flags; `emSweepFix false false = emSweep` -/
def emSweepFix (fixW fixU : Bool) (s : St α) (perm : List Nat) : St α := uHalf c fixU (wHalf c fixW s) perm

/-! ### `HySC._init_data`, `HySC._extract_laplacian` -/

/-- `node_degree[i]`: number of hyperedges containing node `i` (row sum of the binary incidence matrix) -/
def degN (i : Nat) : Nat := (c.edges.filter (fun e => e.contains i)).length
/-- entry `H[i, e]` of the incidence matrix used (`weighted_L`: the hyperedge weight, else 1) -/
def hEnt (weighted : Bool) (i e : Nat) : α :=
  if (c.edge e).contains i then (if weighted then c.wt e else 1) else 0
/-- `1 / hye_size[e]` with the code's guard `where(size == 0, 1, size)` -/
def invSize (e : Nat) : α := 1 / ofN (if (c.edge e).length = 0 then 1 else (c.edge e).length)
/-- `(H @ invDE @ H.T)[i, j]` -/
def lapM (weighted : Bool) (i j : Nat) : α :=
  sumR c.E (fun e => hEnt c weighted i e * invSize c e * hEnt c weighted j e)
/-- diagonal of `invDV2`: `sqrt(1 / degree)`, `0` for an isolated node -/
def invS (sq : α → α) (i : Nat) : α := if degN c i = 0 then 0 else sq (1 / ofN (degN c i))
/-- `L = I - invDV2 @ H @ invDE @ H.T @ invDV2` -/
def lap (sq : α → α) (weighted : Bool) : Mat α :=
  tab2 c.N c.N (fun i j => (if i = j then 1 else 0) - invS c sq i * lapM c weighted i j * invS c sq j)

end
end C17
