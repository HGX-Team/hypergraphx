/-! Insertion-ordered association lists (Python-dict-like), core Lean only. -/
namespace AL
variable {α β : Type} [DecidableEq α]

def get? (l : List (α × β)) (k : α) : Option β :=
  match l with
  | [] => none
  | (k', v) :: t => if k' = k then some v else get? t k

def has (l : List (α × β)) (k : α) : Bool := (get? l k).isSome

/-- dict assignment: replace in place if present, else append at the end -/
def set (l : List (α × β)) (k : α) (v : β) : List (α × β) :=
  match l with
  | [] => [(k, v)]
  | (k', v') :: t => if k' = k then (k, v) :: t else (k', v') :: set t k v

def erase (l : List (α × β)) (k : α) : List (α × β) :=
  match l with
  | [] => []
  | (k', v') :: t => if k' = k then t else (k', v') :: erase t k

def keys (l : List (α × β)) : List α := l.map (·.1)

@[simp] theorem get?_nil (k : α) : get? ([] : List (α × β)) k = none := rfl

theorem get?_set (l : List (α × β)) (k k2 : α) (v : β) :
    get? (set l k v) k2 = if k = k2 then some v else get? l k2 := by
  induction l with
  | nil => rfl
  | cons hd t ih =>
    obtain ⟨a, b⟩ := hd
    by_cases h : a = k
    · subst h
      simp only [set, get?, if_true]
      split <;> rfl
    · simp only [set, get?, h, if_false, ih]
      by_cases h2 : a = k2
      · have h3 : ¬ k = k2 := fun e => h (h2.trans e.symm)
        simp only [if_pos h2, if_neg h3]
      · simp only [if_neg h2]

@[simp] theorem get?_set_self (l : List (α × β)) (k : α) (v : β) : get? (set l k v) k = some v := by
  rw [get?_set, if_pos rfl]

theorem get?_set_ne (l : List (α × β)) (k k2 : α) (v : β) (h : k ≠ k2) :
    get? (set l k v) k2 = get? l k2 := by
  rw [get?_set, if_neg h]

theorem get?_eq_none_iff (l : List (α × β)) (k : α) : get? l k = none ↔ k ∉ keys l := by
  induction l with
  | nil => exact ⟨fun _ => List.not_mem_nil, fun _ => rfl⟩
  | cons hd t ih =>
    obtain ⟨a, b⟩ := hd
    show (if a = k then some b else get? t k) = none ↔ k ∉ a :: keys t
    rw [List.mem_cons, not_or]
    split <;> rename_i h
    · exact ⟨fun e => (by cases e), fun e => absurd h.symm e.1⟩
    · rw [ih]; exact ⟨fun e => ⟨fun e2 => h e2.symm, e⟩, fun e => e.2⟩

theorem get?_erase_self (l : List (α × β)) (k : α) (hnd : (keys l).Nodup) : get? (erase l k) k = none := by
  induction l with
  | nil => rfl
  | cons hd t ih =>
    obtain ⟨a, b⟩ := hd
    obtain ⟨ha, ht⟩ := List.nodup_cons.mp hnd
    simp only [erase]
    split <;> rename_i h
    · exact (get?_eq_none_iff t k).mpr (h ▸ ha)
    · exact (if_neg h).trans (ih ht)

theorem get?_erase_ne (l : List (α × β)) (k k2 : α) (h : k ≠ k2) : get? (erase l k) k2 = get? l k2 := by
  induction l with
  | nil => rfl
  | cons hd t ih =>
    obtain ⟨a, b⟩ := hd
    simp only [erase]
    split <;> rename_i h1
    · exact (if_neg fun e => h (h1.symm.trans e)).symm
    · simp only [get?, ih]

theorem keys_set_of_mem (l : List (α × β)) (k : α) (v : β) (h : (get? l k).isSome) :
    keys (set l k v) = keys l := by
  induction l with
  | nil => cases h
  | cons hd t ih =>
    obtain ⟨a, b⟩ := hd
    simp only [set]
    split <;> rename_i h1
    · exact congrArg (· :: keys t) h1.symm
    · exact congrArg (a :: ·) (ih (by rwa [get?, if_neg h1] at h))

theorem keys_set_of_not_mem (l : List (α × β)) (k : α) (v : β) (h : get? l k = none) :
    keys (set l k v) = keys l ++ [k] := by
  induction l with
  | nil => rfl
  | cons hd t ih =>
    obtain ⟨a, b⟩ := hd
    have h1 : ¬ a = k := fun e => by rw [get?, if_pos e] at h; cases h
    rw [get?, if_neg h1] at h
    simp only [set, h1, if_false]
    exact congrArg (a :: ·) (ih h)

theorem keys_erase_perm (l : List (α × β)) (k : α) : keys (erase l k) = (keys l).erase k := by
  induction l with
  | nil => rfl
  | cons hd t ih =>
    obtain ⟨a, b⟩ := hd
    show keys (erase ((a, b) :: t) k) = (a :: keys t).erase k
    rw [List.erase_cons, erase]
    by_cases h : a = k
    · rw [if_pos h, if_pos (beq_iff_eq.mpr h)]
    · rw [if_neg h, if_neg (mt beq_iff_eq.mp h)]; exact congrArg (a :: ·) ih

end AL
