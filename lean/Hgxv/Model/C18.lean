/-! Model of `hypergraphx/dynamics/randwalk.py` and `hypergraphx/dynamics/contagion.py` (core Lean only).

A hypergraph is given by `N` (nodes are `0..N-1`, as `transition_matrix` demands by indexing
`T[l[i], l[j]]`) and the list `es` of its hyperedges (`HG.get_edges()`).  Numbers are `Rat`.
Random draws are explicit: `np.random.choice` results are a list of node indices,
`np.random.random()` results are a stream `f : Nat → Rat` read at an increasing position. -/
namespace C18

abbrev Edge := List Nat

/-! ## vocabulary of the theorem statements -/

/-- hyperedges have distinct members below `N` (what `Hypergraph.get_edges()` returns for nodes `0..N-1`) -/
def Valid (es : List Edge) (N : Nat) : Prop := ∀ e ∈ es, e.Nodup ∧ ∀ v ∈ e, v < N

/-- `R` holds between every element and its successor -/
def Adj {α} (R : α → α → Prop) (l : List α) : Prop :=
  ∀ t a b, l[t]? = some a → l[t + 1]? = some b → R a b

/-- the contract of `np.random.random()` -/
def UnitDraws (f : Nat → Rat) : Prop := ∀ n, 0 ≤ f n ∧ f n < 1

/-! ## `transition_matrix` -/

/-- the index pairs `(l[i], l[j])`, `i < j`, in the order of the double loop -/
def pairs : List Nat → List (Nat × Nat)
  | [] => []
  | a :: r => r.map (fun b => (a, b)) ++ pairs r

/-- what the double loop over one hyperedge `l` adds to `T[i][j]`:
`T[l[a], l[b]] += len(l) - 1` and `T[l[b], l[a]] += len(l) - 1` for every `a < b` -/
def contrib (l : Edge) (i j : Nat) : Nat :=
  ((pairs l).count (i, j) + (pairs l).count (j, i)) * (l.length - 1)

/-- `T[i][j]` after the loop over all hyperedges (before normalisation) -/
def tEntry (es : List Edge) (i j : Nat) : Nat := (es.map (fun l => contrib l i j)).sum

/-- `Σ_{i < N} f i` -/
def sumTo (N : Nat) (f : Nat → Rat) : Rat := ((List.range N).map f).sum

/-- `T.sum(axis=1)[i]` -/
def rowSum (es : List Edge) (N i : Nat) : Nat := ((List.range N).map (tEntry es i)).sum

/-- `K[i][j] = T[i][j] / T.sum(axis=1)[i]` (meaningful when the row sum is positive, see `rowsPositive`) -/
def kEntry (es : List Edge) (N i j : Nat) : Rat := (tEntry es i j : Rat) / (rowSum es N i : Rat)

/-- two nodes lie in a common hyperedge -/
def share (es : List Edge) (i j : Nat) : Bool := es.any (fun e => e.contains i && e.contains j)

/-- one round of the reachability closure inside `0..N-1` -/
def grow (es : List Edge) (N : Nat) (S : List Nat) : List Nat :=
  (List.range N).filter (fun j => S.contains j || S.any (fun i => share es i j))

def growN (es : List Edge) (N : Nat) : Nat → List Nat → List Nat
  | 0, S => S
  | k + 1, S => growN es N k (grow es N S)

/-- `HG.is_connected()`: every node is reached from node `0` (N rounds suffice) -/
def connectedB (es : List Edge) (N : Nat) : Bool :=
  (List.range N).all (fun i => (growN es N N [0]).contains i)

/-- `v` is joined to `0` by a chain of nodes `< N`, consecutive ones sharing a hyperedge -/
inductive Reach (es : List Edge) (N : Nat) : Nat → Prop
  | zero : Reach es N 0
  | step (a b : Nat) : Reach es N a → b < N → share es a b = true → Reach es N b

/-- the hypergraph on nodes `0..N-1` is connected -/
def Connected (es : List Edge) (N : Nat) : Prop := ∀ v, v < N → Reach es N v

/-- every row sum is positive, i.e. `T / T.sum(axis=1)` contains no `nan` -/
def rowsPositive (es : List Edge) (N : Nat) : Bool := (List.range N).all (fun i => 0 < rowSum es N i)

/-- outcome of `transition_matrix`: `none` = `AssertionError` (not connected) -/
def transitionMatrix (es : List Edge) (N : Nat) : Option (List (List Rat)) :=
  if connectedB es N then
    some ((List.range N).map (fun i => (List.range N).map (fun j => kEntry es N i j)))
  else none

/-! ## closed forms named by the property -/

/-- `Σ_{e ∋ i, j} (|e| − 1)` -/
def shared (es : List Edge) (i j : Nat) : Nat :=
  ((es.filter (fun e => e.contains i && e.contains j)).map (fun e => e.length - 1)).sum

/-- `d_i = Σ_{e ∋ i} (|e| − 1)²` -/
def deg2 (es : List Edge) (i : Nat) : Nat :=
  ((es.filter (fun e => e.contains i)).map (fun e => (e.length - 1) * (e.length - 1))).sum

/-- `π_i = d_i / Σ_k d_k` with `d` the row sums of `T` -/
def piEntry (es : List Edge) (N i : Nat) : Rat :=
  (rowSum es N i : Rat) / sumTo N (fun k => (rowSum es N k : Rat))

/-! ## `RW_stationary_state` (repaired): the system handed to `np.linalg.solve` -/

/-- `x` solves `A x = b` where `A = I − Kᵀ` with its last row replaced by ones and `b = e_{N-1}`;
`K` is any matrix given as a function -/
def SolvesRepaired (K : Nat → Nat → Rat) (N : Nat) (x : Nat → Rat) : Prop :=
  (∀ i, i + 1 < N → x i - sumTo N (fun j => K j i * x j) = 0) ∧ sumTo N x = 1

/-- `x` solves the system of the unrepaired routine, `(I − Kᵀ) x = 𝟙` -/
def SolvesOriginal (K : Nat → Nat → Rat) (N : Nat) (x : Nat → Rat) : Prop :=
  ∀ i, i < N → x i - sumTo N (fun j => K j i * x j) = 1

/-- the value returned by the repaired routine when the solver is exact: `x / Σx` with `x = π` -/
def stationary (es : List Edge) (N : Nat) : Option (List Rat) :=
  if connectedB es N then some ((List.range N).map (piEntry es N)) else none

/-! ## `random_walk_density` -/

/-- a numpy vector read as a function of the index -/
def vecOf (l : List Rat) : Nat → Rat := fun i => l.getD i 0

/-- `(s @ K)[j]` -/
def densityStep (es : List Edge) (N : Nat) (s : Nat → Rat) : Nat → Rat :=
  fun j => sumTo N (fun i => s i * kEntry es N i j)

/-- `s @ K` as a vector of length `N` -/
def densityNext (es : List Edge) (N : Nat) (v : List Rat) : List Rat :=
  (List.range N).map (densityStep es N (vecOf v))

/-- `density_list`: `for t in range(time): s = s @ K; density_list.append(s)` -/
def densityList (es : List Edge) (N : Nat) : Nat → List Rat → List (List Rat)
  | 0, v => [v]
  | t + 1, v => v :: densityList es N t (densityNext es N v)

/-! ## `random_walk` -/

/-- the contract of `np.random.choice(N, p=K[cur, :])`: an index of positive probability -/
def validChoice (es : List Edge) (N cur c : Nat) : Bool := decide (c < N) && decide (0 < kEntry es N cur c)

/-- `nodes` after consuming the recorded choices; `none` when a choice breaks the contract -/
def walk (es : List Edge) (N : Nat) : Nat → List Nat → Option (List Nat)
  | cur, [] => some [cur]
  | cur, c :: cs => if validChoice es N cur c then (walk es N c cs).map (cur :: ·) else none

/-! ## `simplicial_contagion` -/

structure Rates where
  beta : Rat
  betaD : Rat
  mu : Rat

/-- `I_new[v] = b` -/
def setI (I : Nat → Bool) (v : Nat) (b : Bool) : Nat → Bool := fun u => if u = v then b else I u

/-- `for x in xs: if cond(x) and np.random.random() < rate: hit; break` — the draw is only made
when the condition holds (`and` short-circuits); returns (hit?, new stream position) -/
def loopHits (f : Nat → Rat) (rate : Rat) : List Bool → Nat → Bool × Nat
  | [], p => (false, p)
  | c :: cs, p =>
    if c then (if f p < rate then (true, p + 1) else loopHits f rate cs (p + 1))
    else loopHits f rate cs p

/-- `hypergraph.get_neighbors(v, order=1)`: a set, listed here in the order of `nodes` -/
def pairNbrs (es : List Edge) (nodes : List Nat) (v : Nat) : List Nat :=
  nodes.filter (fun u => u != v && es.any (fun e => e.length == 2 && e.contains v && e.contains u))

/-- `hypergraph.get_incident_edges(v, order=2)` -/
def triplets (es : List Edge) (v : Nat) : List Edge :=
  es.filter (fun e => e.length == 3 && e.contains v)

/-- `I_old[neigh1] == 1 and I_old[neigh2] == 1` for the members of `e` other than `v` -/
def triHit (I : Nat → Bool) (v : Nat) (e : Edge) : Bool := (e.filter (· != v)).all I

/-- new value of a susceptible node and new stream position: pairwise attempts, then (if still
susceptible) triadic attempts -/
def infect (es : List Edge) (nodes : List Nat) (r : Rates) (f : Nat → Rat) (I : Nat → Bool)
    (v p : Nat) : Bool × Nat :=
  let a := loopHits f r.beta ((pairNbrs es nodes v).map I) p
  if a.1 then (true, a.2) else loopHits f r.betaD ((triplets es v).map (triHit I v)) a.2

/-- new value of an infected node: `elif np.random.random() < mu: I_new[node] = 0` -/
def recover (r : Rates) (f : Nat → Rat) (p : Nat) : Bool × Nat := (!(decide (f p < r.mu)), p + 1)

/-- body of `for node in nodes:`; state = (`I_new`, stream position), `Iold` is only read -/
def nodeStep (es : List Edge) (nodes : List Nat) (r : Rates) (f : Nat → Rat) (Iold : Nat → Bool)
    (st : (Nat → Bool) × Nat) (v : Nat) : (Nat → Bool) × Nat :=
  if Iold v = false then
    let a := loopHits f r.beta ((pairNbrs es nodes v).map Iold) st.2
    let I1 := if a.1 then setI st.1 v true else st.1
    if I1 v then (I1, a.2)   -- `if I_new[node] == 1: continue`
    else
      let b := loopHits f r.betaD ((triplets es v).map (triHit Iold v)) a.2
      (if b.1 then setI I1 v true else I1, b.2)
  else if f st.2 < r.mu then (setI st.1 v false, st.2 + 1) else (st.1, st.2 + 1)

/-- one sweep over the nodes: `I_new = I_old.copy(); for node in nodes: ...; I_old = I_new.copy()` -/
def step (es : List Edge) (nodes : List Nat) (r : Rates) (f : Nat → Rat)
    (I : Nat → Bool) (p : Nat) : (Nat → Bool) × Nat :=
  nodes.foldl (nodeStep es nodes r f I) (I, p)

/-- `sum(I.values())` over the keys of `I_0` -/
def infected (keys : List Nat) (I : Nat → Bool) : Nat := (keys.filter I).length

/-- the states after sweeps `1..fuel` (`while Infected > 0 and t < T`); once nobody is infected the
state is repeated (the remaining entries of `numberInf` keep their initial `0`) -/
def runStates (es : List Edge) (nodes keys : List Nat) (r : Rates) (f : Nat → Rat) :
    Nat → (Nat → Bool) → Nat → List ((Nat → Bool) × Nat)
  | 0, _, _ => []
  | n + 1, I, p =>
    if infected keys I = 0 then List.replicate (n + 1) (I, p)
    else
      let s := step es nodes r f I p
      s :: runStates es nodes keys r f n s.1 s.2

/-- `numberInf` (length `T`, `T ≥ 1`) before the division by `N` -/
def counts (es : List Edge) (nodes keys : List Nat) (r : Rates) (f : Nat → Rat)
    (I0 : Nat → Bool) (T : Nat) : List Nat :=
  infected keys I0 :: (runStates es nodes keys r f (T - 1) I0 0).map (fun s => infected keys s.1)

/-- the returned array `numberInf / N`, `N = len(I_0)` -/
def fractions (es : List Edge) (nodes keys : List Nat) (r : Rates) (f : Nat → Rat)
    (I0 : Nat → Bool) (T : Nat) : List Rat :=
  (counts es nodes keys r f I0 T).map (fun (c : Nat) => (c : Rat) / (keys.length : Rat))

/-- number of `np.random.random()` calls made by the whole run -/
def consumed (es : List Edge) (nodes keys : List Nat) (r : Rates) (f : Nat → Rat)
    (I0 : Nat → Bool) (T : Nat) : Nat :=
  match (runStates es nodes keys r f (T - 1) I0 0).getLast? with
  | some s => s.2
  | none => 0

/-- the infected keys of `I_old` after sweeps `1 .. T-1` (what `I_old = I_new.copy()` holds at the end of each
sweep; repeated once nobody is infected) -/
def infectedSets (es : List Edge) (nodes keys : List Nat) (r : Rates) (f : Nat → Rat)
    (I0 : Nat → Bool) (T : Nat) : List (List Nat) :=
  (runStates es nodes keys r f (T - 1) I0 0).map (fun s => keys.filter s.1)

/-- the deterministic spreading named by the property: a susceptible node becomes infected when
`β = 1` and a pairwise neighbour is infected, or `β_D = 1` and both other members of a 3-node
hyperedge are infected; an infected node recovers iff `μ = 1`; nodes outside `nodes` keep their
value; everything is read from the old state -/
def spread (es : List Edge) (nodes : List Nat) (r : Rates) (I : Nat → Bool) : Nat → Bool :=
  fun v =>
    if nodes.contains v then
      if I v = false then
        (decide (r.beta = 1) && (pairNbrs es nodes v).any I)
          || (decide (r.betaD = 1) && (triplets es v).any (triHit I v))
      else decide (r.mu ≠ 1)
    else I v

/-- counts of infected nodes when the closed form `spread` is iterated with the stopping rule of the
routine (`while Infected > 0 and t < T`) -/
def spreadCounts (es : List Edge) (nodes keys : List Nat) (r : Rates) : Nat → (Nat → Bool) → List Nat
  | 0, _ => []
  | n + 1, I =>
    if infected keys I = 0 then List.replicate (n + 1) 0
    else infected keys (spread es nodes r I) :: spreadCounts es nodes keys r n (spread es nodes r I)

/-! ## extension round: matrix powers, the inverse-cdf sampler, the `np.isclose` assertion -/

/-- an `N × N` table `f i j` as a list of rows (a dense numpy matrix) -/
def table (N : Nat) (f : Nat → Nat → Rat) : List (List Rat) :=
  (List.range N).map (fun i => (List.range N).map (fun j => f i j))

/-- `A[i][j]` (`0` outside the table) -/
def at2 (A : List (List Rat)) (i j : Nat) : Rat := (A.getD i []).getD j 0

/-- the dense matrix `K` -/
def kMat (es : List Edge) (N : Nat) : List (List Rat) := table N (kEntry es N)

/-- `A @ B` for `N × N` tables -/
def matMul (N : Nat) (A B : List (List Rat)) : List (List Rat) :=
  table N (fun i j => sumTo N (fun k => at2 A i k * at2 B k j))

/-- `K ** t` (`np.linalg.matrix_power(K, t)`): `K⁰ = I`, `K^(t+1) = K @ K^t` -/
def kPowMat (es : List Edge) (N : Nat) : Nat → List (List Rat)
  | 0 => table N (fun i j => if i = j then 1 else 0)
  | t + 1 => matMul N (kMat es N) (kPowMat es N t)

/-- entry `(i, j)` of `K ** t` -/
def kPow (es : List Edge) (N t i j : Nat) : Rat := at2 (kPowMat es N t) i j

/-- `v @ P` for a vector and an `N × N` table -/
def vecMat (N : Nat) (v : List Rat) (P : List (List Rat)) : List Rat :=
  (List.range N).map (fun j => sumTo N (fun i => vecOf v i * at2 P i j))

/-- `s @ (K ** t)`: the density after `t` steps in closed form -/
def densityAt (es : List Edge) (N t : Nat) (v : List Rat) : List Rat := vecMat N v (kPowMat es N t)

/-- `np.isclose(x, 1)` with the default tolerances: `|x − 1| ≤ atol + rtol·|1|`, `atol = 1e-8`, `rtol = 1e-5` -/
def closeToOne (x : Rat) : Bool :=
  decide (x - 1 ≤ 1001 / 100000000) && decide (1 - x ≤ 1001 / 100000000)

/-- `random_walk_density(HG, s, time)` with both of its assertions: `none` = `AssertionError`
(`np.isclose(np.sum(s), 1)` fails, or the hypergraph is not connected) -/
def randomWalkDensity (es : List Edge) (N : Nat) (s : List Rat) (time : Nat) : Option (List (List Rat)) :=
  if closeToOne s.sum then
    (if connectedB es N then some (densityList es N time s) else none)
  else none

/-- `cdf.searchsorted(u, side='right')` for `cdf = p.cumsum()`: the first index `j` (from `j`, with `acc = cdf[j-1]`)
whose cumulative sum exceeds `u`; `n` = number of entries left (past the end: the length, as numpy does) -/
def chooseFrom (p : Nat → Rat) (u : Rat) : Nat → Nat → Rat → Nat
  | 0, j, _ => j
  | n + 1, j, acc => if u < acc + p j then j else chooseFrom p u n (j + 1) (acc + p j)

/-- `np.random.choice(N, p=p)` as a function of its single uniform draw `u = random_sample()` (legacy
`RandomState.choice`: `cdf = p.cumsum(); cdf /= cdf[-1]; idx = cdf.searchsorted(u, side='right')`; the division is
by `1` for a probability vector) -/
def chooseIdx (p : Nat → Rat) (N : Nat) (u : Rat) : Nat := chooseFrom p u N 0 0

/-- `random_walk` as a function of the uniform draws behind `np.random.choice`: one draw per step -/
def walkU (es : List Edge) (N : Nat) : Nat → List Rat → List Nat
  | cur, [] => [cur]
  | cur, u :: us => cur :: walkU es N (chooseIdx (kEntry es N cur) N u) us

end C18
