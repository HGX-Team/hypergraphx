import Hgxv.Model.AList
/-! Model of the centrality glue of `hypergraphx` (core Lean only):

* `hypergraphx/representations/projections.py`   `line_graph` (unweighted, `distance="intersection"`),
  `bipartite_projection` - vertex / id-table structure;
* `hypergraphx/measures/s_centralities.py`       all eight functions, the networkx routine being the
  PARAMETER `cent : Graph V → V → Rat` (its contract: a dict with one item per vertex of the graph,
  `centDict`);
* `TemporalHypergraph.subhypergraph()`           the snapshots the averaged versions iterate over;
* `hypergraphx/measures/eigen_centralities.py`   `apply`, the matrix `W` of `CEC_centrality`, one step of
  `power_method` and of the HEC iteration and the two loops around them (`powerMethod`, `hecLoop`), over `Rat`; the irrational ingredients (`‖·‖₂`, the `1/m`-th
  root) are parameters.

Labels are an arbitrary type `α` with decidable equality; `srt` is `tuple(sorted(·))`. -/
namespace C20

/-- a `networkx.Graph`: vertices in insertion order, edge list -/
structure Graph (V : Type) where
  verts : List V
  edges : List (V × V)

/-- contract of `nx.betweenness_centrality` / `nx.closeness_centrality`: a dict with exactly one item per
vertex of the graph, in vertex order -/
def centDict {V : Type} (cent : Graph V → V → Rat) (g : Graph V) : List (V × Rat) :=
  g.verts.map fun v => (v, cent g v)

/-- `{table[k]: v for k, v in items}` before the dict is formed; `none` = `KeyError` -/
def lookupItems {K κ : Type} [DecidableEq K] (tab : List (K × κ)) (items : List (K × Rat)) :
    Option (List (κ × Rat)) :=
  items.mapM fun p => (AL.get? tab p.1).map fun o => (o, p.2)

/-- a dict comprehension: later items overwrite earlier ones with the same key -/
def dictOf {κ : Type} [DecidableEq κ] (items : List (κ × Rat)) : List (κ × Rat) :=
  items.foldl (fun d p => AL.set d p.1 p.2) []

section Static
variable {α : Type} [DecidableEq α]

/-- what the routines read of a `Hypergraph`: `get_nodes()` and `get_edges()` (the stored keys), in order -/
structure HG (α : Type) where
  nodes : List α
  edges : List (List α)

/-- `intersection(set(a), set(b))` for duplicate-free `a` -/
def inter (a b : List α) : Nat := (a.filter fun x => decide (x ∈ b)).length

/-- two hyperedges become adjacent in the line graph: they are met through a common node
(`adj[n]`) and `w >= s` -/
def linked (s : Nat) (a b : List α) : Bool := decide (1 ≤ inter a b ∧ s ≤ inter a b)

/-- `id_to_edge`: `cont ↦ tuple(sorted(e))` -/
def idTable (srt : List α → List α) (es : List (List α)) : List (Nat × List α) :=
  (List.range es.length).zip (es.map srt)

/-- the edges `(i, j)`, `i < j`, of the line graph, from the id table -/
def lineEdges (s : Nat) : List (Nat × List α) → List (Nat × Nat)
  | [] => []
  | p :: t => ((t.filter fun q => linked s p.2 q.2).map fun q => (p.1, q.1)) ++ lineEdges s t

/-- `line_graph(h, s=s)[0]`: vertices `range(len(h))` -/
def lineGraph (srt : List α → List α) (H : HG α) (s : Nat) : Graph Nat :=
  { verts := List.range H.edges.length, edges := lineEdges s (idTable srt H.edges) }

/-- `s_betweenness` / `s_closeness` before the dict is formed -/
def sEdgesItems (cent : Graph Nat → Nat → Rat) (srt : List α → List α) (H : HG α) (s : Nat) :
    Option (List (List α × Rat)) :=
  lookupItems (idTable srt H.edges) (centDict cent (lineGraph srt H s))

/-- `s_betweenness(H, s)` / `s_closeness(H, s)` with `cent` the networkx routine -/
def sEdges (cent : Graph Nat → Nat → Rat) (srt : List α → List α) (H : HG α) (s : Nat) :
    Option (List (List α × Rat)) :=
  (sEdgesItems cent srt H s).map dictOf

/-! ### bipartite projection -/

def nameN (i : Nat) : String := "N" ++ toString i
def nameE (j : Nat) : String := "E" ++ toString j
/-- the test `"E" not in k` on a vertex name -/
def isNodeName (k : String) : Bool := !(k.toList.contains 'E')

/-- values of `id_to_obj`: a node or a hyperedge (node labels are assumed not to be tuples that equal a
hyperedge, so the two kinds never collide as dict keys) -/
abbrev Obj (α : Type) := Sum α (List α)

/-- `id_to_obj` of `bipartite_projection` -/
def bipTable (srt : List α → List α) (H : HG α) : List (String × Obj α) :=
  (((List.range H.nodes.length).zip H.nodes).map fun p => (nameN p.1, Sum.inl p.2)) ++
  (((List.range H.edges.length).zip H.edges).map fun p => (nameE p.1, Sum.inr (srt p.2)))

/-- `g.add_edge(obj_to_id[edge], obj_to_id[node])`; `obj_to_id[node]` is the position of the node in
`get_nodes()` (every member of a hyperedge is a node of the hypergraph) -/
def bipEdges (srt : List α → List α) (H : HG α) : List (String × String) :=
  ((List.range H.edges.length).zip H.edges).flatMap fun p =>
    (srt p.2).map fun x => (nameE p.1, nameN (H.nodes.idxOf x))

def bipGraph (srt : List α → List α) (H : HG α) : Graph String :=
  { verts := (List.range H.nodes.length).map nameN ++ (List.range H.edges.length).map nameE,
    edges := bipEdges srt H }

/-- `s_betweenness_nodes` / `s_closeness_nodes` before the dict is formed -/
def sNodesItems (cent : Graph String → String → Rat) (srt : List α → List α) (H : HG α) :
    Option (List (Obj α × Rat)) :=
  lookupItems (bipTable srt H) ((centDict cent (bipGraph srt H)).filter fun p => isNodeName p.1)

def sNodes (cent : Graph String → String → Rat) (srt : List α → List α) (H : HG α) :
    Option (List (Obj α × Rat)) :=
  (sNodesItems cent srt H).map dictOf

/-! ### temporal hypergraphs -/

/-- `get_edges()` of a `TemporalHypergraph`: `(time, key)` in order -/
structure THG (α : Type) where
  edges : List (Nat × List α)

def addNew {β : Type} [DecidableEq β] (l : List β) (x : β) : List β := if x ∈ l then l else l ++ [x]

/-- nodes of `Hypergraph().add_edge(e)...`: first appearance order -/
def nodesOf (es : List (List α)) : List α := es.flatten.foldl addNew []

/-- keys of `TemporalHypergraph.subhypergraph()`: the times in order of first appearance -/
def times (T : THG α) : List Nat := (T.edges.map (·.1)).foldl addNew []

def snapshot (srt : List α → List α) (T : THG α) (t : Nat) : HG α :=
  let es := (T.edges.filter fun p => p.1 = t).map fun p => srt p.2
  { nodes := nodesOf es, edges := es }

def snapshots (srt : List α → List α) (T : THG α) : List (HG α) := (times T).map (snapshot srt T)

/-- `for k, v in items: if k not in res: res[k] = 0; res[k] += v` -/
def accumulate {κ : Type} [DecidableEq κ] (res items : List (κ × Rat)) : List (κ × Rat) :=
  items.foldl (fun r p => AL.set r p.1 ((AL.get? r p.1).getD 0 + p.2)) res

/-- the averaged versions: accumulate over the snapshots, then `{k: v / T}` (`none` = an exception in a snapshot) -/
def averaged {κ : Type} [DecidableEq κ] (per : HG α → Option (List (κ × Rat))) (snaps : List (HG α)) :
    Option (List (κ × Rat)) :=
  (snaps.mapM per).map fun lists =>
    (lists.foldl accumulate []).map fun p => (p.1, p.2 / (snaps.length : Rat))

def sEdgesAveraged (cent : Graph Nat → Nat → Rat) (srt : List α → List α) (T : THG α) (s : Nat) :=
  averaged (fun H => sEdgesItems cent srt H s) (snapshots srt T)

/-- `s_betweenness_nodes_averaged` / `s_closenness_nodes_averaged` after the repair of D33 (the only filter
is the one on the vertex name inside `sNodesItems`) -/
def sNodesAveraged (cent : Graph String → String → Rat) (srt : List α → List α) (T : THG α) :=
  averaged (sNodesItems cent srt) (snapshots srt T)

/-- relabelling of a hypergraph: nodes through `f`, keys through `g` (`g e = tuple(sorted(map f e))`) -/
def HG.relabel {β : Type} (f : α → β) (g : List α → List β) (H : HG α) : HG β :=
  { nodes := H.nodes.map f, edges := H.edges.map g }

end Static

/-! ### eigenvector centralities (nodes `0..n-1`, vectors as lists of length `n`) -/

def getR (x : List Rat) (i : Nat) : Rat := x.getD i 0
/-- `np.prod(v[list(e)])` -/
def prodAt (x : List Rat) (l : List Nat) : Rat := (l.map (getR x)).foldl (· * ·) 1
/-- `edge[shift+1:] + edge[:shift]` -/
def rot (e : List Nat) (k : Nat) : List Nat := e.drop (k + 1) ++ e.take k
/-- `v[i] += d` -/
def addAt (v : List Rat) (i : Nat) (d : Rat) : List Rat := v.modify i (· + d)

def applyEdge (x : List Rat) (acc : List Rat) (e : List Nat) : List Rat :=
  (List.range e.length).foldl (fun a k => addAt a (e.getD k 0) (prodAt x (rot e k))) acc

/-- `apply(HG, x, g)` with `g = lambda v, e: np.prod(v[list(e)])` -/
def apply (n : Nat) (edges : List (List Nat)) (x : List Rat) : List Rat :=
  edges.foldl (applyEdge x) (List.replicate n 0)

/-- the position pairs `i < j` of the double loop of `CEC_centrality`, as `(edge[i], edge[j])` -/
def pairsOf : List Nat → List (Nat × Nat)
  | [] => []
  | a :: t => t.map (fun b => (a, b)) ++ pairsOf t

/-- `W[a, b] += 1` -/
def bump (W : List (List Rat)) (a b : Nat) : List (List Rat) := W.modify a fun row => addAt row b 1

/-- the matrix `W` of `CEC_centrality` -/
def cecW (n : Nat) (edges : List (List Nat)) : List (List Rat) :=
  (edges.flatMap pairsOf).foldl (fun W p => bump (bump W p.1 p.2) p.2 p.1)
    (List.replicate n (List.replicate n 0))

def dot (a b : List Rat) : Rat := ((a.zip b).map fun p => p.1 * p.2).sum
/-- `np.dot(W, x)` -/
def matVec (W : List (List Rat)) (x : List Rat) : List Rat := W.map fun row => dot row x

def absR (a : Rat) : Rat := if a < 0 then -a else a
/-- `np.linalg.norm(y, 1)` -/
def l1 (y : List Rat) : Rat := (y.map absR).sum
/-- squared `np.linalg.norm(y)` -/
def sq2 (y : List Rat) : Rat := (y.map fun a => a * a).sum
def sgn (a : Rat) : Rat := if a < 0 then -1 else if a = 0 then 0 else 1

/-- `a - b` on vectors -/
def vsub (a b : List Rat) : List Rat := List.zipWith (· - ·) a b

/-- one step `x ↦ W x / ‖W x‖₂` of `power_method`; `c` stands for the float `np.linalg.norm(y)` -/
def cecStep (W : List (List Rat)) (c : Rat) (x : List Rat) : List Rat := (matVec W x).map (· / c)

/-- one step of the HEC iteration; `r` stands for `np.power(apply(HG, x, g), 1/m)` -/
def hecNormalize (r : List Rat) : List Rat := r.map fun a => sgn (r.getD 0 0) * a / l1 r

/-! ### the two loops (control only, generic in the loop body so that the driver can run the SAME control on a
recorded float trajectory and the theorems can instantiate the body with `cecStep` / the HEC step) -/

/-- the test `res > tol` of `power_method`; `none` is the initial `np.inf` -/
def pmGoOn (res : Option Rat) (tol : Rat) : Bool :=
  match res with
  | none => true
  | some r => decide (tol < r)

/-- `while res > tol and k < max_iter: (x, res) = body x; k += 1` of `power_method`, `fuel = max_iter - k`;
returns the final `x` and the number of passes made from here -/
def pmLoop {X : Type} (body : X → X × Rat) (tol : Rat) : Nat → Option Rat → X → X × Nat
  | 0, _, x => (x, 0)
  | fuel + 1, res, x =>
    if pmGoOn res tol then
      let p := body x
      let r := pmLoop body tol fuel (some p.2) p.1
      (r.1, r.2 + 1)
    else (x, 0)

/-- `power_method(W, max_iter, tol)` from the normalised start `x`: the body is one step, `nrm` stands for
`np.linalg.norm` (irrational, a parameter) -/
def pmBody (nrm : List Rat → Rat) (W : List (List Rat)) (x : List Rat) : List Rat × Rat :=
  let x' := cecStep W (nrm (matVec W x)) x
  (x', nrm (vsub x x'))

def powerMethod (nrm : List Rat → Rat) (W : List (List Rat)) (maxIter : Nat) (tol : Rat) (x : List Rat) : List Rat × Nat :=
  pmLoop (pmBody nrm W) tol maxIter none x

/-- `for iter in range(max_iter): new_x = step x; if dist x new_x <= tol: break; x = new_x` of `HEC_centrality`:
returns the final `x` (the iterate the test was applied to when it broke), the number of passes and whether the
loop was left by the `break` (otherwise "Iteration did not converge!" is printed) -/
def hecLoop {X : Type} (step : X → X) (dist : X → X → Rat) (tol : Rat) : Nat → X → X × Nat × Bool
  | 0, x => (x, 0, false)
  | fuel + 1, x =>
    if dist x (step x) ≤ tol then (x, 1, true)
    else
      let r := hecLoop step dist tol fuel (step x)
      (r.1, r.2.1 + 1, r.2.2)

end C20
