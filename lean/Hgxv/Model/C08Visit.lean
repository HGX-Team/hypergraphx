import Hgxv.Model.C08
/-! # C08 model: `utils/visits.py` in full - `_bfs` and `_dfs` with `max_depth` (core Lean only)

`_bfs` and `_dfs` are the same loop over a work list of `(node, depth)` pairs and a visited set; they differ in the end
of the work list that is popped (`deque.popleft()` vs `list.pop()`).  One model, `search`, with a flag:

* `within`  <-> `max_depth is None or depth < max_depth`
* `expand`  <-> `(n, depth + 1) for n in neighbors if n not in visited` (evaluated after `add_visited(node)`)
* `push`    <-> `queue.extend(..)` read by `popleft()` (FIFO) / `stack.extend(..)` read by `pop()` (LIFO)
* `search`  <-> the `while queue:` / `while stack:` loop (well-founded on (unvisited nodes, work-list length): no fuel)
* `visitFrom` <-> `_bfs(hg, start, max_depth, order|size)` / `_dfs(..)` with the `check_node` guard
* `nbrsTab` / `visitTab` <-> the same loops run on a recorded table of `get_neighbors` answers (iteration order of the
  Python sets as observed), used by the correspondence for the order-dependent depth-limited `_dfs`
-/
namespace C08

/-- `max_depth is None or depth < max_depth` (any Python int as bound, also 0 and negative ones) -/
def within : Option Int → Nat → Bool
  | none, _ => true
  | some m, d => decide ((d : Int) < m)

/-- `(n, depth + 1) for n in neighbors if n not in visited`, nothing when the depth bound is reached;
`visited` already contains the node that is being expanded -/
def expand (nbrs : Nat → List Nat) (md : Option Int) (x d : Nat) (visited : List Nat) : List (Nat × Nat) :=
  if within md d then ((nbrs x).filter (fun n => decide (n ∉ visited))).map (fun n => (n, d + 1)) else []

/-- the work list after `extend`: the head of the list is what the next `popleft()` (`_bfs`) / `pop()` (`_dfs`) returns -/
def push (dfs : Bool) (pending ext : List (Nat × Nat)) : List (Nat × Nat) :=
  if dfs then ext.reverse ++ pending else pending ++ ext

theorem push_nil (dfs : Bool) (pending : List (Nat × Nat)) : push dfs pending [] = pending := by
  cases dfs <;> simp [push]

theorem expand_of_nil (nbrs : Nat → List Nat) (md : Option Int) (x d : Nat) (visited : List Nat) (hx : nbrs x = []) :
    expand nbrs md x d visited = [] := by
  unfold expand; rw [hx]; split <;> rfl

/-- The loop of `_bfs` (`dfs = false`) and `_dfs` (`dfs = true`): pop; if the node is new, mark it and - unless the depth
bound is reached - put its not yet visited neighbours on the work list, one level deeper. -/
def search (univ : List Nat) (nbrs : Nat → List Nat) (h : ∀ x, x ∉ univ → nbrs x = []) (md : Option Int) (dfs : Bool) :
    (work : List (Nat × Nat)) → (visited : List Nat) → List Nat
  | [], visited => visited
  | (x, d) :: q, visited =>
    if x ∈ visited then search univ nbrs h md dfs q visited
    else search univ nbrs h md dfs (push dfs q (expand nbrs md x d (x :: visited))) (x :: visited)
termination_by work visited => (unvisited univ visited, work.length)
decreasing_by
  · exact Prod.Lex.right _ (by simp)
  · rename_i hx
    by_cases hu : x ∈ univ
    · apply Prod.Lex.left
      unfold unvisited
      apply filter_length_lt _ _ univ _ x hu
      · simpa using hx
      · simp
      · intro a; simp
    · rw [expand_of_nil nbrs md x d (x :: visited) (h x hu), push_nil, unvisited_cons_of_not_mem univ visited x hu]
      exact Prod.Lex.right _ (by simp)

/-- the visited set of `_bfs` / `_dfs` `(hg, start, max_depth, order|size)` for a start node of the hypergraph -/
def visitH (es : List Edge) (f : Filt) (md : Option Int) (dfs : Bool) (start : Nat) : List Nat :=
  search es.flatten (neighbors es f) (neighbors_nil_of_not_mem es f) md dfs [(start, 0)] []

/-- `if not hg.check_node(start): raise ValueError` -/
def visitFrom (nodes : List Nat) (es : List Edge) (f : Filt) (md : Option Int) (dfs : Bool) (start : Nat) :
    Option (List Nat) :=
  if start ∈ nodes then some (visitH es f md dfs start) else none

/-! ## the same loop on a table of recorded `get_neighbors` answers -/

/-- the recorded answer of `get_neighbors(x)`, in the iteration order of the returned set; `[]` for an unknown node -/
def nbrsTab : List (Nat × List Nat) → Nat → List Nat
  | [], _ => []
  | (k, l) :: t, x => if k = x then l else nbrsTab t x

theorem nbrsTab_nil_of_not_mem (tab : List (Nat × List Nat)) (x : Nat) (hx : x ∉ tab.map (·.1)) : nbrsTab tab x = [] := by
  induction tab with
  | nil => rfl
  | cons p t ih =>
    obtain ⟨k, l⟩ := p
    simp only [List.map_cons, List.mem_cons, not_or] at hx
    simp only [nbrsTab, if_neg (Ne.symm hx.1), ih hx.2]

/-- `_bfs` / `_dfs` over the recorded table -/
def visitTab (tab : List (Nat × List Nat)) (md : Option Int) (dfs : Bool) (start : Nat) : List Nat :=
  search (tab.map (·.1)) (nbrsTab tab) (nbrsTab_nil_of_not_mem tab) md dfs [(start, 0)] []

end C08
