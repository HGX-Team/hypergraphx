import Hgxv.Model.C12
import Hgxv.Model.C02
/-! C12 on objects reached through a HISTORY (core Lean only).

`Model/C12.lean` takes the listings `get_edges()` / `get_nodes()`.  Here the listings are those of an object of the
full `DirectedHypergraph` model `C02.Store` after a sequence of constructor calls, copies and mutating calls
(`C02.Cmd`, including calls that are REJECTED and `remove_node(keep_edges=True)` whose shrunk hyperedges coincide
with stored ones).  The driver runs the history with `C02.step` and hands `histListing` / `histNodes` of a slot to
the routines of `Model/C12.lean`; `Props/C12.lean` shows `histListing = C12.listing` (the function the `C12_link_*`
theorems speak about) and that the driver's run is `C02.runCmds`. -/
namespace C12

/-- `get_edges()` of the object: the keys of `_edge_list` in creation order -/
def histListing (s : C02.Store) : List DEdge := AL.keys s.edgeList

/-- `get_nodes()` of the object: the keys of `_adj_source` in creation order -/
def histNodes (s : C02.Store) : List Nat := C02.nodes s

/-- all objects after a history that starts from the state `st` -/
def histRun (st : C02.State) : List C02.Cmd → C02.State
  | [] => st
  | c :: cs => histRun (C02.step st c).1 cs

end C12
