import Hgxv.Model.C14
/-! The generators of `Hgxv/Model/C14.lean` with their numeric arguments AS THE CALLER HOLDS THEM (core Lean only).

Python does not receive "a number": it receives an `int`, a `bool`, a `float`, a `Fraction`, a NumPy scalar, a `str`.
Which of these a routine accepts, and WHICH NUMBER it then works with, is decided by the operation the code applies to
the argument.  To the requested counts and sizes the unchanged code applies four (`succ`, `value`, `natValue` below serve
`order + 1`, `p` and the dict keys):

* `operator.index` (`range(x)`, `random.sample(pop, x)`): only integers (and `bool`) pass, everything else raises;
* a NumPy size (`np.random.exponential(scale, x)`, `np.random.choice(pop, size=x)`): integers only, `bool` refused;
* `int(x)` (`scale_free_hypergraph`, line 55, stored back into `edges_by_size`): reals are truncated toward zero,
  integer literals in a `str` are parsed;
* the loop test `len(acc) < x` (`random_hypergraph`, `add_random_edges`): reals compare by value, so the loop makes
  `ceil(x)` passes; a `str` raises.

`int(x)` and `len(acc) < x` give DIFFERENT numbers for `3.7` (3 and 4): which of the two a routine uses is part of
its contract ("exactly the requested number" of `scale_free_hypergraph` is `int(count)`).  The `..Raw` functions
below put these conversions in front of the models of `C14.lean`. -/
namespace C14

/-- convert every element; `none` as soon as one conversion fails (the call raises) -/
def optAll {α β : Type} (f : α → Option β) : List α → Option (List β)
  | [] => some []
  | a :: l =>
    match f a, optAll f l with
    | some b, some bs => some (b :: bs)
    | _, _ => none

/-- a numeric argument value together with what Python can do with it -/
inductive Num where
  /-- Python `int`, NumPy integer scalar, 0-d integer array: has `__index__`; converts and compares as `i` -/
  | int (i : Int)
  /-- Python `bool` (`True == 1`): an `int` for Python itself (`range`, `random.sample`, `int`, `<`, `+`), but refused
      by NumPy wherever a size is expected -/
  | bool (b : Bool)
  /-- `float`, NumPy floating scalar, `Fraction`, `Decimal`, `numpy.bool_` with the EXACT value `num / (den + 1)`
      (integral ones such as `3.0` included): no `__index__`; `int(x)` truncates toward zero; compares by value -/
  | real (num : Int) (den : Nat)
  /-- `str` / `bytes`: `int(x)` parses it (`v`; `none`: not an integer literal, `ValueError`); cannot be compared
      with a number, cannot be added to one, has no `__index__` -/
  | text (v : Option Int)
deriving Repr, DecidableEq

namespace Num

/-- a natural number written as a Python `int` -/
def ofNat (s : Nat) : Num := int (s : Int)

/-- `operator.index(x)` - what `range(x)`, `random.sample(pop, x)` and `[None] * x` apply; `none` = TypeError -/
def index : Num → Option Int
  | int i => some i
  | bool b => some (b.toNat : Int)
  | real _ _ => none
  | text _ => none

/-- a NumPy size argument (`np.random.exponential(scale, x)`, `np.random.choice(pop, size=x)`); `none` = TypeError -/
def npSize : Num → Option Int
  | int i => some i
  | _ => none

/-- `int(x)`; `none` = the conversion raises -/
def toInt : Num → Option Int
  | int i => some i
  | bool b => some (b.toNat : Int)
  | real n d => some (Int.tdiv n ((d : Int) + 1))
  | text v => v

/-- Python's `j < x` for a list length `j`; `none` = TypeError -/
def natLt (j : Nat) : Num → Option Bool
  | int i => some (decide ((j : Int) < i))
  | bool b => some (decide (j < b.toNat))
  | real n d => some (decide ((j : Int) * ((d : Int) + 1) < n))
  | text _ => none

/-- number of passes of `acc = []; while len(acc) < x: acc.append(..)` (for a set: number of distinct elements
    collected): the first length at which the test fails (`loopCount_spec`); `none` = the test raises -/
def loopCount : Num → Option Nat
  | int i => some i.toNat
  | bool b => some b.toNat
  | real n d => some ((n.toNat + d) / (d + 1))
  | text _ => none

/-- `x + 1` (`size = order + 1`); `none` = TypeError (`str + int`) -/
def succ : Num → Option Num
  | int i => some (int (i + 1))
  | bool b => some (int ((b.toNat : Int) + 1))
  | real n d => some (real (n + (d : Int) + 1) d)
  | text _ => none

/-- exact value `(numerator, denominator)` of an argument that is compared with numbers (`0 <= p <= 1`,
    `int(p * m)`); `none` = TypeError -/
def value : Num → Option (Int × Nat)
  | int i => some (i, 1)
  | bool b => some ((b.toNat : Int), 1)
  | real n d => some (n, d + 1)
  | text _ => none

/-- a dict key that is a natural number by value (`2`, `True`, `2.0`, `Fraction(2)` are the same key) -/
def natValue : Num → Option Nat
  | int i => if 0 ≤ i then some i.toNat else none
  | bool b => some b.toNat
  | real n d => if 0 ≤ n ∧ n % ((d : Int) + 1) = 0 then some (n / ((d : Int) + 1)).toNat else none
  | text _ => none

/-- the `k` of `random.sample(range(pop), k)` as the models of `C14.lean` see it: a `k` that the sampler refuses
    (no `__index__`, negative) acts exactly like a `k` larger than the population - the call raises as soon as a
    sample of that size is asked for, and not before -/
def sampleK (pop : Nat) (x : Num) : Nat :=
  match x.index with
  | some i => if 0 ≤ i then i.toNat else pop + 1
  | none => pop + 1

/-- the same for `np.random.choice(nodes, size=x, replace=False)` -/
def choiceK (pop : Nat) (x : Num) : Nat :=
  match x.npSize with
  | some i => if 0 ≤ i then i.toNat else pop + 1
  | none => pop + 1

end Num

/-- `random_hypergraph(n, {size: count})`: `list(range(n))` needs an index (a negative one gives no node);
    `while len(edges) < count` decides the number of samples; `random.sample(nodes, size)` decides about the sizes -/
def randomHypergraphRaw? (n : Num) (sizes counts : List Num) (groups : List (List (List Nat))) : Option HG :=
  match n.index, optAll Num.loopCount counts with
  | some ni, some cs => randomHypergraph? ni.toNat ((sizes.map (Num.sampleK ni.toNat)).zip cs) groups
  | _, _ => none

/-- `order=` / `size=` of `add_random_edge(s)` on raw values: `size = order + 1`, used as the `k` of
    `random.sample(nodes, size)` -/
def resolveSizeRaw (pop : Nat) : Option Num → Option Num → Option Nat
  | some _, some _ => none
  | none, none => none
  | none, some s => some (s.sampleK pop)
  | some o, none => o.succ.map (Num.sampleK pop)

def addRandomEdgeRaw (h : HG) (order size : Option Num) (inplace : Bool) (draw : List Nat) : Option CallResult :=
  match resolveSizeRaw h.nodes.length order size with
  | none => none
  | some s => addRandomEdge h none (some s) inplace draw

/-- `add_random_edges(hg, k, order, size)`: `while len(edges) < k` decides the number of passes -/
def addRandomEdgesRaw (h : HG) (k : Num) (order size : Option Num) (inplace : Bool) (draws : List (List Nat)) :
    Option CallResult :=
  match resolveSizeRaw h.nodes.length order size, k.loopCount with
  | some s, some k => addRandomEdges h k none (some s) inplace draws
  | _, _ => none

/-- `num_shuffles` of `scale_free_hypergraph`: compared with `0` first (lines 37-46: only its sign matters), handed to
    `range` only inside the loop over the sizes and only when `correlated`.  An index is used as it is; a real passes
    the comparisons by its sign and makes `range` raise when the loop gets there; a `str` raises in `< 0` -/
def shufflesArg (correlated loopRuns : Bool) (x : Num) : Option Int :=
  match x.index, x.value with
  | some i, _ => some i
  | none, some (n, _) => if correlated && loopRuns then none else some (Int.sign n)
  | none, none => none

/-- `scale_free_hypergraph(n, edges_by_size, scale_by_size, ..)`.  `n`: `range(n)`, and the NumPy size of
    `np.random.exponential(scale, n)` once per size; the keys of `edges_by_size` are natural numbers BY VALUE (dict
    membership goes by value: `2.0 in {2: ..}`), their value type matters to `np.random.choice(.., size=size)` only;
    line 55 stores `int(count)` back and the generation loop reads the CONVERTED number. -/
def scaleFreeRaw (n : Num) (sizes counts : List Num) (scaleKeys : List Nat) (correlated : Bool)
    (corr : Option Rat) (shuffles : Num) (groups : List (List (List Nat))) : Option HG :=
  match (if sizes.isEmpty then n.index else n.npSize), optAll Num.natValue sizes, optAll Num.toInt counts,
        shufflesArg correlated (!sizes.isEmpty) shuffles with
  | some ni, some keyVals, some cs, some sh =>
    if (0 ≤ ni || sizes.isEmpty) && sfValid keyVals cs scaleKeys correlated corr sh
        && admissible ni.toNat ((sizes.map (Num.choiceK ni.toNat)).zip (cs.map Int.toNat)) then
      some (sfLoop (addNodes {} (List.range ni.toNat)) (keyVals.zip (cs.map Int.toNat)) groups)
    else none
  | _, _, _, _ => none

/-- NOT the code - the seeded change C14-d1, kept as a witness only: the validation converts (`int(count)` into a
    local), the generation loop reads the caller's RAW value, so `while len(edges) < count` makes `loopCount` passes -/
def scaleFreeUnconverted (n : Nat) (sizes : List Nat) (counts : List Num) (scaleKeys : List Nat) (correlated : Bool)
    (corr : Option Rat) (shuffles : Int) (groups : List (List (List Nat))) : Option HG :=
  match optAll Num.toInt counts, optAll Num.loopCount counts with
  | some cs, some ls =>
    if sfValid sizes cs scaleKeys correlated corr shuffles && admissible n (sizes.zip ls) then
      some (sfLoop (addNodes {} (List.range n)) (sizes.zip ls) groups)
    else none
  | _, _ => none

/-- `HOADmodel(N, activities_per_order, time)`: `range(time)` is reached when there is at least one order,
    `range(N)` when moreover `time >= 1`; `random.sample(range(N), order)` when a node is active -/
def hoadRaw (N time : Num) (acts : List (Num × List Rat)) (draws : List HoadDraw) : Run (List (Nat × Edge)) :=
  if acts.isEmpty then hoad 0 0 [] draws
  else match time.index with
    | none => if draws.isEmpty then .raised [] else .stuck
    | some t =>
      if t ≤ 0 then hoad 0 0 [] draws
      else match N.index with
        | none => if draws.isEmpty then .raised [] else .stuck
        | some n => hoad n.toNat t.toNat (acts.map (fun a => (a.1.sampleK n.toNat, a.2))) draws

/-- `random_shuffle(.., p)`: `0 <= p <= 1` and `int(p * num_edges)` work on the value of `p` -/
def randomShuffleRaw (h : HG) (order size : Option Nat) (inplace : Bool) (p : Num)
    (idx : List Nat) (choices : List (List Nat)) : Option CallResult :=
  match p.value with
  | none => none
  | some (pn, pd) => randomShuffle h order size inplace pn pd idx choices

end C14
