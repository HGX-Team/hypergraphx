import Hgxv.Model.AList
/-! # C02 - executable model of `hypergraphx/core/directed_hypergraph.py` (core Lean only)

Mirrors `DirectedHypergraph` after the `fix:` commits of branch `wC02` (D5 add_node, D6 check_node,
D7 get_neighbors, D8 re-insert, D9 remove_node, D10 attr setters, D11 clear) plus
`hypergraphx/measures/degree.py`, `measures/directed/degree.py`, `utils/cc.py` (isolated nodes).

## API (for C05 / C06 / C07 / C19, which build on this file)

* Types: `Node = Nat` (rank of the label), `Meta = List (Nat × Nat)` (attribute token ↦ value token, a Python
  dict in insertion order), `Key = List Node × List Node` (sorted source tuple, sorted target tuple),
  weights are `Int` quanta of 1/4 (`one = 4` is Python's `1`), `Side`/`RawEdge` = a hyperedge as the caller
  wrote it (`Side.scalar n` is a bare node, accepted by `add_edge` only).
* `Store`: the ten attributes of the Python object as insertion-ordered association lists (`AL`):
  `edgeList : Key ↦ id`, `rev : id ↦ Key`, `weights`, `emeta : id ↦ Meta`, `adjS adjT : Node ↦ List id`,
  `nmeta : Node ↦ Meta`, `nextId`, `weighted`, `hmeta`.
* Mutators, one per Python method, `Store → … → Store × Out` (`Out.rej` = the call raised; for the batched calls
  the stores keeps the effects made before the failing element, exactly as the Python loops do):
  `addNode addNodes addEdge addEdges removeEdge removeEdges removeNode removeNodes setWeight setNodeMeta
  setEdgeMeta setHMeta setAttrHOp setAttrNode setAttrEdge delAttrNode delAttrEdge clear`, the constructor `ctor`;
  `Op` + `applyOp` bundle them; `Cmd` + `step : State → Cmd → State × Out` adds slots (`new`, `copy`).
* Queries, one per Python accessor (`none` = the call raises): `nodes nodesMeta checkNode numNodes edges
  edgesMeta numEdges checkEdge getWeight weightsDict sources targets sourceEdges targetEdges incident neighbors
  degree degreeSeq degreeDist inDegree outDegree inDegreeSeq outDegreeSeq sizes orders distSizes maxSize
  maxOrder isUniform nodeMeta edgeMeta allNodesMeta allEdgesMeta isolatedNodes isIsolated`, filter argument
  `Filt` (`all | size k | order k | both`).
* `Spec`: the abstract object the property names - nodes with metadata + association list
  `Key ↦ (weight, metadata)` - with `Spec.applyOp` and the same queries (`Spec.*`); `abs : Store → Spec`.
  Theorems about all this are in `Hgxv/Proofs/C02*.lean` and `Hgxv/Props/C02.lean`. -/
namespace C02

abbrev Node := Nat
abbrev Meta := List (Nat × Nat)
abbrev Key := List Node × List Node
abbrev Adj := List (Node × List Nat)

inductive Out | ok | rej deriving DecidableEq, Repr

/-- Python's `1` in quanta of 1/4 -/
def one : Int := 4

/-! ## metadata values that are not a dict

`Meta` is a Python dict `attribute token ↦ value token`.  A metadata value that is NOT a dict (`0`, `''`, `[]`, `None`,
`False`, `7`, `"x"`, `[1, 2]`, ... - `set_node_metadata`, `set_edge_metadata`, `add_node(metadata=...)`,
`add_edge(metadata=...)` store whatever object they are given) is written as the one-entry list `[(nonDict, value token)]`;
the attribute token `nonDict` is reserved and never used as a dict key.  Such a value is never equal to `{}` (the test of
`add_node`), and item assignment on it raises `TypeError` (`setAttr`).  Python's `None` handed to `add_node` / `add_edge` /
`add_edges` / the constructor as a `metadata` ARGUMENT means "not given" (`argMeta`; the wire writes `N` / `{}` there);
`remove_node(keep_edges=True)` passes the stored metadata of a hyperedge as such an argument. -/

def nonDict : Nat := 9
/-- value token of Python's `None` -/
def noneVal : Nat := 11
def isVal : Meta → Bool
  | [(a, _)] => a == nonDict
  | _ => false
def metaNone : Meta := [(nonDict, noneVal)]
/-- a stored metadata value handed on as the `metadata=` argument of `add_edge`: `None` becomes `{}` -/
def argMeta (md : Meta) : Meta := if md == metaNone then [] else md
/-- `md[field] = value`: `TypeError` unless `md` is a dict -/
def setAttr (a v : Nat) (md : Meta) : Option Meta := if isVal md then none else some (AL.set md a v)

/-! ## canonicalisation: `tuple(sorted(...))` -/

def insertSorted (a : Nat) : List Nat → List Nat
  | [] => [a]
  | b :: bs => if a ≤ b then a :: b :: bs else b :: insertSorted a bs
def sortNodes (l : List Nat) : List Nat := l.foldr insertSorted []

/-- a Python `set` of nodes as its strictly increasing list -/
def insertUniq (a : Nat) : List Nat → List Nat
  | [] => [a]
  | b :: bs => if a < b then a :: b :: bs else if a = b then b :: bs else b :: insertUniq a bs
def nodeSet (l : List Nat) : List Nat := l.foldr insertUniq []

/-- one side of a hyperedge as written by the caller: an iterable of nodes or a bare node -/
inductive Side
  | nodes (l : List Node)
  | scalar (n : Node)
  deriving DecidableEq, Repr

structure RawEdge where
  src : Side
  tgt : Side
  deriving DecidableEq, Repr

/-- `try: tuple(sorted(tuple(x))) except TypeError: tuple(sorted((x,)))` (add_edge only) -/
def Side.toList : Side → List Node
  | .nodes l => l
  | .scalar n => [n]
/-- `tuple(sorted(x))`: raises on a bare node (every entry point except add_edge) -/
def Side.strict : Side → Option (List Node)
  | .nodes l => some l
  | .scalar _ => none

def canonAdd (e : RawEdge) : Key := (sortNodes e.src.toList, sortNodes e.tgt.toList)
def canonStrict (e : RawEdge) : Option Key :=
  match e.src.strict, e.tgt.strict with
  | some s, some t => some (sortNodes s, sortNodes t)
  | _, _ => none
def RawEdge.ofKey (k : Key) : RawEdge := ⟨.nodes k.1, .nodes k.2⟩
def RawEdge.ofLists (s t : List Node) : RawEdge := ⟨.nodes s, .nodes t⟩

/-- `_get_edge_size` -/
def esize (k : Key) : Nat := k.1.length + k.2.length

/-! ## order/size filters -/

inductive Filt
  | all
  | size (k : Nat)
  | order (k : Nat)
  | both            -- order and size given: every query raises
  deriving DecidableEq, Repr

/-- `none`: rejected; `some none`: no filter; `some (some k)`: hyperedges of size `k`
    (`order = size - 1`, so `order k` is size `k + 1`) -/
def Filt.target : Filt → Option (Option Nat)
  | .all => some none
  | .size k => some (some k)
  | .order k => some (some (k + 1))
  | .both => none

/-- `up_to = False`: `size(e) - 1 == order`; `up_to = True`: `size(e) - 1 <= order` -/
def passes (t : Option Nat) (upTo : Bool) (k : Key) : Bool :=
  match t with
  | none => true
  | some m => if upTo then esize k ≤ m else esize k == m

/-! ## the concrete store -/

structure Store where
  weighted : Bool := false
  edgeList : List (Key × Nat) := []      -- _edge_list
  rev : List (Nat × Key) := []           -- _reverse_edge_list
  weights : List (Nat × Int) := []       -- _weights
  emeta : List (Nat × Meta) := []        -- _edge_metadata
  adjS : Adj := []                       -- _adj_source
  adjT : Adj := []                       -- _adj_target
  nmeta : List (Node × Meta) := []       -- _node_metadata
  nextId : Nat := 0                      -- _next_edge_id
  hmeta : Meta := []                     -- _hypergraph_metadata
  deriving DecidableEq, Repr

/-! ### nodes -/

/-- first half of `add_node`: create the three rows when the node is new -/
def ensureNode (s : Store) (n : Node) : Store :=
  if AL.has s.adjS n then s
  else { s with adjS := AL.set s.adjS n [], adjT := AL.set s.adjT n [], nmeta := AL.set s.nmeta n [] }

/-- `add_node(node, metadata)`: metadata is stored only while the node's metadata is `{}`.
    (`_node_metadata[node]` is defined whenever the node is in `_adj_source`: invariant `Inv.nmeta_same`.) -/
def addNode (s : Store) (n : Node) (md : Option Meta) : Store :=
  let s1 := ensureNode s n
  match AL.get? s1.nmeta n with
  | some [] => { s1 with nmeta := AL.set s1.nmeta n (md.getD []) }
  | _ => s1

/-- `add_nodes(node_list)` -/
def addNodes (s : Store) : List Node → Store
  | [] => s
  | n :: ns => addNodes (addNode s n none) ns

/-! ### add_edge -/

/-- `adj[node].append(id)` (the row exists: `add_node` ran just before) -/
def pushId (adj : Adj) (n : Node) (id : Nat) : Adj :=
  AL.set adj n ((AL.get? adj n).getD [] ++ [id])

/-- `for node in source: self.add_node(node); self._adj_source[node].append(idx)` -/
def linkSrc (s : Store) (id : Nat) : List Node → Store
  | [] => s
  | n :: ns =>
    let s1 := addNode s n none
    linkSrc { s1 with adjS := pushId s1.adjS n id } id ns

/-- `for node in target: self.add_node(node); self._adj_target[node].append(idx)` -/
def linkTgt (s : Store) (id : Nat) : List Node → Store
  | [] => s
  | n :: ns =>
    let s1 := addNode s n none
    linkTgt { s1 with adjT := pushId s1.adjT n id } id ns

/-- branch `edge not in self._edge_list` -/
def addEdgeNew (s : Store) (k : Key) (wt : Int) (md : Meta) : Store :=
  let id := s.nextId
  let s1 := { s with edgeList := AL.set s.edgeList k id, rev := AL.set s.rev id k,
                     weights := AL.set s.weights id (if s.weighted then wt else one), nextId := id + 1 }
  let s2 := linkSrc s1 id k.1
  let s3 := linkTgt s2 id k.2
  { s3 with emeta := AL.set s3.emeta id md }

/-- branch `edge in self._edge_list`: weights add up when weighted, metadata replaced, adjacency untouched -/
def addEdgeOld (s : Store) (id : Nat) (wt : Int) (md : Meta) : Store :=
  { s with weights := if s.weighted then
                        (match AL.get? s.weights id with
                         | some w0 => AL.set s.weights id (w0 + wt)
                         | none => s.weights)
                      else s.weights,
           emeta := AL.set s.emeta id md }

/-- `add_edge` on an already canonical key -/
def addEdgeKey (s : Store) (k : Key) (w : Option Int) (md : Option Meta) : Store × Out :=
  if !s.weighted && w.isSome && w != some one then (s, .rej) else
  match AL.get? s.edgeList k with
  | none => (addEdgeNew s k (w.getD one) (md.getD []), .ok)
  | some id => (addEdgeOld s id (w.getD one) (md.getD []), .ok)

/-- `add_edge(edge, weight, metadata)` -/
def addEdge (s : Store) (e : RawEdge) (w : Option Int) (md : Option Meta) : Store × Out :=
  addEdgeKey s (canonAdd e) w md

/-- the loop of `add_edges`; `ws`/`mds` are the remaining weights / metadata (`none`: not given or falsy).
    A metadata list that is too short raises `IndexError` at that element (earlier elements stay). -/
def addEdgesLoop (s : Store) : List RawEdge → Option (List Int) → Option (List Meta) → Store × Out
  | [], _, _ => (s, .ok)
  | e :: es, ws, mds =>
    match mds with
    | some [] => (s, .rej)
    | _ =>
      match ws with
      | some [] => (s, .rej)
      | _ =>
        let r := addEdge s e (ws.bind List.head?) (mds.bind List.head?)
        match r.2 with
        | .rej => r
        | .ok => addEdgesLoop r.1 es (ws.map List.tail) (mds.map List.tail)

/-- `x if x else None` for a list argument -/
def truthy {α} : Option (List α) → Option (List α)
  | some [] => none
  | o => o

/-- `add_edges(edge_list, weights, metadata)`: giving weights makes the hypergraph weighted -/
def addEdges (s : Store) (es : List RawEdge) (ws : Option (List Int)) (mds : Option (List Meta)) : Store × Out :=
  let s0 := if ws.isSome && !s.weighted then { s with weighted := true } else s
  match ws with
  | some l => if es.length ≠ l.length then (s0, .rej) else addEdgesLoop s0 es (truthy ws) (truthy mds)
  | none => addEdgesLoop s0 es none (truthy mds)

/-! ### remove_edge -/

/-- `for node in side: adj[node].remove(id)` -/
def unlink (adj : Adj) (id : Nat) : List Node → Adj
  | [] => adj
  | n :: ns =>
    let adj1 := match AL.get? adj n with
      | some ids => AL.set adj n (ids.erase id)
      | none => adj
    unlink adj1 id ns

def removeEdgeKey (s : Store) (k : Key) : Store × Out :=
  match AL.get? s.edgeList k with
  | none => (s, .rej)
  | some id =>
    ({ s with adjS := unlink s.adjS id k.1, adjT := unlink s.adjT id k.2, rev := AL.erase s.rev id,
              weights := AL.erase s.weights id, emeta := AL.erase s.emeta id,
              edgeList := AL.erase s.edgeList k }, .ok)

/-- `remove_edge(edge)` -/
def removeEdge (s : Store) (e : RawEdge) : Store × Out :=
  match canonStrict e with
  | none => (s, .rej)
  | some k => removeEdgeKey s k

/-- `remove_edges`: stops at the first failure -/
def removeEdges (s : Store) : List RawEdge → Store × Out
  | [] => (s, .ok)
  | e :: es =>
    let r := removeEdge s e
    match r.2 with
    | .rej => r
    | .ok => removeEdges r.1 es

/-! ### queries needed by remove_node -/

/-- `[self._reverse_edge_list[i] for i in ids if <filter>]` (`none`: a dangling id would raise KeyError) -/
def keysOfIds (s : Store) (t : Option Nat) : List Nat → Option (List Key)
  | [] => some []
  | i :: is =>
    match AL.get? s.rev i, keysOfIds s t is with
    | some k, some ks => some (if passes t false k then k :: ks else ks)
    | _, _ => none

/-- `get_source_edges(node, order, size)` -/
def sourceEdges (s : Store) (n : Node) (f : Filt) : Option (List Key) :=
  match AL.get? s.adjS n, f.target with
  | some ids, some t => keysOfIds s t ids
  | _, _ => none

/-- `get_target_edges(node, order, size)` -/
def targetEdges (s : Store) (n : Node) (f : Filt) : Option (List Key) :=
  match AL.get? s.adjT n, f.target with
  | some ids, some t => keysOfIds s t ids
  | _, _ => none

/-- `get_weight` on a canonical key -/
def weightOfKey (s : Store) (k : Key) : Option Int :=
  match AL.get? s.edgeList k with
  | some id => AL.get? s.weights id
  | none => none

/-- `get_edge_metadata` on a canonical key -/
def metaOfKey (s : Store) (k : Key) : Option Meta :=
  match AL.get? s.edgeList k with
  | some id => AL.get? s.emeta id
  | none => none

/-! ### remove_node (after fix D9) -/

def shrinkKey (k : Key) (n : Node) : Key := (k.1.filter (· != n), k.2.filter (· != n))

/-- keep_edges=True, one incident hyperedge: re-insert it without the node, carrying weight and metadata;
    a hyperedge that would lose a whole side is dropped -/
def reinsert (s : Store) (n : Node) (k : Key) : Store × Out :=
  let k' := shrinkKey k n
  if k'.1.isEmpty || k'.2.isEmpty then (s, .ok) else
  match weightOfKey s k, metaOfKey s k with
  | some w, some md => addEdge s (RawEdge.ofKey k') (some w) (some (argMeta md))
  | _, _ => (s, .rej)

def reinsertAll (s : Store) (n : Node) : List Key → Store × Out
  | [] => (s, .ok)
  | k :: ks =>
    let r := reinsert s n k
    match r.2 with
    | .rej => r
    | .ok => reinsertAll r.1 n ks

def removeKeys (s : Store) : List Key → Store × Out
  | [] => (s, .ok)
  | k :: ks =>
    let r := removeEdge s (RawEdge.ofKey k)
    match r.2 with
    | .rej => r
    | .ok => removeKeys r.1 ks

/-- `del self._adj_source[node]; del self._adj_target[node]; del self._node_metadata[node]` -/
def dropNode (s : Store) (n : Node) : Store :=
  { s with adjS := AL.erase s.adjS n, adjT := AL.erase s.adjT n, nmeta := AL.erase s.nmeta n }

/-- `remove_node(node, keep_edges)` -/
def removeNode (s : Store) (n : Node) (keep : Bool) : Store × Out :=
  if !(AL.has s.adjS n) || !(AL.has s.adjT n) then (s, .rej) else
  match sourceEdges s n .all, targetEdges s n .all with
  | some se, some te =>
    let r1 := if keep then reinsertAll s n (se ++ te) else (s, .ok)
    match r1.2 with
    | .rej => r1
    | .ok =>
      let r2 := removeKeys r1.1 (se ++ te)
      match r2.2 with
      | .rej => r2
      | .ok => (dropNode r2.1 n, .ok)
  | _, _ => (s, .rej)

def removeNodes (s : Store) (keep : Bool) : List Node → Store × Out
  | [] => (s, .ok)
  | n :: ns =>
    let r := removeNode s n keep
    match r.2 with
    | .rej => r
    | .ok => removeNodes r.1 keep ns

/-! ### weights and metadata -/

/-- `set_weight(edge, weight)` -/
def setWeight (s : Store) (e : RawEdge) (w : Int) : Store × Out :=
  if !s.weighted && w != one then (s, .rej) else
  match canonStrict e with
  | none => (s, .rej)
  | some k =>
    match AL.get? s.edgeList k with
    | some id => ({ s with weights := AL.set s.weights id w }, .ok)
    | none => (s, .rej)

def setNodeMeta (s : Store) (n : Node) (md : Meta) : Store × Out :=
  if AL.has s.adjS n then ({ s with nmeta := AL.set s.nmeta n md }, .ok) else (s, .rej)

def setEdgeMeta (s : Store) (e : RawEdge) (md : Meta) : Store × Out :=
  match canonStrict e with
  | none => (s, .rej)
  | some k =>
    match AL.get? s.edgeList k with
    | some id => ({ s with emeta := AL.set s.emeta id md }, .ok)
    | none => (s, .rej)

def setHMeta (s : Store) (md : Meta) : Store := { s with hmeta := md }
def setAttrH (s : Store) (a v : Nat) : Store := { s with hmeta := AL.set s.hmeta a v }
/-- `set_attr_to_hypergraph_metadata`: `TypeError` when `set_hypergraph_metadata` stored a value that is not a dict -/
def setAttrHOp (s : Store) (a v : Nat) : Store × Out := if isVal s.hmeta then (s, .rej) else (setAttrH s a v, .ok)

/-- `set_attr_to_node_metadata` (tests membership in `_node_metadata`; `TypeError` when the stored value is not a dict) -/
def setAttrNode (s : Store) (n : Node) (a v : Nat) : Store × Out :=
  match AL.get? s.nmeta n with
  | some md => if isVal md then (s, .rej) else ({ s with nmeta := AL.set s.nmeta n (AL.set md a v) }, .ok)
  | none => (s, .rej)

/-- `remove_attr_from_node_metadata`: `del` raises KeyError when the attribute is missing -/
def delAttrNode (s : Store) (n : Node) (a : Nat) : Store × Out :=
  match AL.get? s.nmeta n with
  | some md => if AL.has md a then ({ s with nmeta := AL.set s.nmeta n (AL.erase md a) }, .ok) else (s, .rej)
  | none => (s, .rej)

/-- `set_attr_to_edge_metadata` (after fix D10) -/
def setAttrEdge (s : Store) (e : RawEdge) (a v : Nat) : Store × Out :=
  match canonStrict e with
  | none => (s, .rej)
  | some k =>
    match AL.get? s.edgeList k with
    | none => (s, .rej)
    | some id =>
      match AL.get? s.emeta id with
      | some md => if isVal md then (s, .rej) else ({ s with emeta := AL.set s.emeta id (AL.set md a v) }, .ok)
      | none => (s, .rej)

/-- `remove_attr_from_edge_metadata` (after fix D10) -/
def delAttrEdge (s : Store) (e : RawEdge) (a : Nat) : Store × Out :=
  match canonStrict e with
  | none => (s, .rej)
  | some k =>
    match AL.get? s.edgeList k with
    | none => (s, .rej)
    | some id =>
      match AL.get? s.emeta id with
      | some md => if AL.has md a then ({ s with emeta := AL.set s.emeta id (AL.erase md a) }, .ok) else (s, .rej)
      | none => (s, .rej)

/-- `clear()` (after fix D11): every table emptied; the id counter, the flag and the hypergraph metadata stay -/
def clear (s : Store) : Store :=
  { s with edgeList := [], rev := [], weights := [], emeta := [], adjS := [], adjT := [], nmeta := [] }

/-! ### constructor -/

/-- reserved hypergraph-metadata tokens: attribute 0 = "weighted", attribute 1 = "type";
    values 0 = False, 1 = True, 2 = "DirectedHypergraph" -/
def ctorHMeta (hm : Option Meta) (weighted : Bool) : Meta :=
  AL.set (AL.set (hm.getD []) 0 (if weighted then 1 else 0)) 1 2

def addNodesMeta (s : Store) : List (Node × Meta) → Store
  | [] => s
  | (n, md) :: r => addNodesMeta (addNode s n (some md)) r

/-- `DirectedHypergraph(edge_list, weighted, weights, hypergraph_metadata, node_metadata, edge_metadata)`;
    `rej`: the constructor raised, no object -/
def ctor (weighted : Bool) (hm : Option Meta) (nm : Option (List (Node × Meta)))
    (es : Option (List RawEdge)) (ws : Option (List Int)) (mds : Option (List Meta)) : Store × Out :=
  let s0 : Store := { weighted := weighted, hmeta := ctorHMeta hm weighted }
  let s1 := addNodesMeta s0 (nm.getD [])
  match es with
  | none => (s1, .ok)
  | some el =>
    if weighted && ws.isSome && el.length ≠ (ws.getD []).length then (s1, .rej)
    else addEdges s1 el ws mds

/-! ### operations bundled -/

inductive Op
  | addNode (n : Node) (md : Option Meta)
  | addNodes (ns : List Node)
  | addEdge (e : RawEdge) (w : Option Int) (md : Option Meta)
  | addEdges (es : List RawEdge) (ws : Option (List Int)) (mds : Option (List Meta))
  | removeEdge (e : RawEdge)
  | removeEdges (es : List RawEdge)
  | removeNode (n : Node) (keep : Bool)
  | removeNodes (ns : List Node) (keep : Bool)
  | setWeight (e : RawEdge) (w : Int)
  | setNodeMeta (n : Node) (md : Meta)
  | setEdgeMeta (e : RawEdge) (md : Meta)
  | setHMeta (md : Meta)
  | setAttrH (a v : Nat)
  | setAttrNode (n : Node) (a v : Nat)
  | setAttrEdge (e : RawEdge) (a v : Nat)
  | delAttrNode (n : Node) (a : Nat)
  | delAttrEdge (e : RawEdge) (a : Nat)
  | clear
  deriving Repr

def applyOp (s : Store) : Op → Store × Out
  | .addNode n md => (addNode s n md, .ok)
  | .addNodes ns => (addNodes s ns, .ok)
  | .addEdge e w md => addEdge s e w md
  | .addEdges es ws mds => addEdges s es ws mds
  | .removeEdge e => removeEdge s e
  | .removeEdges es => removeEdges s es
  | .removeNode n keep => removeNode s n keep
  | .removeNodes ns keep => removeNodes s keep ns
  | .setWeight e w => setWeight s e w
  | .setNodeMeta n md => setNodeMeta s n md
  | .setEdgeMeta e md => setEdgeMeta s e md
  | .setHMeta md => (setHMeta s md, .ok)
  | .setAttrH a v => setAttrHOp s a v
  | .setAttrNode n a v => setAttrNode s n a v
  | .setAttrEdge e a v => setAttrEdge s e a v
  | .delAttrNode n a => delAttrNode s n a
  | .delAttrEdge e a => delAttrEdge s e a
  | .clear => (clear s, .ok)

def run (s : Store) : List Op → Store
  | [] => s
  | o :: os => run (applyOp s o).1 os

/-! ### several objects: slots, constructor, copy -/

abbrev State := List (Nat × Store)     -- slot ↦ object

inductive Cmd
  | new (slot : Nat) (weighted : Bool) (hm : Option Meta) (nm : Option (List (Node × Meta)))
        (es : Option (List RawEdge)) (ws : Option (List Int)) (mds : Option (List Meta))
  | copy (src dst : Nat)
  | op (slot : Nat) (o : Op)
  deriving Repr

def step (st : State) : Cmd → State × Out
  | .new slot w hm nm es ws mds =>
    match ctor w hm nm es ws mds with
    | (s, .ok) => (AL.set st slot s, .ok)
    | (_, .rej) => (st, .rej)
  | .copy a b =>
    match AL.get? st a with
    | some s => (AL.set st b s, .ok)
    | none => (st, .rej)
  | .op slot o =>
    match AL.get? st slot with
    | some s => let r := applyOp s o; (AL.set st slot r.1, r.2)
    | none => (st, .rej)

/-! ## queries -/

def nodes (s : Store) : List Node := AL.keys s.adjS

/-- `get_nodes(metadata=True)`: `{node: self._node_metadata[node] for node in self._adj_source}` -/
def nodesMeta (s : Store) : Option (List (Node × Meta)) :=
  (nodes s).mapM (fun n => (AL.get? s.nmeta n).map (fun md => (n, md)))

def checkNode (s : Store) (n : Node) : Bool := AL.has s.adjS n
def numNodes (s : Store) : Nat := (nodes s).length
def numEdges (s : Store) : Nat := s.edgeList.length

/-- `get_edges(order, size, up_to)` -/
def edges (s : Store) (f : Filt) (upTo : Bool) : Option (List Key) :=
  f.target.map (fun t => (AL.keys s.edgeList).filter (passes t upTo))

/-- `get_edges(..., metadata=True)` -/
def edgesMeta (s : Store) (f : Filt) (upTo : Bool) : Option (List (Key × Meta)) :=
  (edges s f upTo).bind (fun ks => ks.mapM (fun k => (metaOfKey s k).map (fun md => (k, md))))

/-- `get_weights(order, size, up_to, asdict=True)` (the list form is the values of this) -/
def weightsDict (s : Store) (f : Filt) (upTo : Bool) : Option (List (Key × Int)) :=
  (edges s f upTo).bind (fun ks => ks.mapM (fun k => (weightOfKey s k).map (fun w => (k, w))))

def checkEdge (s : Store) (e : RawEdge) : Option Bool :=
  (canonStrict e).map (fun k => AL.has s.edgeList k)
def getWeight (s : Store) (e : RawEdge) : Option Int := (canonStrict e).bind (weightOfKey s)
def edgeMeta (s : Store) (e : RawEdge) : Option Meta := (canonStrict e).bind (metaOfKey s)

def sources (s : Store) : List (List Node) := (AL.keys s.edgeList).map (·.1)
def targets (s : Store) : List (List Node) := (AL.keys s.edgeList).map (·.2)

/-- `get_incident_edges` = source edges ++ target edges -/
def incident (s : Store) (n : Node) (f : Filt) : Option (List Key) :=
  match sourceEdges s n f, targetEdges s n f with
  | some a, some b => some (a ++ b)
  | _, _ => none

/-- `get_neighbors`: the set of the other nodes of the incident hyperedges, as a strictly increasing list -/
def neighbors (s : Store) (n : Node) (f : Filt) : Option (List Node) :=
  if !(AL.has s.adjS n) || !(AL.has s.adjT n) then none else
  (incident s n f).map (fun ks => nodeSet ((ks.flatMap (fun k => k.1 ++ k.2)).filter (· != n)))

def degree (s : Store) (n : Node) (f : Filt) : Option Nat := (incident s n f).map List.length
def inDegree (s : Store) (n : Node) (f : Filt) : Option Nat := (sourceEdges s n f).map List.length
def outDegree (s : Store) (n : Node) (f : Filt) : Option Nat := (targetEdges s n f).map List.length

/-- `degree_sequence`: rejects `both` up front -/
def degreeSeq (s : Store) (f : Filt) : Option (List (Node × Nat)) :=
  match f.target with
  | none => none
  | some _ => (nodes s).mapM (fun n => (degree s n f).map (fun d => (n, d)))

/-- `in_degree_sequence`: a dict comprehension, so `both` only raises when there is a node -/
def inDegreeSeq (s : Store) (f : Filt) : Option (List (Node × Nat)) :=
  (nodes s).mapM (fun n => (inDegree s n f).map (fun d => (n, d)))
def outDegreeSeq (s : Store) (f : Filt) : Option (List (Node × Nat)) :=
  (nodes s).mapM (fun n => (outDegree s n f).map (fun d => (n, d)))

/-- histogram `value ↦ multiplicity` in first-occurrence order -/
def histogram : List Nat → List (Nat × Nat)
  | [] => []
  | d :: ds =>
    let h := histogram ds
    AL.set h d ((AL.get? h d).getD 0 + 1)

def degreeDist (s : Store) (f : Filt) : Option (List (Nat × Nat)) :=
  (degreeSeq s f).map (fun l => histogram (l.map (·.2)))

def sizes (s : Store) : List Nat := (AL.keys s.edgeList).map esize
def orders (s : Store) : List Int := (AL.keys s.edgeList).map (fun k => (esize k : Int) - 1)
def distSizes (s : Store) : List (Nat × Nat) := histogram (sizes s)
/-- `max(self.get_sizes())` raises on an empty hypergraph -/
def maxSize (s : Store) : Option Nat :=
  match sizes s with
  | [] => none
  | a :: l => some (l.foldl max a)
def maxOrder (s : Store) : Option Int := (maxSize s).map (fun m => (m : Int) - 1)
/-- `is_uniform`: compares `len(set(source) | set(target))` -/
def isUniform (s : Store) : Bool :=
  match (AL.keys s.edgeList).map (fun k => (nodeSet (k.1 ++ k.2)).length) with
  | [] => true
  | a :: l => l.all (· == a)

def nodeMeta (s : Store) (n : Node) : Option Meta :=
  if AL.has s.adjS n then AL.get? s.nmeta n else none
def allNodesMeta (s : Store) : List Meta := s.nmeta.map (·.2)
def allEdgesMeta (s : Store) : List Meta := s.emeta.map (·.2)

/-- `isolated_nodes` -/
def isolatedNodes (s : Store) (f : Filt) : Option (List Node) :=
  match f.target with
  | none => none
  | some _ =>
    ((nodes s).mapM (fun n => (neighbors s n f).map (fun nb => (n, nb.isEmpty)))).map
      (fun l => (l.filter (·.2)).map (·.1))
def isIsolated (s : Store) (n : Node) (f : Filt) : Option Bool :=
  match f.target with
  | none => none
  | some _ => (neighbors s n f).map List.isEmpty

/-! ## the abstract object: nodes with metadata + map (source set, target set) ↦ (weight, metadata) -/

structure Spec where
  weighted : Bool := false
  nodes : List (Node × Meta) := []
  edges : List (Key × (Int × Meta)) := []     -- creation order (Python dict order)
  hmeta : Meta := []
  deriving DecidableEq, Repr

namespace Spec

def addNode (s : Spec) (n : Node) (md : Option Meta) : Spec :=
  match AL.get? s.nodes n with
  | none => { s with nodes := AL.set s.nodes n (md.getD []) }
  | some [] => { s with nodes := AL.set s.nodes n (md.getD []) }
  | some _ => s

def addNodes (s : Spec) : List Node → Spec
  | [] => s
  | n :: ns => addNodes (addNode s n none) ns

def touchAll (s : Spec) : List Node → Spec
  | [] => s
  | n :: ns => touchAll (addNode s n none) ns

def addEdgeKey (s : Spec) (k : Key) (w : Option Int) (md : Option Meta) : Spec × Out :=
  if !s.weighted && w.isSome && w != some one then (s, .rej) else
  match AL.get? s.edges k with
  | none =>
    let s1 := touchAll s (k.1 ++ k.2)
    ({ s1 with edges := AL.set s1.edges k (if s.weighted then w.getD one else one, md.getD []) }, .ok)
  | some (w0, _) =>
    ({ s with edges := AL.set s.edges k (if s.weighted then w0 + w.getD one else w0, md.getD []) }, .ok)

def addEdge (s : Spec) (e : RawEdge) (w : Option Int) (md : Option Meta) : Spec × Out :=
  addEdgeKey s (canonAdd e) w md

def addEdgesLoop (s : Spec) : List RawEdge → Option (List Int) → Option (List Meta) → Spec × Out
  | [], _, _ => (s, .ok)
  | e :: es, ws, mds =>
    match mds with
    | some [] => (s, .rej)
    | _ =>
      match ws with
      | some [] => (s, .rej)
      | _ =>
        let r := addEdge s e (ws.bind List.head?) (mds.bind List.head?)
        match r.2 with
        | .rej => r
        | .ok => addEdgesLoop r.1 es (ws.map List.tail) (mds.map List.tail)

def addEdges (s : Spec) (es : List RawEdge) (ws : Option (List Int)) (mds : Option (List Meta)) : Spec × Out :=
  let s0 := if ws.isSome && !s.weighted then { s with weighted := true } else s
  match ws with
  | some l => if es.length ≠ l.length then (s0, .rej) else addEdgesLoop s0 es (truthy ws) (truthy mds)
  | none => addEdgesLoop s0 es none (truthy mds)

def removeEdgeKey (s : Spec) (k : Key) : Spec × Out :=
  if AL.has s.edges k then ({ s with edges := AL.erase s.edges k }, .ok) else (s, .rej)

def removeEdge (s : Spec) (e : RawEdge) : Spec × Out :=
  match canonStrict e with
  | none => (s, .rej)
  | some k => removeEdgeKey s k

def removeEdges (s : Spec) : List RawEdge → Spec × Out
  | [] => (s, .ok)
  | e :: es =>
    let r := removeEdge s e
    match r.2 with
    | .rej => r
    | .ok => removeEdges r.1 es

def reinsert (s : Spec) (n : Node) (k : Key) : Spec × Out :=
  let k' := shrinkKey k n
  if k'.1.isEmpty || k'.2.isEmpty then (s, .ok) else
  match AL.get? s.edges k with
  | some (w, md) => addEdge s (RawEdge.ofKey k') (some w) (some (argMeta md))
  | none => (s, .rej)

def reinsertAll (s : Spec) (n : Node) : List Key → Spec × Out
  | [] => (s, .ok)
  | k :: ks =>
    let r := reinsert s n k
    match r.2 with
    | .rej => r
    | .ok => reinsertAll r.1 n ks

def removeKeys (s : Spec) : List Key → Spec × Out
  | [] => (s, .ok)
  | k :: ks =>
    let r := removeEdge s (RawEdge.ofKey k)
    match r.2 with
    | .rej => r
    | .ok => removeKeys r.1 ks

/-- hyperedges having `n` as a source, then those having it as a target, each in creation order -/
def incidentKeys (s : Spec) (n : Node) : List Key :=
  (AL.keys s.edges).filter (fun k => k.1.contains n) ++ (AL.keys s.edges).filter (fun k => k.2.contains n)

def removeNode (s : Spec) (n : Node) (keep : Bool) : Spec × Out :=
  if !(AL.has s.nodes n) then (s, .rej) else
  let inc := incidentKeys s n
  let r1 := if keep then reinsertAll s n inc else (s, .ok)
  match r1.2 with
  | .rej => r1
  | .ok =>
    let r2 := removeKeys r1.1 inc
    match r2.2 with
    | .rej => r2
    | .ok => ({ r2.1 with nodes := AL.erase r2.1.nodes n }, .ok)

def removeNodes (s : Spec) (keep : Bool) : List Node → Spec × Out
  | [] => (s, .ok)
  | n :: ns =>
    let r := removeNode s n keep
    match r.2 with
    | .rej => r
    | .ok => removeNodes r.1 keep ns

def setWeight (s : Spec) (e : RawEdge) (w : Int) : Spec × Out :=
  if !s.weighted && w != one then (s, .rej) else
  match canonStrict e with
  | none => (s, .rej)
  | some k =>
    match AL.get? s.edges k with
    | some (_, md) => ({ s with edges := AL.set s.edges k (w, md) }, .ok)
    | none => (s, .rej)

def setNodeMeta (s : Spec) (n : Node) (md : Meta) : Spec × Out :=
  if AL.has s.nodes n then ({ s with nodes := AL.set s.nodes n md }, .ok) else (s, .rej)

def updEdgeMeta (s : Spec) (e : RawEdge) (f : Meta → Option Meta) : Spec × Out :=
  match canonStrict e with
  | none => (s, .rej)
  | some k =>
    match AL.get? s.edges k with
    | some (w, md) =>
      match f md with
      | some md' => ({ s with edges := AL.set s.edges k (w, md') }, .ok)
      | none => (s, .rej)
    | none => (s, .rej)

def updNodeMeta (s : Spec) (n : Node) (f : Meta → Option Meta) : Spec × Out :=
  match AL.get? s.nodes n with
  | some md =>
    match f md with
    | some md' => ({ s with nodes := AL.set s.nodes n md' }, .ok)
    | none => (s, .rej)
  | none => (s, .rej)

def delAttr (a : Nat) (md : Meta) : Option Meta := if AL.has md a then some (AL.erase md a) else none

def setAttrHOp (s : Spec) (a v : Nat) : Spec × Out :=
  if isVal s.hmeta then (s, .rej) else ({ s with hmeta := AL.set s.hmeta a v }, .ok)

def applyOp (s : Spec) : Op → Spec × Out
  | .addNode n md => (addNode s n md, .ok)
  | .addNodes ns => (addNodes s ns, .ok)
  | .addEdge e w md => addEdge s e w md
  | .addEdges es ws mds => addEdges s es ws mds
  | .removeEdge e => removeEdge s e
  | .removeEdges es => removeEdges s es
  | .removeNode n keep => removeNode s n keep
  | .removeNodes ns keep => removeNodes s keep ns
  | .setWeight e w => setWeight s e w
  | .setNodeMeta n md => setNodeMeta s n md
  | .setEdgeMeta e md => updEdgeMeta s e (fun _ => some md)
  | .setHMeta md => ({ s with hmeta := md }, .ok)
  | .setAttrH a v => setAttrHOp s a v
  | .setAttrNode n a v => updNodeMeta s n (setAttr a v)
  | .setAttrEdge e a v => updEdgeMeta s e (setAttr a v)
  | .delAttrNode n a => updNodeMeta s n (delAttr a)
  | .delAttrEdge e a => updEdgeMeta s e (delAttr a)
  | .clear => ({ s with nodes := [], edges := [] }, .ok)

def run (s : Spec) : List Op → Spec
  | [] => s
  | o :: os => run (applyOp s o).1 os

def addNodesMeta (s : Spec) : List (Node × Meta) → Spec
  | [] => s
  | (n, md) :: r => addNodesMeta (addNode s n (some md)) r

def ctor (weighted : Bool) (hm : Option Meta) (nm : Option (List (Node × Meta)))
    (es : Option (List RawEdge)) (ws : Option (List Int)) (mds : Option (List Meta)) : Spec × Out :=
  let s0 : Spec := { weighted := weighted, hmeta := ctorHMeta hm weighted }
  let s1 := addNodesMeta s0 (nm.getD [])
  match es with
  | none => (s1, .ok)
  | some el =>
    if weighted && ws.isSome && el.length ≠ (ws.getD []).length then (s1, .rej)
    else addEdges s1 el ws mds

/-! ### queries on the abstract object: every one is a filter / map over the two lists -/

def nodeList (s : Spec) : List Node := AL.keys s.nodes
def keyList (s : Spec) : List Key := AL.keys s.edges
def edgesF (s : Spec) (f : Filt) (upTo : Bool) : Option (List Key) :=
  f.target.map (fun t => (keyList s).filter (passes t upTo))
def edgesMetaF (s : Spec) (f : Filt) (upTo : Bool) : Option (List (Key × Meta)) :=
  f.target.map (fun t => (s.edges.filter (fun p => passes t upTo p.1)).map (fun p => (p.1, p.2.2)))
def weightsDictF (s : Spec) (f : Filt) (upTo : Bool) : Option (List (Key × Int)) :=
  f.target.map (fun t => (s.edges.filter (fun p => passes t upTo p.1)).map (fun p => (p.1, p.2.1)))
def checkEdge (s : Spec) (e : RawEdge) : Option Bool := (canonStrict e).map (fun k => AL.has s.edges k)
def getWeight (s : Spec) (e : RawEdge) : Option Int :=
  (canonStrict e).bind (fun k => (AL.get? s.edges k).map (·.1))
def edgeMeta (s : Spec) (e : RawEdge) : Option Meta :=
  (canonStrict e).bind (fun k => (AL.get? s.edges k).map (·.2))
/-- hyperedges in which `n` is a source -/
def sourceEdges (s : Spec) (n : Node) (f : Filt) : Option (List Key) :=
  if !(AL.has s.nodes n) then none else
  f.target.map (fun t => (keyList s).filter (fun k => k.1.contains n && passes t false k))
/-- hyperedges in which `n` is a target -/
def targetEdges (s : Spec) (n : Node) (f : Filt) : Option (List Key) :=
  if !(AL.has s.nodes n) then none else
  f.target.map (fun t => (keyList s).filter (fun k => k.2.contains n && passes t false k))
def incident (s : Spec) (n : Node) (f : Filt) : Option (List Key) :=
  match sourceEdges s n f, targetEdges s n f with
  | some a, some b => some (a ++ b)
  | _, _ => none
def neighbors (s : Spec) (n : Node) (f : Filt) : Option (List Node) :=
  (incident s n f).map (fun ks => nodeSet ((ks.flatMap (fun k => k.1 ++ k.2)).filter (· != n)))
def degree (s : Spec) (n : Node) (f : Filt) : Option Nat := (incident s n f).map List.length
def inDegree (s : Spec) (n : Node) (f : Filt) : Option Nat := (sourceEdges s n f).map List.length
def outDegree (s : Spec) (n : Node) (f : Filt) : Option Nat := (targetEdges s n f).map List.length
def degreeSeq (s : Spec) (f : Filt) : Option (List (Node × Nat)) :=
  match f.target with
  | none => none
  | some _ => (nodeList s).mapM (fun n => (degree s n f).map (fun d => (n, d)))
def inDegreeSeq (s : Spec) (f : Filt) : Option (List (Node × Nat)) :=
  (nodeList s).mapM (fun n => (inDegree s n f).map (fun d => (n, d)))
def outDegreeSeq (s : Spec) (f : Filt) : Option (List (Node × Nat)) :=
  (nodeList s).mapM (fun n => (outDegree s n f).map (fun d => (n, d)))
def degreeDist (s : Spec) (f : Filt) : Option (List (Nat × Nat)) :=
  (degreeSeq s f).map (fun l => histogram (l.map (·.2)))
def sizes (s : Spec) : List Nat := (keyList s).map esize
def nodeMeta (s : Spec) (n : Node) : Option Meta := AL.get? s.nodes n
def isolatedNodes (s : Spec) (f : Filt) : Option (List Node) :=
  match f.target with
  | none => none
  | some _ =>
    ((nodeList s).mapM (fun n => (neighbors s n f).map (fun nb => (n, nb.isEmpty)))).map
      (fun l => (l.filter (·.2)).map (·.1))
def isIsolated (s : Spec) (n : Node) (f : Filt) : Option Bool :=
  match f.target with
  | none => none
  | some _ => (neighbors s n f).map List.isEmpty

end Spec

/-- several abstract objects: slots, constructor, copy (mirror of `step`) -/
def Spec.step (st : List (Nat × Spec)) : Cmd → List (Nat × Spec) × Out
  | .new slot w hm nm es ws mds =>
    match Spec.ctor w hm nm es ws mds with
    | (s, .ok) => (AL.set st slot s, .ok)
    | (_, .rej) => (st, .rej)
  | .copy a b =>
    match AL.get? st a with
    | some s => (AL.set st b s, .ok)
    | none => (st, .rej)
  | .op slot o =>
    match AL.get? st slot with
    | some s => let r := Spec.applyOp s o; (AL.set st slot r.1, r.2)
    | none => (st, .rej)

/-- abstraction: forget ids and adjacency -/
def abs (s : Store) : Spec :=
  { weighted := s.weighted
    nodes := (AL.keys s.adjS).map (fun n => (n, (AL.get? s.nmeta n).getD []))
    edges := s.edgeList.map (fun p => (p.1, ((AL.get? s.weights p.2).getD 0, (AL.get? s.emeta p.2).getD [])))
    hmeta := s.hmeta }

end C02
