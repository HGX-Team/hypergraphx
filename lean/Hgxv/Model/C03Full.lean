import Hgxv.Model.C03
/-! # C03 - the WHOLE object: the tables of `Store` plus `_incidences_metadata`, and the ways in which the library
derives one `TemporalHypergraph` from another (strengthening round d)

`Store` (Model/C03.lean) holds the tables that the property's map speaks about.  The class has one more table,
`_incidences_metadata : ((time, canonical nodes), node) ↦ metadata`, written by `set_incidence_metadata`, read by
`get_incidence_metadata` / `get_all_incidences_metadata`, and touched by NO other method: `remove_edge`, `remove_node`
and `clear()` leave it alone (entries of records that were removed stay - this is what the code does and what is
modelled).  An `Obj` is a `Store` with that table.

Routes from one object to another:
* `Route.copy`   - `copy()` (= `copy.deepcopy`), also a `pickle` round trip of the object: every table;
* `Route.tables` - `expose_data_structures()` → `populate_from_dict()` (what `save_hypergraph(binary=True)` /
                   `load_hypergraph` do): every table EXCEPT `_incidences_metadata`, which starts empty.
(The JSON file format rebuilds the object through `add_node` / `add_edge`; it is a history of base calls.)

The seeded change C03-d2 made `copy()` take the second route: a value-based slot copy of `Store` could not tell the
two apart.  `FState` / `fstep` / `frun` is the machine of whole objects (the driver runs `xstep` / `rstep` of
`Model/C03Ext.lean` / `C03Raw.lean`, which sit on top of it); `baseState` forgets the incidence table and
`FOp.toBase?` the incidence calls (Proofs/C03Full.lean: the projection of a full run is the `run` of Model/C03.lean). -/
namespace C03

/-- key of `_incidences_metadata`: `((time, canonical node tuple), node)` -/
abbrev IncKey := Key × Node

structure Obj where
  base : Store
  /-- `_incidences_metadata` -/
  inc : List (IncKey × Meta) := []
  deriving DecidableEq

/-- `TemporalHypergraph(weighted=w)` -/
def Obj.new (w : Bool) : Obj := { base := Store.new w }

/-- the key `(time, _canon_edge(edge))` if it is a record of the object (`k not in self._edge_list` raises) -/
def recKey (o : Obj) (raw : List Nat) (t : TimeArg) : Option Key :=
  match mkKey raw t with
  | none => none
  | some k => if (AL.get? o.base.edgeList k).isSome then some k else none

/-- `set_incidence_metadata(edge, time, node, metadata)`: the record must be present; the node is not looked at -/
def setInc (o : Obj) (raw : List Nat) (t : TimeArg) (n : Node) (md : Meta) : Obj × Out :=
  match recKey o raw t with
  | none => (o, .rej)
  | some k => ({ o with inc := AL.set o.inc (k, n) md }, .ok)

/-- `get_incidence_metadata(edge, time, node)`: `none` = raises (record absent: ValueError, entry absent: KeyError) -/
def getInc (o : Obj) (raw : List Nat) (t : TimeArg) (n : Node) : Option Meta :=
  (recKey o raw t).bind (fun k => AL.get? o.inc (k, n))

/-- `get_incidence_metadata(edge, time, node)[field] = value` - an edit of the stored dictionary in place -/
def attrInc (o : Obj) (raw : List Nat) (t : TimeArg) (n : Node) (f v : Nat) : Obj × Out :=
  match recKey o raw t with
  | none => (o, .rej)
  | some k =>
    match AL.get? o.inc (k, n) with
    | none => (o, .rej)
    | some md => ({ o with inc := AL.set o.inc (k, n) (AL.set md f v) }, .ok)

/-- a public mutating call on the whole object -/
inductive OOp
  | base (op : SOp)
  | setInc (raw : List Nat) (t : TimeArg) (n : Node) (md : Meta)
  | attrInc (raw : List Nat) (t : TimeArg) (n : Node) (f v : Nat)

/-- every method of `Store` works on its own tables only -/
def Obj.apply (o : Obj) : OOp → Obj × Out
  | .base op => ({ o with base := (applyOp o.base op).1 }, (applyOp o.base op).2)
  | .setInc raw t n md => setInc o raw t n md
  | .attrInc raw t n f v => attrInc o raw t n f v

inductive Route
  | copy
  | tables
  deriving DecidableEq, Repr

def derive (o : Obj) : Route → Obj
  | .copy => o
  | .tables => { base := o.base }

inductive OQuery
  | base (q : Query)
  | inc (raw : List Nat) (t : TimeArg) (n : Node)
  | allInc

inductive OAns
  | base (a : Ans)
  | incs (l : List (IncKey × Meta))
  deriving DecidableEq

def Obj.answer (o : Obj) : OQuery → OAns
  | .base q => .base (C03.answer o.base q)
  | .inc raw t n => .base (optAns (getInc o raw t n) .dict)
  | .allInc => .incs o.inc

abbrev FState := List (Nat × Obj)

inductive FOp
  | new (i : Nat) (w : Bool)
  | on (i : Nat) (o : OOp)
  | derive (r : Route) (i j : Nat)
  | query (i : Nat) (q : OQuery)

inductive FRes
  | out (o : Out)
  | ans (a : OAns)
  deriving DecidableEq

def fstep (st : FState) : FOp → FState × FRes
  | .new i w => (AL.set st i (Obj.new w), .out .ok)
  | .on i op =>
    match AL.get? st i with
    | none => (st, .out .rej)
    | some o => (AL.set st i (o.apply op).1, .out (o.apply op).2)
  | .derive r i j =>
    match AL.get? st i with
    | none => (st, .out .rej)
    | some o => (AL.set st j (derive o r), .out .ok)
  | .query i q =>
    match AL.get? st i with
    | none => (st, .ans (.base .rej))
    | some o => (st, .ans (o.answer q))

def frun (st : FState) (ops : List FOp) : FState := ops.foldl (fun st op => (fstep st op).1) st

/-- forget the incidence tables -/
def baseState (st : FState) : State := st.map (fun p => (p.1, p.2.base))

/-- the call as the machine of Model/C03.lean sees it: incidence calls and queries are not there, both routes are its
slot copy -/
def FOp.toBase? : FOp → Option Op
  | .new i w => some (.new i w)
  | .on i (.base op) => some (.on i op)
  | .on _ _ => none
  | .derive _ i j => some (.copy i j)
  | .query _ _ => none

end C03
