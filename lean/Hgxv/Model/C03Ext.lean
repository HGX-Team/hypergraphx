import Hgxv.Model.C03Full
import Hgxv.Model.C03Spec
/-! # C03, extension round - the constructor, the hashing view, the label mapping and the raw tables

Core Lean only (compiled into `driver_c03`).  `Model/C03.lean`, `C03Spec.lean`, `C03Full.lean` are as other properties
import them (C01Ext, C06LinkT, C07Link, Props/C07, C08LinkDeg, C19LinkC03): a third machine `xstep` sits on top of `fstep`.

* `construct` - `TemporalHypergraph.__init__(edge_list, time_list, weighted, weights, hypergraph_metadata,
  node_metadata, edge_metadata)` as the code runs it: the metadata dict with `weighted` / `type` written over it, the
  `node_metadata` loop of `add_node`, the embedded `(time, edge)` / separate form of the times with its three
  `ValueError`s, then ONE `add_edges` call whose rejection is the constructor's rejection (there is no object then).
  `Spec.construct` is the same text on the abstract map, `ctorCalls` the public calls the constructor stands for.
* `hashView` - `expose_attributes_for_hashing()` (what `readwrite.hashing.hash_hypergraph` digests): the records in
  the order of `sorted(self._edge_list.keys())` - Python's order on `(time, node tuple)` -, each looked up again
  through its re-sorted key, with `_weights.get(id, 1)` and `_edge_metadata.get(id, {})`, then the nodes in sorted
  order with their metadata.  `Spec.hashView` sorts the entries of the map.
* `mapping` - `get_mapping().classes_`: the sorted node labels (position = the integer the encoder assigns).
* `exposeTables` / `populate` - `expose_data_structures()` / `populate_from_dict(data)` (every entry of `data` is
  optional, with the defaults of the code), `edgeTable` / `adjTable` - `get_edge_list()` / `get_adj_dict()`. -/
namespace C03

/-! ## the constructor -/

/-- one element of `edge_list` when `time_list` is not given: a 2-tuple `(time, edge)` or anything else -/
inductive CtorItem
  | pair (t : TimeArg) (raw : List Nat)
  | other

/-- the `edge_list` / `time_list` arguments -/
inductive CtorEdges
  | absent                                                 -- both `None` (then `weights`, `edge_metadata` are ignored)
  | timesOnly                                              -- `edge_list is None`, `time_list` given: ValueError
  | embedded (items : List CtorItem)                       -- `time_list is None`
  | separate (raws : List (List Nat)) (ts : List TimeArg)

structure CtorArgs where
  weighted : Bool := false
  /-- `hypergraph_metadata` (`None` and `{}` alike: `hypergraph_metadata or {}`) -/
  hm : Option Meta := none
  /-- `node_metadata.items()` in dict order; `None` and `{}` are the empty list (`if node_metadata:`) -/
  nodeMeta : List (Node × Meta) := []
  edges : CtorEdges := .absent
  weights : Option (List Int) := none
  edgeMeta : Option (List Meta) := none

/-- `self._hypergraph_metadata = hypergraph_metadata or {}; .update({"weighted": weighted, "type": ...})`
(tokens as in `Store.new`: key 100 = "weighted", 101 = "type") -/
def ctorHMeta (w : Bool) (hm : Option Meta) : Meta :=
  AL.set (AL.set (hm.getD []) 100 (if w then 91 else 90)) 101 92

/-- the empty tables of `__init__` -/
def ctorInit (a : CtorArgs) : Store := { weighted := a.weighted, hmeta := ctorHMeta a.weighted a.hm }

/-- `all(isinstance(edge, tuple) and len(edge) == 2 for edge in edge_list)` and the two comprehensions -/
def splitEmbedded : List CtorItem → Option (List (List Nat) × List TimeArg)
  | [] => some ([], [])
  | .pair t raw :: rest => (splitEmbedded rest).map (fun p => (raw :: p.1, t :: p.2))
  | .other :: _ => none

/-- what the constructor hands to `add_edges`; `none` = it raises before, `some none` = no call at all -/
def ctorBatch : CtorEdges → Option (Option (List (List Nat) × List TimeArg))
  | .absent => some none
  | .timesOnly => none
  | .embedded items => (splitEmbedded items).map some
  | .separate raws ts => if raws.length ≠ ts.length then none else some (some (raws, ts))

/-- `for node, metadata in node_metadata.items(): self.add_node(node, metadata=metadata)` -/
def ctorNodes (s : Store) (nm : List (Node × Meta)) : Store := nm.foldl (fun s p => addNode s p.1 (some p.2)) s

/-- `TemporalHypergraph(...)`; `none` = the constructor raises (there is no object) -/
def construct (a : CtorArgs) : Option Store :=
  match ctorBatch a.edges with
  | none => none
  | some none => some (ctorNodes (ctorInit a) a.nodeMeta)
  | some (some (raws, ts)) =>
    match addEdges (ctorNodes (ctorInit a) a.nodeMeta) raws ts a.weights a.edgeMeta with
    | (s, .ok) => some s
    | (_, .rej) => none

def Spec.ctorInit (a : CtorArgs) : Spec := { weighted := a.weighted, hmeta := ctorHMeta a.weighted a.hm }

def Spec.ctorNodes (sp : Spec) (nm : List (Node × Meta)) : Spec := nm.foldl (fun sp p => Spec.addNode sp p.1 (some p.2)) sp

/-- the constructor on the abstract map -/
def Spec.construct (a : CtorArgs) : Option Spec :=
  match ctorBatch a.edges with
  | none => none
  | some none => some (Spec.ctorNodes (Spec.ctorInit a) a.nodeMeta)
  | some (some (raws, ts)) =>
    match Spec.addEdges (Spec.ctorNodes (Spec.ctorInit a) a.nodeMeta) raws ts a.weights a.edgeMeta with
    | (sp, .ok) => some sp
    | (_, .rej) => none

def nodeCalls (nm : List (Node × Meta)) : List SOp := nm.map (fun p => SOp.addNode p.1 (some p.2))

/-- the public calls on a fresh `TemporalHypergraph(weighted=w)` that the constructor stands for (when its arguments
have one of the accepted forms): `set_hypergraph_metadata`, `add_node` per entry of `node_metadata`, one `add_edges` -/
def ctorCalls (a : CtorArgs) : Option (List SOp) :=
  match ctorBatch a.edges with
  | none => none
  | some none => some (SOp.setHMeta (ctorHMeta a.weighted a.hm) :: nodeCalls a.nodeMeta)
  | some (some (raws, ts)) =>
    some (SOp.setHMeta (ctorHMeta a.weighted a.hm) :: (nodeCalls a.nodeMeta ++ [SOp.addEdges raws ts a.weights a.edgeMeta]))

/-- a run of public calls on one store (outcomes dropped: a rejected call changes nothing) -/
def runCalls (s : Store) (calls : List SOp) : Store := calls.foldl (fun s o => (applyOp s o).1) s

/-! ## Python's order on node tuples and on `(time, tuple)` keys (labels are ranks) -/

def ltList : List Nat → List Nat → Bool
  | [], [] => false
  | [], _ :: _ => true
  | _ :: _, [] => false
  | a :: as, b :: bs => decide (a < b) || (decide (a = b) && ltList as bs)

def ltKey (k k' : Key) : Bool := decide (k.1 < k'.1) || (decide (k.1 = k'.1) && ltList k.2 k'.2)

def ltNat (a b : Nat) : Bool := decide (a < b)

/-- `sorted(...)` of items with pairwise different keys: insertion sort by `key` under `lt` -/
def insBy {α κ : Type} (key : α → κ) (lt : κ → κ → Bool) (x : α) : List α → List α
  | [] => [x]
  | y :: ys => if lt (key x) (key y) then x :: y :: ys else y :: insBy key lt x ys

def sortBy {α κ : Type} (key : α → κ) (lt : κ → κ → Bool) (l : List α) : List α := l.foldr (insBy key lt) []

/-! ## `expose_attributes_for_hashing` -/

structure HashView where
  weighted : Bool
  hmeta : Meta
  edges : List (Key × (Int × Meta))
  nodes : List (Node × Meta)
  deriving DecidableEq

/-- the loop over the sorted keys: `edge = (edge[0], tuple(sorted(edge[1]))); edge_id = self._edge_list[edge]` (a
`KeyError` for a key that is not canonical: `none`), `_weights.get(edge_id, 1)`, `_edge_metadata.get(edge_id, {})` -/
def hashEdges (s : Store) : List Key → Option (List (Key × (Int × Meta)))
  | [] => some []
  | k :: ks =>
    match AL.get? s.edgeList (k.1, canon k.2) with
    | none => none
    | some id =>
      (hashEdges s ks).map (fun r => ((k.1, canon k.2), ((AL.get? s.weights id).getD one, (AL.get? s.emeta id).getD [])) :: r)

/-- `for node in sorted(self._node_metadata.keys()): nodes.append({"node": node, "metadata": self._node_metadata[node]})` -/
def hashNodes (s : Store) : List Node → Option (List (Node × Meta))
  | [] => some []
  | n :: ns =>
    match AL.get? s.nmeta n with
    | none => none
    | some md => (hashNodes s ns).map (fun r => (n, md) :: r)

/-- `expose_attributes_for_hashing()`; `none` = raises -/
def hashView (s : Store) : Option HashView :=
  match hashEdges s (sortBy id ltKey (edgeKeys s)), hashNodes s (sortBy id ltNat (AL.keys s.nmeta)) with
  | some es, some ns => some { weighted := s.weighted, hmeta := s.hmeta, edges := es, nodes := ns }
  | _, _ => none

/-- the map's entries in key order, the nodes in label order -/
def Spec.hashView (sp : Spec) : HashView :=
  { weighted := sp.weighted, hmeta := sp.hmeta
    edges := sortBy (fun (r : Key × (Int × Meta)) => r.1) ltKey sp.recs
    nodes := sortBy (fun (p : Node × Meta) => p.1) ltNat sp.nodes }

/-! ## `get_mapping()` -/

/-- `LabelEncoder().fit(self.get_nodes()).classes_`: the sorted distinct node labels; `transform` maps a node to its
position in this list -/
def mapping (s : Store) : List Node := sortBy id ltNat (AL.keys s.nmeta)

def Spec.mapping (sp : Spec) : List Node := sortBy id ltNat (AL.keys sp.nodes)

/-- `get_mapping().transform([n])[0]`; `none` = raises (label not seen) -/
def indexOf? : List Node → Node → Option Nat
  | [], _ => none
  | m :: ms, n => if m = n then some 0 else (indexOf? ms n).map (· + 1)

/-! ## the raw tables: `get_edge_list()`, `get_adj_dict()`, `expose_data_structures()` / `populate_from_dict()` -/

/-- `get_edge_list()`: the key -> id table -/
def edgeTable (s : Store) : List (Key × Nat) := s.edgeList
/-- `get_adj_dict()`: node -> ids of its records -/
def adjTable (s : Store) : List (Node × List Nat) := s.adj

/-- the dictionary `populate_from_dict` reads: every entry may be missing -/
structure TableDict where
  hmeta : Option Meta := none
  weighted : Option Bool := none
  weights : Option (List (Nat × Int)) := none
  adj : Option (List (Node × List Nat)) := none
  edgeList : Option (List (Key × Nat)) := none
  nmeta : Option (List (Node × Meta)) := none
  emeta : Option (List (Nat × Meta)) := none
  rev : Option (List (Nat × Key)) := none
  nextId : Option Nat := none
  deriving DecidableEq

/-- `expose_data_structures()`: every table of `Store` (not `_incidences_metadata`) -/
def exposeTables (s : Store) : TableDict :=
  { hmeta := some s.hmeta, weighted := some s.weighted, weights := some s.weights, adj := some s.adj,
    edgeList := some s.edgeList, nmeta := some s.nmeta, emeta := some s.emeta, rev := some s.rev,
    nextId := some s.nextId }

/-- `populate_from_dict(data)`: `data.get(name, default)` per table -/
def populate (d : TableDict) : Store :=
  { weighted := d.weighted.getD false, edgeList := d.edgeList.getD [], rev := d.rev.getD [], weights := d.weights.getD [],
    emeta := d.emeta.getD [], adj := d.adj.getD [], nmeta := d.nmeta.getD [], nextId := d.nextId.getD 0,
    hmeta := d.hmeta.getD [] }

/-! ## the machine with constructor calls and the new getters -/

inductive XQuery
  | hashing
  | mapping
  | indexOf (n : Node)
  | edgeTable
  | adjTable
  | tables

inductive XAns
  | rej
  | hash (h : HashView)
  | nodes (l : List Node)
  | nat (n : Nat)
  | edgeTable (l : List (Key × Nat))
  | adjTable (l : List (Node × List Nat))
  | tables (d : TableDict)
  deriving DecidableEq

def xanswer (s : Store) : XQuery → XAns
  | .hashing => match hashView s with | none => .rej | some h => .hash h
  | .mapping => .nodes (mapping s)
  | .indexOf n => match indexOf? (mapping s) n with | none => .rej | some i => .nat i
  | .edgeTable => .edgeTable (edgeTable s)
  | .adjTable => .adjTable (adjTable s)
  | .tables => .tables (exposeTables s)

/-- the answers that have a meaning on the abstract map (no ids) -/
def Spec.xanswer (sp : Spec) : XQuery → Option XAns
  | .hashing => some (.hash (Spec.hashView sp))
  | .mapping => some (.nodes (Spec.mapping sp))
  | .indexOf n => some (match indexOf? (Spec.mapping sp) n with | none => .rej | some i => .nat i)
  | _ => none

inductive XOp
  | f (op : FOp)
  | ctor (i : Nat) (a : CtorArgs)
  | ask (i : Nat) (q : XQuery)

inductive XRes
  | f (r : FRes)
  | out (o : Out)
  | ans (a : XAns)
  deriving DecidableEq

def xstep (st : FState) : XOp → FState × XRes
  | .f op => ((fstep st op).1, .f (fstep st op).2)
  | .ctor i a =>
    match construct a with
    | none => (st, .out .rej)
    | some s => (AL.set st i { base := s }, .out .ok)
  | .ask i q =>
    match AL.get? st i with
    | none => (st, .ans .rej)
    | some o => (st, .ans (xanswer o.base q))

def xrun (st : FState) (ops : List XOp) : FState := ops.foldl (fun st op => (xstep st op).1) st

/-- an extended call as a list of calls of the machine of `Model/C03Full.lean`: an accepted constructor call is
`TemporalHypergraph(weighted=w)` followed by `ctorCalls`, a refused one and a question are nothing -/
def XOp.expand : XOp → List FOp
  | .f op => [op]
  | .ctor i a =>
    match construct a, ctorCalls a with
    | some _, some calls => FOp.new i a.weighted :: calls.map (fun c => FOp.on i (.base c))
    | _, _ => []
  | .ask _ _ => []

/-- the constructor on the abstract side -/
def specCtor (st : SpecState) (i : Nat) (a : CtorArgs) : SpecState :=
  match Spec.construct a with
  | none => st
  | some sp => AL.set st i sp

end C03
