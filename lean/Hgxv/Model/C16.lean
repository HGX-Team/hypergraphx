import Hgxv.Model.AList
/-! # C16 — executable model of `hypergraphx/generation/hy_mmsbm_sampling.py` (core Lean only)

Every random draw is an explicit argument (DESIGN-plan §1.3).  A draw of
`Generator.choice(pop, size=k, replace=False)` is the *returned list*; the model checks numpy's
contract (`k` distinct members of `pop`, `validPick`) and answers `none` when it is violated — this is
also what happens in the Python (`ValueError: Cannot take a larger sample than population`) when the
population is too small.  The accept bit `rng.random() < transition_prob` of `_mcmc_step` is an
oracle `Bool` (the transition probability is floating-point code of the inner model).  The
quantiles `stats.poisson.ppf(p, lambd)` inside `sample_truncated_poisson` are an oracle list of
naturals (zero allowed: `p` rounds to `P(X = 0)` for small means); the weight is
`np.maximum(quantile, 1)` (`truncWeight`, the repair of D44), so no weight is zero.  The filter
`np.where(weights > 0)` of `sample` is still modelled (`dropZeros`) and proved to drop nothing.

Python sets are duplicate-free lists; set union / difference / intersection are `union`, `diff`,
`inter`.  Answers are compared after sorting (`canon`). -/
namespace C16

abbrev Hye := List Nat
abbrev Config := List Hye

/-! ## sets as lists -/
def inter (a b : Hye) : Hye := a.filter (fun v => b.contains v)
def diff (a b : Hye) : Hye := a.filter (fun v => !b.contains v)
def union (a b : Hye) : Hye := a ++ diff b a

/-- contract of `rng.choice(pop, size=k, replace=False)`: `k` distinct members of `pop` -/
def validPick (pop : List Nat) (k : Nat) (pick : List Nat) : Bool :=
  pick.length == k && pick.all (fun v => pop.contains v) && decide pick.Nodup

/-! ## `_pairwise_reshuffle` -/

/-- `disjoint_union = (hye1 | hye2) - (hye1 & hye2)`, listed as `(h1 - h2) ++ (h2 - h1)` -/
def disjUnion (h1 h2 : Hye) : Hye := diff h1 h2 ++ diff h2 h1

/-- `new_hye1 = set(choice(disjoint_union, len(hye1) - len(intersection))) | intersection`,
`new_hye2 = (disjoint_union - new_hye1) | intersection` -/
def pairReshuffle (h1 h2 pick : Hye) : Option (Hye × Hye) :=
  if validPick (disjUnion h1 h2) (h1.length - (inter h1 h2).length) pick then
    some (union pick (inter h1 h2), union (diff (disjUnion h1 h2) pick) (inter h1 h2))
  else none

/-! ## `_mcmc_step`, `_mcmc_routine` -/

/-- the draws of one `_mcmc_step`: `idx1, idx2 = choice(len(hye_list), 2, replace=False)`, the pick of the
reshuffle, and the outcome of `rng.random() < transition_prob` -/
structure StepDraw where
  i : Nat
  j : Nat
  pick : List Nat
  accept : Bool
deriving Repr

/-- accepted proposal: `hye_list[idx1] = new_hye1; hye_list[idx2] = new_hye2` -/
def acceptStep (cfg : Config) (i j : Nat) (a b : Hye) : Config := (cfg.set i a).set j b

def mcmcStep (cfg : Config) (d : StepDraw) : Option Config :=
  if h : d.i < cfg.length ∧ d.j < cfg.length ∧ d.i ≠ d.j then
    match pairReshuffle cfg[d.i] cfg[d.j] d.pick with
    | some (a, b) => some (if d.accept then acceptStep cfg d.i d.j a b else cfg)
    | none => none
  else none

/-- `for _ in range(n): self._mcmc_step(hye_list)` with the `n` draws given -/
def mcmcSteps : Config → List StepDraw → Option Config
  | cfg, [] => some cfg
  | cfg, d :: ds => (mcmcStep cfg d).bind (fun c => mcmcSteps c ds)

/-- the `while True:` loop: one block of `intermediate_steps` draws per yielded configuration -/
def yieldsFrom : Config → List (List StepDraw) → Option (List Config)
  | _, [] => some []
  | cfg, ds :: rest =>
    (mcmcSteps cfg ds).bind (fun c => (yieldsFrom c rest).map (fun r => c :: r))

/-- `_mcmc_routine(hye_list, fixed_hyperedges)`: burn-in, then the yields `hye_list + fixed` -/
def mcmcRoutine (cfg fixed : Config) (burn : List StepDraw) (thins : List (List StepDraw)) :
    Option (List Config) :=
  (mcmcSteps cfg burn).bind (fun c0 => (yieldsFrom c0 thins).map (fun ys => ys.map (· ++ fixed)))

/-! ## `_deg_seq_to_dict`, `_extract_hye`, `_match_sequences`

`nodes_with_deg : {degree: set of nodes}` is modelled by its **key list** (`keys`, insertion-ordered, it
decides which degrees the loop visits and whether `nodes_with_deg[0]` exists) together with the map
node ↦ residual degree (`resid : List Nat`, index = node) from which the sets are derived
(`bucket resid d`; `C16_degToDict`: for the initial dictionary these are exactly its sets).  A key
whose set has become empty stays a key, as in the Python: the loop visits it and draws 0 nodes. -/

/-- `_deg_seq_to_dict`: insertion-ordered `{deg: nodes}` -/
def degToDict (degSeq : List Nat) : List (Nat × List Nat) :=
  degSeq.zipIdx.foldl (fun d (p : Nat × Nat) => AL.set d p.1 (((AL.get? d p.1).getD []) ++ [p.2])) []

/-- `nodes_with_deg[d]` -/
def bucket (resid : List Nat) (d : Nat) : List Nat :=
  (List.range resid.length).filter (fun n => resid[n]? == some d)

/-- `sorted((deg for deg in nodes_with_deg.keys() if deg > 0), reverse=True)` -/
def posDegs (keys : List Nat) : List Nat :=
  ((List.range (keys.foldl max 0 + 1)).reverse).filter (fun d => 0 < d && keys.contains d)

/-- the `while n_nodes_sampled < hye_size` loop over the descending degrees; returns the chosen
positive-degree nodes, the degrees visited (keys of `nodes_chosen`), how many nodes are still missing, and the
unused draws -/
def pickLoop (resid : List Nat) : List Nat → Nat → List (List Nat) →
    Option (List Nat × List Nat × Nat × List (List Nat))
  | _, 0, picks => some ([], [], 0, picks)
  | [], need + 1, picks => some ([], [], need + 1, picks)
  | d :: ds, need + 1, picks =>
    match picks with
    | [] => none
    | p :: ps =>
      if validPick (bucket resid d) (min (bucket resid d).length (need + 1)) p then
        (pickLoop resid ds (need + 1 - p.length) ps).map
          (fun r => (p ++ r.1, d :: r.2.1, r.2.2.1, r.2.2.2))
      else none

/-- lower the degree of one chosen node by one -/
def decOne (resid : List Nat) (c : Nat) : List Nat := resid.modify c (· - 1)
/-- the final loop of `_extract_hye` (move every chosen node from bucket `deg` to `deg - 1`) -/
def decResid (resid : List Nat) (chosen : List Nat) : List Nat := chosen.foldl decOne resid

/-- `d[k] = ...` on the key list -/
def addKeyN (ks : List Nat) (k : Nat) : List Nat := if ks.contains k then ks else ks ++ [k]
/-- the final loop creates the key `deg - 1` for every visited degree -/
def moveKeys (keys visited : List Nat) : List Nat := visited.foldl (fun ks d => addKeyN ks (d - 1)) keys

structure ExtractOut where
  hye : Hye
  keys : List Nat
  resid : List Nat
  /-- `self.matching_sequences = False` was executed -/
  exhausted : Bool
  picks : List (List Nat)

/-- top-up branch (`force_dim_seq or not force_deg_seq`): add nodes of degree 0
(`nodes_with_deg[0]` must exist: `KeyError` otherwise) -/
def extractTopUp (keys resid : List Nat) (chosen visited : List Nat) (need : Nat)
    (picks : List (List Nat)) : Option ExtractOut :=
  if keys.contains 0 then
    match picks with
    | [] => none
    | p :: ps =>
      if validPick (bucket resid 0) need p then
        some ⟨chosen ++ p, moveKeys keys visited, decResid resid chosen, true, ps⟩
      else none
  else none

/-- shrink branch (`force_deg_seq and not force_dim_seq`): return what is there; a single node gives the
empty hyperedge and keeps the dictionary; no positive key at all (`nodes_chosen` empty) is `set.union()`
without arguments (TypeError) -/
def extractShrink (keys resid : List Nat) (chosen visited : List Nat) (picks : List (List Nat)) :
    Option ExtractOut :=
  if visited.isEmpty then none
  else if chosen.length = 1 then some ⟨[], keys, resid, true, picks⟩
  else some ⟨chosen, moveKeys keys visited, decResid resid chosen, true, picks⟩

def extractHye (keys resid : List Nat) (size : Nat) (forceDeg forceDim : Bool)
    (picks : List (List Nat)) : Option ExtractOut :=
  if size < 1 then none
  else
    match pickLoop resid (posDegs keys) size picks with
    | none => none
    | some (chosen, visited, 0, picks') =>
      some ⟨chosen, moveKeys keys visited, decResid resid chosen, false, picks'⟩
    | some (chosen, visited, need + 1, picks') =>
      if forceDim || !forceDeg then extractTopUp keys resid chosen visited (need + 1) picks'
      else extractShrink keys resid chosen visited picks'

/-- state of `_match_sequences` -/
structure MState where
  keys : List Nat
  resid : List Nat
  cfg : Config
  /-- `matching_sequences` has not been set to `False` -/
  flag : Bool
  picks : List (List Nat)

/-- one pass of the inner loop: extract, keep the hyperedge when `len(new_hye) > 1` -/
def extractInto (size : Nat) (fd fm : Bool) (st : MState) : Option MState :=
  (extractHye st.keys st.resid size fd fm st.picks).map (fun o =>
    ⟨o.keys, o.resid, if 1 < o.hye.length then st.cfg ++ [o.hye] else st.cfg, st.flag && !o.exhausted, o.picks⟩)

/-- `for _ in range(dim_seq[hye_size])` -/
def extractMany (size : Nat) (fd fm : Bool) : Nat → MState → Option MState
  | 0, st => some st
  | k + 1, st => (extractInto size fd fm st).bind (extractMany size fd fm k)

/-- `for hye_size in dim_seq` -/
def matchLoop (fd fm : Bool) : List (Nat × Nat) → MState → Option MState
  | [], st => some st
  | (size, cnt) :: rest, st => (extractMany size fd fm cnt st).bind (matchLoop fd fm rest)

/-- `_match_sequences(deg_seq, dim_seq, force_deg_seq, force_dim_seq)` for the flag combinations the
property reaches (both sequences given: `true, true`; none given: `false, false`).  The second phase
of `force_deg_seq and not force_dim_seq` is not modelled (it references `self.model`). -/
def matchSequences (degSeq : List Nat) (dimSeq : List (Nat × Nat)) (fd fm : Bool)
    (picks : List (List Nat)) : Option MState :=
  if fd && !fm then none
  else matchLoop fd fm dimSeq ⟨AL.keys (degToDict degSeq), degSeq, [], true, picks⟩

/-! ## output stage of `sample` -/

def insertSorted (a : Nat) : List Nat → List Nat
  | [] => [a]
  | b :: bs => if a ≤ b then a :: b :: bs else b :: insertSorted a bs

/-- `tuple(sorted(hye))` (insertion sort: structural, so that closed examples reduce in the kernel) -/
def canon (e : Hye) : Hye := e.foldr insertSorted []

/-- `mapping.inverse_transform` : index ↦ label (`labels` = the encoder's sorted classes) -/
def relabel (labels : List Nat) (e : Hye) : Option Hye := e.mapM (fun i => labels[i]?)

/-- `for edge, w in zip(hye_list, weights): hye_with_weights[edge] += w` (entries start at 0) -/
def mergeDup (l : List (Hye × Nat)) : List (Hye × Nat) :=
  l.foldl (fun d (p : Hye × Nat) => AL.set d p.1 ((AL.get? d p.1).getD 0 + p.2)) []

/-- drop zero weights: `nonzero = np.where(weights > 0)` -/
def dropZeros (cfg : Config) (ws : List Nat) : List (Hye × Nat) :=
  (cfg.zip ws).filter (fun p => 0 < p.2)

def relabelAll (labels : Option (List Nat)) (l : List (Hye × Nat)) : Option (List (Hye × Nat)) :=
  match labels with
  | none => some l
  | some ls => l.mapM (fun p => (relabel ls p.1).map (fun e => (e, p.2)))

/-- one yielded `Hypergraph` (always `weighted=True`): its hyperedges with their weights -/
def outputStage (cfg : Config) (ws : List Nat) (labels : Option (List Nat)) :
    Option (List (Hye × Nat)) :=
  if ws.length = cfg.length then
    (relabelAll labels (dropZeros (cfg.map canon) ws)).map mergeDup
  else none

/-! ## `sample_truncated_poisson` (after the repair of D44) -/

/-- `np.maximum(stats.poisson.ppf(p, lambd), 1.0)`: the quantile `q` computed by scipy is an oracle natural - it
is 0 when `p = u + (1 - u) * exp(-lambd)` rounds to `P(X = 0)` (and a negative / infinite value of the
unrepaired code is outside the naturals) -; a truncated-Poisson value is at least 1 -/
def truncWeight (q : Nat) : Nat := max q 1
/-- the weights of one sample: one truncated-Poisson draw per hyperedge of the chain state -/
def truncWeights (qs : List Nat) : List Nat := qs.map truncWeight

/-! ## whole runs -/

/-- everything the sampler's own generator `self._rng` delivers during one `sample(...)` run; `quantiles`: per
yielded sample, the Poisson quantiles computed from the uniforms `rng.random(E)` -/
structure OwnTape where
  picks : List (List Nat)
  burn : List StepDraw
  thins : List (List StepDraw)
  quantiles : List (List Nat)

def outputsOf : List Config → List (List Nat) → Option (List Nat) → Option (List (List (Hye × Nat)))
  | [], _, _ => some []
  | _ :: _, [], _ => none
  | c :: cs, w :: ws, labels =>
    (outputStage c w labels).bind (fun o => (outputsOf cs ws labels).map (fun r => o :: r))

/-- chain + output stage from an initial configuration -/
def sampleFromConfig (cfg fixed : Config) (labels : Option (List Nat)) (t : OwnTape) :
    Option (List (List (Hye × Nat))) :=
  (mcmcRoutine cfg fixed t.burn t.thins).bind (fun ys => outputsOf ys (t.quantiles.map truncWeights) labels)

/-- position of a label in the encoder's classes (`mapping.transform`) -/
def transform (labels : List Nat) (e : Hye) : Option Hye :=
  e.mapM (fun x => let i := labels.idxOf x; if i < labels.length then some i else none)

/-- `sample(initial_hyg=...)` -/
def sampleFromHyg (labels : List Nat) (edges : Config) (t : OwnTape) :
    Option (List (List (Hye × Nat))) :=
  (edges.mapM (transform labels)).bind (fun cfg => sampleFromConfig cfg [] (some labels) t)

/-- `sample(deg_seq=..., dim_seq=...)` and, with the sequences and the dyadic hyperedges drawn by the
inner model (`fixed`), `sample()` -/
def sampleFromSeqs (degSeq : List Nat) (dimSeq : List (Nat × Nat)) (fd fm : Bool) (fixed : Config)
    (t : OwnTape) : Option (Bool × List (List (Hye × Nat))) :=
  (matchSequences degSeq dimSeq fd fm t.picks).bind (fun st =>
    (sampleFromConfig st.cfg fixed none t).map (fun o => (st.flag, o)))

/-! ## `sample(initial_hyg=...)` for node labels of ANY type

Node labels are arbitrary hashable, mutually comparable Python objects (integers of any size, floats, strings,
`Fraction`s, ...).  The only things the sampler does with them: look a label up in the encoder's classes
(`transform`: its position = the internal id), index the classes with an id (`inverse_transform`), and use tuples of
labels as dictionary keys when duplicates are merged.  The same code, for a label type `α` with decidable equality;
`labels` = the encoder's classes (the order in which the encoder lists them is an input). -/
section AnyLabels
variable {α : Type} [DecidableEq α]

/-- `mapping.inverse_transform` -/
def relabelG (labels : List α) (e : Hye) : Option (List α) := e.mapM (fun i => labels[i]?)

/-- `for edge, w in zip(hye_list, weights): hye_with_weights[edge] += w` with label tuples as keys -/
def mergeDupG (l : List (List α × Nat)) : List (List α × Nat) :=
  l.foldl (fun d (p : List α × Nat) => AL.set d p.1 ((AL.get? d p.1).getD 0 + p.2)) []

def relabelAllG (labels : List α) (l : List (Hye × Nat)) : Option (List (List α × Nat)) :=
  l.mapM (fun p => (relabelG labels p.1).map (fun e => (e, p.2)))

def outputStageG (cfg : Config) (ws : List Nat) (labels : List α) : Option (List (List α × Nat)) :=
  if ws.length = cfg.length then
    (relabelAllG labels (dropZeros (cfg.map canon) ws)).map mergeDupG
  else none

def outputsOfG : List Config → List (List Nat) → List α → Option (List (List (List α × Nat)))
  | [], _, _ => some []
  | _ :: _, [], _ => none
  | c :: cs, w :: ws, labels =>
    (outputStageG c w labels).bind (fun o => (outputsOfG cs ws labels).map (fun r => o :: r))

/-- the encoding of one hyperedge of the initial hypergraph, node by node: position of the label in the classes -/
def transformG (labels : List α) (e : List α) : Option Hye :=
  e.mapM (fun x => let i := labels.idxOf x; if i < labels.length then some i else none)

/-- `sample(initial_hyg=...)`: encode, run the chain on the ids, decode every sample -/
def sampleFromHygG (labels : List α) (edges : List (List α)) (t : OwnTape) :
    Option (List (List (List α × Nat))) :=
  (edges.mapM (transformG labels)).bind (fun cfg =>
    (mcmcRoutine cfg [] t.burn t.thins).bind (fun ys =>
      outputsOfG ys (t.quantiles.map truncWeights) labels))

/-- a sample carried along a map of the labels -/
def mapOut {β : Type} (f : α → β) (o : List (List α × Nat)) : List (List β × Nat) :=
  o.map (fun p => (p.1.map f, p.2))

/-- number of hyperedges of a listing that contain the label `x` (hyperedges are duplicate-free) -/
def degOfG (x : α) (edges : List (List α)) : Nat := (edges.map (fun e => e.count x)).sum

/-- number of hyperedges of size `s` -/
def sizeCountG (s : Nat) (edges : List (List α)) : Nat := (edges.map List.length).count s

end AnyLabels

/-! ## seeds: which generator feeds which draw -/

/-- what the inner `HyMMSBM` draws when nothing is given: degree sequence, size sequence, dyadic
hyperedges (Gaussian / Poisson draws of `self._model._rng`) -/
structure InnerTape where
  degSeq : List Nat
  dimSeq : List (Nat × Nat)
  dyads : Config

/-- numpy's determinism: `default_rng(seed)` fixes everything the generator will deliver -/
structure Gens where
  ownOf : Nat → OwnTape
  innerOf : Nat → InnerTape

/-- `HyMMSBMSampler(u, w, ..., seed).sample()`.  `repaired = true`: the inner model is built with the
sampler's seed (after the fix of D29); `false`: the unrepaired code, whose inner model is seeded from
the operating system (`ambient`). -/
def samplerRunModel (repaired : Bool) (G : Gens) (seed : Nat) (ambient : InnerTape) :
    Option (Bool × List (List (Hye × Nat))) :=
  let inner := if repaired then G.innerOf seed else ambient
  sampleFromSeqs inner.degSeq inner.dimSeq false false inner.dyads (G.ownOf seed)

/-- `HyMMSBMSampler(..., seed).sample(deg_seq, dim_seq)` -/
def samplerRunSeqs (G : Gens) (seed : Nat) (degSeq : List Nat) (dimSeq : List (Nat × Nat)) :=
  sampleFromSeqs degSeq dimSeq true true [] (G.ownOf seed)

/-- `HyMMSBMSampler(..., seed).sample(initial_hyg=h)` -/
def samplerRunHyg (G : Gens) (seed : Nat) (labels : List Nat) (edges : Config) :=
  sampleFromHyg labels edges (G.ownOf seed)

/-! ## one sampler object, several `sample(...)` calls

What outlives a `sample(...)` call on the sampler object and is read or written by a later call: the two
generators (represented, as everywhere in this model, by what they deliver: each call carries the draws it
receives - which draws these are is numpy's business and depends on how much was consumed before) and the report
`matching_sequences` (`None` at construction; `_match_sequences` sets it to `None` at its start since the repair of
D48, an extraction that runs out of positive-degree nodes sets it to `False`, `_match_sequences` sets it to `True`
at its end when it is still `None`).  The parameters `u, w` only enter the oracles (accept bits, quantiles, the
inner model's draws).  Nothing else is kept: in particular the label encoder of an initial hypergraph is a local
variable of the call. -/

/-- the arguments of one `sample(...)` call: `sample(initial_hyg=h)` (`labels` = sorted nodes of `h`),
`sample(deg_seq, dim_seq)`, `sample()` -/
inductive CallArgs where
  | hyg (labels : List Nat) (edges : Config)
  | seqs (degSeq : List Nat) (dimSeq : List (Nat × Nat))
  | model
deriving Repr

/-- one call with everything the two generators deliver to the generator object it returns -/
structure Call where
  args : CallArgs
  own : OwnTape
  inner : InnerTape

/-- the mutable attribute of the sampler object that `sample` reads / writes: `matching_sequences` -/
structure Sampler where
  flag : Option Bool
deriving Repr, DecidableEq

/-- what the caller sees of one call: the report `matching_sequences` the call made (`none`: the call made no
report - `sample(initial_hyg=...)` does not touch the attribute) and the yielded hypergraphs -/
structure CallOut where
  report : Option Bool
  outs : List (List (Hye × Nat))
deriving Repr, DecidableEq

/-- `matching_sequences` at the end of `_match_sequences`; `ok` = no extraction executed
`self.matching_sequences = False`.  `reset = true` is the code after the repair of D48 (the attribute is set to
`None` at the start of `_match_sequences`), `reset = false` the unrepaired code (the old value stays). -/
def flagAfter (reset : Bool) (old : Option Bool) (ok : Bool) : Option Bool :=
  if ok then
    match (if reset then none else old) with
    | none => some true
    | some b => some b
  else some false

/-- a call that goes through `_sampling_from_sequences` -/
def seqCall (reset : Bool) (s : Sampler) (degSeq : List Nat) (dimSeq : List (Nat × Nat)) (fd fm : Bool)
    (fixed : Config) (t : OwnTape) : Sampler × Option CallOut :=
  match matchSequences degSeq dimSeq fd fm t.picks with
  | none => (⟨if reset then none else s.flag⟩, none)
  | some st =>
    (⟨flagAfter reset s.flag st.flag⟩,
      (sampleFromConfig st.cfg fixed none t).map (fun o => ⟨flagAfter reset s.flag st.flag, o⟩))

/-- one `sample(...)` call on a sampler in state `s` (the generator it returns, consumed as far as the draws
reach): the new state and what the caller sees (`none` = the call raised) -/
def callStep (reset : Bool) (s : Sampler) (c : Call) : Sampler × Option CallOut :=
  match c.args with
  | .hyg labels edges => (s, (sampleFromHyg labels edges c.own).map (fun o => ⟨none, o⟩))
  | .seqs degSeq dimSeq => seqCall reset s degSeq dimSeq true true [] c.own
  | .model => seqCall reset s c.inner.degSeq c.inner.dimSeq false false c.inner.dyads c.own

/-- several calls on ONE sampler object, in the order in which their generators are started -/
def runSession (reset : Bool) : Sampler → List Call → List (Option CallOut)
  | _, [] => []
  | s, c :: cs => (callStep reset s c).2 :: runSession reset (callStep reset s c).1 cs

/-- the same call on a sampler that has just been built -/
def freshCall (c : Call) : Option CallOut := (callStep true ⟨none⟩ c).2

/-! ## observables used by the theorems -/

/-- every hyperedge of the configuration is a set (duplicate-free list) -/
def AllNodup (cfg : Config) : Prop := ∀ e ∈ cfg, e.Nodup

/-- a yielded hypergraph is well-formed: no repeated hyperedge (the keys are pairwise different and each is a
strictly increasing list, the canonical representative of its node set) and positive integer weights -/
def ValidOut (out : List (Hye × Nat)) : Prop :=
  (out.map (·.1)).Nodup ∧ ∀ p ∈ out, 0 < p.2 ∧ p.1.Pairwise (· < ·)

/-- the sizes one entry `{size: count}` of a size sequence contributes (`len(new_hye) > 1` filter) -/
def sizesOf (size cnt : Nat) : List Nat := if 2 ≤ size then List.replicate cnt size else []
/-- the size list requested by a size sequence, in iteration order -/
def sizesOfSeq (dimSeq : List (Nat × Nat)) : List Nat := dimSeq.flatMap (fun p => sizesOf p.1 p.2)

/-- number of hyperedges of the configuration that contain node `n` (hyperedges are duplicate-free) -/
def degOf (n : Nat) (cfg : Config) : Nat := (cfg.map (fun e => e.count n)).sum
/-- number of hyperedges of size `s` -/
def sizeCount (s : Nat) (cfg : Config) : Nat := (cfg.map List.length).count s
/-- conditioned count of size `s` in a size sequence -/
def dimCount (dimSeq : List (Nat × Nat)) (s : Nat) : Nat :=
  ((dimSeq.filter (fun p => p.1 == s)).map (·.2)).sum

end C16
