import Hgxv.Model.C14
/-! Draw accounting for the rejection loops, the OPTIONS of `scale_free_hypergraph` and the argument checks in the order of
the code (`sfError`, `argError`) (core Lean only).

`Hgxv/Model/C14.lean` takes the draws of `scale_free_hypergraph` already grouped per size and only the results of the
hyperedge choices; which calls the routine makes on `np.random` for `correlated`, `num_shuffles` and `corr_target` is not
part of it.  Here the routine is a function of the WHOLE sequence of `np.random` calls (`SfEv`):

```
for size in edges_by_size:                                  per size, also for a count of 0
    exp_dist = np.random.exponential(scale, num_nodes)        exp num_nodes
    if correlated:
        for _ in range(num_shuffles): np.random.choice(num_nodes, size=2, replace=False)      swap a b  (exactly num_shuffles)
        if corr_target is not None and corr_target != 1 and old_dist is not None:
            while corr > corr_target: np.random.choice(num_nodes, size=2, replace=False)      swap a b  (any number)
    while len(edges) < num_edges: np.random.choice(nodes, size=size, replace=False, p=..)      choice size d
```
and `collectUsed` counts the draws a rejection loop `while len(edges) < k` takes from a stream. -/
namespace C14

/-- number of draws the loop `while len(edges) < k: edges.add(tuple(sorted(draw)))` takes from the stream `ds`
    (all of them when the stream ends before `k` distinct hyperedges were seen) -/
def collectUsed (k : Nat) (acc : List Edge) : List (List Nat) → Nat
  | [] => 0
  | d :: ds => if acc.length < k then collectUsed k (insNew acc (sortE d)) ds + 1 else 0

/-- one call on `np.random` made by `scale_free_hypergraph` -/
inductive SfEv where
  /-- `np.random.exponential(scale, m)` -/
  | exp (m : Nat)
  /-- result `(a, b)` of `np.random.choice(num_nodes, size=2, replace=False)` -/
  | swap (a b : Nat)
  /-- `np.random.choice(nodes, size=s, replace=False, p=..)` returned `d` -/
  | choice (s : Nat) (d : List Nat)
deriving Repr, DecidableEq

/-- contract of `np.random.choice(n, size=2, replace=False)`: two different positions below `n` -/
def swapOK (n a b : Nat) : Bool := decide (a < n) && decide (b < n) && decide (a ≠ b)

/-- `for _ in range(num_shuffles)`: exactly `j` swap calls -/
def takeSwaps (n : Nat) : Nat → List SfEv → Option (List SfEv)
  | 0, evs => some evs
  | j + 1, .swap a b :: evs => if swapOK n a b then takeSwaps n j evs else none
  | _ + 1, _ => none

/-- the Spearman loop `while corr > corr_target`: any number of swap calls (the test is float arithmetic outside the model) -/
def skipSwaps (n : Nat) : List SfEv → Option (List SfEv)
  | .swap a b :: evs => if swapOK n a b then skipSwaps n evs else none
  | evs => some evs

/-- the hyperedge choices (all asked with `size=s`) at the head of the trace, and what follows them -/
def takeChoices (s : Nat) : List SfEv → List (List Nat) × List SfEv
  | .choice s' d :: evs =>
    if s' = s then (d :: (takeChoices s evs).1, (takeChoices s evs).2) else ([], .choice s' d :: evs)
  | evs => ([], evs)

/-- the Spearman loop is entered: `correlated and corr_target is not None and corr_target != 1 and old_dist is not None` -/
def spearman (correlated : Bool) (corr : Option Rat) (first : Bool) : Bool :=
  correlated && !first && (match corr with | none => false | some c => c != 1)

/-- the swap calls of one size -/
def sizeSwaps (n : Nat) (correlated : Bool) (corr : Option Rat) (shuffles : Nat) (first : Bool) (evs : List SfEv) :
    Option (List SfEv) :=
  if correlated then
    match takeSwaps n shuffles evs with
    | none => none
    | some evs1 => if spearman correlated corr first then skipSwaps n evs1 else some evs1
  else some evs

/-- split the trace of a returning run into the groups of hyperedge choices, one per size in dict order; `none`: the
    trace does not have the shape the options prescribe -/
def sfParse (n : Nat) (correlated : Bool) (corr : Option Rat) (shuffles : Nat) :
    Bool → List (Nat × Nat) → List SfEv → Option (List (List (List Nat)))
  | _, [], [] => some []
  | _, [], _ :: _ => none
  | first, (s, _) :: req, .exp m :: evs =>
    if m = n then
      match sizeSwaps n correlated corr shuffles first evs with
      | none => none
      | some evs1 =>
        match sfParse n correlated corr shuffles false req (takeChoices s evs1).2 with
        | none => none
        | some gs => some ((takeChoices s evs1).1 :: gs)
    else none
  | _, _ :: _, _ => none

/-- `np.random.choice(num_nodes, size=2, replace=False)` raises with fewer than two nodes: reached when `correlated`,
    `num_shuffles >= 1` and there is at least one size -/
def swapsPossible (n : Nat) (sizes : List Nat) (correlated : Bool) (shuffles : Int) : Bool :=
  !(correlated && decide (0 < shuffles) && decide (n < 2) && !sizes.isEmpty)

inductive SfOut where
  /-- the call returned this hypergraph after exactly the calls of the trace -/
  | done (h : HG)
  /-- the call raises (validation, a size above `n` with a positive count, swaps with fewer than two nodes) -/
  | rej
  /-- the trace is not a run of the routine with these arguments -/
  | stuck
deriving Repr, DecidableEq

/-- `scale_free_hypergraph(n, edges_by_size, scale_by_size, correlated, corr_target, num_shuffles)` over the complete
    sequence of its `np.random` calls -/
def scaleFreeTrace (n : Nat) (sizes : List Nat) (counts : List Int) (scaleKeys : List Nat) (correlated : Bool)
    (corr : Option Rat) (shuffles : Int) (evs : List SfEv) : SfOut :=
  let req := sizes.zip (counts.map Int.toNat)
  if sfValid sizes counts scaleKeys correlated corr shuffles && admissible n req
      && swapsPossible n sizes correlated shuffles then
    match sfParse n correlated corr shuffles.toNat true req evs with
    | none => .stuck
    | some groups =>
      if sfReturned req groups then .done (sfLoop (addNodes {} (List.range n)) req groups) else .stuck
  else .rej

/-- the number of `exponential` calls in a trace (`countSwap`, `countChoice`: of swap and of hyperedge-choice calls) -/
def countExp (evs : List SfEv) : Nat := (evs.filter (fun e => match e with | .exp _ => true | _ => false)).length
def countSwap (evs : List SfEv) : Nat := (evs.filter (fun e => match e with | .swap _ _ => true | _ => false)).length
def countChoice (evs : List SfEv) : Nat := (evs.filter (fun e => match e with | .choice _ _ => true | _ => false)).length

/-! ## the validation paths: WHICH check refuses the arguments (the checks in the order of the code) -/

/-- `scale_free_hypergraph`, lines 37-59: the number of the first `raise ValueError` that is reached
    (1 "Cannot shuffle if correlated == False", 2 "Cannot shuffle negative number of times", 3 "Correlation must be between
    0 and 1", 4 "Cannot provide correlation value if correlated == False", 5 "Cannot provide both correlation value and
    number of shuffles", 6 "Must provide scale for each edge size", 7 "Must provide number of edges for each edge size",
    8 "Number of edges must be non-negative"); `none`: the validation passes -/
def sfError (sizes : List Nat) (counts : List Int) (scaleKeys : List Nat) (correlated : Bool)
    (corr : Option Rat) (shuffles : Int) : Option Nat :=
  if shuffles != 0 && !correlated then some 1
  else if shuffles < 0 then some 2
  else if (match corr with | none => false | some c => c < 0 || c > 1) then some 3
  else if corr.isSome && !correlated then some 4
  else if corr.isSome && shuffles != 0 then some 5
  else if !sizes.all (fun k => scaleKeys.contains k) then some 6
  else if !scaleKeys.all (fun k => sizes.contains k) then some 7
  else if !counts.all (fun c => !(c < 0)) then some 8
  else none

/-- `random_shuffle` / `add_random_edge(s)`: 1 "Order and size cannot be both specified.", 2 "Order or size must be
    specified.", 3 "p must be between 0 and 1." (`p = none`: the routine has no `p`) -/
def argError (order size : Option Nat) (p : Option (Int × Nat)) : Option Nat :=
  match order, size with
  | some _, some _ => some 1
  | none, none => some 2
  | _, _ =>
    match p with
    | some (pn, pd) => if 0 ≤ pn ∧ pn ≤ pd then none else some 3
    | none => none

end C14
