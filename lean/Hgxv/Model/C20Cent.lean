import Hgxv.Model.C20
/-! Instantiations of the parameter `cent` used by the C20 driver (core Lean only). The parametric theorems hold for
every `cent`; `closeness` and `betweenness` are also the SUBJECT of theorems
(`Proofs/C20Cent*.lean`, `C20_dist_spec` ... `C20_nx_relabel` in `Props/C20.lean`):

* `stubCent`     an arbitrary, vertex- and graph-dependent value; the harness installs the same function in
                 place of the networkx routines, so the glue is compared exactly;
* `closeness`    `nx.closeness_centrality(G)` (`wf_improved=True`) in exact rationals;
* `betweenness`  `nx.betweenness_centrality(G)` (normalised, no endpoints) in exact rationals.

Shortest paths are obtained from walk counts: `w_0 = 1_s`, `w_{k+1}(v) = Σ_{u ~ v} w_k(u)`; the distance of `v`
is the first `k < |V|` with `w_k(v) > 0` and that `w_k(v)` is the number of shortest paths. -/
namespace C20
variable {V : Type} [DecidableEq V]

def adjacent (g : Graph V) (u v : V) : Bool :=
  g.edges.any fun e => (e.1 = u ∧ e.2 = v) ∨ (e.1 = v ∧ e.2 = u)

def nbrs (g : Graph V) (v : V) : List V := g.verts.filter fun u => u ≠ v ∧ adjacent g u v

def degree (g : Graph V) (v : V) : Nat := (nbrs g v).length

/-- an arbitrary deterministic "centrality": depends on the vertex' position, its degree and the number of edges -/
def stubCent (g : Graph V) (v : V) : Rat :=
  (((3 * degree g v + 7 * g.verts.idxOf v + 11 * g.edges.length + 5) % 64 : Nat) : Rat) / 8

/-- one more step of the walk counts (a vector aligned with `g.verts`) -/
def walkStep (g : Graph V) (w : List (V × Nat)) : List (V × Nat) :=
  g.verts.map fun v => (v, ((nbrs g v).map fun u => (AL.get? w u).getD 0).sum)

def walkLevels (g : Graph V) (s : V) : Nat → List (V × Nat) → List (List (V × Nat))
  | 0, _ => []
  | k + 1, w => w :: walkLevels g s k (walkStep g w)

/-- `[w_0, …, w_{|V|-1}]` from source `s` -/
def levels (g : Graph V) (s : V) : List (List (V × Nat)) :=
  walkLevels g s g.verts.length (g.verts.map fun v => (v, if v = s then 1 else 0))

/-- `(distance, number of shortest paths)` from the source of `lv` to `v`; `none` = unreachable -/
def distSigma (lv : List (List (V × Nat))) (v : V) : Option (Nat × Nat) :=
  ((List.range lv.length).zip lv).findSome? fun p =>
    let c := (AL.get? p.2 v).getD 0
    if 0 < c then some (p.1, c) else none

/-- `nx.closeness_centrality(g)[v]` -/
def closeness (g : Graph V) (v : V) : Rat :=
  let lv := levels g v
  let ds := g.verts.filterMap fun u => distSigma lv u
  let tot := (ds.map (·.1)).sum
  let r := ds.length - 1
  let n := g.verts.length
  if 0 < tot ∧ 1 < n then ((r : Rat) / (tot : Rat)) * ((r : Rat) / ((n - 1 : Nat) : Rat)) else 0

/-- pair dependency of `v` for the ordered pair `(s, t)` -/
def pairDep (ls lvv : List (List (V × Nat))) (v t : V) : Rat :=
  match distSigma ls t, distSigma ls v, distSigma lvv t with
  | some (dst, sst), some (dsv, ssv), some (dvt, svt) =>
    if dsv + dvt = dst then ((ssv * svt : Nat) : Rat) / (sst : Rat) else 0
  | _, _, _ => 0

/-- `nx.betweenness_centrality(g)[v]` -/
def betweenness (g : Graph V) (v : V) : Rat :=
  let lvv := levels g v
  let others := g.verts.filter (· ≠ v)
  let raw := (others.map fun s =>
    let ls := levels g s
    ((others.filter (· ≠ s)).map fun t => pairDep ls lvv v t).sum).sum
  let n := g.verts.length
  if 3 ≤ n then raw / (((n - 1) * (n - 2) : Nat) : Rat) else raw

end C20
