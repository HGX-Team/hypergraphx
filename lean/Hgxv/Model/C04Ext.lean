import Hgxv.Model.C04Spec
/-! # C04 - the constructor and the hashing view

Core Lean only (compiled into `driver_c04`).

* `construct` - `MultiplexHypergraph.__init__(edge_list, edge_layer, weighted, weights, hypergraph_metadata,
  node_metadata, edge_metadata)` as the code runs it: metadata dict, the `node_metadata` loop of `add_node`, the
  embedded / separate form of the layers with its two `ValueError`s, then ONE `add_edges` call whose rejection is
  the constructor's rejection.  `Spec.construct` is the same on the abstract map, `ctorOps` the history of public
  calls the constructor stands for.
* `hashView` - `expose_attributes_for_hashing()` (what `readwrite.hashing.hash_hypergraph` digests): the records in
  the order of `sorted(self._edge_list.keys())` - Python's lexicographic order on `(node tuple, layer)` - each
  looked up again through its canonical key, with `_weights.get(id, 1)` and `_edge_metadata.get(id, {})`, then the
  nodes in sorted order with their metadata.  `Spec.hashView` sorts the entries of the map. -/
namespace C04

/-! ## the constructor -/

/-- one element of `edge_list` when `edge_layer` is not given: a 2-tuple `(edge, layer)` or anything else -/
inductive CtorItem
  | pair (raw : List Node) (l : Layer)
  | other
  deriving Repr, DecidableEq

/-- the `edge_list` / `edge_layer` arguments -/
inductive CtorEdges
  | absent                                               -- `edge_list is None` (then `edge_layer`, `weights`, `edge_metadata` are ignored)
  | embedded (items : List CtorItem)                     -- `edge_layer is None`
  | separate (raws : List (List Node)) (ls : List Layer)
  deriving Repr

structure CtorArgs where
  weighted : Bool := false
  hm : HMeta := []
  /-- `node_metadata.items()` in dict order; `None` and `{}` are the empty list (`if node_metadata:`) -/
  nodeMeta : List (Node × Meta) := []
  edges : CtorEdges := .absent
  weights : Option (List Int) := none
  edgeMeta : Option (List Meta) := none
  deriving Repr

/-- `all(isinstance(edge, tuple) and len(edge) == 2 for edge in edge_list)` and the two comprehensions -/
def splitEmbedded : List CtorItem → Option (List (List Node) × List Layer)
  | [] => some ([], [])
  | .pair raw l :: t => (splitEmbedded t).map (fun p => (raw :: p.1, l :: p.2))
  | .other :: _ => none

/-- what the constructor hands to `add_edges`; `none` = it raises before, `some none` = no call at all -/
def ctorBatch : CtorEdges → Option (Option (List (List Node) × List Layer))
  | .absent => some none
  | .embedded items => (splitEmbedded items).map some
  | .separate raws ls => if raws.length ≠ ls.length then none else some (some (raws, ls))

/-- `for node, metadata in node_metadata.items(): self.add_node(node, metadata=metadata)` -/
def ctorNodes (s : Store) (nm : List (Node × Meta)) : Store := nm.foldl (fun s p => addNode s p.1 (some p.2)) s

/-- `MultiplexHypergraph(...)`; `none` = the constructor raises (there is no object) -/
def construct (a : CtorArgs) : Option Store :=
  match ctorBatch a.edges with
  | none => none
  | some none => some (ctorNodes (init a.weighted a.hm) a.nodeMeta)
  | some (some (raws, ls)) =>
    match addEdges (ctorNodes (init a.weighted a.hm) a.nodeMeta) raws ls a.weights a.edgeMeta with
    | (s, .ok) => some s
    | (_, .rej) => none

def Spec.ctorNodes (sp : Spec) (nm : List (Node × Meta)) : Spec := nm.foldl (fun sp p => Spec.addNode sp p.1 (some p.2)) sp

/-- the constructor on the abstract map -/
def Spec.construct (a : CtorArgs) : Option Spec :=
  match ctorBatch a.edges with
  | none => none
  | some none => some (Spec.ctorNodes (Spec.init a.weighted a.hm) a.nodeMeta)
  | some (some (raws, ls)) =>
    match Spec.addEdges (Spec.ctorNodes (Spec.init a.weighted a.hm) a.nodeMeta) raws ls a.weights a.edgeMeta with
    | (sp, .ok) => some sp
    | (_, .rej) => none

def nodeOps (nm : List (Node × Meta)) : List Op := nm.map (fun p => Op.addNode p.1 (some p.2))

/-- the public calls the constructor stands for (when its arguments have one of the two accepted forms) -/
def ctorOps (a : CtorArgs) : Option (List Op) :=
  match ctorBatch a.edges with
  | none => none
  | some none => some (nodeOps a.nodeMeta)
  | some (some (raws, ls)) => some (nodeOps a.nodeMeta ++ [Op.addEdges raws ls a.weights a.edgeMeta])

/-! ## Python's order on tuples of labels and on `(tuple, layer)` keys (labels and layer names are ranks) -/

def ltList : List Nat → List Nat → Bool
  | [], [] => false
  | [], _ :: _ => true
  | _ :: _, [] => false
  | a :: as, b :: bs => decide (a < b) || (decide (a = b) && ltList as bs)

def ltKey (k k' : Key) : Bool := ltList k.1 k'.1 || (decide (k.1 = k'.1) && decide (k.2 < k'.2))

def ltNat (a b : Nat) : Bool := decide (a < b)

/-- `sorted(...)` of items with pairwise different keys: insertion sort by `key` under `lt` -/
def insBy {α κ : Type} (key : α → κ) (lt : κ → κ → Bool) (x : α) : List α → List α
  | [] => [x]
  | y :: ys => if lt (key x) (key y) then x :: y :: ys else y :: insBy key lt x ys

def sortBy {α κ : Type} (key : α → κ) (lt : κ → κ → Bool) (l : List α) : List α := l.foldr (insBy key lt) []

/-! ## `expose_attributes_for_hashing` -/

structure HashView where
  weighted : Bool
  hmeta : HMeta
  edges : List (Key × (Int × Meta))
  nodes : List (Node × Meta)
  deriving Repr, DecidableEq

/-- the loop over the sorted keys: `edge = (tuple(sorted(edge[0])), edge[1]); edge_id = self._edge_list[edge]` (a
`KeyError` for a key that is not canonical: `none`), `_weights.get(edge_id, 1)`, `_edge_metadata.get(edge_id, {})` -/
def hashEdges (s : Store) : List Key → Option (List (Key × (Int × Meta)))
  | [] => some []
  | k :: ks =>
    match AL.get? s.edgeList (canon k.1, k.2) with
    | none => none
    | some id =>
      (hashEdges s ks).map (fun r => ((canon k.1, k.2), ((AL.get? s.weights id).getD one, (AL.get? s.emeta id).getD [])) :: r)

/-- `for node in sorted(self._node_metadata.keys()): nodes.append({"node": node, "metadata": self._node_metadata[node]})` -/
def hashNodes (s : Store) : List Node → Option (List (Node × Meta))
  | [] => some []
  | n :: ns =>
    match AL.get? s.nmeta n with
    | none => none
    | some md => (hashNodes s ns).map (fun r => (n, md) :: r)

/-- `expose_attributes_for_hashing()`; `none` = raises -/
def hashView (s : Store) : Option HashView :=
  match hashEdges s (sortBy id ltKey (records s)), hashNodes s (sortBy id ltNat (nodes s)) with
  | some es, some ns => some { weighted := s.weighted, hmeta := s.hmeta, edges := es, nodes := ns }
  | _, _ => none

/-- the map's entries in key order, the nodes in label order -/
def Spec.hashView (sp : Spec) : HashView :=
  { weighted := sp.weighted, hmeta := sp.hmeta
    edges := sortBy (fun (r : Key × (Int × Meta)) => r.1) ltKey sp.edges
    nodes := sortBy (fun (p : Node × Meta) => p.1) ltNat sp.nodes }

/-! ## the raw table getters `get_edge_list()` / `get_adj_dict()` (ids are visible here) -/

/-- `get_edge_list()`: the key -> id table -/
def edgeTable (s : Store) : List (Key × Nat) := s.edgeList
/-- `get_adj_dict()`: node -> ids of its records -/
def adjTable (s : Store) : List (Node × List Nat) := s.adj

end C04
