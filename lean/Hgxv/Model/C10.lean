import Hgxv.Model.AList
/-! Model of `hypergraphx/representations/projections.py`, `representations/simplicial_complex.py` and
`measures/edge_similarity.py` (core Lean only).

Input, as the public API returns it: the node list (`h.get_nodes()`, duplicate-free) and the list of distinct
canonical hyperedges (`h.get_edges()`: sorted duplicate-free tuples; directed: `(source, target)` pairs).
`get_incident_edges(n)` is the list of hyperedges containing `n` (C01/C02 prove that about the container; the
theorems about the line graph hold for any order of the incident lists).

networkx graphs are modelled by their two tables: `_node : vertex -> attributes` and the adjacency
`_adj[u][v] -> attributes` (for `nx.Graph` symmetric: `add_edge(u, v)` writes `(u, v)` and `(v, u)`).
In every routine below an attribute is either always or never passed to `add_node`/`add_edge`, so networkx's
"update the attribute dict" is "replace". -/
namespace C10

abbrev Edge := List Nat
abbrev DEdge := List Nat × List Nat

/-! ### networkx `Graph` / `DiGraph` -/

structure Graph (ν : Type) where
  /-- `g._node`: vertex ↦ value of its only attribute (`bipartite`), `none` = no attribute -/
  nodes : List (ν × Option Nat) := []
  /-- `g._adj`: `(u, v)` ↦ value of the only edge attribute (`weight`), `none` = no attribute -/
  adj : List ((ν × ν) × Option Rat) := []

section
variable {ν : Type} [DecidableEq ν]

/-- what `add_edge` does to an end point: create it without attributes when it is new -/
def Graph.touch (g : Graph ν) (v : ν) : Graph ν :=
  if AL.has g.nodes v then g else { g with nodes := g.nodes ++ [(v, none)] }

/-- `g.add_node(v)` / `g.add_node(v, bipartite=a)` -/
def Graph.addNode (g : Graph ν) (v : ν) (a : Option Nat) : Graph ν :=
  match a with
  | none => g.touch v
  | some x => { g with nodes := AL.set g.nodes v (some x) }

/-- `nx.Graph.add_edge(u, v[, weight=w])` -/
def Graph.addEdge (g : Graph ν) (u v : ν) (w : Option Rat) : Graph ν :=
  let g := (g.touch u).touch v
  { g with adj := AL.set (AL.set g.adj (u, v) w) (v, u) w }

/-- `nx.DiGraph.add_edge(u, v[, weight=w])` -/
def Graph.addArc (g : Graph ν) (u v : ν) (w : Option Rat) : Graph ν :=
  let g := (g.touch u).touch v
  { g with adj := AL.set g.adj (u, v) w }

/-- `g.add_nodes_from(vs)` -/
def Graph.addNodesFrom (g : Graph ν) (vs : List ν) : Graph ν := vs.foldl (fun g v => g.touch v) g
end

/-- the pairs `(l[i], l[j])`, `i < j`, in the order of
`for i in range(len(l) - 1): for j in range(i + 1, len(l))` -/
def pairsOf {α : Type} : List α → List (α × α)
  | [] => []
  | a :: t => t.map (fun b => (a, b)) ++ pairsOf t

/-! ### edge_similarity.py (arguments are duplicate-free lists standing for Python sets) -/

/-- `intersection(a, b) = len(a.intersection(b))` -/
def interSize (a b : List Nat) : Nat := (a.filter (fun x => b.contains x)).length
/-- `len(a.union(b))` -/
def unionSize (a b : List Nat) : Nat := a.length + (b.filter (fun x => !a.contains x)).length

/-- `jaccard_similarity(a, b)`; `none` = `ZeroDivisionError` (both sets empty) -/
def jaccard? (a b : List Nat) : Option Rat :=
  if unionSize a b = 0 then none else some ((interSize a b : Rat) / (unionSize a b : Rat))

/-- `jaccard_distance(a, b) = 1 - jaccard_similarity(a, b)` -/
def jaccardDistance? (a b : List Nat) : Option Rat := (jaccard? a b).map (fun x => 1 - x)

inductive Dist | intersection | jaccard
  deriving DecidableEq, Repr

/-- the local `_distance(a, b)` of `line_graph` / `directed_line_graph` -/
def dist? : Dist → List Nat → List Nat → Option Rat
  | .intersection, a, b => some (interSize a b : Rat)
  | .jaccard, a, b => jaccard? a b

/-! ### bipartite_projection -/

inductive BV | N (i : Nat) | E (j : Nat)
  deriving DecidableEq, Repr
/-- keys of `obj_to_id` / values of `id_to_obj`: node labels and hyperedge tuples -/
inductive Obj | node (n : Nat) | edge (e : Edge)
  deriving DecidableEq, Repr

structure Bip where
  g : Graph BV := {}
  idToObj : List (BV × Obj) := []
  objToId : List (Obj × BV) := []

/-- body of `for node in h.get_nodes()` (`p = (node, idx)`) -/
def bipNode (st : Bip) (p : Nat × Nat) : Bip :=
  { g := st.g.addNode (.N p.2) (some 0),
    idToObj := AL.set st.idToObj (.N p.2) (.node p.1),
    objToId := AL.set st.objToId (.node p.1) (.N p.2) }

/-- `g.add_edge(edge_id, obj_to_id[node])`; a node that is not in the table is a `KeyError` in Python
(cannot happen: members of hyperedges are nodes - hypothesis of the theorems), skipped here -/
def bipLink (ev : BV) (st : Bip) (n : Nat) : Bip :=
  match AL.get? st.objToId (.node n) with
  | some v => { st with g := st.g.addEdge ev v none }
  | none => st

/-- body of `for edge in h.get_edges()` (`p = (edge, idx)`; `tuple(sorted(edge))` is the identity on canonical
hyperedges).  Repaired code (fix 28cc012, D54): the vertex name of the hyperedge is the local `edge_id`; `obj_to_id` holds
node labels only, so it does not matter whether a node label is, as a Python object, equal to a hyperedge tuple. -/
def bipEdge (st : Bip) (p : Edge × Nat) : Bip :=
  let st1 : Bip :=
    { g := st.g.addNode (.E p.2) (some 1),
      idToObj := AL.set st.idToObj (.E p.2) (.edge p.1),
      objToId := st.objToId }
  p.1.foldl (bipLink (.E p.2)) st1

def bipartite (nodes : List Nat) (es : List Edge) : Bip :=
  es.zipIdx.foldl bipEdge (nodes.zipIdx.foldl bipNode {})

/-! #### the routine before the repair: ONE table `obj_to_id` for node labels and hyperedge tuples

Node labels are arbitrary hashable Python objects, in particular tuples: the node `(1, 2)` and the hyperedge
`(1, 2)` are the same dictionary key.  Labels are ranks (`Nat`) in this model, so the coincidence is a parameter:
`tl e = some n` says that the node label `n` is, as a Python object, equal to the tuple of hyperedge `e`
(`none`: no node label equals it - always the case for int / str labels). -/

/-- the key under which `obj_to_id[edge] = ...` is stored -/
def edgeKey (tl : Edge → Option Nat) (e : Edge) : Obj :=
  match tl e with
  | some n => .node n
  | none => .edge e

/-- body of `for edge in h.get_edges()` before the repair: `obj_to_id[edge] = "E" + str(idx)` goes into the table the
inner loop reads the node vertices from -/
def bipEdgeShared (tl : Edge → Option Nat) (st : Bip) (p : Edge × Nat) : Bip :=
  let st1 : Bip :=
    { g := st.g.addNode (.E p.2) (some 1),
      idToObj := AL.set st.idToObj (.E p.2) (.edge p.1),
      objToId := AL.set st.objToId (edgeKey tl p.1) (.E p.2) }
  p.1.foldl (bipLink (.E p.2)) st1

def bipartiteShared (tl : Edge → Option Nat) (nodes : List Nat) (es : List Edge) : Bip :=
  es.zipIdx.foldl (bipEdgeShared tl) (nodes.zipIdx.foldl bipNode {})

/-! ### clique_projection -/

def cliqueEdge (g : Graph Nat) (e : Edge) : Graph Nat :=
  (pairsOf e).foldl (fun g p => g.addEdge p.1 p.2 none) g

def clique (keepIso : Bool) (nodes : List Nat) (es : List Edge) : Graph Nat :=
  let g0 : Graph Nat := if keepIso then nodes.foldl (fun g n => g.addNode n none) {} else {}
  es.foldl cliqueEdge g0

/-! ### line_graph -/

/-- `edge_to_id[e]`: position of `e` in `get_edges()` (a `KeyError` when absent; cannot happen for members of
incident lists) -/
def idOf {α : Type} [BEq α] (es : List α) (e : α) : Nat := es.idxOf e

/-- `id_to_edge` -/
def idTable {α : Type} (es : List α) : List (Nat × α) := es.zipIdx.map (fun p => (p.2, p.1))

/-- `h.get_incident_edges(n)` -/
def incident (es : List Edge) (n : Nat) : List Edge := es.filter (fun e => e.contains n)

/-- `tuple(sorted((i, j)))` -/
def pairKey (i j : Nat) : Nat × Nat := if i ≤ j then (i, j) else (j, i)

structure LG where
  /-- the `vis` dict; as every key is inserted once this list is also the log of the `_distance` calls -/
  vis : List (Nat × Nat) := []
  g : Graph Nat := {}

/-- the graph with vertices `0..m-1`: `g.add_nodes_from([i for i in range(len(h))])` -/
def emptyOn (m : Nat) : Graph Nat := ({} : Graph Nat).addNodesFrom (List.range m)

/-- `g.add_edge(i, j, weight=w)` resp. `weight=1` -/
def lgAdd (g : Graph Nat) (i j : Nat) (weighted : Bool) (w : Rat) : Graph Nat :=
  g.addEdge i j (some (if weighted then w else 1))

/-- innermost loop body of `line_graph` for the pair `(adj[n][i], adj[n][j])`; `none` = exception -/
def lgVisit (es : List Edge) (d : Dist) (s : Rat) (weighted : Bool) (st : LG) (p : Edge × Edge) : Option LG :=
  let i := idOf es p.1
  let j := idOf es p.2
  let k := pairKey i j
  if st.vis.contains k then some st
  else match dist? d p.1 p.2 with
    | none => none
    | some w => some { vis := k :: st.vis, g := if s ≤ w then lgAdd st.g i j weighted w else st.g }

/-- `line_graph` with the incident lists given (one list per node, in node order) -/
def lineGraphFrom (es : List Edge) (d : Dist) (s : Rat) (weighted : Bool) (adj : List (List Edge)) : Option LG :=
  (adj.flatMap pairsOf).foldlM (lgVisit es d s weighted) { vis := [], g := emptyOn es.length }

def lineGraph (nodes : List Nat) (es : List Edge) (d : Dist) (s : Rat) (weighted : Bool) : Option LG :=
  lineGraphFrom es d s weighted (nodes.map (incident es))

/-! #### the table of incident lists as an observed input

`line_graph` does not compute the incident lists from `get_edges()`: it asks the object (`h.get_incident_edges(n)`),
i.e. it reads the container's per-node id lists.  For an object reached through a history (removals, a copy whose
original was changed afterwards, ...) these lists are a second, independent piece of state.  The checks below are the
executable form of the three facts about that table which the line-graph theorems assume; the driver evaluates them on
the table the real object returns, and runs `lineGraphFrom` on that very table. -/

/-- two hyperedges have a common node -/
def sharesNode (a b : Edge) : Bool := a.any (fun n => b.contains n)

/-- every list is duplicate-free and lists hyperedges of `get_edges()` only -/
def incListsOK (es : List Edge) (adj : List (List Edge)) : Bool :=
  adj.all (fun l => decide l.Nodup && l.all (fun e => es.contains e))

/-- the members of one list pairwise have a common node -/
def incSharesOK (adj : List (List Edge)) : Bool :=
  adj.all (fun l => l.all (fun a => l.all (fun b => sharesNode a b)))

/-- every two hyperedges with a common node are together in some list -/
def incCoversOK (es : List Edge) (adj : List (List Edge)) : Bool :=
  es.all (fun a => es.all (fun b => !sharesNode a b || adj.any (fun l => l.contains a && l.contains b)))

def incidentOK (es : List Edge) (adj : List (List Edge)) : Bool :=
  incListsOK es adj && incSharesOK adj && incCoversOK es adj

/-! ### directed_line_graph -/

/-- loop body for `(edge1, edge2)`; `none` = exception -/
def dlgVisit (es : List DEdge) (d : Dist) (s : Rat) (weighted : Bool) (g : Graph Nat) (p : DEdge × DEdge) :
    Option (Graph Nat) :=
  if p.1 = p.2 then some g
  else match dist? d p.1.2 p.2.1 with
    | none => none
    | some w =>
      some (if s ≤ w then g.addArc (idOf es p.1) (idOf es p.2) (if weighted then some w else none) else g)

/-- `for edge1 in edges: for edge2 in edges` -/
def allOrdered {α : Type} (es : List α) : List (α × α) := es.flatMap (fun a => es.map (fun b => (a, b)))

def directedLineGraph (es : List DEdge) (d : Dist) (s : Rat) (weighted : Bool) : Option (Graph Nat) :=
  (allOrdered es).foldlM (dlgVisit es d s weighted) (emptyOn es.length)

/-! ### simplicial_complex -/

/-- `itertools.combinations(l, r)` -/
def combos {α : Type} : List α → Nat → List (List α)
  | _, 0 => [[]]
  | [], _ + 1 => []
  | a :: t, r + 1 => (combos t r).map (fun c => a :: c) ++ combos t (r + 1)

/-- `get_all_subsets(s)`: `chain(*map(lambda x: combinations(s, x), range(0, len(s) + 1)))` -/
def allSubsets {α : Type} (e : List α) : List (List α) := (List.range (e.length + 1)).flatMap (combos e)

/-- `sorted` on node labels -/
def insertSorted (a : Nat) : List Nat → List Nat
  | [] => [a]
  | b :: bs => if a ≤ b then a :: b :: bs else b :: insertSorted a bs
def sortNodes (l : List Nat) : List Nat := l.foldr insertSorted []

/-- `s_edges.add(x)` on a Python set (kept in first-insertion order here; listings are compared sorted) -/
def setAdd (s : List Edge) (x : Edge) : List Edge := if s.contains x then s else s ++ [x]

/-- body of `for edge in h.get_edges()` -/
def simplicialEdge (s : List Edge) (e : Edge) : List Edge :=
  (allSubsets e).foldl (fun s sub => setAdd s (sortNodes sub)) s

/-- hyperedges of `simplicial_complex(h)` (it contains the empty tuple as soon as `h` has a hyperedge) -/
def simplicial (es : List Edge) : List Edge := es.foldl simplicialEdge []

end C10
