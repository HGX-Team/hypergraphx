/-! Model of `hypergraphx/communities/hypergraph_mt/model.py` (class `HypergraphMT`) and of the assembly
step of `hypergraphx/communities/hy_sc/model.py` (`HySC.apply_kmeans`).  Core Lean only.

The numerical definitions are *generic in the number type* `α` (only `+ * - /`, `0`, `1`, `<`): the
same text is executed by the driver over `Rat` (exact) and over `Float` (binary64, to follow whole
trajectories of the implementation), and the theorems in `Props/C17.lean` are about the very same
definitions instantiated at an ordered field / at `ℝ`.

Arrays are written in "index style", the way the numpy code reads: a matrix is a list of rows, read with
`at2 m i k` and built with `tab2 n m f` (= `[[f i k for k in range(m)] for i in range(n)]`).

What is a parameter (not modelled, see notes/C17.md): the random draws (dummy row `uk`, the node permutations; the
initial `u0`, `w0` are arguments here and are computed from the raw draws in `Model/C17Ext.lean`), the Lagrange multipliers returned by `scipy.optimize.root`
(`normalizeU=True`), k-means labels and the eigen-decomposition of `HySC`, `log` (the log-likelihood is
returned as the list of per-hyperedge Poisson means plus the penalty; the harness/theorems apply `log`).
The negative-value repairs of `psiOmega/psiBarOmega` (`abs(x) < 1e-3 -> 0`) are modelled (`barRepair`,
`psiRepairLast`, `psiRepairAbs`) because in binary64 they fire all the time on rounding noise (a sum that is
exactly 0 comes out as `-1e-18`); in exact arithmetic they never fire (`C17_psi`). -/
namespace C17

abbrev Mat (α : Type) := List (List α)

section
variable {α : Type} [Add α] [Mul α] [Sub α] [Div α] [Zero α] [One α] [LT α] [DecidableLT α]

def at1 (l : List α) (k : Nat) : α := l.getD k 0
def at2 (m : Mat α) (i k : Nat) : α := (m.getD i []).getD k 0
def tab (n : Nat) (f : Nat → α) : List α := (List.range n).map f
def tab2 (n m : Nat) (f : Nat → Nat → α) : Mat α := (List.range n).map (fun i => (List.range m).map (f i))
/-- `sum(f(i) for i in range(n))` -/
def sumR (n : Nat) (f : Nat → α) : α := ((List.range n).map f).sum
def prodL (l : List α) : α := l.foldr (· * ·) 1
def npow (x : α) : Nat → α
  | 0 => 1
  | n + 1 => x * npow x n
def ofN : Nat → α
  | 0 => 0
  | n + 1 => ofN n + 1
def absv (x : α) : α := if x < 0 then 0 - x else x

/-- elementary symmetric polynomial `e_d(xs)` by the recurrence `e_d(x::xs) = e_d(xs) + x·e_{d-1}(xs)` -/
def esymm : Nat → List α → α
  | 0, _ => 1
  | _ + 1, [] => 0
  | d + 1, x :: xs => esymm (d + 1) xs + x * esymm d xs

/-- column `k` of the `N × K` matrix `u` -/
def col (N : Nat) (u : Mat α) (k : Nat) : List α := tab N (fun i => at2 u i k)

/-- Pascal's triangle (`scipy.special.comb(n, d)`) -/
def binom : Nat → Nat → Nat
  | _, 0 => 1
  | 0, _ + 1 => 0
  | n + 1, d + 1 => binom n (d + 1) + binom n d

/-- static data of one `fit` call -/
structure Cfg (α : Type) where
  N : Nat
  K : Nat
  D : Nat
  /-- hyperedges as lists of node indices (rows of the incidence matrix) -/
  edges : List (List Nat)
  /-- hyperedge weights `hye_weights` -/
  A : List α
  /-- `min_value_par` -/
  minv : α
  /-- `max_value_par` and the value written when it is exceeded (`1e2` in the code); `none`: no upper clamp -/
  maxv : Option (α × α)
  /-- `DEFAULT_EPS` inside the logarithm of `_update_rho/_LogLikelihood` -/
  eps : α
  /-- bound `1e-3` below which a negative entry of `psiOmega/psiBarOmega` is "repaired" -/
  rtol : α
  normU : Bool

/-- dynamic state: `u`, `w`, `psiOmega`, `psiBarOmega` (both `D × K`, row `d` = degree `d+1`), `rho`;
`lams` = Lagrange multipliers still to be consumed (only `normalizeU=True`) -/
structure St (α : Type) where
  u : Mat α
  w : Mat α
  psi : Mat α
  bar : Mat α
  rho : Mat α
  lams : List α

variable (c : Cfg α)

def Cfg.E : Nat := c.edges.length
def Cfg.edge (e : Nat) : List Nat := c.edges.getD e []
def Cfg.wt (e : Nat) : α := at1 c.A e
/-- `i in isolates`: no stored entry in row `i` of the incidence matrix -/
def Cfg.isIso (i : Nat) : Bool := !c.edges.any (fun e => e.contains i)

/-! ### `_update_rho` -/

/-- `exp(sum_{i in e} log(u[i,k] + EPS))` -/
def edgeProd (u : Mat α) (e : List Nat) (k : Nat) : α := prodL (e.map (fun i => at2 u i k + c.eps))
/-- `w[|e|-2, k] * prod_{i in e} (u[i,k] + EPS)`: unnormalised responsibility of community `k` for hyperedge `e` -/
def cEK (u w : Mat α) (e k : Nat) : α := at2 w ((c.edge e).length - 2) k * edgeProd c u (c.edge e) k
/-- Poisson mean of hyperedge `e` -/
def lamE (u w : Mat α) (e : Nat) : α := sumR c.K (cEK c u w e)
def rhoUpdate (u w : Mat α) : Mat α :=
  tab2 c.E c.K (fun e k => if 0 < lamE c u w e then cEK c u w e k / lamE c u w e else cEK c u w e k)

/-! ### `_update_w` -/

def wNum (rho : Mat α) (d k : Nat) : α :=
  sumR c.E (fun e => if (c.edge e).length = d + 2 then c.wt e * at2 rho e k else 0)
def wUpdate (rho psi : Mat α) : Mat α :=
  tab2 (c.D - 1) c.K (fun d k => if 0 < at2 psi (d + 1) k then wNum c rho d k / at2 psi (d + 1) k else wNum c rho d k)

/-! ### `_update_psiBarOmega`, `_update_psiOmega` (without the repairs) -/

/-- `psiBarOmega[d][k]` after the update for a node whose entry in column `k` is `x` -/
def barAt (psi : Mat α) (x : α) (k : Nat) : Nat → α
  | 0 => at2 psi 0 k - x
  | d + 1 => at2 psi (d + 1) k - x * barAt psi x k d
/-- columns with `act k` are recomputed, the others keep their (stale) content -/
def barUpd (act : Nat → Bool) (x : Nat → α) (psi bar : Mat α) : Mat α :=
  tab2 c.D c.K (fun d k => if act k then barAt psi (x k) k d else at2 bar d k)
/-- `psi[0][k] += delta`, `psi[d][k] += delta * bar[d-1][k]` on the active columns -/
def psiUpd (act : Nat → Bool) (delta : Nat → α) (psi bar : Mat α) : Mat α :=
  tab2 c.D c.K (fun d k => if act k then at2 psi d k + delta k * (match d with | 0 => 1 | d' + 1 => at2 bar d' k)
                            else at2 psi d k)
def setRow (u : Mat α) (i : Nat) (v : Nat → α) : Mat α :=
  tab2 c.N c.K (fun j k => if j = i then v k else at2 u j k)

/-! ### `_update_u`, one node -/

def clampLow (x : α) : α := if x < c.minv then 0 else x
def clampHigh (x : α) : α := match c.maxv with
  | some (t, v) => if t < x then v else x
  | none => x
/-- numerator `sum_{e ∋ i} A_e rho[e,k]` -/
def uNum (rho : Mat α) (i k : Nat) : α :=
  sumR c.E (fun e => if (c.edge e).contains i then c.wt e * at2 rho e k else 0)
/-- denominator `sum_d w[d,k] psiBar[d,k]`, `d = 0..D-2` -/
def uDen (w bar : Mat α) (k : Nat) : α := sumR (c.D - 1) (fun d => at2 w d k * at2 bar d k)
/-- value before `check_u` and the clamps; `lam` is the Lagrange multiplier (used iff `normalizeU`); without
normalisation a vanishing denominator gives 0 (the `where=non_zeros` guard, as in `_update_w`) -/
def uRaw (lam : α) (rho w bar : Mat α) (i k : Nat) : α :=
  if c.normU then
    (if uNum c rho i k / uDen c w bar k < c.minv then 0 else uNum c rho i k) / (lam + uDen c w bar k)
  else if 0 < uDen c w bar k then uNum c rho i k / uDen c w bar k else 0

def anyK (p : Nat → Bool) : Bool := (List.range c.K).any p

/-! ### the negative-value repairs -/

def isNeg (x : α) : Bool := decide (x < 0)
/-- a negative entry that is not small: `not (abs(x) < 1e-3)` -/
def isNegBig (x : α) : Bool := isNeg x && !decide (absv x < c.rtol)
def hasNeg (m : Mat α) : Bool := m.any (fun r => r.any isNeg)
def zeroNeg (x : α) : α := if x < 0 then 0 else x
/-- end of `_update_psiBarOmega`: if every negative entry of the whole matrix is small, they are all set to 0 -/
def barRepair (m : Mat α) : Mat α :=
  if m.any (fun r => r.any (isNegBig c)) then m else m.map (fun r => r.map zeroNeg)
/-- `success` of `_update_psiBarOmega`: no negative entry is left -/
def barOk (m : Mat α) : Bool := !hasNeg m
/-- end of `_update_psiOmega`: the same repair on the last row (`d = D-1`, the loop variable after the loop) only -/
def psiRepairLast (m : Mat α) : Mat α :=
  if anyK c (fun k => isNegBig c (at2 m (c.D - 1) k)) then m
  else tab2 c.D c.K (fun d k => if d = c.D - 1 then zeroNeg (at2 m d k) else at2 m d k)
/-- the `if r == 0` check of `_update_psiOmega`: small negative entries are replaced by their absolute value -/
def psiRepairAbs (m : Mat α) : Mat α :=
  m.map (fun r => r.map (fun x => if isNeg x && decide (absv x < c.rtol) then absv x else x))

/-- `ks = np.where(u[i] > min_value_par)` as a mask -/
def actK (s : St α) (i k : Nat) : Bool := decide (c.minv < at2 s.u i k)
/-- `psiBarOmega` after `_update_psiBarOmega(i, ks)` -/
def barNew (s : St α) (i : Nat) : Mat α :=
  barRepair c (barUpd c (actK c s i) (fun k => at2 s.u i k) s.psi s.bar)
def rawNew (s : St α) (i k : Nat) : α := uRaw c (s.lams.headD 0) s.rho s.w (barNew c s i) i k
/-- `check_u`: some freshly computed entry is negative (then all of them are replaced by their absolute value) -/
def negNew (s : St α) (i : Nat) : Bool := anyK c (fun k => actK c s i k && decide (rawNew c s i k < 0))
/-- the new row `u[i]` after `check_u` and both clamps -/
def vNew (s : St α) (i k : Nat) : α :=
  clampHigh c (clampLow c
    (if actK c s i k then (if negNew c s i then absv (rawNew c s i k) else rawNew c s i k) else at2 s.u i k))

/-- one pass of the body of the `for i in perm` loop of `_update_u` -/
def uNode (s : St α) (i : Nat) : St α :=
  if !anyK c (actK c s i) then s
  else if !barOk (barNew c s i) then { s with bar := barNew c s i }
  else { s with u := setRow c s.u i (vNew c s i),
                bar := barNew c s i,
                psi := psiRepairLast c (psiUpd c (actK c s i) (fun k => vNew c s i k - at2 s.u i k) s.psi (barNew c s i)),
                lams := if c.normU then s.lams.tail else s.lams }

def uSweep (s : St α) (perm : List Nat) : St α := perm.foldl (uNode c) s

/-- `_update_em` (w, rho, u in the order `perm`, rho) -/
def emSweep (s : St α) (perm : List Nat) : St α :=
  let w' := wUpdate c s.rho s.psi
  let s1 := { s with w := w', rho := rhoUpdate c s.u w' }
  let s2 := uSweep c s1 perm
  { s2 with rho := rhoUpdate c s2.u s2.w }

/-! ### `_initialize_psiOmega`, `_initial_update_u_psi` -/

/-- `u0_dummy` row: the draw `uk` divided by its sum -/
def dummyRow (uk : List α) : List α :=
  let s := uk.sum
  if 0 < s then uk.map (· / s) else uk
/-- closed form for `N` equal rows `x`: `psi[0,k] = N x_k`, `psi[d,k] = x_k^(d+1) C(N_k, d+1)` -/
def psiInit (x : List α) : Mat α :=
  tab2 c.D c.K (fun d k =>
    let nk := if (decide (0 < at1 x k) || decide (at1 x k < 0)) then c.N else 0
    match d with
    | 0 => ofN c.N * at1 x k
    | d' + 1 => npow (at1 x k) (d' + 2) * ofN (binom nk (d' + 2)))
/-- row `i` of the first real `u`: `u0[i] / sum(u0[i])`, low values set to 0; zero for an isolated node -/
def initRow (u0 : Mat α) (i k : Nat) : α :=
  if c.isIso i then 0 else clampLow c (at2 u0 i k / sumR c.K (fun k' => at2 u0 i k'))
/-- body of the loop of `_initial_update_u_psi` (all columns are recomputed) -/
def initNode (r0 : Bool) (u0 : Mat α) (s : St α) (i : Nat) : St α :=
  let bar' := barRepair c (barUpd c (fun _ => true) (fun k => at2 s.u i k) s.psi s.bar)
  let psi' := psiRepairLast c (psiUpd c (fun _ => true) (fun k => initRow c u0 i k - at2 s.u i k) s.psi bar')
  { s with u := setRow c s.u i (initRow c u0 i),
           bar := bar',
           psi := if r0 then psiRepairAbs c psi' else psi' }
/-- state after `_initialize_psiOmega`, `_initialize_u_w`, `_initial_update_u_psi`, `_update_rho` -/
def initState (r0 : Bool) (uk : List α) (u0 w0 : Mat α) (lams : List α) : St α :=
  let x := dummyRow uk
  let s0 : St α := { u := tab2 c.N c.K (fun _ k => at1 x k), w := w0, psi := psiInit c x,
                     bar := tab2 c.D c.K (fun _ _ => 0), rho := [], lams := lams }
  let s1 := (List.range c.N).foldl (initNode c r0 u0) s0
  { s1 with rho := rhoUpdate c s1.u s1.w }

/-! ### `_LogLikelihood` without the logarithm -/

/-- `sum(w[0:D-1] * psiOmega[1:D])`: the penalty read from the maintained table -/
def penIncr (w psi : Mat α) : α := sumR (c.D - 1) (fun d => sumR c.K (fun k => at2 w d k * at2 psi (d + 1) k))
/-- the same from the definition: `sum_{d,k} w[d,k] e_{d+2}(u[:,k])` -/
def penDef (u w : Mat α) : α :=
  sumR (c.D - 1) (fun d => sumR c.K (fun k => at2 w d k * esymm (d + 2) (col c.N u k)))
/-- Poisson means of all hyperedges (`np.sum(tmp, axis=1)`) -/
def lamAll (u w : Mat α) : List α := tab c.E (lamE c u w)

end

/-! ## bookkeeping of `fit` (generic in the type of the parameters) -/
section
variable {α : Type} [Sub α] [Zero α] [LT α] [DecidableLT α]

def absd (x : α) : α := if x < 0 then 0 - x else x

structure Conv (α : Type) where
  loglik : α
  nTol : Nat
  conv : Bool
  it : Nat
  /-- `train_info` rows of this realisation, newest first: `(it, loglik, converged)` -/
  rows : List (Nat × α × Bool)

/-- `_check_for_convergence` followed by the `train_info.append` and `it += 1` of `fit`;
`L` is the value `_LogLikelihood()` would return now -/
def convStep (tol : α) (thr every : Nat) (s : Conv α) (L : α) : Conv α :=
  let chk := s.it % every = 0
  let loglik := if chk then L else s.loglik
  let nTol := if chk then (if absd (L - s.loglik) < tol then s.nTol + 1 else 0) else s.nTol
  let conv := if thr < nTol then true else s.conv
  { loglik := loglik, nTol := nTol, conv := conv, it := s.it + 1,
    rows := if chk then (s.it, loglik, conv) :: s.rows else s.rows }

/-- the `while not converged and it < max_iter` loop; `Ls` lists the values the successive sweeps give
(the loop reads as many as it needs) -/
def runReal (tol : α) (thr every maxIter : Nat) (inf : α) (Ls : List α) : Conv α :=
  go maxIter Ls { loglik := inf, nTol := 0, conv := false, it := 0, rows := [] }
where go : Nat → List α → Conv α → Conv α
  | 0, _, s => s
  | _ + 1, [], s => s
  | n + 1, L :: Ls, s => if s.conv then s else go n Ls (convStep tol thr every s L)

/-- `(maxL, best)`: the `if self.maxL < loglik` update after each realisation -/
def bestStep {β : Type} (acc : α × Option β) (r : α × β) : α × Option β :=
  if acc.1 < r.1 then (r.1, some r.2) else acc
def bestOf {β : Type} (inf : α) (rs : List (α × β)) : α × Option β := rs.foldl bestStep (inf, none)

/-! ### several calls of `fit` on ONE `HypergraphMT` object

What the object carries from one call to the next and `fit` reads again: `self.maxL` and the stored optimum
`(u_f, w_f)` (`none`: attribute not set yet).  Everything else (`prng`, `u`, `w`, the tables, `train_info`) is rebuilt by
`_check_fit_params` / inside the loop before it is read. -/

/-- one call of `fit` on an object in state `o`, as repaired (D52): `self.maxL = -inf` first, then the
`if self.maxL < loglik` update per realisation.  The result is what the call returns `(maxL, (u_f, w_f))` and the state
the object is left in -/
def fitCall {β : Type} (inf : α) (o : α × Option β) (rs : List (α × β)) : α × Option β :=
  rs.foldl bestStep (inf, o.2)

/-- the same call before the repair: `maxL` was initialised in `__init__` only -/
def fitCallStale {β : Type} (o : α × Option β) (rs : List (α × β)) : α × Option β :=
  rs.foldl bestStep o

/-- a session: the calls of `fit` made on one object, in order (each with the finals of its realisations); the list
of what the calls return -/
def session {β : Type} (inf : α) : (α × Option β) → List (List (α × β)) → List (α × Option β)
  | _, [] => []
  | o, rs :: cs => fitCall inf o rs :: session inf (fitCall inf o rs) cs

/-- the session before the repair -/
def sessionStale {β : Type} : (α × Option β) → List (List (α × β)) → List (α × Option β)
  | _, [] => []
  | o, rs :: cs => fitCallStale o rs :: sessionStale (fitCallStale o rs) cs
end

/-! ## `HySC.apply_kmeans`: assembly of the 0/1 matrix from the k-means labels -/

/-- `X_pred = zeros((N, K)); for idx, i in enumerate(non_isolates): X_pred[i, y_pred[idx]] = 1` -/
def assemble (N K : Nat) (nonIso : List Nat) (labels : List Nat) : List (List Nat) :=
  (nonIso.zip labels).foldl
    (fun X p => (List.range N).map (fun j => (List.range K).map (fun k =>
      if j = p.1 ∧ k = p.2 then 1 else (X.getD j []).getD k 0)))
    ((List.range N).map (fun _ => (List.range K).map (fun _ => 0)))

/-- `non_isolates` -/
def nonIsolates (N : Nat) (edges : List (List Nat)) : List Nat :=
  (List.range N).filter (fun i => edges.any (fun e => e.contains i))

end C17
