import Hgxv.Model.C12
import Hgxv.Model.AList
/-! C12, extension round (core Lean only): the anchored routines AS THE PYTHON CODE RUNS THEM - the option handling
of `in_degree / out_degree(order=, size=)`, the accumulation loops of `hyperedge_signature_vector` (a 2-d array bumped
per hyperedge, then flattened; the default bound `max(get_sizes())`), the three dict-building loops of `reciprocity.py`
(`tot[size] += 1`, `node_reach[node] = node_reach[node].union(..)`, `bin_edges[(i, j)] = 1`, `rec[size] += 1`) - next to
the closed forms of `Model/C12.lean`, plus the aggregate quantities the identities between the measures speak about
(degree sums, side-size sums, row / column / anti-diagonal sums of the signature, the reversed hypergraph). -/
namespace C12

/-! ## option handling of `get_source_edges / get_target_edges(node, order=None, size=None)` -/

/-- `order` and `size` as given by the caller -> the total size selected (`some none` = no filter);
`none` = `ValueError("Order and size cannot be both specified.")` -/
def filterArg (order size : Option Nat) : Option (Option Nat) :=
  match order, size with
  | some _, some _ => none
  | none, none => some none
  | _, some k => some (some k)
  | some o, none => some (some (o + 1))

/-- `in_degree(h, node, order, size)`; `none` = the call raises (unknown node, or both options) -/
def inDegreeCall (nodes : List Nat) (es : List DEdge) (order size : Option Nat) (n : Nat) : Option Nat :=
  if nodes.contains n then (filterArg order size).map (fun f => inDegree es f n) else none
def outDegreeCall (nodes : List Nat) (es : List DEdge) (order size : Option Nat) (n : Nat) : Option Nat :=
  if nodes.contains n then (filterArg order size).map (fun f => outDegree es f n) else none

/-- `in_degree_sequence(h, order, size)`: the dict comprehension over `get_nodes()`; raises as soon as one call does -/
def inDegreeSeqCall (nodes : List Nat) (es : List DEdge) (order size : Option Nat) : Option (List (Nat × Nat)) :=
  match nodes, filterArg order size with
  | [], _ => some []
  | _, none => none
  | ns, some f => some (inDegreeSeq ns es f)
def outDegreeSeqCall (nodes : List Nat) (es : List DEdge) (order size : Option Nat) : Option (List (Nat × Nat)) :=
  match nodes, filterArg order size with
  | [], _ => some []
  | _, none => none
  | ns, some f => some (outDegreeSeq ns es f)

/-! ## aggregate quantities -/

/-- the hyperedges a filter selects -/
def selected (es : List DEdge) (size : Option Nat) : List DEdge := es.filter (passes size)

/-- `sum(in_degree_sequence(h, size=..).values())` -/
def sumInDegrees (nodes : List Nat) (es : List DEdge) (size : Option Nat) : Nat :=
  List.sum (nodes.map (inDegree es size))
def sumOutDegrees (nodes : List Nat) (es : List DEdge) (size : Option Nat) : Nat :=
  List.sum (nodes.map (outDegree es size))
/-- `sum(len(e[0]) for e in selected)` -/
def sumSourceSizes (es : List DEdge) (size : Option Nat) : Nat := List.sum ((selected es size).map (·.1.length))
def sumTargetSizes (es : List DEdge) (size : Option Nat) : Nat := List.sum ((selected es size).map (·.2.length))

/-- the reversed hypergraph: every hyperedge with source and target exchanged -/
def reverse (es : List DEdge) : List DEdge := es.map (fun e => (e.2, e.1))

/-! ## counting loops: `tab[key] += 1` over a table indexed `0 .. n-1` -/

/-- `tab[i] += 1` (an index outside the table leaves it alone; with non-empty sides the callers never produce one) -/
def bump : List Nat → Nat → List Nat
  | [], _ => []
  | x :: xs, 0 => (x + 1) :: xs
  | x :: xs, i + 1 => x :: bump xs i

/-- `tab = {i: 0 ...}; for e in es: tab[key(e)] += 1` -/
def countLoop (key : DEdge → Nat) (n : Nat) (es : List DEdge) : List Nat :=
  es.foldl (fun t e => bump t (key e)) (List.replicate n 0)

/-- the same loop with the test of the Python body: `for e in es: if c(e): tab[key(e)] += 1` -/
def countLoopIf (c : DEdge → Bool) (key : DEdge → Nat) (n : Nat) (es : List DEdge) : List Nat :=
  es.foldl (fun t e => if c e then bump t (key e) else t) (List.replicate n 0)

/-! ## `hyperedge_signature_vector` as the code runs it -/

/-- `signature[r, c] += 1` on a list of rows -/
def bump2 : List (List Nat) → Nat → Nat → List (List Nat)
  | [], _, _ => []
  | row :: rows, 0, c => bump row c :: rows
  | row :: rows, r + 1, c => row :: bump2 rows r c

/-- `np.zeros((m-1, m-1))`, then one bump per hyperedge of `get_edges(size=m, up_to=True)` -/
def signatureMatrix (es : List DEdge) (m : Nat) : List (List Nat) :=
  (es.filter (fun e => esize e ≤ m)).foldl (fun M e => bump2 M (e.1.length - 1) (e.2.length - 1))
    (List.replicate (m - 1) (List.replicate (m - 1) 0))

/-- `signature.flatten()` -/
def signatureLoop (es : List DEdge) (m : Nat) : List Nat := (signatureMatrix es m).flatten

/-- `max(hypergraph.get_sizes())`, `none` = `ValueError` (no hyperedge) -/
def maxSize : List DEdge → Option Nat
  | [] => none
  | e :: es => match maxSize es with
    | none => some (esize e)
    | some k => some (if k < esize e then esize e else k)

/-- `hyperedge_signature_vector(h)` with the default bound: `np.array([])` for a hypergraph without hyperedges -/
def signatureDefault (es : List DEdge) : List Nat :=
  match maxSize es with
  | none => []
  | some m => signatureLoop es m

/-- number of sources summed over the cells: cell `(a, b)` (1-based) contributes `a * count` -/
def sigSourceWeighted (sig : List Nat) (m : Nat) : Nat :=
  List.sum ((List.range ((m - 1) * (m - 1))).map (fun idx => (idx / (m - 1) + 1) * sig.getD idx 0))
def sigTargetWeighted (sig : List Nat) (m : Nat) : Nat :=
  List.sum ((List.range ((m - 1) * (m - 1))).map (fun idx => (idx % (m - 1) + 1) * sig.getD idx 0))

/-- the anti-diagonal `a + b = k` of the signature: cells `(a, k - a)`, `a = 1 .. k-1` (for `k ≤ m`; beyond the bound the indices run into the next rows) -/
def sigDiagonal (sig : List Nat) (m k : Nat) : Nat :=
  List.sum ((List.range (k - 1)).map (fun a => sig.getD (a * (m - 1) + (k - 2 - a)) 0))

/-! ## `reciprocity.py` as the code runs it -/

def inBound (m : Nat) (e : DEdge) : Bool := 2 ≤ esize e && esize e ≤ m

/-- `tot`: `for edge in edges: if 2 <= size <= m: tot[size] += 1` (a table indexed `0..m`; the dict has keys `2..m`) -/
def totLoop (es : List DEdge) (m : Nat) : List Nat := countLoopIf (inBound m) esize (m + 1) es

/-- `d[key] = 1` on the key list of a dict: a key that is present keeps its place, a new one goes to the end -/
def dictAdd {α : Type} [BEq α] (keys : List α) (k : α) : List α := if keys.contains k then keys else keys ++ [k]

/-- `edge_set`: the keys of the dict filled under the same test, in insertion order -/
def edgeSetLoop (es : List DEdge) (m : Nat) : List DEdge :=
  es.foldl (fun acc e => if inBound m e then dictAdd acc e else acc) []

/-- one hyperedge of the `node_reach` loop: `for node in edge[0]: node_reach[node] = (node_reach[node] ∪) set(edge[1])` -/
def reachStep (tbl : List (Nat × List Nat)) (e : DEdge) : List (Nat × List Nat) :=
  e.1.foldl (fun t n => AL.set t n (match AL.get? t n with
    | none => e.2
    | some r => r ++ e.2)) tbl

/-- the dict `node_reach` after the first loop of `strong_reciprocity` -/
def reachLoop (es : List DEdge) (m : Nat) : List (Nat × List Nat) :=
  es.foldl (fun t e => if inBound m e then reachStep t e else t) []

/-- `covered`: `for node in target: if node in node_reach: covered = covered.union(node_reach[node])` -/
def coveredStep (tbl : List (Nat × List Nat)) (c : List Nat) (t : Nat) : List Nat :=
  match AL.get? tbl t with
  | some r => c ++ r
  | none => c
def coveredLoop (tbl : List (Nat × List Nat)) (target : List Nat) : List Nat :=
  target.foldl (coveredStep tbl) []

/-- `set(source).issubset(covered)` -/
def strongTest (tbl : List (Nat × List Nat)) (e : DEdge) : Bool :=
  e.1.all (fun s => (coveredLoop tbl e.2).contains s)

/-- the dict `bin_edges` (its keys): `for i in source: for j in target: bin_edges[(i, j)] = 1` under the size test -/
def pairsOf (e : DEdge) : List (Nat × Nat) := e.1.flatMap (fun i => e.2.map (fun j => (i, j)))
def binStep (acc : List (Nat × Nat)) (e : DEdge) : List (Nat × Nat) := (pairsOf e).foldl dictAdd acc
def binLoop (es : List DEdge) (m : Nat) : List (Nat × Nat) :=
  es.foldl (fun acc e => if inBound m e then binStep acc e else acc) []

/-- the double loop with `break`: some `(j, i) in bin_edges` -/
def weakTest (bins : List (Nat × Nat)) (e : DEdge) : Bool :=
  e.1.any (fun i => e.2.any (fun j => bins.contains (j, i)))

/-- `(reciprocated_edge) in edge_set` -/
def exactTest (edgeSet : List DEdge) (e : DEdge) : Bool := edgeSet.contains (e.2, e.1)

/-- `rec`: `for edge in edge_set: if test(edge): rec[size] += 1` -/
def recLoop (test : DEdge → Bool) (edgeSet : List DEdge) (m : Nat) : List Nat :=
  countLoopIf test esize (m + 1) edgeSet

/-- the last loop: `rec[size] / tot[size]` if `tot[size] != 0` else `0`, sizes `2..m` -/
def ratioLoop (rec tot : List Nat) (m : Nat) : List (Nat × Rat) :=
  ((List.range (m + 1)).filter (2 ≤ ·)).map (fun k => (k, ratio (rec.getD k 0) (tot.getD k 0)))

/-- the state of the FIRST loop of the three routines (`exact` fills `tot` and `edge_set`, `strong` also `node_reach`,
`weak` also `bin_edges`), one pass over `get_edges()` -/
structure FirstLoop where
  tot : List Nat
  edgeSet : List DEdge
  reach : List (Nat × List Nat)
  bins : List (Nat × Nat)

def firstStep (m : Nat) (st : FirstLoop) (e : DEdge) : FirstLoop :=
  if inBound m e then
    { tot := bump st.tot (esize e), edgeSet := dictAdd st.edgeSet e, reach := reachStep st.reach e,
      bins := binStep st.bins e }
  else st

def firstLoop (es : List DEdge) (m : Nat) : FirstLoop :=
  es.foldl (firstStep m) { tot := List.replicate (m + 1) 0, edgeSet := [], reach := [], bins := [] }

/-- the routines: first loop (one pass), second loop over `edge_set`, division loop -/
def exactRun (es : List DEdge) (m : Nat) : List (Nat × Rat) :=
  let st := firstLoop es m
  ratioLoop (recLoop (exactTest st.edgeSet) st.edgeSet m) st.tot m
def strongRun (es : List DEdge) (m : Nat) : List (Nat × Rat) :=
  let st := firstLoop es m
  ratioLoop (recLoop (strongTest st.reach) st.edgeSet m) st.tot m
def weakRun (es : List DEdge) (m : Nat) : List (Nat × Rat) :=
  let st := firstLoop es m
  ratioLoop (recLoop (weakTest st.bins) st.edgeSet m) st.tot m

def exactLoop (es : List DEdge) (m : Nat) : List (Nat × Rat) :=
  let edgeSet := edgeSetLoop es m
  ratioLoop (recLoop (exactTest edgeSet) edgeSet m) (totLoop es m) m

def strongLoop (es : List DEdge) (m : Nat) : List (Nat × Rat) :=
  let edgeSet := edgeSetLoop es m
  ratioLoop (recLoop (strongTest (reachLoop es m)) edgeSet m) (totLoop es m) m

def weakLoop (es : List DEdge) (m : Nat) : List (Nat × Rat) :=
  let edgeSet := edgeSetLoop es m
  ratioLoop (recLoop (weakTest (binLoop es m)) edgeSet m) (totLoop es m) m

end C12
