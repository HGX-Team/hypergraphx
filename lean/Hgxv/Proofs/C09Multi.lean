import Hgxv.Proofs.C09Order
import Mathlib.Algebra.Field.Defs
/-! Sums of matrices (`matSum`: entry by entry, and of tables over the same labels), the invariants `Shape` / `Symm` /
`RowsZero` of a square table, `max_order()` with the routines that loop over the orders (`temporalAdjAllOrders_eq`), the
decomposition of counts by order, and `compute_multiorder_laplacian` in closed form. -/
namespace C09
variable {R : Type} [CommRing R]

theorem entry_foldl_matAdd {β : Type} (T : β → List (List R)) (g : β → R) (i j : Nat) (ps : List β)
    (h : ∀ p ∈ ps, entry (T p) i j = some (g p)) (acc : List (List R)) (a : R) (ha : entry acc i j = some a) :
    entry ((ps.map T).foldl matAdd acc) i j = some (a + (ps.map g).sum) := by
  induction ps generalizing acc a with
  | nil => simp [ha]
  | cons p ps ih =>
    simp only [List.map_cons, List.foldl_cons, List.sum_cons]
    rw [ih (fun q hq => h q (List.mem_cons_of_mem _ hq)) (matAdd acc (T p)) (a + g p)
      (by rw [entry_matAdd, ha, h p List.mem_cons_self]; rfl), add_assoc]

theorem entry_matSum {β : Type} (T : β → List (List R)) (g : β → R) (i j : Nat) (ps : List β)
    (h : ∀ p ∈ ps, entry (T p) i j = some (g p)) (S : List (List R)) (hS : matSum (ps.map T) = some S) :
    entry S i j = some ((ps.map g).sum) := by
  cases ps with
  | nil => simp [matSum] at hS
  | cons p ps =>
    simp only [List.map_cons, matSum, Option.some.injEq] at hS
    subst hS
    rw [entry_foldl_matAdd T g i j ps (fun q hq => h q (List.mem_cons_of_mem _ hq)) (T p) (g p)
      (h p List.mem_cons_self)]
    simp

theorem foldl_matAdd_map_map {β γ δ : Type} (l : List γ) (l' : List δ) (G : β → γ → δ → R) (ps : List β)
    (g : γ → δ → R) :
    (ps.map fun p => l.map fun x => l'.map (G p x)).foldl matAdd (l.map fun x => l'.map (g x))
      = l.map fun x => l'.map fun y => g x y + (ps.map fun p => G p x y).sum := by
  induction ps generalizing g with
  | nil => simp only [List.map_nil, List.foldl_nil, List.sum_nil, add_zero]
  | cons p ps ih => simp only [List.map_cons, List.foldl_cons, matAdd_map_map, ih, List.sum_cons, add_assoc]

theorem matSum_map_map {β γ δ : Type} (l : List γ) (l' : List δ) (G : β → γ → δ → R) (ps : List β) (hps : ps ≠ []) :
    matSum (ps.map fun p => l.map fun x => l'.map (G p x))
      = some (l.map fun x => l'.map fun y => (ps.map fun p => G p x y).sum) := by
  cases ps with
  | nil => exact absurd rfl hps
  | cons p ps => exact congrArg some (foldl_matAdd_map_map l l' G ps (G p))

theorem matSum_eq_none {α : Type} [Add α] (L : List (List (List α))) : matSum L = none ↔ L = [] := by
  cases L <;> simp [matSum]

/-- `n` rows of length `n` -/
def Shape (n : Nat) (M : List (List R)) : Prop := M.length = n ∧ ∀ r ∈ M, r.length = n
/-- symmetric on the index square -/
def Symm (n : Nat) (M : List (List R)) : Prop := ∀ i j, i < n → j < n → entry M i j = entry M j i
/-- every row sums to zero -/
def RowsZero (M : List (List R)) : Prop := ∀ r ∈ M, r.sum = 0

/-- the three invariants together -/
def LapLike (n : Nat) (M : List (List R)) : Prop := Shape n M ∧ Symm n M ∧ RowsZero M

theorem lapLike_map_map (l : List Nat) (f : Nat → Nat → R) (hs : ∀ a b, f a b = f b a)
    (hz : ∀ a ∈ l, (l.map fun b => f a b).sum = 0) : LapLike l.length (l.map fun a => l.map fun b => f a b) := by
  refine ⟨⟨List.length_map _, ?_⟩, ?_, ?_⟩
  · intro r hr
    obtain ⟨a, _, rfl⟩ := List.mem_map.1 hr
    exact List.length_map _
  · intro i j hi hj
    rw [entry_map_map _ _ _ i j hi hj, entry_map_map _ _ _ j i hj hi, hs]
  · intro r hr
    obtain ⟨a, ha, rfl⟩ := List.mem_map.1 hr
    exact hz a ha

theorem lapLike_laplacian (d : Nat) (nodes : List Nat) (es : List (Edge × R)) (hN : nodes.Nodup)
    (hE : ∀ e ∈ es, ∀ x ∈ e.1, x ∈ nodes) (hD : ∀ e ∈ es, e.1.Nodup) (hW : ∀ e ∈ es, e.2 = 1) :
    LapLike (classes nodes).length (laplacian d nodes es) := by
  rw [laplacian_eq d nodes es hN hE]
  exact lapLike_map_map _ _ (lapL_comm d es) (sum_lapL d nodes es hE hD hW)

theorem maxOrder_eq_none {α : Type} (es : List (Edge × α)) : maxOrder es = none ↔ es = [] := by
  cases es <;> simp [maxOrder]

/-- the routine in closed form: the default of `max_order` is `Option.or` -/
theorem temporalAdjAllOrders_eq (mo : Option Nat) (recs : List (Rec R)) :
    temporalAdjAllOrders mo recs = (mo.or (temporalMaxOrder recs)).map fun m =>
      ((List.range m).map (· + 1)).map fun d => (d, temporalAdjByOrderAll d recs) := by
  cases mo <;> rfl

/-- `max_order()` is the largest order: every hyperedge has at most `m + 1` nodes and one has order exactly `m` -/
theorem maxOrder_spec {α : Type} (es : List (Edge × α)) (m : Nat) (h : maxOrder es = some m) :
    es ≠ [] ∧ (∀ e ∈ es, e.1.length ≤ m + 1) ∧ ∃ e ∈ es, e.1.length - 1 = m := by
  cases es with
  | nil => simp [maxOrder] at h
  | cons e0 es =>
    simp only [maxOrder, Option.some.injEq] at h
    have hle := (ListLib.foldl_max_le_iff ((e0 :: es).map fun e => e.1.length - 1) 0 m).1 (Nat.le_of_eq h)
    refine ⟨by simp, ?_, ?_⟩
    · intro e he
      have := hle.2 (e.1.length - 1) (List.mem_map.2 ⟨e, he, rfl⟩)
      omega
    · rcases ListLib.foldl_max_mem (((e0 :: es).map fun e => e.1.length - 1)) 0 with h0 | hm
      · rw [h] at h0
        refine ⟨e0, List.mem_cons_self, ?_⟩
        have := hle.2 (e0.1.length - 1) (List.mem_map.2 ⟨e0, List.mem_cons_self, rfl⟩)
        omega
      · rw [h] at hm
        obtain ⟨e, he, hem⟩ := List.mem_map.1 hm
        exact ⟨e, he, hem⟩

theorem countP_add_disjoint {β : Type} (l : List β) (a b : β → Bool) (h : ∀ x, ¬ (a x = true ∧ b x = true)) :
    l.countP a + l.countP b = l.countP fun x => a x || b x := by
  induction l with
  | nil => rfl
  | cons x l ih =>
    rw [List.countP_cons, List.countP_cons, List.countP_cons, ← ih]
    cases ha : a x with
    | false => cases b x <;> simp only [Bool.false_or, Bool.false_eq_true, if_false, if_true] <;> omega
    | true =>
      have hb : b x = false := by
        cases hb : b x
        · rfl
        · exact absurd ⟨ha, hb⟩ (h x)
      simp only [hb, Bool.or_false, Bool.false_eq_true, if_false, if_true]
      omega

/-- the hyperedges with property `p` of the orders `0..K-1`, counted order by order -/
theorem countP_orders {α : Type} (es : List (Edge × α)) (p : Edge × α → Bool) (K : Nat) :
    ((List.range K).map fun d => es.countP fun e => e.1.length == d + 1 && p e).sum
      = es.countP fun e => p e && decide (1 ≤ e.1.length ∧ e.1.length ≤ K) := by
  induction K with
  | zero =>
    refine (List.countP_eq_zero.2 fun e _ => ?_).symm
    simp only [Bool.and_eq_true, decide_eq_true_eq, not_and]
    omega
  | succ K ih =>
    rw [List.range_succ, List.map_append, List.sum_append, ih, List.map_singleton, List.sum_singleton,
      countP_add_disjoint]
    · refine List.countP_congr fun e _ => ?_
      cases p e <;>
        simp only [Bool.or_eq_true, Bool.and_eq_true, decide_eq_true_eq, beq_iff_eq, Bool.false_eq_true, true_and,
          and_true, false_and, and_false, or_self]
      omega
    · intro e
      simp only [Bool.and_eq_true, decide_eq_true_eq, beq_iff_eq]
      omega

/-- unweighted, `m = max_order()`: the Gram entries of the orders `0..m` add up to the number of hyperedges containing both
nodes, since every hyperedge is counted at exactly one order -/
theorem sum_gram_orders (es : List (Edge × R)) (hW : ∀ e ∈ es, e.2 = 1) (m : Nat) (hm : maxOrder es = some m) (a b : Nat) :
    ((List.range (m + 1)).map fun d => gram d es a b).sum
      = ((es.countP fun e => decide (a ∈ e.1) && decide (b ∈ e.1) : Nat) : R) := by
  simp only [gram_unweighted _ es hW]
  rw [← natCast_sum_map, countP_orders es (fun e => decide (a ∈ e.1) && decide (b ∈ e.1)) (m + 1)]
  refine congrArg _ (List.countP_congr fun e he => ?_)
  have hb := (maxOrder_spec es m hm).2.1 e he
  simp only [Bool.and_eq_true, decide_eq_true_eq, and_iff_left_iff_imp]
  exact fun h1 => ⟨List.length_pos_of_mem h1.1, hb⟩

section multi
variable {F : Type} [Field F]

/-- coefficient of the order-`p.1` Laplacian in the multi-order sum: `c_d · σ_d · s_d` -/
def multiCoef (ow dw : Bool) (nodes : List Nat) (es : List (Edge × F)) (p : Nat × F) : F :=
  (if dw then invAvgDegree p.1 nodes es else 1) * (p.2 * (if ow then ((scaleFactor p.1 : Nat) : F) else 1))

theorem lapFlag_eq (ow : Bool) (d : Nat) (nodes : List Nat) (es : List (Edge × F)) (hN : nodes.Nodup)
    (hE : ∀ e ∈ es, ∀ x ∈ e.1, x ∈ nodes) :
    lapFlag ow d nodes es = (classes nodes).map fun a => (classes nodes).map fun b =>
      (if ow then ((scaleFactor d : Nat) : F) else 1) * lapL d es a b := by
  cases ow
  · simp only [lapFlag, laplacian_eq d nodes es hN hE, Bool.false_eq_true, if_false, one_mul]
  · simp only [lapFlag, laplacianScaled, laplacian_eq d nodes es hN hE, smul_map_map, if_true]

theorem multiTerm_eq (ow dw : Bool) (nodes : List Nat) (es : List (Edge × F)) (hN : nodes.Nodup)
    (hE : ∀ e ∈ es, ∀ x ∈ e.1, x ∈ nodes) (p : Nat × F) :
    multiTerm ow dw nodes es p = (classes nodes).map fun a => (classes nodes).map fun b =>
      multiCoef ow dw nodes es p * lapL p.1 es a b := by
  cases dw
  · simp only [multiTerm, multiCoef, lapFlag_eq ow p.1 nodes es hN hE, smul_map_map, Bool.false_eq_true, if_false,
      one_mul, mul_assoc]
  · simp only [multiTerm, multiCoef, lapFlag_eq ow p.1 nodes es hN hE, smul_map_map, if_true, mul_assoc]

theorem multiorderLaplacian_closed (sigmas : List F) (ow dw : Bool) (nodes : List Nat) (es : List (Edge × F))
    (hN : nodes.Nodup) (hE : ∀ e ∈ es, ∀ x ∈ e.1, x ∈ nodes) (ds : List Nat) (hds : orders es = some ds) :
    multiorderLaplacian sigmas ow dw nodes es = some
      (if dw && (ds.zip sigmas).any (fun p => degreeTotal p.1 nodes es == 0) then MultiLap.undefScale
       else if ds.zip sigmas = [] then MultiLap.noMatrix
       else MultiLap.mat ((classes nodes).map fun a => (classes nodes).map fun b =>
        ((ds.zip sigmas).map fun p => multiCoef ow dw nodes es p * lapL p.1 es a b).sum)) := by
  rw [multiorderLaplacian, hds, Option.map_some]
  refine congrArg some (if_congr Iff.rfl rfl ?_)
  by_cases hnil : ds.zip sigmas = []
  · rw [if_pos hnil, hnil]; rfl
  · rw [if_neg hnil, funext (multiTerm_eq ow dw nodes es hN hE), matSum_map_map _ _ _ _ hnil]

theorem multiorderLaplacian_table (sigmas : List F) (ow dw : Bool) (nodes : List Nat) (es : List (Edge × F))
    (hN : nodes.Nodup) (hE : ∀ e ∈ es, ∀ x ∈ e.1, x ∈ nodes)
    (M : List (List F)) (hM : multiorderLaplacian sigmas ow dw nodes es = some (MultiLap.mat M)) :
    ∃ ds, orders es = some ds ∧ M = (classes nodes).map fun a => (classes nodes).map fun b =>
      ((ds.zip sigmas).map fun p => multiCoef ow dw nodes es p * lapL p.1 es a b).sum := by
  cases hds : orders es with
  | none => rw [multiorderLaplacian, hds] at hM; cases hM
  | some ds =>
    rw [multiorderLaplacian_closed sigmas ow dw nodes es hN hE ds hds] at hM
    refine ⟨ds, rfl, ?_⟩
    split at hM
    · cases hM
    · split at hM
      · cases hM
      · cases hM; rfl

end multi

end C09
