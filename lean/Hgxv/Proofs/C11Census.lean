import Hgxv.Model.C11Enum
import Hgxv.Proofs.C11Passes
import Hgxv.Proofs.C11RelabelAux
import Hgxv.Proofs.C11Cert
/-! # C11 - the census counts every connected node subset once, under its class: `census_closed` over the
enumeration `counted`, the specification `census_spec` from it -/
namespace C11

theorem zipMax_map (l : List Nat) (f g : Nat → Nat) :
    zipMax (l.map fun c => (c, f c)) (l.map fun c => (c, g c)) = l.map fun c => (c, max (f c) (g c)) := by
  induction l with
  | nil => rfl
  | cons a l ih => simp [zipMax, ih]

theorem contains_filter (l : HG) (p : List Nat → Bool) (e : List Nat) :
    (l.filter p).contains e = (l.contains e && p e) := by
  rw [Bool.eq_iff_iff]
  simp [List.mem_filter]

theorem mem_nodesOf {E : HG} {x : Nat} : x ∈ nodesOf E ↔ ∃ e ∈ E, x ∈ e := by
  unfold nodesOf; rw [mem_isort, mem_dedup]; simp

theorem nodesOf_sorted (E : HG) : SSorted (nodesOf E) := isort_sorted (nodup_dedup _)

/-- hyperedges inside an `n`-set have at most `n` nodes, so `get_edges(size=n, up_to=True)` loses nothing -/
theorem conn_upTo {n : Nat} {E : HG} (hE : WF E) {S : List Nat} (hS : SSorted S) (hlen : S.length = n) :
    Conn (upTo n E) S ↔ Conn E S := by
  refine conn_congr_inside fun e hes => ⟨fun he => (List.mem_filter.mp he).1, fun he => List.mem_filter.mpr ⟨he, ?_⟩⟩
  have := length_le_of_sorted_subset (hE.sorted e he) hS hes
  simp; omega

theorem conn_covered {E : HG} {S : List Nat} (hS : SSorted S) (h2 : 2 ≤ S.length) (hc : Conn E S) :
    ∀ x ∈ S, ∃ e ∈ E, x ∈ e := by
  intro x hx
  obtain ⟨y, hy, hne⟩ := exists_outside (S := S) (sub := [x]) hS.nodup (by simp; omega)
  obtain ⟨e, he, _, hxe, _⟩ := (hc x hx y hy).first_step (by simpa using hne)
  exact ⟨e, he, hxe⟩

theorem usesSize_pattern {n : Nat} {E : HG} (hE : WF E) {S : List Nat} (hS : SSorted S) (hlen : S.length = n) {k : Nat}
    (h2 : 2 ≤ k) : usesSize n (pattern n E S) k ↔ ∃ e ∈ E, e.length = k ∧ ∀ z ∈ e, z ∈ S := by
  constructor
  · rintro ⟨i, hi, hbit, hk⟩
    rw [testBit_pattern E hlen hi, List.contains_iff_mem] at hbit
    refine ⟨_, hbit, by rw [List.length_map, hk], fun z hz => ?_⟩
    obtain ⟨j, hj, rfl⟩ := List.mem_map.mp hz
    have := (mem_hyperedges (getD_mem (hyperedges n) [] hi)).2.1 j hj
    exact getD_mem S 0 (by omega)
  · rintro ⟨e, he, hk, hes⟩
    obtain ⟨i, hi, rfl⟩ := exists_position hS hlen (hE.sorted e he) hes (by omega)
    exact ⟨i, hi, by rw [testBit_pattern E hlen hi, List.contains_iff_mem]; exact he, by simpa using hk⟩

theorem usesSize_cid {n : Nat} (hn : 2 ≤ n) {m : Nat} (hm : m < numMasks n) (hc : cidC n m ≠ 0) (k : Nat) :
    usesSize n (cidC n m) k ↔ usesSize n m k := by
  obtain ⟨t, ht, h⟩ := (certAll hn).toRep m hm hc
  obtain ⟨q, hq, rfl⟩ := List.mem_map.mp ht
  rw [← h]; exact usesSize_applyPerm hq m k

section passes
variable {n : Nat} (hn : n = 3 ∨ n = 4) {E : HG} (hE : WF E)

/-- node sets visited by pass 2 (only run for order 4) -/
def sets2 (n : Nat) (E : HG) : List (List Nat) := if n == 4 then notFullSets n E (fullSets n E) else []
def sets3 (n : Nat) (E : HG) : List (List Nat) := stdSets n E (sets2 n E ++ fullSets n E)

theorem sets2_spec {S : List Nat} (h : S ∈ sets2 n E) :
    n = 4 ∧ SSorted S ∧ S.length = 4 ∧ S ∉ E ∧
      ∃ e ∈ E, e.length = 3 ∧ (∀ z ∈ e, z ∈ S) ∧ ∃ e' ∈ E, e'.length < 4 ∧ (∀ z ∈ e', z ∈ S) ∧
        (∃ x ∈ e, x ∈ e') ∧ ∀ z ∈ S, z ∈ e ∨ z ∈ e' := by
  unfold sets2 at h
  by_cases h4 : n = 4
  · subst h4
    simp only [beq_self_eq_true, if_true] at h
    exact ⟨rfl, mem_notFullSets.mp h⟩
  · have : (n == 4) = false := by simpa using h4
    rw [this] at h; simp at h

include hE in
theorem sets2_of_conn {S : List Nat} (hS : SSorted S) (hlen : S.length = 4) (hnot : S ∉ E)
    (h3 : has3 E S) (hc : Conn E S) : S ∈ sets2 4 E := by
  unfold sets2
  simp only [beq_self_eq_true, if_true]
  rw [mem_notFullSets]
  obtain ⟨e, he, hl, hes⟩ := h3
  have hesrt := hE.sorted e he
  obtain ⟨d, hd, hde⟩ := exists_outside (S := S) (sub := e) hS.nodup (by omega)
  have hrest : ∀ z ∈ S, z ≠ d → z ∈ e := by
    intro z hz hzd
    apply Classical.byContradiction
    intro hze
    have hnd : (z :: d :: e).Nodup := by
      refine List.nodup_cons.mpr ⟨?_, List.nodup_cons.mpr ⟨hde, hesrt.nodup⟩⟩
      simp only [List.mem_cons, not_or]; exact ⟨hzd, hze⟩
    have := hnd.length_le_of_subset (l₂ := S) (by
      intro y hy
      rcases List.mem_cons.mp hy with e1 | e1
      · subst e1; exact hz
      · rcases List.mem_cons.mp e1 with e2 | e2
        · subst e2; exact hd
        · exact hes y e2)
    simp at this; omega
  obtain ⟨x, hx⟩ : ∃ x, x ∈ e := by
    match e, hl with
    | a :: _, _ => exact ⟨a, by simp⟩
  have hxd : x ≠ d := fun h => hde (h ▸ hx)
  obtain ⟨e', he', hes', hde', z, hz, hzd⟩ := (hc d hd x (hes x hx)).first_step hxd
  have he'srt := hE.sorted e' he'
  have hl' : e'.length < 4 := by
    have h1 := length_le_of_sorted_subset he'srt hS hes'
    by_cases h4 : e'.length = 4
    · have := eq_of_sorted_subset_length he'srt hS hes' (by omega)
      exact absurd (this ▸ he') hnot
    · omega
  refine ⟨hS, hlen, hnot, e, he, hl, hes, e', he', hl', hes', ⟨z, hrest z (hes' z hz) hzd, hz⟩, ?_⟩
  intro y hy
  by_cases hyd : y = d
  · subst hyd; exact Or.inr hde'
  · exact Or.inl (hrest y hy hyd)

theorem mem_sets3 {S : List Nat} :
    S ∈ sets3 n E ↔ (∃ o ∈ esuSets n E, isort o = S) ∧ S ∉ sets2 n E ∧ S ∉ fullSets n E := by
  unfold sets3 stdSets
  simp only [List.mem_filter, List.mem_map, Bool.not_eq_true', List.contains_eq_mem, decide_eq_false_iff_not,
    List.mem_append, not_or]

include hn hE in
theorem sets3_spec {S : List Nat} (h : S ∈ sets3 n E) :
    SSorted S ∧ S.length = n ∧ S ∉ E ∧ ¬ has3 E S ∧ Conn E S := by
  have hn1 : 1 ≤ n := by rcases hn with h | h <;> omega
  obtain ⟨hex, hn2, hn1'⟩ := mem_sets3.mp h
  obtain ⟨hS, hlen, v, _, hval⟩ := (mem_esu_sorted hn1).mp hex
  have hc := conn_of_rootValid hval
  have hnot : S ∉ E := fun hin => hn1' (mem_fullSets.mpr ⟨hin, hlen⟩)
  refine ⟨hS, hlen, hnot, ?_, hc⟩
  intro h3
  rcases hn with h | h
  · subst h
    obtain ⟨e, he, hl, hes⟩ := h3
    have := eq_of_sorted_subset_length (hE.sorted e he) hS hes (by omega)
    exact hnot (this ▸ he)
  · subst h
    exact hn2 (sets2_of_conn hE hS hlen hnot h3 hc)

include hn hE in
/-- a connected `n`-set is visited by at least one pass (the proof picks the pass that matches its largest inner
hyperedge; at most one: `visited_nodup`) -/
theorem conn_visited {S : List Nat} (hS : SSorted S) (hlen : S.length = n) (hc : Conn E S) :
    S ∈ fullSets n E ∨ S ∈ sets2 n E ∨ S ∈ sets3 n E := by
  have hn1 : 1 ≤ n := by rcases hn with h | h <;> omega
  by_cases hin : S ∈ E
  · exact Or.inl (mem_fullSets.mpr ⟨hin, hlen⟩)
  · by_cases h3 : has3 E S
    · rcases hn with h | h
      · subst h
        obtain ⟨e, he, hl, hes⟩ := h3
        have := eq_of_sorted_subset_length (hE.sorted e he) hS hes (by omega)
        exact absurd (this ▸ he) hin
      · subst h
        exact Or.inr (Or.inl (sets2_of_conn hE hS hlen hin h3 hc))
    · right; right
      have hd : dyOnly E S := by
        intro e he hes
        have hesrt := hE.sorted e he
        have h1 := length_le_of_sorted_subset hesrt hS hes
        apply Classical.byContradiction
        intro hgt
        by_cases hfull : e.length = n
        · have := eq_of_sorted_subset_length hesrt hS hes (by omega)
          exact hin (this ▸ he)
        · have : e.length = 3 := by rcases hn with h | h <;> omega
          exact h3 ⟨e, he, this, hes⟩
      have hex := rootValid_of_conn hE hS (by rcases hn with h | h <;> omega) hd hc
      refine mem_sets3.mpr ⟨(mem_esu_sorted hn1).mpr ⟨hS, hlen, hex⟩, ?_, fun h => hin (mem_fullSets.mp h).1⟩
      intro h2
      obtain ⟨_, _, _, _, e, he, hl, hes, _⟩ := sets2_spec h2
      exact h3 ⟨e, he, hl, hes⟩

include hn hE in
theorem visited_nodup : (fullSets n E ++ (sets2 n E ++ sets3 n E)).Nodup := by
  have hn1 : 1 ≤ n := by rcases hn with h | h <;> omega
  refine List.nodup_append.mpr ⟨List.Pairwise.filter _ hE.nodup, List.nodup_append.mpr ⟨?_, ?_, ?_⟩, ?_⟩
  · unfold sets2; split
    · exact nodup_visitNew
    · exact List.nodup_nil
  · unfold sets3 stdSets
    exact List.Pairwise.filter _ (esu_sorted_nodup hn1 E)
  · intro a ha b hb hab
    subst hab
    exact (mem_sets3.mp hb).2.1 ha
  · intro a ha b hb hab
    subst hab
    rcases List.mem_append.mp hb with h | h
    · have := sets2_spec h
      exact this.2.2.2.1 (mem_fullSets.mp ha).1
    · exact (mem_sets3.mp h).2.2 ha

include hn hE in
theorem mem_visited {S : List Nat} :
    S ∈ fullSets n E ++ (sets2 n E ++ sets3 n E) ↔ SSorted S ∧ S.length = n ∧ Conn E S := by
  constructor
  · intro h
    rcases List.mem_append.mp h with h1 | h23
    · obtain ⟨hin, hlen⟩ := mem_fullSets.mp h1
      have hS := hE.sorted S hin
      refine ⟨hS, hlen, ?_⟩
      have hpos : S ≠ [] := by
        intro h0; subst h0; simp at hlen; rcases hn with h | h <;> omega
      obtain ⟨a, ha⟩ := List.exists_mem_of_ne_nil S hpos
      apply conn_of_hub a
      intro y hy
      exact Reach.single ⟨S, hin, fun z hz => hz, ha, hy⟩
    · rcases List.mem_append.mp h23 with h2 | h3
      · obtain ⟨h4, hS, hlen, _, e, he, _, hes, e', he', _, hes', ⟨x, hx, hx'⟩, hcov⟩ := sets2_spec h2
        refine ⟨hS, by omega, ?_⟩
        apply conn_of_hub x
        intro y hy
        rcases hcov y hy with h | h
        · exact Reach.single ⟨e, he, hes, hx, h⟩
        · exact Reach.single ⟨e', he', hes', hx', h⟩
      · obtain ⟨hS, hlen, _, _, hc⟩ := sets3_spec hn hE h3
        exact ⟨hS, hlen, hc⟩
  · rintro ⟨hS, hlen, hc⟩
    rcases conn_visited hn hE hS hlen hc with h | h | h
    · exact List.mem_append.mpr (Or.inl h)
    · exact List.mem_append.mpr (Or.inr (List.mem_append.mpr (Or.inl h)))
    · exact List.mem_append.mpr (Or.inr (List.mem_append.mpr (Or.inr h)))

/-! ## the patterns the passes look up are the full patterns, and tell the passes apart -/

include hn hE in
theorem pattern_fullSets {S : List Nat} (h : S ∈ fullSets n E) : usesSize n (pattern n E S) n := by
  obtain ⟨hin, hlen⟩ := mem_fullSets.mp h
  exact (usesSize_pattern hE (hE.sorted S hin) hlen (by rcases hn with h | h <;> omega)).mpr
    ⟨S, hin, hlen, fun _ hz => hz⟩

include hE in
theorem pattern_sets2 {S : List Nat} (h : S ∈ sets2 n E) :
    n = 4 ∧ pattern n (smaller n E) S = pattern n E S ∧
      ¬ usesSize n (pattern n E S) 4 ∧ usesSize n (pattern n E S) 3 := by
  obtain ⟨h4, hS, hlen, hnot, e, he, hl, hes, _⟩ := sets2_spec h
  subst h4
  refine ⟨rfl, ?_, ?_, (usesSize_pattern hE hS hlen (by omega)).mpr ⟨e, he, hl, hes⟩⟩
  · apply pattern_congr
    intro f hf h2 h4
    unfold smaller
    rw [contains_filter]
    by_cases hf4 : f.length = 4
    · have : f = S := hf.eq_of_length (by omega)
      subst this
      simp [hnot]
    · have : decide (f.length < 4) = true := by simp; omega
      simp [this]
  · rw [usesSize_pattern hE hS hlen (by omega)]
    rintro ⟨f, hf, hfl, hfs⟩
    exact hnot (eq_of_sorted_subset_length (hE.sorted f hf) hS hfs (by omega) ▸ hf)

include hn hE in
theorem pattern_sets3 {S : List Nat} (h : S ∈ sets3 n E) :
    pattern n (dyadic E) S = pattern n E S ∧ ∀ k, 3 ≤ k → ¬ usesSize n (pattern n E S) k := by
  obtain ⟨hS, hlen, hnot, hno3, _⟩ := sets3_spec hn hE h
  have hbig : ∀ f, f.Sublist S → 3 ≤ f.length → f.length ≤ n → E.contains f = false := by
    intro f hf h3 hfn
    apply Classical.byContradiction
    intro hc
    have hin : f ∈ E := by simpa using hc
    by_cases hfull : f.length = n
    · have : f = S := hf.eq_of_length (by omega)
      exact hnot (this ▸ hin)
    · have : f.length = 3 := by rcases hn with h | h <;> omega
      exact hno3 ⟨f, hin, this, fun z hz => hf.subset hz⟩
  refine ⟨?_, fun k hk => ?_⟩
  · apply pattern_congr
    intro f hf h2 hfn
    unfold dyadic
    rw [contains_filter]
    by_cases hf2 : f.length = 2
    · simp [hf2]
    · rw [hbig f hf (by omega) hfn]; simp
  · rw [usesSize_pattern hE hS hlen (by omega)]
    rintro ⟨f, hf, hfl, hfs⟩
    have hsub := NatSort.sublist_of_strict_subset (hE.sorted f hf) hS hfs
    have := hbig f hsub (by omega) (by have := hsub.length_le; omega)
    rw [List.contains_iff_mem.mpr hf] at this
    exact absurd this (by simp)

end passes

/-! ## `counted` (`Model/C11Enum.lean`) lists the sets the three passes visit -/

theorem map_fst_withPat (n : Nat) (T : HG) (L : List (List Nat)) : (withPat n T L).map (·.1) = L := by
  unfold withPat; rw [List.map_map]; simp [Function.comp_def]

theorem countedPats_eq (n : Nat) (E0 : HG) :
    countedPats n E0 = withPat n (upTo n E0) (fullSets n (upTo n E0)) ++
      (withPat n (smaller n (upTo n E0)) (sets2 n (upTo n E0)) ++
       withPat n (dyadic (upTo n E0)) (sets3 n (upTo n E0))) := rfl

theorem counted_eq (n : Nat) (E0 : HG) :
    counted n E0 = fullSets n (upTo n E0) ++ (sets2 n (upTo n E0) ++ sets3 n (upTo n E0)) := by
  unfold counted
  rw [countedPats_eq, List.map_append, List.map_append, map_fst_withPat, map_fst_withPat, map_fst_withPat]

theorem mem_upTo {n : Nat} {E : HG} {e : List Nat} : e ∈ upTo n E ↔ e ∈ E ∧ e.length ≤ n := by
  simp [upTo, List.mem_filter]

theorem counted_nodup {n : Nat} (hn : n = 3 ∨ n = 4) {E : HG} (hE : WF E) : (counted n E).Nodup := by
  rw [counted_eq]; exact visited_nodup hn (hE.filter _)

theorem mem_counted {n : Nat} (hn : n = 3 ∨ n = 4) {E : HG} (hE : WF E) {S : List Nat} :
    S ∈ counted n E ↔ SSorted S ∧ S.length = n ∧ Conn E S := by
  have hEn : WF (upTo n E) := hE.filter _
  rw [counted_eq, mem_visited hn hEn]
  exact and_congr_right fun a => and_congr_right fun b => conn_upTo hE a b

/-! ## the three tallies have disjoint supports, so the per-class maximum is the sum -/

theorem max3_of_exclusive {a b c : Nat} (h12 : a = 0 ∨ b = 0) (h13 : a = 0 ∨ c = 0) (h23 : b = 0 ∨ c = 0) :
    max (max a b) c = a + b + c := by
  rcases h12 with h | h <;> rcases h13 with h' | h' <;> rcases h23 with h'' | h'' <;> subst_vars <;> simp

theorem countP_exclusive {α} (p : α → Bool) {L L' : List α}
    (h : ∀ x ∈ L, p x = true → ∀ y ∈ L', p y = true → False) : L.countP p = 0 ∨ L'.countP p = 0 := by
  by_cases hL : ∃ x ∈ L, p x = true
  · obtain ⟨x, hx, hpx⟩ := hL
    exact Or.inr (List.countP_eq_zero.mpr fun y hy hpy => h x hx hpx y hy hpy)
  · exact Or.inl (List.countP_eq_zero.mpr fun x hx hpx => hL ⟨x, hx, hpx⟩)

section census
variable {n : Nat} (hn : n = 3 ∨ n = 4) {E : HG} (hE : WF E)

include hn hE in
/-- on hyperedges of size `≤ n`: the tallies of the passes, merged by `max`, file every visited set under the class of
its full pattern -/
theorem censusWith_eq (hE0 : E = upTo n E) :
    censusWith (tbls n) (classes n) (labeling n) n E
      = (classes n).map fun c => (c, List.countP (fun S => cidC n (pattern n E S) == c) (fullSets n E ++ (sets2 n E ++ sets3 n E))) := by
  have C := certAll (n := n) (by omega)
  have hlen1 : ∀ S ∈ fullSets n E, S.length = n := fun S h => (mem_fullSets.mp h).2
  have hlen2 : ∀ S ∈ sets2 n E, S.length = n := fun S h => by
    have := sets2_spec h; omega
  have hlen3 : ∀ S ∈ sets3 n E, S.length = n := fun S h => (sets3_spec hn hE h).2.1
  have tally : ∀ (T : HG) (L : List (List Nat)), (∀ S ∈ L, S.length = n) → (∀ S ∈ L, pattern n T S = pattern n E S) →
      tallyWith (tbls n) (classes n) (labeling n) (L.map (pattern n T))
        = (classes n).map fun c => (c, List.countP (fun S => cidC n (pattern n E S) == c) L) := by
    intro T L hlen hpat
    rw [tally_eq C]
    · apply List.map_congr_left; intro c _
      rw [List.countP_map]
      congr 1
      apply List.countP_congr
      intro S hS
      simp only [Function.comp]
      rw [hpat S hS]
    · intro p hp
      obtain ⟨S, hS, rfl⟩ := List.mem_map.mp hp
      exact pattern_lt _ (hlen S hS)
  have t1 : tallyWith (tbls n) (classes n) (labeling n) (fullPats n E) = _ :=
    tally E (fullSets n E) hlen1 (fun _ _ => rfl)
  have t2 := tally (smaller n E) (sets2 n E) hlen2 (fun S hS => (pattern_sets2 hE hS).2.1)
  have t3 := tally (dyadic E) (sets3 n E) hlen3 (fun S hS => (pattern_sets3 hn hE hS).1)
  have feat : ∀ c ∈ classes n, ∀ S : List Nat, S.length = n → (cidC n (pattern n E S) == c) = true →
      ∀ k, usesSize n c k ↔ usesSize n (pattern n E S) k := by
    intro c hc S hlen hcS k
    have hcS' : cidC n (pattern n E S) = c := by simpa using hcS
    exact hcS' ▸ usesSize_cid (by omega) (pattern_lt E hlen) (by rw [hcS']; exact ((mem_classes C).mp hc).2.2) k
  have f1 : ∀ c ∈ classes n, ∀ S ∈ fullSets n E, (cidC n (pattern n E S) == c) = true → usesSize n c n :=
    fun c hc S hS hcS => (feat c hc S (hlen1 S hS) hcS n).mpr (pattern_fullSets hn hE hS)
  have f2 : ∀ c ∈ classes n, ∀ S ∈ sets2 n E, (cidC n (pattern n E S) == c) = true →
      n = 4 ∧ ¬ usesSize n c 4 ∧ usesSize n c 3 := by
    intro c hc S hS hcS
    obtain ⟨h4, _, hno4, h3⟩ := pattern_sets2 hE hS
    have hf := feat c hc S (hlen2 S hS) hcS
    exact ⟨h4, fun h => hno4 ((hf 4).mp h), (hf 3).mpr h3⟩
  have f3 : ∀ c ∈ classes n, ∀ S ∈ sets3 n E, (cidC n (pattern n E S) == c) = true →
      ∀ k, 3 ≤ k → ¬ usesSize n c k :=
    fun c hc S hS hcS k hk h => (pattern_sets3 hn hE hS).2 k hk ((feat c hc S (hlen3 S hS) hcS k).mp h)
  have hsum : ∀ c ∈ classes n,
      max (max ((fullSets n E).countP fun S => cidC n (pattern n E S) == c)
          ((sets2 n E).countP fun S => cidC n (pattern n E S) == c))
        ((sets3 n E).countP fun S => cidC n (pattern n E S) == c)
      = (fullSets n E ++ (sets2 n E ++ sets3 n E)).countP fun S => cidC n (pattern n E S) == c := by
    intro c hc
    have h12 := countP_exclusive (fun S => cidC n (pattern n E S) == c) fun S hS h S' hS' h' => by
      obtain ⟨h4, hno4, _⟩ := f2 c hc S' hS' h'
      exact hno4 (h4 ▸ f1 c hc S hS h)
    have h13 := countP_exclusive (fun S => cidC n (pattern n E S) == c) fun S hS h S' hS' h' =>
      f3 c hc S' hS' h' n (by rcases hn with h | h <;> omega) (f1 c hc S hS h)
    have h23 := countP_exclusive (fun S => cidC n (pattern n E S) == c) fun S hS h S' hS' h' =>
      f3 c hc S' hS' h' 3 (Nat.le_refl 3) (f2 c hc S hS h).2.2
    rw [max3_of_exclusive h12 h13 h23, List.countP_append, List.countP_append]; omega
  unfold censusWith
  have hup : upTo n E = E := hE0.symm
  simp only [hup]
  by_cases h4 : n = 4
  · subst h4
    simp only [beq_self_eq_true, if_true]
    have hs2 : notFullSets 4 E (fullSets 4 E) = sets2 4 E := by simp [sets2]
    have hp2 : notFullPats 4 E (fullSets 4 E) = (sets2 4 E).map (pattern 4 (smaller 4 E)) := by
      unfold notFullPats; rw [hs2]
    have hp3 : stdPats 4 E (notFullSets 4 E (fullSets 4 E) ++ fullSets 4 E)
        = (sets3 4 E).map (pattern 4 (dyadic E)) := by
      unfold stdPats sets3; rw [hs2]
    rw [hp2, hp3, t1, t2, t3, zipMax_map, zipMax_map]
    apply List.map_congr_left
    intro c hc
    rw [hsum c hc]
  · have hb : (n == 4) = false := by simpa using h4
    simp only [hb]
    have hs2 : sets2 n E = [] := by simp [sets2, hb]
    have hp3 : stdPats n E (fullSets n E) = (sets3 n E).map (pattern n (dyadic E)) := by
      unfold stdPats sets3; rw [hs2]; simp
    rw [hp3, t1, t3, zipMax_map]
    apply List.map_congr_left
    intro c hc
    have := hsum c hc
    rw [hs2] at this ⊢
    simp only [List.countP_nil, Nat.max_zero] at this
    rw [this]

end census

theorem upTo_idem (n : Nat) (E : HG) : upTo n (upTo n E) = upTo n E := by
  unfold upTo; rw [List.filter_filter]; simp

theorem pattern_upTo {n : Nat} (E : HG) (S : List Nat) : pattern n (upTo n E) S = pattern n E S := by
  apply pattern_congr
  intro e _ _ hn
  unfold upTo
  rw [contains_filter]
  have : decide (e.length ≤ n) = true := by simpa using hn
  rw [this]; simp

/-- class membership in the words of the property: the pattern is a relabelling of the class -/
theorem exists_relabel_iff_cidC {n : Nat} (hn : 2 ≤ n) {c p : Nat} (hc : c ∈ classes n) (hp : p < numMasks n) :
    (∃ t ∈ tbls n, applyPerm t c = p) ↔ cidC n p = c := by
  have C := certAll hn
  constructor
  · rintro ⟨t, ht, h⟩; exact (cid_of_relabel C hc ht h).2
  · intro h
    have hne : cidC n p ≠ 0 := by rw [h]; exact ((mem_classes C).mp hc).2.2
    obtain ⟨t, ht, h'⟩ := C.ofRep p hp hne
    exact ⟨t, ht, by rw [← h]; exact h'⟩

open Classical in
/-- the number of connected `n`-subsets whose pattern is a relabelling of `c` -/
noncomputable def specCount (n : Nat) (E : HG) (c : Nat) : Nat :=
  ((subsetsOfSize n (nodesOf E)).filter fun S =>
    decide (Conn E S ∧ ∃ t ∈ tbls n, applyPerm t c = pattern n E S)).length

theorem census_closed {n : Nat} (hn : n = 3 ∨ n = 4) {E : HG} (hE : WF E) :
    census n E = (classes n).map fun c => (c, (counted n E).countP fun S => cidC n (pattern n E S) == c) := by
  have hEn : WF (upTo n E) := hE.filter _
  have h1 : census n E = censusWith (tbls n) (classes n) (labeling n) n (upTo n E) := by
    unfold census censusWith; rw [upTo_idem]
  rw [h1, censusWith_eq hn hEn (upTo_idem n E).symm, counted_eq]
  simp only [pattern_upTo]

open Classical in
theorem counted_perm_conn {n : Nat} (hn : n = 3 ∨ n = 4) {E : HG} (hE : WF E) :
    (counted n E).Perm ((subsetsOfSize n (nodesOf E)).filter fun S => decide (Conn E S)) := by
  apply (List.perm_ext_iff_of_nodup (counted_nodup hn hE)
    (List.Pairwise.filter _ (nodup_subsetsOfSize (nodesOf_sorted E).nodup))).mpr
  intro S
  rw [mem_counted hn hE, List.mem_filter, mem_subsetsOfSize_sorted (nodesOf_sorted E)]
  simp only [decide_eq_true_eq]
  constructor
  · rintro ⟨hS, hlen, hc⟩
    exact ⟨⟨hS, fun x hx => mem_nodesOf.mpr (conn_covered hS (by rcases hn with h | h <;> omega) hc x hx), hlen⟩, hc⟩
  · rintro ⟨⟨hS, _, hlen⟩, hc⟩; exact ⟨hS, hlen, hc⟩

open Classical in
theorem census_spec {n : Nat} (hn : n = 3 ∨ n = 4) {E : HG} (hE : WF E) :
    census n E = (classes n).map fun c => (c, specCount n E c) := by
  rw [census_closed hn hE]
  apply List.map_congr_left
  intro c hc
  congr 1
  unfold specCount
  rw [(counted_perm_conn hn hE).countP_eq, List.countP_filter, List.countP_eq_length_filter]
  congr 1
  apply List.filter_congr
  intro S hS
  have hiff := exists_relabel_iff_cidC (by omega) hc (pattern_lt E (mem_subsetsOfSize.mp hS).2)
  by_cases hcn : Conn E S <;> by_cases hr : cidC n (pattern n E S) = c <;> simp [hcn, hr, hiff]

theorem conn_pattern {n : Nat} (hn : 2 ≤ n) {E : HG} (hE : WF E) {S : List Nat} (hS : SSorted S)
    (hlen : S.length = n) (hc : Conn E S) : connected n (masks n) (pattern n E S) = true := by
  rw [connected_masks_iff hn]
  intro P hP a han hPa b hbn
  have hinj : ∀ i j, i < n → j < n → S.getD i 0 = S.getD j 0 → i = j := fun i j hi hj =>
    getD_inj_of_nodup hS.nodup (by omega) (by omega)
  -- along a path from the `a`-th node of `S` every node has its position in `P`
  have hinv : ∀ x, Reach E S (S.getD a 0) x → ∃ j, j < n ∧ P j ∧ x = S.getD j 0 := by
    intro x hr
    induction hr with
    | refl => exact ⟨a, han, hPa, rfl⟩
    | @step z x _ hadj ih =>
      obtain ⟨j, hjn, hPj, rfl⟩ := ih
      obtain ⟨e, he, hes, hze, hxe⟩ := hadj
      have hesrt := hE.sorted e he
      by_cases h2 : 2 ≤ e.length
      · -- `e` is the `i`-th sub-hyperedge of `S`, bit `i` of the pattern is set
        obtain ⟨i, hi, rfl⟩ := exists_position hS hlen hesrt hes h2
        have hbit : (pattern n E S).testBit i = true := by
          rw [testBit_pattern E hlen hi]; exact List.contains_iff_mem.mpr he
        rw [ListLib.getD_of_lt _ _ hi] at hze hxe
        have hpres : nodeMask (hyperedges n)[i] ∈ present (masks n) (pattern n E S) :=
          mem_present.mpr ⟨i, by simp [masks, List.getElem?_eq_getElem hi], hbit⟩
        have hpos := (mem_hyperedges (List.getElem_mem hi)).2.1
        obtain ⟨j', hj', hj'e⟩ := List.mem_map.mp hze
        have hjj : j' = j := hinj j' j (hpos j' hj') hjn hj'e
        obtain ⟨j'', hj'', rfl⟩ := List.mem_map.mp hxe
        exact ⟨j'', hpos j'' hj'', hP _ hpres j (testBit_nodeMask.mpr (hjj ▸ hj')) hPj j''
          (testBit_nodeMask.mpr hj''), rfl⟩
      · have : x = S.getD j 0 := by
          match e, h2 with
          | [], _ => simp at hze
          | [u], _ => exact (List.mem_singleton.mp hxe).trans (List.mem_singleton.mp hze).symm
          | _ :: _ :: _, h2 => simp at h2
        exact ⟨j, hjn, hPj, this⟩
  obtain ⟨j, hjn, hPj, hjb⟩ := hinv _ (hc _ (getD_mem _ _ (by omega)) _ (getD_mem S 0 (i := b) (by omega)))
  exact hinj b j hbn hjn hjb ▸ hPj

/-- if every `Q`-element of `L` satisfies `P c` for exactly one `c` of the duplicate-free list `cs`, the per-`c`
counts of the `Q ∧ P c`-elements add up to the number of `Q`-elements -/
theorem sum_classes_total {α} (cs : List Nat) (hcs : cs.Nodup) (Q : α → Prop) (P : Nat → α → Prop)
    [∀ S, Decidable (Q S)] [∀ c S, Decidable (Q S ∧ P c S)] :
    ∀ L : List α, (∀ S ∈ L, Q S → ∃ c ∈ cs, P c S ∧ ∀ c' ∈ cs, P c' S → c' = c) →
    (cs.map fun c => L.countP fun S => decide (Q S ∧ P c S)).sum = L.countP fun S => decide (Q S) := by
  intro L h
  rw [ListLib.sum_countP_comm cs L fun c S => decide (Q S ∧ P c S), ← ListLib.sum_map_ind]
  refine congrArg List.sum (List.map_congr_left fun S hS => ?_)
  -- the classes under which `S` is filed: exactly one if `Q S`, none otherwise
  by_cases hq : Q S
  · obtain ⟨c0, hc0, hp0, huniq⟩ := h S hS hq
    rw [List.countP_congr (q := (· == c0)) fun c hc => by
      simp only [decide_eq_true_eq, beq_iff_eq]; exact ⟨fun hp => huniq c hc hp.2, fun e => e ▸ ⟨hq, hp0⟩⟩]
    rw [← List.count, hcs.count]; simp [hq, hc0]
  · rw [List.countP_eq_zero.mpr fun c _ => by simp [hq]]; simp [hq]

open Classical in
theorem census_total {n : Nat} (hn : n = 3 ∨ n = 4) {E : HG} (hE : WF E) :
    ((census n E).map (·.2)).sum
      = ((subsetsOfSize n (nodesOf E)).filter fun S => decide (Conn E S)).length := by
  have C := certAll (n := n) (by omega)
  rw [census_spec hn hE, List.map_map]
  unfold specCount
  simp only [Function.comp_def, ← List.countP_eq_length_filter]
  apply sum_classes_total (classes n) (classes_nodup C) (fun S => Conn E S)
    (fun c S => ∃ t ∈ tbls n, applyPerm t c = pattern n E S)
  intro S hS hc
  obtain ⟨hsorted, _, hlen⟩ := (mem_subsetsOfSize_sorted (nodesOf_sorted E)).mp hS
  have hlt := pattern_lt E hlen
  have hne := (C.conn _ hlt).mp (conn_pattern (by rcases hn with h | h <;> omega) hE hsorted hlen hc)
  refine ⟨cidC n (pattern n E S), cid_mem_classes C hlt hne, C.ofRep _ hlt hne, ?_⟩
  rintro c' hc' ⟨t, ht, h⟩
  exact (cid_of_relabel C hc' ht h).2.symm

end C11
