import Hgxv.Model.C20
import Hgxv.Proofs.AL
import Hgxv.Proofs.ListLib
/-! The glue of the s-centralities (core Lean only).  The notions the statements of the glue theorems of `Props/C20.lean` (`C20_edges_once` … `C20_relabel_nodes`) speak of are defined
here next to their lemmas: `edgeItems`, `nodeItems`, `total`, `relKey`, `RelabelHyp`. -/
namespace C20
open AL

section Dict
variable {K κ : Type} [DecidableEq K] [DecidableEq κ]

theorem dictOf_of_nodup (items : List (κ × Rat)) (h : (keys items).Nodup) : dictOf items = items :=
  (foldl_set_fresh Prod.fst Prod.snd items [] h).trans (List.map_id' items)

/-- the shape of `idTable` / `bipTable` as a map over `l.zipIdx`, whose members core describes (`List.mem_zipIdx_iff_getElem?`) -/
theorem zip_range_eq {β : Type} (l : List β) : (List.range l.length).zip l = l.zipIdx.map fun p => (p.2, p.1) := by
  rw [List.zipIdx_eq_zip_range', List.range_eq_range', List.map_zip_eq_zipWith, List.zip_eq_zipWith, List.zipWith_comm]
  rfl

theorem mem_zip_range {β : Type} (l : List β) (j : Nat) (e : β) :
    (j, e) ∈ (List.range l.length).zip l ↔ l[j]? = some e := by
  rw [zip_range_eq, List.mem_map]
  constructor
  · rintro ⟨p, hp, he⟩
    cases he
    exact List.mem_zipIdx_iff_getElem?.mp hp
  · intro h
    exact ⟨(e, j), List.mem_zipIdx_iff_getElem?.mpr h, rfl⟩

theorem keys_zip_range {β : Type} (l : List β) : keys ((List.range l.length).zip l) = List.range l.length :=
  List.map_fst_zip (by rw [List.length_range]; exact Nat.le_refl _)

theorem get?_zip_range {β : Type} (l : List β) (i : Nat) : AL.get? ((List.range l.length).zip l) i = l[i]? :=
  Option.ext fun x => (AL.mem_iff_get? _ ((keys_zip_range l).symm ▸ List.nodup_range) i x).symm.trans (mem_zip_range l i x)

omit [DecidableEq κ] in
theorem lookupItems_range (tab : List (K × κ)) (key : Nat → K) (c : Nat → Rat) (l : List κ)
    (h : ∀ i x, l[i]? = some x → AL.get? tab (key i) = some x) :
    lookupItems tab ((List.range l.length).map fun i => (key i, c i)) = some (l.zipIdx.map fun p => (p.1, c p.2)) := by
  rw [lookupItems, List.range_eq_range', ← List.zipIdx_map_snd 0 l, List.map_map, List.mapM_map]
  exact ListLib.mapM_eq_some_map _ _ _ fun p hp => by
    simp only [Function.comp, h p.2 p.1 (List.mem_zipIdx_iff_getElem?.mp hp), Option.map_some]

omit [DecidableEq κ] in
theorem keys_zipIdx_map {β : Type} (l : List κ) (c : Nat → β) : keys (l.zipIdx.map fun p => (p.1, c p.2)) = l := by
  rw [keys, List.map_map]
  exact List.zipIdx_map_fst 0 l

/-- the items `(l[i], c i)`: what both `s_*` routines return, read as a dict -/
theorem zipIdx_items_once (l : List κ) (c : Nat → Rat) (h : l.Nodup) :
    dictOf ((l.zipIdx).map fun p => (p.1, c p.2)) = (l.zipIdx).map (fun p => (p.1, c p.2)) ∧
    keys ((l.zipIdx).map fun p => (p.1, c p.2)) = l ∧
    ∀ i (hi : i < l.length), AL.get? ((l.zipIdx).map fun p => (p.1, c p.2)) l[i] = some (c i) := by
  have hk := keys_zipIdx_map l c
  have hnd : (keys ((l.zipIdx).map fun p => (p.1, c p.2))).Nodup := hk.symm ▸ h
  refine ⟨dictOf_of_nodup _ hnd, hk, fun i hi => AL.get?_of_mem _ _ _ hnd ?_⟩
  exact List.mem_map.mpr ⟨(l[i], i), List.mem_zipIdx_iff_getElem?.mpr (List.getElem?_eq_getElem hi), rfl⟩

end Dict

theorem toString_digits (i : Nat) : ∀ c ∈ (toString i).toList, c.isDigit = true := by
  intro c hc
  simp only [Nat.toString_eq_repr, Nat.toList_repr] at hc
  exact Nat.isDigit_of_mem_toDigits (by decide) (by decide) hc

theorem toString_inj {i j : Nat} (h : toString i = toString j) : i = j := by
  have h2 : (toString i).toList = (toString j).toList := by rw [h]
  simp only [Nat.toString_eq_repr, Nat.toList_repr] at h2
  have := congrArg (fun l => Nat.ofDigitChars 10 l 0) h2
  simpa using this

theorem isNodeName_nameN (i : Nat) : isNodeName (nameN i) = true := by
  simp only [isNodeName, nameN, String.toList_append, Bool.not_eq_true', List.contains_eq_mem, decide_eq_false_iff_not, List.mem_append, not_or]
  constructor
  · decide
  · intro h
    have := toString_digits i _ h
    exact absurd this (by decide)

theorem isNodeName_nameE (j : Nat) : isNodeName (nameE j) = false := by
  simp [isNodeName, nameE, String.toList_append]

theorem nameN_inj {i j : Nat} (h : nameN i = nameN j) : i = j :=
  toString_inj ((String.append_right_inj "N").mp h)

theorem nameE_inj {i j : Nat} (h : nameE i = nameE j) : i = j :=
  toString_inj ((String.append_right_inj "E").mp h)

theorem nameN_ne_nameE (i j : Nat) : nameN i ≠ nameE j := by
  intro h
  have h1 := isNodeName_nameN i
  rw [h, isNodeName_nameE] at h1
  exact Bool.noConfusion h1

section Once
variable {α : Type} [DecidableEq α]

/-- the value of `s_betweenness` / `s_closeness`: hyperedge number `i` (key `srt e_i`) gets `cent (lineGraph) i` -/
def edgeItems (cent : Graph Nat → Nat → Rat) (srt : List α → List α) (H : HG α) (s : Nat) : List (List α × Rat) :=
  ((H.edges.map srt).zipIdx).map fun p => (p.1, cent (lineGraph srt H s) p.2)

theorem sEdgesItems_eq (cent : Graph Nat → Nat → Rat) (srt : List α → List α) (H : HG α) (s : Nat) :
    sEdgesItems cent srt H s = some (edgeItems cent srt H s) := by
  have h := lookupItems_range (idTable srt H.edges) id (cent (lineGraph srt H s)) (H.edges.map srt) fun i x hx => by
    have := get?_zip_range (H.edges.map srt) i
    rw [List.length_map] at this
    exact this.trans hx
  rwa [List.length_map] at h

theorem keys_edgeItems (cent : Graph Nat → Nat → Rat) (srt : List α → List α) (H : HG α) (s : Nat) :
    keys (edgeItems cent srt H s) = H.edges.map srt :=
  keys_zipIdx_map (H.edges.map srt) (cent (lineGraph srt H s))

/-- the value of `s_betweenness_nodes` / `s_closeness_nodes`: node number `i` gets `cent (bipGraph) "N<i>"` -/
def nodeItems (cent : Graph String → String → Rat) (srt : List α → List α) (H : HG α) : List (Obj α × Rat) :=
  ((H.nodes.map Sum.inl).zipIdx).map fun p => (p.1, cent (bipGraph srt H) (nameN p.2))

theorem filter_names {β : Type} (A B : List Nat) (c : String → β) :
    (((A.map nameN ++ B.map nameE).map fun v => (v, c v)).filter fun p => isNodeName p.1)
      = A.map fun i => (nameN i, c (nameN i)) := by
  simp only [List.map_append, List.filter_append, List.map_map]
  have h1 : (A.map ((fun v => (v, c v)) ∘ nameN)).filter (fun p => isNodeName p.1)
      = A.map ((fun v => (v, c v)) ∘ nameN) := by
    apply List.filter_eq_self.mpr
    intro p hp
    simp only [List.mem_map, Function.comp] at hp
    obtain ⟨i, _, rfl⟩ := hp
    exact isNodeName_nameN i
  have h2 : (B.map ((fun v => (v, c v)) ∘ nameE)).filter (fun p => isNodeName p.1) = [] := by
    apply List.filter_eq_nil_iff.mpr
    intro p hp
    simp only [List.mem_map, Function.comp] at hp
    obtain ⟨j, _, rfl⟩ := hp
    simp [isNodeName_nameE]
  rw [h1, h2]; simp [Function.comp]

omit [DecidableEq α] in
theorem get?_bipTable_node (srt : List α → List α) (H : HG α) (i : Nat) (x : α) (hi : H.nodes[i]? = some x) :
    AL.get? (bipTable srt H) (nameN i) = some (Sum.inl x) := by
  rw [bipTable, get?_append, get?_map_kv nameN Sum.inl (fun a b => nameN_inj), get?_zip_range, hi]
  rfl

theorem sNodesItems_eq (cent : Graph String → String → Rat) (srt : List α → List α) (H : HG α) :
    sNodesItems cent srt H = some (nodeItems cent srt H) := by
  have h := lookupItems_range (bipTable srt H) nameN (fun i => cent (bipGraph srt H) (nameN i)) (H.nodes.map Sum.inl)
    fun i o ho => by
      rw [List.getElem?_map, Option.map_eq_some_iff] at ho
      obtain ⟨x, hx, rfl⟩ := ho
      exact get?_bipTable_node srt H i x hx
  rw [List.length_map] at h
  rw [sNodesItems, centDict, show (bipGraph srt H).verts = (List.range H.nodes.length).map nameN ++ (List.range H.edges.length).map nameE from rfl,
    filter_names]
  exact h

theorem keys_nodeItems (cent : Graph String → String → Rat) (srt : List α → List α) (H : HG α) :
    keys (nodeItems cent srt H) = H.nodes.map Sum.inl :=
  keys_zipIdx_map (H.nodes.map Sum.inl) fun i => cent (bipGraph srt H) (nameN i)

theorem lineGraph_verts_nodup (srt : List α → List α) (H : HG α) (s : Nat) : (lineGraph srt H s).verts.Nodup := List.nodup_range

theorem bipGraph_verts_nodup (srt : List α → List α) (H : HG α) : (bipGraph srt H).verts.Nodup := by
  refine List.nodup_append.mpr ⟨List.Pairwise.map nameN (fun _ _ hab e => hab (nameN_inj e)) List.nodup_range,
    List.Pairwise.map nameE (fun _ _ hab e => hab (nameE_inj e)) List.nodup_range, ?_⟩
  intro a ha b hb hab
  obtain ⟨i, _, rfl⟩ := List.mem_map.mp ha
  obtain ⟨j, _, rfl⟩ := List.mem_map.mp hb
  exact nameN_ne_nameE i j hab

theorem mem_bipEdges (srt : List α → List α) (H : HG α) (a b : String) :
    (a, b) ∈ (bipGraph srt H).edges ↔
      ∃ q e x, H.edges[q]? = some e ∧ x ∈ srt e ∧ a = nameE q ∧ b = nameN (H.nodes.idxOf x) := by
  simp only [bipGraph, bipEdges, List.mem_flatMap, List.mem_map, Prod.mk.injEq]
  constructor
  · rintro ⟨⟨q, e⟩, hq, x, hx, rfl, rfl⟩
    exact ⟨q, e, x, (mem_zip_range H.edges q e).mp hq, hx, rfl, rfl⟩
  · rintro ⟨q, e, x, hq, hx, rfl, rfl⟩
    exact ⟨(q, e), (mem_zip_range H.edges q e).mpr hq, x, hx, rfl, rfl⟩

end Once

section Averaged
variable {κ : Type} [DecidableEq κ]

theorem accumulate_cons (res : List (κ × Rat)) (p : κ × Rat) (t : List (κ × Rat)) :
    accumulate res (p :: t) = accumulate (AL.set res p.1 ((AL.get? res p.1).getD 0 + p.2)) t := rfl

theorem mem_keys_accumulate (res items : List (κ × Rat)) (k : κ) :
    k ∈ keys (accumulate res items) ↔ k ∈ keys res ∨ k ∈ keys items := by
  induction items generalizing res with
  | nil => exact (or_iff_left List.not_mem_nil).symm
  | cons p t ih =>
    rw [accumulate_cons, ih, mem_keys_set, or_comm (a := k = p.1), or_assoc]
    exact or_congr_right List.mem_cons.symm

theorem keys_accumulate_nodup (res items : List (κ × Rat)) (h : (keys res).Nodup) :
    (keys (accumulate res items)).Nodup := by
  induction items generalizing res with
  | nil => exact h
  | cons p t ih => exact ih _ (AL.keys_set_nodup res p.1 _ h)

theorem getD_accumulate (res items : List (κ × Rat)) (k : κ) (h : (keys items).Nodup) :
    (AL.get? (accumulate res items) k).getD 0 = (AL.get? res k).getD 0 + (AL.get? items k).getD 0 := by
  induction items generalizing res with
  | nil => exact (Rat.add_zero _).symm
  | cons p t ih =>
    obtain ⟨hp, ht⟩ := (nodup_keys_cons p t).mp h
    rw [accumulate_cons, ih _ ht, AL.get?_set]
    by_cases hk : p.1 = k
    · rw [if_pos hk, ← hk, (AL.get?_eq_none_iff t p.1).mpr hp, show AL.get? (p :: t) p.1 = some p.2 from if_pos rfl]
      exact Rat.add_zero _
    · rw [if_neg hk, show AL.get? (p :: t) k = AL.get? t k from if_neg hk]

/-- sum over the snapshots of the value of `k`, absent keys contributing 0 -/
def total (lists : List (List (κ × Rat))) (k : κ) : Rat := (lists.map fun l => (AL.get? l k).getD 0).sum

theorem mem_keys_foldl_accumulate (lists : List (List (κ × Rat))) (acc : List (κ × Rat)) (k : κ) :
    k ∈ keys (lists.foldl accumulate acc) ↔ k ∈ keys acc ∨ ∃ l ∈ lists, k ∈ keys l := by
  induction lists generalizing acc with
  | nil => simp
  | cons l t ih => simp only [List.foldl_cons, ih, mem_keys_accumulate, or_assoc, List.mem_cons, exists_eq_or_imp]

theorem keys_foldl_accumulate_nodup (lists : List (List (κ × Rat))) (acc : List (κ × Rat)) (h : (keys acc).Nodup) :
    (keys (lists.foldl accumulate acc)).Nodup := by
  induction lists generalizing acc with
  | nil => exact h
  | cons l t ih => exact ih _ (keys_accumulate_nodup acc l h)

theorem getD_foldl_accumulate (lists : List (List (κ × Rat))) (acc : List (κ × Rat)) (k : κ)
    (h : ∀ l ∈ lists, (keys l).Nodup) :
    (AL.get? (lists.foldl accumulate acc) k).getD 0 = (AL.get? acc k).getD 0 + total lists k := by
  induction lists generalizing acc with
  | nil => exact (Rat.add_zero _).symm
  | cons l t ih =>
    rw [List.foldl_cons, ih _ fun l' hl' => h l' (List.mem_cons_of_mem _ hl'),
      getD_accumulate acc l k (h l List.mem_cons_self), Rat.add_assoc]
    rfl

end Averaged

section Snap
variable {α : Type} [DecidableEq α]

theorem addNew_nodup {β : Type} [DecidableEq β] (l : List β) (x : β) (h : l.Nodup) : (addNew l x).Nodup :=
  ListLib.nodup_addIfNew Iff.rfl h

theorem foldl_addNew_nodup {β : Type} [DecidableEq β] (l acc : List β) (h : acc.Nodup) : (l.foldl addNew acc).Nodup :=
  ListLib.foldl_inv addNew addNew_nodup l acc h

theorem mem_foldl_addNew {β : Type} [DecidableEq β] (l acc : List β) (x : β) : x ∈ l.foldl addNew acc ↔ x ∈ acc ∨ x ∈ l :=
  ListLib.mem_foldl_of_step addNew (fun _ _ x => ListLib.mem_addIfNew Iff.rfl x) l acc x

theorem nodesOf_nodup (es : List (List α)) : (nodesOf es).Nodup := foldl_addNew_nodup _ _ List.nodup_nil

theorem nodup_map_snd_of_fst_const {β : Type} (t : Nat) (l : List (Nat × β)) (h : l.Nodup) (hc : ∀ p ∈ l, p.1 = t) :
    (l.map (·.2)).Nodup :=
  List.pairwise_map.mpr (h.imp_of_mem fun ha hb hne e => hne (Prod.ext ((hc _ ha).trans (hc _ hb).symm) e))

theorem snapshot_edges (srt : List α → List α) (T : THG α) (t : Nat) (hcanon : ∀ p ∈ T.edges, srt p.2 = p.2) :
    (snapshot srt T t).edges = (T.edges.filter fun p => p.1 = t).map (·.2) := by
  simp only [snapshot]
  apply List.map_congr_left
  intro p hp
  exact hcanon p (List.mem_filter.mp hp).1

theorem snapshot_edges_nodup (srt : List α → List α) (T : THG α) (t : Nat) (hT : T.edges.Nodup)
    (hcanon : ∀ p ∈ T.edges, srt p.2 = p.2) : ((snapshot srt T t).edges.map srt).Nodup := by
  have he := snapshot_edges srt T t hcanon
  have h2 : (snapshot srt T t).edges.map srt = (snapshot srt T t).edges := by
    rw [he, List.map_map]
    apply List.map_congr_left
    intro p hp
    exact hcanon p (List.mem_filter.mp hp).1
  rw [h2, he]
  apply nodup_map_snd_of_fst_const t
  · exact hT.filter _
  · intro p hp; simpa using (List.mem_filter.mp hp).2

theorem snapshot_nodes_nodup (srt : List α → List α) (T : THG α) (t : Nat) : (snapshot srt T t).nodes.Nodup :=
  nodesOf_nodup _

theorem nodup_map_inl (l : List α) : (l.map (Sum.inl : α → Obj α)).Nodup ↔ l.Nodup := by
  simp [List.Nodup, List.pairwise_map]

end Snap

section Relabel
variable {α β : Type} [DecidableEq α] [DecidableEq β]

theorem inter_perm_left {a a' : List α} (b : List α) (h : a.Perm a') : inter a b = inter a' b := by
  simp only [inter]; exact (h.filter _).length_eq

theorem inter_perm_right (a : List α) {b b' : List α} (h : b.Perm b') : inter a b = inter a b' := by
  simp only [inter]
  congr 1
  apply List.filter_congr
  intro x _
  simp [h.mem_iff]

theorem inter_map {f : α → β} (hf : Function.Injective f) (a b : List α) : inter (a.map f) (b.map f) = inter a b := by
  simp only [inter, List.filter_map, List.length_map]
  congr 1
  apply List.filter_congr
  intro x _
  have := ListLib.mem_map_inj f (fun _ _ e => hf e) b x
  simp only [Function.comp, this]

/-- relabelled key: `tuple(sorted(f(x) for x in e))` -/
def relKey (f : α → β) (srt' : List β → List β) (e : List α) : List β := srt' (e.map f)

theorem inter_relKey {f : α → β} (hf : Function.Injective f) (srt' : List β → List β) (hs' : ∀ l, (srt' l).Perm l)
    (a b : List α) : inter (relKey f srt' a) (relKey f srt' b) = inter a b := by
  simp only [relKey]
  rw [inter_perm_left _ (hs' _), inter_perm_right _ (hs' _), inter_map hf]

theorem lineEdges_map (s : Nat) (g : List α → List β) (tab : List (Nat × List α))
    (h : ∀ p ∈ tab, ∀ q ∈ tab, inter (g p.2) (g q.2) = inter p.2 q.2) :
    lineEdges s (tab.map fun p => (p.1, g p.2)) = lineEdges s tab := by
  induction tab with
  | nil => simp [lineEdges]
  | cons p t ih =>
    simp only [List.map_cons, lineEdges]
    rw [ih (fun a ha b hb => h a (by simp [ha]) b (by simp [hb]))]
    congr 1
    rw [List.filter_map, List.map_map]
    have : (t.filter ((fun q : Nat × List β => linked s (g p.2) q.2) ∘ fun p => (p.1, g p.2)))
        = t.filter (fun q => linked s p.2 q.2) := by
      apply List.filter_congr
      intro q hq
      simp only [Function.comp, linked]
      rw [h p (by simp) q (by simp [hq])]
    rw [this]
    simp [Function.comp]

theorem perm_flatMap_congr {γ δ : Type} (l : List γ) (f g : γ → List δ) (h : ∀ a ∈ l, (f a).Perm (g a)) :
    (l.flatMap f).Perm (l.flatMap g) := by
  induction l with
  | nil => simp
  | cons a t ih =>
    simp only [List.flatMap_cons]
    exact (h a (by simp)).append (ih fun b hb => h b (by simp [hb]))

/-- hypotheses on the two `sorted`: a permutation of the argument; the stored keys are sorted -/
structure RelabelHyp (f : α → β) (srt : List α → List α) (srt' : List β → List β) (H : HG α) : Prop where
  inj : Function.Injective f
  perm : ∀ l, (srt l).Perm l
  perm' : ∀ l, (srt' l).Perm l
  idem' : ∀ l, srt' (srt' l) = srt' l
  canon : ∀ e ∈ H.edges, srt e = e

variable {f : α → β} {srt : List α → List α} {srt' : List β → List β} {H : HG α}

theorem map_srt_canon (h : RelabelHyp f srt srt' H) : List.map srt H.edges = H.edges := by
  conv => rhs; rw [← List.map_id H.edges]
  apply List.map_congr_left; intro e he; simp [h.canon e he]

theorem map_srt'_relKey (h : RelabelHyp f srt srt' H) :
    (H.relabel f (relKey f srt')).edges.map srt' = H.edges.map (relKey f srt') := by
  simp only [HG.relabel, List.map_map]
  apply List.map_congr_left; intro e _; simp [relKey, h.idem']

theorem idTable_relabel (h : RelabelHyp f srt srt' H) :
    idTable srt' (H.relabel f (relKey f srt')).edges
      = (idTable srt H.edges).map fun p => (p.1, relKey f srt' p.2) := by
  simp only [idTable]
  rw [map_srt'_relKey h, map_srt_canon h, List.zip_map_right]
  simp only [HG.relabel, List.length_map]
  apply List.map_congr_left; intro p _; rfl

theorem lineGraph_relabel (h : RelabelHyp f srt srt' H) (s : Nat) :
    lineGraph srt' (H.relabel f (relKey f srt')) s = lineGraph srt H s := by
  simp only [lineGraph]
  rw [idTable_relabel h, lineEdges_map s (relKey f srt') _ (fun p _ q _ => inter_relKey h.inj srt' h.perm' p.2 q.2)]
  simp [HG.relabel]

theorem edgeItems_relabel (h : RelabelHyp f srt srt' H) (cent : Graph Nat → Nat → Rat) (s : Nat) :
    edgeItems cent srt' (H.relabel f (relKey f srt')) s
      = (edgeItems cent srt H s).map fun p => (relKey f srt' p.1, p.2) := by
  simp only [edgeItems]
  rw [lineGraph_relabel h, map_srt'_relKey h, map_srt_canon h, List.zipIdx_map, List.map_map, List.map_map]
  apply List.map_congr_left; intro p _; rfl

theorem bipGraph_relabel_verts (srt : List α → List α) (srt' : List β → List β) (g : List α → List β) (H : HG α) :
    (bipGraph srt' (H.relabel f g)).verts = (bipGraph srt H).verts := by
  simp [bipGraph, HG.relabel]

theorem bipGraph_relabel_edges (h : RelabelHyp f srt srt' H) :
    (bipGraph srt' (H.relabel f (relKey f srt'))).edges.Perm (bipGraph srt H).edges := by
  simp only [bipGraph, bipEdges, HG.relabel, List.length_map]
  rw [List.zip_map_right, List.flatMap_map]
  apply perm_flatMap_congr
  intro p hp
  have hp2 : p.2 ∈ H.edges := (List.of_mem_zip hp).2
  simp only [Prod.map, id]
  have e1 : srt' (relKey f srt' p.2) = srt' (p.2.map f) := by simp [relKey, h.idem']
  rw [e1, h.canon p.2 hp2]
  refine ((h.perm' _).map _).trans ?_
  rw [List.map_map]
  apply List.Perm.of_eq
  apply List.map_congr_left
  intro x _
  simp [Function.comp, ListLib.idxOf_map_inj f (fun _ _ e => h.inj e)]

theorem nodeItems_relabel (h : RelabelHyp f srt srt' H) (cent : Graph String → String → Rat)
    (hcent : ∀ g g' : Graph String, g.verts = g'.verts → g.edges.Perm g'.edges → cent g = cent g') :
    nodeItems cent srt' (H.relabel f (relKey f srt'))
      = (nodeItems cent srt H).map fun p => (Sum.map f (relKey f srt') p.1, p.2) := by
  simp only [nodeItems]
  rw [hcent _ _ (bipGraph_relabel_verts srt srt' _ H) (bipGraph_relabel_edges h)]
  simp only [HG.relabel, List.map_map]
  rw [show (Sum.inl ∘ f : α → Obj β) = (Sum.map f (relKey f srt')) ∘ Sum.inl from rfl, ← List.map_map, List.zipIdx_map,
    List.map_map]
  apply List.map_congr_left; intro p _; rfl
end Relabel
end C20
