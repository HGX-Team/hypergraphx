import Hgxv.Model.C04Dump
import Hgxv.Proofs.ListLib
/-! C04 - the serialisation dictionary: what is written is what is read (key names agree, nothing is dropped), and the
sum of `edge_overlap` does not depend on the order in which the set of layer names is walked. Core Lean only. -/
namespace C04

/-! What `expose s` holds under each name it writes. -/
@[simp] theorem lookup_expose_type (s : Store) : lookup (expose s) "type" = some (.str "MultiplexHypergraph") := by
  simp [expose, lookup]
@[simp] theorem lookup_expose_hmeta (s : Store) : lookup (expose s) "hypergraph_metadata" = some (.hmeta s.hmeta) := by
  simp [expose, lookup]
@[simp] theorem lookup_expose_nmeta (s : Store) : lookup (expose s) "node_metadata" = some (.nmeta s.nmeta) := by
  simp [expose, lookup]
@[simp] theorem lookup_expose_emeta (s : Store) : lookup (expose s) "edge_metadata" = some (.emeta s.emeta) := by
  simp [expose, lookup]
@[simp] theorem lookup_expose_weighted (s : Store) : lookup (expose s) "_weighted" = some (.flag s.weighted) := by
  simp [expose, lookup]
@[simp] theorem lookup_expose_weights (s : Store) : lookup (expose s) "_weights" = some (.weights s.weights) := by
  simp [expose, lookup]
@[simp] theorem lookup_expose_edgeList (s : Store) : lookup (expose s) "_edge_list" = some (.edgeList s.edgeList) := by
  simp [expose, lookup]
@[simp] theorem lookup_expose_adj (s : Store) : lookup (expose s) "_adj" = some (.adj s.adj) := by
  simp [expose, lookup]
@[simp] theorem lookup_expose_rev (s : Store) : lookup (expose s) "reverse_edge_list" = some (.rev s.rev) := by
  simp [expose, lookup]
@[simp] theorem lookup_expose_nextId (s : Store) : lookup (expose s) "next_edge_id" = some (.num s.nextId) := by
  simp [expose, lookup]
@[simp] theorem lookup_expose_layers (s : Store) : lookup (expose s) "existing_layers" = some (.layers s.layers) := by
  simp [expose, lookup]

/-- `populate_from_dict(expose_data_structures())` rebuilds the same tables: every name written is the name read -/
theorem populate_expose (s : Store) : populate (expose s) = s := by
  simp [populate]

theorem loadDump_expose (s : Store) : loadDump (expose s) = some s := by
  simp [loadDump, populate_expose]

theorem reload_eq (s : Store) : reload s = s := populate_expose s

theorem overlapIn_perm (s : Store) (raw : List Node) (o o' : List Layer) (h : o.Perm o') :
    overlapIn s o raw = overlapIn s o' raw := by
  unfold overlapIn
  exact ListLib.sum_perm_int (h.map _)

theorem overlapIn_layers (s : Store) (raw : List Node) : overlapIn s s.layers raw = overlap s raw := rfl

end C04
