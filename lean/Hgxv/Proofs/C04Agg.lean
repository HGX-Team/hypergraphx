import Hgxv.Model.C04Dump
import Hgxv.Proofs.C04Query
/-! C04 - aggregation and overlap. Core Lean only. -/
namespace C04
open AL

/-- what `Hypergraph.add_edge(e, w, md)` does to the table `edge ↦ (weight, metadata)` -/
def tblStep (wtd : Bool) (tbl : List (Edge × (Int × Meta))) (e : Edge) (w : Int) (md : Meta) : List (Edge × (Int × Meta)) :=
  AL.set tbl e (match get? tbl e with
    | none => (if wtd then w else one, md)
    | some (w0, _) => (if wtd then w0 + w else w0, md))

/-- the aggregate's hyperedge table: `tblStep` folded over the entries of the map, starting from `tbl` -/
def aggTable (wtd : Bool) (es : List (Key × (Int × Meta))) (tbl : List (Edge × (Int × Meta))) : List (Edge × (Int × Meta)) :=
  es.foldl (fun tbl r => tblStep wtd tbl r.1.1 r.2.1 r.2.2) tbl

theorem HSpec.addNode_present (h : HSpec) (n : Node) (hn : (get? h.nodes n).isSome) : h.addNode n [] = h := by
  unfold HSpec.addNode
  cases hg : get? h.nodes n with
  | none => simp [hg] at hn
  | some md =>
    cases md with
    | nil => simp only []; rw [set_same _ _ _ hg]
    | cons a t => rfl

theorem HSpec.foldl_addNode_present (h : HSpec) (e : List Node) (he : ∀ n ∈ e, (get? h.nodes n).isSome) :
    e.foldl (fun h n => h.addNode n []) h = h := by
  induction e with
  | nil => rfl
  | cons n ns ih =>
    simp only [List.foldl_cons]
    rw [HSpec.addNode_present h n (he n List.mem_cons_self)]
    exact ih (fun m hm => he m (List.mem_cons_of_mem _ hm))

theorem HSpec.addEdge_eq (h : HSpec) (e : Edge) (w : Int) (md : Meta) (he : ∀ n ∈ e, (get? h.nodes n).isSome)
    (hw : h.weighted = false → w = one) :
    h.addEdge e w md = some { h with edges := tblStep h.weighted h.edges e w md } := by
  unfold HSpec.addEdge
  have hc : ¬ ((!h.weighted && w != one) = true) := by
    cases hwt : h.weighted
    · simp [hw hwt]
    · simp
  rw [if_neg hc]
  unfold tblStep
  cases hg : get? h.edges e with
  | none =>
    simp only []
    congr 1
    exact HSpec.foldl_addNode_present _ e (fun n hn => he n hn)
  | some p => obtain ⟨w0, md0⟩ := p; rfl

theorem aggEdges_eq (s : Store) (es : List (Key × (Int × Meta))) (h : HSpec)
    (hes : ∀ r ∈ es, getWeight s r.1.1 r.1.2 = some r.2.1 ∧ getEdgeMeta s r.1.1 r.1.2 = some r.2.2 ∧
      (∀ n ∈ r.1.1, (get? h.nodes n).isSome) ∧ (h.weighted = false → r.2.1 = one)) :
    aggEdges s (es.map (·.1)) h = some { h with edges := aggTable h.weighted es h.edges } := by
  induction es generalizing h with
  | nil => rfl
  | cons r es ih =>
    obtain ⟨⟨e, l⟩, w, md⟩ := r
    obtain ⟨h1, h2, h3, h4⟩ := hes _ List.mem_cons_self
    simp only [List.map_cons, aggEdges]
    simp only at h1 h2 h3 h4
    rw [h1, h2]
    simp only []
    rw [HSpec.addEdge_eq h e w md h3 h4]
    simp only []
    rw [ih]
    · rfl
    · intro r hr
      exact hes r (List.mem_cons_of_mem _ hr)

theorem foldl_addNode_nodes (l : List (Node × Meta)) (h : HSpec) (hnd : (keys (h.nodes ++ l)).Nodup) :
    (l.foldl (fun h (p : Node × Meta) => h.addNode p.1 p.2) h).nodes = h.nodes ++ l ∧
    (l.foldl (fun h (p : Node × Meta) => h.addNode p.1 p.2) h).edges = h.edges ∧
    (l.foldl (fun h (p : Node × Meta) => h.addNode p.1 p.2) h).weighted = h.weighted ∧
    (l.foldl (fun h (p : Node × Meta) => h.addNode p.1 p.2) h).hmeta = h.hmeta := by
  induction l generalizing h with
  | nil => simp
  | cons p l ih =>
    obtain ⟨n, md⟩ := p
    simp only [List.foldl_cons]
    have hnone : get? h.nodes n = none := by
      rw [get?_eq_none_iff]
      simp only [keys, List.map_append, List.map_cons] at hnd
      have := (List.nodup_append.mp hnd).2.2
      intro hm
      exact this n hm n List.mem_cons_self rfl
    have hstep : (h.addNode n md) = { h with nodes := h.nodes ++ [(n, md)] } := by
      unfold HSpec.addNode; simp only [hnone]; rw [set_of_not_mem _ _ _ hnone]
    rw [hstep]
    have := ih { h with nodes := h.nodes ++ [(n, md)] } (by simpa using hnd)
    simpa using this

theorem aggregated_eq (s : Store) (h : Inv s) :
    aggregated s = some { weighted := s.weighted
                          hmeta := AL.set (AL.set s.hmeta hkWeighted (tokBool s.weighted)) hkType tokHypergraph
                          nodes := s.nmeta
                          edges := aggTable s.weighted (abs s).edges [] } := by
  unfold aggregated
  simp only []
  obtain ⟨f1, f2, f3, f4⟩ := foldl_addNode_nodes s.nmeta
    { weighted := s.weighted, hmeta := AL.set (AL.set s.hmeta hkWeighted (tokBool s.weighted)) hkType tokHypergraph }
    (by simpa using h.nm.nm_nodup)
  have hk : records s = (abs s).edges.map (·.1) := by rw [records_abs]; rfl
  rw [hk, aggEdges_eq]
  · simp only [f1, f2, f3, f4, List.nil_append]
  · intro r hr
    obtain ⟨hrec, hw, hm⟩ := abs_entry s h r hr
    obtain ⟨p, hp, hpk⟩ := List.mem_map.mp hrec
    have hrev := h.id.rev_of_edge _ _ (get?_of_mem _ _ _ h.id.el_nodup hp)
    refine ⟨hw, hm, fun n hn => ?_, fun hwt => getWeight_unweighted s h (f3.symm.trans hwt) _ _ _ hw⟩
    rw [f1]
    exact (h.nm.adj_nm n).mp (h.adj.nodes_in _ _ hrev n (hpk ▸ hn))

/-- `Spec.sumW` on a bare list of entries (`sumFor sp.edges e = sp.sumW e` by `rfl`), so that proofs can induct on the list -/
def sumFor (es : List (Key × (Int × Meta))) (e : Edge) : Int := ((es.filter (fun r => r.1.1 = e)).map (·.2.1)).sum

theorem sumFor_cons (r : Key × (Int × Meta)) (es : List (Key × (Int × Meta))) (e : Edge) :
    sumFor (r :: es) e = (if r.1.1 = e then r.2.1 else 0) + sumFor es e := by
  unfold sumFor
  by_cases h : r.1.1 = e <;> simp [h]

theorem sum_update (L : List Layer) (hL : L.Nodup) (l0 : Layer) (hl : l0 ∈ L) (g : Layer → Int) (a : Int) (hg : g l0 = 0) :
    (L.map (fun l => if l = l0 then a else g l)).sum = a + (L.map g).sum := by
  induction L with
  | nil => simp at hl
  | cons x xs ih =>
    have hnd := List.nodup_cons.mp hL
    simp only [List.map_cons, List.sum_cons]
    by_cases hx : x = l0
    · subst hx
      have : xs.map (fun l => if l = x then a else g l) = xs.map g := by
        apply List.map_congr_left
        intro l hl'
        have : l ≠ x := by intro he; subst he; exact hnd.1 hl'
        simp [this]
      rw [this]; simp [hg]
    · have hl' : l0 ∈ xs := by
        rcases List.mem_cons.mp hl with h | h
        · exact absurd h.symm hx
        · exact h
      rw [ih hnd.2 hl']; simp [hx]; omega

theorem overlap_sum (E : List (Key × (Int × Meta))) (L : List Layer) (e : Edge) (hE : (keys E).Nodup) (hL : L.Nodup)
    (hreg : ∀ r ∈ E, r.1.1 = e → r.1.2 ∈ L) :
    (L.map (fun l => ((get? E (e, l)).map (·.1)).getD 0)).sum = sumFor E e := by
  -- an entry with node set `e` adds its weight at exactly one position of the duplicate-free `L` (`sum_update`), any other
  -- entry changes no lookup
  induction E with
  | nil =>
    simp only [sumFor, get?, Option.map_none, Option.getD_none, List.filter_nil, List.map_nil, List.sum_nil]
    clear hL hreg
    induction L with
    | nil => rfl
    | cons x xs ih => simp [ih]
  | cons r E ih =>
    obtain ⟨⟨e0, l0⟩, w0, md0⟩ := r
    simp only [keys, List.map_cons, List.nodup_cons, List.mem_map] at hE
    have ih' := ih (by simpa [keys] using hE.2) (fun r hr => hreg r (List.mem_cons_of_mem _ hr))
    rw [sumFor_cons]
    by_cases he : e0 = e
    · subst he
      have hl0 : l0 ∈ L := hreg _ List.mem_cons_self rfl
      have hnone : get? E (e0, l0) = none := by
        rw [get?_eq_none_iff]; intro hm
        obtain ⟨p, hp, hpk⟩ := List.mem_map.mp hm
        exact hE.1 ⟨p, hp, hpk⟩
      have : (fun l => ((get? (((e0, l0), w0, md0) :: E) (e0, l)).map (·.1)).getD 0) =
          (fun l => if l = l0 then w0 else ((get? E (e0, l)).map (·.1)).getD 0) := by
        funext l
        simp only [get?]
        by_cases hl : l = l0
        · subst hl; simp
        · have : ¬ ((e0, l0) = (e0, l)) := by intro h; exact hl (Prod.mk.inj h).2.symm
          simp [this, hl]
      rw [this, sum_update L hL l0 hl0 _ w0 (by simp [hnone]), ih']
      simp
    · have : (fun l => ((get? (((e0, l0), w0, md0) :: E) (e, l)).map (·.1)).getD 0) =
          (fun l => ((get? E (e, l)).map (·.1)).getD 0) := by
        funext l
        have : ¬ ((e0, l0) = (e, l)) := by intro h; exact he (Prod.mk.inj h).1
        simp [get?, this]
      rw [this, ih']
      simp [he]

theorem overlapIn_eq (s : Store) (h : Inv s) (ls : List Layer) (hnd : ls.Nodup) (hsup : ∀ k ∈ records s, k.2 ∈ ls)
    (raw : List Node) : overlapIn s ls raw = sumFor (abs s).edges (canon raw) := by
  unfold overlapIn
  have : (fun l => (getWeight s raw l).getD 0) = (fun l => ((get? (abs s).edges (canon raw, l)).map (·.1)).getD 0) := by
    funext l; rw [getWeight_abs s raw l h]; rfl
  rw [this]
  exact overlap_sum _ _ _ (abs_keys_nodup s h) hnd (fun r hr _ => hsup _ (abs_entry s h r hr).1)

theorem overlap_eq (s : Store) (raw : List Node) (h : Inv s) : overlap s raw = sumFor (abs s).edges (canon raw) :=
  overlapIn_eq s h s.layers h.id.layers_nodup (registry_covers s h) raw

theorem sumFor_concrete (s : Store) (e : Edge) (h : Inv s) :
    sumFor (abs s).edges e = ((( records s).filter (fun k => k.1 = e)).map (fun k => (getWeight s k.1 k.2).getD 0)).sum := by
  rw [records_abs]
  unfold sumFor Spec.records keys
  rw [List.filter_map, List.map_map]
  congr 1
  apply List.map_congr_left
  intro r hr
  exact (show (getWeight s r.1.1 r.1.2).getD 0 = r.2.1 by rw [(abs_entry s h r (List.mem_filter.mp hr).1).2.1]; rfl).symm

/-! The folded aggregate table equals the declarative one of `Spec.aggregated`. -/

theorem rev_induction {α : Type} {P : List α → Prop} (h0 : P []) (h1 : ∀ l a, P l → P (l ++ [a])) : ∀ l, P l := by
  have key : ∀ l : List α, P l.reverse := by
    intro l
    induction l with
    | nil => exact h0
    | cons a t ih => rw [List.reverse_cons]; exact h1 _ _ ih
  intro l
  have := key l.reverse
  rwa [List.reverse_reverse] at this

theorem distinct_append_one (l : List Edge) (a : Edge) :
    Spec.distinct (l ++ [a]) = if a ∈ Spec.distinct l then Spec.distinct l else Spec.distinct l ++ [a] := by
  unfold Spec.distinct
  rw [List.foldl_append]
  rfl

theorem mem_distinct (l : List Edge) (a : Edge) : a ∈ Spec.distinct l ↔ a ∈ l :=
  (ListLib.mem_foldl_of_step _ (fun _ _ x => ListLib.mem_addIfNew Iff.rfl x) l [] a).trans (by simp)

theorem distinct_nodup (l : List Edge) : (Spec.distinct l).Nodup :=
  ListLib.foldl_inv _ (fun _ _ h => ListLib.nodup_addIfNew Iff.rfl h) l [] List.nodup_nil

/-- weight and metadata `Spec.aggregated` gives node set `e`, on a bare list of entries -/
def declVal (wtd : Bool) (es : List (Key × (Int × Meta))) (e : Edge) : Int × Meta :=
  (if wtd then ((es.filter (fun r => r.1.1 = e)).map (·.2.1)).sum else one,
   ((es.filter (fun r => r.1.1 = e)).map (·.2.2)).getLast?.getD [])

/-- the edge table of `Spec.aggregated` on a bare list of entries (`rfl` at `sp.edges`, see `aggregated_spec`) -/
def declTable (wtd : Bool) (es : List (Key × (Int × Meta))) : List (Edge × (Int × Meta)) :=
  (Spec.distinct (es.map (·.1.1))).map (fun e => (e, declVal wtd es e))

theorem keys_declTable (wtd : Bool) (es : List (Key × (Int × Meta))) :
    keys (declTable wtd es) = Spec.distinct (es.map (·.1.1)) := keys_keymap _ _

theorem get?_declTable (wtd : Bool) (es : List (Key × (Int × Meta))) (e : Edge) (he : e ∈ keys (declTable wtd es)) :
    get? (declTable wtd es) e = some (declVal wtd es e) := by
  rw [declTable, get?_keymap, if_pos (keys_declTable wtd es ▸ he)]

theorem declVal_snoc (wtd : Bool) (es : List (Key × (Int × Meta))) (r : Key × (Int × Meta)) (e' : Edge) :
    declVal wtd (es ++ [r]) e' =
      if r.1.1 = e' then (if wtd then (declVal true es e').1 + r.2.1 else one, r.2.2) else declVal wtd es e' := by
  unfold declVal
  rw [List.filter_append]
  by_cases h : r.1.1 = e'
  · cases wtd <;> simp [h]
  · simp [h]

theorem declTable_snoc (wtd : Bool) (es : List (Key × (Int × Meta))) (r : Key × (Int × Meta)) :
    declTable wtd (es ++ [r]) = tblStep wtd (declTable wtd es) r.1.1 r.2.1 r.2.2 := by
  obtain ⟨⟨e, l⟩, w, md⟩ := r
  have hother : ∀ e', e' ≠ e → declVal wtd (es ++ [((e, l), w, md)]) e' = declVal wtd es e' :=
    fun e' hne => by rw [declVal_snoc, if_neg (Ne.symm hne)]
  simp only [declTable, tblStep, List.map_append, List.map_cons, List.map_nil, distinct_append_one]
  rw [get?_keymap]
  by_cases hmem : e ∈ Spec.distinct (es.map (·.1.1))
  · -- a node set seen before: its value is updated in place
    simp only [hmem, if_true]
    rw [← set_keymap _ (declVal wtd es) (declVal wtd (es ++ [((e, l), w, md)])) e hmem (distinct_nodup _) hother,
      declVal_snoc, if_pos rfl]
    cases wtd <;> rfl
  · -- a new node set: appended at the end, it had no entries so far
    have hempty : es.filter (fun r => r.1.1 = e) = [] :=
      List.filter_eq_nil_iff.mpr fun r hr => by
        simpa using fun he => hmem ((mem_distinct _ _).mpr (List.mem_map.mpr ⟨r, hr, he⟩))
    simp only [hmem, if_false, List.map_append, List.map_cons, List.map_nil]
    rw [set_of_not_mem _ _ _ (by rw [get?_keymap, if_neg hmem]), declVal_snoc, if_pos rfl]
    congr 1
    · exact List.map_congr_left fun e' he' => by rw [hother e' (fun h => hmem (h ▸ he'))]
    · cases wtd <;> simp [declVal, hempty]

theorem aggTable_append (wtd : Bool) (es1 es2 : List (Key × (Int × Meta))) (tbl : List (Edge × (Int × Meta))) :
    aggTable wtd (es1 ++ es2) tbl = aggTable wtd es2 (aggTable wtd es1 tbl) := by
  simp only [aggTable, List.foldl_append]

theorem aggTable_eq_decl (wtd : Bool) (es : List (Key × (Int × Meta))) : aggTable wtd es [] = declTable wtd es := by
  induction es using rev_induction with
  | h0 => simp [aggTable, declTable, Spec.distinct]
  | h1 es r ih =>
    rw [aggTable_append, ih, declTable_snoc]
    simp [aggTable]

theorem aggregated_spec (s : Store) (h : Inv s) : aggregated s = some (Spec.aggregated (abs s)) := by
  rw [aggregated_eq s h, aggTable_eq_decl]
  rfl

theorem overlap_spec (s : Store) (raw : List Node) (h : Inv s) : overlap s raw = Spec.overlap (abs s) raw := by
  rw [overlap_eq s raw h]; rfl

end C04
