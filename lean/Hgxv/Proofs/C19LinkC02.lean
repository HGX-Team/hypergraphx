import Hgxv.Proofs.C02Total
import Hgxv.Proofs.C19LinkBase
import Hgxv.Proofs.C19RemoveList
/-! # C19 ↔ C02: `DirectedHypergraph`

`ofSpec02 : C02.Spec → Content Key Int` (keys `(sorted sources, sorted targets)` are C19's keys as they are).  Under the
content invariant `Dyn opsD C02.one CanonD` - well formed, unit weights when unweighted, both sides sorted and NO NODE ON
BOTH SIDES (`C02.Inv`'s `KeyWF`; the quantifier of C02/C19) - `C02.Spec.removeNode` (source-role incidences, then
target-role incidences: all re-insertions, then all removals) is `C19.removeNode opsD`, `C02.Spec.removeEdge` is
`C19.removeEdge`, with the same verdicts.

The side condition "no node on both sides" is necessary: `add_edge` accepts `((1,2),(1,3))`; `remove_node(1)` then lists
that hyperedge twice (once per role), re-inserts `((2),(3))` twice and raises on the second `remove_edge` - as
`C02.Spec.removeNode` does (witness `overlap02_rejected` below) - while C19's content model lists it once and accepts.

Second side condition, for `keep_edges=True` only (`NoNone`): no stored hyperedge metadata is the bare value `None`
(`C02.metaNone`).  `remove_node(keep_edges=True)` re-inserts a shrunk hyperedge with `add_edge(.., metadata=md)`, and a
metadata ARGUMENT `None` means "not given" (`C02.argMeta`): the re-inserted hyperedge gets `{}`, which the content model
of C19 (it re-adds the stored metadata as it is) does not express (witness `noneMeta02_differs`).  `NoNone` is kept by
`remove_node` / `remove_edge`, so it threads through the filter.
Core Lean only. -/
namespace C19
open AL

/-- the content of an abstract `DirectedHypergraph` -/
def ofSpec02 (a : C02.Spec) : Content Key Int :=
  { weighted := a.weighted, nodes := mapKV (fun n => n) mdOf a.nodes, edges := mapKV (fun k => k) recOf a.edges }

abbrev Dyn02 (c : Content Key Int) : Prop := Dyn opsD C02.one CanonD c

theorem nodes02_get (a : C02.Spec) (n : Node) : get? (ofSpec02 a).nodes n = (get? a.nodes n).map mdOf :=
  contentOf_get_node (fun k => k) n

theorem edges02_get (a : C02.Spec) (k : Key) : get? (ofSpec02 a).edges k = (get? a.edges k).map recOf :=
  contentOf_get_edge (fun k => k) (fun _ _ h => h) k

theorem addNode02 (a : C02.Spec) (n : Node) : C02.Spec.addNode a n none = { a with nodes := touchT a.nodes n } := by
  unfold C02.Spec.addNode touchT
  cases hg : get? a.nodes n with
  | none => rfl
  | some v =>
    cases v with
    | nil => simp only [Option.isSome_some, if_true, Option.getD_none]; rw [set_same _ _ _ hg]
    | cons x xs => rfl

theorem touchAll02 (ns : List Node) (a : C02.Spec) :
    C02.Spec.touchAll a ns = { a with nodes := ns.foldl touchT a.nodes } := by
  induction ns generalizing a with
  | nil => rfl
  | cons n ns ih => simp only [C02.Spec.touchAll, List.foldl_cons]; rw [addNode02, ih]

/-- `add_edge` on a canonical key with both optional arguments given -/
theorem addEdgeKey02 (a : C02.Spec) (k : Key) (w : Int) (md : C02.Meta) (hw : a.weighted = false → w = C02.one) :
    (C02.Spec.addEdgeKey a k (some w) (some md)).2 = .ok ∧
    ofSpec02 (C02.Spec.addEdgeKey a k (some w) (some md)).1 = addEdge opsD (ofSpec02 a) k w (mdOf md) := by
  have hc : (!a.weighted && (some w).isSome && (some w != some C02.one)) = false := by
    cases hwt : a.weighted with
    | true => rfl
    | false => simp [hw hwt]
  have hwv : (if a.weighted = true then w else C02.one) = w := by
    cases hwt : a.weighted with
    | true => simp
    | false => simp [hw hwt]
  rw [show ofSpec02 a = contentOf (fun k => k) a.weighted a.nodes a.edges from rfl,
    ← contentOf_add (fun k => k) (fun _ _ h => h) opsD (mem := fun k => k.1 ++ k.2) (fun _ => rfl)]
  unfold C02.Spec.addEdgeKey
  rw [hc]
  simp only [Bool.false_eq_true, if_false, Option.getD_some, hwv]
  cases hg : get? a.edges k with
  | none => simp only [touchAll02]; exact ⟨trivial, rfl⟩
  | some v => exact ⟨rfl, rfl⟩

theorem removeEdgeKey02 (a : C02.Spec) (k : Key) :
    ((get? (ofSpec02 a).edges k).isSome = true →
      (C02.Spec.removeEdgeKey a k).2 = .ok ∧ ofSpec02 (C02.Spec.removeEdgeKey a k).1 = removeEdge (ofSpec02 a) k) ∧
    ((get? (ofSpec02 a).edges k).isSome = false → C02.Spec.removeEdgeKey a k = (a, .rej)) := by
  rw [edges02_get, Option.isSome_map]
  unfold C02.Spec.removeEdgeKey AL.has
  constructor
  · intro hp
    rw [if_pos hp]
    exact ⟨rfl, contentOf_eraseEdge (fun k => k) (fun _ _ h => h) k⟩
  · intro hp
    rw [if_neg (by simp [hp])]

/-- `remove_edge(k)` for a key with sorted sides -/
theorem removeEdge02 (a : C02.Spec) (k : Key) (hk : SortedL k.1 ∧ SortedL k.2) :
    C02.Spec.removeEdge a (C02.RawEdge.ofKey k) = C02.Spec.removeEdgeKey a k := by
  unfold C02.Spec.removeEdge
  simp only [C02.RawEdge.ofKey, C02.canonStrict, C02.Side.strict, C02.sortNodes_of_sorted hk.1, C02.sortNodes_of_sorted hk.2]

/-- no stored hyperedge metadata is the bare value `None` (then `remove_node(keep_edges=True)` would reset it to `{}`) -/
def NoNone (c : Content Key Int) : Prop := ∀ e ∈ c.edges, e.2.2 ≠ mdOf C02.metaNone

theorem argMeta_of_ne {md : C02.Meta} (h : mdOf md ≠ mdOf C02.metaNone) : C02.argMeta md = md := by
  unfold C02.argMeta
  rw [if_neg]
  intro hb
  exact h (by rw [eq_of_beq hb])

theorem noNone_addEdge (c : Content Key Int) (k : Key) (w : Int) (md : Md) (h : NoNone c)
    (hmd : md ≠ mdOf C02.metaNone) : NoNone (addEdge opsD c k w md) := by
  intro e he
  unfold addEdge at he
  split at he
  · simp only [addEdgeOld] at he
    rcases mem_set _ _ _ _ he with rfl | h1
    · exact hmd
    · exact h e h1
  · simp only [addEdgeNew, List.mem_append, List.mem_singleton] at he
    rcases he with h1 | rfl
    · exact h e h1
    · exact hmd

theorem noNone_shrinkAdd (n : Node) (c : Content Key Int) (e : Key × (Int × Md)) (h : NoNone c)
    (hmd : e.2.2 ≠ mdOf C02.metaNone) : NoNone (shrinkAdd opsD n c e) := by
  unfold shrinkAdd
  split
  · exact h
  · exact noNone_addEdge c _ _ _ h hmd

/-- the re-insertion re-adds the metadata of an existing record -/
theorem noNone_shrinkAddK (n : Node) (c : Content Key Int) (k : Key) (h : NoNone c) : NoNone (shrinkAddK opsD n c k) := by
  unfold shrinkAddK
  split
  · exact h
  · rename_i v hv
    exact noNone_shrinkAdd n c (k, v) h (h (k, v) (mem_of_get? _ _ _ hv))

theorem noNone_removeEdge (c : Content Key Int) (k : Key) (h : NoNone c) : NoNone (removeEdge c k) :=
  fun e he => h e (mem_of_mem_erase _ _ _ he)

/-- `remove_node` (either mode) keeps the side condition: every metadata of the result is one of the input
(`removeNode_drop`, `removeNode_keep_md`) -/
theorem noNone_removeNode (keep : Bool) (c : Content Key Int) (n : Node) (hwf : WF opsD c) (h : NoNone c) :
    NoNone (removeNode opsD keep c n) := by
  intro e2 he2
  cases keep with
  | false =>
    rw [removeNode_drop opsD c n hwf.nodesNodup hwf.keysNodup] at he2
    exact h e2 (List.mem_filter.mp he2).1
  | true =>
    obtain ⟨e, he, _, hmd⟩ := removeNode_keep_md opsD lawful_D c hwf n e2 he2
    rw [hmd]; exact h e he

/-- the re-insertion of one incident hyperedge (its stored metadata is not the bare value `None`) -/
theorem reinsert02 (n : Node) (a : C02.Spec) (k : Key) (h : Dyn02 (ofSpec02 a)) (hnn : NoNone (ofSpec02 a))
    (hp : (get? (ofSpec02 a).edges k).isSome = true) :
    (C02.Spec.reinsert a n k).2 = .ok ∧ ofSpec02 (C02.Spec.reinsert a n k).1 = shrinkAddK opsD n (ofSpec02 a) k := by
  rw [edges02_get, Option.isSome_map] at hp
  obtain ⟨v, hv⟩ := Option.isSome_iff_exists.mp hp
  obtain ⟨w0, md0⟩ := v
  have hc : get? (ofSpec02 a).edges k = some (recOf (w0, md0)) := by rw [edges02_get, hv]; rfl
  have hmem : (k, recOf (w0, md0)) ∈ (ofSpec02 a).edges := mem_of_get? _ _ _ hc
  have hcan : CanonD k := h.canon _ hmem
  have hw : a.weighted = false → w0 = C02.one := fun hwt => h.unitw hwt _ hmem
  -- the spec re-inserts through its public `add_edge`: the guards pass because the shrunk key is canonical already (a
  -- filter of a sorted tuple) and, when unweighted, the weight read is the unit weight
  unfold C02.Spec.reinsert shrinkAddK
  rw [hc]
  unfold shrinkAdd
  simp only [C02.shrinkKey, filter_bne_without, opsD]
  by_cases hemp : without k.1 n = [] ∨ without k.2 n = []
  · have : ((without k.1 n).isEmpty || (without k.2 n).isEmpty) = true := by
      rcases hemp with h1 | h1 <;> simp [h1]
    simp only [this, if_true, hemp]
    exact ⟨trivial, trivial⟩
  · have hne : ((without k.1 n).isEmpty || (without k.2 n).isEmpty) = false := by
      have h1 : without k.1 n ≠ [] := fun e => hemp (Or.inl e)
      have h2 : without k.2 n ≠ [] := fun e => hemp (Or.inr e)
      cases hx : without k.1 n with
      | nil => exact absurd hx h1
      | cons _ _ =>
        cases hy : without k.2 n with
        | nil => exact absurd hy h2
        | cons _ _ => rfl
    simp only [hne, Bool.false_eq_true, if_false, hemp, hv]
    unfold C02.Spec.addEdge
    have hk' : C02.canonAdd (C02.RawEdge.ofKey (without k.1 n, without k.2 n)) = (without k.1 n, without k.2 n) := by
      simp only [C02.canonAdd, C02.RawEdge.ofKey, C02.Side.toList, C02.sortNodes_of_sorted (sortedL_without hcan.1 n),
        C02.sortNodes_of_sorted (sortedL_without hcan.2.1 n)]
    rw [hk', argMeta_of_ne (hnn _ hmem)]
    exact addEdgeKey02 a _ w0 md0 hw

/-- with no node on both sides, the spec's "source incidences then target incidences" is C19's incident list -/
theorem incident02 (a : C02.Spec) (n : Node) (hcan : ∀ e ∈ (ofSpec02 a).edges, CanonD e.1) :
    (incident opsD (ofSpec02 a) n).map (·.1) = C02.Spec.incidentKeys a n := by
  unfold incident C02.Spec.incidentKeys
  rw [List.map_append]
  have hmemk : ∀ p ∈ a.edges, CanonD p.1 := by
    intro p hp
    have : (p.1, recOf p.2) ∈ (ofSpec02 a).edges := by
      simp only [ofSpec02, mapKV, List.mem_map]
      exact ⟨p, hp, rfl⟩
    exact hcan _ this
  congr 1
  · apply keys_filter_mapKV
    intro p _
    simp only [opsD, List.contains_append]
    cases k1 : p.1.1.contains n <;> simp
  · apply keys_filter_mapKV
    intro p hp
    simp only [opsD, List.contains_append]
    cases k1 : p.1.1.contains n with
    | false => simp
    | true =>
      have hn1 : n ∈ p.1.1 := by simpa using k1
      have hn2 : n ∉ p.1.2 := (hmemk p hp).2.2 n hn1
      simp [hn2]

/-- `remove_node(node, keep_edges)` of the abstract `DirectedHypergraph` is C19's `removeNode opsD`; for
`keep_edges=True`: when no stored hyperedge metadata is the bare value `None` -/
theorem removeNode02 (a : C02.Spec) (h : Dyn02 (ofSpec02 a)) (n : Node) (keep : Bool)
    (hnn : keep = true → NoNone (ofSpec02 a)) :
    ((get? a.nodes n).isSome = true →
      (C02.Spec.removeNode a n keep).2 = .ok ∧
      ofSpec02 (C02.Spec.removeNode a n keep).1 = removeNode opsD keep (ofSpec02 a) n) ∧
    ((get? a.nodes n).isSome = false → C02.Spec.removeNode a n keep = (a, .rej)) := by
  refine ⟨fun hn => ?_, fun hn => by unfold C02.Spec.removeNode AL.has; simp [hn]⟩
  obtain ⟨a1, a2, p1, _, _, q1, _, hfin⟩ := batch_sim (ok := C02.Out.ok) (u := C02.one) (Canon := CanonD) (kf := fun k => k)
    (fun s k => C02.Spec.reinsert s n k) (fun s k => C02.Spec.removeEdge s (C02.RawEdge.ofKey k))
    (fun s ks => C02.Spec.reinsertAll s n ks) C02.Spec.removeKeys
    (fun _ => rfl) (fun s k ks h => by rw [C02.Spec.reinsertAll]; simp only [h])
    (fun _ => rfl) (fun s k ks h => by rw [C02.Spec.removeKeys]; simp only [h])
    NoNone (noNone_shrinkAddK n)
    (re_ok := fun a k hd hnn hp => reinsert02 n a k hd hnn hp)
    (rm_ok := fun a k hd hp => by
      obtain ⟨v, hv⟩ := Option.isSome_iff_exists.mp hp
      have hc := hd.canon _ (mem_of_get? _ _ _ hv)
      simp only [removeEdge02 a k ⟨hc.1, hc.2.1⟩]
      exact (removeEdgeKey02 a k).1 hp)
    lawful_D rfl canonShrink_D (fun _ _ e => e) a
    (C02.Spec.incidentKeys a n) ((incident02 a n h.canon).trans (List.map_id _).symm) h keep hnn
  have hres : C02.Spec.removeNode a n keep = ({ a2 with nodes := erase a2.nodes n }, .ok) := by
    unfold C02.Spec.removeNode AL.has
    simp only [hn, Bool.not_true, Bool.false_eq_true, if_false]
    rw [p1]
    rw [q1]
  rw [hres, ← hfin]
  exact ⟨rfl, contentOf_eraseNode (fun k => k) n⟩

/-- the corner the side condition excludes: `((1,2),(1,3))` is accepted by `add_edge`; `remove_node(1)` is then rejected
by the abstract `DirectedHypergraph` (as by the code: the second `remove_edge` of the same hyperedge raises) whereas the
content model accepts it -/
theorem overlap02_rejected :
    let a := (C02.Spec.addEdge {} (C02.RawEdge.ofLists [1, 2] [1, 3]) none none).1
    (C02.Spec.addEdge {} (C02.RawEdge.ofLists [1, 2] [1, 3]) none none).2 = .ok ∧
    (C02.Spec.removeNode a 1 false).2 = .rej ∧ (C02.Spec.removeNode a 1 true).2 = .rej ∧
    (removeNode? opsD true (ofSpec02 a) 1).isSome = true ∧ ¬ Dyn02 (ofSpec02 a) := by
  refine ⟨by decide, by decide, by decide, by decide, ?_⟩
  intro h
  have := (h.canon (([1, 2], [1, 3]), (C02.one, [])) (by decide)).2.2 1 (by decide)
  exact this (by decide)

/-- the invariants C02 proves for every reachable `DirectedHypergraph` object -/
def Inv02 (s : C02.Store) : Prop := C02.Inv s ∧ C02.Ord s ∧ C02.Unw s

theorem dyn02_of_inv (s : C02.Store) (h : Inv02 s) : Dyn02 (ofSpec02 (C02.abs s)) :=
  dyn_contentOf (fun k => k) opsD C02.one CanonD (fun _ _ e => e) (C02.abs_tab h.1 h.2.2) (fun _ => rfl)
    (fun _ hk => ⟨hk.sortedS, hk.sortedT, hk.disj⟩)

/-- `get_nodes(metadata=True)` / `get_edges(metadata=True)` of a `DirectedHypergraph` object -/
def view02 (s : C02.Store) : Content Key Int := ofSpec02 (C02.abs s)

def rmNode02 (keep : Bool) (s : C02.Store) (n : Node) : C02.Store × Bool :=
  ((C02.applyOp s (.removeNode n keep)).1, decide ((C02.applyOp s (.removeNode n keep)).2 = .ok))

def rmEdge02 (s : C02.Store) (k : Key) : C02.Store × Bool :=
  ((C02.applyOp s (.removeEdge (C02.RawEdge.ofKey k))).1,
   decide ((C02.applyOp s (.removeEdge (C02.RawEdge.ofKey k))).2 = .ok))

theorem inv02_applyOp (s : C02.Store) (op : C02.Op) (ho : op.WF) (h : Inv02 s) : Inv02 (C02.applyOp s op).1 :=
  ⟨C02.applyOp_inv s op ho h.1, C02.applyOp_ord s op ho h.1 h.2.1, C02.applyOp_unw s op h.1 h.2.2⟩

theorem rmNode02_link (keep : Bool) (s : C02.Store) (n : Node) (h : Inv02 s)
    (hnn : keep = true → NoNone (view02 s)) :
    ((rmNode02 keep s n).2 = true ↔ (removeNode? opsD keep (view02 s) n).isSome) ∧
    ((rmNode02 keep s n).2 = true → Inv02 (rmNode02 keep s n).1 ∧
      view02 (rmNode02 keep s n).1 = removeNode opsD keep (view02 s) n) := by
  rw [removeNode?_isSome, view02, nodes02_get, Option.isSome_map]
  exact verdict_store (C02.abs_applyOp s (.removeNode n keep) trivial h.1 h.2.1) (inv02_applyOp s (.removeNode n keep) trivial h)
    (removeNode02 (C02.abs s) (dyn02_of_inv s h) n keep hnn) nofun

theorem rmEdge02_link (s : C02.Store) (k : Key) (h : Inv02 s) (hk : CanonD k) :
    ((rmEdge02 s k).2 = true ↔ (removeEdge? (view02 s) k).isSome) ∧
    ((rmEdge02 s k).2 = true → Inv02 (rmEdge02 s k).1 ∧ view02 (rmEdge02 s k).1 = removeEdge (view02 s) k) := by
  have l := removeEdgeKey02 (C02.abs s) k
  rw [← removeEdge02 _ k ⟨hk.1, hk.2.1⟩] at l
  rw [removeEdge?_isSome]
  exact verdict_store (C02.abs_applyOp s (.removeEdge (C02.RawEdge.ofKey k)) trivial h.1 h.2.1)
    (inv02_applyOp s (.removeEdge (C02.RawEdge.ofKey k)) trivial h) l nofun

/-- the corner the side condition `NoNone` excludes: `set_edge_metadata(((1,2),(3)), None)` stores the bare value `None`;
`remove_node(2, keep_edges=True)` then re-inserts `((1),(3))` with `add_edge(.., metadata=None)`, i.e. with `{}` (the
object, as the code), whereas the content model of C19 carries the stored value over.  With `keep_edges=False` (no
re-insertion) the two agree on that state. -/
theorem noneMeta02_differs :
    let s := C02.run {} [.addEdge (.ofLists [1, 2] [3]) none none, .setEdgeMeta (.ofLists [1, 2] [3]) C02.metaNone]
    (view02 s).edges = [(([1, 2], [3]), (C02.one, mdOf C02.metaNone))] ∧ ¬ NoNone (view02 s) ∧
    (rmNode02 true s 2).2 = true ∧
    (view02 (rmNode02 true s 2).1).edges = [(([1], [3]), (C02.one, []))] ∧
    (removeNode opsD true (view02 s) 2).edges = [(([1], [3]), (C02.one, mdOf C02.metaNone))] ∧
    (view02 (rmNode02 false s 2).1).edges = (removeNode opsD false (view02 s) 2).edges := by
  refine ⟨by decide, ?_, by decide, by decide, by decide, by decide⟩
  intro h
  exact h (([1, 2], [3]), (C02.one, mdOf C02.metaNone)) (by decide) rfl

/-- **`filter_hypergraph` on a `DirectedHypergraph` object** (same statement as `filter01`; for `keep_edges=True` under
the side condition that no stored hyperedge metadata is the bare value `None`, which also holds afterwards). -/
theorem filter02 (s : C02.Store) (h : Inv02 s) (nc ec : Option Crit) (mode : Mode) (keep : Bool)
    (hnn : keep = true → NoNone (view02 s)) :
    let r := filterVia view02 (rmNode02 keep) rmEdge02 s nc ec mode
    r.2 = true ∧ Inv02 r.1 ∧ view02 r.1 = filterHg opsD (view02 s) nc ec mode keep ∧
      (keep = true → NoNone (view02 r.1)) := by
  have := filterVia_eq opsD lawful_D keep view02 (rmNode02 keep) rmEdge02
    (fun s => Inv02 s ∧ (keep = true → NoNone (view02 s))) CanonD
    (fun s hs => (dyn02_of_inv s hs.1).wf) (fun s hs => (dyn02_of_inv s hs.1).canon)
    (fun s n hs => by
      obtain ⟨l1, l2⟩ := rmNode02_link keep s n hs.1 hs.2
      refine ⟨l1, fun hacc => ⟨⟨(l2 hacc).1, fun hk => ?_⟩, (l2 hacc).2⟩⟩
      rw [(l2 hacc).2]
      exact noNone_removeNode keep _ n (dyn02_of_inv s hs.1).wf (hs.2 hk))
    (fun s k hs hk => by
      obtain ⟨l1, l2⟩ := rmEdge02_link s k hs.1 hk
      refine ⟨l1, fun hacc => ⟨⟨(l2 hacc).1, fun hk' => ?_⟩, (l2 hacc).2⟩⟩
      rw [(l2 hacc).2]
      exact noNone_removeEdge _ k (hs.2 hk'))
    s ⟨h, hnn⟩ nc ec mode
  exact ⟨this.1, this.2.1.1, this.2.2, this.2.1.2⟩

end C19
