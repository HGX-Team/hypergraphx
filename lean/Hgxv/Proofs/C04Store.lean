import Hgxv.Proofs.AL
import Hgxv.Model.C04Spec
/-! C04 - what the helper functions of the concrete store do: frames and lookups of `add_node` / `touchNodes` / `linkNodes` /
`unlinkNodes`; `add_edges` as validation (`batchArgs`) followed by its loop, on the store and on the map; `run` of an
appended history. Core Lean only. -/
namespace C04
open AL

/-- `add_node` writes `_adj` and `_node_metadata` only -/
theorem addNode_frame (s : Store) (n : Node) (md : Option Meta) :
    addNode s n md = { s with adj := (addNode s n md).adj, nmeta := (addNode s n md).nmeta } := by
  unfold addNode fillNodeMeta ensureNode
  split <;> split <;> rfl

theorem addNode_adj (s : Store) (n : Node) (md : Option Meta) (m : Node) :
    get? (addNode s n md).adj m = if m = n then some ((get? s.adj n).getD []) else get? s.adj m := by
  have key : get? (ensureNode s n).adj m = if m = n then some ((get? s.adj n).getD []) else get? s.adj m := by
    unfold ensureNode
    cases h : get? s.adj n with
    | none => simp [get?_set]; grind
    | some ids => simp; grind
  unfold addNode fillNodeMeta
  split <;> exact key

/-- the node-metadata table after `add_node`, given that `_adj` and `_node_metadata` have the same keys -/
theorem addNode_nmeta (s : Store) (n : Node) (md : Option Meta)
    (hs : (get? s.adj n).isSome ↔ (get? s.nmeta n).isSome) :
    (addNode s n md).nmeta =
      match get? s.nmeta n with
      | none => AL.set s.nmeta n (md.getD [])
      | some [] => AL.set s.nmeta n (md.getD [])
      | some _ => s.nmeta := by
  unfold addNode fillNodeMeta ensureNode
  cases h : get? s.adj n with
  | none =>
    have h2 : get? s.nmeta n = none := by
      cases h3 : get? s.nmeta n with
      | none => rfl
      | some x => simp [h, h3] at hs
    simp [h2, get?_set_self, set_set]
  | some ids =>
    have h2 : (get? s.nmeta n).isSome := hs.mp (by simp [h])
    cases h3 : get? s.nmeta n with
    | none => simp [h3] at h2
    | some x => cases x <;> simp [h3]

theorem addNode_nmeta_some (s : Store) (n : Node) (md : Option Meta) (m : Node)
    (hs : (get? s.adj n).isSome ↔ (get? s.nmeta n).isSome) :
    (get? (addNode s n md).nmeta m).isSome ↔ (m = n ∨ (get? s.nmeta m).isSome) := by
  rw [addNode_nmeta s n md hs]
  cases h : get? s.nmeta n with
  | none => simp only [get?_set]; grind
  | some x => cases x <;> simp only [get?_set] <;> grind

theorem touchNodes_frame (s : Store) (ns : List Node) :
    touchNodes s ns = { s with adj := (touchNodes s ns).adj, nmeta := (touchNodes s ns).nmeta } := by
  induction ns generalizing s with
  | nil => rfl
  | cons n ns ih => rw [touchNodes, ih, addNode_frame]

theorem touchNodes_adj (s : Store) (ns : List Node) (m : Node) :
    get? (touchNodes s ns).adj m = if m ∈ ns then some ((get? s.adj m).getD []) else get? s.adj m := by
  induction ns generalizing s with
  | nil => simp [touchNodes]
  | cons n ns ih =>
    simp only [touchNodes]
    rw [ih, addNode_adj]
    -- cases on `m = n` and `m ∈ ns`: a row that exists is kept, a missing one starts as `[]`
    grind

theorem linkNodes_adj (adj : List (Node × List Nat)) (id : Nat) (ns : List Node) (hnd : ns.Nodup) (m : Node) :
    get? (linkNodes adj id ns) m = if m ∈ ns then some (((get? adj m).getD []) ++ [id]) else get? adj m := by
  induction ns generalizing adj with
  | nil => rfl
  | cons n ns ih =>
    have hn := List.nodup_cons.mp hnd
    simp only [linkNodes]
    rw [ih _ hn.2, get?_set]
    by_cases hmn : n = m
    · subst hmn; simp [hn.1]
    · simp [hmn, Ne.symm hmn]

theorem linkNodes_keys (adj : List (Node × List Nat)) (id : Nat) (ns : List Node)
    (h : ∀ n ∈ ns, (get? adj n).isSome) : keys (linkNodes adj id ns) = keys adj := by
  induction ns generalizing adj with
  | nil => simp [linkNodes]
  | cons n ns ih =>
    simp only [linkNodes]
    rw [ih]
    · exact keys_set_of_mem _ _ _ (h n List.mem_cons_self)
    · intro m hm
      rw [get?_set]
      split
      · simp
      · exact h m (List.mem_cons_of_mem _ hm)

theorem unlinkNodes_adj (adj : List (Node × List Nat)) (id : Nat) (ns : List Node) (hnd : ns.Nodup) (m : Node) :
    get? (unlinkNodes adj id ns) m = if m ∈ ns then (get? adj m).map (fun ids => ids.erase id) else get? adj m := by
  induction ns generalizing adj with
  | nil => rfl
  | cons n ns ih =>
    have hn := List.nodup_cons.mp hnd
    simp only [unlinkNodes]
    rw [ih _ hn.2]
    by_cases hmn : n = m
    · subst hmn
      cases h : get? adj n <;> simp [hn.1, h, get?_set_self]
    · cases h : get? adj n <;> simp [hmn, Ne.symm hmn, get?_set]

theorem unlinkNodes_keys (adj : List (Node × List Nat)) (id : Nat) (ns : List Node) :
    keys (unlinkNodes adj id ns) = keys adj := by
  induction ns generalizing adj with
  | nil => simp [unlinkNodes]
  | cons n ns ih =>
    simp only [unlinkNodes]
    rw [ih]
    cases h : get? adj n with
    | none => rfl
    | some ids => exact keys_set_of_mem _ _ _ (by simp [h])

/-- what `add_edges` hands to its loop once every test has passed: whether the hypergraph is switched to weighted, and
the weight and metadata argument of each position; `none` = the call is rejected -/
def batchArgs (raws : List (List Node)) (ls : List Layer) (ws : Option (List Int)) (mds : Option (List Meta)) :
    Option (Bool × List (Option Int) × List (Option Meta)) :=
  if ls.length < raws.length ∨ mdsLenOK mds raws.length = false then none
  else
    let mdl := match mds with | some m => m.map some | none => List.replicate raws.length none
    match ws with
    | some wl => if (raws.zip ls).Nodup ∧ wl.length = raws.length then some (true, wl.map some, mdl) else none
    | none => some (false, List.replicate raws.length none, mdl)

theorem addEdges_eq (s : Store) (raws : List (List Node)) (ls : List Layer) (ws : Option (List Int)) (mds : Option (List Meta)) :
    addEdges s raws ls ws mds =
      match batchArgs raws ls ws mds with
      | none => (s, .rej)
      | some (p, wl, ml) => (addEdgesLoop (if p then { s with weighted := true } else s) (raws.zip ls) wl ml, .ok) := by
  unfold addEdges batchArgs
  by_cases h1 : ls.length < raws.length
  · simp [h1]
  · cases h2 : mdsLenOK mds raws.length
    · simp [h1, h2]
    · cases ws with
      | none => simp [h1, h2]; rfl
      | some wl =>
        by_cases h3 : (raws.zip ls).Nodup
        · by_cases h4 : wl.length = raws.length
          · simp [h1, h2, h3, h4]; rfl
          · simp [h1, h2, h3, h4]
        · simp [h1, h2, h3]

theorem Spec.addEdges_eq (sp : Spec) (raws : List (List Node)) (ls : List Layer) (ws : Option (List Int)) (mds : Option (List Meta)) :
    Spec.addEdges sp raws ls ws mds =
      match batchArgs raws ls ws mds with
      | none => (sp, .rej)
      | some (p, wl, ml) => (Spec.addEdgesLoop (if p then { sp with weighted := true } else sp) (raws.zip ls) wl ml, .ok) := by
  unfold Spec.addEdges batchArgs
  by_cases h1 : ls.length < raws.length
  · simp [h1]
  · cases h2 : mdsLenOK mds raws.length
    · simp [h1, h2]
    · cases ws with
      | none => simp [h1, h2]; rfl
      | some wl =>
        by_cases h3 : (raws.zip ls).Nodup
        · by_cases h4 : wl.length = raws.length
          · simp [h1, h2, h3, h4]; rfl
          · simp [h1, h2, h3, h4]
        · simp [h1, h2, h3]

/-- the loop arguments cover every position, and an explicit weight only occurs together with the switch to weighted -/
theorem batchArgs_some {raws : List (List Node)} {ls : List Layer} {ws : Option (List Int)} {mds : Option (List Meta)}
    {p : Bool} {wl : List (Option Int)} {ml : List (Option Meta)} (h : batchArgs raws ls ws mds = some (p, wl, ml)) :
    (raws.zip ls).length ≤ wl.length ∧ (raws.zip ls).length ≤ ml.length ∧ ∀ w ∈ wl, p = true ∨ w = none := by
  unfold batchArgs at h
  split at h
  · cases h
  · rename_i hc
    have hz : (raws.zip ls).length = raws.length := by rw [List.length_zip]; omega
    have hm : raws.length ≤ (match mds with | some m => m.map some | none => List.replicate raws.length none).length := by
      cases mds with
      | none => simp
      | some m => simp [mdsLenOK] at hc; simpa using hc.2
    cases ws with
    | none =>
      simp only [Option.some.injEq, Prod.mk.injEq] at h
      obtain ⟨rfl, rfl, rfl⟩ := h
      exact ⟨by simp [hz], by rw [hz]; exact hm, fun w hw => Or.inr (List.eq_of_mem_replicate hw)⟩
    | some wl0 =>
      simp only at h
      split at h
      · rename_i hw
        simp only [Option.some.injEq, Prod.mk.injEq] at h
        obtain ⟨rfl, rfl, rfl⟩ := h
        exact ⟨by simp [hz, hw.2], by rw [hz]; exact hm, fun _ _ => Or.inl rfl⟩
      · cases h

theorem run_append (s : Store) (a b : List Op) : run s (a ++ b) = run (run s a) b := by
  unfold run
  rw [List.foldl_append]

theorem Spec.run_append (sp : Spec) (a b : List Op) : Spec.run sp (a ++ b) = Spec.run (Spec.run sp a) b := by
  unfold Spec.run
  rw [List.foldl_append]

end C04
