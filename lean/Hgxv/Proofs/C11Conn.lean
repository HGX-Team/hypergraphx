import Hgxv.Proofs.C11Bits
/-! # C11 - what `_is_connected` decides, for every `n` and every list of node masks (core Lean only)

`connected n masks m` is true iff the hyperedges present in `m` link all `n` nodes: every non-empty set of nodes that
absorbs each present hyperedge it meets is everything (`Linked`, `connP_iff`).  The breadth-first closure is the least such
set around the first hyperedge; `n` rounds suffice because a round that changes something adds a node.  Equivalently every
cut is crossed by a present hyperedge, one `&&&` of `m` per cut (`connected_eq_cutFree`; with the crossing masks as literals,
`cutFreeK`, `cutFree_eq_K` in `Proofs/C11Cert.lean`, this is the form the kernel evaluates).
Renaming the nodes keeps `Linked` (`linked_image`). -/
namespace C11

/-- the body of the inner loop: a hyperedge that meets `r` joins it -/
def absorb (r nm : Nat) : Nat := if r &&& nm != 0 then r ||| nm else r

theorem testBit_absorb {r nm j : Nat} : (absorb r nm).testBit j = true ↔
    r.testBit j = true ∨ ((∃ i, r.testBit i = true ∧ nm.testBit i = true) ∧ nm.testBit j = true) := by
  unfold absorb
  by_cases h : r &&& nm ≠ 0
  · rw [if_pos (by simpa using h), Nat.testBit_or, Bool.or_eq_true]
    exact ⟨fun h' => h'.imp id fun h2 => ⟨land_ne_zero_iff.mp h, h2⟩, fun h' => h'.imp id fun h2 => h2.2⟩
  · rw [if_neg (by simpa using h)]
    exact ⟨Or.inl, fun h' => h'.resolve_right fun h2 => h (land_ne_zero_iff.mpr h2.1)⟩

/-- `P` absorbs every listed hyperedge it meets -/
def Stable (ps : List Nat) (P : Nat → Prop) : Prop :=
  ∀ nm ∈ ps, ∀ i, nm.testBit i = true → P i → ∀ j, nm.testBit j = true → P j

theorem round_mono (l : List Nat) : ∀ r j, r.testBit j = true → (l.foldl absorb r).testBit j = true := by
  induction l with
  | nil => intro r j h; exact h
  | cons a l ih => intro r j h; exact ih _ j (testBit_absorb.mpr (Or.inl h))

theorem round_least {P : Nat → Prop} (l : List Nat) (hP : Stable l P) :
    ∀ r, (∀ j, r.testBit j = true → P j) → ∀ j, (l.foldl absorb r).testBit j = true → P j := by
  induction l with
  | nil => intro r h; exact h
  | cons a l ih =>
    intro r h
    apply ih (fun nm hnm => hP nm (List.mem_cons_of_mem _ hnm))
    intro j hj
    rcases testBit_absorb.mp hj with h1 | ⟨⟨i, hri, hai⟩, haj⟩
    · exact h j h1
    · exact hP a List.mem_cons_self i hai (h i hri) j haj

theorem stable_of_round_eq (l : List Nat) : ∀ r, l.foldl absorb r = r → Stable l (fun j => r.testBit j = true) := by
  induction l with
  | nil => intro r _ nm h; cases h
  | cons a l ih =>
    intro r h
    have ha : absorb r a = r := by
      apply Nat.eq_of_testBit_eq
      intro j
      rw [Bool.eq_iff_iff]
      refine ⟨fun hj => ?_, fun hj => testBit_absorb.mpr (Or.inl hj)⟩
      rw [← h]; exact round_mono l _ j hj
    rw [List.foldl_cons, ha] at h
    intro nm hnm i hi hri j hj
    rcases List.mem_cons.mp hnm with rfl | hnm
    · rw [← ha]; exact testBit_absorb.mpr (Or.inr ⟨⟨i, hri, hi⟩, hj⟩)
    · exact ih r h nm hnm i hi hri j hj

theorem countP_lt_of_imp {α} {p q : α → Bool} {l : List α} (h : ∀ x ∈ l, p x = true → q x = true) {a : α}
    (ha : a ∈ l) (hq : q a = true) (hp : p a = false) : l.countP p < l.countP q := by
  induction l with
  | nil => cases ha
  | cons x l ih =>
    have hl : l.countP p ≤ l.countP q := List.countP_mono_left fun y hy => h y (List.mem_cons_of_mem _ hy)
    rw [List.countP_cons, List.countP_cons]
    rcases List.mem_cons.mp ha with rfl | ha
    · rw [hq, hp, if_pos rfl, if_neg (by simp)]; omega
    · have := ih (fun y hy => h y (List.mem_cons_of_mem _ hy)) ha
      cases hpx : p x with
      | false => rw [if_neg (by simp)]; omega
      | true => rw [h x List.mem_cons_self hpx]; omega

def card (n r : Nat) : Nat := (List.range n).countP fun j => r.testBit j

theorem card_round_lt {n : Nat} {ps : List Nat} {r : Nat} (hlt : ∀ j, (ps.foldl absorb r).testBit j = true → j < n)
    (hne : ps.foldl absorb r ≠ r) : card n r < card n (ps.foldl absorb r) := by
  obtain ⟨j, hj⟩ := Nat.exists_testBit_ne_of_ne hne
  cases h1 : r.testBit j with
  | true => rw [round_mono ps r j h1, h1] at hj; exact absurd rfl hj
  | false =>
    have h2 : (ps.foldl absorb r).testBit j = true := by
      cases h2 : (ps.foldl absorb r).testBit j with
      | true => rfl
      | false => rw [h1, h2] at hj; exact absurd rfl hj
    exact countP_lt_of_imp (fun x _ => round_mono ps r x) (List.mem_range.mpr (hlt j h2)) h2 h1

def rounds (ps : List Nat) (k r : Nat) : Nat := (List.range k).foldl (fun r _ => ps.foldl absorb r) r

theorem rounds_succ (ps : List Nat) (k r : Nat) : rounds ps (k+1) r = ps.foldl absorb (rounds ps k r) := by
  unfold rounds; rw [List.range_succ, List.foldl_append]; rfl

theorem rounds_mono (ps : List Nat) (k : Nat) {r j : Nat} (h : r.testBit j = true) : (rounds ps k r).testBit j = true := by
  induction k with
  | zero => exact h
  | succ k ih => rw [rounds_succ]; exact round_mono ps _ j ih

theorem rounds_least {P : Nat → Prop} {ps : List Nat} (hP : Stable ps P) {r : Nat}
    (h : ∀ j, r.testBit j = true → P j) (k : Nat) : ∀ j, (rounds ps k r).testBit j = true → P j := by
  induction k with
  | zero => exact h
  | succ k ih => rw [rounds_succ]; exact round_least ps hP _ ih

theorem rounds_fixed {n : Nat} {ps : List Nat} (hb : ∀ nm ∈ ps, nm < 2 ^ n) {r0 : Nat} (hr : r0 < 2 ^ n) (h0 : r0 ≠ 0) :
    ps.foldl absorb (rounds ps n r0) = rounds ps n r0 := by
  have hlt : ∀ k j, (rounds ps k r0).testBit j = true → j < n :=
    rounds_least (fun nm hnm _ _ _ j hj => lt_two_pow_iff.mp (hb nm hnm) j hj) (lt_two_pow_iff.mp hr)
  -- after `k` rounds: at a fixed point, or more than `k` nodes
  have key : ∀ k, ps.foldl absorb (rounds ps k r0) = rounds ps k r0 ∨ k + 1 ≤ card n (rounds ps k r0) := by
    intro k
    induction k with
    | zero =>
      obtain ⟨i, hi⟩ := Nat.exists_testBit_of_ne_zero h0
      exact Or.inr (List.countP_pos_iff.mpr ⟨i, List.mem_range.mpr (lt_two_pow_iff.mp hr i hi), hi⟩)
    | succ k ih =>
      by_cases hfix : ps.foldl absorb (rounds ps k r0) = rounds ps k r0
      · left; rw [rounds_succ, hfix, hfix]
      · right
        have := card_round_lt (n := n) (by rw [← rounds_succ]; exact hlt (k+1)) hfix
        rw [rounds_succ]
        have := ih.resolve_left hfix
        omega
  refine (key n).resolve_right ?_
  have : card n (rounds ps n r0) ≤ n := by
    unfold card; simpa using List.countP_le_length (l := List.range n)
  omega

/-- the hyperedges `ps` link the nodes `0..n-1`: a non-empty stable set of nodes contains all of them -/
def Linked (n : Nat) (ps : List Nat) : Prop :=
  ∀ P : Nat → Prop, Stable ps P → ∀ i, i < n → P i → ∀ j, j < n → P j

def present (masks : List Nat) (m : Nat) : List Nat :=
  (masks.zipIdx).filterMap fun (nm, i) => if m.testBit i then some nm else none

/-- `_is_connected` on the list of present hyperedges -/
def connP (n : Nat) (ps : List Nat) : Bool :=
  match ps with
  | [] => false
  | first :: _ =>
    (ps.foldl (· ||| ·) 0 == (1 <<< n) - 1) &&
      (rounds ps n first == (1 <<< n) - 1)

theorem connected_eq (n : Nat) (masks : List Nat) (m : Nat) : connected n masks m = connP n (present masks m) := by
  unfold connected connP present
  cases (masks.zipIdx).filterMap fun (nm, i) => if m.testBit i then some nm else none <;> rfl

theorem testBit_foldl_or (l : List Nat) : ∀ a j, (l.foldl (· ||| ·) a).testBit j = true ↔
    a.testBit j = true ∨ ∃ nm ∈ l, nm.testBit j = true := by
  induction l with
  | nil => intro a j; simp
  | cons x l ih =>
    intro a j
    rw [List.foldl_cons, ih, Nat.testBit_or, Bool.or_eq_true]
    simp only [List.mem_cons, exists_eq_or_imp, or_assoc]

theorem eq_full_iff {n r : Nat} : r = (1 <<< n) - 1 ↔ ∀ j, r.testBit j = true ↔ j < n := by
  rw [Nat.one_shiftLeft]
  constructor
  · rintro rfl j; rw [Nat.testBit_two_pow_sub_one]; simp
  · intro h
    apply Nat.eq_of_testBit_eq
    intro j
    rw [Nat.testBit_two_pow_sub_one, Bool.eq_iff_iff, h]; simp

theorem connP_iff {n : Nat} (hn : 2 ≤ n) {ps : List Nat} (hb : ∀ nm ∈ ps, nm < 2 ^ n) (hne : ∀ nm ∈ ps, nm ≠ 0) :
    connP n ps = true ↔ Linked n ps := by
  have hbP : Stable ps (fun j => j < n) := fun nm hnm _ _ _ j hj => lt_two_pow_iff.mp (hb nm hnm) j hj
  constructor
  · intro h P hP i hi hPi j hj
    cases ps with
    | nil => exact absurd h (by simp [connP])
    | cons first rest =>
      simp only [connP, Bool.and_eq_true, beq_iff_eq] at h
      have hreach := eq_full_iff.mp h.2
      -- the closure lies on one side of `P`, and it is everything
      obtain ⟨i0, hi0⟩ := Nat.exists_testBit_of_ne_zero (hne first List.mem_cons_self)
      by_cases hP0 : P i0
      · apply rounds_least hP (fun k hk => hP first List.mem_cons_self i0 hi0 hP0 k hk) n j
        exact (hreach j).mpr hj
      · exfalso
        have hN : Stable (first :: rest) (fun k => ¬ P k) := by
          intro nm hnm a ha hPa b hb hPb
          exact hPa (hP nm hnm b hb hPb a ha)
        exact rounds_least hN (fun k hk hPk => hP0 (hP first List.mem_cons_self k hk hPk i0 hi0)) n i
          ((hreach i).mpr hi) hPi
  · intro hL
    cases ps with
    | nil =>
      -- no hyperedge: `{0}` is stable, so it would contain node 1
      have := hL (fun k => k = 0) (fun nm h => by cases h) 0 (by omega) rfl 1 (by omega)
      omega
    | cons first rest =>
      obtain ⟨i0, hi0⟩ := Nat.exists_testBit_of_ne_zero (hne first List.mem_cons_self)
      have hi0n : i0 < n := lt_two_pow_iff.mp (hb first List.mem_cons_self) i0 hi0
      simp only [connP, Bool.and_eq_true, beq_iff_eq]
      constructor
      · -- the covered nodes form a stable set
        rw [eq_full_iff]
        intro j
        rw [testBit_foldl_or]
        simp only [Nat.zero_testBit, Bool.false_eq_true, false_or]
        constructor
        · rintro ⟨nm, hnm, hj⟩; exact lt_two_pow_iff.mp (hb nm hnm) j hj
        · exact hL (fun k => ∃ nm ∈ first :: rest, nm.testBit k = true)
            (fun nm hnm _ _ _ b hb => ⟨nm, hnm, hb⟩) i0 hi0n ⟨first, List.mem_cons_self, hi0⟩ j
      · rw [eq_full_iff]
        intro j
        have hfix := rounds_fixed hb (hb first List.mem_cons_self) (hne first List.mem_cons_self)
        constructor
        · exact rounds_least hbP (lt_two_pow_iff.mp (hb first List.mem_cons_self)) n j
        · exact hL _ (stable_of_round_eq _ _ hfix) i0 hi0n (rounds_mono _ n hi0) j

theorem testBit_nodeMask_aux (e : List Nat) : ∀ a j,
    (e.foldl (fun a v => a ||| (1 <<< v)) a).testBit j = true ↔ a.testBit j = true ∨ j ∈ e := by
  induction e with
  | nil => intro a j; simp
  | cons v e ih =>
    intro a j
    rw [List.foldl_cons, ih, Nat.testBit_or, Nat.one_shiftLeft, Nat.testBit_two_pow, Bool.or_eq_true,
      decide_eq_true_eq, List.mem_cons, or_assoc, eq_comm (a := v)]

theorem testBit_nodeMask {e : List Nat} {j : Nat} : (nodeMask e).testBit j = true ↔ j ∈ e := by
  unfold nodeMask; rw [testBit_nodeMask_aux]; simp

theorem mem_present {masks : List Nat} {m nm : Nat} :
    nm ∈ present masks m ↔ ∃ i, masks[i]? = some nm ∧ m.testBit i = true := by
  unfold present
  simp only [List.mem_filterMap, Prod.exists, List.mem_zipIdx_iff_getElem?]
  constructor
  · rintro ⟨a, i, h, hi⟩
    by_cases hb : m.testBit i = true
    · rw [if_pos hb] at hi; exact ⟨i, by rw [h, ← Option.some.inj hi], hb⟩
    · rw [if_neg hb] at hi; cases hi
  · rintro ⟨i, h, hb⟩; exact ⟨nm, i, h, by rw [if_pos hb]⟩

/-- hyperedge `nm` has a node in `a` and a node outside -/
def crossB (a nm : Nat) : Bool := nm &&& a != 0 && nm &&& a != nm

theorem crossB_iff {a nm : Nat} : crossB a nm = true ↔
    (∃ x, nm.testBit x = true ∧ a.testBit x = true) ∧ ∃ y, nm.testBit y = true ∧ a.testBit y = false := by
  unfold crossB
  rw [Bool.and_eq_true, bne_iff_ne, bne_iff_ne, land_ne_zero_iff]
  refine and_congr Iff.rfl ⟨fun h => ?_, ?_⟩
  · obtain ⟨y, hy⟩ := Nat.exists_testBit_ne_of_ne h
    rw [Nat.testBit_and] at hy
    -- where `nm &&& a` and `nm` differ, the bit is set in `nm` and not in `a`
    cases h1 : nm.testBit y with
    | false => rw [h1, Bool.false_and] at hy; exact absurd rfl hy
    | true =>
      cases h2 : a.testBit y with
      | true => rw [h1, h2] at hy; exact absurd rfl hy
      | false => exact ⟨y, h1, h2⟩
  · rintro ⟨y, hy, hay⟩ h
    have := congrArg (·.testBit y) h
    simp [Nat.testBit_and, hy, hay] at this

open Classical in
/-- every cut `a` (a non-empty proper set of nodes) is crossed by a hyperedge -/
theorem linked_iff_crossed {n : Nat} {ps : List Nat} (hb : ∀ nm ∈ ps, nm < 2 ^ n) :
    Linked n ps ↔ ∀ a, 0 < a → a < 2 ^ n - 1 → ∃ nm ∈ ps, crossB a nm = true := by
  constructor
  · -- a cut that is not crossed is a stable set
    intro hL a h0 hlt
    obtain ⟨i, hi⟩ := Nat.exists_testBit_of_ne_zero (Nat.pos_iff_ne_zero.mp h0)
    have hin : i < n := lt_two_pow_iff.mp (by omega) i hi
    apply Classical.byContradiction
    intro hno
    have hst : Stable ps (fun k => a.testBit k = true) := by
      intro nm hnm x hx hax y hy
      cases hay : a.testBit y with
      | true => rfl
      | false => exact absurd ⟨nm, hnm, crossB_iff.mpr ⟨⟨x, hx, hax⟩, y, hy, hay⟩⟩ hno
    have hall := hL _ hst i hin hi
    have : a = (1 <<< n) - 1 := eq_full_iff.mpr fun j => ⟨lt_two_pow_iff.mp (by omega) j, hall j⟩
    rw [Nat.one_shiftLeft] at this
    omega
  · -- a stable set that misses a node is a cut
    intro hC P hP i hi hPi j hj
    apply Classical.byContradiction
    intro hPj
    have hbit : ∀ k, (nodeMask ((List.range n).filter fun k => decide (P k))).testBit k = true ↔ k < n ∧ P k := by
      intro k; rw [testBit_nodeMask]; simp
    generalize nodeMask ((List.range n).filter fun k => decide (P k)) = a at hbit
    have ha0 : 0 < a := Nat.pos_iff_ne_zero.mpr fun h => by
      have := (hbit i).mpr ⟨hi, hPi⟩; rw [h, Nat.zero_testBit] at this; exact absurd this (by simp)
    have halt : a < 2 ^ n - 1 := by
      have h1 : a < 2 ^ n := lt_two_pow_iff.mpr fun k hk => ((hbit k).mp hk).1
      have h2 : a ≠ 2 ^ n - 1 := fun h => hPj ((hbit j).mp (by rw [h, Nat.testBit_two_pow_sub_one]; simpa using hj)).2
      omega
    obtain ⟨nm, hnm, hc⟩ := hC a ha0 halt
    obtain ⟨⟨x, hx, hax⟩, y, hy, hay⟩ := crossB_iff.mp hc
    have hyn : y < n := lt_two_pow_iff.mp (hb nm hnm) y hy
    have hPy := hP nm hnm x hx ((hbit x).mp hax).2 y hy
    rw [(hbit y).mpr ⟨hyn, hPy⟩] at hay
    exact absurd hay (by simp)

/-- the hyperedges of `masks` that cross the cut `a`, as a mask over their positions -/
def crossMask (masks : List Nat) (a : Nat) : Nat :=
  nodeMask ((List.range masks.length).filter fun i => crossB a (masks.getD i 0))

theorem crossed_present {masks : List Nat} {m a : Nat} :
    (∃ nm ∈ present masks m, crossB a nm = true) ↔ m &&& crossMask masks a ≠ 0 := by
  rw [land_ne_zero_iff]
  unfold crossMask
  simp only [mem_present, testBit_nodeMask, List.mem_filter, List.mem_range]
  constructor
  · rintro ⟨nm, ⟨i, hi, hb⟩, hc⟩
    obtain ⟨hlt, rfl⟩ := List.getElem?_eq_some_iff.mp hi
    exact ⟨i, hb, hlt, by rw [ListLib.getD_of_lt _ _ hlt]; exact hc⟩
  · rintro ⟨i, hb, hlt, hc⟩
    exact ⟨masks.getD i 0, ⟨i, by rw [ListLib.getD_of_lt _ _ hlt]; exact List.getElem?_eq_getElem hlt, hb⟩, hc⟩

/-- `_is_connected` as a test of `m` against the hyperedges crossing each cut `a = 1 .. 2^n - 2` -/
def cutFree (n : Nat) (masks : List Nat) (m : Nat) : Bool :=
  (List.range (2 ^ n - 2)).all fun k => m &&& crossMask masks (k+1) != 0

theorem connected_iff_linked {n : Nat} (hn : 2 ≤ n) {masks : List Nat} (hb : ∀ nm ∈ masks, nm < 2 ^ n)
    (hne : ∀ nm ∈ masks, nm ≠ 0) (m : Nat) : connected n masks m = true ↔ Linked n (present masks m) := by
  have hsub : ∀ nm ∈ present masks m, nm ∈ masks := fun nm h => by
    obtain ⟨i, hi, _⟩ := mem_present.mp h; exact List.mem_of_getElem? hi
  rw [connected_eq, connP_iff hn (fun nm h => hb nm (hsub nm h)) (fun nm h => hne nm (hsub nm h))]

theorem connected_eq_cutFree {n : Nat} (hn : 2 ≤ n) {masks : List Nat} (hb : ∀ nm ∈ masks, nm < 2 ^ n)
    (hne : ∀ nm ∈ masks, nm ≠ 0) (m : Nat) : connected n masks m = cutFree n masks m := by
  have hsub : ∀ nm ∈ present masks m, nm ∈ masks := fun nm h => by
    obtain ⟨i, hi, _⟩ := mem_present.mp h; exact List.mem_of_getElem? hi
  rw [Bool.eq_iff_iff, connected_iff_linked hn hb hne, linked_iff_crossed (fun nm h => hb nm (hsub nm h))]
  simp only [cutFree, List.all_eq_true, List.mem_range, bne_iff_ne, ← crossed_present]
  constructor
  · intro h k hk; exact h (k+1) (by omega) (by omega)
  · intro h a h0 hlt
    have := h (a - 1) (by omega)
    rwa [show a - 1 + 1 = a by omega] at this

/-- the node set `nm'` is the image of the node set `nm` under `f` -/
def Img (f : Nat → Nat) (nm nm' : Nat) : Prop := ∀ y, nm'.testBit y = true ↔ ∃ v, nm.testBit v = true ∧ f v = y

/-- the images of linking hyperedges under a map onto `0..n-1` are linking: a set stable for the images pulls back to
a set stable for the originals -/
theorem linked_image {n : Nat} {f : Nat → Nat} {ps ps' : List Nat} (hsurj : ∀ j, j < n → ∃ i, i < n ∧ f i = j)
    (hmap : ∀ nm ∈ ps, ∃ nm' ∈ ps', Img f nm nm') : Linked n ps → Linked n ps' := by
  intro hL P hP i hi hPi j hj
  have hQ : Stable ps (fun v => P (f v)) := by
    intro nm hnm a ha hPa b hb
    obtain ⟨nm', hnm', himg⟩ := hmap nm hnm
    exact hP nm' hnm' (f a) ((himg _).mpr ⟨a, ha, rfl⟩) hPa (f b) ((himg _).mpr ⟨b, hb, rfl⟩)
  obtain ⟨i0, hi0, rfl⟩ := hsurj i hi
  obtain ⟨j0, hj0, rfl⟩ := hsurj j hj
  exact hL _ hQ i0 hi0 hPi j0 hj0

end C11
