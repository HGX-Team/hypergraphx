import Hgxv.Model.C06Json
import Hgxv.Proofs.C06Str
import Hgxv.Proofs.C06Text
/-! The character level of the `.json` format (`Model/C06Json.lean`): integers (`natDigits`, `decInt_encInt`), the
printable output of `J.emit` (`emit_pr`), the lines of the file (`splitLF_fileText`, `readFile_fileText`) and the
pieces of `writeText` as characters (`render_writeText`). -/
namespace C06
namespace Num

theorem natDigits_lt (n : Nat) (h : n < 10) : natDigits n = [48 + n] := by rw [natDigits, if_pos h]

theorem natDigits_ge (n : Nat) (h : ¬ n < 10) : natDigits n = natDigits (n / 10) ++ [48 + n % 10] := by
  rw [natDigits, if_neg h]

theorem natDigits_ne_nil (n : Nat) : natDigits n ≠ [] := by
  by_cases h : n < 10
  · rw [natDigits_lt n h]; exact List.cons_ne_nil _ _
  · rw [natDigits_ge n h]; exact List.append_ne_nil_of_right_ne_nil _ (List.cons_ne_nil _ _)

theorem natDigits_all (n : Nat) : ∀ d ∈ natDigits n, 48 ≤ d ∧ d ≤ 57 := by
  induction n using natDigits.induct with
  | case1 n h =>
    rw [natDigits_lt n h]
    intro d hd
    rw [List.mem_singleton.mp hd]; omega
  | case2 n h ih =>
    rw [natDigits_ge n h]
    intro d hd
    rcases List.mem_append.mp hd with hd | hd
    · exact ih d hd
    · rw [List.mem_singleton.mp hd]; omega

theorem natDigits_isDigit (n : Nat) : (natDigits n).all isDigit = true := by
  rw [List.all_eq_true]; intro d hd
  have := natDigits_all n d hd
  simp [isDigit]; omega

theorem natDigits_head (n : Nat) (h0 : 0 < n) : (natDigits n).head? ≠ some 48 := by
  induction n using natDigits.induct with
  | case1 n h =>
    rw [natDigits_lt n h, List.head?_cons]
    intro e; have := Option.some.inj e; omega
  | case2 n h ih =>
    obtain ⟨a, as, hq⟩ := List.exists_cons_of_ne_nil (natDigits_ne_nil (n / 10))
    have ih' := ih (by omega)
    rw [natDigits_ge n h]
    rw [hq] at ih' ⊢
    exact ih'

theorem natDigits_len (n : Nat) (h : (natDigits n).head? = some 48) : (natDigits n).length = 1 := by
  have : n = 0 := Nat.eq_zero_of_not_pos fun h0 => natDigits_head n h0 h
  rw [this, natDigits_lt 0 (by decide)]; rfl

theorem digitsVal_append (a : List Nat) (d : Nat) : digitsVal (a ++ [d]) = 10 * digitsVal a + (d - 48) := by
  simp only [digitsVal, List.foldl_append, List.foldl_cons, List.foldl_nil]

theorem digitsVal_natDigits (n : Nat) : digitsVal (natDigits n) = n := by
  induction n using natDigits.induct with
  | case1 n h => rw [natDigits_lt n h]; exact (Nat.zero_add _).trans (Nat.add_sub_cancel_left ..)
  | case2 n h ih => rw [natDigits_ge n h, digitsVal_append, ih, Nat.add_sub_cancel_left]; exact Nat.div_add_mod n 10

theorem decNat_natDigits (n : Nat) : decNat (natDigits n) = some n := by
  unfold decNat
  have h1 := natDigits_ne_nil n
  have h3 : (natDigits n).head? ≠ some 48 ∨ (natDigits n).length = 1 := by
    by_cases h : (natDigits n).head? = some 48
    · exact Or.inr (natDigits_len n h)
    · exact Or.inl h
  rw [if_pos ⟨h1, natDigits_isDigit n, h3⟩, digitsVal_natDigits]

theorem natDigits_head_ne_minus (n : Nat) : (natDigits n).head? ≠ some 45 := by
  intro h
  have hm : 45 ∈ natDigits n := List.mem_of_head? h
  have := natDigits_all n 45 hm
  omega

theorem decInt_encInt (i : Int) : decInt (encInt i) = some i := by
  cases i with
  | ofNat n =>
    show decInt (natDigits n) = _
    unfold decInt
    rw [if_neg (natDigits_head_ne_minus n), decNat_natDigits]; rfl
  | negSucc n =>
    show decInt (45 :: natDigits (n + 1)) = _
    unfold decInt
    simp only [List.head?_cons, List.tail_cons, if_true]
    rw [decNat_natDigits]
    rfl

theorem encInt_chars (i : Int) : ∀ u ∈ encInt i, u = 45 ∨ (48 ≤ u ∧ u ≤ 57) := by
  cases i with
  | ofNat n => intro u hu; exact Or.inr (natDigits_all n u hu)
  | negSucc n =>
    intro u hu
    simp only [encInt, List.mem_cons] at hu
    rcases hu with hu | hu
    · exact Or.inl hu
    · exact Or.inr (natDigits_all _ u hu)

end Num

namespace Json
open Str

section emit
variable {F : Type} (repr : F → List Nat)

def Pr (u : Nat) : Prop := 32 ≤ u ∧ u ≤ 126

theorem pr_append {a b : List Nat} (ha : ∀ u ∈ a, Pr u) (hb : ∀ u ∈ b, Pr u) : ∀ u ∈ a ++ b, Pr u := by
  intro u hu
  rcases List.mem_append.mp hu with h | h
  · exact ha u h
  · exact hb u h

theorem pr_cons {c : Nat} {b : List Nat} (hc : Pr c) (hb : ∀ u ∈ b, Pr u) : ∀ u ∈ c :: b, Pr u := by
  intro u hu
  rcases List.mem_cons.mp hu with h | h
  · exact h ▸ hc
  · exact hb u h

theorem pr_nil : ∀ u ∈ ([] : List Nat), Pr u := by intro u hu; cases hu

theorem pr_encInt (i : Int) : ∀ u ∈ Num.encInt i, Pr u := by
  intro u hu
  rcases Num.encInt_chars i u hu with h | h <;> unfold Pr <;> omega

theorem emit_ne_nil (h0 : ∀ f, repr f ≠ []) (j : J F) : J.emit repr j ≠ [] := by
  cases j with
  | null => simp [J.emit]
  | bool b => cases b <;> simp [J.emit]
  | int i => cases i <;> simp [J.emit, Num.encInt, Num.natDigits_ne_nil]
  | flt f => simpa [J.emit] using h0 f
  | str s => simp [J.emit, Str.encode]
  | arr xs => cases xs <;> simp [J.emit]
  | obj kv => cases kv <;> simp [J.emit]

mutual
theorem emit_pr (hr : ∀ f, ∀ u ∈ repr f, Pr u) : (j : J F) → ∀ u ∈ J.emit repr j, Pr u
  | .null => by simp [J.emit, Pr]
  | .bool true => by simp [J.emit, Pr]
  | .bool false => by simp [J.emit, Pr]
  | .int i => by simp only [J.emit]; exact pr_encInt i
  | .flt f => by simp only [J.emit]; exact hr f
  | .str s => by simp only [J.emit]; exact encode_printable s
  | .arr .nil => by simp [J.emit, Pr]
  | .arr (.cons x xs) => by
    simp only [J.emit]
    exact pr_cons ⟨by decide, by decide⟩
      (pr_append (emit_pr hr x) (pr_append (emitTailL_pr hr xs) (pr_cons ⟨by decide, by decide⟩ pr_nil)))
  | .obj .nil => by simp [J.emit, Pr]
  | .obj (.cons k v kv) => by
    simp only [J.emit]
    exact pr_cons ⟨by decide, by decide⟩
      (pr_append (encode_printable k) (pr_cons ⟨by decide, by decide⟩
        (pr_append (emit_pr hr v) (pr_append (emitTailO_pr hr kv) (pr_cons ⟨by decide, by decide⟩ pr_nil)))))
theorem emitTailL_pr (hr : ∀ f, ∀ u ∈ repr f, Pr u) : (xs : JL F) → ∀ u ∈ JL.emitTail repr xs, Pr u
  | .nil => by simp [JL.emitTail]
  | .cons x xs => by
    simp only [JL.emitTail]
    exact pr_cons ⟨by decide, by decide⟩ (pr_append (emit_pr hr x) (emitTailL_pr hr xs))
theorem emitTailO_pr (hr : ∀ f, ∀ u ∈ repr f, Pr u) : (kv : JO F) → ∀ u ∈ JO.emitTail repr kv, Pr u
  | .nil => by simp [JO.emitTail]
  | .cons k v kv => by
    simp only [JO.emitTail]
    exact pr_cons ⟨by decide, by decide⟩
      (pr_append (encode_printable k) (pr_cons ⟨by decide, by decide⟩ (pr_append (emit_pr hr v) (emitTailO_pr hr kv))))
end

end emit

variable {α : Type}

theorem splitLF_ne_nil (l : List Nat) : splitLF l ≠ [] := by
  induction l with
  | nil => simp [splitLF]
  | cons c cs ih =>
    simp only [splitLF]
    split
    · simp
    · split <;> simp

theorem splitLF_noLF (a : List Nat) (h : 10 ∉ a) : splitLF a = [a] := by
  induction a with
  | nil => rfl
  | cons c cs ih =>
    have hc : c ≠ 10 := fun e => h (e ▸ List.mem_cons_self)
    have hcs : 10 ∉ cs := fun m => h (List.mem_cons_of_mem _ m)
    simp only [splitLF, if_neg hc, ih hcs]

theorem splitLF_append (a b : List Nat) (h : 10 ∉ a) : splitLF (a ++ 10 :: b) = a :: splitLF b := by
  induction a with
  | nil => simp [splitLF]
  | cons c cs ih =>
    have hc : c ≠ 10 := fun e => h (e ▸ List.mem_cons_self)
    have hcs : 10 ∉ cs := fun m => h (List.mem_cons_of_mem _ m)
    simp only [List.cons_append, splitLF, if_neg hc, ih hcs]

theorem splitLF_body (enc : α → List Nat) (r : α) (rs : List α) (hn : ∀ x ∈ r :: rs, 10 ∉ enc x) :
    splitLF (enc r ++ body enc rs) = recLines enc r rs := by
  induction rs generalizing r with
  | nil =>
    simp only [body, recLines]
    rw [splitLF_append _ _ (hn r List.mem_cons_self)]
    rfl
  | cons r' rs ih =>
    simp only [body, recLines]
    have h1 : enc r ++ 44 :: 10 :: (enc r' ++ body enc rs) = (enc r ++ [44]) ++ 10 :: (enc r' ++ body enc rs) := by
      simp
    have h2 : 10 ∉ enc r ++ [44] := by
      intro m
      rcases List.mem_append.mp m with m | m
      · exact hn r List.mem_cons_self m
      · simp at m
    rw [h1, splitLF_append _ _ h2, ih r' (fun x hx => hn x (List.mem_cons_of_mem _ hx))]

theorem splitLF_fileText (enc : α → List Nat) (r : α) (rs : List α) (hn : ∀ x ∈ r :: rs, 10 ∉ enc x) :
    splitLF (fileText enc (r :: rs)) = [91] :: recLines enc r rs := by
  have h : fileText enc (r :: rs) = [91] ++ 10 :: (enc r ++ body enc rs) := rfl
  rw [h, splitLF_append _ _ (by simp), splitLF_body enc r rs hn]

theorem recLines_ne (enc : α → List Nat) (r : α) (rs : List α) : recLines enc r rs ≠ [[93]] := by
  cases rs with
  | nil => simp [recLines]
  | cons r' rs => cases rs <;> simp [recLines]

theorem unComma_append (l : List Nat) : unComma (l ++ [44]) = some l := by
  simp [unComma]

theorem readRecLines_recLines (enc : α → List Nat) (dec : List Nat → Option α)
    (r : α) (rs : List α) (hd : ∀ x ∈ r :: rs, dec (enc x) = some x) :
    readRecLines dec (recLines enc r rs) = some (r :: rs) := by
  induction rs generalizing r with
  | nil => simp [recLines, readRecLines, hd r List.mem_cons_self]
  | cons r' rs ih =>
    simp only [recLines, readRecLines]
    rw [if_neg (recLines_ne enc r' rs), unComma_append]
    simp only [hd r List.mem_cons_self, ih r' (fun x hx => hd x (List.mem_cons_of_mem _ hx))]

theorem readFile_fileText (enc : α → List Nat) (dec : List Nat → Option α) (r : α) (rs : List α)
    (h0 : enc r ≠ []) (hn : ∀ x ∈ r :: rs, 10 ∉ enc x) (hd : ∀ x ∈ r :: rs, dec (enc x) = some x) :
    readFile dec (fileText enc (r :: rs)) = some (r :: rs) := by
  unfold readFile
  rw [splitLF_fileText enc r rs hn]
  have hne : ([91] :: recLines enc r rs) ≠ [[91], [], [93]] := by
    cases rs with
    | nil => simp [recLines, h0]
    | cons r' rs => simp [recLines]
  rw [if_neg hne]
  exact readRecLines_recLines enc dec r rs hd

theorem readFile_fileText_nil (enc : α → List Nat) (dec : List Nat → Option α) :
    readFile dec (fileText enc []) = some [] := by
  simp [readFile, fileText, splitLF]

theorem render_body (enc : α → List Nat) (rs : List α) :
    render enc (tailPieces rs ++ [Piece.cls]) = body enc rs := by
  induction rs with
  | nil => simp [tailPieces, render, renderPiece, body]
  | cons r rs ih =>
    rw [tailPieces_cons]
    simp only [render] at ih
    simp [render, renderPiece, body, ih]

theorem render_writeText (enc : α → List Nat) (r : α) (rs : List α) :
    render enc (writeText (r :: rs)) = fileText enc (r :: rs) := by
  have h := render_body enc rs
  simp only [render] at h
  rw [writeText_cons]
  simp only [render, fileText, List.flatMap_cons, renderPiece, List.cons_append, List.nil_append, h]

theorem render_writeText_nil (enc : α → List Nat) : render enc (writeText ([] : List α)) = fileText enc [] := by
  simp [writeText, Writer.start, Writer.finish, render, renderPiece, fileText]

end Json
end C06
