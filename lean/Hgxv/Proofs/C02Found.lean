import Hgxv.Proofs.C02Inv
/-! # C02 - an inserted hyperedge is found under every listing

`add_edge` canonicalises with `canonAdd` (bare node accepted), every other entry point with `canonStrict`.  The two
canonicalisations meet: the key `add_edge` files a hyperedge under is the key every other entry point computes from
ANY listing of the same source set and the same target set. -/
open AL
namespace C02

theorem canonStrict_of_perm (e : RawEdge) (S' T' : List Node) (hS : S'.Perm e.src.toList) (hT : T'.Perm e.tgt.toList) :
    canonStrict (.ofLists S' T') = some (canonAdd e) := by
  simp [canonStrict, canonAdd, RawEdge.ofLists, Side.strict, sortNodes_eq_of_perm hS, sortNodes_eq_of_perm hT]

theorem addEdgeKey_found (s : Store) (k : Key) (w : Option Int) (md : Option Meta) (hok : (addEdgeKey s k w md).2 = .ok) :
    ∃ id, get? (addEdgeKey s k w md).1.edgeList k = some id ∧ get? (addEdgeKey s k w md).1.emeta id = some (md.getD []) := by
  unfold addEdgeKey at hok ⊢
  split
  · rename_i hc; simp [hc] at hok
  · split
    · refine ⟨s.nextId, ?_, ?_⟩
      · simp only []; rw [(addEdgeNew_fields s k _ _).1]; simp
      · simp only []; rw [(addEdgeNew_fields s k _ _).2.2.2.1]; simp
    · rename_i id hk
      exact ⟨id, hk, by simp [addEdgeOld]⟩

end C02
