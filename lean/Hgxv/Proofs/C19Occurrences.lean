import Hgxv.Model.C19
import Hgxv.Proofs.SortLib
/-! C19 part B, `get_svh`: counting occurrences is summing weights, and every size, tuple and table is listed once. -/
namespace C19

section dedup
variable {α : Type} [DecidableEq α]

theorem dedup_nodup (l : List α) : (dedup l).Nodup :=
  ListLib.foldl_inv _ (fun _ _ h => ListLib.nodup_addIfNew Iff.rfl h) l [] List.nodup_nil

theorem mem_dedup (l : List α) (x : α) : x ∈ dedup l ↔ x ∈ l :=
  (ListLib.mem_foldl_of_step _ (fun _ _ x => ListLib.mem_addIfNew Iff.rfl x) l [] x).trans (by simp)

end dedup

theorem mem_expand (edges : List (List Nat × Nat)) (b : List Nat) :
    b ∈ expand edges ↔ ∃ w, (b, w) ∈ edges ∧ 0 < w := by
  simp only [expand, List.mem_flatMap, List.mem_replicate]
  constructor
  · rintro ⟨⟨e, w⟩, he, hw, rfl⟩; exact ⟨w, he, Nat.pos_of_ne_zero hw⟩
  · rintro ⟨w, he, hw⟩; exact ⟨(b, w), he, Nat.pos_iff_ne_zero.mp hw, rfl⟩

theorem length_filter_expand (edges : List (List Nat × Nat)) (P : List Nat → Bool) :
    ((expand edges).filter P).length = ((edges.filter (fun e => P e.1)).map (·.2)).sum := by
  induction edges with
  | nil => simp [expand]
  | cons e es ih =>
    have hexp : expand (e :: es) = List.replicate e.2 e.1 ++ expand es := by simp [expand]
    rw [hexp, List.filter_append, List.length_append, ih]
    by_cases h : P e.1
    · simp [h]
    · simp [h]

theorem sum_weights_unique (edges : List (List Nat × Nat)) (hnd : (edges.map (·.1)).Nodup) (Q : List Nat → Bool)
    (e : List Nat) (w : Nat) (he : (e, w) ∈ edges) (hQ : ∀ f ∈ edges, Q f.1 = true ↔ f.1 = e) :
    ((edges.filter (fun f => Q f.1)).map (·.2)).sum = w := by
  induction edges with
  | nil => simp at he
  | cons f fs ih =>
    simp only [List.map_cons, List.nodup_cons] at hnd
    rcases List.mem_cons.mp he with rfl | he'
    · have h1 : Q e = true := (hQ (e, w) List.mem_cons_self).mpr rfl
      have h2 : fs.filter (fun f => Q f.1) = [] := by
        rw [List.filter_eq_nil_iff]
        intro g hg hQg
        have := (hQ g (List.mem_cons_of_mem _ hg)).mp hQg
        exact hnd.1 (List.mem_map.mpr ⟨g, hg, this⟩)
      simp [h1, h2]
    · have hf : ¬ Q f.1 = true := by
        intro hq
        have := (hQ f List.mem_cons_self).mp hq
        exact hnd.1 (List.mem_map.mpr ⟨(e, w), he', this.symm⟩)
      simp only [List.filter_cons, hf]
      exact ih hnd.2 he' (fun g hg => hQ g (List.mem_cons_of_mem _ hg))

theorem sorted_eq_of_subset {e f : List Nat} (he : e.Pairwise (· < ·)) (hf : f.Pairwise (· < ·))
    (hlen : f.length = e.length) (hsub : ∀ i ∈ e, i ∈ f) : f = e :=
  ((NatSort.sublist_of_strict_subset he hf hsub).eq_of_length hlen.symm).symm

theorem subOcc_length (edges : List (List Nat × Nat)) (n : Nat) :
    (subOcc (expand edges) n).length = ((edges.filter (fun f => decide (f.1.length = n))).map (·.2)).sum := by
  unfold subOcc
  rw [length_filter_expand]

theorem degK_eq (edges : List (List Nat × Nat)) (n i : Nat) :
    degK (subOcc (expand edges) n) i =
      ((edges.filter (fun f => f.1.contains i && decide (f.1.length = n))).map (·.2)).sum := by
  unfold degK subOcc
  rw [List.filter_filter, length_filter_expand]

theorem n12_eq_weight (edges : List (List Nat × Nat)) (hnd : (edges.map (·.1)).Nodup)
    (hsorted : ∀ f ∈ edges, f.1.Pairwise (· < ·)) (e : List Nat) (w : Nat) (he : (e, w) ∈ edges) :
    n12 (subOcc (expand edges) e.length) e = w := by
  unfold n12 subOcc
  rw [List.filter_filter, length_filter_expand]
  apply sum_weights_unique edges hnd
    (fun f => (e.all fun i => f.contains i) && decide (f.length = e.length)) e w he
  intro f hf
  simp only [Bool.and_eq_true, List.all_eq_true, List.contains_iff_mem, decide_eq_true_eq]
  constructor
  · rintro ⟨hsub, hlen⟩
    exact sorted_eq_of_subset (hsorted _ he) (hsorted f hf) hlen hsub
  · intro h; rw [h]; exact ⟨fun i hi => hi, rfl⟩

theorem sizesOf_nodup (occ : List (List Nat)) (b : Nat) : (sizesOf occ b).Nodup := by
  unfold sizesOf
  exact (List.mergeSort_perm _ _).nodup_iff.mpr (dedup_nodup _)

theorem mem_sizesOf (occ : List (List Nat)) (b n : Nat) :
    n ∈ sizesOf occ b ↔ (2 ≤ n ∧ n ≤ b) ∧ ∃ o ∈ occ, o.length = n := by
  unfold sizesOf
  rw [(List.mergeSort_perm _ _).mem_iff, mem_dedup]
  simp only [List.mem_filter, List.mem_map, decide_eq_true_eq]
  constructor
  · rintro ⟨⟨o, ho, rfl⟩, h⟩; exact ⟨h, o, ho, rfl⟩
  · rintro ⟨h, o, ho, rfl⟩; exact ⟨⟨o, ho, rfl⟩, h⟩

theorem tuplesOf_nodup (occ : List (List Nat)) (n : Nat) : (tuplesOf occ n).Nodup := dedup_nodup _

theorem mem_tuplesOf (occ : List (List Nat)) (n : Nat) (e : List Nat) :
    e ∈ tuplesOf occ n ↔ e ∈ occ ∧ e.length = n := by
  unfold tuplesOf subOcc
  rw [mem_dedup]; simp

theorem svh_sizes (sf : Nat → Nat → Rat → Rat) (alpha : Rat) (edges : List (List Nat × Nat)) (bound : Nat) :
    (svh sf alpha edges bound).map (·.size) = sizesOf (expand edges) bound := by
  simp only [svh, List.map_map]
  exact (List.map_congr_left fun _ _ => rfl).trans (List.map_id _)

theorem sizeTable_edges (sf : Nat → Nat → Rat → Rat) (alpha : Rat) (occ : List (List Nat)) (n : Nat) :
    (sizeTable sf alpha occ n).rows.map (·.1.edge) = tuplesOf occ n := by
  simp only [sizeTable, rowsOf, List.map_map]
  exact (List.map_congr_left fun _ _ => rfl).trans (List.map_id _)

end C19
