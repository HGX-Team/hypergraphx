import Hgxv.Proofs.C01Sub
/-! C01: what `subhypergraph_by_orders(orders | sizes, keep_nodes)` builds, in declarative terms, for both values of
`keep_nodes`.  Core Lean only. -/
namespace C01
open AL

theorem nodup_eraseDups_loop : ∀ (l acc : List Int), acc.Nodup →
    (List.eraseDupsBy.loop (· == ·) l acc).Nodup := by
  intro l
  induction l with
  | nil =>
    intro acc h
    simp only [List.eraseDupsBy.loop]
    exact List.pairwise_reverse.mpr (h.imp fun hab => Ne.symm hab)
  | cons x xs ih =>
    intro acc h
    unfold List.eraseDupsBy.loop
    split
    · exact ih acc h
    · rename_i hany
      apply ih
      refine List.nodup_cons.mpr ⟨?_, h⟩
      intro hx
      have : acc.any (fun b => x == b) = true := List.any_eq_true.mpr ⟨x, hx, by simp⟩
      rw [this] at hany; cases hany

theorem nodup_eraseDups (l : List Int) : l.eraseDups.Nodup := by
  unfold List.eraseDups List.eraseDupsBy
  exact nodup_eraseDups_loop l [] List.nodup_nil

theorem nodup_edgesOfSizes (ks : List Int) (es : List Edge) (h : es.Nodup) : (edgesOfSizes ks es).Nodup := by
  unfold edgesOfSizes
  apply List.pairwise_flatMap.mpr
  refine ⟨fun k _ => h.filter _, ?_⟩
  refine (nodup_eraseDups ks).imp ?_
  intro k1 k2 hne x hx y hy hxy
  have h1 := (keepEdge_size k1 x).mp (List.mem_filter.mp hx).2
  have h2 := (keepEdge_size k2 y).mp (List.mem_filter.mp hy).2
  rw [hxy] at h1
  exact hne (h1.symm.trans h2)

/-- outcome and result of `subhypergraph_by_orders(orders, sizes)` (`keep_nodes=True`) on an abstract hypergraph of a
history; `sz` = the sizes asked for -/
theorem spec_subOrders_keep (a : Spec) (ha : SWF a) (os ks : Option (List Int)) :
    (sizesArg os ks = none → ∀ keep, (Spec.subOrders a os ks keep).2 = .rej) ∧
    (∀ sz, sizesArg os ks = some sz →
      (Spec.subOrders a os ks true).2 = .ok ∧
      (Spec.subOrders a os ks true).1.weighted = a.weighted ∧
      (Spec.subOrders a os ks true).1.hmeta = initHMeta a.weighted [] ∧
      (∀ m, get? (Spec.subOrders a os ks true).1.nodes m = get? a.nodes m) ∧
      keys (Spec.subOrders a os ks true).1.edges = edgesOfSizes sz (keys a.edges) ∧
      ∀ x, get? (Spec.subOrders a os ks true).1.edges x = if (x.length : Int) ∈ sz then get? a.edges x else none) := by
  refine ⟨fun h keep => by unfold Spec.subOrders; rw [h], fun sz hsz => ?_⟩
  obtain ⟨h1, hadd, e1, e2, e3, e4⟩ := spec_addNodes_fresh a.weighted (keys a.nodes)
  obtain ⟨h2, hcp, c1, c2, c3, c4⟩ := spec_copyNodeMetas_ok a (keys a.nodes) h1
    (fun n hn => by rw [e4 n, if_pos hn]; rfl) (fun n hn => (mem_keys_iff _ _).mp hn)
  have h2nodes : ∀ m, get? h2.nodes m = get? a.nodes m := by
    intro m
    rw [c4 m, e4 m]
    by_cases hm : m ∈ keys a.nodes
    · rw [if_pos hm]
    · rw [if_neg hm, if_neg hm]; exact ((get?_eq_none_iff _ _).mpr hm).symm
  have hmem := mem_edgesOfSizes_iff sz (keys a.edges)
  have hpres : ∀ e ∈ edgesOfSizes sz (keys a.edges), (get? a.edges e).isSome :=
    fun e he => (mem_keys_iff _ _).mp ((hmem e).mp he).1
  have hrun : Spec.subOrders a os ks true =
      andThen (seqOps (Spec.copyEdge a) h2 (edgesOfSizes sz (keys a.edges))) fun h => (h, .ok) := by
    unfold Spec.subOrders
    rw [hsz]
    simp only [if_true, hadd, andThen, hcp]
  rw [hrun, spec_copyEdges a ha _ h2 (nodup_edgesOfSizes _ _ ha.knd) hpres (fun e _ => by rw [c1, e1]; rfl) (c2.trans e2)]
  refine ⟨rfl, c2.trans e2, c3.trans e3, fun m => ?_, ?_, fun x => ?_⟩
  · show get? (List.foldl touchMeta _ _) m = _
    rw [touchFold_present _ _ ?_, h2nodes]
    intro m hm
    obtain ⟨e, he, hme⟩ := List.mem_flatten.mp hm
    rw [h2nodes]; exact (ha.key e (hpres e he)).2.2 m hme
  · show keys (_ ++ _) = _
    rw [c1, e1]; exact keys_keymap _ _
  · show get? (_ ++ _) x = _
    rw [c1, e1]
    exact (get?_copied a _ hpres x).trans (get?_pick a.edges _ (fun x => (x.length : Int) ∈ sz) hmem x)

/-- outcome and result of `subhypergraph_by_orders(orders, sizes, keep_nodes=False)` -/
theorem spec_subOrders_drop (a : Spec) (ha : SWF a) (os ks : Option (List Int)) (sz : List Int)
    (hsz : sizesArg os ks = some sz) :
    (Spec.subOrders a os ks false).2 = .ok ∧
    (Spec.subOrders a os ks false).1.weighted = a.weighted ∧
    (Spec.subOrders a os ks false).1.hmeta = initHMeta a.weighted [] ∧
    (∀ m, get? (Spec.subOrders a os ks false).1.nodes m =
      if m ∈ (edgesOfSizes sz (keys a.edges)).flatten then get? a.nodes m else none) ∧
    keys (Spec.subOrders a os ks false).1.edges = edgesOfSizes sz (keys a.edges) ∧
    ∀ x, get? (Spec.subOrders a os ks false).1.edges x = if (x.length : Int) ∈ sz then get? a.edges x else none := by
  have hmem := mem_edgesOfSizes_iff sz (keys a.edges)
  have hpres : ∀ e ∈ edgesOfSizes sz (keys a.edges), (get? a.edges e).isSome :=
    fun e he => (mem_keys_iff _ _).mp ((hmem e).mp he).1
  have hcp := spec_copyEdges a ha _ (Spec.new a.weighted []) (nodup_edgesOfSizes sz _ ha.knd) hpres (fun e _ => rfl) rfl
  generalize hes : edgesOfSizes sz (keys a.edges) = es at hmem hpres hcp ⊢
  have h2get : ∀ m, get? (es.flatten.foldl touchMeta (Spec.new a.weighted []).nodes) m =
      if m ∈ es.flatten then some [] else none := fun m => by rw [touchFold_get]; rfl
  obtain ⟨h3, hnm, c1, c2, c3, c4⟩ := spec_copyNodeMetas_own a
    { Spec.new a.weighted [] with
        edges := (Spec.new a.weighted []).edges ++ es.map fun e => (e, (Spec.weightOf a e, Spec.emetaOf a e)),
        nodes := es.flatten.foldl touchMeta (Spec.new a.weighted []).nodes } (by
      intro m hm
      rw [show get? (es.flatten.foldl touchMeta (Spec.new a.weighted []).nodes) m = _ from h2get m] at hm
      by_cases hfl : m ∈ es.flatten
      · obtain ⟨e, he, hme⟩ := List.mem_flatten.mp hfl
        exact (ha.key e (hpres e he)).2.2 m hme
      · rw [if_neg hfl] at hm; cases hm)
  have hrun : Spec.subOrders a os ks false = (h3, .ok) := by
    unfold Spec.subOrders
    rw [hsz]
    simp only [Bool.false_eq_true, if_false, andThen, hes, hcp]
    exact hnm
  rw [hrun]
  refine ⟨rfl, c2, c3, fun m => ?_, ?_, fun x => ?_⟩
  · rw [c4 m]
    show (if (get? (es.flatten.foldl touchMeta (Spec.new a.weighted []).nodes) m).isSome = true then _ else _) = _
    rw [h2get m]
    by_cases hfl : m ∈ es.flatten <;> simp [hfl]
  · rw [c1]; exact keys_keymap _ _
  · rw [c1]
    exact (get?_copied a _ hpres x).trans (get?_pick a.edges _ (fun x => (x.length : Int) ∈ sz) hmem x)

end C01
