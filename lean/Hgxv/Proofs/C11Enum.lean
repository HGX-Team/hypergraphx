import Hgxv.Model.C11Enum
import Hgxv.Proofs.C11Census
/-! # C11 - the undirected census as an enumeration (core Lean only)

The enumeration does not depend (up to order) on the incidence-list / adjacency-list / root orders nor on the
insertion order; every pass hands the induced sub-hypergraph with ranks to the class table. -/
namespace C11

theorem reachIn_g_congr {g g' : Nat → List Nat} (h : ∀ w u, u ∈ g w → u ∈ g' w) {S sub : List Nat} {x : Nat}
    (hr : ReachIn g S sub x) : ReachIn g' S sub x := by
  induction hr with
  | base hx => exact ReachIn.base hx
  | step _ hxy hxS ih => exact ReachIn.step ih (h _ _ hxy) hxS

theorem rootValid_g_congr {g g' : Nat → List Nat} (h : ∀ w u, u ∈ g w → u ∈ g' w) {v : Nat} {S : List Nat}
    (hv : RootValid g v S) : RootValid g' v S :=
  ⟨hv.root_in, hv.above, fun x hx => reachIn_g_congr h (hv.reach x hx)⟩

/-- the ESU pass hands over the same node sets, each once, whatever the order of the adjacency lists and of the roots -/
theorem esuW_perm {n : Nat} (hn : 1 ≤ n) {g g' : Nat → List Nat} {rts rts' : List Nat}
    (hg : ∀ w, (g w).Nodup) (hg' : ∀ w, (g' w).Nodup) (hgg : ∀ w u, u ∈ g' w ↔ u ∈ g w)
    (hr : rts.Nodup) (hr' : rts'.Nodup) (hrr : ∀ v, v ∈ rts' ↔ v ∈ rts) :
    ((esuSetsWith n g' rts').map isort).Perm ((esuSetsWith n g rts).map isort) := by
  apply (List.perm_ext_iff_of_nodup (esuW_sorted_nodup hn hg' hr') (esuW_sorted_nodup hn hg hr)).mpr
  intro S
  rw [List.mem_map, List.mem_map, mem_esuW_sorted hn hg' hr', mem_esuW_sorted hn hg hr]
  constructor
  · rintro ⟨a, b, v, hv, hval⟩
    exact ⟨a, b, v, (hrr v).mp hv, rootValid_g_congr (fun w u => (hgg w u).mp) hval⟩
  · rintro ⟨a, b, v, hv, hval⟩
    exact ⟨a, b, v, (hrr v).mpr hv, rootValid_g_congr (fun w u => (hgg w u).mpr) hval⟩

section main
variable {n : Nat} (hn : n = 3 ∨ n = 4) {E : HG} (hE : WF E)

include hn hE in
/-- every pass hands the pattern of the full hyperedge table to the class table -/
theorem countedPats_pattern {sp : List Nat × Nat} (h : sp ∈ countedPats n E) :
    sp.1 ∈ counted n E ∧ sp.2 = pattern n E sp.1 := by
  have hEn : WF (upTo n E) := hE.filter _
  refine ⟨List.mem_map.mpr ⟨sp, h, rfl⟩, ?_⟩
  rw [countedPats_eq] at h
  unfold withPat at h
  rcases List.mem_append.mp h with h1 | h23
  · obtain ⟨S, _, rfl⟩ := List.mem_map.mp h1
    exact pattern_upTo E S
  · rcases List.mem_append.mp h23 with h2 | h3
    · obtain ⟨S, hS, rfl⟩ := List.mem_map.mp h2
      show pattern n (smaller n (upTo n E)) S = pattern n E S
      rw [(pattern_sets2 hEn hS).2.1, pattern_upTo]
    · obtain ⟨S, hS, rfl⟩ := List.mem_map.mp h3
      show pattern n (dyadic (upTo n E)) S = pattern n E S
      rw [(pattern_sets3 hn hEn hS).1, pattern_upTo]

end main

theorem pattern_induced {n : Nat} (E : HG) {S : List Nat} (hlen : S.length = n) :
    pattern n E S = inducedMask n E S := by
  unfold pattern patBits inducedMask
  rw [hyperedgesOf_eq hlen, List.map_map]
  rfl

theorem counted_perm {n : Nat} (hn : n = 3 ∨ n = 4) {E E' : HG} (hE : WF E) (hperm : E.Perm E') :
    (counted n E').Perm (counted n E) := by
  have hE' : WF E' := ⟨hperm.nodup_iff.mp hE.nodup, fun e he => hE.sorted e (hperm.mem_iff.mpr he)⟩
  apply (List.perm_ext_iff_of_nodup (counted_nodup hn hE') (counted_nodup hn hE)).mpr
  intro S
  rw [mem_counted hn hE', mem_counted hn hE, conn_congr_inside (S := S) fun _ _ => hperm.mem_iff]

theorem mem_nfCandsWith {n : Nat} {E : HG} {inc : Nat → HG} {S : List Nat} :
    S ∈ nfCandsWith n E inc ↔ ∃ e ∈ E, e.length + 1 = n ∧ ∃ x ∈ e, ∃ e' ∈ inc x, S = unionSet e e' := by
  simp only [nfCandsWith, List.mem_flatMap, List.mem_filter, List.mem_map, beq_iff_eq]
  constructor
  · rintro ⟨e, ⟨he, hl⟩, x, hx, e', he', rfl⟩; exact ⟨e, he, hl, x, hx, e', he', rfl⟩
  · rintro ⟨e, he, hl, x, hx, e', he', rfl⟩; exact ⟨e, ⟨he, hl⟩, x, hx, e', he', rfl⟩

theorem withPat_perm (n : Nat) (T : HG) {L L' : List (List Nat)} (h : L'.Perm L) :
    (withPat n T L').Perm (withPat n T L) := h.map _

theorem countedWith_perm {n : Nat} (hn : 1 ≤ n) (E0 : HG) {inc : Nat → HG} {g : Nat → List Nat} {rts : List Nat}
    (hinc : ∀ x e, e ∈ inc x ↔ e ∈ incident n (upTo n E0) x)
    (hg : ∀ w, (g w).Nodup ∧ ∀ u, u ∈ g w ↔ u ∈ nbrs (upTo n E0) w)
    (hr : rts.Nodup ∧ ∀ v, v ∈ rts ↔ v ∈ roots (upTo n E0)) :
    (countedWith n E0 inc g rts).Perm (countedPats n E0) := by
  have h2 : (if n == 4 then visitNew n (fullSets n (upTo n E0)) (nfCandsWith n (upTo n E0) inc) else []).Perm
      (if n == 4 then visitNew n (fullSets n (upTo n E0))
        (nfCandsWith n (upTo n E0) (incident n (upTo n E0))) else []) := by
    split
    · apply (List.perm_ext_iff_of_nodup nodup_visitNew nodup_visitNew).mpr
      intro S
      rw [mem_visitNew, mem_visitNew, mem_nfCandsWith, mem_nfCandsWith]
      constructor
      · rintro ⟨⟨e, he, hl, x, hx, e', he', rfl⟩, r⟩
        exact ⟨⟨e, he, hl, x, hx, e', (hinc x e').mp he', rfl⟩, r⟩
      · rintro ⟨⟨e, he, hl, x, hx, e', he', rfl⟩, r⟩
        exact ⟨⟨e, he, hl, x, hx, e', (hinc x e').mpr he', rfl⟩, r⟩
    · exact List.Perm.refl _
  have h3 := esuW_perm hn (g := nbrs (upTo n E0)) (g' := g) (rts := roots (upTo n E0)) (rts' := rts)
    (nbrs_nodup _) (fun w => (hg w).1) (fun w u => (hg w).2 u) (roots_nodup _) hr.1 hr.2
  unfold countedPats countedWith
  refine List.Perm.append (List.Perm.refl _) (List.Perm.append (withPat_perm _ _ h2) (withPat_perm _ _ ?_))
  rw [List.filter_congr fun S _ => by rw [(h2.append_right _).contains_eq]]
  exact h3.filter _

/-! ## the order hypotheses of `countedWith_perm` in the words of the code -/

theorem mem_incident_upTo {n : Nat} {E : HG} {x : Nat} {e : List Nat} :
    e ∈ incident n (upTo n E) x ↔ e ∈ E ∧ e.length < n ∧ x ∈ e := by
  simp only [incident, smaller, upTo, List.mem_filter, decide_eq_true_eq, List.contains_iff_mem]
  constructor
  · rintro ⟨⟨⟨a, _⟩, b⟩, c⟩; exact ⟨a, b, c⟩
  · rintro ⟨a, b, c⟩; exact ⟨⟨⟨a, by omega⟩, b⟩, c⟩

theorem mem_nbrs_upTo {n : Nat} (hn : 2 ≤ n) {E : HG} {y x : Nat} :
    x ∈ nbrs (upTo n E) y ↔ ∃ e ∈ E, e.length = 2 ∧ y ∈ e ∧ x ∈ e ∧ x ≠ y := by
  rw [mem_nbrs]
  constructor
  · rintro ⟨e, he, r⟩; exact ⟨e, (mem_upTo.mp he).1, r⟩
  · rintro ⟨e, he, hl, r⟩; exact ⟨e, mem_upTo.mpr ⟨he, by omega⟩, hl, r⟩

theorem mem_roots_upTo {n : Nat} (hn : 2 ≤ n) {E : HG} {v : Nat} :
    v ∈ roots (upTo n E) ↔ ∃ e ∈ E, e.length = 2 ∧ v ∈ e := by
  rw [mem_roots]
  constructor
  · rintro ⟨e, he, r⟩; exact ⟨e, (mem_upTo.mp he).1, r⟩
  · rintro ⟨e, he, hl, r⟩; exact ⟨e, mem_upTo.mpr ⟨he, by omega⟩, hl, r⟩

theorem countedWith_perm_of_content {n : Nat} (hn : 2 ≤ n) (E : HG) {inc : Nat → HG} {g : Nat → List Nat} {rts : List Nat}
    (hinc : ∀ x e, e ∈ inc x ↔ e ∈ E ∧ e.length < n ∧ x ∈ e)
    (hg : ∀ w, (g w).Nodup ∧ ∀ u, u ∈ g w ↔ ∃ e ∈ E, e.length = 2 ∧ w ∈ e ∧ u ∈ e ∧ u ≠ w)
    (hr : rts.Nodup ∧ ∀ v, v ∈ rts ↔ ∃ e ∈ E, e.length = 2 ∧ v ∈ e) :
    (countedWith n E inc g rts).Perm (countedPats n E) := by
  apply countedWith_perm (by omega) E
  · intro x e; rw [hinc, mem_incident_upTo]
  · intro w; refine ⟨(hg w).1, fun u => ?_⟩; rw [(hg w).2, mem_nbrs_upTo hn]
  · refine ⟨hr.1, fun v => ?_⟩; rw [hr.2, mem_roots_upTo hn]

theorem isRelabelOf_iff {n c p : Nat} : isRelabelOf n c p = true ↔ ∃ t ∈ tbls n, applyPerm t c = p := by
  simp [isRelabelOf, List.any_eq_true]

end C11
