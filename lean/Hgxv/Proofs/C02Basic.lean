import Hgxv.Model.C02X
import Hgxv.Proofs.SortLib
/-! C02: `sortNodes` / `nodeSet` through `Proofs/SortLib.lean`, `collect` of `Model/C02X.lean` through `List.mapM`, and the
fold that the batched calls of `Hgxv/Model/C02.lean` share (core Lean only). -/

namespace C02

theorem insertSorted_eq : insertSorted = NatSort.insert := by
  funext a l; induction l with
  | nil => rfl
  | cons b bs ih => simp only [insertSorted, NatSort.insert, ih]

theorem sortNodes_eq : sortNodes = NatSort.isort := by
  funext l; simp only [sortNodes, NatSort.isort, insertSorted_eq]

theorem insertUniq_eq : insertUniq = NatSort.insertU := by
  funext a l; induction l with
  | nil => rfl
  | cons b bs ih => simp only [insertUniq, NatSort.insertU, ih]

theorem nodeSet_eq : nodeSet = NatSort.usort := by
  funext l; simp only [nodeSet, NatSort.usort, insertUniq_eq]

theorem insertSorted_perm (a : Nat) (l : List Nat) : (insertSorted a l).Perm (a :: l) :=
  insertSorted_eq ▸ NatSort.insert_perm a l

theorem insertSorted_sorted (a : Nat) (l : List Nat) (h : l.Pairwise (· ≤ ·)) :
    (insertSorted a l).Pairwise (· ≤ ·) :=
  insertSorted_eq ▸ NatSort.insert_sorted a l h

theorem sortNodes_perm (l : List Nat) : (sortNodes l).Perm l := sortNodes_eq ▸ NatSort.isort_perm l
theorem mem_sortNodes {l : List Nat} {n : Nat} : n ∈ sortNodes l ↔ n ∈ l := (sortNodes_perm l).mem_iff
theorem sortNodes_nodup {l : List Nat} (h : l.Nodup) : (sortNodes l).Nodup := (sortNodes_perm l).nodup_iff.mpr h
theorem sortNodes_length (l : List Nat) : (sortNodes l).length = l.length := (sortNodes_perm l).length_eq
theorem sortNodes_sorted (l : List Nat) : (sortNodes l).Pairwise (· ≤ ·) := sortNodes_eq ▸ NatSort.isort_sorted l

theorem sortNodes_eq_of_perm {l l' : List Nat} (h : l.Perm l') : sortNodes l = sortNodes l' :=
  sortNodes_eq ▸ NatSort.isort_eq_of_perm h

theorem sortNodes_of_sorted {l : List Nat} (h : l.Pairwise (· ≤ ·)) : sortNodes l = l :=
  sortNodes_eq ▸ NatSort.isort_of_sorted h

theorem sortNodes_idem (l : List Nat) : sortNodes (sortNodes l) = sortNodes l :=
  sortNodes_of_sorted (sortNodes_sorted l)

theorem mem_nodeSet {l : List Nat} {x : Nat} : x ∈ nodeSet l ↔ x ∈ l := nodeSet_eq ▸ NatSort.mem_usort
theorem nodeSet_sorted (l : List Nat) : (nodeSet l).Pairwise (· < ·) := nodeSet_eq ▸ NatSort.usort_strict l

theorem nodeSet_eq_of_mem {l l' : List Nat} (h : ∀ x, x ∈ l ↔ x ∈ l') : nodeSet l = nodeSet l' :=
  nodeSet_eq ▸ NatSort.usort_congr h

/-- the model's `collect` is `List.mapM` in `Option` -/
theorem collect_eq_mapM {α β : Type} (f : α → Option β) (l : List α) : collect f l = l.mapM f := by
  induction l with
  | nil => rfl
  | cons a l ih =>
    rw [collect, ih, List.mapM_cons]
    cases f a <;> cases l.mapM f <;> rfl

/-- the shape of `remove_edges`, `remove_nodes` and of the two phases of `remove_node`, on the store and on the
    abstract object: apply `f` to the elements in turn, stop at the first that is refused -/
def foldOk {σ α : Type} (f : σ → α → σ × Out) (s : σ) : List α → σ × Out
  | [] => (s, .ok)
  | x :: xs =>
    match (f s x).2 with
    | .rej => f s x
    | .ok => foldOk f (f s x).1 xs

theorem removeEdges_eq_foldOk (s : Store) (es : List RawEdge) : removeEdges s es = foldOk removeEdge s es := by
  induction es generalizing s with
  | nil => rfl
  | cons e es ih => simp only [removeEdges, foldOk, ih]; split <;> simp only [*]

theorem removeKeys_eq_foldOk (s : Store) (ks : List Key) :
    removeKeys s ks = foldOk (fun s k => removeEdge s (RawEdge.ofKey k)) s ks := by
  induction ks generalizing s with
  | nil => rfl
  | cons k ks ih => simp only [removeKeys, foldOk, ih]; split <;> simp only [*]

theorem reinsertAll_eq_foldOk (s : Store) (n : Node) (ks : List Key) :
    reinsertAll s n ks = foldOk (fun s k => reinsert s n k) s ks := by
  induction ks generalizing s with
  | nil => rfl
  | cons k ks ih => simp only [reinsertAll, foldOk, ih]; split <;> simp only [*]

theorem removeNodes_eq_foldOk (s : Store) (keep : Bool) (ns : List Node) :
    removeNodes s keep ns = foldOk (fun s n => removeNode s n keep) s ns := by
  induction ns generalizing s with
  | nil => rfl
  | cons n ns ih => simp only [removeNodes, foldOk, ih]; split <;> simp only [*]

theorem Spec.removeEdges_eq_foldOk (s : Spec) (es : List RawEdge) : Spec.removeEdges s es = foldOk Spec.removeEdge s es := by
  induction es generalizing s with
  | nil => rfl
  | cons e es ih => simp only [Spec.removeEdges, foldOk, ih]; split <;> simp only [*]

theorem Spec.removeKeys_eq_foldOk (s : Spec) (ks : List Key) :
    Spec.removeKeys s ks = foldOk (fun s k => Spec.removeEdge s (RawEdge.ofKey k)) s ks := by
  induction ks generalizing s with
  | nil => rfl
  | cons k ks ih => simp only [Spec.removeKeys, foldOk, ih]; split <;> simp only [*]

theorem Spec.reinsertAll_eq_foldOk (s : Spec) (n : Node) (ks : List Key) :
    Spec.reinsertAll s n ks = foldOk (fun s k => Spec.reinsert s n k) s ks := by
  induction ks generalizing s with
  | nil => rfl
  | cons k ks ih => simp only [Spec.reinsertAll, foldOk, ih]; split <;> simp only [*]

theorem Spec.removeNodes_eq_foldOk (s : Spec) (keep : Bool) (ns : List Node) :
    Spec.removeNodes s keep ns = foldOk (fun s n => Spec.removeNode s n keep) s ns := by
  induction ns generalizing s with
  | nil => rfl
  | cons n ns ih => simp only [Spec.removeNodes, foldOk, ih]; split <;> simp only [*]

theorem foldOk_pres {σ α : Type} {f : σ → α → σ × Out} {P : σ → Prop} (xs : List α)
    (hstep : ∀ s, ∀ x ∈ xs, P s → P (f s x).1) (s : σ) (h : P s) : P (foldOk f s xs).1 := by
  induction xs generalizing s with
  | nil => exact h
  | cons x xs ih =>
    have h1 := hstep s x List.mem_cons_self h
    simp only [foldOk]
    split
    · exact h1
    · exact ih (fun s y hy => hstep s y (List.mem_cons_of_mem _ hy)) _ h1

end C02
