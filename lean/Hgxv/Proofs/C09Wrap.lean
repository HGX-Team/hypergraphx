import Hgxv.Proofs.C09Witness
/-! The hypergraph of `C09Witness`: its 256 hyperedges are sublists of the node list and pairwise distinct. -/
namespace C09

theorem select_sublist {β : Type} (l : List β) (p : β × Nat → Bool) :
    ((l.zipIdx.filter p).map (·.1)).Sublist l := by
  have h := (List.filter_sublist (p := p) (l := l.zipIdx)).map (·.1)
  rwa [List.zipIdx_map_fst] at h

/-- selecting by position from a duplicate-free list: the entry at `b` is kept exactly when `p b` -/
theorem mem_select (l : List Nat) (hl : l.Nodup) (p : Nat → Bool) (b : Nat) (hb : b < l.length) :
    l[b] ∈ (l.zipIdx.filter fun xb => p xb.2).map (·.1) ↔ p b = true := by
  simp only [List.mem_map, List.mem_filter, Prod.exists, List.mem_zipIdx_iff_getElem?]
  constructor
  · rintro ⟨x, i, ⟨hi, hp⟩, rfl⟩
    obtain ⟨hi', hx⟩ := List.getElem?_eq_some_iff.1 hi
    rwa [← (List.getElem_inj hl).1 hx]
  · intro h
    exact ⟨l[b], b, ⟨List.getElem?_eq_getElem hb, h⟩, rfl⟩

theorem wrapEdges_sublist (e : Edge) (he : e ∈ wrapEdges) : e.Sublist wrapNodes := by
  obtain ⟨m, _, rfl⟩ := List.mem_map.1 he
  exact ((select_sublist wrapRest _).cons_cons 5).cons_cons 3

/-- the hyperedge of `m < 256` holds the `b`-th node of `wrapRest` exactly when bit `b` of `m` is set, so `m` can be read off it -/
theorem wrapEdges_nodup : wrapEdges.Nodup := by
  refine List.pairwise_map.2 (List.nodup_range.imp_of_mem fun {m m'} hm hm' hne h => hne ?_)
  have hm := List.mem_range.1 hm
  have hm' := List.mem_range.1 hm'
  simp only [List.cons.injEq, true_and] at h
  apply Nat.eq_of_testBit_eq
  intro b
  by_cases hb : b < 8
  · have h1 := mem_select wrapRest (by decide) (m.testBit ·) b hb
    rw [h, mem_select wrapRest (by decide) (m'.testBit ·) b hb] at h1
    exact Bool.eq_iff_iff.2 h1.symm
  · have : 2 ^ 8 ≤ 2 ^ b := Nat.pow_le_pow_right (by decide) (by omega)
    rw [Nat.testBit_lt_two_pow (by omega), Nat.testBit_lt_two_pow (by omega)]

end C09
