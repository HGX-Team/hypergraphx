import Hgxv.Model.C19
import Mathlib.Algebra.Order.Field.Rat
/-! C19 part B: the scan `stepUp`, and the step-up rule `threshold` that runs it, as a multiple-testing procedure.

`stepUp_cases` says what the scan returns: its start value when no position is below its line, the line of the LAST
position below its line otherwise.  Everything else about the scan follows from it: it is a step-UP scan (every
position below its line bounds the result from below, whatever the earlier positions do - a step-down scan stops at
the first position that is not below its line: seeded change C19-a2), and it stays below every bound of the lines that
are hit (the inequality of the rule is strict: seeded change C19-d2 reads `p ≤ line`). -/
namespace C19

theorem stepUp_cases (bonf : Rat) (l : List Rat) (i : Nat) (best : Rat) :
    (stepUp bonf l i best = best ∧ ∀ j (h : j < l.length), ¬ l[j] < ((i + j : Nat) : Rat) * bonf) ∨
    (∃ j, ∃ h : j < l.length, l[j] < ((i + j : Nat) : Rat) * bonf ∧
      (∀ j' (h' : j' < l.length), j < j' → ¬ l[j'] < ((i + j' : Nat) : Rat) * bonf) ∧
      stepUp bonf l i best = ((i + j : Nat) : Rat) * bonf) := by
  induction l generalizing i best with
  | nil => exact .inl ⟨rfl, fun j h => absurd h (Nat.not_lt_zero j)⟩
  | cons p ps ih =>
    -- position `j` of `ps`, scanned from `i + 1`, is position `j + 1` of `p :: ps`, scanned from `i`
    have shift : ∀ j, i + 1 + j = i + (j + 1) := fun j => Nat.add_right_comm i 1 j
    rw [stepUp]
    rcases ih (i + 1) (if p < (i : Rat) * bonf then (i : Rat) * bonf else best) with
      ⟨heq, hno⟩ | ⟨j, hj, hhit, hlast, heq⟩
    · have hno' : ∀ j' (h' : j' + 1 < (p :: ps).length), ¬ (p :: ps)[j' + 1] < ((i + (j' + 1) : Nat) : Rat) * bonf :=
        fun j' h' => shift j' ▸ hno j' (Nat.lt_of_succ_lt_succ h')
      by_cases h0 : p < (i : Rat) * bonf
      · refine .inr ⟨0, Nat.zero_lt_succ _, h0, fun j' h' hpos => ?_, by rw [heq, if_pos h0]; rfl⟩
        obtain ⟨j0, rfl⟩ := Nat.exists_eq_succ_of_ne_zero (Nat.ne_of_gt hpos)
        exact hno' j0 h'
      · refine .inl ⟨by rw [heq, if_neg h0], fun j' h' => ?_⟩
        cases j' with
        | zero => exact h0
        | succ j0 => exact hno' j0 h'
    · refine .inr ⟨j + 1, Nat.succ_lt_succ hj, shift j ▸ hhit, fun j' h' hlt => ?_, by rw [heq, shift]⟩
      obtain ⟨j0, rfl⟩ := Nat.exists_eq_succ_of_ne_zero (Nat.ne_of_gt (Nat.zero_lt_of_lt hlt))
      exact shift j0 ▸ hlast j0 (Nat.lt_of_succ_lt_succ h') (Nat.lt_of_succ_lt_succ hlt)

theorem line_mono {bonf : Rat} (hb : 0 ≤ bonf) {a b : Nat} (h : a ≤ b) : (a : Rat) * bonf ≤ (b : Rat) * bonf :=
  mul_le_mul_of_nonneg_right (Nat.cast_le.mpr h) hb

/-- the scan never falls below a running value that is at most the current line (`bonf ≥ 0`: the lines increase) -/
theorem stepUp_ge_best (bonf : Rat) (hb : 0 ≤ bonf) (l : List Rat) (i : Nat) (best : Rat)
    (h : best ≤ ((i : Nat) : Rat) * bonf) : best ≤ stepUp bonf l i best := by
  rcases stepUp_cases bonf l i best with ⟨heq, _⟩ | ⟨j, _, _, _, heq⟩
  · rw [heq]
  · rw [heq]; exact le_trans h (line_mono hb (Nat.le_add_right i j))

/-- step-up: EVERY position below its line bounds the result from below, whatever happens before it -/
theorem stepUp_ge_hit (bonf : Rat) (hb : 0 ≤ bonf) (l : List Rat) (i : Nat) (best : Rat)
    (j : Nat) (hj : j < l.length) (hhit : l[j] < ((i + j : Nat) : Rat) * bonf) :
    ((i + j : Nat) : Rat) * bonf ≤ stepUp bonf l i best := by
  rcases stepUp_cases bonf l i best with ⟨_, hno⟩ | ⟨j0, _, _, hlast, heq⟩
  · exact absurd hhit (hno j hj)
  · rw [heq]
    exact line_mono hb (Nat.add_le_add_left (Nat.le_of_not_lt fun hlt => hlast j hj hlt hhit) i)

/-- the scan stays below every bound of the starting value and of the lines that are hit -/
theorem stepUp_le (bonf : Rat) (l : List Rat) (i : Nat) (best B : Rat) (hbest : best ≤ B)
    (hh : ∀ j (hj : j < l.length), l[j] < ((i + j : Nat) : Rat) * bonf → ((i + j : Nat) : Rat) * bonf ≤ B) :
    stepUp bonf l i best ≤ B := by
  rcases stepUp_cases bonf l i best with ⟨heq, _⟩ | ⟨j, hj, hhit, _, heq⟩
  · rw [heq]; exact hbest
  · rw [heq]; exact hh j hj hhit

/-! The step-up rule: `threshold_cases` is `stepUp_cases` for the scan `threshold` runs (sorted p-values, ranks from 1,
start value 0). -/

theorem sorted_mergeSort (ps : List Rat) : (ps.mergeSort (fun a b => a ≤ b)).Pairwise (· ≤ ·) := by
  have := List.pairwise_mergeSort (le := fun (a b : Rat) => decide (a ≤ b))
    (fun a b c h1 h2 => by simp only [decide_eq_true_eq] at *; exact Rat.le_trans h1 h2)
    (fun a b => by simp only [Bool.or_eq_true, decide_eq_true_eq]; exact Rat.le_total) ps
  simpa using this

theorem threshold_of_sorted (ps s : List Rat) (bonf : Rat) (hp : s.Perm ps) (hs : s.Pairwise (· ≤ ·)) :
    threshold ps bonf = stepUp bonf s 1 0 := by
  unfold threshold
  rw [List.Perm.eq_of_pairwise (fun a b _ _ h1 h2 => Rat.le_antisymm h1 h2) (sorted_mergeSort ps) hs
    ((List.mergeSort_perm ps _).trans hp.symm)]

theorem threshold_cases (ps : List Rat) (bonf : Rat) :
    let s := ps.mergeSort (fun a b => a ≤ b)
    (threshold ps bonf = 0 ∧ ∀ j (h : j < s.length), ¬ s[j] < ((j + 1 : Nat) : Rat) * bonf) ∨
    (∃ j, ∃ h : j < s.length, s[j] < ((j + 1 : Nat) : Rat) * bonf ∧
      (∀ j' (h' : j' < s.length), j < j' → ¬ s[j'] < ((j' + 1 : Nat) : Rat) * bonf) ∧
      threshold ps bonf = ((j + 1 : Nat) : Rat) * bonf) := by
  have h := stepUp_cases bonf (ps.mergeSort (fun a b => a ≤ b)) 1 0
  simp only [Nat.add_comm 1] at h
  exact h

theorem threshold_ge_hit (ps : List Rat) (bonf : Rat) (hb : 0 ≤ bonf) (j : Nat)
    (hj : j < (ps.mergeSort (fun a b => a ≤ b)).length)
    (hhit : (ps.mergeSort (fun a b => a ≤ b))[j] < ((j + 1 : Nat) : Rat) * bonf) :
    ((j + 1 : Nat) : Rat) * bonf ≤ threshold ps bonf := by
  have h := stepUp_ge_hit bonf hb (ps.mergeSort (fun a b => a ≤ b)) 1 0 j hj (by rw [Nat.add_comm 1 j]; exact hhit)
  rwa [Nat.add_comm 1 j] at h

theorem threshold_le (ps : List Rat) (bonf B : Rat) (hB : 0 ≤ B)
    (hh : ∀ j (hj : j < (ps.mergeSort (fun a b => a ≤ b)).length),
      (ps.mergeSort (fun a b => a ≤ b))[j] < ((j + 1 : Nat) : Rat) * bonf → ((j + 1 : Nat) : Rat) * bonf ≤ B) :
    threshold ps bonf ≤ B :=
  stepUp_le bonf (ps.mergeSort (fun a b => a ≤ b)) 1 0 B hB fun j hj hhit => by
    rw [Nat.add_comm 1 j] at hhit ⊢; exact hh j hj hhit

theorem threshold_nonneg (ps : List Rat) (bonf : Rat) (hb : 0 ≤ bonf) : 0 ≤ threshold ps bonf :=
  stepUp_ge_best bonf hb (ps.mergeSort (fun a b => a ≤ b)) 1 0 (by rw [Nat.cast_one, one_mul]; exact hb)

theorem filter_length_prefix {α : Type} (P : α → Bool) (l : List α) (k : Nat) (hk : k ≤ l.length)
    (h1 : ∀ i (h : i < l.length), i < k → P l[i] = true) (h2 : ∀ i (h : i < l.length), k ≤ i → P l[i] = false) :
    (l.filter P).length = k := by
  induction l generalizing k with
  | nil => exact (Nat.le_zero.mp hk).symm
  | cons a t ih =>
    cases k with
    | zero =>
      rw [List.filter_eq_nil_iff.mpr, List.length_nil]
      intro x hx
      obtain ⟨i, hi, rfl⟩ := List.mem_iff_getElem.mp hx
      exact ne_true_of_eq_false (h2 i hi (Nat.zero_le _))
    | succ k0 =>
      have ha : P a = true := h1 0 (Nat.zero_lt_succ _) (Nat.zero_lt_succ _)
      rw [List.filter_cons_of_pos ha, List.length_cons,
        ih k0 (Nat.le_of_succ_le_succ hk) (fun i hi hik => h1 (i + 1) (Nat.succ_lt_succ hi) (Nat.succ_lt_succ hik))
          (fun i hi hik => h2 (i + 1) (Nat.succ_lt_succ hi) (Nat.succ_le_succ hik))]

theorem threshold_rank (ps : List Rat) (bonf : Rat) (hb : 0 ≤ bonf) :
    let s := ps.mergeSort (fun a b => a ≤ b)
    let k := (ps.filter (fun p => validated ps bonf p)).length
    threshold ps bonf = (k : Rat) * bonf ∧ k ≤ s.length ∧
    (∀ _ : 0 < k, ∃ h' : k - 1 < s.length, s[k - 1] < (k : Rat) * bonf) ∧
    (∀ j (h : j < s.length), s[j] < ((j + 1 : Nat) : Rat) * bonf → j + 1 ≤ k) := by
  intro s k
  have hk : k = (s.filter (fun p => validated ps bonf p)).length :=
    ((List.mergeSort_perm ps _).filter _).length_eq.symm
  -- if the threshold is the line of rank `m`, the first `m` sorted p-values are below it and no later rank is below
  -- its own line, then exactly those `m` are validated
  have count : ∀ m, m ≤ s.length → threshold ps bonf = (m : Rat) * bonf →
      (∀ i (h : i < s.length), i < m → s[i] < (m : Rat) * bonf) →
      (∀ i (h : i < s.length), m ≤ i → ¬ s[i] < ((i + 1 : Nat) : Rat) * bonf) → k = m := by
    intro m hm heq hlow hhigh
    rw [hk]
    refine filter_length_prefix _ s m hm (fun i h hi => decide_eq_true (by rw [heq]; exact hlow i h hi))
      (fun i h hi => decide_eq_false fun hlt => hhigh i h hi (lt_of_lt_of_le hlt ?_))
    rw [heq]; exact line_mono hb (Nat.le_succ_of_le hi)
  rcases threshold_cases ps bonf with ⟨heq, hno⟩ | ⟨j, hj, hhit, hlast, heq⟩
  · have hk0 : k = 0 := count 0 (Nat.zero_le _) (by rw [heq, Nat.cast_zero, zero_mul])
      (fun i _ hi => absurd hi (Nat.not_lt_zero i)) (fun i h _ => hno i h)
    rw [hk0]
    exact ⟨by rw [heq, Nat.cast_zero, zero_mul], Nat.zero_le _, fun h => absurd h (Nat.lt_irrefl 0),
      fun j hj hhit => absurd hhit (hno j hj)⟩
  · have hkj : k = j + 1 := count (j + 1) hj heq
      (fun i h hi => lt_of_le_of_lt
        ((Nat.lt_or_eq_of_le (Nat.le_of_lt_succ hi)).elim
          (fun hlt => List.pairwise_iff_getElem.mp (sorted_mergeSort ps) i j h hj hlt)
          (fun he => by subst he; exact le_refl _)) hhit)
      (fun i h hi => hlast i h hi)
    rw [hkj]
    exact ⟨heq, hj, fun _ => ⟨hj, hhit⟩,
      fun j' hj' hhit' => Nat.succ_le_succ (Nat.le_of_not_lt fun hlt => hlast j' hj' hlt hhit')⟩

theorem threshold_mono (ps : List Rat) (b b' : Rat) (hb : 0 ≤ b) (hbb : b ≤ b') :
    threshold ps b ≤ threshold ps b' := by
  have hb' : 0 ≤ b' := le_trans hb hbb
  refine threshold_le ps b _ (threshold_nonneg ps b' hb') (fun j hj hhit => ?_)
  have hc : ((j + 1 : Nat) : Rat) * b ≤ ((j + 1 : Nat) : Rat) * b' := mul_le_mul_of_nonneg_left hbb (Nat.cast_nonneg _)
  exact le_trans hc (threshold_ge_hit ps b' hb' j hj (lt_of_lt_of_le hhit hc))

theorem threshold_le_all (ps : List Rat) (bonf : Rat) (hb : 0 ≤ bonf) :
    threshold ps bonf ≤ (ps.length : Rat) * bonf :=
  threshold_le ps bonf _ (mul_nonneg (Nat.cast_nonneg _) hb)
    (fun _ hj _ => line_mono hb (List.length_mergeSort ps ▸ hj))

theorem threshold_ge_bonf (ps : List Rat) (bonf : Rat) (hb : 0 ≤ bonf) (p : Rat) (hp : p ∈ ps) (hlt : p < bonf) :
    bonf ≤ threshold ps bonf := by
  obtain ⟨i, hi, hip⟩ := List.mem_iff_getElem.mp ((List.mergeSort_perm ps (fun a b => a ≤ b)).mem_iff.mpr hp)
  have h0 : 0 < (ps.mergeSort (fun a b => a ≤ b)).length := Nat.lt_of_le_of_lt (Nat.zero_le i) hi
  have hle : (ps.mergeSort (fun a b => a ≤ b))[0] ≤ p := by
    rw [← hip]
    rcases Nat.eq_zero_or_pos i with rfl | hpos
    · exact le_refl _
    · exact (List.pairwise_iff_getElem.mp (sorted_mergeSort ps)) 0 i h0 hi hpos
  have := threshold_ge_hit ps bonf hb 0 h0 (by rw [Nat.zero_add, Nat.cast_one, one_mul]; exact lt_of_le_of_lt hle hlt)
  rwa [Nat.zero_add, Nat.cast_one, one_mul] at this

theorem validated_lt_alpha (ps : List Rat) (alpha : Rat) (C : Nat) (h0 : 0 ≤ alpha) (hm : ps.length ≤ C) (p : Rat)
    (hp : p ∈ ps) (hv : validated ps (alpha / (C : Rat)) p = true) : p < alpha := by
  have hCq : (0 : Rat) < (C : Rat) := Nat.cast_pos.mpr (Nat.lt_of_lt_of_le (List.length_pos_of_mem hp) hm)
  have hb : 0 ≤ alpha / (C : Rat) := div_nonneg h0 (le_of_lt hCq)
  calc p < threshold ps (alpha / (C : Rat)) := of_decide_eq_true hv
    _ ≤ (ps.length : Rat) * (alpha / (C : Rat)) := threshold_le_all ps _ hb
    _ ≤ (C : Rat) * (alpha / (C : Rat)) := line_mono hb hm
    _ = alpha := mul_div_cancel₀ alpha (ne_of_gt hCq)

theorem flagged_count (rows : List Row) (ps : List Rat) (bonf : Rat) (hps : ps = rows.map (·.p)) :
    ((rows.map (fun r => (r, validated ps bonf r.p))).filter (·.2)).length =
      (ps.filter (fun p => validated ps bonf p)).length := by
  subst hps
  rw [List.filter_map, List.length_map, List.filter_map, List.length_map]
  rfl

end C19
