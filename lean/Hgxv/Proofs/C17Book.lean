import Hgxv.Proofs.C17Psi
/-! Bookkeeping of `fit` and the assembly step of `HySC.apply_kmeans`. -/
namespace C17

section best
variable {α : Type} [LinearOrder α] {β : Type}

theorem bestStep_pos {acc : α × Option β} {r : α × β} (h : acc.1 < r.1) : bestStep acc r = (r.1, some r.2) := if_pos h

theorem bestStep_neg {acc : α × Option β} {r : α × β} (h : ¬ acc.1 < r.1) : bestStep acc r = acc := if_neg h

/-- the fold `if self.maxL < loglik: save` over the realisations, started from any accumulator -/
theorem best_fold (rs : List (α × β)) : ∀ (acc : α × Option β),
    let res := rs.foldl bestStep acc
    acc.1 ≤ res.1 ∧ (∀ r ∈ rs, r.1 ≤ res.1) ∧
    (res = acc ∨ ∃ b, res.2 = some b ∧ (res.1, b) ∈ rs ∧ acc.1 < res.1) := by
  induction rs with
  | nil => intro acc; simp
  | cons r rs ih =>
    intro acc
    simp only [List.foldl_cons]
    obtain ⟨h1, h2, h3⟩ := ih (bestStep acc r)
    by_cases hlt : acc.1 < r.1
    · -- `r` replaces the accumulator: the result is `r` itself or a later, strictly better one
      rw [bestStep_pos hlt] at h1 h2 h3 ⊢
      refine ⟨hlt.le.trans h1, List.forall_mem_cons.mpr ⟨h1, h2⟩, Or.inr ?_⟩
      rcases h3 with h3 | ⟨b, hb1, hb2, hb3⟩
      · rw [h3]; exact ⟨r.2, rfl, List.mem_cons_self, hlt⟩
      · exact ⟨b, hb1, List.mem_cons_of_mem _ hb2, hlt.trans hb3⟩
    · rw [bestStep_neg hlt] at h1 h2 h3 ⊢
      refine ⟨h1, List.forall_mem_cons.mpr ⟨(not_lt.mp hlt).trans h1, h2⟩, h3.imp_right ?_⟩
      rintro ⟨b, hb1, hb2, hb3⟩
      exact ⟨b, hb1, List.mem_cons_of_mem _ hb2, hb3⟩

/-- as soon as one realisation ends above the start value, the stored optimum the fold started with is gone -/
theorem fold_forgets (rs : List (α × β)) : ∀ (a : α) (s s' : Option β), (∃ r ∈ rs, a < r.1) →
    rs.foldl bestStep (a, s) = rs.foldl bestStep (a, s') := by
  induction rs with
  | nil => intro a s s' h; obtain ⟨r, hr, _⟩ := h; simp at hr
  | cons r rs ih =>
    intro a s s' h
    rw [List.foldl_cons, List.foldl_cons]
    by_cases hlt : a < r.1
    · rw [bestStep_pos (acc := (a, s)) hlt, bestStep_pos (acc := (a, s')) hlt]
    · rw [bestStep_neg (acc := (a, s)) hlt, bestStep_neg (acc := (a, s')) hlt]
      obtain ⟨x, hx, hxlt⟩ := h
      exact ih a s s' ⟨x, (List.mem_cons.mp hx).resolve_left fun hxr => hlt (hxr ▸ hxlt), hxlt⟩

theorem fold_keeps (rs : List (α × β)) (o : α × Option β) (h : ∀ r ∈ rs, r.1 ≤ o.1) : rs.foldl bestStep o = o := by
  obtain ⟨_, _, h3 | ⟨b, _, hb2, hb3⟩⟩ := best_fold rs o
  · exact h3
  · exact absurd hb3 (not_lt.mpr (h _ hb2))

end best

section conv
variable {α : Type} [Sub α] [Zero α] [LT α] [DecidableLT α]

/-- a sweep on which `_check_for_convergence` compares and a `train_info` row is written -/
theorem convStep_check (tol : α) (thr every : Nat) (s : Conv α) (L : α) (h : s.it % every = 0) :
    convStep tol thr every s L =
      { loglik := L, nTol := if absd (L - s.loglik) < tol then s.nTol + 1 else 0,
        conv := if thr < (if absd (L - s.loglik) < tol then s.nTol + 1 else 0) then true else s.conv, it := s.it + 1,
        rows := (s.it, L, if thr < (if absd (L - s.loglik) < tol then s.nTol + 1 else 0) then true else s.conv)
          :: s.rows } := by
  unfold convStep; simp only [h, if_true]

theorem convStep_skip (tol : α) (thr every : Nat) (s : Conv α) (L : α) (h : ¬ s.it % every = 0) :
    convStep tol thr every s L = { s with conv := if thr < s.nTol then true else s.conv, it := s.it + 1 } := by
  unfold convStep; simp only [h, if_false]

/-- what holds of the loop state as long as the loop is running: the tolerance counter never exceeds the number of recorded
checks, that number never exceeds the number of sweeps, every recorded iteration is a multiple of `check_convergence_every`
below the current iteration, the flag is set only when the counter exceeds the threshold, the newest `train_info` row
carries the current `loglik`, and there is a row after the first sweep -/
structure LoopInv (thr every : Nat) (s : Conv α) : Prop where
  tolRows : s.nTol ≤ s.rows.length
  rowsIt : s.rows.length ≤ s.it
  mult : ∀ r ∈ s.rows, r.1 % every = 0 ∧ r.1 < s.it
  flag : s.conv = true → thr < s.nTol
  head : ∀ r, s.rows.head? = some r → r.2.1 = s.loglik
  first : 0 < s.it → s.rows ≠ []

theorem convStep_inv (tol : α) (thr every : Nat) (s : Conv α) (L : α) (h : LoopInv thr every s) (hc : s.conv = false) :
    LoopInv thr every (convStep tol thr every s L) := by
  have hflag : ∀ n, (if thr < n then true else s.conv) = true → thr < n := by
    intro n hn; rw [hc] at hn; exact Decidable.of_not_not fun hq => by rw [if_neg hq] at hn; cases hn
  have hmult : ∀ r ∈ s.rows, r.1 % every = 0 ∧ r.1 < s.it + 1 :=
    fun r hr => ⟨(h.mult r hr).1, Nat.lt_succ_of_lt (h.mult r hr).2⟩
  by_cases hk : s.it % every = 0
  · rw [convStep_check tol thr every s L hk]
    refine ⟨?_, Nat.succ_le_succ h.rowsIt, ?_, hflag _, ?_, fun _ => List.cons_ne_nil _ _⟩
    · have := h.tolRows
      simp only [List.length_cons]
      split <;> omega
    · intro r hr
      rcases List.mem_cons.mp hr with rfl | hr
      · exact ⟨hk, Nat.lt_succ_self _⟩
      · exact hmult r hr
    · intro r hr
      rw [List.head?_cons, Option.some.injEq] at hr
      rw [← hr]
  · rw [convStep_skip tol thr every s L hk]
    exact ⟨h.tolRows, Nat.le_succ_of_le h.rowsIt, hmult, hflag _, h.head,
      fun _ => h.first (Nat.pos_of_ne_zero fun h0 => hk (by rw [h0, Nat.zero_mod]))⟩

theorem convStep_it (tol : α) (thr every : Nat) (s : Conv α) (L : α) : (convStep tol thr every s L).it = s.it + 1 := rfl

theorem go_spec (tol : α) (thr every : Nat) : ∀ (n : Nat) (Ls : List α) (s : Conv α), LoopInv thr every s →
    LoopInv thr every (runReal.go tol thr every n Ls s) ∧
    (runReal.go tol thr every n Ls s).it ≤ s.it + n ∧ (runReal.go tol thr every n Ls s).it ≤ s.it + Ls.length ∧
    ((runReal.go tol thr every n Ls s).conv = false → (runReal.go tol thr every n Ls s).it = s.it + min n Ls.length)
  | 0, _, s, h => by
    unfold runReal.go; exact ⟨h, Nat.le_add_right .., Nat.le_add_right .., fun _ => by rw [Nat.zero_min]; rfl⟩
  | _ + 1, [], s, h => by
    unfold runReal.go; exact ⟨h, Nat.le_add_right .., Nat.le_add_right .., fun _ => by rw [List.length_nil, Nat.min_zero]; rfl⟩
  | n + 1, L :: Ls, s, h => by
    unfold runReal.go
    split
    · next hc => exact ⟨h, Nat.le_add_right .., Nat.le_add_right .., fun hf => by rw [hc] at hf; cases hf⟩
    · next hc =>
      obtain ⟨a, b, c1, e⟩ := go_spec tol thr every n Ls _
        (convStep_inv tol thr every s L h (Bool.not_eq_true _ ▸ hc))
      rw [convStep_it] at b c1 e
      refine ⟨a, by omega, by rw [List.length_cons]; omega, fun hf => ?_⟩
      rw [e hf, List.length_cons]; omega

omit [Sub α] [Zero α] [LT α] [DecidableLT α] in
theorem loopInv_start (thr every : Nat) (inf : α) :
    LoopInv thr every ({ loglik := inf, nTol := 0, conv := false, it := 0, rows := [] } : Conv α) :=
  ⟨Nat.le_refl _, Nat.le_refl _, fun _ h => absurd h List.not_mem_nil, fun h => Bool.noConfusion h,
    fun _ h => (by cases h), fun h => absurd h (Nat.lt_irrefl 0)⟩

theorem runReal_spec (tol : α) (thr every maxIter : Nat) (inf : α) (Ls : List α) :
    LoopInv thr every (runReal tol thr every maxIter inf Ls) ∧
    (runReal tol thr every maxIter inf Ls).it ≤ maxIter ∧ (runReal tol thr every maxIter inf Ls).it ≤ Ls.length ∧
    ((runReal tol thr every maxIter inf Ls).conv = false →
      (runReal tol thr every maxIter inf Ls).it = min maxIter Ls.length) := by
  have h := go_spec tol thr every maxIter Ls _ (loopInv_start thr every inf)
  simp only [Nat.zero_add] at h
  exact h

end conv

def asmStep (N K : Nat) (X : List (List Nat)) (p : Nat × Nat) : List (List Nat) :=
  (List.range N).map (fun j => (List.range K).map (fun k => if j = p.1 ∧ k = p.2 then 1 else (X.getD j []).getD k 0))

theorem assemble_eq (N K : Nat) (a b : List Nat) :
    assemble N K a b = (a.zip b).foldl (asmStep N K) (tab2 N K (fun _ _ => 0)) := rfl

theorem asm_fold (N K : Nat) (ps : List (Nat × Nat)) : ∀ (X : List (List Nat)) (j k : Nat), j < N → k < K →
    at2 (ps.foldl (asmStep N K) X) j k = if (j, k) ∈ ps then 1 else at2 X j k := by
  induction ps with
  | nil => intro X j k _ _; simp
  | cons p ps ih =>
    intro X j k hj hk
    simp only [List.foldl_cons]
    rw [ih _ j k hj hk]
    have : at2 (asmStep N K X p) j k = if j = p.1 ∧ k = p.2 then 1 else at2 X j k :=
      at2_tab2 N K (fun j k => if j = p.1 ∧ k = p.2 then 1 else (X.getD j []).getD k 0) j k hj hk
    rw [this]
    by_cases h1 : (j, k) ∈ ps
    · simp [h1]
    · by_cases h2 : j = p.1 ∧ k = p.2
      · have : (j, k) = p := by cases p; simp_all
        simp [h2]
      · have : ¬ (j, k) = p := by intro h; apply h2; rw [← h]; exact ⟨rfl, rfl⟩
        simp [h1, h2, this]

theorem assemble_at (N K : Nat) (a b : List Nat) (j k : Nat) (hj : j < N) (hk : k < K) :
    at2 (assemble N K a b) j k = if (j, k) ∈ a.zip b then 1 else 0 := by
  rw [assemble_eq, asm_fold N K _ _ j k hj hk, at2_tab2 _ _ _ _ _ hj hk]

theorem zip_functional : ∀ (a b : List Nat), a.Nodup → ∀ j k k', (j, k) ∈ a.zip b → (j, k') ∈ a.zip b → k = k'
  | [], _, _, _, _, _, h, _ => by simp at h
  | _ :: _, [], _, _, _, _, h, _ => by simp at h
  | x :: a, y :: b, hnd, j, k, k', h, h' => by
    simp only [List.zip_cons_cons, List.mem_cons, Prod.mk.injEq] at h h'
    have hx : x ∉ a := (List.nodup_cons.mp hnd).1
    rcases h with ⟨rfl, rfl⟩ | h
    · rcases h' with ⟨_, rfl⟩ | h'
      · rfl
      · exact absurd (List.of_mem_zip h').1 hx
    · rcases h' with ⟨rfl, rfl⟩ | h'
      · exact absurd (List.of_mem_zip h).1 hx
      · exact zip_functional a b (List.nodup_cons.mp hnd).2 j k k' h h'

theorem zip_total : ∀ (a b : List Nat), b.length = a.length → ∀ j, j ∈ a → ∃ k, k ∈ b ∧ (j, k) ∈ a.zip b
  | [], _, _, _, h => by simp at h
  | x :: a, [], hl, _, _ => by simp at hl
  | x :: a, y :: b, hl, j, h => by
    rcases List.mem_cons.mp h with rfl | h
    · exact ⟨y, by simp, by simp⟩
    · obtain ⟨k, hk, hz⟩ := zip_total a b (by simpa using hl) j h
      exact ⟨k, by simp [hk], by simp [hz]⟩

end C17
