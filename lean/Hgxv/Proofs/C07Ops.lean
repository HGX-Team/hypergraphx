import Hgxv.Proofs.AL
import Hgxv.Proofs.C07Sort
/-! # C07: the table-level operations preserve `WF`; batched calls are runs of their single calls, an attribute edit is
the whole-entry setter and writes one entry -/
namespace C07
open AL

theorem nodeWF_set_both {adj : List (Nat × List Nat)} {nm : List (Nat × JTree)} (h : NodeWF adj nm)
    (n : Nat) (x : List Nat) (y : JTree) : NodeWF (set adj n x) (set nm n y) where
  adjNodup := keys_set_nodup _ n x h.adjNodup
  nmNodup := keys_set_nodup _ n y h.nmNodup
  same m := by rw [mem_keys_set, mem_keys_set, h.same m]

theorem nodeWF_set_adj {adj : List (Nat × List Nat)} {nm : List (Nat × JTree)} (h : NodeWF adj nm)
    {n : Nat} (hn : n ∈ keys adj) (x : List Nat) : NodeWF (set adj n x) nm := by
  have : keys (set adj n x) = keys adj := keys_set_of_mem adj n x ((isSome_get?_iff _ _).mpr hn)
  exact ⟨this ▸ h.adjNodup, h.nmNodup, fun m => by rw [this]; exact h.same m⟩

theorem nodeWF_set_nm {adj : List (Nat × List Nat)} {nm : List (Nat × JTree)} (h : NodeWF adj nm)
    {n : Nat} (hn : n ∈ keys nm) (y : JTree) : NodeWF adj (set nm n y) := by
  have : keys (set nm n y) = keys nm := keys_set_of_mem nm n y ((isSome_get?_iff _ _).mpr hn)
  exact ⟨h.adjNodup, this ▸ h.nmNodup, fun m => by rw [this]; exact h.same m⟩

theorem nodeWF_erase_both {adj : List (Nat × List Nat)} {nm : List (Nat × JTree)} (h : NodeWF adj nm)
    (n : Nat) : NodeWF (erase adj n) (erase nm n) where
  adjNodup := keys_erase_nodup _ n h.adjNodup
  nmNodup := keys_erase_nodup _ n h.nmNodup
  same m := by rw [mem_keys_erase _ _ _ h.adjNodup, mem_keys_erase _ _ _ h.nmNodup, h.same m]

variable {κ : Type} [Kind κ]

/-- `t'` differs from `t` only in the node tables (`adj`, `adjT`, `nodeMeta`), and these stay well-formed -/
structure NodeOnly (t t' : Tables κ) : Prop where
  el : t'.edgeList = t.edgeList
  ws : t'.weights = t.weights
  em : t'.edgeMeta = t.edgeMeta
  nid : t'.nextId = t.nextId
  node : NodeWF t.adj t.nodeMeta → NodeWF t'.adj t'.nodeMeta

theorem NodeOnly.refl (t : Tables κ) : NodeOnly t t := ⟨rfl, rfl, rfl, rfl, id⟩

theorem NodeOnly.trans {a b c : Tables κ} (h : NodeOnly a b) (g : NodeOnly b c) : NodeOnly a c :=
  ⟨g.el.trans h.el, g.ws.trans h.ws, g.em.trans h.em, g.nid.trans h.nid, fun w => g.node (h.node w)⟩

theorem NodeOnly.foldl {α : Type} (f : Tables κ → α → Tables κ) (hf : ∀ s x, NodeOnly s (f s x))
    (l : List α) (t : Tables κ) : NodeOnly t (l.foldl f t) := by
  induction l generalizing t with
  | nil => exact NodeOnly.refl t
  | cons a r ih => exact (hf t a).trans (ih (f t a))

theorem NodeOnly.wf {t t' : Tables κ} (h : NodeOnly t t') (w : WF t) : WF t' := by
  refine ⟨h.node w.node, ?_⟩
  rw [h.el, h.ws, h.em, h.nid]; exact w.edge

theorem nodeKnown_iff {t : Tables κ} (w : NodeWF t.adj t.nodeMeta) (n : Nat) :
    nodeKnown t n = true ↔ n ∈ keys t.adj := by
  unfold nodeKnown
  split
  · rw [has_iff, w.same n]
  · rw [has_iff]

theorem touchNode_nodeOnly (t : Tables κ) (n : Nat) : NodeOnly t (touchNode t n) := by
  unfold touchNode
  split
  · exact NodeOnly.refl t
  · exact ⟨rfl, rfl, rfl, rfl, fun w => nodeWF_set_both w n [] emptyObj⟩

theorem touchNode_mem {t : Tables κ} (w : NodeWF t.adj t.nodeMeta) (n : Nat) : n ∈ keys (touchNode t n).adj := by
  unfold touchNode
  split
  · rename_i h; exact (nodeKnown_iff w n).mp h
  · exact (mem_keys_set _ _ _ _).mpr (Or.inl rfl)

theorem fillNodeMeta_nodeOnly (t : Tables κ) (n : Nat) (md : JTree) : NodeOnly t (fillNodeMeta t n md) := by
  unfold fillNodeMeta
  split
  · rename_i cur hcur
    split
    · exact ⟨rfl, rfl, rfl, rfl, fun w => nodeWF_set_nm w (mem_keys_of_get? _ _ _ hcur) md⟩
    · exact NodeOnly.refl t
  · exact NodeOnly.refl t

theorem fillNodeMeta_adj (t : Tables κ) (n : Nat) (md : JTree) : (fillNodeMeta t n md).adj = t.adj := by
  unfold fillNodeMeta
  split
  · split <;> rfl
  · rfl

theorem addNode_nodeOnly (t : Tables κ) (n : Nat) (md : Option JTree) : NodeOnly t (addNode t n md) :=
  (touchNode_nodeOnly t n).trans (fillNodeMeta_nodeOnly _ n _)

theorem addNode_mem {t : Tables κ} (w : NodeWF t.adj t.nodeMeta) (n : Nat) (md : Option JTree) :
    n ∈ keys (addNode t n md).adj := by
  unfold addNode
  rw [fillNodeMeta_adj]
  exact touchNode_mem w n

theorem linkNode_nodeOnly (id : Nat) (t : Tables κ) (n : Nat) : NodeOnly t (linkNode id t n) := by
  unfold linkNode
  have h := addNode_nodeOnly t n none
  exact ⟨h.el, h.ws, h.em, h.nid, fun w => nodeWF_set_adj (h.node w) (addNode_mem w n none) _⟩

theorem linkTarget_nodeOnly (id : Nat) (t : Tables κ) (n : Nat) : NodeOnly t (linkTarget id t n) := by
  unfold linkTarget
  exact (addNode_nodeOnly t n none).trans ⟨rfl, rfl, rfl, rfl, fun w => w⟩

theorem unlinkNode_nodeOnly (id : Nat) (t : Tables κ) (n : Nat) : NodeOnly t (unlinkNode id t n) := by
  unfold unlinkNode
  split
  · rename_i ids hids
    exact ⟨rfl, rfl, rfl, rfl, fun w => nodeWF_set_adj w (mem_keys_of_get? _ _ _ hids) _⟩
  · exact NodeOnly.refl t

theorem unlinkTarget_nodeOnly (id : Nat) (t : Tables κ) (n : Nat) : NodeOnly t (unlinkTarget id t n) := by
  unfold unlinkTarget
  split
  · exact ⟨rfl, rfl, rfl, rfl, fun w => w⟩
  · exact NodeOnly.refl t

theorem hasEntry_set {β : Type} {el : List (κ × Nat)} {tbl : List (Nat × β)}
    (hh : ∀ k id, get? el k = some id → (get? tbl id).isSome = true) (k : κ) (nid : Nat) (x : β) :
    ∀ k' id, get? (set el k nid) k' = some id → (get? (set tbl nid x) id).isSome = true := by
  intro k' id hg
  rw [get?_set] at hg
  rw [isSome_set]
  split at hg
  · cases hg; simp
  · rw [hh k' id hg, Bool.or_true]

theorem edgeWF_new {el : List (κ × Nat)} {ws : List (Nat × Num)} {em : List (Nat × JTree)} {nid : Nat}
    (h : EdgeWF el ws em nid) {k : κ} (hk : get? el k = none) (hc : Kind.canonK k = k) (w : Num) (md : JTree) :
    EdgeWF (set el k nid) (set ws nid w) (set em nid md) (nid + 1) where
  elNodup := keys_set_nodup _ k nid h.elNodup
  hasW := hasEntry_set h.hasW k nid w
  hasM := hasEntry_set h.hasM k nid md
  canonKeys k' hk' := by
    rcases (mem_keys_set _ _ _ _).mp hk' with rfl | h'
    · exact hc
    · exact h.canonKeys k' h'
  idsLt k' id hg := by
    rw [get?_set] at hg
    split at hg
    · cases hg; omega
    · have := h.idsLt k' id hg; omega
  idsInj k₁ k₂ id h1 h2 := by
    rw [get?_set] at h1 h2
    split at h1 <;> split at h2
    · rename_i e1 e2; exact e1.symm.trans e2
    · cases h1; have := h.idsLt k₂ _ h2; omega
    · cases h2; have := h.idsLt k₁ _ h1; omega
    · exact h.idsInj k₁ k₂ id h1 h2

theorem edgeWF_setW {el : List (κ × Nat)} {ws : List (Nat × Num)} {em : List (Nat × JTree)} {nid : Nat}
    (h : EdgeWF el ws em nid) (id : Nat) (w : Num) : EdgeWF el (set ws id w) em nid :=
  ⟨h.elNodup, fun k id' hg => by rw [isSome_set, h.hasW k id' hg, Bool.or_true], h.hasM, h.canonKeys, h.idsLt, h.idsInj⟩

theorem edgeWF_setM {el : List (κ × Nat)} {ws : List (Nat × Num)} {em : List (Nat × JTree)} {nid : Nat}
    (h : EdgeWF el ws em nid) (id : Nat) (md : JTree) : EdgeWF el ws (set em id md) nid :=
  ⟨h.elNodup, h.hasW, fun k id' hg => by rw [isSome_set, h.hasM k id' hg, Bool.or_true], h.canonKeys, h.idsLt, h.idsInj⟩

theorem edgeWF_erase {el : List (κ × Nat)} {ws : List (Nat × Num)} {em : List (Nat × JTree)} {nid : Nat}
    (h : EdgeWF el ws em nid) {k : κ} {id : Nat} (hg : get? el k = some id) :
    EdgeWF (erase el k) (erase ws id) (erase em id) nid := by
  have key : ∀ k' id', get? (erase el k) k' = some id' → k ≠ k' ∧ get? el k' = some id' ∧ id ≠ id' := by
    intro k' id' hg'
    rw [get?_erase _ _ _ h.elNodup] at hg'
    split at hg'
    · cases hg'
    · rename_i hne
      refine ⟨hne, hg', fun e => ?_⟩
      subst e
      exact hne (h.idsInj k k' id hg hg')
  exact {
    elNodup := keys_erase_nodup _ k h.elNodup
    hasW := fun k' id' hg' => by
      obtain ⟨_, h2, h3⟩ := key k' id' hg'
      rw [get?_erase_ne ws id id' h3]; exact h.hasW k' id' h2
    hasM := fun k' id' hg' => by
      obtain ⟨_, h2, h3⟩ := key k' id' hg'
      rw [get?_erase_ne em id id' h3]; exact h.hasM k' id' h2
    canonKeys := fun k' hk' => h.canonKeys k' ((mem_keys_erase _ _ _ h.elNodup).mp hk').2
    idsLt := fun k' id' hg' => h.idsLt k' id' (key k' id' hg').2.1
    idsInj := fun k₁ k₂ id' h1 h2 => h.idsInj k₁ k₂ id' (key k₁ id' h1).2.1 (key k₂ id' h2).2.1 }

theorem addEdgeNew_wf {t : Tables κ} (w : WF t) {k : κ} (hk : get? t.edgeList k = none)
    (hc : Kind.canonK k = k) (wv : Num) (md : JTree) : WF (addEdgeNew t k wv md) := by
  unfold addEdgeNew
  apply ((NodeOnly.foldl _ (linkNode_nodeOnly t.nextId) _ _).trans
    (NodeOnly.foldl _ (linkTarget_nodeOnly t.nextId) _ _)).wf
  exact ⟨w.node, edgeWF_new w.edge hk hc _ md⟩

theorem bumpWeight_wf {t : Tables κ} (w : WF t) (id : Nat) (wv : Num) : WF (bumpWeight t id wv) := by
  unfold bumpWeight
  split
  · exact ⟨w.node, edgeWF_setW w.edge _ _⟩
  · exact w

theorem putEdgeMeta_wf {t : Tables κ} (w : WF t) (id : Nat) (md : JTree) : WF (putEdgeMeta t id md) :=
  ⟨w.node, edgeWF_setM w.edge _ _⟩

theorem retouchNodes_wf {t : Tables κ} (w : WF t) (k : κ) : WF (retouchNodes t k) := by
  unfold retouchNodes
  split
  · exact (NodeOnly.foldl _ (fun s n => addNode_nodeOnly s n none) _ _).wf w
  · exact w

theorem addEdgeOld_wf {t : Tables κ} (w : WF t) (k : κ) (id : Nat) (wv : Num) (md : JTree) :
    WF (addEdgeOld t k id wv md) :=
  retouchNodes_wf (putEdgeMeta_wf (bumpWeight_wf w id wv) id md) k

theorem addEdge_wf [LawfulKind κ] {t : Tables κ} (w : WF t) (raw : κ) (wv : Option Num) (md : Option JTree) :
    WF (addEdge t raw wv md).1 := by
  unfold addEdge
  dsimp only
  split
  · exact w
  · split
    · rename_i hnone
      exact addEdgeNew_wf w hnone (LawfulKind.canonK_idem raw) _ _
    · exact addEdgeOld_wf w _ _ _ _

theorem removeEdgeAt_wf {t : Tables κ} (w : WF t) {k : κ} {id : Nat} (hg : get? t.edgeList k = some id) :
    WF (removeEdgeAt t k id) := by
  unfold removeEdgeAt
  have h := (NodeOnly.foldl _ (unlinkNode_nodeOnly (κ := κ) id) (Kind.members k) t).trans
    (NodeOnly.foldl _ (unlinkTarget_nodeOnly (κ := κ) id) (Kind.targets k) _)
  have w1 := h.wf w
  refine ⟨w1.node, ?_⟩
  have hg' : get? ((Kind.targets k).foldl (unlinkTarget id) ((Kind.members k).foldl (unlinkNode id) t)).edgeList k
      = some id := by rw [h.el]; exact hg
  exact edgeWF_erase w1.edge hg'

theorem removeEdge_wf {t : Tables κ} (w : WF t) (raw : κ) : WF (removeEdge t raw).1 := by
  unfold removeEdge
  dsimp only
  split
  · exact w
  · rename_i id hg; exact removeEdgeAt_wf w hg

theorem dropIncident_wf {t : Tables κ} (w : WF t) (id : Nat) : WF (dropIncident t id) := by
  unfold dropIncident
  split
  · exact removeEdge_wf w _
  · exact w

theorem shrinkIncident_wf [LawfulKind κ] (n : Nat) {t : Tables κ} (w : WF t) (id : Nat) :
    WF (shrinkIncident n t id) := by
  unfold shrinkIncident
  split
  · split
    · exact addEdge_wf (removeEdge_wf w _) _ _ _
    · exact removeEdge_wf w _
  · exact w

theorem removeNode_wf [LawfulKind κ] {t : Tables κ} (w : WF t) (n : Nat) (keep : Bool) :
    WF (removeNode t n keep).1 := by
  unfold removeNode
  split
  · exact w
  · rename_i ids _
    have w1 : WF (if keep then (ids ++ (get? t.adjT n).getD []).foldl (shrinkIncident n) t
        else (ids ++ (get? t.adjT n).getD []).foldl dropIncident t) := by
      split
      · exact ListLib.foldl_inv (P := WF) _ (fun s x ws => shrinkIncident_wf n ws x) _ _ w
      · exact ListLib.foldl_inv (P := WF) _ (fun s x ws => dropIncident_wf ws x) _ _ w
    exact ⟨nodeWF_erase_both w1.node n, w1.edge⟩

theorem setNodeMeta_wf {t : Tables κ} (w : WF t) (n : Nat) (md : JTree) : WF (setNodeMeta t n md).1 := by
  unfold setNodeMeta
  split
  · rename_i h
    have : n ∈ keys t.nodeMeta := (w.node.same n).mp ((nodeKnown_iff w.node n).mp h)
    exact ⟨nodeWF_set_nm w.node this md, w.edge⟩
  · exact w

theorem setEdgeMeta_wf {t : Tables κ} (w : WF t) (raw : κ) (md : JTree) : WF (setEdgeMeta t raw md).1 := by
  unfold setEdgeMeta
  split
  · exact ⟨w.node, edgeWF_setM w.edge _ _⟩
  · exact w

theorem setWeight_wf {t : Tables κ} (w : WF t) (raw : κ) (wv : Num) : WF (setWeight t raw wv).1 := by
  unfold setWeight
  split
  · exact w
  · split
    · exact ⟨w.node, edgeWF_setW w.edge _ _⟩
    · exact w

theorem wf_of_empty {t : Tables κ} (ha : t.adj = []) (hn : t.nodeMeta = []) (he : t.edgeList = []) : WF t := by
  refine ⟨⟨?_, ?_, fun n => ?_⟩, ⟨?_, ?_, ?_, ?_, ?_, ?_⟩⟩ <;> simp [ha, hn, he, keys]

theorem clear_wf (t : Tables κ) : WF (clear t) := wf_of_empty rfl rfl rfl

theorem init_wf (κ : Type) [Kind κ] (weighted : Bool) (hm : List (String × JTree)) : WF (init κ weighted hm) :=
  wf_of_empty rfl rfl rfl

theorem editNodeMeta_wf {t : Tables κ} (w : WF t) (n : Nat) (edit : JTree → Option JTree) :
    WF (editNodeMeta t n edit).1 := by
  unfold editNodeMeta
  split
  · rename_i md hmd
    split
    · exact ⟨nodeWF_set_nm w.node (mem_keys_of_get? _ _ _ hmd) _, w.edge⟩
    · exact w
  · exact w

theorem editEdgeMeta_wf {t : Tables κ} (w : WF t) (raw : κ) (edit : JTree → Option JTree) :
    WF (editEdgeMeta t raw edit).1 := by
  unfold editEdgeMeta
  split
  · split
    · split
      · exact ⟨w.node, edgeWF_setM w.edge _ _⟩
      · exact w
    · exact w
  · exact w

theorem setHAttr_wf {t : Tables κ} (w : WF t) (f : String) (v : JTree) : WF (setHAttr t f v).1 := by
  unfold setHAttr
  split
  · exact ⟨w.node, w.edge⟩
  · exact w

theorem addNodes_wf {t : Tables κ} (w : WF t) (items : List (Nat × Option JTree)) : WF (addNodes t items) := by
  unfold addNodes
  exact ListLib.foldl_inv (P := WF) _ (fun s p ws => (addNode_nodeOnly s p.1 p.2).wf ws) items _ w

theorem addEdges_wf [LawfulKind κ] {t : Tables κ} (w : WF t) (withW : Bool)
    (items : List (κ × Option Num × Option JTree)) : WF (addEdges t withW items) := by
  unfold addEdges
  apply ListLib.foldl_inv (P := WF) _ (fun s it ws => addEdge_wf ws _ _ _) items
  split
  · exact ⟨w.node, w.edge⟩
  · exact w

theorem build_wf (κ : Type) [Kind κ] [LawfulKind κ] (weighted : Bool) (hm : List (String × JTree))
    (nodes : List (Nat × JTree)) (withW : Bool) (items : List (κ × Option Num × Option JTree)) :
    WF (build κ weighted hm nodes withW items) :=
  addEdges_wf (addNodes_wf (init_wf κ weighted hm) _) withW items

theorem step_wf [LawfulKind κ] {t : Tables κ} (w : WF t) (op : Op κ) : WF (step t op).1 := by
  cases op with
  | addNode n md => exact (addNode_nodeOnly t n md).wf w
  | addEdge k wv md => exact addEdge_wf w k wv md
  | removeEdge k => exact removeEdge_wf w k
  | removeNode n keep => exact removeNode_wf w n keep
  | setNodeMeta n md => exact setNodeMeta_wf w n md
  | setEdgeMeta k md => exact setEdgeMeta_wf w k md
  | setHMeta md => exact ⟨w.node, w.edge⟩
  | setWeight k wv => exact setWeight_wf w k wv
  | clear => exact clear_wf t
  | addNodes items => exact addNodes_wf w items
  | addEdges withW items => exact addEdges_wf w withW items
  | setNodeAttr n f v => exact editNodeMeta_wf w n _
  | delNodeAttr n f => exact editNodeMeta_wf w n _
  | setEdgeAttr k f v => exact editEdgeMeta_wf w k _
  | delEdgeAttr k f => exact editEdgeMeta_wf w k _
  | setHAttr f v => exact setHAttr_wf w f v

theorem run_wf [LawfulKind κ] {t : Tables κ} (w : WF t) (ops : List (Op κ)) : WF (run t ops) := by
  unfold run
  exact ListLib.foldl_inv (P := WF) _ (fun s o ws => step_wf ws o) ops _ w

theorem run_map {α : Type} (f : α → Op κ) (t : Tables κ) (l : List α) :
    run t (l.map f) = l.foldl (fun s x => (step s (f x)).1) t := List.foldl_map

theorem editNodeMeta_eq_set {t : Tables κ} (w : WF t) {n : Nat} {edit : JTree → Option JTree} {md md' : JTree}
    (hmd : get? t.nodeMeta n = some md) (he : edit md = some md') :
    editNodeMeta t n edit = setNodeMeta t n md' := by
  have hk : nodeKnown t n = true :=
    (nodeKnown_iff w.node n).mpr ((w.node.same n).mpr (mem_keys_of_get? _ _ _ hmd))
  unfold editNodeMeta setNodeMeta
  rw [hmd]
  simp only [he, hk, if_true]

theorem editNodeMeta_rejected (t : Tables κ) (n : Nat) (edit : JTree → Option JTree)
    (h : (editNodeMeta t n edit).2 = false) : (editNodeMeta t n edit).1 = t := by
  unfold editNodeMeta at h ⊢
  split
  · split
    · simp_all
    · rfl
  · rfl

theorem editNodeMeta_local (t : Tables κ) (n : Nat) (edit : JTree → Option JTree) :
    (∀ m, m ≠ n → get? (editNodeMeta t n edit).1.nodeMeta m = get? t.nodeMeta m) ∧
    (editNodeMeta t n edit).1 = { t with nodeMeta := (editNodeMeta t n edit).1.nodeMeta } := by
  unfold editNodeMeta
  split
  · split
    · exact ⟨fun m hm => get?_set_ne _ _ _ _ (fun e => hm e.symm), rfl⟩
    · exact ⟨fun _ _ => rfl, rfl⟩
  · exact ⟨fun _ _ => rfl, rfl⟩

theorem editNodeMeta_edgeMeta (t : Tables κ) (n : Nat) (edit : JTree → Option JTree) :
    (editNodeMeta t n edit).1.edgeMeta = t.edgeMeta := by rw [(editNodeMeta_local t n edit).2]

theorem editEdgeMeta_eq_set {t : Tables κ} {raw : κ} {edit : JTree → Option JTree} {id : Nat} {md md' : JTree}
    (hid : get? t.edgeList (Kind.canonK raw) = some id) (hmd : get? t.edgeMeta id = some md)
    (he : edit md = some md') : editEdgeMeta t raw edit = setEdgeMeta t raw md' := by
  unfold editEdgeMeta setEdgeMeta
  rw [hid]
  simp only [hmd, he]

theorem editEdgeMeta_local (t : Tables κ) (raw : κ) (edit : JTree → Option JTree) :
    (∀ id, get? t.edgeList (Kind.canonK raw) ≠ some id →
        get? (editEdgeMeta t raw edit).1.edgeMeta id = get? t.edgeMeta id) ∧
    (editEdgeMeta t raw edit).1 = { t with edgeMeta := (editEdgeMeta t raw edit).1.edgeMeta } := by
  unfold editEdgeMeta
  split
  · rename_i id0 hid0
    split
    · split
      · exact ⟨fun id hne => get?_set_ne _ _ _ _ (fun e => hne (e ▸ hid0)), rfl⟩
      · exact ⟨fun _ _ => rfl, rfl⟩
    · exact ⟨fun _ _ => rfl, rfl⟩
  · exact ⟨fun _ _ => rfl, rfl⟩

theorem editEdgeMeta_nodeMeta (t : Tables κ) (raw : κ) (edit : JTree → Option JTree) :
    (editEdgeMeta t raw edit).1.nodeMeta = t.nodeMeta := by rw [(editEdgeMeta_local t raw edit).2]

end C07
