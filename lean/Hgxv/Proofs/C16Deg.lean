import Hgxv.Model.C16Deg
/-! # C16 — degenerate hyperedges

Hyperedges with fewer than two nodes (`Model/C16Deg.lean`) are dropped by the zero-weight filter.  Core Lean only. -/
namespace C16

theorem degenWeights_length (cfg : Config) (ws : List Nat) (h : ws.length = cfg.length) :
    (degenWeights cfg ws).length = cfg.length := by
  simp [degenWeights, h]

theorem proper_lengths (cfg : Config) (ws : List Nat) : (properWs cfg ws).length = (properCfg cfg ws).length := by
  simp [properWs, properCfg]

theorem dropZeros_cons (a : Hye) (c : Config) (w : Nat) (ws : List Nat) :
    dropZeros (a :: c) (w :: ws) = if 0 < w then (a, w) :: dropZeros c ws else dropZeros c ws := by
  simp only [dropZeros, List.zip_cons_cons, List.filter_cons]
  by_cases h : 0 < w <;> simp [h]

theorem degenWeights_cons (e : Hye) (cfg : Config) (w : Nat) (ws : List Nat) :
    degenWeights (e :: cfg) (w :: ws) = (if e.length < 2 then 0 else w) :: degenWeights cfg ws := by
  simp [degenWeights]

theorem properCfg_cons (e : Hye) (cfg : Config) (w : Nat) (ws : List Nat) :
    properCfg (e :: cfg) (w :: ws) = if 2 ≤ e.length then e :: properCfg cfg ws else properCfg cfg ws := by
  simp only [properCfg, properPairs, List.zip_cons_cons, List.filter_cons]
  by_cases h : 2 ≤ e.length <;> simp [h]

theorem properWs_cons (e : Hye) (cfg : Config) (w : Nat) (ws : List Nat) :
    properWs (e :: cfg) (w :: ws) = if 2 ≤ e.length then w :: properWs cfg ws else properWs cfg ws := by
  simp only [properWs, properPairs, List.zip_cons_cons, List.filter_cons]
  by_cases h : 2 ≤ e.length <;> simp [h]

/-- the zero-weight filter on the chain state = the zero-weight filter on its hyperedges of size >= 2 -/
theorem dropZeros_degen (cfg : Config) (ws : List Nat) :
    dropZeros (cfg.map canon) (degenWeights cfg ws) = dropZeros ((properCfg cfg ws).map canon) (properWs cfg ws) := by
  induction cfg generalizing ws with
  | nil => simp [degenWeights, properCfg, properWs, properPairs, dropZeros]
  | cons e cfg ih =>
    cases ws with
    | nil => simp [degenWeights, properCfg, properWs, properPairs, dropZeros]
    | cons w ws =>
      rw [degenWeights_cons, properCfg_cons, properWs_cons, List.map_cons, dropZeros_cons]
      by_cases he : e.length < 2
      · have h2 : ¬ (2 ≤ e.length) := by omega
        simp only [he, h2, if_true, if_false, Nat.lt_irrefl]
        exact ih ws
      · have h2 : 2 ≤ e.length := by omega
        simp only [he, h2, if_true, if_false, List.map_cons, dropZeros_cons]
        rw [ih ws]

theorem properCfg_mem {cfg : Config} {ws : List Nat} {e : Hye} (h : e ∈ properCfg cfg ws) : e ∈ cfg ∧ 2 ≤ e.length := by
  simp only [properCfg, properPairs, List.mem_map, List.mem_filter] at h
  obtain ⟨p, ⟨hp, hs⟩, rfl⟩ := h
  exact ⟨(List.of_mem_zip hp).1, by simpa using hs⟩

theorem properCfg_eq_filter {cfg : Config} {ws : List Nat} (hl : ws.length = cfg.length) :
    properCfg cfg ws = cfg.filter fun e => decide (2 ≤ e.length) := by
  have := List.filter_map (f := Prod.fst) (p := fun e : Hye => decide (2 ≤ e.length)) (l := cfg.zip ws)
  rw [List.map_fst_zip (by omega)] at this
  exact this.symm

theorem properWs_pos {cfg : Config} {ws : List Nat} (h : ∀ w ∈ ws, 0 < w) : ∀ w ∈ properWs cfg ws, 0 < w := by
  intro w hw
  simp only [properWs, properPairs, List.mem_map, List.mem_filter] at hw
  obtain ⟨p, ⟨hp, _⟩, rfl⟩ := hw
  exact h p.2 (List.of_mem_zip hp).2

theorem properPairs_all (cfg : Config) (ws : List Nat) (h : ∀ e ∈ cfg, 2 ≤ e.length) :
    properPairs cfg ws = cfg.zip ws := by
  unfold properPairs
  rw [List.filter_eq_self]
  intro p hp
  simpa using h p.1 (List.of_mem_zip hp).1

theorem degenWeights_all (cfg : Config) (ws : List Nat) (hl : ws.length = cfg.length) (h : ∀ e ∈ cfg, 2 ≤ e.length) :
    degenWeights cfg ws = ws := by
  unfold degenWeights
  have : (cfg.zip ws).map (fun p => if p.1.length < 2 then 0 else p.2) = (cfg.zip ws).map (·.2) := by
    apply List.map_congr_left
    intro p hp
    have := h p.1 (List.of_mem_zip hp).1
    simp; omega
  rw [this, List.map_snd_zip]; omega

theorem outputStageD_agrees (cfg : Config) (qs : List Nat) (labels : Option (List Nat)) (hlen : qs.length = cfg.length)
    (h2 : ∀ e ∈ cfg, 2 ≤ e.length) : outputStageD cfg qs labels = outputStage cfg (truncWeights qs) labels := by
  unfold outputStageD
  rw [degenWeights_all cfg _ (by simp [truncWeights, hlen]) h2]

end C16
