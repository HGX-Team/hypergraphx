import Hgxv.Proofs.C05Spec
/-! `WF` under the single table updates (its invariance over histories is in `C05Node.lean`); slots of the state array are
independent.  Core Lean only. -/
namespace C05
variable {κ : Type} [DecidableEq κ] [Keyed κ]
set_option linter.unusedSectionVars false

theorem wf_empty (w : Bool) : WF (empty w : Content κ) :=
  ⟨by simp [nodesOf, empty, AL.keys], by simp [keysOf, empty, AL.keys],
   by intro k hk; simp [keysOf, empty, AL.keys] at hk, by intro _ e he; simp [empty] at he⟩

theorem wf_addNode (c : Content κ) (n : Node) (md : Meta) (h : WF c) : WF (addNode c n md) :=
  ⟨nodup_keys_addNodeL _ _ _ h.nodes_nodup, h.keys_nodup,
   fun k hk m hm => (mem_keys_addNodeL _ _ _ _).2 (.inl (h.members_in k hk m hm)), h.unit⟩

/-- replacing the value of a present key keeps `WF` when in an unweighted object the new weight is `1` or the old one -/
theorem wf_setEdge (c : Content κ) (k : κ) (v0 v : W × Meta) (h : WF c) (hg : AL.get? c.edges k = some v0)
    (hu : c.weighted = false → v.1 = unitW ∨ v.1 = v0.1) : WF { c with edges := AL.set c.edges k v } := by
  have hkeys : AL.keys (AL.set c.edges k v) = AL.keys c.edges := AL.keys_set_of_mem _ _ _ (by rw [hg]; rfl)
  refine ⟨h.nodes_nodup, ?_, ?_, ?_⟩
  · simp only [keysOf, hkeys]; exact h.keys_nodup
  · intro k' hk'; simp only [keysOf, hkeys] at hk'; exact h.members_in k' hk'
  · intro hw e he
    rcases AL.mem_set _ _ _ _ he with h1 | h1
    · subst h1
      exact (hu hw).elim id (fun e => e.trans (h.unit hw (k, v0) (AL.mem_of_get? _ _ _ hg)))
    · exact h.unit hw e h1

theorem wf_setNode (c : Content κ) (n : Node) (md : Meta) (h : WF c) (hn : n ∈ nodesOf c) :
    WF { c with nodes := AL.set c.nodes n md } := by
  have hkeys : AL.keys (AL.set c.nodes n md) = AL.keys c.nodes :=
    AL.keys_set_of_mem _ _ _ ((AL.mem_keys_iff _ _).1 hn)
  refine ⟨?_, h.keys_nodup, ?_, h.unit⟩
  · simp only [nodesOf, hkeys]; exact h.nodes_nodup
  · intro k hk m hm; simp only [nodesOf, hkeys]; exact h.members_in k hk m hm

theorem wf_addEdgeCore (c : Content κ) (k : κ) (w : W) (md : Meta) (h : WF c) : WF (addEdgeCore c k w md) := by
  unfold addEdgeCore
  cases hg : AL.get? c.edges k with
  | none =>
    have hk : k ∉ AL.keys c.edges := (AL.get?_eq_none_iff _ _).1 hg
    simp only [addEdgeNew, touchAll]
    refine ⟨nodup_keys_touchL _ _ h.nodes_nodup, ?_, ?_, ?_⟩
    · simp only [keysOf, AL.keys_append, List.nodup_append]
      refine ⟨h.keys_nodup, by simp [AL.keys], ?_⟩
      intro a ha b hb
      simp only [AL.keys, List.map_cons, List.map_nil, List.mem_singleton] at hb
      subst hb; intro e; subst e; exact hk ha
    · intro k' hk' m hm
      simp only [nodesOf, mem_keys_touchL]
      simp only [keysOf, AL.keys_append, List.mem_append] at hk'
      rcases hk' with h1 | h1
      · exact .inl (h.members_in k' h1 m hm)
      · simp only [AL.keys, List.map_cons, List.map_nil, List.mem_singleton] at h1
        subst h1; exact .inr hm
    · intro hw e he
      simp only [List.mem_append, List.mem_singleton] at he
      rcases he with h1 | h1
      · exact h.unit hw e h1
      · subst h1; simp only at hw; simp [hw]
  | some v =>
    simp only [addEdgeOld]
    exact wf_setEdge c k v _ h hg (fun hw => .inr (by simp [hw]))

/-- `WF` speaks of the weighted flag, the nodes and the hyperedges only -/
theorem wf_congr (c c' : Content κ) (h : WF c) (hw : c'.weighted = c.weighted) (hn : c'.nodes = c.nodes)
    (he : c'.edges = c.edges) : WF c' := by
  refine ⟨?_, ?_, ?_, ?_⟩
  · simp only [nodesOf, hn]; exact h.nodes_nodup
  · simp only [keysOf, he]; exact h.keys_nodup
  · intro k hk m hm
    simp only [keysOf, he] at hk
    simp only [nodesOf, hn]
    exact h.members_in k hk m hm
  · intro hw' e hee
    rw [hw] at hw'; rw [he] at hee
    exact h.unit hw' e hee

theorem get?_mutateSlot (sl : Slots κ) (i j : Nat) (op : Op κ) :
    AL.get? (mutateSlot sl i op) j = if i = j then (AL.get? sl i).map (fun c => step c op) else AL.get? sl j := by
  unfold mutateSlot
  cases h : AL.get? sl i with
  | none =>
    by_cases e : i = j
    · subst e; simp [h]
    · simp [e]
  | some c => simp only [AL.get?_set, Option.map_some]

theorem get?_extractInto_ne (sl : Slots κ) (i j m : Nat) (f : Content κ → Option (Content κ)) (h : j ≠ m) :
    AL.get? (extractInto sl i j f) m = AL.get? sl m := by
  unfold extractInto
  cases hi : AL.get? sl i with
  | none => rfl
  | some c =>
    simp only
    cases hf : f c with
    | none => rfl
    | some r => exact AL.get?_set_ne _ _ _ _ h

theorem get?_extractInto_self (sl : Slots κ) (i j : Nat) (f : Content κ → Option (Content κ)) (c r : Content κ)
    (hc : AL.get? sl i = some c) (hr : f c = some r) : AL.get? (extractInto sl i j f) j = some r := by
  simp [extractInto, hc, hr]

theorem get?_runSlots (ops : List (Nat × Op κ)) (sl : Slots κ) (i : Nat) :
    AL.get? (runSlots sl ops) i = (AL.get? sl i).map (fun c => run c (opsFor i ops)) := by
  induction ops generalizing sl with
  | nil => simp [runSlots, opsFor, run]
  | cons t ops ih =>
    have : runSlots sl (t :: ops) = runSlots (mutateSlot sl t.1 t.2) ops := rfl
    rw [this, ih, get?_mutateSlot]
    by_cases e : t.1 = i
    · subst e
      cases AL.get? sl t.1 <;> simp [opsFor, run]
    · simp [e, opsFor]

end C05
