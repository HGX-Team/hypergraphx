import Hgxv.Proofs.C18Conn
import Hgxv.Proofs.ListLib
import Mathlib.Algebra.BigOperators.Group.Finset.Basic
import Mathlib.Algebra.BigOperators.Ring.Finset
import Mathlib.Algebra.BigOperators.Field
import Mathlib.Algebra.Order.BigOperators.Group.Finset
import Mathlib.Algebra.Order.Field.Rat
import Mathlib.Algebra.Order.Field.Basic
import Mathlib.Tactic.Ring
import Mathlib.Tactic.Positivity
/-! C18, random walk: the accumulated matrix `T` and its closed forms, row sums (positive exactly at the nodes of a
hyperedge with a second member), rows of `K`, detailed balance, the vector `π` (fixed, normalised), mass of one
density step, the inconsistent system of the unrepaired `RW_stationary_state`, and uniqueness of the solution of the
repaired one (maximum principle). -/
namespace C18
open Finset

/-- `Finset.range N` is `List.range N` underneath, so the two sums agree by definition -/
theorem sumTo_eq (N : Nat) (f : Nat → Rat) : sumTo N f = ∑ i ∈ Finset.range N, f i := rfl

theorem natSum_eq (N : Nat) (f : Nat → Nat) : ((List.range N).map f).sum = ∑ i ∈ Finset.range N, f i := rfl

theorem count_map_pair (a i j : Nat) (r : List Nat) :
    (r.map (fun b => (a, b))).count (i, j) = if i = a then r.count j else 0 := by
  induction r with
  | nil => simp
  | cons b r ih =>
    simp only [List.map_cons, List.count_cons, ih]
    by_cases h : i = a
    · subst h; by_cases h2 : b = j <;> simp [h2]
    · have : ¬ a = i := fun e => h e.symm
      simp [h, this]

theorem pairs_count (l : List Nat) (hl : l.Nodup) (i j : Nat) :
    (pairs l).count (i, j) + (pairs l).count (j, i) = if i ≠ j ∧ i ∈ l ∧ j ∈ l then 1 else 0 := by
  induction l with
  | nil => simp [pairs]
  | cons a r ih =>
    obtain ⟨ha, hr⟩ := List.nodup_cons.mp hl
    have := ih hr
    simp only [pairs, List.count_append, count_map_pair, hr.count, List.mem_cons]
    -- split on `i = a`, `j = a`, using `a ∉ r`: `a` pairs once with each member of `r`; the pairs inside `r` are `this`
    grind

theorem contrib_eq (l : List Nat) (hl : l.Nodup) (i j : Nat) :
    contrib l i j = if i ≠ j ∧ i ∈ l ∧ j ∈ l then l.length - 1 else 0 := by
  unfold contrib
  rw [pairs_count l hl]
  split <;> simp

theorem contrib_symm (l : List Nat) (i j : Nat) : contrib l i j = contrib l j i := by
  unfold contrib; rw [Nat.add_comm]

theorem tEntry_symm (es : List Edge) (i j : Nat) : tEntry es i j = tEntry es j i := by
  unfold tEntry; congr 1; apply List.map_congr_left; intro l _; exact contrib_symm l i j

theorem tEntry_diag (es : List Edge) (N : Nat) (hv : Valid es N) (i : Nat) : tEntry es i i = 0 := by
  unfold tEntry
  apply List.sum_eq_zero
  intro x hx
  obtain ⟨l, hl, rfl⟩ := List.mem_map.mp hx
  rw [contrib_eq l (hv l hl).1]; simp

theorem tEntry_eq_shared (es : List Edge) (N : Nat) (hv : Valid es N) (i j : Nat) (hij : i ≠ j) :
    tEntry es i j = shared es i j := by
  unfold tEntry shared
  rw [← ListLib.sum_map_ite]
  congr 1
  apply List.map_congr_left
  intro l hl
  rw [contrib_eq l (hv l hl).1]
  simp [hij]

theorem list_sum_finset_comm {α} (es : List α) (N : Nat) (g : α → Nat → Nat) :
    ∑ j ∈ Finset.range N, (es.map (fun e => g e j)).sum = (es.map (fun e => ∑ j ∈ Finset.range N, g e j)).sum := by
  induction es with
  | nil => simp
  | cons e es ih => simp only [List.map_cons, List.sum_cons, Finset.sum_add_distrib, ih]

theorem card_others (l : List Nat) (hl : l.Nodup) (N : Nat) (hN : ∀ v ∈ l, v < N) (i : Nat) (hi : i ∈ l) :
    ((Finset.range N).filter (fun j => i ≠ j ∧ i ∈ l ∧ j ∈ l)).card = l.length - 1 := by
  have : (Finset.range N).filter (fun j => i ≠ j ∧ i ∈ l ∧ j ∈ l) = l.toFinset.erase i := by
    ext j
    simp only [Finset.mem_filter, Finset.mem_range, Finset.mem_erase, List.mem_toFinset]
    constructor
    · rintro ⟨_, h1, _, h3⟩; exact ⟨fun e => h1 e.symm, h3⟩
    · rintro ⟨h1, h3⟩; exact ⟨hN j h3, fun e => h1 e.symm, hi, h3⟩
  rw [this, Finset.card_erase_of_mem (List.mem_toFinset.mpr hi), List.toFinset_card_of_nodup hl]

theorem contrib_rowsum (l : List Nat) (hl : l.Nodup) (N : Nat) (hN : ∀ v ∈ l, v < N) (i : Nat) :
    ∑ j ∈ Finset.range N, contrib l i j = if i ∈ l then (l.length - 1) * (l.length - 1) else 0 := by
  simp only [contrib_eq l hl]
  rw [Finset.sum_ite]
  simp only [Finset.sum_const, nsmul_eq_mul, Nat.cast_id]
  by_cases hi : i ∈ l
  · rw [card_others l hl N hN i hi]; simp [hi]
  · simp [hi]

theorem rowSum_eq_deg2 (es : List Edge) (N : Nat) (hv : Valid es N) (i : Nat) : rowSum es N i = deg2 es i := by
  unfold rowSum
  rw [natSum_eq]
  unfold tEntry deg2
  rw [list_sum_finset_comm, ← ListLib.sum_map_ite]
  congr 1
  apply List.map_congr_left
  intro l hl
  rw [contrib_rowsum l (hv l hl).1 N (hv l hl).2]
  simp

theorem two_le_length (l : List Nat) (i j : Nat) (hij : i ≠ j) (hi : i ∈ l) (hj : j ∈ l) : 2 ≤ l.length := by
  have hnd : [i, j].Nodup := by simp [hij]
  have := List.Nodup.length_le_of_subset hnd (l₂ := l) (by intro x hx; simp at hx; rcases hx with rfl | rfl <;> assumption)
  simpa using this

theorem tEntry_pos_iff (es : List Edge) (N : Nat) (hv : Valid es N) (i j : Nat) (hij : i ≠ j) :
    0 < tEntry es i j ↔ share es i j = true := by
  rw [share_iff, tEntry, List.sum_pos_iff_exists_pos_nat]
  constructor
  · rintro ⟨x, hx, hpos⟩
    obtain ⟨l, hl, rfl⟩ := List.mem_map.mp hx
    rw [contrib_eq l (hv l hl).1] at hpos
    split at hpos
    · next h => exact ⟨l, hl, h.2⟩
    · exact absurd hpos (Nat.lt_irrefl 0)
  · rintro ⟨l, hl, hi, hj⟩
    refine ⟨_, List.mem_map.mpr ⟨l, hl, rfl⟩, ?_⟩
    rw [contrib_eq l (hv l hl).1, if_pos ⟨hij, hi, hj⟩]
    have := two_le_length l i j hij hi hj
    omega

theorem exists_partner (es : List Edge) (N : Nat) (hc : connectedB es N = true) (hN : 2 ≤ N) (i : Nat) (hi : i < N) :
    ∃ j, j < N ∧ i ≠ j ∧ share es i j = true := by
  apply Classical.byContradiction
  intro hcon
  -- otherwise `{i}` is closed under sharing a hyperedge, so it is everything
  have hall := connected_spread es N hc (by omega) (fun v => v = i) i hi rfl (fun a b _ hb ha hs =>
    Classical.byContradiction fun hbi => hcon ⟨b, hb, fun e => hbi e.symm, ha ▸ hs⟩)
  have := hall 0 (by omega)
  have := hall 1 (by omega)
  omega

theorem tEntry_le_rowSum (es : List Edge) (N i j : Nat) (hj : j < N) : tEntry es i j ≤ rowSum es N i := by
  unfold rowSum
  rw [natSum_eq]
  exact Finset.single_le_sum (f := fun j => tEntry es i j) (fun _ _ => Nat.zero_le _) (Finset.mem_range.mpr hj)

theorem rowSum_pos (es : List Edge) (N : Nat) (hv : Valid es N) (hc : connectedB es N = true) (hN : 2 ≤ N)
    (i : Nat) (hi : i < N) : 0 < rowSum es N i := by
  obtain ⟨j, hj, hij, hs⟩ := exists_partner es N hc hN i hi
  exact Nat.lt_of_lt_of_le ((tEntry_pos_iff es N hv i j hij).mpr hs) (tEntry_le_rowSum es N i j hj)

theorem rowSum_cast (es : List Edge) (N i : Nat) :
    (rowSum es N i : ℚ) = ∑ j ∈ range N, (tEntry es i j : ℚ) := by
  unfold rowSum; rw [natSum_eq]; push_cast; rfl

theorem deg2_pos_iff (es : List Edge) (i : Nat) : 0 < deg2 es i ↔ ∃ e ∈ es, i ∈ e ∧ 2 ≤ e.length := by
  rw [deg2, List.sum_pos_iff_exists_pos_nat]
  constructor
  · rintro ⟨x, hx, hpos⟩
    obtain ⟨e, he, rfl⟩ := List.mem_map.mp hx
    obtain ⟨hes, hie⟩ := List.mem_filter.mp he
    have : e.length - 1 ≠ 0 := fun h => by rw [h] at hpos; exact Nat.lt_irrefl 0 hpos
    exact ⟨e, hes, List.contains_iff_mem.mp hie, by omega⟩
  · rintro ⟨e, hes, hie, h2⟩
    exact ⟨_, List.mem_map.mpr ⟨e, List.mem_filter.mpr ⟨hes, List.contains_iff_mem.mpr hie⟩, rfl⟩,
      Nat.mul_pos (by omega) (by omega)⟩

theorem rowSum_pos_iff (es : List Edge) (N : Nat) (hv : Valid es N) (i : Nat) :
    0 < rowSum es N i ↔ ∃ e ∈ es, i ∈ e ∧ 2 ≤ e.length := by
  rw [rowSum_eq_deg2 es N hv i, deg2_pos_iff]

theorem kEntry_nonneg (es : List Edge) (N i j : Nat) : 0 ≤ kEntry es N i j := by
  unfold kEntry; positivity

theorem kEntry_le_one (es : List Edge) (N i j : Nat) (hj : j < N) : kEntry es N i j ≤ 1 :=
  div_le_one_of_le₀ (Nat.cast_le.mpr (tEntry_le_rowSum es N i j hj)) (Nat.cast_nonneg _)

theorem kEntry_pos_imp (es : List Edge) (N : Nat) (hv : Valid es N) (i j : Nat) (h : 0 < kEntry es N i j) :
    i ≠ j ∧ ∃ e ∈ es, i ∈ e ∧ j ∈ e := by
  have hT : 0 < tEntry es i j :=
    Nat.pos_of_ne_zero (fun hz => by rw [kEntry, hz, Nat.cast_zero, zero_div] at h; exact lt_irrefl _ h)
  have hne : i ≠ j := fun e => by rw [e, tEntry_diag es N hv j] at hT; exact Nat.lt_irrefl _ hT
  exact ⟨hne, (share_iff es i j).mp ((tEntry_pos_iff es N hv i j hne).mp hT)⟩

theorem kEntry_pos (es : List Edge) (N : Nat) (hv : Valid es N) (i j : Nat) (hr : 0 < rowSum es N i) (hne : i ≠ j)
    (hs : ∃ e ∈ es, i ∈ e ∧ j ∈ e) : 0 < kEntry es N i j :=
  div_pos (Nat.cast_pos.mpr ((tEntry_pos_iff es N hv i j hne).mpr ((share_iff es i j).mpr hs))) (Nat.cast_pos.mpr hr)

theorem kRow_sum (es : List Edge) (N i : Nat) (hr : 0 < rowSum es N i) :
    ∑ j ∈ range N, kEntry es N i j = 1 := by
  unfold kEntry
  rw [← Finset.sum_div, ← rowSum_cast]
  have : (rowSum es N i : ℚ) ≠ 0 := by positivity
  exact div_self this

theorem totalDeg_pos (es : List Edge) (N : Nat) (hN : 0 < N) (hr : ∀ i, i < N → 0 < rowSum es N i) :
    0 < ∑ k ∈ range N, (rowSum es N k : ℚ) := by
  apply Finset.sum_pos
  · intro i hi; exact_mod_cast hr i (mem_range.mp hi)
  · exact ⟨0, mem_range.mpr hN⟩

theorem pi_mul_k (es : List Edge) (N i j : Nat) (hi : 0 < rowSum es N i) :
    piEntry es N i * kEntry es N i j = (tEntry es i j : ℚ) / sumTo N (fun k => (rowSum es N k : ℚ)) := by
  have : (rowSum es N i : ℚ) ≠ 0 := by positivity
  rw [piEntry, kEntry, div_mul_div_comm, mul_comm, mul_div_mul_right _ _ this]

theorem detailed_balance (es : List Edge) (N i j : Nat) (hi : 0 < rowSum es N i) (hj : 0 < rowSum es N j) :
    piEntry es N i * kEntry es N i j = piEntry es N j * kEntry es N j i := by
  rw [pi_mul_k es N i j hi, pi_mul_k es N j i hj, tEntry_symm]

theorem pi_fixed (es : List Edge) (N : Nat) (hr : ∀ i, i < N → 0 < rowSum es N i) (j : Nat) :
    ∑ i ∈ range N, piEntry es N i * kEntry es N i j = piEntry es N j := by
  rw [Finset.sum_congr rfl (fun i hi => pi_mul_k es N i j (hr i (mem_range.mp hi))), ← Finset.sum_div, piEntry,
    rowSum_cast]
  simp only [tEntry_symm es j]

theorem pi_sum (es : List Edge) (N : Nat) (hN : 0 < N) (hr : ∀ i, i < N → 0 < rowSum es N i) :
    ∑ i ∈ range N, piEntry es N i = 1 := by
  unfold piEntry
  rw [sumTo_eq, ← Finset.sum_div]
  exact div_self (ne_of_gt (totalDeg_pos es N hN hr))

theorem pi_nonneg (es : List Edge) (N i : Nat) : 0 ≤ piEntry es N i := by
  unfold piEntry
  rw [sumTo_eq]
  apply div_nonneg (by positivity)
  apply Finset.sum_nonneg; intro k _; positivity

theorem sum_mul_stochastic (K : Nat → Nat → ℚ) (N : Nat) (hK : ∀ i, i < N → ∑ j ∈ range N, K i j = 1) (s : Nat → ℚ) :
    ∑ j ∈ range N, ∑ i ∈ range N, s i * K i j = ∑ i ∈ range N, s i := by
  rw [Finset.sum_comm]
  exact Finset.sum_congr rfl fun i hi => by rw [← Finset.mul_sum, hK i (mem_range.mp hi), mul_one]

theorem density_mass (es : List Edge) (N : Nat) (hr : ∀ i, i < N → 0 < rowSum es N i) (s : Nat → ℚ) :
    ∑ j ∈ range N, densityStep es N s j = ∑ i ∈ range N, s i :=
  sum_mul_stochastic (kEntry es N) N (fun i hi => kRow_sum es N i (hr i hi)) s

/-- column sums of `I − Kᵀ` vanish: the equations of `(I − Kᵀ) x = 0` add up to `0 = 0` -/
theorem residual_sum (K : Nat → Nat → ℚ) (N : Nat) (hK : ∀ i, i < N → ∑ j ∈ range N, K i j = 1) (x : Nat → ℚ) :
    ∑ i ∈ range N, (x i - ∑ j ∈ range N, K j i * x j) = 0 := by
  rw [Finset.sum_sub_distrib, Finset.sum_comm, sub_eq_zero]
  apply Finset.sum_congr rfl
  intro j hj
  rw [← Finset.sum_mul, hK j (mem_range.mp hj), one_mul]

/-- the system of the unrepaired routine has no solution, for any row-stochastic `K`: its equations add up to `0 = N` -/
theorem original_inconsistent (K : Nat → Nat → ℚ) (N : Nat) (hN : 0 < N)
    (hK : ∀ i, i < N → ∑ j ∈ range N, K i j = 1) (x : Nat → ℚ)
    (hx : ∀ i, i < N → x i - ∑ j ∈ range N, K j i * x j = 1) : False := by
  have h := residual_sum K N hK x
  rw [Finset.sum_congr rfl (fun i hi => hx i (mem_range.mp hi)), Finset.sum_const, card_range, nsmul_one,
    Nat.cast_eq_zero] at h
  omega

theorem solvesRepaired_iff (K : Nat → Nat → Rat) (N : Nat) (x : Nat → Rat) :
    SolvesRepaired K N x ↔ (∀ i, i + 1 < N → sumTo N (fun j => x j * K j i) = x i) ∧ sumTo N x = 1 := by
  have e : ∀ i, sumTo N (fun j => K j i * x j) = sumTo N (fun j => x j * K j i) := fun i =>
    congrArg (sumTo N) (funext fun j => mul_comm _ _)
  simp only [SolvesRepaired, e, sub_eq_zero, eq_comm (a := x _)]

/-- the dropped equation follows from the others -/
theorem last_equation (K : Nat → Nat → ℚ) (N : Nat) (hK : ∀ i, i < N → ∑ j ∈ range N, K i j = 1) (x : Nat → ℚ)
    (hx : ∀ i, i + 1 < N → x i - ∑ j ∈ range N, K j i * x j = 0) :
    ∀ i, i < N → x i - ∑ j ∈ range N, K j i * x j = 0 := by
  intro i hi
  by_cases h : i + 1 < N
  · exact hx i h
  · obtain rfl : N = i + 1 := by omega
    have := residual_sum K (i + 1) hK x
    rwa [Finset.sum_range_succ, Finset.sum_eq_zero (fun k hk => hx k (by have := mem_range.mp hk; omega)), zero_add]
      at this

theorem harmonic (es : List Edge) (N : Nat) (hr : ∀ i, i < N → 0 < rowSum es N i) (x : Nat → ℚ)
    (hx : ∀ i, i < N → x i - ∑ j ∈ range N, kEntry es N j i * x j = 0) (a : Nat) (ha : a < N) :
    ∑ i ∈ range N, (tEntry es a i : ℚ) * (x a / rowSum es N a - x i / rowSum es N i) = 0 := by
  have hra : (rowSum es N a : ℚ) ≠ 0 := by have := hr a ha; positivity
  simp only [mul_sub]
  rw [Finset.sum_sub_distrib, ← Finset.sum_mul, ← rowSum_cast, mul_div_cancel₀ _ hra, sub_eq_zero,
    sub_eq_zero.mp (hx a ha)]
  apply Finset.sum_congr rfl
  intro i _
  rw [kEntry, tEntry_symm es a i, div_mul_eq_mul_div, mul_div_assoc]

/-- maximum principle: a weighted sum of non-negative deficits `c − y i` that vanishes forces `y b = c` wherever the
weight is positive -/
theorem eq_of_weighted_deficit_zero (N : Nat) (w y : Nat → ℚ) (c : ℚ) (hw : ∀ i, i < N → 0 ≤ w i)
    (hy : ∀ i, i < N → y i ≤ c) (hsum : ∑ i ∈ range N, w i * (c - y i) = 0) (b : Nat) (hb : b < N) (hwb : 0 < w b) :
    y b = c := by
  have hnn : ∀ i ∈ range N, 0 ≤ w i * (c - y i) := fun i hi =>
    mul_nonneg (hw i (mem_range.mp hi)) (sub_nonneg.mpr (hy i (mem_range.mp hi)))
  have hz := (Finset.sum_eq_zero_iff_of_nonneg hnn).mp hsum b (mem_range.mpr hb)
  exact (sub_eq_zero.mp ((mul_eq_zero.mp hz).resolve_left (ne_of_gt hwb))).symm

theorem solution_unique (es : List Edge) (N : Nat) (hv : Valid es N) (hc : connectedB es N = true) (hN : 2 ≤ N)
    (x : Nat → ℚ)
    (hx : ∀ i, i + 1 < N → x i - ∑ j ∈ range N, kEntry es N j i * x j = 0)
    (hs : ∑ i ∈ range N, x i = 1) : ∀ i, i < N → x i = piEntry es N i := by
  have hr : ∀ i, i < N → 0 < rowSum es N i := fun i hi => rowSum_pos es N hv hc hN i hi
  have hx' := last_equation (kEntry es N) N (fun i hi => kRow_sum es N i (hr i hi)) x hx
  -- `y i = x i / d i` takes its maximum at some `m`; the maximisers are closed under sharing a hyperedge
  obtain ⟨m, hm, hmax⟩ := Finset.exists_max_image (range N) (fun i => x i / (rowSum es N i : ℚ))
    ⟨0, mem_range.mpr (by omega)⟩
  have hall : ∀ v, v < N → x v / (rowSum es N v : ℚ) = x m / (rowSum es N m : ℚ) := by
    apply connected_spread es N hc (by omega) (fun v => x v / (rowSum es N v : ℚ) = x m / (rowSum es N m : ℚ)) m
      (mem_range.mp hm) rfl
    intro a b ha hb hya hsh
    by_cases hab : a = b
    · exact hab ▸ hya
    · rw [← hya]
      exact eq_of_weighted_deficit_zero N (fun i => (tEntry es a i : ℚ)) (fun i => x i / (rowSum es N i : ℚ)) _
        (fun i _ => Nat.cast_nonneg _) (fun i hi => hya ▸ hmax i (mem_range.mpr hi)) (harmonic es N hr x hx' a ha)
        b hb (Nat.cast_pos.mpr ((tEntry_pos_iff es N hv a b hab).mpr hsh))
  -- so `x = c · d`, and the normalisation fixes `c`
  have hxi : ∀ i, i < N → x i = x m / (rowSum es N m : ℚ) * rowSum es N i := fun i hi => by
    have hri : (rowSum es N i : ℚ) ≠ 0 := by have := hr i hi; positivity
    rw [← hall i hi, div_mul_cancel₀ _ hri]
  have hc1 : x m / (rowSum es N m : ℚ) * ∑ k ∈ range N, (rowSum es N k : ℚ) = 1 := by
    rw [Finset.mul_sum, ← hs]
    exact (Finset.sum_congr rfl (fun i hi => hxi i (mem_range.mp hi))).symm
  intro i hi
  rw [piEntry, sumTo_eq, eq_div_iff (ne_of_gt (totalDeg_pos es N (by omega) hr)), hxi i hi, mul_right_comm, hc1, one_mul]

end C18
