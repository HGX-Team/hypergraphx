import Hgxv.Proofs.C19RemoveNode
/-! C19 part A, `keep_edges=True`: where a record of the result comes from.  After one `remove_node(n, keep_edges=True)`
every record of the result is the merge of the hits into the old value of its key (`removeNode_keep_src`); hence it has a source
record with the same metadata (`_md`) and, when unweighted, the same weight (`_w_unweighted`); a record that is the only one mapped to its key is unchanged (`_unique`).  The same for
the removal of a list `R` of nodes, key by key through `shrinkAll` (`foldl_removeNode_keep`, `_trace`, `_md`,
`_w_unweighted`).  Core Lean. -/
namespace C19
open AL

section keep
variable {κ ω : Type} [DecidableEq κ] [Add ω] (ops : KeyOps κ)

omit [DecidableEq κ] in
theorem foldl_mergeInto_md (wt : Bool) (hits : List (κ × (ω × Md))) (acc : Option (ω × Md)) (v : ω × Md)
    (h : hits.foldl (mergeInto wt) acc = some v) : (∃ e ∈ hits, v.2 = e.2.2) ∨ acc = some v := by
  induction hits generalizing acc with
  | nil => right; simpa using h
  | cons e hits ih =>
    rcases ih _ h with ⟨e', he', hv⟩ | hacc
    · exact Or.inl ⟨e', List.mem_cons_of_mem _ he', hv⟩
    · left
      refine ⟨e, List.mem_cons_self, ?_⟩
      unfold mergeInto at hacc
      split at hacc <;> (cases hacc; rfl)

theorem removeNode_keep_src (hlaw : Lawful ops) (c : Content κ ω) (hwf : WF ops c) (n : Node) (e2 : κ × (ω × Md))
    (he2 : e2 ∈ (removeNode ops true c n).edges) :
    n ∉ ops.nodesOf e2.1 ∧
    ((incident ops c n).filter (fun e => decide (ops.shrink e.1 n = some e2.1))).foldl (mergeInto c.weighted)
      (get? c.edges e2.1) = some e2.2 := by
  have hnd : (keys (removeNode ops true c n).edges).Nodup := by
    rw [removeNode_keep_edges ops hlaw]; exact foldl_shrinkOne_keys_nodup ops n _ c hwf.keysNodup
  have hg := get?_of_mem _ _ _ hnd he2
  rw [removeNode_keep_get? ops hlaw c hwf n e2.1] at hg
  split at hg
  · cases hg
  · rename_i hk2; exact ⟨hk2, hg⟩

theorem removeNode_keep_md (hlaw : Lawful ops) (c : Content κ ω) (hwf : WF ops c) (n : Node)
    (e2 : κ × (ω × Md)) (he2 : e2 ∈ (removeNode ops true c n).edges) :
    ∃ e ∈ c.edges, stepKey ops n e.1 = some e2.1 ∧ e2.2.2 = e.2.2 := by
  obtain ⟨hk2, hg⟩ := removeNode_keep_src ops hlaw c hwf n e2 he2
  rcases foldl_mergeInto_md _ _ _ _ hg with ⟨e, he, hv⟩ | hacc
  · obtain ⟨hm, hs⟩ := hit_step ops c n e2.1 e he
    exact ⟨e, hm, hs, hv⟩
  · exact ⟨(e2.1, e2.2), mem_of_get? _ _ _ hacc, stepKey_of_not_mem ops hk2, rfl⟩

theorem removeNode_keep_unique (hlaw : Lawful ops) (c : Content κ ω) (hwf : WF ops c) (n : Node)
    (e : κ × (ω × Md)) (he : e ∈ c.edges) (k2 : κ) (hs : stepKey ops n e.1 = some k2)
    (huniq : ∀ e' ∈ c.edges, stepKey ops n e'.1 = some k2 → e' = e) :
    (k2, e.2) ∈ (removeNode ops true c n).edges := by
  apply mem_of_get?
  have hk2 := not_mem_of_stepKey ops hlaw n e.1 k2 hs
  rw [removeNode_keep_get? ops hlaw c hwf n k2, if_neg hk2]
  have hhit : ∀ e' ∈ (incident ops c n).filter (fun e => decide (ops.shrink e.1 n = some k2)), e' = e := by
    intro e' he'
    obtain ⟨hm, hs'⟩ := hit_step ops c n k2 e' he'
    exact huniq e' hm hs'
  by_cases hc : n ∈ ops.nodesOf e.1
  · -- e is incident: the only hit, and k2 is not an old key
    have hshr : ops.shrink e.1 n = some k2 := (stepKey_of_mem ops hc).symm.trans hs
    have hnone : get? c.edges k2 = none := by
      cases h : get? c.edges k2 with
      | none => rfl
      | some v =>
        exfalso
        have hm := mem_of_get? _ _ _ h
        have : (k2, v) = e := huniq _ hm (stepKey_of_not_mem ops hk2)
        rw [← this] at hc; exact hk2 hc
    have hnd : ((incident ops c n).filter (fun e => decide (ops.shrink e.1 n = some k2))).Nodup :=
      (incident_nodup ops c n (nodup_of_keys_nodup hwf.keysNodup)).sublist List.filter_sublist
    have hmem : e ∈ (incident ops c n).filter (fun e => decide (ops.shrink e.1 n = some k2)) := by
      simp only [List.mem_filter, decide_eq_true_eq]
      exact ⟨(mem_incident ops c n e).mpr ⟨he, hc⟩, hshr⟩
    have hl : (incident ops c n).filter (fun e => decide (ops.shrink e.1 n = some k2)) = [e] := by
      generalize (incident ops c n).filter (fun e => decide (ops.shrink e.1 n = some k2)) = l at *
      match l, hhit, hnd, hmem with
      | [a], hh, _, _ => rw [hh a List.mem_cons_self]
      | a :: b :: t, hh, hn, _ =>
        exfalso
        have ha := hh a List.mem_cons_self
        have hb := hh b (List.mem_cons_of_mem _ List.mem_cons_self)
        simp only [List.nodup_cons, List.mem_cons] at hn
        exact hn.1 (Or.inl (ha.trans hb.symm))
    rw [hl, hnone]; rfl
  · -- e is not incident: no hit at all, the old value stays
    have hk : e.1 = k2 := Option.some.inj ((stepKey_of_not_mem ops hc).symm.trans hs)
    have hl : (incident ops c n).filter (fun e => decide (ops.shrink e.1 n = some k2)) = [] := by
      rw [List.eq_nil_iff_forall_not_mem]
      intro e' he'
      have := hhit e' he'
      simp only [List.mem_filter] at he'
      have h1 := (mem_incident ops c n e').mp he'.1
      rw [this] at h1; exact hc h1.2
    rw [hl, ← hk]
    exact get?_of_mem _ _ _ hwf.keysNodup he

theorem foldl_removeNode_keep (hlaw : Lawful ops) (R : List Node) (c : Content κ ω) (hwf : WF ops c) :
    let s := R.foldl (removeNode ops true) c
    WF ops s ∧ s.weighted = c.weighted ∧
    s.nodes = c.nodes.filter (fun x => !R.contains x.1) ∧
    (∀ k2, k2 ∈ keys s.edges ↔ ∃ k ∈ keys c.edges, shrinkAll ops R k = some k2) ∧
    (∀ e ∈ c.edges, ∀ k2, shrinkAll ops R e.1 = some k2 →
        (∀ e' ∈ c.edges, shrinkAll ops R e'.1 = some k2 → e' = e) → (k2, e.2) ∈ s.edges) := by
  induction R generalizing c with
  | nil =>
    refine ⟨hwf, rfl, ?_, ?_, ?_⟩
    · simp only [List.foldl_nil, List.contains_nil, Bool.not_false]
      exact (List.filter_eq_self.mpr (fun _ _ => rfl)).symm
    · intro k2; simp [shrinkAll]
    · intro e he k2 hs _
      simp only [shrinkAll, List.foldl_nil, Option.some.injEq] at hs
      subst hs; exact he
  | cons n R ih =>
    -- one removal (`removeNode_keep_*`), then the rest on its result, joined by `shrinkAll_cons`; a unique preimage stays
    -- unique in between because the keys of the intermediate content are distinct
    have hwf1 := removeNode_keep_wf ops hlaw c hwf n
    obtain ⟨h1, h2, h3, h4, h6⟩ := ih (removeNode ops true c n) hwf1
    simp only [List.foldl_cons]
    refine ⟨h1, ?_, ?_, ?_, ?_⟩
    · rw [h2, removeNode_keep_weighted ops hlaw]
    · rw [h3, removeNode_keep_nodes ops hlaw c hwf n, al_erase_eq_filter _ _ hwf.nodesNodup, List.filter_filter]
      apply List.filter_congr
      intro x _
      rw [Bool.eq_iff_iff]
      simp only [Bool.and_eq_true, Bool.not_eq_true', ← Bool.not_eq_true, List.contains_iff_mem, List.mem_cons,
        not_or, decide_eq_true_eq]
      exact And.comm
    · intro k2
      rw [h4 k2]
      constructor
      · rintro ⟨k1, hk1, hs⟩
        obtain ⟨k, hk, hs1⟩ := (removeNode_keep_keys ops hlaw c hwf n k1).mp hk1
        exact ⟨k, hk, by rw [shrinkAll_cons, hs1]; exact hs⟩
      · rintro ⟨k, hk, hs⟩
        rw [shrinkAll_cons] at hs
        cases hs1 : stepKey ops n k with
        | none => rw [hs1] at hs; cases hs
        | some k1 =>
          rw [hs1] at hs
          exact ⟨k1, (removeNode_keep_keys ops hlaw c hwf n k1).mpr ⟨k, hk, hs1⟩, hs⟩
    · intro e he k2 hs huniq
      rw [shrinkAll_cons] at hs
      cases hs1 : stepKey ops n e.1 with
      | none => rw [hs1] at hs; cases hs
      | some k1 =>
        rw [hs1] at hs
        have hu1 : ∀ e' ∈ c.edges, stepKey ops n e'.1 = some k1 → e' = e := by
          intro e' he' hs'
          exact huniq e' he' (by rw [shrinkAll_cons, hs']; exact hs)
        have hm1 := removeNode_keep_unique ops hlaw c hwf n e he k1 hs1 hu1
        apply h6 (k1, e.2) hm1 k2 hs
        intro e1 he1 hs'
        obtain ⟨k, hk, hsk⟩ := (removeNode_keep_keys ops hlaw c hwf n e1.1).mp (mem_keys_of_mem _ _ he1)
        obtain ⟨e0, he0, rfl⟩ := List.mem_map.mp hk
        have : e0 = e := huniq e0 he0 (by rw [shrinkAll_cons, hsk]; exact hs')
        subst this
        have hk1 : e1.1 = k1 := by rw [hs1] at hsk; exact (Option.some.inj hsk).symm
        exact entry_unique _ hwf1.keysNodup _ _ he1 hm1 hk1

omit [DecidableEq κ] in
theorem foldl_mergeInto_w_unweighted (hits : List (κ × (ω × Md))) (acc : Option (ω × Md)) (v : ω × Md)
    (h : hits.foldl (mergeInto false) acc = some v) :
    (∃ e ∈ hits, v.1 = e.2.1) ∨ (∃ v0, acc = some v0 ∧ v.1 = v0.1) := by
  induction hits generalizing acc with
  | nil => right; exact ⟨v, by simpa using h, rfl⟩
  | cons e hits ih =>
    rcases ih _ h with ⟨e', he', hv⟩ | ⟨v0, hacc, hv⟩
    · exact Or.inl ⟨e', List.mem_cons_of_mem _ he', hv⟩
    · cases acc with
      | none =>
        left
        refine ⟨e, List.mem_cons_self, ?_⟩
        simp only [mergeInto, Option.some.injEq] at hacc
        rw [hv, ← hacc]
      | some a =>
        right
        refine ⟨a, rfl, ?_⟩
        simp only [mergeInto, Bool.false_eq_true, if_false, Option.some.injEq] at hacc
        rw [hv, ← hacc]

theorem removeNode_keep_w_unweighted (hlaw : Lawful ops) (c : Content κ ω) (hwf : WF ops c) (hw : c.weighted = false)
    (n : Node) (e2 : κ × (ω × Md)) (he2 : e2 ∈ (removeNode ops true c n).edges) :
    ∃ e ∈ c.edges, stepKey ops n e.1 = some e2.1 ∧ e2.2.1 = e.2.1 := by
  obtain ⟨hk2, hg⟩ := removeNode_keep_src ops hlaw c hwf n e2 he2
  rw [hw] at hg
  rcases foldl_mergeInto_w_unweighted _ _ _ hg with ⟨e, he, hv⟩ | ⟨v0, hacc, hv⟩
  · obtain ⟨hm, hs⟩ := hit_step ops c n e2.1 e he
    exact ⟨e, hm, hs, hv⟩
  · exact ⟨(e2.1, v0), mem_of_get? _ _ _ hacc, stepKey_of_not_mem ops hk2, hv⟩

/-- a component `f` of the record values that every single `remove_node(keep_edges=True)` hands on from an old record
to the new record of its image key (on contents satisfying `I`, which the removals keep) is handed on by the removal of
all of `R` -/
theorem foldl_removeNode_keep_trace {γ : Type} (hlaw : Lawful ops) (f : ω × Md → γ) (I : Content κ ω → Prop)
    (hI : ∀ c n, I c → I (removeNode ops true c n))
    (hstep : ∀ c n, WF ops c → I c → ∀ e2 ∈ (removeNode ops true c n).edges,
      ∃ e ∈ c.edges, stepKey ops n e.1 = some e2.1 ∧ f e2.2 = f e.2)
    (R : List Node) (c : Content κ ω) (hwf : WF ops c) (hc : I c) :
    ∀ e2 ∈ (R.foldl (removeNode ops true) c).edges, ∃ e ∈ c.edges, shrinkAll ops R e.1 = some e2.1 ∧ f e2.2 = f e.2 := by
  induction R generalizing c with
  | nil => exact fun e2 he2 => ⟨e2, he2, rfl, rfl⟩
  | cons n R ih =>
    intro e2 he2
    obtain ⟨e1, he1, hs, hv⟩ := ih _ (removeNode_keep_wf ops hlaw c hwf n) (hI c n hc) e2 he2
    obtain ⟨e, he, hs1, hv1⟩ := hstep c n hwf hc e1 he1
    exact ⟨e, he, by rw [shrinkAll_cons, hs1]; exact hs, hv.trans hv1⟩

theorem foldl_removeNode_keep_md (hlaw : Lawful ops) (R : List Node) (c : Content κ ω) (hwf : WF ops c) :
    ∀ e2 ∈ (R.foldl (removeNode ops true) c).edges, ∃ e ∈ c.edges, shrinkAll ops R e.1 = some e2.1 ∧ e2.2.2 = e.2.2 :=
  foldl_removeNode_keep_trace ops hlaw Prod.snd (fun _ => True) (fun _ _ _ => trivial)
    (fun c n hwf _ => removeNode_keep_md ops hlaw c hwf n) R c hwf trivial

theorem foldl_removeNode_keep_w_unweighted (hlaw : Lawful ops) (R : List Node) (c : Content κ ω) (hwf : WF ops c)
    (hw : c.weighted = false) :
    ∀ e2 ∈ (R.foldl (removeNode ops true) c).edges, ∃ e ∈ c.edges, shrinkAll ops R e.1 = some e2.1 ∧ e2.2.1 = e.2.1 :=
  foldl_removeNode_keep_trace ops hlaw Prod.fst (fun c => c.weighted = false)
    (fun c n h => (removeNode_keep_weighted ops hlaw c n).trans h)
    (fun c n hwf h => removeNode_keep_w_unweighted ops hlaw c hwf h n) R c hwf hw

end keep
end C19
