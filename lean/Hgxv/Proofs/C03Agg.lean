import Hgxv.Proofs.C03Win
/-! Snapshots (`subhypergraph`) and `aggregate` of C03 (core Lean only). -/
namespace C03
open AL

/-- value of a node's metadata after `add_node(node, md)` -/
def fillVal (o : Option Meta) (md : Meta) : Meta :=
  match o with
  | none => md
  | some [] => md
  | some (x :: xs) => x :: xs

theorem HSpec.addNode_fields (h : HSpec) (n : Node) (md : Meta) :
    (h.addNode n md).edges = h.edges ∧ (h.addNode n md).weighted = h.weighted := by
  unfold HSpec.addNode
  simp only []
  split <;> split <;> simp

theorem HSpec.addNode_nodes (h : HSpec) (n : Node) (md : Meta) (m : Node) :
    get? (h.addNode n md).nodes m = if m = n then some (fillVal (get? h.nodes n) md) else get? h.nodes m := by
  unfold HSpec.addNode
  simp only []
  cases hg : get? h.nodes n with
  | none =>
    simp [get?_set, fillVal]
    by_cases hm : m = n
    · subst hm; simp
    · simp [hm, Ne.symm hm]
  | some v =>
    cases v with
    | nil =>
      simp [hg, fillVal, get?_set]
      by_cases hm : m = n
      · subst hm; simp
      · simp [hm, Ne.symm hm]
    | cons x xs =>
      simp [hg, fillVal]
      by_cases hm : m = n
      · subst hm; simp [hg]
      · simp [hm]

theorem HSpec.touchNodes_fields (h : HSpec) (ns : List Node) :
    (h.touchNodes ns).edges = h.edges ∧ (h.touchNodes ns).weighted = h.weighted := by
  induction ns generalizing h with
  | nil => simp [HSpec.touchNodes]
  | cons n ns ih =>
    have := ih (h.addNode n [])
    have h2 := HSpec.addNode_fields h n []
    simp only [HSpec.touchNodes, List.foldl_cons] at *
    rw [this.1, this.2, h2.1, h2.2]; exact ⟨rfl, rfl⟩

theorem fillVal_idem (o : Option Meta) : fillVal (some (fillVal o [])) [] = fillVal o [] := by
  cases o with
  | none => rfl
  | some v => cases v <;> rfl

theorem HSpec.touchNodes_nodes (h : HSpec) (ns : List Node) (m : Node) :
    get? (h.touchNodes ns).nodes m = if m ∈ ns then some (fillVal (get? h.nodes m) []) else get? h.nodes m := by
  induction ns generalizing h with
  | nil => simp [HSpec.touchNodes]
  | cons n ns ih =>
    have := ih (h.addNode n [])
    simp only [HSpec.touchNodes, List.foldl_cons] at *
    rw [this, HSpec.addNode_nodes]
    by_cases hm : m = n
    · subst hm; simp [fillVal_idem]
    · simp [hm]

/-- the value `Hypergraph.add_edge` leaves at the canonical key -/
def edgeVal (weighted : Bool) (old : Option (Int × Meta)) (w : Int) (md : Meta) : Int × Meta :=
  match old with
  | none => (if weighted then w else one, md)
  | some (w0, _) => (if weighted then w0 + w else w0, md)

theorem HSpec.addEdge_spec (h : HSpec) (e : Edge) (w : Int) (md : Meta) (hok : h.weighted = true ∨ w = one) :
    ∃ h', h.addEdge e w md = some h' ∧ h'.weighted = h.weighted ∧
      (∀ e', get? h'.edges e' = if canon e = e' then some (edgeVal h.weighted (get? h.edges (canon e)) w md) else get? h.edges e') ∧
      (∀ m, get? h'.nodes m = if m ∈ canon e ∧ get? h.edges (canon e) = none then some (fillVal (get? h.nodes m) []) else get? h.nodes m) := by
  unfold HSpec.addEdge
  have hrej : (!h.weighted && w != one) = false := by
    rcases hok with hok | hok
    · simp [hok]
    · simp [hok]
  simp only [hrej]
  cases hg : get? h.edges (canon e) with
  | none =>
    refine ⟨_, rfl, ?_, ?_, ?_⟩
    · rw [(HSpec.touchNodes_fields _ _).2]
    · intro e'; rw [(HSpec.touchNodes_fields _ _).1]; simp [get?_set, edgeVal]
    · intro m; rw [HSpec.touchNodes_nodes]; simp
  | some v =>
    obtain ⟨w0, md0⟩ := v
    refine ⟨_, rfl, rfl, ?_, ?_⟩
    · intro e'; simp [get?_set, edgeVal]
    · intro m; simp

/-- what the derivations need from the store (all consequences of the invariant `Inv`: `keysOK_of_inv` in `C03Cor`) -/
structure KeysOK (s : Store) : Prop where
  nodup : (edgeKeys s).Nodup
  canon : ∀ k ∈ edgeKeys s, C03.canon k.2 = k.2
  hasW : ∀ k ∈ edgeKeys s, (weightOfKey s k).isSome
  hasM : ∀ k ∈ edgeKeys s, (metaOfKey s k).isSome
  unw : s.weighted = false → ∀ k ∈ edgeKeys s, weightOfKey s k = some one

/-- loop invariant of `subhypergraph`: `done` = records already visited -/
structure SnapInv (s : Store) (a b : Option Int) (done : List Key) (res : List (Nat × HSpec)) : Prop where
  times : ∀ t, (get? res t).isSome ↔ (insideOpt a b t = true ∧ ∃ k ∈ done, k.1 = t)
  content : ∀ t h, get? res t = some h → h.weighted = s.weighted ∧
    (∀ e, (get? h.edges e).isSome ↔ (t, e) ∈ done) ∧
    (∀ e, (t, e) ∈ done → (get? h.edges e).map (·.1) = weightOfKey s (t, e))

theorem exists_mem_snoc (done : List Key) (k : Key) (t : Nat) :
    (∃ k' ∈ done ++ [k], k'.1 = t) ↔ (∃ k' ∈ done, k'.1 = t) ∨ k.1 = t := by
  simp [List.mem_append, or_and_right, exists_or]

theorem mem_snoc_of_time_ne (done : List Key) (t t' : Nat) (e e' : Edge) (h : t ≠ t') :
    (t', e') ∈ done ++ [(t, e)] ↔ (t', e') ∈ done := by
  simp [List.mem_append, Ne.symm h]

theorem snapStep_spec (s : Store) (ok : KeysOK s) (a b : Option Int) (done : List Key) (res : List (Nat × HSpec))
    (k : Key) (hinv : SnapInv s a b done res) (hk : k ∈ edgeKeys s) (hnew : k ∉ done) :
    ∃ r, snapStep s.weighted (weightOfKey s) a b res k = some r ∧ SnapInv s a b (done ++ [k]) r := by
  obtain ⟨t, e⟩ := k
  have hother : ∀ t' hh, t ≠ t' → get? res t' = some hh → hh.weighted = s.weighted ∧
      (∀ e', (get? hh.edges e').isSome ↔ (t', e') ∈ done ++ [(t, e)]) ∧
      (∀ e', (t', e') ∈ done ++ [(t, e)] → (get? hh.edges e').map (·.1) = weightOfKey s (t', e')) := by
    intro t' hh ht hr
    obtain ⟨c1, c2, c3⟩ := hinv.content t' hh hr
    exact ⟨c1, fun e' => (c2 e').trans (mem_snoc_of_time_ne done t t' e e' ht).symm,
      fun e' hd => c3 e' ((mem_snoc_of_time_ne done t t' e e' ht).mp hd)⟩
  unfold snapStep
  by_cases hin : insideOpt a b t = true
  · simp only [hin, if_true]
    obtain ⟨w, hw⟩ := Option.isSome_iff_exists.mp (ok.hasW _ hk)
    simp only [hw]
    -- the hypergraph of time t so far: the stored one, or an empty one when no record of time t was visited
    have h0c : ((get? res t).getD { weighted := s.weighted }).weighted = s.weighted ∧
        (∀ e', (get? ((get? res t).getD { weighted := s.weighted }).edges e').isSome ↔ (t, e') ∈ done) ∧
        (∀ e', (t, e') ∈ done →
          (get? ((get? res t).getD { weighted := s.weighted }).edges e').map (·.1) = weightOfKey s (t, e')) := by
      cases hr : get? res t with
      | some h => exact hinv.content t h hr
      | none =>
        have hno : ∀ e', (t, e') ∉ done := fun e' hd => by
          have := (hinv.times t).mpr ⟨hin, (t, e'), hd, rfl⟩
          rw [hr] at this; cases this
        exact ⟨rfl, fun e' => ⟨fun h => (nomatch h), fun hd => absurd hd (hno e')⟩, fun e' hd => absurd hd (hno e')⟩
    generalize ((get? res t).getD { weighted := s.weighted }) = h0 at h0c
    obtain ⟨h0w, h0e, h0v⟩ := h0c
    have hone : s.weighted = false → w = one := fun hsw => by
      have := ok.unw hsw _ hk; rw [hw] at this; exact Option.some.inj this
    have hok : h0.weighted = true ∨ w = one := by
      cases hsw : s.weighted with
      | true => left; rw [h0w, hsw]
      | false => right; exact hone hsw
    obtain ⟨h', hadd, hw', hedges, _⟩ := HSpec.addEdge_spec h0 e w [] hok
    rw [ok.canon _ hk] at hedges
    have hnone : get? h0.edges e = none := by
      cases hg : get? h0.edges e with
      | none => rfl
      | some v => exact absurd ((h0e e).mp (by rw [hg]; rfl)) hnew
    refine ⟨_, by rw [hadd]; rfl, ?_, ?_⟩
    · intro t'
      rw [get?_set, exists_mem_snoc]
      by_cases ht : t = t'
      · subst ht; simp [hin]
      · simp only [ht, if_false, or_false]; exact hinv.times t'
    · intro t' hh
      rw [get?_set]
      by_cases ht : t = t'
      · subst ht
        simp only [if_true]
        rintro ⟨⟩
        refine ⟨by rw [hw', h0w], ?_, ?_⟩
        · intro e'
          rw [hedges]
          by_cases he : e = e'
          · subst he; simp
          · simp only [he, if_false]; rw [h0e]; simp
            intro h; exact absurd h.symm he
        · intro e' hd
          rw [hedges]
          by_cases he : e = e'
          · subst he
            simp only [if_true, hnone, edgeVal, h0w, Option.map_some, hw]
            cases hsw : s.weighted with
            | true => rfl
            | false => rw [hone hsw]; rfl
          · simp only [he, if_false]
            apply h0v
            rcases List.mem_append.mp hd with hd | hd
            · exact hd
            · simp at hd; exact absurd hd.symm he
      · simp only [ht, if_false]; exact hother t' hh ht
  · simp only [hin]
    refine ⟨res, rfl, ?_, ?_⟩
    · intro t'
      rw [exists_mem_snoc, hinv.times t']
      refine ⟨fun h => ⟨h.1, Or.inl h.2⟩, fun h => ⟨h.1, h.2.resolve_right fun ht => ?_⟩⟩
      exact hin ((show t = t' from ht) ▸ h.1)
    · intro t' hh hr
      have hin' : insideOpt a b t' = true := ((hinv.times t').mp (by rw [hr]; rfl)).1
      exact hother t' hh (fun ht => hin (ht ▸ hin')) hr

theorem snapLoop_spec (s : Store) (ok : KeysOK s) (a b : Option Int) (ks done : List Key) (res : List (Nat × HSpec))
    (hinv : SnapInv s a b done res) (hnd : (done ++ ks).Nodup) (hsub : ∀ k ∈ ks, k ∈ edgeKeys s) :
    ∃ r, snapLoop s.weighted (weightOfKey s) a b res ks = some r ∧ SnapInv s a b (done ++ ks) r := by
  induction ks generalizing done res with
  | nil => exact ⟨res, rfl, by simpa using hinv⟩
  | cons k ks ih =>
    have hnew : k ∉ done := by
      intro h
      have := List.nodup_append.mp hnd
      exact this.2.2 k h k (by simp) rfl
    obtain ⟨r1, hr1, hinv1⟩ := snapStep_spec s ok a b done res k hinv (hsub k (by simp)) hnew
    have hnd' : ((done ++ [k]) ++ ks).Nodup := by simpa using hnd
    obtain ⟨r, hr, hinv2⟩ := ih (done ++ [k]) r1 hinv1 hnd' (fun k' hk' => hsub k' (by simp [hk']))
    refine ⟨r, ?_, by simpa using hinv2⟩
    simp only [snapLoop, hr1, Option.bind_some]; exact hr

/-- `subhypergraph(window)`: one hypergraph per time that has a record in the window; it has the weightedness of the
temporal hypergraph, exactly the node sets recorded at that time, each with the record's weight. -/
theorem snapshots_spec (s : Store) (ok : KeysOK s) (a b : Option Int) :
    ∃ r, snapLoop s.weighted (weightOfKey s) a b [] (edgeKeys s) = some r ∧
      (∀ t, (get? r t).isSome ↔ (insideOpt a b t = true ∧ ∃ k ∈ edgeKeys s, k.1 = t)) ∧
      (∀ t h, get? r t = some h → h.weighted = s.weighted ∧
        (∀ e, (get? h.edges e).isSome ↔ (t, e) ∈ edgeKeys s) ∧
        (∀ e, (t, e) ∈ edgeKeys s → (get? h.edges e).map (·.1) = weightOfKey s (t, e))) := by
  have h0 : SnapInv s a b [] [] :=
    ⟨fun _ => ⟨fun h => (nomatch h), fun ⟨_, _, hk, _⟩ => (nomatch hk)⟩, fun _ _ hg => (nomatch hg)⟩
  obtain ⟨r, hr, hinv⟩ := snapLoop_spec s ok a b (edgeKeys s) [] [] h0 ok.nodup (fun k hk => hk)
  exact ⟨r, hr, hinv.times, hinv.content⟩

theorem takeWindow_spec (tS tE : Nat) (l : List Key) (hs : TimeSorted l) (hge : ∀ k ∈ l, tS ≤ k.1) :
    (takeWindow tS tE l).1 = l.filter (fun k => decide (k.1 < tE)) ∧
    (takeWindow tS tE l).2 = l.filter (fun k => decide (tE ≤ k.1)) := by
  induction l with
  | nil => simp [takeWindow]
  | cons k rest ih =>
    unfold TimeSorted at hs
    have hs' := List.pairwise_cons.mp hs
    have ih' := ih hs'.2 (fun k' hk' => hge k' (by simp [hk']))
    have hk := hge k (by simp)
    simp only [takeWindow]
    by_cases h : k.1 < tE
    · simp only [hk, h, and_self, if_true, List.filter_cons, decide_true]
      have : ¬ tE ≤ k.1 := by omega
      simp [this, ih'.1, ih'.2]
    · have h2 : ¬ (tS ≤ k.1 ∧ k.1 < tE) := fun hh => h hh.2
      simp only [h2, if_false]
      have hall : ∀ k' ∈ rest, tE ≤ k'.1 := fun k' hk' => by have := hs'.1 k' hk'; omega
      have hle : tE ≤ k.1 := by omega
      constructor
      · symm; apply List.filter_eq_nil_iff.mpr
        intro a ha; rcases List.mem_cons.mp ha with ha | ha
        · subst ha; simpa using h
        · have := hall a ha; simp; omega
      · symm; apply List.filter_eq_self.mpr
        intro a ha; rcases List.mem_cons.mp ha with ha | ha
        · subst ha; simpa using hle
        · simpa using hall a ha

def accStep (weighted : Bool) (o : Option Int) (w : Int) : Option Int :=
  some (match o with | none => if weighted then w else one | some w0 => if weighted then w0 + w else w0)
def accW (weighted : Bool) (o : Option Int) (l : List Int) : Option Int := l.foldl (accStep weighted) o

theorem accW_some_true (x : Int) (l : List Int) : accW true (some x) l = some (x + l.sum) := by
  induction l generalizing x with
  | nil => simp [accW]
  | cons a t ih =>
    simp only [accW, List.foldl_cons, accStep] at *
    rw [ih]; simp [List.sum_cons]; omega
theorem accW_some_false (x : Int) (l : List Int) : accW false (some x) l = some x := by
  induction l generalizing x with
  | nil => simp [accW]
  | cons a t ih => simp only [accW, List.foldl_cons, accStep] at *; exact ih x

theorem accW_none (weighted : Bool) (l : List Int) :
    accW weighted none l = if l = [] then none else some (if weighted then l.sum else one) := by
  cases l with
  | nil => simp [accW]
  | cons a t =>
    cases weighted with
    | true =>
      have := accW_some_true a t
      simp only [accW, List.foldl_cons, accStep] at *
      simp [this, List.sum_cons]
    | false =>
      have := accW_some_false one t
      simp only [accW, List.foldl_cons, accStep] at *
      simp [this]

/-- weights of the records of `ks` whose node set is `e`, in list order -/
def recWeights (s : Store) (ks : List Key) (e : Edge) : List Int :=
  (ks.filter (fun k => k.2 == e)).filterMap (weightOfKey s)

theorem addWindowEdges_spec (s : Store) (ok : KeysOK s) (ks : List Key) (h : HSpec)
    (hw : h.weighted = s.weighted) (hsub : ∀ k ∈ ks, k ∈ edgeKeys s)
    (hempty : ∀ m md, get? h.nodes m = some md → md = []) :
    ∃ h', addWindowEdges (weightOfKey s) (metaOfKey s) h ks = some h' ∧ h'.weighted = s.weighted ∧
      (∀ e, (get? h'.edges e).map (·.1) = accW s.weighted ((get? h.edges e).map (·.1)) (recWeights s ks e)) ∧
      (∀ m md, get? h'.nodes m = some md → md = []) ∧
      (∀ m, (get? h'.nodes m).isSome → (get? h.nodes m).isSome ∨ ∃ k ∈ ks, m ∈ k.2) := by
  induction ks generalizing h with
  | nil => exact ⟨h, rfl, hw, by simp [recWeights, accW], hempty, fun m hm => Or.inl hm⟩
  | cons k ks ih =>
    -- one `add_edge` (`HSpec.addEdge_spec`), then the rest: the list of weights of `e` gains `w` exactly when `k.2 = e`
    have hk := hsub k (by simp)
    obtain ⟨w, hwk⟩ := Option.isSome_iff_exists.mp (ok.hasW _ hk)
    obtain ⟨md, hmk⟩ := Option.isSome_iff_exists.mp (ok.hasM _ hk)
    have hok : h.weighted = true ∨ w = one := by
      cases hsw : s.weighted with
      | true => left; rw [hw, hsw]
      | false => right; have := ok.unw hsw _ hk; rw [hwk] at this; exact Option.some.inj this
    obtain ⟨h1, hadd, hw1, hedges, hnodes⟩ := HSpec.addEdge_spec h k.2 w md hok
    have hce : C03.canon k.2 = k.2 := ok.canon _ hk
    rw [hce] at hedges hnodes
    have hempty1 : ∀ m md, get? h1.nodes m = some md → md = [] := by
      intro m md' hm
      rw [hnodes] at hm
      split at hm
      · have : fillVal (get? h.nodes m) [] = [] := by
          cases hg : get? h.nodes m with
          | none => rfl
          | some v => rw [hempty m v hg]; rfl
        rw [this] at hm; exact (Option.some.inj hm).symm
      · exact hempty m md' hm
    obtain ⟨h', hrec, hw', hedges', hempty', hnodes'⟩ :=
      ih h1 (by rw [hw1, hw]) (fun k' hk' => hsub k' (by simp [hk'])) hempty1
    refine ⟨h', ?_, hw', ?_, hempty', ?_⟩
    · simp only [addWindowEdges, hmk, hwk, hadd, Option.bind_some]; exact hrec
    · intro e
      rw [hedges' e, hedges e]
      by_cases he : k.2 = e
      · subst he
        simp only [if_true, Option.map_some]
        have : recWeights s (k :: ks) k.2 = w :: recWeights s ks k.2 := by
          simp [recWeights, hwk]
        rw [this]
        simp only [accW, List.foldl_cons]
        congr 1
        simp only [accStep, edgeVal, hw]
        cases hg : get? h.edges k.2 with
        | none => simp
        | some v => obtain ⟨w0, m0⟩ := v; simp
      · simp only [he, if_false]
        have : recWeights s (k :: ks) e = recWeights s ks e := by
          simp [recWeights, he]
        rw [this]
    · intro m hm
      rcases hnodes' m hm with h1s | ⟨k', hk', hmk'⟩
      · rw [hnodes] at h1s
        split at h1s
        · rename_i hc; exact Or.inr ⟨k, by simp, hc.1⟩
        · exact Or.inl h1s
      · exact Or.inr ⟨k', by simp [hk'], hmk'⟩

/-- `for node in node_list: Hypergraph_t.add_node(node, metadata=self._node_metadata[node])` -/
theorem addAllNodes_spec (l : List (Node × Meta)) (h : HSpec) (hnd : (keys l).Nodup)
    (hempty : ∀ m ∈ keys l, ∀ md, get? h.nodes m = some md → md = []) :
    (l.foldl (fun h p => h.addNode p.1 p.2) h).edges = h.edges ∧
    (l.foldl (fun h p => h.addNode p.1 p.2) h).weighted = h.weighted ∧
    ∀ m, get? (l.foldl (fun h p => h.addNode p.1 p.2) h).nodes m =
      (match get? l m with | some md => some md | none => get? h.nodes m) := by
  induction l generalizing h with
  | nil => simp
  | cons p l ih =>
    obtain ⟨n, md⟩ := p
    simp only [keys, List.map_cons, List.nodup_cons] at hnd
    have hn : n ∉ keys l := hnd.1
    have hempty1 : ∀ m ∈ keys l, ∀ md', get? (h.addNode n md).nodes m = some md' → md' = [] := by
      intro m hm md' hg
      rw [HSpec.addNode_nodes] at hg
      have : m ≠ n := fun hh => hn (hh ▸ hm)
      simp only [this, if_false] at hg
      exact hempty m (by simp [keys]; exact Or.inr (by simpa [keys] using hm)) md' hg
    obtain ⟨i1, i2, i3⟩ := ih (h.addNode n md) hnd.2 hempty1
    simp only [List.foldl_cons]
    refine ⟨by rw [i1, (HSpec.addNode_fields h n md).1], by rw [i2, (HSpec.addNode_fields h n md).2], ?_⟩
    intro m
    rw [i3 m]
    by_cases hm : n = m
    · subst hm
      have : get? l n = none := (get?_eq_none_iff l n).mpr hn
      simp only [this, get?, if_true]
      rw [HSpec.addNode_nodes]; simp only [if_true]
      have : fillVal (get? h.nodes n) md = md := by
        cases hg : get? h.nodes n with
        | none => rfl
        | some v => rw [hempty n (by simp [keys]) v hg]; rfl
      rw [this]
    · simp only [get?, hm, if_false]
      cases get? l m with
      | some v => rfl
      | none => simp only []; rw [HSpec.addNode_nodes]; simp [Ne.symm hm]

structure NodesOK (s : Store) : Prop where
  nodup : (keys s.nmeta).Nodup
  nodesIn : ∀ k ∈ edgeKeys s, ∀ n ∈ k.2, (get? s.nmeta n).isSome

theorem buildWindow_spec (s : Store) (ok : KeysOK s) (nk : NodesOK s) (ks : List Key) (hsub : ∀ k ∈ ks, k ∈ edgeKeys s) :
    ∃ h, buildWindow s.weighted (weightOfKey s) (metaOfKey s) s.nmeta ks = some h ∧ h.weighted = s.weighted ∧
      (∀ m, get? h.nodes m = get? s.nmeta m) ∧
      (∀ e, (get? h.edges e).map (·.1) =
        if recWeights s ks e = [] then none else some (if s.weighted then (recWeights s ks e).sum else one)) := by
  obtain ⟨h1, hadd, hw1, hedges, hempty, hnodes⟩ :=
    addWindowEdges_spec s ok ks { weighted := s.weighted } rfl hsub (by simp)
  have hn := addAllNodes_spec s.nmeta h1 nk.nodup (fun m _ md hg => hempty m md hg)
  refine ⟨s.nmeta.foldl (fun h p => h.addNode p.1 p.2) h1, by simp only [buildWindow, hadd, Option.map_some], by rw [hn.2.1, hw1], ?_, ?_⟩
  · intro m
    rw [hn.2.2 m]
    cases hg : get? s.nmeta m with
    | some v => rfl
    | none =>
      simp only []
      cases hg1 : get? h1.nodes m with
      | none => rfl
      | some v =>
        rcases hnodes m (by simp [hg1]) with hh | ⟨k, hk, hmk⟩
        · simp at hh
        · have := nk.nodesIn k (hsub k hk) m hmk
          simp [hg] at this
  · intro e
    rw [hn.1, hedges e]
    simp only [get?_nil, Option.map_none]
    exact accW_none s.weighted _

/-- records of window `j` of width `w`: `j*w ≤ t < (j+1)*w` -/
def inWindow (w j : Nat) (k : Key) : Bool := decide (j * w ≤ k.1) && decide (k.1 < (j + 1) * w)

/-- the records falling into window `j`, in creation order -/
def windowRecs (s : Store) (w j : Nat) : List Key := (edgeKeys s).filter (inWindow w j)

theorem mapM_tag {β : Type} (f : Nat → Option β) (P : Nat → β → Prop) (l : List Nat)
    (h : ∀ j ∈ l, ∃ b, f j = some b ∧ P j b) :
    ∃ res, l.mapM (fun j => (f j).map (fun b => (j, b))) = some res ∧ res.map (·.1) = l ∧
      ∀ j b, (j, b) ∈ res → P j b := by
  induction l with
  | nil => exact ⟨[], rfl, rfl, fun _ _ h => nomatch h⟩
  | cons j t ih =>
    obtain ⟨b, hb, hp⟩ := h j List.mem_cons_self
    obtain ⟨res, hr, hm, hall⟩ := ih (fun j hj => h j (List.mem_cons_of_mem _ hj))
    refine ⟨(j, b) :: res, by simp [List.mapM_cons, hb, hr], by simp [hm], ?_⟩
    intro j' b' hmem
    rcases List.mem_cons.mp hmem with e | e
    · cases e; exact hp
    · exact hall j' b' e

/-- on a time-sorted listing the `idx`-th pass of the loop sees the records from `idx * w` on, takes those of window
`idx` and leaves those from `(idx + 1) * w` on: the loop maps `buildWindow` over the window indices `0 .. maxT / w` -/
theorem aggLoop_eq (wd : Bool) (wOf : Key → Option Int) (mOf : Key → Option Meta) (nm : List (Node × Meta))
    (w : Nat) (hw : 0 < w) (maxT : Nat) (sorted : List Key) (hs : TimeSorted sorted) :
    ∀ n idx, idx + n = maxT / w + 1 →
      aggLoop wd wOf mOf nm w hw maxT (idx * w) idx (sorted.filter (fun k => decide (idx * w ≤ k.1))) =
        (List.range' idx n).mapM
          (fun j => (buildWindow wd wOf mOf nm (sorted.filter (inWindow w j))).map (fun h => (j, h))) := by
  intro n
  induction n with
  | zero =>
    intro idx hn
    have : ¬ idx * w ≤ maxT := by rw [← Nat.le_div_iff_mul_le hw]; omega
    rw [aggLoop, dif_neg this]; rfl
  | succ n ih =>
    intro idx hn
    have hle : idx * w ≤ maxT := by rw [← Nat.le_div_iff_mul_le hw]; omega
    have hnext : idx * w + w = (idx + 1) * w := by rw [Nat.add_mul, Nat.one_mul]
    obtain ⟨t1, t2⟩ := takeWindow_spec (idx * w) (idx * w + w) _ (List.Pairwise.filter (fun k => decide (idx * w ≤ k.1)) hs)
      (fun k hk => by simpa using (List.mem_filter.mp hk).2)
    rw [aggLoop, dif_pos hle, t1, t2, List.filter_filter, List.filter_filter, hnext, List.range'_succ, List.mapM_cons]
    have e1 : (sorted.filter fun k => decide (k.1 < (idx + 1) * w) && decide (idx * w ≤ k.1)) = sorted.filter (inWindow w idx) :=
      List.filter_congr fun k _ => Bool.and_comm _ _
    have e2 : (sorted.filter fun k => decide ((idx + 1) * w ≤ k.1) && decide (idx * w ≤ k.1)) =
        sorted.filter fun k => decide ((idx + 1) * w ≤ k.1) :=
      List.filter_congr fun k _ => by
        by_cases hk : (idx + 1) * w ≤ k.1
        · simp [hk, show idx * w ≤ k.1 by omega]
        · simp [hk]
    rw [e1, e2, ih (idx + 1) (by omega)]
    generalize List.mapM (m := Option) _ (List.range' (idx + 1) n) = r
    cases buildWindow wd wOf mOf nm (sorted.filter (inWindow w idx)) <;> cases r <;> rfl

theorem recWeights_perm (s : Store) (l1 l2 : List Key) (e : Edge) (h : l1.Perm l2) :
    (recWeights s l1 e).Perm (recWeights s l2 e) := by
  unfold recWeights; exact (h.filter _).filterMap _

theorem recWeights_eq_nil (s : Store) (ok : KeysOK s) (ks : List Key) (hsub : ∀ k ∈ ks, k ∈ edgeKeys s) (e : Edge) :
    recWeights s ks e = [] ↔ ¬ ∃ k ∈ ks, k.2 = e := by
  unfold recWeights
  rw [List.filterMap_eq_nil_iff]
  constructor
  · intro h ⟨k, hk, he⟩
    have := h k (List.mem_filter.mpr ⟨hk, by simp [he]⟩)
    have h2 := ok.hasW k (hsub k hk)
    rw [this] at h2; cases h2
  · intro h k hk
    exact absurd ⟨k, (List.mem_filter.mp hk).1, by simpa using (List.mem_filter.mp hk).2⟩ h

/-- what the property says about one window of `aggregate(w)` -/
structure WindowOK (s : Store) (w j : Nat) (h : HSpec) : Prop where
  weighted : h.weighted = s.weighted
  nodes : ∀ m, get? h.nodes m = get? s.nmeta m
  edges : ∀ e, (get? h.edges e).isSome ↔ ∃ t, (t, e) ∈ edgeKeys s ∧ j * w ≤ t ∧ t < (j + 1) * w
  weights : ∀ e v, get? h.edges e = some v →
    v.1 = if s.weighted then (recWeights s (windowRecs s w j) e).sum else one

/-- **`aggregate(w)` on any store with a record**: the list, over the window indices `0 .. ⌊M / w⌋`, of the hypergraphs
built from the records of the window in sorted order (`none` iff one of them cannot be built) -/
theorem aggregate_eq (s : Store) (i : Int) (hi : 0 < i) (M : Nat) (hM : maxTime s = some M) :
    aggregate s (.int i) = (List.range (M / i.toNat + 1)).mapM (fun j =>
      (buildWindow s.weighted (weightOfKey s) (metaOfKey s) s.nmeta ((sortKeys (edgeKeys s)).filter (inWindow i.toNat j))).map
        (fun h => (j, h))) := by
  have hmax : maxNat ((sortKeys (edgeKeys s)).map (·.1)) = some M := by
    rw [maxNat_eq, max?_perm ((sortKeys_perm _).map _), ← maxTime_eq, hM]
  have h := aggLoop_eq s.weighted (weightOfKey s) (metaOfKey s) s.nmeta i.toNat (by omega) M _
    (sortKeys_timeSorted (edgeKeys s)) (M / i.toNat + 1) 0 (by omega)
  rw [Nat.zero_mul, List.filter_eq_self.mpr (fun a _ => by simp)] at h
  simp only [aggregate, V.aggregate, view, aggregateOf, hi, dite_true, hmax]
  rw [h, List.range_eq_range']

theorem buildWindow_windowOK (s : Store) (ok : KeysOK s) (nk : NodesOK s) (w j : Nat) :
    ∃ h, buildWindow s.weighted (weightOfKey s) (metaOfKey s) s.nmeta ((sortKeys (edgeKeys s)).filter (inWindow w j)) = some h ∧
      WindowOK s w j h := by
  have hsubw : ∀ k ∈ (sortKeys (edgeKeys s)).filter (inWindow w j), k ∈ edgeKeys s :=
    fun k hk => mem_sortKeys.mp (List.mem_filter.mp hk).1
  obtain ⟨h, hb, hw', hn', he'⟩ := buildWindow_spec s ok nk _ hsubw
  refine ⟨h, hb, hw', hn', fun e => ?_, fun e v hv => ?_⟩
  · -- a node set is a hyperedge iff its list of weights is not empty iff one of its records is in the window
    have hnil := recWeights_eq_nil s ok _ hsubw e
    have hsome : (get? h.edges e).isSome ↔ ¬ recWeights s ((sortKeys (edgeKeys s)).filter (inWindow w j)) e = [] := by
      rw [← Option.isSome_map (f := (·.1)), he' e]; split <;> rename_i hc <;> simp [hc]
    rw [hsome, hnil, Decidable.not_not]
    constructor
    · rintro ⟨k, hk, rfl⟩
      obtain ⟨hk1, hk2⟩ := List.mem_filter.mp hk
      simp only [inWindow, Bool.and_eq_true, decide_eq_true_eq] at hk2
      exact ⟨k.1, mem_sortKeys.mp hk1, hk2⟩
    · rintro ⟨t, ht, h1, h2⟩
      exact ⟨(t, e), List.mem_filter.mpr ⟨mem_sortKeys.mpr ht, by simp [inWindow, h1, h2]⟩, rfl⟩
  · have := he' e
    rw [hv] at this
    split at this
    · cases this
    · have hs : v.1 = _ := Option.some.inj this
      rw [hs]
      cases hsw : s.weighted with
      | false => rfl
      | true => exact ListLib.sum_perm_int (recWeights_perm s _ _ e ((sortKeys_perm _).filter _))

theorem aggregate_spec (s : Store) (ok : KeysOK s) (nk : NodesOK s) (i : Int) (hi : 0 < i) :
    (edgeKeys s = [] → aggregate s (.int i) = some []) ∧
    (∀ M, maxTime s = some M → ∃ res, aggregate s (.int i) = some res ∧
      res.map (·.1) = List.range (M / i.toNat + 1) ∧ ∀ j h, (j, h) ∈ res → WindowOK s i.toNat j h) := by
  refine ⟨fun he => by simp [aggregate, V.aggregate, view, aggregateOf, hi, he, sortKeys, maxNat], fun M hM => ?_⟩
  rw [aggregate_eq s i hi M hM]
  exact mapM_tag _ (WindowOK s i.toNat) _ (fun j _ => buildWindow_windowOK s ok nk i.toNat j)

end C03
