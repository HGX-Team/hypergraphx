import Hgxv.Model.C19C
import Hgxv.Proofs.C19Occurrences
import Mathlib.Data.List.Nodup
/-! C19 part B, `get_svc` (statistically validated cores): combinatorics.

`combos k b` (= `itertools.combinations(b, k)`) lists exactly the sublists of length `k`, each once when `b` has no
repetition; the count of a group is the number of occurrences it is a sublist of (= the sum of the weights of the
hyperedges containing it); the tested groups of an order are the `order`-sublists of the occurrences that are not a
sublist of a group validated before; the loop threads the validated groups of the earlier (higher) orders. -/
namespace C19

theorem mem_combos {α : Type} (k : Nat) (b g : List α) : g ∈ combos k b ↔ g.Sublist b ∧ g.length = k := by
  induction b generalizing k g with
  | nil =>
    cases k with
    | zero => simp [combos]
    | succ k =>
      simp only [combos, List.not_mem_nil, false_iff, not_and]
      intro h; rw [List.sublist_nil.mp h]; simp
  | cons x xs ih =>
    cases k with
    | zero =>
      simp only [combos, List.mem_singleton, List.length_eq_zero_iff]
      constructor
      · rintro rfl; exact ⟨List.nil_sublist _, rfl⟩
      · exact fun h => h.2
    | succ k =>
      simp only [combos, List.mem_append, List.mem_map, ih]
      constructor
      · rintro (⟨g', ⟨hs, hl⟩, rfl⟩ | ⟨hs, hl⟩)
        · exact ⟨hs.cons_cons x, by simp [hl]⟩
        · exact ⟨hs.cons x, hl⟩
      · rintro ⟨hs, hl⟩
        cases hs with
        | cons _ h => right; exact ⟨h, hl⟩
        | cons_cons _ h => left; exact ⟨_, ⟨h, by simpa using hl⟩, rfl⟩

theorem combos_nodup {α : Type} (k : Nat) (b : List α) (hb : b.Nodup) : (combos k b).Nodup := by
  induction b generalizing k with
  | nil => cases k <;> simp [combos]
  | cons x xs ih =>
    cases k with
    | zero => simp [combos]
    | succ k =>
      have hx := List.nodup_cons.mp hb
      simp only [combos]
      refine List.Nodup.append ?_ (ih _ hx.2) ?_
      · exact List.Pairwise.map _ (fun a b hab h => hab (List.cons.inj h).2) (ih k hx.2)
      · intro g hg1 hg2
        obtain ⟨g', _, rfl⟩ := List.mem_map.mp hg1
        have := ((mem_combos _ _ _).mp hg2).1
        exact hx.1 (this.subset List.mem_cons_self)

/-- `groups[g]` = number of occurrences of which `g` is a sublist (occurrences are repetition-free tuples) -/
theorem countOf_eq (occ : List (List Nat)) (hnd : ∀ b ∈ occ, b.Nodup) (k : Nat) (g : List Nat) (hg : g.length = k) :
    countOf occ k g = (occ.filter (fun b => g.isSublist b)).length := by
  unfold countOf pairsOf
  rw [← ListLib.countP_contains _ _ fun b hb => combos_nodup k b (hnd b (List.mem_filter.mp hb).1), List.countP_eq_length_filter, List.filter_filter]
  refine congrArg _ (List.filter_congr fun b _ => ?_)
  rw [Bool.eq_iff_iff]
  simp only [Bool.and_eq_true, decide_eq_true_eq, List.contains_iff_mem, mem_combos, List.isSublist_iff_sublist]
  exact ⟨fun h => h.1.1, fun h => ⟨⟨h, hg⟩, hg ▸ h.length_le⟩⟩

theorem expand_nodup (edges : List (List Nat × Nat)) (h : ∀ f ∈ edges, f.1.Nodup) : ∀ b ∈ expand edges, b.Nodup := by
  intro b hb
  obtain ⟨w, hw, _⟩ := (mem_expand edges b).mp hb
  exact h (b, w) hw

theorem countOf_weight (edges : List (List Nat × Nat)) (h : ∀ f ∈ edges, f.1.Nodup) (k : Nat) (g : List Nat)
    (hg : g.length = k) :
    countOf (expand edges) k g = ((edges.filter (fun f => g.isSublist f.1)).map (·.2)).sum := by
  rw [countOf_eq _ (expand_nodup edges h) k g hg, length_filter_expand]

theorem degAll_eq (occ : List (List Nat)) (hnd : ∀ b ∈ occ, b.Nodup) (i : Nat) :
    degAll occ i = (occ.filter (fun b => b.contains i)).length := by
  unfold degAll
  rw [← List.flatMap_id, ← ListLib.countP_contains id occ hnd, List.countP_eq_length_filter]
  rfl

/-- `deg_a[i]` is the total weight of the hyperedges (of every size) containing the node -/
theorem degAll_weight (edges : List (List Nat × Nat)) (h : ∀ f ∈ edges, f.1.Nodup) (i : Nat) :
    degAll (expand edges) i = ((edges.filter (fun f => f.1.contains i)).map (·.2)).sum := by
  rw [degAll_eq _ (expand_nodup edges h), length_filter_expand]

theorem expand_length (edges : List (List Nat × Nat)) : (expand edges).length = (edges.map (·.2)).sum := by
  have := length_filter_expand edges (fun _ => true)
  simpa using this

theorem mem_pairsOf (occ : List (List Nat)) (k : Nat) (g : List Nat) :
    g ∈ pairsOf occ k ↔ g.length = k ∧ ∃ b ∈ occ, g.Sublist b := by
  simp only [pairsOf, List.mem_flatMap, List.mem_filter, decide_eq_true_eq, mem_combos]
  constructor
  · rintro ⟨b, ⟨hb, _⟩, hs, hl⟩; exact ⟨hl, b, hb, hs⟩
  · rintro ⟨hl, b, hb, hs⟩; exact ⟨b, ⟨hb, by have := hs.length_le; omega⟩, hs, hl⟩

theorem mem_dropOf (sg : List (List Nat)) (k : Nat) (g : List Nat) :
    g ∈ dropOf sg k ↔ g.length = k ∧ ∃ v ∈ sg, g.Sublist v := by
  simp only [dropOf, List.mem_flatMap, mem_combos]
  constructor
  · rintro ⟨v, hv, hs, hl⟩; exact ⟨hl, v, hv, hs⟩
  · rintro ⟨hl, v, hv, hs⟩; exact ⟨v, hv, hs, hl⟩

theorem mem_groupsOf (occ sg : List (List Nat)) (k : Nat) (g : List Nat) :
    g ∈ groupsOf occ sg k ↔ g.length = k ∧ (∃ b ∈ occ, g.Sublist b) ∧ ¬ ∃ v ∈ sg, g.Sublist v := by
  simp only [groupsOf, List.mem_filter, mem_dedup, mem_pairsOf, Bool.not_eq_true', List.contains_eq_mem,
    decide_eq_false_iff_not, mem_dropOf]
  constructor
  · rintro ⟨⟨hl, hb⟩, hno⟩; exact ⟨hl, hb, fun hv => hno ⟨hl, hv⟩⟩
  · rintro ⟨hl, hb, hno⟩; exact ⟨⟨hl, hb⟩, fun hv => hno hv.2⟩

theorem groupsOf_nodup (occ sg : List (List Nat)) (k : Nat) : (groupsOf occ sg k).Nodup :=
  (dedup_nodup _).filter _

theorem coreRows_edges (sf : Nat → Nat → Rat → Rat) (occ sg : List (List Nat)) (k : Nat) :
    (coreRows sf occ sg k).map (·.edge) = groupsOf occ sg k := by
  simp [coreRows, List.map_map, Function.comp_def]

theorem coreTable_edges (sf : Nat → Nat → Rat → Rat) (alpha : Rat) (occ sg : List (List Nat)) (k : Nat) :
    (coreTable sf alpha occ sg k).rows.map (·.1.edge) = groupsOf occ sg k := by
  simp only [coreTable, List.map_map, Function.comp_def]
  exact coreRows_edges sf occ sg k

theorem validGroups_sub (t : CoreTable) (g : List Nat) (h : g ∈ validGroups t) : g ∈ t.rows.map (·.1.edge) := by
  simp only [validGroups, List.mem_map, List.mem_filter] at h ⊢
  obtain ⟨r, ⟨hr, _⟩, rfl⟩ := h
  exact ⟨r, hr, rfl⟩

theorem validGroups_length (sf : Nat → Nat → Rat → Rat) (alpha : Rat) (occ sg : List (List Nat)) (k : Nat) :
    ∀ g ∈ validGroups (coreTable sf alpha occ sg k), g.length = k := fun g hg =>
  ((mem_groupsOf occ sg k g).mp (coreTable_edges sf alpha occ sg k ▸ validGroups_sub _ g hg)).1

theorem coreLoop_length (sf : Nat → Nat → Rat → Rat) (alpha : Rat) (occ : List (List Nat)) (os : List Nat)
    (sg : List (List Nat)) : (coreLoop sf alpha occ os sg).length = os.length := by
  induction os generalizing sg with
  | nil => rfl
  | cons o os ih => simp [coreLoop, ih]

theorem coreLoop_orders (sf : Nat → Nat → Rat → Rat) (alpha : Rat) (occ : List (List Nat)) (os : List Nat)
    (sg : List (List Nat)) : (coreLoop sf alpha occ os sg).map (·.order) = os := by
  induction os generalizing sg with
  | nil => rfl
  | cons o os ih => simp [coreLoop, ih, coreTable]

theorem coreLoop_getElem (sf : Nat → Nat → Rat → Rat) (alpha : Rat) (occ : List (List Nat)) (os : List Nat)
    (sg : List (List Nat)) (i : Nat) (h : i < os.length) :
    (coreLoop sf alpha occ os sg)[i]'(by rw [coreLoop_length]; exact h) =
      coreTable sf alpha occ (sg ++ ((coreLoop sf alpha occ os sg).take i).flatMap validGroups) os[i] := by
  induction os generalizing sg i with
  | nil => simp at h
  | cons o os ih =>
    cases i with
    | zero => simp [coreLoop]
    | succ i =>
      simp only [coreLoop, List.getElem_cons_succ, List.take_succ_cons, List.flatMap_cons]
      rw [ih (sg ++ validGroups (coreTable sf alpha occ sg o)) i (by simpa using h), List.append_assoc]

theorem coreLoop_order (sf : Nat → Nat → Rat → Rat) (alpha : Rat) (occ : List (List Nat)) (os : List Nat)
    (sg : List (List Nat)) (i : Nat) (h : i < (coreLoop sf alpha occ os sg).length) :
    (coreLoop sf alpha occ os sg)[i].order = os[i]'(coreLoop_length sf alpha occ os sg ▸ h) := by
  rw [coreLoop_getElem sf alpha occ os sg i (coreLoop_length sf alpha occ os sg ▸ h)]; rfl

theorem mem_ordersDesc (lo hi o : Nat) : o ∈ ordersDesc lo hi ↔ lo ≤ o ∧ o ≤ hi := by
  simp only [ordersDesc, List.mem_map, List.mem_range]
  constructor
  · rintro ⟨i, hi', rfl⟩
    exact ⟨Nat.le_sub_of_add_le (by omega), Nat.sub_le hi i⟩
  · rintro ⟨h1, h2⟩
    exact ⟨hi - o, by omega, Nat.sub_sub_self h2⟩

theorem ordersDesc_getElem (lo hi i : Nat) (h : i < (ordersDesc lo hi).length) : (ordersDesc lo hi)[i] = hi - i := by
  simp [ordersDesc]

theorem ordersDesc_length (lo hi : Nat) : (ordersDesc lo hi).length = hi + 1 - lo := by
  simp [ordersDesc]

theorem ordersDesc_isEmpty (lo hi : Nat) : (ordersDesc lo hi).isEmpty = true ↔ hi < lo := by
  rw [List.isEmpty_iff, ← List.length_eq_zero_iff, ordersDesc_length]; omega

theorem svc_eq_some (sf : Nat → Nat → Rat → Rat) (alpha : Rat) (edges : List (List Nat × Nat)) (lo : Nat)
    (hi : Option Nat) (ts : List CoreTable) :
    svc sf alpha edges lo hi = some ts ↔ ∃ m, maxLen (expand edges) = some m ∧ lo ≤ effMax hi m ∧
      ts = coreLoop sf alpha (expand edges) (ordersDesc lo (effMax hi m)) [] := by
  have hsvc : svc sf alpha edges lo hi = (match maxLen (expand edges) with
      | none => none
      | some longest => if (ordersDesc lo (effMax hi longest)).isEmpty then none
          else some (coreLoop sf alpha (expand edges) (ordersDesc lo (effMax hi longest)) [])) := rfl
  rw [hsvc]
  cases maxLen (expand edges) with
  | none => exact ⟨nofun, fun ⟨_, h, _⟩ => nomatch h⟩
  | some m =>
    simp only []
    by_cases he : effMax hi m < lo
    · rw [if_pos ((ordersDesc_isEmpty lo _).mpr he)]
      exact ⟨nofun, fun ⟨m', hm', hlo, _⟩ => by cases hm'; omega⟩
    · rw [if_neg (mt (ordersDesc_isEmpty lo _).mp he)]
      exact ⟨fun h => ⟨m, rfl, Nat.le_of_not_lt he, (Option.some.inj h).symm⟩,
        fun ⟨m', hm', _, h⟩ => by cases hm'; rw [h]⟩

theorem maxLen_spec (occ : List (List Nat)) :
    (maxLen occ = none ↔ occ = []) ∧
    ∀ m, maxLen occ = some m → (∃ b ∈ occ, b.length = m) ∧ ∀ b ∈ occ, b.length ≤ m := by
  cases occ with
  | nil => simp [maxLen]
  | cons b bs =>
    refine ⟨by simp [maxLen], ?_⟩
    intro m hm
    simp only [maxLen, Option.some.injEq] at hm
    rw [← List.foldl_map (f := List.length) (g := max)] at hm
    obtain ⟨h1, h2⟩ := ListLib.le_foldl_max (bs.map List.length) b.length
    have h3 := ListLib.foldl_max_mem (bs.map List.length) b.length
    rw [hm] at h1 h2 h3
    refine ⟨?_, ?_⟩
    · rcases h3 with h3 | h3
      · exact ⟨b, List.mem_cons_self, h3.symm⟩
      · obtain ⟨c, hc, h3⟩ := List.mem_map.mp h3
        exact ⟨c, List.mem_cons_of_mem _ hc, h3⟩
    · intro c hc
      rcases List.mem_cons.mp hc with rfl | hc
      · exact h1
      · exact h2 _ (List.mem_map_of_mem hc)

end C19
