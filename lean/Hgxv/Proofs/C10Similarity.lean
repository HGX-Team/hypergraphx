import Hgxv.Model.C10
import Mathlib.Data.Finset.Card
import Mathlib.Data.List.Nodup
/-! `interSize` and `unionSize` on duplicate-free lists are the cardinalities of `∩` and `∪` of the `Finset`s. -/
namespace C10

theorem interSize_eq_card (a b : List Nat) (ha : a.Nodup) :
    interSize a b = (a.toFinset ∩ b.toFinset).card := by
  unfold interSize
  rw [← List.toFinset_card_of_nodup (ha.filter _)]
  congr 1; ext x; simp

theorem unionSize_eq_card (a b : List Nat) (ha : a.Nodup) (hb : b.Nodup) :
    unionSize a b = (a.toFinset ∪ b.toFinset).card := by
  unfold unionSize
  have hnd : (a ++ b.filter (fun x => !a.contains x)).Nodup := by
    apply List.Nodup.append ha (hb.filter _)
    intro x hx hx2
    simp [List.mem_filter] at hx2
    exact hx2.2 hx
  rw [← List.length_append, ← List.toFinset_card_of_nodup hnd]
  congr 1; ext x; simp
  by_cases h : x ∈ a <;> simp [h]

end C10
