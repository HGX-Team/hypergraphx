import Hgxv.Model.C10
import Hgxv.Proofs.AL
import Hgxv.Proofs.C10List
/-! The networkx graph tables: what `touch`, `addEdge`, `addArc` and their folds do to the adjacency (`AL.get?`) and to the
vertex list (`AL.keys`); `pairsOf`.  Core Lean only. -/
namespace C10

section graph
variable {ν : Type} [DecidableEq ν]

@[simp] theorem adj_touch (g : Graph ν) (v : ν) : (g.touch v).adj = g.adj := by
  unfold Graph.touch; split <;> rfl

@[simp] theorem adj_addNode (g : Graph ν) (v : ν) (a : Option Nat) : (g.addNode v a).adj = g.adj := by
  unfold Graph.addNode; split <;> simp

theorem get_adj_addEdge (g : Graph ν) (u v : ν) (w : Option Rat) (x y : ν) :
    AL.get? (g.addEdge u v w).adj (x, y) =
      if (x, y) = (u, v) ∨ (x, y) = (v, u) then some w else AL.get? g.adj (x, y) := by
  simp only [Graph.addEdge, adj_touch, AL.get?_set]
  grind

theorem get_adj_addArc (g : Graph ν) (u v : ν) (w : Option Rat) (x y : ν) :
    AL.get? (g.addArc u v w).adj (x, y) = if (x, y) = (u, v) then some w else AL.get? g.adj (x, y) := by
  simp only [Graph.addArc, adj_touch, AL.get?_set, eq_comm]

theorem touch_of_mem (g : Graph ν) (v : ν) (h : v ∈ AL.keys g.nodes) : g.touch v = g :=
  if_pos ((AL.has_iff _ _).2 h)

theorem keys_touch_of_not_mem (g : Graph ν) (v : ν) (h : v ∉ AL.keys g.nodes) :
    AL.keys (g.touch v).nodes = AL.keys g.nodes ++ [v] := by
  rw [Graph.touch, if_neg (mt (AL.has_iff _ _).1 h)]
  exact List.map_append

theorem mem_keys_touch (g : Graph ν) (v x : ν) :
    x ∈ AL.keys (g.touch v).nodes ↔ x = v ∨ x ∈ AL.keys g.nodes := by
  by_cases h : v ∈ AL.keys g.nodes
  · rw [touch_of_mem g v h]; grind
  · rw [keys_touch_of_not_mem g v h]; grind

theorem nodup_keys_touch (g : Graph ν) (v : ν) (h : (AL.keys g.nodes).Nodup) :
    (AL.keys (g.touch v).nodes).Nodup := by
  by_cases hv : v ∈ AL.keys g.nodes
  · rwa [touch_of_mem g v hv]
  · rw [keys_touch_of_not_mem g v hv]
    exact List.nodup_append.2 ⟨h, by simp, by grind⟩

theorem mem_keys_addEdge (g : Graph ν) (u v : ν) (w : Option Rat) (x : ν) :
    x ∈ AL.keys (g.addEdge u v w).nodes ↔ x = u ∨ x = v ∨ x ∈ AL.keys g.nodes := by
  simp only [Graph.addEdge, mem_keys_touch]; grind

theorem nodup_keys_addEdge (g : Graph ν) (u v : ν) (w : Option Rat) (h : (AL.keys g.nodes).Nodup) :
    (AL.keys (g.addEdge u v w).nodes).Nodup := by
  simp only [Graph.addEdge]; exact nodup_keys_touch _ _ (nodup_keys_touch _ _ h)

theorem addEdge_nodes_of_mem (g : Graph ν) (u v : ν) (w : Option Rat)
    (hu : u ∈ AL.keys g.nodes) (hv : v ∈ AL.keys g.nodes) : (g.addEdge u v w).nodes = g.nodes := by
  simp only [Graph.addEdge, touch_of_mem g u hu, touch_of_mem g v hv]

theorem addArc_nodes_of_mem (g : Graph ν) (u v : ν) (w : Option Rat)
    (hu : u ∈ AL.keys g.nodes) (hv : v ∈ AL.keys g.nodes) : (g.addArc u v w).nodes = g.nodes := by
  simp only [Graph.addArc, touch_of_mem g u hu, touch_of_mem g v hv]

theorem addNodesFrom_cons (g : Graph ν) (a : ν) (t : List ν) :
    g.addNodesFrom (a :: t) = (g.touch a).addNodesFrom t := rfl

@[simp] theorem adj_addNodesFrom (vs : List ν) (g : Graph ν) : (g.addNodesFrom vs).adj = g.adj := by
  induction vs generalizing g with
  | nil => rfl
  | cons a t ih => rw [addNodesFrom_cons, ih, adj_touch]

theorem mem_keys_addNodesFrom (vs : List ν) (g : Graph ν) (x : ν) :
    x ∈ AL.keys (g.addNodesFrom vs).nodes ↔ x ∈ AL.keys g.nodes ∨ x ∈ vs := by
  induction vs generalizing g with
  | nil => simp [Graph.addNodesFrom]
  | cons a t ih => rw [addNodesFrom_cons, ih, mem_keys_touch, List.mem_cons]; grind

theorem nodup_keys_addNodesFrom (vs : List ν) (g : Graph ν) (h : (AL.keys g.nodes).Nodup) :
    (AL.keys (g.addNodesFrom vs).nodes).Nodup :=
  ListLib.foldl_inv Graph.touch nodup_keys_touch vs g h

theorem keys_addNodesFrom (vs : List ν) (g : Graph ν) (h : (AL.keys g.nodes ++ vs).Nodup) :
    AL.keys (g.addNodesFrom vs).nodes = AL.keys g.nodes ++ vs := by
  induction vs generalizing g with
  | nil => simp [Graph.addNodesFrom]
  | cons a t ih =>
    have ha : a ∉ AL.keys g.nodes := fun ha => (List.nodup_append.1 h).2.2 a ha a List.mem_cons_self rfl
    rw [addNodesFrom_cons, ih, keys_touch_of_not_mem g a ha, List.append_assoc, List.singleton_append]
    rwa [keys_touch_of_not_mem g a ha, List.append_assoc, List.singleton_append]

/-- a run of attribute-free `add_edge` calls -/
def addEdges (g : Graph ν) (ps : List (ν × ν)) : Graph ν := ps.foldl (fun g p => g.addEdge p.1 p.2 none) g

theorem addEdges_cons (g : Graph ν) (p : ν × ν) (ps : List (ν × ν)) :
    addEdges g (p :: ps) = addEdges (g.addEdge p.1 p.2 none) ps := rfl

theorem get_adj_addEdges (ps : List (ν × ν)) (g : Graph ν) (x y : ν) :
    AL.get? (addEdges g ps).adj (x, y) =
      if (x, y) ∈ ps ∨ (y, x) ∈ ps then some none else AL.get? g.adj (x, y) := by
  induction ps generalizing g with
  | nil => simp [addEdges]
  | cons p ps ih =>
    rw [addEdges_cons, ih, get_adj_addEdge]
    obtain ⟨p1, p2⟩ := p
    -- the last write wins, and both writes of a pair store `none`
    grind

theorem mem_keys_addEdges (ps : List (ν × ν)) (g : Graph ν) (x : ν) :
    x ∈ AL.keys (addEdges g ps).nodes ↔ x ∈ AL.keys g.nodes ∨ ∃ y, (x, y) ∈ ps ∨ (y, x) ∈ ps := by
  induction ps generalizing g with
  | nil => simp [addEdges]
  | cons p ps ih =>
    obtain ⟨u, v⟩ := p
    rw [addEdges_cons, ih, mem_keys_addEdge]; simp only [List.mem_cons, Prod.mk.injEq]; grind

theorem nodup_keys_addEdges (ps : List (ν × ν)) (g : Graph ν) (h : (AL.keys g.nodes).Nodup) :
    (AL.keys (addEdges g ps).nodes).Nodup := by
  induction ps generalizing g with
  | nil => exact h
  | cons p ps ih => exact ih _ (nodup_keys_addEdge _ _ _ _ h)

theorem addEdges_nodes_of_mem (ps : List (ν × ν)) (g : Graph ν)
    (h : ∀ p ∈ ps, p.1 ∈ AL.keys g.nodes ∧ p.2 ∈ AL.keys g.nodes) : (addEdges g ps).nodes = g.nodes := by
  induction ps generalizing g with
  | nil => rfl
  | cons p ps ih =>
    have h2 := addEdge_nodes_of_mem g p.1 p.2 none (h p List.mem_cons_self).1 (h p List.mem_cons_self).2
    rw [addEdges_cons, ih, h2]
    intro q hq; rw [h2]; exact h q (List.mem_cons_of_mem _ hq)

theorem adj_addEdges (ps : List (ν × ν)) (g : Graph ν) :
    (addEdges g ps).adj = ps.foldl (fun T p => AL.set (AL.set T (p.1, p.2) none) (p.2, p.1) none) g.adj := by
  induction ps generalizing g with
  | nil => rfl
  | cons p t ih => rw [addEdges_cons, ih]; simp [Graph.addEdge]

theorem addEdges_append (g : Graph ν) (ps qs : List (ν × ν)) :
    addEdges g (ps ++ qs) = addEdges (addEdges g ps) qs := by
  simp [addEdges, List.foldl_append]

end graph

theorem Graph.ext {ν : Type} {g h : Graph ν} (h1 : g.nodes = h.nodes) (h2 : g.adj = h.adj) : g = h := by
  cases g; cases h; simp_all

theorem get?_eq_none_of_iff {κ β : Type} [DecidableEq κ] {l : List (κ × β)} {k : κ} {P : β → Prop}
    (h : ∀ a, AL.get? l k = some a ↔ P a) (hP : ∀ a, ¬ P a) : AL.get? l k = none :=
  Option.eq_none_iff_forall_ne_some.2 fun a ha => hP a ((h a).1 ha)

theorem get?_zipIdx_map {κ α β : Type} [DecidableEq κ] (f : Nat → κ) (hf : Function.Injective f) (g : α → β)
    (l : List α) (k i : Nat) :
    AL.get? ((l.zipIdx k).map (fun p => (f p.2, g p.1))) (f (k + i)) = l[i]?.map g := by
  induction l generalizing k i with
  | nil => rfl
  | cons a t ih =>
    rw [List.zipIdx_cons, List.map_cons, AL.get?]
    cases i with
    | zero => simp
    | succ i =>
      rw [if_neg (fun h => by have := hf h; omega), show k + (i + 1) = k + 1 + i by omega, ih]; rfl

theorem keys_zipIdx_map {κ α β : Type} (f : Nat → κ) (g : α → β) (l : List α) :
    AL.keys (l.zipIdx.map (fun p => (f p.2, g p.1))) = (List.range l.length).map f := by
  rw [AL.keys, List.map_map]
  exact List.ext_getElem (by simp) (fun i h1 h2 => by simp)

section pairs
variable {α : Type}

theorem mem_pairsOf_mem {l : List α} {x y : α} (h : (x, y) ∈ pairsOf l) : x ∈ l ∧ y ∈ l := by
  induction l with
  | nil => simp [pairsOf] at h
  | cons a t ih =>
    simp only [pairsOf, List.mem_append, List.mem_map] at h
    rcases h with ⟨b, hb, hp⟩ | h
    · grind
    · have := ih h; grind

theorem mem_pairsOf_ne {l : List α} (hnd : l.Nodup) {x y : α} (h : (x, y) ∈ pairsOf l) : x ≠ y := by
  induction l with
  | nil => simp [pairsOf] at h
  | cons a t ih =>
    simp only [pairsOf, List.mem_append, List.mem_map] at h
    rw [List.nodup_cons] at hnd
    rcases h with ⟨b, hb, hp⟩ | h
    · grind
    · exact ih hnd.2 h

theorem mem_pairsOf_of_mem {l : List α} {x y : α} (hx : x ∈ l) (hy : y ∈ l) (hne : x ≠ y) :
    (x, y) ∈ pairsOf l ∨ (y, x) ∈ pairsOf l := by
  induction l with
  | nil => simp at hx
  | cons a t ih =>
    simp only [pairsOf, List.mem_append, List.mem_map]
    rw [List.mem_cons] at hx hy
    rcases hx with rfl | hx <;> rcases hy with rfl | hy
    · exact absurd rfl hne
    · exact Or.inl (Or.inl ⟨y, hy, rfl⟩)
    · exact Or.inr (Or.inl ⟨x, hx, rfl⟩)
    · exact (ih hx hy).imp Or.inr Or.inr

theorem mem_flatMap_pairsOf {es : List (List α)} (hnd : ∀ e ∈ es, e.Nodup) (x y : α) :
    (x, y) ∈ es.flatMap pairsOf ∨ (y, x) ∈ es.flatMap pairsOf ↔ x ≠ y ∧ ∃ e ∈ es, x ∈ e ∧ y ∈ e := by
  simp only [List.mem_flatMap]
  constructor
  · rintro (⟨e, he, h⟩ | ⟨e, he, h⟩)
    · exact ⟨mem_pairsOf_ne (hnd e he) h, e, he, mem_pairsOf_mem h⟩
    · exact ⟨(mem_pairsOf_ne (hnd e he) h).symm, e, he, (mem_pairsOf_mem h).symm⟩
  · rintro ⟨hne, e, he, hx, hy⟩
    exact (mem_pairsOf_of_mem hx hy hne).imp (fun h => ⟨e, he, h⟩) (fun h => ⟨e, he, h⟩)

end pairs

theorem clique_eq (keepIso : Bool) (nodes : List Nat) (es : List Edge) :
    clique keepIso nodes es =
      addEdges (({} : Graph Nat).addNodesFrom (if keepIso then nodes else [])) (es.flatMap pairsOf) := by
  simp only [clique, addEdges, List.foldl_flatMap]; cases keepIso <;> rfl

end C10
