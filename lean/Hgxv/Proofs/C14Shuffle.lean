import Hgxv.Proofs.C14Gen
/-! `random_shuffle` (as repaired for D27) and `random_shuffle_all_orders`: what one shuffle step at a size leaves intact
(`ShuffleOut`), that `p = 0` gives back the same records (`Equiv`), and the loop over the sizes (core Lean only). -/
namespace C14

/-- same abstract content: same flag, same node list, the same (hyperedge, weight, metadata) records up to order -/
def Equiv (h h' : HG) : Prop := h.weighted = h'.weighted ∧ h.nodes = h'.nodes ∧ h.edges.Perm h'.edges

theorem Equiv.refl (h : HG) : Equiv h h := ⟨rfl, rfl, List.Perm.refl _⟩
theorem Equiv.symm {a b : HG} (h : Equiv a b) : Equiv b a := ⟨h.1.symm, h.2.1.symm, h.2.2.symm⟩
theorem Equiv.trans {a b c : HG} (h1 : Equiv a b) (h2 : Equiv b c) : Equiv a c :=
  ⟨h1.1.trans h2.1, h1.2.1.trans h2.2.1, h1.2.2.trans h2.2.2⟩

theorem Equiv.keys_perm {h h' : HG} (e : Equiv h h') : (keys h).Perm (keys h') := e.2.2.map _

theorem Equiv.wf {h h' : HG} (e : Equiv h h') (w : WF h) : WF h' where
  nodupKeys := e.keys_perm.nodup_iff.mp w.nodupKeys
  sortedKeys := fun k hk => w.sortedKeys k (e.keys_perm.mem_iff.mpr hk)
  nodesIn := fun k hk x hx => e.2.1 ▸ w.nodesIn k (e.keys_perm.mem_iff.mpr hk) x hx
  unitW := fun hw r hr => w.unitW (e.1.trans hw) r (e.2.2.mem_iff.mpr hr)

theorem Equiv.get? {h h' : HG} (e : Equiv h h') (w : WF h) (k : Edge) : AL.get? h.edges k = AL.get? h'.edges k :=
  AL.get?_perm e.2.2 w.nodupKeys k

theorem WF.sorted_of_mem {h : HG} (wf : WF h) {t : Edge × Rec} (ht : t ∈ h.edges) : sortE t.1 = t.1 :=
  wf.sortedKeys t.1 (List.mem_map_of_mem ht)

theorem WF.nodes_of_mem {h : HG} (wf : WF h) {t : Edge × Rec} (ht : t ∈ h.edges) : ∀ x ∈ t.1, x ∈ h.nodes :=
  wf.nodesIn t.1 (List.mem_map_of_mem ht)

theorem mem_edgesOfSize (h : HG) (s : Nat) : ∀ r ∈ edgesOfSize h s, r ∈ h.edges ∧ r.1.length = s := by
  intro r hr
  simp only [edgesOfSize, List.mem_filter, beq_iff_eq] at hr
  exact hr

theorem edges_removeSize (h : HG) (wf : WF h) (s : Nat) :
    (removeEdges h ((edgesOfSize h s).map (·.1))).edges = h.edges.filter (fun r => !(r.1.length == s)) := by
  rw [edges_removeEdges _ h wf.nodupKeys]
  · apply List.filter_congr
    intro r hr
    congr 1
    by_cases hl : r.1.length = s
    · have hm : r ∈ edgesOfSize h s := by simp [edgesOfSize, hr, hl]
      have : r.1 ∈ (edgesOfSize h s).map (·.1) := List.mem_map_of_mem (f := fun (x : Edge × Rec) => x.1) hm
      simp [hl, this]
    · have : r.1 ∉ (edgesOfSize h s).map (·.1) := by
        intro hm
        obtain ⟨r', hr', he⟩ := List.mem_map.mp hm
        exact hl (he ▸ (mem_edgesOfSize h s r' hr').2)
      simp [hl, this]
  · intro k hk
    obtain ⟨r, hr, rfl⟩ := List.mem_map.mp hk
    exact wf.sorted_of_mem (mem_edgesOfSize h s r hr).1

theorem selected_eq (cur : List (Edge × Rec)) (idx : List Nat) : ∀ i,
    selected cur idx i = ((cur.zipIdx i).filter (fun p => decide (p.2 ∈ idx))).map (·.1.1) := by
  induction cur with
  | nil => intro i; rfl
  | cons r rest ih => intro i; rw [selected, ih]; by_cases h : i ∈ idx <;> simp [List.zipIdx_cons, h]

theorem mem_selected_iff (cur : List (Edge × Rec)) (idx : List Nat) : ∀ (i : Nat) (e : Edge),
    e ∈ selected cur idx i ↔ ∃ j, i + j ∈ idx ∧ (cur[j]?).map (·.1) = some e := by
  intro i e
  simp only [selected_eq, List.mem_map, List.mem_filter, List.mem_zipIdx_iff_le_and_getElem?_sub, decide_eq_true_eq]
  constructor
  · rintro ⟨⟨r, j⟩, ⟨⟨hle, hg⟩, hj⟩, rfl⟩
    exact ⟨j - i, by rwa [Nat.add_sub_cancel' hle], by simp only at hg; simp [hg]⟩
  · rintro ⟨j, hj, hg⟩
    obtain ⟨r, hr, rfl⟩ := Option.map_eq_some_iff.mp hg
    exact ⟨(r, i + j), ⟨⟨Nat.le_add_right _ _, by simpa using hr⟩, hj⟩, rfl⟩

theorem selected_sub (cur : List (Edge × Rec)) (idx : List Nat) (i : Nat) : ∀ e ∈ selected cur idx i,
    ∃ r ∈ cur, r.1 = e := by
  intro e he
  obtain ⟨j, _, hc⟩ := (mem_selected_iff cur idx i e).mp he
  obtain ⟨r, hr, rfl⟩ := Option.map_eq_some_iff.mp hc
  exact ⟨r, List.mem_of_getElem? hr, rfl⟩

theorem mem_pool (cur : List (Edge × Rec)) (idx : List Nat) (x : Nat) :
    x ∈ pool cur idx ↔ ∃ e ∈ selected cur idx 0, x ∈ e := by
  simp only [pool, mem_dedup, List.mem_flatten]

/-- the hyperedges that are not selected, in order -/
def keptList (idx : List Nat) : List (Edge × Rec) → Nat → List (Edge × Rec)
  | [], _ => []
  | r :: rest, i => if i ∈ idx then keptList idx rest (i + 1) else r :: keptList idx rest (i + 1)

theorem keptList_sub (idx : List Nat) (cur : List (Edge × Rec)) (i : Nat) : ∀ r ∈ keptList idx cur i, r ∈ cur := by
  fun_induction keptList idx cur i with
  | case1 => simp
  | case2 r rest i hi ih => exact fun t ht => List.mem_cons_of_mem _ (ih t ht)
  | case3 r rest i hi ih =>
    intro t ht
    rcases List.mem_cons.mp ht with rfl | ht
    · simp
    · exact List.mem_cons_of_mem _ (ih t ht)

theorem mem_readdList (idx : List Nat) (cur : List (Edge × Rec)) (i : Nat) (cs : List (List Nat)) :
    ∀ t ∈ readdList idx cur i cs, t ∈ keptList idx cur i ∨ ∃ c ∈ cs, t = (c, (1, 0)) := by
  fun_induction readdList idx cur i cs with
  | case1 => simp
  | case2 r rest i hi c cs' ih =>
    intro t ht
    simp only [keptList, hi, if_true]
    rcases List.mem_cons.mp ht with rfl | ht
    · exact Or.inr ⟨c, by simp, rfl⟩
    · exact (ih t ht).imp_right fun ⟨c', hc', he⟩ => ⟨c', by simp [hc'], he⟩
  | case3 r rest i hi ih => simpa only [keptList, hi, if_true] using ih
  | case4 r rest i cs hi ih =>
    intro t ht
    simp only [keptList, hi, if_false]
    rcases List.mem_cons.mp ht with rfl | ht
    · exact Or.inl (by simp)
    · exact (ih t ht).imp_left (List.mem_cons_of_mem _)

theorem readdList_nil_idx (cur : List (Edge × Rec)) : ∀ (i : Nat) (cs : List (List Nat)), readdList [] cur i cs = cur := by
  induction cur with
  | nil => intro i cs; rfl
  | cons r rest ih => intro i cs; simp [readdList, ih]

/-- the draws of `random_shuffle`: every `np.random.choice(pool, size, replace=False)` returns `size` distinct members
    of the pool built from the selected hyperedges -/
def ShuffleDrawsOK (h : HG) (s : Nat) (idx : List Nat) (choices : List (List Nat)) : Prop :=
  ∀ c ∈ choices, IsSample (pool (edgesOfSize h s) idx) s c

theorem pool_sub_nodes (h : HG) (wf : WF h) (s : Nat) (idx : List Nat) :
    ∀ x ∈ pool (edgesOfSize h s) idx, x ∈ h.nodes := by
  intro x hx
  obtain ⟨e, he, hxe⟩ := (mem_pool _ _ _).mp hx
  obtain ⟨r, hr, rfl⟩ := selected_sub _ _ 0 e he
  exact wf.nodes_of_mem (mem_edgesOfSize h s r hr).1 x hxe

theorem readd_entries (h : HG) (wf : WF h) (s : Nat) (idx : List Nat) (cs : List (List Nat))
    (hd : ShuffleDrawsOK h s idx cs) :
    ∀ t ∈ readdList idx (edgesOfSize h s) 0 cs, (∀ x ∈ t.1, x ∈ h.nodes) ∧ (sortE t.1).length = s := by
  intro t ht
  rcases mem_readdList idx _ 0 cs t ht with hk | ⟨c, hc, rfl⟩
  · have := mem_edgesOfSize h s t (keptList_sub idx _ 0 t hk)
    exact ⟨wf.nodes_of_mem this.1, by simp [this.2]⟩
  · obtain ⟨_, h2, h3⟩ := hd c hc
    exact ⟨fun x hx => pool_sub_nodes h wf s idx x (h3 x hx), by simp [h2]⟩

theorem mem_keys_removeSize {h : HG} (wf : WF h) (s : Nat) (k : Edge) :
    k ∈ keys (removeEdges h ((edgesOfSize h s).map (·.1))) ↔ k ∈ keys h ∧ k.length ≠ s := by
  simp only [keys, edges_removeSize h wf s, AL.keys, List.mem_map, List.mem_filter]
  constructor
  · rintro ⟨r, ⟨hr, hl⟩, rfl⟩; exact ⟨⟨r, hr, rfl⟩, by simpa using hl⟩
  · rintro ⟨⟨r, hr, rfl⟩, hl⟩; exact ⟨r, ⟨hr, by simpa using hl⟩, rfl⟩

theorem WF.removeSize {h : HG} (wf : WF h) (s : Nat) : WF (removeEdges h ((edgesOfSize h s).map (·.1))) := by
  have hk := fun k hk => ((mem_keys_removeSize wf s k).mp hk).1
  refine ⟨?_, fun k h' => wf.sortedKeys k (hk k h'), ?_, ?_⟩
  · unfold keys; rw [edges_removeSize h wf s]; exact AL.keys_filter_nodup _ _ wf.nodupKeys
  · intro k h' x hx; rw [nodes_removeEdges]; exact wf.nodesIn k (hk k h') x hx
  · intro hw r hr
    rw [weighted_removeEdges] at hw; rw [edges_removeSize h wf s] at hr
    exact wf.unitW hw r (List.mem_filter.mp hr).1

/-- the result `r` of one `random_shuffle` step on `h` at size `s` with the index sample `idx` -/
structure ShuffleOut (h : HG) (s : Nat) (idx : List Nat) (r : HG) : Prop where
  wf : WF r
  nodes : r.nodes = h.nodes
  weighted : r.weighted = h.weighted
  /-- hyperedges of other sizes keep their weight and metadata, none appears or disappears -/
  other : ∀ k : Edge, k.length ≠ s → AL.get? r.edges k = AL.get? h.edges k
  /-- every hyperedge of the result has the shuffled size or is an untouched hyperedge of another size -/
  sizes : ∀ k ∈ keys r, k.length = s ∨ (k ∈ keys h ∧ k.length ≠ s)
  /-- a hyperedge of size `s` of the result is a kept one or consists of nodes of the selected hyperedges -/
  fromPool : ∀ k ∈ keys r, k.length = s →
    (∃ t ∈ keptList idx (edgesOfSize h s) 0, k = t.1) ∨ (k.Nodup ∧ ∀ x ∈ k, ∃ e ∈ selected (edgesOfSize h s) idx 0, x ∈ e)

theorem shuffleCore_spec (h : HG) (wf : WF h) (s : Nat) (idx : List Nat) (cs : List (List Nat))
    (hd : ShuffleDrawsOK h s idx cs) : ShuffleOut h s idx (shuffleCore h s idx cs) := by
  have hent := readd_entries h wf s idx cs hd
  have hkeys0 := fun k => (mem_keys_removeSize wf s k).mp
  have A := addMany_out (readdList idx (edgesOfSize h s) 0 cs) (removeEdges h ((edgesOfSize h s).map (·.1)))
    (fun t ht x hx => by rw [nodes_removeEdges]; exact (hent t ht).1 x hx)
  have hkeys : ∀ k ∈ keys (shuffleCore h s idx cs),
      k ∈ keys (removeEdges h ((edgesOfSize h s).map (·.1))) ∨
      ∃ t ∈ readdList idx (edgesOfSize h s) 0 cs, k = sortE t.1 := by
    intro k hk
    rw [shuffleCore, A.keys, mem_insAll, List.mem_map] at hk
    exact hk.imp_right fun ⟨t, ht, e⟩ => ⟨t, ht, e.symm⟩
  refine ⟨A.wf (wf.removeSize s), A.nodes.trans (nodes_removeEdges ..), A.weighted.trans (weighted_removeEdges ..), ?_, ?_, ?_⟩
  · intro k hk
    rw [shuffleCore, A.other k (fun t ht he => hk (he ▸ (hent t ht).2)), edges_removeSize h wf s,
      AL.get?_filter_key (fun e => !(e.length == s)) h.edges k]
    simp [hk]
  · intro k hk
    rcases hkeys k hk with h0 | ⟨t, ht, rfl⟩
    · exact Or.inr (hkeys0 k h0)
    · exact Or.inl (hent t ht).2
  · intro k hk hl
    rcases hkeys k hk with h0 | ⟨t, ht, rfl⟩
    · exact absurd hl (hkeys0 k h0).2
    · rcases mem_readdList idx _ 0 cs t ht with hkept | ⟨c, hc, rfl⟩
      · exact Or.inl ⟨t, hkept, wf.sorted_of_mem (mem_edgesOfSize h s t (keptList_sub idx _ 0 t hkept)).1⟩
      · obtain ⟨h1, _, h3⟩ := hd c hc
        exact Or.inr ⟨by simpa using h1, fun x hx => (mem_pool _ _ _).mp (h3 x (by simpa using hx))⟩

/-- `p = 0`: nothing is selected, every hyperedge comes back with its weight and metadata -/
theorem shuffleCore_p0 (h : HG) (wf : WF h) (s : Nat) (cs : List (List Nat)) : Equiv (shuffleCore h s [] cs) h := by
  have he0 := edges_removeSize h wf s
  have hcur : ∀ t ∈ edgesOfSize h s, t ∈ h.edges ∧ t.1.length = s := mem_edgesOfSize h s
  have hsorted : ∀ t ∈ edgesOfSize h s, sortE t.1 = t.1 :=
    fun t ht => wf.sorted_of_mem (hcur t ht).1
  have hmapk : (edgesOfSize h s).map (fun t => sortE t.1) = (edgesOfSize h s).map (·.1) :=
    List.map_congr_left hsorted
  have A := addMany_out (edgesOfSize h s) (removeEdges h ((edgesOfSize h s).map (·.1)))
    (fun t ht x hx => by rw [nodes_removeEdges]; exact wf.nodes_of_mem (hcur t ht).1 x hx)
  rw [shuffleCore, readdList_nil_idx]
  refine ⟨A.weighted.trans (weighted_removeEdges ..), A.nodes.trans (nodes_removeEdges ..), ?_⟩
  · show (addMany _ _).edges.Perm h.edges
    rw [edges_addMany_fresh]
    · rw [he0, weighted_removeEdges]
      have hmap : (edgesOfSize h s).map (fun t => (sortE t.1, ((if h.weighted then t.2.1 else 1), t.2.2)))
          = edgesOfSize h s := by
        conv => rhs; rw [← List.map_id (edgesOfSize h s)]
        apply List.map_congr_left
        intro t ht
        rw [hsorted t ht]
        by_cases hw : h.weighted
        · simp [hw]
        · have := wf.unitW (by simpa using hw) t (hcur t ht).1
          simp only [hw]
          rw [← this]; rfl
      rw [hmap]
      have := List.filter_append_perm (fun r : Edge × Rec => r.1.length == s) h.edges
      exact List.perm_append_comm.trans this
    · rw [hmapk]
      exact List.Nodup.sublist (List.Sublist.map _ List.filter_sublist) wf.nodupKeys
    · intro t ht hk
      rw [hsorted t ht] at hk
      exact ((mem_keys_removeSize wf s _).mp hk).2 (hcur t ht).2

/-- the draws of `random_shuffle_all_orders`: at each size the choices respect the pool of the *current* hypergraph -/
def ShuffleAllOK : HG → List Nat → List (List Nat × List (List Nat)) → Prop
  | h, s :: sizes, d :: ds => ShuffleDrawsOK h s d.1 d.2 ∧ ShuffleAllOK (shuffleCore h s d.1 d.2) sizes ds
  | _, _, _ => True

theorem shuffleAllLoop_spec : ∀ (sizes : List Nat) (ds : List (List Nat × List (List Nat))) (h : HG),
    WF h → ShuffleAllOK h sizes ds →
    WF (shuffleAllLoop h sizes ds) ∧ (shuffleAllLoop h sizes ds).nodes = h.nodes ∧
    (shuffleAllLoop h sizes ds).weighted = h.weighted ∧
    (∀ k : Edge, k.length ∉ sizes → AL.get? (shuffleAllLoop h sizes ds).edges k = AL.get? h.edges k) ∧
    (∀ k ∈ keys (shuffleAllLoop h sizes ds), k ∈ keys h ∨ k.length ∈ sizes) := by
  intro sizes
  induction sizes with
  | nil => intro ds h wf _; simp [shuffleAllLoop, wf]
  | cons s sizes ih =>
    intro ds h wf hok
    cases ds with
    | nil => simp [shuffleAllLoop, wf]; intro k hk; exact Or.inl hk
    | cons d ds =>
      simp only [ShuffleAllOK] at hok
      have h1 := shuffleCore_spec h wf s d.1 d.2 hok.1
      obtain ⟨i1, i2, i3, i4, i5⟩ := ih ds _ h1.wf hok.2
      simp only [shuffleAllLoop]
      refine ⟨i1, i2.trans h1.nodes, i3.trans h1.weighted, ?_, ?_⟩
      · intro k hk
        simp only [List.mem_cons, not_or] at hk
        rw [i4 k hk.2, h1.other k hk.1]
      · intro k hk
        rcases i5 k hk with h' | h'
        · rcases h1.sizes k h' with h'' | h''
          · exact Or.inr (by simp [h''])
          · exact Or.inl h''.1
        · exact Or.inr (by simp [h'])

theorem shuffleAllLoop_p0 : ∀ (sizes : List Nat) (ds : List (List Nat × List (List Nat))) (h : HG),
    WF h → (∀ d ∈ ds, d.1 = []) → Equiv (shuffleAllLoop h sizes ds) h := by
  intro sizes
  induction sizes with
  | nil => intro ds h _ _; simp only [shuffleAllLoop]; exact Equiv.refl h
  | cons s sizes ih =>
    intro ds h wf hnil
    cases ds with
    | nil => simp only [shuffleAllLoop]; exact Equiv.refl h
    | cons d ds =>
      simp only [shuffleAllLoop]
      have hd : d.1 = [] := hnil d (by simp)
      rw [hd]
      have e1 := shuffleCore_p0 h wf s d.2
      exact (ih ds _ (e1.symm.wf wf) (fun d' hd' => hnil d' (by simp [hd']))).trans e1

end C14
