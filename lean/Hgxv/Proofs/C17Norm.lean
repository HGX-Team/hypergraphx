import Hgxv.Proofs.C17Sum
import Hgxv.Proofs.C17Inv
/-! `normalizeU = True`: what the Lagrange multiplier has to satisfy (it is an input of the model: the root finder is
outside the proof), and what the node update then guarantees about the new row of `u`.  The defect D36 was a multiplier
that violated `LamOk.pos` (a root of the constraint on a branch with a negative denominator) or `LamOk.root` (the
solver stopped away from the root). -/
namespace C17
open Finset
variable {α : Type} [Field α] [LinearOrder α] [IsStrictOrderedRing α]

/-- the numerator handed to `enforce_constraint_u`: entries whose quotient is below the threshold are zeroed first -/
def numEff (c : Cfg α) (s : St α) (i k : Nat) : α :=
  if uNum c s.rho i k / uDen c s.w (barNew c s i) k < c.minv then 0 else uNum c s.rho i k

/-- contract of `enforce_constraint_u` for the update of node `i` in state `s`: the multiplier that the update consumes
is the root of `Σ_{k ∈ ks} num_k / (λ + den_k) = 1` on the branch where every term with a positive numerator has a
positive denominator -/
structure LamOk (c : Cfg α) (s : St α) (i : Nat) : Prop where
  pos : ∀ k, k < c.K → actK c s i k = true → 0 < numEff c s i k →
          0 < s.lams.headD 0 + uDen c s.w (barNew c s i) k
  root : sumR c.K (fun k => if actK c s i k then
            numEff c s i k / (s.lams.headD 0 + uDen c s.w (barNew c s i) k) else 0) = 1

section
-- the direct instance path first (see `C17Psi`)
attribute [local instance 10000] LinearOrder.toPartialOrder PartialOrder.toPreorder Preorder.toLT Preorder.toLE

/-- what the update of node `i` in state `s` needs for a normalised row: the code's guarantees on its configuration with an
upper clamp `≥ 1`, exact tables, non-negative numerators, and the contract of the root finder -/
structure NrmOk (c : Cfg α) (s : St α) (i : Nat) : Prop where
  cfg : CfgOk c
  normU : c.normU = true
  maxv : ∀ t v, c.maxv = some (t, v) → 1 ≤ t
  inv : Inv c s
  num : ∀ k, 0 ≤ uNum c s.rho i k
  lam : LamOk c s i

variable {c : Cfg α} {s : St α} {i : Nat} (h : NrmOk c s i)
include h

omit [IsStrictOrderedRing α] in
theorem rawNew_of_normU (k : Nat) :
    rawNew c s i k = numEff c s i k / (s.lams.headD 0 + uDen c s.w (barNew c s i) k) := by
  unfold rawNew uRaw numEff
  rw [h.normU, if_pos rfl]

theorem nrm_rawNew_nonneg (k : Nat) (hk : k < c.K) (ha : actK c s i k = true) : 0 ≤ rawNew c s i k := by
  have h0 : 0 ≤ numEff c s i k := by
    unfold numEff; split
    · exact le_refl 0
    · exact h.num k
  rw [rawNew_of_normU h]
  rcases h0.eq_or_lt with h' | h'
  · rw [← h', zero_div]
  · exact (div_pos h' (h.lam.pos k hk ha h')).le

theorem nrm_negNew_false : negNew c s i = false := by
  unfold negNew anyK
  rw [List.any_eq_false]
  intro k hk
  cases ha : actK c s i k with
  | false => exact Bool.false_ne_true
  | true =>
    rw [decide_eq_false (not_lt.mpr (nrm_rawNew_nonneg h k (List.mem_range.mp hk) ha)), Bool.and_false]
    exact Bool.false_ne_true

theorem nrm_rawNew_sum : ∑ k ∈ range c.K, (if actK c s i k then rawNew c s i k else 0) = 1 := by
  rw [← h.lam.root, sumR_eq]
  exact sum_congr rfl fun k _ => by rw [rawNew_of_normU h]

theorem nrm_rawNew_le_one (k : Nat) (hk : k < c.K) (ha : actK c s i k = true) : rawNew c s i k ≤ 1 := by
  have h1 := single_le_sum (f := fun k => if actK c s i k then rawNew c s i k else 0) (fun j hj => by
    split
    · next hj' => exact nrm_rawNew_nonneg h j (mem_range.mp hj) hj'
    · exact le_refl 0) (mem_range.mpr hk)
  rwa [nrm_rawNew_sum h, if_pos ha] at h1

theorem nrm_vNew_active (k : Nat) (hk : k < c.K) (ha : actK c s i k = true) :
    vNew c s i k = clampLow c (rawNew c s i k) := by
  unfold vNew
  rw [ha, nrm_negNew_false h, if_pos rfl, if_neg Bool.false_ne_true]
  exact clampHigh_fix c _ fun t v hm =>
    ((clampLow_near c h.cfg _ (nrm_rawNew_nonneg h k hk ha)).2.trans (nrm_rawNew_le_one h k hk ha)).trans
      (h.maxv t v hm)

theorem nrm_vNew_bounds (k : Nat) (hk : k < c.K) :
    (if actK c s i k then rawNew c s i k else 0) - c.minv ≤ vNew c s i k ∧
    vNew c s i k ≤ (if actK c s i k then rawNew c s i k else 0) + c.minv := by
  cases ha : actK c s i k with
  | true =>
    have h' := clampLow_near c h.cfg _ (nrm_rawNew_nonneg h k hk ha)
    rw [if_pos rfl, nrm_vNew_active h k hk ha]
    exact ⟨h'.1, h'.2.trans (le_add_of_nonneg_right h.cfg.minv)⟩
  | false =>
    rw [if_neg Bool.false_ne_true, vNew_inactive h.cfg h.inv i k ha, zero_add]
    exact ⟨(sub_nonpos.mpr h.cfg.minv).trans (h.inv.unn i k), not_lt.mp (of_decide_eq_false ha)⟩

theorem nrm_row_sum_bounds :
    1 - (c.K : α) * c.minv ≤ sumR c.K (vNew c s i) ∧ sumR c.K (vNew c s i) ≤ 1 + (c.K : α) * c.minv := by
  have h' := sum_near c.K (vNew c s i) (fun k => if actK c s i k then rawNew c s i k else 0) c.minv (nrm_vNew_bounds h)
  rwa [nrm_rawNew_sum h, ← sumR_eq] at h'

end

/-! ### a concrete instance (non-vacuity of `LamOk` and of the hypotheses of `C17_normalized_row`) -/

/-- two nodes, one hyperedge {0,1} of weight 1, K = 2, `normalizeU = True`, thresholds as in the code -/
def cNorm : Cfg ℚ :=
  { N := 2, K := 2, D := 2, edges := [[0, 1]], A := [1], minv := 1 / 100000, maxv := some (100, 100), eps := 0,
    rtol := 1 / 1000, normU := true }

/-- `u = 1/2` everywhere, `psi = (e_1, e_2)` of its columns, `w = 1`, `rho = 1/2`; the multiplier `1/2` is the root of
`2 · (1/2) / (λ + 1/2) = 1` -/
def sNorm : St ℚ :=
  { u := [[1 / 2, 1 / 2], [1 / 2, 1 / 2]], w := [[1, 1]], psi := [[1, 1], [1 / 4, 1 / 4]], bar := [[0, 0], [0, 0]],
    rho := [[1 / 2, 1 / 2]], lams := [1 / 2] }

theorem cNorm_ok : CfgOk cNorm := by
  refine ⟨by decide +kernel, ?_⟩
  intro t v h
  simp only [cNorm, Option.some.injEq, Prod.mk.injEq] at h
  obtain ⟨rfl, rfl⟩ := h
  constructor <;> decide +kernel

theorem sNorm_lamOk : LamOk cNorm sNorm 0 :=
  ⟨forall_lt_two (by decide +kernel) (by decide +kernel), by decide +kernel⟩

theorem sNorm_num (k : Nat) : 0 ≤ uNum cNorm sNorm.rho 0 k := by
  by_cases h0 : k = 0
  · subst h0; decide +kernel
  · by_cases h1 : k = 1
    · subst h1; decide +kernel
    · have : at2 sNorm.rho 0 k = 0 := by
        unfold at2 sNorm
        simp only [List.getD_cons_zero]
        match k, h0, h1 with
        | k + 2, _, _ => rfl
      unfold uNum sumR
      simp [cNorm, Cfg.E, Cfg.edge, Cfg.wt, this]

theorem sNorm_inv : Inv cNorm sNorm := by
  refine ⟨⟨?_, ?_, ?_⟩, ?_⟩
  · intro d k hd hk
    revert k; revert d
    exact forall_lt_two (forall_lt_two (by decide +kernel) (by decide +kernel))
      (forall_lt_two (by decide +kernel) (by decide +kernel))
  · intro i k
    apply at2_nonneg_of_mem
    decide +kernel
  · intro d k
    apply at2_nonneg_of_mem
    decide +kernel
  · exact at2_of_mem (fun x => x = 0 ∨ cNorm.minv ≤ x) (Or.inl rfl) sNorm.u (by decide +kernel)

end C17
