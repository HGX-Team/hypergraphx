import Hgxv.Model.C07Heap
import Hgxv.Proofs.C07Sort
/-! # C07 — `serialize` over references returns `ser` of the denoted value -/
namespace C07

theorem look_map_ser (vals : List JTree) (r : Nat) : look (vals.map ser) r = ser (look vals r) := by
  unfold look
  rw [List.getElem?_map]
  cases vals[r]? <;> simp [ser]

theorem cellSer_map (vals : List JTree) (c : Cell) : cellSer (vals.map ser) c = ser (cellVal vals c) := by
  cases c with
  | atom t => rfl
  | arr is =>
    simp only [cellSer, cellVal, ser_arr, List.map_map]
    congr 1
    apply List.map_congr_left
    intro i _
    exact look_map_ser vals i
  | obj fs =>
    simp only [cellSer, cellVal, ser_obj, List.map_map]
    congr 2
    apply List.map_congr_left
    intro p _
    simp only [Function.comp, look_map_ser]

theorem serFrom_map (h : Heap) : ∀ acc : List JTree, serFrom (acc.map ser) h = (valuesFrom acc h).map ser := by
  induction h with
  | nil => intro acc; rfl
  | cons c cs ih =>
    intro acc
    simp only [serFrom, valuesFrom]
    rw [cellSer_map, ← ih]
    simp

theorem serCells_eq (h : Heap) : serCells h = (values h).map ser := by
  have := serFrom_map h []
  simpa [serCells, values] using this

end C07
