import Hgxv.Proofs.C09
/-! Core Lean: every matrix of the model depends on the node labels only through their
ORDER.  A strictly increasing relabelling `f` (the rank map by which the harness sends floats, strings, negative or
huge integers to the model; or `0, 0.5, 2 ↦ 0, 1, 2`) commutes with the encoder and leaves every matrix unchanged.
Here: one lemma for each function of the model that looks at labels; the other matrices are built from these by
operations that see no label (`C09_relabel_invariant`).
Also: the encoder is the identity exactly when the sorted labels are `0..N-1` - the only situation in which a
"fast path" may use the labels themselves as row indices. -/
namespace C09

/-- a hyperedge list with weights, relabelled -/
def relabelEs {α : Type} (f : Nat → Nat) (es : List (Edge × α)) : List (Edge × α) :=
  es.map fun p => (p.1.map f, p.2)

/-- temporal records, relabelled (times stay) -/
def relabelRecs {α : Type} (f : Nat → Nat) (recs : List (Rec α)) : List (Rec α) :=
  recs.map fun r => (r.1, r.2.1.map f, r.2.2)

/-- both sides are strictly increasing lists with the same members -/
theorem classes_map (f : Nat → Nat) (hf : NatSort.Incr f) (l : List Nat) :
    classes (l.map f) = (classes l).map f :=
  NatSort.eq_of_mem_iff_of_strict (fun x => by simp only [mem_classes, List.mem_map]) (classes_sorted _)
    ((classes_sorted l).map f hf)

theorem encode_map (f : Nat → Nat) (hinj : ∀ a b, f a = f b → a = b) (cls : List Nat) (x : Nat) :
    encode (cls.map f) (f x) = encode cls x := ListLib.idxOf_map_inj f hinj cls x

theorem mapping_map (f : Nat → Nat) (hf : NatSort.Incr f) (nodes : List Nat) :
    mapping (nodes.map f) = (mapping nodes).map fun p => (p.1, f p.2) := by
  simp only [mapping_dict, classes_map f hf, List.map_map, Function.comp_def, encode_map f hf.inj]

section
variable {α : Type}

theorem relabelEs_fst (f : Nat → Nat) (es : List (Edge × α)) :
    (relabelEs f es).map (·.1) = (es.map (·.1)).map (·.map f) := by
  simp [relabelEs, List.map_map, Function.comp]

theorem relabelEs_snd (f : Nat → Nat) (es : List (Edge × α)) :
    (relabelEs f es).map (·.2) = es.map (·.2) := by
  simp [relabelEs, List.map_map, Function.comp]

theorem classes_flatten_relabel (f : Nat → Nat) (hf : NatSort.Incr f) (es : List (Edge × α)) :
    classes ((relabelEs f es).map (·.1)).flatten = (classes (es.map (·.1)).flatten).map f := by
  rw [relabelEs_fst, ← classes_map f hf, List.map_flatten]

theorem ofOrder_map (f : Nat → Nat) (d : Nat) (es : List (Edge × α)) :
    ofOrder d (relabelEs f es) = relabelEs f (ofOrder d es) := by
  unfold ofOrder relabelEs
  rw [List.filter_map]
  congr 1
  apply List.filter_congr
  intro p _
  simp [Function.comp]

theorem subNodes_map (f : Nat → Nat) (hf : NatSort.Incr f) (d : Nat) (k : Bool) (nodes : List Nat) (es : List (Edge × α)) :
    subNodes d k (nodes.map f) (relabelEs f es) = (subNodes d k nodes es).map f := by
  unfold subNodes
  cases k with
  | true => simp
  | false =>
    simp only [Bool.false_eq_true, if_false, ofOrder_map, classes_flatten_relabel f hf]

theorem degree_map (f : Nat → Nat) (hf : NatSort.Incr f) (d : Nat) (es : List (Edge × α)) (x : Nat) :
    degree d (relabelEs f es) (f x) = degree d es x := by
  unfold degree relabelEs
  rw [List.filter_map, List.length_map]
  congr 1
  apply List.filter_congr
  intro p _
  show ((p.1.map f).contains (f x) && (p.1.map f).length == d + 1) = (p.1.contains x && p.1.length == d + 1)
  rw [ListLib.contains_map_inj f hf.inj, List.length_map]

theorem times_map (f : Nat → Nat) (recs : List (Rec α)) : times (relabelRecs f recs) = times recs := by
  unfold times relabelRecs
  rw [List.map_map]
  rfl

theorem snapshot_map (f : Nat → Nat) (recs : List (Rec α)) (t : Nat) :
    snapshot (relabelRecs f recs) t = relabelEs f (snapshot recs t) := by
  unfold snapshot relabelRecs relabelEs
  rw [List.filter_map, List.map_map, List.map_map]
  congr 1

theorem snapshotNodes_map (f : Nat → Nat) (hf : NatSort.Incr f) (recs : List (Rec α)) (t : Nat) :
    snapshotNodes (relabelRecs f recs) t = (snapshotNodes recs t).map f := by
  rw [snapshotNodes, snapshot_map, classes_flatten_relabel f hf]
  rfl

variable [Zero α] [NatCast α]

theorem binInc_map (f : Nat → Nat) (hf : NatSort.Incr f) (nodes : List Nat) (edges : List Edge) :
    (binInc (nodes.map f) (edges.map (·.map f)) : List (List α)) = binInc nodes edges := by
  simp only [binInc, List.length_map, classes_map f hf, List.map_map, Function.comp_def, encode_map f hf.inj]

theorem degMatrix_map (f : Nat → Nat) (hf : NatSort.Incr f) (d : Nat) (nodes : List Nat) (es : List (Edge × α)) :
    (degMatrix d (nodes.map f) (relabelEs f es) : List (List α)) = degMatrix d nodes es := by
  unfold degMatrix
  rw [mapping_map f hf, List.map_map]
  congr 1
  apply List.map_congr_left
  intro p _
  simp [Function.comp, degree_map f hf]

end

theorem encode_range (N x : Nat) (h : x < N) : encode (List.range N) x = x := by
  have h1 := encode_getElem (List.range N) List.nodup_range x (by simpa using h)
  simpa using h1

theorem classes_eq_range_of_encode_id (nodes : List Nat) (hN : nodes.Nodup)
    (h : ∀ x ∈ nodes, encode (classes nodes) x = x) : classes nodes = List.range nodes.length := by
  have hl := classes_length nodes hN
  apply List.ext_getElem
  · simp [hl]
  · intro i h1 h2
    have hm : (classes nodes)[i] ∈ nodes := (mem_classes _ nodes).1 (List.getElem_mem h1)
    have h3 := h _ hm
    rw [encode_getElem _ (classes_nodup nodes) i h1] at h3
    simp [← h3]

end C09
