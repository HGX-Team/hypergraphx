import Hgxv.Proofs.AL
import Hgxv.Proofs.SortLib
import Hgxv.Model.C04
/-! C04 - what the proofs need beyond `Proofs/AL` and `Proofs/SortLib`: `del` (a filter), the key-dependent value map
`mapVal` under which `abs` reads the edge table, `canon` as `NatSort.isort`, strictly increasing node lists, `addLayer`.
Core Lean only. -/
namespace C04
open AL

section al
variable {α β γ : Type} [DecidableEq α]

theorem get?_del (l : List (α × β)) (k k' : α) : get? (del l k) k' = if k' = k then none else get? l k' := by
  rw [del, get?_filter_ne]; by_cases h : k = k' <;> simp [h, eq_comm]

theorem get?_del_some {l : List (α × β)} {k k' : α} {v : β} (h : get? (del l k) k' = some v) : get? l k' = some v := by
  rw [get?_del] at h; split at h
  · cases h
  · exact h

theorem keys_del (l : List (α × β)) (k : α) : keys (del l k) = (keys l).filter (· ≠ k) :=
  keys_filter_key (· ≠ k) l

theorem keys_nodup_del (l : List (α × β)) (k : α) (h : (keys l).Nodup) : (keys (del l k)).Nodup := by
  rw [keys_del]; exact h.filter _

def mapVal (f : α → β → γ) (l : List (α × β)) : List (α × γ) := l.map (fun p => (p.1, f p.1 p.2))

omit [DecidableEq α] in
theorem keys_mapVal (f : α → β → γ) (l : List (α × β)) : keys (mapVal f l) = keys l := by
  simp [mapVal, keys]

theorem del_map_val (l : List (α × β)) (g : β → γ) (k : α) :
    del (l.map (fun p => (p.1, g p.2))) k = (del l k).map (fun p => (p.1, g p.2)) := by
  simp [del, List.filter_map]; rfl

end al

theorem insertSorted_eq : insertSorted = NatSort.insert := by
  funext a l; induction l with
  | nil => rfl
  | cons b bs ih => simp only [insertSorted, NatSort.insert, ih]

theorem canon_eq : canon = NatSort.isort := by
  funext l; simp only [canon, NatSort.isort, insertSorted_eq]

theorem canon_perm (l : List Nat) : (canon l).Perm l := canon_eq ▸ NatSort.isort_perm l
theorem mem_canon {l : List Nat} {n : Nat} : n ∈ canon l ↔ n ∈ l := (canon_perm l).mem_iff
theorem canon_length (l : List Nat) : (canon l).length = l.length := (canon_perm l).length_eq
theorem canon_sorted (l : List Nat) : (canon l).Pairwise (· ≤ ·) := canon_eq ▸ NatSort.isort_sorted l
theorem canon_of_sorted (l : List Nat) (h : l.Pairwise (· ≤ ·)) : canon l = l := canon_eq ▸ NatSort.isort_of_sorted h

/-- strictly increasing = canonical and duplicate free -/
def SSorted (e : Edge) : Prop := e.Pairwise (· < ·)

theorem SSorted.le {e : Edge} (h : SSorted e) : e.Pairwise (· ≤ ·) := h.imp (fun hab => Nat.le_of_lt hab)
theorem SSorted.nodup {e : Edge} (h : SSorted e) : e.Nodup := h.imp (fun hab => Nat.ne_of_lt hab)
theorem SSorted.canon {e : Edge} (h : SSorted e) : canon e = e := canon_of_sorted e h.le
theorem SSorted.filter {e : Edge} (h : SSorted e) (p : Nat → Bool) : SSorted (e.filter p) := List.Pairwise.filter p h

theorem canon_ssorted {raw : List Nat} (h : raw.Nodup) : SSorted (canon raw) := canon_eq ▸ NatSort.isort_strict h

theorem addLayer_nodup (ls : List Layer) (l : Layer) (h : ls.Nodup) : (addLayer ls l).Nodup :=
  ListLib.nodup_addIfNew Iff.rfl h

theorem mem_addLayer (ls : List Layer) (l l' : Layer) : l' ∈ addLayer ls l ↔ l' = l ∨ l' ∈ ls := by
  unfold addLayer; split <;> grind

theorem addLayer_of_mem {ls : List Layer} {l : Layer} (h : l ∈ ls) : addLayer ls l = ls := if_pos h

theorem mem_foldl_addLayer (xs ls : List Layer) (l : Layer) : l ∈ xs.foldl addLayer ls ↔ l ∈ ls ∨ l ∈ xs :=
  ListLib.mem_foldl_of_step addLayer (fun ls a x => (mem_addLayer ls a x).trans or_comm) xs ls l
end C04
