import Hgxv.Proofs.C13
import Hgxv.Model.C13Ext
/-! # C13 — whole calls, the reports of `Model/C13Ext.lean`, the accounting of the draws (core Lean only)

A call is the chain on the selected layer, then sorting, merging and re-adding the rest (`configurationModel_eq`); what every
call returns (`configurationModel_spec`, an instance of `call_spec` of `Proofs/C13.lean`); the reports answer what
`Model/C13.lean` answers; which draws a step, the chain and the swap loops consume; node set and size counts of the returned
listing (`Kept`, `DKept`). -/
namespace C13

theorem cmCall_none (label : Label) (detailed : Bool) (size : Option Nat) (n : Nat) (es : List Edge)
    (ds : List Draw) : cmCall label detailed none size n es ds = configurationModel label detailed size n es ds := by
  cases size <;> rfl

theorem map_eq_ok {ε α β} {x : Except ε α} {f : α → β} {b : β} (h : x.map f = .ok b) : ∃ a, x = .ok a ∧ f a = b := by
  cases x with
  | error e => cases h
  | ok a => exact ⟨a, rfl, Except.ok.inj h⟩

theorem configurationModel_eq (label : Label) (detailed : Bool) (size : Option Nat) (n : Nat) (es : List Edge)
    (ds : List Draw) :
    configurationModel label detailed size n es ds
      = (chain detailed n (selected size es) ds).map fun r => readd size es (dedup (r.1.map sortNodes)) := by
  cases size with
  | none =>
    simp only [configurationModel, cmMCMC_eq, stubEdgeMH, selected, readd]
    cases chain detailed n es ds <;> rfl
  | some s =>
    simp only [configurationModel, cmMCMC_eq, stubEdgeMH, selected, readd]
    cases chain detailed n (es.filter fun e => e.length == s) ds <;> rfl

theorem configurationModel_spec {label : Label} {detailed : Bool} {size : Option Nat} {n : Nat}
    {es : List Edge} {ds : List Draw} {out : List Edge}
    (h : configurationModel label detailed size n es ds = .ok out)
    (hdist : size.isSome = true → es.Nodup) (hnd : ∀ e ∈ es, e.Nodup) :
    out.Nodup ∧ (∃ L, Same detailed es L ∧ out.Sublist L ∧ ∀ e ∈ L, e ∈ out) ∧
      ∀ s, size = some s → out.filter (fun e => e.length != s) = es.filter (fun e => e.length != s) := by
  rw [configurationModel_eq] at h
  obtain ⟨⟨es', ds'⟩, hc, ho⟩ := map_eq_ok h
  cases size with
  | none =>
    obtain ⟨a, b, _⟩ := call_spec (fun _ => true) (rest := []) (by rw [List.append_nil]; exact .refl es)
      (fun _ _ => rfl) nofun .nil hnd hc ho
    exact ⟨a, b, nofun⟩
  | some s =>
    obtain ⟨a, b, c⟩ := call_spec (· == s) (List.filter_append_perm _ es) (fun e he => (List.mem_filter.mp he).2)
      (fun e he => by simpa using (List.mem_filter.mp he).2) ((hdist rfl).sublist List.filter_sublist) hnd hc ho
    exact ⟨a, b, fun s' hs => by cases hs; exact c⟩

theorem cmReport_edges (label : Label) (detailed : Bool) (order size : Option Nat) (n : Nat)
    (es : List Edge) (ds : List Draw) :
    (cmReport label detailed order size n es ds).map (·.edges) = cmCall label detailed order size n es ds := by
  unfold cmReport cmCall
  cases resolveSize order size with
  | error e => rfl
  | ok sz => simp only [configurationModel_eq]; cases chain detailed n (selected sz es) ds <;> rfl

theorem dcmReport_edges (es : List DEdge) (ds : List Nat) :
    (dcmReport es ds).map (·.edges) = directedCM es ds := by
  unfold dcmReport directedCM
  cases swapLoop false (es.length * 10) es ds with
  | error e => rfl
  | ok r =>
    obtain ⟨es1, ds1⟩ := r
    simp only []
    cases swapLoop true (es.length * 10) es1 ds1 <;> rfl

theorem usedOf_append {α} (u ds' : List α) : usedOf (u ++ ds') ds' = u := by
  simp [usedOf]

theorem isCoin_eq_not_isIdx (d : Draw) : isCoin d = !isIdx d := by cases d <;> rfl

theorem length_eq_idx_add_coin (l : List Draw) : l.length = l.countP isIdx + l.countP isCoin := by
  rw [List.length_eq_countP_add_countP isIdx]
  congr 2
  funext d
  simp [isCoin_eq_not_isIdx]

theorem countP_coins {cs : List Draw} (h : ∀ c ∈ cs, isCoin c = true) :
    cs.countP isIdx = 0 ∧ cs.countP isCoin = cs.length :=
  ⟨List.countP_eq_zero.mpr fun c hc => by simpa [isCoin_eq_not_isIdx] using h c hc, List.countP_eq_length.mpr h⟩

theorem countP_idxs {cs : List Draw} (h : ∀ c ∈ cs, isIdx c = true) :
    cs.countP isIdx = cs.length ∧ cs.countP isCoin = 0 :=
  ⟨List.countP_eq_length.mpr h, List.countP_eq_zero.mpr fun c hc => by simp [isCoin_eq_not_isIdx, h c hc]⟩

theorem deal_used {f g1 g2 : List Nat} {n1 n2 : Nat} {ds : List Draw} {r1 r2 : List Nat} {ds' : List Draw}
    (h : deal f g1 g2 n1 n2 ds = .ok (r1, r2, ds')) :
    ∃ cs, ds = cs ++ ds' ∧ (∀ d ∈ cs, isCoin d = true) ∧ cs.length ≤ f.length := by
  have coin {b} {f : List Nat} {ds} : (∃ cs, ds = cs ++ ds' ∧ (∀ d ∈ cs, isCoin d = true) ∧ cs.length ≤ f.length) →
      ∃ cs, Draw.coin b :: ds = cs ++ ds' ∧ (∀ d ∈ cs, isCoin d = true) ∧ cs.length ≤ f.length + 1 :=
    fun ⟨cs, e, hc, hl⟩ => ⟨.coin b :: cs, e ▸ rfl, List.forall_mem_cons.mpr ⟨rfl, hc⟩, Nat.succ_le_succ hl⟩
  have skip {f : List Nat} {ds} : (∃ cs, ds = cs ++ ds' ∧ (∀ d ∈ cs, isCoin d = true) ∧ cs.length ≤ f.length) →
      ∃ cs, ds = cs ++ ds' ∧ (∀ d ∈ cs, isCoin d = true) ∧ cs.length ≤ f.length + 1 :=
    fun ⟨cs, e, hc, hl⟩ => ⟨cs, e, hc, Nat.le_succ_of_le hl⟩
  fun_induction deal f g1 g2 n1 n2 ds with
  | case1 => cases h; exact ⟨[], rfl, nofun, Nat.le_refl _⟩
  | case2 _ _ _ _ _ _ _ _ ih | case3 _ _ _ _ _ _ _ _ ih => exact coin (ih h)
  | case4 | case5 => cases h
  | case6 _ _ _ _ _ _ _ _ _ ih | case7 _ _ _ _ _ _ _ _ _ _ ih | case8 _ _ _ _ _ _ _ _ _ _ ih => exact skip (ih h)

theorem strip_length_le (ix f : List Nat) : (strip f ix).length ≤ f.length := by
  induction ix generalizing f with
  | nil => exact Nat.le_refl _
  | cons v ix ih =>
    have a := ih ((f.erase v).erase v)
    have b : ((f.erase v).erase v).length ≤ (f.erase v).length := List.length_erase_le
    have c : (f.erase v).length ≤ f.length := List.length_erase_le
    simp only [strip]
    omega

theorem reshuffle_used {f1 f2 : Edge} {ds : List Draw} {g1 g2 : Edge} {ds' : List Draw}
    (h : reshuffle f1 f2 ds = .ok (g1, g2, ds')) :
    ∃ cs, ds = cs ++ ds' ∧ (∀ d ∈ cs, isCoin d = true) ∧ cs.length ≤ f1.length + f2.length := by
  obtain ⟨_, _, hd, _⟩ := reshuffle_ok h
  obtain ⟨cs, a, b, c⟩ := deal_used hd
  exact ⟨cs, a, b, List.length_append ▸ Nat.le_trans c (strip_length_le _ _)⟩

theorem Rejected.isIdx {detailed : Bool} {es : List Edge} {d : Draw} (h : Rejected detailed es d) :
    isIdx d = true := by
  obtain ⟨a, b, _, _, rfl, _⟩ := h
  rfl

theorem Rejected.detailed {detailed : Bool} {es : List Edge} {d : Draw} (h : Rejected detailed es d) :
    detailed = true := by
  obtain ⟨_, _, f, g, _, _, _, hadm⟩ := h
  cases detailed
  · simp [admissible] at hadm
  · rfl

theorem Rejected.sizes {detailed : Bool} {es : List Edge} {d : Draw} (h : Rejected detailed es d) :
    ∃ a b f g, d = .idx a b ∧ es[a]? = some f ∧ es[b]? = some g ∧ f.length ≠ g.length := by
  obtain ⟨a, b, f, g, hd, ha, hb, hadm⟩ := h
  refine ⟨a, b, f, g, hd, ha, hb, ?_⟩
  intro hl
  simp [admissible, hl] at hadm

theorem rejected_nil {es : List Edge} {rej : List Draw} (h : ∀ d ∈ rej, Rejected false es d) : rej = [] := by
  cases rej with
  | nil => rfl
  | cons d t => cases (h d List.mem_cons_self).detailed

theorem mhStep_used {detailed : Bool} {es : List Edge} {ds : List Draw} {es' : List Edge} {ds' : List Draw}
    (h : mhStep detailed es ds = .ok (es', ds')) :
    ∃ rej i j f1 f2 cs g1 g2, ds = rej ++ .idx i j :: (cs ++ ds') ∧ (∀ d ∈ rej, Rejected detailed es d) ∧
      es[i]? = some f1 ∧ es[j]? = some f2 ∧ admissible detailed f1 f2 = true ∧
      (∀ c ∈ cs, isCoin c = true) ∧ cs.length ≤ f1.length + f2.length ∧
      es' = (es.set i g1).set j g2 := by
  obtain ⟨i, j, f1, f2, ds1, g1, g2, hp, hr, rfl⟩ := mhStep_ok h
  obtain ⟨rej, rfl, hrej, hi, hj, hadm⟩ := pick_ok hp
  obtain ⟨cs, rfl, hcs, hlen⟩ := reshuffle_used hr
  exact ⟨rej, i, j, f1, f2, cs, _, _, rfl, hrej, hi, hj, hadm, hcs, hlen, rfl⟩

theorem maxSize_cons (e : Edge) (es : List Edge) : maxSize (e :: es) = max e.length (maxSize es) := rfl

theorem maxSize_le_iff {es : List Edge} {m : Nat} : maxSize es ≤ m ↔ ∀ e ∈ es, e.length ≤ m := by
  induction es with
  | nil => simp [maxSize, sizes]
  | cons e es ih => rw [maxSize_cons, Nat.max_le, ih, List.forall_mem_cons]

theorem mem_le_maxSize {es : List Edge} {e : Edge} (h : e ∈ es) : e.length ≤ maxSize es :=
  maxSize_le_iff.mp (Nat.le_refl _) e h

theorem maxSize_filter_le (p : Edge → Bool) (es : List Edge) : maxSize (es.filter p) ≤ maxSize es :=
  maxSize_le_iff.mpr fun _ he => mem_le_maxSize (List.mem_filter.mp he).1

theorem maxSize_congr {es es' : List Edge} (h : sizes es' = sizes es) : maxSize es' = maxSize es := by
  simp [maxSize, h]

theorem mhStep_counts {detailed : Bool} {es : List Edge} {ds : List Draw} {es' : List Edge} {ds' : List Draw}
    (h : mhStep detailed es ds = .ok (es', ds')) :
    ∃ used, ds = used ++ ds' ∧ 1 ≤ used.countP isIdx ∧ (detailed = false → used.countP isIdx = 1) ∧
      used.countP isCoin ≤ 2 * maxSize es := by
  obtain ⟨rej, i, j, f1, f2, cs, g1, g2, rfl, hrej, hi, hj, _, hcs, hlen, _⟩ := mhStep_used h
  obtain ⟨r1, r2⟩ := countP_idxs fun d hd => (hrej d hd).isIdx
  obtain ⟨k1, k2⟩ := countP_coins hcs
  have hI : (rej ++ .idx i j :: cs).countP isIdx = rej.length + 1 := by
    rw [List.countP_append, List.countP_cons_of_pos rfl, r1, k1]
  have hC : (rej ++ .idx i j :: cs).countP isCoin = cs.length := by
    rw [List.countP_append, List.countP_cons_of_neg Bool.false_ne_true, r2, k2, Nat.zero_add]
  refine ⟨_, by simp, hI ▸ Nat.le_add_left 1 _, fun hd => ?_, hC ▸ Nat.le_trans hlen ?_⟩
  · subst hd
    rw [hI, rejected_nil hrej]; rfl
  · rw [Nat.two_mul]
    exact Nat.add_le_add (mem_le_maxSize (List.mem_of_getElem? hi)) (mem_le_maxSize (List.mem_of_getElem? hj))

theorem chain_used {detailed : Bool} {n : Nat} {es : List Edge} {ds : List Draw} {es' : List Edge}
    {ds' : List Draw} (h : chain detailed n es ds = .ok (es', ds')) (hnd : ∀ e ∈ es, e.Nodup) :
    ∃ used, ds = used ++ ds' ∧ n ≤ used.countP isIdx ∧ (detailed = false → used.countP isIdx = n) ∧
      used.countP isCoin ≤ n * (2 * maxSize es) := by
  fun_induction chain detailed n es ds with
  | case1 => cases h; exact ⟨[], rfl, by simp, by simp, by simp⟩
  | case2 => cases h
  | case3 n es ds es1 ds1 hs ih =>
    have I := mhStep_inv hs hnd
    obtain ⟨u1, rfl, a1, a2, a3⟩ := mhStep_counts hs
    obtain ⟨u2, rfl, b1, b2, b3⟩ := ih h I.nd
    rw [maxSize_congr I.sizes] at b3
    refine ⟨u1 ++ u2, (List.append_assoc ..).symm, ?_, fun hd => ?_, ?_⟩
    · rw [List.countP_append, Nat.add_comm]; exact Nat.add_le_add b1 a1
    · rw [List.countP_append, a2 hd, b2 hd, Nat.add_comm]
    · rw [List.countP_append, Nat.succ_mul, Nat.add_comm]; exact Nat.add_le_add b3 a3

theorem swapLoop_used {tgt : Bool} {n : Nat} {es : List DEdge} {ds : List Nat} {es' : List DEdge}
    {ds' : List Nat} (h : swapLoop tgt n es ds = .ok (es', ds')) :
    ∃ used, ds = used ++ ds' ∧ 2 * n ≤ used.length ∧ used.length ≤ 4 * n := by
  fun_induction swapLoop tgt n es ds with
  | case1 => cases h; exact ⟨[], rfl, Nat.le_refl _, Nat.le_refl _⟩
  | case2 => cases h
  | case3 n es ds es1 ds1 hs ih =>
    obtain ⟨used, rfl, c1, c2⟩ := ih h
    rcases swapStep_ok hs with ⟨a, rfl, _⟩ | ⟨a, b, c, d, _, _, _, _, _, rfl, _⟩
    · exact ⟨a :: a :: used, rfl, Nat.add_le_add_right c1 2,
        (Nat.add_le_add c2 (by decide) : used.length + 2 ≤ 4 * n + 4)⟩
    · exact ⟨a :: b :: c :: d :: used, rfl, (Nat.add_le_add c1 (by decide) : 2 * n + 2 ≤ used.length + 4),
        Nat.add_le_add_right c2 4⟩

theorem countP_contains_pos {α β} [BEq β] [LawfulBEq β] (g : α → List β) (l : List α) (b : β) :
    0 < l.countP (fun e => (g e).contains b) ↔ b ∈ l.flatMap g := by
  simp [List.countP_pos_iff, List.mem_flatMap]

theorem deg_pos_iff (es : List Edge) (x : Nat) : 0 < deg es x ↔ x ∈ stubs es :=
  stubs_eq es ▸ countP_contains_pos id es x

theorem outDeg_pos_iff (es : List DEdge) (x : Nat) : 0 < outDeg es x ↔ x ∈ srcStubs es :=
  countP_contains_pos (fun e : DEdge => e.1) es x

theorem inDeg_pos_iff (es : List DEdge) (x : Nat) : 0 < inDeg es x ↔ x ∈ tgtStubs es :=
  countP_contains_pos (fun e : DEdge => e.2) es x

theorem mem_stubs {es : List Edge} {x : Nat} : x ∈ stubs es ↔ ∃ e ∈ es, x ∈ e := by
  simp [stubs, List.mem_flatten]

theorem mem_srcStubs {es : List DEdge} {x : Nat} : x ∈ srcStubs es ↔ ∃ e ∈ es, x ∈ e.1 := List.mem_flatMap

theorem mem_tgtStubs {es : List DEdge} {x : Nat} : x ∈ tgtStubs es ↔ ∃ e ∈ es, x ∈ e.2 := List.mem_flatMap

/-- what the returned listing keeps besides the degrees (`Preserved`) -/
structure Kept (es out : List Edge) : Prop where
  nodes : ∀ x, x ∈ stubs out ↔ x ∈ stubs es
  sizes_le : ∀ k, (sizes out).count k ≤ (sizes es).count k

/-- merging keeps the members, so the nodes; it returns a sublist, so no size becomes more frequent -/
theorem Same.kept {detailed : Bool} {es L out : List Edge} (h : Same detailed es L) (hsub : out.Sublist L)
    (hmem : ∀ e ∈ L, e ∈ out) : Kept es out := by
  refine ⟨fun x => ?_, fun k => h.sizes.count_eq k ▸ (hsub.map List.length).count_le k⟩
  rw [← deg_pos_iff es, ← h.deg x, deg_pos_iff, mem_stubs, mem_stubs]
  exact ⟨fun ⟨e, he, hx⟩ => ⟨e, hsub.subset he, hx⟩, fun ⟨e, he, hx⟩ => ⟨e, hmem e he, hx⟩⟩

theorem Same.size_le {detailed : Bool} {es L : List Edge} (h : Same detailed es L) {e : Edge} (he : e ∈ L) :
    e.length ≤ maxSize es := by
  obtain ⟨e0, h0, hl⟩ := List.mem_map.mp (h.sizes.mem_iff.mp (List.mem_map.mpr ⟨e, he, rfl⟩))
  exact hl ▸ mem_le_maxSize h0

theorem configurationModel_kept {label : Label} {detailed : Bool} {size : Option Nat} {n : Nat}
    {es : List Edge} {ds : List Draw} {out : List Edge}
    (h : configurationModel label detailed size n es ds = .ok out)
    (hdist : size.isSome = true → es.Nodup) (hnd : ∀ e ∈ es, e.Nodup) : Kept es out := by
  obtain ⟨_, ⟨L, S, hsub, hmem⟩, _⟩ := configurationModel_spec h hdist hnd
  exact S.kept hsub hmem

theorem cmReport_ok {label : Label} {detailed : Bool} {order size : Option Nat} {n : Nat}
    {es : List Edge} {ds : List Draw} {r : Report} (h : cmReport label detailed order size n es ds = .ok r) :
    ∃ sz es' ds', resolveSize order size = .ok sz ∧ chain detailed n (selected sz es) ds = .ok (es', ds') ∧
      r.edges = readd sz es (dedup (es'.map sortNodes)) ∧ r.nodes = nodesOf r.edges ∧
      r.idx = (usedOf ds ds').countP isIdx ∧ r.coins = (usedOf ds ds').countP isCoin ∧ r.left = ds'.length := by
  unfold cmReport at h
  split at h
  · cases h
  · next sz hsz =>
    split at h
    · cases h
    · next es' ds' hc =>
      cases h
      exact ⟨sz, es', ds', hsz, hc, rfl, rfl, rfl, rfl, rfl⟩

theorem selected_nodup (sz : Option Nat) (es : List Edge) (hnd : ∀ e ∈ es, e.Nodup) :
    ∀ e ∈ selected sz es, e.Nodup := by
  cases sz with
  | none => exact hnd
  | some s => exact fun e he => hnd e (List.mem_filter.mp he).1

theorem maxSize_selected_le (sz : Option Nat) (es : List Edge) : maxSize (selected sz es) ≤ maxSize es := by
  cases sz with
  | none => exact Nat.le_refl _
  | some s => exact maxSize_filter_le _ es

theorem mem_nodesOf (out : List Edge) (x : Nat) : x ∈ nodesOf out ↔ x ∈ stubs out := by
  unfold nodesOf
  rw [(sortNodes_perm _).mem_iff, mem_dedup]

theorem nodesOf_sorted (out : List Edge) : (nodesOf out).Pairwise (· < ·) :=
  sortNodes_strict (dedup_nodup _)

structure DKept (es out : List DEdge) : Prop where
  src : ∀ x, x ∈ srcStubs out ↔ x ∈ srcStubs es
  tgt : ∀ x, x ∈ tgtStubs out ↔ x ∈ tgtStubs es
  shapes_le : ∀ p, (shapes out).count p ≤ (shapes es).count p

theorem directedCM_kept {es : List DEdge} {ds : List Nat} {out : List DEdge}
    (h : directedCM es ds = .ok out) (hnd : ∀ e ∈ es, e.1.Nodup ∧ e.2.Nodup) : DKept es out := by
  obtain ⟨L, I, _, rfl⟩ := directedCM_ok h hnd
  refine ⟨fun x => ?_, fun x => ?_, fun p => ?_⟩
  · exact Iff.trans (b := x ∈ srcStubs L) (by simp only [mem_srcStubs, mem_dedup]) (I.stubs false).mem_iff
  · exact Iff.trans (b := x ∈ tgtStubs L) (by simp only [mem_tgtStubs, mem_dedup]) (I.stubs true).mem_iff
  · rw [← I.shp]
    exact ((dedup_sublist L).map _).count_le p

theorem dcmReport_ok {es : List DEdge} {ds : List Nat} {r : DReport} (h : dcmReport es ds = .ok r) :
    ∃ es1 ds1 es2 ds2, swapLoop false (es.length * 10) es ds = .ok (es1, ds1) ∧
      swapLoop true (es.length * 10) es1 ds1 = .ok (es2, ds2) ∧
      r.edges = dedup (es2.map sortSides) ∧ r.nodes = dnodesOf r.edges ∧
      r.usedSrc = ds.length - ds1.length ∧ r.usedTgt = ds1.length - ds2.length ∧ r.left = ds2.length := by
  unfold dcmReport at h
  split at h
  · cases h
  · next es1 ds1 h1 =>
    split at h
    · cases h
    · next es2 ds2 h2 =>
      cases h
      exact ⟨es1, ds1, es2, ds2, h1, h2, rfl, rfl, rfl, rfl, rfl⟩

theorem mem_dnodesOf (out : List DEdge) (x : Nat) : x ∈ dnodesOf out ↔ x ∈ srcStubs out ∨ x ∈ tgtStubs out := by
  unfold dnodesOf
  rw [(sortNodes_perm _).mem_iff, mem_dedup, List.mem_append]

theorem dnodesOf_sorted (out : List DEdge) : (dnodesOf out).Pairwise (· < ·) :=
  sortNodes_strict (dedup_nodup _)

end C13
