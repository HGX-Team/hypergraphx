import Hgxv.Model.C06Text
/-! Framing of the text file (core Lean only): `writeText` is `[`, the first record, `tailPieces`, `]`
(`writeText_cons`, `writeText_framed`), and `readText` reads it back. -/
namespace C06

variable {α : Type}

/-- the pieces written after the first record: `,` record, `,` record, ... -/
def tailPieces (rs : List α) : List (Piece α) := rs.flatMap (fun r => [Piece.sep, Piece.item r])

theorem tailPieces_cons (r : α) (rs : List α) :
    tailPieces (r :: rs) = Piece.sep :: Piece.item r :: tailPieces rs := by
  simp [tailPieces]

theorem foldl_writeItem (rs : List α) (out : List (Piece α)) :
    rs.foldl Writer.writeItem { first := false, out := out } = { first := false, out := out ++ tailPieces rs } := by
  induction rs generalizing out with
  | nil => simp [tailPieces]
  | cons r rs ih =>
    simp only [List.foldl_cons, Writer.writeItem, Writer.comma]
    rw [ih]
    simp [tailPieces_cons]

theorem writeText_nil : writeText ([] : List α) = [.opn, .cls] := rfl

theorem writeText_cons (r : α) (rs : List α) :
    writeText (r :: rs) = .opn :: .item r :: (tailPieces rs ++ [.cls]) := by
  simp only [writeText, List.foldl_cons, Writer.writeItem, Writer.start, Writer.comma]
  have h := foldl_writeItem rs ([Piece.opn] ++ [] ++ [Piece.item r])
  simp only [if_true] at *
  rw [h]
  simp [Writer.finish]

theorem readTail_tailPieces (rs : List α) : readTail (tailPieces rs ++ [.cls]) = some rs := by
  induction rs with
  | nil => simp [tailPieces, readTail]
  | cons r rs ih =>
    rw [tailPieces_cons]
    simp only [List.cons_append, readTail, ih, Option.map_some]

theorem readText_writeText (rs : List α) : readText (writeText rs) = some rs := by
  cases rs with
  | nil => simp [writeText_nil, readText]
  | cons r rs =>
    rw [writeText_cons]
    simp only [readText, readTail_tailPieces, Option.map_some]

theorem intersperse_items (r : α) (rs : List α) :
    ((r :: rs).map Piece.item).intersperse .sep = Piece.item r :: tailPieces rs := by
  induction rs generalizing r with
  | nil => simp [tailPieces]
  | cons x rs ih =>
    have := ih x
    simp only [List.map_cons] at this ⊢
    rw [List.intersperse_cons_cons, this, tailPieces_cons]

theorem writeText_framed (rs : List α) : writeText rs = framed rs := by
  cases rs with
  | nil => simp [writeText_nil, framed]
  | cons r rs =>
    rw [writeText_cons, framed, intersperse_items]
    simp

theorem tailPieces_length (rs : List α) : (tailPieces rs).length = 2 * rs.length := by
  induction rs with
  | nil => rfl
  | cons x xs ih => rw [tailPieces_cons, List.length_cons, List.length_cons, ih, List.length_cons]; omega

theorem writeText_length (rs : List α) : (writeText rs).length = 2 + rs.length + (rs.length - 1) := by
  cases rs with
  | nil => rfl
  | cons r rs =>
    rw [writeText_cons]
    simp only [List.length_cons, List.length_append, tailPieces_length, List.length_nil]
    omega

end C06
