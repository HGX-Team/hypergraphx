import Hgxv.Proofs.C10Graph
import Mathlib.Data.List.Induction
/-! `bipartite_projection` in closed form (`bipartite_eq`): every table the routine fills is written under fresh keys, so it is a
`zipIdx.map`, and the adjacency is one run of `add_edge`; `BInv` collects what is read off that equation.  `BipSim` relates the
routine with one shared table to it. -/
namespace C10

def incAt (nodes : List Nat) (es : List Edge) (i j : Nat) : Prop :=
  ∃ x e, nodes[i]? = some x ∧ es[j]? = some e ∧ x ∈ e

/-- the vertex pairs `bipartite_projection` joins: `N_i`, `E_j` in either order, node `i` in hyperedge `j` -/
def joined (nodes : List Nat) (es : List Edge) : BV → BV → Prop
  | .N i, .E j => incAt nodes es i j
  | .E j, .N i => incAt nodes es i j
  | _, _ => False

theorem joined_symm {nodes : List Nat} {es : List Edge} {u v : BV} (h : joined nodes es u v) : joined nodes es v u := by
  cases u <;> cases v <;> exact h

theorem get?_sideTable {β : Type} (a : Nat → β) (b : Edge → β) (nodes : List Nat) (es : List Edge) (v : BV) :
    AL.get? (nodes.zipIdx.map (fun p => (BV.N p.2, a p.1)) ++ es.zipIdx.map (fun p => (BV.E p.2, b p.1))) v =
      match v with
      | .N i => nodes[i]?.map a
      | .E j => es[j]?.map b := by
  have hN := get?_zipIdx_map BV.N (fun _ _ h => BV.N.inj h) a nodes 0
  have hE := get?_zipIdx_map BV.E (fun _ _ h => BV.E.inj h) b es 0
  simp only [Nat.zero_add] at hN hE
  rw [AL.get?_append]
  cases v with
  | N i =>
    show _ = nodes[i]?.map a
    rw [hN, AL.get?_map_of_ne _ _ _ _ (fun _ _ h => by cases h)]; cases nodes[i]? <;> rfl
  | E j => rw [AL.get?_map_of_ne _ _ _ _ (fun _ _ h => by cases h), hE]; rfl

theorem get?_nodeTable {nodes : List Nat} (hnd : nodes.Nodup) {i x : Nat} (hx : nodes[i]? = some x) :
    AL.get? (nodes.zipIdx.map (fun p => (Obj.node p.1, BV.N p.2))) (.node x) = some (.N i) := by
  apply AL.get?_of_mem
  · exact AL.keys_map_kv_nodup Obj.node BV.N (fun _ _ h => Obj.node.inj h) _ (by simpa [AL.keys] using hnd)
  · exact List.mem_map.2 ⟨(x, i), by simpa [List.mem_zipIdx_iff_getElem?] using hx, rfl⟩

theorem bipNode_fold_eq (nodes : List Nat) (hnd : nodes.Nodup) : nodes.zipIdx.foldl bipNode {} =
    { g := { nodes := nodes.zipIdx.map (fun p => (BV.N p.2, some 0)), adj := [] },
      idToObj := nodes.zipIdx.map (fun p => (BV.N p.2, Obj.node p.1)),
      objToId := nodes.zipIdx.map (fun p => (Obj.node p.1, BV.N p.2)) } := by
  induction nodes using List.reverseRecOn with
  | nil => rfl
  | append_singleton l x ih =>
    obtain ⟨hl, -, hx⟩ := List.nodup_append.1 hnd
    -- the three keys written for `x` are fresh: position `l.length` is new, and `x` is not in `l`
    have hN : ∀ {β : Type} (a : Nat → β), AL.get? (l.zipIdx.map (fun p => (BV.N p.2, a p.1))) (BV.N l.length) = none :=
      fun a => by simpa using get?_zipIdx_map BV.N (fun _ _ h => BV.N.inj h) a l 0 l.length
    have hO : AL.get? (l.zipIdx.map (fun p => (Obj.node p.1, BV.N p.2))) (.node x) = none :=
      AL.get?_map_of_ne _ _ _ _ fun p hp h => hx p.1 (List.mem_zipIdx hp |>.2.2 ▸ List.getElem_mem _) x (by simp) (Obj.node.inj h)
    rw [List.zipIdx_append, List.foldl_append, ih hl]
    simp only [List.zipIdx_cons, List.zipIdx_nil, List.foldl_cons, List.foldl_nil, Nat.zero_add, bipNode, Graph.addNode,
      AL.set_of_not_mem _ _ _ (hN fun _ => some 0), AL.set_of_not_mem _ _ _ (hN Obj.node),
      AL.set_of_not_mem _ _ _ hO, List.map_append, List.map_cons, List.map_nil]

theorem bipLink_fold {nodes : List Nat} (ev : BV) (l : List Nat) (st : Bip)
    (hinv : ∀ i x, nodes[i]? = some x → AL.get? st.objToId (.node x) = some (.N i))
    (hl : ∀ x ∈ l, x ∈ nodes) :
    l.foldl (bipLink ev) st = { st with g := addEdges st.g (l.map (fun x => (ev, BV.N (nodes.idxOf x)))) } := by
  induction l generalizing st with
  | nil => rfl
  | cons x t ih =>
    have hx := hl x (by simp)
    have hlt : nodes.idxOf x < nodes.length := List.idxOf_lt_length_iff.2 hx
    have hget : nodes[nodes.idxOf x]? = some x := by
      rw [List.getElem?_eq_getElem hlt, List.getElem_idxOf]
    have h1 : bipLink ev st x = { st with g := st.g.addEdge ev (.N (nodes.idxOf x)) none } := by
      simp [bipLink, hinv _ x hget]
    rw [List.foldl_cons, h1,
      ih { st with g := st.g.addEdge ev (.N (nodes.idxOf x)) none } hinv (fun y hy => hl y (by simp [hy]))]
    rfl

/-- the pairs the second loop joins, in the order it writes them -/
def bipPairs (nodes : List Nat) (es : List Edge) : List (BV × BV) :=
  es.zipIdx.flatMap (fun p => p.1.map (fun x => (BV.E p.2, BV.N (nodes.idxOf x))))

theorem mem_bipPairs {nodes : List Nat} (hnd : nodes.Nodup) {es : List Edge} (hmem : ∀ e ∈ es, ∀ x ∈ e, x ∈ nodes)
    (u v : BV) : (u, v) ∈ bipPairs nodes es ↔ ∃ i j, u = .E j ∧ v = .N i ∧ incAt nodes es i j := by
  simp only [bipPairs, List.mem_flatMap, List.mem_map, Prod.exists, List.mem_zipIdx_iff_getElem?, Prod.mk.injEq, incAt]
  constructor
  · rintro ⟨e, j, hj, x, hx, rfl, rfl⟩
    exact ⟨_, j, rfl, rfl, x, e, (getElem?_eq_some_iff_idxOf hnd (hmem e (List.mem_of_getElem? hj) x hx) _).2 rfl, by simpa using hj, hx⟩
  · rintro ⟨i, j, rfl, rfl, x, e, hi, hj, hx⟩
    exact ⟨e, j, by simpa using hj, x, hx, rfl,
      congrArg BV.N ((getElem?_eq_some_iff_idxOf hnd (hmem e (List.mem_of_getElem? hj) x hx) i).1 hi)⟩

theorem bipartite_eq (nodes : List Nat) (hnd : nodes.Nodup) (es : List Edge) (hmem : ∀ e ∈ es, ∀ x ∈ e, x ∈ nodes) :
    bipartite nodes es =
      { g := { nodes := nodes.zipIdx.map (fun p => (BV.N p.2, some 0)) ++ es.zipIdx.map (fun p => (BV.E p.2, some 1)),
               adj := (addEdges ({} : Graph BV) (bipPairs nodes es)).adj },
        idToObj := nodes.zipIdx.map (fun p => (BV.N p.2, Obj.node p.1)) ++ es.zipIdx.map (fun p => (BV.E p.2, Obj.edge p.1)),
        objToId := nodes.zipIdx.map (fun p => (Obj.node p.1, BV.N p.2)) } := by
  induction es using List.reverseRecOn with
  | nil => simpa [bipartite, bipPairs, addEdges] using bipNode_fold_eq nodes hnd
  | append_singleton l e ih =>
    have ih := ih (fun e' he' => hmem e' (by simp [he']))
    have he := hmem e (by simp)
    unfold bipartite at ih ⊢
    rw [List.zipIdx_append, List.foldl_append, ih]
    simp only [List.zipIdx_cons, List.zipIdx_nil, List.foldl_cons, List.foldl_nil, Nat.zero_add, bipEdge]
    rw [bipLink_fold (nodes := nodes) _ _ _ (fun i x hx => get?_nodeTable hnd hx) he]
    -- the key `E_(l.length)` is fresh in both tables
    have hE : ∀ {β : Type} (a : Nat → β) (b : Edge → β), AL.get? (nodes.zipIdx.map (fun p => (BV.N p.2, a p.1)) ++
        l.zipIdx.map (fun p => (BV.E p.2, b p.1))) (BV.E l.length) = none :=
      fun a b => (get?_sideTable a b nodes l (.E l.length)).trans (by simp)
    have hP : bipPairs nodes (l ++ [e]) =
        bipPairs nodes l ++ e.map (fun x => (BV.E l.length, BV.N (nodes.idxOf x))) := by
      simp [bipPairs, List.zipIdx_append, List.flatMap_append]
    simp only [Graph.addNode, AL.set_of_not_mem _ _ _ (hE (fun _ => some 0) fun _ => some 1),
      AL.set_of_not_mem _ _ _ (hE Obj.node Obj.edge), hP, List.map_append, List.map_cons, List.map_nil, ← List.append_assoc]
    congr 1
    apply Graph.ext
    · rw [addEdges_nodes_of_mem]
      intro p hp
      obtain ⟨x, hx, rfl⟩ := List.mem_map.1 hp
      simp only [AL.keys_append, keys_zipIdx_map BV.N (fun _ => some 0) nodes, List.mem_append, List.mem_map, List.mem_range]
      exact ⟨Or.inr (by simp [AL.keys]), Or.inl (Or.inl ⟨_, List.idxOf_lt_length_iff.2 (he x hx), rfl⟩)⟩
    · simp only [adj_addEdges, List.foldl_append]

/-- what the users read off the state `bipartite_projection` returns -/
structure BInv (nodes : List Nat) (es : List Edge) (st : Bip) : Prop where
  adj : ∀ u v a, AL.get? st.g.adj (u, v) = some a ↔ a = none ∧ joined nodes es u v
  keys : AL.keys st.g.nodes = (List.range nodes.length).map BV.N ++ (List.range es.length).map BV.E
  attr : ∀ v, AL.get? st.g.nodes v =
    match v with
    | .N i => nodes[i]?.map (fun _ => some 0)
    | .E j => es[j]?.map (fun _ => some 1)
  tab : ∀ v, AL.get? st.idToObj v =
    match v with
    | .N i => nodes[i]?.map Obj.node
    | .E j => es[j]?.map Obj.edge

theorem bipartite_inv (nodes : List Nat) (hnd : nodes.Nodup) (es : List Edge) (hmem : ∀ e ∈ es, ∀ x ∈ e, x ∈ nodes) :
    BInv nodes es (bipartite nodes es) := by
  rw [bipartite_eq nodes hnd es hmem]
  refine ⟨fun u v a => ?_, ?_, get?_sideTable (fun _ => some 0) (fun _ => some 1) nodes es,
    get?_sideTable Obj.node Obj.edge nodes es⟩
  · show AL.get? (addEdges _ _).adj (u, v) = some a ↔ _
    rw [get_adj_addEdges, show AL.get? ({} : Graph BV).adj (u, v) = none from rfl, Option.ite_none_right_eq_some,
      Option.some.injEq, mem_bipPairs hnd hmem, mem_bipPairs hnd hmem]
    cases u <;> cases v <;> simp [joined, eq_comm, and_comm]
  · exact (AL.keys_append _ _).trans (by rw [keys_zipIdx_map BV.N (fun _ => some 0), keys_zipIdx_map BV.E (fun _ => some 1)])

theorem BInv.symm {nodes : List Nat} {es : List Edge} {st : Bip} (hI : BInv nodes es st) (u v : BV)
    (a : Option Rat) (h : AL.get? st.g.adj (u, v) = some a) : AL.get? st.g.adj (v, u) = some a := by
  rw [hI.adj] at h ⊢
  exact ⟨h.1, joined_symm h.2⟩

theorem BInv.adj_same {nodes : List Nat} {es : List Edge} {st : Bip} (hI : BInv nodes es st) :
    (∀ i i', AL.get? st.g.adj (.N i, .N i') = none) ∧ (∀ j j', AL.get? st.g.adj (.E j, .E j') = none) := by
  constructor <;> intro i i' <;> apply Option.eq_none_iff_forall_ne_some.2 <;> intro a h <;>
    exact ((hI.adj _ _ _).1 h).2

/-- same graph, same id table, and the node part of `obj_to_id` agrees -/
def BipSim (a b : Bip) : Prop :=
  a.g = b.g ∧ a.idToObj = b.idToObj ∧ ∀ n, AL.get? a.objToId (.node n) = AL.get? b.objToId (.node n)

theorem bipLink_sim (ev : BV) {a b : Bip} (h : BipSim a b) (n : Nat) : BipSim (bipLink ev a n) (bipLink ev b n) := by
  obtain ⟨hg, ht, ho⟩ := h
  unfold bipLink
  rw [ho n]
  cases AL.get? b.objToId (.node n) with
  | none => exact ⟨hg, ht, ho⟩
  | some v => exact ⟨by simp [hg], ht, ho⟩

theorem bipLink_fold_sim (ev : BV) (l : List Nat) {a b : Bip} (h : BipSim a b) :
    BipSim (l.foldl (bipLink ev) a) (l.foldl (bipLink ev) b) := by
  induction l generalizing a b with
  | nil => exact h
  | cons x t ih => exact ih (bipLink_sim ev h x)

theorem bipEdgeShared_sim (tl : Edge → Option Nat) (p : Edge × Nat) (hp : tl p.1 = none) {a b : Bip} (h : BipSim a b) :
    BipSim (bipEdgeShared tl a p) (bipEdge b p) := by
  obtain ⟨hg, ht, ho⟩ := h
  unfold bipEdgeShared bipEdge
  apply bipLink_fold_sim
  refine ⟨by simp [hg], by simp [ht], ?_⟩
  intro n
  have hk : edgeKey tl p.1 = Obj.edge p.1 := by simp [edgeKey, hp]
  have hne : ¬ (Obj.edge p.1 = Obj.node n) := by intro h; cases h
  simp only [hk, AL.get?_set, hne, if_false]
  exact ho n

theorem bipShared_fold_sim (tl : Edge → Option Nat) (ps : List (Edge × Nat)) (hps : ∀ p ∈ ps, tl p.1 = none) {a b : Bip}
    (h : BipSim a b) : BipSim (ps.foldl (bipEdgeShared tl) a) (ps.foldl bipEdge b) := by
  induction ps generalizing a b with
  | nil => exact h
  | cons p t ih =>
    exact ih (fun q hq => hps q (by simp [hq])) (bipEdgeShared_sim tl p (hps p (by simp)) h)

end C10
