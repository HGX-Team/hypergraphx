import Hgxv.Model.C07Side
/-! # C07: the side tables never reach the hashing tables (core Lean only) -/
namespace C07

variable {κ : Type} [Kind κ] [SideKind κ]

theorem setInc_base (o : Obj κ) (raw : κ) (n : Nat) (md : JTree) : (setInc o raw n md).1.base = o.base := by
  unfold setInc; split <;> rfl

theorem addEmpty_base (o : Obj κ) (name : String) (md : JTree) : (addEmpty o name md).1.base = o.base := by
  unfold addEmpty; split <;> rfl

theorem ostep_base (o : Obj κ) (op : OOp κ) :
    (ostep o op).1.base = match op.toBase? with | some b => (step o.base b).1 | none => o.base := by
  cases op with
  | base b => rfl
  | setInc raw n md => exact setInc_base o raw n md
  | addEmpty name md => exact addEmpty_base o name md

theorem orun_base (o : Obj κ) (ops : List (OOp κ)) : (orun o ops).base = run o.base (ops.filterMap OOp.toBase?) := by
  induction ops generalizing o with
  | nil => rfl
  | cons op rest ih =>
    have h : orun o (op :: rest) = orun (ostep o op).1 rest := rfl
    rw [h, ih, ostep_base]
    cases op with
    | base b => rfl
    | setInc raw n md => rfl
    | addEmpty name md => rfl

theorem ostep_base_indep (o o' : Obj κ) (h : o.base = o'.base) (b : Op κ) :
    (ostep o (.base b)).1.base = (ostep o' (.base b)).1.base ∧ (ostep o (.base b)).2 = (ostep o' (.base b)).2 := by
  simp only [ostep, h, and_self]

end C07
