import Hgxv.Proofs.C15Count
/-! # C15 — expected degree of one node: closed form = sum over all hyperedges through the node

After the counting (`count_pairs_node`, `C15Count`) the weighted sum over the ordered pairs of `V` is split at `i` (`node_sum`, by
`sum_offDiag_erase`, `C15Sum`): the pairs of `V.erase i`, and `(i, k)`, `(k, i)`; the code's two addends are these two parts
(`expDeg_first`, `expDeg_second`). -/
open Finset
namespace C15

theorem node_sum (V : Finset ℕ) (i : ℕ) (hi : i ∈ V) (g : ℕ → ℕ → ℚ) (c2 c3 : ℚ) :
    ∑ p ∈ V.offDiag, g p.1 p.2 * (if i = p.1 ∨ i = p.2 then c2 else c3)
      = c2 * ∑ k ∈ V.erase i, (g i k + g k i) + c3 * ∑ p ∈ (V.erase i).offDiag, g p.1 p.2 := by
  rw [sum_offDiag_erase V i hi (fun j k => g j k * (if i = j ∨ i = k then c2 else c3)), Finset.mul_sum, Finset.mul_sum,
    add_comm]
  congr 1
  · apply Finset.sum_congr rfl; intro k _
    rw [if_pos (Or.inl rfl), if_pos (Or.inr rfl)]; ring
  · apply Finset.sum_congr rfl; intro p hp
    obtain ⟨h1, h2, _⟩ := mem_offDiag.mp hp
    rw [if_neg (not_or.mpr ⟨fun h => ne_of_mem_erase h1 h.symm, fun h => ne_of_mem_erase h2 h.symm⟩), mul_comm]

theorem cnt3_mul (N d : ℕ) (hN : 3 ≤ N) (hd : 2 ≤ d) :
    (cnt3 N d : ℚ) * ((N : ℚ) - 2) = (Nat.choose (N - 2) (d - 2) : ℚ) * ((d : ℚ) - 2) := by
  unfold cnt3
  obtain ⟨n, rfl⟩ : ∃ n, N = n + 3 := ⟨N - 3, by omega⟩
  split
  · obtain ⟨e, rfl⟩ : ∃ e, d = e + 3 := ⟨d - 3, by omega⟩
    -- `(n + 1) C(n, e) = C(n + 1, e + 1) (e + 1)`
    have h := congrArg (Nat.cast : ℕ → ℚ) (Nat.add_one_mul_choose_eq n e)
    show ((Nat.choose n e : ℕ) : ℚ) * (((n + 3 : ℕ) : ℚ) - 2) = ((Nat.choose (n + 1) (e + 1) : ℕ) : ℚ) * (((e + 3 : ℕ) : ℚ) - 2)
    push_cast at h ⊢
    rw [show (n : ℚ) + 3 - 2 = n + 1 by ring, show (e : ℚ) + 3 - 2 = e + 1 by ring, mul_comm]
    exact h
  · obtain rfl : d = 2 := by omega
    rw [Nat.cast_zero, zero_mul, Nat.cast_ofNat, sub_self, mul_zero]

/-- the first addend of `expected_degree(per_node=True)`: `Σ_{k ≠ i} u_iᵀ w u_k` -/
theorem expDeg_first (N K : ℕ) (u w : Mat) (i : ℕ) (hi : i < N) :
    bf K (u i) (colSum N u) w - qf K (u i) w = ∑ k ∈ (range N).erase i, aij K u w i k := by
  rw [colSum_eq, bf_sum_right, qf_eq_bf, ← Finset.add_sum_erase _ _ (mem_range.mpr hi), add_sub_cancel_left]; rfl

/-- the second addend: the ordered pairs of the other nodes -/
theorem expDeg_second (N K : ℕ) (u w : Mat) (i : ℕ) (hi : i < N) :
    qf K (fun a => colSum N u a - u i a) w - qfSum N K u w + qf K (u i) w
      = ∑ p ∈ ((range N).erase i).offDiag, aij K u w p.1 p.2 := by
  have hcol : (fun a => colSum N u a - u i a) = fun a => ∑ j ∈ (range N).erase i, u j a := by
    funext a; simp only [colSum, sumTo_eq]; rw [Finset.sum_erase_eq_sub (mem_range.mpr hi)]
  have hs : qfSum N K u w = aij K u w i i + ∑ j ∈ (range N).erase i, aij K u w j j := by
    unfold qfSum; rw [sumTo_eq, ← Finset.add_sum_erase _ _ (mem_range.mpr hi)]; rfl
  rw [hcol, qf_sum, hs, ← sum_sum_sub_diag, qf_eq_bf]
  show _ - _ + aij K u w i i = _
  ring

theorem pairSum_half (K : ℕ) (u w : Mat) (hw : ∀ a < K, ∀ b < K, w a b = w b a) (s : Finset ℕ) :
    pairSum K u w s = ∑ p ∈ s.offDiag, aij K u w p.1 p.2 * half := by
  rw [← Finset.sum_mul, sum_offDiag_symm _ _ (aij_symm K u w hw)]
  unfold pairSum half; ring

/-- sum of the Poisson parameters of all hyperedges of size `d` through node `i` -/
theorem node_total (N K : ℕ) (u w : Mat) (hw : ∀ a < K, ∀ b < K, w a b = w b a) (d : ℕ) (hd : 2 ≤ d)
    (i : ℕ) (hi : i < N) :
    ∑ e ∈ (range N).powersetCard d with i ∈ e, pairSum K u w e
      = (Nat.choose (N - 2) (d - 2) : ℚ) * (bf K (u i) (colSum N u) w - qf K (u i) w)
        + (cnt3 N d : ℚ) * (half * (qf K (fun a => colSum N u a - u i a) w - qfSum N K u w + qf K (u i) w)) := by
  have h1 : ∀ e ∈ ((range N).powersetCard d).filter (i ∈ ·), pairSum K u w e
      = ∑ p ∈ e.offDiag, (fun j k => aij K u w j k * half) p.1 p.2 := fun e _ => pairSum_half K u w hw e
  have hsym : ∀ k ∈ (range N).erase i, aij K u w i k * half + aij K u w k i * half = aij K u w i k := by
    intro k _; rw [aij_symm K u w hw k i]; unfold half; ring
  rw [Finset.sum_congr rfl h1,
    count_pairs_node (range N) d hd i (mem_range.mpr hi) (fun j k => aij K u w j k * half), card_range,
    node_sum (range N) i (mem_range.mpr hi) (fun j k => aij K u w j k * half), Finset.sum_congr rfl hsym, ← Finset.sum_mul,
    expDeg_first N K u w i hi, expDeg_second N K u w i hi]
  ring

/-- division by `κ_d` of a total given as `C(N−2,d−2)·first + cnt3·second` (`node_total` supplies it) -/
theorem node_closed (N K : ℕ) (u w : Mat) (hN : 3 ≤ N)
    (d : ℕ) (hd : 2 ≤ d) (hdN : d ≤ N) (i : ℕ) (first second : ℚ)
    (h : ∑ e ∈ (range N).powersetCard d with i ∈ e, pairSum K u w e
      = (Nat.choose (N - 2) (d - 2) : ℚ) * first + (cnt3 N d : ℚ) * second) :
    ∑ e ∈ (range N).powersetCard d with i ∈ e, pairSum K u w e / kappa N d
      = Cterm d * first + 2 / ((N : ℚ) - 2) * (((d : ℚ) - 2) / ((d : ℚ) * ((d : ℚ) - 1))) * second := by
  have hN2 : (N : ℚ) - 2 ≠ 0 := by
    have : (3 : ℚ) ≤ (N : ℚ) := by exact_mod_cast hN
    linarith
  have hpair : 2 / ((N : ℚ) - 2) * (((d : ℚ) - 2) / ((d : ℚ) * ((d : ℚ) - 1))) = Cterm d * (((d : ℚ) - 2) / ((N : ℚ) - 2)) := by
    unfold Cterm; ring
  rw [← Finset.sum_div, h, eq_div_of_mul_eq hN2 (cnt3_mul N d hN hd), hpair, Cterm_eq N d hd hdN]
  ring

end C15
