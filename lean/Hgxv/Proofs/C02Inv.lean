import Hgxv.Proofs.C02Basic
import Hgxv.Proofs.ALStore
/-! C02: the representation invariant `Inv` of the concrete store and its preservation by insertion and removal of nodes
and hyperedges (core Lean only).  `Inv` is proved from three parts that move independently - the hyperedge tables
(`EdgeTables`), the two adjacency indexes (`AL.Index`, which holds that every node of a stored key has its rows), the domains of
the node tables (`Rows`): `Inv.of_parts`. -/
namespace C02
open AL

/-- a canonical, well-formed key: sides sorted, duplicate-free, disjoint, non-empty -/
structure KeyWF (k : Key) : Prop where
  sortedS : k.1.Pairwise (· ≤ ·)
  sortedT : k.2.Pairwise (· ≤ ·)
  nodupS : k.1.Nodup
  nodupT : k.2.Nodup
  disj : ∀ n, n ∈ k.1 → n ∉ k.2
  neS : k.1 ≠ []
  neT : k.2 ≠ []

/-- representation invariant of `DirectedHypergraph` -/
structure Inv (s : Store) : Prop where
  rev_of_edge : ∀ k id, get? s.edgeList k = some id → get? s.rev id = some k
  edge_of_rev : ∀ k id, get? s.rev id = some k → get? s.edgeList k = some id
  id_lt : ∀ id k, get? s.rev id = some k → id < s.nextId
  key_wf : ∀ id k, get? s.rev id = some k → KeyWF k
  adjS_nodup : ∀ n ids, get? s.adjS n = some ids → ids.Nodup
  adjS_iff : ∀ n ids, get? s.adjS n = some ids → ∀ id, id ∈ ids ↔ ∃ k, get? s.rev id = some k ∧ n ∈ k.1
  adjT_nodup : ∀ n ids, get? s.adjT n = some ids → ids.Nodup
  adjT_iff : ∀ n ids, get? s.adjT n = some ids → ∀ id, id ∈ ids ↔ ∃ k, get? s.rev id = some k ∧ n ∈ k.2
  nodes_in : ∀ id k, get? s.rev id = some k → ∀ n, (n ∈ k.1 ∨ n ∈ k.2) → (get? s.adjS n).isSome
  adj_same : ∀ n, (get? s.adjT n).isSome = (get? s.adjS n).isSome
  nmeta_same : ∀ n, (get? s.nmeta n).isSome = (get? s.adjS n).isSome
  weights_same : ∀ id, (get? s.weights id).isSome = (get? s.rev id).isSome
  emeta_same : ∀ id, (get? s.emeta id).isSome = (get? s.rev id).isSome
  nd_edge : (keys s.edgeList).Nodup
  nd_rev : (keys s.rev).Nodup
  nd_w : (keys s.weights).Nodup
  nd_em : (keys s.emeta).Nodup
  nd_adjS : (keys s.adjS).Nodup
  nd_adjT : (keys s.adjT).Nodup
  nd_nm : (keys s.nmeta).Nodup

theorem clear_eq (s : Store) : clear s = { weighted := s.weighted, nextId := s.nextId, hmeta := s.hmeta } := rfl

theorem inv_empty (w : Bool) (i : Nat) (hm : Meta) : Inv { weighted := w, nextId := i, hmeta := hm } := by
  constructor <;> simp [keys]

theorem inv_init (w : Bool) (hm : Meta) : Inv { weighted := w, hmeta := hm } := inv_empty w 0 hm

/-- the hyperedge tables: keys and ids in bijection, ids below the counter, one weight and one metadata per id
    (the fields `rev_of_edge` ... `key_wf`, `weights_same`, `emeta_same`, `nd_edge` ... `nd_em` of `Inv`) -/
structure EdgeTables (s : Store) : Prop where
  rev_of_edge : ∀ k id, get? s.edgeList k = some id → get? s.rev id = some k
  edge_of_rev : ∀ k id, get? s.rev id = some k → get? s.edgeList k = some id
  id_lt : ∀ id k, get? s.rev id = some k → id < s.nextId
  key_wf : ∀ id k, get? s.rev id = some k → KeyWF k
  weights_same : ∀ id, (get? s.weights id).isSome = (get? s.rev id).isSome
  emeta_same : ∀ id, (get? s.emeta id).isSome = (get? s.rev id).isSome
  nd_edge : (keys s.edgeList).Nodup
  nd_rev : (keys s.rev).Nodup
  nd_w : (keys s.weights).Nodup
  nd_em : (keys s.emeta).Nodup

/-- the three node tables have the same duplicate-free key set
    (the fields `adj_same`, `nmeta_same`, `nd_adjS`, `nd_adjT`, `nd_nm` of `Inv`) -/
structure Rows (s : Store) : Prop where
  adj_same : ∀ n, (get? s.adjT n).isSome = (get? s.adjS n).isSome
  nmeta_same : ∀ n, (get? s.nmeta n).isSome = (get? s.adjS n).isSome
  nd_adjS : (keys s.adjS).Nodup
  nd_adjT : (keys s.adjT).Nodup
  nd_nm : (keys s.nmeta).Nodup

theorem Inv.tables {s : Store} (h : Inv s) : EdgeTables s :=
  ⟨h.rev_of_edge, h.edge_of_rev, h.id_lt, h.key_wf, h.weights_same, h.emeta_same, h.nd_edge, h.nd_rev, h.nd_w, h.nd_em⟩

theorem Inv.rows {s : Store} (h : Inv s) : Rows s := ⟨h.adj_same, h.nmeta_same, h.nd_adjS, h.nd_adjT, h.nd_nm⟩

theorem Inv.indexS {s : Store} (h : Inv s) : Index (· ≠ ·) s.rev (·.1) s.adjS :=
  ⟨h.adjS_nodup, h.adjS_iff, fun id k hk n hn => h.nodes_in id k hk n (Or.inl hn)⟩

theorem Inv.indexT {s : Store} (h : Inv s) : Index (· ≠ ·) s.rev (·.2) s.adjT :=
  ⟨h.adjT_nodup, h.adjT_iff, fun id k hk n hn => (h.adj_same n).trans (h.nodes_in id k hk n (Or.inr hn))⟩

theorem Inv.of_parts {s : Store} (t : EdgeTables s) (iS : Index (· ≠ ·) s.rev (·.1) s.adjS)
    (iT : Index (· ≠ ·) s.rev (·.2) s.adjT) (r : Rows s) : Inv s :=
  { rev_of_edge := t.rev_of_edge, edge_of_rev := t.edge_of_rev, id_lt := t.id_lt, key_wf := t.key_wf
    adjS_nodup := iS.sorted, adjS_iff := iS.mem_iff, adjT_nodup := iT.sorted, adjT_iff := iT.mem_iff
    nodes_in := fun id k hk n hn => hn.elim (iS.dom id k hk n) fun hn => (r.adj_same n).symm.trans (iT.dom id k hk n hn)
    adj_same := r.adj_same, nmeta_same := r.nmeta_same
    weights_same := t.weights_same, emeta_same := t.emeta_same
    nd_edge := t.nd_edge, nd_rev := t.nd_rev, nd_w := t.nd_w, nd_em := t.nd_em
    nd_adjS := r.nd_adjS, nd_adjT := r.nd_adjT, nd_nm := r.nd_nm }

theorem Inv.fresh {s : Store} (h : Inv s) : get? s.rev s.nextId = none := by
  cases hr : get? s.rev s.nextId with
  | none => rfl
  | some e => exact absurd (h.id_lt _ _ hr) (Nat.lt_irrefl _)

theorem Inv.id_inj {s : Store} (h : Inv s) (p : Key × Nat) (hp : p ∈ s.edgeList) (k : Key) (id : Nat)
    (hk : get? s.edgeList k = some id) : p.1 = k ↔ p.2 = id := by
  have hg : get? s.edgeList p.1 = some p.2 := get?_of_mem _ _ _ h.nd_edge hp
  constructor
  · intro hc; rw [hc, hk] at hg; exact (Option.some.inj hg).symm
  · intro hc
    have h1 := h.rev_of_edge _ _ hg
    have h2 := h.rev_of_edge _ _ hk
    rw [hc, h2] at h1; exact (Option.some.inj h1).symm

theorem EdgeTables.core {s : Store} (t : EdgeTables s) : IdTables s.edgeList s.rev s.nextId := ⟨t.rev_of_edge, t.edge_of_rev, t.id_lt⟩

theorem EdgeTables.of_eq {s s' : Store} (t : EdgeTables s) (f1 : s'.edgeList = s.edgeList) (f2 : s'.rev = s.rev)
    (f3 : s'.weights = s.weights) (f4 : s'.emeta = s.emeta) (f5 : s'.nextId = s.nextId) : EdgeTables s' := by
  constructor
  · rw [f1, f2]; exact t.rev_of_edge
  · rw [f1, f2]; exact t.edge_of_rev
  · rw [f2, f5]; exact t.id_lt
  · rw [f2]; exact t.key_wf
  · rw [f3, f2]; exact t.weights_same
  · rw [f4, f2]; exact t.emeta_same
  · rw [f1]; exact t.nd_edge
  · rw [f2]; exact t.nd_rev
  · rw [f3]; exact t.nd_w
  · rw [f4]; exact t.nd_em

theorem EdgeTables.insert {s s' : Store} (t : EdgeTables s) {k : Key} (hk : KeyWF k) (hget : get? s.edgeList k = none)
    {w : Int} {md : Meta} (f1 : s'.edgeList = AL.set s.edgeList k s.nextId) (f2 : s'.rev = AL.set s.rev s.nextId k)
    (f3 : s'.weights = AL.set s.weights s.nextId w) (f4 : s'.emeta = AL.set s.emeta s.nextId md)
    (f5 : s'.nextId = s.nextId + 1) : EdgeTables s' := by
  have hT : IdTables s'.edgeList s'.rev s'.nextId :=
    f5 ▸ t.core.insert hget (fun k' => f1 ▸ get?_set s.edgeList k k' s.nextId) fun i => f2 ▸ get?_set s.rev s.nextId i k
  refine ⟨hT.rev_of_edge, hT.edge_of_rev, hT.id_lt, ?_, ?_, ?_, ?_, ?_, ?_, ?_⟩
  · rw [f2]; exact forall_get?_set s.rev s.nextId k (fun _ k' => KeyWF k') hk t.key_wf
  · intro id'
    rw [f3, f2, get?_set, get?_set]; split
    · rfl
    · exact t.weights_same id'
  · intro id'
    rw [f4, f2, get?_set, get?_set]; split
    · rfl
    · exact t.emeta_same id'
  · rw [f1]; exact keys_set_nodup _ _ _ t.nd_edge
  · rw [f2]; exact keys_set_nodup _ _ _ t.nd_rev
  · rw [f3]; exact keys_set_nodup _ _ _ t.nd_w
  · rw [f4]; exact keys_set_nodup _ _ _ t.nd_em

theorem EdgeTables.erase {s s' : Store} (t : EdgeTables s) {k : Key} {id : Nat} (hk : get? s.edgeList k = some id)
    (f1 : s'.edgeList = AL.erase s.edgeList k) (f2 : s'.rev = AL.erase s.rev id)
    (f3 : s'.weights = AL.erase s.weights id) (f4 : s'.emeta = AL.erase s.emeta id)
    (f5 : s'.nextId = s.nextId) : EdgeTables s' := by
  have hT : IdTables s'.edgeList s'.rev s'.nextId :=
    f5 ▸ t.core.erase hk (fun k' => f1 ▸ get?_erase s.edgeList k k' t.nd_edge) fun i => f2 ▸ get?_erase s.rev id i t.nd_rev
  refine ⟨hT.rev_of_edge, hT.edge_of_rev, hT.id_lt, ?_, ?_, ?_, ?_, ?_, ?_, ?_⟩
  · rw [f2]; exact forall_get?_erase s.rev id t.nd_rev (fun _ k' => KeyWF k') t.key_wf
  · intro id'
    rw [f3, f2, get?_erase _ _ _ t.nd_w, get?_erase _ _ _ t.nd_rev]; split
    · rfl
    · exact t.weights_same id'
  · intro id'
    rw [f4, f2, get?_erase _ _ _ t.nd_em, get?_erase _ _ _ t.nd_rev]; split
    · rfl
    · exact t.emeta_same id'
  · rw [f1]; exact keys_erase_nodup _ _ t.nd_edge
  · rw [f2]; exact keys_erase_nodup _ _ t.nd_rev
  · rw [f3]; exact keys_erase_nodup _ _ t.nd_w
  · rw [f4]; exact keys_erase_nodup _ _ t.nd_em

theorem Rows.of_eq {s s' : Store} (h : Rows s) (e1 : s'.adjS = s.adjS) (e2 : s'.adjT = s.adjT)
    (e3 : s'.nmeta = s.nmeta) : Rows s' := by
  constructor
  · rw [e1, e2]; exact h.adj_same
  · rw [e1, e3]; exact h.nmeta_same
  · rw [e1]; exact h.nd_adjS
  · rw [e2]; exact h.nd_adjT
  · rw [e3]; exact h.nd_nm

theorem Rows.pushS {s : Store} (h : Rows s) (n : Node) (id : Nat) (hn : (get? s.adjS n).isSome) :
    Rows { s with adjS := pushId s.adjS n id } :=
  ⟨fun m => (h.adj_same m).trans (isSome_set_of_isSome _ _ _ hn m).symm,
   fun m => (h.nmeta_same m).trans (isSome_set_of_isSome _ _ _ hn m).symm,
   keys_set_nodup _ _ _ h.nd_adjS, h.nd_adjT, h.nd_nm⟩

theorem Rows.pushT {s : Store} (h : Rows s) (n : Node) (id : Nat) (hn : (get? s.adjT n).isSome) :
    Rows { s with adjT := pushId s.adjT n id } :=
  ⟨fun m => (isSome_set_of_isSome _ _ _ hn m).trans (h.adj_same m), h.nmeta_same, h.nd_adjS,
   keys_set_nodup _ _ _ h.nd_adjT, h.nd_nm⟩

theorem Rows.set_nmeta {s : Store} (h : Rows s) (n : Node) (md : Meta) (hn : (get? s.nmeta n).isSome) :
    Rows { s with nmeta := AL.set s.nmeta n md } :=
  ⟨h.adj_same, fun m => (isSome_set_of_isSome _ _ _ hn m).trans (h.nmeta_same m), h.nd_adjS, h.nd_adjT,
   keys_set_nodup _ _ _ h.nd_nm⟩

theorem ensureNode_adjS (s : Store) (n m : Node) :
    get? (ensureNode s n).adjS m = if m = n then some ((get? s.adjS n).getD []) else get? s.adjS m := by
  unfold ensureNode
  cases h : get? s.adjS n with
  | none => simp [has, h, get?_set]; grind
  | some ids => simp [has, h]; grind

theorem ensureNode_adjT (s : Store) (n m : Node) :
    get? (ensureNode s n).adjT m = if m = n ∧ get? s.adjS n = none then some [] else get? s.adjT m := by
  unfold ensureNode
  cases h : get? s.adjS n with
  | none => simp [has, h, get?_set]; grind
  | some ids => simp [has, h]

theorem ensureNode_nmeta (s : Store) (n m : Node) :
    get? (ensureNode s n).nmeta m = if m = n ∧ get? s.adjS n = none then some [] else get? s.nmeta m := by
  unfold ensureNode
  cases h : get? s.adjS n with
  | none => simp [has, h, get?_set]; grind
  | some ids => simp [has, h]

theorem ensureNode_fields (s : Store) (n : Node) :
    (ensureNode s n).edgeList = s.edgeList ∧ (ensureNode s n).rev = s.rev ∧ (ensureNode s n).weights = s.weights ∧
    (ensureNode s n).emeta = s.emeta ∧ (ensureNode s n).nextId = s.nextId ∧ (ensureNode s n).weighted = s.weighted ∧
    (ensureNode s n).hmeta = s.hmeta := by
  unfold ensureNode; split <;> simp

theorem ensureNode_rows (s : Store) (n : Node) (h : Rows s) : Rows (ensureNode s n) := by
  unfold ensureNode; split
  · exact h
  · refine ⟨fun m => ?_, fun m => ?_, keys_set_nodup _ _ _ h.nd_adjS, keys_set_nodup _ _ _ h.nd_adjT, keys_set_nodup _ _ _ h.nd_nm⟩
    · simp only [get?_set]; split
      · rfl
      · exact h.adj_same m
    · simp only [get?_set]; split
      · rfl
      · exact h.nmeta_same m

theorem addNode_adjS (s : Store) (n : Node) (md : Option Meta) (m : Node) :
    get? (addNode s n md).adjS m = if m = n then some ((get? s.adjS n).getD []) else get? s.adjS m := by
  unfold addNode; simp only []; split <;> simp [ensureNode_adjS]

theorem addNode_adjT (s : Store) (n : Node) (md : Option Meta) (m : Node) :
    get? (addNode s n md).adjT m = if m = n ∧ get? s.adjS n = none then some [] else get? s.adjT m := by
  unfold addNode; simp only []; split <;> simp [ensureNode_adjT]

theorem addNode_fields (s : Store) (n : Node) (md : Option Meta) :
    (addNode s n md).edgeList = s.edgeList ∧ (addNode s n md).rev = s.rev ∧ (addNode s n md).weights = s.weights ∧
    (addNode s n md).emeta = s.emeta ∧ (addNode s n md).nextId = s.nextId ∧ (addNode s n md).weighted = s.weighted ∧
    (addNode s n md).hmeta = s.hmeta := by
  have := ensureNode_fields s n
  unfold addNode; simp only []; split <;> simp [this]

theorem addNode_rows (s : Store) (n : Node) (md : Option Meta) (h : Rows s) : Rows (addNode s n md) := by
  have h1 := ensureNode_rows s n h
  unfold addNode; simp only []; split
  · next hg => exact h1.set_nmeta n _ (by rw [hg]; rfl)
  · exact h1

theorem addNode_rowS (s : Store) (n : Node) (md : Option Meta) (m : Node) :
    (get? (addNode s n md).adjS m).getD [] = (get? s.adjS m).getD [] := by
  rw [addNode_adjS]; split
  · next h => rw [h]; rfl
  · rfl

theorem addNode_rowT (s : Store) (n : Node) (md : Option Meta) (h : Rows s) (m : Node) :
    (get? (addNode s n md).adjT m).getD [] = (get? s.adjT m).getD [] := by
  rw [addNode_adjT]; split
  · next hc =>
    have := h.adj_same n
    rw [hc.2] at this
    have hT : get? s.adjT n = none := Option.not_isSome_iff_eq_none.mp (by rw [this]; exact Bool.false_ne_true)
    rw [hc.1, hT]; rfl
  · rfl

theorem addNode_domS (s : Store) (n : Node) (md : Option Meta) (m : Node) :
    (get? (addNode s n md).adjS m).isSome ↔ m = n ∨ (get? s.adjS m).isSome := by
  rw [addNode_adjS]; split
  · next h => exact ⟨fun _ => Or.inl h, fun _ => rfl⟩
  · next h => exact (or_iff_right h).symm

theorem addNode_present (s : Store) (n : Node) (md : Option Meta) (m : Node) (hm : (get? s.adjS m).isSome) :
    (get? (addNode s n md).adjS m).isSome :=
  (addNode_domS s n md m).mpr (Or.inr hm)

theorem addNode_nmeta_other (s : Store) (n : Node) (md : Option Meta) (m : Node) (h : m ≠ n) :
    get? (addNode s n md).nmeta m = get? s.nmeta m := by
  unfold addNode; simp only []; split
  · simp [get?_set, Ne.symm h, ensureNode_nmeta, h]
  · simp [ensureNode_nmeta, h]

/-- `add_node(node)` (no metadata, as called from `add_edge`) leaves the metadata of a present node alone -/
theorem addNode_none_nmeta_present (s : Store) (n m : Node) (hm : (get? s.adjS m).isSome) :
    get? (addNode s n none).nmeta m = get? s.nmeta m := by
  by_cases h : m = n
  · subst h
    unfold addNode; simp only []
    have he : get? (ensureNode s m).nmeta m = get? s.nmeta m := by
      rw [ensureNode_nmeta]; cases hh : get? s.adjS m <;> simp_all
    split
    · rename_i h1; rw [he] at h1; simp [h1]
    · exact he
  · exact addNode_nmeta_other s n none m h

/-- `add_node` leaves a stored metadata value other than `{}` alone, whatever node and metadata it is called with -/
theorem addNode_nmeta_keep (s : Store) (n : Node) (md' : Option Meta) (m : Node) (md : Meta) (hp : (get? s.adjS m).isSome)
    (hg : get? s.nmeta m = some md) (hne : md ≠ []) : get? (addNode s n md').nmeta m = some md := by
  by_cases h : m = n
  · subst h
    unfold addNode; simp only []
    have he : get? (ensureNode s m).nmeta m = some md := by
      rw [ensureNode_nmeta]; cases hh : get? s.adjS m <;> simp_all
    split
    · next h1 => rw [he] at h1; exact absurd (Option.some.inj h1) hne
    · exact he
  · rw [addNode_nmeta_other s n md' m h]; exact hg

theorem addNode_inv (s : Store) (n : Node) (md : Option Meta) (h : Inv s) : Inv (addNode s n md) := by
  obtain ⟨f1, f2, f3, f4, f5, _, _⟩ := addNode_fields s n md
  have r := addNode_rows s n md h.rows
  refine Inv.of_parts (h.tables.of_eq f1 f2 f3 f4 f5) ?_ ?_ r
  · rw [f2]; exact h.indexS.touch (addNode_adjS s n md)
  · rw [f2]; exact h.indexT.congr (addNode_rowT s n md h.rows) fun m hm =>
      (r.adj_same m).trans (addNode_present s n md m ((h.adj_same m).symm.trans hm))

theorem pushId_get (adj : Adj) (n : Node) (id : Nat) (m : Node) :
    get? (pushId adj n id) m = if m = n then some ((get? adj n).getD [] ++ [id]) else get? adj m := by
  unfold pushId; rw [get?_set]; grind

theorem pushId_row (adj adj0 : Adj) (n : Node) (id : Nat) (h : ∀ m, (get? adj m).getD [] = (get? adj0 m).getD []) (m : Node) :
    (get? (pushId adj n id) m).getD [] = if m = n then (get? adj0 m).getD [] ++ [id] else (get? adj0 m).getD [] := by
  rw [pushId_get]; split
  · next hm => rw [hm, h]; rfl
  · exact h m

theorem addNode_has (s : Store) (n : Node) (md : Option Meta) : (get? (addNode s n md).adjS n).isSome :=
  (addNode_domS s n md n).mpr (Or.inl rfl)

/-- what a linking loop of `add_edge` does, for both roles (`sel`: the table whose rows get `id`, `oth`: the other one):
    `s'` is `s` after `add_node` of each of `ns` and `id` appended to their rows -/
structure Linked (sel oth : Store → Adj) (id : Nat) (ns : List Node) (s s' : Store) : Prop where
  fields : s'.edgeList = s.edgeList ∧ s'.rev = s.rev ∧ s'.weights = s.weights ∧ s'.emeta = s.emeta ∧
    s'.nextId = s.nextId ∧ s'.weighted = s.weighted ∧ s'.hmeta = s.hmeta
  rows : Rows s → Rows s'
  row : Rows s → ns.Nodup → ∀ m, (get? (sel s') m).getD [] =
    if m ∈ ns then (get? (sel s) m).getD [] ++ [id] else (get? (sel s) m).getD []
  rowOth : Rows s → ∀ m, (get? (oth s') m).getD [] = (get? (oth s) m).getD []
  dom : ∀ m, (get? s'.adjS m).isSome ↔ m ∈ ns ∨ (get? s.adjS m).isSome
  nmeta : ∀ m, (get? s.adjS m).isSome → get? s'.nmeta m = get? s.nmeta m

theorem Linked.nil (sel oth : Store → Adj) (id : Nat) (s : Store) : Linked sel oth id [] s s :=
  ⟨⟨rfl, rfl, rfl, rfl, rfl, rfl, rfl⟩, fun r => r, fun _ _ _ => rfl, fun _ _ => rfl, fun _ => by simp, fun _ _ => rfl⟩

/-- one turn of the loop, then the rest; the head is not in the rest, so its row is pushed once -/
theorem Linked.cons {sel oth : Store → Adj} {id : Nat} {n : Node} {ns : List Node} {s s1 s' : Store}
    (a : Linked sel oth id [n] s s1) (b : Linked sel oth id ns s1 s') : Linked sel oth id (n :: ns) s s' := by
  obtain ⟨a1, a2, a3, a4, a5, a6, a7⟩ := a.fields
  obtain ⟨b1, b2, b3, b4, b5, b6, b7⟩ := b.fields
  refine ⟨⟨b1.trans a1, b2.trans a2, b3.trans a3, b4.trans a4, b5.trans a5, b6.trans a6, b7.trans a7⟩,
    fun r => b.rows (a.rows r), fun r hnd m => ?_, fun r m => (b.rowOth (a.rows r) m).trans (a.rowOth r m), fun m => ?_,
    fun m hm => (b.nmeta m ((a.dom m).mpr (Or.inr hm))).trans (a.nmeta m hm)⟩
  · have hn := List.nodup_cons.mp hnd
    rw [b.row (a.rows r) hn.2, a.row r (List.nodup_cons.mpr ⟨List.not_mem_nil, List.nodup_nil⟩)]
    by_cases hm : m = n
    · rw [hm, if_neg hn.1, if_pos List.mem_cons_self, if_pos List.mem_cons_self]
    · simp only [hm, List.mem_cons, List.mem_nil_iff, or_false, false_or, if_false]
  · rw [b.dom, a.dom]; simp only [List.mem_cons, List.mem_nil_iff, or_false]; rw [or_left_comm, or_assoc]

theorem linkS_one (s : Store) (id : Nat) (n : Node) :
    Linked (·.adjS) (·.adjT) id [n] s { addNode s n none with adjS := pushId (addNode s n none).adjS n id } := by
  refine ⟨addNode_fields s n none, fun r => (addNode_rows s n none r).pushS n id (addNode_has s n none), fun _ _ m => ?_,
    fun r m => addNode_rowT s n none r m, fun m => ?_, fun m hm => addNode_none_nmeta_present s n m hm⟩
  · show (get? (pushId (addNode s n none).adjS n id) m).getD [] = _
    rw [pushId_row _ s.adjS n id (addNode_rowS s n none)]; simp only [List.mem_cons, List.mem_nil_iff, or_false]
  · show (get? (pushId (addNode s n none).adjS n id) m).isSome ↔ _
    simp only [pushId, isSome_set_of_isSome _ _ _ (addNode_has s n none), addNode_domS, List.mem_cons,
      List.mem_nil_iff, or_false]

theorem linkT_one (s : Store) (id : Nat) (n : Node) :
    Linked (·.adjT) (·.adjS) id [n] s { addNode s n none with adjT := pushId (addNode s n none).adjT n id } := by
  have hT : ∀ r : Rows s, (get? (addNode s n none).adjT n).isSome := fun r => by
    rw [(addNode_rows s n none r).adj_same]; exact addNode_has s n none
  refine ⟨addNode_fields s n none, fun r => (addNode_rows s n none r).pushT n id (hT r), fun r _ m => ?_,
    fun _ m => addNode_rowS s n none m, fun m => ?_, fun m hm => addNode_none_nmeta_present s n m hm⟩
  · show (get? (pushId (addNode s n none).adjT n id) m).getD [] = _
    rw [pushId_row _ s.adjT n id (addNode_rowT s n none r)]; simp only [List.mem_cons, List.mem_nil_iff, or_false]
  · show (get? (addNode s n none).adjS m).isSome ↔ _
    simp only [addNode_domS, List.mem_cons, List.mem_nil_iff, or_false]

theorem linkSrc_linked (s : Store) (id : Nat) (ns : List Node) : Linked (·.adjS) (·.adjT) id ns s (linkSrc s id ns) := by
  induction ns generalizing s with
  | nil => exact Linked.nil _ _ id s
  | cons n ns ih => exact (linkS_one s id n).cons (ih _)

theorem linkTgt_linked (s : Store) (id : Nat) (ns : List Node) : Linked (·.adjT) (·.adjS) id ns s (linkTgt s id ns) := by
  induction ns generalizing s with
  | nil => exact Linked.nil _ _ id s
  | cons n ns ih => exact (linkT_one s id n).cons (ih _)

/-- the store after the table updates of `addEdgeNew`, before the two linking loops -/
def fileKey (s : Store) (k : Key) (wt : Int) : Store :=
  { s with edgeList := AL.set s.edgeList k s.nextId, rev := AL.set s.rev s.nextId k,
           weights := AL.set s.weights s.nextId (if s.weighted then wt else one), nextId := s.nextId + 1 }

theorem addEdgeNew_fields (s : Store) (k : Key) (wt : Int) (md : Meta) :
    (addEdgeNew s k wt md).edgeList = AL.set s.edgeList k s.nextId ∧
    (addEdgeNew s k wt md).rev = AL.set s.rev s.nextId k ∧
    (addEdgeNew s k wt md).weights = AL.set s.weights s.nextId (if s.weighted then wt else one) ∧
    (addEdgeNew s k wt md).emeta = AL.set s.emeta s.nextId md ∧
    (addEdgeNew s k wt md).nextId = s.nextId + 1 ∧ (addEdgeNew s k wt md).weighted = s.weighted ∧
    (addEdgeNew s k wt md).hmeta = s.hmeta := by
  obtain ⟨a1, a2, a3, a4, a5, a6, a7⟩ := (linkSrc_linked (fileKey s k wt) s.nextId k.1).fields
  obtain ⟨b1, b2, b3, b4, b5, b6, b7⟩ := (linkTgt_linked (linkSrc (fileKey s k wt) s.nextId k.1) s.nextId k.2).fields
  refine ⟨b1.trans a1, b2.trans a2, b3.trans a3, ?_, b5.trans a5, b6.trans a6, b7.trans a7⟩
  show AL.set (linkTgt (linkSrc (fileKey s k wt) s.nextId k.1) s.nextId k.2).emeta s.nextId md = _
  rw [b4, a4]; rfl

theorem addEdgeNew_adjS_eq (s : Store) (k : Key) (wt : Int) (md : Meta) :
    (addEdgeNew s k wt md).adjS = (linkTgt (linkSrc (fileKey s k wt) s.nextId k.1) s.nextId k.2).adjS := rfl
theorem addEdgeNew_adjT_eq (s : Store) (k : Key) (wt : Int) (md : Meta) :
    (addEdgeNew s k wt md).adjT = (linkTgt (linkSrc (fileKey s k wt) s.nextId k.1) s.nextId k.2).adjT := rfl
theorem addEdgeNew_nmeta_eq (s : Store) (k : Key) (wt : Int) (md : Meta) :
    (addEdgeNew s k wt md).nmeta = (linkTgt (linkSrc (fileKey s k wt) s.nextId k.1) s.nextId k.2).nmeta := rfl

theorem fileKey_rows (s : Store) (k : Key) (wt : Int) (h : Rows s) : Rows (fileKey s k wt) := h.of_eq rfl rfl rfl

theorem addEdgeNew_rows (s : Store) (k : Key) (wt : Int) (md : Meta) (h : Rows s) : Rows (addEdgeNew s k wt md) :=
  ((linkTgt_linked _ _ _).rows ((linkSrc_linked _ _ _).rows (fileKey_rows s k wt h))).of_eq rfl rfl rfl

theorem addEdgeNew_rowS (s : Store) (k : Key) (wt : Int) (md : Meta) (h : Rows s) (hS : k.1.Nodup) (m : Node) :
    (get? (addEdgeNew s k wt md).adjS m).getD [] =
      if m ∈ k.1 then (get? s.adjS m).getD [] ++ [s.nextId] else (get? s.adjS m).getD [] := by
  have h1 := fileKey_rows s k wt h
  rw [addEdgeNew_adjS_eq, (linkTgt_linked _ _ _).rowOth ((linkSrc_linked _ _ _).rows h1), (linkSrc_linked _ _ _).row h1 hS]; rfl

theorem addEdgeNew_rowT (s : Store) (k : Key) (wt : Int) (md : Meta) (h : Rows s) (hT : k.2.Nodup) (m : Node) :
    (get? (addEdgeNew s k wt md).adjT m).getD [] =
      if m ∈ k.2 then (get? s.adjT m).getD [] ++ [s.nextId] else (get? s.adjT m).getD [] := by
  have h1 := fileKey_rows s k wt h
  rw [addEdgeNew_adjT_eq, (linkTgt_linked _ _ _).row ((linkSrc_linked _ _ _).rows h1) hT, (linkSrc_linked _ _ _).rowOth h1]; rfl

theorem addEdgeNew_domS (s : Store) (k : Key) (wt : Int) (md : Meta) (m : Node) :
    (get? (addEdgeNew s k wt md).adjS m).isSome ↔ m ∈ k.2 ∨ m ∈ k.1 ∨ (get? s.adjS m).isSome := by
  rw [addEdgeNew_adjS_eq, (linkTgt_linked _ _ _).dom, (linkSrc_linked _ _ _).dom]; rfl

theorem addEdgeNew_inv (s : Store) (k : Key) (wt : Int) (md : Meta)
    (hk : KeyWF k) (hget : get? s.edgeList k = none) (h : Inv s) : Inv (addEdgeNew s k wt md) := by
  obtain ⟨f1, f2, f3, f4, f5, _, _⟩ := addEdgeNew_fields s k wt md
  have r := addEdgeNew_rows s k wt md h.rows
  have hlt : ∀ i k', get? s.rev i = some k' → i ≠ s.nextId := fun i k' hi => Nat.ne_of_lt (h.id_lt i k' hi)
  have hrev : ∀ i, get? (addEdgeNew s k wt md).rev i = if s.nextId = i then some k else get? s.rev i :=
    fun i => f2 ▸ get?_set s.rev s.nextId i k
  refine Inv.of_parts (h.tables.insert hk hget f1 f2 f3 f4 f5) ?_ ?_ r
  · exact h.indexS.push h.fresh hlt hrev (addEdgeNew_rowS s k wt md h.rows hk.nodupS) fun n hn =>
      (addEdgeNew_domS s k wt md n).mpr (Or.inr hn)
  · exact h.indexT.push h.fresh hlt hrev (addEdgeNew_rowT s k wt md h.rows hk.nodupT) fun n hn =>
      (r.adj_same n).trans ((addEdgeNew_domS s k wt md n).mpr (hn.imp_right fun hn => Or.inr ((h.adj_same n).symm.trans hn)))

theorem Inv.set_weights {s : Store} (h : Inv s) (id : Nat) (w : Int) (hid : (get? s.weights id).isSome) :
    Inv { s with weights := AL.set s.weights id w } :=
  { h with
    weights_same := fun id' => (isSome_set_of_isSome _ _ _ hid id').trans (h.weights_same id')
    nd_w := keys_set_nodup _ _ _ h.nd_w }

theorem Inv.set_emeta {s : Store} (h : Inv s) (id : Nat) (md : Meta) (hid : (get? s.emeta id).isSome) :
    Inv { s with emeta := AL.set s.emeta id md } :=
  { h with
    emeta_same := fun id' => (isSome_set_of_isSome _ _ _ hid id').trans (h.emeta_same id')
    nd_em := keys_set_nodup _ _ _ h.nd_em }

theorem Inv.set_nmeta {s : Store} (h : Inv s) (n : Node) (md : Meta) (hn : (get? s.nmeta n).isSome) :
    Inv { s with nmeta := AL.set s.nmeta n md } :=
  { h with
    nmeta_same := fun n' => (isSome_set_of_isSome _ _ _ hn n').trans (h.nmeta_same n')
    nd_nm := keys_set_nodup _ _ _ h.nd_nm }

theorem Inv.set_hmeta {s : Store} (h : Inv s) (md : Meta) : Inv { s with hmeta := md } := { h with }
theorem Inv.set_weighted {s : Store} (h : Inv s) (b : Bool) : Inv { s with weighted := b } := { h with }

theorem Inv.emeta_of_edge {s : Store} (h : Inv s) (k : Key) (id : Nat) (hk : get? s.edgeList k = some id) :
    (get? s.emeta id).isSome := by
  rw [h.emeta_same, h.rev_of_edge k id hk]; rfl

theorem Inv.weights_of_edge {s : Store} (h : Inv s) (k : Key) (id : Nat) (hk : get? s.edgeList k = some id) :
    (get? s.weights id).isSome := by
  rw [h.weights_same, h.rev_of_edge k id hk]; rfl

theorem addEdgeOld_inv (s : Store) (k : Key) (id : Nat) (wt : Int) (md : Meta) (h : Inv s)
    (hk : get? s.edgeList k = some id) : Inv (addEdgeOld s id wt md) := by
  have hw := h.weights_of_edge k id hk
  have h1 : Inv { s with weights := (addEdgeOld s id wt md).weights } := by
    unfold addEdgeOld; simp only []
    split
    · split
      · exact h.set_weights id _ hw
      · exact h
    · exact h
  exact h1.set_emeta id md (h.emeta_of_edge k id hk)

theorem addEdgeKey_inv (s : Store) (k : Key) (w : Option Int) (md : Option Meta) (hk : KeyWF k) (h : Inv s) :
    Inv (addEdgeKey s k w md).1 := by
  unfold addEdgeKey
  split
  · exact h
  · split
    · rename_i hget; exact addEdgeNew_inv s k _ _ hk hget h
    · rename_i id hget; exact addEdgeOld_inv s k id _ _ h hget

/-- what the property's quantifier guarantees for a hyperedge handed to `add_edge`:
    duplicate-free, disjoint, non-empty source and target listings -/
structure RawWF (e : RawEdge) : Prop where
  nodupS : e.src.toList.Nodup
  nodupT : e.tgt.toList.Nodup
  disj : ∀ n, n ∈ e.src.toList → n ∉ e.tgt.toList
  neS : e.src.toList ≠ []
  neT : e.tgt.toList ≠ []

theorem sortNodes_ne_nil {l : List Nat} (h : l ≠ []) : sortNodes l ≠ [] := sortNodes_eq ▸ NatSort.isort_ne_nil h

theorem keyWF_canonAdd (e : RawEdge) (h : RawWF e) : KeyWF (canonAdd e) := by
  unfold canonAdd
  exact ⟨sortNodes_sorted _, sortNodes_sorted _, sortNodes_nodup h.nodupS, sortNodes_nodup h.nodupT,
    fun n hn hc => h.disj n (mem_sortNodes.mp hn) (mem_sortNodes.mp hc),
    sortNodes_ne_nil h.neS, sortNodes_ne_nil h.neT⟩

theorem unlink_get (adj : Adj) (id : Nat) (ns : List Node) (hnd : ns.Nodup) (m : Node) :
    get? (unlink adj id ns) m = if m ∈ ns then (get? adj m).map (·.erase id) else get? adj m := by
  induction ns generalizing adj with
  | nil => simp [unlink]
  | cons n ns ih =>
    simp only [unlink]
    have hn : n ∉ ns := (List.nodup_cons.mp hnd).1
    rw [ih _ (List.nodup_cons.mp hnd).2]
    cases ha : get? adj n with
    | none => simp only []; grind
    | some ids => simp only [get?_set]; grind

theorem unlink_row (adj : Adj) (id : Nat) (ns : List Node) (hnd : ns.Nodup) (m : Node) :
    (get? (unlink adj id ns) m).getD [] =
      if m ∈ ns then ((get? adj m).getD []).erase id else (get? adj m).getD [] := by
  rw [unlink_get _ _ _ hnd]; split
  · cases get? adj m <;> rfl
  · rfl

theorem unlink_isSome (adj : Adj) (id : Nat) (ns : List Node) (hnd : ns.Nodup) (m : Node) :
    (get? (unlink adj id ns) m).isSome = (get? adj m).isSome := by
  rw [unlink_get _ _ _ hnd]; split
  · cases get? adj m <;> rfl
  · rfl

theorem unlink_keys (adj : Adj) (id : Nat) (ns : List Node) : keys (unlink adj id ns) = keys adj := by
  induction ns generalizing adj with
  | nil => rfl
  | cons n ns ih =>
    simp only [unlink]
    rw [ih]
    split
    · rename_i ids hh; exact keys_set_of_mem _ _ _ (by simp [hh])
    · rfl

theorem unlink_nodup (adj : Adj) (id : Nat) (ns : List Node) (h : (keys adj).Nodup) :
    (keys (unlink adj id ns)).Nodup := by
  rw [unlink_keys]; exact h

theorem removeEdgeKey_inv (s : Store) (k : Key) (h : Inv s) : Inv (removeEdgeKey s k).1 := by
  unfold removeEdgeKey
  cases hk : get? s.edgeList k with
  | none => exact h
  | some id =>
    have hr := h.rev_of_edge k id hk
    have wf := h.key_wf id k hr
    have dS := unlink_isSome s.adjS id k.1 wf.nodupS
    have dT := unlink_isSome s.adjT id k.2 wf.nodupT
    have hrev : ∀ i, get? (AL.erase s.rev id) i = if id = i then none else get? s.rev i := fun i => get?_erase s.rev id i h.nd_rev
    exact Inv.of_parts (h.tables.erase hk rfl rfl rfl rfl rfl)
      (h.indexS.erase (fun _ _ hab => hab) hr hrev (unlink_row s.adjS id k.1 wf.nodupS) fun n hn => (dS n).trans hn)
      (h.indexT.erase (fun _ _ hab => hab) hr hrev (unlink_row s.adjT id k.2 wf.nodupT) fun n hn => (dT n).trans hn)
      ⟨fun n => (dT n).trans ((h.adj_same n).trans (dS n).symm), fun n => (h.nmeta_same n).trans (dS n).symm,
        unlink_nodup _ _ _ h.nd_adjS, unlink_nodup _ _ _ h.nd_adjT, h.nd_nm⟩

theorem dropNode_inv (s : Store) (n : Node) (h : Inv s)
    (hno : ∀ id k, get? s.rev id = some k → n ∉ k.1 ∧ n ∉ k.2) : Inv (dropNode s n) := by
  have gS : ∀ m, get? (dropNode s n).adjS m = if n = m then none else get? s.adjS m :=
    fun m => get?_erase _ _ _ h.nd_adjS
  have gT : ∀ m, get? (dropNode s n).adjT m = if n = m then none else get? s.adjT m :=
    fun m => get?_erase _ _ _ h.nd_adjT
  have gN : ∀ m, get? (dropNode s n).nmeta m = if n = m then none else get? s.nmeta m :=
    fun m => get?_erase _ _ _ h.nd_nm
  refine Inv.of_parts (h.tables.of_eq rfl rfl rfl rfl rfl)
    (h.indexS.drop (fun id k hk => (hno id k hk).1) gS) (h.indexT.drop (fun id k hk => (hno id k hk).2) gT)
    ⟨fun m => ?_, fun m => ?_, keys_erase_nodup _ _ h.nd_adjS, keys_erase_nodup _ _ h.nd_adjT,
      keys_erase_nodup _ _ h.nd_nm⟩
  · rw [gS, gT]; split
    · rfl
    · exact h.adj_same m
  · rw [gS, gN]; split
    · rfl
    · exact h.nmeta_same m

/-- `P` entails the representation invariant, holds of the empty object whatever its id counter (a new object, or
    what `clear()` leaves: `clear_eq`) and is kept by each of the steps the public calls are made of (`dropNode` once no
    stored key mentions the node; a weight other than 1 only when weighted).
    Such a `P` holds of every object of every history: `applyOp_pres`, `runCmds_pres` in `C02NodeRef`. -/
structure Pres (P : Store → Prop) : Prop where
  inv : ∀ {s}, P s → Inv s
  empty : ∀ w i hm, P { weighted := w, nextId := i, hmeta := hm }
  addNode : ∀ s n md, P s → P (addNode s n md)
  addEdgeKey : ∀ s k w md, KeyWF k → P s → P (addEdgeKey s k w md).1
  removeEdgeKey : ∀ s k, P s → P (removeEdgeKey s k).1
  dropNode : ∀ s n, (∀ id k, get? s.rev id = some k → n ∉ k.1 ∧ n ∉ k.2) → P s → P (dropNode s n)
  setWeight : ∀ s k id w, get? s.edgeList k = some id → (s.weighted = false → w = one) → P s →
    P { s with weights := AL.set s.weights id w }
  setEmeta : ∀ s k id md, get? s.edgeList k = some id → P s → P { s with emeta := AL.set s.emeta id md }
  setNmeta : ∀ s n md, (get? s.adjS n).isSome → P s → P { s with nmeta := AL.set s.nmeta n md }
  setHmeta : ∀ s md, P s → P { s with hmeta := md }
  setFlag : ∀ s, P s → P { s with weighted := true }

theorem Inv.pres : Pres Inv where
  inv h := h
  empty := inv_empty
  addNode := addNode_inv
  addEdgeKey := addEdgeKey_inv
  removeEdgeKey := removeEdgeKey_inv
  dropNode s n hno h := dropNode_inv s n h hno
  setWeight s k id w hk _ h := h.set_weights id w (h.weights_of_edge k id hk)
  setEmeta s k id md hk h := h.set_emeta id md (h.emeta_of_edge k id hk)
  setNmeta s n md hn h := h.set_nmeta n md (by rw [h.nmeta_same]; exact hn)
  setHmeta _ md h := h.set_hmeta md
  setFlag _ h := h.set_weighted true

end C02
