import Hgxv.Proofs.C02Step
/-! C02: removal and re-insertion of hyperedges keep every `P` with `Pres P` and commute with the abstraction (`removeEdge_sim`,
`removeEdges_sim`, `removeKeys_sim`, `reinsert_sim`, `reinsertAll_sim`); `remove_node` (both `keep_edges` modes) keeps `P` and leaves no
trace of the node (`removeNode_pres`; that it commutes with the abstraction needs `Ord`: `abs_removeNode` in `C02NodeRef`). -/
namespace C02
open AL

theorem keysOfIds_eq (s : Store) (t : Option Nat) (ids : List Nat) (hall : ∀ id ∈ ids, (get? s.rev id).isSome) :
    keysOfIds s t ids = some ((ids.filterMap (get? s.rev)).filter (passes t false)) := by
  induction ids with
  | nil => simp [keysOfIds]
  | cons i is ih =>
    have h1 := hall i (List.mem_cons_self)
    have h2 := ih (fun id hid => hall id (List.mem_cons_of_mem _ hid))
    simp only [keysOfIds, h2]
    cases hr : get? s.rev i with
    | none => rw [hr] at h1; cases h1
    | some k =>
      simp only [List.filterMap_cons, hr]
      by_cases hp : passes t false k <;> simp [hp]

/-- `get_source_edges` / `get_target_edges` with the adjacency table as a parameter -/
def roleEdges (s : Store) (adj : Adj) (n : Node) (f : Filt) : Option (List Key) :=
  match get? adj n, f.target with
  | some ids, some t => keysOfIds s t ids
  | _, _ => none

theorem sourceEdges_eq_role (s : Store) (n : Node) (f : Filt) : sourceEdges s n f = roleEdges s s.adjS n f := rfl
theorem targetEdges_eq_role (s : Store) (n : Node) (f : Filt) : targetEdges s n f = roleEdges s s.adjT n f := rfl

theorem _root_.AL.Index.roleEdges_eq {s : Store} {R : Nat → Nat → Prop} {proj : Key → List Node} {adj : Adj} (hi : Index R s.rev proj adj) (n : Node)
    (ids : List Nat) (hn : get? adj n = some ids) (f : Filt) (t : Option Nat) (hf : f.target = some t) :
    roleEdges s adj n f = some ((ids.filterMap (get? s.rev)).filter (passes t false)) := by
  unfold roleEdges
  rw [hn, hf]
  refine keysOfIds_eq s t ids fun id hid => ?_
  obtain ⟨k, hk, _⟩ := (hi.mem_iff n ids hn id).mp hid
  rw [hk]; rfl

/-- under the invariant `get_source_edges(node)` is defined for every present node and every admissible filter -/
theorem Inv.sourceEdges_eq {s : Store} (h : Inv s) (n : Node) (ids : List Nat) (hn : get? s.adjS n = some ids)
    (f : Filt) (t : Option Nat) (hf : f.target = some t) :
    sourceEdges s n f = some ((ids.filterMap (get? s.rev)).filter (passes t false)) :=
  h.indexS.roleEdges_eq n ids hn f t hf

theorem Inv.targetEdges_eq {s : Store} (h : Inv s) (n : Node) (ids : List Nat) (hn : get? s.adjT n = some ids)
    (f : Filt) (t : Option Nat) (hf : f.target = some t) :
    targetEdges s n f = some ((ids.filterMap (get? s.rev)).filter (passes t false)) :=
  h.indexT.roleEdges_eq n ids hn f t hf

theorem passes_none (b : Bool) (k : Key) : passes none b k = true := rfl

theorem mem_shrink1 (k : Key) (n m : Node) : m ∈ (shrinkKey k n).1 ↔ m ∈ k.1 ∧ m ≠ n := by
  simp [shrinkKey]
theorem mem_shrink2 (k : Key) (n m : Node) : m ∈ (shrinkKey k n).2 ↔ m ∈ k.2 ∧ m ≠ n := by
  simp [shrinkKey]

theorem keyWF_shrink (k : Key) (n : Node) (hk : KeyWF k) (h1 : (shrinkKey k n).1 ≠ []) (h2 : (shrinkKey k n).2 ≠ []) :
    KeyWF (shrinkKey k n) :=
  ⟨hk.sortedS.filter _, hk.sortedT.filter _, hk.nodupS.filter _, hk.nodupT.filter _,
   fun m hm hc => hk.disj m ((mem_shrink1 k n m).mp hm).1 ((mem_shrink2 k n m).mp hc).1, h1, h2⟩

theorem canonAdd_ofKey (k : Key) (hk : KeyWF k) : canonAdd (RawEdge.ofKey k) = k := by
  simp [canonAdd, RawEdge.ofKey, Side.toList, sortNodes_of_sorted hk.sortedS, sortNodes_of_sorted hk.sortedT]

theorem canonStrict_ofKey (k : Key) (hk : KeyWF k) : canonStrict (RawEdge.ofKey k) = some k := by
  simp [canonStrict, RawEdge.ofKey, Side.strict, sortNodes_of_sorted hk.sortedS, sortNodes_of_sorted hk.sortedT]

theorem addEdgeKey_rev (s : Store) (k : Key) (w : Option Int) (md : Option Meta) (id : Nat) (k0 : Key)
    (h : get? (addEdgeKey s k w md).1.rev id = some k0) : get? s.rev id = some k0 ∨ k0 = k := by
  unfold addEdgeKey at h
  split at h
  · exact Or.inl h
  · split at h
    · simp only [] at h
      rw [(addEdgeNew_fields s k _ _).2.1, get?_set] at h
      split at h
      · injection h with h; exact Or.inr h.symm
      · exact Or.inl h
    · exact Or.inl h

theorem removeEdge_sim {P : Store → Prop} (hP : Pres P) (s : Store) (e : RawEdge) (h : P s) :
    Sim P (removeEdge s e) (Spec.removeEdge (abs s) e) := by
  unfold removeEdge Spec.removeEdge
  cases canonStrict e with
  | none => exact Sim.rej h
  | some k => exact ⟨hP.removeEdgeKey s k h, abs_removeEdgeKey s k (hP.inv h)⟩

theorem removeEdges_sim {P : Store → Prop} (hP : Pres P) (s : Store) (es : List RawEdge) (h : P s) :
    Sim P (removeEdges s es) (Spec.removeEdges (abs s) es) := by
  rw [removeEdges_eq_foldOk, Spec.removeEdges_eq_foldOk]
  exact foldOk_Sim es (fun s e _ => removeEdge_sim hP s e) s h

theorem removeKeys_sim {P : Store → Prop} (hP : Pres P) (s : Store) (L : List Key) (h : P s) :
    Sim P (removeKeys s L) (Spec.removeKeys (abs s) L) := by
  rw [removeKeys_eq_foldOk, Spec.removeKeys_eq_foldOk]
  exact foldOk_Sim L (fun s k _ => removeEdge_sim hP s _) s h

theorem reinsert_sim {P : Store → Prop} (hP : Pres P) (s : Store) (n : Node) (k : Key) (hk : KeyWF k) (h : P s) :
    Sim P (reinsert s n k) (Spec.reinsert (abs s) n k) := by
  have hi := hP.inv h
  unfold reinsert Spec.reinsert
  simp only []
  split
  · exact Sim.ok h rfl
  · next hne =>
    simp only [Bool.or_eq_true, List.isEmpty_iff, not_or] at hne
    have wf := keyWF_shrink k n hk hne.1 hne.2
    rw [abs_get_edge]
    cases hk' : get? s.edgeList k with
    | none => simp only [weightOfKey, metaOfKey, hk', Option.map_none]; exact Sim.rej h
    | some id =>
      obtain ⟨w, hw⟩ := Option.isSome_iff_exists.mp (hi.weights_of_edge k id hk')
      obtain ⟨m, hm⟩ := Option.isSome_iff_exists.mp (hi.emeta_of_edge k id hk')
      simp only [weightOfKey, metaOfKey, hk', hw, hm, Option.map_some, Option.getD_some]
      refine ⟨?_, abs_addEdge s _ _ _ hi⟩
      unfold addEdge
      rw [canonAdd_ofKey _ wf]
      exact hP.addEdgeKey s _ _ _ wf h

theorem reinsertAll_sim {P : Store → Prop} (hP : Pres P) (s : Store) (n : Node) (L : List Key) (hL : ∀ k ∈ L, KeyWF k)
    (h : P s) : Sim P (reinsertAll s n L) (Spec.reinsertAll (abs s) n L) := by
  rw [reinsertAll_eq_foldOk, Spec.reinsertAll_eq_foldOk]
  exact foldOk_Sim L (fun s k hk => reinsert_sim hP s n k (hL k hk)) s h

/-- re-insertion never creates a table entry that mentions the node being removed -/
theorem reinsert_rev (s : Store) (n : Node) (k : Key) (hk : KeyWF k) (id : Nat) (k0 : Key)
    (h : get? (reinsert s n k).1.rev id = some k0) (hn : n ∈ k0.1 ∨ n ∈ k0.2) : get? s.rev id = some k0 := by
  unfold reinsert at h
  simp only [] at h
  split at h
  · exact h
  · rename_i hne
    have hne' : (shrinkKey k n).1 ≠ [] ∧ (shrinkKey k n).2 ≠ [] := by
      simp only [Bool.or_eq_true, List.isEmpty_iff, not_or] at hne; exact hne
    split at h
    · unfold addEdge at h
      rw [canonAdd_ofKey _ (keyWF_shrink k n hk hne'.1 hne'.2)] at h
      rcases addEdgeKey_rev s _ _ _ id k0 h with h1 | h1
      · exact h1
      · subst h1
        rcases hn with hn | hn
        · exact absurd rfl ((mem_shrink1 k n n).mp hn).2
        · exact absurd rfl ((mem_shrink2 k n n).mp hn).2
    · exact h

theorem reinsertAll_rev (s : Store) (n : Node) (L : List Key) (hL : ∀ k ∈ L, KeyWF k) (id : Nat) (k0 : Key)
    (h : get? (reinsertAll s n L).1.rev id = some k0) (hn : n ∈ k0.1 ∨ n ∈ k0.2) : get? s.rev id = some k0 := by
  induction L generalizing s with
  | nil => exact h
  | cons k ks ih =>
    simp only [reinsertAll] at h
    split at h
    · exact reinsert_rev s n k (hL k List.mem_cons_self) id k0 h hn
    · exact reinsert_rev s n k (hL k List.mem_cons_self) id k0
        (ih _ (fun k' hk' => hL k' (List.mem_cons_of_mem _ hk')) h) hn

theorem removeEdgeKey_rev (s : Store) (k : Key) (h : Inv s) (id' : Nat) (k0 : Key)
    (hh : get? (removeEdgeKey s k).1.rev id' = some k0) :
    get? s.rev id' = some k0 ∧ ((removeEdgeKey s k).2 = .ok → k0 ≠ k) := by
  unfold removeEdgeKey at hh ⊢
  cases hk : get? s.edgeList k with
  | none => rw [hk] at hh; exact ⟨hh, fun hc => by cases hc⟩
  | some id =>
    rw [hk] at hh
    have hh' : get? (AL.erase s.rev id) id' = some k0 := hh
    rw [get?_erase _ _ _ h.nd_rev] at hh'
    split at hh'
    · cases hh'
    · rename_i hid
      refine ⟨hh', fun _ hc => ?_⟩
      subst hc
      have := h.edge_of_rev _ _ hh'
      rw [hk] at this; injection this with this; exact hid this

theorem removeKeys_rev (s : Store) (L : List Key) (hL : ∀ k ∈ L, KeyWF k) (h : Inv s) (id' : Nat) (k0 : Key)
    (hh : get? (removeKeys s L).1.rev id' = some k0) :
    get? s.rev id' = some k0 ∧ ((removeKeys s L).2 = .ok → k0 ∉ L) := by
  induction L generalizing s with
  | nil => exact ⟨hh, fun _ hc => by cases hc⟩
  | cons k ks ih =>
    have wf := hL k List.mem_cons_self
    have e1 : removeEdge s (RawEdge.ofKey k) = removeEdgeKey s k := by
      unfold removeEdge; rw [canonStrict_ofKey k wf]
    simp only [removeKeys, e1] at hh ⊢
    cases ho : (removeEdgeKey s k).2 with
    | rej =>
      rw [ho] at hh
      simp only [ho]
      exact ⟨(removeEdgeKey_rev s k h id' k0 hh).1, fun hc => by cases hc⟩
    | ok =>
      rw [ho] at hh
      have h1 := removeEdgeKey_inv s k h
      obtain ⟨h2, h3⟩ := ih _ (fun k' hk' => hL k' (List.mem_cons_of_mem _ hk')) h1 hh
      obtain ⟨h4, h5⟩ := removeEdgeKey_rev s k h id' k0 h2
      refine ⟨h4, fun hok hc => ?_⟩
      rcases List.mem_cons.mp hc with hc | hc
      · exact h5 ho hc
      · exact h3 hok hc

/-- rows of the node tables are untouched by the removal of hyperedges -/
theorem removeEdgeKey_rows (s : Store) (k : Key) (h : Inv s) (m : Node) :
    (get? (removeEdgeKey s k).1.adjS m).isSome = (get? s.adjS m).isSome ∧
    (removeEdgeKey s k).1.nmeta = s.nmeta := by
  unfold removeEdgeKey
  cases hk : get? s.edgeList k with
  | none => exact ⟨rfl, rfl⟩
  | some id =>
    have wf := h.key_wf id k (h.rev_of_edge k id hk)
    exact ⟨unlink_isSome _ _ _ wf.nodupS m, rfl⟩

/-- what "the node is gone" means on the concrete store -/
structure Gone (s : Store) (n : Node) : Prop where
  adjS : get? s.adjS n = none
  adjT : get? s.adjT n = none
  nmeta : get? s.nmeta n = none
  keys : ∀ id k, get? s.rev id = some k → n ∉ k.1 ∧ n ∉ k.2

/-- `remove_node`: both batches run over well-formed keys, among them every key that mentions the node, so no key
    mentions it when its rows are deleted -/
theorem removeNode_pres {P : Store → Prop} (hP : Pres P) (s : Store) (n : Node) (keep : Bool) (hp : P s) :
    P (removeNode s n keep).1 ∧ ((removeNode s n keep).2 = .ok → Gone (removeNode s n keep).1 n) := by
  have h := hP.inv hp
  unfold removeNode
  split
  · exact ⟨hp, fun hc => by cases hc⟩
  · next hpres =>
    cases hS : get? s.adjS n with
    | none => simp [has, hS] at hpres
    | some idsS =>
    cases hT : get? s.adjT n with
    | none => simp [has, hS, hT] at hpres
    | some idsT =>
    rw [h.sourceEdges_eq n idsS hS .all none rfl, h.targetEdges_eq n idsT hT .all none rfl]
    simp only []
    have hmem : ∀ (ids : List Nat) k, k ∈ (ids.filterMap (get? s.rev)).filter (passes none false) ↔
        ∃ id ∈ ids, get? s.rev id = some k := by
      intro ids k; simp [passes_none, List.mem_filterMap]
    generalize hL : (idsS.filterMap (get? s.rev)).filter (passes none false) ++
      (idsT.filterMap (get? s.rev)).filter (passes none false) = L
    have hLwf : ∀ k ∈ L, KeyWF k := by
      intro k hk; rw [← hL, List.mem_append, hmem, hmem] at hk
      rcases hk with ⟨id, _, hid⟩ | ⟨id, _, hid⟩ <;> exact h.key_wf id k hid
    have hLall : ∀ id k, get? s.rev id = some k → (n ∈ k.1 ∨ n ∈ k.2) → k ∈ L := by
      intro id k hk hn; rw [← hL, List.mem_append, hmem, hmem]
      exact hn.imp (fun hn => ⟨id, (h.adjS_iff n idsS hS id).mpr ⟨k, hk, hn⟩, hk⟩)
        (fun hn => ⟨id, (h.adjT_iff n idsT hT id).mpr ⟨k, hk, hn⟩, hk⟩)
    have hr1 : P (if keep = true then reinsertAll s n L else (s, Out.ok)).1 := by
      split
      · exact (reinsertAll_sim hP s n L hLwf hp).1
      · exact hp
    have hr1rev : ∀ id k, get? (if keep = true then reinsertAll s n L else (s, Out.ok)).1.rev id = some k →
        (n ∈ k.1 ∨ n ∈ k.2) → get? s.rev id = some k := by
      intro id k hk hn
      split at hk
      · exact reinsertAll_rev s n L hLwf id k hk hn
      · exact hk
    generalize (if keep = true then reinsertAll s n L else (s, Out.ok)) = r1 at hr1 hr1rev
    cases ho1 : r1.2 with
    | rej => exact ⟨hr1, fun hc => by rw [ho1] at hc; cases hc⟩
    | ok =>
      simp only []
      have hr2 := (removeKeys_sim hP r1.1 L hr1).1
      have hr2rev := removeKeys_rev r1.1 L hLwf (hP.inv hr1)
      cases ho2 : (removeKeys r1.1 L).2 with
      | rej => exact ⟨hr2, fun hc => by rw [ho2] at hc; cases hc⟩
      | ok =>
        simp only []
        have hno : ∀ id k, get? (removeKeys r1.1 L).1.rev id = some k → n ∉ k.1 ∧ n ∉ k.2 := by
          intro id k hk
          obtain ⟨h1, h2⟩ := hr2rev id k hk
          have h3 := fun hn => h2 ho2 (hLall id k (hr1rev id k h1 hn) hn)
          exact ⟨fun hn => h3 (Or.inl hn), fun hn => h3 (Or.inr hn)⟩
        have i2 := hP.inv hr2
        exact ⟨hP.dropNode _ n hno hr2, fun _ => ⟨get?_erase_self _ _ i2.nd_adjS, get?_erase_self _ _ i2.nd_adjT,
          get?_erase_self _ _ i2.nd_nm, hno⟩⟩

theorem removeNodes_pres {P : Store → Prop} (hP : Pres P) (s : Store) (keep : Bool) (ns : List Node) (h : P s) :
    P (removeNodes s keep ns).1 := by
  rw [removeNodes_eq_foldOk]; exact foldOk_pres ns (fun s n _ hs => (removeNode_pres hP s n keep hs).1) s h

theorem removeNode_spec (s : Store) (n : Node) (keep : Bool) (h : Inv s) :
    Inv (removeNode s n keep).1 ∧ ((removeNode s n keep).2 = .ok → Gone (removeNode s n keep).1 n) :=
  removeNode_pres Inv.pres s n keep h

end C02
