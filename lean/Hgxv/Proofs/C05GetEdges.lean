import Hgxv.Proofs.C05Spec
import Hgxv.Model.C05GetEdges
/-! The listing answers of `get_edges`: the filtered key listing and the listing with metadata as maps over the filtered entries. -/
namespace C05

variable {κ : Type} [DecidableEq κ] [Keyed κ]

omit [Keyed κ] in
theorem listingMd_of_entries (src : Content κ) (es : List (κ × (W × Meta)))
    (h : ∀ e ∈ es, AL.get? src.edges e.1 = some e.2) :
    listingMd src (es.map (·.1)) = some (es.map (fun e => (e.1, e.2.2))) := by
  induction es with
  | nil => rfl
  | cons e rest ih =>
    have he : AL.get? src.edges e.1 = some e.2 := h e List.mem_cons_self
    have ih' := ih (fun x hx => h x (List.mem_cons_of_mem _ hx))
    unfold listingMd at ih' ⊢
    rw [List.map_cons, List.mapM_cons, ih']
    simp [getEdgeMeta, he]

theorem keysOf_filter (src : Content κ) (p : κ → Bool) :
    (keysOf src).filter p = (src.edges.filter (fun e => p e.1)).map (·.1) := by
  have h := AL.keys_filter_key p src.edges
  unfold AL.keys at h
  unfold keysOf AL.keys
  exact h.symm

theorem listingMd_filter (src : Content κ) (p : κ → Bool) (hwf : WF src) :
    listingMd src ((keysOf src).filter p) =
      some ((src.edges.filter (fun e => p e.1)).map (fun e => (e.1, e.2.2))) := by
  rw [keysOf_filter]
  apply listingMd_of_entries
  intro e he
  have hm : e ∈ src.edges := (List.mem_filter.1 he).1
  exact AL.get?_of_mem _ _ _ hwf.keys_nodup hm

end C05
