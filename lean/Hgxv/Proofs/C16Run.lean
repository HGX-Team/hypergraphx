import Hgxv.Proofs.C16Sample
import Hgxv.Proofs.C16Deg
import Hgxv.Model.C16Run
/-! # C16 — whole runs over hypergraphs with hyperedges of any size

The same reading yield by yield for `sampleFromConfigD`.  Core Lean only. -/
namespace C16

theorem outputStageR_agrees (cfg : Config) (qs : List Nat) (labels : Option (List Nat))
    (h2 : ∀ e ∈ cfg, 2 ≤ e.length) : outputStageR cfg qs labels = outputStage cfg (truncWeights qs) labels := by
  unfold outputStageR
  by_cases hl : qs.length = cfg.length
  · rw [if_pos hl, outputStageD_agrees cfg qs labels hl h2]
  · rw [if_neg hl]
    unfold outputStage
    rw [if_neg (by simpa [truncWeights] using hl)]

theorem outputsOfD_agrees (ys : List Config) (qs : List (List Nat)) (labels : Option (List Nat))
    (h2 : ∀ y ∈ ys, ∀ e ∈ y, 2 ≤ e.length) :
    outputsOfD ys qs labels = outputsOf ys (qs.map truncWeights) labels := by
  induction ys generalizing qs with
  | nil => simp [outputsOfD, outputsOf]
  | cons y ys ih =>
    cases qs with
    | nil => simp [outputsOfD, outputsOf]
    | cons q qs =>
      simp only [outputsOfD, outputsOf, List.map_cons]
      rw [outputStageR_agrees y q labels (h2 y List.mem_cons_self),
        ih qs (fun y' hy' => h2 y' (List.mem_cons_of_mem _ hy'))]

theorem sampleFromConfigD_yields {cfg fixed : Config} {labels : Option (List Nat)} {t : OwnTape}
    {outs : List (List (Hye × Nat))} (hn : AllNodup cfg) (hf : AllNodup fixed)
    (h : sampleFromConfigD cfg fixed labels t = some outs) :
    outs.length = t.thins.length ∧ ∀ k (hk : k < outs.length), ∃ y q, t.quantiles[k]? = some q ∧
      q.length = y.length ∧ outputStageD y q labels = some outs[k] ∧ Keeps (cfg ++ fixed) y ∧ AllNodup y := by
  obtain ⟨hl, hall⟩ := routine_yields (stage := fun c w => outputStageR c w labels) (go := fun ys ws => outputsOfD ys ws labels)
    (fun _ => rfl) (fun _ _ => rfl) (fun _ _ _ _ => rfl) hn hf h
  refine ⟨hl, fun k hk => ?_⟩
  obtain ⟨y, q, hq, ho, r⟩ := hall k hk
  unfold outputStageR at ho
  split at ho
  · rename_i hql
    exact ⟨y, q, hq, hql, ho, r⟩
  · cases ho

theorem degOf_proper_le (n : Nat) {cfg : Config} {ws : List Nat} (hl : ws.length = cfg.length) :
    degOf n (properCfg cfg ws) ≤ degOf n cfg :=
  properCfg_eq_filter hl ▸ sumBy_sublist List.filter_sublist

theorem sizeCount_proper (s : Nat) {cfg : Config} {ws : List Nat} (hl : ws.length = cfg.length) :
    sizeCount s (properCfg cfg ws) = if 2 ≤ s then sizeCount s cfg else 0 := by
  have : (cfg.filter fun e => decide (2 ≤ e.length)).map List.length = (cfg.map List.length).filter (2 ≤ ·) :=
    (List.filter_map (f := List.length) (p := fun x => decide (2 ≤ x)) (l := cfg)).symm
  rw [properCfg_eq_filter hl, sizeCount, this]
  split <;> rename_i h
  · exact List.count_filter (by simpa using h)
  · exact List.count_eq_zero.mpr fun hm => h (by simpa using (List.mem_filter.mp hm).2)

end C16
