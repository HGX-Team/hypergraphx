import Hgxv.Proofs.C02Node
/-! C02: well-formedness of calls (`Op.WF`, `Cmd.WF`), histories (`runCmds`); the value setters and the constructor keep every
`P` with `Pres P` and commute with the abstraction in one lemma each (`*_sim : .. → Sim P ..`; `add_nodes` and the node loop of the
constructor without a verdict: `addNodes_sim`, `addNodesMeta_sim`); `add_edges` keeps an arbitrary predicate that `add_edge` keeps
(`addEdges_pres`) and commutes with the abstraction (`abs_addEdges`), two lemmas. -/
namespace C02
open AL

variable {P : Store → Prop}

/-- the hypothesis of the property's quantifier on one operation: hyperedges handed to `add_edge(s)` have
    duplicate-free, disjoint, non-empty sides -/
def Op.WF : Op → Prop
  | .addEdge e _ _ => RawWF e
  | .addEdges es _ _ => ∀ e ∈ es, RawWF e
  | _ => True

def Cmd.WF : Cmd → Prop
  | .new _ _ _ _ es _ _ => ∀ e ∈ es.getD [], RawWF e
  | .copy _ _ => True
  | .op _ o => o.WF

/-- every object of a state satisfies the invariant -/
def StateInv (st : State) : Prop := ∀ slot s, get? st slot = some s → Inv s

def runCmds (st : State) : List Cmd → State
  | [] => st
  | c :: cs => runCmds (step st c).1 cs

/-- the three calls that rewrite the stored metadata of one node (`f md = none`: the call raises), in the shape of
    `Spec.updNodeMeta` -/
def updNmeta (s : Store) (n : Node) (f : Meta → Option Meta) : Store × Out :=
  match get? s.nmeta n with
  | some md =>
    match f md with
    | some md' => ({ s with nmeta := AL.set s.nmeta n md' }, .ok)
    | none => (s, .rej)
  | none => (s, .rej)

/-- the same for the metadata of one hyperedge, in the shape of `Spec.updEdgeMeta` -/
def updEmeta (s : Store) (e : RawEdge) (f : Meta → Option Meta) : Store × Out :=
  match canonStrict e with
  | none => (s, .rej)
  | some k =>
    match get? s.edgeList k with
    | none => (s, .rej)
    | some id =>
      match get? s.emeta id with
      | some md =>
        match f md with
        | some md' => ({ s with emeta := AL.set s.emeta id md' }, .ok)
        | none => (s, .rej)
      | none => (s, .rej)

theorem setWeight_sim (hP : Pres P) (s : Store) (e : RawEdge) (w : Int) (h : P s) :
    Sim P (setWeight s e w) (Spec.setWeight (abs s) e w) := by
  unfold setWeight Spec.setWeight
  rw [show (abs s).weighted = s.weighted from rfl]
  split
  · exact Sim.rej h
  · next hc =>
    cases canonStrict e with
    | none => exact Sim.rej h
    | some k =>
      simp only [abs_get_edge]
      cases hk : get? s.edgeList k with
      | none => exact Sim.rej h
      | some id =>
        exact Sim.ok (hP.setWeight s k id w hk (fun hw => by simpa [hw] using hc) h) (abs_setWeights s (hP.inv h) k id hk w)

theorem setNodeMeta_sim (hP : Pres P) (s : Store) (n : Node) (md : Meta) (h : P s) :
    Sim P (setNodeMeta s n md) (Spec.setNodeMeta (abs s) n md) := by
  unfold setNodeMeta Spec.setNodeMeta
  rw [abs_has_node]
  split
  · next hn => exact Sim.ok (hP.setNmeta s n md hn h) (abs_setNmeta s (hP.inv h) n hn md)
  · exact Sim.rej h

theorem setAttrNode_eq (s : Store) (n : Node) (a v : Nat) : setAttrNode s n a v = updNmeta s n (setAttr a v) := by
  unfold setAttrNode updNmeta setAttr
  cases get? s.nmeta n with
  | none => rfl
  | some md => dsimp only; cases isVal md <;> rfl

theorem delAttrNode_eq (s : Store) (n : Node) (a : Nat) : delAttrNode s n a = updNmeta s n (Spec.delAttr a) := by
  unfold delAttrNode updNmeta Spec.delAttr
  cases get? s.nmeta n with
  | none => rfl
  | some md => dsimp only; cases has md a <;> rfl

theorem setAttrEdge_eq (s : Store) (e : RawEdge) (a v : Nat) : setAttrEdge s e a v = updEmeta s e (setAttr a v) := by
  unfold setAttrEdge updEmeta setAttr
  cases canonStrict e with
  | none => rfl
  | some k =>
    dsimp only
    cases get? s.edgeList k with
    | none => rfl
    | some id =>
      dsimp only
      cases get? s.emeta id with
      | none => rfl
      | some md => dsimp only; cases isVal md <;> rfl

theorem delAttrEdge_eq (s : Store) (e : RawEdge) (a : Nat) : delAttrEdge s e a = updEmeta s e (Spec.delAttr a) := by
  unfold delAttrEdge updEmeta Spec.delAttr
  cases canonStrict e with
  | none => rfl
  | some k =>
    dsimp only
    cases get? s.edgeList k with
    | none => rfl
    | some id =>
      dsimp only
      cases get? s.emeta id with
      | none => rfl
      | some md => dsimp only; cases has md a <;> rfl

theorem setEdgeMeta_eq (s : Store) (e : RawEdge) (md : Meta) (h : Inv s) :
    setEdgeMeta s e md = updEmeta s e (fun _ => some md) := by
  unfold setEdgeMeta updEmeta
  cases canonStrict e with
  | none => rfl
  | some k =>
    dsimp only
    cases hk : get? s.edgeList k with
    | none => rfl
    | some id =>
      obtain ⟨m, hm⟩ := Option.isSome_iff_exists.mp (h.emeta_of_edge k id hk)
      dsimp only; rw [hm]

theorem updNmeta_sim (hP : Pres P) (s : Store) (n : Node) (f : Meta → Option Meta) (h : P s) :
    Sim P (updNmeta s n f) (Spec.updNodeMeta (abs s) n f) := by
  have hi := hP.inv h
  unfold updNmeta Spec.updNodeMeta
  rw [hi.nmeta_abs]
  cases hm : get? s.nmeta n with
  | none => exact Sim.rej h
  | some m =>
    have hn : (get? s.adjS n).isSome := by rw [← hi.nmeta_same, hm]; rfl
    dsimp only
    cases f m with
    | none => exact Sim.rej h
    | some m' => exact Sim.ok (hP.setNmeta s n m' hn h) (abs_setNmeta s hi n hn m')

theorem updEmeta_sim (hP : Pres P) (s : Store) (e : RawEdge) (f : Meta → Option Meta) (h : P s) :
    Sim P (updEmeta s e f) (Spec.updEdgeMeta (abs s) e f) := by
  have hi := hP.inv h
  unfold updEmeta Spec.updEdgeMeta
  cases canonStrict e with
  | none => exact Sim.rej h
  | some k =>
    simp only [abs_get_edge]
    cases hk : get? s.edgeList k with
    | none => exact Sim.rej h
    | some id =>
      obtain ⟨m, hm⟩ := Option.isSome_iff_exists.mp (hi.emeta_of_edge k id hk)
      simp only [Option.map_some, hm, Option.getD_some]
      cases f m with
      | none => exact Sim.rej h
      | some m' => exact Sim.ok (hP.setEmeta s k id m' hk h) (abs_setEmeta s hi k id hk m')

theorem addNodes_sim (hP : Pres P) (s : Store) (ns : List Node) (h : P s) :
    P (addNodes s ns) ∧ abs (addNodes s ns) = Spec.addNodes (abs s) ns := by
  induction ns generalizing s with
  | nil => exact ⟨h, rfl⟩
  | cons n ns ih =>
    simp only [addNodes, Spec.addNodes]
    rw [← abs_addNode s n none (hP.inv h).rows]
    exact ih _ (hP.addNode s n none h)

theorem addNodesMeta_sim (hP : Pres P) (s : Store) (l : List (Node × Meta)) (h : P s) :
    P (addNodesMeta s l) ∧ abs (addNodesMeta s l) = Spec.addNodesMeta (abs s) l := by
  induction l generalizing s with
  | nil => exact ⟨h, rfl⟩
  | cons p r ih =>
    simp only [addNodesMeta, Spec.addNodesMeta]
    rw [← abs_addNode s p.1 (some p.2) (hP.inv h).rows]
    exact ih _ (hP.addNode s p.1 (some p.2) h)

theorem addEdgesLoop_pres (es : List RawEdge)
    (hstep : ∀ s, ∀ e ∈ es, ∀ w md, P s → P (addEdge s e w md).1)
    (s : Store) (ws : Option (List Int)) (mds : Option (List Meta)) (h : P s) : P (addEdgesLoop s es ws mds).1 := by
  induction es generalizing s ws mds with
  | nil => exact h
  | cons e es ih =>
    have h1 := hstep s e List.mem_cons_self
    unfold addEdgesLoop
    split
    · exact h
    · split
      · exact h
      · simp only []
        split
        · exact h1 _ _ h
        · exact ih (fun s e' he' => hstep s e' (List.mem_cons_of_mem _ he')) _ _ _ (h1 _ _ h)

/-- `hflag`: giving weights makes the hypergraph weighted before the loop runs -/
theorem addEdges_pres (es : List RawEdge)
    (hstep : ∀ s, ∀ e ∈ es, ∀ w md, P s → P (addEdge s e w md).1) (hflag : ∀ s, P s → P { s with weighted := true })
    (s : Store) (ws : Option (List Int)) (mds : Option (List Meta)) (h : P s) : P (addEdges s es ws mds).1 := by
  unfold addEdges
  simp only []
  have h0 : P (if ws.isSome && !s.weighted then { s with weighted := true } else s) := by
    split
    · exact hflag s h
    · exact h
  split
  · split
    · exact h0
    · exact addEdgesLoop_pres es hstep _ _ _ h0
  · exact addEdgesLoop_pres es hstep _ _ _ h0

theorem addEdgesWF_pres (hP : Pres P) (s : Store) (es : List RawEdge) (ws : Option (List Int)) (mds : Option (List Meta))
    (hes : ∀ e ∈ es, RawWF e) (h : P s) : P (addEdges s es ws mds).1 :=
  addEdges_pres es (fun s e he w md => hP.addEdgeKey s _ w md (keyWF_canonAdd e (hes e he))) hP.setFlag s ws mds h

theorem abs_addEdgesLoop (s : Store) (es : List RawEdge) (ws : Option (List Int)) (mds : Option (List Meta))
    (hes : ∀ e ∈ es, RawWF e) (h : Inv s) :
    abs (addEdgesLoop s es ws mds).1 = (Spec.addEdgesLoop (abs s) es ws mds).1 ∧
    (addEdgesLoop s es ws mds).2 = (Spec.addEdgesLoop (abs s) es ws mds).2 := by
  induction es generalizing s ws mds with
  | nil => exact ⟨rfl, rfl⟩
  | cons e es ih =>
    have hes' : ∀ e' ∈ es, RawWF e' := fun e' he' => hes e' (List.mem_cons_of_mem _ he')
    unfold addEdgesLoop Spec.addEdgesLoop
    split
    · exact ⟨rfl, rfl⟩
    · split
      · exact ⟨rfl, rfl⟩
      · simp only []
        obtain ⟨h1, h2⟩ := abs_addEdge s e (ws.bind List.head?) (mds.bind List.head?) h
        have hi : Inv (addEdge s e (ws.bind List.head?) (mds.bind List.head?)).1 :=
          addEdgeKey_inv s _ _ _ (keyWF_canonAdd e (hes e List.mem_cons_self)) h
        cases ho : (addEdge s e (ws.bind List.head?) (mds.bind List.head?)).2 with
        | rej =>
          have ho' := h2 ▸ ho
          simp only [ho']; exact ⟨h1, ho⟩
        | ok =>
          have ho' := h2 ▸ ho
          simp only [ho']; rw [← h1]; exact ih _ _ _ hes' hi

theorem abs_addEdges (s : Store) (es : List RawEdge) (ws : Option (List Int)) (mds : Option (List Meta))
    (hes : ∀ e ∈ es, RawWF e) (h : Inv s) :
    abs (addEdges s es ws mds).1 = (Spec.addEdges (abs s) es ws mds).1 ∧
    (addEdges s es ws mds).2 = (Spec.addEdges (abs s) es ws mds).2 := by
  unfold addEdges Spec.addEdges
  simp only []
  have hw : (abs s).weighted = s.weighted := rfl
  rw [hw]
  have e0 : abs (if (ws.isSome && !s.weighted) = true then { s with weighted := true } else s) =
      (if (ws.isSome && !s.weighted) = true then { abs s with weighted := true } else abs s) := by
    split <;> rfl
  have h0 : Inv (if (ws.isSome && !s.weighted) = true then { s with weighted := true } else s) := by
    split
    · exact h.set_weighted true
    · exact h
  rw [← e0]
  split
  · split
    · exact ⟨rfl, rfl⟩
    · exact abs_addEdgesLoop _ es _ _ hes h0
  · exact abs_addEdgesLoop _ es _ _ hes h0

theorem ctor_sim (hP : Pres P) (w : Bool) (hm : Option Meta) (nm : Option (List (Node × Meta))) (es : Option (List RawEdge))
    (ws : Option (List Int)) (mds : Option (List Meta)) (hes : ∀ e ∈ es.getD [], RawWF e) :
    Sim P (ctor w hm nm es ws mds) (Spec.ctor w hm nm es ws mds) := by
  unfold ctor Spec.ctor
  simp only []
  have r := addNodesMeta_sim hP { weighted := w, hmeta := ctorHMeta hm w } (nm.getD []) (hP.empty w 0 _)
  have a1 : abs (addNodesMeta { weighted := w, hmeta := ctorHMeta hm w } (nm.getD [])) =
      Spec.addNodesMeta { weighted := w, hmeta := ctorHMeta hm w } (nm.getD []) := r.2
  cases es with
  | none => exact Sim.ok r.1 a1
  | some el =>
    simp only []
    split
    · exact ⟨r.1, a1, rfl⟩
    · rw [← a1]
      exact ⟨addEdgesWF_pres hP _ _ _ _ hes r.1, abs_addEdges _ el ws mds hes (hP.inv r.1)⟩

/-- a copy is an object that was there: only the constructor and `applyOp` have to be checked -/
theorem step_forall (st : State) (c : Cmd)
    (hnew : ∀ slot w hm nm es ws mds, c = .new slot w hm nm es ws mds → P (ctor w hm nm es ws mds).1)
    (hop : ∀ slot o s, c = .op slot o → get? st slot = some s → P (applyOp s o).1)
    (h : ∀ slot s, get? st slot = some s → P s) : ∀ slot s, get? (step st c).1 slot = some s → P s := by
  have hset : ∀ sl0 s0, P s0 → ∀ slot s, get? (AL.set st sl0 s0) slot = some s → P s := by
    intro sl0 s0 h0 slot s hs
    rw [get?_set] at hs
    split at hs
    · exact Option.some.inj hs ▸ h0
    · exact h slot s hs
  cases c with
  | new slot w hm nm es ws mds =>
    have h1 := hnew slot w hm nm es ws mds rfl
    simp only [step]
    cases hr : ctor w hm nm es ws mds with
    | mk s o =>
      rw [hr] at h1
      cases o with
      | rej => exact h
      | ok => exact hset slot s h1
  | copy a b =>
    simp only [step]
    cases ha : get? st a with
    | none => exact h
    | some s => exact hset b s (h a s ha)
  | op slot o =>
    simp only [step]
    cases ha : get? st slot with
    | none => exact h
    | some s => exact hset slot _ (hop slot o s rfl ha)

end C02
