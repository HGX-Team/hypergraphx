import Hgxv.Proofs.C08Bfs
/-! # C08 - the filter is a restriction of the hypergraph; filtered classes refine the unfiltered ones; sizes of the
components add up to the number of nodes; cross-consistency of the connectivity functions (core Lean) -/
namespace C08

/-- the hyperedges that pass the filter: the sub-hypergraph every filtered function speaks about -/
def restrict (es : List Edge) (f : Filt) : List Edge := es.filter (fun e => passes f e.length)

theorem incident_restrict (es : List Edge) (f : Filt) (n : Nat) :
    incident es n f = incident (restrict es f) n .none := by
  simp only [incident, incidentG, restrict, List.filter_filter, id, passes, Bool.and_true]

theorem neighbors_restrict (es : List Edge) (f : Filt) : neighbors es f = neighbors (restrict es f) .none := by
  funext n
  simp only [neighbors, incident_restrict es f n]

theorem deg_restrict (es : List Edge) (f : Filt) (n : Nat) : deg es n f = deg (restrict es f) n .none := by
  have := incident_restrict es f n
  simp only [deg, degG, incident] at this ⊢
  rw [this]

theorem visitH_restrict (es : List Edge) (f : Filt) (md : Option Int) (dfs : Bool) :
    visitH es f md dfs = visitH (restrict es f) .none md dfs :=
  funext fun _ => search_congr _ _ (neighbors_restrict es f) md dfs _ _

theorem bfsH_restrict (es : List Edge) (f : Filt) : bfsH es f = bfsH (restrict es f) .none := by
  funext s
  rw [← visitH_eq_bfsH, ← visitH_eq_bfsH, visitH_restrict]

theorem components_restrict (nodes : List Nat) (es : List Edge) (f : Filt) :
    components nodes es f = components nodes (restrict es f) .none := by
  unfold components; rw [bfsH_restrict]

theorem degreeSeq_restrict (nodes : List Nat) (es : List Edge) (f : Filt) :
    degreeSeq nodes es f = degreeSeq nodes (restrict es f) .none := by
  simp only [degreeSeq, degreeSeqG]
  apply List.map_congr_left
  intro n _
  have := deg_restrict es f n
  simp only [deg] at this
  rw [degG_toOrder, this]; rfl

theorem restrict_toOrder (es : List Edge) (f : Filt) : restrict es (toOrder f) = restrict es f := by
  simp only [restrict, passes_toOrder]

theorem degreeDist_restrict (nodes : List Nat) (es : List Edge) (f : Filt) :
    degreeDist nodes es f = degreeDist nodes (restrict es f) .none := by
  have := degreeSeq_restrict nodes es (toOrder f)
  simp only [degreeSeq] at this
  simp only [degreeDist, degreeDistG, this, restrict_toOrder]; rfl

theorem restrict_size_order (es : List Edge) (s : Int) : restrict es (.size s) = restrict es (.order (s - 1)) := rfl

theorem mem_restrict (es : List Edge) (f : Filt) (e : Edge) : e ∈ restrict es f ↔ e ∈ es ∧ passes f e.length = true := by
  simp [restrict]

theorem Adj.unfilter {es : List Edge} {f : Filt} {u v : Nat} (h : Adj es f u v) : Adj es .none u v := by
  obtain ⟨e, he, _, hu, hv⟩ := h
  exact ⟨e, he, rfl, hu, hv⟩

theorem Reach.unfilter {es : List Edge} {f : Filt} {u v : Nat} (h : Reach es f u v) : Reach es .none u v := by
  induction h with
  | refl => exact Reach.refl _
  | step _ ha ih => exact Reach.step ih ha.unfilter

theorem Reach.least {es : List Edge} {f : Filt} (R : Nat → Nat → Prop) (hrefl : ∀ a, R a a)
    (htrans : ∀ a b c, R a b → R b c → R a c) (hadj : ∀ a b, Adj es f a b → R a b) {u v : Nat} (h : Reach es f u v) :
    R u v := by
  induction h with
  | refl => exact hrefl _
  | step _ ha ih => exact htrans _ _ _ ih (hadj _ _ ha)

theorem numComponents_le (nodes : List Nat) (es : List Edge) (f : Filt) :
    numComponents nodes es .none ≤ numComponents nodes es f := by
  obtain ⟨a1, a2, _⟩ := components_spec nodes es .none
  obtain ⟨_, _, b3⟩ := components_spec nodes es f
  apply length_le_of_rel (fun (a b : List Nat) => b ∈ components nodes es f ∧ b ≠ [] ∧ ∀ x ∈ b, x ∈ a)
  · apply a2.imp
    intro a a' hd b hab ha'b
    obtain ⟨x, hx⟩ := List.exists_mem_of_ne_nil _ hab.2.1
    exact hd x (hab.2.2 x hx) (ha'b.2.2 x hx)
  · intro a ha
    obtain ⟨r, hr, rfl⟩ := a1 a ha
    obtain ⟨b, hb, hrb⟩ := b3 r hr
    refine ⟨b, hb, hb, List.ne_nil_of_mem hrb, ?_⟩
    intro x hx
    exact (mem_bfsH es .none r x).mpr ((components_class nodes es f b hb r hrb x).mp hx).unfilter

theorem components_flatten_perm (nodes : List Nat) (es : List Edge) (f : Filt) (hn : nodes.Nodup) (hwf : WF nodes es) :
    (components nodes es f).flatten.Perm nodes := by
  obtain ⟨h1, h2, h3⟩ := components_spec nodes es f
  apply (List.perm_ext_iff_of_nodup _ hn).mpr
  · intro x
    rw [List.mem_flatten]
    constructor
    · rintro ⟨c, hc, hx⟩
      obtain ⟨r, hr, rfl⟩ := h1 c hc
      exact ((mem_bfsH es f r x).mp hx).mem_nodes hwf hr
    · intro hx
      obtain ⟨c, hc, hxc⟩ := h3 x hx
      exact ⟨c, hc, hxc⟩
  · unfold List.Nodup
    rw [List.pairwise_flatten]
    refine ⟨?_, h2.imp (fun hd => ?_)⟩
    · intro c hc
      obtain ⟨r, _, rfl⟩ := h1 c hc
      exact bfsH_nodup es f r
    · intro x hxa y hyb hxy
      exact hd x hxa (hxy ▸ hyb)

theorem components_sum_length (nodes : List Nat) (es : List Edge) (f : Filt) (hn : nodes.Nodup) (hwf : WF nodes es) :
    ((components nodes es f).map List.length).sum = nodes.length := by
  rw [← List.length_flatten]
  exact (components_flatten_perm nodes es f hn hwf).length_eq

theorem components_nonempty (nodes : List Nat) (es : List Edge) (f : Filt) :
    ∀ c ∈ components nodes es f, 0 < c.length := by
  intro c hc
  obtain ⟨r, _, rfl⟩ := (components_spec nodes es f).1 c hc
  exact List.length_pos_of_mem ((mem_bfsH es f r r).mpr (Reach.refl r))

theorem length_le_sum_of_mem (l : List (List Nat)) (c : List Nat) (hc : c ∈ l) :
    c.length ≤ (l.map List.length).sum := by
  induction l with
  | nil => cases hc
  | cons a t ih =>
    simp only [List.map_cons, List.sum_cons]
    rcases List.mem_cons.mp hc with rfl | hc
    · omega
    · have := ih hc; omega

theorem eq_singleton_of_sum (l : List (List Nat)) (hpos : ∀ c ∈ l, 0 < c.length) (c : List Nat) (hc : c ∈ l)
    (hsum : (l.map List.length).sum = c.length) : l = [c] := by
  match l, hpos, hc, hsum with
  | [a], _, hc, _ => simp only [List.mem_singleton] at hc; rw [hc]
  | a :: b :: t, hpos, hc, hsum =>
    exfalso
    have ha := hpos a List.mem_cons_self
    have hb := hpos b (by simp)
    simp only [List.map_cons, List.sum_cons] at hsum
    rcases List.mem_cons.mp hc with rfl | hc
    · omega
    · rcases List.mem_cons.mp hc with rfl | hc
      · omega
      · have : c.length ≤ (t.map List.length).sum := length_le_sum_of_mem t c hc
        omega

theorem eq_singleton_of_mem_iff (c : List Nat) (n : Nat) (hnd : c.Nodup) (hmem : ∀ v, v ∈ c ↔ v = n) : c = [n] := by
  match c, hmem, hnd with
  | [], hmem, _ => exact absurd ((hmem n).mpr rfl) (by simp)
  | [a], hmem, _ => rw [(hmem a).mp List.mem_cons_self]
  | a :: b :: t, hmem, hnd =>
    have ha := (hmem a).mp List.mem_cons_self
    have hb := (hmem b).mp (by simp)
    rw [ha, hb] at hnd
    exact absurd List.mem_cons_self (List.nodup_cons.mp hnd).1

theorem isConnected_iff_largest (nodes : List Nat) (es : List Edge) (f : Filt) (hn : nodes.Nodup) (hwf : WF nodes es) :
    isConnected nodes es f = true ↔ largestComponentSize nodes es f = some nodes.length := by
  have hsum := components_sum_length nodes es f hn hwf
  have hpos := components_nonempty nodes es f
  simp only [isConnected, beq_iff_eq, largestComponentSize, largestComponent]
  constructor
  · intro hlen
    match hcs : components nodes es f, hlen with
    | [c], _ =>
      rw [hcs] at hsum
      simp only [List.map_cons, List.map_nil, List.sum_cons, List.sum_nil, Nat.add_zero] at hsum
      simp [maxByLen, hsum]
  · intro hl
    by_cases hne : components nodes es f = []
    · rw [hne] at hl; simp [maxByLen] at hl
    · obtain ⟨c, hmax, hc, _⟩ := maxByLen_spec _ hne
      rw [hmax] at hl
      simp only [Option.map_some, Option.some.injEq] at hl
      have := eq_singleton_of_sum _ hpos c hc (by rw [hsum, hl])
      rw [this]; rfl

theorem isConnected_iff_reach (nodes : List Nat) (es : List Edge) (f : Filt) :
    isConnected nodes es f = true ↔ nodes ≠ [] ∧ ∀ u ∈ nodes, ∀ v ∈ nodes, Reach es f u v := by
  obtain ⟨h1, _, h3⟩ := components_spec nodes es f
  simp only [isConnected, beq_iff_eq]
  constructor
  · intro hlen
    obtain ⟨c, hcs⟩ := List.length_eq_one_iff.mp hlen
    have hc : c ∈ components nodes es f := hcs ▸ List.mem_cons_self
    have hin : ∀ u ∈ nodes, u ∈ c := by
      intro u hu
      obtain ⟨cu, hcu, huc⟩ := h3 u hu
      rw [hcs] at hcu
      exact List.mem_singleton.mp hcu ▸ huc
    obtain ⟨r, hr, _⟩ := h1 c hc
    exact ⟨List.ne_nil_of_mem hr, fun u hu v hv => (components_class nodes es f c hc u (hin u hu) v).mp (hin v hv)⟩
  · rintro ⟨hne, hall⟩
    -- one node represents all classes
    obtain ⟨x, hx⟩ := List.exists_mem_of_ne_nil _ hne
    exact components_count nodes es f [x] (fun r hr => List.mem_singleton.mp hr ▸ hx) (List.pairwise_singleton _ _)
      (fun n hn => ⟨x, List.mem_singleton_self x, hall x hx n hn⟩)

theorem numComponents_le_length (nodes : List Nat) (es : List Edge) (f : Filt) (hn : nodes.Nodup) (hwf : WF nodes es) :
    numComponents nodes es f ≤ nodes.length := by
  have hpos := components_nonempty nodes es f
  rw [← components_sum_length nodes es f hn hwf]
  unfold numComponents
  generalize components nodes es f = l at hpos
  induction l with
  | nil => simp
  | cons a t ih =>
    have := hpos a List.mem_cons_self
    have := ih (fun c hc => hpos c (List.mem_cons_of_mem _ hc))
    simp only [List.length_cons, List.map_cons, List.sum_cons]; omega

end C08
