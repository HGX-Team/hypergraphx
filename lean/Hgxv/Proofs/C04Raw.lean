import Hgxv.Model.C04Raw
import Hgxv.Proofs.C04Dump
/-! C04 - mixed histories of public and raw calls, `expose ∘ populate`, layer metadata (replace semantics), the hashing
view with unorderable layer names. Core Lean only. -/
namespace C04
open AL

theorem store_ext (s s' : Store) (h1 : s'.weighted = s.weighted) (h2 : s'.edgeList = s.edgeList) (h3 : s'.rev = s.rev)
    (h4 : s'.weights = s.weights) (h5 : s'.emeta = s.emeta) (h6 : s'.adj = s.adj) (h7 : s'.nmeta = s.nmeta)
    (h8 : s'.nextId = s.nextId) (h9 : s'.hmeta = s.hmeta) (h10 : s'.layers = s.layers) : s' = s := by
  cases s; cases s'; simp_all

theorem rawStep_echo (s : Store) (op : RawOp) (h : op.echo s = true) :
    rawStep s op = match op with | .pub o => (step s o).1 | _ => s := by
  cases op with
  | pub o => rfl
  | setEdgeList t =>
    simp only [RawOp.echo, decide_eq_true_eq] at h
    subst h; rfl
  | setAdjDict t =>
    simp only [RawOp.echo, decide_eq_true_eq] at h
    subst h; rfl
  | setExistingLayers ls =>
    simp only [RawOp.echo, decide_eq_true_eq] at h
    subst h; rfl
  | populate d =>
    simp only [RawOp.echo] at h
    simp only [rawStep]
    have hl : loadDump d = some (populate d) ∨ loadDump d = none := by
      unfold loadDump
      split
      · exact Or.inl rfl
      · exact Or.inr rfl
    rcases hl with hl | hl
    · rw [hl] at h
      simp only [decide_eq_true_eq] at h
      obtain ⟨h1, h2, h3, h4, h5, h6, h7, h8, h9, h10⟩ := h
      exact store_ext _ _ h1 h2 h3 h4 h5 h6 h7 h8 h9 h10
    · rw [hl] at h; exact absurd h (by simp)

theorem rawRun_echo (s : Store) (ops : List RawOp) (h : echoes s ops = true) : rawRun s ops = run s (pubOps ops) := by
  induction ops generalizing s with
  | nil => rfl
  | cons op ops ih =>
    simp only [echoes, Bool.and_eq_true] at h
    show rawRun (rawStep s op) ops = _
    rw [ih _ h.2, rawStep_echo s op h.1]
    cases op <;> rfl

theorem expose_populate (d : Dump) (h : Dump.WF d) : ∀ name ∈ tableNames, lookup (expose (populate d)) name = lookup d name := by
  obtain ⟨⟨a1, h1⟩, ⟨a2, h2⟩, ⟨a3, h3⟩, ⟨a4, h4⟩, ⟨a5, h5⟩, ⟨a6, h6⟩, ⟨a7, h7⟩, ⟨a8, h8⟩, ⟨a9, h9⟩, ⟨a10, h10⟩⟩ := h
  intro name hn
  simp only [tableNames, List.mem_cons, List.not_mem_nil, or_false] at hn
  rcases hn with rfl | rfl | rfl | rfl | rfl | rfl | rfl | rfl | rfl | rfl <;>
    simp [populate, h1, h2, h3, h4, h5, h6, h7, h8, h9, h10]

theorem expose_wf (s : Store) : Dump.WF (expose s) :=
  ⟨⟨_, lookup_expose_hmeta s⟩, ⟨_, lookup_expose_nmeta s⟩, ⟨_, lookup_expose_emeta s⟩, ⟨_, lookup_expose_weighted s⟩,
   ⟨_, lookup_expose_weights s⟩, ⟨_, lookup_expose_edgeList s⟩, ⟨_, lookup_expose_adj s⟩, ⟨_, lookup_expose_rev s⟩,
   ⟨_, lookup_expose_nextId s⟩, ⟨_, lookup_expose_layers s⟩⟩

theorem layerMeta_set (s : Store) (l l' : Layer) (v : Nat) :
    layerMeta (setLayerMeta s l v) l' = if l' = l then some v else layerMeta s l' := by
  unfold layerMeta setLayerMeta setAttrH hkLayer
  simp only [get?_set]
  by_cases hl : l' = l
  · subst hl; simp
  · have : ¬ (10 + l = 10 + l') := fun he => hl (Nat.add_left_cancel he).symm
    simp only [this, if_false, hl]

theorem datasetMeta_setLayer (s : Store) (l : Layer) (v : Nat) : datasetMeta (setLayerMeta s l v) = datasetMeta s := by
  unfold datasetMeta setLayerMeta setAttrH hkLayer hkDataset
  rw [get?_set_ne]; show ¬ ((10 : Nat) + (l : Nat) = 2); omega

theorem layerMeta_setDataset (s : Store) (l : Layer) (v : Nat) : layerMeta (setDatasetMeta s v) l = layerMeta s l := by
  unfold layerMeta setDatasetMeta setAttrH hkLayer hkDataset
  rw [get?_set_ne]; show ¬ ((2 : Nat) = 10 + (l : Nat)); omega

theorem layerClash_iff (ty : Layer → Nat) (ks : List Key) :
    layerClash ty ks = true ↔ ∃ e l l', (e, l) ∈ ks ∧ (e, l') ∈ ks ∧ ty l ≠ ty l' := by
  unfold layerClash
  simp only [List.any_eq_true, Bool.and_eq_true, decide_eq_true_eq]
  constructor
  · rintro ⟨⟨e, l⟩, hk, ⟨e', l'⟩, hk', he, ht⟩
    simp only at he ht
    subst he
    exact ⟨e, l, l', hk, hk', ht⟩
  · rintro ⟨e, l, l', hk, hk', ht⟩
    exact ⟨(e, l), hk, (e, l'), hk', rfl, ht⟩

theorem hashViewT_of_noClash (ty : Layer → Nat) (s : Store) (h : layerClash ty (records s) = false) :
    hashViewT ty s = hashView s := by
  unfold hashViewT; simp [h]

theorem hashViewT_of_clash (ty : Layer → Nat) (s : Store) (h : layerClash ty (records s) = true) :
    hashViewT ty s = none := by
  unfold hashViewT; simp [h]

end C04
