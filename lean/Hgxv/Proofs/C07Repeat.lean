import Hgxv.Model.C07
import Hgxv.Proofs.AL
/-! # C07 — a setter called again for the same key REPLACES what the earlier call stored

Table-level facts behind the "second / third call of one setter" histories of the harness: Python's
`d[k] = a; d[k] = b` leaves exactly what `d[k] = b` alone leaves - position of the key included. -/
namespace C07
open AL

theorem set_set_same {α β : Type} [DecidableEq α] (l : List (α × β)) (k : α) (a b : β) :
    AL.set (AL.set l k a) k b = AL.set l k b := set_set l k a b

variable {κ : Type} [Kind κ]

theorem setHAttr_twice (t : Tables κ) (f : String) (a b : JTree) :
    (setHAttr (setHAttr t f a).1 f b).1 = (setHAttr t f b).1 := by
  unfold setHAttr
  cases h : t.hmeta <;> simp [JTree.setField, h, set_set_same]

theorem setHMeta_twice (t : Tables κ) (a b : JTree) :
    ({ ({ t with hmeta := a } : Tables κ) with hmeta := b } : Tables κ) = { t with hmeta := b } := rfl

theorem setNodeMeta_twice (t : Tables κ) (n : Nat) (a b : JTree) :
    (setNodeMeta (setNodeMeta t n a).1 n b).1 = (setNodeMeta t n b).1 := by
  unfold setNodeMeta
  by_cases h : nodeKnown t n = true
  · have h2 : nodeKnown ({ t with nodeMeta := set t.nodeMeta n a } : Tables κ) n = true := by
      unfold nodeKnown at *
      by_cases fl : (Kind.flags κ).addNodeTestsMeta = true
      · simp only [fl, if_true] at *
        unfold has at h ⊢
        rw [isSome_set, h, Bool.or_true]
      · simpa [fl] using h
    simp [h, h2, set_set_same]
  · simp [h]

theorem setEdgeMeta_twice (t : Tables κ) (k : κ) (a b : JTree) :
    (setEdgeMeta (setEdgeMeta t k a).1 k b).1 = (setEdgeMeta t k b).1 := by
  unfold setEdgeMeta
  cases h : get? t.edgeList (Kind.canonK k) <;> simp [h, set_set_same]

theorem run_last_wins {α : Type} (f : α → Op κ)
    (twice : ∀ (t : Tables κ) a b, (step (step t (f a)).1 (f b)).1 = (step t (f b)).1)
    (t : Tables κ) (earlier : List α) (b : α) : run t (earlier.map f ++ [f b]) = run t [f b] := by
  induction earlier generalizing t with
  | nil => rfl
  | cons a as ih => exact (ih (step t (f a)).1).trans (twice t a b)

end C07
