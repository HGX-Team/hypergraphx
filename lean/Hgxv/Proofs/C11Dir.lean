import Hgxv.Proofs.C11DirOrder
import Hgxv.Proofs.C11Passes
import Hgxv.Proofs.C11RelabelAux
/-! # C11 - directed census: `dcanon` is the least relabelling of its class, hence a class invariant; the keys
of `dirCensus` through the closed form of `dtally` (core Lean only) -/
namespace C11

/-- relabel one directed hyperedge over ranks `1..n` by the permutation `p` of `0..n-1` -/
def relabelEdge (p : List Nat) (e : DEdge) : DEdge :=
  (isort (e.1.map fun j => p[j-1]! + 1), isort (e.2.map fun j => p[j-1]! + 1))

theorem drelabel_eq (p : List Nat) (pat : List DEdge) : drelabel p pat = sortD (pat.map (relabelEdge p)) := rfl

/-- all nodes of the pattern are ranks `1..n` -/
def WFPat (n : Nat) (pat : List DEdge) : Prop :=
  ∀ e ∈ pat, (∀ j ∈ e.1, 1 ≤ j ∧ j ≤ n) ∧ (∀ j ∈ e.2, 1 ≤ j ∧ j ≤ n)

theorem side_comp {n : Nat} (q p : List Nat) (hp : p.length = n) (s : List Nat)
    (hs : ∀ j ∈ s, 1 ≤ j ∧ j ≤ n) :
    isort ((isort (s.map fun j => p[j-1]! + 1)).map fun j => q[j-1]! + 1)
      = isort (s.map fun j => (compPerm q p)[j-1]! + 1) := by
  rw [isort_congr ((isort_perm_self (s.map fun j => p[j-1]! + 1)).map (fun j => q[j-1]! + 1)), List.map_map]
  congr 1
  apply List.map_congr_left
  intro j hj
  have := hs j hj
  simp only [Function.comp, compPerm]
  rw [getElem!_map_lt _ _ (by omega)]
  simp

theorem relabelEdge_comp {n : Nat} (q p : List Nat) (hp : p.length = n) (e : DEdge)
    (h1 : ∀ j ∈ e.1, 1 ≤ j ∧ j ≤ n) (h2 : ∀ j ∈ e.2, 1 ≤ j ∧ j ≤ n) :
    relabelEdge q (relabelEdge p e) = relabelEdge (compPerm q p) e := by
  unfold relabelEdge
  simp only
  rw [side_comp q p hp e.1 h1, side_comp q p hp e.2 h2]

theorem drelabel_comp {n : Nat} (q p : List Nat) (hp : p.length = n) (pat : List DEdge) (hw : WFPat n pat) :
    drelabel q (drelabel p pat) = drelabel (compPerm q p) pat := by
  rw [drelabel_eq, drelabel_eq, drelabel_eq]
  rw [sortD_congr ((sortD_perm_self (pat.map (relabelEdge p))).map (relabelEdge q)), List.map_map]
  congr 1
  apply List.map_congr_left
  intro e he
  exact relabelEdge_comp q p hp e (hw e he).1 (hw e he).2

theorem perms_range_ne_nil (n : Nat) : perms (List.range n) ≠ [] :=
  List.ne_nil_of_mem (mem_perms_of_perm _ _ (.refl _))

theorem dcanon_spec (n : Nat) (pat : List DEdge) :
    (∃ p0 ∈ perms (List.range n), dcanon n pat = drelabel p0 pat) ∧
    ∀ p ∈ perms (List.range n), dpatLe (dcanon n pat) (drelabel p pat) = true := by
  unfold dcanon
  cases hP : perms (List.range n) with
  | nil => exact absurd hP (perms_range_ne_nil n)
  | cons p0 ps =>
    simp only [List.map_cons]
    obtain ⟨hm, hle⟩ := minPat_spec (ps.map (drelabel · pat)) (drelabel p0 pat)
    constructor
    · rcases List.mem_cons.mp hm with h | h
      · exact ⟨p0, by simp, h⟩
      · obtain ⟨p, hp, hp'⟩ := List.mem_map.mp h
        exact ⟨p, by simp [hp], hp'.symm⟩
    · intro p hp
      apply hle
      rcases List.mem_cons.mp hp with h | h
      · rw [h]; simp
      · exact List.mem_cons_of_mem _ (List.mem_map.mpr ⟨p, h, rfl⟩)

theorem dcanon_min {n : Nat} (pat : List DEdge) (hw : WFPat n pat) :
    ∀ q ∈ perms (List.range n), dpatLe (dcanon n pat) (drelabel q (dcanon n pat)) = true := by
  obtain ⟨⟨p0, hp0, hk⟩, hle⟩ := dcanon_spec n pat
  intro q hq
  rw [hk, drelabel_comp q p0 (length_of_mem_perms hp0) pat hw, ← hk]
  exact hle _ (compPerm_mem hp0 hq)

theorem dcanon_relabel {n : Nat} (pat : List DEdge) (hw : WFPat n pat)
    (p : List Nat) (hp : p ∈ perms (List.range n)) : dcanon n (drelabel p pat) = dcanon n pat := by
  have hlen := length_of_mem_perms hp
  obtain ⟨⟨p0, hp0, hk⟩, hle⟩ := dcanon_spec n pat
  obtain ⟨⟨q0, hq0, hk'⟩, hle'⟩ := dcanon_spec n (drelabel p pat)
  apply dpatLe_antisymm
  · -- canon' ≤ canon: canon is a relabelling of `drelabel p pat`
    obtain ⟨q, hq, hqp⟩ := perms_div hp hp0
    have := hle' q hq
    rw [drelabel_comp q p hlen pat hw, hqp, ← hk] at this
    exact this
  · rw [hk', drelabel_comp q0 p hlen pat hw]
    exact hle _ (compPerm_mem hp hq0)

/-- `_all_directed_hyperedges(S)`: a non-empty proper sub-list as source, a non-empty sub-list of the rest as target -/
theorem mem_allDirected_iff {S : List Nat} {e : DEdge} : e ∈ allDirected S ↔
    e.1 ≠ [] ∧ e.2 ≠ [] ∧ e.1.length < S.length ∧ e.1.Sublist S ∧ e.2.Sublist (S.filter (!e.1.contains ·)) := by
  unfold allDirected
  rw [mem_dedup]
  simp only [List.mem_flatMap, List.mem_range]
  constructor
  · rintro ⟨a, halt, src, hsrc, h⟩
    by_cases ha : (a == 0) = true
    · simp [ha] at h
    · simp only [ha, Bool.false_eq_true, if_false, List.mem_flatMap, List.mem_range] at h
      obtain ⟨b, _, h⟩ := h
      by_cases hb : (b == 0) = true
      · simp [hb] at h
      · simp only [hb, Bool.false_eq_true, if_false, List.mem_map] at h
        obtain ⟨tgt, htgt, rfl⟩ := h
        obtain ⟨hs1, hl1⟩ := mem_subsetsOfSize.mp hsrc
        obtain ⟨hs2, hl2⟩ := mem_subsetsOfSize.mp htgt
        have ha' : a ≠ 0 := by simpa using ha
        have hb' : b ≠ 0 := by simpa using hb
        refine ⟨?_, ?_, by simp only; omega, hs1, hs2⟩
        · intro h0; simp only at h0; rw [h0] at hl1; simp at hl1; omega
        · intro h0; simp only at h0; rw [h0] at hl2; simp at hl2; omega
  · rintro ⟨h1, h2, hlt, hsub1, hsub2⟩
    refine ⟨e.1.length, hlt, e.1, mem_subsetsOfSize.mpr ⟨hsub1, rfl⟩, ?_⟩
    have ha : (e.1.length == 0) = false := by
      simpa using h1
    simp only [ha, Bool.false_eq_true, if_false, List.mem_flatMap, List.mem_range]
    refine ⟨e.2.length, by have := hsub2.length_le; omega, ?_⟩
    have hb : (e.2.length == 0) = false := by
      simpa using h2
    simp only [hb, Bool.false_eq_true, if_false, List.mem_map]
    exact ⟨e.2, mem_subsetsOfSize.mpr ⟨hsub2, rfl⟩, rfl⟩

theorem subset_of_mem_allDirected {S : List Nat} {e : DEdge} (h : e ∈ allDirected S) :
    (∀ x ∈ e.1, x ∈ S) ∧ (∀ x ∈ e.2, x ∈ S) := by
  obtain ⟨_, _, _, hs1, hs2⟩ := mem_allDirected_iff.mp h
  exact ⟨fun x hx => hs1.subset hx, fun x hx => (List.mem_filter.mp (hs2.subset hx)).1⟩

theorem dpattern_wf (T : DHG) {S : List Nat} {n : Nat} (hS : S.length = n) : WFPat n (dpattern T S) := by
  intro e' he'
  unfold dpattern at he'
  rw [mem_sortD] at he'
  obtain ⟨e, he, rfl⟩ := List.mem_map.mp he'
  have hin := subset_of_mem_allDirected (List.mem_filter.mp he).1
  constructor
  · intro j hj
    simp only [mem_isort, List.mem_map] at hj
    obtain ⟨x, hx, rfl⟩ := hj
    have := List.idxOf_lt_length_of_mem (hin.1 x hx)
    omega
  · intro j hj
    simp only [mem_isort, List.mem_map] at hj
    obtain ⟨x, hx, rfl⟩ := hj
    have := List.idxOf_lt_length_of_mem (hin.2 x hx)
    omega

/-! ## `dtally` (the `mapping[rappr] += 1` dict) in closed form; it only depends on the multiset of keys -/

/-- distinct keys in first-seen order, each with its number of occurrences -/
def dspec (keys : List (List DEdge)) : List (List DEdge × Nat) :=
  (dedup keys).map fun k => (k, keys.count k)

theorem bump_map (k : List DEdge) (g : List DEdge → Nat) (l : List (List DEdge)) (hl : l.Nodup) :
    bump k (l.map fun k' => (k', g k'))
      = if k ∈ l then l.map (fun k' => (k', if k' = k then g k' + 1 else g k'))
        else l.map (fun k' => (k', g k')) ++ [(k, 1)] := by
  induction l with
  | nil => simp [bump]
  | cons a l ih =>
    have hnd := List.nodup_cons.mp hl
    simp only [List.map_cons, bump]
    by_cases hak : a = k
    · subst hak
      simp only [beq_self_eq_true, if_true, List.mem_cons, true_or]
      congr 1
      apply List.map_congr_left
      intro k' hk'
      have : k' ≠ a := fun e => hnd.1 (e ▸ hk')
      simp [this]
    · have hb : (a == k) = false := by simpa using hak
      simp only [hb, Bool.false_eq_true, if_false, ih hnd.2, List.mem_cons]
      have hka : ¬ k = a := fun e => hak e.symm
      by_cases hkl : k ∈ l
      · simp [hkl, hak]
      · simp [hkl, hka]

theorem bump_dspec (P : List (List DEdge)) (k : List DEdge) : bump k (dspec P) = dspec (P ++ [k]) := by
  unfold dspec
  rw [bump_map k (fun k' => P.count k') (dedup P) (nodup_dedup P), dedup_snoc]
  by_cases h : k ∈ P
  · have hd : k ∈ dedup P := mem_dedup.mpr h
    simp only [hd, h, if_true]
    apply List.map_congr_left
    intro k' _
    rw [List.count_append, List.count_singleton]
    by_cases e : k' = k
    · subst e; simp
    · have : (k == k') = false := by simpa using fun e' => e e'.symm
      simp [e, this]
  · have hd : ¬ k ∈ dedup P := fun hh => h (mem_dedup.mp hh)
    simp only [hd, h, if_false, List.map_append, List.map_cons, List.map_nil]
    congr 1
    · apply List.map_congr_left
      intro k' hk'
      have hne : k' ≠ k := fun e => hd (e ▸ hk')
      have : (k == k') = false := by simpa using fun e' => hne e'.symm
      rw [List.count_append, List.count_singleton]
      simp [this]
    · rw [List.count_append, List.count_eq_zero_of_not_mem h]; simp

theorem dtally_aux (keys : List (List DEdge)) : ∀ P : List (List DEdge),
    keys.foldl (fun acc k => bump k acc) (dspec P) = dspec (P ++ keys) := by
  induction keys with
  | nil => intro P; simp
  | cons k keys ih =>
    intro P
    simp only [List.foldl_cons]
    rw [bump_dspec, ih]
    simp

theorem dtally_eq (keys : List (List DEdge)) : dtally keys = dspec keys := by
  have := dtally_aux keys []
  simpa [dtally, dspec, dedup] using this

theorem dtally_perm {keys keys' : List (List DEdge)} (h : keys.Perm keys') :
    (dtally keys).Perm (dtally keys') := by
  rw [dtally_eq, dtally_eq]
  unfold dspec
  have hd : (dedup keys).Perm (dedup keys') :=
    (List.perm_ext_iff_of_nodup (nodup_dedup _) (nodup_dedup _)).mpr (fun x => by
      rw [mem_dedup, mem_dedup]; exact h.mem_iff)
  have hf : (dedup keys').map (fun k => (k, keys'.count k)) = (dedup keys').map (fun k => (k, keys.count k)) := by
    apply List.map_congr_left
    intro k _
    rw [h.count_eq]
  rw [hf]
  exact hd.map _

theorem dspec_total (keys : List (List DEdge)) : ((dspec keys).map (·.2)).sum = keys.length := by
  unfold dspec
  rw [List.map_map]
  show ((dedup keys).map fun k => keys.count k).sum = _
  rw [sum_count_nodup _ (nodup_dedup _), List.countP_eq_length]
  intro x hx
  exact List.contains_iff_mem.mpr (mem_dedup.mpr hx)

theorem mem_dtally {keys : List (List DEdge)} {kc : List DEdge × Nat} (h : kc ∈ dtally keys) :
    kc.1 ∈ keys := by
  rw [dtally_eq] at h
  obtain ⟨k, hk, rfl⟩ := List.mem_map.mp h
  exact mem_dedup.mp hk

theorem dtally_keys_nodup (keys : List (List DEdge)) : ((dtally keys).map (·.1)).Nodup := by
  rw [dtally_eq, dspec, List.map_map]
  simpa [Function.comp_def] using nodup_dedup keys

theorem dirCensus_keys_nodup (n : Nat) (E : DHG) : ((dirCensus n E).map (·.1)).Nodup := by
  unfold dirCensus
  simp only
  split
  · rw [List.map_append]
    refine List.nodup_append.mpr ⟨?_, dtally_keys_nodup _, ?_⟩
    · exact List.Nodup.sublist (List.Sublist.map _ List.filter_sublist) (dtally_keys_nodup _)
    · intro a ha b hb hab
      subst hab
      obtain ⟨p, hp, rfl⟩ := List.mem_map.mp ha
      obtain ⟨q, hq, hqp⟩ := List.mem_map.mp hb
      have := (List.mem_filter.mp hp).2
      simp only [Bool.not_eq_true', List.any_eq_false, beq_iff_eq] at this
      exact this q hq hqp
  · exact dtally_keys_nodup _

theorem dirCensus_key {n : Nat} {E : DHG} {kc : List DEdge × Nat} (h : kc ∈ dirCensus n E) :
    ∃ S : List Nat, S.length = n ∧ kc.1 = dcanon n (dpattern (dUpTo n E) S) := by
  unfold dirCensus at h
  simp only at h
  have key : ∀ vis l kc, kc ∈ dtally ((visitNew n vis l).map fun S => dcanon n (dpattern (dUpTo n E) S)) →
      ∃ S : List Nat, S.length = n ∧ kc.1 = dcanon n (dpattern (dUpTo n E) S) := by
    intro vis l kc hk
    obtain ⟨S, hS, hSk⟩ := List.mem_map.mp (mem_dtally hk)
    exact ⟨S, (mem_visitNew.mp hS).2.1, hSk.symm⟩
  by_cases h4 : (n == 4) = true
  · rw [if_pos h4] at h
    rcases List.mem_append.mp h with h' | h'
    · exact key _ _ kc (List.mem_filter.mp h').1
    · exact key _ _ kc h'
  · rw [if_neg h4] at h
    exact key _ _ kc h

end C11
