import Hgxv.Proofs.C04Inv
/-! C04 - a rejected call leaves the store unchanged (every operation, batched ones included). -/
namespace C04
open AL

instance : DecidablePred Op.WF := fun op => by cases op <;> unfold Op.WF <;> infer_instance

theorem addNodes_rej (s : Store) (ns mds) (h : (addNodes s ns mds).2 = Out.rej) : (addNodes s ns mds).1 = s := by
  unfold addNodes at h ⊢
  cases mds with
  | none => simp at h
  | some d =>
    simp only [] at h ⊢
    by_cases hc : (ns.all fun n => (get? d n).isSome) = true
    · rw [if_pos hc] at h; simp at h
    · rw [if_neg hc]

theorem addEdge_rej (s : Store) (raw l w md) (h : (addEdge s raw l w md).2 = Out.rej) : (addEdge s raw l w md).1 = s := by
  unfold addEdge at h ⊢
  split at h
  · simp_all
  · simp at h

theorem addEdges_rej (s : Store) (raws ls ws mds) (h : (addEdges s raws ls ws mds).2 = Out.rej) :
    (addEdges s raws ls ws mds).1 = s := by
  rw [addEdges_eq] at h ⊢
  split at h
  · rfl
  · cases h

theorem removeEdge_rej (s : Store) (raw l) (h : (removeEdge s raw l).2 = Out.rej) : (removeEdge s raw l).1 = s := by
  unfold removeEdge at h ⊢
  split at h
  · simp_all
  · simp at h

theorem removeNode_rej (s : Store) (n keep) (h : (removeNode s n keep).2 = Out.rej) : (removeNode s n keep).1 = s := by
  unfold removeNode at h ⊢
  split at h
  · simp_all
  · simp at h

theorem setWeight_rej (s : Store) (raw l w) (h : (setWeight s raw l w).2 = Out.rej) : (setWeight s raw l w).1 = s := by
  unfold setWeight at h ⊢
  split at h
  · simp_all
  · split at h
    · simp_all
    · simp at h

theorem setAttrNode_rej (s : Store) (n k v) (h : (setAttrNode s n k v).2 = Out.rej) : (setAttrNode s n k v).1 = s := by
  unfold setAttrNode at h ⊢
  split at h
  · simp_all
  · simp at h

theorem delAttrNode_rej (s : Store) (n k) (h : (delAttrNode s n k).2 = Out.rej) : (delAttrNode s n k).1 = s := by
  unfold delAttrNode at h ⊢
  split at h
  · simp_all
  · split at h
    · simp at h
    · simp_all

theorem setAttrEdge_rej (s : Store) (raw l k v) (h : (setAttrEdge s raw l k v).2 = Out.rej) :
    (setAttrEdge s raw l k v).1 = s := by
  unfold setAttrEdge at h ⊢
  split at h
  · simp_all
  · split at h
    · simp_all
    · simp at h

theorem delAttrEdge_rej (s : Store) (raw l k) (h : (delAttrEdge s raw l k).2 = Out.rej) : (delAttrEdge s raw l k).1 = s := by
  unfold delAttrEdge at h ⊢
  split at h
  · simp_all
  · split at h
    · simp_all
    · split at h
      · simp at h
      · simp_all

end C04
