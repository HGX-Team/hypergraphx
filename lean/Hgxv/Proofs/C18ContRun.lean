import Hgxv.Proofs.C18Cont
import Hgxv.Proofs.C18Adj
/-! C18, contagion: the run.  Each routine reads the draw stream forward from its position (`Local`); what holds
across one sweep holds along the trajectory (`runStates_adj`); horizon prefix; the closed form. -/
namespace C18

/-- `F f p` makes its draws from position `p` on, returns the position behind the last one, and does not depend on
the rest of the stream -/
def Local {α} (F : (Nat → Rat) → Nat → α × Nat) : Prop :=
  ∀ f p, p ≤ (F f p).2 ∧ ∀ g, (∀ q, p ≤ q → q < (F f p).2 → f q = g q) → F g p = F f p

theorem local_pure {α} (a : α) : Local (fun _ p => (a, p)) := fun _ p => ⟨Nat.le_refl p, fun _ _ => rfl⟩

theorem local_draw : Local (fun f p => (f p, p + 1)) :=
  fun _ p => ⟨Nat.le_succ p, fun _ h => congrArg (fun x => (x, p + 1)) (h p (Nat.le_refl p) (Nat.lt_succ_self p)).symm⟩

theorem local_bind {α β} {F : (Nat → Rat) → Nat → α × Nat} {G : α → (Nat → Rat) → Nat → β × Nat}
    (hF : Local F) (hG : ∀ a, Local (G a)) : Local (fun f p => G (F f p).1 f (F f p).2) := by
  intro f p
  obtain ⟨h1, h2⟩ := hF f p
  obtain ⟨h3, h4⟩ := hG (F f p).1 f (F f p).2
  refine ⟨Nat.le_trans h1 h3, fun g h => ?_⟩
  have e : F g p = F f p := h2 g (fun q hq hq' => h q hq (Nat.lt_of_lt_of_le hq' h3))
  show G (F g p).1 g (F g p).2 = G (F f p).1 f (F f p).2
  rw [e]
  exact h4 g (fun q hq hq' => h q (Nat.le_trans h1 hq) hq')

theorem local_ite {α} (c : Prop) [Decidable c] {F G : (Nat → Rat) → Nat → α × Nat} (hF : Local F) (hG : Local G) :
    Local (fun f p => if c then F f p else G f p) := by
  by_cases h : c
  · simpa only [if_pos h] using hF
  · simpa only [if_neg h] using hG

theorem local_congr {α} {F F' : (Nat → Rat) → Nat → α × Nat} (h : ∀ f p, F f p = F' f p) (hF : Local F') : Local F := by
  rw [show F = F' from funext fun f => funext (h f)]; exact hF

theorem local_foldl {α ι} (G : ι → α → (Nat → Rat) → Nat → α × Nat) (hG : ∀ v a, Local (G v a)) (l : List ι) :
    ∀ a, Local (fun f p => l.foldl (fun st v => G v st.1 f st.2) (a, p)) := by
  induction l with
  | nil => exact fun a => local_pure a
  | cons v l ih => exact fun a => local_bind (hG v a) ih

theorem loopHits_local (rate : Rat) (cs : List Bool) : Local (fun f p => loopHits f rate cs p) := by
  induction cs with
  | nil => exact local_pure false
  | cons c cs ih =>
    cases c with
    | false => exact ih
    | true => exact local_bind local_draw (fun a => local_ite (a < rate) (local_pure true) ih)

theorem nodeStep_local (es : List Edge) (nodes : List Nat) (r : Rates) (Iold J : Nat → Bool) (v : Nat) :
    Local (fun f p => nodeStep es nodes r f Iold (J, p) v) := by
  have hpair := loopHits_local r.beta ((pairNbrs es nodes v).map Iold)
  have htri := loopHits_local r.betaD ((triplets es v).map (triHit Iold v))
  by_cases hI : Iold v = false
  · -- pairwise attempts, then `continue` or the triadic attempts
    have := local_bind hpair (fun a =>
      local_ite ((if a = true then setI J v true else J) v = true)
        (local_pure (if a = true then setI J v true else J))
        (local_bind htri (fun b => local_pure
          (if b = true then setI (if a = true then setI J v true else J) v true
            else if a = true then setI J v true else J))))
    exact local_congr (fun _ _ => if_pos hI) this
  · have := local_bind local_draw (fun a => local_ite (a < r.mu) (local_pure (setI J v false)) (local_pure J))
    exact local_congr (fun _ _ => if_neg hI) this

theorem step_local (es : List Edge) (nodes : List Nat) (r : Rates) (I : Nat → Bool) :
    Local (fun f p => step es nodes r f I p) :=
  local_foldl (fun v J f p => nodeStep es nodes r f I (J, p) v) (fun v J => nodeStep_local es nodes r I J v) nodes I

theorem step_pos_le (es : List Edge) (nodes : List Nat) (r : Rates) (f : Nat → Rat)
    (I : Nat → Bool) (p : Nat) : p ≤ (step es nodes r f I p).2 :=
  (step_local es nodes r I f p).1

theorem step_congr (es : List Edge) (nodes : List Nat) (r : Rates) (f g : Nat → Rat)
    (I : Nat → Bool) (p : Nat)
    (h : ∀ q, p ≤ q → q < (step es nodes r f I p).2 → f q = g q) :
    step es nodes r g I p = step es nodes r f I p :=
  (step_local es nodes r I f p).2 g h

theorem runStates_succ (es : List Edge) (nodes keys : List Nat) (r : Rates) (f : Nat → Rat)
    (n : Nat) (I : Nat → Bool) (p : Nat) :
    runStates es nodes keys r f (n + 1) I p =
      if infected keys I = 0 then List.replicate (n + 1) (I, p)
      else step es nodes r f I p ::
        runStates es nodes keys r f n (step es nodes r f I p).1 (step es nodes r f I p).2 := by
  rw [runStates]

theorem runStates_length (es : List Edge) (nodes keys : List Nat) (r : Rates) (f : Nat → Rat) :
    ∀ (n : Nat) (I : Nat → Bool) (p : Nat), (runStates es nodes keys r f n I p).length = n := by
  intro n
  induction n with
  | zero => intro I p; rfl
  | succ n ih =>
    intro I p
    rw [runStates_succ]
    split
    · exact List.length_replicate
    · rw [List.length_cons, ih]

theorem runStates_adj (es : List Edge) (nodes keys : List Nat) (r : Rates) (f : Nat → Rat)
    (R : (Nat → Bool) × Nat → (Nat → Bool) × Nat → Prop)
    (hrefl : ∀ s, infected keys s.1 = 0 → R s s)
    (hstep : ∀ I p, infected keys I ≠ 0 → R (I, p) (step es nodes r f I p)) :
    ∀ (n : Nat) (I : Nat → Bool) (p : Nat), Adj R ((I, p) :: runStates es nodes keys r f n I p) := by
  intro n
  induction n with
  | zero => intro I p; exact adj_single _ _
  | succ n ih =>
    intro I p
    rw [runStates_succ]
    split
    · next hz => exact adj_replicate R (I, p) (hrefl _ hz) (n + 2)
    · next hz => exact adj_cons R _ _ _ (hstep I p hz) (ih _ _)

theorem runStates_pos_mono (es : List Edge) (nodes keys : List Nat) (r : Rates) (f : Nat → Rat) :
    ∀ (n : Nat) (I : Nat → Bool) (p : Nat),
      Adj (fun a b => a.2 ≤ b.2) ((I, p) :: runStates es nodes keys r f n I p) :=
  runStates_adj es nodes keys r f _ (fun _ _ => Nat.le_refl _) (fun I p _ => step_pos_le es nodes r f I p)

theorem run_set_grows (es : List Edge) (nodes keys : List Nat) (hnd : nodes.Nodup) (r : Rates)
    (f : Nat → Rat) (hf : UnitDraws f) (hmu : r.mu = 0) (n : Nat) (I : Nat → Bool) (p : Nat) :
    Adj (fun a b => ∀ v, a.1 v = true → b.1 v = true)
      ((I, p) :: runStates es nodes keys r f n I p) :=
  runStates_adj es nodes keys r f _ (fun _ _ _ h => h)
    (fun I p _ v hv => step_mu0 es nodes hnd r f (fun n => (hf n).1) hmu I p v hv) n I p

theorem run_set_shrinks (es : List Edge) (nodes keys : List Nat) (hnd : nodes.Nodup) (r : Rates)
    (f : Nat → Rat) (hf : UnitDraws f) (hb : r.beta = 0) (hbd : r.betaD = 0)
    (n : Nat) (I : Nat → Bool) (p : Nat) :
    Adj (fun a b => ∀ v, b.1 v = true → a.1 v = true)
      ((I, p) :: runStates es nodes keys r f n I p) :=
  runStates_adj es nodes keys r f _ (fun _ _ _ h => h)
    (fun I p _ v hv => step_beta0 es nodes hnd r f (fun n => (hf n).1) hb hbd I p v hv) n I p

theorem filter_mono (keys : List Nat) (I J : Nat → Bool) (h : ∀ v, I v = true → J v = true) :
    ∀ v, v ∈ keys.filter I → v ∈ keys.filter J := fun v hv =>
  List.mem_filter.mpr ⟨(List.mem_filter.mp hv).1, h v (List.mem_filter.mp hv).2⟩

theorem fraction_mono (keys : List Nat) (I J : Nat → Bool) (h : ∀ v, I v = true → J v = true) :
    (infected keys I : Rat) / (keys.length : Rat) ≤ (infected keys J : Rat) / (keys.length : Rat) :=
  div_le_div_of_nonneg_right (Nat.cast_le.mpr (infected_mono keys I J h)) (Nat.cast_nonneg _)

theorem fractions_adj (es : List Edge) (nodes keys : List Nat) (r : Rates) (f : Nat → Rat) (I0 : Nat → Bool) (T : Nat)
    (S : Rat → Rat → Prop)
    (h : Adj (fun a b => S ((infected keys a.1 : Rat) / (keys.length : Rat)) ((infected keys b.1 : Rat) / (keys.length : Rat)))
      ((I0, 0) :: runStates es nodes keys r f (T - 1) I0 0)) :
    Adj S (fractions es nodes keys r f I0 T) :=
  adj_map S _ _ (adj_map _ (fun s : (Nat → Bool) × Nat => infected keys s.1)
    ((I0, 0) :: runStates es nodes keys r f (T - 1) I0 0) h)

theorem infectedSets_adj (es : List Edge) (nodes keys : List Nat) (r : Rates) (f : Nat → Rat) (I0 : Nat → Bool) (T : Nat)
    (S : List Nat → List Nat → Prop)
    (h : Adj (fun a b => S (keys.filter a.1) (keys.filter b.1)) ((I0, 0) :: runStates es nodes keys r f (T - 1) I0 0)) :
    Adj S (keys.filter I0 :: infectedSets es nodes keys r f I0 T) :=
  adj_map S (fun s : (Nat → Bool) × Nat => keys.filter s.1) ((I0, 0) :: runStates es nodes keys r f (T - 1) I0 0) h

theorem run_outside_unchanged (es : List Edge) (nodes keys : List Nat) (hnd : nodes.Nodup) (r : Rates)
    (f : Nat → Rat) (n : Nat) (I : Nat → Bool) (p : Nat) :
    ∀ s ∈ runStates es nodes keys r f n I p, ∀ u, u ∉ nodes → s.1 u = I u := fun _ hs u hu =>
  List.rel_of_pairwise_cons (adj_pairwise (fun a b : (Nat → Bool) × Nat => b.1 u = a.1 u) (fun _ _ _ h1 h2 => h2.trans h1) _
    (runStates_adj es nodes keys r f (fun a b => b.1 u = a.1 u) (fun _ _ => rfl)
      (fun I p _ => (step_spec es nodes hnd r f I p).1 u hu) n I p)) hs

theorem counts_length (es : List Edge) (nodes keys : List Nat) (r : Rates) (f : Nat → Rat) (I0 : Nat → Bool) (T : Nat) :
    (counts es nodes keys r f I0 T).length = T - 1 + 1 := by
  rw [counts, List.length_cons, List.length_map, runStates_length]

theorem consumed_bound (es : List Edge) (nodes keys : List Nat) (r : Rates) (f : Nat → Rat)
    (I0 : Nat → Bool) (T : Nat) :
    ∀ s ∈ runStates es nodes keys r f (T - 1) I0 0, s.2 ≤ consumed es nodes keys r f I0 T := by
  intro s hs
  have hp := adj_pairwise (fun a b : (Nat → Bool) × Nat => a.2 ≤ b.2) (fun _ _ _ => Nat.le_trans) _
    (adj_tail _ _ _ (runStates_pos_mono es nodes keys r f (T - 1) I0 0))
  unfold consumed
  cases hl : (runStates es nodes keys r f (T - 1) I0 0).getLast? with
  | none => rw [List.getLast?_eq_none_iff.mp hl] at hs; cases hs
  | some l =>
    obtain ⟨ys, hys⟩ := List.getLast?_eq_some_iff.mp hl
    rw [hys] at hs hp
    rcases List.mem_append.mp hs with hs | hs
    · exact (List.pairwise_append.mp hp).2.2 s hs l (List.mem_singleton_self l)
    · rw [List.mem_singleton.mp hs]

theorem runStates_take (es : List Edge) (nodes keys : List Nat) (r : Rates) (f : Nat → Rat) :
    ∀ (n : Nat) (I : Nat → Bool) (p : Nat),
      runStates es nodes keys r f n I p = (runStates es nodes keys r f (n + 1) I p).take n := by
  intro n
  induction n with
  | zero => intro I p; rw [List.take_zero]; rfl
  | succ n ih =>
    intro I p
    rw [runStates_succ es nodes keys r f (n + 1), runStates_succ es nodes keys r f n]
    split
    · rw [List.take_replicate, Nat.min_eq_left (Nat.le_succ _)]
    · rw [List.take_succ_cons, ← ih]

theorem counts_prefix (es : List Edge) (nodes keys : List Nat) (r : Rates) (f : Nat → Rat)
    (I0 : Nat → Bool) (T : Nat) (hT : 1 ≤ T) :
    counts es nodes keys r f I0 T = (counts es nodes keys r f I0 (T + 1)).take T := by
  obtain ⟨k, rfl⟩ : ∃ k, T = k + 1 := ⟨T - 1, by omega⟩
  unfold counts
  rw [List.take_succ_cons, ← List.map_take, Nat.add_sub_cancel, Nat.add_sub_cancel, ← runStates_take]

theorem runStates_congr (es : List Edge) (nodes keys : List Nat) (r : Rates) (f g : Nat → Rat)
    (M : Nat) (hfg : ∀ q, q < M → f q = g q) :
    ∀ (n : Nat) (I : Nat → Bool) (p : Nat),
      (∀ s ∈ runStates es nodes keys r f n I p, s.2 ≤ M) →
      runStates es nodes keys r g n I p = runStates es nodes keys r f n I p := by
  intro n
  induction n with
  | zero => intro I p _; rfl
  | succ n ih =>
    intro I p hM
    rw [runStates_succ] at hM
    rw [runStates_succ, runStates_succ]
    split
    · rfl
    · next hz =>
      rw [if_neg hz] at hM
      rw [step_congr es nodes r f g I p (fun q _ hq' => hfg q (Nat.lt_of_lt_of_le hq' (hM _ List.mem_cons_self))),
        ih _ _ (fun s hs => hM s (List.mem_cons_of_mem _ hs))]

theorem run_det (es : List Edge) (nodes keys : List Nat) (hnd : nodes.Nodup) (r : Rates) (f : Nat → Rat) (hf : UnitDraws f)
    (hb : r.beta = 0 ∨ r.beta = 1) (hbd : r.betaD = 0 ∨ r.betaD = 1) (hmu : r.mu = 0 ∨ r.mu = 1) :
    ∀ (n : Nat) (I : Nat → Bool) (p : Nat),
      (runStates es nodes keys r f n I p).map (fun s => infected keys s.1) = spreadCounts es nodes keys r n I := by
  intro n
  induction n with
  | zero => intro I p; rfl
  | succ n ih =>
    intro I p
    rw [runStates_succ, spreadCounts]
    split
    · next hz => rw [List.map_replicate, hz]
    · rw [List.map_cons, ih, step_det es nodes hnd r f hf hb hbd hmu]

end C18
