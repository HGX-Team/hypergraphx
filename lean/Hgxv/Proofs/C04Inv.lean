import Hgxv.Proofs.C04Store
import Hgxv.Proofs.ALStore
import Hgxv.Proofs.C04Basic
/-! C04 - the representation invariant of the concrete store and its preservation by each primitive write (a new record,
a record removed, an entry or a node table changed); the public calls are in `C04Ref`.
Three independent parts: `IdInv` (tables indexed by record id), `NM` (`_adj` and `_node_metadata` have the same
keys), `AdjInv` (adjacency lists against the reverse table). Core Lean only. -/
namespace C04
open AL

/-- The tables indexed by record id. `el_nodup` - `id_lt`: `_edge_list` and `_reverse_edge_list` are inverse to each other
and every id is below `_next_edge_id` (so a fresh id clashes with nothing). `w_some`, `em_some`, `em_nodup`: weights and
metadata exist exactly for the live ids. `key_sorted`: keys are canonical. `unw`: an unweighted hypergraph holds weight 1
only. `reg`, `layers_nodup`: the registry covers the layers in use, once each. `el_sorted`: ids grow along `_edge_list`,
which is what makes an adjacency list (increasing ids) list the records in the order of `_edge_list` (`adj_eq_filter`). -/
structure IdInv (s : Store) : Prop where
  el_nodup : (keys s.edgeList).Nodup
  rev_of_edge : ∀ k id, get? s.edgeList k = some id → get? s.rev id = some k
  edge_of_rev : ∀ k id, get? s.rev id = some k → get? s.edgeList k = some id
  id_lt : ∀ id k, get? s.rev id = some k → id < s.nextId
  w_some : ∀ id, (get? s.weights id).isSome ↔ (get? s.rev id).isSome
  em_some : ∀ id, (get? s.emeta id).isSome ↔ (get? s.rev id).isSome
  em_nodup : (keys s.emeta).Nodup
  key_sorted : ∀ id k, get? s.rev id = some k → SSorted k.1
  unw : s.weighted = false → ∀ id w, get? s.weights id = some w → w = one
  reg : ∀ id k, get? s.rev id = some k → k.2 ∈ s.layers
  layers_nodup : s.layers.Nodup
  el_sorted : (s.edgeList.map (·.2)).Pairwise (· < ·)

structure NM (s : Store) : Prop where
  adj_nm : ∀ n, (get? s.adj n).isSome ↔ (get? s.nmeta n).isSome
  nm_nodup : (keys s.nmeta).Nodup

structure AdjInv (s : Store) : Prop where
  adj_sorted : ∀ n ids, get? s.adj n = some ids → ids.Pairwise (· < ·)
  adj_iff : ∀ n ids, get? s.adj n = some ids → ∀ id, id ∈ ids ↔ ∃ k, get? s.rev id = some k ∧ n ∈ k.1
  nodes_in : ∀ id k, get? s.rev id = some k → ∀ n ∈ k.1, (get? s.adj n).isSome

structure Inv (s : Store) : Prop where
  id : IdInv s
  nm : NM s
  adj : AdjInv s

/-- `IdInv` reads the weight and metadata tables only through the ids they hold (and the weights of an unweighted
hypergraph), and the registry only through its members -/
theorem IdInv.of_vals {s s' : Store} (h : IdInv s) (h1 : s'.edgeList = s.edgeList) (h2 : s'.rev = s.rev)
    (h5 : s'.nextId = s.nextId) (hw : ∀ id, (get? s'.weights id).isSome = (get? s.weights id).isSome)
    (he : ∀ id, (get? s'.emeta id).isSome = (get? s.emeta id).isSome) (hen : (keys s'.emeta).Nodup)
    (hu : s'.weighted = false → ∀ id w, get? s'.weights id = some w → w = one)
    (hl : ∀ l ∈ s.layers, l ∈ s'.layers) (hln : s'.layers.Nodup) : IdInv s' := by
  obtain ⟨a1, a2, a3, a4, a5, a6, a7, a8, a9, a10, a11, a12⟩ := h
  refine ⟨?_, ?_, ?_, ?_, ?_, ?_, hen, ?_, hu, ?_, hln, ?_⟩ <;> simp only [h1, h2, h5, hw, he] <;> try assumption
  exact fun id k hk => hl _ (a10 id k hk)

theorem IdInv.of_eq {s s' : Store} (h : IdInv s) (h1 : s'.edgeList = s.edgeList) (h2 : s'.rev = s.rev)
    (h3 : s'.weights = s.weights) (h4 : s'.emeta = s.emeta) (h5 : s'.nextId = s.nextId)
    (h6 : s'.weighted = s.weighted) (h7 : s'.layers = s.layers) : IdInv s' :=
  h.of_vals h1 h2 h5 (fun _ => by rw [h3]) (fun _ => by rw [h4]) (h4 ▸ h.em_nodup) (by rw [h6, h3]; exact h.unw)
    (fun _ hl => h7 ▸ hl) (h7 ▸ h.layers_nodup)

theorem AdjInv.of_eq {s s' : Store} (h : AdjInv s) (h1 : s'.rev = s.rev) (h2 : ∀ n, get? s'.adj n = get? s.adj n) :
    AdjInv s' := by
  obtain ⟨a1, a2, a3⟩ := h
  constructor <;> simp only [h1, h2] <;> assumption

theorem NM.of_eq {s s' : Store} (h : NM s) (h1 : ∀ n, (get? s'.adj n).isSome = (get? s.adj n).isSome) (h2 : s'.nmeta = s.nmeta) :
    NM s' := by
  obtain ⟨a1, a2⟩ := h
  constructor <;> simp only [h1, h2] <;> assumption

theorem AdjInv.index {s : Store} (h : AdjInv s) : Index (· < ·) s.rev (·.1) s.adj := ⟨h.adj_sorted, h.adj_iff, h.nodes_in⟩

theorem AdjInv.of_index {s : Store} (h : Index (· < ·) s.rev (·.1) s.adj) : AdjInv s := ⟨h.sorted, h.mem_iff, h.dom⟩

theorem IdInv.tables {s : Store} (h : IdInv s) : IdTables s.edgeList s.rev s.nextId := ⟨h.rev_of_edge, h.edge_of_rev, h.id_lt⟩

theorem inv_init (w : Bool) (hm : HMeta) : Inv (init w hm) := by
  refine ⟨?_, ?_, ?_⟩ <;> constructor <;> simp [init, keys]

theorem addNode_NM (s : Store) (n : Node) (md : Option Meta) (h : NM s) : NM (addNode s n md) := by
  constructor
  · intro m
    rw [addNode_nmeta_some s n md m (h.adj_nm n), addNode_adj]
    have := h.adj_nm m
    grind
  · rw [addNode_nmeta s n md (h.adj_nm n)]
    have := h.nm_nodup
    split
    · exact keys_set_nodup _ _ _ this
    · exact keys_set_nodup _ _ _ this
    · exact this

theorem addNode_AdjInv (s : Store) (n : Node) (md : Option Meta) (h : AdjInv s) : AdjInv (addNode s n md) :=
  have hr : (addNode s n md).rev = s.rev := by rw [addNode_frame]
  .of_index (hr ▸ h.index.touch (addNode_adj s n md))

theorem addNode_inv (s : Store) (n : Node) (md : Option Meta) (h : Inv s) : Inv (addNode s n md) :=
  ⟨by rw [addNode_frame]; exact h.id.of_eq rfl rfl rfl rfl rfl rfl rfl, addNode_NM s n md h.nm,
    addNode_AdjInv s n md h.adj⟩

theorem touchNodes_inv (s : Store) (ns : List Node) (h : Inv s) : Inv (touchNodes s ns) := by
  induction ns generalizing s with
  | nil => exact h
  | cons n ns ih => exact ih _ (addNode_inv s n none h)

theorem touchNodes_NM (s : Store) (ns : List Node) (h : NM s) : NM (touchNodes s ns) := by
  induction ns generalizing s with
  | nil => exact h
  | cons n ns ih => exact ih _ (addNode_NM s n none h)

theorem withLayer_inv (s : Store) (l : Layer) (h : Inv s) : Inv { s with layers := addLayer s.layers l } :=
  ⟨h.id.of_vals rfl rfl rfl (fun _ => rfl) (fun _ => rfl) h.id.em_nodup h.id.unw
    (fun _ hl => (mem_addLayer _ _ _).mpr (Or.inr hl)) (addLayer_nodup _ _ h.id.layers_nodup),
   h.nm.of_eq (fun _ => rfl) rfl, h.adj.of_eq rfl (fun _ => rfl)⟩

theorem bumpRecord_inv (s : Store) (id : Nat) (w : Int) (md : Meta) (h : Inv s) (hid : (get? s.rev id).isSome) :
    Inv (bumpRecord s id w md) := by
  refine ⟨h.id.of_vals rfl rfl rfl ?_ (isSome_set_of_isSome _ _ _ ((h.id.em_some id).mpr hid)) (keys_set_nodup _ _ _ h.id.em_nodup)
    ?_ (fun _ hl => hl) h.id.layers_nodup, h.nm.of_eq (fun _ => rfl) rfl, h.adj.of_eq rfl (fun _ => rfl)⟩
  · intro id'
    simp only [bumpRecord]
    split
    · exact isSome_set_of_isSome _ _ _ ((h.id.w_some id).mpr hid) id'
    · rfl
  · intro hw
    have hw' : s.weighted = false := hw
    simp only [bumpRecord, hw']
    exact h.id.unw hw'

theorem IdInv.el_lt {s : Store} (h : IdInv s) (p : Key × Nat) (hp : p ∈ s.edgeList) : p.2 < s.nextId := by
  have := get?_of_mem s.edgeList p.1 p.2 h.el_nodup hp
  exact h.id_lt _ _ (h.rev_of_edge _ _ this)

theorem allocRecord_IdInv (s : Store) (k : Key) (w : Int) (md : Meta) (h : IdInv s)
    (hk : get? s.edgeList k = none) (hs : SSorted k.1) (hl : k.2 ∈ s.layers) (hw : s.weighted = false → w = one) :
    IdInv (allocRecord s k w md) := by
  have hT := h.tables.insert hk (fun k' => get?_set s.edgeList k k' s.nextId) fun i => get?_set s.rev s.nextId i k
  obtain ⟨a1, a2, a3, a4, a5, a6, a7, a8, a9, a10, a11, a12⟩ := h
  refine ⟨keys_set_nodup _ _ _ a1, hT.rev_of_edge, hT.edge_of_rev, hT.id_lt,
    isSome_set_congr s.weights s.rev s.nextId w k a5, isSome_set_congr s.emeta s.rev s.nextId md k a6, keys_set_nodup _ _ _ a7,
    forall_get?_set s.rev s.nextId k (fun _ k' => SSorted k'.1) hs a8,
    fun hwt => forall_get?_set s.weights s.nextId w (fun _ w' => w' = one) (hw hwt) (a9 hwt),
    forall_get?_set s.rev s.nextId k (fun _ k' => k'.2 ∈ s.layers) hl a10, a11, ?_⟩
  -- the fresh id is appended, and it is above every id in the table
  simp only [allocRecord]
  rw [set_of_not_mem _ _ _ hk, List.map_append]
  refine List.pairwise_append.mpr ⟨a12, List.pairwise_singleton _ _, fun a ha b hb => ?_⟩
  cases List.mem_singleton.mp hb
  obtain ⟨p, hp, rfl⟩ := List.mem_map.mp ha
  exact a4 _ _ (a2 _ _ (get?_of_mem s.edgeList p.1 p.2 a1 hp))

theorem addEdgeNew_adj (s : Store) (k : Key) (w : Int) (md : Meta) (hs : k.1.Nodup) (m : Node) :
    get? (addEdgeNew s k w md).adj m =
      if m ∈ k.1 then some (((get? s.adj m).getD []) ++ [s.nextId]) else get? s.adj m := by
  simp only [addEdgeNew, linkAll]
  rw [linkNodes_adj _ _ _ hs, touchNodes_adj]
  simp only [allocRecord]
  -- cases on `m ∈ k.1`: `touchNodes` has given such an `m` a row (its old one, or `[]`), `linkNodes` appends the id to it
  grind

theorem addEdgeNew_frame (s : Store) (k : Key) (w : Int) (md : Meta) :
    addEdgeNew s k w md = { allocRecord s k w md with adj := (addEdgeNew s k w md).adj,
                                                      nmeta := (touchNodes (allocRecord s k w md) k.1).nmeta } := by
  rw [addEdgeNew, linkAll, touchNodes_frame]

theorem addEdgeNew_inv (s : Store) (k : Key) (w : Int) (md : Meta) (h : Inv s)
    (hk : get? s.edgeList k = none) (hs : SSorted k.1) (hl : k.2 ∈ s.layers) (hw : s.weighted = false → w = one) :
    Inv (addEdgeNew s k w md) := by
  have hadj := addEdgeNew_adj s k w md hs.nodup
  have hrev : (addEdgeNew s k w md).rev = AL.set s.rev s.nextId k := by rw [addEdgeNew_frame]; rfl
  have f9 : (addEdgeNew s k w md).nmeta = (touchNodes (allocRecord s k w md) k.1).nmeta := by rw [addEdgeNew_frame]
  refine ⟨?_, ?_, ?_⟩
  · rw [addEdgeNew_frame]
    exact (allocRecord_IdInv s k w md h.id hk hs hl hw).of_eq rfl rfl rfl rfl rfl rfl rfl
  · have hnm : NM (touchNodes (allocRecord s k w md) k.1) :=
      touchNodes_NM _ _ (h.nm.of_eq (fun _ => rfl) rfl)
    constructor
    · intro m
      rw [f9, ← hnm.adj_nm m, hadj, touchNodes_adj]
      simp only [allocRecord]
      -- both sides are `some _` for `m ∈ k.1` and the old lookup otherwise
      grind
    · rw [f9]; exact hnm.nm_nodup
  · exact .of_index (h.adj.index.push_get h.id.tables.fresh h.id.id_lt (fun i => hrev ▸ get?_set s.rev s.nextId i k) hadj)

theorem addEdgeOld_inv (s : Store) (k : Key) (id : Nat) (w : Int) (md : Meta) (h : Inv s)
    (hid : (get? s.rev id).isSome) : Inv (addEdgeOld s k id w md) := by
  simp only [addEdgeOld]
  exact touchNodes_inv _ _ (bumpRecord_inv s id w md h hid)

theorem weighted_true_inv (s : Store) (h : Inv s) : Inv { s with weighted := true } :=
  ⟨h.id.of_vals rfl rfl rfl (fun _ => rfl) (fun _ => rfl) h.id.em_nodup (fun hw => nomatch hw) (fun _ hl => hl)
    h.id.layers_nodup, h.nm.of_eq (fun _ => rfl) rfl, h.adj.of_eq rfl (fun _ => rfl)⟩

theorem promote_inv (s : Store) (p : Bool) (h : Inv s) : Inv (if p then { s with weighted := true } else s) := by
  cases p
  · exact h
  · exact weighted_true_inv s h

theorem removeKey_inv (s : Store) (k : Key) (id : Nat) (h : Inv s) (hk : get? s.edgeList k = some id) :
    Inv (removeKey s k id) := by
  have hrev := h.id.rev_of_edge _ _ hk
  have hadj := unlinkNodes_adj s.adj id k.1 (h.id.key_sorted _ _ hrev).nodup
  refine ⟨?_, ⟨fun m => ?_, h.nm.nm_nodup⟩, ?_⟩
  · have hT := h.id.tables.erase hk (get?_filter_ne s.edgeList k) (get?_filter_ne s.rev id)
    obtain ⟨a1, a2, a3, a4, a5, a6, a7, a8, a9, a10, a11, a12⟩ := h.id
    refine ⟨keys_nodup_del _ _ a1, hT.rev_of_edge, hT.edge_of_rev, hT.id_lt, ?_, ?_, keys_nodup_del _ _ a7,
      fun id' k' hh => a8 _ _ (get?_del_some hh), fun hw id' w' hh => a9 hw _ _ (get?_del_some hh),
      fun id' k' hh => a10 _ _ (get?_del_some hh), a11, a12.sublist ((List.filter_sublist).map _)⟩
    · intro id'
      simp only [removeKey, get?_del]
      split
      · rfl
      · exact a5 id'
    · intro id'
      simp only [removeKey, get?_del]
      split
      · rfl
      · exact a6 id'
  · show (get? (unlinkNodes s.adj id k.1) m).isSome ↔ (get? s.nmeta m).isSome
    rw [← h.nm.adj_nm m, hadj]; split
    · rw [Option.isSome_map]
    · rfl
  · exact .of_index (h.adj.index.erase_get (fun _ _ => Nat.ne_of_lt) hrev (get?_filter_ne s.rev id) hadj)

theorem emeta_set_inv (s : Store) (id : Nat) (md : Meta) (h : Inv s) (hid : (get? s.rev id).isSome) :
    Inv { s with emeta := AL.set s.emeta id md } :=
  ⟨h.id.of_vals rfl rfl rfl (fun _ => rfl) (isSome_set_of_isSome _ _ _ ((h.id.em_some id).mpr hid))
    (keys_set_nodup _ _ _ h.id.em_nodup) h.id.unw (fun _ hl => hl) h.id.layers_nodup,
   h.nm.of_eq (fun _ => rfl) rfl, h.adj.of_eq rfl (fun _ => rfl)⟩

theorem nmeta_set_inv (s : Store) (n : Node) (md : Meta) (h : Inv s) (hn : (get? s.nmeta n).isSome) :
    Inv { s with nmeta := AL.set s.nmeta n md } := by
  refine ⟨h.id.of_eq rfl rfl rfl rfl rfl rfl rfl, ?_, h.adj.of_eq rfl (fun _ => rfl)⟩
  constructor
  · intro m
    simp only [get?_set]
    have := h.nm.adj_nm m
    split
    · rename_i hh; subst hh; simp [hn] at this ⊢; exact this
    · exact this
  · exact keys_set_nodup _ _ _ h.nm.nm_nodup

theorem hmeta_inv (s : Store) (hm : HMeta) (h : Inv s) : Inv { s with hmeta := hm } :=
  ⟨h.id.of_eq rfl rfl rfl rfl rfl rfl rfl, h.nm.of_eq (fun _ => rfl) rfl, h.adj.of_eq rfl (fun _ => rfl)⟩

/-- every record that still contains `n` has its id in `rest` -/
def NoN (n : Node) (s : Store) (rest : List Nat) : Prop := ∀ id k, get? s.rev id = some k → n ∈ k.1 → id ∈ rest

theorem dropNode_inv (s : Store) (n : Node) (h : Inv s) (hP : NoN n s []) :
    Inv { s with adj := del s.adj n, nmeta := del s.nmeta n } := by
  refine ⟨h.id.of_eq rfl rfl rfl rfl rfl rfl rfl, ?_,
    .of_index (h.adj.index.drop (fun id k hk hm => nomatch hP id k hk hm) (get?_filter_ne s.adj n))⟩
  constructor
  · intro m
    simp only [get?_del]
    split
    · simp
    · exact h.nm.adj_nm m
  · exact keys_nodup_del _ _ h.nm.nm_nodup

/-- the property's quantifier: hyperedges are node *sets* (duplicate-free node tuples) -/
def Op.WF : Op → Prop
  | .addEdge raw _ _ _ => raw.Nodup
  | .addEdges raws _ _ _ => ∀ r ∈ raws, r.Nodup
  | _ => True

end C04
