import Hgxv.Model.C11
import Hgxv.Proofs.C11Sets
import Hgxv.Proofs.C11Bits
/-! # C11 - labelled patterns of node subsets as masks (core Lean only) -/
namespace C11

theorem toMask_lt (bs : List Bool) : toMask bs < 2 ^ bs.length := by
  induction bs with
  | nil => simp [toMask]
  | cons b bs ih =>
    simp only [toMask, List.length_cons, Nat.pow_succ]
    cases b <;> simp <;> omega

theorem toMask_append (xs ys : List Bool) : toMask (xs ++ ys) = toMask xs + 2 ^ xs.length * toMask ys := by
  induction xs with
  | nil => simp [toMask]
  | cons b xs ih =>
    simp only [List.cons_append, toMask, ih, List.length_cons, Nat.pow_succ]
    rw [Nat.mul_add, Nat.mul_comm (2 ^ xs.length) 2, Nat.mul_assoc]
    omega

theorem testBit_toMask (bs : List Bool) (j : Nat) : (toMask bs).testBit j = bs.getD j false := by
  induction bs generalizing j with
  | nil => simp [toMask]
  | cons b bs ih =>
    cases j with
    | zero =>
      simp only [toMask, Nat.testBit_zero, List.getD_cons_zero]
      cases b <;> simp <;> omega
    | succ j =>
      rw [Nat.testBit_succ, List.getD_cons_succ, ← ih j]
      congr 1
      simp only [toMask]
      cases b <;> simp <;> omega

theorem toMask_eq_zero_iff (bs : List Bool) : toMask bs = 0 ↔ ∀ b ∈ bs, b = false := by
  induction bs with
  | nil => simp [toMask]
  | cons b bs ih =>
    simp only [toMask, List.mem_cons, forall_eq_or_imp]
    cases b
    · simp only [Bool.false_eq_true, if_false, true_and]
      rw [← ih]; omega
    · simp

theorem applyPerm_toMask (t : List Nat) (bs bs' : List Bool) (k : Nat) (hb : bs.length = k)
    (ht : t.length = k) (hsurj : ∀ j, j < k → ∃ p, p < k ∧ t.getD p 0 = j)
    (hbits : ∀ p, p < k → bs'.getD p false = bs.getD (t.getD p 0) false) (hb' : bs'.length = k) :
    applyPerm t (toMask bs') = toMask bs := by
  apply Nat.eq_of_testBit_eq
  intro j
  rw [Bool.eq_iff_iff, testBit_applyPerm, testBit_toMask]
  constructor
  · rintro ⟨p, hp, hpj, hbit⟩
    rw [ht] at hp
    rw [testBit_toMask, hbits p hp, hpj] at hbit
    exact hbit
  · intro hj
    have hjk : j < k := by
      apply Classical.byContradiction
      intro hge
      rw [List.getD_eq_getElem?_getD, List.getElem?_eq_none (by omega)] at hj
      exact absurd hj (by simp)
    obtain ⟨p, hp, hpj⟩ := hsurj j hjk
    refine ⟨p, by omega, hpj, ?_⟩
    rw [testBit_toMask, hbits p hp, hpj]
    exact hj

theorem mem_sizesDesc {n k : Nat} : k ∈ sizesDesc n ↔ 2 ≤ k ∧ k ≤ n := by
  simp only [sizesDesc, List.mem_filter, List.mem_reverse, List.mem_range, decide_eq_true_eq]
  omega

theorem mem_hyperedgesOf {n : Nat} {S e : List Nat} :
    e ∈ hyperedgesOf n S ↔ e.Sublist S ∧ 2 ≤ e.length ∧ e.length ≤ n := by
  simp only [hyperedgesOf, List.mem_flatMap, mem_sizesDesc, mem_subsetsOfSize]
  constructor
  · rintro ⟨k, hk, hs, hl⟩; exact ⟨hs, by omega, by omega⟩
  · rintro ⟨hs, h2, hn⟩; exact ⟨e.length, ⟨h2, hn⟩, hs, rfl⟩

theorem length_flatMap_subsets (ks : List Nat) {S S' : List Nat} (h : S.length = S'.length) :
    (ks.flatMap fun k => subsetsOfSize k S).length = (ks.flatMap fun k => subsetsOfSize k S').length := by
  induction ks with
  | nil => rfl
  | cons k ks ih => simp only [List.flatMap_cons, List.length_append, ih, length_subsetsOfSize (k := k) h]

theorem length_hyperedgesOf {n : Nat} {S : List Nat} (h : S.length = n) :
    (hyperedgesOf n S).length = (hyperedges n).length := by
  unfold hyperedges hyperedgesOf
  exact length_flatMap_subsets _ (by simp [h])

theorem pattern_lt {n : Nat} (T : HG) {S : List Nat} (h : S.length = n) : pattern n T S < numMasks n := by
  unfold pattern numMasks
  have := toMask_lt (patBits n T S)
  have hl : (patBits n T S).length = (hyperedges n).length := by
    unfold patBits; rw [List.length_map, length_hyperedgesOf h]
  rw [hl] at this
  rw [Nat.shiftLeft_eq, Nat.one_mul]
  exact this

theorem pattern_congr {n : Nat} {T T' : HG} {S : List Nat}
    (h : ∀ e, e.Sublist S → 2 ≤ e.length → e.length ≤ n → T.contains e = T'.contains e) :
    pattern n T S = pattern n T' S := by
  unfold pattern patBits
  congr 1
  apply List.map_congr_left
  intro e he
  obtain ⟨hs, h2, hn⟩ := mem_hyperedgesOf.mp he
  exact h e hs h2 hn

theorem subsetsOfSize_gt {k : Nat} {l : List Nat} (h : l.length < k) : subsetsOfSize k l = [] := by
  induction l generalizing k with
  | nil => cases k with
    | zero => simp at h
    | succ k => rfl
  | cons a l ih =>
    cases k with
    | zero => simp at h
    | succ k =>
      simp only [List.length_cons] at h
      simp [subsetsOfSize, ih (k := k) (by omega), ih (k := k+1) (by omega)]

theorem subsetsOfSize_self (l : List Nat) : subsetsOfSize l.length l = [l] := by
  induction l with
  | nil => rfl
  | cons a l ih => simp [subsetsOfSize, ih, subsetsOfSize_gt]

end C11
