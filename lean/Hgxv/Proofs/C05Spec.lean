import Hgxv.Proofs.C05Extract
/-! `WF` (the invariant of every reachable object), selections and the two build orders of the extraction functions (the
specifications of `subhypergraph_by_orders` and `get_edges` are proved from them under `C05_by_sizes`, `C05_edges_sub`), and
`frame`: what no building step of an extraction touches.  Core Lean only. -/
namespace C05
variable {κ : Type} [DecidableEq κ] [Keyed κ]
set_option linter.unusedSectionVars false

theorem mem_dedup {α : Type} [DecidableEq α] (l : List α) (x : α) : x ∈ dedup l ↔ x ∈ l := by
  induction l with
  | nil => simp [dedup]
  | cons a l ih =>
    simp only [dedup, List.mem_cons, List.mem_filter, ih, decide_eq_true_eq]
    by_cases e : x = a <;> simp [e]

theorem nodup_dedup {α : Type} [DecidableEq α] (l : List α) : (dedup l).Nodup := by
  induction l with
  | nil => simp [dedup]
  | cons a l ih =>
    simp only [dedup, List.nodup_cons, List.mem_filter, decide_eq_true_eq]
    exact ⟨fun h => h.2 rfl, ih.sublist List.filter_sublist⟩

/-- what every `Hypergraph` / `DirectedHypergraph` built through the public mutators satisfies (nothing on the form of the
keys: where sorted keys matter, in the links' `remove_node`, they are a hypothesis `hcan`) -/
structure WF (c : Content κ) : Prop where
  nodes_nodup : (nodesOf c).Nodup
  keys_nodup : (keysOf c).Nodup
  members_in : ∀ k ∈ keysOf c, ∀ n ∈ Keyed.members k, n ∈ nodesOf c
  unit : c.weighted = false → ∀ e ∈ c.edges, e.2.1 = unitW

theorem inside_iff (ns : List Node) (k : κ) : inside ns k = true ↔ ∀ n ∈ Keyed.members k, n ∈ ns := by
  simp [inside]

/-- the size test of `get_edges` / `subhypergraph_by_orders`: order `o` is size `o + 1` -/
theorem orderTest_iff (upTo : Bool) {o s : Int} (h : s = o + 1) (k : κ) :
    orderTest upTo o k = true ↔ if upTo then ((Keyed.size k : Nat) : Int) ≤ s else ((Keyed.size k : Nat) : Int) = s := by
  subst h
  cases upTo
  · simp only [orderTest, Bool.false_eq_true, ↓reduceIte, beq_iff_eq]; exact Int.sub_eq_iff_eq_add
  · simp only [orderTest, ↓reduceIte, decide_eq_true_eq]; exact Int.sub_right_le_iff_le_add

theorem orderTest_eq_iff (s : Int) (k : κ) : orderTest false (s - 1) k = true ↔ ((Keyed.size k : Nat) : Int) = s :=
  orderTest_iff false (Int.sub_add_cancel s 1).symm k

theorem nodesOf_empty_touch (w : Bool) (ns : List Node) (m : Node) :
    m ∈ nodesOf (touchAll (empty w : Content κ) ns) ↔ m ∈ ns := by
  simp only [nodesOf, touchAll, empty]
  rw [mem_keys_touchL]; simp [AL.keys]

theorem nodup_empty_touch (w : Bool) (ns : List Node) :
    (nodesOf (touchAll (empty w : Content κ) ns)).Nodup := by
  simp only [nodesOf, touchAll, empty]
  exact nodup_keys_touchL [] ns (by simp [AL.keys])

/-- `for node in h.get_nodes(): h.set_node_metadata(node, self.get_node_metadata(node))` -/
theorem copyAllNodeMeta (src h : Content κ) (hsub : ∀ n ∈ nodesOf h, n ∈ nodesOf src) :
    ∃ r, (nodesOf h).foldlM (copyNodeMeta src) h = some r ∧ r.weighted = h.weighted ∧ r.edges = h.edges ∧
      nodesOf r = nodesOf h ∧ ∀ m ∈ nodesOf r, AL.get? r.nodes m = AL.get? src.nodes m := by
  obtain ⟨r, hr, hw, he, hk, hg⟩ := foldCopyNodeMeta src (nodesOf h) h (fun n hn => ⟨hn, hsub n hn⟩)
  refine ⟨r, hr, hw, he, hk, ?_⟩
  intro m hm
  rw [hg m, if_pos (hk ▸ hm)]

/-- a selection of the source's hyperedges: entries of the source, no key twice -/
structure Sel (src : Content κ) (L : List (κ × (W × Meta))) : Prop where
  sub : ∀ e ∈ L, e ∈ src.edges
  nodup : (AL.keys L).Nodup

theorem Sel.filter {src : Content κ} (hwf : WF src) (p : κ → Bool) : Sel src (src.edges.filter (fun e => p e.1)) :=
  ⟨fun _ he => (List.mem_filter.1 he).1, by rw [AL.keys_filter_key]; exact hwf.keys_nodup.sublist List.filter_sublist⟩

theorem Sel.nodes_sub {src : Content κ} {L : List (κ × (W × Meta))} (hL : Sel src L) (hwf : WF src) :
    ∀ n ∈ nodesIn L, n ∈ nodesOf src := by
  intro n hn
  obtain ⟨e, he, hne⟩ := (mem_nodesIn L n).1 hn
  exact hwf.members_in e.1 (AL.mem_keys_of_mem _ e (hL.sub e he)) n hne

theorem reinserts_full {src : Content κ} (hwf : WF src) : Reinserts src (reinsert src) id :=
  fun h e he hw hk => (reinsert_eq src h e hwf.keys_nodup he hw (fun hs => hwf.unit hs e he) hk).1

theorem reinserts_bare {src : Content κ} (hwf : WF src) : Reinserts src (reinsertBare src) (fun v => (v.1, [])) :=
  fun h e he hw hk => (reinsert_eq src h e hwf.keys_nodup he hw (fun hs => hwf.unit hs e he) hk).2

theorem foldReinserts {src : Content κ} {f : Content κ → κ → Option (Content κ)} {g : W × Meta → W × Meta}
    (hf : Reinserts src f g) {L : List (κ × (W × Meta))} (hL : Sel src L) (h : Content κ) (he : h.edges = [])
    (hw : h.weighted = src.weighted) :
    (AL.keys L).foldlM f h =
      some { h with edges := L.map (fun e => (e.1, g e.2)), nodes := touchL h.nodes (nodesIn L) } := by
  have := foldAppend hf L h hL.sub hL.nodup
    (by intro k _; simp [keysOf, he, AL.keys]) hw
  rw [he, List.nil_append] at this
  exact this

/-- nodes first: `subhypergraph`, `subhypergraph_by_orders(keep_nodes=True)` -/
theorem nodesThenEdges (src : Content κ) (hwf : WF src) (ns : List Node) (hns : ∀ n ∈ ns, n ∈ nodesOf src)
    (L : List (κ × (W × Meta))) (hL : Sel src L) (hin : ∀ n ∈ nodesIn L, n ∈ ns) :
    ∃ h1 r, ns.foldlM (copyNodeMeta src) (touchAll (empty src.weighted) ns) = some h1 ∧
      (AL.keys L).foldlM (reinsert src) h1 = some r ∧ r.weighted = src.weighted ∧ r.edges = L ∧
      (∀ n, n ∈ nodesOf r ↔ n ∈ ns) ∧ (nodesOf r).Nodup ∧ (∀ n ∈ ns, getNodeMeta r n = getNodeMeta src n) := by
  obtain ⟨h1, hr1, hw1, he1, hk1, hg1⟩ := foldCopyNodeMeta src ns (touchAll (empty src.weighted) ns)
    (fun n hn => ⟨(nodesOf_empty_touch _ _ _).2 hn, hns n hn⟩)
  have hn1 : ∀ n, n ∈ nodesOf h1 ↔ n ∈ ns := fun n => by rw [hk1]; exact nodesOf_empty_touch _ _ n
  have hpres : touchL h1.nodes (nodesIn L) = h1.nodes := touchL_present _ _ (fun n hn => (hn1 n).2 (hin n hn))
  have hfold := foldReinserts (reinserts_full hwf) hL h1 he1 hw1
  rw [hpres] at hfold
  refine ⟨h1, _, hr1, hfold, hw1, List.map_id L, hn1, ?_, fun n hn => (hg1 n).trans (if_pos hn)⟩
  show (nodesOf h1).Nodup
  rw [hk1]; exact nodup_empty_touch _ _

/-- hyperedges first: `subhypergraph_by_orders(keep_nodes=False)`, `get_edges(subhypergraph=True)`; the fresh hypergraph
starts on the nodes `ms` (none, or all of the source) -/
theorem edgesThenNodes (src : Content κ) (hwf : WF src) {f : Content κ → κ → Option (Content κ)}
    {g : W × Meta → W × Meta} (hf : Reinserts src f g) (L : List (κ × (W × Meta))) (hL : Sel src L) (ms : List Node)
    (hms : ∀ n ∈ ms, n ∈ nodesOf src) :
    ∃ h1 r, (AL.keys L).foldlM f (touchAll (empty src.weighted) ms) = some h1 ∧
      (nodesOf h1).foldlM (copyNodeMeta src) h1 = some r ∧
      r.weighted = src.weighted ∧ r.edges = L.map (fun e => (e.1, g e.2)) ∧
      (∀ n, n ∈ nodesOf r ↔ n ∈ ms ∨ n ∈ nodesIn L) ∧ (nodesOf r).Nodup ∧
      (∀ n ∈ nodesOf r, getNodeMeta r n = getNodeMeta src n) := by
  have hn1 : ∀ n, n ∈ AL.keys (touchL (touchAll (empty src.weighted : Content κ) ms).nodes (nodesIn L)) ↔
      n ∈ ms ∨ n ∈ nodesIn L :=
    fun n => (mem_keys_touchL _ _ n).trans (or_congr (nodesOf_empty_touch (κ := κ) src.weighted ms n) Iff.rfl)
  obtain ⟨r, hr, hwr, her, hkr, hgr⟩ := copyAllNodeMeta src
    { (touchAll (empty src.weighted) ms : Content κ) with
      edges := L.map (fun e => (e.1, g e.2)), nodes := touchL (touchAll (empty src.weighted : Content κ) ms).nodes (nodesIn L) }
    (fun n hn => ((hn1 n).1 hn).elim (hms n) (hL.nodes_sub hwf n))
  refine ⟨_, r, foldReinserts hf hL _ rfl rfl, hr, hwr, her, fun n => by rw [hkr]; exact hn1 n, ?_, hgr⟩
  rw [hkr]; exact nodup_keys_touchL _ _ (nodup_empty_touch _ _)

theorem induced_spec (src : Content κ) (ns : List Node) (hwf : WF src) (hsub : ∀ n ∈ ns, n ∈ nodesOf src) :
    ∃ r, induced src ns = some r ∧ r.weighted = src.weighted ∧
      r.edges = src.edges.filter (fun e => inside ns e.1) ∧
      (∀ n, n ∈ nodesOf r ↔ n ∈ ns) ∧ (nodesOf r).Nodup ∧
      (∀ n ∈ ns, getNodeMeta r n = getNodeMeta src n) := by
  obtain ⟨h1, r, e1, e2, h⟩ := nodesThenEdges src hwf ns hsub _ (Sel.filter hwf (inside ns)) (by
    intro n hn
    obtain ⟨e, heL, hne⟩ := (mem_nodesIn _ n).1 hn
    exact (inside_iff ns e.1).1 (List.mem_filter.1 heL).2 n hne)
  refine ⟨r, ?_, h⟩
  rw [AL.keys_filter_key] at e2
  simp only [induced, Option.bind_eq_bind]
  rw [e1]; exact e2

theorem keys_flatMap_bySize (src : Content κ) (ds : List Int) :
    AL.keys (ds.flatMap (fun s => src.edges.filter (fun e => orderTest false (s - 1) e.1))) =
      ds.flatMap (keysOfSize src) := by
  induction ds with
  | nil => rfl
  | cons s ds ih =>
    simp only [List.flatMap_cons, AL.keys_append, ih, keysOfSize, keysOf]
    rw [AL.keys_filter_key]

theorem nodup_flatMap_bySize (src : Content κ) (hnd : (keysOf src).Nodup) (ds : List Int) (hds : ds.Nodup) :
    (ds.flatMap (keysOfSize src)).Nodup := by
  induction ds with
  | nil => simp
  | cons s ds ih =>
    simp only [List.nodup_cons] at hds
    simp only [List.flatMap_cons, List.nodup_append]
    refine ⟨hnd.sublist List.filter_sublist, ih hds.2, ?_⟩
    intro a ha b hb e
    subst e
    simp only [keysOfSize, List.mem_filter] at ha
    obtain ⟨s', hs', hb'⟩ := List.mem_flatMap.1 hb
    simp only [keysOfSize, List.mem_filter] at hb'
    have h1 := (orderTest_eq_iff s a).1 ha.2
    have h2 := (orderTest_eq_iff s' a).1 hb'.2
    exact hds.1 (by rw [← h1, h2]; exact hs')

/-- the part of the content no building step of an extraction touches -/
def aux (c : Content κ) : List (IncKey × Meta) × List (Nat × Meta) × Meta := (c.inc, c.emptyEdges, c.hmeta)

/-- the weighted flag together with `aux`: `add_edge`, `set_node_metadata` and `set_edge_metadata` keep both, so every
extraction that returns has those of the freshly constructed object -/
def frame (c : Content κ) : Bool × List (IncKey × Meta) × List (Nat × Meta) × Meta := (c.weighted, aux c)

theorem addEdge_frame (h h' : Content κ) (k : κ) (w : Option W) (md : Meta) (e : addEdge h k w md = some h') :
    frame h' = frame h := by
  unfold addEdge at e
  split at e
  · cases e
    unfold addEdgeCore
    split <;> rfl
  · cases e

theorem setNodeMeta_frame (h h' : Content κ) (n : Node) (md : Meta) (e : setNodeMeta h n md = some h') :
    frame h' = frame h := by
  unfold setNodeMeta at e
  split at e
  · cases e; rfl
  · cases e

theorem setEdgeMeta_frame (h h' : Content κ) (k : κ) (md : Meta) (e : setEdgeMeta h k md = some h') :
    frame h' = frame h := by
  unfold setEdgeMeta at e
  split at e
  · cases e
  · cases e; rfl

theorem reinsert_frame (src h h' : Content κ) (k : κ) (e : reinsert src h k = some h') : frame h' = frame h := by
  simp only [reinsert, Option.bind_eq_bind, Option.bind_eq_some_iff] at e
  obtain ⟨_, _, _, _, e⟩ := e
  exact addEdge_frame _ _ _ _ _ e

theorem reinsertBare_frame (src h h' : Content κ) (k : κ) (e : reinsertBare src h k = some h') : frame h' = frame h := by
  simp only [reinsertBare, Option.bind_eq_bind, Option.bind_eq_some_iff] at e
  obtain ⟨_, _, e⟩ := e
  exact addEdge_frame _ _ _ _ _ e

theorem copyNodeMeta_frame (src h h' : Content κ) (n : Node) (e : copyNodeMeta src h n = some h') : frame h' = frame h := by
  simp only [copyNodeMeta, Option.bind_eq_bind, Option.bind_eq_some_iff] at e
  obtain ⟨_, _, e⟩ := e
  exact setNodeMeta_frame _ _ _ _ e

theorem copyEdgeMeta_frame (src h h' : Content κ) (k : κ) (e : copyEdgeMeta src h k = some h') : frame h' = frame h := by
  simp only [copyEdgeMeta, Option.bind_eq_bind, Option.bind_eq_some_iff] at e
  obtain ⟨_, _, e⟩ := e
  exact setEdgeMeta_frame _ _ _ _ e

theorem fold_frame {α : Type} {f : Content κ → α → Option (Content κ)}
    (hf : ∀ h h' a, f h a = some h' → frame h' = frame h) {l : List α} {h r : Content κ}
    (e : l.foldlM f h = some r) : frame r = frame h :=
  ListLib.foldlM_inv (P := fun c => frame c = frame h) f (fun x a x' hx hb => (hf x x' a hx).trans hb) l h r rfl e

theorem induced_frame (src r : Content κ) (ns : List Node) (e : induced src ns = some r) :
    frame r = frame (empty src.weighted : Content κ) := by
  simp only [induced, Option.bind_eq_bind, Option.bind_eq_some_iff] at e
  obtain ⟨h1, e1, e2⟩ := e
  have f1 := fold_frame (copyNodeMeta_frame src) e1
  exact (fold_frame (reinsert_frame src) e2).trans f1

theorem byOrders_frame (src r : Content κ) (os ss : Option (List Int)) (keep : Bool)
    (e : byOrders src os ss keep = some r) : frame r = frame (empty src.weighted : Content κ) := by
  cases keep <;>
    simp only [byOrders, Option.bind_eq_bind, Option.bind_eq_some_iff, if_true, Bool.false_eq_true, if_false,
      Option.some.injEq] at e <;>
    obtain ⟨_, _, h1, e1, h2, e2, e3⟩ := e
  · subst e1
    exact (fold_frame (copyNodeMeta_frame src) e3).trans (fold_frame (reinsert_frame src) e2)
  · subst e3
    have f1 := fold_frame (copyNodeMeta_frame src) e1
    exact (fold_frame (reinsert_frame src) e2).trans f1

theorem edgesSub_frame (src r : Content κ) (o s : Option Int) (upTo keep : Bool)
    (e : edgesSub src o s upTo keep = some r) : frame r = frame (empty src.weighted : Content κ) := by
  simp only [edgesSub, Option.bind_eq_bind, Option.bind_eq_some_iff] at e
  obtain ⟨_, _, h1, e1, h2, e2, e3⟩ := e
  have f0 : frame (if keep = true then touchAll (empty src.weighted) (nodesOf src) else (empty src.weighted : Content κ))
      = frame (empty src.weighted : Content κ) := by cases keep <;> rfl
  exact (((fold_frame (copyEdgeMeta_frame src) e3).trans (fold_frame (copyNodeMeta_frame src) e2)).trans
    (fold_frame (reinsertBare_frame src) e1)).trans f0

end C05
