import Hgxv.Proofs.C09Mat
/-! Per-order matrices: Gram matrix, degree matrix, order-`d` adjacency and Laplacian as tables over the labels; snapshots. -/
namespace C09
variable {R : Type}

theorem mem_ofOrder (d : Nat) (es : List (Edge × R)) (e : Edge × R) :
    e ∈ ofOrder d es ↔ e ∈ es ∧ e.1.length = d + 1 := by
  simp [ofOrder]

theorem subNodes_true (d : Nat) (nodes : List Nat) (es : List (Edge × R)) :
    subNodes d true nodes es = nodes := by simp [subNodes]

theorem mem_subNodes_false (d : Nat) (nodes : List Nat) (es : List (Edge × R)) (x : Nat) :
    x ∈ subNodes d false nodes es ↔ ∃ e ∈ es, e.1.length = d + 1 ∧ x ∈ e.1 := by
  simp only [subNodes, Bool.false_eq_true, if_false, mem_classes, List.mem_flatten, List.mem_map]
  constructor
  · rintro ⟨l, ⟨e, he, rfl⟩, hx⟩
    exact ⟨e, ((mem_ofOrder d es e).1 he).1, ((mem_ofOrder d es e).1 he).2, hx⟩
  · rintro ⟨e, he, hl, hx⟩
    exact ⟨e.1, ⟨e, (mem_ofOrder d es e).2 ⟨he, hl⟩, rfl⟩, hx⟩

theorem subNodes_nodup (d : Nat) (k : Bool) (nodes : List Nat) (es : List (Edge × R)) (hN : nodes.Nodup) :
    (subNodes d k nodes es).Nodup := by
  cases k
  · simp only [subNodes, Bool.false_eq_true, if_false]; exact classes_nodup _
  · simpa [subNodes] using hN

theorem subNodes_covers (d : Nat) (k : Bool) (nodes : List Nat) (es : List (Edge × R))
    (hE : ∀ e ∈ es, ∀ x ∈ e.1, x ∈ nodes) :
    ∀ e ∈ ofOrder d es, ∀ x ∈ e.1, x ∈ subNodes d k nodes es := by
  intro e he x hx
  have h := (mem_ofOrder d es e).1 he
  cases k
  · exact (mem_subNodes_false d nodes es x).2 ⟨e, h.1, h.2, hx⟩
  · rw [subNodes_true]; exact hE e h.1 x hx

theorem degree_eq_countP (d : Nat) (es : List (Edge × R)) (x : Nat) :
    degree d es x = es.countP fun e => e.1.length == d + 1 && decide (x ∈ e.1) := by
  unfold degree
  rw [← List.countP_eq_length_filter]
  congr 1
  funext e
  simp [Bool.and_comm]

theorem mem_snapshot (recs : List (Rec R)) (t : Nat) (e : Edge × R) :
    e ∈ snapshot recs t ↔ ∃ r ∈ recs, r.1 = t ∧ r.2 = e := by
  simp only [snapshot, List.mem_map, List.mem_filter, beq_iff_eq, and_assoc]

theorem mem_snapshotNodes (recs : List (Rec R)) (t x : Nat) :
    x ∈ snapshotNodes recs t ↔ ∃ r ∈ recs, r.1 = t ∧ x ∈ r.2.1 := by
  simp only [snapshotNodes, mem_classes, List.mem_flatten, List.mem_map, mem_snapshot]
  constructor
  · rintro ⟨l, ⟨e, ⟨r, hr, ht, rfl⟩, rfl⟩, hx⟩
    exact ⟨r, hr, ht, hx⟩
  · rintro ⟨r, hr, ht, hx⟩
    exact ⟨r.2.1, ⟨r.2, ⟨r, hr, ht, rfl⟩, rfl⟩, hx⟩

theorem snapshotNodes_nodup (recs : List (Rec R)) (t : Nat) : (snapshotNodes recs t).Nodup := classes_nodup _

theorem snapshot_covers (recs : List (Rec R)) (t : Nat) :
    ∀ e ∈ snapshot recs t, ∀ x ∈ e.1, x ∈ snapshotNodes recs t := by
  intro e he x hx
  obtain ⟨r, hr, ht, rfl⟩ := (mem_snapshot recs t e).1 he
  exact (mem_snapshotNodes recs t x).2 ⟨r, hr, ht, hx⟩

theorem countP_snapshot (recs : List (Rec R)) (t : Nat) (q : Edge × R → Bool) :
    (snapshot recs t).countP q = recs.countP fun r => r.1 == t && q r.2 := by
  rw [snapshot, List.countP_map, List.countP_filter]
  exact List.countP_congr fun r _ => by simp only [Function.comp, Bool.and_comm]

variable [CommRing R]

/-- entry `(x, y)` of `I_d I_dᵀ` -/
def gram (d : Nat) (es : List (Edge × R)) (x y : Nat) : R :=
  ((ofOrder d es).map fun e => (ind (decide (x ∈ e.1)) * e.2) * (ind (decide (y ∈ e.1)) * e.2)).sum

theorem gram_comm (d : Nat) (es : List (Edge × R)) (x y : Nat) : gram d es x y = gram d es y x := by
  unfold gram
  congr 1
  apply List.map_congr_left
  intro e _
  ring

theorem gramMatrix_eq (d : Nat) (nodes : List Nat) (es : List (Edge × R)) (hN : nodes.Nodup)
    (hE : ∀ e ∈ es, ∀ x ∈ e.1, x ∈ nodes) :
    mulT (incByOrder d true nodes es) (incByOrder d true nodes es) =
      (classes nodes).map fun x => (classes nodes).map fun y => gram d es x y := by
  unfold incByOrder
  rw [subNodes_true, inc_eq nodes (ofOrder d es) hN
    (fun e he => hE e ((mem_ofOrder d es e).1 he).1), mulT_rows]
  rfl

theorem gram_unweighted_ind (d : Nat) (es : List (Edge × R)) (hW : ∀ e ∈ es, e.2 = 1) (a b : Nat) :
    gram d es a b = ((ofOrder d es).map fun e => (ind (decide (a ∈ e.1)) : R) * ind (decide (b ∈ e.1))).sum := by
  unfold gram
  congr 1
  apply List.map_congr_left
  intro e he
  rw [hW e ((mem_ofOrder d es e).1 he).1, mul_one, mul_one]

theorem gram_unweighted (d : Nat) (es : List (Edge × R)) (hW : ∀ e ∈ es, e.2 = 1) (x y : Nat) :
    gram d es x y =
      ((es.countP fun e => e.1.length == d + 1 && (decide (x ∈ e.1) && decide (y ∈ e.1)) : Nat) : R) := by
  rw [gram_unweighted_ind d es hW]
  simp only [ind_mul_ind]
  rw [sum_map_ind, ofOrder, List.countP_filter]
  congr 2
  funext e
  rw [Bool.and_comm]

theorem degree_eq_sum (d : Nat) (es : List (Edge × R)) (a : Nat) :
    ((degree d es a : Nat) : R) = ((ofOrder d es).map fun e => (ind (decide (a ∈ e.1)) : R)).sum := by
  rw [sum_map_ind, degree_eq_countP, ofOrder, List.countP_filter]
  congr 2
  funext e
  simp [Bool.and_comm]

theorem degMatrix_eq (d : Nat) (nodes : List Nat) (es : List (Edge × R)) :
    degMatrix d nodes es = (classes nodes).map fun a => (classes nodes).map fun b =>
      if a = b then ((degree d es a : Nat) : R) else 0 := by
  rw [degMatrix, ← diag_map _ (classes_nodup nodes), ← mapping_snd, List.map_map]
  rfl

theorem gram_self (d : Nat) (es : List (Edge × R)) (hW : ∀ e ∈ es, e.2 = 1) (a : Nat) :
    gram d es a a = ((degree d es a : Nat) : R) := by
  rw [gram_unweighted d es hW, degree_eq_countP]
  simp only [Bool.and_self]

theorem degMatrix_entry (d : Nat) (nodes : List Nat) (es : List (Edge × R))
    (i j : Nat) (hi : i < (classes nodes).length) (hj : j < (classes nodes).length) :
    entry (degMatrix d nodes es) i j = some (if i = j then ((degree d es (classes nodes)[i] : Nat) : R) else 0) := by
  rw [degMatrix_eq, entry_map_map _ _ _ i j hi hj]
  simp only [List.getElem_inj (classes_nodup nodes)]

theorem adjByOrder_eq (d : Nat) (nodes : List Nat) (es : List (Edge × R)) (hN : nodes.Nodup)
    (hE : ∀ e ∈ es, ∀ x ∈ e.1, x ∈ nodes) :
    adjByOrder d nodes es = (classes nodes).map fun a => (classes nodes).map fun b =>
      if a = b then 0 else gram d es a b := by
  rw [adjByOrder, gramMatrix_eq d nodes es hN hE, subDiag_eq_setDiag0, setDiag0_map_map _ (classes_nodup nodes)]

theorem adjByOrder_entry (d : Nat) (nodes : List Nat) (es : List (Edge × R)) (hN : nodes.Nodup)
    (hE : ∀ e ∈ es, ∀ x ∈ e.1, x ∈ nodes)
    (i j : Nat) (hi : i < (classes nodes).length) (hj : j < (classes nodes).length) :
    entry (adjByOrder d nodes es) i j = some (if i = j then 0 else gram d es (classes nodes)[i] (classes nodes)[j]) := by
  rw [adjByOrder_eq d nodes es hN hE, entry_map_map _ _ _ i j hi hj]
  simp only [List.getElem_inj (classes_nodup nodes)]

theorem getElem_matSub (A B : List (List R)) (i : Nat) (hA : i < A.length) (hB : i < B.length) :
    (matSub A B)[i]'(by simp [matSub]; omega) = List.zipWith (· - ·) A[i] B[i] := by
  simp [matSub]

/-- entry of the order-`d` Laplacian in the row of label `a` and the column of label `b` -/
def lapL (d : Nat) (es : List (Edge × R)) (a b : Nat) : R :=
  ((d + 1 : Nat) : R) * (if a = b then ((degree d es a : Nat) : R) else 0) - gram d es a b

theorem laplacian_eq (d : Nat) (nodes : List Nat) (es : List (Edge × R)) (hN : nodes.Nodup)
    (hE : ∀ e ∈ es, ∀ x ∈ e.1, x ∈ nodes) :
    laplacian d nodes es = (classes nodes).map fun a => (classes nodes).map fun b => lapL d es a b := by
  unfold laplacian
  simp only
  rw [gramMatrix_eq d nodes es hN hE, degMatrix_eq, smul_map_map, matSub_map_map]
  rfl

theorem lapL_comm (d : Nat) (es : List (Edge × R)) (a b : Nat) : lapL d es a b = lapL d es b a := by
  unfold lapL
  rw [gram_comm]
  by_cases h : a = b
  · subst h; rfl
  · rw [if_neg h, if_neg (Ne.symm h)]

theorem laplacian_entry (d : Nat) (nodes : List Nat) (es : List (Edge × R)) (hN : nodes.Nodup)
    (hE : ∀ e ∈ es, ∀ x ∈ e.1, x ∈ nodes)
    (i j : Nat) (hi : i < (classes nodes).length) (hj : j < (classes nodes).length) :
    entry (laplacian d nodes es) i j = some (lapL d es (classes nodes)[i] (classes nodes)[j]) := by
  rw [laplacian_eq d nodes es hN hE, entry_map_map _ _ _ i j hi hj]

/-- sum over all nodes `y` of the Gram entries of `x`, unweighted: every hyperedge of order `d` through `x`
is counted once per member, i.e. `d + 1` times -/
theorem sum_gram_unweighted (d : Nat) (nodes : List Nat) (es : List (Edge × R))
    (hE : ∀ e ∈ es, ∀ x ∈ e.1, x ∈ nodes) (hD : ∀ e ∈ es, e.1.Nodup) (hW : ∀ e ∈ es, e.2 = 1) (x : Nat) :
    ((classes nodes).map fun y => gram d es x y).sum = ((d + 1 : Nat) : R) * ((degree d es x : Nat) : R) := by
  simp only [gram_unweighted_ind d es hW]
  rw [sum_map_sum_comm, degree_eq_sum, ← sum_map_mul_left']
  refine congrArg List.sum (List.map_congr_left fun e he => ?_)
  have hm := (mem_ofOrder d es e).1 he
  rw [sum_map_mul_left', sum_map_ind, ListLib.countP_mem_of_subset (classes nodes) e.1 (classes_nodup nodes) (hD e hm.1)
    (fun y hy => (mem_classes y nodes).2 (hE e hm.1 y hy)), hm.2, mul_comm]

theorem sum_lapL (d : Nat) (nodes : List Nat) (es : List (Edge × R))
    (hE : ∀ e ∈ es, ∀ x ∈ e.1, x ∈ nodes) (hD : ∀ e ∈ es, e.1.Nodup) (hW : ∀ e ∈ es, e.2 = 1)
    (a : Nat) (ha : a ∈ classes nodes) : ((classes nodes).map fun b => lapL d es a b).sum = 0 := by
  unfold lapL
  rw [sum_map_sub', sum_map_mul_left',
    sum_ite_mem_nodup _ (classes_nodup nodes) a ha fun _ => ((degree d es a : Nat) : R),
    sum_gram_unweighted d nodes es hE hD hW, sub_self]

theorem adj_row_sum_label (d : Nat) (nodes : List Nat) (es : List (Edge × R))
    (hE : ∀ e ∈ es, ∀ x ∈ e.1, x ∈ nodes) (hD : ∀ e ∈ es, e.1.Nodup) (hW : ∀ e ∈ es, e.2 = 1)
    (a : Nat) (ha : a ∈ nodes) :
    ((classes nodes).map fun b => if a = b then 0 else gram d es a b).sum
      = (d : R) * ((degree d es a : Nat) : R) := by
  have h1 : ((classes nodes).map fun b => if a = b then (0 : R) else gram d es a b)
      = (classes nodes).map fun b => gram d es a b - (if a = b then gram d es a b else 0) := by
    apply List.map_congr_left
    intro b _
    by_cases h : a = b <;> simp [h]
  rw [h1, sum_map_sub', sum_gram_unweighted d nodes es hE hD hW,
    sum_ite_mem_nodup (classes nodes) (classes_nodup nodes) a ((mem_classes a nodes).2 ha) (fun b => gram d es a b),
    gram_self d es hW]
  push_cast
  ring

end C09
