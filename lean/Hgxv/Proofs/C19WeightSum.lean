import Hgxv.Proofs.C19RemoveNode
import Mathlib.Algebra.BigOperators.Group.List.Basic
/-! C19 part A, `keep_edges=True`: conservation of weight through the shrink-merge (weights in a commutative
additive monoid). -/
namespace C19
open AL
set_option linter.unusedSectionVars false

section wsum
variable {κ ω : Type} [DecidableEq κ] [AddCommMonoid ω]

/-- total weight of the records whose key satisfies `φ` -/
def wsum (φ : κ → Bool) (l : List (κ × (ω × Md))) : ω := ((l.filter (fun e => φ e.1)).map (·.2.1)).sum

theorem wsum_nil (φ : κ → Bool) : wsum φ ([] : List (κ × (ω × Md))) = 0 := rfl

theorem wsum_cons (φ : κ → Bool) (e : κ × (ω × Md)) (l : List (κ × (ω × Md))) :
    wsum φ (e :: l) = (if φ e.1 then e.2.1 else 0) + wsum φ l := by
  unfold wsum
  by_cases h : φ e.1 <;> simp [h]

theorem wsum_append (φ : κ → Bool) (l m : List (κ × (ω × Md))) : wsum φ (l ++ m) = wsum φ l + wsum φ m := by
  unfold wsum; simp

theorem wsum_erase (φ : κ → Bool) (l : List (κ × (ω × Md))) (e : κ × (ω × Md)) (he : e ∈ l)
    (hnd : (keys l).Nodup) : wsum φ l = (if φ e.1 then e.2.1 else 0) + wsum φ (erase l e.1) := by
  induction l with
  | nil => simp at he
  | cons hd t ih =>
    simp only [keys, List.map_cons, List.nodup_cons] at hnd
    rcases List.mem_cons.mp he with rfl | he'
    · simp [erase, wsum_cons]
    · have hne : hd.1 ≠ e.1 := by
        intro h; apply hnd.1; rw [h]; exact mem_keys_of_mem _ _ he'
      obtain ⟨hk, hv⟩ := hd
      simp only [erase, if_neg hne, wsum_cons]
      rw [ih he' hnd.2]
      exact add_left_comm _ _ _

theorem wsum_set (φ : κ → Bool) (l : List (κ × (ω × Md))) (k : κ) (w0 w : ω) (md0 md : Md)
    (h : get? l k = some (w0, md0)) :
    wsum φ (set l k (w0 + w, md)) = wsum φ l + (if φ k then w else 0) := by
  induction l with
  | nil => simp [get?] at h
  | cons hd t ih =>
    obtain ⟨hk, hv⟩ := hd
    by_cases hkk : hk = k
    · subst hkk
      simp only [get?, if_true, Option.some.injEq] at h
      subst h
      simp only [AL.set, if_true, wsum_cons]
      by_cases hφ : φ hk <;> simp [hφ, add_comm, add_left_comm]
    · simp only [get?, if_neg hkk] at h
      simp only [AL.set, if_neg hkk, wsum_cons, ih h, add_assoc]

theorem wsum_congr (φ ψ : κ → Bool) (l : List (κ × (ω × Md))) (h : ∀ e ∈ l, φ e.1 = ψ e.1) :
    wsum φ l = wsum ψ l := by
  unfold wsum
  rw [List.filter_congr (fun e he => h e he)]

theorem wsum_eq_key (l : List (κ × (ω × Md))) (hnd : (keys l).Nodup) (e : κ × (ω × Md)) (he : e ∈ l) :
    wsum (fun k => decide (k = e.1)) l = e.2.1 := by
  rw [wsum_erase _ l e he hnd]
  have : wsum (fun k => decide (k = e.1)) (erase l e.1) = 0 := by
    unfold wsum
    rw [List.filter_eq_nil_iff.mpr]
    · rfl
    · intro a ha
      have := (mem_erase _ _ hnd a).mp ha
      simpa using this.2
  simp [this]

end wsum

section keepw
variable {κ ω : Type} [DecidableEq κ] [AddCommMonoid ω] (ops : KeyOps κ)

/-- `φ` pulled back along one key step (`false` on dropped keys) -/
def pull (φ : κ → Bool) (n : Node) (k : κ) : Bool :=
  match stepKey ops n k with
  | some k' => φ k'
  | none => false

theorem addEdge_wsum (φ : κ → Bool) (c : Content κ ω) (hw : c.weighted = true) (k : κ) (w : ω) (md : Md) :
    wsum φ (addEdge ops c k w md).edges = wsum φ c.edges + (if φ k then w else 0) := by
  unfold addEdge
  cases h : get? c.edges k with
  | some v =>
    obtain ⟨w0, md0⟩ := v
    simp only [addEdgeOld, hw, if_true]
    exact wsum_set φ c.edges k w0 w md0 md h
  | none =>
    simp only [addEdgeNew, wsum_append, wsum_cons, wsum_nil, add_zero]

theorem shrinkOne_wsum (hlaw : Lawful ops) (φ : κ → Bool) (n : Node) (c : Content κ ω) (hw : c.weighted = true)
    (hnd : (keys c.edges).Nodup) (e : κ × (ω × Md)) (he : e ∈ c.edges) (hn : n ∈ ops.nodesOf e.1) :
    wsum (pull ops φ n) (shrinkOne ops n c e).edges = wsum (pull ops φ n) c.edges := by
  rw [wsum_erase (pull ops φ n) c.edges e he hnd]
  have hstep : stepKey ops n e.1 = ops.shrink e.1 n := stepKey_of_mem ops hn
  unfold shrinkOne
  cases hs : ops.shrink e.1 n with
  | none =>
    have : pull ops φ n e.1 = false := by unfold pull; rw [hstep, hs]
    simp [removeEdge, this]
  | some k' =>
    have hk' : n ∉ ops.nodesOf k' := fun h => ((hlaw _ _ _ hs n).mp h).2 rfl
    have h1 : pull ops φ n e.1 = φ k' := by unfold pull; rw [hstep, hs]
    have h2 : pull ops φ n k' = φ k' := by
      unfold pull; rw [stepKey_of_not_mem ops hk']
    rw [addEdge_wsum ops _ _ (by simpa [removeEdge] using hw), h1, h2]
    exact add_comm _ _

theorem foldl_shrinkOne_wsum (hlaw : Lawful ops) (φ : κ → Bool) (n : Node) (l : List (κ × (ω × Md)))
    (c : Content κ ω) (hw : c.weighted = true) (hnd : (keys c.edges).Nodup)
    (hl : ∀ e ∈ l, get? c.edges e.1 = some e.2 ∧ n ∈ ops.nodesOf e.1) (hlk : (l.map (·.1)).Nodup) :
    wsum (pull ops φ n) (l.foldl (shrinkOne ops n) c).edges = wsum (pull ops φ n) c.edges := by
  induction l generalizing c with
  | nil => rfl
  | cons e l ih =>
    simp only [List.foldl_cons]
    simp only [List.map_cons, List.nodup_cons] at hlk
    have he := hl e List.mem_cons_self
    have hmem : e ∈ c.edges := mem_of_get? _ _ _ he.1
    rw [ih (shrinkOne ops n c e) (by simpa using hw) (shrinkOne_keys_nodup ops n c e hnd) ?_ hlk.2,
      shrinkOne_wsum ops hlaw φ n c hw hnd e hmem he.2]
    intro e' he'
    have h' := hl e' (List.mem_cons_of_mem _ he')
    refine ⟨?_, h'.2⟩
    rw [shrinkOne_get?_in ops hlaw n c e e'.1 h'.2 hnd]
    have hne : e.1 ≠ e'.1 := fun h => hlk.1 (List.mem_map.mpr ⟨e', he', h.symm⟩)
    rw [if_neg hne]; exact h'.1

theorem removeNode_keep_wsum (hlaw : Lawful ops) (φ : κ → Bool) (c : Content κ ω) (hwf : WF ops c)
    (hw : c.weighted = true) (n : Node) :
    wsum φ (removeNode ops true c n).edges = wsum (pull ops φ n) c.edges := by
  rw [← foldl_shrinkOne_wsum ops hlaw φ n (incident ops c n) c hw hwf.keysNodup
    (fun e he => ⟨incident_rec ops c n hwf.keysNodup e he, ((mem_incident ops c n e).mp he).2⟩)
    (incident_keys_nodup ops c n hwf.keysNodup), removeNode_keep_edges ops hlaw]
  apply wsum_congr
  intro e he
  have hk : e.1 ∈ keys (removeNode ops true c n).edges := by
    rw [removeNode_keep_edges ops hlaw]; exact mem_keys_of_mem _ _ he
  obtain ⟨k, _, hs⟩ := (removeNode_keep_keys ops hlaw c hwf n e.1).mp hk
  have hn := not_mem_of_stepKey ops hlaw n k e.1 hs
  unfold pull
  rw [stepKey_of_not_mem ops hn]

/-- `φ` pulled back along the removal of the nodes `R` -/
def pullAll (φ : κ → Bool) (R : List Node) (k : κ) : Bool :=
  match shrinkAll ops R k with
  | some k' => φ k'
  | none => false

theorem pullAll_eq_key (R : List Node) (k k2 : κ) :
    pullAll ops (fun k' => decide (k' = k2)) R k = decide (shrinkAll ops R k = some k2) := by
  unfold pullAll
  cases shrinkAll ops R k <;> simp

theorem foldl_removeNode_keep_wsum (hlaw : Lawful ops) (R : List Node) (φ : κ → Bool) (c : Content κ ω)
    (hwf : WF ops c) (hw : c.weighted = true) :
    wsum φ (R.foldl (removeNode ops true) c).edges = wsum (pullAll ops φ R) c.edges := by
  induction R generalizing c with
  | nil =>
    apply wsum_congr
    intro e _
    simp [pullAll, shrinkAll]
  | cons n R ih =>
    simp only [List.foldl_cons]
    rw [ih _ (removeNode_keep_wf ops hlaw c hwf n) (by rw [removeNode_keep_weighted ops hlaw]; exact hw),
      removeNode_keep_wsum ops hlaw _ c hwf hw n]
    apply wsum_congr
    intro e _
    unfold pull pullAll
    rw [shrinkAll_cons]
    cases stepKey ops n e.1 <;> rfl

end keepw
end C19
