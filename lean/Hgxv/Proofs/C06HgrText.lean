import Hgxv.Model.C06HgrText
import Hgxv.Proofs.C06Json
/-! The `.hgr` reader on the characters of the file: `split(" ")`, `strip`, `int` on a written data line give back
the numbers, and a written file is read as its rows (`lexText_rows`, `hgrScan_skip`; `C06_hgr_text` in `Props/C06.lean`).  Core Lean only. -/
namespace C06
namespace HgrText
open Num Json

theorem splitSP_noSP (a : List Nat) (h : 32 ∉ a) : splitSP a = [a] := by
  induction a with
  | nil => rfl
  | cons c cs ih =>
    have hc : c ≠ 32 := fun e => h (e ▸ List.mem_cons_self)
    have hcs : 32 ∉ cs := fun m => h (List.mem_cons_of_mem _ m)
    simp only [splitSP, if_neg hc, ih hcs]

theorem splitSP_append (a b : List Nat) (h : 32 ∉ a) : splitSP (a ++ 32 :: b) = a :: splitSP b := by
  induction a with
  | nil => simp [splitSP]
  | cons c cs ih =>
    have hc : c ≠ 32 := fun e => h (e ▸ List.mem_cons_self)
    have hcs : 32 ∉ cs := fun m => h (List.mem_cons_of_mem _ m)
    simp only [List.cons_append, splitSP, if_neg hc, ih hcs]

theorem splitSP_joinSP (t : List Nat) (ts : List (List Nat)) (h : ∀ x ∈ t :: ts, 32 ∉ x) :
    splitSP (joinSP (t :: ts)) = t :: ts := by
  induction ts generalizing t with
  | nil => exact splitSP_noSP t (h t List.mem_cons_self)
  | cons t' ts ih =>
    simp only [joinSP]
    rw [splitSP_append _ _ (h t List.mem_cons_self), ih t' (fun x hx => h x (List.mem_cons_of_mem _ hx))]

theorem natDigits_noSP (n : Nat) : 32 ∉ natDigits n := by
  intro h
  have := natDigits_all n 32 h
  omega

theorem pyNat_natDigits (n : Nat) : pyNat (natDigits n) = some n := by
  unfold pyNat
  rw [if_pos ⟨natDigits_ne_nil n, natDigits_isDigit n⟩, digitsVal_natDigits]

theorem mapM_pyNat (ts : List Nat) : (ts.map natDigits).mapM pyNat = some ts := by
  induction ts with
  | nil => rfl
  | cons t ts ih => simp [List.mapM_cons, pyNat_natDigits, ih]

theorem filter_digits (ts : List Nat) : (ts.map natDigits).filter (fun t => t ≠ []) = ts.map natDigits := by
  apply List.filter_eq_self.mpr
  intro x hx
  obtain ⟨n, _, rfl⟩ := List.mem_map.mp hx
  simp [natDigits_ne_nil]

theorem tokens_dataLine (t : Nat) (ts : List Nat) : tokens (dataLine (t :: ts)) = some (t :: ts) := by
  unfold tokens dataLine
  have h : ∀ x ∈ (natDigits t :: ts.map natDigits), 32 ∉ x := by
    intro x hx
    rcases List.mem_cons.mp hx with rfl | hx
    · exact natDigits_noSP t
    · obtain ⟨n, _, rfl⟩ := List.mem_map.mp hx
      exact natDigits_noSP n
  rw [List.map_cons, splitSP_joinSP _ _ h, ← List.map_cons, filter_digits, mapM_pyNat]

theorem isSpace_digit (z : Nat) (h : 48 ≤ z ∧ z ≤ 57) : isSpace z = false := by
  have key : ∀ d : Fin 10, isSpace (48 + d.val) = false := by decide +kernel
  have := key ⟨z - 48, by omega⟩
  rwa [Nat.add_sub_of_le h.1] at this

theorem strip_id (a z : Nat) (l' ini : List Nat) (h : a :: l' = ini ++ [z]) (ha : isSpace a = false)
    (hz : isSpace z = false) : strip (a :: l') = a :: l' := by
  unfold strip
  rw [List.dropWhile_cons_of_neg (by simp [ha]), h]
  simp [List.dropWhile_cons_of_neg, hz]

theorem natDigits_first (n : Nat) : ∃ a r, natDigits n = a :: r ∧ 48 ≤ a ∧ a ≤ 57 := by
  cases h : natDigits n with
  | nil => exact absurd h (natDigits_ne_nil n)
  | cons a r => exact ⟨a, r, rfl, natDigits_all n a (h ▸ List.mem_cons_self)⟩

theorem natDigits_last (n : Nat) : ∃ ini z, natDigits n = ini ++ [z] ∧ 48 ≤ z ∧ z ≤ 57 := by
  obtain ⟨ini, z, h⟩ : ∃ ini z, natDigits n = ini ++ [z] := by
    by_cases h : n < 10
    · exact ⟨[], _, natDigits_lt n h⟩
    · exact ⟨_, _, natDigits_ge n h⟩
  exact ⟨ini, z, h, natDigits_all n z (h ▸ List.mem_append_right _ List.mem_cons_self)⟩

theorem joinSP_last (P : Nat → Prop) (t : List Nat) (ts : List (List Nat))
    (h : ∀ x ∈ t :: ts, ∃ ini z, x = ini ++ [z] ∧ P z) : ∃ ini z, joinSP (t :: ts) = ini ++ [z] ∧ P z := by
  induction ts generalizing t with
  | nil => exact h t List.mem_cons_self
  | cons t' ts ih =>
    obtain ⟨ini, z, he, hp⟩ := ih t' (fun x hx => h x (List.mem_cons_of_mem _ hx))
    refine ⟨t ++ 32 :: ini, z, ?_, hp⟩
    simp only [joinSP, he, List.append_assoc, List.cons_append]

theorem joinSP_head (a : Nat) (t : List Nat) (ts : List (List Nat)) : ∃ r, joinSP ((a :: t) :: ts) = a :: r := by
  cases ts with
  | nil => exact ⟨t, rfl⟩
  | cons t' ts => exact ⟨_, by simp only [joinSP, List.cons_append]; rfl⟩

theorem joinSP_mem (c : Nat) (ts : List (List Nat)) (h : c ∈ joinSP ts) : c = 32 ∨ ∃ t ∈ ts, c ∈ t := by
  induction ts with
  | nil => simp [joinSP] at h
  | cons t ts ih =>
    cases ts with
    | nil => exact Or.inr ⟨t, List.mem_cons_self, h⟩
    | cons t' ts =>
      simp only [joinSP, List.mem_append, List.mem_cons] at h
      rcases h with h | h | h
      · exact Or.inr ⟨t, List.mem_cons_self, h⟩
      · exact Or.inl h
      · rcases ih h with h | ⟨x, hx, hc⟩
        · exact Or.inl h
        · exact Or.inr ⟨x, List.mem_cons_of_mem _ hx, hc⟩

theorem dataLine_noLF (ts : List Nat) : 10 ∉ dataLine ts := by
  intro h
  rcases joinSP_mem 10 _ h with h | ⟨t, ht, hc⟩
  · omega
  · obtain ⟨n, _, rfl⟩ := List.mem_map.mp ht
    have := natDigits_all n 10 hc
    omega

theorem dataLine_shape (t : Nat) (ts : List Nat) :
    ∃ a r ini z, dataLine (t :: ts) = a :: r ∧ a :: r = ini ++ [z] ∧ (48 ≤ a ∧ a ≤ 57) ∧ (48 ≤ z ∧ z ≤ 57) := by
  obtain ⟨a, r0, hh, ha⟩ := natDigits_first t
  have h1 : ∃ r, dataLine (t :: ts) = a :: r := by
    unfold dataLine; rw [List.map_cons, hh]; exact joinSP_head a r0 _
  obtain ⟨r, hr⟩ := h1
  have h2 : ∃ ini z, dataLine (t :: ts) = ini ++ [z] ∧ (48 ≤ z ∧ z ≤ 57) := by
    unfold dataLine; rw [List.map_cons]
    apply joinSP_last (fun z => 48 ≤ z ∧ z ≤ 57)
    intro x hx
    rw [← List.map_cons] at hx
    obtain ⟨n, _, rfl⟩ := List.mem_map.mp hx
    exact natDigits_last n
  obtain ⟨ini, z, hz, hzz⟩ := h2
  exact ⟨a, r, ini, z, hr, hr ▸ hz, ha, hzz⟩

theorem strip_dataLine (t : Nat) (ts : List Nat) : strip (dataLine (t :: ts)) = dataLine (t :: ts) := by
  obtain ⟨a, r, ini, z, h1, h2, ha, hz⟩ := dataLine_shape t ts
  rw [h1]
  exact strip_id a z r ini h2 (isSpace_digit a ha) (isSpace_digit z hz)

theorem lexLine_dataLine (t : Nat) (ts : List Nat) : lexLine (dataLine (t :: ts)) = some (.toks (t :: ts)) := by
  unfold lexLine
  rw [strip_dataLine, tokens_dataLine]
  obtain ⟨a, r, ini, z, h1, _, ha, _⟩ := dataLine_shape t ts
  have hn : ¬ (dataLine (t :: ts) = [] ∨ (dataLine (t :: ts)).head? = some 37) := by
    rw [h1]; simp; omega
  rw [if_neg hn]; rfl

theorem lexText_cons (l rest : List Nat) (h : 10 ∉ l) :
    lexText (l ++ 10 :: rest) = (lexLine l).bind (fun x => (lexText rest).map (x :: ·)) := by
  unfold lexText
  rw [splitLF_append _ _ h, List.mapM_cons]
  cases lexLine l <;> simp
  cases List.mapM lexLine (splitLF rest) <;> simp

theorem lexText_rows (rows : List (List Nat)) (h : ∀ r ∈ rows, r ≠ []) :
    lexText (unlines (rows.map dataLine)) = some (rows.map Line.toks ++ [.skip]) := by
  induction rows with
  | nil => decide
  | cons r rows ih =>
    cases r with
    | nil => exact absurd rfl (h [] List.mem_cons_self)
    | cons t ts =>
      simp only [List.map_cons, unlines]
      rw [lexText_cons _ _ (dataLine_noLF _), lexLine_dataLine, ih (fun r hr => h r (List.mem_cons_of_mem _ hr))]
      rfl

theorem hgrScan_skip (s : HgrSt) (ls : List Line) : hgrScan s (ls ++ [.skip]) = hgrScan s ls := by
  induction ls generalizing s with
  | nil => simp [hgrScan, hgrStep]
  | cons l ls ih =>
    simp only [List.cons_append, hgrScan]
    cases hgrStep s l with
    | none => rfl
    | some s' => exact ih s'

end HgrText
end C06
