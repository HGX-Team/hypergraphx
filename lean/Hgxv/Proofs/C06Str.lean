import Hgxv.Model.C06Str
/-! Lemmas for the string-literal layer of the text format (core Lean only): the two escape tables, the
four shapes of `encChar`, one equation of `decBody` per shape, then the round trip and the character set. -/
namespace C06
namespace Str

theorem hexVal_hexDigit (d : Nat) (h : d < 16) : hexVal? (hexDigit d) = some d := by
  have key : ∀ d : Fin 16, hexVal? (hexDigit d.val) = some d.val := by decide
  exact key ⟨d, h⟩

theorem hexDigit_printable (d : Nat) (h : d < 16) : 32 ≤ hexDigit d ∧ hexDigit d ≤ 126 := by
  unfold hexDigit
  split <;> omega

theorem hex4_digits (u : Nat) (h : u < 65536) :
    hex4? (hexDigit (u / 4096 % 16)) (hexDigit (u / 256 % 16)) (hexDigit (u / 16 % 16)) (hexDigit (u % 16)) = some u := by
  have m := fun n => hexVal_hexDigit (n % 16) (Nat.mod_lt n (by decide))
  rw [hex4?, m, m, m, m, Nat.mod_eq_of_lt (Nat.div_lt_of_lt_mul h : u / 4096 < 16)]
  exact congrArg some (by omega)

theorem esc4_append (u : Nat) (rest : List Nat) :
    esc4 u ++ rest = 92 :: 117 :: hexDigit (u / 4096 % 16) :: hexDigit (u / 256 % 16) :: hexDigit (u / 16 % 16)
      :: hexDigit (u % 16) :: rest := rfl

theorem uEsc_esc4 (u : Nat) (h : u < 65536) (rest : List Nat) : uEsc? (esc4 u ++ rest) = some u := by
  rw [esc4_append]
  simp only [uEsc?, and_self, if_true]
  exact hex4_digits u h

theorem uEsc_some (l : List Nat) (u : Nat) (h : uEsc? l = some u) : ∃ t, l = 92 :: 117 :: t := by
  unfold uEsc? at h
  split at h
  · split at h
    · next hxy => exact ⟨_, by rw [hxy.1, hxy.2]⟩
    · cases h
  · cases h

theorem short_cases (c e : Nat) (h : short? c = some e) :
    (c = 34 ∧ e = 34) ∨ (c = 92 ∧ e = 92) ∨ (c = 10 ∧ e = 110) ∨ (c = 13 ∧ e = 114) ∨ (c = 9 ∧ e = 116) ∨
      (c = 8 ∧ e = 98) ∨ (c = 12 ∧ e = 102) := by
  by_cases hc : c = 34 ∨ c = 92 ∨ c = 10 ∨ c = 13 ∨ c = 9 ∨ c = 8 ∨ c = 12
  · rcases hc with rfl | rfl | rfl | rfl | rfl | rfl | rfl <;> cases h <;> decide
  · simp only [not_or] at hc
    simp only [short?, hc, if_false] at h
    cases h

theorem short_none (c : Nat) (h : short? c = none) :
    c ≠ 34 ∧ c ≠ 92 ∧ c ≠ 10 ∧ c ≠ 13 ∧ c ≠ 9 ∧ c ≠ 8 ∧ c ≠ 12 := by
  refine ⟨?_, ?_, ?_, ?_, ?_, ?_, ?_⟩ <;> (rintro rfl; cases h)

theorem unshort_short (c e : Nat) (h : short? c = some e) : unshort? e = some c ∧ e ≠ 117 ∧ 32 ≤ e ∧ e ≤ 126 := by
  rcases short_cases c e h with ⟨rfl, rfl⟩ | ⟨rfl, rfl⟩ | ⟨rfl, rfl⟩ | ⟨rfl, rfl⟩ | ⟨rfl, rfl⟩ | ⟨rfl, rfl⟩ | ⟨rfl, rfl⟩ <;>
    decide

theorem short_of_gt (c : Nat) (h : 92 < c) : short? c = none :=
  Option.eq_none_iff_forall_ne_some.mpr fun e he => by
    rcases short_cases c e he with h' | h' | h' | h' | h' | h' | h' <;> omega

theorem encChar_cases (c : Nat) :
    (∃ e, short? c = some e ∧ encChar c = [92, e]) ∨
    (short? c = none ∧ (32 ≤ c ∧ c ≤ 126) ∧ encChar c = [c]) ∨
    (short? c = none ∧ ¬ (32 ≤ c ∧ c ≤ 126) ∧ c < 65536 ∧ encChar c = esc4 c) ∨
    (65536 ≤ c ∧ encChar c = esc4 (55296 + (c - 65536) / 1024) ++ esc4 (56320 + (c - 65536) % 1024)) := by
  unfold encChar
  cases short? c with
  | some e => exact .inl ⟨e, rfl, rfl⟩
  | none =>
    by_cases hp : 32 ≤ c ∧ c ≤ 126
    · exact .inr (.inl ⟨rfl, hp, if_pos hp⟩)
    · by_cases hb : c < 65536
      · exact .inr (.inr (.inl ⟨rfl, hp, hb, by simp only [if_neg hp, if_pos hb]⟩))
      · exact .inr (.inr (.inr ⟨Nat.le_of_not_lt hb, by simp only [if_neg hp, if_neg hb]⟩))

theorem encBody_cons (c : Nat) (s rest : List Nat) : encBody (c :: s) ++ rest = encChar c ++ (encBody s ++ rest) := by
  simp only [encBody, List.flatMap_cons, List.append_assoc]

/-- the text of a code point starts with the escape of a LOW surrogate only if the code point is one -/
theorem uEsc_encChar_low (c : Nat) (hc : c < 1114112) (rest : List Nat) (u2 : Nat)
    (h : uEsc? (encChar c ++ rest) = some u2) (hl : isLow u2 = true) : isLow c = true := by
  rcases encChar_cases c with ⟨e, hs, henc⟩ | ⟨hs, _, henc⟩ | ⟨_, _, hb, henc⟩ | ⟨hb, henc⟩ <;> rw [henc] at h
  · obtain ⟨t, ht⟩ := uEsc_some _ _ h
    exact absurd (List.cons.inj (List.cons.inj ht).2).1 (unshort_short c e hs).2.1
  · obtain ⟨t, ht⟩ := uEsc_some _ _ h
    exact absurd (List.cons.inj ht).1 (short_none c hs).2.1
  · rw [uEsc_esc4 c hb] at h
    cases h
    exact hl
  · rw [List.append_assoc, uEsc_esc4 _ (by omega)] at h
    cases h
    simp only [isLow, Bool.and_eq_true, decide_eq_true_eq] at hl
    omega

theorem decBody_short (e x : Nat) (rest : List Nat) (he : e ≠ 117) (hx : unshort? e = some x) :
    decBody (92 :: e :: rest) = (decBody rest).map (x :: ·) := by
  rw [decBody]
  simp only [show (92 : Nat) ≠ 34 by decide, if_false, if_true, he, hx]

theorem decBody_plain (c : Nat) (rest : List Nat) (h1 : c ≠ 34) (h2 : c ≠ 92) (h3 : ¬ c < 32) :
    decBody (c :: rest) = (decBody rest).map (c :: ·) := by
  rw [decBody.eq_def]
  simp only [if_neg h1, if_neg h2, if_neg h3]

theorem decBody_esc4 (u : Nat) (h : u < 65536) (rest : List Nat)
    (hc : isHigh u = true → ∀ u2, uEsc? rest = some u2 → isLow u2 = false) :
    decBody (esc4 u ++ rest) = (decBody rest).map (u :: ·) := by
  have hu := uEsc_esc4 u h rest
  rw [esc4_append] at hu ⊢
  rw [decBody]
  simp only [hu, List.drop_succ_cons, List.drop_zero]
  simp only [show (92 : Nat) ≠ 34 by decide, if_false, if_true]
  cases hh : isHigh u with
  | false => simp
  | true =>
    simp only [if_true]
    cases h2 : uEsc? rest with
    | none => rfl
    | some u2 => simp [hc hh u2 h2]

theorem decBody_pair (hi lo : Nat) (h1 : isHigh hi = true) (h2 : isLow lo = true) (rest : List Nat) :
    decBody (esc4 hi ++ (esc4 lo ++ rest)) =
      (decBody rest).map ((65536 + (hi - 55296) * 1024 + (lo - 56320)) :: ·) := by
  have hhi : hi < 65536 := by simp [isHigh] at h1; omega
  have hlo : lo < 65536 := by simp [isLow] at h2; omega
  have hu := uEsc_esc4 hi hhi (esc4 lo ++ rest)
  have hl := uEsc_esc4 lo hlo rest
  rw [esc4_append] at hu
  rw [esc4_append hi, decBody]
  simp only [hu, List.drop_succ_cons, List.drop_zero]
  simp only [show (92 : Nat) ≠ 34 by decide, if_false, if_true, h1, hl, h2]
  rw [esc4_append lo]
  simp only [List.drop_succ_cons, List.drop_zero]

theorem noPair_tail (a : Nat) (s : List Nat) (h : NoPair (a :: s)) : NoPair s := by
  cases s with
  | nil => trivial
  | cons b t => exact h.2

theorem uEsc_encBody_low (c : Nat) (s : List Nat) (hv : Valid s) (hp : NoPair (c :: s)) (hh : isHigh c = true) (u2 : Nat)
    (h : uEsc? (encBody s ++ [34]) = some u2) : isLow u2 = false := by
  cases s with
  | nil => cases h
  | cons b t =>
    rw [encBody_cons] at h
    cases hl : isLow u2 with
    | false => rfl
    | true => exact absurd ⟨hh, uEsc_encChar_low b (hv b List.mem_cons_self) _ u2 h hl⟩ hp.1

theorem decBody_encBody (s : List Nat) (hv : Valid s) (hp : NoPair s) : decBody (encBody s ++ [34]) = some s := by
  induction s with
  | nil => rw [encBody, List.flatMap_nil, List.nil_append, decBody]; rfl
  | cons c s ih =>
    have hvs : Valid s := fun x hx => hv x (List.mem_cons_of_mem _ hx)
    have ihs := ih hvs (noPair_tail c s hp)
    rw [encBody_cons]
    rcases encChar_cases c with ⟨e, hs, henc⟩ | ⟨hs, hpr, henc⟩ | ⟨_, _, hb, henc⟩ | ⟨hb, henc⟩ <;> rw [henc]
    · obtain ⟨hx, he, _⟩ := unshort_short c e hs
      show decBody (92 :: e :: (encBody s ++ [34])) = _
      rw [decBody_short e c _ he hx, ihs]
      rfl
    · obtain ⟨h1, h2, _⟩ := short_none c hs
      show decBody (c :: (encBody s ++ [34])) = _
      rw [decBody_plain c _ h1 h2 (by omega), ihs]
      rfl
    · rw [decBody_esc4 c hb _ (uEsc_encBody_low c s hvs hp), ihs]
      rfl
    · have hc : c < 1114112 := hv c List.mem_cons_self
      rw [List.append_assoc, decBody_pair _ _ (by simp [isHigh]; omega) (by simp [isLow]; omega), ihs]
      exact congrArg (fun x => some (x :: s)) (by omega)

theorem decode_encode (s : List Nat) (hv : Valid s) (hp : NoPair s) : decode (encode s) = some s :=
  decBody_encBody s hv hp

theorem esc4_printable (v : Nat) : ∀ u ∈ esc4 v, 32 ≤ u ∧ u ≤ 126 := by
  intro u hu
  have hd := fun d => hexDigit_printable (d % 16) (Nat.mod_lt d (by decide))
  simp only [esc4, List.mem_cons, List.not_mem_nil, or_false] at hu
  rcases hu with rfl | rfl | rfl | rfl | rfl | rfl
  · decide
  · decide
  all_goals exact hd _

theorem encChar_printable (c : Nat) : ∀ u ∈ encChar c, 32 ≤ u ∧ u ≤ 126 := by
  intro u hu
  rcases encChar_cases c with ⟨e, hs, henc⟩ | ⟨_, hpr, henc⟩ | ⟨_, _, _, henc⟩ | ⟨_, henc⟩ <;> rw [henc] at hu
  · simp only [List.mem_cons, List.not_mem_nil, or_false] at hu
    rcases hu with rfl | rfl
    · decide
    · exact (unshort_short c u hs).2.2
  · rw [List.mem_singleton.mp hu]
    exact hpr
  · exact esc4_printable _ u hu
  · exact (List.mem_append.mp hu).elim (esc4_printable _ u) (esc4_printable _ u)

theorem encode_printable (s : List Nat) : ∀ u ∈ encode s, 32 ≤ u ∧ u ≤ 126 := by
  intro u hu
  simp only [encode, encBody, List.mem_cons, List.mem_append, List.mem_flatMap, List.not_mem_nil, or_false] at hu
  rcases hu with rfl | ⟨c, _, hu⟩ | rfl
  · decide
  · exact encChar_printable c u hu
  · decide

end Str
end C06
