import Hgxv.Proofs.C02Ops
/-! C02: role listings computed through ids = filters of the key list; metadata of present nodes is not touched by add_edge,
nor the presence of another key (`addEdgeKey_has_other`); decidable well-formedness checks for the examples; what every query
answers once a node is `Gone` (`gone_queries`). -/
namespace C02
open AL

/-- keys listed through an id list on which the reverse table is injective -/
theorem filterMap_rev_nodup (s : Store) (h : Inv s) (ids : List Nat) (hids : ids.Nodup) :
    (ids.filterMap (get? s.rev)).Nodup := by
  have hinj : ∀ a b k, get? s.rev a = some k → get? s.rev b = some k → a = b := by
    intro a b k ha hb
    have h1 := h.edge_of_rev k a ha
    have h2 := h.edge_of_rev k b hb
    rw [h1] at h2; exact Option.some.inj h2
  induction ids with
  | nil => simp
  | cons a t ih =>
    have hnd := List.nodup_cons.mp hids
    simp only [List.filterMap_cons]
    cases ha : get? s.rev a with
    | none => exact ih hnd.2
    | some k =>
      simp only []
      refine List.nodup_cons.mpr ⟨?_, ih hnd.2⟩
      intro hmem
      obtain ⟨b, hb, hbk⟩ := List.mem_filterMap.mp hmem
      have := hinj a b k ha hbk
      exact hnd.1 (this ▸ hb)

theorem Inv.mem_keys_iff {s : Store} (h : Inv s) (k : Key) : k ∈ keys s.edgeList ↔ ∃ id, get? s.rev id = some k := by
  constructor
  · intro hk
    have := (isSome_get?_iff s.edgeList k).mpr hk
    obtain ⟨id, hid⟩ := Option.isSome_iff_exists.mp this
    exact ⟨id, h.rev_of_edge k id hid⟩
  · rintro ⟨id, hid⟩
    exact (isSome_get?_iff s.edgeList k).mp (by simp [h.edge_of_rev k id hid])

theorem Inv.listing_perm {s : Store} (h : Inv s) {proj : Key → List Node} {adj : Adj} (hi : Index (· ≠ ·) s.rev proj adj)
    (n : Node) (ids : List Nat) (hn : get? adj n = some ids) (t : Option Nat) :
    ((ids.filterMap (get? s.rev)).filter (passes t false)).Perm
      ((keys s.edgeList).filter (fun k => (proj k).contains n && passes t false k)) := by
  have hnd : ids.Nodup := hi.sorted n ids hn
  have hiff := hi.mem_iff n ids hn
  rw [List.perm_ext_iff_of_nodup ((filterMap_rev_nodup s h ids hnd).filter _) (h.nd_edge.filter _)]
  intro k
  simp only [List.mem_filter, List.mem_filterMap, Bool.and_eq_true, List.contains_iff_mem, h.mem_keys_iff]
  constructor
  · rintro ⟨⟨id, hid, hrev⟩, hp⟩
    obtain ⟨k', hk', hn'⟩ := (hiff id).mp hid
    rw [hrev] at hk'; cases hk'
    exact ⟨⟨id, hrev⟩, hn', hp⟩
  · rintro ⟨⟨id, hrev⟩, hn', hp⟩
    exact ⟨⟨id, (hiff id).mpr ⟨k, hrev, hn'⟩, hrev⟩, hp⟩

/-- **source role**: the listing through `_adj_source` and `_reverse_edge_list` is, as a multiset, the filter of
    the key list by "`n` is a source and the size filter holds": every such hyperedge exactly once, no other -/
theorem Inv.sourceEdges_perm {s : Store} (h : Inv s) (n : Node) (ids : List Nat) (hn : get? s.adjS n = some ids)
    (t : Option Nat) :
    ((ids.filterMap (get? s.rev)).filter (passes t false)).Perm
      ((keys s.edgeList).filter (fun k => k.1.contains n && passes t false k)) :=
  h.listing_perm h.indexS n ids hn t

theorem Inv.targetEdges_perm {s : Store} (h : Inv s) (n : Node) (ids : List Nat) (hn : get? s.adjT n = some ids)
    (t : Option Nat) :
    ((ids.filterMap (get? s.rev)).filter (passes t false)).Perm
      ((keys s.edgeList).filter (fun k => k.2.contains n && passes t false k)) :=
  h.listing_perm h.indexT n ids hn t

theorem link_node (s1 : Store) (id : Nat) (k : Key) (m : Node) (hm : (get? s1.adjS m).isSome) :
    (get? (linkTgt (linkSrc s1 id k.1) id k.2).adjS m).isSome ∧
    get? (linkTgt (linkSrc s1 id k.1) id k.2).nmeta m = get? s1.nmeta m := by
  have a := linkSrc_linked s1 id k.1
  have b := linkTgt_linked (linkSrc s1 id k.1) id k.2
  have p1 := (a.dom m).mpr (Or.inr hm)
  exact ⟨(b.dom m).mpr (Or.inr p1), (b.nmeta m p1).trans (a.nmeta m hm)⟩

theorem addEdgeKey_node (s : Store) (k : Key) (w : Option Int) (md : Option Meta) (m : Node)
    (hm : (get? s.adjS m).isSome) :
    (get? (addEdgeKey s k w md).1.adjS m).isSome ∧ get? (addEdgeKey s k w md).1.nmeta m = get? s.nmeta m := by
  unfold addEdgeKey
  split
  · exact ⟨hm, rfl⟩
  · split
    · simp only [addEdgeNew]
      exact link_node _ _ _ m hm
    · exact ⟨hm, rfl⟩

def RawEdge.ok (e : RawEdge) : Bool :=
  decide e.src.toList.Nodup && decide e.tgt.toList.Nodup &&
  e.src.toList.all (fun n => !e.tgt.toList.contains n) && !e.src.toList.isEmpty && !e.tgt.toList.isEmpty

theorem RawWF_of_ok (e : RawEdge) (h : e.ok = true) : RawWF e := by
  simp only [RawEdge.ok, Bool.and_eq_true, decide_eq_true_eq, List.all_eq_true, Bool.not_eq_true',
    List.isEmpty_eq_false_iff] at h
  obtain ⟨⟨⟨⟨h1, h2⟩, h3⟩, h4⟩, h5⟩ := h
  refine ⟨h1, h2, ?_, h4, h5⟩
  intro n hn hc
  have := h3 n hn
  simp [hc] at this

def Op.ok : Op → Bool
  | .addEdge e _ _ => e.ok
  | .addEdges es _ _ => es.all RawEdge.ok
  | _ => true

theorem Op.WF_of_ok (o : Op) (h : o.ok = true) : o.WF := by
  cases o <;> simp only [Op.ok, Op.WF, List.all_eq_true] at h ⊢
  · exact RawWF_of_ok _ h
  · exact fun e he => RawWF_of_ok _ (h e he)

def Cmd.ok : Cmd → Bool
  | .new _ _ _ _ es _ _ => (es.getD []).all RawEdge.ok
  | .copy _ _ => true
  | .op _ o => o.ok

theorem Cmd.WF_of_ok (c : Cmd) (h : c.ok = true) : c.WF := by
  cases c <;> simp only [Cmd.ok, Cmd.WF, List.all_eq_true] at h ⊢
  · exact fun e he => RawWF_of_ok _ (h e he)
  · exact Op.WF_of_ok _ h

theorem cmds_WF_of_ok (cs : List Cmd) (h : cs.all Cmd.ok = true) : ∀ c ∈ cs, c.WF := by
  intro c hc
  exact Cmd.WF_of_ok c (List.all_eq_true.mp h c hc)

theorem roleEdges_some (s : Store) (adj : Adj) (n : Node) (f : Filt) (L : List Key) (h : roleEdges s adj n f = some L) :
    ∃ ids t, get? adj n = some ids ∧ f.target = some t := by
  unfold roleEdges at h
  cases ha : get? adj n with
  | none => rw [ha] at h; cases h
  | some ids =>
    cases ht : f.target with
    | none => rw [ha, ht] at h; cases h
    | some t => exact ⟨ids, t, rfl, rfl⟩

theorem _root_.AL.Index.roleEdges_mem {s : Store} {R : Nat → Nat → Prop} {proj : Key → List Node} {adj : Adj} (hi : Index R s.rev proj adj) (m : Node)
    (f : Filt) (L : List Key) (hL : roleEdges s adj m f = some L) (k : Key) (hk : k ∈ L) :
    (∃ id, get? s.rev id = some k) ∧ m ∈ proj k := by
  obtain ⟨ids, t, ha, ht⟩ := roleEdges_some s adj m f L hL
  rw [hi.roleEdges_eq m ids ha f t ht] at hL
  injection hL with hL; subst hL
  obtain ⟨h1, _⟩ := List.mem_filter.mp hk
  obtain ⟨id, hid, hrev⟩ := List.mem_filterMap.mp h1
  obtain ⟨k', hk', hn⟩ := (hi.mem_iff m ids ha id).mp hid
  rw [hrev] at hk'; cases hk'
  exact ⟨⟨id, hrev⟩, hn⟩

theorem Inv.roleEdges_all_mem {s : Store} (h : Inv s) {proj : Key → List Node} {adj : Adj} (hi : Index (· ≠ ·) s.rev proj adj)
    (n : Node) (L : List Key) (hL : roleEdges s adj n .all = some L) (k : Key) :
    k ∈ L ↔ k ∈ keys s.edgeList ∧ n ∈ proj k := by
  obtain ⟨ids, t, ha, ht⟩ := roleEdges_some s adj n .all L hL
  cases Option.some.inj ht
  rw [hi.roleEdges_eq n ids ha .all none rfl] at hL
  cases Option.some.inj hL
  rw [(h.listing_perm hi n ids ha none).mem_iff]
  simp [passes_none]

theorem incident_some (s : Store) (m : Node) (f : Filt) (L : List Key) (h : incident s m f = some L) :
    ∃ a b, sourceEdges s m f = some a ∧ targetEdges s m f = some b ∧ L = a ++ b := by
  unfold incident at h
  cases ha : sourceEdges s m f with
  | none => rw [ha] at h; cases h
  | some a =>
    cases hb : targetEdges s m f with
    | none => rw [ha, hb] at h; cases h
    | some b => rw [ha, hb] at h; injection h with h; exact ⟨a, b, rfl, rfl, h.symm⟩

theorem gone_queries {s : Store} (h : Inv s) (n : Node) (g : Gone s n) :
    n ∉ nodes s ∧ checkNode s n = false ∧ nodeMeta s n = none ∧
    (∀ k ∈ keys s.edgeList, n ∉ k.1 ∧ n ∉ k.2) ∧
    (∀ f up L, edges s f up = some L → ∀ k ∈ L, n ∉ k.1 ∧ n ∉ k.2) ∧
    (∀ S ∈ sources s, n ∉ S) ∧ (∀ T ∈ targets s, n ∉ T) ∧
    (∀ m f L, sourceEdges s m f = some L → ∀ k ∈ L, n ∉ k.1 ∧ n ∉ k.2) ∧
    (∀ m f L, targetEdges s m f = some L → ∀ k ∈ L, n ∉ k.1 ∧ n ∉ k.2) ∧
    (∀ m f L, incident s m f = some L → ∀ k ∈ L, n ∉ k.1 ∧ n ∉ k.2) ∧
    (∀ m f L, neighbors s m f = some L → n ∉ L) ∧
    (∀ f, sourceEdges s n f = none ∧ targetEdges s n f = none ∧ incident s n f = none ∧ neighbors s n f = none) := by
  have hkeys : ∀ k ∈ keys s.edgeList, n ∉ k.1 ∧ n ∉ k.2 := by
    intro k hk
    obtain ⟨id, hid⟩ := (h.mem_keys_iff k).mp hk
    exact g.keys id k hid
  have hsrc : ∀ m f L, sourceEdges s m f = some L → ∀ k ∈ L, n ∉ k.1 ∧ n ∉ k.2 := by
    intro m f L hL k hk
    obtain ⟨⟨id, hid⟩, _⟩ := h.indexS.roleEdges_mem m f L hL k hk
    exact g.keys id k hid
  have htgt : ∀ m f L, targetEdges s m f = some L → ∀ k ∈ L, n ∉ k.1 ∧ n ∉ k.2 := by
    intro m f L hL k hk
    obtain ⟨⟨id, hid⟩, _⟩ := h.indexT.roleEdges_mem m f L hL k hk
    exact g.keys id k hid
  have hinc : ∀ m f L, incident s m f = some L → ∀ k ∈ L, n ∉ k.1 ∧ n ∉ k.2 := by
    intro m f L hL k hk
    obtain ⟨a, b, ha, hb, hab⟩ := incident_some s m f L hL
    rw [hab, List.mem_append] at hk
    rcases hk with hk | hk
    · exact hsrc m f a ha k hk
    · exact htgt m f b hb k hk
  have hS : ∀ f, sourceEdges s n f = none := by
    intro f; unfold sourceEdges; rw [g.adjS]
  have hT : ∀ f, targetEdges s n f = none := by
    intro f; unfold targetEdges; rw [g.adjT]
  refine ⟨?_, ?_, ?_, hkeys, ?_, ?_, ?_, hsrc, htgt, hinc, ?_, ?_⟩
  · exact (get?_eq_none_iff s.adjS n).mp g.adjS
  · simp [checkNode, has, g.adjS]
  · simp [nodeMeta, has, g.adjS]
  · intro f up L hL k hk
    unfold edges at hL
    cases ht : f.target with
    | none => rw [ht] at hL; cases hL
    | some t =>
      rw [ht] at hL; simp only [Option.map_some] at hL
      injection hL with hL; subst hL
      exact hkeys k (List.mem_filter.mp hk).1
  · intro S hS'
    obtain ⟨k, hk, hkS⟩ := List.mem_map.mp hS'
    subst hkS; exact (hkeys k hk).1
  · intro T hT'
    obtain ⟨k, hk, hkT⟩ := List.mem_map.mp hT'
    subst hkT; exact (hkeys k hk).2
  · intro m f L hL hn
    unfold neighbors at hL
    split at hL
    · cases hL
    · cases hi : incident s m f with
      | none => rw [hi] at hL; cases hL
      | some ks =>
        rw [hi] at hL; simp only [Option.map_some] at hL
        injection hL with hL; subst hL
        rw [mem_nodeSet, List.mem_filter, List.mem_flatMap] at hn
        obtain ⟨⟨k, hk, hnk⟩, _⟩ := hn
        have := hinc m f ks hi k hk
        rcases List.mem_append.mp hnk with h1 | h1
        · exact this.1 h1
        · exact this.2 h1
  · intro f
    refine ⟨hS f, hT f, ?_, ?_⟩
    · unfold incident; rw [hS f]
    · unfold neighbors; simp [has, g.adjS]

theorem addEdgeKey_has_other (s : Store) (k : Key) (w : Option Int) (md : Option Meta) (k' : Key) (hne : k' ≠ k) :
    has (addEdgeKey s k w md).1.edgeList k' = has s.edgeList k' := by
  unfold addEdgeKey
  split
  · rfl
  · split
    · simp only [has]
      rw [(addEdgeNew_fields s k _ _).1, get?_set_ne _ _ _ _ (Ne.symm hne)]
    · rfl

end C02
