import Hgxv.Proofs.C15Ascent
/-! # C15 — the training loop of `fit`: what every pass keeps (`emLoop_keeps`; `PInv`), and the ascent when the memberships
are supplied, as a fact about one pass from a state with `AscInv` -/
open Finset
namespace C15

theorem emStep_u_fixed (d : Data) (fw : Bool) (ru rw : Mat) (p : Params) : (emStep d true fw ru rw p).u = p.u := rfl

theorem emStep_w_fixed (d : Data) (fu : Bool) (ru rw : Mat) (p : Params) : (emStep d fu true ru rw p).w = p.w := rfl

theorem emStep_w_free (d : Data) (fu : Bool) (ru rw : Mat) (p : Params) :
    (emStep d fu false ru rw p).w = toRows d.K d.K (wUpdate d (matOf p.u) (matOf p.w) rw) := rfl

theorem emStep_u_free (d : Data) (fw : Bool) (ru rw : Mat) (p : Params) :
    (emStep d false fw ru rw p).u
      = toRows d.N d.K (uUpdate d (matOf p.u) (matOf (emStep d false fw ru rw p).w) ru) := rfl

theorem emLoop_keeps (P : Params → Prop) (d : Data) (fu fw : Bool) (ru rw : Mat)
    (hstep : ∀ q, P q → P (emStep d fu fw ru rw q)) (p : Params) (hp : P p) (n : ℕ) : P (emLoop d fu fw ru rw n p) := by
  induction n with
  | zero => exact hp
  | succ n ih => exact hstep _ ih

theorem emLoop_u_fixed (d : Data) (fw : Bool) (ru rw : Mat) (n : Nat) (p : Params) :
    (emLoop d true fw ru rw n p).u = p.u :=
  emLoop_keeps (·.u = p.u) d true fw ru rw (fun _ h => h) p rfl n

theorem emLoop_w_fixed (d : Data) (fu : Bool) (ru rw : Mat) (n : Nat) (p : Params) :
    (emLoop d fu true ru rw n p).w = p.w :=
  emLoop_keeps (·.w = p.w) d fu true ru rw (fun _ h => h) p rfl n

/-- non-negative parameters, symmetric `w`, `w` zero on the pattern `Z` -/
structure PInv (Z : ℕ → ℕ → Prop) (p : Params) : Prop where
  u_nonneg : ∀ i a, 0 ≤ matOf p.u i a
  w_nonneg : ∀ a b, 0 ≤ matOf p.w a b
  w_symm : ∀ a b, matOf p.w a b = matOf p.w b a
  w_zero : ∀ a b, Z a b → matOf p.w a b = 0

theorem emStep_inv (Z : ℕ → ℕ → Prop) (d : Data) (fu fw : Bool) (ru rw : Mat) (hA : ∀ e < d.E, 0 ≤ d.A e)
    (hrs : ∀ a b, rw a b = rw b a) (p : Params) (hp : PInv Z p) : PInv Z (emStep d fu fw ru rw p) := by
  have hw' : (∀ a b, 0 ≤ matOf (emStep d fu fw ru rw p).w a b) ∧
      (∀ a b, matOf (emStep d fu fw ru rw p).w a b = matOf (emStep d fu fw ru rw p).w b a) ∧
      ∀ a b, Z a b → matOf (emStep d fu fw ru rw p).w a b = 0 := by
    cases fw with
    | true => rw [emStep_w_fixed]; exact ⟨hp.w_nonneg, hp.w_symm, hp.w_zero⟩
    | false =>
      rw [emStep_w_free]
      exact ⟨matOf_toRows_nonneg _ _ _ (wUpdate_nonneg d _ _ rw hp.u_nonneg hp.w_nonneg hA),
        fun a b => matOf_toRows_symm _ _ a b (wUpdate_symm d _ _ rw a b (hp.w_symm a b) (hrs a b)),
        fun a b hz => matOf_toRows_zero _ _ _ a b (wUpdate_zero d _ _ rw a b (hp.w_zero a b hz))⟩
  refine ⟨?_, hw'.1, hw'.2.1, hw'.2.2⟩
  cases fu with
  | true => rw [emStep_u_fixed]; exact hp.u_nonneg
  | false =>
    intro i a
    rw [emStep_u_free, matOf_toRows]; split
    · rename_i hia
      exact uUpdate_nonneg d _ _ ru hp.u_nonneg hw'.1 hA i hia.1 a
    · exact le_refl 0

theorem emLoop_inv (Z : ℕ → ℕ → Prop) (d : Data) (fu fw : Bool) (ru rw : Mat) (hA : ∀ e < d.E, 0 ≤ d.A e)
    (hrs : ∀ a b, rw a b = rw b a) (p : Params) (hp : PInv Z p) (n : ℕ) : PInv Z (emLoop d fu fw ru rw n p) :=
  emLoop_keeps (PInv Z) d fu fw ru rw (emStep_inv Z d fu fw ru rw hA hrs) p hp n

theorem dsum_congr (K : ℕ) (g w w' : Mat) (h : ∀ a < K, ∀ b < K, w a b = w' a b) :
    ∑ a ∈ range K, ∑ b ∈ range K, g a b * w a b = ∑ a ∈ range K, ∑ b ∈ range K, g a b * w' a b := by
  apply Finset.sum_congr rfl; intro a ha
  apply Finset.sum_congr rfl; intro b hb
  rw [h a (mem_range.mp ha) b (mem_range.mp hb)]

theorem poisson_congr (N K : ℕ) (u w w' : Mat) (h : ∀ a < K, ∀ b < K, w a b = w' a b) (e : List ℕ) :
    poisson N K u w e = poisson N K u w' e := by
  rw [poisson_lin, poisson_lin, dsum_congr K _ w w' h]

theorem bfSum_congr (N K : ℕ) (u w w' : Mat) (h : ∀ a < K, ∀ b < K, w a b = w' a b) :
    bfSum N K u w = bfSum N K u w' := by
  rw [bfSum_lin, bfSum_lin, dsum_congr K _ w w' h]

theorem penLik_congr (d : Data) (u r w w' : Mat) (h : ∀ a < d.K, ∀ b < d.K, w a b = w' a b) :
    penLik d u r w = penLik d u r w' := by
  unfold penLik
  rw [bfSum_congr d.N d.K u w w' h, dsum_congr d.K r w w' h]
  congr 1
  apply Finset.sum_congr rfl; intro e _
  rw [poisson_congr d.N d.K u w w' h]

theorem wUpdate_congr (d : Data) (u w w' r : Mat) (h : ∀ a < d.K, ∀ b < d.K, w a b = w' a b)
    (a b : ℕ) (ha : a < d.K) (hb : b < d.K) : wUpdate d u w r a b = wUpdate d u w' r a b := by
  rw [wUpdate_eq_safeDiv, wUpdate_eq_safeDiv, h a ha b hb]
  have hs : ∀ e ∈ range d.E, d.A e * chat u (nodesOf d.N (d.edge e)) a b / poisson d.N d.K u w (d.edge e)
      = d.A e * chat u (nodesOf d.N (d.edge e)) a b / poisson d.N d.K u w' (d.edge e) := by
    intro e _; rw [poisson_congr d.N d.K u w w' h]
  rw [Finset.sum_congr rfl hs]

/-- the state of the loop when the memberships `us` are supplied and the affinity is inferred: what `ascent_step` asks of it -/
structure AscInv (d : Data) (us : List (List Rat)) (p : Params) : Prop where
  u_eq : p.u = us
  w_nonneg : ∀ a b, 0 ≤ matOf p.w a b
  lam_pos : ∀ e < d.E, 0 < poisson d.N d.K (matOf us) (matOf p.w) (d.edge e)

theorem emStep_asc (d : Data) (us : List (List Rat)) (ru rw : Mat) (hu : ∀ i a, 0 ≤ matOf us i a)
    (hA : ∀ e < d.E, 0 < d.A e) (hr : ∀ a b, 0 ≤ rw a b) (p : Params) (hp : AscInv d us p) :
    AscInv d us (emStep d true false ru rw p) ∧
    penLik d (matOf us) rw (matOf p.w) ≤ penLik d (matOf us) rw (matOf (emStep d true false ru rw p).w) := by
  -- the stored array holds the update on the `K × K` range, and nothing else is read
  have hin : ∀ a < d.K, ∀ b < d.K,
      matOf (emStep d true false ru rw p).w a b = wUpdate d (matOf us) (matOf p.w) rw a b := by
    intro a ha b hb
    rw [emStep_w_free, hp.u_eq]
    exact matOf_toRows_in _ _ _ a b ha hb
  refine ⟨⟨hp.u_eq, ?_, fun e he => ?_⟩, ?_⟩
  · rw [emStep_w_free, hp.u_eq]
    exact matOf_toRows_nonneg _ _ _ (wUpdate_nonneg d _ _ rw hu hp.w_nonneg fun e he => (hA e he).le)
  · rw [poisson_congr d.N d.K (matOf us) _ _ hin]
    exact poisson_pos_after d _ _ rw hu hp.w_nonneg hA hr hp.lam_pos e he
  · rw [penLik_congr d (matOf us) rw _ _ hin]
    exact ascent_step d _ _ rw hu hp.w_nonneg hA hr hp.lam_pos

theorem emLoop_ascInv (d : Data) (us w0 : List (List Rat)) (ru rw : Mat)
    (hu : ∀ i a, 0 ≤ matOf us i a) (hw0 : ∀ a b, 0 ≤ matOf w0 a b) (hA : ∀ e < d.E, 0 < d.A e)
    (hr : ∀ a b, 0 ≤ rw a b)
    (hlam : ∀ e < d.E, 0 < poisson d.N d.K (matOf us) (matOf w0) (d.edge e)) (n : ℕ) :
    AscInv d us (emLoop d true false ru rw n { u := us, w := w0 }) :=
  emLoop_keeps (AscInv d us) d true false ru rw (fun q hq => (emStep_asc d us ru rw hu hA hr q hq).1)
    { u := us, w := w0 } ⟨rfl, hw0, hlam⟩ n

end C15
