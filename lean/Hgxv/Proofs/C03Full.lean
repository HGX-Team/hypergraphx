import Hgxv.Model.C03Full
import Hgxv.Proofs.C03Ref
/-! Facts about the whole object (`Obj` = `Store` + incidence table) and the routes between objects (core Lean only). -/
open AL
namespace C03

/-- the hypothesis of the history theorems, for the machine with incidence calls and routes: every inserted hyperedge
is a duplicate-free node tuple -/
def FOp.WF : FOp → Prop
  | .on _ (.base op) => op.WF
  | _ => True

instance (o : FOp) : Decidable o.WF := by
  cases o with
  | on i op => cases op <;> simp only [FOp.WF] <;> infer_instance
  | _ => simp only [FOp.WF]; infer_instance

theorem baseState_eq (st : FState) : baseState st = mapVals Obj.base st := rfl

theorem get?_baseState (st : FState) (i : Nat) : get? (baseState st) i = (get? st i).map Obj.base := by
  rw [baseState_eq, get?_mapVals]

theorem setInc_base (o : Obj) (raw : List Nat) (t : TimeArg) (n : Node) (md : Meta) :
    (setInc o raw t n md).1.base = o.base := by
  unfold setInc; split <;> rfl

theorem attrInc_base (o : Obj) (raw : List Nat) (t : TimeArg) (n : Node) (f v : Nat) :
    (attrInc o raw t n f v).1.base = o.base := by
  unfold attrInc
  split
  · rfl
  · split <;> rfl

theorem apply_base_inc (o : Obj) (op : SOp) : (o.apply (.base op)).1.inc = o.inc := rfl

theorem apply_base_base (o : Obj) (op : SOp) :
    (o.apply (.base op)).1.base = (applyOp o.base op).1 ∧ (o.apply (.base op)).2 = (applyOp o.base op).2 := ⟨rfl, rfl⟩

theorem derive_base (o : Obj) (r : Route) : (derive o r).base = o.base := by cases r <;> rfl

theorem recKey_some (o : Obj) (raw : List Nat) (t : TimeArg) (k : Key) :
    recKey o raw t = some k ↔ mkKey raw t = some k ∧ (get? o.base.edgeList k).isSome = true := by
  unfold recKey
  cases hm : mkKey raw t with
  | none => simp
  | some k' =>
    by_cases hp : (get? o.base.edgeList k').isSome = true
    · simp only [hp, if_true, Option.some.injEq]
      constructor
      · intro h; subst h; exact ⟨rfl, hp⟩
      · intro h; exact h.1
    · simp only [hp, Option.some.injEq]
      constructor
      · intro h; cases h
      · rintro ⟨h1, h2⟩; subst h1; exact absurd h2 hp

/-- accepted `set_incidence_metadata`: the entry reads back, every other entry is as before -/
theorem setInc_ok (o : Obj) (raw : List Nat) (t : TimeArg) (n : Node) (md : Meta) (k : Key)
    (hk : recKey o raw t = some k) :
    (setInc o raw t n md).2 = .ok ∧
    getInc (setInc o raw t n md).1 raw t n = some md ∧
    ∀ p, p ≠ (k, n) → get? (setInc o raw t n md).1.inc p = get? o.inc p := by
  have h1 : setInc o raw t n md = ({ o with inc := AL.set o.inc (k, n) md }, .ok) := by
    unfold setInc; rw [hk]
  have hk' : recKey { o with inc := AL.set o.inc (k, n) md } raw t = some k := by
    rw [recKey_some] at hk ⊢; exact hk
  refine ⟨by rw [h1], ?_, ?_⟩
  · rw [h1]; simp only [getInc, hk', Option.bind_some, get?_set_self]
  · intro p hp; rw [h1]; exact get?_set_ne _ _ _ _ (Ne.symm hp)

/-- rejected `set_incidence_metadata` (the record is not there): nothing changes -/
theorem setInc_rej (o : Obj) (raw : List Nat) (t : TimeArg) (n : Node) (md : Meta) (hk : recKey o raw t = none) :
    setInc o raw t n md = (o, .rej) := by
  unfold setInc; rw [hk]

theorem recKey_perm (o : Obj) (r1 r2 : List Nat) (h : r1.Perm r2) (t : TimeArg) : recKey o r1 t = recKey o r2 t := by
  simp only [recKey, mkKey, canon_eq_of_perm r1 r2 h]

theorem fstep_query_state (st : FState) (i : Nat) (q : OQuery) : (fstep st (.query i q)).1 = st := by
  simp only [fstep]; split <;> rfl

/-- the slot a call writes -/
def FOp.target : FOp → Option Nat
  | .new i _ => some i
  | .on i _ => some i
  | .derive _ _ j => some j
  | .query _ _ => none

theorem fstep_other (st : FState) (op : FOp) (k : Nat) (hk : op.target ≠ some k) :
    get? (fstep st op).1 k = get? st k := by
  cases op with
  | new i w =>
    have : i ≠ k := fun h => hk (by simp [FOp.target, h])
    simp only [fstep]; exact get?_set_ne _ _ _ _ this
  | on i o =>
    have : i ≠ k := fun h => hk (by simp [FOp.target, h])
    simp only [fstep]
    split
    · rfl
    · exact get?_set_ne _ _ _ _ this
  | derive r i j =>
    have : j ≠ k := fun h => hk (by simp [FOp.target, h])
    simp only [fstep]
    split
    · rfl
    · exact get?_set_ne _ _ _ _ this
  | query i q => rw [fstep_query_state]

theorem fstep_derive_get (st : FState) (r : Route) (i j : Nat) (o : Obj) (h : get? st i = some o) :
    get? (fstep st (.derive r i j)).1 j = some (derive o r) := by
  simp only [fstep, h]; exact get?_set_self _ _ _

theorem fstep_base (st : FState) (op : FOp) :
    baseState (fstep st op).1 =
      match op.toBase? with
      | some b => (step (baseState st) b).1
      | none => baseState st := by
  cases op with
  | new i w =>
    simp only [fstep, FOp.toBase?, step, baseState_eq, mapVals_set]; rfl
  | derive r i j =>
    simp only [fstep, FOp.toBase?, step, get?_baseState]
    cases hg : get? st i with
    | none => rfl
    | some o => simp only [Option.map_some, baseState_eq, mapVals_set, derive_base]
  | query i q =>
    rw [fstep_query_state]; rfl
  | on i o =>
    cases o with
    | base b =>
      simp only [fstep, FOp.toBase?, step, get?_baseState]
      cases hg : get? st i with
      | none => rfl
      | some ob => simp only [Option.map_some, baseState_eq, mapVals_set]; rfl
    | _ =>
      -- the two incidence calls leave `base` as it is
      simp only [fstep, FOp.toBase?]
      cases hg : get? st i with
      | none => rfl
      | some ob =>
        simp only [baseState_eq, mapVals_set, Obj.apply, setInc_base, attrInc_base]
        exact set_same _ _ _ (by rw [get?_mapVals, hg]; rfl)

theorem frun_base (ops : List FOp) (st : FState) :
    baseState (frun st ops) = run (baseState st) (ops.filterMap FOp.toBase?) := by
  induction ops generalizing st with
  | nil => rfl
  | cons op ops ih =>
    have h := ih (fstep st op).1
    simp only [frun] at h
    simp only [frun, List.foldl_cons, List.filterMap_cons]
    rw [h, fstep_base]
    cases hb : op.toBase? with
    | none => rfl
    | some b => simp only [run, List.foldl_cons]

theorem toBase_wf (ops : List FOp) (hwf : ∀ op ∈ ops, op.WF) : ∀ b ∈ ops.filterMap FOp.toBase?, b.WF := by
  intro b hb
  obtain ⟨op, hop, hb⟩ := List.mem_filterMap.mp hb
  have h := hwf op hop
  cases op with
  | new i w => simp only [FOp.toBase?, Option.some.injEq] at hb; subst hb; trivial
  | derive r i j => simp only [FOp.toBase?, Option.some.injEq] at hb; subst hb; trivial
  | query i q => simp [FOp.toBase?] at hb
  | on i o =>
    cases o with
    | base s => simp only [FOp.toBase?, Option.some.injEq] at hb; subst hb; exact h
    | setInc raw t n md => simp [FOp.toBase?] at hb
    | attrInc raw t n f v => simp [FOp.toBase?] at hb

/-- `o` is the content of some slot after some history of well-formed public calls, incidence calls and routes included -/
def FReachable (o : Obj) : Prop :=
  ∃ ops : List FOp, (∀ op ∈ ops, op.WF) ∧ ∃ i, get? (frun [] ops) i = some o

theorem freachable_base {o : Obj} (h : FReachable o) : Reachable o.base := by
  obtain ⟨ops, hwf, i, hi⟩ := h
  refine ⟨ops.filterMap FOp.toBase?, toBase_wf ops hwf, i, ?_⟩
  have hb := frun_base ops []
  have : baseState ([] : FState) = [] := rfl
  rw [this] at hb
  rw [← hb, get?_baseState, hi]; rfl

def fullOps : List FOp := [
  .new 0 true,
  .on 0 (.base (.addEdge [2, 1] (.int 3) (some 8) none)),
  .on 0 (.base (.addEdge [1, 2, 3] (.int 3) (some 2) (some [(0, 1)]))),
  .on 0 (.setInc [1, 2] (.int 3) 2 [(0, 5)]),
  .on 0 (.setInc [3, 2, 1] (.int 3) 7 [(1, 1)]),      -- node 7 is not in the hyperedge: accepted as in the code
  .on 0 (.setInc [1, 2] (.int 4) 2 [(0, 6)]),         -- no such record: rejected
  .on 0 (.attrInc [2, 1] (.int 3) 2 1 4),
  .derive .copy 0 1,
  .derive .tables 0 2,
  .on 0 (.base (.removeEdge [1, 2] (.int 3))),        -- the entry of the removed record stays in the table
  .on 1 (.setInc [1, 2] (.int 3) 1 []),
  .on 2 (.base (.addEdge [5] (.int 0) none none))]

def fullObj (i : Nat) : Obj := (get? (frun [] fullOps) i).getD (Obj.new false)

end C03
