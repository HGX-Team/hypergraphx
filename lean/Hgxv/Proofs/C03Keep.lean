import Hgxv.Proofs.C03Ref
/-! # C03 - closed form of `remove_node(n, keep_edges=True)` on the map `(time, node set) ↦ (weight, metadata)`

`Spec.removeNode` is defined operationally (a fold of `dropKey` over the records containing `n`, in creation order, each
step = delete + re-insert, as the Python code does).  Here the result is characterised record by record, independently of
the processing order: every record containing `n` moves onto its node set minus `n` and MERGES with the record that is
already there (weights add when weighted, the moved record's metadata wins), a record that would become empty is dropped,
every other record is untouched.  (Seeded change C03-c1 re-keyed the records in place and lost exactly this merge.) -/
namespace C03
open AL

/-- the key onto which `remove_node(n, keep_edges=True)` moves the record `k` -/
def shrinkKey (n : Node) (k : Key) : Key := (k.1, k.2.filter (· != n))

/-- what the invariant of the stores gives for the map: distinct canonical keys, unweighted ⇒ every weight is 1 -/
structure SpecWF (sp : Spec) : Prop where
  nodup : (keys sp.recs).Nodup
  canonK : ∀ k, (get? sp.recs k).isSome → Sorted k.2 ∧ k.2.Nodup
  unw : sp.weighted = false → ∀ k v, get? sp.recs k = some v → v.1 = one

theorem specWF_abs (s : Store) (h : Inv s) : SpecWF (abs s) :=
  ⟨(abs_tab h).knd, fun _ hk => ((abs_tab h).of_key ((mem_keys_iff _ _).mpr hk)).1,
   fun hw k v hv => (abs_tab h).unw hw (k, v) (mem_of_get? _ _ _ hv)⟩

theorem shrink_inj (n : Node) (l1 l2 : List Nat) (s1 : Sorted l1) (s2 : Sorted l2) (d1 : l1.Nodup) (d2 : l2.Nodup)
    (m1 : n ∈ l1) (m2 : n ∈ l2) (h : l1.filter (· != n) = l2.filter (· != n)) : l1 = l2 := by
  apply sorted_ext l1 l2 s1 s2 d1 d2
  intro x
  by_cases hx : x = n
  · subst hx; exact ⟨fun _ => m2, fun _ => m1⟩
  · have a1 : x ∈ l1.filter (· != n) ↔ x ∈ l1 ∧ x ≠ n := by simp
    have a2 : x ∈ l2.filter (· != n) ↔ x ∈ l2 ∧ x ≠ n := by simp
    rw [h] at a1
    constructor
    · intro hm; exact (a2.mp (a1.mpr ⟨hm, hx⟩)).1
    · intro hm; exact (a1.mp (a2.mpr ⟨hm, hx⟩)).1

theorem shrinkKey_inj (n : Node) (k1 k2 : Key) (c1 : Sorted k1.2 ∧ k1.2.Nodup) (c2 : Sorted k2.2 ∧ k2.2.Nodup)
    (m1 : n ∈ k1.2) (m2 : n ∈ k2.2) (h : shrinkKey n k1 = shrinkKey n k2) : k1 = k2 := by
  obtain ⟨t1, e1⟩ := k1
  obtain ⟨t2, e2⟩ := k2
  simp only [shrinkKey, Prod.mk.injEq] at h
  obtain ⟨ht, he⟩ := h
  have := shrink_inj n e1 e2 c1.1 c2.1 c1.2 c2.2 m1 m2 he
  simp [ht, this]

theorem not_mem_shrink (n : Node) (k : Key) : n ∉ (shrinkKey n k).2 := by
  simp [shrinkKey, List.mem_filter]

theorem shrinkKey_ne (n : Node) (k : Key) (hn : n ∈ k.2) : shrinkKey n k ≠ k :=
  fun h => not_mem_shrink n k (h.symm ▸ hn)

/-- one step of the loop, as a map update -/
theorem dropKey_keep_eq (sp : Spec) (hwf : SpecWF sp) (n : Node) (k : Key) (w : Int) (md : Meta)
    (hk : get? sp.recs k = some (w, md)) :
    Spec.dropKey sp n true k =
      if (shrinkKey n k).2 = [] then { sp with recs := erase sp.recs k }
      else Spec.addKey { sp with recs := erase sp.recs k } (shrinkKey n k) w md := by
  have hsorted : canon (k.2.filter (· != n)) = k.2.filter (· != n) :=
    canon_of_sorted _ (List.Pairwise.filter _ (hwf.canonK k (by simp [hk])).1)
  have hok : sp.weighted = true ∨ some w = none ∨ some w = some one := by
    cases hw : sp.weighted with
    | true => exact .inl rfl
    | false => exact .inr (.inr (congrArg some (hwf.unw hw k (w, md) hk)))
  unfold Spec.dropKey
  simp only [hk, Spec.addEdge_eq, edgeArgs_nat _ _ _ _ hok, hsorted, shrinkKey, Bool.true_and, Option.getD_some]
  by_cases he : k.2.filter (· != n) = []
  · simp [he]
  · simp [he]

theorem recs_addKey (sp : Spec) (k : Key) (w : Int) (md : Meta) :
    (Spec.addKey sp k w md).recs = AL.set sp.recs k (Spec.recVal sp.weighted (get? sp.recs k) w md) := rfl

theorem weighted_dropKey (sp : Spec) (n : Node) (k : Key) : (Spec.dropKey sp n true k).weighted = sp.weighted := by
  unfold Spec.dropKey
  cases get? sp.recs k with
  | none => rfl
  | some v =>
    simp only [Spec.addEdge_eq]
    split
    · cases edgeArgs sp.weighted (k.2.filter (· != n)) (.int k.1) (some v.1) <;> rfl
    · rfl

theorem get?_dropKey (sp : Spec) (hwf : SpecWF sp) (n : Node) (k : Key) (w : Int) (md : Meta)
    (hk : get? sp.recs k = some (w, md)) (hn : n ∈ k.2) (k' : Key) :
    get? (Spec.dropKey sp n true k).recs k' =
      if k' = k then none
      else if k' = shrinkKey n k ∧ k'.2 ≠ [] then some (Spec.recVal sp.weighted (get? sp.recs k') w md)
      else get? sp.recs k' := by
  have hne := shrinkKey_ne n k hn
  -- the step erases `k` and, unless the shrunk node set is empty, assigns at `shrinkKey n k ≠ k`: `get?` of erase / set
  rw [dropKey_keep_eq sp hwf n k w md hk]
  by_cases he : (shrinkKey n k).2 = []
  · simp only [he, if_true]
    rw [get?_erase _ _ _ hwf.nodup]
    by_cases h1 : k' = k
    · simp [h1]
    · have : ¬ (k = k') := fun h => h1 h.symm
      simp only [this, h1, if_false]
      by_cases h2 : k' = shrinkKey n k
      · subst h2; simp [he]
      · simp [h2]
  · simp only [he, if_false]
    rw [recs_addKey]
    simp only
    rw [get?_set, get?_erase _ _ _ hwf.nodup]
    by_cases h1 : k' = k
    · subst h1
      simp only [if_true]
      have : ¬ (shrinkKey n k' = k') := hne
      simp only [this, if_false]
      rw [get?_erase _ _ _ hwf.nodup]; simp
    · have h1' : ¬ (k = k') := fun h => h1 h.symm
      simp only [h1, if_false]
      by_cases h2 : k' = shrinkKey n k
      · subst h2
        have : ¬ (k = shrinkKey n k) := fun h => hne h.symm
        simp [this, he]
      · have h2' : ¬ (shrinkKey n k = k') := fun h => h2 h.symm
        simp only [h2', h2, false_and, if_false]
        rw [get?_erase _ _ _ hwf.nodup]; simp [h1']

theorem recVal_unw (old : Option (Int × Meta)) (w : Int) (md : Meta) (ho : ∀ v, old = some v → v.1 = one) (hw : w = one) :
    (Spec.recVal false old w md).1 = one := by
  cases old with
  | none => simpa [Spec.recVal] using hw
  | some v => obtain ⟨w0, m0⟩ := v; simpa [Spec.recVal] using ho (w0, m0) rfl

theorem specWF_dropKey (sp : Spec) (hwf : SpecWF sp) (n : Node) (k : Key) (w : Int) (md : Meta)
    (hk : get? sp.recs k = some (w, md)) (hn : n ∈ k.2) : SpecWF (Spec.dropKey sp n true k) := by
  have hcan := hwf.canonK k (by simp [hk])
  have hg := get?_dropKey sp hwf n k w md hk hn
  refine ⟨?_, ?_, ?_⟩
  · rw [dropKey_keep_eq sp hwf n k w md hk]
    split
    · exact keys_erase_nodup _ _ hwf.nodup
    · rw [recs_addKey]; exact keys_set_nodup _ _ _ (keys_erase_nodup _ _ hwf.nodup)
  · intro k' hs
    rw [hg k'] at hs
    by_cases h1 : k' = k
    · simp [h1] at hs
    · simp only [h1, if_false] at hs
      by_cases h2 : k' = shrinkKey n k ∧ k'.2 ≠ []
      · rw [h2.1]
        exact ⟨List.Pairwise.filter _ hcan.1, hcan.2.filter _⟩
      · simp only [h2, if_false] at hs
        exact hwf.canonK k' hs
  · rw [weighted_dropKey]
    intro hw k' v hv
    rw [hg k'] at hv
    by_cases h1 : k' = k
    · simp [h1] at hv
    · simp only [h1, if_false] at hv
      by_cases h2 : k' = shrinkKey n k ∧ k'.2 ≠ []
      · rw [if_pos h2] at hv
        have hv' := Option.some.inj hv
        rw [← hv', hw]
        exact recVal_unw _ w md (fun v hv' => hwf.unw hw k' v hv') (hwf.unw hw k (w, md) hk)
      · simp only [h2, if_false] at hv
        exact hwf.unw hw k' v hv

/-- **The loop, record by record.**  `ks`: distinct present keys containing `n` (in any order). -/
theorem dropLoop_keep (n : Node) (ks : List Key) :
    ∀ (sp : Spec), SpecWF sp → ks.Nodup → (∀ k ∈ ks, (get? sp.recs k).isSome ∧ n ∈ k.2) →
    let sp' := ks.foldl (fun sp k => Spec.dropKey sp n true k) sp
    sp'.weighted = sp.weighted ∧ SpecWF sp' ∧
    (∀ k' ∈ ks, get? sp'.recs k' = none) ∧
    (∀ k', k' ∉ ks → (∀ k ∈ ks, shrinkKey n k = k' → k'.2 = []) → get? sp'.recs k' = get? sp.recs k') ∧
    (∀ k ∈ ks, ∀ w md, get? sp.recs k = some (w, md) → (shrinkKey n k).2 ≠ [] →
      get? sp'.recs (shrinkKey n k) = some (Spec.recVal sp.weighted (get? sp.recs (shrinkKey n k)) w md)) := by
  induction ks with
  | nil =>
    intro sp hwf _ _
    refine ⟨rfl, hwf, ?_, ?_, ?_⟩
    · intro k' hk'; cases hk'
    · intro k' _ _; rfl
    · intro k hk; cases hk
  | cons k0 rest ih =>
    intro sp hwf hnd hall
    simp only [List.foldl_cons]
    have hnd' := List.nodup_cons.mp hnd
    obtain ⟨h0s, h0n⟩ := hall k0 List.mem_cons_self
    obtain ⟨v0, hv0⟩ := Option.isSome_iff_exists.mp h0s
    obtain ⟨w0, m0⟩ := v0
    have hstep := get?_dropKey sp hwf n k0 w0 m0 hv0 h0n
    have hwf1 := specWF_dropKey sp hwf n k0 w0 m0 hv0 h0n
    have hw1 := weighted_dropKey sp n k0
    have hc0 := hwf.canonK k0 h0s
    -- the other keys of the list are untouched by the first step
    have hrest : ∀ k ∈ rest, get? (Spec.dropKey sp n true k0).recs k = get? sp.recs k := by
      intro k hk
      have hkn := (hall k (List.mem_cons_of_mem _ hk)).2
      have h1 : k ≠ k0 := fun h => hnd'.1 (h ▸ hk)
      have h2 : k ≠ shrinkKey n k0 := fun h => (not_mem_shrink n k0) (h ▸ hkn)
      rw [hstep k]; simp [h1, h2]
    have hall1 : ∀ k ∈ rest, (get? (Spec.dropKey sp n true k0).recs k).isSome ∧ n ∈ k.2 := by
      intro k hk
      rw [hrest k hk]
      exact hall k (List.mem_cons_of_mem _ hk)
    obtain ⟨iw, iwf, ia, ib, ic⟩ := ih (Spec.dropKey sp n true k0) hwf1 hnd'.2 hall1
    -- no key of the rest shrinks onto k0, nor onto the target of k0
    have hno0 : ∀ k ∈ rest, shrinkKey n k = k0 → k0.2 = [] := by
      intro k _ h
      exact absurd h0n (h ▸ not_mem_shrink n k)
    have hnoT : ∀ k ∈ rest, shrinkKey n k = shrinkKey n k0 → (shrinkKey n k0).2 = [] := by
      intro k hk h
      have hk' := hall k (List.mem_cons_of_mem _ hk)
      have := shrinkKey_inj n k k0 (hwf.canonK k hk'.1) hc0 hk'.2 h0n h
      exact absurd (this ▸ hk) hnd'.1
    refine ⟨iw.trans hw1, iwf, ?_, ?_, ?_⟩
    · intro k' hk'
      rcases List.mem_cons.mp hk' with h | h
      · subst h
        rw [ib k' hnd'.1 hno0, hstep k']; simp
      · exact ia k' h
    · intro k' hk' hno
      have h1 : k' ≠ k0 := fun h => hk' (h ▸ List.mem_cons_self)
      have h2 : k' ∉ rest := fun h => hk' (List.mem_cons_of_mem _ h)
      rw [ib k' h2 (fun k hk => hno k (List.mem_cons_of_mem _ hk)), hstep k']
      simp only [h1, if_false]
      by_cases h3 : k' = shrinkKey n k0 ∧ k'.2 ≠ []
      · exact absurd (hno k0 List.mem_cons_self h3.1.symm) h3.2
      · simp [h3]
    · intro k hk w md hkv hne
      rcases List.mem_cons.mp hk with h | h
      · subst h
        rw [hv0] at hkv
        simp only [Option.some.injEq, Prod.mk.injEq] at hkv
        obtain ⟨e1, e2⟩ := hkv
        subst e1 e2
        have hT : shrinkKey n k ∉ rest := fun hm => (not_mem_shrink n k) ((hall (shrinkKey n k) (List.mem_cons_of_mem _ hm)).2)
        rw [ib (shrinkKey n k) hT (fun k2 hk2 h2 => hnoT k2 hk2 h2), hstep (shrinkKey n k)]
        have hne0 := shrinkKey_ne n k h0n
        simp [hne0, hne]
      · have hk' := hall k (List.mem_cons_of_mem _ h)
        have hkk0 : k ≠ k0 := fun e => hnd'.1 (e ▸ h)
        have hTne : shrinkKey n k ≠ shrinkKey n k0 := by
          intro e
          exact hkk0 (shrinkKey_inj n k k0 (hwf.canonK k hk'.1) hc0 hk'.2 h0n e)
        have hTk0 : shrinkKey n k ≠ k0 := fun e => (not_mem_shrink n k) (e ▸ h0n)
        have h1 : get? (Spec.dropKey sp n true k0).recs (shrinkKey n k) = get? sp.recs (shrinkKey n k) := by
          rw [hstep (shrinkKey n k)]; simp [hTk0, hTne]
        have := ic k h w md (by rw [hrest k h]; exact hkv) hne
        rw [this, h1, hw1]

theorem removeNode_keys (sp : Spec) (hwf : SpecWF sp) (n : Node) :
    let ks := (sp.recs.filter (fun p => p.1.2.contains n)).map (·.1)
    ks.Nodup ∧ (∀ k, k ∈ ks ↔ ((get? sp.recs k).isSome ∧ n ∈ k.2)) := by
  intro ks
  have hsub : ks.Sublist (keys sp.recs) := by
    simp only [ks, keys]
    exact List.Sublist.map _ List.filter_sublist
  refine ⟨hsub.nodup hwf.nodup, ?_⟩
  intro k
  constructor
  · intro hk
    obtain ⟨p, hp, hpk⟩ := List.mem_map.mp hk
    obtain ⟨hp1, hp2⟩ := List.mem_filter.mp hp
    subst hpk
    refine ⟨(mem_keys_iff _ _).mp (List.mem_map.mpr ⟨p, hp1, rfl⟩), ?_⟩
    simpa using hp2
  · rintro ⟨hs, hn⟩
    obtain ⟨v, hv⟩ := Option.isSome_iff_exists.mp hs
    have hm := mem_of_get? _ _ _ hv
    exact List.mem_map.mpr ⟨(k, v), List.mem_filter.mpr ⟨hm, by simpa using hn⟩, rfl⟩

/-- **`remove_node(n, keep_edges=True)` on the map, record by record** (for a node `n` of a well-formed map). -/
theorem removeNode_keep_spec (sp : Spec) (hwf : SpecWF sp) (n : Node) (hn : (get? sp.nodes n).isSome) :
    (Spec.removeNode sp n true).2 = .ok ∧
    (Spec.removeNode sp n true).1.weighted = sp.weighted ∧
    (∀ k', n ∈ k'.2 → get? (Spec.removeNode sp n true).1.recs k' = none) ∧
    (∀ k', n ∉ k'.2 → (∀ k, (get? sp.recs k).isSome → n ∈ k.2 → shrinkKey n k = k' → k'.2 = []) →
      get? (Spec.removeNode sp n true).1.recs k' = get? sp.recs k') ∧
    (∀ k w md, get? sp.recs k = some (w, md) → n ∈ k.2 → (shrinkKey n k).2 ≠ [] →
      get? (Spec.removeNode sp n true).1.recs (shrinkKey n k) =
        some (Spec.recVal sp.weighted (get? sp.recs (shrinkKey n k)) w md)) := by
  obtain ⟨hnd, hmem⟩ := removeNode_keys sp hwf n
  obtain ⟨lw, _, la, lb, lc⟩ := dropLoop_keep n _ sp hwf hnd (fun k hk => (hmem k).mp hk)
  unfold Spec.removeNode
  simp only [hn, if_true]
  refine ⟨trivial, lw, ?_, ?_, ?_⟩
  · intro k' hk'
    by_cases hin : k' ∈ (sp.recs.filter (fun p => p.1.2.contains n)).map (·.1)
    · exact la k' hin
    · have hnone : get? sp.recs k' = none := by
        cases hg : get? sp.recs k' with
        | none => rfl
        | some v => exact absurd ((hmem k').mpr ⟨by simp [hg], hk'⟩) hin
      rw [lb k' hin (fun k _ h => absurd hk' (h ▸ not_mem_shrink n k))]
      exact hnone
  · intro k' hk' hno
    have hin : k' ∉ (sp.recs.filter (fun p => p.1.2.contains n)).map (·.1) := fun h => hk' ((hmem k').mp h).2
    exact lb k' hin (fun k hk h => hno k ((hmem k).mp hk).1 ((hmem k).mp hk).2 h)
  · intro k w md hk hkn hne
    exact lc k ((hmem k).mpr ⟨by simp [hk], hkn⟩) w md hk hne

/-- non-vacuity: a weighted hypergraph in which node 1 sits in `{1,2,3}@5` (weight 2, metadata) next to `{2,3}@5`
(weight 3), in `{1}@6` and in `{1,4}@6` (the plain move onto `{4}@6`) -/
def keepOps : List Op := [
  .new 0 true,
  .on 0 (.addEdge [1, 2, 3] (.int 5) (some 8) (some [(0, 1)])),
  .on 0 (.addEdge [3, 2] (.int 5) (some 12) none),
  .on 0 (.addEdge [1] (.int 6) none none),
  .on 0 (.addEdge [1, 4] (.int 6) (some 2) none)]

def keepStore : Store := (get? (run [] keepOps) 0).getD (Store.new false)

end C03
