import Hgxv.Proofs.C01Ops
/-! C01: the abstraction `abs : Store → Spec` - lookup lemmas and how the primitive updates act on it. -/
namespace C01
open AL

section maps
variable {α β γ : Type} [DecidableEq α]

/-- values looked up through a changed function: only the entry of `k` changes -/
theorem map_update (l : List (α × β)) (g g' : β → γ) (k : α) (i : β)
    (hnd : (keys l).Nodup) (hinj : ∀ p ∈ l, ∀ q ∈ l, p.2 = q.2 → p.1 = q.1)
    (hk : get? l k = some i) (hg : ∀ j, j ≠ i → g' j = g j) :
    (l.map fun p => (p.1, g' p.2)) = AL.set (l.map fun p => (p.1, g p.2)) k (g' i) :=
  map_val_update g g' l k i hnd hk (fun p hp e => hinj p hp (k, i) (mem_of_get? _ _ _ hk) e) (fun p _ hne => hg p.2 hne)

theorem del_map_snd (l : List (α × β)) (g g' : β → γ) (k : α)
    (hg : ∀ p ∈ l, p.1 ≠ k → g' p.2 = g p.2) :
    ((del l k).map fun p => (p.1, g' p.2)) = del (l.map fun p => (p.1, g p.2)) k := by
  induction l with
  | nil => rfl
  | cons hd t ih =>
    obtain ⟨k', v⟩ := hd
    have iht := ih (fun p hp => hg p (List.mem_cons_of_mem _ hp))
    simp only [del] at iht ⊢
    by_cases h : k' = k
    · simp [h]; simpa using iht
    · have := hg (k', v) List.mem_cons_self h
      simp only [] at this
      simp [h, this]; simpa using iht

theorem keys_map_get (l : List (α × β)) (d : β) (hnd : (keys l).Nodup) :
    (keys l).map (fun k => (k, (get? l k).getD d)) = l := by
  induction l with
  | nil => rfl
  | cons hd t ih =>
    obtain ⟨k', v⟩ := hd
    have hnd' : k' ∉ keys t ∧ (keys t).Nodup := by simpa [keys] using hnd
    have iht := ih hnd'.2
    simp only [keys, List.map_cons, List.map_map] at iht ⊢
    simp only [get?, if_true, Option.getD_some]
    congr 1
    conv => rhs; rw [← iht]
    apply List.map_congr_left
    intro q hq
    have : k' ≠ q.1 := by
      intro heq; exact hnd'.1 (heq ▸ List.mem_map.mpr ⟨q, hq, rfl⟩)
    simp [Function.comp, this]

end maps

/-- weight and metadata stored under an id -/
def wm (s : Store) (id : Nat) : Int × Meta := ((get? s.weights id).getD 0, (get? s.emeta id).getD [])

theorem abs_edges (s : Store) : (abs s).edges = s.edgeList.map (fun p => (p.1, wm s p.2)) := rfl

theorem abs_get (s : Store) (e : Edge) : get? (abs s).edges e = (get? s.edgeList e).map (wm s) := by
  rw [abs_edges]; exact get?_map_val s.edgeList (wm s) e

theorem abs_keys (s : Store) : keys (abs s).edges = keys s.edgeList := by
  rw [abs_edges]; exact keys_map_val s.edgeList (wm s)

theorem abs_isSome (s : Store) (e : Edge) : (get? (abs s).edges e).isSome = (get? s.edgeList e).isSome := by
  rw [abs_get]; simp

theorem Inv.node_agree {s : Store} (h : Inv s) (n : Node) : (get? s.nmeta n).isSome = (get? s.adj n).isSome :=
  isSome_eq_of_keys h.nm_keys n

theorem Inv.el_inj {s : Store} (h : Inv s) : ∀ p ∈ s.edgeList, ∀ q ∈ s.edgeList, p.2 = q.2 → p.1 = q.1 := by
  intro p hp q hq heq
  have a := h.id_of_mem hp
  have b := h.id_of_mem hq
  rw [heq] at a
  exact h.id_inj a b

theorem abs_weightOf (s : Store) (e : Edge) : Spec.weightOf (abs s) e = weightOf s e := by
  simp only [Spec.weightOf, weightOf, abs_get]
  cases get? s.edgeList e <;> simp [wm]

theorem abs_emetaOf (s : Store) (e : Edge) : Spec.emetaOf (abs s) e = emetaOf s e := by
  simp only [Spec.emetaOf, emetaOf, abs_get]
  cases get? s.edgeList e <;> simp [wm]

theorem weightOf_abs (s : Store) : Spec.weightOf (abs s) = weightOf s := funext (abs_weightOf s)

theorem emetaOf_abs (s : Store) : Spec.emetaOf (abs s) = emetaOf s := funext (abs_emetaOf s)

theorem incidentKeys_abs {s : Store} (h : Inv s) : Spec.incidentKeys (abs s) = incidentKeys s :=
  funext fun n => by rw [h.incidentKeys_filter n]; simp only [Spec.incidentKeys, abs_keys]

/-- `add_node` bookkeeping on the metadata table alone -/
def touchMeta (nm : List (Node × Meta)) (n : Node) : List (Node × Meta) :=
  if (get? nm n).isSome then nm else AL.set nm n []

theorem touchNode_nmeta_eq (s : Store) (n : Node) (hag : (get? s.nmeta n).isSome = (get? s.adj n).isSome) :
    (touchNode s n).nmeta = touchMeta s.nmeta n := by
  unfold touchNode touchMeta
  rw [hag]
  split <;> rfl

theorem touchMeta_get (nm : List (Node × Meta)) (n m : Node) :
    get? (touchMeta nm n) m = if (get? nm m).isSome then get? nm m else if m = n then some [] else none := by
  unfold touchMeta
  by_cases hmn : m = n
  · subst hmn
    cases h : get? nm m <;> simp [h]
  · have hnm : ¬ n = m := fun e => hmn e.symm
    split
    · cases h : get? nm m <;> simp
    · rw [get?_set, if_neg hnm]
      cases h : get? nm m <;> simp

theorem touchFold_get : ∀ (e : List Node) (nm : List (Node × Meta)) (m : Node),
    get? (e.foldl touchMeta nm) m = if (get? nm m).isSome then get? nm m else if m ∈ e then some [] else none := by
  intro e
  induction e with
  | nil => intro nm m; cases h : get? nm m <;> simp [h]
  | cons n e ih =>
    intro nm m
    simp only [List.foldl_cons]
    rw [ih, touchMeta_get]
    by_cases hm : (get? nm m).isSome = true
    · simp [hm]
    · by_cases hmn : m = n
      · subst hmn; simp [hm]
      · simp [hm, hmn]

theorem touchFold_present : ∀ (e : List Node) (nm : List (Node × Meta)), (∀ m ∈ e, (get? nm m).isSome) →
    e.foldl touchMeta nm = nm := by
  intro e
  induction e with
  | nil => intro _ _; rfl
  | cons n e ih =>
    intro nm h
    have : touchMeta nm n = nm := by unfold touchMeta; rw [if_pos (h n List.mem_cons_self)]
    rw [List.foldl_cons, this]
    exact ih nm (fun m hm => h m (List.mem_cons_of_mem _ hm))

theorem abs_touchNode (s : Store) (n : Node) (h : Inv s) : abs (touchNode s n) = Spec.touchNode (abs s) n := by
  have hag := h.node_agree n
  unfold touchNode Spec.touchNode
  have : (get? (abs s).nodes n).isSome = (get? s.adj n).isSome := hag
  rw [this]
  split <;> rfl

theorem abs_addNode (s : Store) (n : Node) (md : Option Meta) (h : Inv s) :
    abs (addNode s n md) = Spec.addNode (abs s) n md := by
  simp only [addNode, Spec.addNode, ← abs_touchNode s n h]
  generalize touchNode s n = t
  unfold fillNodeMeta
  have : (abs t).nodes = t.nmeta := rfl
  rw [this]
  split <;> rfl

theorem linkNodes_nmeta (s : Store) (id : Nat) (ns : List Node) (hk : keys s.nmeta = keys s.adj) :
    (linkNodes s id ns).nmeta = ns.foldl touchMeta s.nmeta := by
  induction ns generalizing s with
  | nil => rfl
  | cons m ns ih =>
    simp only [linkNodes, List.foldl_cons]
    have hag : (get? s.nmeta m).isSome = (get? s.adj m).isSome := isSome_eq_of_keys hk m
    have ht := touchNode_keys s m hk
    have hset : (get? (touchNode s m).adj m).isSome := by rw [touchNode_adj]; simp
    rw [ih]
    · simp only [touchNode_nmeta_eq s m hag]
    · simp only [keys_set_of_mem _ _ _ hset]; exact ht.1

theorem spec_touch_fold (ns : List Node) (a : Spec) :
    ns.foldl Spec.touchNode a = { a with nodes := ns.foldl touchMeta a.nodes } := by
  induction ns generalizing a with
  | nil => rfl
  | cons m ns ih =>
    simp only [List.foldl_cons]
    rw [ih]
    unfold Spec.touchNode touchMeta
    split <;> rfl

/-- an update of the values stored under one id is a map update at its key -/
theorem abs_update_id (s s' : Store) (e : Edge) (id : Nat) (h : Inv s) (hid : get? s.edgeList e = some id)
    (h1 : s'.edgeList = s.edgeList) (hw : s'.weighted = s.weighted) (hn : s'.nmeta = s.nmeta)
    (hh : s'.hmeta = s.hmeta) (hg : ∀ j, j ≠ id → wm s' j = wm s j) :
    abs s' = { abs s with edges := AL.set (abs s).edges e (wm s' id) } := by
  have : (abs s').edges = AL.set (abs s).edges e (wm s' id) := by
    rw [abs_edges, abs_edges, h1]
    exact map_update s.edgeList (wm s) (wm s') e id h.el_nodup h.el_inj hid hg
  simp only [abs] at this ⊢
  simp only [this, hw, hn, hh]

theorem abs_addEdgeOld (s : Store) (e : Edge) (id : Nat) (wt : Int) (md : Meta) (h : Inv s)
    (hid : get? s.edgeList e = some id) :
    abs (addEdgeOld s id wt md) =
      { abs s with edges := AL.set (abs s).edges e (if s.weighted then (wm s id).1 + wt else (wm s id).1, md) } := by
  rw [abs_update_id s (addEdgeOld s id wt md) e id h hid rfl rfl rfl rfl]
  · congr 2
    cases hwt : s.weighted <;> simp [wm, addEdgeOld, hwt]
  · intro j hj
    cases hwt : s.weighted <;> simp [wm, addEdgeOld, hwt, get?_set_ne _ _ _ _ (Ne.symm hj)]

theorem abs_addEdgeNew (s : Store) (raw : List Nat) (wt : Int) (md : Meta) (h : Inv s)
    (hget : get? s.edgeList (canon raw) = none) :
    abs (addEdgeNew s (canon raw) wt md) =
      (canon raw).foldl Spec.touchNode
        { abs s with edges := AL.set (abs s).edges (canon raw) (if s.weighted then wt else one, md) } := by
  rw [spec_touch_fold]
  unfold addEdgeNew
  simp only []
  obtain ⟨f1, f2, f3, f4, f5, f6, f7⟩ := linkNodes_fields
    ({ s with edgeList := AL.set s.edgeList (canon raw) s.nextId, rev := AL.set s.rev s.nextId (canon raw),
              weights := AL.set s.weights s.nextId (if s.weighted then wt else one),
              emeta := AL.set s.emeta s.nextId md, nextId := s.nextId + 1 } : Store) s.nextId (canon raw)
  have hnm := linkNodes_nmeta
    ({ s with edgeList := AL.set s.edgeList (canon raw) s.nextId, rev := AL.set s.rev s.nextId (canon raw),
              weights := AL.set s.weights s.nextId (if s.weighted then wt else one),
              emeta := AL.set s.emeta s.nextId md, nextId := s.nextId + 1 } : Store) s.nextId (canon raw) h.nm_keys
  have hedges : ∀ (t : Store), t.edgeList = AL.set s.edgeList (canon raw) s.nextId →
      t.weights = AL.set s.weights s.nextId (if s.weighted then wt else one) →
      t.emeta = AL.set s.emeta s.nextId md →
      (abs t).edges = AL.set (abs s).edges (canon raw) (if s.weighted then wt else one, md) := by
    intro t t1 t2 t3
    have hnone : get? (abs s).edges (canon raw) = none := by rw [abs_get, hget]; rfl
    rw [set_of_not_mem _ _ _ hnone, abs_edges, abs_edges, t1, set_of_not_mem _ _ _ hget]
    simp only [List.map_append, List.map_cons, List.map_nil]
    congr 1
    · apply List.map_congr_left
      intro p hp
      have hlt := h.mem_lt hp
      have hne : s.nextId ≠ p.2 := by omega
      simp [wm, t2, t3, get?_set_ne _ _ _ _ hne]
    · simp [wm, t2, t3]
  have he := hedges _ f1 f3 f4
  simp only [abs] at he ⊢
  simp only [he, f6, f7, hnm]

theorem abs_removeEdgeId (s : Store) (e : Edge) (id : Nat) (h : Inv s) (hid : get? s.edgeList e = some id) :
    abs (removeEdgeId s e id) = { abs s with edges := del (abs s).edges e } := by
  have : (abs (removeEdgeId s e id)).edges = del (abs s).edges e := by
    rw [abs_edges, abs_edges]
    simp only [removeEdgeId]
    apply del_map_snd
    intro p hp hne
    have : p.2 ≠ id := by
      intro heq
      have a := h.id_of_mem hp
      rw [heq] at a
      exact hne (h.id_inj a hid)
    simp [wm, get?_del, Ne.symm this]
  simp only [abs, removeEdgeId] at this ⊢
  rw [this]

/-- what `Inv` says about the two tables of `abs s`: where the link files of the other properties start -/
theorem abs_tab {s : Store} (h : Inv s) :
    TabWF (fun e => e) (fun e => e.Nodup ∧ canon e = e) one (abs s).weighted (abs s).nodes (abs s).edges :=
  TabWF.of_ids s.edgeList s.weights s.emeta 0 [] (by show (keys s.nmeta).Nodup; rw [h.nm_keys]; exact h.adj_nodup) h.el_nodup
    (fun e id hid => ⟨h.key_canon e id hid, fun m hm =>
      h.nm_keys.symm ▸ (mem_keys_iff _ _).mpr (h.nodes_in id e (h.rev_of_edge _ _ hid) m hm)⟩)
    (fun e id hid => by rw [h.w_dom, h.rev_of_edge _ _ hid]; rfl)
    h.unw_one

end C01
