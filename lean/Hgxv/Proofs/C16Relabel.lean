import Hgxv.Proofs.C16Sample
import Hgxv.Proofs.AL
/-! # C16 — node labels of any type

The run of `sample(initial_hyg=...)` on labels of a type
`α` is the image, under any injective naming `f` of the labels, of the run on the named labels: the sampler sees a
label only through equality with other labels.  Core Lean only. -/
namespace C16

section
variable {α β : Type}

theorem relabelG_map (f : α → β) (ls : List α) (e : Hye) :
    relabelG (ls.map f) e = (relabelG ls e).map (List.map f) := by
  unfold relabelG
  simp only [List.getElem?_map]
  exact ListLib.mapM_option_comp _ f e

theorem relabelAllG_map (f : α → β) (ls : List α) (l : List (Hye × Nat)) :
    relabelAllG (ls.map f) l = (relabelAllG ls l).map (mapOut f) := by
  unfold relabelAllG
  rw [show mapOut f = List.map (fun q : List α × Nat => (q.1.map f, q.2)) from rfl, ← ListLib.mapM_option_comp]
  simp only [relabelG_map, Option.map_map]
  rfl

theorem sizeCountG_map (f : α → β) (edges : List (List α)) (s : Nat) :
    sizeCountG s (edges.map (List.map f)) = sizeCountG s edges := by
  unfold sizeCountG
  rw [List.map_map]
  congr 1
  apply List.map_congr_left
  intro e _
  simp

theorem keys_mapOut (f : α → β) (o : List (List α × Nat)) :
    (mapOut f o).map (·.1) = (o.map (·.1)).map (List.map f) := by
  simp [mapOut, List.map_map, Function.comp_def]

variable [DecidableEq α] [DecidableEq β]

theorem transformG_map (f : α → β) (hf : ∀ a b, f a = f b → a = b) (ls : List α) (e : List α) :
    transformG (ls.map f) (e.map f) = transformG ls e := by
  unfold transformG
  rw [List.mapM_map]
  congr 1
  funext x
  simp [ListLib.idxOf_map_inj f hf]

theorem transformAllG_map (f : α → β) (hf : ∀ a b, f a = f b → a = b) (ls : List α) (edges : List (List α)) :
    (edges.map (List.map f)).mapM (transformG (ls.map f)) = edges.mapM (transformG ls) := by
  rw [List.mapM_map]
  congr 1
  funext e
  exact transformG_map f hf ls e

theorem get?_mapOut (f : α → β) (hf : ∀ a b, f a = f b → a = b) (d : List (List α × Nat)) (k : List α) :
    AL.get? (mapOut f d) (k.map f) = AL.get? d k := by
  simpa [mapOut] using AL.get?_map_kv (List.map f) id (fun a b e => (List.map_inj_right hf).mp e) d k

theorem set_mapOut (f : α → β) (hf : ∀ a b, f a = f b → a = b) (d : List (List α × Nat)) (k : List α) (v : Nat) :
    AL.set (mapOut f d) (k.map f) v = mapOut f (AL.set d k v) := by
  simpa [mapOut] using AL.set_map_kv (List.map f) id (fun a b e => (List.map_inj_right hf).mp e) d k v

theorem foldl_merge_mapOut (f : α → β) (hf : ∀ a b, f a = f b → a = b) (l d : List (List α × Nat)) :
    (mapOut f l).foldl (fun d (p : List β × Nat) => AL.set d p.1 ((AL.get? d p.1).getD 0 + p.2)) (mapOut f d)
      = mapOut f (l.foldl (fun d (p : List α × Nat) => AL.set d p.1 ((AL.get? d p.1).getD 0 + p.2)) d) := by
  induction l generalizing d with
  | nil => rfl
  | cons p t ih =>
    have e : mapOut f (p :: t) = (p.1.map f, p.2) :: mapOut f t := rfl
    rw [e, List.foldl_cons, List.foldl_cons, get?_mapOut f hf, set_mapOut f hf]
    exact ih _

theorem mergeDupG_map (f : α → β) (hf : ∀ a b, f a = f b → a = b) (l : List (List α × Nat)) :
    mergeDupG (mapOut f l) = mapOut f (mergeDupG l) :=
  foldl_merge_mapOut f hf l []

theorem outputStageG_map (f : α → β) (hf : ∀ a b, f a = f b → a = b) (cfg : Config) (ws : List Nat) (ls : List α) :
    outputStageG cfg ws (ls.map f) = (outputStageG cfg ws ls).map (mapOut f) := by
  unfold outputStageG
  split
  · rw [relabelAllG_map]
    cases relabelAllG ls (dropZeros (cfg.map canon) ws) with
    | none => rfl
    | some r => simp [mergeDupG_map f hf]
  · rfl

theorem outputsOfG_map (f : α → β) (hf : ∀ a b, f a = f b → a = b) (ys : List Config) (ws : List (List Nat)) (ls : List α) :
    outputsOfG ys ws (ls.map f) = (outputsOfG ys ws ls).map (List.map (mapOut f)) := by
  induction ys generalizing ws with
  | nil => simp [outputsOfG]
  | cons c cs ih =>
    cases ws with
    | nil => simp [outputsOfG]
    | cons w ws =>
      simp only [outputsOfG]
      rw [outputStageG_map f hf, ih]
      cases outputStageG c w ls with
      | none => rfl
      | some o =>
        cases outputsOfG cs ws ls with
        | none => rfl
        | some r => simp

theorem sampleFromHygG_map (f : α → β) (hf : ∀ a b, f a = f b → a = b) (ls : List α) (edges : List (List α)) (t : OwnTape) :
    sampleFromHygG (ls.map f) (edges.map (List.map f)) t
      = (sampleFromHygG ls edges t).map (List.map (mapOut f)) := by
  unfold sampleFromHygG
  rw [transformAllG_map f hf]
  cases List.mapM (transformG ls) edges with
  | none => rfl
  | some cfg =>
    simp only [Option.bind_some]
    cases mcmcRoutine cfg [] t.burn t.thins with
    | none => rfl
    | some ys =>
      simp only [Option.bind_some]
      exact outputsOfG_map f hf ys _ ls

theorem degOfG_map (f : α → β) (hf : ∀ a b, f a = f b → a = b) (edges : List (List α)) (x : α) :
    degOfG (f x) (edges.map (List.map f)) = degOfG x edges := by
  unfold degOfG
  rw [List.map_map]
  congr 1
  apply List.map_congr_left
  intro e _
  exact ListLib.count_map_inj f hf e x

end

/-! the model over the naturals is the instance `α = Nat` of the generic code -/

theorem outputsOfG_nat (ys : List Config) (ws : List (List Nat)) (ls : List Nat) :
    outputsOfG ys ws ls = outputsOf ys ws (some ls) := by
  induction ys generalizing ws with
  | nil => rfl
  | cons c cs ih =>
    cases ws with
    | nil => rfl
    | cons w ws =>
      simp only [outputsOfG, outputsOf]
      rw [ih]
      rfl

theorem sampleFromHygG_nat (ls : List Nat) (edges : Config) (t : OwnTape) :
    sampleFromHygG ls edges t = sampleFromHyg ls edges t := by
  unfold sampleFromHygG sampleFromHyg sampleFromConfig
  have : ∀ cfg, (mcmcRoutine cfg [] t.burn t.thins).bind (fun ys => outputsOfG ys (t.quantiles.map truncWeights) ls)
      = (mcmcRoutine cfg [] t.burn t.thins).bind (fun ys => outputsOf ys (t.quantiles.map truncWeights) (some ls)) := by
    intro cfg
    congr 1
    funext ys
    exact outputsOfG_nat ys _ ls
  simp only [this]
  rfl

theorem degOfG_nat (x : Nat) (edges : Config) : degOfG x edges = degOf x edges := rfl
theorem sizeCountG_nat (s : Nat) (edges : Config) : sizeCountG s edges = sizeCount s edges := rfl

theorem outputStageG_nat (cfg : Config) (ws : List Nat) (ls : List Nat) :
    outputStageG cfg ws ls = outputStage cfg ws (some ls) := rfl

/-! labels that are naturals are one instance of the naming: the classes `ls` at their positions extend to a naming of ALL ids that
is injective everywhere (beyond the classes: above every class), so the lemmas for an injective `f` apply as they stand -/

theorem exists_naming {ls : List Nat} (hls : ls.Nodup) :
    ∃ f : Nat → Nat, (∀ a b, f a = f b → a = b) ∧ ∀ i, i < ls.length → f i = lab ls i := by
  have hm : ∀ {i}, i < ls.length → lab ls i ≤ ls.foldl max 0 := fun hi => (ListLib.le_foldl_max ls 0).2 _ (lab_mem hi)
  refine ⟨fun i => if i < ls.length then lab ls i else ls.foldl max 0 + 1 + i, fun a b h => ?_, fun i hi => if_pos hi⟩
  by_cases ca : a < ls.length <;> by_cases cb : b < ls.length <;> simp only [ca, cb, ↓reduceIte] at h
  · exact lab_inj hls ca cb h
  · have := hm ca; omega
  · have := hm cb; omega
  · omega

theorem outputStage_labels {cfg : Config} {ws ls : List Nat} {out : List (Hye × Nat)} (hls : ls.Nodup)
    (h : outputStage cfg ws (some ls) = some out) :
    ∃ f : Nat → Nat, (∀ a b, f a = f b → a = b) ∧ (∀ i, i < ls.length → f i = lab ls i) ∧
      ∃ out0, outputStage cfg ws none = some out0 ∧ out = mapOut f out0 := by
  obtain ⟨f, hf, hfl⟩ := exists_naming hls
  obtain ⟨hlen, Y, hr, rfl⟩ := outputStage_eq_some h
  obtain ⟨rfl, y2⟩ := relabelAll_spec hr
  refine ⟨f, hf, hfl, mergeDup (dropZeros (cfg.map canon) ws), ?_, ?_⟩
  · unfold outputStage
    rw [if_pos (by simpa using hlen)]
    rfl
  · refine Eq.trans (congrArg mergeDup (List.map_congr_left fun p hp => ?_)) (mergeDupG_map f hf _)
    rw [List.map_congr_left fun i hi => (hfl i (y2 p hp i hi)).symm]

theorem transformAll_keeps {ls : List Nat} {edges cfg : Config} (he : AllNodup edges)
    (h : edges.mapM (transform ls) = some cfg) :
    AllNodup cfg ∧ edges = cfg.map (List.map (lab ls)) ∧ (∀ s, sizeCount s edges = sizeCount s cfg) ∧
      (ls.Nodup → ∀ i (hi : i < ls.length), degOf ls[i] edges = degOf i cfg) := by
  obtain ⟨t1, t2⟩ := transformAll_spec h
  refine ⟨fun e hec => ListLib.nodup_of_nodup_map _ (he _ (t1 ▸ List.mem_map_of_mem hec)), t1,
    fun s => t1 ▸ sizeCountG_map (lab ls) cfg s, fun hnd i hi => ?_⟩
  obtain ⟨f, hf, hfl⟩ := exists_naming hnd
  have hm : edges = cfg.map (List.map f) :=
    t1.trans (List.map_congr_left fun e he => List.map_congr_left fun j hj => (hfl j (t2 e he j hj)).symm)
  rw [getElem_eq_lab hi, ← hfl i hi, hm]
  exact degOfG_map f hf cfg i

end C16
