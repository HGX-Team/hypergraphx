import Hgxv.Proofs.C06Hif
/-! C06, HIF reader: what the later loops leave as it is (`NodesKept`, `MarkedKept`) and what keeps an attached record
(`hifNodes_keep`, `hifEdges_keep`, `hifIncs2_incid_keep`): the lemmas under `C06_hif_node_records`,
`C06_hif_edge_records`, `C06_hif_incidence_records` of `Props/C06.lean`.  Core Lean only. -/
namespace C06

theorem get?_touchNode_keep (ns : List (Nat × Meta)) (n u : Nat) (m : Meta) (h : AL.get? ns u = some m) :
    AL.get? (touchNode ns n []) u = some m := by
  unfold touchNode
  cases hg : AL.get? ns n with
  | none => simp [AL.get?_append_single, h]
  | some old =>
    simp only
    split
    · rename_i hold
      by_cases hnu : n = u
      · subst hnu; rw [hg] at h; cases h; subst hold; simp
      · rw [AL.get?_set_ne _ _ _ _ hnu]; exact h
    · exact h

theorem get?_touchAll_keep (ns : List (Nat × Meta)) (l : List Nat) (u : Nat) (m : Meta) (h : AL.get? ns u = some m) :
    AL.get? (touchAll ns l) u = some m :=
  ListLib.foldl_inv (P := fun ns => AL.get? ns u = some m) _ (fun s a => get?_touchNode_keep s a u m) l ns h

theorem addEdge_node_keep (c c' : Content HKey) (k : HKey) (w : Option Int) (md : Option Meta) (u : Nat) (m : Meta)
    (h : addEdge c k w md = some c') (hu : AL.get? c.nodes u = some m) : AL.get? c'.nodes u = some m := by
  rw [addEdge_some h]; unfold added; dsimp only
  split
  · exact get?_touchAll_keep _ _ _ _ hu
  · exact hu

theorem hifNodes_append (s : HifSt) (i : Nat) (a b : List Nat) :
    hifNodes s i (a ++ b) = hifNodes (hifNodes s i a) (i + a.length) b := by
  induction a generalizing s i with
  | nil => simp [hifNodes]
  | cons x t ih => simp only [List.cons_append, hifNodes, List.length_cons]; rw [ih]; congr 1; omega

theorem hifNode_frame (s : HifSt) (n i : Nat) :
    (hifNode s n i).etab = s.etab ∧ (hifNode s n i).tmp = s.tmp ∧ Ext s.ntab (hifNode s n i).ntab ∧
    (hifNode s n i).c.edges = s.c.edges ∧ (hifNode s n i).added = s.added ∧ (hifNode s n i).incid = s.incid ∧
    (hifNode s n i).empties = s.empties :=
  ⟨rfl, rfl, Ext_assign _ _, rfl, rfl, rfl, rfl⟩

/-- a node whose record has been attached keeps it while records of other nodes are processed -/
theorem hifNodes_keep (s : HifSt) (i : Nat) (l : List Nat) (name u : Nat) (m : Meta)
    (hok : TabOK s.ntab) (hn : AL.get? s.ntab name = some u) (hm : AL.get? s.c.nodes u = some m) (hnot : name ∉ l) :
    AL.get? (hifNodes s i l).c.nodes u = some m := by
  induction l generalizing s i with
  | nil => exact hm
  | cons n t ih =>
    simp only [hifNodes]
    have hne : n ≠ name := fun h => hnot (by simp [h])
    have hok' := TabOK_assign s.ntab n hok
    have hdiff : (assign s.ntab n).2 ≠ u := by
      intro hc
      exact hne (hok'.1 _ _ _ (hc ▸ assign_get_self s.ntab n) (assign_stable _ _ _ _ hn))
    apply ih (hifNode s n i) (i + 1) hok' (assign_stable _ _ _ _ hn)
    · simp only [hifNode, setNodeMeta, addNode, metaOrEmpty]
      rw [AL.get?_set_ne _ _ _ _ hdiff]
      exact get?_touchNode_keep _ _ _ _ hm
    · exact fun h => hnot (by simp [h])

theorem hifNode_sets (s : HifSt) (name i : Nat) :
    AL.get? (hifNode s name i).ntab name = some (assign s.ntab name).2 ∧
    AL.get? (hifNode s name i).c.nodes (assign s.ntab name).2 = some (recMeta i) := by
  refine ⟨assign_get_self _ _, ?_⟩
  simp [hifNode, setNodeMeta]

theorem nodes_setEdgeMeta (c : Content HKey) (k : HKey) (m : Meta) : (setEdgeMeta c k m).nodes = c.nodes := by
  unfold setEdgeMeta; split <;> rfl

def NodesKept (s s' : HifSt) : Prop := ∀ u m, AL.get? s.c.nodes u = some m → AL.get? s'.c.nodes u = some m

def MarkedKept (s s' : HifSt) : Prop :=
  ∀ k v, k ∈ s.added → AL.get? s.c.edges ⟨k⟩ = some v → k ∈ s'.added ∧ AL.get? s'.c.edges ⟨k⟩ = some v

theorem hifEdge_nodesKept (s s' : HifSt) (name i : Nat) (h : hifEdge s name i = some s') : NodesKept s s' := by
  rcases hifEdge_cases s s' name i h with ⟨l, c1, _, h1, rfl⟩ | ⟨_, rfl⟩
  · exact fun u m hu => nodes_setEdgeMeta c1 _ _ ▸ addEdge_node_keep s.c c1 _ none none u m h1 hu
  · exact fun _ _ hu => hu

theorem hifEdges_nodesKept (s s' : HifSt) (i : Nat) (l : List Nat) (h : hifEdges s i l = some s') : NodesKept s s' :=
  foldIdx?_ind hifEdge (fun _ s1 => NodesKept s s1) l
    (fun _ s1 n i s2 _ h1 h2 u m hu => hifEdge_nodesKept s1 s2 n i h2 u m (h1 u m hu)) [] s s' i (fun _ _ hu => hu)
    (hifEdges_eq s i l ▸ h)

theorem hifInc2_kept (s s' : HifSt) (p : Nat × Nat) (j : Nat) (h : hifInc2 s p j = some s') :
    NodesKept s s' ∧ MarkedKept s s' := by
  obtain ⟨_, _, l, _, _, _, ⟨_, rfl⟩ | ⟨hin, c1, h1, rfl⟩⟩ := hifInc2_cases s s' p j h
  · exact ⟨fun _ _ hu => hu, fun _ _ hk hv => ⟨hk, hv⟩⟩
  · refine ⟨fun u m hu => addEdge_node_keep s.c c1 _ none none u m h1 hu, fun k v hk hv => ?_⟩
    -- the key added now was not marked, so it is not `k`
    exact ⟨List.mem_append_left _ hk, (addKey_get_other s.c c1 l k h1 (fun hc => hin (hc ▸ hk))).trans hv⟩

theorem hifIncs2_kept (s s' : HifSt) (j : Nat) (l : List (Nat × Nat)) (h : hifIncs2 s j l = some s') :
    NodesKept s s' ∧ MarkedKept s s' := by
  refine foldIdx?_ind hifInc2 (fun _ s1 => NodesKept s s1 ∧ MarkedKept s s1) l ?_ [] s s' j
    ⟨fun _ _ hu => hu, fun _ _ hk hv => ⟨hk, hv⟩⟩ (hifIncs2_eq s j l ▸ h)
  intro _ s1 p j s2 _ ⟨a1, a2⟩ h1
  obtain ⟨b1, b2⟩ := hifInc2_kept s1 s2 p j h1
  exact ⟨fun u m hu => b1 u m (a1 u m hu), fun k v hk hv => (a2 k v hk hv).elim (b2 k v)⟩

theorem hifNodes_ntab (s : HifSt) (i : Nat) (l : List Nat) : Ext s.ntab (hifNodes s i l).ntab := by
  induction l generalizing s i with
  | nil => exact Ext_refl _
  | cons n t ih => exact Ext_trans (Ext_assign _ _) (ih (hifNode s n i) (i + 1))

/-- an attached incidence record stays while the later incidences have other (key, node) pairs -/
theorem hifIncs2_incid_keep (d : HifDoc) (s s' : HifSt) (j : Nat) (post : List (Nat × Nat)) (key : List Nat × Nat) (v : Nat)
    (ht : Tabs d s) (hpost : ∀ q ∈ post, q ∈ d.incidences)
    (h : hifIncs2 s j post = some s') (hv : AL.get? s.incid key = some v)
    (hne : ∀ q ∈ post, ∀ nu l, keyList d q.1 = some l → AL.get? (hifPass1 d).ntab q.2 = some nu → (sort l, nu) ≠ key) :
    AL.get? s'.incid key = some v := by
  refine (foldIdx?_ind hifInc2 (fun _ s1 => Tabs d s1 ∧ AL.get? s1.incid key = some v) post ?_ [] s s' j ⟨ht, hv⟩
    (hifIncs2_eq s j post ▸ h)).2
  intro _ s1 q j s2 hq ⟨ht1, hv1⟩ h1
  obtain ⟨nu, l, b1, b2, b4⟩ := hifInc2_incid ht1 q (hpost q hq) j h1
  exact ⟨Tabs_inc2 ht1 q j h1, by rw [b4, AL.get?_set_ne _ _ _ _ (hne q hq nu l b1 b2)]; exact hv1⟩

theorem get?_setEdgeMeta_other (c : Content HKey) (k k' : HKey) (m : Meta) (hne : k ≠ k') :
    AL.get? (setEdgeMeta c k m).edges k' = AL.get? c.edges k' := by
  unfold setEdgeMeta
  cases AL.get? c.edges k with
  | none => rfl
  | some old => exact AL.get?_set_ne _ _ _ _ hne

theorem get?_setEdgeMeta_self (c : Content HKey) (k : HKey) (m : Meta) (old : Int × Meta)
    (h : AL.get? c.edges k = some old) : AL.get? (setEdgeMeta c k m).edges k = some (old.1, m) := by
  unfold setEdgeMeta; rw [h]; exact AL.get?_set_self _ _ _

/-- a marked hyperedge keeps its entry while the later edge records have other keys -/
theorem hifEdges_keep (d : HifDoc) (s s' : HifSt) (i : Nat) (post : List Nat) (l : List Nat) (v : Int × Meta)
    (ht : Tabs d s) (h : hifEdges s i post = some s')
    (hin : sort l ∈ s.added) (hv : AL.get? s.c.edges ⟨sort l⟩ = some v)
    (hlast : ∀ n' ∈ post, ∀ l', keyList d n' = some l' → sort l' ≠ sort l) :
    sort l ∈ s'.added ∧ AL.get? s'.c.edges ⟨sort l⟩ = some v := by
  refine (foldIdx?_ind hifEdge (fun _ s1 => Tabs d s1 ∧ sort l ∈ s1.added ∧ AL.get? s1.c.edges ⟨sort l⟩ = some v)
    post ?_ [] s s' i ⟨ht, hin, hv⟩ (hifEdges_eq s i post ▸ h)).2
  intro _ s1 n i s2 hn ⟨ht1, hin1, hv1⟩ h1
  refine ⟨Tabs_edge ht1 n i h1, ?_⟩
  rcases hifEdge_key ht1 n i h1 with ⟨l', c1, hk, g2, rfl⟩ | ⟨_, rfl⟩
  · have hne := hlast n hn l' hk
    refine ⟨(mem_markAdded_iff _ _ _).mpr (Or.inl hin1), ?_⟩
    show AL.get? (setEdgeMeta c1 ⟨sort l'⟩ (recMeta i)).edges ⟨sort l⟩ = some v
    rw [get?_setEdgeMeta_other c1 ⟨sort l'⟩ ⟨sort l⟩ _ (fun hc => hne (congrArg HKey.nodes hc)),
      addKey_get_other s1.c c1 l' _ g2 hne]
    exact hv1
  · exact ⟨hin1, hv1⟩

end C06
