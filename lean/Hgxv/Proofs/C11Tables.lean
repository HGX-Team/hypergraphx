import Hgxv.Proofs.C11Cert
/-! # C11 - the class tables of orders 3 and 4 by kernel evaluation (the slow module of C11)
Literals printed from the model itself; each is re-derived here by evaluation (`tbls n = ..`, `masks n = ..`, the
crossing masks `cuts3`, `cuts4`).  The representatives of the classes are counted with the test of `isRep_cidC`
(`Proofs/C11Cert.lean`): no relabelling is smaller, and every cut is crossed.  No `native_decide`. -/
namespace C11

def tb3lit : List (List Nat) := [[0, 1, 2, 3], [0, 1, 3, 2], [0, 3, 1, 2], [0, 2, 1, 3], [0, 2, 3, 1], [0, 3, 2, 1]]
def ms3lit : List Nat := [7, 3, 5, 6]
def cls3lit : List Nat := [1, 3, 6, 7, 14, 15]
def tb4lit : List (List Nat) := [[0, 1, 2, 3, 4, 5, 6, 7, 8, 9, 10], [0, 1, 2, 4, 3, 5, 8, 9, 6, 7, 10], [0, 1, 4, 2, 3, 8, 5, 9, 6, 10, 7], [0, 4, 1, 2, 3, 8, 9, 5, 10, 6, 7], [0, 1, 3, 2, 4, 6, 5, 7, 8, 10, 9], [0, 1, 3, 4, 2, 6, 8, 10, 5, 7, 9], [0, 1, 4, 3, 2, 8, 6, 10, 5, 9, 7], [0, 4, 1, 3, 2, 8, 10, 6, 9, 5, 7], [0, 3, 1, 2, 4, 6, 7, 5, 10, 8, 9], [0, 3, 1, 4, 2, 6, 10, 8, 7, 5, 9], [0, 3, 4, 1, 2, 10, 6, 8, 7, 9, 5], [0, 4, 3, 1, 2, 10, 8, 6, 9, 7, 5], [0, 2, 1, 3, 4, 5, 7, 6, 9, 8, 10], [0, 2, 1, 4, 3, 5, 9, 8, 7, 6, 10], [0, 2, 4, 1, 3, 9, 5, 8, 7, 10, 6], [0, 4, 2, 1, 3, 9, 8, 5, 10, 7, 6], [0, 2, 3, 1, 4, 7, 5, 6, 9, 10, 8], [0, 2, 3, 4, 1, 7, 9, 10, 5, 6, 8], [0, 2, 4, 3, 1, 9, 7, 10, 5, 8, 6], [0, 4, 2, 3, 1, 9, 10, 7, 8, 5, 6], [0, 3, 2, 1, 4, 7, 6, 5, 10, 9, 8], [0, 3, 2, 4, 1, 7, 10, 9, 6, 5, 8], [0, 3, 4, 2, 1, 10, 7, 9, 6, 8, 5], [0, 4, 3, 2, 1, 10, 9, 7, 8, 6, 5]]
def ms4lit : List Nat := [15, 7, 11, 13, 14, 3, 5, 9, 6, 10, 12]

theorem tbls3_eq : tbls 3 = tb3lit := by decide +kernel
theorem masks3_eq : masks 3 = ms3lit := by decide +kernel
theorem numMasks3 : numMasks 3 = 16 := by decide +kernel
theorem tbls4_eq : tbls 4 = tb4lit := by decide +kernel
theorem masks4_eq : masks 4 = ms4lit := by decide +kernel
theorem numMasks4 : numMasks 4 = 2048 := by decide +kernel

/-- `applyPerm [t0, .., t10] m` without the list -/
def ap11 (t0 t1 t2 t3 t4 t5 t6 t7 t8 t9 t10 m : Nat) : Nat :=
  Nat.lor (Nat.lor (Nat.lor (Nat.lor (Nat.lor (Nat.lor (Nat.lor (Nat.lor (Nat.lor (Nat.lor (Nat.lor 0
    (moveBit m 0 t0)) (moveBit m 1 t1)) (moveBit m 2 t2)) (moveBit m 3 t3)) (moveBit m 4 t4)) (moveBit m 5 t5))
    (moveBit m 6 t6)) (moveBit m 7 t7)) (moveBit m 8 t8)) (moveBit m 9 t9)) (moveBit m 10 t10)

/-- the 24 relabellings of order 4 as functions on masks -/
def tb4f : List (Nat → Nat) :=
  [ap11 0 1 2 3 4 5 6 7 8 9 10,
   ap11 0 1 2 4 3 5 8 9 6 7 10,
   ap11 0 1 4 2 3 8 5 9 6 10 7,
   ap11 0 4 1 2 3 8 9 5 10 6 7,
   ap11 0 1 3 2 4 6 5 7 8 10 9,
   ap11 0 1 3 4 2 6 8 10 5 7 9,
   ap11 0 1 4 3 2 8 6 10 5 9 7,
   ap11 0 4 1 3 2 8 10 6 9 5 7,
   ap11 0 3 1 2 4 6 7 5 10 8 9,
   ap11 0 3 1 4 2 6 10 8 7 5 9,
   ap11 0 3 4 1 2 10 6 8 7 9 5,
   ap11 0 4 3 1 2 10 8 6 9 7 5,
   ap11 0 2 1 3 4 5 7 6 9 8 10,
   ap11 0 2 1 4 3 5 9 8 7 6 10,
   ap11 0 2 4 1 3 9 5 8 7 10 6,
   ap11 0 4 2 1 3 9 8 5 10 7 6,
   ap11 0 2 3 1 4 7 5 6 9 10 8,
   ap11 0 2 3 4 1 7 9 10 5 6 8,
   ap11 0 2 4 3 1 9 7 10 5 8 6,
   ap11 0 4 2 3 1 9 10 7 8 5 6,
   ap11 0 3 2 1 4 7 6 5 10 9 8,
   ap11 0 3 2 4 1 7 10 9 6 5 8,
   ap11 0 3 4 2 1 10 7 9 6 8 5,
   ap11 0 4 3 2 1 10 9 7 8 6 5]

theorem tb4f_eq : tb4lit.map applyPerm = tb4f := rfl

/-! The masks of the hyperedges crossing each cut of the node set (a cut and its complement give the same mask). -/

def cuts3 : List Nat := [7, 11, 13]
def cuts4 : List Nat := [239, 823, 991, 1371, 1471, 1663, 1693]

theorem conn3_eq (m : Nat) : cutFreeK cuts3 m = connected 3 (masks 3) m := by
  rw [masks3_eq, connected_eq_cutFree (n := 3) (by decide) (by decide) (by decide),
    cutFree_eq_K (xs := cuts3) (by decide) (by decide)]

theorem conn4_eq (m : Nat) : cutFreeK cuts4 m = connected 4 (masks 4) m := by
  rw [masks4_eq, connected_eq_cutFree (n := 4) (by decide) (by decide) (by decide),
    cutFree_eq_K (xs := cuts4) (by decide) (by decide)]

/-- least of its orbit first (a smaller relabelling is found after two tries on average), `_is_connected` only for those -/
def repK (cuts : List Nat) (fs : List (Nat → Nat)) (m : Nat) : Bool :=
  (fs.all fun f => Nat.ble m (f m)) && cutFreeK cuts m

theorem repCount3 : (List.range 16).filter (repK cuts3 (tb3lit.map applyPerm)) = cls3lit := by decide +kernel

/-- the first table is the identity: its test always passes and is left out -/
theorem repCount4 : ((List.range 2048).filter (repK cuts4 tb4f.tail)).length = 171 := by decide +kernel

theorem classes3_eq : classes 3 = cls3lit := by
  rw [classes_eq (certAll (by decide)), numMasks3, ← repCount3]
  apply List.filter_congr
  intro m _
  rw [isRep_cidC, ← conn3_eq, tbls3_eq, repK, List.all_map, Bool.and_comm]
  rfl

theorem classes3_length : (classes 3).length = 6 := by rw [classes3_eq]; decide

theorem classes4_length : (classes 4).length = 171 := by
  rw [classes_eq (certAll (by decide)), numMasks4, ← repCount4]
  refine congrArg List.length (List.filter_congr ?_)
  intro m hm
  have hid : Nat.ble m (applyPerm (List.range 11) m) = true := by
    rw [applyPerm_range 11 m (List.mem_range.mp hm)]; exact Nat.ble_eq.mpr (Nat.le_refl m)
  rw [isRep_cidC, ← conn4_eq, tbls4_eq, repK, ← tb4f_eq, ← List.map_tail, List.all_map, Bool.and_comm,
    show tb4lit = List.range 11 :: tb4lit.tail from rfl, List.all_cons, hid]
  rfl

end C11
