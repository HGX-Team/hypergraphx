import Hgxv.Proofs.C01Ops
/-! C01: lemmas behind the named corollaries (rejected calls change nothing, node order of a
hyperedge is irrelevant, re-insertion). -/
namespace C01
open AL

theorem addEdge_weighted (s : Store) (raw : List Nat) (w : Option Int) (md : Option Meta) :
    (addEdge s raw w md).1.weighted = s.weighted := by
  unfold addEdge
  split
  · rfl
  · split
    · simp only [addEdgeNew, (linkNodes_fields _ _ _).2.2.2.2.2.1]
    · rfl

theorem addEdge_rej (s : Store) (raw : List Nat) (w : Option Int) (md : Option Meta)
    (h : (addEdge s raw w md).2 = .rej) : (addEdge s raw w md).1 = s := by
  unfold addEdge at h ⊢
  by_cases hc : (!s.weighted && w.isSome && w != some one) = true
  · rw [if_pos hc]
  · rw [if_neg hc] at h
    cases hg : get? s.edgeList (canon raw) <;> simp [hg] at h

/-- the loop of `add_edges` never rejects: with weights the hypergraph is weighted, without none is passed -/
theorem addEdgesLoop_ok (useW : Bool) : ∀ (xs : List (List Nat × Option Int × Option Meta)) (s : Store),
    (useW = true → s.weighted = true) → (addEdgesLoop useW s xs).2 = .ok := by
  intro xs s h
  unfold addEdgesLoop
  refine (seqOps_ok_of_inv _ (fun s _ => useW = true → s.weighted = true) ?_ xs s h).1
  intro s a as hP
  refine ⟨?_, ?_⟩
  · unfold addEdge
    cases hu : useW with
    | true => simp [hP hu]; split <;> rfl
    | false => simp; split <;> rfl
  · intro hu; rw [addEdge_weighted]; exact hP hu

theorem addEdges_rej (s : Store) (raws : List (List Nat)) (ws : Option (List Int)) (mds : Option (List Meta))
    (h : (addEdges s raws ws mds).2 = .rej) : (addEdges s raws ws mds).1 = s := by
  unfold addEdges at h ⊢
  split
  · rename_i hv
    rw [if_pos hv] at h
    have := addEdgesLoop_ok ws.isSome (zipArgs raws ws mds) { s with weighted := s.weighted || ws.isSome }
      (by intro hu; simp [hu])
    rw [this] at h; cases h
  · rfl

theorem removeEdges_rej (s : Store) (raws : List (List Nat)) (h : (removeEdges s raws).2 = .rej) :
    (removeEdges s raws).1 = s := by
  unfold removeEdges at h ⊢
  split
  · rename_i hv
    rw [if_pos hv] at h
    simp only [Bool.and_eq_true, List.all_eq_true, decide_eq_true_eq] at hv
    rw [removeEdges_loop_ok raws s hv.1 hv.2] at h; cases h
  · rfl

theorem removeNode_rej (s : Store) (n : Node) (keep : Bool) (hi : Inv s) (h : (removeNode s n keep).2 = .rej) :
    (removeNode s n keep).1 = s := by
  by_cases hn : (get? s.adj n).isSome
  · obtain ⟨s1, s2, _, _, h3, _⟩ := removeNode_spec s n keep hi hn
    rw [h3] at h; cases h
  · have : removeNode s n keep = (s, .rej) := by
      simp only [Bool.not_eq_true] at hn
      simp [removeNode, hn]
    rw [this]

theorem removeNodes_loop_ok (keep : Bool) : ∀ (ns : List Node) (s : Store),
    Inv s → (∀ n ∈ ns, (get? s.adj n).isSome) → ns.Nodup →
    (seqOps (fun s n => removeNode s n keep) s ns).2 = .ok := by
  intro ns s hi h1 h2
  refine (seqOps_ok_of_inv (fun s n => removeNode s n keep)
    (fun s as => Inv s ∧ (∀ n ∈ as, (get? s.adj n).isSome) ∧ as.Nodup) ?_ ns s ⟨hi, h1, h2⟩).1
  intro s a as ⟨hi, hp, hn⟩
  have ha := hp a List.mem_cons_self
  obtain ⟨s1, s2, _, _, h3, _, hi2, hfree, hmono⟩ := removeNode_spec s a keep hi ha
  rw [h3]
  refine ⟨rfl, dropNode_inv s2 a hfree hi2, ?_, (List.nodup_cons.mp hn).2⟩
  intro m hm
  have hne : a ≠ m := by intro heq; subst heq; exact (List.nodup_cons.mp hn).1 hm
  simp only [dropNode, get?_del, hne, if_false]
  exact hmono m (hp m (List.mem_cons_of_mem _ hm))

theorem removeNodes_rej (s : Store) (ns : List Node) (keep : Bool) (hi : Inv s)
    (h : (removeNodes s ns keep).2 = .rej) : (removeNodes s ns keep).1 = s := by
  unfold removeNodes at h ⊢
  split
  · rename_i hv
    rw [if_pos hv] at h
    simp only [Bool.and_eq_true, List.all_eq_true, decide_eq_true_eq] at hv
    rw [removeNodes_loop_ok keep ns s hi hv.1 hv.2] at h; cases h
  · rfl

theorem apply_rej (s : Store) (op : Op) (hi : Inv s) (h : (apply s op).2 = .rej) : (apply s op).1 = s := by
  cases op with
  | addNode n md => simp [apply] at h
  | addNodes ns mds =>
    simp only [apply, addNodes] at h ⊢
    split
    · cases h
    · split
      · rename_i hv; simp [hv] at h
      · rfl
  | addEdge raw w md => exact addEdge_rej s raw w md h
  | addEdges raws ws mds => exact addEdges_rej s raws ws mds h
  | removeEdge raw =>
    simp only [apply, removeEdge] at h ⊢
    split
    · rfl
    · rename_i id hid; simp [hid] at h
  | removeEdges raws => exact removeEdges_rej s raws h
  | removeNode n keep => exact removeNode_rej s n keep hi h
  | removeNodes ns keep => exact removeNodes_rej s ns keep hi h
  | setWeight raw w =>
    simp only [apply, setWeight] at h ⊢
    split
    · rfl
    · rename_i hc; simp only [hc] at h
      split
      · rfl
      · rename_i id hid; simp [hid] at h
  | setNodeMeta n md =>
    simp only [apply, setNodeMeta] at h ⊢
    split
    · rename_i hc; simp [hc] at h
    · rfl
  | setEdgeMeta raw md =>
    simp only [apply, setEdgeMeta] at h ⊢
    split
    · rfl
    · rename_i id hid; simp [hid] at h
  | setHMeta md => simp [apply, setHMeta] at h
  | setAttrH k v => simp [apply, setAttrH] at h
  | setAttrNode n k v =>
    simp only [apply, setAttrNode] at h ⊢
    split
    · rfl
    · rename_i md hg; simp [hg] at h
  | setAttrEdge raw k v =>
    simp only [apply, setAttrEdge] at h ⊢
    split
    · rfl
    · rename_i id hid; simp [hid] at h
  | delAttrNode n k =>
    simp only [apply, delAttrNode] at h ⊢
    split
    · rfl
    · rename_i md hg
      simp only [hg] at h
      split
      · rename_i hc; simp [hc] at h
      · rfl
  | delAttrEdge raw k =>
    simp only [apply, delAttrEdge] at h ⊢
    split
    · rfl
    · rename_i id hid
      simp only [hid] at h
      split
      · rename_i hc; simp [hc] at h
      · rfl
  | clear => simp [apply, clear] at h

theorem pairs_map_canon (ps : List (List Nat × List Nat)) (h : ∀ p ∈ ps, p.1.Perm p.2) :
    (ps.map (·.1)).map canon = (ps.map (·.2)).map canon := by
  induction ps with
  | nil => rfl
  | cons p ps ih =>
    simp only [List.map_cons, canon_eq_of_perm (h p List.mem_cons_self), ih (fun q hq => h q (List.mem_cons_of_mem _ hq))]

/-- `remove_edges` of a batch whose members are re-listed in other node orders -/
theorem removeEdges_congr (s : Store) (ps : List (List Nat × List Nat)) (h : ∀ p ∈ ps, p.1.Perm p.2) :
    removeEdges s (ps.map (·.1)) = removeEdges s (ps.map (·.2)) := by
  have hm := pairs_map_canon ps h
  have hall : ∀ (l : List (List Nat)),
      l.all (fun r => (get? s.edgeList (canon r)).isSome) = (l.map canon).all (fun e => (get? s.edgeList e).isSome) := by
    intro l; induction l with
    | nil => rfl
    | cons a t ih => simp only [List.all_cons, List.map_cons, ih]
  unfold removeEdges
  rw [hall, hall, hm]
  have : seqOps removeEdge s (ps.map (·.1)) = seqOps removeEdge s (ps.map (·.2)) :=
    seqOps_congr_pairs removeEdge ps (fun p hp t => by simp only [removeEdge, canon_eq_of_perm (h p hp)]) s
  rw [this]

/-- the loop of `add_edges` on a batch whose members are re-listed in other node orders -/
theorem addEdgesLoop_congr (useW : Bool) : ∀ (ps : List (List Nat × List Nat)), (∀ p ∈ ps, p.1.Perm p.2) →
    ∀ (ws : Option (List Int)) (mds : Option (List Meta)) (s : Store),
      addEdgesLoop useW s (zipArgs (ps.map (·.1)) ws mds) = addEdgesLoop useW s (zipArgs (ps.map (·.2)) ws mds) := by
  intro ps
  induction ps with
  | nil => intro _ ws mds s; rfl
  | cons p ps ih =>
    intro h ws mds s
    have hc := canon_eq_of_perm (h p List.mem_cons_self)
    have hf : ∀ w md, addEdge s p.1 w md = addEdge s p.2 w md := by
      intro w md; simp only [addEdge, hc]
    have ih' := ih (fun q hq => h q (List.mem_cons_of_mem _ hq))
    unfold addEdgesLoop at ih' ⊢
    simp only [List.map_cons, zipArgs, seqOps, hf]
    split
    · exact ih' _ _ _
    · rfl

theorem addEdges_congr (s : Store) (ps : List (List Nat × List Nat)) (h : ∀ p ∈ ps, p.1.Perm p.2)
    (ws : Option (List Int)) (mds : Option (List Meta))
    (hnd : ws.isSome = true → ((ps.map (·.1)).Nodup ↔ (ps.map (·.2)).Nodup)) :
    addEdges s (ps.map (·.1)) ws mds = addEdges s (ps.map (·.2)) ws mds := by
  have hv : addEdgesValid (ps.map (·.1)) ws mds = addEdgesValid (ps.map (·.2)) ws mds := by
    unfold addEdgesValid
    cases ws with
    | none => simp only [List.length_map]
    | some l =>
      have := hnd rfl
      simp only [List.length_map, this]
  unfold addEdges
  rw [hv, addEdgesLoop_congr ws.isSome ps h]

theorem addEdge_present (s : Store) (raw : List Nat) (w : Option Int) (md : Option Meta) (id : Nat)
    (hp : get? s.edgeList (canon raw) = some id) (hacc : (addEdge s raw w md).2 = .ok) :
    (addEdge s raw w md).1 = addEdgeOld s id (w.getD one) (md.getD []) := by
  unfold addEdge at hacc ⊢
  split
  · rename_i hc; simp [hc] at hacc
  · simp [hp]

end C01
