import Hgxv.Proofs.C01Batch
import Hgxv.Proofs.C01Sub
/-! C01: what `get_edges(order, size, up_to, subhypergraph=True, keep_isolated_nodes)` builds, in
declarative terms.  Core Lean only. -/
namespace C01
open AL

/-- the triples the loop of `add_edges(es, ws)` runs over, for `ws = [f e for e in es]` -/
theorem zipArgs_map (f : Edge → Int) : ∀ (es : List Edge),
    zipArgs es (some (es.map f)) none = es.map (fun e => (e, some (f e), none)) := by
  intro es
  induction es with
  | nil => rfl
  | cons e es ih =>
    simp only [zipArgs, List.map_cons, Option.bind_some, List.head?_cons, Option.bind_none, Option.map_some, List.tail_cons,
      Option.map_none, ih]

theorem zipArgs_none : ∀ (es : List Edge), zipArgs es none none = es.map (fun e => (e, none, none)) := by
  intro es
  induction es with
  | nil => rfl
  | cons e es ih => simp only [zipArgs, List.map_cons, Option.bind_none, Option.map_none, ih]

/-- `add_edges(es, [get_weight(e) for e in es])` (weighted) / `add_edges(es)` on a hypergraph with the source's flag -/
theorem spec_addEdges_loop (a h : Spec) (es : List Edge) (hnd : es.Nodup) (hw : h.weighted = a.weighted) :
    Spec.addEdges h es (if a.weighted then some (es.map (Spec.weightOf a)) else none) none =
      seqOps (fun h e => Spec.addEdge h e (if a.weighted then some (Spec.weightOf a e) else none) none) h es := by
  unfold Spec.addEdges
  cases hwt : a.weighted with
  | true =>
    have hv : addEdgesValid es (some (es.map (Spec.weightOf a))) none = true := by
      simp [addEdgesValid, hnd]
    simp only [if_true, hv, Option.isSome_some, Bool.or_true, zipArgs_map (Spec.weightOf a) es]
    have hh : ({ h with weighted := true } : Spec) = h := by
      rw [hwt] at hw
      cases h; simp_all
    rw [hh, seqOps_map]
  | false =>
    have hv : addEdgesValid es none none = true := by simp [addEdgesValid]
    simp only [Bool.false_eq_true, if_false, hv, if_true, Option.isSome_none, Bool.or_false, zipArgs_none es]
    rw [seqOps_map]

/-- the loop over all keys of the new object's own table: the table with the source's metadata put in -/
theorem spec_copyEdgeMetas_map (a h : Spec) (hnd : (keys h.edges).Nodup) (hcan : ∀ e ∈ keys h.edges, canon e = e) :
    seqOps (Spec.copyEdgeMeta a) h (keys h.edges) =
      ({ h with edges := h.edges.map fun p => (p.1, (p.2.1, Spec.emetaOf a p.1)) }, .ok) := by
  have := run_updates (seqOps (Spec.copyEdgeMeta a)) (fun s e s' => Spec.copyEdgeMeta a s e = (s', .ok))
    (fun s e s' es hs => by simp only [seqOps, hs]) (fun T => { h with edges := T }) id
    (fun e v => (v.1, Spec.emetaOf a e)) h.edges [] [] hnd
    (fun T k v hk hg => by
      unfold Spec.copyEdgeMeta Spec.setEdgeMeta
      simp only [id, hcan k hk, hg])
  simpa [seqOps] using this

theorem spec_subEdges_start (a : Spec) (iso : Bool) :
    ∃ h1, (if iso then Spec.addNodes (Spec.new a.weighted []) (keys a.nodes) none
           else (Spec.new a.weighted [], Out.ok)) = (h1, .ok) ∧
      h1.edges = [] ∧ h1.weighted = a.weighted ∧ h1.hmeta = initHMeta a.weighted [] ∧
      ∀ m, get? h1.nodes m = if iso = true ∧ m ∈ keys a.nodes then some [] else none := by
  cases iso with
  | false => exact ⟨Spec.new a.weighted [], rfl, rfl, rfl, rfl, fun m => by simp; rfl⟩
  | true =>
    obtain ⟨h1, e0, e1, e2, e3, e4⟩ := spec_addNodes_fresh a.weighted (keys a.nodes)
    exact ⟨h1, e0, e1, e2, e3, fun m => by rw [e4 m]; simp⟩

/-- outcome and result of `get_edges(order, size, up_to, subhypergraph=True, keep_isolated_nodes=iso)` on an abstract
hypergraph of a history; `o` = the order asked for (`none` = no filter) -/
theorem spec_subEdges (a : Spec) (ha : SWF a) (f : Filter) (iso : Bool) :
    (f.resolve = none → (Spec.subEdges a f iso).2 = .rej) ∧
    (∀ o, f.resolve = some o →
      (Spec.subEdges a f iso).2 = .ok ∧
      (Spec.subEdges a f iso).1.weighted = a.weighted ∧
      (Spec.subEdges a f iso).1.hmeta = initHMeta a.weighted [] ∧
      (∀ m, get? (Spec.subEdges a f iso).1.nodes m =
        if iso = true ∨ m ∈ ((keys a.edges).filter (keepEdge o f.upTo)).flatten then get? a.nodes m else none) ∧
      keys (Spec.subEdges a f iso).1.edges = (keys a.edges).filter (keepEdge o f.upTo) ∧
      ∀ x, get? (Spec.subEdges a f iso).1.edges x = if keepEdge o f.upTo x then get? a.edges x else none) := by
  refine ⟨fun h => by unfold Spec.subEdges Spec.edgesF; rw [h]; rfl, fun o hres => ?_⟩
  have hmem : ∀ x, x ∈ (keys a.edges).filter (keepEdge o f.upTo) ↔ x ∈ keys a.edges ∧ keepEdge o f.upTo x = true :=
    fun x => List.mem_filter
  have hnd : ((keys a.edges).filter (keepEdge o f.upTo)).Nodup := (List.filter_sublist).nodup ha.knd
  have hpres : ∀ e ∈ (keys a.edges).filter (keepEdge o f.upTo), (get? a.edges e).isSome :=
    fun e he => (mem_keys_iff _ _).mp ((hmem e).mp he).1
  have hedgesF : Spec.edgesF a f = some ((keys a.edges).filter (keepEdge o f.upTo)) := by
    unfold Spec.edgesF; rw [hres]; rfl
  generalize (keys a.edges).filter (keepEdge o f.upTo) = es at hmem hnd hpres hedgesF
  obtain ⟨h1, e0, e1, e2, e3, e4⟩ := spec_subEdges_start a iso
  have hins := spec_copyWeights a ha (fun _ => none) es h1 hnd hpres (fun e _ => by rw [e1]; rfl) e2
  have h2get : ∀ m, (get? (es.flatten.foldl touchMeta h1.nodes) m).isSome = true ↔
      (iso = true ∧ m ∈ keys a.nodes) ∨ m ∈ es.flatten := by
    intro m
    rw [touchFold_get, e4 m]
    by_cases hP : iso = true ∧ m ∈ keys a.nodes
    · simp [hP]
    · by_cases hQ : m ∈ es.flatten <;> simp [hP, hQ]
  obtain ⟨h3, hnm, c1, c2, c3, c4⟩ := spec_copyNodeMetas_own a
    { h1 with edges := h1.edges ++ es.map fun e => (e, (Spec.weightOf a e, ([] : Meta))),
              nodes := es.flatten.foldl touchMeta h1.nodes } (by
    intro m hm
    rcases (h2get m).mp hm with ⟨_, hk⟩ | hfl
    · exact (mem_keys_iff _ _).mp hk
    · obtain ⟨e, he, hme⟩ := List.mem_flatten.mp hfl
      exact (ha.key e (hpres e he)).2.2 m hme)
  have h3e : h3.edges = es.map fun e => (e, (Spec.weightOf a e, ([] : Meta))) := by
    rw [c1]; show h1.edges ++ _ = _; rw [e1]; rfl
  have h3k : keys h3.edges = es := by rw [h3e]; exact keys_keymap _ _
  have hmd := spec_copyEdgeMetas_map a h3 (h3k ▸ hnd) (fun e he => (ha.key e (hpres e (h3k ▸ he))).2.1)
  rw [h3k, h3e, List.map_map] at hmd
  -- the routine's four statements in closed form: start object `e0`, `add_edges` as the `add_edge` loop `hins`, node metadata `hnm`, edge metadata as a `map` `hmd`
  have hrun : Spec.subEdges a f iso =
      ({ h3 with edges := es.map fun e => (e, (Spec.weightOf a e, Spec.emetaOf a e)) }, .ok) := by
    unfold Spec.subEdges
    rw [hedgesF]
    simp only [e0, andThen, spec_addEdges_loop a h1 es hnd e2, hins, Option.getD_none, hnm, hmd]
    rfl
  rw [hrun]
  refine ⟨rfl, c2.trans e2, c3.trans e3, fun m => ?_, keys_keymap _ _,
    fun x => (get?_copied a _ hpres x).trans (get?_pick a.edges _ (fun x => keepEdge o f.upTo x = true) hmem x)⟩
  show get? h3.nodes m = _
  rw [c4 m]
  show (if (get? (es.flatten.foldl touchMeta h1.nodes) m).isSome = true then _ else _) = _
  by_cases hs : (get? (es.flatten.foldl touchMeta h1.nodes) m).isSome = true
  · rw [if_pos hs, if_pos (((h2get m).mp hs).imp And.left id)]
  · have hn := fun h => hs ((h2get m).mpr h)
    rw [if_neg hs]
    by_cases hiso : iso = true
    · rw [if_pos (Or.inl hiso)]
      exact ((get?_eq_none_iff _ _).mpr fun hk => hn (Or.inl ⟨hiso, hk⟩)).symm
    · rw [if_neg fun h => h.elim hiso fun hq => hn (Or.inr hq)]

end C01
