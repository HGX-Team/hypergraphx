import Mathlib.Analysis.SpecialFunctions.Log.Basic
import Mathlib.Algebra.BigOperators.Field
open Real

/-! # EM / MM ascent for Poisson-type objectives (used by `ascent_step`, `C15Ascent`, which is `C15_ascent_step`; DESIGN-feasibility.md §F) -/
namespace C15

/-- `ρ log ρ − ρ + 1 ≥ 0` for `ρ = y/x`, multiplied by `x`: no division in the statement -/
theorem mul_log_div_nonneg (x y : ℝ) (hx : 0 < x) (hy : 0 ≤ y) : 0 ≤ y * log (y / x) - y + x := by
  rcases hy.eq_or_lt with h | h
  · rw [← h, zero_mul, sub_zero, zero_add]; exact hx.le
  · have h2 := mul_le_mul_of_nonneg_left (Real.log_le_sub_one_of_pos (div_pos hx h)) h.le
    rw [mul_sub, mul_div_cancel₀ _ h.ne', mul_one] at h2
    rw [← inv_div, Real.log_inv, mul_neg]
    linarith

variable {ι κ : Type}

/-- Jensen's inequality for `log`, finite weighted form: `Σ_k ρ_k log r_k ≤ log Σ_k ρ_k r_k` for weights `ρ ≥ 0` of sum 1.
Proved term by term from `log t ≤ t − 1` at `t = r_k / m`, `m` the mean, so only the points of non-zero weight need be
positive (a parameter that occurs in no weighted hyperedge may be updated to 0). -/
theorem jensen_log (T : Finset κ) (ρ r : κ → ℝ) (hρ : ∀ k ∈ T, 0 ≤ ρ k) (hr : ∀ k ∈ T, ρ k ≠ 0 → 0 < r k)
    (h1 : ∑ k ∈ T, ρ k = 1) (hm : 0 < ∑ k ∈ T, ρ k * r k) :
    ∑ k ∈ T, ρ k * log (r k) ≤ log (∑ k ∈ T, ρ k * r k) := by
  have hterm : ∀ k ∈ T, ρ k * log (r k) ≤ ρ k * log (∑ j ∈ T, ρ j * r j) + (ρ k * r k / (∑ j ∈ T, ρ j * r j) - ρ k) := by
    intro k hk
    rcases (hρ k hk).eq_or_lt with h0 | hk0
    · rw [← h0, zero_mul, zero_mul, zero_mul, zero_div, sub_zero, add_zero]
    · have hrk := hr k hk hk0.ne'
      have h := mul_le_mul_of_nonneg_left (Real.log_le_sub_one_of_pos (div_pos hrk hm)) hk0.le
      rw [Real.log_div hrk.ne' hm.ne', mul_sub, mul_sub, mul_one, mul_div_assoc'] at h
      exact sub_le_iff_le_add'.mp h
  have hsum := Finset.sum_le_sum hterm
  rwa [Finset.sum_add_distrib, ← Finset.sum_mul, h1, one_mul, Finset.sum_sub_distrib, ← Finset.sum_div, h1,
    div_self hm.ne', sub_self, add_zero] at hsum

/-- One multiplicative MM step does not decrease `F y = Σ_e A_e log λ_e(y) − Σ_k b_k y_k`, `λ_e(y) = Σ_k c_ek y_k`.
`E` hyperedges with weights `A ≥ 0`, `T` parameters with coefficients `c ≥ 0`, penalties `b > 0`, current value `x > 0`;
`hpos`: a weighted hyperedge has a positive coefficient (so `λ_e(x) > 0`); `lam`, `F` are passed with their defining
equations `hlam`, `hF` so that callers may use their own expressions; `hx'` is the update `x'_k = x_k (Σ_e A_e c_ek / λ_e(x)) / b_k`. -/
theorem MM_ascent (E : Finset ι) (T : Finset κ) (A : ι → ℝ) (c : ι → κ → ℝ) (b x : κ → ℝ)
    (hA : ∀ e ∈ E, 0 ≤ A e) (hc : ∀ e ∈ E, ∀ k ∈ T, 0 ≤ c e k)
    (hb : ∀ k ∈ T, 0 < b k) (hx : ∀ k ∈ T, 0 < x k)
    (hpos : ∀ e ∈ E, 0 < A e → ∃ k ∈ T, 0 < c e k)
    (lam : (κ → ℝ) → ι → ℝ) (hlam : ∀ y e, lam y e = ∑ k ∈ T, c e k * y k)
    (x' : κ → ℝ) (hx' : ∀ k, x' k = x k * (∑ e ∈ E, A e * c e k / lam x e) / b k)
    (F : (κ → ℝ) → ℝ) (hF : ∀ y, F y = ∑ e ∈ E, A e * log (lam y e) - ∑ k ∈ T, b k * y k) :
    F x ≤ F x' := by
  have hlam0 : ∀ e ∈ E, 0 ≤ lam x e := fun e he => by
    rw [hlam]; exact Finset.sum_nonneg fun j hj => mul_nonneg (hc e he j hj) (hx j hj).le
  have hterm : ∀ e ∈ E, ∀ k ∈ T, 0 ≤ A e * c e k / lam x e := fun e he k hk =>
    div_nonneg (mul_nonneg (hA e he) (hc e he k hk)) (hlam0 e he)
  have hbx' : ∀ k ∈ T, b k * x' k = x k * ∑ e ∈ E, A e * c e k / lam x e := fun k hk => by
    rw [hx' k, mul_div_cancel₀ _ (hb k hk).ne']
  have hx'_nonneg : ∀ k ∈ T, 0 ≤ x' k := by
    intro k hk; rw [hx']
    exact div_nonneg (mul_nonneg (hx k hk).le (Finset.sum_nonneg fun e he => hterm e he k hk)) (hb k hk).le
  -- per hyperedge: `log λ_e(x) + Σ_k ρ_ek log (x'_k / x_k) ≤ log λ_e(x')`, weights `ρ_ek = c_ek x_k / λ_e(x)`
  have hedge : ∀ e ∈ E, A e * (log (lam x e) + ∑ k ∈ T, (c e k * x k / lam x e) * log (x' k / x k))
      ≤ A e * log (lam x' e) := by
    intro e he
    rcases (hA e he).eq_or_lt with h0 | hAe
    · rw [← h0, zero_mul, zero_mul]
    · apply mul_le_mul_of_nonneg_left _ hAe.le
      obtain ⟨k0, hk0, hck0⟩ := hpos e he hAe
      have hl : 0 < lam x e := by
        rw [hlam]
        exact Finset.sum_pos' (fun j hj => mul_nonneg (hc e he j hj) (hx j hj).le) ⟨k0, hk0, mul_pos hck0 (hx k0 hk0)⟩
      -- a parameter that occurs in a weighted hyperedge stays positive
      have hx'_pos : ∀ k ∈ T, 0 < c e k → 0 < x' k := by
        intro k hk hck
        rw [hx']
        exact div_pos (mul_pos (hx k hk) (Finset.sum_pos' (fun e' he' => hterm e' he' k hk)
          ⟨e, he, div_pos (mul_pos hAe hck) hl⟩)) (hb k hk)
      have hl' : 0 < lam x' e := by
        rw [hlam]
        exact Finset.sum_pos' (fun j hj => mul_nonneg (hc e he j hj) (hx'_nonneg j hj))
          ⟨k0, hk0, mul_pos hck0 (hx'_pos k0 hk0 hck0)⟩
      have hmean : ∑ k ∈ T, c e k * x k / lam x e * (x' k / x k) = lam x' e / lam x e := by
        rw [hlam x' e, Finset.sum_div]; apply Finset.sum_congr rfl; intro k hk
        rw [div_mul_div_comm, mul_right_comm, mul_div_mul_right _ _ (hx k hk).ne']
      have hJ := jensen_log T (fun k => c e k * x k / lam x e) (fun k => x' k / x k)
        (fun k hk => div_nonneg (mul_nonneg (hc e he k hk) (hx k hk).le) hl.le)
        (fun k hk h => div_pos (hx'_pos k hk ((hc e he k hk).lt_of_ne' fun h0 => h (by rw [h0, zero_mul, zero_div])))
          (hx k hk))
        (by rw [← Finset.sum_div, ← hlam, div_self hl.ne']) (by rw [hmean]; exact div_pos hl' hl)
      rw [hmean, Real.log_div hl'.ne' hl.ne'] at hJ
      exact le_sub_iff_add_le'.mp hJ
  -- `F x' − F x ≥ Σ_k b_k (x'_k log (x'_k / x_k) − x'_k + x_k) ≥ 0`: sum `hedge` over the hyperedges and exchange the sums (`hexch`);
  -- the right side is `≥ 0` term by term (`mul_log_div_nonneg`)
  have hsum := Finset.sum_le_sum hedge
  have hexch : ∑ e ∈ E, A e * ∑ k ∈ T, (c e k * x k / lam x e) * log (x' k / x k)
      = ∑ k ∈ T, b k * x' k * log (x' k / x k) := by
    simp_rw [Finset.mul_sum]
    rw [Finset.sum_comm]
    apply Finset.sum_congr rfl
    intro k hk
    rw [hbx' k hk, Finset.mul_sum, Finset.sum_mul]
    apply Finset.sum_congr rfl
    intro e he; ring
  have hscal_sum := Finset.sum_nonneg fun k hk =>
    mul_nonneg (hb k hk).le (mul_log_div_nonneg (x k) (x' k) (hx k hk) (hx'_nonneg k hk))
  simp only [mul_add, mul_sub, ← mul_assoc, Finset.sum_add_distrib, Finset.sum_sub_distrib] at hscal_sum
  simp_rw [mul_add, Finset.sum_add_distrib] at hsum
  rw [hexch] at hsum
  rw [hF, hF]
  linarith

end C15
