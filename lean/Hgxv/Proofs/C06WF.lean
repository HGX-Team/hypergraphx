import Hgxv.Proofs.C06
import Hgxv.Proofs.SortLib
/-! C06: `sort` is the shared insertion sort (`sort_eq`, facts taken from `Proofs/SortLib`); `WF` is an invariant of
the constructor, `add_node`, `add_edge`, `set_hypergraph_metadata` (the round-trip hypotheses are what the API guarantees), and what one `add_edge` does to the key / node
listings.  Core Lean only. -/
namespace C06

theorem insertSorted_eq : Wire.insertSorted = NatSort.insert := by
  funext a l
  induction l with
  | nil => rfl
  | cons b bs ih => simp only [Wire.insertSorted, NatSort.insert, ih]

theorem sort_eq : sort = NatSort.isort := by
  funext l
  simp only [sort, Wire.sortNats, NatSort.isort, insertSorted_eq]

theorem sort_perm (l : List Nat) : (sort l).Perm l := sort_eq ▸ NatSort.isort_perm l

theorem mem_sort (l : List Nat) (n : Nat) : n ∈ sort l ↔ n ∈ l := (sort_perm l).mem_iff

theorem sort_sorted (l : List Nat) : (sort l).Pairwise (· ≤ ·) := sort_eq ▸ NatSort.isort_sorted l

theorem sort_of_sorted (l : List Nat) (h : l.Pairwise (· ≤ ·)) : sort l = l := sort_eq ▸ NatSort.isort_of_sorted h

theorem sort_idem (l : List Nat) : sort (sort l) = sort l := sort_of_sorted _ (sort_sorted l)

class CanonKind (κ : Type) [Kind κ] : Prop where
  canon_idem : ∀ k : κ, Kind.canon (Kind.canon k) = Kind.canon k

instance : CanonKind HKey := ⟨fun k => by simp [Kind.canon, sort_idem]⟩
instance : CanonKind DKey := ⟨fun k => by simp [Kind.canon, sort_idem]⟩
instance : CanonKind TKey := ⟨fun k => by simp [Kind.canon, sort_idem]⟩
instance : CanonKind MKey := ⟨fun k => by simp [Kind.canon, sort_idem]⟩

theorem keys_touchNode (ns : List (Nat × Meta)) (n : Nat) (m : Meta) :
    AL.keys (touchNode ns n m) = if n ∈ AL.keys ns then AL.keys ns else AL.keys ns ++ [n] := by
  unfold touchNode
  cases hg : AL.get? ns n with
  | none =>
    have : n ∉ AL.keys ns := (AL.get?_eq_none_iff ns n).mp hg
    simp only [this, if_false]
    simp [AL.keys]
  | some old =>
    simp only [AL.mem_keys_of_get? ns n old hg, if_true]
    split
    · exact AL.keys_set_of_mem ns n m (by rw [hg]; rfl)
    · rfl

theorem nodup_touchNode (ns : List (Nat × Meta)) (n : Nat) (m : Meta) (h : (AL.keys ns).Nodup) :
    (AL.keys (touchNode ns n m)).Nodup := by
  rw [keys_touchNode]; split
  · exact h
  · rename_i hn
    exact List.nodup_append.mpr ⟨h, by simp, by intro a ha b hb; simp at hb; subst hb; intro hab; subst hab; exact hn ha⟩

theorem mem_keys_touchNode (ns : List (Nat × Meta)) (n : Nat) (m : Meta) (x : Nat) :
    x ∈ AL.keys (touchNode ns n m) ↔ x ∈ AL.keys ns ∨ x = n := by
  rw [keys_touchNode]; split
  · rename_i h
    exact ⟨Or.inl, fun hx => hx.elim id fun e => e ▸ h⟩
  · simp

theorem mem_keys_touchAll (ns : List (Nat × Meta)) (l : List Nat) (x : Nat) :
    x ∈ AL.keys (touchAll ns l) ↔ x ∈ AL.keys ns ∨ x ∈ l :=
  (ListLib.foldl_or (x ∈ AL.keys ·) _ (x = ·) (fun s a => mem_keys_touchNode s a [] x) l ns).trans (by simp)

theorem nodup_touchAll (ns : List (Nat × Meta)) (l : List Nat) (h : (AL.keys ns).Nodup) :
    (AL.keys (touchAll ns l)).Nodup :=
  ListLib.foldl_inv (P := fun ns => (AL.keys ns).Nodup) _ (fun s a => nodup_touchNode s a []) l ns h

section wf
variable {κ : Type} [Kind κ]

theorem WF_construct (w : Bool) : WF (construct κ w) := by
  simp [WF, construct, AL.keys]

theorem WF_setHMeta (c : Content κ) (hm : Meta) (h : WF c) : WF (setHMeta c hm) := h

theorem WF_addNode (c : Content κ) (n : Nat) (m : Option Meta) (h : WF c) : WF (addNode c n m) := by
  obtain ⟨h1, h2, h3, h4, h5⟩ := h
  refine ⟨nodup_touchNode _ _ _ h1, h2, h3, ?_, h5⟩
  intro e he x hx
  exact (mem_keys_touchNode _ _ _ _).mpr (Or.inl (h4 e he x hx))

variable [DecidableEq κ]

theorem addEdge_total (c : Content κ) (raw : κ) (w : Option Int) (m : Option Meta)
    (h : rejectsWeight c.weighted w = false) : ∃ c', addEdge c raw w m = some c' :=
  ⟨_, by rw [addEdge_eq, h]; rfl⟩

theorem mem_nodes_added (c : Content κ) (k : κ) (w : Int) (md : Meta) (x : Nat) :
    x ∈ AL.keys (added c k w md).nodes ↔
      x ∈ AL.keys c.nodes ∨ ((Kind.touchAlways κ || (AL.get? c.edges k).isNone) = true ∧ x ∈ Kind.members k) := by
  unfold added
  dsimp only
  split
  · rename_i h; rw [mem_keys_touchAll]; simp [h]
  · rename_i h; simp [h]

theorem addEdge_keys_iff (c c' : Content κ) (raw : κ) (w : Option Int) (m : Option Meta)
    (h : addEdge c raw w m = some c') (k : κ) :
    k ∈ AL.keys c'.edges ↔ k ∈ AL.keys c.edges ∨ k = Kind.canon raw := by
  rw [addEdge_some h]; exact (AL.mem_keys_set c.edges _ k _).trans or_comm

theorem addEdge_nodes_iff (c c' : Content κ) (raw : κ) (w : Option Int) (m : Option Meta)
    (hwf : WF c) (h : addEdge c raw w m = some c') (n : Nat) :
    n ∈ AL.keys c'.nodes ↔ n ∈ AL.keys c.nodes ∨ n ∈ Kind.members (Kind.canon raw) := by
  rw [addEdge_some h, mem_nodes_added]
  refine ⟨fun hn => hn.imp_right And.right, fun hn => hn.elim Or.inl fun hx => ?_⟩
  -- the members of an old key are listed already; a new key is touched
  cases hg : AL.get? c.edges (Kind.canon raw) with
  | none => exact Or.inr ⟨by simp, hx⟩
  | some old => exact Or.inl (hwf.2.2.2.1 _ (AL.mem_of_get? _ _ _ hg) n hx)

theorem addEdge_get_new (c c' : Content κ) (raw : κ) (w : Option Int) (m : Option Meta)
    (h : addEdge c raw w m = some c') (hnew : AL.get? c.edges (Kind.canon raw) = none) :
    AL.get? c'.edges (Kind.canon raw) = some ((if c.weighted then weightOrUnit w else unit), metaOrEmpty m) := by
  rw [addEdge_some h]; unfold added; rw [AL.get?_set_self, hnew]; rfl

theorem addEdge_get_other (c c' : Content κ) (raw : κ) (w : Option Int) (m : Option Meta)
    (h : addEdge c raw w m = some c') (k : κ) (hk : Kind.canon raw ≠ k) :
    AL.get? c'.edges k = AL.get? c.edges k := by
  rw [addEdge_some h]; exact AL.get?_set_ne _ _ _ _ hk

variable [CanonKind κ]

theorem WF_added (c : Content κ) (raw : κ) (w : Int) (md : Meta) (hwf : WF c) :
    WF (added c (Kind.canon raw) w md) := by
  obtain ⟨h1, h2, h3, h4, h5⟩ := hwf
  refine ⟨?_, AL.keys_set_nodup _ _ _ h2, ?_, ?_, ?_⟩
  · unfold added; dsimp only; split
    · exact nodup_touchAll _ _ h1
    · exact h1
  · intro e he
    rcases AL.mem_set _ _ _ _ he with rfl | he
    · exact CanonKind.canon_idem raw
    · exact h3 e he
  · intro e he x hx
    rw [mem_nodes_added]
    rcases AL.mem_set _ _ _ _ he with rfl | he
    · -- the key itself: touched now, or an old key, whose members are listed
      cases hg : AL.get? c.edges (Kind.canon raw) with
      | none => exact Or.inr ⟨by simp, hx⟩
      | some old => exact Or.inl (h4 _ (AL.mem_of_get? _ _ _ hg) x hx)
    · exact Or.inl (h4 e he x hx)
  · intro hu e he
    rcases AL.mem_set _ _ _ _ he with rfl | he
    · have hu' : c.weighted = false := hu
      cases hg : AL.get? c.edges (Kind.canon raw) with
      | none => simp [entry, hu']
      | some old => simpa [entry, hu'] using h5 hu' _ (AL.mem_of_get? _ _ _ hg)
    · exact h5 hu e he

theorem WF_addEdge (c c' : Content κ) (raw : κ) (w : Option Int) (m : Option Meta)
    (hwf : WF c) (h : addEdge c raw w m = some c') : WF c' :=
  addEdge_some h ▸ WF_added c raw _ _ hwf

end wf

theorem canonH (e : List Nat) : Kind.canon (⟨e⟩ : HKey) = ⟨sort e⟩ := rfl
theorem membersH (k : HKey) : Kind.members k = k.nodes := rfl

end C06
