import Hgxv.Model.C18
import Mathlib.Logic.Function.Iterate
/-! C18: the two halves of "the executable connectivity test `connectedB` decides declarative connectivity" (every node `< N` is
joined to node `0` by a chain of nodes sharing hyperedges; the equivalence itself is `C18_connected_iff`).  First the
induction principle `connected_induct` / `connected_spread` that `connectedB` gives; then `reach_mem`: the closure rounds are
`(grow es N)^[k]`, each round is a sublist of the next and of `range N`, so `N` rounds reach a fixed point. -/
namespace C18

theorem share_iff (es : List Edge) (i j : Nat) : share es i j = true ↔ ∃ e ∈ es, i ∈ e ∧ j ∈ e := by
  simp [share]

theorem share_symm (es : List Edge) (i j : Nat) : share es i j = share es j i := by
  rw [Bool.eq_iff_iff, share_iff, share_iff]
  constructor <;> (rintro ⟨e, he, h1, h2⟩; exact ⟨e, he, h2, h1⟩)

theorem mem_grow (es : List Edge) (N : Nat) (S : List Nat) (j : Nat) :
    j ∈ grow es N S ↔ j < N ∧ (j ∈ S ∨ ∃ i ∈ S, share es i j = true) := by
  simp [grow]

theorem growN_inv (es : List Edge) (N : Nat) (P : Nat → Prop)
    (hstep : ∀ a b, a < N → b < N → P a → share es a b = true → P b) :
    ∀ (k : Nat) (S : List Nat), (∀ v ∈ S, v < N ∧ P v) → ∀ v ∈ growN es N k S, v < N ∧ P v := by
  intro k
  induction k with
  | zero => intro S hS v hv; exact hS v hv
  | succ k ih =>
    intro S hS v hv
    apply ih (grow es N S) _ v hv
    intro w hw
    rw [mem_grow] at hw
    obtain ⟨hwN, hw | ⟨a, ha, hs⟩⟩ := hw
    · exact ⟨hwN, (hS w hw).2⟩
    · exact ⟨hwN, hstep a w (hS a ha).1 hwN (hS a ha).2 hs⟩

theorem connected_induct (es : List Edge) (N : Nat) (hc : connectedB es N = true) (hN : 0 < N) (P : Nat → Prop)
    (h0 : P 0) (hstep : ∀ a b, a < N → b < N → P a → share es a b = true → P b) :
    ∀ v, v < N → P v := by
  intro v hv
  unfold connectedB at hc
  rw [List.all_eq_true] at hc
  have := hc v (List.mem_range.mpr hv)
  rw [List.contains_iff_mem] at this
  exact (growN_inv es N P hstep N [0] (by intro w hw; simp at hw; subst hw; exact ⟨hN, h0⟩) v this).2

theorem connected_spread (es : List Edge) (N : Nat) (hc : connectedB es N = true) (hN : 0 < N) (P : Nat → Prop)
    (m : Nat) (hm : m < N) (hPm : P m) (hstep : ∀ a b, a < N → b < N → P a → share es a b = true → P b) :
    ∀ v, v < N → P v := by
  by_cases h0 : P 0
  · exact connected_induct es N hc hN P h0 hstep
  · exact absurd hPm (connected_induct es N hc hN (fun v => ¬ P v) h0
      (fun a b ha hb hna hs hPb => hna (hstep b a hb ha hPb (by rw [share_symm]; exact hs))) m hm)

theorem filter_sublist_filter {α} (p q : α → Bool) (l : List α) (h : ∀ x ∈ l, p x = true → q x = true) :
    (l.filter p).Sublist (l.filter q) := by
  induction l with
  | nil => exact List.Sublist.refl _
  | cons x l ih =>
    have ih := ih (fun y hy => h y (List.mem_cons_of_mem _ hy))
    rw [List.filter_cons, List.filter_cons]
    split
    · next hp => rw [if_pos (h x List.mem_cons_self hp)]; exact ih.cons_cons x
    · split
      · exact ih.cons x
      · exact ih

/-- pigeonhole: a map whose values grow (as sublists) and never exceed `N` elements is stationary after `N` rounds -/
theorem iterate_stable {α} (g : List α → List α) (N : Nat) (S : List α) (hsub : ∀ T, (g T).Sublist (g (g T)))
    (hlen : ∀ T, (g T).length ≤ N) (hne : g S ≠ []) : g (g^[N] S) = g^[N] S := by
  have hL : ∀ k, (g^[k + 1] S).Sublist (g^[k + 2] S) := fun k => by
    rw [Function.iterate_succ_apply' g (k + 1), Function.iterate_succ_apply' g k]; exact hsub _
  -- as long as consecutive rounds differ, round `k` has more than `k` elements
  have hgrow : ∀ k, (∀ i, i < k → g^[i + 1] S ≠ g^[i + 2] S) → k + 1 ≤ (g^[k + 1] S).length := by
    intro k
    induction k with
    | zero => intro _; exact List.length_pos_iff.mpr hne
    | succ k ih =>
      intro h
      have h1 := ih (fun i hi => h i (by omega))
      have h2 := (hL k).length_le
      have h3 : (g^[k + 1] S).length ≠ (g^[k + 2] S).length := fun e => h k (by omega) ((hL k).eq_of_length e)
      show k + 2 ≤ (g^[k + 2] S).length
      omega
  obtain ⟨i, hi, he⟩ : ∃ i, i < N ∧ g^[i + 1] S = g^[i + 2] S := by
    apply Classical.byContradiction
    intro hno
    have h1 := hgrow N (fun i hi e => hno ⟨i, hi, e⟩)
    have h2 : (g^[N + 1] S).length ≤ N := by rw [Function.iterate_succ_apply']; exact hlen _
    omega
  have hst : ∀ m, g^[i + 1 + m] S = g^[i + 1] S := by
    intro m
    induction m with
    | zero => rfl
    | succ m ih => rw [← Nat.add_assoc, Function.iterate_succ_apply', ih, ← Function.iterate_succ_apply' g, ← he]
  obtain ⟨m, rfl⟩ : ∃ m, N = i + 1 + m := ⟨N - (i + 1), by omega⟩
  rw [← Function.iterate_succ_apply' g, hst m]; exact hst (m + 1)

theorem growN_eq_iterate (es : List Edge) (N : Nat) : ∀ (k : Nat) (S : List Nat), growN es N k S = (grow es N)^[k] S := by
  intro k
  induction k with
  | zero => intro S; rfl
  | succ k ih => intro S; rw [growN, ih]; rfl

theorem grow_sublist (es : List Edge) (N : Nat) (S : List Nat) : (grow es N S).Sublist (grow es N (grow es N S)) :=
  filter_sublist_filter _ _ _ (fun j hj hp => by
    have : j ∈ grow es N S := List.mem_filter.mpr ⟨hj, hp⟩
    simp only [Bool.or_eq_true, List.contains_iff_mem]
    exact Or.inl this)

theorem growN_fixpoint (es : List Edge) (N : Nat) (hN : 0 < N) :
    grow es N (growN es N N [0]) = growN es N N [0] := by
  rw [growN_eq_iterate]
  exact iterate_stable (grow es N) N [0] (grow_sublist es N)
    (fun T => Nat.le_trans (List.length_filter_le _ _) (Nat.le_of_eq List.length_range))
    (List.ne_nil_of_mem ((mem_grow es N [0] 0).mpr ⟨hN, Or.inl (List.mem_singleton_self 0)⟩))

theorem zero_mem_growN (es : List Edge) (N : Nat) (hN : 0 < N) (k : Nat) : 0 ∈ growN es N k [0] := by
  rw [growN_eq_iterate]
  induction k with
  | zero => exact List.mem_singleton_self 0
  | succ k ih => rw [Function.iterate_succ_apply', mem_grow]; exact ⟨hN, Or.inl ih⟩

theorem reach_mem (es : List Edge) (N : Nat) (hN : 0 < N) (v : Nat) (h : Reach es N v) :
    v ∈ growN es N N [0] := by
  induction h with
  | zero => exact zero_mem_growN es N hN N
  | step a b _ hb hs ih =>
    rw [← growN_fixpoint es N hN, mem_grow]
    exact ⟨hb, Or.inr ⟨a, ih, hs⟩⟩

end C18
