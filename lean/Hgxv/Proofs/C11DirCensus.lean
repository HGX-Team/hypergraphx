import Hgxv.Proofs.C11DirIso
/-! # C11 - the directed census as an enumeration (core Lean only)

`dirCensus n E` reports, for every canonical pattern `k`, the number of node sets visited by the two directed passes
(`dCounted`) whose pattern has canonical form `k`.  The dict merge of `compute_directed_motifs` (`mappa[key] = count`, full
pass first, then not-full) loses nothing because the keys of the two passes are disjoint: a full-pass pattern contains a
hyperedge on all `n` ranks, a not-full-pass pattern does not (`hasSpan`, invariant under relabelling, hence under `dcanon`). -/
namespace C11

/-- the pattern contains a hyperedge on all `n` nodes -/
def hasSpan (n : Nat) (pat : List DEdge) : Bool := pat.any fun e => dsize e == n

theorem dsize_relabelEdge (p : List Nat) (e : DEdge) : dsize (relabelEdge p e) = dsize e := by
  simp [relabelEdge, dsize, isort_length]

theorem dsize_rankE (S : List Nat) (e : DEdge) : dsize (rankE S e) = dsize e := by
  simp [rankE, dsize, isort_length]

theorem hasSpan_iff {n : Nat} {pat : List DEdge} : hasSpan n pat = true ↔ ∃ e ∈ pat, dsize e = n := by
  simp [hasSpan, List.any_eq_true]

theorem hasSpan_drelabel (n : Nat) (p : List Nat) (pat : List DEdge) :
    hasSpan n (drelabel p pat) = hasSpan n pat := by
  rw [Bool.eq_iff_iff, hasSpan_iff, hasSpan_iff, drelabel_eq]
  constructor
  · rintro ⟨e, he, hs⟩
    obtain ⟨e0, he0, rfl⟩ := List.mem_map.mp (mem_sortD.mp he)
    exact ⟨e0, he0, by rwa [dsize_relabelEdge] at hs⟩
  · rintro ⟨e, he, hs⟩
    exact ⟨relabelEdge p e, mem_sortD.mpr (List.mem_map.mpr ⟨e, he, rfl⟩), by rwa [dsize_relabelEdge]⟩

theorem hasSpan_dcanon (n : Nat) (pat : List DEdge) :
    hasSpan n (dcanon n pat) = hasSpan n pat := by
  obtain ⟨⟨p0, _, hk⟩, _⟩ := dcanon_spec n pat
  rw [hk, hasSpan_drelabel]

theorem hasSpan_dpattern {n : Nat} {F : DHG} {S : List Nat} :
    hasSpan n (dpattern F S) = true ↔ ∃ e ∈ allDirected S, e ∈ F ∧ dsize e = n := by
  rw [hasSpan_iff, dpattern_eq]
  constructor
  · rintro ⟨e, he, hs⟩
    obtain ⟨e0, he0, rfl⟩ := List.mem_map.mp (mem_sortD.mp he)
    obtain ⟨h1, h2⟩ := List.mem_filter.mp he0
    exact ⟨e0, h1, List.contains_iff_mem.mp h2, by rwa [dsize_rankE] at hs⟩
  · rintro ⟨e, he, hF, hs⟩
    refine ⟨rankE S e, mem_sortD.mpr (List.mem_map.mpr ⟨e, List.mem_filter.mpr ⟨he, ?_⟩, rfl⟩), by rwa [dsize_rankE]⟩
    exact List.contains_iff_mem.mpr hF

theorem dedup_length_of_nodup {α} [BEq α] [LawfulBEq α] {l : List α} (h : l.Nodup) : (dedup l).length = l.length :=
  Nat.le_antisymm (dedup_length_le l) (List.Nodup.length_le_of_subset h (fun _ hx => mem_dedup.mpr hx))

theorem span_of_full {n : Nat} {F : DHG} (hF : DWF F) (hne : ∀ e ∈ F, e.1 ≠ [] ∧ e.2 ≠ [])
    (hsz : ∀ e ∈ F, dsize e ≤ n) {S : List Nat} (hS : S ∈ dFullSets n F) :
    hasSpan n (dpattern F S) = true := by
  obtain ⟨hlen, e, he, rfl⟩ := mem_dFullSets.mp hS
  have hlen' : (dedup (e.1 ++ e.2)).length = n := by
    have : (dnodes e).length = (dedup (e.1 ++ e.2)).length := isort_length _
    omega
  have hle := hsz e he
  have hsz' : dsize e = (e.1 ++ e.2).length := by simp [dsize]
  have hge := dedup_length_le (e.1 ++ e.2)
  rw [hasSpan_dpattern]
  refine ⟨e, ?_, he, by omega⟩
  show e ∈ allDirected (sset (e.1 ++ e.2))
  rw [mem_allDirected_sorted (sset_sorted _)]
  refine ⟨(hne e he).1, (hne e he).2, (hF.sorted e he).1, (hF.sorted e he).2, ?_, ?_⟩
  · intro x hx; exact mem_sset.mpr (List.mem_append_left _ hx)
  · intro x hx
    refine ⟨mem_sset.mpr (List.mem_append_right _ hx), ?_⟩
    intro hx1
    have hsub : ∀ y ∈ dedup (e.1 ++ e.2), y ∈ e.1 ++ e.2.erase x := by
      intro y hy
      rcases List.mem_append.mp (mem_dedup.mp hy) with h | h
      · exact List.mem_append_left _ h
      · by_cases hyx : y = x
        · rw [hyx]; exact List.mem_append_left _ hx1
        · exact List.mem_append_right _ ((List.mem_erase_of_ne hyx).mpr h)
    have h1 := List.Nodup.length_le_of_subset (nodup_dedup (e.1 ++ e.2)) hsub
    rw [List.length_append, List.length_erase_of_mem hx] at h1
    have : 0 < e.2.length := List.length_pos_of_mem hx
    rw [List.length_append] at hsz'
    omega

theorem no_span_of_not_full {n : Nat} {F : DHG} {S : List Nat} (hsorted : SSorted S) (hlen : S.length = n)
    (hS : S ∉ dFullSets n F) : hasSpan n (dpattern F S) = false := by
  rw [Bool.eq_false_iff]
  intro h
  obtain ⟨e, he, heF, hs⟩ := hasSpan_dpattern.mp h
  obtain ⟨_, _, s1, s2, m1, m2⟩ := (mem_allDirected_sorted hsorted).mp he
  apply hS
  refine mem_dFullSets.mpr ⟨hlen, e, heF, ?_⟩
  have hnd : (e.1 ++ e.2).Nodup := by
    refine List.nodup_append.mpr ⟨s1.nodup, s2.nodup, ?_⟩
    intro a ha b hb hab
    exact (m2 b hb).2 (hab ▸ ha)
  apply eq_of_sorted_subset_length (sset_sorted _) hsorted
  · intro x hx
    rcases List.mem_append.mp (mem_sset.mp hx) with h' | h'
    · exact m1 x h'
    · exact (m2 x h').1
  · show S.length ≤ (isort (dedup (e.1 ++ e.2))).length
    rw [isort_length, dedup_length_of_nodup hnd, List.length_append]
    simp only [dsize] at hs
    omega

theorem mem_dspec {keys : List (List DEdge)} {k : List DEdge} {c : Nat} :
    (k, c) ∈ dspec keys ↔ k ∈ keys ∧ c = keys.count k := by
  unfold dspec
  simp only [List.mem_map, Prod.mk.injEq, mem_dedup]
  constructor
  · rintro ⟨a, ha, rfl, rfl⟩; exact ⟨ha, rfl⟩
  · rintro ⟨h1, h2⟩; exact ⟨k, h1, rfl, h2.symm⟩

theorem count_map_keys (g : List Nat → List DEdge) (L : List (List Nat)) (k : List DEdge) :
    (L.map g).count k = (L.filter fun S => g S == k).length := by
  induction L with
  | nil => simp
  | cons a L ih =>
    simp only [List.map_cons, List.count_cons, List.filter_cons, ih]
    by_cases h : g a = k
    · simp [h]
    · have : (g a == k) = false := by simpa using h
      simp [this]

/-! The keys of the two passes are told apart by `hasSpan`. -/

section keys
variable {n : Nat} {E : DHG} (hE : DWF E) (hne : ∀ e ∈ E, e.1 ≠ [] ∧ e.2 ≠ [])
include hE hne

theorem full_key_span {k : List DEdge}
    (hk : k ∈ (dFullSets n (dUpTo n E)).map fun S => dcanon n (dpattern (dUpTo n E) S)) : hasSpan n k = true := by
  obtain ⟨S, hS, rfl⟩ := List.mem_map.mp hk
  rw [hasSpan_dcanon]
  exact span_of_full (hE.filter _) (fun e he => hne e (List.mem_filter.mp he).1)
    (fun e he => by simpa using (List.mem_filter.mp he).2) hS

omit hE hne in
theorem notFull_key_no_span {k : List DEdge}
    (hk : k ∈ (dNotFullSets n (dUpTo n E) (dFullSets n (dUpTo n E))).map fun S => dcanon n (dpattern (dUpTo n E) S)) :
    hasSpan n k = false := by
  obtain ⟨S, hS, rfl⟩ := List.mem_map.mp hk
  obtain ⟨hc, hlen, hnot⟩ := mem_visitNew.mp hS
  rw [hasSpan_dcanon]
  exact no_span_of_not_full (dNfCands_sorted hc) hlen hnot

end keys

/-- the merge of `compute_directed_motifs` loses nothing: for `DWF` hypergraphs whose hyperedges have non-empty
sides the census is the tally of the full pass followed by the tally of the not-full pass -/
theorem dirCensus_closed {n : Nat} (hn : n = 3 ∨ n = 4) {E : DHG} (hE : DWF E)
    (hne : ∀ e ∈ E, e.1 ≠ [] ∧ e.2 ≠ []) :
    dirCensus n E =
      dspec ((dFullSets n (dUpTo n E)).map fun S => dcanon n (dpattern (dUpTo n E) S)) ++
      (if n == 4 then dspec ((dNotFullSets n (dUpTo n E) (dFullSets n (dUpTo n E))).map
          fun S => dcanon n (dpattern (dUpTo n E) S)) else []) := by
  unfold dirCensus
  simp only [dtally_eq]
  by_cases h4 : (n == 4) = true
  · simp only [h4, if_true]
    congr 1
    apply List.filter_eq_self.mpr
    intro kc hkc
    simp only [Bool.not_eq_true', List.any_eq_false, beq_iff_eq]
    intro q hq hqk
    obtain ⟨k, c⟩ := kc
    obtain ⟨k', c'⟩ := q
    simp only at hqk
    subst hqk
    have h1 := full_key_span hE hne (mem_dspec.mp hkc).1
    rw [notFull_key_no_span (mem_dspec.mp hq).1] at h1
    exact absurd h1 (by simp)
  · simp only [h4, Bool.false_eq_true, if_false, List.append_nil]

theorem dCounted_nodup (n : Nat) (F : DHG) : (dCounted n F).Nodup := by
  unfold dCounted
  refine List.nodup_append.mpr ⟨nodup_visitNew, ?_, ?_⟩
  · split
    · exact nodup_visitNew
    · exact List.nodup_nil
  · intro a ha b hb hab
    split at hb
    · exact (mem_visitNew.mp hb).2.2 (hab ▸ ha)
    · simp at hb

theorem mem_dCounted {n : Nat} {F : DHG} {S : List Nat} :
    S ∈ dCounted n F ↔ S.length = n ∧
      ((∃ e ∈ F, dnodes e = S) ∨
       (n = 4 ∧ ∃ e ∈ F, (dnodes e).length + 1 = n ∧ dsize e + 1 = n ∧
          ∃ x, (x ∈ e.1 ∨ x ∈ e.2) ∧ ∃ f ∈ F, (x ∈ f.1 ∨ x ∈ f.2) ∧ (dnodes f).length = dsize f ∧
            S = sset (e.1 ++ e.2 ++ f.1 ++ f.2))) := by
  unfold dCounted
  rw [List.mem_append, mem_dFullSets]
  by_cases h4 : (n == 4) = true
  · have h4' : n = 4 := by simpa using h4
    simp only [h4, if_true]
    unfold dNotFullSets
    rw [mem_visitNew, mem_dNfCands, mem_dFullSets]
    constructor
    · rintro (⟨h1, h2⟩ | ⟨h1, h2, _⟩)
      · exact ⟨h1, Or.inl h2⟩
      · exact ⟨h2, Or.inr ⟨h4', h1⟩⟩
    · rintro ⟨h1, h2 | ⟨_, h2⟩⟩
      · exact Or.inl ⟨h1, h2⟩
      · by_cases hf : ∃ e ∈ F, dnodes e = S
        · exact Or.inl ⟨h1, hf⟩
        · exact Or.inr ⟨h2, h1, fun hh => hf hh.2⟩
  · have h4' : n ≠ 4 := by simpa using h4
    simp only [h4, Bool.false_eq_true, if_false, List.not_mem_nil, or_false]
    constructor
    · rintro ⟨h1, h2⟩; exact ⟨h1, Or.inl h2⟩
    · rintro ⟨h1, h2 | ⟨h, _⟩⟩
      · exact ⟨h1, h2⟩
      · exact absurd h h4'

theorem dCounted_sorted {n : Nat} {F : DHG} {S : List Nat} (h : S ∈ dCounted n F) : SSorted S := by
  unfold dCounted at h
  rcases List.mem_append.mp h with h | h
  · exact dFullSets_sorted h
  · split at h
    · exact dNfCands_sorted (mem_visitNew.mp h).1
    · simp at h

theorem mem_dpattern {F : DHG} (hF : DWF F) {S : List Nat} (hS : SSorted S) {e' : DEdge} :
    e' ∈ dpattern F S ↔ ∃ e ∈ F, e.1 ≠ [] ∧ e.2 ≠ [] ∧ (∀ x ∈ e.1, x ∈ S) ∧ (∀ x ∈ e.2, x ∈ S ∧ x ∉ e.1) ∧
      e' = rankE S e := by
  rw [mem_dpattern_induced hF.nodup]
  refine exists_congr fun e => and_congr_right fun he => ?_
  rw [mem_allDirected_sorted hS]
  have := hF.sorted e he
  simp only [this.1, this.2, true_and, and_assoc, eq_comm]

end C11
