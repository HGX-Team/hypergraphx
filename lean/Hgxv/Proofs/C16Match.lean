import Hgxv.Proofs.C16Chain
import Hgxv.Proofs.ListLib
import Hgxv.Proofs.AL
/-! # C16 — the initial configuration

One lemma on the shape of what `_extract_hye` returns; the loops of `_match_sequences` keep what one pass keeps.
Core Lean only. -/
namespace C16

/-- residual degree of node `n` (0 outside the node range) -/
def rd (resid : List Nat) (n : Nat) : Nat := (resid[n]?).getD 0

theorem rd_eq_getElem {l : List Nat} {n : Nat} (hn : n < l.length) : rd l n = l[n] := by
  simp [rd, List.getElem?_eq_getElem hn]

theorem getElem?_of_rd_pos {resid : List Nat} {n : Nat} (h : 0 < rd resid n) : resid[n]? = some (rd resid n) := by
  unfold rd at h ⊢
  cases hr : resid[n]? with
  | none => simp [hr] at h
  | some d => rfl

theorem rd_pos_of_getElem? {resid : List Nat} {c d : Nat} (hd : 0 < d) (h : resid[c]? = some d) : 0 < rd resid c := by
  simp [rd, h, hd]

theorem rd_eq_zero_of_sum_zero {l : List Nat} (h : l.sum = 0) (n : Nat) : rd l n = 0 := by
  unfold rd
  cases hn : l[n]? with
  | none => rfl
  | some v =>
    have := List.sum_eq_zero_iff_forall_eq_nat.mp h v (List.mem_of_getElem? hn)
    simpa using this

theorem mem_bucket {resid : List Nat} {d n : Nat} : n ∈ bucket resid d ↔ resid[n]? = some d := by
  simp only [bucket, List.mem_filter, List.mem_range, beq_iff_eq]
  constructor
  · exact fun h => h.2
  · intro h
    exact ⟨(List.getElem?_eq_some_iff.mp h).1, h⟩

theorem nodup_bucket (resid : List Nat) (d : Nat) : (bucket resid d).Nodup :=
  List.nodup_range.filter _

theorem posDegs_spec (keys : List Nat) : (posDegs keys).Nodup ∧ ∀ d ∈ posDegs keys, 0 < d := by
  unfold posDegs
  have hrev : ∀ k, ((List.range k).reverse).Nodup := by
    intro k
    rw [List.Nodup, List.pairwise_reverse]
    exact (List.nodup_range (n := k)).imp (fun h => Ne.symm h)
  refine ⟨(hrev _).filter _, ?_⟩
  intro d hd
  have := (List.mem_filter.mp hd).2
  simp only [Bool.and_eq_true, decide_eq_true_eq] at this
  exact this.1

theorem pickLoop_spec {resid : List Nat} {degs : List Nat} {need : Nat} {picks : List (List Nat)}
    {chosen visited : List Nat} {need' : Nat} {picks' : List (List Nat)} (hd : degs.Nodup)
    (h : pickLoop resid degs need picks = some (chosen, visited, need', picks')) :
    chosen.Nodup ∧ (∀ d ∈ visited, d ∈ degs) ∧ (∀ c ∈ chosen, ∃ d ∈ visited, resid[c]? = some d) ∧
      chosen.length + need' = need := by
  induction degs generalizing need picks chosen visited need' picks' with
  | nil => cases need <;> (simp [pickLoop] at h; obtain ⟨rfl, rfl, rfl, _⟩ := h; simp)
  | cons d ds ih =>
    cases need with
    | zero => simp [pickLoop] at h; obtain ⟨rfl, rfl, rfl, _⟩ := h; simp
    | succ k =>
      cases picks with
      | nil => simp [pickLoop] at h
      | cons p ps =>
        simp only [pickLoop] at h
        split at h
        · rename_i hv
          obtain ⟨hlen, hsub, hnd⟩ := validPick_spec hv
          obtain ⟨⟨c', vs, nd, rr⟩, hr, hh⟩ := Option.map_eq_some_iff.mp h
          simp only [Prod.mk.injEq] at hh
          obtain ⟨rfl, rfl, rfl, rfl⟩ := hh
          obtain ⟨hdn, hds⟩ := List.nodup_cons.mp hd
          obtain ⟨i1, i2, i3, i4⟩ := ih hds hr
          refine ⟨List.nodup_append.mpr ⟨hnd, i1, ?_⟩, ?_, ?_, ?_⟩
          · -- a node of the bucket of `d` is in no bucket of a later degree
            rintro x hx _ hy rfl
            obtain ⟨d', hd', e2⟩ := i3 x hy
            rw [mem_bucket.mp (hsub x hx), Option.some.injEq] at e2
            exact hdn (e2 ▸ i2 d' hd')
          · intro d' hd'
            rcases List.mem_cons.mp hd' with rfl | hd'
            · exact List.mem_cons_self
            · exact List.mem_cons_of_mem _ (i2 d' hd')
          · intro c hc
            rcases List.mem_append.mp hc with hc | hc
            · exact ⟨d, List.mem_cons_self, mem_bucket.mp (hsub c hc)⟩
            · obtain ⟨d', hd', e2⟩ := i3 c hc
              exact ⟨d', List.mem_cons_of_mem _ hd', e2⟩
          · have : p.length ≤ k + 1 := hlen ▸ Nat.min_le_right _ _
            simp only [List.length_append]
            omega
        · exact absurd h (by simp)

theorem getElem?_decOne (resid : List Nat) (c n : Nat) :
    (decOne resid c)[n]? = if c = n then (resid[n]?).map (· - 1) else resid[n]? := by
  unfold decOne
  rw [List.getElem?_modify]
  by_cases hcn : c = n
  · simp [hcn]
  · simp only [hcn, if_false]
    cases resid[n]? <;> simp

theorem decResid_cons (resid : List Nat) (c : Nat) (cs : List Nat) :
    decResid resid (c :: cs) = decResid (decOne resid c) cs := rfl

theorem decResid_length (resid chosen : List Nat) : (decResid resid chosen).length = resid.length := by
  induction chosen generalizing resid with
  | nil => rfl
  | cons c cs ih => rw [decResid_cons, ih]; simp [decOne]

theorem getElem?_decResid {chosen : List Nat} (hn : chosen.Nodup) (resid : List Nat) (n : Nat) :
    (decResid resid chosen)[n]? = if n ∈ chosen then (resid[n]?).map (· - 1) else resid[n]? := by
  induction chosen generalizing resid with
  | nil => simp [decResid]
  | cons c cs ih =>
    obtain ⟨hc, hcs⟩ := List.nodup_cons.mp hn
    rw [decResid_cons, ih hcs, getElem?_decOne]
    by_cases hnc : c = n
    · subst hnc; simp [hc]
    · simp [hnc, Ne.symm hnc]

theorem rd_decResid {chosen : List Nat} (hn : chosen.Nodup) (resid : List Nat) (n : Nat) :
    rd (decResid resid chosen) n = if n ∈ chosen then rd resid n - 1 else rd resid n := by
  unfold rd
  rw [getElem?_decResid hn]
  split
  · cases resid[n]? <;> simp
  · rfl

theorem sum_decOne {resid : List Nat} {c : Nat} (h : 0 < rd resid c) : (decOne resid c).sum + 1 = resid.sum := by
  unfold decOne
  induction resid generalizing c with
  | nil => simp [rd] at h
  | cons x xs ih =>
    cases c with
    | zero =>
      simp only [rd, List.getElem?_cons_zero, Option.getD_some] at h
      simp [List.modify_cons]
      omega
    | succ c =>
      have := ih (c := c) (by simpa [rd] using h)
      simp only [List.modify_succ_cons, List.sum_cons]
      omega

theorem sum_decResid {resid chosen : List Nat} (hn : chosen.Nodup) (hp : ∀ c ∈ chosen, 0 < rd resid c) :
    (decResid resid chosen).sum + chosen.length = resid.sum := by
  induction chosen generalizing resid with
  | nil => simp [decResid]
  | cons c cs ih =>
    obtain ⟨hc, hcs⟩ := List.nodup_cons.mp hn
    have hp' : ∀ c' ∈ cs, 0 < rd (decOne resid c) c' := by
      intro c' hc'
      have hne : c ≠ c' := fun e => hc (e ▸ hc')
      have := hp c' (List.mem_cons_of_mem _ hc')
      simpa [rd, getElem?_decOne, hne] using this
    have := ih hcs hp'
    have := sum_decOne (hp c List.mem_cons_self)
    rw [decResid_cons, List.length_cons]
    omega

theorem count_decResid {resid chosen : List Nat} (hn : chosen.Nodup) (hp : ∀ c ∈ chosen, 0 < rd resid c) (n : Nat) :
    chosen.count n + rd (decResid resid chosen) n = rd resid n := by
  rw [rd_decResid hn, hn.count]
  split
  · rename_i h; have := hp n h; omega
  · omega

theorem extractTopUp_eq_some {keys resid chosen visited : List Nat} {need : Nat} {picks : List (List Nat)}
    {o : ExtractOut} (h : extractTopUp keys resid chosen visited need picks = some o) :
    ∃ p ps, picks = p :: ps ∧ validPick (bucket resid 0) need p = true ∧
      o = ⟨chosen ++ p, moveKeys keys visited, decResid resid chosen, true, ps⟩ := by
  unfold extractTopUp at h
  split at h
  case isFalse => cases h
  split at h
  · cases h
  · rename_i p ps
    split at h
    · rename_i hv
      exact ⟨p, ps, rfl, hv, (Option.some.inj h).symm⟩
    · cases h

theorem extractShrink_eq_some {keys resid chosen visited : List Nat} {picks : List (List Nat)} {o : ExtractOut}
    (h : extractShrink keys resid chosen visited picks = some o) :
    o = ⟨[], keys, resid, true, picks⟩ ∨ o = ⟨chosen, moveKeys keys visited, decResid resid chosen, true, picks⟩ := by
  unfold extractShrink at h
  split at h
  · cases h
  · split at h
    · exact Or.inl (Option.some.inj h).symm
    · exact Or.inr (Option.some.inj h).symm

/-- The shape of every returning `_extract_hye`: the hyperedge is `paid ++ free`.  Each node of `paid` sits in the
bucket of a visited positive degree and pays one unit of residual degree; the nodes of `free` (top-up branch only)
have degree 0 and pay nothing.  The shrink branch that returns the empty hyperedge is `paid = visited = []`. -/
theorem extractHye_shape {keys resid : List Nat} {size : Nat} {fd fm : Bool} {picks : List (List Nat)}
    {o : ExtractOut} (h : extractHye keys resid size fd fm picks = some o) :
    ∃ paid visited free,
      o.hye = paid ++ free ∧ o.resid = decResid resid paid ∧ o.keys = moveKeys keys visited ∧
      paid.Nodup ∧ (∀ c ∈ paid, ∃ d ∈ visited, 0 < d ∧ resid[c]? = some d) ∧
      free.Nodup ∧ (∀ x ∈ free, resid[x]? = some 0) ∧
      (o.exhausted = false → free = [] ∧ paid.length = size) ∧
      ((fm || !fd) = true → paid.length + free.length = size) ∧
      ((fm || !fd) = false → free = []) := by
  unfold extractHye at h
  split at h
  · exact absurd h (by simp)
  cases hl : pickLoop resid (posDegs keys) size picks with
  | none => simp [hl] at h
  | some r =>
    obtain ⟨chosen, visited, need, picks'⟩ := r
    obtain ⟨c1, c2, c3, c4⟩ := pickLoop_spec (posDegs_spec keys).1 hl
    have hpaid : ∀ c ∈ chosen, ∃ d ∈ visited, 0 < d ∧ resid[c]? = some d := fun c hc =>
      (c3 c hc).imp fun d hd => ⟨hd.1, (posDegs_spec keys).2 d (c2 d hd.1), hd.2⟩
    cases need with
    | zero =>
      simp only [hl, Option.some.injEq] at h
      subst h
      exact ⟨chosen, visited, [], by simp, rfl, rfl, c1, hpaid, by simp, by simp, fun _ => ⟨rfl, by omega⟩,
        fun _ => by simp; omega, fun _ => rfl⟩
    | succ need =>
      simp only [hl] at h
      split at h
      · rename_i htop
        obtain ⟨p, ps, _, hv, rfl⟩ := extractTopUp_eq_some h
        obtain ⟨hlen, hsub, hnd⟩ := validPick_spec hv
        exact ⟨chosen, visited, p, rfl, rfl, rfl, c1, hpaid, hnd, fun x hx => mem_bucket.mp (hsub x hx),
          by simp, fun _ => by omega, fun hf => absurd htop (by simp [hf])⟩
      · rename_i htop
        rcases extractShrink_eq_some h with rfl | rfl
        · exact ⟨[], [], [], rfl, rfl, rfl, by simp, by simp, by simp, by simp, by simp,
            fun ht => absurd ht htop, fun _ => rfl⟩
        · exact ⟨chosen, visited, [], by simp, rfl, rfl, c1, hpaid, by simp, by simp, by simp,
            fun ht => absurd ht htop, fun _ => rfl⟩

theorem extractInto_shape {size : Nat} {fd fm : Bool} {st st' : MState} (h : extractInto size fd fm st = some st') :
    ∃ paid visited free,
      st'.cfg = (if 1 < (paid ++ free).length then st.cfg ++ [paid ++ free] else st.cfg) ∧
      st'.resid = decResid st.resid paid ∧ st'.keys = moveKeys st.keys visited ∧
      paid.Nodup ∧ (∀ c ∈ paid, ∃ d ∈ visited, 0 < d ∧ st.resid[c]? = some d) ∧
      free.Nodup ∧ (∀ x ∈ free, st.resid[x]? = some 0) ∧
      (st'.flag = true → st.flag = true ∧ free = [] ∧ paid.length = size) ∧
      ((fm || !fd) = true → paid.length + free.length = size) ∧
      ((fm || !fd) = false → free = []) := by
  obtain ⟨o, ho, rfl⟩ := Option.map_eq_some_iff.mp h
  obtain ⟨paid, visited, free, e1, e2, e3, r⟩ := extractHye_shape ho
  refine ⟨paid, visited, free, by rw [← e1], e2, e3, r.1, r.2.1, r.2.2.1, r.2.2.2.1, ?_, r.2.2.2.2.2⟩
  intro hf
  simp only [Bool.and_eq_true, Bool.not_eq_true'] at hf
  exact ⟨hf.1, r.2.2.2.2.1 hf.2⟩

theorem extractMany_inv {P : MState → Prop} {size : Nat} {fd fm : Bool}
    (step : ∀ st st', P st → extractInto size fd fm st = some st' → P st') {k : Nat} {st st' : MState} (h0 : P st)
    (h : extractMany size fd fm k st = some st') : P st' := by
  induction k generalizing st with
  | zero => cases h; exact h0
  | succ k ih =>
    obtain ⟨s1, h1, h2⟩ := Option.bind_eq_some_iff.mp h
    exact ih (step st s1 h0 h1) h2

theorem matchLoop_inv {P : MState → Prop} {fd fm : Bool} {dimSeq : List (Nat × Nat)}
    (step : ∀ p ∈ dimSeq, ∀ st st', P st → extractInto p.1 fd fm st = some st' → P st') {st st' : MState} (h0 : P st)
    (h : matchLoop fd fm dimSeq st = some st') : P st' := by
  induction dimSeq generalizing st with
  | nil => cases h; exact h0
  | cons p rest ih =>
    obtain ⟨s1, h1, h2⟩ := Option.bind_eq_some_iff.mp h
    exact ih (fun q hq => step q (List.mem_cons_of_mem _ hq)) (extractMany_inv (step p List.mem_cons_self) h0 h1) h2

/-- what every state of the construction satisfies -/
structure MBasic (N : Nat) (st : MState) : Prop where
  len : st.resid.length = N
  edges : ∀ e ∈ st.cfg, e.Nodup ∧ 2 ≤ e.length ∧ ∀ x ∈ e, x < N

/-- what holds as long as `matching_sequences` has not been set to `False` -/
def MUse (degSeq : List Nat) (st : MState) : Prop :=
  st.flag = true → (∀ n, degOf n st.cfg + rd st.resid n = rd degSeq n) ∧
    st.resid.sum + (st.cfg.map List.length).sum = degSeq.sum

/-- what the shrinking construction keeps for every node, whether or not the report is still `True`: hyperedges built so
far plus residual degree never exceed the requested degree -/
def MCap (degSeq : List Nat) (st : MState) : Prop := ∀ n, degOf n st.cfg + rd st.resid n ≤ rd degSeq n

/-- the dictionary has a key for the residual degree of every node (its sets cover the nodes) -/
def MCover (keys resid : List Nat) : Prop := ∀ (n d : Nat), resid[n]? = some d → d ∈ keys

theorem degOf_snoc (n : Nat) (cfg : Config) (e : Hye) : degOf n (cfg ++ [e]) = degOf n cfg + e.count n := by
  rw [degOf_append]; simp [degOf]

theorem extractInto_basic {N size : Nat} {fd fm : Bool} {st st' : MState} (hb : MBasic N st)
    (h : extractInto size fd fm st = some st') : MBasic N st' := by
  obtain ⟨paid, visited, free, e1, e2, _, n1, p1, n2, p2, _⟩ := extractInto_shape h
  refine ⟨by rw [e2, decResid_length, hb.len], ?_⟩
  intro e hmem
  rw [e1] at hmem
  split at hmem
  · rename_i hlen
    rcases List.mem_append.mp hmem with hmem | hmem
    · exact hb.edges e hmem
    · rw [List.mem_singleton.mp hmem]
      refine ⟨List.nodup_append.mpr ⟨n1, n2, ?_⟩, hlen, ?_⟩
      · rintro x hx _ hy rfl
        obtain ⟨d, _, hd, e⟩ := p1 x hx
        rw [p2 x hy, Option.some.injEq] at e
        omega
      · intro x hx
        rw [← hb.len]
        rcases List.mem_append.mp hx with hx | hx
        · obtain ⟨d, _, _, e⟩ := p1 x hx
          exact (List.getElem?_eq_some_iff.mp e).1
        · exact (List.getElem?_eq_some_iff.mp (p2 x hx)).1
  · exact hb.edges e hmem

theorem extractInto_use {degSeq : List Nat} {size : Nat} {fd fm : Bool} {st st' : MState} (h2 : 2 ≤ size)
    (hu : MUse degSeq st) (h : extractInto size fd fm st = some st') : MUse degSeq st' := by
  obtain ⟨paid, visited, free, e1, e2, _, n1, p1, _, _, hfl, _⟩ := extractInto_shape h
  intro hflag
  obtain ⟨hf, rfl, hlen⟩ := hfl hflag
  obtain ⟨u1, u2⟩ := hu hf
  have hp : ∀ c ∈ paid, 0 < rd st.resid c := fun c hc =>
    let ⟨_, _, hd, e⟩ := p1 c hc; rd_pos_of_getElem? hd e
  rw [List.append_nil, if_pos (by omega)] at e1
  rw [e1, e2]
  refine ⟨fun n => ?_, ?_⟩
  · have := count_decResid n1 hp n
    have := u1 n
    rw [degOf_snoc]
    omega
  · have := sum_decResid n1 hp
    simp only [List.map_append, List.map_cons, List.map_nil, List.sum_append_nat, List.sum_cons, List.sum_nil]
    omega

theorem extractInto_cap {degSeq : List Nat} {size : Nat} {fd fm : Bool} {st st' : MState} (hf : (fm || !fd) = false)
    (hc : MCap degSeq st) (h : extractInto size fd fm st = some st') : MCap degSeq st' := by
  obtain ⟨paid, visited, free, e1, e2, _, n1, p1, _, _, _, _, hfree⟩ := extractInto_shape h
  have hp : ∀ c ∈ paid, 0 < rd st.resid c := fun c hc =>
    let ⟨_, _, hd, e⟩ := p1 c hc; rd_pos_of_getElem? hd e
  intro n
  have := hc n
  have := count_decResid n1 hp n
  rw [hfree hf, List.append_nil] at e1
  rw [e1, e2]
  split
  · rw [degOf_snoc]; omega
  · omega

theorem mem_addKeyN {ks : List Nat} {k x : Nat} : x ∈ addKeyN ks k ↔ x ∈ ks ∨ x = k :=
  ListLib.mem_addIfNew List.contains_iff_mem x

theorem mem_moveKeys {keys visited : List Nat} {x : Nat} :
    x ∈ moveKeys keys visited ↔ x ∈ keys ∨ ∃ d ∈ visited, x = d - 1 :=
  ListLib.foldl_or (x ∈ ·) _ (x = · - 1) (fun _ _ => mem_addKeyN) visited keys

theorem extractInto_cover {size : Nat} {fd fm : Bool} {st st' : MState} (hc : MCover st.keys st.resid)
    (h : extractInto size fd fm st = some st') : MCover st'.keys st'.resid := by
  obtain ⟨paid, visited, free, _, e2, e3, n1, p1, _⟩ := extractInto_shape h
  intro n d hd
  rw [e2, getElem?_decResid n1] at hd
  rw [e3, mem_moveKeys]
  split at hd
  · rename_i hn
    obtain ⟨d0, hd0, _, e⟩ := p1 n hn
    rw [e, Option.map_some, Option.some.injEq] at hd
    exact Or.inr ⟨d0, hd0, hd.symm⟩
  · exact Or.inl (hc n d hd)

theorem extractInto_sizes {size : Nat} {fd fm : Bool} {st st' : MState} (ht : (fm || !fd) = true)
    (h : extractInto size fd fm st = some st') : st'.cfg.map List.length = st.cfg.map List.length ++ sizesOf size 1 := by
  obtain ⟨paid, visited, free, e1, _, _, _, _, _, _, _, hlen, _⟩ := extractInto_shape h
  have := hlen ht
  rw [e1, List.length_append, this]
  unfold sizesOf
  by_cases h2 : 2 ≤ size
  · rw [if_pos (by omega), if_pos h2]; simp [this]
  · rw [if_neg (by omega), if_neg h2]; simp

theorem sizesOf_succ (size k : Nat) : sizesOf size (k + 1) = sizesOf size 1 ++ sizesOf size k := by
  unfold sizesOf
  split
  · simp [List.replicate_succ]
  · rfl

theorem extractMany_sizes {size : Nat} {fd fm : Bool} (ht : (fm || !fd) = true) {k : Nat} {st st' : MState}
    (h : extractMany size fd fm k st = some st') : st'.cfg.map List.length = st.cfg.map List.length ++ sizesOf size k := by
  induction k generalizing st with
  | zero => cases h; simp [sizesOf]
  | succ k ih =>
    obtain ⟨s1, h1, h2⟩ := Option.bind_eq_some_iff.mp h
    rw [ih h2, extractInto_sizes ht h1, List.append_assoc, ← sizesOf_succ]

theorem matchLoop_sizes {fd fm : Bool} (ht : (fm || !fd) = true) {dimSeq : List (Nat × Nat)} {st st' : MState}
    (h : matchLoop fd fm dimSeq st = some st') : st'.cfg.map List.length = st.cfg.map List.length ++ sizesOfSeq dimSeq := by
  induction dimSeq generalizing st with
  | nil => cases h; simp [sizesOfSeq]
  | cons p rest ih =>
    obtain ⟨s1, h1, h2⟩ := Option.bind_eq_some_iff.mp h
    rw [ih h2, extractMany_sizes ht h1, List.append_assoc]
    simp [sizesOfSeq]

theorem mem_sizesOfSeq {dimSeq : List (Nat × Nat)} {s : Nat} (h : s ∈ sizesOfSeq dimSeq) :
    2 ≤ s ∧ ∃ q ∈ dimSeq, q.1 = s := by
  unfold sizesOfSeq at h
  obtain ⟨q, hq, hs⟩ := List.mem_flatMap.mp h
  unfold sizesOf at hs
  split at hs
  · have := (List.mem_replicate.mp hs).2
    exact ⟨by omega, q, hq, this.symm⟩
  · simp at hs

theorem sum_sizesOfSeq {dimSeq : List (Nat × Nat)} (hall : ∀ p ∈ dimSeq, 2 ≤ p.1) :
    (sizesOfSeq dimSeq).sum = (dimSeq.map (fun p => p.1 * p.2)).sum := by
  induction dimSeq with
  | nil => simp [sizesOfSeq]
  | cons p rest ih =>
    have h2 := hall p List.mem_cons_self
    have := ih (fun q hq => hall q (List.mem_cons_of_mem _ hq))
    simp only [sizesOfSeq, List.flatMap_cons, List.sum_append_nat, List.map_cons, List.sum_cons] at this ⊢
    rw [this, sizesOf, if_pos h2, List.sum_replicate_nat, Nat.mul_comm]

theorem count_sizesOfSeq (dimSeq : List (Nat × Nat)) (s : Nat) (hs : 2 ≤ s) :
    (sizesOfSeq dimSeq).count s = dimCount dimSeq s := by
  induction dimSeq with
  | nil => simp [sizesOfSeq, dimCount]
  | cons p rest ih =>
    simp only [sizesOfSeq, List.flatMap_cons, List.count_append, dimCount] at ih ⊢
    rw [ih]
    simp only [sizesOf, List.filter_cons]
    by_cases hp : p.1 = s
    · subst hp
      simp [hs]
    · have hne : (p.1 == s) = false := by simpa using hp
      simp only [hne]
      split
      · simp [List.count_replicate, hp]
      · simp

/-! ## `_deg_seq_to_dict` is the bucket index of the degree map -/

def dictStep (d : List (Nat × List Nat)) (p : Nat × Nat) : List (Nat × List Nat) :=
  AL.set d p.1 (((AL.get? d p.1).getD []) ++ [p.2])

theorem degToDict_eq (s : List Nat) : degToDict s = s.zipIdx.foldl dictStep [] := rfl

theorem foldl_dictStep_get (l : List (Nat × Nat)) (D : List (Nat × List Nat)) (d : Nat) :
    (AL.get? (l.foldl dictStep D) d).getD [] =
      (AL.get? D d).getD [] ++ (l.filter (fun p => p.1 == d)).map (·.2) := by
  induction l generalizing D with
  | nil => simp
  | cons p ps ih =>
    simp only [List.foldl_cons, ih, List.filter_cons]
    by_cases hp : p.1 = d
    · subst hp
      simp [dictStep]
    · have hne : (p.1 == d) = false := by simpa using hp
      simp [dictStep, AL.get?_set, hp, hne]

theorem foldl_dictStep_keys (l : List (Nat × Nat)) (D : List (Nat × List Nat)) (hD : (AL.keys D).Nodup) :
    (AL.keys (l.foldl dictStep D)).Nodup :=
  ListLib.foldl_inv dictStep (fun D p => AL.keys_set_nodup D p.1 _) l D hD

theorem mem_degToDict (degSeq : List Nat) (d n : Nat) :
    n ∈ (AL.get? (degToDict degSeq) d).getD [] ↔ degSeq[n]? = some d := by
  rw [degToDict_eq, foldl_dictStep_get]
  simp only [AL.get?_nil, Option.getD_none, List.nil_append, List.mem_map, List.mem_filter, beq_iff_eq]
  constructor
  · rintro ⟨p, ⟨hp, rfl⟩, rfl⟩
    exact List.mem_zipIdx_iff_getElem?.mp hp
  · exact fun h => ⟨(d, n), ⟨List.mem_zipIdx_iff_getElem?.mpr h, rfl⟩, rfl⟩

theorem cover_init (degSeq : List Nat) : MCover (AL.keys (degToDict degSeq)) degSeq := by
  intro n d hd
  have hm := (mem_degToDict degSeq d n).mpr hd
  apply Decidable.byContradiction
  intro hne
  rw [(AL.get?_eq_none_iff (degToDict degSeq) d).mpr hne] at hm
  cases hm

theorem matchLoop_init {fd fm : Bool} {dimSeq : List (Nat × Nat)} {degSeq : List Nat} {picks : List (List Nat)}
    {st : MState} (h : matchLoop fd fm dimSeq ⟨AL.keys (degToDict degSeq), degSeq, [], true, picks⟩ = some st) :
    MBasic degSeq.length st ∧ MCover st.keys st.resid ∧ ((∀ p ∈ dimSeq, 2 ≤ p.1) → MUse degSeq st) ∧
      ((fm || !fd) = false → MCap degSeq st) :=
  ⟨matchLoop_inv (fun _ _ _ _ hb h => extractInto_basic hb h) ⟨rfl, by simp⟩ h,
    matchLoop_inv (P := fun st => MCover st.keys st.resid) (fun _ _ _ _ hc h => extractInto_cover hc h)
      (cover_init degSeq) h,
    fun hall => matchLoop_inv (fun p hp _ _ hu h => extractInto_use (hall p hp) hu h) (fun _ => by simp [degOf]) h,
    fun hf => matchLoop_inv (fun _ _ _ _ hc h => extractInto_cap hf hc h) (fun n => by simp [degOf]) h⟩

end C16
