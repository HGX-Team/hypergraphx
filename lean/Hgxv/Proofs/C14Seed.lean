import Hgxv.Model.C14Seed
import Hgxv.Proofs.C14Gen
/-! The rejection loop of `add_random_edges` run on a generator (`drawUntil`, `Hgxv/Model/C14Seed.lean`; core Lean only). -/
namespace C14

theorem drawUntil_succ {σ} (g : RNG σ) (pop : List Nat) (size k : Nat) :
    ∀ (f : Nat) (acc : List Edge) (s : σ), consumedExactly k acc (drawUntil g pop size k f acc s).1 = true →
      drawUntil g pop size k (f + 1) acc s = drawUntil g pop size k f acc s := by
  intro f
  induction f with
  | zero =>
    intro acc s h
    simp only [drawUntil, consumedExactly, decide_eq_true_eq] at h
    have : ¬ acc.length < k := by omega
    simp [drawUntil, this]
  | succ f ih =>
    intro acc s h
    by_cases hlt : acc.length < k
    · rw [drawUntil.eq_def g pop size k (f + 1) acc s] at h
      simp only [hlt, if_true, consumedExactly, decide_true, Bool.true_and] at h
      have e := ih _ _ h
      rw [drawUntil.eq_def g pop size k (f + 1 + 1) acc s, drawUntil.eq_def g pop size k (f + 1) acc s]
      simp only [hlt, if_true]
      rw [e]
    · rw [drawUntil.eq_def g pop size k (f + 1 + 1) acc s, drawUntil.eq_def g pop size k (f + 1) acc s]
      simp [hlt]

theorem drawUntil_mono {σ} (g : RNG σ) (pop : List Nat) (size k : Nat) (f : Nat) (acc : List Edge) (s : σ)
    (h : consumedExactly k acc (drawUntil g pop size k f acc s).1 = true) :
    ∀ d, drawUntil g pop size k (f + d) acc s = drawUntil g pop size k f acc s := by
  intro d
  induction d with
  | zero => rfl
  | succ d ih =>
    have := drawUntil_succ g pop size k (f + d) acc s (by rw [ih]; exact h)
    rw [← Nat.add_assoc, this, ih]

/-- the draws of the loop are a prefix of the generator's stream: as many as the pure loop takes from it -/
theorem drawUntil_eq {σ} (g : RNG σ) (pop : List Nat) (size k : Nat) :
    ∀ (f : Nat) (acc : List Edge) (s : σ), (drawUntil g pop size k f acc s).1
      = (drawN g pop size f s).1.take (collectUsed k acc (drawN g pop size f s).1) := by
  intro f
  induction f with
  | zero => intro acc s; simp [drawUntil, drawN]
  | succ f ih =>
    intro acc s
    by_cases hlt : acc.length < k
    · rw [drawUntil.eq_def g pop size k (f + 1) acc s]
      simp only [hlt, if_true, drawN, collectUsed, List.take_succ_cons]
      rw [ih]
    · rw [drawUntil.eq_def g pop size k (f + 1) acc s]
      simp [hlt, drawN, collectUsed]

theorem drawUntil_length {σ} (g : RNG σ) (pop : List Nat) (size k f : Nat) (acc : List Edge) (s : σ) :
    (drawUntil g pop size k f acc s).1.length ≤ f := by
  rw [drawUntil_eq, List.length_take, drawN_length]; exact Nat.min_le_right _ _

theorem addRandomEdgesS_returned {σ : Type} (g : RNG σ) (h : HG) (k : Nat) {order size : Option Nat} (inplace : Bool)
    (fuel : Nat) (w : World σ) {s : Nat} (hr : resolveSize order size = some s) (hle : k = 0 ∨ s ≤ h.nodes.length)
    (sd : Option Nat) (hc : consumedExactly k [] (drawUntil g h.nodes s k fuel [] (seedPy g sd w).py).1 = true) :
    (addRandomEdgesS g h k order size inplace sd fuel w).1
      = addRandomEdges h k order size inplace (drawUntil g h.nodes s k fuel [] (seedPy g sd w).py).1 ∧
    (addRandomEdgesS g h k order size inplace sd fuel w).1 ≠ none ∧
    ∀ d, addRandomEdgesS g h k order size inplace sd (fuel + d) w = addRandomEdgesS g h k order size inplace sd fuel w := by
  refine ⟨by simp [addRandomEdgesS, hr, hle, hc], by simp [addRandomEdgesS, addRandomEdges, hr, hle, hc], fun d => ?_⟩
  simp only [addRandomEdgesS, hr, hle, if_true, drawUntil_mono g h.nodes s k fuel [] (seedPy g sd w).py hc d]

variable {σ : Type} (g : RNG σ) (h : HG) (k : Nat) (order size : Option Nat) (inplace : Bool) (fuel : Nat)

theorem addRandomEdgesS_np (sd : Option Nat) (w : World σ) :
    (addRandomEdgesS g h k order size inplace sd fuel w).2.np = w.np := by
  cases hr : resolveSize order size with
  | none => simp [addRandomEdgesS, hr]
  | some s => by_cases hle : k = 0 ∨ s ≤ h.nodes.length <;> cases sd <;> simp [addRandomEdgesS, seedPy, hr, hle]

theorem addRandomEdgesS_ambient (seed : Nat) (w w' : World σ) :
    (addRandomEdgesS g h k order size inplace (some seed) fuel w).1
      = (addRandomEdgesS g h k order size inplace (some seed) fuel w').1 ∧
    (∀ s, resolveSize order size = some s → (addRandomEdgesS g h k order size inplace (some seed) fuel w).2.py
      = (addRandomEdgesS g h k order size inplace (some seed) fuel w').2.py) := by
  cases hr : resolveSize order size with
  | none => simp [addRandomEdgesS, hr]
  | some s =>
    by_cases hle : k = 0 ∨ s ≤ h.nodes.length
    · simp [addRandomEdgesS, seedPy, hr, hle]; rfl
    · simp [addRandomEdgesS, seedPy, hr, hle]

end C14
