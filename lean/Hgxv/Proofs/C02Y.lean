import Hgxv.Model.C02Y
import Hgxv.Proofs.C02X
/-! C02: constructor as public calls, raw setters / populate, mapping. -/
namespace C02
open AL

def RawOp.WF : RawOp → Prop
  | .pub o => o.WF
  | _ => True

theorem run_append (s : Store) (a b : List Op) : run s (a ++ b) = run (run s a) b := by
  induction a generalizing s with
  | nil => rfl
  | cons o os ih => simp only [List.cons_append, run]; exact ih _

theorem run_nodeCalls (s : Store) (l : List (Node × Meta)) :
    run s (l.map (fun p => Op.addNode p.1 (some p.2))) = addNodesMeta s l := by
  induction l generalizing s with
  | nil => rfl
  | cons p r ih => obtain ⟨n, md⟩ := p; simp only [List.map_cons, run, applyOp, addNodesMeta]; exact ih _

theorem runOk_nodeCalls (s : Store) (l : List (Node × Meta)) (rest : List Op) :
    runOk s (l.map (fun p => Op.addNode p.1 (some p.2)) ++ rest) = runOk (addNodesMeta s l) rest := by
  induction l generalizing s with
  | nil => rfl
  | cons p r ih => obtain ⟨n, md⟩ := p; simp only [List.map_cons, List.cons_append, runOk, applyOp, addNodesMeta]; exact ih _

/-- the constructor's own length test is subsumed by the one of `add_edges` -/
theorem addEdges_rej_of_own (s : Store) (el : List RawEdge) (ws : Option (List Int)) (mds : Option (List Meta))
    (h : (ws.isSome && decide (el.length ≠ (ws.getD []).length)) = true) : (addEdges s el ws mds).2 = .rej := by
  cases ws with
  | none => simp at h
  | some l =>
    simp at h
    simp [addEdges, h]

/-- the constructor IS the run of its public calls; accepted iff every call is -/
theorem ctor_as_calls (w : Bool) (hm : Option Meta) (nm : Option (List (Node × Meta))) (es : Option (List RawEdge))
    (ws : Option (List Int)) (mds : Option (List Meta)) :
    ((ctor w hm nm es ws mds).2 = .ok ↔ (runOk (ctorInit w hm) (ctorCalls nm es ws mds)).isSome = true) ∧
    ((ctor w hm nm es ws mds).2 = .ok →
      runOk (ctorInit w hm) (ctorCalls nm es ws mds) = some (ctor w hm nm es ws mds).1 ∧
      (ctor w hm nm es ws mds).1 = run (ctorInit w hm) (ctorCalls nm es ws mds)) := by
  unfold ctor ctorCalls ctorNodeCalls ctorInit
  cases es with
  | none =>
    simp only [List.append_nil]
    have h1 := runOk_nodeCalls { weighted := w, hmeta := ctorHMeta hm w } (nm.getD []) []
    simp only [List.append_nil] at h1
    rw [h1, run_nodeCalls]
    simp [runOk]
  | some el =>
    simp only []
    rw [runOk_nodeCalls, run_append, run_nodeCalls]
    simp only [runOk, run, applyOp]
    by_cases hown : (w && ws.isSome && decide (el.length ≠ (ws.getD []).length)) = true
    · have hr := addEdges_rej_of_own (addNodesMeta { weighted := w, hmeta := ctorHMeta hm w } (nm.getD [])) el ws mds
        (by cases w <;> simp_all)
      simp only [hown, if_true, hr]
      simp
    · simp only [hown]
      cases hr : (addEdges (addNodesMeta { weighted := w, hmeta := ctorHMeta hm w } (nm.getD [])) el ws mds).2 <;> simp [hr]

theorem addNode_weighted (s : Store) (n : Node) (md : Option Meta) : (addNode s n md).weighted = s.weighted :=
  (addNode_fields s n md).2.2.2.2.2.1

theorem addEdgeKey_weighted (s : Store) (k : Key) (w : Option Int) (md : Option Meta) :
    (addEdgeKey s k w md).1.weighted = s.weighted := by
  unfold addEdgeKey
  split
  · rfl
  · split
    · exact (addEdgeNew_fields s k _ _).2.2.2.2.2.1
    · rfl

theorem addEdgeKey_ok_of (s : Store) (k : Key) (w : Option Int) (md : Option Meta) (h : s.weighted = true ∨ w = none) :
    (addEdgeKey s k w md).2 = .ok := by
  unfold addEdgeKey
  rcases h with h | h
  · simp only [h]; simp; split <;> rfl
  · subst h; simp; split <;> rfl

/-- an optional list argument is long enough for `n` more elements (`none`: not given) -/
def Fits {α : Type} (o : Option (List α)) (n : Nat) : Prop := ∀ l, o = some l → n ≤ l.length

theorem fits_succ {α : Type} (o : Option (List α)) (n : Nat) :
    Fits o (n + 1) ↔ o ≠ some [] ∧ Fits (o.map List.tail) n := by
  rcases o with _ | _ | _ <;> simp [Fits]

theorem addEdgesLoop_rej_iff (s : Store) (es : List RawEdge) (ws : Option (List Int)) (mds : Option (List Meta))
    (h : s.weighted = true ∨ ws = none) :
    (addEdgesLoop s es ws mds).2 = .rej ↔ ¬ (Fits ws es.length ∧ Fits mds es.length) := by
  induction es generalizing s ws mds with
  | nil => simp [addEdgesLoop, Fits]
  | cons e es ih =>
    have hok := addEdgeKey_ok_of s (canonAdd e) (ws.bind List.head?) (mds.bind List.head?) (h.imp_right fun h => by rw [h]; rfl)
    rw [List.length_cons, fits_succ, fits_succ]
    unfold addEdgesLoop
    split
    · simp
    · split
      · simp
      · rename_i hm _ hw
        simp only [addEdge, hok]
        -- the flag stays, and the tail of a list that is not given is not given
        rw [ih _ _ _ (h.imp (addEdgeKey_weighted s _ _ _).trans (congrArg _))]
        exact not_congr ⟨fun a => ⟨⟨hw, a.1⟩, hm, a.2⟩, fun a => ⟨a.1.2, a.2.2⟩⟩

theorem fits_truthy {α : Type} (o : Option (List α)) (n : Nat) :
    Fits (truthy o) n ↔ ∀ l, o = some l → l = [] ∨ n ≤ l.length := by
  rcases o with _ | _ | _ <;> simp [truthy, Fits]

theorem ctorRejArgs_none (el : List RawEdge) (mds : Option (List Meta)) :
    ctorRejArgs (some el) none mds = true ↔ ¬ Fits (truthy mds) el.length := by
  rw [fits_truthy]
  rcases mds with _ | _ | _ <;> simp [ctorRejArgs]

theorem addEdges_rej_iff (s : Store) (el : List RawEdge) (ws : Option (List Int)) (mds : Option (List Meta)) :
    (addEdges s el ws mds).2 = .rej ↔ ctorRejArgs (some el) ws mds = true := by
  unfold addEdges
  cases ws with
  | none =>
    simp only []
    rw [ctorRejArgs_none, addEdgesLoop_rej_iff _ _ _ _ (Or.inr rfl)]
    simp [Fits]
  | some l =>
    have e : ctorRejArgs (some el) (some l) mds = (decide (el.length ≠ l.length) || ctorRejArgs (some el) none mds) := rfl
    rw [e, Bool.or_eq_true, ctorRejArgs_none]
    simp only [Option.isSome_some, Bool.true_and]
    by_cases hl : el.length = l.length
    · have hf : Fits (truthy (some l)) l.length := (fits_truthy _ _).mpr fun l' e => by
        cases e; exact Or.inr (Nat.le_refl _)
      rw [if_neg (by simp [hl]), addEdgesLoop_rej_iff _ _ _ _ (Or.inl (by cases hw : s.weighted <;> simp [hw]))]
      simp [hl, hf]
    · simp [hl]

theorem ctor_rej_iff (w : Bool) (hm : Option Meta) (nm : Option (List (Node × Meta))) (es : Option (List RawEdge))
    (ws : Option (List Int)) (mds : Option (List Meta)) :
    (ctor w hm nm es ws mds).2 = .rej ↔ ctorRejArgs es ws mds = true := by
  cases es with
  | none => simp [ctor, ctorRejArgs]
  | some el =>
    unfold ctor
    simp only []
    by_cases hown : (w && ws.isSome && decide (el.length ≠ (ws.getD []).length)) = true
    · simp only [hown, if_true, true_iff]
      rw [← addEdges_rej_iff (addNodesMeta { weighted := w, hmeta := ctorHMeta hm w } (nm.getD [])) el ws mds]
      exact addEdges_rej_of_own _ el ws mds (by cases w <;> simp_all)
    · simp only [hown]
      exact addEdges_rej_iff _ el ws mds

theorem ctorCalls_WF (nm : Option (List (Node × Meta))) (es : Option (List RawEdge)) (ws : Option (List Int))
    (mds : Option (List Meta)) (hes : ∀ e ∈ es.getD [], RawWF e) : ∀ o ∈ ctorCalls nm es ws mds, o.WF := by
  intro o ho
  unfold ctorCalls ctorNodeCalls at ho
  rcases List.mem_append.mp ho with h | h
  · obtain ⟨p, _, rfl⟩ := List.mem_map.mp h; trivial
  · cases es with
    | none => simp at h
    | some el => simp at h; subst h; exact hes

theorem populate_expose (s : Store) : populate (expose s) = s := by cases s; rfl
theorem expose_populate (t : Tables) : expose (populate t) = t := by cases t; rfl

theorem echo_step (x : Full) (o : RawOp) (h : o.echo x = true) : rawStep x o = pubRun x (pubOps [o]) := by
  cases o with
  | pub o => rfl
  | setEL el =>
    have : el = x.base.edgeList := by simpa [RawOp.echo, getEdgeList] using h
    subst this; rfl
  | setAdj b adj =>
    have : adj = getAdjDict x.base b := by simpa [RawOp.echo] using h
    subst this
    cases b <;> rfl
  | pop t =>
    have : t = expose x.base := by simpa [RawOp.echo] using h
    subst this
    simp only [rawStep, Full.populate, populate_expose, pubOps, pubRun, pubStep, Option.getD]

theorem pubOps_cons (o : RawOp) (os : List RawOp) : pubOps (o :: os) = pubOps [o] ++ pubOps os := by
  cases o <;> rfl

theorem pubRun_append (x : Full) (a b : List PubStep) : pubRun x (a ++ b) = pubRun (pubRun x a) b := by
  induction a generalizing x with
  | nil => rfl
  | cons o os ih => simp only [List.cons_append, pubRun]; exact ih _

theorem rawRun_echo (x : Full) (ops : List RawOp) (h : echoes x ops = true) : rawRun x ops = pubRun x (pubOps ops) := by
  induction ops generalizing x with
  | nil => rfl
  | cons o os ih =>
    simp only [echoes, Bool.and_eq_true] at h
    rw [pubOps_cons, pubRun_append, ← echo_step x o h.1]
    exact ih _ h.2

theorem rawStep_base_of_echo (x : Full) (o : RawOp) (h : o.echo x = true) :
    (rawStep x o).base = run x.base (baseOps [o]) := by
  rw [echo_step x o h]
  cases o with
  | pub o => cases o <;> rfl
  | setEL el => rfl
  | setAdj b adj => rfl
  | pop t => rfl

theorem baseOps_cons (o : RawOp) (os : List RawOp) : baseOps (o :: os) = baseOps [o] ++ baseOps os := by
  cases o with
  | pub o => cases o <;> rfl
  | setEL el => rfl
  | setAdj b adj => rfl
  | pop t => rfl

theorem rawRun_base (x : Full) (ops : List RawOp) (h : echoes x ops = true) :
    (rawRun x ops).base = run x.base (baseOps ops) := by
  induction ops generalizing x with
  | nil => rfl
  | cons o os ih =>
    simp only [echoes, Bool.and_eq_true] at h
    rw [baseOps_cons, run_append, ← rawStep_base_of_echo x o h.1]
    exact ih _ h.2

theorem baseOps_WF (ops : List RawOp) (h : ∀ o ∈ ops, o.WF) : ∀ o ∈ baseOps ops, o.WF := by
  induction ops with
  | nil => intro o ho; simp [baseOps] at ho
  | cons a os ih =>
    intro o ho
    rw [baseOps_cons] at ho
    rcases List.mem_append.mp ho with h1 | h1
    · have ha := h a List.mem_cons_self
      cases a with
      | pub f =>
        cases f with
        | base b => simp [baseOps] at h1; subst h1; exact ha
        | setInc e n md => simp [baseOps] at h1
      | setEL el => simp [baseOps] at h1
      | setAdj b adj => simp [baseOps] at h1
      | pop t => simp [baseOps] at h1
    · exact ih (fun o' ho' => h o' (List.mem_cons_of_mem _ ho')) o h1

/-- `transform` is `List.idxOf?` of core, counted from the running position -/
theorem indexFrom_eq (n : Node) (l : List Node) (k : Nat) : indexFrom n l k = (l.idxOf? n).map (k + ·) := by
  induction l generalizing k with
  | nil => rfl
  | cons a l ih =>
    simp only [indexFrom, List.idxOf?_cons, ih, beq_iff_eq]
    split
    · rfl
    · rw [Option.map_map]; congr 1; funext i; simp only [Function.comp]; omega

theorem indexOf?_eq (s : Store) (n : Node) : indexOf? s n = (mapping s).idxOf? n := by
  rw [indexOf?, indexFrom_eq]
  cases (mapping s).idxOf? n with
  | none => rfl
  | some i => exact congrArg some (Nat.zero_add i)

/-- the position of an entry of a duplicate-free list is where `idxOf?` finds it -/
theorem idxOf?_eq_some_iff {l : List Nat} (nd : l.Nodup) (n i : Nat) : l.idxOf? n = some i ↔ l[i]? = some n := by
  rw [List.idxOf?_eq_some_iff, List.getElem?_eq_some_iff]
  refine ⟨fun ⟨hi, e, _⟩ => ⟨hi, e⟩, fun ⟨hi, e⟩ => ⟨hi, e, fun j hj ej => ?_⟩⟩
  exact Nat.ne_of_lt hj ((List.getElem_inj nd).mp (ej.trans e.symm))

theorem mapping_props (s : Store) (h : Inv s) :
    (mapping s).Pairwise (· < ·) ∧ (∀ n, n ∈ mapping s ↔ checkNode s n = true) ∧
    (mapping s).length = numNodes s := by
  refine ⟨NatSort.strict_of_sorted_nodup (sortNodes_sorted _) (sortNodes_nodup h.nd_adjS), fun n => ?_, sortNodes_length _⟩
  unfold mapping checkNode nodes
  rw [(sortNodes_perm _).mem_iff, has_iff]

end C02
