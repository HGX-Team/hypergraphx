import Hgxv.Model.C07Dumps
import Hgxv.Proofs.C07Json
/-! # C07: the JSON text determines the tree (core Lean only)

`renderK f` is a prefix code on JSON trees: two trees written in front of continuations that start with `,` `]` `}`
(or are empty) give the same text only when the trees AND the continuations are the same.  Needed from the atom
writers (`Fmt.Laws`): numbers are written injectively, start with a character that no other kind of value starts
with and contain no `,` `]` `}`; the escape of a character never starts with `"` and escapes form a prefix code.
Then: `dumpsJ` is injective on serialized trees, and a computed text is compared with a string literal through the
literal's characters (`hashText_of_chars`). -/
namespace C07

/-- a continuation that ends a value: empty, or starting with `,` `]` `}` -/
def Stop (r : List Char) : Prop := ∀ c cs, r = c :: cs → c = ',' ∨ c = ']' ∨ c = '}'

structure Fmt.Laws (f : Fmt) : Prop where
  numInj : ∀ a b, f.num a = f.num b → a = b
  numHead : ∀ a, ∃ c cs, f.num a = c :: cs ∧ c ≠ 'n' ∧ c ≠ 't' ∧ c ≠ 'f' ∧ c ≠ '"' ∧ c ≠ '[' ∧ c ≠ '{'
  numBody : ∀ a c, c ∈ f.num a → c ≠ ',' ∧ c ≠ ']' ∧ c ≠ '}'
  escHead : ∀ a, ∃ c cs, f.esc a = c :: cs ∧ c ≠ '"'
  escFree : ∀ a b r₁ r₂, f.esc a ++ r₁ = f.esc b ++ r₂ → a = b ∧ r₁ = r₂

variable {f : Fmt}

theorem stop_nil : Stop [] := by intro c cs h; cases h

theorem prefix_split {α : Type} {P : α → Prop} : ∀ (l₁ l₂ r₁ r₂ : List α),
    (∀ c, c ∈ l₁ → P c) → (∀ c, c ∈ l₂ → P c) →
    (∀ c cs, r₁ = c :: cs → ¬ P c) → (∀ c cs, r₂ = c :: cs → ¬ P c) →
    l₁ ++ r₁ = l₂ ++ r₂ → l₁ = l₂ ∧ r₁ = r₂ := by
  intro l₁
  induction l₁ with
  | nil =>
    intro l₂ r₁ r₂ _ h2 s1 _ h
    cases l₂ with
    | nil => exact ⟨rfl, h⟩
    | cons d ds => exact (s1 d (ds ++ r₂) h (h2 d List.mem_cons_self)).elim
  | cons c cs ih =>
    intro l₂ r₁ r₂ h1 h2 s1 s2 h
    cases l₂ with
    | nil => exact (s2 c (cs ++ r₁) h.symm (h1 c List.mem_cons_self)).elim
    | cons d ds =>
      simp only [List.cons_append, List.cons.injEq] at h
      obtain ⟨e, r⟩ := ih ds r₁ r₂ (fun x hx => h1 x (List.mem_cons_of_mem _ hx))
        (fun x hx => h2 x (List.mem_cons_of_mem _ hx)) s1 s2 h.2
      exact ⟨by rw [h.1, e], r⟩

theorem Stop.not_body {r : List Char} (s : Stop r) (c : Char) (cs : List Char) (e : r = c :: cs) :
    ¬ (c ≠ ',' ∧ c ≠ ']' ∧ c ≠ '}') :=
  fun h => (s c cs e).elim h.1 (fun o => o.elim h.2.1 h.2.2)

theorem escK_split (L : f.Laws) : ∀ (s₁ s₂ r₁ r₂ : List Char),
    escK f s₁ ('"' :: r₁) = escK f s₂ ('"' :: r₂) → s₁ = s₂ ∧ r₁ = r₂ := by
  intro s₁
  induction s₁ with
  | nil =>
    intro s₂ r₁ r₂ h
    cases s₂ with
    | nil => simpa [escK] using h
    | cons d ds =>
      exfalso
      obtain ⟨c, cs, hc, hne⟩ := L.escHead d
      simp only [escK, hc, List.cons_append, List.cons.injEq] at h
      exact hne h.1.symm
  | cons c cs ih =>
    intro s₂ r₁ r₂ h
    cases s₂ with
    | nil =>
      exfalso
      obtain ⟨x, xs, hx, hne⟩ := L.escHead c
      simp only [escK, hx, List.cons_append, List.cons.injEq] at h
      exact hne h.1
    | cons d ds =>
      simp only [escK] at h
      obtain ⟨e, r⟩ := L.escFree _ _ _ _ h
      obtain ⟨e2, r2⟩ := ih ds r₁ r₂ r
      exact ⟨by rw [e, e2], r2⟩

theorem quoteK_split (L : f.Laws) (s₁ s₂ : String) (r₁ r₂ : List Char)
    (h : quoteK f s₁ r₁ = quoteK f s₂ r₂) : s₁ = s₂ ∧ r₁ = r₂ := by
  simp only [quoteK, List.cons.injEq, true_and] at h
  obtain ⟨e, r⟩ := escK_split L _ _ _ _ h
  exact ⟨String.toList_inj.mp e, r⟩

def JTree.tag : JTree → Nat
  | .null => 0 | .bool _ => 1 | .str _ => 2 | .arr _ => 3 | .obj _ => 4 | .num _ => 5

/-- the shape a first character announces: `n`, `t` / `f`, `"`, `[`, `{`; anything else starts a number -/
def headTag (c : Char) : Nat :=
  if c = 'n' then 0 else if c = 't' ∨ c = 'f' then 1 else if c = '"' then 2 else if c = '[' then 3
  else if c = '{' then 4 else 5

theorem renderK_head_tag (L : f.Laws) (a : JTree) (r : List Char) :
    ∃ c rest, renderK f a r = c :: rest ∧ headTag c = a.tag ∧ c ≠ ',' ∧ c ≠ ']' ∧ c ≠ '}' := by
  cases a with
  | null => exact ⟨'n', 'u' :: 'l' :: 'l' :: r, by simp only [renderK], rfl, by decide⟩
  | bool x =>
    cases x
    · exact ⟨'f', 'a' :: 'l' :: 's' :: 'e' :: r, by simp [renderK], rfl, by decide⟩
    · exact ⟨'t', 'r' :: 'u' :: 'e' :: r, by simp [renderK], rfl, by decide⟩
  | str s => exact ⟨'"', escK f s.toList ('"' :: r), by simp only [renderK, quoteK], rfl, by decide⟩
  | arr l => exact ⟨'[', itemsK f true l r, by simp only [renderK], rfl, by decide⟩
  | obj l => exact ⟨'{', fieldsK f true l r, by simp only [renderK], rfl, by decide⟩
  | num n =>
    obtain ⟨d, ds, hd, h1, h2, h3, h4, h5, h6⟩ := L.numHead n
    refine ⟨d, ds ++ r, by simp only [renderK, hd, List.cons_append], ?_, L.numBody n d (hd ▸ List.mem_cons_self)⟩
    simp only [headTag, h1, h2, h3, h4, h5, h6, or_self, if_false, JTree.tag]

theorem tag_eq_of_renderK (L : f.Laws) {a b : JTree} {r₁ r₂ : List Char} (h : renderK f a r₁ = renderK f b r₂) :
    a.tag = b.tag := by
  obtain ⟨c, _, ha, ta, _⟩ := renderK_head_tag L a r₁
  obtain ⟨d, _, hb, tb, _⟩ := renderK_head_tag L b r₂
  rw [ha, hb] at h
  rw [← ta, ← tb, (List.cons.inj h).1]

theorem stop_of_head {r : List Char} {c : Char} {rest : List Char} (h : r = c :: rest)
    (hc : c = ',' ∨ c = ']' ∨ c = '}') : Stop r := by
  intro d ds e
  rw [h] at e
  simp only [List.cons.injEq] at e
  rw [← e.1]; exact hc

theorem itemsK_stop (l : List JTree) (r : List Char) : Stop (itemsK f false l r) := by
  cases l with
  | nil => exact stop_of_head (rest := r) (by simp only [itemsK]) (Or.inr (Or.inl rfl))
  | cons x xs => exact stop_of_head (by simp only [itemsK, sepK]; rfl) (Or.inl rfl)

theorem fieldsK_stop (l : List (String × JTree)) (r : List Char) : Stop (fieldsK f false l r) := by
  cases l with
  | nil => exact stop_of_head (rest := r) (by simp only [fieldsK]) (Or.inr (Or.inr rfl))
  | cons p xs => obtain ⟨k, v⟩ := p; exact stop_of_head (by simp only [fieldsK, sepK]; rfl) (Or.inl rfl)

/-- the prefix-code statement for one tree -/
def Pref (f : Fmt) (a : JTree) : Prop :=
  ∀ b r₁ r₂, Stop r₁ → Stop r₂ → renderK f a r₁ = renderK f b r₂ → a = b ∧ r₁ = r₂

theorem sepK_inj (first : Bool) {a b : List Char} (h : sepK first a = sepK first b) : a = b := by
  cases first <;> simpa [sepK] using h

theorem itemsK_split (L : f.Laws) : ∀ (l : List JTree), (∀ x, x ∈ l → Pref f x) →
    ∀ (first : Bool) (l' : List JTree) (r₁ r₂ : List Char),
      itemsK f first l r₁ = itemsK f first l' r₂ → l = l' ∧ r₁ = r₂ := by
  intro l
  induction l with
  | nil =>
    intro _ first l' r₁ r₂ h
    cases l' with
    | nil => simpa [itemsK] using h
    | cons y ys =>
      exfalso
      obtain ⟨c, rest, hc, _, h1, h2, h3⟩ := renderK_head_tag L y (itemsK f false ys r₂)
      cases first
      · simp [itemsK, sepK] at h
      · simp only [itemsK, sepK, hc, if_true, List.cons.injEq] at h
        exact h2 h.1.symm
  | cons x xs ih =>
    intro hP first l' r₁ r₂ h
    cases l' with
    | nil =>
      exfalso
      obtain ⟨c, rest, hc, _, h1, h2, h3⟩ := renderK_head_tag L x (itemsK f false xs r₁)
      cases first
      · simp [itemsK, sepK] at h
      · simp only [itemsK, sepK, hc, if_true, List.cons.injEq] at h
        exact h2 h.1
    | cons y ys =>
      simp only [itemsK] at h
      have h' := sepK_inj first h
      obtain ⟨e, r⟩ := hP x List.mem_cons_self y _ _ (itemsK_stop xs r₁) (itemsK_stop ys r₂) h'
      obtain ⟨e2, r2⟩ := ih (fun z hz => hP z (List.mem_cons_of_mem _ hz)) false ys r₁ r₂ r
      exact ⟨by rw [e, e2], r2⟩

theorem fieldsK_split (L : f.Laws) : ∀ (l : List (String × JTree)), (∀ p, p ∈ l → Pref f p.2) →
    ∀ (first : Bool) (l' : List (String × JTree)) (r₁ r₂ : List Char),
      fieldsK f first l r₁ = fieldsK f first l' r₂ → l = l' ∧ r₁ = r₂ := by
  intro l
  induction l with
  | nil =>
    intro _ first l' r₁ r₂ h
    cases l' with
    | nil => simpa [fieldsK] using h
    | cons q ys =>
      exfalso
      obtain ⟨k, v⟩ := q
      cases first
      · simp [fieldsK, sepK] at h
      · simp [fieldsK, sepK, quoteK] at h
  | cons p xs ih =>
    intro hP first l' r₁ r₂ h
    obtain ⟨k, v⟩ := p
    cases l' with
    | nil =>
      exfalso
      cases first
      · simp [fieldsK, sepK] at h
      · simp [fieldsK, sepK, quoteK] at h
    | cons q ys =>
      obtain ⟨k', v'⟩ := q
      simp only [fieldsK] at h
      have h' := sepK_inj first h
      obtain ⟨ek, rk⟩ := quoteK_split L _ _ _ _ h'
      simp only [List.cons.injEq, true_and] at rk
      obtain ⟨e, r⟩ := hP (k, v) List.mem_cons_self v' _ _ (fieldsK_stop xs r₁) (fieldsK_stop ys r₂) rk
      obtain ⟨e2, r2⟩ := ih (fun z hz => hP z (List.mem_cons_of_mem _ hz)) false ys r₁ r₂ r
      simp only at e
      exact ⟨by rw [ek, e, e2], r2⟩

/-- `renderK` is a prefix code: the first character fixes the shape, then shape by shape -/
theorem renderK_pref (L : f.Laws) : ∀ a, Pref f a := by
  apply JTree.induct
  · intro b r₁ r₂ _ _ h
    have t := tag_eq_of_renderK L h
    cases b with
    | null => simpa [renderK] using h
    | _ => cases t
  · intro x b r₁ r₂ _ _ h
    have t := tag_eq_of_renderK L h
    cases b with
    | bool y => cases x <;> cases y <;> simp [renderK] at h <;> simp [h]
    | _ => cases t
  · intro n b r₁ r₂ s1 s2 h
    have t := tag_eq_of_renderK L h
    cases b with
    | num m =>
      simp only [renderK] at h
      obtain ⟨e, r⟩ := prefix_split _ _ _ _ (L.numBody n) (L.numBody m) s1.not_body s2.not_body h
      exact ⟨by rw [L.numInj _ _ e], r⟩
    | _ => cases t
  · intro s b r₁ r₂ _ _ h
    have t := tag_eq_of_renderK L h
    cases b with
    | str s' =>
      simp only [renderK] at h
      obtain ⟨e, r⟩ := quoteK_split L _ _ _ _ h
      exact ⟨by rw [e], r⟩
    | _ => cases t
  · intro l ih b r₁ r₂ _ _ h
    have t := tag_eq_of_renderK L h
    cases b with
    | arr l' =>
      simp only [renderK, List.cons.injEq, true_and] at h
      obtain ⟨e, r⟩ := itemsK_split L l ih true l' r₁ r₂ h
      exact ⟨by rw [e], r⟩
    | _ => cases t
  · intro l ih b r₁ r₂ _ _ h
    have t := tag_eq_of_renderK L h
    cases b with
    | obj l' =>
      simp only [renderK, List.cons.injEq, true_and] at h
      obtain ⟨e, r⟩ := fieldsK_split L l ih true l' r₁ r₂ h
      exact ⟨by rw [e], r⟩
    | _ => cases t

theorem render_inj (L : f.Laws) {a b : JTree} (h : render f a = render f b) : a = b :=
  (renderK_pref L a b [] [] stop_nil stop_nil h).1

/-- `json.dumps(·, sort_keys=True)` determines the tree up to the order of dictionary keys -/
theorem dumpsJ_inj (L : f.Laws) {a b : JTree} (h : dumpsJ f a = dumpsJ f b) : ser a = ser b := by
  unfold dumpsJ at h
  exact render_inj L (String.ofList_inj.mp h)

/-- the `dumps` hypothesis of `hashOf_inj` -/
theorem dumpsJ_ser_inj (L : f.Laws) {a b : JTree} (e : dumpsJ f (ser a) = dumpsJ f (ser b)) : ser a = ser b := by
  have := dumpsJ_inj L e
  rwa [ser_idem, ser_idem] at this

theorem dumpsJ_ser (f : Fmt) (a : JTree) : dumpsJ f (ser a) = String.ofList (render f (ser a)) := by
  unfold dumpsJ; rw [ser_idem]

/-! ## comparing a computed text with a string literal

A literal `"…"` is `String.ofList` of its characters, for the kernel and, as long as `String.ofList` is not unfolded
into bytes first (`with_reducible rfl`), for the unifier: `hs` fixes `l`, what is left is an equation between lists of
characters.  `hs` is solved before `h`. -/

theorem dumpsJ_of_chars {a : JTree} {l : List Char} {s : String}
    (hs : String.ofList l = s) (h : render f (ser a) = l) : dumpsJ f a = s := by
  rw [← hs, ← h]; rfl

-- compared as a list of characters: `rfl` against the string literal overruns the recursion limit
theorem hashText_of_chars {κ : Type} [Kind κ] {t : Tables κ} {l : List Char} {s : String}
    (hs : String.ofList l = s) (h : (expose? t).map (fun j => render f (ser j)) = some l) : hashText f t = some s := by
  unfold hashText preimage?
  cases he : expose? t with
  | none => rw [he] at h; cases h
  | some j =>
    rw [he] at h
    -- `ser_idem`: the exposed tree is sorted once, not once by `preimage?` and again by `dumpsJ`
    exact congrArg some (dumpsJ_of_chars hs ((ser_idem j).symm ▸ Option.some.inj h))

end C07
