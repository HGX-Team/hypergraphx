import Hgxv.Proofs.C15Sum
import Mathlib.Data.Finset.Powerset
import Mathlib.Algebra.BigOperators.Group.Finset.Sigma
import Mathlib.Data.Nat.Choose.Basic
import Mathlib.Data.Nat.Factorial.Basic
import Mathlib.Data.Nat.Cast.Field
import Mathlib.Analysis.SpecialFunctions.Log.Basic
/-! # C15 — double counting behind the closed forms (DESIGN-feasibility.md §G, over `ℚ`), the closed forms of the
expected statistics, and `log_binomial` / `log_kappa` (the sums of logarithms are the logarithm of the coefficient) -/
open Finset
namespace C15

theorem choose_eq (n k : ℕ) : choose n k = Nat.choose n k := by
  induction n generalizing k with
  | zero => cases k <;> simp [choose]
  | succ n ih => cases k <;> simp [choose, ih, Nat.choose_succ_succ]

variable {α : Type} [DecidableEq α]

/-- the counting argument, once: over the `d`-subsets `e ⊇ S` of `V`, a pair is counted once for every such `e` that contains it -/
theorem count_pairs_sup (V S : Finset α) (d : ℕ) (f : α → α → ℚ) :
    ∑ e ∈ V.powersetCard d with S ⊆ e, ∑ p ∈ e.offDiag, f p.1 p.2
      = ∑ p ∈ V.offDiag, f p.1 p.2 * (((V.powersetCard d).filter (fun e => S ∪ {p.1, p.2} ⊆ e)).card : ℚ) := by
  -- `e ⊇ S` and `p` a pair of `e`  ↔  `p` a pair of `V` and `e ⊇ S ∪ p`
  rw [Finset.sum_comm' (t' := V.offDiag) (s' := fun p => (V.powersetCard d).filter (S ∪ {p.1, p.2} ⊆ ·))]
  · exact Finset.sum_congr rfl fun p _ => by rw [Finset.sum_const, nsmul_eq_mul, mul_comm]
  · intro e p
    simp only [mem_filter, mem_powersetCard, mem_offDiag, union_subset_iff, insert_subset_iff, singleton_subset_iff]
    exact ⟨fun ⟨⟨he, hS⟩, a, b, c⟩ => ⟨⟨he, hS, a, b⟩, he.1 a, he.1 b, c⟩,
      fun ⟨⟨he, hS, a, b⟩, _, _, c⟩ => ⟨⟨he, hS⟩, a, b, c⟩⟩

theorem card_sup (V T : Finset α) (d : ℕ) (hT : T ⊆ V) :
    ((V.powersetCard d).filter (T ⊆ ·)).card = if T.card ≤ d then Nat.choose (V.card - T.card) (d - T.card) else 0 := by
  split
  · rename_i h; exact card_filter_powersetCard_subset T V d hT h
  · rename_i h
    exact Finset.card_eq_zero.mpr (Finset.filter_eq_empty_iff.mpr fun e he hsub =>
      h ((Finset.card_le_card hsub).trans_eq (mem_powersetCard.mp he).2))

/-- every ordered pair of distinct elements of `V` lies in `C(|V|-2, d-2)` subsets of size `d` -/
theorem count_pairs (V : Finset α) (d : ℕ) (hd : 2 ≤ d) (f : α → α → ℚ) :
    ∑ e ∈ V.powersetCard d, ∑ p ∈ e.offDiag, f p.1 p.2
      = (Nat.choose (V.card - 2) (d - 2) : ℚ) * ∑ p ∈ V.offDiag, f p.1 p.2 := by
  have h := count_pairs_sup V ∅ d f
  rw [Finset.filter_true_of_mem fun e _ => empty_subset e] at h
  rw [h, Finset.mul_sum]
  apply Finset.sum_congr rfl
  intro p hp
  obtain ⟨hp1, hp2, hne⟩ := mem_offDiag.mp hp
  rw [empty_union, card_sup V _ d (by simp [insert_subset_iff, hp1, hp2]), Finset.card_pair hne, if_pos hd, mul_comm]

/-- number of `d`-subsets of an `n`-set that contain three given elements -/
def cnt3 (n d : ℕ) : ℕ := if 3 ≤ d then Nat.choose (n - 3) (d - 3) else 0

/-- the same count restricted to the subsets that contain a given element `i`: a pair through `i`
lies in `C(|V|-2, d-2)` of them, a pair avoiding `i` in `C(|V|-3, d-3)` (none when `d = 2`) -/
theorem count_pairs_node (V : Finset α) (d : ℕ) (hd : 2 ≤ d) (i : α) (hi : i ∈ V) (f : α → α → ℚ) :
    ∑ e ∈ V.powersetCard d with i ∈ e, ∑ p ∈ e.offDiag, f p.1 p.2
      = ∑ p ∈ V.offDiag, f p.1 p.2 *
          (if i = p.1 ∨ i = p.2 then (Nat.choose (V.card - 2) (d - 2) : ℚ) else (cnt3 V.card d : ℚ)) := by
  have h := count_pairs_sup V {i} d f
  simp only [singleton_subset_iff] at h
  rw [h]
  apply Finset.sum_congr rfl
  intro p hp
  obtain ⟨hp1, hp2, hne⟩ := mem_offDiag.mp hp
  -- `{i, p.1, p.2}` has 2 elements when `i` is one of the pair, else 3
  rw [← Finset.insert_eq, card_sup V _ d (by simp [insert_subset_iff, hi, hp1, hp2]), Finset.card_insert_eq_ite,
    Finset.card_pair hne]
  simp only [mem_insert, mem_singleton]
  split
  · rfl
  · rfl -- three elements: `if 3 ≤ d then C(|V| − 3, d − 3) else 0` is `cnt3`

theorem count_pairs_lt (V : Finset ℕ) (d : ℕ) (hd : 2 ≤ d) (a : ℕ → ℕ → ℚ) :
    ∑ e ∈ V.powersetCard d, ∑ p ∈ e.offDiag with p.1 < p.2, a p.1 p.2
      = (Nat.choose (V.card - 2) (d - 2) : ℚ) * ∑ p ∈ V.offDiag with p.1 < p.2, a p.1 p.2 := by
  simp only [Finset.sum_filter]
  exact count_pairs V d hd (fun i j => if i < j then a i j else 0)

theorem sum_pairSum_powerset (K : ℕ) (u w : Mat) (V : Finset ℕ) (d : ℕ) (hd : 2 ≤ d) :
    ∑ e ∈ V.powersetCard d, pairSum K u w e = (Nat.choose (V.card - 2) (d - 2) : ℚ) * pairSum K u w V :=
  count_pairs_lt V d hd (aij K u w)

theorem kappa_eq (N d : ℕ) : kappa N d = (Nat.choose (N - 2) (d - 2) : ℚ) * d * ((d : ℚ) - 1) / 2 := by
  unfold kappa; rw [choose_eq]

theorem choose_cast_pos (N d : ℕ) (hd : 2 ≤ d) (hN : d ≤ N) : (0 : ℚ) < (Nat.choose (N - 2) (d - 2) : ℚ) :=
  Nat.cast_pos.mpr (Nat.choose_pos (by omega))

theorem d_pos (d : ℕ) (hd : 2 ≤ d) : (0 : ℚ) < (d : ℚ) ∧ (0 : ℚ) < (d : ℚ) - 1 := by
  have h : (2 : ℚ) ≤ (d : ℚ) := by exact_mod_cast hd
  exact ⟨zero_lt_two.trans_le h, sub_pos.mpr (one_lt_two.trans_le h)⟩

theorem kappa_pos (N d : ℕ) (hd : 2 ≤ d) (hN : d ≤ N) : 0 < kappa N d := by
  rw [kappa_eq]
  have h1 := choose_cast_pos N d hd hN
  obtain ⟨h2, h3⟩ := d_pos d hd
  exact div_pos (mul_pos (mul_pos h1 h2) h3) (by norm_num)

theorem mem_dims (lo D dd : ℕ) (h : dd ∈ dims lo D) : lo ≤ dd ∧ dd ≤ D := by
  unfold dims at h
  rw [List.mem_range'_1] at h
  omega

theorem Cterm_pos (dd : ℕ) (h : 2 ≤ dd) : 0 < Cterm dd := by
  obtain ⟨h1, h2⟩ := d_pos dd h
  unfold Cterm; positivity

theorem C_pos (D : ℕ) (hD : 2 ≤ D) : 0 < C (dims 2 D) := by
  unfold C
  apply sumL_pos
  · unfold dims
    have : D + 1 - 2 = (D - 2) + 1 := by omega
    rw [this, List.range'_succ]; simp
  · intro x hx; exact Cterm_pos x (mem_dims 2 D x hx).1

theorem C_nonneg (D : ℕ) : 0 ≤ C (dims 2 D) := by
  by_cases hD : 2 ≤ D
  · exact (C_pos D hD).le
  · have : dims 2 D = [] := by
      unfold dims
      have : D + 1 - 2 = 0 := by omega
      rw [this]; rfl
    rw [this]; exact le_refl 0

theorem Cterm_eq (N d : ℕ) (hd : 2 ≤ d) (hN : d ≤ N) : Cterm d = (Nat.choose (N - 2) (d - 2) : ℚ) / kappa N d := by
  unfold Cterm
  rw [kappa_eq, div_div_eq_mul_div, mul_assoc, mul_div_mul_left _ _ (choose_cast_pos N d hd hN).ne']

theorem mul_Cterm (d : ℕ) (hd : 2 ≤ d) : (d : ℚ) * Cterm d = 2 / ((d : ℚ) - 1) := by
  unfold Cterm
  rw [mul_div_assoc', mul_div_mul_left _ _ (d_pos d hd).1.ne']

theorem dim_closed (N K : ℕ) (u w : Mat) (d : ℕ) (hd : 2 ≤ d) (hN : d ≤ N) :
    ∑ e ∈ (range N).powersetCard d, pairSum K u w e / kappa N d = Cterm d * pairSum K u w (range N) := by
  rw [← Finset.sum_div, sum_pairSum_powerset K u w (range N) d hd, card_range, Cterm_eq N d hd hN, mul_div_right_comm]

/-- every hyperedge of size `d` is counted once for each of its `d` nodes -/
theorem sum_nodes_powerset (N d : ℕ) (g : Finset ℕ → ℚ) :
    ∑ i ∈ range N, ∑ e ∈ (range N).powersetCard d with i ∈ e, g e
      = (d : ℚ) * ∑ e ∈ (range N).powersetCard d, g e := by
  rw [Finset.sum_comm' (t' := (range N).powersetCard d) (s' := fun e => e), Finset.mul_sum]
  · exact Finset.sum_congr rfl fun e he => by rw [Finset.sum_const, nsmul_eq_mul, (mem_powersetCard.mp he).2]
  · intro i e
    simp only [mem_filter, mem_powersetCard]
    exact ⟨fun ⟨_, he, hi⟩ => ⟨hi, he⟩, fun ⟨hi, he⟩ => ⟨he.1 hi, he, hi⟩⟩

theorem sum_sumL (S : Finset ℕ) (ds : List ℕ) (f : ℕ → ℕ → ℚ) :
    ∑ i ∈ S, sumL ds (f i) = sumL ds fun d => ∑ i ∈ S, f i d := by
  induction ds with
  | nil => simp [sumL_nil]
  | cons d ds ih => simp only [sumL_cons, Finset.sum_add_distrib, ih]

theorem prodFrom_pos (lo len : ℕ) (hlo : 1 ≤ lo) : 0 < prodFrom lo len := by
  induction len with
  | zero => simp [prodFrom]
  | succ n ih => simp only [prodFrom]; exact Nat.mul_pos ih (by omega)

theorem binomDen_eq (k : ℕ) : binomDen k = k.factorial := by
  unfold binomDen
  induction k with
  | zero => simp [prodFrom]
  | succ n ih => simp only [prodFrom, ih, Nat.factorial_succ]; ring

theorem prodFrom_mul_factorial (m k : ℕ) : prodFrom (m + 1) k * m.factorial = (m + k).factorial := by
  induction k with
  | zero => simp [prodFrom]
  | succ n ih =>
    simp only [prodFrom]
    have : (m + (n + 1)).factorial = (m + n + 1) * (m + n).factorial := by
      rw [← Nat.add_assoc, Nat.factorial_succ]
    rw [this, ← ih]; ring

theorem binomNum_eq (n k : ℕ) (hk : k ≤ n) : binomNum n k = binomDen k * Nat.choose n k := by
  unfold binomNum
  have h1 := prodFrom_mul_factorial (n - k) k
  have h2 : n - k + k = n := by omega
  rw [h2] at h1
  have h3 := Nat.choose_mul_factorial_mul_factorial hk
  have hpos : 0 < (n - k).factorial := Nat.factorial_pos _
  apply Nat.eq_of_mul_eq_mul_right hpos
  rw [h1, binomDen_eq, ← h3]; ring

/-- `np.log(np.arange(lo, lo + len)).sum()` is the logarithm of the product (`lo ≥ 1`: no factor is 0) -/
theorem log_prodFrom (lo len : ℕ) (hlo : 1 ≤ lo) :
    Real.log (prodFrom lo len : ℝ) = ∑ i ∈ range len, Real.log ((lo + i : ℕ) : ℝ) := by
  induction len with
  | zero => simp [prodFrom]
  | succ n ih =>
    have hp : ((prodFrom lo n : ℕ) : ℝ) ≠ 0 := by
      have := prodFrom_pos lo n hlo
      exact_mod_cast this.ne'
    have hq : ((lo + n : ℕ) : ℝ) ≠ 0 := by
      have : 0 < lo + n := by omega
      exact_mod_cast this.ne'
    simp only [prodFrom, Nat.cast_mul, Finset.sum_range_succ]
    rw [Real.log_mul hp hq, ih]

theorem kappaProd_eq (N d : ℕ) (hd : 2 ≤ d) (hN : d ≤ N) : kappaProd N d = kappa N d := by
  unfold kappaProd
  rw [kappa_eq, binomNum_eq (N - 2) (d - 2) (by omega)]
  have hden : ((binomDen (d - 2) : ℕ) : ℚ) ≠ 0 := by
    have := prodFrom_pos 1 (d - 2) (le_refl 1)
    unfold binomDen
    exact_mod_cast this.ne'
  rw [Nat.cast_mul, mul_div_cancel_left₀ _ hden]

end C15
