import Hgxv.Proofs.C15Loop
/-! # C15 — D28: with `w_prior > 0` the UNPENALISED likelihood can decrease between consecutive `n_iter`

Concrete data (the harness replays the same numbers on the real code every run):
`u = [[3,1],[2,0],[1,1]]` supplied, hyperedges `(0,1)`, `(0,2)` with weight 3, assortative, `w_prior = 1`,
initial `w = I`.  One pass gives `w = diag(7/16, 3/8)`, two passes `diag(4/9, 1/3)`; the log-likelihood goes
`3 log(21/8) + 3 log(27/16) − 83/16  →  3 log(8/3) + 3 log(5/3) − 47/9`, a decrease of about 0.0247.

Also: memberships `sglU` for which a denominator of `_w_update` vanishes, an affinity `exW` and the stopping rule
`exStop` for the non-vacuity examples.  Everything about the concrete arrays is evaluated (`decide +kernel` on closed rational terms); facts quantified
over all indices come from the list-level lemmas of `C15Sum` (`matOf_nonneg_of_mem`, `matOf_symm_square`). -/
open Finset
namespace C15

def witU : List (List Rat) := [[3, 1], [2, 0], [1, 1]]
def witD : Data := dataOf 3 2 [[0, 1], [0, 2]] [3, 3]
def witW0 : List (List Rat) := [[1, 0], [0, 1]]
def witW1 : List (List Rat) := [[7/16, 0], [0, 3/8]]
def witW2 : List (List Rat) := [[4/9, 0], [0, 1/3]]
def witR : Mat := fun _ _ => 1

theorem wit_step1 : toRows 2 2 (wUpdate witD (matOf witU) (matOf witW0) witR) = witW1 := by decide +kernel

theorem wit_step2 : toRows 2 2 (wUpdate witD (matOf witU) (matOf witW1) witR) = witW2 := by decide +kernel

theorem wit_after1 (ru : Mat) : (emLoop witD true false ru witR 1 { u := witU, w := witW0 }).w = witW1 := wit_step1

theorem wit_after2 (ru : Mat) : (emLoop witD true false ru witR 2 { u := witU, w := witW0 }).w = witW2 := by
  rw [emLoop, emStep_w_free, emLoop_u_fixed, wit_after1]
  exact wit_step2

theorem wit_penLik (w : Mat) : penLik witD (matOf witU) (fun _ _ => 0) w
    = 3 * Real.log ((poisson 3 2 (matOf witU) w [0, 1] : ℚ) : ℝ)
      + 3 * Real.log ((poisson 3 2 (matOf witU) w [0, 2] : ℚ) : ℝ) - ((bfSum 3 2 (matOf witU) w : ℚ) : ℝ) := by
  show ∑ e ∈ range 2, ((witD.A e : ℚ) : ℝ) * Real.log ((poisson 3 2 (matOf witU) w (witD.edge e) : ℚ) : ℝ)
    - ((bfSum 3 2 (matOf witU) w + ∑ a ∈ range 2, ∑ b ∈ range 2, 0 * w a b : ℚ) : ℝ) = _
  simp only [zero_mul, Finset.sum_const_zero, add_zero, Finset.sum_range_succ, Finset.sum_range_zero, zero_add]
  show ((3 : ℚ) : ℝ) * _ + ((3 : ℚ) : ℝ) * _ - _ = _
  rw [Rat.cast_ofNat]
  rfl

theorem wit_lik1 : penLik witD (matOf witU) (fun _ _ => 0) (matOf witW1)
    = 3 * Real.log (21 / 8) + 3 * Real.log (27 / 16) - 83 / 16 := by
  have h : poisson 3 2 (matOf witU) (matOf witW1) [0, 1] = 21 / 8 ∧
      poisson 3 2 (matOf witU) (matOf witW1) [0, 2] = 27 / 16 ∧ bfSum 3 2 (matOf witU) (matOf witW1) = 83 / 16 := by
    decide +kernel
  rw [wit_penLik, h.1, h.2.1, h.2.2]
  simp only [Rat.cast_div, Rat.cast_ofNat]

theorem wit_lik2 : penLik witD (matOf witU) (fun _ _ => 0) (matOf witW2)
    = 3 * Real.log (8 / 3) + 3 * Real.log (5 / 3) - 47 / 9 := by
  have h : poisson 3 2 (matOf witU) (matOf witW2) [0, 1] = 8 / 3 ∧
      poisson 3 2 (matOf witU) (matOf witW2) [0, 2] = 5 / 3 ∧ bfSum 3 2 (matOf witU) (matOf witW2) = 47 / 9 := by
    decide +kernel
  rw [wit_penLik, h.1, h.2.1, h.2.2]
  simp only [Rat.cast_div, Rat.cast_ofNat]

theorem log_diff_le (a b : ℝ) (ha : 0 < a) (hb : 0 < b) : Real.log b - Real.log a ≤ b / a - 1 := by
  rw [← Real.log_div hb.ne' ha.ne']
  exact Real.log_le_sub_one_of_pos (div_pos hb ha)

theorem wit_ineq : 3 * Real.log (8 / 3) + 3 * Real.log (5 / 3) - 47 / 9
    < 3 * Real.log (21 / 8) + 3 * Real.log (27 / 16) - 83 / 16 := by
  linarith [log_diff_le (21 / 8) (8 / 3) (by norm_num) (by norm_num),
    log_diff_le (27 / 16) (5 / 3) (by norm_num) (by norm_num)]

theorem witU_nonneg : ∀ i a, 0 ≤ matOf witU i a := matOf_nonneg_of_mem witU (by decide +kernel)

theorem witW0_nonneg : ∀ a b, 0 ≤ matOf witW0 a b := matOf_nonneg_of_mem witW0 (by decide +kernel)

theorem witD_lam : ∀ e < witD.E, 0 < poisson witD.N witD.K (matOf witU) (matOf witW0) (witD.edge e) := by
  decide +kernel

theorem witD_A : ∀ e < witD.E, 0 < witD.A e := by decide +kernel

theorem witD_den : ∀ a < witD.K, ∀ b < witD.K, 0 < wDen witD.N (matOf witU) a b + witR a b := by
  intro a _ b _
  rw [wDen_eq]
  have := chat_nonneg (matOf witU) witU_nonneg (range witD.N) a b
  unfold witR; linarith

theorem witW0_symm : ∀ a b, matOf witW0 a b = matOf witW0 b a :=
  matOf_symm_square witW0 (by decide) (by decide +kernel)

theorem witD_size : ∀ e < witD.E, 2 ≤ (witD.edge e).length ∧ (witD.edge e).length ≤ witD.N := by
  decide +kernel

/-! memberships in which community 1 is held by node 0 alone: the denominator of `_w_update` for the pair `(1, 1)`
vanishes (the guarded branch, D46), the hypotheses of `C15_ascent` hold -/

def sglU : List (List Rat) := [[3, 1], [2, 0], [1, 0]]

theorem sglU_nonneg : ∀ i a, 0 ≤ matOf sglU i a := matOf_nonneg_of_mem sglU (by decide +kernel)

theorem sgl_lam : ∀ e < witD.E, 0 < poisson witD.N witD.K (matOf sglU) (matOf witW0) (witD.edge e) := by
  decide +kernel

theorem sgl_den : wDen witD.N (matOf sglU) 1 1 + 0 = 0 := by
  decide +kernel

def exW : Mat := matOf [[1, 2], [2, 3]]

theorem exW_symm : ∀ a < 2, ∀ b < 2, exW a b = exW b a := by
  decide +kernel

def exStop : Option Stop := some { tol := 1 / 2, every := 1 }

/-- evaluated once; the examples of `Props/C15.lean` about this run cite it -/
theorem wit_run : (fitRun witD (some witU) none [] witW0 (fun _ _ => 0) witR exStop 3).reached = true ∧
    (fitRun witD (some witU) none [] witW0 (fun _ _ => 0) witR exStop 3).it = 1 ∧
    (fitRun witD (some witU) none [] witW0 (fun _ _ => 0) witR exStop 3).p.w = witW2 := by decide +kernel

end C15
