import Hgxv.Proofs.ListLib
/-! List and `foldlM` lemmas used by the C10 proofs (positions of a list, loops in `Option` whose every step succeeds).  Core Lean only. -/
namespace C10

theorem getElem?_map_inj {α β : Type} {f : α → β} (hf : Function.Injective f) {l : List α} (hl : l.Nodup)
    {i j : Nat} {o : β} (hi : l[i]?.map f = some o) (hj : l[j]?.map f = some o) : i = j := by
  obtain ⟨x, hx, rfl⟩ := Option.map_eq_some_iff.1 hi
  obtain ⟨y, hy, hxy⟩ := Option.map_eq_some_iff.1 hj
  rw [hf hxy] at hy
  exact (List.getElem?_inj (List.getElem?_eq_some_iff.1 hx).1 hl).1 (hx.trans hy.symm)

theorem map_range_getElem {α β : Type} (l : List α) (f : Nat → β) (g : α → β)
    (h : ∀ i x, l[i]? = some x → f i = g x) : (List.range l.length).map f = l.map g := by
  apply List.ext_getElem (by simp)
  intro i h1 h2
  simpa using h i _ (List.getElem?_eq_getElem (by simpa using h1))

theorem countP_range_getElem {α : Type} (l : List α) (f : Nat → Bool) (p : α → Bool)
    (h : ∀ i x, l[i]? = some x → f i = p x) : (List.range l.length).countP f = l.countP p := by
  simpa [List.countP_map] using congrArg (List.countP id) (map_range_getElem l f p h)

theorem getElem?_eq_some_iff_idxOf {l : List Nat} (hnd : l.Nodup) {x : Nat} (hx : x ∈ l) (i : Nat) :
    l[i]? = some x ↔ l.idxOf x = i := by
  constructor
  · intro h; obtain ⟨hi, rfl⟩ := List.getElem?_eq_some_iff.1 h; exact hnd.idxOf_getElem i hi
  · rintro rfl; rw [List.getElem?_eq_getElem (List.idxOf_lt_length_iff.2 hx), List.getElem_idxOf]

theorem two_distinct_iff {α : Type} (l : List α) (h : l.Nodup) : (∃ e ∈ l, ∃ f ∈ l, e ≠ f) ↔ 2 ≤ l.length := by
  constructor
  · rintro ⟨e, he, f, hf, hne⟩
    match l, he, hf with
    | [x], he, hf =>
      simp only [List.mem_singleton] at he hf
      exact absurd (he.trans hf.symm) hne
    | x :: y :: t, _, _ => simp
  · intro h2
    match l, h, h2 with
    | x :: y :: t, h, _ =>
      refine ⟨x, by simp, y, by simp, ?_⟩
      intro e; subst e; simp at h

theorem foldlM_prefix_inv {σ α : Type} (f : σ → α → Option σ) (I : List α → σ → Prop) (ps : List α)
    (step : ∀ qs st p, p ∈ ps → I qs st → ∃ st', f st p = some st' ∧ I (qs ++ [p]) st')
    (qs : List α) (st : σ) (h0 : I qs st) : ∃ st', ps.foldlM f st = some st' ∧ I (qs ++ ps) st' := by
  induction ps generalizing qs st with
  | nil => exact ⟨st, rfl, by rwa [List.append_nil]⟩
  | cons p t ih =>
    obtain ⟨st1, h1, hI1⟩ := step qs st p List.mem_cons_self h0
    obtain ⟨st', h2, hI2⟩ := ih (fun qs st q hq => step qs st q (List.mem_cons_of_mem _ hq)) _ st1 hI1
    exact ⟨st', by rw [List.foldlM_cons, h1]; exact h2, by rwa [List.append_assoc] at hI2⟩

theorem ite_some_none_spec {α : Type} {c : Prop} [Decidable c] {x : α} {P : Prop} {Q : α → Prop} (hc : ¬c ↔ P)
    (hx : Q x) :
    ((if c then some x else none) = none ↔ P) ∧ ∀ r, (if c then some x else none) = some r → Q r := by
  by_cases h : c
  · rw [if_pos h]
    exact ⟨⟨fun h' => (nomatch h'), fun hp => absurd h (hc.2 hp)⟩, fun r hr => Option.some.inj hr ▸ hx⟩
  · rw [if_neg h]
    exact ⟨⟨fun _ => hc.1 h, fun _ => rfl⟩, fun r hr => (nomatch hr)⟩

end C10
