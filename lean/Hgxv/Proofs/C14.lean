import Hgxv.Model.C14
import Hgxv.Proofs.AL
import Hgxv.Proofs.SortLib
/-! `sortE`, `insNew` / `insAll` / `dedup` and the association-list facts in the form C14 uses them (core Lean only). -/
namespace C14

theorem insertSorted_eq : insertSorted = NatSort.insert := by
  funext a l
  induction l with
  | nil => rfl
  | cons b bs ih => simp only [insertSorted, NatSort.insert, ih]

theorem sortE_eq : sortE = NatSort.isort := by
  funext l; simp only [sortE, NatSort.isort, insertSorted_eq]

theorem sortE_perm (e : List Nat) : (sortE e).Perm e := sortE_eq ▸ NatSort.isort_perm e

@[simp] theorem mem_sortE {e : List Nat} {x : Nat} : x ∈ sortE e ↔ x ∈ e := (sortE_perm e).mem_iff
@[simp] theorem length_sortE (e : List Nat) : (sortE e).length = e.length := (sortE_perm e).length_eq
@[simp] theorem nodup_sortE {e : List Nat} : (sortE e).Nodup ↔ e.Nodup := (sortE_perm e).nodup_iff

theorem sortE_sorted (e : List Nat) : (sortE e).Pairwise (· ≤ ·) := sortE_eq ▸ NatSort.isort_sorted e

theorem sortE_of_sorted (e : List Nat) (h : e.Pairwise (· ≤ ·)) : sortE e = e := by
  rw [sortE_eq]; exact NatSort.isort_of_sorted h

@[simp] theorem sortE_sortE (e : List Nat) : sortE (sortE e) = sortE e := sortE_of_sorted _ (sortE_sorted e)

section ins
variable {α : Type} [DecidableEq α]

theorem mem_insNew {acc : List α} {x y : α} : y ∈ insNew acc x ↔ y ∈ acc ∨ y = x := ListLib.mem_addIfNew Iff.rfl y

theorem nodup_insNew {acc : List α} {x : α} (h : acc.Nodup) : (insNew acc x).Nodup := ListLib.nodup_addIfNew Iff.rfl h

theorem length_insNew_le (acc : List α) (x : α) : (insNew acc x).length ≤ acc.length + 1 := by
  unfold insNew; split <;> simp

theorem le_length_insNew (acc : List α) (x : α) : acc.length ≤ (insNew acc x).length := by
  unfold insNew; split <;> simp

theorem insNew_of_mem {acc : List α} {x : α} (h : x ∈ acc) : insNew acc x = acc := by
  unfold insNew; simp [h]

theorem insNew_of_not_mem {acc : List α} {x : α} (h : x ∉ acc) : insNew acc x = acc ++ [x] := by
  unfold insNew; simp [h]

@[simp] theorem insAll_nil (acc : List α) : insAll acc [] = acc := rfl
@[simp] theorem insAll_cons (acc : List α) (x : α) (l : List α) : insAll acc (x :: l) = insAll (insNew acc x) l := rfl

theorem insAll_append (acc l l' : List α) : insAll acc (l ++ l') = insAll (insAll acc l) l' := by
  unfold insAll; exact List.foldl_append

theorem mem_insAll {l acc : List α} {y : α} : y ∈ insAll acc l ↔ y ∈ acc ∨ y ∈ l :=
  ListLib.mem_foldl_of_step insNew (fun _ _ _ => mem_insNew) l acc y

theorem nodup_insAll {l acc : List α} (h : acc.Nodup) : (insAll acc l).Nodup :=
  ListLib.foldl_inv insNew (fun _ _ => nodup_insNew) l acc h

theorem length_insAll_le (l : List α) : ∀ (acc : List α), (insAll acc l).length ≤ acc.length + l.length := by
  induction l with
  | nil => simp
  | cons x l ih => intro acc; have := ih (insNew acc x); have := length_insNew_le acc x; simp; omega

theorem le_length_insAll (l : List α) : ∀ (acc : List α), acc.length ≤ (insAll acc l).length := by
  induction l with
  | nil => simp
  | cons x l ih => intro acc; have := ih (insNew acc x); have := le_length_insNew acc x; simp; omega

theorem insAll_of_subset {l : List α} : ∀ {acc : List α}, (∀ x ∈ l, x ∈ acc) → insAll acc l = acc := by
  induction l with
  | nil => simp
  | cons x l ih =>
    intro acc h
    rw [insAll_cons, insNew_of_mem (h x (by simp))]
    exact ih (fun y hy => h y (by simp [hy]))

theorem insAll_fresh {l : List α} : ∀ {acc : List α}, l.Nodup → (∀ x ∈ l, x ∉ acc) → insAll acc l = acc ++ l := by
  induction l with
  | nil => simp
  | cons x l ih =>
    intro acc hnd hfresh
    rw [insAll_cons, insNew_of_not_mem (hfresh x (by simp))]
    rw [List.nodup_cons] at hnd
    rw [ih hnd.2]
    · simp
    · intro y hy; simp; exact ⟨hfresh y (by simp [hy]), fun h => hnd.1 (h ▸ hy)⟩

theorem filter_insNew_of_not (p : α → Bool) (acc : List α) (x : α) (h : p x = false) :
    (insNew acc x).filter p = acc.filter p := by
  unfold insNew; split <;> simp [h]

theorem filter_insAll_of_not (p : α → Bool) {l : List α} : ∀ (acc : List α), (∀ x ∈ l, p x = false) →
    (insAll acc l).filter p = acc.filter p := by
  induction l with
  | nil => simp
  | cons x l ih =>
    intro acc h
    rw [insAll_cons, ih _ (fun y hy => h y (by simp [hy])), filter_insNew_of_not p acc x (h x (by simp))]

theorem mem_dedup {l : List α} {y : α} : y ∈ dedup l ↔ y ∈ l := by simp [dedup, mem_insAll]
theorem nodup_dedup (l : List α) : (dedup l).Nodup := nodup_insAll List.nodup_nil
theorem length_dedup_le (l : List α) : (dedup l).length ≤ l.length := by
  have := length_insAll_le l []; simpa [dedup] using this
theorem length_dedup_pos {l : List α} (h : l ≠ []) : 1 ≤ (dedup l).length := by
  obtain ⟨x, hx⟩ := List.exists_mem_of_ne_nil l h
  have : x ∈ dedup l := mem_dedup.mpr hx
  exact List.length_pos_of_mem this

end ins

section al
variable {β : Type}

theorem AL.erase_eq_filter (l : List (Edge × β)) (k : Edge) (h : (AL.keys l).Nodup) :
    AL.erase l k = l.filter (fun r => !(r.1 == k)) :=
  (_root_.AL.erase_eq_filter l k h).trans (List.filter_congr fun r _ => by by_cases hr : r.1 = k <;> simp [hr])

theorem AL.mem_keys_iff (l : List (Edge × β)) (k : Edge) : k ∈ AL.keys l ↔ ∃ v, (k, v) ∈ l :=
  AL.mem_keys_iff_exists l k

end al

end C14
