import Hgxv.Model.C01X
import Hgxv.Proofs.C01Query
import Hgxv.Proofs.C01Cor
/-! C01: the extraction routines and the whole-object machine refine their abstract twins. -/
namespace C01
open AL

theorem andThen_sim (r : Store × Out) (r' : Spec × Out) (f : Store → Store × Out) (g : Spec → Spec × Out)
    (h : Sim r r') (hf : ∀ s, Inv s → Sim (f s) (g (abs s))) : Sim (andThen r f) (andThen r' g) := by
  obtain ⟨s, o⟩ := r
  obtain ⟨a, o'⟩ := r'
  obtain ⟨h1, h2, h3⟩ := h
  simp only at h1 h2 h3
  subst h1; subst h2
  cases o with
  | ok => exact hf s h3
  | rej => exact ⟨rfl, rfl, h3⟩

theorem andThen_rej {σ : Type} {r : σ × Out} (h : r.2 = .rej) (f : σ → σ × Out) : (andThen r f).2 = .rej := by
  obtain ⟨s, o⟩ := r
  cases h; rfl

theorem Inv.key_nodup_of_mem {s : Store} (h : Inv s) {e : Edge} (he : e ∈ keys s.edgeList) : e.Nodup := by
  obtain ⟨id, hid⟩ := Option.isSome_iff_exists.mp ((mem_keys_iff _ _).mp he)
  exact (h.key_canon e id hid).1

theorem sim_copyNodeMeta (src h : Store) (n : Node) (hs : Inv src) (hh : Inv h) :
    Sim (copyNodeMeta src h n) (Spec.copyNodeMeta (abs src) (abs h) n) := by
  unfold copyNodeMeta Spec.copyNodeMeta
  have e1 : (get? (abs src).nodes n).isSome = (get? src.adj n).isSome := hs.node_agree n
  have e2 : (abs src).nodes = src.nmeta := rfl
  rw [e1, e2]
  split
  · exact sim_setNodeMeta h n _ hh
  · exact ⟨rfl, rfl, hh⟩

theorem sim_copyEdge (src h : Store) (e : Edge) (hh : Inv h) (he : e.Nodup) :
    Sim (copyEdge src h e) (Spec.copyEdge (abs src) (abs h) e) := by
  unfold copyEdge Spec.copyEdge
  rw [abs_weightOf, abs_emetaOf]
  exact sim_addEdge h e _ _ hh he

theorem sim_copyEdgeMeta (src h : Store) (e : Edge) (hh : Inv h) :
    Sim (copyEdgeMeta src h e) (Spec.copyEdgeMeta (abs src) (abs h) e) := by
  unfold copyEdgeMeta Spec.copyEdgeMeta
  rw [abs_emetaOf]
  exact sim_setEdgeMeta h e _ hh

theorem sim_copyNodeMetas (src : Store) (hs : Inv src) (ns : List Node) (h : Store) (hh : Inv h) :
    Sim (seqOps (copyNodeMeta src) h ns) (seqOps (Spec.copyNodeMeta (abs src)) (abs h) ns) :=
  seqOps_sim _ _ (fun _ => True) (fun h n hh _ => sim_copyNodeMeta src h n hs hh) ns h hh (fun _ _ => trivial)

theorem sim_copyEdges (src : Store) (es : List Edge) (hes : ∀ e ∈ es, e.Nodup) (h : Store) (hh : Inv h) :
    Sim (seqOps (copyEdge src) h es) (seqOps (Spec.copyEdge (abs src)) (abs h) es) :=
  seqOps_sim _ _ (fun e => e.Nodup) (fun h e hh he => sim_copyEdge src h e hh he) es h hh hes

theorem sim_fresh (src : Store) :
    Sim (Store.new src.weighted [], Out.ok) (Spec.new (abs src).weighted [], Out.ok) :=
  ⟨rfl, rfl, inv_new _ _⟩

theorem sim_freshNodes (src : Store) (ns : List Node) :
    Sim (addNodes (Store.new src.weighted []) ns none) (Spec.addNodes (Spec.new (abs src).weighted []) ns none) :=
  sim_addNodes (Store.new src.weighted []) ns none (inv_new _ _)

theorem sim_subhypergraph (src : Store) (ns : List Node) (hs : Inv src) :
    Sim (subhypergraph src ns) (Spec.subhypergraph (abs src) ns) := by
  unfold subhypergraph Spec.subhypergraph
  apply andThen_sim
  · exact sim_freshNodes src ns
  · intro h hh
    apply andThen_sim
    · exact sim_copyNodeMetas src hs ns h hh
    · intro h hh
      rw [abs_keys]
      exact sim_copyEdges src _ (fun e he => hs.key_nodup_of_mem ((List.mem_filter.mp he).1)) h hh

theorem keepEdge_size (k : Int) (e : Edge) : keepEdge (some (k - 1)) false e = true ↔ (e.length : Int) = k := by
  simp only [keepEdge, Bool.false_eq_true, if_false, beq_iff_eq]
  omega

theorem mem_edgesOfSizes_iff (ks : List Int) (es : List Edge) (e : Edge) :
    e ∈ edgesOfSizes ks es ↔ e ∈ es ∧ (e.length : Int) ∈ ks := by
  unfold edgesOfSizes
  rw [List.mem_flatMap]
  constructor
  · rintro ⟨k, hk, he⟩
    obtain ⟨h1, h2⟩ := List.mem_filter.mp he
    rw [keepEdge_size] at h2
    exact ⟨h1, h2 ▸ List.mem_eraseDups.mp hk⟩
  · rintro ⟨h1, h2⟩
    exact ⟨(e.length : Int), List.mem_eraseDups.mpr h2, List.mem_filter.mpr ⟨h1, (keepEdge_size _ _).mpr rfl⟩⟩

theorem sim_subOrders (src : Store) (os ks : Option (List Int)) (keep : Bool) (hs : Inv src) :
    Sim (subOrders src os ks keep) (Spec.subOrders (abs src) os ks keep) := by
  unfold subOrders Spec.subOrders
  cases sizesArg os ks with
  | none => exact ⟨rfl, rfl, inv_new _ _⟩
  | some sz =>
    simp only []
    apply andThen_sim
    · cases keep with
      | false => exact sim_fresh src
      | true =>
        simp only [if_true]
        rw [nodes_keys hs]
        apply andThen_sim
        · exact sim_freshNodes src _
        · intro h hh
          exact sim_copyNodeMetas src hs _ h hh
    · intro h hh
      apply andThen_sim
      · rw [abs_keys]
        exact sim_copyEdges src _ (fun e he => hs.key_nodup_of_mem ((mem_edgesOfSizes_iff _ _ e).mp he).1) h hh
      · intro h hh
        cases keep with
        | true => exact ⟨rfl, rfl, hh⟩
        | false =>
          simp only [Bool.false_eq_true, if_false]
          rw [nodes_keys hh]
          exact sim_copyNodeMetas src hs _ h hh

theorem mem_edgesF {s : Store} {f : Filter} {es : List Edge} (h : edgesF s f = some es) :
    ∀ e ∈ es, e ∈ keys s.edgeList := by
  unfold edgesF at h
  cases hr : f.resolve with
  | none => rw [hr] at h; cases h
  | some o =>
    rw [hr] at h
    simp only [Option.map_some, Option.some.injEq] at h
    subst h
    intro e he
    exact (List.mem_filter.mp he).1

theorem sim_subEdges (src : Store) (f : Filter) (iso : Bool) (hs : Inv src) :
    Sim (subEdges src f iso) (Spec.subEdges (abs src) f iso) := by
  unfold subEdges Spec.subEdges
  rw [edgesF_abs]
  cases hes : edgesF src f with
  | none => exact ⟨rfl, rfl, inv_new _ _⟩
  | some es =>
    simp only []
    have hmem := mem_edgesF hes
    apply andThen_sim
    · cases iso with
      | false => exact sim_fresh src
      | true =>
        simp only [if_true]
        rw [nodes_keys hs]
        exact sim_freshNodes src _
    · intro h hh
      apply andThen_sim
      · rw [weightOf_abs]
        exact sim_addEdges h es _ none hh (fun r hr => hs.key_nodup_of_mem (hmem r hr))
      · intro h hh
        apply andThen_sim
        · rw [nodes_keys hh]
          exact sim_copyNodeMetas src hs _ h hh
        · intro h hh
          exact seqOps_sim _ _ (fun _ => True) (fun h e hh _ => sim_copyEdgeMeta src h e hh) es h hh
            (fun _ _ => trivial)

theorem sim_extract (src : Store) (x : Extract) (hs : Inv src) : Sim (extract src x) (Spec.extract (abs src) x) := by
  cases x with
  | sub ns => exact sim_subhypergraph src ns hs
  | orders os ks keep => exact sim_subOrders src os ks keep hs
  | edges f iso => exact sim_subEdges src f iso hs

theorem isClear_eq {op : Op} (h : isClear op = true) : op = .clear := by
  cases op <;> simp [isClear] at h ⊢

theorem fapply_sim (s : Full) (op : FOp) (hwf : op.WF) (h : Inv s.base) :
    fabs (s.apply op).1 = ((fabs s).apply op).1 ∧ (s.apply op).2 = ((fabs s).apply op).2 ∧
      Inv (s.apply op).1.base := by
  cases op with
  | base op =>
    obtain ⟨e1, e2, e3⟩ := sim_apply s.base op hwf h
    simp only [Full.apply, FSpec.apply]
    refine ⟨?_, e2, ?_⟩
    · cases isClear op
      · simp only [Bool.false_eq_true, if_false, fabs, e1]
      · simp only [if_true, fabs, e1]
    · cases isClear op
      · simpa only [Bool.false_eq_true, if_false] using e3
      · simpa only [if_true] using e3
  | setIncMeta raw n md =>
    refine ⟨?_, ?_, h⟩ <;> simp only [Full.apply, FSpec.apply, fabs, abs_isSome]
  | addEmptyEdge name md =>
    refine ⟨?_, ?_, h⟩ <;> simp only [Full.apply, FSpec.apply, fabs]

theorem fanswer_abs (s : Full) (h : Inv s.base) (q : FQuery) : s.answer q = (fabs s).answer q := by
  cases q with
  | base q => simp only [Full.answer, FSpec.answer, fabs, answer_abs s.base h q]
  | incMeta raw n => simp only [Full.answer, FSpec.answer, fabs, abs_isSome]
  | allIncMeta => rfl

def FStateSim (st : FState) (sa : FSState) : Prop := sa = st.map fabs ∧ ∀ s ∈ st, Inv s.base

theorem FStateSim.set {st : FState} {sa : FSState} (h : FStateSim st sa) (i : Nat) {s : Full} (hs : Inv s.base) :
    FStateSim (st.set i s) (sa.set i (fabs s)) :=
  ⟨by rw [h.1, List.map_set], fun x hx => (List.mem_or_eq_of_mem_set hx).elim (h.2 x) (fun e => e ▸ hs)⟩

theorem fstep_sim (st : FState) (sa : FSState) (c : FCmd) (hwf : c.WF) (h : FStateSim st sa) :
    FStateSim (fstep st c).1 (FSpec.step sa c).1 ∧ (fstep st c).2 = (FSpec.step sa c).2 := by
  have hinv := h.2
  obtain rfl := h.1
  cases c with
  | new i w hm =>
    simp only [fstep, FSpec.step, List.length_map]
    by_cases hc : i < st.length
    · simp only [if_pos hc]
      exact ⟨h.set i (s := { base := Store.new w hm }) (inv_new w hm), trivial⟩
    · simp only [if_neg hc]
      exact ⟨h, trivial⟩
  | copy i j =>
    simp only [fstep, FSpec.step, List.length_map, List.getElem?_map]
    cases hs : st[i]? with
    | none => exact ⟨h, rfl⟩
    | some s0 =>
      simp only [Option.map_some]
      by_cases hc : j < st.length
      · simp only [if_pos hc]
        exact ⟨h.set j (hinv _ (List.mem_of_getElem? hs)), trivial⟩
      · simp only [if_neg hc]
        exact ⟨h, trivial⟩
  | on i op =>
    simp only [fstep, FSpec.step, List.getElem?_map]
    cases hs : st[i]? with
    | none => exact ⟨h, rfl⟩
    | some s0 =>
      obtain ⟨e1, e2, e3⟩ := fapply_sim s0 op hwf (hinv _ (List.mem_of_getElem? hs))
      simp only [Option.map_some, ← e1]
      exact ⟨h.set i e3, e2⟩
  | extract i j x =>
    simp only [fstep, FSpec.step, List.getElem?_map, List.length_map]
    cases hs : st[i]? with
    | none => exact ⟨h, rfl⟩
    | some s0 =>
      simp only [Option.map_some]
      by_cases hc : j < st.length
      · simp only [if_pos hc]
        obtain ⟨e1, e2, e3⟩ := sim_extract s0.base x (hinv _ (List.mem_of_getElem? hs))
        rw [show (fabs s0).base = abs s0.base from rfl, ← Prod.eta (Spec.extract _ x), ← e1, ← e2]
        generalize extract s0.base x = r at e3
        obtain ⟨h1, o1⟩ := r
        cases o1 with
        | rej => exact ⟨h, rfl⟩
        | ok => exact ⟨h.set j (s := { base := h1 }) e3, rfl⟩
      · simp only [if_neg hc]
        exact ⟨h, trivial⟩

theorem frun_sim : ∀ (cs : List FCmd) (st : FState) (sa : FSState), (∀ c ∈ cs, c.WF) → FStateSim st sa →
    FStateSim (frun st cs) (FSpec.run sa cs) := by
  intro cs
  induction cs with
  | nil => intro st sa _ h; exact h
  | cons c cs ih =>
    intro st sa hwf h
    simp only [frun, FSpec.run, List.foldl_cons]
    exact ih _ _ (fun c' hc' => hwf c' (List.mem_cons_of_mem _ hc')) (fstep_sim st sa c (hwf c List.mem_cons_self) h).1

theorem finit_sim (k : Nat) : FStateSim (finit k) (FSpec.init k) := by
  refine ⟨?_, ?_⟩
  · simp only [finit, FSpec.init, List.map_replicate]
    rfl
  · intro s hs
    simp only [finit, List.mem_replicate] at hs
    rw [hs.2]; exact inv_new false []

theorem fquery_sim (st : FState) (sa : FSState) (h : FStateSim st sa) (i : Nat) (q : FQuery) :
    fquery st i q = FSpec.query sa i q := by
  obtain ⟨hsa, hinv⟩ := h
  subst hsa
  simp only [fquery, FSpec.query, List.getElem?_map]
  cases hs : st[i]? with
  | none => rfl
  | some s0 => simp only [Option.map_some]; exact fanswer_abs s0 (hinv _ (List.mem_of_getElem? hs)) q

theorem full_eta (s : Full) : ({ s with base := s.base } : Full) = s := rfl

theorem fapply_rej (s : Full) (op : FOp) (hi : Inv s.base) (h : (s.apply op).2 = .rej) : (s.apply op).1 = s := by
  cases op with
  | base op =>
    simp only [Full.apply] at h ⊢
    have hb := apply_rej s.base op hi h
    cases hc : isClear op with
    | true =>
      have := isClear_eq hc
      subst this
      simp [apply, clear] at h
    | false =>
      simp only [Bool.false_eq_true, if_false, hb]
  | setIncMeta raw n md =>
    simp only [Full.apply, regSetInc] at h ⊢
    cases hp : (get? s.base.edgeList (canon raw)).isSome with
    | true => simp [hp] at h
    | false => simp
  | addEmptyEdge name md =>
    simp only [Full.apply, regAddEmpty] at h ⊢
    cases hp : (get? s.empties name).isSome with
    | true => simp
    | false => simp [hp] at h

theorem fstep_rej (st : FState) (c : FCmd) (hi : ∀ s ∈ st, Inv s.base) (h : (fstep st c).2 = .rej) :
    (fstep st c).1 = st := by
  cases c with
  | new i w hm =>
    simp only [fstep] at h ⊢
    split
    · rename_i hc; simp [hc] at h
    · rfl
  | copy i j =>
    simp only [fstep] at h ⊢
    split
    · rename_i s0 hs0
      simp only [hs0] at h
      split
      · rename_i hc; simp [hc] at h
      · rfl
    · rfl
  | on i op =>
    simp only [fstep] at h ⊢
    split
    · rename_i s0 hs0
      simp only [hs0] at h
      simp only []
      rw [fapply_rej s0 op (hi _ (List.mem_of_getElem? hs0)) h]
      obtain ⟨hlt, rfl⟩ := List.getElem?_eq_some_iff.mp hs0
      exact List.set_getElem_self hlt
    · rfl
  | extract i j x =>
    simp only [fstep] at h ⊢
    split
    · rename_i s0 hs0
      simp only [hs0] at h
      split
      · rename_i hc
        simp only [if_pos hc] at h
        generalize extract s0.base x = r at h ⊢
        obtain ⟨h1, o1⟩ := r
        cases o1 with
        | ok => simp at h
        | rej => rfl
      · rfl
    · rfl

theorem fstep_lift (st : FState) (c : Cmd) :
    (fstep st c.lift).1.map (·.base) = (step (st.map (·.base)) c).1 ∧ (fstep st c.lift).2 = (step (st.map (·.base)) c).2 := by
  cases c with
  | new i w hm =>
    simp only [Cmd.lift, fstep, step, List.length_map]
    by_cases hc : i < st.length
    · simp only [if_pos hc, List.map_set, and_self]
    · simp only [if_neg hc, and_self]
  | copy i j =>
    simp only [Cmd.lift, fstep, step, List.length_map, List.getElem?_map]
    cases hs : st[i]? with
    | none => exact ⟨rfl, rfl⟩
    | some s0 =>
      simp only [Option.map_some]
      by_cases hc : j < st.length
      · simp only [if_pos hc, List.map_set, and_self]
      · simp only [if_neg hc, and_self]
  | on i op =>
    simp only [Cmd.lift, fstep, step, List.getElem?_map]
    cases hs : st[i]? with
    | none => exact ⟨rfl, rfl⟩
    | some s0 =>
      simp only [Option.map_some, Full.apply, List.map_set, and_true]
      cases isClear op <;> rfl

theorem map_mk_base (st : State) : (st.map fun s => ({ base := s } : Full)).map (·.base) = st := by
  rw [List.map_map]; exact List.map_id' st

/-- a base state is the projection of the whole-object state with empty side tables: the base machine's
"a rejected command changes nothing" is the whole-object machine's, seen through `fstep_lift` -/
theorem step_rej (st : State) (c : Cmd) (hi : ∀ s ∈ st, Inv s) (h : (step st c).2 = .rej) : (step st c).1 = st := by
  obtain ⟨l1, l2⟩ := fstep_lift (st.map fun s => { base := s }) c
  rw [map_mk_base] at l1 l2
  rw [← l1, fstep_rej _ c.lift (fun s hs => by obtain ⟨s0, h0, rfl⟩ := List.mem_map.mp hs; exact hi s0 h0) (l2.trans h),
    map_mk_base]

theorem frun_lift : ∀ (cs : List Cmd) (st : FState),
    (frun st (cs.map Cmd.lift)).map (·.base) = run (st.map (·.base)) cs := by
  intro cs
  induction cs with
  | nil => intro st; rfl
  | cons c cs ih =>
    intro st
    simp only [frun, run, List.map_cons, List.foldl_cons]
    rw [← (fstep_lift st c).1]
    exact ih _

theorem finit_base (k : Nat) : (finit k).map (·.base) = init k := by
  simp only [finit, init, List.map_replicate]

theorem lift_wf (c : Cmd) (h : c.WF) : c.lift.WF := by
  cases c <;> exact h

end C01
