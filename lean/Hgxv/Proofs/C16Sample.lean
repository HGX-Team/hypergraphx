import Hgxv.Proofs.C16Chain
import Hgxv.Proofs.C16Output
/-! # C16 — whole runs

A run is read yield by yield: a chain state that keeps sizes and degrees, then the output stage on it.  At the end of the file:
with the reset of D48 a call on a used sampler delivers a function of the call alone (`seqCall_snd`, `callStep_snd`).  Core Lean only. -/
namespace C16

/-- `outputsOf` and `outputsOfD` are the same recursion over chain states and tapes with different stages -/
theorem outputs_spec {O : Type} {stage : Config → List Nat → Option O}
    {go : List Config → List (List Nat) → Option (List O)} (h0 : ∀ ws, go [] ws = some [])
    (h1 : ∀ c cs, go (c :: cs) [] = none)
    (h2 : ∀ c cs w ws, go (c :: cs) (w :: ws) = (stage c w).bind fun o => (go cs ws).map fun r => o :: r)
    {ys : List Config} {ws : List (List Nat)} {outs : List O} (h : go ys ws = some outs) :
    outs.length = ys.length ∧ ∀ k (hk1 : k < ys.length) (hk2 : k < outs.length),
      ∃ w, ws[k]? = some w ∧ stage ys[k] w = some outs[k] := by
  induction ys generalizing ws outs with
  | nil => rw [h0, Option.some.injEq] at h; subst h; simp
  | cons y ys ih =>
    cases ws with
    | nil => rw [h1] at h; cases h
    | cons w ws =>
      rw [h2] at h
      obtain ⟨o, ho, h'⟩ := Option.bind_eq_some_iff.mp h
      obtain ⟨r, hr, rfl⟩ := Option.map_eq_some_iff.mp h'
      obtain ⟨i1, i2⟩ := ih hr
      refine ⟨by simp [i1], fun k hk1 hk2 => ?_⟩
      cases k with
      | zero => exact ⟨w, by simp, by simpa using ho⟩
      | succ k =>
        obtain ⟨w', e1, e2⟩ := i2 k (by simpa using hk1) (by simpa using hk2)
        exact ⟨w', by simpa using e1, by simpa using e2⟩

theorem routine_yields {O : Type} {stage : Config → List Nat → Option O}
    {go : List Config → List (List Nat) → Option (List O)} (h0 : ∀ ws, go [] ws = some [])
    (h1 : ∀ c cs, go (c :: cs) [] = none)
    (h2 : ∀ c cs w ws, go (c :: cs) (w :: ws) = (stage c w).bind fun o => (go cs ws).map fun r => o :: r)
    {cfg fixed : Config} {burn : List StepDraw} {thins : List (List StepDraw)} {tape : List (List Nat)} {outs : List O}
    (hn : AllNodup cfg) (hf : AllNodup fixed)
    (h : (mcmcRoutine cfg fixed burn thins).bind (fun ys => go ys tape) = some outs) :
    outs.length = thins.length ∧ ∀ k (hk : k < outs.length), ∃ y w, tape[k]? = some w ∧
      stage y w = some outs[k] ∧ Keeps (cfg ++ fixed) y ∧ AllNodup y := by
  obtain ⟨ys, hm, ho⟩ := Option.bind_eq_some_iff.mp h
  obtain ⟨a, b⟩ := outputs_spec h0 h1 h2 ho
  obtain ⟨hl, hall⟩ := mcmcRoutine_spec hn hm
  refine ⟨by omega, fun k hk => ?_⟩
  have hk' : k < ys.length := by omega
  obtain ⟨w, hw, ho'⟩ := b k hk' hk
  obtain ⟨hkeep, hnd⟩ := hall ys[k] (List.getElem_mem hk')
  exact ⟨ys[k], w, hw, ho', hkeep, hnd hf⟩

theorem sampleFromConfig_yields {cfg fixed : Config} {labels : Option (List Nat)} {t : OwnTape}
    {outs : List (List (Hye × Nat))} (hn : AllNodup cfg) (hf : AllNodup fixed)
    (h : sampleFromConfig cfg fixed labels t = some outs) :
    outs.length = t.thins.length ∧ ∀ k (hk : k < outs.length), ∃ y q, t.quantiles[k]? = some q ∧
      outputStage y (truncWeights q) labels = some outs[k] ∧ Keeps (cfg ++ fixed) y ∧ AllNodup y := by
  obtain ⟨hl, hall⟩ := routine_yields (stage := fun c w => outputStage c w labels) (go := fun ys ws => outputsOf ys ws labels)
    (fun _ => rfl) (fun _ _ => rfl) (fun _ _ _ _ => rfl) hn hf h
  refine ⟨hl, fun k hk => ?_⟩
  obtain ⟨y, w, hw, r⟩ := hall k hk
  obtain ⟨q, hq, rfl⟩ := Option.map_eq_some_iff.mp (List.getElem?_map .. ▸ hw)
  exact ⟨y, q, hq, r⟩

theorem truncWeight_pos (q : Nat) : 0 < truncWeight q := by unfold truncWeight; omega

theorem truncWeights_pos (qs : List Nat) : ∀ w ∈ truncWeights qs, 0 < w := by
  intro w hw
  obtain ⟨q, _, rfl⟩ := List.mem_map.mp hw
  exact truncWeight_pos q

theorem transform_spec {ls : List Nat} {e e' : Hye} (h : transform ls e = some e') :
    e = e'.map (lab ls) ∧ ∀ i ∈ e', i < ls.length :=
  ListLib.mapM_option_comap (P := fun i => i < ls.length) (fun x _ i hi => by
    simp only at hi
    split at hi
    · rename_i hx
      cases hi
      exact ⟨by simp [lab, List.getElem?_eq_getElem hx, List.getElem_idxOf hx], hx⟩
    · cases hi) h

theorem transformAll_spec {ls : List Nat} {edges cfg : Config} (h : edges.mapM (transform ls) = some cfg) :
    edges = cfg.map (List.map (lab ls)) ∧ ∀ e ∈ cfg, ∀ i ∈ e, i < ls.length :=
  ListLib.mapM_option_comap (P := fun e => ∀ i ∈ e, i < ls.length) (fun _ _ _ he => transform_spec he) h

theorem getElem_eq_lab {ls : List Nat} {i : Nat} (hi : i < ls.length) : ls[i] = lab ls i := by
  simp [lab, List.getElem?_eq_getElem hi]

/-! ## the generated sequence is a stream: asking for fewer samples gives a prefix -/

theorem yieldsFrom_take {cfg : Config} {thins : List (List StepDraw)} {ys : List Config} (k : Nat)
    (h : yieldsFrom cfg thins = some ys) : yieldsFrom cfg (thins.take k) = some (ys.take k) := by
  induction thins generalizing cfg ys k with
  | nil => simp only [yieldsFrom, Option.some.injEq] at h; subst h; simp [yieldsFrom]
  | cons ds rest ih =>
    cases k with
    | zero => simp [yieldsFrom]
    | succ k =>
      simp only [yieldsFrom] at h
      obtain ⟨c, hs, h'⟩ := Option.bind_eq_some_iff.mp h
      obtain ⟨r, hr, rfl⟩ := Option.map_eq_some_iff.mp h'
      simp [yieldsFrom, hs, ih k hr]

theorem mcmcRoutine_take {cfg fixed : Config} {burn : List StepDraw} {thins : List (List StepDraw)}
    {ys : List Config} (k : Nat) (h : mcmcRoutine cfg fixed burn thins = some ys) :
    mcmcRoutine cfg fixed burn (thins.take k) = some (ys.take k) := by
  unfold mcmcRoutine at h ⊢
  obtain ⟨c0, hb, h'⟩ := Option.bind_eq_some_iff.mp h
  obtain ⟨zs, hy, rfl⟩ := Option.map_eq_some_iff.mp h'
  simp [hb, yieldsFrom_take k hy, List.map_take]

theorem outputsOf_take {ys : List Config} {ws : List (List Nat)} {labels : Option (List Nat)}
    {outs : List (List (Hye × Nat))} (k : Nat) (h : outputsOf ys ws labels = some outs) :
    outputsOf (ys.take k) ws labels = some (outs.take k) := by
  induction ys generalizing ws outs k with
  | nil => simp only [outputsOf, Option.some.injEq] at h; subst h; simp [outputsOf]
  | cons y ys ih =>
    cases k with
    | zero => simp [outputsOf]
    | succ k =>
      cases ws with
      | nil => simp [outputsOf] at h
      | cons w ws =>
        simp only [outputsOf] at h
        obtain ⟨o, ho, h'⟩ := Option.bind_eq_some_iff.mp h
        obtain ⟨r, hr, rfl⟩ := Option.map_eq_some_iff.mp h'
        simp [outputsOf, ho, ih k hr]

theorem flagAfter_reset (old : Option Bool) (ok : Bool) : flagAfter true old ok = some ok := by
  cases ok <;> rfl

/-- with the reset of D48 a call through `_sampling_from_sequences` delivers what `sampleFromSeqs` delivers and
reports that call's own flag, whatever the sampler's state was -/
theorem seqCall_snd (s : Sampler) (degSeq : List Nat) (dimSeq : List (Nat × Nat)) (fd fm : Bool) (fixed : Config)
    (t : OwnTape) :
    (seqCall true s degSeq dimSeq fd fm fixed t).2 =
      (sampleFromSeqs degSeq dimSeq fd fm fixed t).map (fun p => ⟨some p.1, p.2⟩) := by
  unfold seqCall sampleFromSeqs
  cases hm : matchSequences degSeq dimSeq fd fm t.picks with
  | none => simp
  | some st =>
    simp only [Option.bind_some, flagAfter_reset]
    cases sampleFromConfig st.cfg fixed none t <;> simp

theorem callStep_snd (s : Sampler) (c : Call) :
    (callStep true s c).2 =
      match c.args with
      | .hyg labels edges => (sampleFromHyg labels edges c.own).map (fun o => ⟨none, o⟩)
      | .seqs d m => (sampleFromSeqs d m true true [] c.own).map (fun p => ⟨some p.1, p.2⟩)
      | .model =>
        (sampleFromSeqs c.inner.degSeq c.inner.dimSeq false false c.inner.dyads c.own).map
          (fun p => ⟨some p.1, p.2⟩) := by
  unfold callStep
  cases c.args with
  | hyg labels edges => rfl
  | seqs d m => exact seqCall_snd s d m true true [] c.own
  | model => exact seqCall_snd s _ _ false false _ c.own

end C16
