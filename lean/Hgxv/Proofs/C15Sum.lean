import Hgxv.Model.C15
import Mathlib.Algebra.Order.Field.Rat
import Mathlib.Algebra.BigOperators.Field
import Mathlib.Algebra.BigOperators.Ring.Finset
import Mathlib.Algebra.Order.BigOperators.Ring.Finset
import Mathlib.Data.Finset.Prod
import Mathlib.Tactic.Ring
import Mathlib.Tactic.Linarith
/-! # C15 — the model's index sums as `Finset` sums; bilinearity; pair sums; arrays read through `matOf` / stored by `toRows` -/
open Finset
namespace C15

theorem sumTo_eq (n : ℕ) (f : ℕ → ℚ) : sumTo n f = ∑ i ∈ range n, f i := by
  induction n with
  | zero => simp [sumTo]
  | succ n ih => simp [sumTo, ih, Finset.sum_range_succ]

theorem allTo_iff (n : ℕ) (p : ℕ → Bool) : allTo n p = true ↔ ∀ i < n, p i = true := by
  simp [allTo]

theorem sumL_eq (ds : List ℕ) (f : ℕ → ℚ) : sumL ds f = (ds.map f).sum := by
  induction ds with
  | nil => simp [sumL]
  | cons d ds ih => simp [sumL] at ih ⊢; rw [ih]

theorem sumL_cons (d : ℕ) (ds : List ℕ) (f : ℕ → ℚ) : sumL (d :: ds) f = f d + sumL ds f := rfl
theorem sumL_nil (f : ℕ → ℚ) : sumL [] f = 0 := rfl

theorem sumL_congr (ds : List ℕ) (f g : ℕ → ℚ) (h : ∀ d ∈ ds, f d = g d) : sumL ds f = sumL ds g := by
  rw [sumL_eq, sumL_eq, List.map_congr_left h]

theorem sumL_mul (ds : List ℕ) (f : ℕ → ℚ) (c : ℚ) : sumL ds f * c = sumL ds fun d => f d * c := by
  rw [sumL_eq, sumL_eq, List.sum_map_mul_right]

theorem mul_sumL (ds : List ℕ) (f : ℕ → ℚ) (c : ℚ) : c * sumL ds f = sumL ds fun d => c * f d := by
  rw [sumL_eq, sumL_eq, List.sum_map_mul_left]

theorem sumL_add (ds : List ℕ) (f g : ℕ → ℚ) : sumL ds f + sumL ds g = sumL ds fun d => f d + g d := by
  rw [sumL_eq, sumL_eq, sumL_eq, List.sum_map_add]

theorem sumL_pos (ds : List ℕ) (f : ℕ → ℚ) (hne : ds ≠ []) (h : ∀ x ∈ ds, 0 < f x) : 0 < sumL ds f := by
  induction ds with
  | nil => exact absurd rfl hne
  | cons x xs ih =>
    rw [sumL_cons]
    by_cases hx : xs = []
    · subst hx; rw [sumL_nil, add_zero]; exact h x (by simp)
    · exact add_pos (h x (by simp)) (ih hx fun y hy => h y (by simp [hy]))

/-- the nodes of the hyperedge `e` among `0..N-1` -/
def nodesOf (N : ℕ) (e : List ℕ) : Finset ℕ := (range N).filter (· ∈ e)

/-- `u_iᵀ w u_j` -/
def aij (K : ℕ) (u w : Mat) (i j : ℕ) : ℚ := bf K (u i) (u j) w

/-- sum over the unordered node pairs `i < j` of `s` of `u_iᵀ w u_j` -/
def pairSum (K : ℕ) (u w : Mat) (s : Finset ℕ) : ℚ :=
  ∑ p ∈ s.offDiag with p.1 < p.2, aij K u w p.1 p.2

theorem bf_eq (K : ℕ) (x y : Vec) (w : Mat) :
    bf K x y w = ∑ b ∈ range K, ∑ a ∈ range K, x a * w a b * y b := by
  simp only [bf, vecMat, sumTo_eq, Finset.sum_mul]

theorem qf_eq_bf (K : ℕ) (x : Vec) (w : Mat) : qf K x w = bf K x x w := rfl

theorem bf_sum_left {ι : Type} (K : ℕ) (s : Finset ι) (f : ι → Vec) (y : Vec) (w : Mat) :
    bf K (fun a => ∑ i ∈ s, f i a) y w = ∑ i ∈ s, bf K (f i) y w := by
  simp only [bf_eq, Finset.sum_mul]
  have h : ∀ b ∈ range K, ∑ a ∈ range K, ∑ i ∈ s, f i a * w a b * y b
      = ∑ i ∈ s, ∑ a ∈ range K, f i a * w a b * y b := fun b _ => Finset.sum_comm
  rw [Finset.sum_congr rfl h, Finset.sum_comm]

theorem bf_sum_right {ι : Type} (K : ℕ) (s : Finset ι) (x : Vec) (f : ι → Vec) (w : Mat) :
    bf K x (fun a => ∑ i ∈ s, f i a) w = ∑ i ∈ s, bf K x (f i) w := by
  simp only [bf_eq, Finset.mul_sum]
  have h : ∀ b ∈ range K, ∑ a ∈ range K, ∑ i ∈ s, x a * w a b * f i b
      = ∑ i ∈ s, ∑ a ∈ range K, x a * w a b * f i b := fun b _ => Finset.sum_comm
  rw [Finset.sum_congr rfl h, Finset.sum_comm]

theorem bf_sub_left (K : ℕ) (x x' y : Vec) (w : Mat) :
    bf K (fun a => x a - x' a) y w = bf K x y w - bf K x' y w := by
  simp only [bf_eq, sub_mul, Finset.sum_sub_distrib]

theorem bf_sub_right (K : ℕ) (x y y' : Vec) (w : Mat) :
    bf K x (fun a => y a - y' a) w = bf K x y w - bf K x y' w := by
  simp only [bf_eq, mul_sub, Finset.sum_sub_distrib]

theorem bf_symm (K : ℕ) (x y : Vec) (w : Mat) (hw : ∀ a < K, ∀ b < K, w a b = w b a) :
    bf K x y w = bf K y x w := by
  simp only [bf_eq]
  rw [Finset.sum_comm]
  apply Finset.sum_congr rfl; intro a ha
  apply Finset.sum_congr rfl; intro b hb
  rw [hw a (mem_range.mp ha) b (mem_range.mp hb)]; ring

theorem aij_symm (K : ℕ) (u w : Mat) (hw : ∀ a < K, ∀ b < K, w a b = w b a) (i j : ℕ) :
    aij K u w i j = aij K u w j i := bf_symm K _ _ w hw

theorem sum_sum_sub_diag (S : Finset ℕ) (g : ℕ → ℕ → ℚ) :
    ∑ i ∈ S, ∑ j ∈ S, g i j - ∑ i ∈ S, g i i = ∑ p ∈ S.offDiag, g p.1 p.2 := by
  rw [← Finset.sum_product' S S g, ← Finset.diag_union_offDiag,
    Finset.sum_union (Finset.disjoint_diag_offDiag S), Finset.sum_diag]
  ring

theorem sum_offDiag_erase (V : Finset ℕ) (i : ℕ) (hi : i ∈ V) (g : ℕ → ℕ → ℚ) :
    ∑ p ∈ V.offDiag, g p.1 p.2
      = ∑ p ∈ (V.erase i).offDiag, g p.1 p.2 + ∑ k ∈ V.erase i, (g i k + g k i) := by
  rw [← sum_sum_sub_diag, ← sum_sum_sub_diag]
  simp only [← Finset.add_sum_erase V _ hi, Finset.sum_add_distrib]
  ring

theorem sum_offDiag_symm (S : Finset ℕ) (g : ℕ → ℕ → ℚ) (hg : ∀ i j, g i j = g j i) :
    ∑ p ∈ S.offDiag, g p.1 p.2 = 2 * ∑ p ∈ S.offDiag with p.1 < p.2, g p.1 p.2 := by
  rw [← Finset.sum_filter_add_sum_filter_not S.offDiag (fun p => p.1 < p.2)]
  have : ∑ p ∈ S.offDiag with ¬ p.1 < p.2, g p.1 p.2 = ∑ p ∈ S.offDiag with p.1 < p.2, g p.1 p.2 := by
    apply Finset.sum_nbij' Prod.swap Prod.swap
    · intro p hp
      simp only [mem_filter, mem_offDiag, Prod.fst_swap, Prod.snd_swap] at hp ⊢
      obtain ⟨⟨h1, h2, h3⟩, h4⟩ := hp
      exact ⟨⟨h2, h1, fun h => h3 h.symm⟩, by omega⟩
    · intro p hp
      simp only [mem_filter, mem_offDiag, Prod.fst_swap, Prod.snd_swap] at hp ⊢
      obtain ⟨⟨h1, h2, h3⟩, h4⟩ := hp
      exact ⟨⟨h2, h1, fun h => h3 h.symm⟩, by omega⟩
    · intro p _; simp
    · intro p _; simp
    · intro p _; simp [hg p.1 p.2]
  rw [this]; ring

theorem edgeSum_eq (N : ℕ) (u : Mat) (e : List ℕ) :
    edgeSum N u e = fun a => ∑ i ∈ nodesOf N e, u i a := by
  funext a
  simp only [edgeSum, sumTo_eq, inc, nodesOf, Finset.sum_filter]
  apply Finset.sum_congr rfl; intro i _
  split <;> simp

theorem colSum_eq (N : ℕ) (u : Mat) : colSum N u = fun a => ∑ i ∈ range N, u i a := by
  funext a; simp only [colSum, sumTo_eq]

theorem qf_sum (K : ℕ) (S : Finset ℕ) (u w : Mat) :
    qf K (fun a => ∑ i ∈ S, u i a) w = ∑ i ∈ S, ∑ j ∈ S, aij K u w i j := by
  rw [qf_eq_bf, bf_sum_left]
  apply Finset.sum_congr rfl; intro i _
  rw [bf_sum_right]; rfl

theorem inc_sum (N : ℕ) (e : List ℕ) (f : ℕ → ℚ) :
    (sumTo N fun i => inc e i * f i) = ∑ i ∈ nodesOf N e, f i := by
  simp only [sumTo_eq, inc, nodesOf, Finset.sum_filter]
  apply Finset.sum_congr rfl; intro i _
  split <;> simp

theorem poisson_eq_offDiag (N K : ℕ) (u w : Mat) (e : List ℕ) :
    poisson N K u w e = half * ∑ p ∈ (nodesOf N e).offDiag, aij K u w p.1 p.2 := by
  unfold poisson
  rw [edgeSum_eq, qf_sum, inc_sum, ← sum_sum_sub_diag]
  rfl

theorem bfSum_eq_offDiag (N K : ℕ) (u w : Mat) :
    bfSum N K u w = half * ∑ p ∈ (range N).offDiag, aij K u w p.1 p.2 := by
  unfold bfSum qfSum
  rw [colSum_eq, qf_sum, sumTo_eq, ← sum_sum_sub_diag]
  rfl

theorem half_two (x : ℚ) : half * (2 * x) = x := by unfold half; ring

theorem half_pos : (0 : ℚ) < half := by unfold half; norm_num

theorem poisson_eq_pairSum (N K : ℕ) (u w : Mat) (e : List ℕ)
    (hw : ∀ a < K, ∀ b < K, w a b = w b a) :
    poisson N K u w e = pairSum K u w (nodesOf N e) := by
  rw [poisson_eq_offDiag, sum_offDiag_symm _ _ (aij_symm K u w hw), half_two]; rfl

theorem bfSum_eq_pairSum (N K : ℕ) (u w : Mat) (hw : ∀ a < K, ∀ b < K, w a b = w b a) :
    bfSum N K u w = pairSum K u w (range N) := by
  rw [bfSum_eq_offDiag, sum_offDiag_symm _ _ (aij_symm K u w hw), half_two]; rfl

theorem matOf_nonneg_of_mem (x : List (List Rat)) (h : ∀ row ∈ x, ∀ v ∈ row, 0 ≤ v) (i a : ℕ) : 0 ≤ matOf x i a := by
  unfold matOf
  rw [List.getD_eq_getElem?_getD, List.getD_eq_getElem?_getD]
  cases hr : x[i]? with
  | none => simp
  | some row =>
    have hrow : row ∈ x := List.mem_of_getElem? hr
    cases hv : row[a]? with
    | none => simp [hv]
    | some v => simpa [hv] using h row hrow v (List.mem_of_getElem? hv)

theorem matOf_out (w : List (List Rat)) (hsq : ∀ row ∈ w, row.length = w.length) (a b : ℕ)
    (h : ¬ (a < w.length ∧ b < w.length)) : matOf w a b = 0 := by
  unfold matOf
  rw [List.getD_eq_getElem?_getD, List.getD_eq_getElem?_getD]
  cases hr : w[a]? with
  | none => simp
  | some row =>
    have ha : a < w.length := by
      rcases List.getElem?_eq_some_iff.mp hr with ⟨ha, _⟩; exact ha
    have hlen : row.length = w.length := hsq row (List.mem_of_getElem? hr)
    have hb : ¬ b < row.length := by rw [hlen]; exact fun hb => h ⟨ha, hb⟩
    simp [List.getElem?_eq_none (Nat.le_of_not_lt hb)]

theorem matOf_symm_square (w : List (List Rat)) (hsq : ∀ row ∈ w, row.length = w.length)
    (hs : ∀ a < w.length, ∀ b < w.length, matOf w a b = matOf w b a) (a b : ℕ) : matOf w a b = matOf w b a := by
  by_cases h : a < w.length ∧ b < w.length
  · exact hs a h.1 b h.2
  · rw [matOf_out w hsq a b h, matOf_out w hsq b a (fun h' => h ⟨h'.2, h'.1⟩)]

theorem matOf_diag_square (w : List (List Rat)) (hsq : ∀ row ∈ w, row.length = w.length)
    (hd : ∀ a < w.length, ∀ b < w.length, a ≠ b → matOf w a b = 0) (a b : ℕ) (hab : a ≠ b) : matOf w a b = 0 := by
  by_cases h : a < w.length ∧ b < w.length
  · exact hd a h.1 b h.2 hab
  · exact matOf_out w hsq a b h

theorem matOf_toRows (n m : ℕ) (f : Mat) (i a : ℕ) :
    matOf (toRows n m f) i a = if i < n ∧ a < m then f i a else 0 := by
  unfold matOf toRows
  by_cases hi : i < n
  · by_cases ha : a < m
    · simp [List.getD_eq_getElem?_getD, hi, ha]
    · simp [List.getD_eq_getElem?_getD, hi, ha]
  · simp [List.getD_eq_getElem?_getD, hi]

theorem matOf_toRows_in (n m : ℕ) (f : Mat) (i a : ℕ) (hi : i < n) (ha : a < m) :
    matOf (toRows n m f) i a = f i a := by
  rw [matOf_toRows, if_pos ⟨hi, ha⟩]

theorem matOf_toRows_nonneg (n m : ℕ) (f : Mat) (hf : ∀ i a, 0 ≤ f i a) (i a : ℕ) :
    0 ≤ matOf (toRows n m f) i a := by
  rw [matOf_toRows]; split
  · exact hf i a
  · exact le_refl 0

theorem matOf_toRows_symm (n : ℕ) (f : Mat) (a b : ℕ) (h : f a b = f b a) :
    matOf (toRows n n f) a b = matOf (toRows n n f) b a := by
  rw [matOf_toRows, matOf_toRows, h]
  exact if_congr and_comm rfl rfl

theorem matOf_toRows_zero (n m : ℕ) (f : Mat) (i a : ℕ) (h : f i a = 0) : matOf (toRows n m f) i a = 0 := by
  rw [matOf_toRows, h, ite_self]

end C15
