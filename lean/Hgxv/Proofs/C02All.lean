import Hgxv.Proofs.C02Ord
/-! C02: the two "all metadata" listings as multisets. -/
namespace C02
open AL

/-- `get_all_nodes_metadata()` lists, as a multiset, the metadata of the nodes of the abstract object -/
theorem q_allNodesMeta (s : Store) (h : Inv s) : (allNodesMeta s).Perm ((abs s).nodes.map (·.2)) := by
  unfold allNodesMeta
  apply List.Perm.map
  have nd1 : s.nmeta.Nodup := nodup_of_keys_nodup h.nd_nm
  have nd2 : (abs s).nodes.Nodup := nodup_of_keys_nodup (by rw [abs_nodes_keys]; exact h.nd_adjS)
  rw [List.perm_ext_iff_of_nodup nd1 nd2]
  intro p
  constructor
  · intro hp
    have hg := get?_of_mem _ _ _ h.nd_nm hp
    have hn : p.1 ∈ keys s.adjS := by
      rw [← isSome_get?_iff, ← h.nmeta_same, hg]; rfl
    have : get? (abs s).nodes p.1 = some p.2 := by rw [abs_get_node]; simp [hn, hg]
    exact mem_of_get? _ _ _ this
  · intro hp
    have hg := get?_of_mem _ _ _ (by rw [abs_nodes_keys]; exact h.nd_adjS) hp
    rw [h.nmeta_abs] at hg
    exact mem_of_get? _ _ _ hg

/-- `get_all_edges_metadata()` lists, as a multiset, the metadata of the hyperedges of the abstract object -/
theorem q_allEdgesMeta (s : Store) (h : Inv s) : (allEdgesMeta s).Perm ((abs s).edges.map (·.2.2)) := by
  unfold allEdgesMeta
  have e1 : (abs s).edges.map (·.2.2) =
      (s.edgeList.map (fun p => (p.2, (get? s.emeta p.2).getD []))).map (·.2) := by
    simp [abs, List.map_map, Function.comp_def]
  rw [e1]
  apply List.Perm.map
  have nd1 : s.emeta.Nodup := nodup_of_keys_nodup h.nd_em
  have ndk : (keys (s.edgeList.map (fun p => (p.2, (get? s.emeta p.2).getD [])))).Nodup := by
    have : keys (s.edgeList.map (fun p => (p.2, (get? s.emeta p.2).getD []))) = s.edgeList.map (·.2) := by
      simp [keys, List.map_map, Function.comp_def]
    rw [this]
    -- ids are pairwise different because each id has one key in the reverse table
    exact List.pairwise_map.mpr ((nodup_of_keys_nodup h.nd_edge).imp_of_mem fun {p q} hp hq hne e =>
      hne (Prod.ext ((h.id_inj p hp q.1 q.2 (get?_of_mem _ _ _ h.nd_edge hq)).mpr e) e))
  have nd2 := nodup_of_keys_nodup ndk
  rw [List.perm_ext_iff_of_nodup nd1 nd2]
  intro p
  simp only [List.mem_map]
  constructor
  · intro hp
    have hg := get?_of_mem _ _ _ h.nd_em hp
    have hr : (get? s.rev p.1).isSome := by rw [← h.emeta_same, hg]; rfl
    obtain ⟨k, hk⟩ := Option.isSome_iff_exists.mp hr
    refine ⟨(k, p.1), mem_of_get? _ _ _ (h.edge_of_rev _ _ hk), ?_⟩
    simp [hg]
  · rintro ⟨q, hq, rfl⟩
    have hg : get? s.edgeList q.1 = some q.2 := get?_of_mem _ _ _ h.nd_edge hq
    obtain ⟨m, hm⟩ := Option.isSome_iff_exists.mp (h.emeta_of_edge _ _ hg)
    simp only [hm, Option.getD_some]
    exact mem_of_get? _ _ _ hm

end C02
