import Hgxv.Model.C20Cent
import Hgxv.Proofs.AL
import Hgxv.Proofs.ListLib
/-! Lemmas about the executable networkx routines of `Model/C20Cent.lean` (core Lean only).  The level vectors hold the walk
counts `walkCount`; the search `distSigma` is the first `k < |V|` with a positive count (`distSigma_eq_find`), and since a shortest
walk has fewer than `|V|` steps `dist` is the graph distance (`dist_spec`, what the later proofs use).  On top of that: congruence in
the edge SET, the metric facts, vertices on no shortest path, Chapman-Kolmogorov for the walk counts and the numerators `thru` of the
pair dependencies. -/
namespace C20
variable {V : Type} [DecidableEq V]

/-- value of a level vector at a vertex (absent = 0) -/
def val (w : List (V × Nat)) (v : V) : Nat := (AL.get? w v).getD 0

/-- "there is a walk of length `k` from `s` to `v`" (last step `u ~ v`), all vertices in `g.verts` -/
def reachIn (g : Graph V) (s : V) : Nat → V → Prop
  | 0, v => v = s ∧ v ∈ g.verts
  | k + 1, v => v ∈ g.verts ∧ ∃ u, u ∈ nbrs g v ∧ reachIn g s k u

/-- number of walks of length `k` from `s` to `v` (the recursion `σ(v) = Σ_{u ~ v} σ(u)` of Brandes' algorithm
when `k` is the distance) -/
def walkCount (g : Graph V) (s : V) : Nat → V → Nat
  | 0, v => if v = s ∧ v ∈ g.verts then 1 else 0
  | k + 1, v => if v ∈ g.verts then ((nbrs g v).map (walkCount g s k)).sum else 0

/-- the `k`-th level vector -/
def lvl (g : Graph V) (s : V) : Nat → List (V × Nat)
  | 0 => g.verts.map fun v => (v, if v = s then 1 else 0)
  | k + 1 => walkStep g (lvl g s k)

theorem val_map_mk (l : List V) (f : V → Nat) (v : V) :
    val (l.map fun u => (u, f u)) v = if v ∈ l then f v else 0 := by
  unfold val; rw [AL.get?_keymap]; split <;> rfl

theorem val_walkStep (g : Graph V) (w : List (V × Nat)) (v : V) :
    val (walkStep g w) v = if v ∈ g.verts then ((nbrs g v).map (val w)).sum else 0 := by
  unfold walkStep
  exact val_map_mk g.verts (fun v => ((nbrs g v).map fun u => (AL.get? w u).getD 0).sum) v

theorem val_lvl (g : Graph V) (s : V) (k : Nat) (v : V) : val (lvl g s k) v = walkCount g s k v := by
  induction k generalizing v with
  | zero =>
    simp only [lvl, walkCount]; rw [val_map_mk]
    by_cases hv : v ∈ g.verts
    · simp only [hv, and_true, if_true]
    · simp only [hv, and_false, if_false]
  | succ k ih =>
    simp only [lvl, walkCount]; rw [val_walkStep]
    have : (nbrs g v).map (val (lvl g s k)) = (nbrs g v).map (walkCount g s k) :=
      List.map_congr_left fun u _ => ih u
    rw [this]

theorem reachIn_iff_walkCount (g : Graph V) (s : V) (k : Nat) (v : V) :
    reachIn g s k v ↔ 0 < walkCount g s k v := by
  induction k generalizing v with
  | zero =>
    simp only [reachIn, walkCount]
    by_cases h : v = s ∧ v ∈ g.verts
    · rw [if_pos h]; exact ⟨fun _ => Nat.one_pos, fun _ => h⟩
    · rw [if_neg h]; exact ⟨fun h' => absurd h' h, fun h' => absurd h' (Nat.lt_irrefl 0)⟩
  | succ k ih =>
    simp only [reachIn, walkCount]
    by_cases hv : v ∈ g.verts
    · simp only [hv, true_and, if_true]
      rw [List.sum_pos_iff_exists_pos_nat]
      constructor
      · rintro ⟨u, hu, hr⟩; exact ⟨_, List.mem_map_of_mem hu, (ih u).mp hr⟩
      · rintro ⟨_, hx, hp⟩
        obtain ⟨u, hu, rfl⟩ := List.mem_map.mp hx
        exact ⟨u, hu, (ih u).mpr hp⟩
    · simp [hv]

theorem walkLevels_eq (g : Graph V) (s : V) (n : Nat) (w : List (V × Nat)) (F : Nat → List (V × Nat))
    (h0 : F 0 = w) (hs : ∀ k, F (k + 1) = walkStep g (F k)) :
    walkLevels g s n w = (List.range n).map F := by
  -- used once, at `F := lvl g s`; stated for any `F` because the induction shifts it (`F (· + 1)`)
  induction n generalizing w F with
  | zero => simp [walkLevels]
  | succ n ih =>
    rw [walkLevels, List.range_succ_eq_map, List.map_cons, List.map_map, h0]
    congr 1
    exact ih (walkStep g w) (fun k => F (k + 1)) (by rw [hs, h0]) (fun k => hs (k + 1))

theorem levels_eq (g : Graph V) (s : V) : levels g s = (List.range g.verts.length).map (lvl g s) :=
  walkLevels_eq g s _ _ (lvl g s) rfl (fun _ => rfl)

theorem findSome_zip_map {β γ : Type} (l : List Nat) (F : Nat → β) (G : Nat × β → Option γ) :
    (l.zip (l.map F)).findSome? G = l.findSome? (fun k => G (k, F k)) := by
  induction l with
  | nil => rfl
  | cons a t ih => simp [List.findSome?_cons, ih]

/-- the distance part of `distSigma` -/
def dist (g : Graph V) (s v : V) : Option Nat := (distSigma (levels g s) v).map (·.1)

theorem distSigma_eq_find (g : Graph V) (s v : V) :
    distSigma (levels g s) v = ((List.range g.verts.length).find? fun k => decide (0 < walkCount g s k v)).map
      fun d => (d, walkCount g s d v) := by
  unfold distSigma
  rw [levels_eq, List.length_map, List.length_range, findSome_zip_map, List.find?_eq_findSome?_guard, List.map_findSome?]
  congr 1
  funext k
  show (if 0 < val (lvl g s k) v then some (k, val (lvl g s k) v) else none) = _
  rw [val_lvl]
  simp only [Function.comp, Option.guard]
  split <;> simp [*]

theorem dist_eq_find (g : Graph V) (s v : V) :
    dist g s v = (List.range g.verts.length).find? fun k => decide (0 < walkCount g s k v) := by
  rw [dist, distSigma_eq_find, Option.map_map]
  exact Option.map_id'

theorem distSigma_eq (g : Graph V) (s v : V) :
    distSigma (levels g s) v = (dist g s v).map fun d => (d, walkCount g s d v) := by
  rw [dist_eq_find, distSigma_eq_find]

theorem dist_spec_bounded (g : Graph V) (s v : V) (d : Nat) :
    dist g s v = some d ↔ d < g.verts.length ∧ reachIn g s d v ∧ ∀ j, j < d → ¬ reachIn g s j v := by
  simp only [dist_eq_find, List.find?_range_eq_some, List.mem_range, decide_eq_true_eq, Bool.not_eq_true',
    decide_eq_false_iff_not, reachIn_iff_walkCount]
  exact and_left_comm

theorem dist_none_bounded (g : Graph V) (s v : V) : dist g s v = none ↔ ∀ k, k < g.verts.length → ¬ reachIn g s k v := by
  simp only [dist_eq_find, List.find?_range_eq_none, Bool.not_eq_true', decide_eq_false_iff_not, reachIn_iff_walkCount]

theorem distSigma_spec (g : Graph V) (s v : V) (d c : Nat) :
    distSigma (levels g s) v = some (d, c) ↔
      d < g.verts.length ∧ reachIn g s d v ∧ (∀ j, j < d → ¬ reachIn g s j v) ∧ c = walkCount g s d v := by
  rw [distSigma_eq, Option.map_eq_some_iff]
  constructor
  · rintro ⟨d', hd, he⟩
    cases he
    obtain ⟨h1, h2, h3⟩ := (dist_spec_bounded g s v d).mp hd
    exact ⟨h1, h2, h3, rfl⟩
  · rintro ⟨h1, h2, h3, rfl⟩
    exact ⟨d, (dist_spec_bounded g s v d).mpr ⟨h1, h2, h3⟩, rfl⟩

theorem distSigma_none (g : Graph V) (s v : V) :
    distSigma (levels g s) v = none ↔ ∀ k, k < g.verts.length → ¬ reachIn g s k v := by
  rw [distSigma_eq, Option.map_eq_none_iff, dist_none_bounded]

/-! ### congruence: the routines read the vertex list and the edge SET only -/

theorem adjacent_iff (g : Graph V) (u v : V) : adjacent g u v = true ↔ (u, v) ∈ g.edges ∨ (v, u) ∈ g.edges := by
  unfold adjacent
  rw [List.any_eq_true]
  constructor
  · rintro ⟨⟨e1, e2⟩, he, h⟩
    simp only [decide_eq_true_eq] at h
    rcases h with ⟨rfl, rfl⟩ | ⟨rfl, rfl⟩
    · exact Or.inl he
    · exact Or.inr he
  · rintro (h | h)
    · exact ⟨(u, v), h, by simp⟩
    · exact ⟨(v, u), h, by simp⟩

theorem adjacent_congr (g g' : Graph V) (he : ∀ e, e ∈ g.edges ↔ e ∈ g'.edges) (u v : V) :
    adjacent g u v = adjacent g' u v := by
  rw [Bool.eq_iff_iff, adjacent_iff, adjacent_iff, he, he]

theorem nbrs_congr (g g' : Graph V) (hv : g.verts = g'.verts) (he : ∀ e, e ∈ g.edges ↔ e ∈ g'.edges) :
    nbrs g = nbrs g' := by
  funext v
  unfold nbrs
  rw [hv]
  apply List.filter_congr
  intro u _
  rw [adjacent_congr g g' he]

theorem levels_congr (g g' : Graph V) (hv : g.verts = g'.verts) (he : ∀ e, e ∈ g.edges ↔ e ∈ g'.edges) :
    levels g = levels g' := by
  have hw : walkStep g = walkStep g' := by
    funext w; unfold walkStep; rw [hv, nbrs_congr g g' hv he]
  have hl : ∀ s k w, walkLevels g s k w = walkLevels g' s k w := by
    intro s k
    induction k with
    | zero => intro w; rfl
    | succ k ih => intro w; simp only [walkLevels, hw, ih]
  funext s
  unfold levels
  rw [hv, hl]

theorem closeness_congr (g g' : Graph V) (hv : g.verts = g'.verts) (he : ∀ e, e ∈ g.edges ↔ e ∈ g'.edges) :
    closeness g = closeness g' := by
  funext v
  unfold closeness
  simp only [levels_congr g g' hv he, hv]

theorem betweenness_congr (g g' : Graph V) (hv : g.verts = g'.verts) (he : ∀ e, e ∈ g.edges ↔ e ∈ g'.edges) :
    betweenness g = betweenness g' := by
  funext v
  unfold betweenness
  simp only [levels_congr g g' hv he, hv]

theorem adjacent_symm (g : Graph V) (u v : V) : adjacent g u v = adjacent g v u := by
  rw [Bool.eq_iff_iff, adjacent_iff, adjacent_iff, or_comm]

theorem nbrs_symm (g : Graph V) (u v : V) (h : u ∈ nbrs g v) (hv : v ∈ g.verts) : v ∈ nbrs g u := by
  unfold nbrs at h ⊢
  rw [List.mem_filter] at h ⊢
  refine ⟨hv, ?_⟩
  have h2 := h.2
  simp only [decide_eq_true_eq] at h2 ⊢
  exact ⟨fun e => h2.1 e.symm, by rw [adjacent_symm]; exact h2.2⟩

theorem reachIn_mem (g : Graph V) (s : V) (k : Nat) (v : V) (h : reachIn g s k v) : v ∈ g.verts := by
  cases k with
  | zero => exact h.2
  | succ k => exact h.1

theorem isolated_reach (g : Graph V) (s : V) (hs : nbrs g s = []) (k : Nat) (u : V) : ¬ reachIn g s (k + 1) u := by
  induction k generalizing u with
  | zero =>
    rintro ⟨hu, x, hx, hxs, _⟩
    subst hxs
    have := nbrs_symm g x u hx hu
    rw [hs] at this
    cases this
  | succ k ih =>
    rintro ⟨_, x, _, hr⟩
    exact ih x hr

theorem distSigma_isolated (g : Graph V) (s u : V) (hs : nbrs g s = []) (d c : Nat)
    (h : distSigma (levels g s) u = some (d, c)) : d = 0 ∧ u = s := by
  obtain ⟨_, hr, _, _⟩ := (distSigma_spec g s u d c).mp h
  cases d with
  | zero => exact ⟨rfl, hr.1⟩
  | succ d => exact absurd hr (isolated_reach g s hs d u)

theorem ratsum_zero {β : Type} (l : List β) (f : β → Rat) (h : ∀ x, x ∈ l → f x = 0) : (l.map f).sum = 0 := by
  induction l with
  | nil => rfl
  | cons a t ih =>
    rw [List.map_cons, List.sum_cons, h a (List.mem_cons_self), ih fun x hx => h x (List.mem_cons_of_mem _ hx)]
    exact Rat.add_zero 0

theorem closeness_isolated (g : Graph V) (v : V) (hs : nbrs g v = []) : closeness g v = 0 := by
  have htot : ((g.verts.filterMap fun u => distSigma (levels g v) u).map (·.1)).sum = 0 := by
    apply ListLib.sum_map_eq_zero
    intro p hp
    obtain ⟨u, _, hu⟩ := List.mem_filterMap.mp hp
    exact (distSigma_isolated g v u hs p.1 p.2 hu).1
  unfold closeness
  simp only [htot]
  simp

/-- the un-normalised betweenness of `v` -/
def rawBetweenness (g : Graph V) (v : V) : Rat :=
  ((g.verts.filter (· ≠ v)).map fun s =>
    (((g.verts.filter (· ≠ v)).filter (· ≠ s)).map fun t => pairDep (levels g s) (levels g v) v t).sum).sum

theorem betweenness_eq_raw (g : Graph V) (v : V) :
    betweenness g v = if 3 ≤ g.verts.length then rawBetweenness g v / (((g.verts.length - 1) * (g.verts.length - 2) : Nat) : Rat)
      else rawBetweenness g v := rfl

theorem betweenness_of_raw_zero (g : Graph V) (v : V) (h : rawBetweenness g v = 0) : betweenness g v = 0 := by
  rw [betweenness_eq_raw, h]
  split
  · rw [Rat.div_def, Rat.zero_mul]
  · rfl

/-! ### a shortest walk has fewer than `|V|` steps (pigeonhole), so the bound `k < |V|` of `levels` loses nothing -/

/-- along a shortest walk of length `k` there are `k + 1` different vertices (one at each distance `0..k`) -/
theorem shortest_witness (g : Graph V) (s : V) (k : Nat) (v : V) (h : reachIn g s k v)
    (hmin : ∀ j, j < k → ¬ reachIn g s j v) :
    ∃ xs : List V, xs.Nodup ∧ xs.length = k + 1 ∧ ∀ x, x ∈ xs → x ∈ g.verts ∧ ∃ j, j ≤ k ∧ reachIn g s j x := by
  induction k generalizing v with
  | zero => exact ⟨[v], by simp, rfl, fun x hx => by
      rw [List.mem_singleton] at hx; subst hx; exact ⟨h.2, 0, Nat.le_refl 0, h⟩⟩
  | succ k ih =>
    obtain ⟨hv, u, hu, hr⟩ := h
    have humin : ∀ j, j < k → ¬ reachIn g s j u := fun j hj hju =>
      hmin (j + 1) (by omega) ⟨hv, u, hu, hju⟩
    obtain ⟨xs, hnd, hlen, hall⟩ := ih u hr humin
    refine ⟨v :: xs, List.nodup_cons.mpr ⟨?_, hnd⟩, by simp [hlen], ?_⟩
    · intro hvx
      obtain ⟨_, j, hj, hjr⟩ := hall v hvx
      exact hmin j (by omega) hjr
    · intro x hx
      rcases List.mem_cons.mp hx with rfl | hx
      · exact ⟨hv, k + 1, Nat.le_refl _, hv, u, hu, hr⟩
      · obtain ⟨h1, j, hj, hjr⟩ := hall x hx
        exact ⟨h1, j, by omega, hjr⟩

theorem exists_min_reach (g : Graph V) (s v : V) (k : Nat) (h : reachIn g s k v) :
    ∃ d, d ≤ k ∧ reachIn g s d v ∧ ∀ j, j < d → ¬ reachIn g s j v := by
  induction k using Nat.strongRecOn with
  | _ k ih =>
    by_cases hex : ∃ j, j < k ∧ reachIn g s j v
    · obtain ⟨j, hj, hr⟩ := hex
      obtain ⟨d, hd, hrd, hmin⟩ := ih j hj hr
      exact ⟨d, by omega, hrd, hmin⟩
    · exact ⟨k, Nat.le_refl k, h, fun j hj hr => hex ⟨j, hj, hr⟩⟩

theorem shortest_lt (g : Graph V) (s : V) (k : Nat) (v : V) (h : reachIn g s k v)
    (hmin : ∀ j, j < k → ¬ reachIn g s j v) : k < g.verts.length := by
  obtain ⟨xs, hnd, hlen, hall⟩ := shortest_witness g s k v h hmin
  have := List.Nodup.length_le_of_subset hnd (fun x hx => (hall x hx).1)
  omega

theorem dist_spec (g : Graph V) (s v : V) (d : Nat) :
    dist g s v = some d ↔ reachIn g s d v ∧ ∀ j, j < d → ¬ reachIn g s j v := by
  rw [dist_spec_bounded]
  exact ⟨fun h => ⟨h.2.1, h.2.2⟩, fun h => ⟨shortest_lt g s d v h.1 h.2, h.1, h.2⟩⟩

theorem dist_none (g : Graph V) (s v : V) : dist g s v = none ↔ ∀ k, ¬ reachIn g s k v := by
  rw [dist_none_bounded]
  constructor
  · intro h k hr
    obtain ⟨d, _, hrd, hmin⟩ := exists_min_reach g s v k hr
    exact h d (shortest_lt g s d v hrd hmin) hrd
  · intro h k _; exact h k

theorem reachIn_trans (g : Graph V) (s u t : V) (a b : Nat) (h1 : reachIn g s a u) (h2 : reachIn g u b t) :
    reachIn g s (a + b) t := by
  induction b generalizing t with
  | zero => obtain ⟨rfl, _⟩ := h2; exact h1
  | succ b ih =>
    obtain ⟨ht, x, hx, hr⟩ := h2
    exact ⟨ht, x, hx, ih x hr⟩

theorem reachIn_first (g : Graph V) (v t : V) (k : Nat) (h : reachIn g v (k + 1) t) :
    ∃ x, x ∈ nbrs g v ∧ reachIn g x k t := by
  induction k generalizing t with
  | zero =>
    obtain ⟨ht, x, hx, rfl, hxv⟩ := h
    exact ⟨t, nbrs_symm g x t hx ht, rfl, ht⟩
  | succ k ih =>
    obtain ⟨ht, y, hy, hr⟩ := h
    obtain ⟨x, hx, hxr⟩ := ih y hr
    exact ⟨x, hx, ht, y, hy, hxr⟩

theorem mem_verts_of_mem_nbrs (g : Graph V) (u v : V) (h : u ∈ nbrs g v) : u ∈ g.verts :=
  (List.mem_filter.mp h).1

theorem reachIn_one (g : Graph V) (u v : V) (h : u ∈ nbrs g v) (hv : v ∈ g.verts) : reachIn g u 1 v :=
  ⟨hv, u, h, rfl, mem_verts_of_mem_nbrs g u v h⟩

theorem reachIn_symm (g : Graph V) (s v : V) (k : Nat) (h : reachIn g s k v) : reachIn g v k s := by
  induction k generalizing v with
  | zero => obtain ⟨rfl, hv⟩ := h; exact ⟨rfl, hv⟩
  | succ k ih =>
    obtain ⟨hv, u, hu, hr⟩ := h
    have h1 : reachIn g v 1 u := reachIn_one g v u (nbrs_symm g u v hu hv) (mem_verts_of_mem_nbrs g u v hu)
    have := reachIn_trans g v u s 1 k h1 (ih u hr)
    rwa [Nat.add_comm] at this

theorem reachIn_comm (g : Graph V) (s v : V) (k : Nat) : reachIn g s k v ↔ reachIn g v k s :=
  ⟨reachIn_symm g s v k, reachIn_symm g v s k⟩

theorem dist_symm (g : Graph V) (s v : V) : dist g s v = dist g v s :=
  Option.ext fun d => by simp only [dist_spec, reachIn_comm g s v]

theorem dist_triangle (g : Graph V) (s u t : V) (a b c : Nat) (h1 : dist g s u = some a) (h2 : dist g u t = some b)
    (h3 : dist g s t = some c) : c ≤ a + b :=
  Nat.le_of_not_lt fun hlt => ((dist_spec g s t c).mp h3).2 _ hlt
    (reachIn_trans g s u t a b ((dist_spec g s u a).mp h1).1 ((dist_spec g u t b).mp h2).1)

/-- a shortest `s`-`t` walk through `v` enters by a neighbour `x` and leaves by a neighbour `y`; if `x = y` or `x ~ y` the detour
over `v` can be cut short -/
theorem pairDep_simplicial (g : Graph V) (v s t : V) (hsimp : ∀ x ∈ nbrs g v, ∀ y ∈ nbrs g v, x = y ∨ x ∈ nbrs g y)
    (hs : s ≠ v) (ht : t ≠ v) : pairDep (levels g s) (levels g v) v t = 0 := by
  unfold pairDep
  split
  · rename_i dst sst dsv ssv dvt svt h1 h2 h3
    split
    · rename_i heq
      exfalso
      obtain ⟨_, _, hmin, _⟩ := (distSigma_spec g s t dst sst).mp h1
      obtain ⟨_, hsv, _, _⟩ := (distSigma_spec g s v dsv ssv).mp h2
      obtain ⟨_, hvt, _, _⟩ := (distSigma_spec g v t dvt svt).mp h3
      cases dsv with
      | zero => exact hs hsv.1.symm
      | succ a =>
        cases dvt with
        | zero => exact ht hvt.1
        | succ b =>
          obtain ⟨_, x, hx, hsx⟩ := hsv
          obtain ⟨y, hy, hyt⟩ := reachIn_first g v t b hvt
          rcases hsimp x hx y hy with rfl | hxy
          · exact hmin (a + b) (by omega) (reachIn_trans g s x t a b hsx hyt)
          · have h1 : reachIn g s (a + 1) y := ⟨mem_verts_of_mem_nbrs g y v hy, x, hxy, hsx⟩
            exact hmin (a + 1 + b) (by omega) (reachIn_trans g s y t (a + 1) b h1 hyt)
    · rfl
  · rfl

theorem betweenness_simplicial (g : Graph V) (v : V) (hsimp : ∀ x ∈ nbrs g v, ∀ y ∈ nbrs g v, x = y ∨ x ∈ nbrs g y) :
    betweenness g v = 0 := by
  apply betweenness_of_raw_zero
  unfold rawBetweenness
  apply ratsum_zero
  intro s hs
  apply ratsum_zero
  intro t ht
  have h1 := (List.mem_filter.mp (List.mem_filter.mp ht).1).2
  have h2 := (List.mem_filter.mp hs).2
  exact pairDep_simplicial g v s t hsimp (by simpa using h2) (by simpa using h1)

theorem betweenness_isolated (g : Graph V) (v : V) (hs : nbrs g v = []) : betweenness g v = 0 :=
  betweenness_simplicial g v fun x hx => by rw [hs] at hx; cases hx

theorem betweenness_leaf (g : Graph V) (v u : V) (hleaf : nbrs g v = [u]) : betweenness g v = 0 :=
  betweenness_simplicial g v fun x hx y hy => by
    rw [hleaf, List.mem_singleton] at hx hy
    exact Or.inl (hx.trans hy.symm)

theorem closeness_formula (g : Graph V) (v : V) :
    closeness g v =
      if 0 < (g.verts.filterMap (dist g v)).sum ∧ 1 < g.verts.length then
        ((((g.verts.filterMap (dist g v)).length - 1 : Nat) : Rat) / (((g.verts.filterMap (dist g v)).sum : Nat) : Rat)) *
        ((((g.verts.filterMap (dist g v)).length - 1 : Nat) : Rat) / ((g.verts.length - 1 : Nat) : Rat))
      else 0 := by
  have h : g.verts.filterMap (dist g v) = (g.verts.filterMap fun u => distSigma (levels g v) u).map (·.1) := by
    rw [List.map_filterMap]; rfl
  rw [h, List.length_map]
  rfl

theorem walkCount_not_mem (g : Graph V) (s : V) (k : Nat) (v : V) (h : v ∉ g.verts) : walkCount g s k v = 0 := by
  cases k <;> simp [walkCount, h]

theorem nsum_mul {β : Type} (l : List β) (c : Nat) (f : β → Nat) :
    (l.map fun y => c * f y).sum = c * (l.map f).sum := by
  induction l with
  | nil => rfl
  | cons a t ih => simp only [List.map_cons, List.sum_cons, ih, Nat.mul_add]

theorem nsum_filter_ne (l : List V) (hl : l.Nodup) (x : V) (hx : x ∈ l) (f : V → Nat) :
    (l.map f).sum = f x + ((l.filter (· ≠ x)).map f).sum := by
  have h : l.filter (· ≠ x) = l.erase x := by
    rw [hl.erase_eq_filter]; exact List.filter_congr fun y _ => by rw [Bool.eq_iff_iff]; simp
  rw [h]
  exact ((List.perm_cons_erase hx).map f).sum_nat

theorem nsum_eq_single {β : Type} [DecidableEq β] (l : List β) (hl : l.Nodup) (x : β) (f : β → Nat)
    (h : ∀ y, y ∈ l → y ≠ x → f y = 0) : (l.map f).sum = if x ∈ l then f x else 0 := by
  split
  · rename_i hx
    rw [nsum_filter_ne l hl x hx f, ListLib.sum_map_eq_zero _ _ fun y hy => h y (List.mem_filter.mp hy).1 (by simpa using (List.mem_filter.mp hy).2)]
    rfl
  · rename_i hx
    exact ListLib.sum_map_eq_zero _ _ fun y hy => h y hy fun e => hx (e ▸ hy)

theorem nsum_indicator (l : List V) (hl : l.Nodup) (f : V → Nat) (t : V) :
    (l.map fun v => f v * (if t = v then 1 else 0)).sum = if t ∈ l then f t else 0 := by
  rw [nsum_eq_single l hl t _ fun y _ hne => by rw [if_neg (Ne.symm hne), Nat.mul_zero], if_pos rfl, Nat.mul_one]

theorem walkCount_add (g : Graph V) (hn : g.verts.Nodup) (s t : V) (a b : Nat) :
    walkCount g s (a + b) t = (g.verts.map fun v => walkCount g s a v * walkCount g v b t).sum := by
  induction b generalizing t with
  | zero =>
    by_cases ht : t ∈ g.verts
    · have : (g.verts.map fun v => walkCount g s a v * walkCount g v 0 t)
          = (g.verts.map fun v => walkCount g s a v * (if t = v then 1 else 0)) := by
        apply List.map_congr_left
        intro v _
        simp only [walkCount, ht, and_true]
      rw [this, nsum_indicator g.verts hn, if_pos ht]; rfl
    · rw [ListLib.sum_map_eq_zero]
      · exact walkCount_not_mem g s _ t ht
      · intro v _; simp [walkCount, ht]
  | succ b ih =>
    by_cases ht : t ∈ g.verts
    · have hL : walkCount g s (a + (b + 1)) t = ((nbrs g t).map (walkCount g s (a + b))).sum := by
        show walkCount g s (a + b + 1) t = _
        simp only [walkCount, ht, if_true]
      rw [hL]
      have hR : (g.verts.map fun v => walkCount g s a v * walkCount g v (b + 1) t)
          = (g.verts.map fun v => ((nbrs g t).map fun u => walkCount g s a v * walkCount g v b u).sum) := by
        apply List.map_congr_left
        intro v _
        simp only [walkCount, ht, if_true]
        rw [← nsum_mul]
      rw [hR, ListLib.sum_sum_comm]
      exact congrArg List.sum (List.map_congr_left fun u _ => ih u)
    · rw [ListLib.sum_map_eq_zero]
      · exact walkCount_not_mem g s _ t ht
      · intro v _; rw [walkCount_not_mem g v _ t ht, Nat.mul_zero]

theorem walkCount_eq_zero (g : Graph V) (s v : V) (k : Nat) (h : ¬ reachIn g s k v) : walkCount g s k v = 0 := by
  rw [reachIn_iff_walkCount] at h; omega

theorem dist_self (g : Graph V) (s : V) (hs : s ∈ g.verts) : dist g s s = some 0 :=
  (dist_spec g s s 0).mpr ⟨⟨rfl, hs⟩, fun j hj => absurd hj (Nat.not_lt_zero j)⟩

/-- walks of length `d` from `s` to `t` that are at `v` after `a` steps, summed over `a = 0..d` -/
def thru (g : Graph V) (s t : V) (d : Nat) (v : V) : Nat :=
  ((List.range (d + 1)).map fun a => walkCount g s a v * walkCount g v (d - a) t).sum

/-- every walk of length `d` is at exactly one vertex after `a` steps, for each of the `d + 1` values of `a` -/
theorem thru_total (g : Graph V) (hn : g.verts.Nodup) (s t : V) (d : Nat) :
    (g.verts.map (thru g s t d)).sum = (d + 1) * walkCount g s d t := by
  unfold thru
  rw [ListLib.sum_sum_comm, ListLib.sum_map_const _ _ (walkCount g s d t) fun a ha => by
    rw [← walkCount_add g hn s t a (d - a), Nat.add_sub_cancel' (Nat.le_of_lt_succ (List.mem_range.mp ha))]]
  rw [List.length_range, Nat.mul_comm]

/-- on a shortest `s`-`t` walk (length `d`) the vertex after `a` steps is at distance `a` from `s`: only the split position
`dist s v` contributes to `thru` -/
theorem thru_eq (g : Graph V) (s t v : V) (d : Nat) (hd : dist g s t = some d) :
    thru g s t d v = match dist g s v with
      | some a => if a ≤ d then walkCount g s a v * walkCount g v (d - a) t else 0
      | none => 0 := by
  have hmin := ((dist_spec g s t d).mp hd).2
  unfold thru
  cases ha : dist g s v with
  | none => exact ListLib.sum_map_eq_zero _ _ fun a _ => by rw [walkCount_eq_zero g s v a ((dist_none g s v).mp ha a), Nat.zero_mul]
  | some a0 =>
    obtain ⟨hr0, hmin0⟩ := (dist_spec g s v a0).mp ha
    rw [nsum_eq_single _ List.nodup_range a0]
    · simp only [List.mem_range, Nat.lt_succ_iff]
    · intro a ha' hne
      have ha' : a ≤ d := Nat.le_of_lt_succ (List.mem_range.mp ha')
      rcases Nat.lt_or_gt_of_ne hne with hlt | hgt
      · rw [walkCount_eq_zero g s v a (hmin0 a hlt), Nat.zero_mul]
      · rw [walkCount_eq_zero g v t (d - a) fun h2 => hmin (a0 + (d - a)) (by omega) (reachIn_trans g s v t a0 (d - a) hr0 h2),
          Nat.mul_zero]

theorem thru_source (g : Graph V) (s t : V) (d : Nat) (hd : dist g s t = some d) (hs : s ∈ g.verts) :
    thru g s t d s = walkCount g s d t := by
  rw [thru_eq g s t s d hd, dist_self g s hs]
  simp [walkCount, hs]

theorem thru_target (g : Graph V) (s t : V) (d : Nat) (hd : dist g s t = some d) (ht : t ∈ g.verts) :
    thru g s t d t = walkCount g s d t := by
  rw [thru_eq g s t t d hd, hd]
  simp [walkCount, ht]

theorem thru_others (g : Graph V) (hn : g.verts.Nodup) (s t : V) (hst : s ≠ t) (d : Nat) (hd : dist g s t = some d) :
    (((g.verts.filter (· ≠ s)).filter (· ≠ t)).map (thru g s t d)).sum = (d - 1) * walkCount g s d t := by
  have hd' := (dist_spec g s t d).mp hd
  have hs : s ∈ g.verts := reachIn_mem g t d s (reachIn_symm g s t d hd'.1)
  have ht : t ∈ g.verts := reachIn_mem g s d t hd'.1
  have e1 := nsum_filter_ne g.verts hn s hs (thru g s t d)
  have ht' : t ∈ g.verts.filter (· ≠ s) := List.mem_filter.mpr ⟨ht, by simpa using fun h => hst h.symm⟩
  have e2 := nsum_filter_ne (g.verts.filter (· ≠ s)) (hn.filter _) t ht' (thru g s t d)
  have e3 := thru_total g hn s t d
  cases d with
  | zero => exact absurd hd'.1.1.symm hst
  | succ e =>
    -- all vertices (`e3`: `(d + 1) σ`) minus `s` (`e1`: `σ`) minus `t` (`e2`: `σ`)
    rw [thru_source g s t _ hd hs] at e1; rw [thru_target g s t _ hd ht] at e2
    rw [e1, e2] at e3
    simp only [Nat.add_sub_cancel]
    have : (e + 1 + 1) * walkCount g s (e + 1) t = e * walkCount g s (e + 1) t + 2 * walkCount g s (e + 1) t := by
      rw [← Nat.add_mul]
    rw [this] at e3
    generalize e * walkCount g s (e + 1) t = m at *
    omega

end C20
