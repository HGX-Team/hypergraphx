import Hgxv.Proofs.C14Gen
import Mathlib.Data.List.Sublists
import Mathlib.Data.List.Sort
/-! How many distinct hyperedges a rejection loop can ever collect: at most `C(n, size)` (uses `List.sublistsLen`). -/
namespace C14

/-- a sorted sample of `s` distinct nodes below `n` is one of the `C(n, s)` increasing lists of length `s` -/
theorem sorted_sample_mem (n s : Nat) (d : List Nat) (h : IsSample (List.range n) s d) :
    sortE d ∈ List.sublistsLen s (List.range n) := by
  obtain ⟨hnd, hlen, hsub⟩ := h
  have hperm := sortE_perm d
  have hnd' : (sortE d).Nodup := hperm.nodup_iff.mpr hnd
  have hsub' : sortE d ⊆ List.range n := fun x hx => hsub x (hperm.mem_iff.mp hx)
  have hsl : List.Sublist (sortE d) (List.range n) :=
    List.sublist_of_subperm_of_pairwise (r := (· ≤ ·)) (List.subperm_of_subset hnd' hsub') (sortE_sorted d)
      (List.pairwise_lt_range.imp (fun h => Nat.le_of_lt h))
  have := List.mem_sublistsLen_self hsl
  rwa [hperm.length_eq, hlen] at this

theorem distinct_le_choose (n s : Nat) (ds : List (List Nat)) (h : ∀ d ∈ ds, IsSample (List.range n) s d) :
    (dedup (ds.map sortE)).length ≤ n.choose s := by
  have hsub : dedup (ds.map sortE) ⊆ List.sublistsLen s (List.range n) := by
    intro e he
    rw [mem_dedup, List.mem_map] at he
    obtain ⟨d, hd, rfl⟩ := he
    exact sorted_sample_mem n s d (h d hd)
  have := List.Nodup.length_le_of_subset (nodup_dedup _) hsub
  rwa [List.length_sublistsLen, List.length_range] at this

theorem returning_feasible (n s k : Nat) (ds : List (List Nat)) (hs : ∀ d ∈ ds, IsSample (List.range n) s d)
    (hc : consumedExactly k [] ds = true) : k ≤ n.choose s := by
  have h1 := consumed_distinct k ds [] hc (by simp)
  have h2 := distinct_le_choose n s ds hs
  unfold dedup at h2
  omega

end C14
