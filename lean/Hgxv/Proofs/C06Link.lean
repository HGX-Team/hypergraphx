import Hgxv.Proofs.C06WF
import Hgxv.Proofs.ALStore
/-! # C06 ↔ the full container models, generic part (core Lean only)

The four container models (C01 … C04) keep metadata as association lists of `Nat` tokens (attribute token ↦ value
token).  C06's metadata vocabulary is structured (`Key` = the three reserved strings + user keys, `Val` = pool token /
weight / time / layer): `decKey`, `decVal` are a NUMBERING of that vocabulary by the containers' tokens (onto, with
right inverses `encKey`, `encVal`: `decKey_encKey`, `decVal_encVal`), so that a table of a container spec reads as a C06 table (`ofTables`) and every C06
content is such a reading (`ofTables_enc`).

`tAddNode`, `tTouchAll`, `tEntry` are `add_node` / `add_edge` on token tables in the shape the four `Spec`s use
(`AL.set` for new and old keys); `addNode_ofTables`, `addEdge_ofTables` say that C06's `addNode` / `addEdge` on the
reading are these table updates, with C06's accept / reject verdict.  `SpecOps` packages a container spec with its
constructor, `add_node`, `add_edge`; `load_eq_replay`: `load_hypergraph` on ANY record list is the replay of the records
through the spec's own operations. -/
set_option linter.unusedSectionVars false
namespace C06

/-- metadata of the container models: attribute token ↦ value token -/
abbrev TMeta := List (Nat × Nat)

def decKey : Nat → Key
  | 0 => .weight
  | 1 => .time
  | 2 => .layer
  | n + 3 => .user n

def encKey : Key → Nat
  | .weight => 0
  | .time => 1
  | .layer => 2
  | .user n => n + 3

theorem decKey_encKey (k : Key) : decKey (encKey k) = k := by cases k <;> rfl

theorem encKey_decKey (n : Nat) : encKey (decKey n) = n := by
  match n with
  | 0 => rfl
  | 1 => rfl
  | 2 => rfl
  | n + 3 => rfl

def decInt (m : Nat) : Int := if m % 2 = 0 then Int.ofNat (m / 2) else Int.negSucc (m / 2)

def encInt : Int → Nat
  | .ofNat k => 2 * k
  | .negSucc k => 2 * k + 1

/-- `decInt` reads the sign off the parity -/
theorem decInt_mul_add (k r : Nat) (hr : r < 2) :
    decInt (2 * k + r) = if r = 0 then Int.ofNat k else Int.negSucc k := by
  rw [decInt, Nat.mul_add_mod, Nat.mod_eq_of_lt hr, Nat.mul_add_div (by decide), Nat.div_eq_of_lt hr, Nat.add_zero]

theorem decInt_encInt (q : Int) : decInt (encInt q) = q := by
  cases q with
  | ofNat k => exact decInt_mul_add k 0 (by decide)
  | negSucc k => exact decInt_mul_add k 1 (by decide)

def decVal (n : Nat) : Val :=
  if n % 4 = 0 then .tok (n / 4)
  else if n % 4 = 1 then .tm (n / 4)
  else if n % 4 = 2 then .lay (n / 4)
  else .wq (decInt (n / 4))

def encVal : Val → Nat
  | .tok n => 4 * n
  | .tm t => 4 * t + 1
  | .lay l => 4 * l + 2
  | .wq q => 4 * encInt q + 3

/-- `decVal` reads the class of a value off the remainder modulo 4 -/
theorem decVal_mul_add (n r : Nat) (hr : r < 4) :
    decVal (4 * n + r) = if r = 0 then .tok n else if r = 1 then .tm n else if r = 2 then .lay n else .wq (decInt n) := by
  rw [decVal, Nat.mul_add_mod, Nat.mod_eq_of_lt hr, Nat.mul_add_div (by decide), Nat.div_eq_of_lt hr, Nat.add_zero]

theorem decVal_encVal (v : Val) : decVal (encVal v) = v := by
  cases v with
  | tok n => exact decVal_mul_add n 0 (by decide)
  | tm t => exact decVal_mul_add t 1 (by decide)
  | lay l => exact decVal_mul_add l 2 (by decide)
  | wq q => exact (decVal_mul_add (encInt q) 3 (by decide)).trans (congrArg Val.wq (decInt_encInt q))

/-- a token dict of a container model read as C06 metadata -/
def decMeta (m : TMeta) : Meta := m.map (fun p => (decKey p.1, decVal p.2))
def encMeta (m : Meta) : TMeta := m.map (fun p => (encKey p.1, encVal p.2))

theorem decMeta_encMeta (m : Meta) : decMeta (encMeta m) = m := by
  induction m with
  | nil => rfl
  | cons p t ih =>
    simp only [decMeta, encMeta, List.map_cons, List.map_map] at ih ⊢
    rw [ih]; simp [decKey_encKey, decVal_encVal]

theorem decMeta_eq_nil (m : TMeta) : decMeta m = [] ↔ m = [] := by
  cases m <;> simp [decMeta]

section mapkv
variable {α α' β β' : Type} [DecidableEq α] [DecidableEq α']

def mapKV (f : α → α') (g : β → β') (l : List (α × β)) : List (α' × β') := l.map (fun p => (f p.1, g p.2))

theorem get?_mapKV (f : α → α') (g : β → β') (hf : ∀ a b, f a = f b → a = b) (l : List (α × β)) (k : α) :
    AL.get? (mapKV f g l) (f k) = (AL.get? l k).map g := AL.get?_map_kv f g hf l k

theorem set_mapKV (f : α → α') (g : β → β') (hf : ∀ a b, f a = f b → a = b) (l : List (α × β)) (k : α) (v : β) :
    AL.set (mapKV f g l) (f k) (g v) = mapKV f g (AL.set l k v) := AL.set_map_kv f g hf l k v

theorem keys_mapKV (f : α → α') (g : β → β') (l : List (α × β)) : AL.keys (mapKV f g l) = (AL.keys l).map f :=
  AL.keys_map_kv f g l

theorem mem_mapKV (f : α → α') (g : β → β') (l : List (α × β)) (e : α' × β') :
    e ∈ mapKV f g l ↔ ∃ p ∈ l, e = (f p.1, g p.2) := by
  simp only [mapKV, List.mem_map, eq_comm]

end mapkv

theorem id_inj : ∀ a b : Nat, id a = id b → a = b := fun _ _ h => h

/-- an accepted weight on an unweighted object is 1: the two ways of writing the weight of a new key agree -/
theorem accepted_weight (wtd : Bool) (w : Option Int) (h : ¬ rejectsWeight wtd w = true) :
    (if wtd then weightOrUnit w else unit) = weightOrUnit w := by
  cases wtd with
  | true => rfl
  | false =>
    cases w with
    | none => rfl
    | some q =>
      simp only [rejectsWeight, Bool.not_false, Bool.true_and, bne_iff_ne, ne_eq, Decidable.not_not] at h
      simp [weightOrUnit, h]

/-- the weight test of the container specs (their `one` is `unit`) is `rejectsWeight` -/
theorem rejects_spec (wtd : Bool) (w : Option Int) :
    (!wtd && w.isSome && w != some unit) = rejectsWeight wtd w := by
  cases w with
  | none => simp [rejectsWeight]
  | some q => cases wtd <;> simp [rejectsWeight, bne]

/-- `add_node(n, md)` on a node table of a container spec: a new node gets `md`, an existing one only while its
metadata is `{}` -/
def tAddNode (t : List (Nat × TMeta)) (n : Nat) (md : TMeta) : List (Nat × TMeta) :=
  match AL.get? t n with
  | none => AL.set t n md
  | some [] => AL.set t n md
  | some _ => t

def tTouchAll (t : List (Nat × TMeta)) (l : List Nat) : List (Nat × TMeta) := l.foldl (fun t n => tAddNode t n []) t

def decNodes (t : List (Nat × TMeta)) : List (Nat × Meta) := mapKV id decMeta t

theorem decNodes_tAddNode (t : List (Nat × TMeta)) (n : Nat) (md : TMeta) :
    decNodes (tAddNode t n md) = touchNode (decNodes t) n (decMeta md) := by
  unfold tAddNode touchNode decNodes
  have hg := get?_mapKV id decMeta id_inj t n
  simp only [id] at hg
  rw [hg]
  have hs := set_mapKV id decMeta id_inj t n md
  simp only [id] at hs
  cases h : AL.get? t n with
  | none =>
    simp only [Option.map_none]
    rw [AL.set_of_not_mem t n md h]
    simp [mapKV]
  | some old =>
    cases old with
    | nil =>
      simp only [Option.map_some]
      rw [if_pos (by rfl : decMeta [] = []), hs]
    | cons x xs =>
      simp only [Option.map_some]
      rw [if_neg (by simp [decMeta] : ¬ decMeta (x :: xs) = [])]

theorem decNodes_tTouchAll (t : List (Nat × TMeta)) (l : List Nat) :
    decNodes (tTouchAll t l) = touchAll (decNodes t) l :=
  (List.foldl_hom decNodes fun x y => (decNodes_tAddNode x y []).symm).symm

section tables
variable {κ κ' : Type} [DecidableEq κ] [DecidableEq κ'] [Kind κ]

def decVal2 (v : Int × TMeta) : Int × Meta := (v.1, decMeta v.2)

/-- the four tables of a container spec (keys translated by `f`) as a C06 content -/
def ofTables (f : κ' → κ) (wtd : Bool) (hm : TMeta) (ns : List (Nat × TMeta)) (es : List (κ' × (Int × TMeta))) :
    Content κ :=
  { weighted := wtd, hmeta := decMeta hm, nodes := decNodes ns, edges := mapKV f decVal2 es }

/-- the (weight, metadata) entry of a key after `add_edge`: new key = the given weight (1 when unweighted);
old key = weights add up when weighted; the metadata is replaced -/
def tEntry (wtd : Bool) (old : Option (Int × TMeta)) (w : Int) (md : TMeta) : Int × TMeta :=
  match old with
  | none => (if wtd then w else unit, md)
  | some o => (if wtd then o.1 + w else o.1, md)

theorem tEntry_eq (wtd : Bool) (old : Option (Int × TMeta)) (w : Int) (md : TMeta) :
    tEntry wtd old w md = entry wtd old w md := by cases old <;> rfl

theorem decVal2_entry (wtd : Bool) (old : Option (Int × TMeta)) (w : Int) (md : TMeta) :
    decVal2 (entry wtd old w md) = entry wtd (old.map decVal2) w (decMeta md) := by
  cases old <;> rfl

/-- C06's `add_edge` on the reading of spec tables IS the table update the container specs perform
(`AL.set` of `tEntry`, nodes touched for a new key / always for temporal and multiplex), with the same verdict -/
theorem addEdge_ofTables (f : κ' → κ) (hf : ∀ a b, f a = f b → a = b) (wtd : Bool) (hm : TMeta)
    (ns : List (Nat × TMeta)) (es : List (κ' × (Int × TMeta))) (raw : κ) (k' : κ') (hk : Kind.canon raw = f k')
    (w : Option Int) (md : Option TMeta) :
    addEdge (ofTables f wtd hm ns es) raw w (md.map decMeta) =
      if rejectsWeight wtd w then none
      else some (ofTables f wtd hm
        (if Kind.touchAlways κ || (AL.get? es k').isNone then tTouchAll ns (Kind.members (f k')) else ns)
        (AL.set es k' (tEntry wtd (AL.get? es k') (weightOrUnit w) (md.getD [])))) := by
  have hmd : metaOrEmpty (md.map decMeta) = decMeta (md.getD []) := by cases md <;> rfl
  rw [addEdge_eq, hk, hmd]
  unfold added ofTables
  simp only [get?_mapKV f decVal2 hf es k', Option.isNone_map, ← decVal2_entry, set_mapKV f decVal2 hf, tEntry_eq]
  split
  · rfl
  · split
    · rw [decNodes_tTouchAll]
    · rfl

theorem addNode_ofTables (f : κ' → κ) (wtd : Bool) (hm : TMeta) (ns : List (Nat × TMeta))
    (es : List (κ' × (Int × TMeta))) (n : Nat) (md : Option TMeta) :
    addNode (ofTables f wtd hm ns es) n (md.map decMeta) = ofTables f wtd hm (tAddNode ns n (md.getD [])) es := by
  have hmd : metaOrEmpty (md.map decMeta) = decMeta (md.getD []) := by cases md <;> rfl
  simp [addNode, ofTables, decNodes_tAddNode, hmd]

theorem ofTables_enc (f : κ' → κ) (g : κ → κ') (hfg : ∀ k, f (g k) = k) (c : Content κ) :
    ofTables f c.weighted (encMeta c.hmeta) (mapKV id encMeta c.nodes) (mapKV g (fun v => (v.1, encMeta v.2)) c.edges)
      = c := by
  obtain ⟨w, hm, ns, es⟩ := c
  simp only [ofTables, decNodes, mapKV, List.map_map, Function.comp_def, id, decMeta_encMeta, decVal2, hfg]
  simp

/-- the reading of spec tables is well formed when the tables are (`AL.TabWF`, what each container proves of `abs s`);
`hc`, `hmem`: how C06's key type reads the container's canonical form and members -/
theorem WF_ofTables (f : κ' → κ) (hf : ∀ a b, f a = f b → a = b) {wtd : Bool} (hm : TMeta)
    {ns : List (Nat × TMeta)} {es : List (κ' × (Int × TMeta))} {mem : κ' → List Nat} {Canon : κ' → Prop}
    (h : AL.TabWF mem Canon unit wtd ns es)
    (hc : ∀ k, Canon k → Kind.canon (f k) = f k) (hmem : ∀ k, Kind.members (f k) = mem k) :
    WF (ofTables f wtd hm ns es) := by
  refine ⟨AL.keys_map_kv_nodup id decMeta id_inj ns h.nnd, AL.keys_map_kv_nodup f decVal2 hf es h.knd, ?_, ?_, ?_⟩
  · intro e he
    obtain ⟨p, hp, rfl⟩ := (mem_mapKV f decVal2 es e).mp he
    exact hc p.1 (h.key p hp).1
  · intro e he n hn
    obtain ⟨p, hp, rfl⟩ := (mem_mapKV f decVal2 es e).mp he
    show n ∈ AL.keys (mapKV id decMeta ns)
    rw [keys_mapKV]; simpa using (h.key p hp).2 n (hmem p.1 ▸ hn)
  · intro hw e he
    obtain ⟨p, hp, rfl⟩ := (mem_mapKV f decVal2 es e).mp he
    exact h.unw hw p hp

end tables

/-- a container model (its abstract spec, or its id-indexed store) seen through the three entry points
`load_hypergraph` uses -/
structure SpecOps (κ : Type) [DecidableEq κ] [Kind κ] (S : Type) where
  /-- the content the state shows -/
  of : S → Content κ
  /-- constructor with the weighted flag, then `set_hypergraph_metadata` -/
  new : Bool → TMeta → S
  addNode : S → Nat → TMeta → S
  /-- `none` = the model rejects the call -/
  addEdge : S → κ → Option Int → TMeta → Option S
  /-- the hyperedges for which the model's `add_edge` is linked: every key for the abstract specs, the model's
  quantifier (node *sets*) for the id-indexed stores -/
  okKey : κ → Prop
  of_new : ∀ w hm, of (new w hm) = setHMeta (construct κ w) (decMeta hm)
  of_addNode : ∀ a n md, of (addNode a n md) = C06.addNode (of a) n (some (decMeta md))
  of_addEdge : ∀ a k w md, okKey k → C06.addEdge (of a) k w (some (decMeta md)) = (addEdge a k w md).map of

section replay
variable {κ : Type} [DecidableEq κ] [Kind κ] {S : Type} (L : SpecOps κ S)

def SpecOps.replayNodes (a : S) (l : List (Nat × Meta)) : S := l.foldl (fun a p => L.addNode a p.1 (encMeta p.2)) a

/-- the edge records, one `add_edge` of the model each (key and weight read as `load` reads them) -/
def SpecOps.replayEdges (wtd : Bool) (a : S) : List (Inter × Meta) → Option S
  | [] => some a
  | r :: rest =>
    match Kind.readKey (κ := κ) r.1 r.2, readWeight wtd r.2 with
    | some k, some w =>
      match L.addEdge a k w (encMeta r.2) with
      | none => none
      | some a' => SpecOps.replayEdges wtd a' rest
    | _, _ => none

/-- `load_hypergraph` written with the model's operations -/
def SpecOps.replay (rs : List Record) : Option S :=
  match lastHeader rs none with
  | none => none
  | some (t, w, hm) =>
    if t = Kind.ty κ then L.replayEdges w (L.replayNodes (L.new w (encMeta hm)) (nodeRecs rs)) (edgeRecs rs)
    else none

/-- every readable key of the edge records is one the link covers -/
def SpecOps.okRecs (l : List (Inter × Meta)) : Prop :=
  ∀ r ∈ l, ∀ k, Kind.readKey (κ := κ) r.1 r.2 = some k → L.okKey k

theorem SpecOps.okRecs_of_all (h : ∀ k, L.okKey k) (l : List (Inter × Meta)) : L.okRecs l := fun _ _ k _ => h k

theorem SpecOps.of_replayNodes (a : S) (l : List (Nat × Meta)) :
    L.of (L.replayNodes a l) = loadNodes (L.of a) l :=
  (List.foldl_hom L.of fun x y => by rw [L.of_addNode, decMeta_encMeta]).symm

theorem addNode_weighted (c : Content κ) (n : Nat) (m : Option Meta) : (addNode c n m).weighted = c.weighted := rfl

theorem loadNodes_weighted (c : Content κ) (l : List (Nat × Meta)) : (loadNodes c l).weighted = c.weighted := by
  unfold loadNodes
  induction l generalizing c with
  | nil => rfl
  | cons p t ih => simp only [List.foldl_cons]; rw [ih]; rfl

theorem SpecOps.of_replayEdges (wtd : Bool) (a : S) (hw : (L.of a).weighted = wtd) (l : List (Inter × Meta))
    (hl : L.okRecs l) :
    loadEdges (L.of a) l = (L.replayEdges wtd a l).map L.of := by
  induction l generalizing a with
  | nil => rfl
  | cons r rest ih =>
    simp only [loadEdges, loadEdge, SpecOps.replayEdges, hw]
    cases hk : Kind.readKey (κ := κ) r.1 r.2 with
    | none => simp
    | some k =>
      cases hwt : readWeight wtd r.2 with
      | none => simp
      | some w =>
        simp only []
        have h1 := L.of_addEdge a k w (encMeta r.2) (hl r List.mem_cons_self k hk)
        rw [decMeta_encMeta] at h1
        rw [h1]
        cases ha : L.addEdge a k w (encMeta r.2) with
        | none => simp
        | some a' =>
          simp only [Option.map_some]
          have hw' : (L.of a').weighted = wtd := by
            rw [ha] at h1
            rw [addEdge_weighted h1, hw]
          exact ih a' hw' (fun r' hr' => hl r' (List.mem_cons_of_mem _ hr'))

/-- **`load_hypergraph` is the replay of the records through the container model**, for every record list whose
hyperedges the link covers (all of them, for the abstract specs): same failures (missing / foreign header, unreadable key
or weight, a rejected `add_edge`), same object -/
theorem SpecOps.load_eq_replay (rs : List Record) (hl : L.okRecs (edgeRecs rs)) :
    load (κ := κ) rs = (L.replay rs).map L.of := by
  unfold load SpecOps.replay
  cases lastHeader rs none with
  | none => rfl
  | some p =>
    obtain ⟨t, w, hm⟩ := p
    simp only []
    by_cases ht : t = Kind.ty κ
    · simp only [ht, if_true]
      have h0 : setHMeta (construct κ w) hm = L.of (L.new w (encMeta hm)) := by rw [L.of_new, decMeta_encMeta]
      rw [h0, ← L.of_replayNodes]
      apply L.of_replayEdges
      · rw [L.of_replayNodes, loadNodes_weighted, L.of_new]; rfl
      · exact hl
    · simp [ht]

theorem SpecOps.okRecs_save [LawfulKind κ] (c : Content κ) (hk : ∀ e ∈ c.edges, L.okKey e.1) :
    L.okRecs (edgeRecs (save c)) := by
  intro r hr k hrk
  rw [edgeRecs_save] at hr
  obtain ⟨e, he, rfl⟩ := List.mem_map.mp hr
  simp only [recOf, LawfulKind.readKey_inter, Option.some.injEq] at hrk
  rw [← hrk]; exact hk e he

/-- the replay of the records `save` writes for a well-formed content succeeds on the model, and the state it
ends in shows the saved content with every hyperedge's metadata decorated by the reserved keys -/
theorem SpecOps.replay_save [LawfulKind κ] (c : Content κ) (h : WF c) (hk : ∀ e ∈ c.edges, L.okKey e.1) :
    ∃ a : S, L.replay (save c) = some a ∧ L.of a = { c with edges := c.edges.map (decorated c.weighted) } := by
  have h1 := L.load_eq_replay (save c) (L.okRecs_save c hk)
  rw [load_save c h] at h1
  cases hr : L.replay (save c) with
  | none => rw [hr] at h1; cases h1
  | some a =>
    rw [hr] at h1
    simp only [Option.map_some, Option.some.injEq] at h1
    exact ⟨a, rfl, h1.symm⟩

/-- the state in which the replay of `save c` ends shows `c` itself once the reserved keys are erased, and is
well-formed again -/
theorem SpecOps.reload [LawfulKind κ] (c : Content κ) (h : WF c) (hk : ∀ e ∈ c.edges, L.okKey e.1) :
    ∃ a : S, L.replay (save c) = some a ∧ (L.of a).erased = c.erased ∧ WF (L.of a) := by
  obtain ⟨a, h1, h2⟩ := L.replay_save c h hk
  exact ⟨a, h1, by rw [h2]; exact erased_decorated c, by rw [h2]; exact WF_decorated c h⟩

end replay

end C06
