import Hgxv.Proofs.C02Ref
/-! C02: the refinement of every query (concrete answer = answer of the abstract object `abs s`; role listings as
multisets). Core Lean only. -/

namespace C02
open AL

theorem q_nodes (s : Store) : nodes s = (abs s).nodeList := (abs_nodes_keys s).symm

theorem q_nodesMeta (s : Store) (h : Inv s) : nodesMeta s = some (abs s).nodes := by
  unfold nodesMeta nodes
  refine ListLib.mapM_eq_some_map _ (fun n => (n, (get? s.nmeta n).getD [])) _ ?_
  intro n hn
  have : (get? s.nmeta n).isSome := by rw [h.nmeta_same]; exact (isSome_get?_iff _ _).mpr hn
  obtain ⟨md, hmd⟩ := Option.isSome_iff_exists.mp this
  simp [hmd]

theorem q_checkNode (s : Store) (n : Node) : checkNode s n = has (abs s).nodes n := (abs_has_node s n).symm

theorem q_nodeMeta (s : Store) (h : Inv s) (n : Node) : nodeMeta s n = (abs s).nodeMeta n := by
  unfold nodeMeta Spec.nodeMeta
  rw [abs_get_node]
  by_cases hn : n ∈ keys s.adjS
  · have h1 : has s.adjS n = true := (has_iff _ _).mpr hn
    have : (get? s.nmeta n).isSome := by rw [h.nmeta_same]; exact (isSome_get?_iff _ _).mpr hn
    obtain ⟨md, hmd⟩ := Option.isSome_iff_exists.mp this
    simp [hn, h1, hmd]
  · have h1 : has s.adjS n = false := by
      cases hh : has s.adjS n
      · rfl
      · exact absurd ((has_iff _ _).mp hh) hn
    simp [hn, h1]

theorem q_edges (s : Store) (f : Filt) (up : Bool) : edges s f up = (abs s).edgesF f up := by
  unfold edges Spec.edgesF Spec.keyList; rw [abs_edges_keys]

theorem q_numbers (s : Store) : numNodes s = (abs s).nodes.length ∧ numEdges s = (abs s).edges.length ∧
    sizes s = (abs s).sizes ∧ sources s = (abs s).keyList.map (·.1) ∧ targets s = (abs s).keyList.map (·.2) := by
  refine ⟨?_, ?_, ?_, ?_, ?_⟩
  · simp [numNodes, nodes, abs, keys]
  · simp [numEdges, abs]
  · simp [sizes, Spec.sizes, Spec.keyList, abs_edges_keys]
  · simp [sources, Spec.keyList, abs_edges_keys]
  · simp [targets, Spec.keyList, abs_edges_keys]

theorem Inv.weightOfKey_mem {s : Store} (h : Inv s) (p : Key × Nat) (hp : p ∈ s.edgeList) :
    weightOfKey s p.1 = some ((get? s.weights p.2).getD 0) ∧ metaOfKey s p.1 = some ((get? s.emeta p.2).getD []) := by
  have hg : get? s.edgeList p.1 = some p.2 := get?_of_mem _ _ _ h.nd_edge hp
  have hw := h.weights_of_edge p.1 p.2 hg
  have hm := h.emeta_of_edge p.1 p.2 hg
  obtain ⟨w, hw⟩ := Option.isSome_iff_exists.mp hw
  obtain ⟨m, hm⟩ := Option.isSome_iff_exists.mp hm
  simp [weightOfKey, metaOfKey, hg, hw, hm]

/-- one column of the hyperedge tables, read through the key list under a filter: the shape of `get_edges(metadata=True)`
    and of `get_weights(asdict=True)` -/
theorem mapM_column {β : Type} (L : List (Key × Nat)) (look : Key → Option β) (val : Nat → β)
    (hl : ∀ p ∈ L, look p.1 = some (val p.2)) (q : Key → Bool) :
    ((keys L).filter q).mapM (fun k => (look k).map (fun v => (k, v))) =
      some ((L.filter (fun p => q p.1)).map (fun p => (p.1, val p.2))) := by
  have : (keys L).filter q = (L.filter (fun p => q p.1)).map (·.1) := by
    simp only [keys, List.filter_map]; rfl
  rw [this, List.mapM_map]
  exact ListLib.mapM_eq_some_map _ _ _ (fun p hp => by simp [hl p (List.mem_filter.mp hp).1])

theorem q_edgesMeta (s : Store) (h : Inv s) (f : Filt) (up : Bool) : edgesMeta s f up = (abs s).edgesMetaF f up := by
  unfold edgesMeta edges Spec.edgesMetaF
  cases f.target with
  | none => rfl
  | some t =>
    simp only [Option.map_some, Option.bind_some]
    rw [mapM_column s.edgeList _ (fun id => (get? s.emeta id).getD []) (fun p hp => (h.weightOfKey_mem p hp).2)]
    simp [abs, List.filter_map, Function.comp_def]

theorem q_weightsDict (s : Store) (h : Inv s) (f : Filt) (up : Bool) : weightsDict s f up = (abs s).weightsDictF f up := by
  unfold weightsDict edges Spec.weightsDictF
  cases f.target with
  | none => rfl
  | some t =>
    simp only [Option.map_some, Option.bind_some]
    rw [mapM_column s.edgeList _ (fun id => (get? s.weights id).getD 0) (fun p hp => (h.weightOfKey_mem p hp).1)]
    simp [abs, List.filter_map, Function.comp_def]

theorem q_edge (s : Store) (h : Inv s) (e : RawEdge) :
    checkEdge s e = (abs s).checkEdge e ∧ getWeight s e = (abs s).getWeight e ∧ edgeMeta s e = (abs s).edgeMeta e := by
  unfold checkEdge getWeight edgeMeta Spec.checkEdge Spec.getWeight Spec.edgeMeta
  cases canonStrict e with
  | none => simp
  | some k =>
    simp only [Option.map_some, Option.bind_some, abs_has_edge, abs_get_edge, true_and]
    cases hk : get? s.edgeList k with
    | none => simp [weightOfKey, metaOfKey, hk]
    | some id =>
      obtain ⟨w, hw⟩ := Option.isSome_iff_exists.mp (h.weights_of_edge k id hk)
      obtain ⟨m, hm⟩ := Option.isSome_iff_exists.mp (h.emeta_of_edge k id hk)
      simp [weightOfKey, metaOfKey, hk, hw, hm]

/-- agreement of two optional listings as multisets -/
def OptPerm {α : Type} : Option (List α) → Option (List α) → Prop
  | none, none => True
  | some a, some b => a.Perm b
  | _, _ => False

theorem q_sourceEdges (s : Store) (h : Inv s) (n : Node) (f : Filt) :
    OptPerm (sourceEdges s n f) ((abs s).sourceEdges n f) := by
  unfold Spec.sourceEdges
  rw [abs_has_node]
  cases ha : get? s.adjS n with
  | none => simp [sourceEdges, ha, has, OptPerm]
  | some ids =>
    cases ht : f.target with
    | none => simp [sourceEdges, ha, ht, has, OptPerm]
    | some t =>
      rw [h.sourceEdges_eq n ids ha f t ht]
      simp only [has, ha, Option.isSome_some, Bool.not_true, Bool.false_eq_true, if_false, Option.map_some, OptPerm,
        Spec.keyList, abs_edges_keys]
      exact h.sourceEdges_perm n ids ha t

theorem q_targetEdges (s : Store) (h : Inv s) (n : Node) (f : Filt) :
    OptPerm (targetEdges s n f) ((abs s).targetEdges n f) := by
  unfold Spec.targetEdges
  rw [abs_has_node]
  cases hS : get? s.adjS n with
  | none =>
    have hT : get? s.adjT n = none := by
      have := h.adj_same n; rw [hS] at this; cases hq : get? s.adjT n <;> simp_all
    simp [targetEdges, hT, hS, has, OptPerm]
  | some idsS =>
    have hT : (get? s.adjT n).isSome := by rw [h.adj_same, hS]; rfl
    obtain ⟨ids, ha⟩ := Option.isSome_iff_exists.mp hT
    cases ht : f.target with
    | none => simp [targetEdges, ha, ht, has, hS, OptPerm]
    | some t =>
      rw [h.targetEdges_eq n ids ha f t ht]
      simp only [has, hS, Option.isSome_some, Bool.not_true, Bool.false_eq_true, if_false, Option.map_some, OptPerm,
        Spec.keyList, abs_edges_keys]
      exact h.targetEdges_perm n ids ha t

def optAppend {α : Type} (a b : Option (List α)) : Option (List α) :=
  match a, b with
  | some x, some y => some (x ++ y)
  | _, _ => none

theorem OptPerm.append {α : Type} {a b a' b' : Option (List α)} (h1 : OptPerm a a') (h2 : OptPerm b b') :
    OptPerm (optAppend a b) (optAppend a' b') := by
  cases a <;> cases a' <;> cases b <;> cases b' <;> simp only [OptPerm] at h1 h2 <;> simp only [optAppend, OptPerm]
  exact List.Perm.append h1 h2

theorem incident_eq (s : Store) (n : Node) (f : Filt) :
    incident s n f = optAppend (sourceEdges s n f) (targetEdges s n f) := by
  unfold incident optAppend; cases sourceEdges s n f <;> cases targetEdges s n f <;> rfl

theorem Spec.incident_eq (s : Spec) (n : Node) (f : Filt) :
    s.incident n f = optAppend (s.sourceEdges n f) (s.targetEdges n f) := by
  unfold Spec.incident optAppend; cases s.sourceEdges n f <;> cases s.targetEdges n f <;> rfl

theorem q_incident (s : Store) (h : Inv s) (n : Node) (f : Filt) :
    OptPerm (incident s n f) ((abs s).incident n f) := by
  rw [incident_eq, Spec.incident_eq]
  exact OptPerm.append (q_sourceEdges s h n f) (q_targetEdges s h n f)

theorem OptPerm.length {α : Type} {a b : Option (List α)} (h : OptPerm a b) : a.map List.length = b.map List.length := by
  cases a <;> cases b <;> simp_all [OptPerm]
  exact h.length_eq

theorem q_degrees (s : Store) (h : Inv s) (n : Node) (f : Filt) :
    degree s n f = (abs s).degree n f ∧ inDegree s n f = (abs s).inDegree n f ∧ outDegree s n f = (abs s).outDegree n f :=
  ⟨(q_incident s h n f).length, (q_sourceEdges s h n f).length, (q_targetEdges s h n f).length⟩

theorem OptPerm.nodeSet {a b : Option (List Key)} (h : OptPerm a b) (n : Node) :
    a.map (fun ks => nodeSet ((ks.flatMap (fun k => k.1 ++ k.2)).filter (· != n))) =
    b.map (fun ks => nodeSet ((ks.flatMap (fun k => k.1 ++ k.2)).filter (· != n))) := by
  cases a <;> cases b <;> simp_all [OptPerm]
  apply nodeSet_eq_of_mem
  intro x
  simp only [List.mem_filter, List.mem_flatMap]
  constructor
  · rintro ⟨⟨k, hk, hx⟩, hne⟩; exact ⟨⟨k, h.mem_iff.mp hk, hx⟩, hne⟩
  · rintro ⟨⟨k, hk, hx⟩, hne⟩; exact ⟨⟨k, h.mem_iff.mpr hk, hx⟩, hne⟩

theorem q_neighbors (s : Store) (h : Inv s) (n : Node) (f : Filt) : neighbors s n f = (abs s).neighbors n f := by
  unfold neighbors Spec.neighbors
  have hi := q_incident s h n f
  by_cases hp : has s.adjS n = true
  · have hT : has s.adjT n = true := by
      have := h.adj_same n; simp only [has] at hp ⊢; rw [this]; exact hp
    simp only [hp, hT, Bool.not_true, Bool.or_self, Bool.false_eq_true, if_false]
    exact hi.nodeSet n
  · have hp' : has s.adjS n = false := by cases hq : has s.adjS n <;> simp_all
    simp only [hp', Bool.not_false, Bool.true_or, if_true]
    have : (abs s).incident n f = none := by
      unfold Spec.incident Spec.sourceEdges; rw [abs_has_node, hp']; simp
    rw [this]; rfl

theorem q_isIsolated (s : Store) (h : Inv s) (n : Node) (f : Filt) : isIsolated s n f = (abs s).isIsolated n f := by
  unfold isIsolated Spec.isIsolated; rw [q_neighbors s h n f]

theorem q_seqs (s : Store) (h : Inv s) (f : Filt) :
    degreeSeq s f = (abs s).degreeSeq f ∧ inDegreeSeq s f = (abs s).inDegreeSeq f ∧
    outDegreeSeq s f = (abs s).outDegreeSeq f ∧ degreeDist s f = (abs s).degreeDist f ∧
    isolatedNodes s f = (abs s).isolatedNodes f := by
  have e1 : degreeSeq s f = (abs s).degreeSeq f := by
    unfold degreeSeq Spec.degreeSeq; rw [q_nodes]
    cases f.target with
    | none => rfl
    | some t => exact ListLib.mapM_congr _ _ _ (fun n _ => by rw [(q_degrees s h n f).1])
  refine ⟨e1, ?_, ?_, ?_, ?_⟩
  · unfold inDegreeSeq Spec.inDegreeSeq; rw [q_nodes]
    exact ListLib.mapM_congr _ _ _ (fun n _ => by rw [(q_degrees s h n f).2.1])
  · unfold outDegreeSeq Spec.outDegreeSeq; rw [q_nodes]
    exact ListLib.mapM_congr _ _ _ (fun n _ => by rw [(q_degrees s h n f).2.2])
  · unfold degreeDist Spec.degreeDist; rw [e1]
  · unfold isolatedNodes Spec.isolatedNodes; rw [q_nodes]
    cases f.target with
    | none => rfl
    | some t =>
      simp only []
      rw [ListLib.mapM_congr _ _ _ (fun n _ => by rw [q_neighbors s h n f])]

end C02
