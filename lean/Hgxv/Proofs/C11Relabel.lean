import Hgxv.Proofs.C11RelabelAux
import Hgxv.Proofs.C11Census
/-! # C11 - the census does not depend on the node labels: renaming the NODES by `π` (the tables that relabel pattern
positions are in `Proofs/C11RelabelAux.lean`) (core Lean only)

For an injective renaming `π`, the sorted image of a node set has a labelled pattern that is a
relabelling (`applyPerm t`, `t ∈ tbls n`) of the original pattern (`pattern_relabel`); connectivity is preserved
(`conn_relabel`); the enumeration of the renamed hypergraph is the image of the enumeration (`counted_relabel`). -/
namespace C11

section
variable {π : Nat → Nat}

theorem reach_relabel {E : HG} {S S' : List Nat} (hSS' : ∀ y, y ∈ S' ↔ ∃ x ∈ S, π x = y) {y x : Nat}
    (h : Reach E S y x) : Reach (relabelHG π E) S' (π y) (π x) := by
  induction h with
  | refl => exact Reach.refl _
  | step _ hadj ih =>
    obtain ⟨e, he, hs, hz, hx⟩ := hadj
    refine Reach.step ih ⟨isort (e.map π), List.mem_map.mpr ⟨e, he, rfl⟩, ?_, ?_, ?_⟩
    · intro z' hz'
      obtain ⟨a, ha, rfl⟩ := mem_relabelSet.mp hz'
      exact (hSS' _).mpr ⟨a, hs a ha, rfl⟩
    · exact mem_relabelSet.mpr ⟨_, hz, rfl⟩
    · exact mem_relabelSet.mpr ⟨_, hx, rfl⟩

theorem mem_nodesOf_relabel {E : HG} {y : Nat} : y ∈ nodesOf (relabelHG π E) ↔ ∃ x ∈ nodesOf E, π x = y := by
  rw [mem_nodesOf]
  constructor
  · rintro ⟨e', he', hy⟩
    obtain ⟨e, he, rfl⟩ := List.mem_map.mp he'
    obtain ⟨x, hx, hxy⟩ := mem_relabelSet.mp hy
    exact ⟨x, mem_nodesOf.mpr ⟨e, he, hx⟩, hxy⟩
  · rintro ⟨x, hx, rfl⟩
    obtain ⟨e, he, hxe⟩ := mem_nodesOf.mp hx
    exact ⟨isort (e.map π), List.mem_map.mpr ⟨e, he, rfl⟩, mem_relabelSet.mpr ⟨x, hxe, rfl⟩⟩

variable (hπ : ∀ a b, π a = π b → a = b)
include hπ

theorem relabelHG_wf {E : HG} (hE : WF E) : WF (relabelHG π E) := by
  constructor
  · exact map_relabelSet_nodup hπ hE.nodup hE.sorted
  · intro e' he'
    obtain ⟨e, he, rfl⟩ := List.mem_map.mp he'
    exact relabelSet_sorted hπ (hE.sorted e he).nodup

theorem contains_relabel {E : HG} (hE : WF E) {A B : List Nat} (hA : SSorted A) (hB : SSorted B)
    (hAB : ∀ y, y ∈ B ↔ ∃ x ∈ A, π x = y) : (relabelHG π E).contains B = E.contains A := by
  rw [Bool.eq_iff_iff, List.contains_iff_mem, List.contains_iff_mem]
  constructor
  · intro h
    obtain ⟨e, he, heq⟩ := List.mem_map.mp h
    have hes := hE.sorted e he
    have : e = A := by
      apply eq_of_sorted_of_mem_iff hes hA
      intro x
      constructor
      · intro hx
        have : π x ∈ B := by rw [← heq]; exact mem_relabelSet.mpr ⟨x, hx, rfl⟩
        obtain ⟨x', hx', he'⟩ := (hAB _).mp this
        exact hπ x' x he' ▸ hx'
      · intro hx
        have : π x ∈ isort (e.map π) := by rw [heq]; exact (hAB _).mpr ⟨x, hx, rfl⟩
        obtain ⟨x', hx', he'⟩ := mem_relabelSet.mp this
        exact hπ x' x he' ▸ hx'
    exact this ▸ he
  · intro h
    refine List.mem_map.mpr ⟨A, h, ?_⟩
    exact isort_eq_of_mem_iff (ListLib.nodup_map_inj π hπ hA.nodup) hB (fun y => by rw [List.mem_map]; exact (hAB y).symm)

theorem pattern_relabel {n : Nat} {E : HG} (hE : WF E) {S : List Nat}
    (hS : SSorted S) (hlen : S.length = n) :
    ∃ t ∈ tbls n, applyPerm t (pattern n (relabelHG π E) (relabelSet π S)) = pattern n E S := by
  have hS' : SSorted (relabelSet π S) := relabelSet_sorted hπ hS.nodup
  have hlen' : (relabelSet π S).length = n := by rw [relabelSet_length, hlen]
  have hσlen : (S.map π).length = n := by simp [hlen]
  -- q[j] = position in S of the node whose image is S'[j]
  let q : List Nat := (relabelSet π S).map fun y => (S.map π).idxOf y
  have hqlen : q.length = n := by simp [q, hlen']
  obtain ⟨hq, hqval⟩ := idxOf_map_perm (M := S.map π) hS'.nodup
    (fun y hy => by obtain ⟨x, hx, he⟩ := mem_relabelSet.mp hy; exact List.mem_map.mpr ⟨x, hx, he⟩)
    (by rw [hlen', hσlen])
  rw [hσlen] at hq
  have hqnd : q.Nodup := (perm_of_mem_perms hq).nodup_iff.mpr List.nodup_range
  have hqlt : ∀ x ∈ q, x < n := fun x hx => List.mem_range.mp ((perm_of_mem_perms hq).mem_iff.mp hx)
  have hQ : ∀ j, j < n → q.getD j 0 < n ∧ π (S.getD (q.getD j 0) 0) = (relabelSet π S).getD j 0 := by
    intro j hj
    have hlt : q.getD j 0 < n := hqlt _ (getD_mem q 0 (i := j) (by omega))
    refine ⟨hlt, ?_⟩
    rw [← hqval j (by omega)]
    exact (getD_map_lt π S 0 0 (by omega)).symm
  have hqinj : ∀ i j, i < n → j < n → q.getD i 0 = q.getD j 0 → i = j := fun i j hi hj =>
    getD_inj_of_nodup hqnd (by omega) (by omega)
  obtain ⟨htlen, htfacts, htsurj⟩ := edgePerm_facts hq
  refine ⟨edgePerm (hyperedges n) q, List.mem_map.mpr ⟨q, hq, rfl⟩, ?_⟩
  have hb : (patBits n E S).length = (hyperedges n).length := by
    unfold patBits; rw [List.length_map, length_hyperedgesOf hlen]
  have hb' : (patBits n (relabelHG π E) (relabelSet π S)).length = (hyperedges n).length := by
    unfold patBits; rw [List.length_map, length_hyperedgesOf hlen']
  unfold pattern
  apply applyPerm_toMask _ _ _ (hyperedges n).length hb htlen htsurj ?_ hb'
  intro p hp
  obtain ⟨htp, hes⟩ := htfacts p hp
  -- the p-th sub-hyperedge of S' and the t[p]-th of S
  unfold patBits
  rw [hyperedgesOf_eq hlen', hyperedgesOf_eq hlen, List.map_map, List.map_map]
  rw [getD_map_lt _ _ [] false hp, getD_map_lt _ _ [] false htp]
  simp only [Function.comp]
  rw [hes]
  have hhe := mem_hyperedges (getD_mem (hyperedges n) [] hp)
  obtain ⟨hhes, hhelt, _, _⟩ := hhe
  have hXnd : (((hyperedges n).getD p []).map fun v => q.getD v 0).Nodup :=
    nodup_map_of_inj hhes.nodup fun a ha b hb => hqinj a b (hhelt a ha) (hhelt b hb)
  have hXlt : ∀ x ∈ isort (((hyperedges n).getD p []).map fun v => q.getD v 0), x < S.length := by
    intro x hx
    rw [mem_isort] at hx
    obtain ⟨v, hv, rfl⟩ := List.mem_map.mp hx
    have := (hQ v (hhelt v hv)).1
    omega
  apply contains_relabel hπ hE
  · exact map_getD_sorted hS (isort_sorted hXnd) hXlt
  · exact map_getD_sorted hS' hhes (fun x hx => by have := hhelt x hx; omega)
  · intro y
    simp only [List.mem_map, mem_isort]
    constructor
    · rintro ⟨j, hj, rfl⟩
      exact ⟨S.getD (q.getD j 0) 0, ⟨q.getD j 0, ⟨j, hj, rfl⟩, rfl⟩, (hQ j (hhelt j hj)).2⟩
    · rintro ⟨x, ⟨x0, ⟨j, hj, rfl⟩, rfl⟩, rfl⟩
      exact ⟨j, hj, ((hQ j (hhelt j hj)).2).symm⟩

theorem reach_relabel_inv {E : HG} {S S' : List Nat} (hSS' : ∀ y, y ∈ S' ↔ ∃ x ∈ S, π x = y) {y' x' : Nat}
    (h : Reach (relabelHG π E) S' y' x') : ∀ y, π y = y' → ∃ x, π x = x' ∧ Reach E S y x := by
  induction h with
  | refl => intro y hy; exact ⟨y, hy, Reach.refl _⟩
  | step _ hadj ih =>
    intro y hy
    obtain ⟨z, hz, hr⟩ := ih y hy
    obtain ⟨e', he', hs', hz', hx'⟩ := hadj
    obtain ⟨e, he, rfl⟩ := List.mem_map.mp he'
    have hsub : ∀ a ∈ e, a ∈ S := by
      intro a ha
      have : π a ∈ S' := hs' _ (mem_relabelSet.mpr ⟨a, ha, rfl⟩)
      obtain ⟨s, hs, hse⟩ := (hSS' _).mp this
      exact hπ s a hse ▸ hs
    obtain ⟨a, ha, hae⟩ := mem_relabelSet.mp hz'
    obtain ⟨x, hx, hxe⟩ := mem_relabelSet.mp hx'
    have haz : a = z := hπ a z (hae.trans hz.symm)
    exact ⟨x, hxe, Reach.step hr ⟨e, he, hsub, haz ▸ ha, hx⟩⟩

theorem conn_relabel {E : HG} {S : List Nat} :
    Conn (relabelHG π E) (relabelSet π S) ↔ Conn E S := by
  have hSS' : ∀ y, y ∈ relabelSet π S ↔ ∃ x ∈ S, π x = y := fun y => mem_relabelSet
  constructor
  · intro h y hy x hx
    have := h (π y) ((hSS' _).mpr ⟨y, hy, rfl⟩) (π x) ((hSS' _).mpr ⟨x, hx, rfl⟩)
    obtain ⟨x0, hx0, hr⟩ := reach_relabel_inv hπ hSS' this y rfl
    exact hπ x0 x hx0 ▸ hr
  · intro h y' hy' x' hx'
    obtain ⟨y, hy, rfl⟩ := (hSS' _).mp hy'
    obtain ⟨x, hx, rfl⟩ := (hSS' _).mp hx'
    exact reach_relabel hSS' (h y hy x hx)

theorem exists_preimage {E : HG} {S' : List Nat} (hS' : SSorted S') (hV : ∀ y ∈ S', y ∈ nodesOf (relabelHG π E)) :
    ∃ S, SSorted S ∧ (∀ x ∈ S, x ∈ nodesOf E) ∧ relabelSet π S = S' := by
  let S := (nodesOf E).filter fun x => S'.contains (π x)
  have hSs : SSorted S := List.Pairwise.filter _ (nodesOf_sorted E)
  have hSm : ∀ x, x ∈ S ↔ x ∈ nodesOf E ∧ π x ∈ S' := by
    intro x; simp [S, List.mem_filter]
  refine ⟨S, hSs, fun x hx => ((hSm x).mp hx).1, ?_⟩
  apply isort_eq_of_mem_iff (ListLib.nodup_map_inj π hπ hSs.nodup) hS'
  intro y
  rw [List.mem_map]
  constructor
  · rintro ⟨x, hx, rfl⟩; exact ((hSm x).mp hx).2
  · intro hy
    obtain ⟨x, hx, hxy⟩ := mem_nodesOf_relabel.mp (hV y hy)
    exact ⟨x, (hSm x).mpr ⟨hx, hxy ▸ hy⟩, hxy⟩

theorem counted_relabel {n : Nat} (hn : n = 3 ∨ n = 4) {E : HG} (hE : WF E) :
    (counted n (relabelHG π E)).Perm ((counted n E).map (relabelSet π)) := by
  have hE' : WF (relabelHG π E) := relabelHG_wf hπ hE
  have hnd := counted_nodup hn hE
  have hnd2 : ((counted n E).map (relabelSet π)).Nodup :=
    map_relabelSet_nodup hπ hnd fun a ha => ((mem_counted hn hE).mp ha).1
  apply (List.perm_ext_iff_of_nodup (counted_nodup hn hE') hnd2).mpr
  intro S'
  rw [mem_counted hn hE', List.mem_map]
  constructor
  · rintro ⟨hS', hlen', hc'⟩
    obtain ⟨S, hSs, _, heq⟩ := exists_preimage hπ hS' fun y hy => by
      obtain ⟨e', he', hye'⟩ := conn_covered hS' (by rcases hn with h | h <;> omega) hc' y hy
      exact mem_nodesOf.mpr ⟨e', he', hye'⟩
    refine ⟨S, (mem_counted hn hE).mpr ⟨hSs, ?_, ?_⟩, heq⟩
    · rw [← relabelSet_length (π := π) S, heq]; exact hlen'
    · rw [← heq] at hc'; exact (conn_relabel hπ).mp hc'
  · rintro ⟨S, hS, rfl⟩
    obtain ⟨hSs, hlen, hc⟩ := (mem_counted hn hE).mp hS
    exact ⟨relabelSet_sorted hπ hSs.nodup, by rw [relabelSet_length]; exact hlen, (conn_relabel hπ).mpr hc⟩

end
end C11
