import Hgxv.Model.C11Enum
import Hgxv.Proofs.C11Esu
import Hgxv.Proofs.C11List
/-! # C11 - the ESU pass summed over its roots (core Lean only)

`esuSets n E` (the node sets handed to `count_motif` by `_motifs_standard`) contains every
`n`-subset that is connected in the dyadic skeleton exactly once - rooted at its minimum - and
nothing else; proved for arbitrary duplicate-free adjacency lists and root lists (`esuSetsWith`).
At the end `extendS`, the structural twin of `extend` by which concrete instances are evaluated. -/
namespace C11

theorem extend_out {N : Nat} {g : Nat → List Nat} {v : Nat} (hgnd : ∀ w, (g w).Nodup) :
    ∀ (sub ext nsub : List Nat), Inv N g v sub ext nsub →
      ∀ o ∈ extend N g v sub ext nsub, o.Nodup ∧ o.length = N := by
  intro sub ext nsub
  induction sub, ext, nsub using extend.induct N g v with
  | case1 sub ext nsub hge =>
    intro hinv o ho
    rw [extend.eq_def] at ho; simp only [hge, if_true, List.mem_singleton] at ho
    subst ho
    exact ⟨hinv.sub_nodup, by have := hinv.sub_len; omega⟩
  | case2 sub nsub hlt =>
    intro hinv o ho
    rw [extend] at ho; simp [hlt] at ho
  | case3 sub nsub hlt w rest ihA ihB =>
    intro hinv o ho
    rw [extend] at ho; simp only [hlt, if_false, List.mem_append] at ho
    rcases ho with h | h
    · exact ihA (inv_A hgnd hinv (by omega)) o h
    · exact ihB (inv_B hinv) o h

/-- `S` is connected in the graph `g`, all its nodes other than `v` are larger than `v`, and `v ∈ S` -/
structure RootValid (g : Nat → List Nat) (v : Nat) (S : List Nat) : Prop where
  root_in : v ∈ S
  above : ∀ x ∈ S, x ≠ v → v < x
  reach : ∀ x ∈ S, ReachIn g S [v] x

theorem root_inv {N : Nat} {g : Nat → List Nat} (v : Nat) (hN : 1 ≤ N) (hgnd : ∀ w, (g w).Nodup) :
    Inv N g v [v] ((g v).filter (v < ·)) (g v) := by
  refine ⟨by simp, by simpa using hN, ?_, (hgnd v).filter _, ?_⟩
  · intro x; simp
  · intro x hx
    simp only [List.mem_filter, decide_eq_true_eq] at hx
    refine ⟨hx.1, ?_, hx.2⟩
    simp only [List.mem_singleton]; omega

theorem root_valid_iff {g : Nat → List Nat} {v : Nat} {S : List Nat} :
    Valid g v [v] ((g v).filter (v < ·)) (g v) S ↔ RootValid g v S := by
  constructor
  · intro h
    exact ⟨h.sub_in v (by simp), fun x hx hne => h.above x hx (by simpa using hne), h.reach⟩
  · intro h
    refine ⟨?_, ?_, ?_, h.reach⟩
    · intro x hx; simp at hx; subst hx; exact h.root_in
    · intro x hx hns; exact h.above x hx (by simpa using hns)
    · intro x hx hns hf
      have hlt := h.above x hx (by simpa using hns)
      apply hf.2.2
      simp only [List.mem_filter, decide_eq_true_eq]
      exact ⟨hf.1, hlt⟩

theorem rootValid_unique {g : Nat → List Nat} {v v' : Nat} {S : List Nat}
    (h : RootValid g v S) (h' : RootValid g v' S) : v = v' := by
  apply Decidable.byContradiction
  intro hne
  have h1 := h.above v' h'.root_in (fun e => hne e.symm)
  have h2 := h'.above v h.root_in hne
  omega

theorem nbrs_nodup (E : HG) (w : Nat) : (nbrs E w).Nodup := nodup_dedup _
theorem roots_nodup (E : HG) : (roots E).Nodup := nodup_dedup _

def esuFromW (n : Nat) (g : Nat → List Nat) (v : Nat) : List (List Nat) :=
  extend n g v [v] ((g v).filter (v < ·)) (g v)

theorem esuSetsWith_eq (n : Nat) (g : Nat → List Nat) (rts : List Nat) :
    esuSetsWith n g rts = rts.flatMap (esuFromW n g) := rfl

section gen
variable {n : Nat} {g : Nat → List Nat} {rts : List Nat}

theorem esuW_out (hn : 1 ≤ n) (hgnd : ∀ w, (g w).Nodup) :
    ∀ o ∈ esuSetsWith n g rts, o.Nodup ∧ o.length = n ∧ ∃ v ∈ rts, RootValid g v o := by
  intro o ho
  rw [esuSetsWith_eq, List.mem_flatMap] at ho
  obtain ⟨v, hv, hov⟩ := ho
  have hinv := root_inv (N := n) (g := g) v hn hgnd
  obtain ⟨hnd, hlen⟩ := extend_out hgnd _ _ _ hinv o hov
  refine ⟨hnd, hlen, v, hv, ?_⟩
  have spec := extend_spec hgnd _ _ _ hinv o hnd hlen
  apply Classical.byContradiction
  intro hnv
  have h0 := spec.2 (fun hval => hnv (root_valid_iff.mp hval))
  have hpos : 0 < (esuFromW n g v).countP (sameSet o) :=
    List.countP_pos_iff.mpr ⟨o, hov, (sameSet_iff o o).mpr (fun _ => Iff.rfl)⟩
  unfold esuFromW at hpos
  omega

theorem esuW_count_root (hn : 1 ≤ n) (hgnd : ∀ w, (g w).Nodup) (v : Nat) (S : List Nat) (hS : S.Nodup)
    (hlen : S.length = n) :
    (RootValid g v S → (esuFromW n g v).countP (sameSet S) = 1) ∧
    (¬ RootValid g v S → (esuFromW n g v).countP (sameSet S) = 0) := by
  have hinv := root_inv (N := n) (g := g) v hn hgnd
  have spec := extend_spec hgnd _ _ _ hinv S hS hlen
  exact ⟨fun h => spec.1 (root_valid_iff.mpr h), fun h => spec.2 (fun hv => h (root_valid_iff.mp hv))⟩

theorem esuW_count (hn : 1 ≤ n) (hgnd : ∀ w, (g w).Nodup) (hr : rts.Nodup) (S : List Nat) (hS : S.Nodup)
    (hlen : S.length = n) :
    ((∃ v ∈ rts, RootValid g v S) → (esuSetsWith n g rts).countP (sameSet S) = 1) ∧
    ((¬ ∃ v ∈ rts, RootValid g v S) → (esuSetsWith n g rts).countP (sameSet S) = 0) := by
  rw [esuSetsWith_eq, List.countP_flatMap]
  constructor
  · rintro ⟨v, hv, hval⟩
    have := sum_map_single rts hr (List.countP (sameSet S) ∘ esuFromW n g) v hv (by
      intro x _ hne
      exact (esuW_count_root hn hgnd x S hS hlen).2 (fun hx => hne (rootValid_unique hx hval)))
    rw [this]
    exact (esuW_count_root hn hgnd v S hS hlen).1 hval
  · intro hno
    apply ListLib.sum_map_eq_zero
    intro x hx
    exact (esuW_count_root hn hgnd x S hS hlen).2 (fun h => hno ⟨x, hx, h⟩)

end gen

/-- `_motifs_standard` is the pass over the dyadic skeleton's adjacency lists and keys -/
theorem esuSets_eq (n : Nat) (E : HG) : esuSets n E = esuSetsWith n (nbrs E) (roots E) := rfl

section structural
variable (N : Nat) (g : Nat → List Nat) (v : Nat)

/-- one level of `extend`: the loop over the extension set, `f` standing for the calls one level down -/
def extendRow (f : List Nat → List Nat → List Nat → List (List Nat)) (sub nsub : List Nat) :
    List Nat → List (List Nat)
  | [] => []
  | w :: rest => f (sub ++ [w]) (rest ++ newExcl g v sub rest nsub w) (nsub ++ g w) ++ extendRow f sub nsub rest

/-- `extend` with `k` nodes still missing -/
def extendS : Nat → List Nat → List Nat → List Nat → List (List Nat)
  | 0 => fun sub _ _ => [sub]
  | k+1 => fun sub ext nsub => extendRow g v (extendS k) sub nsub ext

theorem extend_eq_extendS : ∀ (k : Nat) (sub ext nsub : List Nat), N - sub.length = k →
    extend N g v sub ext nsub = extendS g v k sub ext nsub := by
  intro k
  induction k with
  | zero => intro sub ext nsub h; rw [extend.eq_def, if_pos (by omega)]; rfl
  | succ k ih =>
    intro sub ext nsub h
    induction ext generalizing nsub with
    | nil => rw [extend.eq_def, if_neg (by omega)]; rfl
    | cons w rest ihr =>
      rw [extend.eq_def, if_neg (by omega)]
      show _ ++ _ = _ ++ _
      rw [ih _ _ _ (by simp; omega), ihr]
      rfl

end structural

end C11
