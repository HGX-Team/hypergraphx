import Hgxv.Proofs.C05
import Hgxv.Proofs.ListLib
/-! The folds the extraction functions are made of (core Lean only). -/
namespace C05
variable {κ : Type} [DecidableEq κ] [Keyed κ]
set_option linter.unusedSectionVars false

theorem foldlM_some_cons {α β : Type} (f : β → α → Option β) (b b' : β) (a : α) (l : List α)
    (h : f b a = some b') : (a :: l).foldlM f b = l.foldlM f b' := by
  simp [List.foldlM_cons, h]

theorem copyNodeMeta_eq (src h : Content κ) (n : Node) (md : Meta)
    (hs : AL.get? src.nodes n = some md) (hh : n ∈ nodesOf h) :
    copyNodeMeta src h n = some { h with nodes := AL.set h.nodes n md } := by
  have : AL.has h.nodes n = true := (AL.has_iff _ _).2 hh
  simp [copyNodeMeta, getNodeMeta, hs, setNodeMeta, this]

theorem foldCopyNodeMeta (src : Content κ) :
    ∀ (ns : List Node) (h : Content κ), (∀ n ∈ ns, n ∈ nodesOf h ∧ n ∈ nodesOf src) →
      ∃ r, ns.foldlM (copyNodeMeta src) h = some r ∧ r.weighted = h.weighted ∧ r.edges = h.edges ∧
        nodesOf r = nodesOf h ∧
        ∀ m, AL.get? r.nodes m = if m ∈ ns then AL.get? src.nodes m else AL.get? h.nodes m := by
  intro ns
  induction ns with
  | nil => intro h _; exact ⟨h, by simp⟩
  | cons n ns ih =>
    intro h hall
    obtain ⟨hnh, hns⟩ := hall n (by simp)
    obtain ⟨md, hmd⟩ := Option.isSome_iff_exists.1 ((AL.mem_keys_iff _ _).1 hns)
    have hstep := copyNodeMeta_eq src h n md hmd hnh
    have hkeys : nodesOf ({ h with nodes := AL.set h.nodes n md } : Content κ) = nodesOf h := by
      simp only [nodesOf]
      exact AL.keys_set_of_mem _ _ _ ((AL.mem_keys_iff _ _).1 hnh)
    obtain ⟨r, hr, hw, he, hk, hg⟩ := ih { h with nodes := AL.set h.nodes n md } (by
      intro m hm
      rw [hkeys]
      exact hall m (by simp [hm]))
    refine ⟨r, ?_, hw, he, hk.trans hkeys, ?_⟩
    · rw [foldlM_some_cons _ _ _ _ _ hstep]; exact hr
    · intro m
      rw [hg m]
      simp only [AL.get?_set, List.mem_cons]
      by_cases e : n = m
      · subst e; simp [hmd]
      · have : ¬ m = n := fun h => e h.symm
        simp [e, this]

theorem weightOk_reinsert (b : Bool) (w : W) : weightOk b (if b then some w else none) = true := by
  cases b <;> simp [weightOk]

/-- the weight test as `add_edge` writes it: rejected iff unweighted and a weight other than `1` is given -/
theorem weightOk_eq (b : Bool) (w : Option W) : weightOk b w = !(!b && w.isSome && w != some unitW) := by
  cases w with
  | none => cases b <;> rfl
  | some x => cases b <;> simp [weightOk, bne]

theorem addEdge_new (h : Content κ) (k : κ) (w : Option W) (md : Meta) (hok : weightOk h.weighted w = true)
    (hk : k ∉ keysOf h) :
    addEdge h k w md =
      some { h with edges := h.edges ++ [(k, (if h.weighted then w.getD unitW else unitW, md))],
                    nodes := touchL h.nodes (Keyed.members k) } := by
  simp only [addEdge, hok, ↓reduceIte, addEdgeCore, (AL.get?_eq_none_iff _ _).2 hk, addEdgeNew, touchAll]

theorem reinsert_weight (b : Bool) (w : W) (hunit : b = false → w = unitW) :
    (if b then (if b then some w else none).getD unitW else unitW) = w := by
  cases b
  · exact (hunit rfl).symm
  · rfl

theorem reinsert_eq (src h : Content κ) (e : κ × (W × Meta))
    (hnd : (keysOf src).Nodup) (hmem : e ∈ src.edges) (hw : h.weighted = src.weighted)
    (hunit : src.weighted = false → e.2.1 = unitW) (hk : e.1 ∉ keysOf h) :
    reinsert src h e.1 = some { h with edges := h.edges ++ [e], nodes := touchL h.nodes (Keyed.members e.1) } ∧
    reinsertBare src h e.1 =
      some { h with edges := h.edges ++ [(e.1, (e.2.1, []))], nodes := touchL h.nodes (Keyed.members e.1) } := by
  have hg : AL.get? src.edges e.1 = some e.2 := AL.get?_of_mem _ _ _ hnd hmem
  have hok : weightOk h.weighted (if src.weighted then some e.2.1 else none) = true := hw ▸ weightOk_reinsert _ _
  simp only [reinsert, reinsertBare, getWeight, getEdgeMeta, hg, Option.map_some, Option.bind_eq_bind, Option.bind_some,
    addEdge_new h e.1 _ _ hok hk, hw, reinsert_weight _ _ hunit, and_self]

/-- the nodes a list of entries brings in, in the order `add_edge` meets them -/
def nodesIn (L : List (κ × (W × Meta))) : List Node := L.flatMap (fun e => Keyed.members e.1)

theorem mem_nodesIn (L : List (κ × (W × Meta))) (n : Node) :
    n ∈ nodesIn L ↔ ∃ e ∈ L, n ∈ Keyed.members e.1 :=
  List.mem_flatMap

/-- `f` re-inserts an entry `e` of the source as `(e.1, g e.2)` into a hypergraph of the source's weightedness that does
not have its key, and links its nodes -/
def Reinserts (src : Content κ) (f : Content κ → κ → Option (Content κ)) (g : W × Meta → W × Meta) : Prop :=
  ∀ (h : Content κ) (e), e ∈ src.edges → h.weighted = src.weighted → e.1 ∉ keysOf h →
    f h e.1 = some { h with edges := h.edges ++ [(e.1, g e.2)], nodes := touchL h.nodes (Keyed.members e.1) }

theorem foldAppend {src : Content κ} {f : Content κ → κ → Option (Content κ)} {g : W × Meta → W × Meta}
    (hf : Reinserts src f g) :
    ∀ (L : List (κ × (W × Meta))) (h : Content κ), (∀ e ∈ L, e ∈ src.edges) → (AL.keys L).Nodup →
      (∀ k ∈ AL.keys L, k ∉ keysOf h) → h.weighted = src.weighted →
      (AL.keys L).foldlM f h =
        some { h with edges := h.edges ++ L.map (fun e => (e.1, g e.2)), nodes := touchL h.nodes (nodesIn L) } := by
  intro L
  induction L with
  | nil => intro h _ _ _ _; simp [AL.keys, nodesIn, touchL]
  | cons e L ih =>
    intro h hsub hnodup hdisj hw
    rw [AL.keys, List.map_cons, List.nodup_cons] at hnodup
    have hstep := hf h e (hsub e List.mem_cons_self) hw (hdisj e.1 List.mem_cons_self)
    have hrest := ih { h with edges := h.edges ++ [(e.1, g e.2)], nodes := touchL h.nodes (Keyed.members e.1) }
      (fun x hx => hsub x (List.mem_cons_of_mem _ hx)) hnodup.2 (by
      intro k hk
      simp only [keysOf, AL.keys_append, List.mem_append, not_or]
      refine ⟨hdisj k (List.mem_cons_of_mem _ hk), ?_⟩
      simp only [AL.keys, List.map_cons, List.map_nil, List.mem_singleton]
      intro e'; subst e'; exact hnodup.1 hk) hw
    rw [AL.keys, List.map_cons, foldlM_some_cons _ _ _ _ _ hstep]
    rw [AL.keys] at hrest
    rw [hrest]
    simp [nodesIn, touchL_append]

theorem copyEdgeMeta_eq (src h : Content κ) (k : κ) (v s : W × Meta)
    (hs : AL.get? src.edges k = some s) (hh : AL.get? h.edges k = some v) :
    copyEdgeMeta src h k = some { h with edges := AL.set h.edges k (v.1, s.2) } := by
  simp [copyEdgeMeta, getEdgeMeta, hs, setEdgeMeta, hh]

/-- the `set_edge_metadata` pass over the keys of `L2`, on a hypergraph whose hyperedges are an already restored prefix `L1` followed
by the bare copies of `L2`: it gives `L2` its metadata back and leaves `L1` alone -/
theorem restoreSuffix (src : Content κ) (hnd : (keysOf src).Nodup) : ∀ (L2 L1 : List (κ × (W × Meta))) (h : Content κ),
    (∀ e ∈ L2, e ∈ src.edges) → (AL.keys (L1 ++ L2)).Nodup →
    h.edges = L1 ++ L2.map (fun e => (e.1, (e.2.1, ([] : Meta)))) →
    (AL.keys L2).foldlM (copyEdgeMeta src) h = some { h with edges := L1 ++ L2 } := by
  intro L2
  induction L2 with
  | nil => intro L1 h _ _ he; exact congrArg some (by rw [← show h.edges = L1 ++ [] from he])
  | cons e L2 ih =>
    intro L1 h hsub hnd2 he
    have hL1 : AL.get? L1 e.1 = none := by
      rw [AL.get?_eq_none_iff]
      intro hk
      rw [AL.keys_append, List.nodup_append] at hnd2
      exact hnd2.2.2 _ hk _ List.mem_cons_self rfl
    have hh : AL.get? h.edges e.1 = some (e.2.1, []) := by
      rw [he, AL.get?_append, hL1]; simp [AL.get?]
    have hstep : copyEdgeMeta src h e.1 =
        some { h with edges := L1 ++ e :: L2.map (fun e => (e.1, (e.2.1, ([] : Meta)))) } := by
      rw [copyEdgeMeta_eq src h e.1 _ e.2 (AL.get?_of_mem _ _ _ hnd (hsub e List.mem_cons_self)) hh, he,
        AL.set_append_right _ _ _ _ hL1]
      simp [AL.set]
    rw [AL.keys, List.map_cons, foldlM_some_cons _ _ _ _ _ hstep]
    have := ih (L1 ++ [e]) { h with edges := L1 ++ e :: L2.map (fun e => (e.1, (e.2.1, ([] : Meta)))) }
      (fun x hx => hsub x (List.mem_cons_of_mem _ hx)) (by rwa [List.append_assoc]) (by simp)
    rw [AL.keys] at this
    rw [this]; simp

end C05
