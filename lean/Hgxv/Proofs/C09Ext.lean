import Hgxv.Model.C09Ext
import Hgxv.Proofs.C09Multi
import Mathlib.Algebra.Field.Defs
/-! The annealed matrices (average over the snapshots) and `adjacency_factor`. -/
namespace C09

theorem allSome_spec {β : Type} (l : List (Nat × Option β)) (r : List (Nat × β)) (h : allSome l = some r) :
    r.map (·.1) = l.map (·.1) ∧ ∀ p ∈ r, (p.1, some p.2) ∈ l := by
  induction l generalizing r with
  | nil => simp [allSome] at h; subst h; simp
  | cons x l ih =>
    obtain ⟨d, o⟩ := x
    cases o with
    | none => simp [allSome] at h
    | some M =>
      simp only [allSome, Option.map_eq_some_iff] at h
      obtain ⟨r', hr', rfl⟩ := h
      obtain ⟨h1, h2⟩ := ih r' hr'
      refine ⟨by simp [h1], ?_⟩
      intro p hp
      rcases List.mem_cons.1 hp with rfl | hp
      · simp
      · exact List.mem_cons_of_mem _ (h2 p hp)

theorem allSome_eq_none {β : Type} (l : List (Nat × Option β)) :
    allSome l = none ↔ ∃ p ∈ l, p.2 = none := by
  induction l with
  | nil => simp [allSome]
  | cons x l ih =>
    obtain ⟨d, o⟩ := x
    cases o with
    | none => exact ⟨fun _ => ⟨(d, none), List.mem_cons_self, rfl⟩, fun _ => rfl⟩
    | some M =>
      rw [allSome, Option.map_eq_none_iff, ih]
      constructor
      · rintro ⟨p, hp, h⟩
        exact ⟨p, List.mem_cons_of_mem _ hp, h⟩
      · rintro ⟨p, hp, h⟩
        rcases List.mem_cons.1 hp with rfl | hp
        · cases h
        · exact ⟨p, hp, h⟩

theorem sameLen_spec {R : Type} (Ms : List (List (List R))) :
    sameLen Ms = true ↔ ∀ A ∈ Ms, ∀ B ∈ Ms, A.length = B.length := by
  cases Ms with
  | nil => simp [sameLen]
  | cons M rest =>
    simp only [sameLen, List.all_eq_true, beq_iff_eq, List.mem_cons]
    constructor
    · intro h A hA B hB
      have e : ∀ X, X = M ∨ X ∈ rest → X.length = M.length := by
        intro X hX
        rcases hX with rfl | hX
        · rfl
        · exact h X hX
      rw [e A hA, e B hB]
    · intro h X hX
      exact h X (Or.inr hX) M (Or.inl rfl)

theorem entry_divScalar {R : Type} [Field R] (M : List (List R)) (c : R) (i j : Nat) :
    entry (divScalar M c) i j = (entry M i j).map (· / c) := entry_map_rows M _ i j

theorem entryD_of_entry {α : Type} [Zero α] (M : List (List α)) (i j : Nat) (v : α) (h : entry M i j = some v) : entryD M i j = v := by
  unfold entry at h
  unfold entryD
  cases hr : M[i]? with
  | none => rw [hr] at h; simp at h
  | some r =>
    rw [hr] at h
    simp only [Option.bind_some] at h
    simp [List.getD_eq_getElem?_getD, hr, h]

end C09
