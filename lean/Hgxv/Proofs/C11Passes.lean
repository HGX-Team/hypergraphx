import Hgxv.Proofs.C11Pattern
import Hgxv.Proofs.C11EsuRoot
/-! # C11 - `WF`, `Reach`, `Conn` (the vocabulary of the property statements) and which node subsets the
three passes visit (core Lean only) -/
namespace C11

/-- what the `Hypergraph` class guarantees for `get_edges()`: distinct hyperedges, each a strictly
increasing tuple of labels -/
structure WF (E : HG) : Prop where
  nodup : E.Nodup
  sorted : ∀ e ∈ E, SSorted e

theorem WF.filter {E : HG} (h : WF E) (p : List Nat → Bool) : WF (E.filter p) :=
  ⟨List.Pairwise.filter _ h.nodup, fun e he => h.sorted e (List.mem_filter.mp he).1⟩

/-- `y` and `x` lie in a common hyperedge that is contained in `S` -/
def hadj (E : HG) (S : List Nat) (y x : Nat) : Prop := ∃ e ∈ E, (∀ z ∈ e, z ∈ S) ∧ y ∈ e ∧ x ∈ e

inductive Reach (E : HG) (S : List Nat) : Nat → Nat → Prop
  | refl (x : Nat) : Reach E S x x
  | step {y z x : Nat} : Reach E S y z → hadj E S z x → Reach E S y x

/-- the hyperedges contained in `S` connect all nodes of `S` -/
def Conn (E : HG) (S : List Nat) : Prop := ∀ y ∈ S, ∀ x ∈ S, Reach E S y x

theorem hadj_symm {E : HG} {S : List Nat} {y x : Nat} (h : hadj E S y x) : hadj E S x y := by
  obtain ⟨e, he, hs, hy, hx⟩ := h; exact ⟨e, he, hs, hx, hy⟩

theorem Reach.trans {E : HG} {S : List Nat} {a b c : Nat} (h₁ : Reach E S a b) (h₂ : Reach E S b c) :
    Reach E S a c := by
  induction h₂ with
  | refl => exact h₁
  | step _ hadj ih => exact Reach.step ih hadj

theorem Reach.single {E : HG} {S : List Nat} {a b : Nat} (h : hadj E S a b) : Reach E S a b :=
  Reach.step (Reach.refl a) h

theorem Reach.symm {E : HG} {S : List Nat} {a b : Nat} (h : Reach E S a b) : Reach E S b a := by
  induction h with
  | refl => exact Reach.refl _
  | step _ hadj ih => exact Reach.trans (Reach.single (hadj_symm hadj)) ih

theorem hreach_mono {E E' : HG} {S : List Nat} (h : ∀ y x, hadj E S y x → hadj E' S y x) {a b : Nat}
    (hr : Reach E S a b) : Reach E' S a b := by
  induction hr with
  | refl => exact Reach.refl _
  | step _ hadj ih => exact Reach.step ih (h _ _ hadj)

theorem conn_mono_inside {E E' : HG} {S : List Nat} (h : ∀ e ∈ E, (∀ z ∈ e, z ∈ S) → e ∈ E') (hc : Conn E S) :
    Conn E' S := fun y hy x hx =>
  hreach_mono (fun _ _ ⟨e, he, hs, hy, hx⟩ => ⟨e, h e he hs, hs, hy, hx⟩) (hc y hy x hx)

theorem conn_congr_inside {E E' : HG} {S : List Nat} (h : ∀ e, (∀ z ∈ e, z ∈ S) → (e ∈ E ↔ e ∈ E')) :
    Conn E S ↔ Conn E' S :=
  ⟨conn_mono_inside fun e he hs => (h e hs).mp he, conn_mono_inside fun e he hs => (h e hs).mpr he⟩

theorem conn_of_hub {E : HG} {S : List Nat} (x₀ : Nat) (h : ∀ y ∈ S, Reach E S x₀ y) : Conn E S :=
  fun y hy x hx => Reach.trans (Reach.symm (h y hy)) (h x hx)

theorem Reach.first_step {E : HG} {S : List Nat} {d x : Nat} (h : Reach E S d x) (hne : x ≠ d) :
    ∃ e ∈ E, (∀ z ∈ e, z ∈ S) ∧ d ∈ e ∧ ∃ z ∈ e, z ≠ d := by
  induction h with
  | refl => exact absurd rfl hne
  | @step z x _ hadj ih =>
    by_cases hz : z = d
    · subst hz
      obtain ⟨e, he, hs, hd, hx⟩ := hadj
      exact ⟨e, he, hs, hd, x, hx, hne⟩
    · exact ih hz

theorem mem_visitNew {n : Nat} {l : List (List Nat)} : ∀ {vis : List (List Nat)} {s : List Nat},
    s ∈ visitNew n vis l ↔ s ∈ l ∧ s.length = n ∧ s ∉ vis := by
  induction l with
  | nil => intro vis s; simp [visitNew]
  | cons a l ih =>
    intro vis s
    unfold visitNew
    by_cases hc : (a.length == n && !vis.contains a) = true
    · rw [if_pos hc]
      simp only [Bool.and_eq_true, beq_iff_eq, Bool.not_eq_true', List.contains_eq_mem,
        decide_eq_false_iff_not] at hc
      simp only [List.mem_cons, ih]
      constructor
      · rintro (h | ⟨h1, h2, h3⟩)
        · subst h; exact ⟨Or.inl rfl, hc.1, hc.2⟩
        · exact ⟨Or.inr h1, h2, fun hv => h3 (Or.inr hv)⟩
      · rintro ⟨h1 | h1, h2, h3⟩
        · exact Or.inl h1
        · by_cases hsa : s = a
          · exact Or.inl hsa
          · exact Or.inr ⟨h1, h2, fun hv => by rcases hv with e | e; exact hsa e; exact h3 e⟩
    · rw [if_neg hc]
      simp only [Bool.and_eq_true, beq_iff_eq, Bool.not_eq_true', List.contains_eq_mem,
        decide_eq_false_iff_not, not_and, Classical.not_not] at hc
      simp only [List.mem_cons, ih]
      constructor
      · rintro ⟨h1, h2, h3⟩; exact ⟨Or.inr h1, h2, h3⟩
      · rintro ⟨h1 | h1, h2, h3⟩
        · subst h1; exact absurd (hc h2) h3
        · exact ⟨h1, h2, h3⟩

theorem nodup_visitNew {n : Nat} {l : List (List Nat)} : ∀ {vis : List (List Nat)},
    (visitNew n vis l).Nodup := by
  induction l with
  | nil => intro vis; simp [visitNew]
  | cons a l ih =>
    intro vis
    unfold visitNew
    split
    · refine List.nodup_cons.mpr ⟨?_, ih⟩
      intro h
      have := (mem_visitNew.mp h).2.2
      exact this (by simp)
    · exact ih

theorem mem_unionSet {a b : List Nat} {x : Nat} : x ∈ unionSet a b ↔ x ∈ a ∨ x ∈ b := by
  unfold unionSet; rw [mem_isort, mem_dedup, List.mem_append]

theorem unionSet_sorted (a b : List Nat) : SSorted (unionSet a b) :=
  isort_sorted (nodup_dedup _)

theorem mem_nfCands {n : Nat} {E : HG} {S : List Nat} :
    S ∈ nfCands n E ↔ ∃ e ∈ E, e.length + 1 = n ∧ ∃ x ∈ e, ∃ e' ∈ E, e'.length < n ∧ x ∈ e' ∧
      S = unionSet e e' := by
  simp only [nfCands, incident, smaller, List.mem_flatMap, List.mem_filter, List.mem_map, beq_iff_eq,
    decide_eq_true_eq, List.contains_iff_mem]
  constructor
  · rintro ⟨e, ⟨he, hl⟩, x, hx, e', ⟨⟨he', hl'⟩, hxe'⟩, rfl⟩
    exact ⟨e, he, hl, x, hx, e', he', hl', hxe', rfl⟩
  · rintro ⟨e, he, hl, x, hx, e', he', hl', hxe', rfl⟩
    exact ⟨e, ⟨he, hl⟩, x, hx, e', ⟨⟨he', hl'⟩, hxe'⟩, rfl⟩

theorem mem_fullSets {n : Nat} {E : HG} {S : List Nat} : S ∈ fullSets n E ↔ S ∈ E ∧ S.length = n := by
  simp [fullSets, List.mem_filter]

/-- a hyperedge of size 3 lies inside `S` -/
def has3 (E : HG) (S : List Nat) : Prop := ∃ e ∈ E, e.length = 3 ∧ ∀ z ∈ e, z ∈ S

/-- `_motifs_ho_not_full` (order 4): the newly visited node sets -/
theorem mem_notFullSets {E : HG} {S : List Nat} :
    S ∈ notFullSets 4 E (fullSets 4 E) ↔
      SSorted S ∧ S.length = 4 ∧ S ∉ E ∧
      ∃ e ∈ E, e.length = 3 ∧ (∀ z ∈ e, z ∈ S) ∧ ∃ e' ∈ E, e'.length < 4 ∧ (∀ z ∈ e', z ∈ S) ∧
        (∃ x ∈ e, x ∈ e') ∧ ∀ z ∈ S, z ∈ e ∨ z ∈ e' := by
  unfold notFullSets
  rw [mem_visitNew, mem_nfCands]
  simp only [fullSets, List.mem_filter, beq_iff_eq, not_and]
  constructor
  · rintro ⟨⟨e, he, hl, x, hx, e', he', hl', hxe', rfl⟩, hlen, hnot⟩
    refine ⟨unionSet_sorted e e', hlen, fun h => hnot h hlen, e, he, by omega,
      fun z hz => mem_unionSet.mpr (Or.inl hz), e', he', hl', fun z hz => mem_unionSet.mpr (Or.inr hz),
      ⟨x, hx, hxe'⟩, fun z hz => mem_unionSet.mp hz⟩
  · rintro ⟨hS, hlen, hnot, e, he, hl, hes, e', he', hl', hes', ⟨x, hx, hxe'⟩, hcov⟩
    refine ⟨⟨e, he, by omega, x, hx, e', he', hl', hxe', ?_⟩, hlen, fun h _ => hnot h⟩
    apply eq_of_sorted_of_mem_iff hS (unionSet_sorted e e')
    intro z
    rw [mem_unionSet]
    exact ⟨hcov z, fun h => h.elim (hes z) (hes' z)⟩

theorem mem_nbrs {E : HG} {y x : Nat} :
    x ∈ nbrs E y ↔ ∃ e ∈ E, e.length = 2 ∧ y ∈ e ∧ x ∈ e ∧ x ≠ y := by
  unfold nbrs dyadic
  rw [mem_dedup]
  simp only [List.mem_flatMap, List.mem_filter, beq_iff_eq]
  constructor
  · rintro ⟨e, ⟨he, hl⟩, hx⟩
    by_cases hc : e.contains y = true
    · rw [if_pos hc] at hx
      simp only [List.mem_filter, bne_iff_ne, ne_eq] at hx
      exact ⟨e, he, hl, by simpa using hc, hx.1, hx.2⟩
    · rw [if_neg hc] at hx; simp at hx
  · rintro ⟨e, he, hl, hy, hx, hne⟩
    refine ⟨e, ⟨he, hl⟩, ?_⟩
    have hc : e.contains y = true := by simpa using hy
    rw [if_pos hc]
    simp only [List.mem_filter, bne_iff_ne, ne_eq]
    exact ⟨hx, hne⟩

theorem mem_roots {E : HG} {v : Nat} : v ∈ roots E ↔ ∃ e ∈ E, e.length = 2 ∧ v ∈ e := by
  unfold roots dyadic
  rw [mem_dedup]
  simp only [List.mem_flatMap, List.mem_filter, beq_iff_eq, id]
  constructor
  · rintro ⟨e, ⟨he, hl⟩, hv⟩; exact ⟨e, he, hl, hv⟩
  · rintro ⟨e, he, hl, hv⟩; exact ⟨e, ⟨he, hl⟩, hv⟩

theorem eq_pair_of_length_two {e : List Nat} (h : e.length = 2) : ∃ a b, e = [a, b] := by
  match e, h with
  | [a, b], _ => exact ⟨a, b, rfl⟩

theorem reachIn_congr {g : Nat → List Nat} {S S' sub : List Nat} (h : ∀ x, x ∈ S ↔ x ∈ S') {x : Nat}
    (hr : ReachIn g S sub x) : ReachIn g S' sub x := by
  induction hr with
  | base hx => exact ReachIn.base hx
  | step _ hxy hxS ih => exact ReachIn.step ih hxy ((h _).mp hxS)

theorem rootValid_congr {g : Nat → List Nat} {v : Nat} {S S' : List Nat} (h : ∀ x, x ∈ S ↔ x ∈ S')
    (hv : RootValid g v S) : RootValid g v S' :=
  ⟨(h v).mp hv.root_in, fun x hx hne => hv.above x ((h x).mpr hx) hne,
   fun x hx => reachIn_congr h (hv.reach x ((h x).mpr hx))⟩

theorem reach_of_reachIn {E : HG} {S : List Nat} {v x : Nat} (hv : v ∈ S)
    (hr : ReachIn (nbrs E) S [v] x) : Reach E S v x ∧ x ∈ S := by
  induction hr with
  | base hx => simp at hx; subst hx; exact ⟨Reach.refl _, hv⟩
  | @step y x _ hxy hxS ih =>
    obtain ⟨e, he, hl, hy, hx, hne⟩ := mem_nbrs.mp hxy
    refine ⟨Reach.step ih.1 ⟨e, he, ?_, hy, hx⟩, hxS⟩
    intro z hz
    -- e has exactly the two nodes y, x
    obtain ⟨a, b, rfl⟩ := eq_pair_of_length_two hl
    simp only [List.mem_cons, List.not_mem_nil, or_false] at hy hx hz
    have hyS := ih.2
    rcases hz with rfl | rfl <;> rcases hy with h1 | h1 <;> rcases hx with h2 | h2 <;>
      first | exact (h1 ▸ hyS) | exact (h2 ▸ hxS) | (exfalso; omega)

theorem conn_of_rootValid {E : HG} {S : List Nat} {v : Nat} (h : RootValid (nbrs E) v S) : Conn E S :=
  conn_of_hub v (fun y hy => (reach_of_reachIn h.root_in (h.reach y hy)).1)

/-- all hyperedges inside `S` have at most two nodes -/
def dyOnly (E : HG) (S : List Nat) : Prop := ∀ e ∈ E, (∀ z ∈ e, z ∈ S) → e.length ≤ 2

theorem reachIn_of_reach {E : HG} (hE : WF E) {S : List Nat} (hd : dyOnly E S) {v x : Nat}
    (hr : Reach E S v x) : ReachIn (nbrs E) S [v] x ∨ x = v := by
  induction hr with
  | refl => exact Or.inr rfl
  | @step z x _ hadj ih =>
    obtain ⟨e, he, hs, hz, hx⟩ := hadj
    by_cases hxz : x = z
    · subst hxz; exact ih
    · left
      have hle := hd e he hs
      have hsrt := hE.sorted e he
      have hl2 : e.length = 2 := by
        match e, hle with
        | [], _ => simp at hz
        | [a], _ => simp at hz hx; omega
        | [a, b], _ => rfl
      have hnb : x ∈ nbrs E z := mem_nbrs.mpr ⟨e, he, hl2, hz, hx, hxz⟩
      have hz' : ReachIn (nbrs E) S [v] z := by
        rcases ih with h | h
        · exact h
        · subst h; exact ReachIn.base (by simp)
      exact ReachIn.step hz' hnb (hs x hx)

theorem head_lt_of_sorted {S : List Nat} (hS : SSorted S) {v : Nat} (hv : S.head? = some v) :
    ∀ x ∈ S, x ≠ v → v < x := by
  cases S with
  | nil => simp at hv
  | cons a S =>
    simp at hv; subst hv
    intro x hx hne
    exact (List.pairwise_cons.mp hS).1 x ((List.mem_cons.mp hx).resolve_left hne)

/-- a connected set whose inner hyperedges are all dyadic is what the ESU pass grows from its minimum -/
theorem rootValid_of_conn {E : HG} (hE : WF E) {S : List Nat} (hS : SSorted S) (h2 : 2 ≤ S.length)
    (hd : dyOnly E S) (hc : Conn E S) :
    ∃ v ∈ roots E, RootValid (nbrs E) v S := by
  match S, h2 with
  | v :: w :: rest, _ =>
    have hvS : v ∈ v :: w :: rest := by simp
    have hwS : w ∈ v :: w :: rest := by simp
    have hvw : v < w := (List.pairwise_cons.mp hS).1 w (by simp)
    have hreach : ∀ x ∈ v :: w :: rest, ReachIn (nbrs E) (v :: w :: rest) [v] x := by
      intro x hx
      rcases reachIn_of_reach hE hd (hc v hvS x hx) with h | h
      · exact h
      · subst h; exact ReachIn.base (by simp)
    refine ⟨v, ?_, hvS, head_lt_of_sorted hS rfl, hreach⟩
    -- v has a dyadic hyperedge: first exit of the path to w
    obtain ⟨y, hy, z, _, _, hzy⟩ := first_exit (nbrs E) (hreach w hwS) (by simp; omega)
    simp at hy; subst hy
    obtain ⟨e, he, hl, hy, _, _⟩ := mem_nbrs.mp hzy
    exact mem_roots.mpr ⟨e, he, hl, hy⟩

section gen
variable {n : Nat} {g : Nat → List Nat} {rts : List Nat}

theorem mem_esuW_sorted (hn : 1 ≤ n) (hgnd : ∀ w, (g w).Nodup) (hr : rts.Nodup) {S : List Nat} :
    (∃ o ∈ esuSetsWith n g rts, isort o = S) ↔
      SSorted S ∧ S.length = n ∧ ∃ v ∈ rts, RootValid g v S := by
  constructor
  · rintro ⟨o, ho, rfl⟩
    obtain ⟨hnd, hlen, v, hv, hval⟩ := esuW_out hn hgnd o ho
    exact ⟨isort_sorted hnd, by rw [isort_length, hlen], v, hv,
      rootValid_congr (fun x => (mem_isort (l := o)).symm) hval⟩
  · rintro ⟨hS, hlen, hex⟩
    have h1 := (esuW_count hn hgnd hr S hS.nodup hlen).1 hex
    have hpos : 0 < (esuSetsWith n g rts).countP (sameSet S) := by omega
    obtain ⟨o, ho, hsame⟩ := List.countP_pos_iff.mp hpos
    have hnd := (esuW_out (rts := rts) hn hgnd o ho).1
    exact ⟨o, ho, isort_eq_of_mem_iff hnd hS ((sameSet_iff S o).mp hsame)⟩

theorem esuW_sorted_nodup (hn : 1 ≤ n) (hgnd : ∀ w, (g w).Nodup) (hr : rts.Nodup) :
    ((esuSetsWith n g rts).map isort).Nodup := by
  rw [List.nodup_iff_pairwise_ne, List.pairwise_map]
  have hp := pairwise_of_countP_le_one sameSet (esuSetsWith n g rts) (by
    intro x hx
    obtain ⟨hnd, hlen, _⟩ := esuW_out hn hgnd x hx
    have := esuW_count hn hgnd hr x hnd hlen
    by_cases hv : ∃ v ∈ rts, RootValid g v x
    · rw [this.1 hv]; exact Nat.le_refl 1
    · rw [this.2 hv]; omega) (by
    intro x _; exact (sameSet_iff x x).mpr (fun _ => Iff.rfl))
  refine List.Pairwise.imp ?_ hp
  intro a b hab heq
  have : sameSet a b = true := by
    rw [sameSet_iff]
    intro x
    rw [← mem_isort (l := b), ← heq, mem_isort]
  rw [this] at hab; exact absurd hab (by simp)

end gen

/-- `_motifs_standard`: which sorted node sets the ESU pass hands over -/
theorem mem_esu_sorted {n : Nat} (hn : 1 ≤ n) {E : HG} {S : List Nat} :
    (∃ o ∈ esuSets n E, isort o = S) ↔
      SSorted S ∧ S.length = n ∧ ∃ v ∈ roots E, RootValid (nbrs E) v S :=
  mem_esuW_sorted hn (nbrs_nodup E) (roots_nodup E)

theorem esu_sorted_nodup {n : Nat} (hn : 1 ≤ n) (E : HG) : ((esuSets n E).map isort).Nodup :=
  esuW_sorted_nodup hn (nbrs_nodup E) (roots_nodup E)

end C11
