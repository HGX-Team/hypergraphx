import Hgxv.Proofs.C13Ext
import Hgxv.Model.C13Obj
/-! # C13 — lemmas about `Model/C13Obj.lean` (core Lean only)

The integer entry point answers what `configurationModel` answers for a natural size (`cmCallI_known`); unknown labels in
closed form; the returned object is `bare`. -/
namespace C13

theorem inLayer_cast (s : Nat) (e : Edge) : inLayer (s : Int) e = (e.length == s) := by
  unfold inLayer
  by_cases h : e.length = s
  · subst h; simp
  · have h' : (e.length : Int) ≠ (s : Int) := by omega
    rw [beq_eq_false_iff_ne.mpr h', beq_eq_false_iff_ne.mpr h]

theorem inLayer_neg (s : Int) (hs : s < 0) (e : Edge) : inLayer s e = false := by
  unfold inLayer
  have h' : (e.length : Int) ≠ s := by omega
  simp [h']

/-- every integer size selects, among hyperedges of size at most `m`, the layer of SOME natural size (a negative one: of a
size none of them has) -/
theorem layer_nat (s : Int) (m : Nat) :
    ∃ k : Nat, (0 ≤ s → s = k) ∧ ∀ e : Edge, e.length ≤ m → inLayer s e = (e.length == k) := by
  by_cases hs : 0 ≤ s
  · obtain ⟨k, rfl⟩ : ∃ k : Nat, s = k := ⟨s.toNat, by omega⟩
    exact ⟨k, fun _ => rfl, fun e _ => inLayer_cast k e⟩
  · refine ⟨m + 1, fun h => absurd h hs, fun e he => ?_⟩
    rw [inLayer_neg s (by omega)]
    exact (beq_eq_false_iff_ne.mpr (by omega)).symm

theorem resolveSizeI_cast (order size : Option Nat) :
    resolveSizeI (order.map Int.ofNat) (size.map Int.ofNat)
      = (resolveSize order size).map (Option.map Int.ofNat) := by
  cases order <;> cases size <;> rfl

theorem cmCallI_known_of_filters (l : Label) (d : Bool) (order size : Option Int) (n : Int) (es : List Edge)
    (ds : List Draw) (s : Int) (k : Nat) (hres : resolveSizeI order size = .ok (some s))
    (hk : ∀ e ∈ es, inLayer s e = (e.length == k)) :
    (cmCallI (.known l) d order size n es ds).map (·.1)
      = (configurationModel l d (some k) n.toNat es ds).map some := by
  have h1 : es.filter (inLayer s) = es.filter (fun e => e.length == k) :=
    List.filter_congr hk
  have h2 : es.filter (fun e => !inLayer s e) = es.filter (fun e => e.length != k) :=
    List.filter_congr (fun e he => by rw [hk e he]; rfl)
  simp only [cmCallI, hres, selectedI, othersI, h1, h2, mcmcX, configurationModel_eq, selected, readd]
  cases chain d n.toNat (es.filter (fun e => e.length == k)) ds <;> rfl

theorem cmCallI_known_plain (l : Label) (d : Bool) (order size : Option Int) (n : Int) (es : List Edge)
    (ds : List Draw) (hres : resolveSizeI order size = .ok none) :
    (cmCallI (.known l) d order size n es ds).map (·.1)
      = (configurationModel l d none n.toNat es ds).map some := by
  simp only [cmCallI, hres, selectedI, mcmcX, configurationModel_eq, selected, readd]
  cases chain d n.toNat es ds <;> rfl

/-- known label: the integer entry point answers what `configurationModel` answers for a natural size that selects the same
layer among hyperedges no larger than those of the input -/
theorem cmCallI_known (l : Label) (d : Bool) (order size : Option Int) (n : Int) (es : List Edge)
    (ds : List Draw) {sz : Option Int} (hres : resolveSizeI order size = .ok sz) :
    ∃ szN : Option Nat, (sz = none ↔ szN = none) ∧ (∀ s : Int, sz = some s → 0 ≤ s → szN = some s.toNat) ∧
      (∀ s, sz = some s → ∃ k, szN = some k ∧ ∀ e : Edge, e.length ≤ maxSize es → inLayer s e = (e.length == k)) ∧
      (cmCallI (.known l) d order size n es ds).map (·.1) = (configurationModel l d szN n.toNat es ds).map some := by
  cases sz with
  | none => exact ⟨none, by simp, nofun, nofun, cmCallI_known_plain l d order size n es ds hres⟩
  | some s =>
    obtain ⟨k, hk0, hk⟩ := layer_nat s (maxSize es)
    refine ⟨some k, by simp, fun s' h hs => ?_, fun s' h => ?_,
      cmCallI_known_of_filters l d order size n es ds s k hres fun e he => hk e (mem_le_maxSize he)⟩
    · cases h
      have := hk0 hs
      congr 1; omega
    · cases h; exact ⟨k, rfl, hk⟩

/-- an answer of `configurationModel` read off an answer of the integer entry point -/
theorem ok_of_map_fst {x : Except Err (Option (List Edge) × List Draw)} {y : Except Err (List Edge)}
    {out : List Edge} {ds' : List Draw} (hx : x = .ok (some out, ds')) (h : x.map (·.1) = y.map some) :
    y = .ok out := by
  subst hx
  cases y with
  | error e => cases h
  | ok o => cases h; rfl

theorem others_isEmpty (s : Int) (es : List Edge) :
    (es.filter (fun e => !inLayer s e)).isEmpty = es.all (inLayer s) := by
  induction es with
  | nil => rfl
  | cons e t ih =>
    by_cases h : inLayer s e
    · simp [h, ih]
    · simp [h]

theorem cmCallI_other (d : Bool) (order size : Option Int) (n : Int) (es : List Edge) (ds : List Draw) :
    cmCallI .other d order size n es ds =
      match resolveSizeI order size with
      | .error e => .error e
      | .ok none => .ok (none, ds)
      | .ok (some s) => if es.all (inLayer s) then .ok (none, ds) else .error .raise := by
  cases hres : resolveSizeI order size with
  | error e => simp [cmCallI, hres]
  | ok sz =>
    cases sz with
    | none => simp [cmCallI, hres, mcmcX]
    | some s =>
      simp only [cmCallI, hres, mcmcX, readdI, othersI, others_isEmpty]
      cases es.all (inLayer s) <;> rfl

theorem bare_listing (out : List Edge) : (bare out).listing = out := by
  simp [bare, Obj.listing, List.map_map, Function.comp_def]

theorem bare_nodes (out : List Edge) : (bare out).nodeMeta.map (·.1) = nodesOf out := by
  simp [bare, List.map_map, Function.comp_def]

theorem bare_carries_nothing (out : List Edge) :
    (bare out).weighted = false ∧ (bare out).hmeta = 0 ∧
    (∀ x ∈ (bare out).items, x.2.1 = 1 ∧ x.2.2 = 0) ∧ (∀ x ∈ (bare out).nodeMeta, x.2 = 0) := by
  refine ⟨rfl, rfl, fun x hx => ?_, fun x hx => ?_⟩
  · simp only [bare, List.mem_map] at hx
    obtain ⟨e, _, rfl⟩ := hx
    exact ⟨rfl, rfl⟩
  · simp only [bare, List.mem_map] at hx
    obtain ⟨e, _, rfl⟩ := hx
    rfl

theorem cmObj_ok (label : LabelX) (d : Bool) (order size : Option Int) (n : Int) (h : Obj) (ds : List Draw)
    (r : Option Obj) (ds' : List Draw) (hr : cmObj label d order size n h ds = .ok (r, ds')) :
    ∃ r0, cmCallI label d order size n h.listing ds = .ok (r0, ds') ∧ r = r0.map bare := by
  simp only [cmObj] at hr
  split at hr
  · cases hr
  · next r0 ds0 h0 =>
    simp only [Except.ok.injEq, Prod.mk.injEq] at hr
    exact ⟨r0, by rw [h0, hr.2], hr.1.symm⟩

theorem cmObj_listing_only (label : LabelX) (d : Bool) (order size : Option Int) (n : Int) (h h' : Obj)
    (ds : List Draw) (hl : h.listing = h'.listing) :
    cmObj label d order size n h ds = cmObj label d order size n h' ds := by
  simp only [cmObj, hl]

end C13
