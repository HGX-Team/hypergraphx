import Hgxv.Model.C05Batch
import Hgxv.Proofs.C05Node
/-! Calls that raise half-way (`Model/C05Batch.lean`): `remove_node` as the code runs it on EVERY node, the removal batches.
Core Lean only. -/
namespace C05

set_option linter.unusedSectionVars false
variable {κ : Type} [DecidableEq κ] [Keyed κ]

/-- the converse of `KeyedLaws.nodup_incident`: a nodup incident list means the node is on one side only -/
class KeyedLaws2 (κ : Type) [DecidableEq κ] [Keyed κ] : Prop where
  twice_of_nodup : ∀ (n : Node) (ks : List κ), (Keyed.incident n ks).Nodup → ∀ k ∈ ks, Keyed.twice n k = false

instance : KeyedLaws2 UKey where
  twice_of_nodup := fun _ _ _ _ _ => rfl

instance : KeyedLaws2 DKey where
  twice_of_nodup := by
    intro n ks hnd k hk
    simp only [Keyed.incident] at hnd
    have hd := (List.nodup_append.1 hnd).2.2
    cases h1 : decide (n ∈ k.1) with
    | false => simp [Keyed.twice, h1]
    | true =>
      cases h2 : decide (n ∈ k.2) with
      | false => simp [Keyed.twice, h2]
      | true =>
        exact absurd rfl (hd k (List.mem_filter.2 ⟨hk, h1⟩) k (List.mem_filter.2 ⟨hk, h2⟩))

theorem loopRaw_of_foldlM {α : Type} (g : Content κ → α → Option (Content κ)) : ∀ (xs : List α) (c c' : Content κ),
    xs.foldlM g c = some c' → loopRaw (fun h k => orSame h (g h k)) c xs = (c', true) := by
  intro xs
  induction xs with
  | nil => intro c c' e; simp at e; subst e; rfl
  | cons x xs ih =>
    intro c c' e
    cases hx : g c x with
    | none => simp [List.foldlM_cons, hx] at e
    | some c1 =>
      rw [foldlM_some_cons _ _ _ _ _ hx] at e
      simp only [loopRaw, hx, orSame, ↓reduceIte]
      exact ih c1 c' e

theorem loopRaw_inv {α : Type} (P : Content κ → Prop) (f : Content κ → α → Content κ × Bool)
    (hf : ∀ c x, P c → P (f c x).1) : ∀ (xs : List α) (c : Content κ), P c → P (loopRaw f c xs).1 := by
  intro xs
  induction xs with
  | nil => intro c h; exact h
  | cons x xs ih =>
    intro c h
    simp only [loopRaw]
    split
    · exact ih _ (hf c x h)
    · exact hf c x h

/-- a removal loop that comes through walked distinct hyperedges -/
theorem loop_remove_true : ∀ (xs : List κ) (h : Content κ), (keysOf h).Nodup →
    (loopRaw (fun h k => orSame h (removeEdge h k)) h xs).2 = true → xs.Nodup ∧ ∀ x ∈ xs, x ∈ keysOf h := by
  intro xs
  induction xs with
  | nil => intro h _ _; exact ⟨List.nodup_nil, by simp⟩
  | cons x xs ih =>
    intro h hnd e
    simp only [loopRaw] at e
    by_cases hh : AL.has h.edges x = true
    · simp only [removeEdge, hh, ↓reduceIte, orSame] at e
      have hnd' : (keysOf ({ h with edges := AL.erase h.edges x } : Content κ)).Nodup :=
        AL.keys_erase_nodup _ _ hnd
      obtain ⟨i1, i2⟩ := ih _ hnd' e
      have hx : x ∈ keysOf h := (AL.has_iff _ _).1 hh
      refine ⟨List.nodup_cons.2 ⟨?_, i1⟩, ?_⟩
      · intro hxs
        have := i2 x hxs
        simp only [keysOf, AL.keys_erase_perm] at this
        exact ((List.Nodup.mem_erase_iff hnd).1 this).1 rfl
      · intro y hy
        rcases List.mem_cons.1 hy with rfl | hy
        · exact hx
        · exact AL.mem_keys_of_mem_keys_erase _ _ _ (i2 y hy)
    · simp [removeEdge, hh, orSame] at e

/-- the answer `r2` of the removal loop is a parameter, with its defining equation: the loop is named once, and the returning
run (`loopRaw_of_foldlM`) and the raising one (`rfl`) are both instances -/
theorem removeNodeRaw_of_shrunk (c c1 : Content κ) (n : Node) (keep : Bool) (hh : AL.has c.nodes n = true)
    (e1 : (if keep then (Keyed.incident n (AL.keys c.edges)).foldlM (shrinkInto n) c else some c) = some c1)
    (r2 : Content κ × Bool)
    (e2 : loopRaw (fun h k => orSame h (removeEdge h k)) c1 (Keyed.incident n (AL.keys c.edges)) = r2) :
    removeNodeRaw c n keep = if r2.2 then ({ r2.1 with nodes := AL.erase r2.1.nodes n }, true) else r2 := by
  have r1 : (if keep then loopRaw (fun h k => orSame h (shrinkInto n h k)) c (Keyed.incident n (AL.keys c.edges))
      else (c, true)) = (c1, true) := by
    cases keep
    · cases e1; rfl
    · exact loopRaw_of_foldlM _ _ _ _ e1
  simp only [removeNodeRaw, hh, r1, e2, Bool.not_true, Bool.false_eq_true, ↓reduceIte]
  cases r2.2 <;> rfl

theorem removeNodeRaw_of_some (c c' : Content κ) (n : Node) (keep : Bool) (e : removeNode c n keep = some c') :
    removeNodeRaw c n keep = (c', true) := by
  obtain ⟨hh, _, c1, e1, c2, e2, rfl⟩ := (removeNode_eq_some c c' n keep).1 e
  exact removeNodeRaw_of_shrunk c c1 n keep hh e1 _ (loopRaw_of_foldlM _ _ _ _ e2)

/-- what the loops of a failing `remove_node` keep -/
def Kept (c h : Content κ) : Prop :=
  WF h ∧ h.nodes = c.nodes ∧ h.weighted = c.weighted ∧ aux h = aux c

theorem kept_removeEdge (c h : Content κ) (k : κ) (hk : Kept c h) : Kept c (orSame h (removeEdge h k)).1 := by
  unfold removeEdge
  split
  · exact ⟨wf_eraseEdge h k hk.1, hk.2⟩
  · exact hk

theorem removeNodeRaw_spec [KeyedLaws κ] [KeyedLaws2 κ] (c : Content κ) (n : Node) (keep : Bool) (hwf : WF c) :
    (n ∉ nodesOf c → removeNodeRaw c n keep = (c, false)) ∧
    (n ∈ nodesOf c → onBothSides c n = false →
      ∃ c', removeNode c n keep = some c' ∧ removeNodeRaw c n keep = (c', true)) ∧
    (n ∈ nodesOf c → onBothSides c n = true →
      (removeNodeRaw c n keep).2 = false ∧ Kept c (removeNodeRaw c n keep).1) := by
  refine ⟨?_, ?_, ?_⟩
  · intro hn
    simp [removeNodeRaw, has_nodes_false c n hn]
  · intro hn htw
    obtain ⟨c1, _, _, e2⟩ := removeNode_spec c n keep hwf hn htw
    exact ⟨_, e2, removeNodeRaw_of_some c _ n keep e2⟩
  · intro hn htw
    -- the shrink loop returns (`shrinkStage`); the removal loop cannot: had it come through, the walked keys would be distinct (`loop_remove_true`)
    obtain ⟨c1, e1, hi1⟩ := shrinkStage c n keep hwf
    have hfail : (loopRaw (fun h k => orSame h (removeEdge h k)) c1 (Keyed.incident n (keysOf c))).2 = false := by
      cases hb : (loopRaw (fun h k => orSame h (removeEdge h k)) c1 (Keyed.incident n (keysOf c))).2 with
      | false => rfl
      | true =>
        obtain ⟨hnd, _⟩ := loop_remove_true _ c1 hi1.wf.keys_nodup hb
        have := KeyedLaws2.twice_of_nodup n (keysOf c) hnd
        simp only [onBothSides, List.any_eq_true] at htw
        obtain ⟨k, hk, hkt⟩ := htw
        rw [this k hk] at hkt; cases hkt
    have hkept := loopRaw_inv (Kept c) (fun h k => orSame h (removeEdge h k)) (fun h k hk => kept_removeEdge c h k hk)
      (Keyed.incident n (keysOf c)) c1 ⟨hi1.wf, hi1.nodes, hi1.weighted, hi1.aux⟩
    have hraw := removeNodeRaw_of_shrunk c c1 n keep ((AL.has_iff _ _).2 hn) e1 _ rfl
    rw [show (loopRaw (fun h k => orSame h (removeEdge h k)) c1 (Keyed.incident n (AL.keys c.edges))).2 = false from hfail]
      at hraw
    rw [hraw]
    exact ⟨hfail, hkept⟩

theorem wf_removeNodeRaw [KeyedLaws κ] [KeyedLaws2 κ] (c : Content κ) (n : Node) (keep : Bool) (hwf : WF c) :
    WF (removeNodeRaw c n keep).1 := by
  obtain ⟨h1, h2, h3⟩ := removeNodeRaw_spec c n keep hwf
  by_cases hn : n ∈ nodesOf c
  · cases htw : onBothSides c n with
    | false =>
      obtain ⟨c', e1, e2⟩ := h2 hn htw
      rw [e2]; exact wf_removeNode c c' n keep hwf e1
    | true => exact (h3 hn htw).2.1
  · rw [h1 hn]; exact hwf

theorem wf_removeEdgesB [Batch κ] (c : Content κ) (ks : List κ) (hwf : WF c) :
    WF (removeEdgesB c ks).1 := by
  unfold removeEdgesB
  split
  · exact hwf
  · exact loopRaw_inv WF _ (fun h k hk => (kept_removeEdge h h k ⟨hk, rfl, rfl, rfl⟩).1) ks c hwf

theorem wf_removeNodesB [KeyedLaws κ] [KeyedLaws2 κ] [Batch κ] (c : Content κ) (ns : List Node) (keep : Bool)
    (hwf : WF c) : WF (removeNodesB c ns keep).1 := by
  unfold removeNodesB
  split
  · exact hwf
  · exact loopRaw_inv WF _ (fun h n hk => wf_removeNodeRaw h n keep hk) ns c hwf

theorem wf_stepX [KeyedLaws κ] [KeyedLaws2 κ] [Batch κ] (c : Content κ) (op : OpX κ) (hwf : WF c) :
    WF (stepX c op) := by
  cases op with
  | base op =>
    have := wf_step c op hwf
    unfold step at this
    show WF (orSame c (apply? c op)).1
    cases e : apply? c op with
    | none => exact hwf
    | some c' => simpa [e, orSame] using this
  | removeNodeRaw n keep => exact wf_removeNodeRaw c n keep hwf
  | removeEdges ks => exact wf_removeEdgesB c ks hwf
  | removeNodes ns keep => exact wf_removeNodesB c ns keep hwf

theorem wf_runX [KeyedLaws κ] [KeyedLaws2 κ] [Batch κ] (c : Content κ) (ops : List (OpX κ)) (hwf : WF c) :
    WF (runX c ops) := by
  induction ops generalizing c with
  | nil => exact hwf
  | cons op ops ih => exact ih (stepX c op) (wf_stepX c op hwf)

/-- a batch of distinct present nodes, none of which can be on both sides (`Hypergraph`): the loop comes through, and it
is the run of the single `remove_node` calls -/
theorem loop_removeNodes_valid [KeyedLaws κ] (htw : ∀ (c : Content κ) (n : Node), onBothSides c n = false) (keep : Bool) :
    ∀ (ns : List Node) (c : Content κ), WF c → (∀ n ∈ ns, n ∈ nodesOf c) → ns.Nodup →
    loopRaw (fun h n => removeNodeRaw h n keep) c ns =
      (ns.foldl (fun h n => step h (.removeNode n keep)) c, true) := by
  intro ns
  induction ns with
  | nil => intro c _ _ _; rfl
  | cons n ns ih =>
    intro c hwf hin hnd
    obtain ⟨c1, _, hi1, e2⟩ := removeNode_spec c n keep hwf (hin n List.mem_cons_self) (htw c n)
    obtain ⟨c', e2, hc'⟩ : ∃ c', removeNode c n keep = some c' ∧ c'.nodes = AL.erase c1.nodes n := ⟨_, e2, rfl⟩
    have hraw := removeNodeRaw_of_some c c' n keep e2
    have hstep : step c (.removeNode n keep) = c' := by
      show (removeNode c n keep).getD c = c'
      rw [e2]; rfl
    have hwf' := wf_removeNode c _ n keep hwf e2
    rw [List.nodup_cons] at hnd
    simp only [loopRaw, hraw, ↓reduceIte, List.foldl_cons, hstep]
    apply ih _ hwf' _ hnd.2
    intro m hm
    simp only [nodesOf, hc']
    have hm0 : m ∈ AL.keys c1.nodes := by rw [hi1.nodes]; exact hin m (List.mem_cons_of_mem _ hm)
    exact AL.mem_keys_erase_of_ne _ _ _ hm0 (fun e => hnd.1 (e ▸ hm))

/-- `Hypergraph.remove_nodes` (the validating class): all-or-nothing; an accepted batch is the run of the single calls -/
theorem removeNodesB_validating [KeyedLaws κ] [Batch κ] (hv : Batch.validates κ = true)
    (htw : ∀ (c : Content κ) (n : Node), onBothSides c n = false) (c : Content κ) (ns : List Node) (keep : Bool)
    (hwf : WF c) :
    ((ns.all (fun n => AL.has c.nodes n) && decide ns.Nodup) = true →
      removeNodesB c ns keep = (ns.foldl (fun h n => step h (.removeNode n keep)) c, true)) ∧
    ((ns.all (fun n => AL.has c.nodes n) && decide ns.Nodup) = false → removeNodesB c ns keep = (c, false)) := by
  constructor
  · intro h
    unfold removeNodesB
    simp only [hv, h, Bool.not_true, Bool.and_false, Bool.false_eq_true, ↓reduceIte]
    simp only [Bool.and_eq_true, List.all_eq_true, decide_eq_true_eq] at h
    exact loop_removeNodes_valid htw keep ns c hwf (fun n hn => (AL.has_iff _ _).1 (h.1 n hn)) h.2
  · intro h
    unfold removeNodesB
    simp [hv, h]

end C05
