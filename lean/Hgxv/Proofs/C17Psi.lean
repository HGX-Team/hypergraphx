import Hgxv.Model.C17
import Hgxv.Proofs.ListLib
import Mathlib.Algebra.Order.Field.Basic
import Mathlib.Algebra.Order.BigOperators.Ring.List
import Mathlib.Tactic.Ring
/-! Helper lemmas for C17: index-style arrays, elementary symmetric polynomials, the incremental tables. -/
namespace C17

theorem getD_ge {β : Type} (l : List β) (k : Nat) (a : β) (h : l.length ≤ k) : l.getD k a = a := by
  simp [List.getD, h]

theorem forall_lt_two {P : Nat → Prop} (h0 : P 0) (h1 : P 1) : ∀ k, k < 2 → P k
  | 0, _ => h0
  | 1, _ => h1
  | _ + 2, h => absurd h (by omega)

theorem edge_mem {α : Type} (c : Cfg α) (e : Nat) (he : e < c.E) : c.edge e ∈ c.edges := by
  unfold Cfg.edge; rw [ListLib.getD_of_lt _ _ he]; exact List.getElem_mem he

theorem mem_edges {α : Type} (c : Cfg α) {l : List Nat} (h : l ∈ c.edges) : ∃ e, e < c.E ∧ c.edge e = l := by
  obtain ⟨n, hn, rfl⟩ := List.getElem_of_mem h
  exact ⟨n, hn, ListLib.getD_of_lt _ _ hn⟩

theorem isIso_false {α : Type} {c : Cfg α} {i : Nat} (h : ¬ c.isIso i = true) : ∃ e, e < c.E ∧ i ∈ c.edge e := by
  unfold Cfg.isIso at h
  rw [Bool.not_eq_true, Bool.not_eq_false', List.any_eq_true] at h
  obtain ⟨l, hl, hi⟩ := h
  obtain ⟨e, he, rfl⟩ := mem_edges c hl
  exact ⟨e, he, List.contains_iff_mem.mp hi⟩

theorem isIso_of_mem {α : Type} {c : Cfg α} {i e : Nat} (he : e < c.E) (hi : i ∈ c.edge e) : c.isIso i = false := by
  unfold Cfg.isIso
  rw [Bool.not_eq_false', List.any_eq_true]
  exact ⟨c.edge e, edge_mem c e he, List.contains_iff_mem.mpr hi⟩

theorem map_getD_range {β : Type} (l : List β) (d : β) : (List.range l.length).map (fun e => l.getD e d) = l := by
  apply List.ext_getElem
  · simp
  · intro n h1 h2
    rw [List.getElem_map, List.getElem_range, ListLib.getD_of_lt _ _ h2]

section arrays
variable {α : Type} [Zero α]

theorem at1_tab (n : Nat) (f : Nat → α) (k : Nat) (hk : k < n) : at1 (tab n f) k = f k := by
  simp [at1, tab, hk]

theorem at2_tab2_eq (n m : Nat) (f : Nat → Nat → α) (i k : Nat) :
    at2 (tab2 n m f) i k = if i < n ∧ k < m then f i k else 0 := by
  unfold at2 tab2
  by_cases hi : i < n
  · by_cases hk : k < m
    · simp [hi, hk]
    · simp [hi, hk, List.getD]
  · simp [hi, List.getD]

theorem at2_tab2 (n m : Nat) (f : Nat → Nat → α) (i k : Nat) (hi : i < n) (hk : k < m) :
    at2 (tab2 n m f) i k = f i k := by
  rw [at2_tab2_eq, if_pos ⟨hi, hk⟩]

theorem at2_tab2_of_ge (n m : Nat) (f : Nat → Nat → α) (i k : Nat) (hi : n ≤ i) :
    at2 (tab2 n m f) i k = 0 := by
  rw [at2_tab2_eq, if_neg fun h => Nat.not_lt.mpr hi h.1]

theorem at2_tab2_of_ge_col (n m : Nat) (f : Nat → Nat → α) (i k : Nat) (hk : m ≤ k) :
    at2 (tab2 n m f) i k = 0 := by
  rw [at2_tab2_eq, if_neg fun h => Nat.not_lt.mpr hk h.2]

theorem at2_mem_or_zero (m : Mat α) (i k : Nat) : at2 m i k = 0 ∨ ∃ r ∈ m, at2 m i k ∈ r := by
  unfold at2
  by_cases hi : i < m.length
  · by_cases hk : k < m[i].length
    · right; rw [ListLib.getD_of_lt _ _ hi, ListLib.getD_of_lt _ _ hk]; exact ⟨_, List.getElem_mem hi, List.getElem_mem hk⟩
    · left; rw [ListLib.getD_of_lt _ _ hi, getD_ge _ _ _ (Nat.le_of_not_lt hk)]
  · left; rw [getD_ge _ _ _ (Nat.le_of_not_lt hi)]; rfl

theorem at2_of_mem (P : α → Prop) (h0 : P 0) (m : Mat α) (h : ∀ r ∈ m, ∀ x ∈ r, P x) (i k : Nat) : P (at2 m i k) := by
  rcases at2_mem_or_zero m i k with h0' | ⟨r, hr, hx⟩
  · rw [h0']; exact h0
  · exact h r hr _ hx

omit [Zero α] in
theorem mem_tab2 (n m : Nat) (f : Nat → Nat → α) (r : List α) (x : α) (hr : r ∈ tab2 n m f) (hx : x ∈ r) :
    ∃ i k, i < n ∧ k < m ∧ x = f i k := by
  obtain ⟨i, hi, rfl⟩ := List.mem_map.mp hr
  obtain ⟨k, hk, rfl⟩ := List.mem_map.mp hx
  exact ⟨i, k, List.mem_range.mp hi, List.mem_range.mp hk, rfl⟩

omit [Zero α] in
theorem tab_congr (n : Nat) (f g : Nat → α) (h : ∀ j, j < n → f j = g j) : tab n f = tab n g :=
  List.map_congr_left fun j hj => h j (List.mem_range.mp hj)

theorem range_split (n i : Nat) (hi : i < n) :
    List.range n = List.range i ++ i :: List.range' (i + 1) (n - i - 1) := by
  rw [List.range_eq_range', List.range_eq_range']
  have h1 : n = i + (1 + (n - i - 1)) := by omega
  conv_lhs => rw [h1]
  rw [← List.range'_append_1, ← List.range'_append_1]
  simp

end arrays

/-- the rest of a tabulated list without position `i` -/
def restL {α : Type} (n : Nat) (f : Nat → α) (i : Nat) : List α :=
  (List.range i).map f ++ (List.range' (i + 1) (n - i - 1)).map f

theorem restL_eq_map {α : Type} (n : Nat) (f : Nat → α) (i : Nat) :
    restL n f i = (List.range i ++ List.range' (i + 1) (n - i - 1)).map f :=
  List.map_append.symm

theorem restL_eq_erase {α : Type} (n : Nat) (f : Nat → α) (i : Nat) (hi : i < n) :
    restL n f i = ((List.range n).erase i).map f := by
  rw [restL_eq_map, range_split n i hi, List.erase_append_right _ fun h => Nat.lt_irrefl i (List.mem_range.mp h),
    List.erase_cons_head]

theorem tab_split {α : Type} (n : Nat) (f : Nat → α) (i : Nat) (hi : i < n) :
    tab n f = (List.range i).map f ++ f i :: (List.range' (i + 1) (n - i - 1)).map f := by
  unfold tab; rw [range_split n i hi, List.map_append, List.map_cons]

theorem restL_congr {α : Type} (n : Nat) (f g : Nat → α) (i : Nat) (hi : i < n)
    (h : ∀ j, j < n → j ≠ i → f j = g j) :
    restL n f i = restL n g i := by
  rw [restL_eq_map, restL_eq_map]
  apply List.map_congr_left; intro j hj
  rw [List.mem_append, List.mem_range, List.mem_range'_1] at hj
  apply h <;> omega

section ring
variable {α : Type} [CommRing α]

theorem esymm_insert (x : α) (l2 : List α) : ∀ (l1 : List α) (d : Nat),
    esymm (d + 1) (l1 ++ x :: l2) = esymm (d + 1) (l1 ++ l2) + x * esymm d (l1 ++ l2)
  | [], d => rfl
  | a :: l1, 0 => by
    have := esymm_insert x l2 l1 0
    simp only [List.cons_append, esymm] at this ⊢
    rw [this]; ring
  | a :: l1, d + 1 => by
    have h1 := esymm_insert x l2 l1 (d + 1)
    have h0 := esymm_insert x l2 l1 d
    simp only [List.cons_append, esymm] at h1 h0 ⊢
    rw [h1, h0]; ring

theorem esymm_zero (l : List α) : esymm 0 l = 1 := by cases l <;> rfl

theorem esymm_tab (n : Nat) (f : Nat → α) (i : Nat) (hi : i < n) (d : Nat) :
    esymm (d + 1) (tab n f) = esymm (d + 1) (restL n f i) + f i * esymm d (restL n f i) := by
  rw [tab_split n f i hi, esymm_insert]; rfl

/-- `_update_psiBarOmega` computes the elementary symmetric polynomials of the column without node `i` -/
theorem barAt_eq (psi : Mat α) (k n : Nat) (f : Nat → α) (i : Nat) (hi : i < n) (D : Nat)
    (hpsi : ∀ d, d < D → at2 psi d k = esymm (d + 1) (tab n f)) :
    ∀ d, d < D → barAt psi (f i) k d = esymm (d + 1) (restL n f i)
  | 0, h0 => by
    rw [barAt, hpsi 0 h0, esymm_tab n f i hi 0, esymm_zero]; ring
  | d + 1, h => by
    rw [barAt, barAt_eq psi k n f i hi D hpsi d (by omega), hpsi (d + 1) h, esymm_tab n f i hi (d + 1)]; ring

theorem ofN_add : ∀ a b : Nat, (ofN (a + b) : α) = ofN a + ofN b
  | _, 0 => (add_zero _).symm
  | a, b + 1 => by rw [← Nat.add_assoc, ofN, ofN, ofN_add a b, add_assoc]

theorem ofN_cast : ∀ n : Nat, (ofN n : α) = (n : α)
  | 0 => by simp [ofN]
  | n + 1 => by simp [ofN, ofN_cast n]

theorem esymm_replicate (x : α) : ∀ (n d : Nat),
    esymm d (List.replicate n x) = npow x d * ofN (binom n d)
  | _, 0 => by simp [esymm_zero, npow, binom, ofN]
  | 0, d + 1 => by simp [esymm, binom, ofN]
  | n + 1, d + 1 => by
    rw [List.replicate_succ, esymm, binom, esymm_replicate x n (d + 1), esymm_replicate x n d, ofN_add, npow]
    ring

end ring

section ordered
variable {α : Type} [Field α] [LinearOrder α] [IsStrictOrderedRing α]

/- `LT α`, `LE α`, `PartialOrder α` are found from `LinearOrder α` only after the whole lattice hierarchy has been tried, and
they are looked for several times in every statement and proof about an ordered field: the direct path first.  Without the line
`C17Inv` takes about 30 % more heartbeats to elaborate (wall time hardly shows it). -/
attribute [local instance 10000] LinearOrder.toPartialOrder PartialOrder.toPreorder Preorder.toLT Preorder.toLE

theorem esymm_nonneg : ∀ (d : Nat) (l : List α), (∀ x ∈ l, 0 ≤ x) → 0 ≤ esymm d l
  | 0, _, _ => by rw [esymm_zero]; exact zero_le_one
  | _ + 1, [], _ => le_refl 0
  | d + 1, x :: xs, h => by
    obtain ⟨hx, hxs⟩ := List.forall_mem_cons.mp h
    exact add_nonneg (esymm_nonneg (d + 1) xs hxs) (mul_nonneg hx (esymm_nonneg d xs hxs))

omit [IsStrictOrderedRing α] in
theorem at2_nonneg_of_mem (m : Mat α) (h : ∀ r ∈ m, ∀ x ∈ r, 0 ≤ x) (i k : Nat) : 0 ≤ at2 m i k :=
  at2_of_mem (fun x : α => (0 : α) ≤ x) (le_refl (0 : α)) m h i k

omit [IsStrictOrderedRing α] in
theorem at2_tab2_nonneg (n m : Nat) (f : Nat → Nat → α) (h : ∀ i k, i < n → k < m → 0 ≤ f i k) (i k : Nat) :
    0 ≤ at2 (tab2 n m f) i k := by
  rw [at2_tab2_eq]; split
  · next hik => exact h i k hik.1 hik.2
  · exact le_refl 0

omit [IsStrictOrderedRing α] in
theorem tab2_nonneg (n m : Nat) (f : Nat → Nat → α) (h : ∀ i k, i < n → k < m → 0 ≤ f i k) :
    ∀ r ∈ tab2 n m f, ∀ x ∈ r, 0 ≤ x := by
  intro r hr x hx
  obtain ⟨i, k, hi, hk, rfl⟩ := mem_tab2 n m f r x hr hx
  exact h i k hi hk

end ordered
end C17
