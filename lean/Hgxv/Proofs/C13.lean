import Hgxv.Model.C13
import Hgxv.Proofs.SortLib
/-! # C13 — lemmas about `Model/C13.lean` (core Lean only)

Both models rewrite two positions of a listing per step.  The step lemmas (`mhStep_inv`, `swapStep_inv`) say
that such a rewrite keeps a relation between the input listing and the current one (`Inv`, `DInv`: sizes in
place, multisets of stubs); the relations are closed under the loops and under sorting the hyperedges, and the
claims about the returned listing are read off from them and from the fact that merging coinciding hyperedges
returns a sublist.  `Same` is what the proofs work with (`Same.of_sublist` reads the numeric claims off it, `Same.kept` in
`Proofs/C13Ext.lean` the node set); `Preserved` / `DPreserved` list everything claimed of the plain call and are filled from it. -/
namespace C13

/-! ## a listing rewritten at two positions, seen through a view `g` (lists only) -/

theorem count_flatMap_set {α β} [BEq β] [LawfulBEq β] (g : α → List β) (b : β) {l : List α} {i : Nat}
    (x : α) {f : α} (h : l[i]? = some f) :
    List.count b ((l.set i x).flatMap g) + List.count b (g f)
      = List.count b (l.flatMap g) + List.count b (g x) := by
  induction l generalizing i with
  | nil => cases h
  | cons c t ih =>
    cases i with
    | zero =>
      cases h
      simp only [List.set_cons_zero, List.flatMap_cons, List.count_append]
      ac_rfl
    | succ i =>
      simp only [List.set_cons_succ, List.flatMap_cons, List.count_append]
      rw [Nat.add_assoc, ih (i := i) h, Nat.add_assoc]

theorem flatMap_set2_perm {α β} [BEq β] [LawfulBEq β] (g : α → List β) {l : List α} {i j : Nat}
    {f1 f2 : α} (x1 x2 : α) (hi : l[i]? = some f1) (hj : l[j]? = some f2)
    (hne : i ≠ j → ∀ b, List.count b (g x1) + List.count b (g x2) = List.count b (g f1) + List.count b (g f2))
    (heq : i = j → ∀ b, List.count b (g x2) = List.count b (g f1)) :
    (((l.set i x1).set j x2).flatMap g).Perm (l.flatMap g) := by
  refine List.perm_iff_count.mpr fun b => ?_
  by_cases hij : i = j
  · subst hij
    have h := count_flatMap_set g b x2 hi
    rw [heq rfl b] at h
    rw [List.set_set]
    exact Nat.add_right_cancel h
  · have h1 := count_flatMap_set g b x1 hi
    have h2 := count_flatMap_set g b (l := l.set i x1) x2 ((List.getElem?_set_ne hij).trans hj)
    have := hne hij b
    omega

theorem map_set_same {α β} (g : α → β) {l : List α} {i : Nat} {x f : α} (h : l[i]? = some f)
    (hg : g x = g f) : (l.set i x).map g = l.map g := by
  induction l generalizing i with
  | nil => rfl
  | cons c t ih =>
    cases i with
    | zero => cases h; simp [hg]
    | succ i => simp [ih (i := i) h]

theorem map_set2_same {α β} (g : α → β) {l : List α} {i j : Nat} {f1 f2 x1 x2 : α}
    (hi : l[i]? = some f1) (hj : l[j]? = some f2) (h1 : g x1 = g f1) (h2 : g x2 = g f2) :
    ((l.set i x1).set j x2).map g = l.map g := by
  by_cases hij : i = j
  · subst hij
    rw [List.set_set, map_set_same g hj h2]
  · rw [map_set_same g ((List.getElem?_set_ne hij).trans hj) h2, map_set_same g hi h1]

theorem forall_mem_set2 {α} (P : α → Prop) (l : List α) (i j : Nat) (x1 x2 : α)
    (h : ∀ e ∈ l, P e) (h1 : P x1) (h2 : P x2) : ∀ e ∈ (l.set i x1).set j x2, P e := by
  intro e he
  rcases List.mem_or_eq_of_mem_set he with he | rfl
  · rcases List.mem_or_eq_of_mem_set he with he | rfl
    · exact h e he
    · exact h1
  · exact h2

theorem flatMap_map_perm {α β} (g : α → List β) (s : α → α) (l : List α)
    (h : ∀ e ∈ l, (g (s e)).Perm (g e)) : ((l.map s).flatMap g).Perm (l.flatMap g) := by
  induction l with
  | nil => exact .refl _
  | cons e t ih =>
    exact (h e List.mem_cons_self).append (ih fun x hx => h x (List.mem_cons_of_mem _ hx))

/-! ## `sorted` -/

theorem insertSorted_eq : insertSorted = NatSort.insert := by
  funext a l
  induction l with
  | nil => rfl
  | cons b bs ih => simp only [insertSorted, NatSort.insert, ih]

theorem sortNodes_eq : sortNodes = NatSort.isort := by
  funext l; simp only [sortNodes, NatSort.isort, insertSorted_eq]

theorem sortNodes_perm (e : Edge) : (sortNodes e).Perm e := sortNodes_eq ▸ NatSort.isort_perm e
theorem sortNodes_length (e : Edge) : (sortNodes e).length = e.length := (sortNodes_perm e).length_eq
theorem sortNodes_nodup {e : Edge} (h : e.Nodup) : (sortNodes e).Nodup := (sortNodes_perm e).nodup_iff.mpr h
theorem sortNodes_count (a : Nat) (e : Edge) : (sortNodes e).count a = e.count a := (sortNodes_perm e).count_eq a

/-- `sorted` of a node set is the strictly increasing tuple: the canonical form of the set -/
theorem sortNodes_strict {e : Edge} (h : e.Nodup) : (sortNodes e).Pairwise (· < ·) :=
  sortNodes_eq ▸ NatSort.isort_strict h

theorem sortNodes_of_sorted {e : Edge} (h : e.Pairwise (· < ·)) : sortNodes e = e :=
  sortNodes_eq ▸ NatSort.isort_of_strict h

/-! ## `__pairwise_reshuffle` -/

theorem deal_spec {f g1 g2 : List Nat} {n1 n2 : Nat} {ds : List Draw} {r1 r2 : List Nat} {ds' : List Draw}
    (h : deal f g1 g2 n1 n2 ds = .ok (r1, r2, ds'))
    (h1 : g1.length ≤ n1) (h2 : g2.length ≤ n2)
    (hroom : f.length + g1.length + g2.length = n1 + n2) :
    r1.length = n1 ∧ r2.length = n2 ∧ ∃ s1 s2, r1 = g1 ++ s1 ∧ r2 = g2 ++ s2 ∧ (s1 ++ s2).Perm f := by
  have left {v f g1 g2 n1 n2} (hlt : g1.length < n1) (hr : (v :: f).length + g1.length + g2.length = n1 + n2)
      (ih : (g1 ++ [v]).length ≤ n1 → f.length + (g1 ++ [v]).length + g2.length = n1 + n2 →
        r1.length = n1 ∧ r2.length = n2 ∧ ∃ s1 s2, r1 = g1 ++ [v] ++ s1 ∧ r2 = g2 ++ s2 ∧ (s1 ++ s2).Perm f) :
      r1.length = n1 ∧ r2.length = n2 ∧ ∃ s1 s2, r1 = g1 ++ s1 ∧ r2 = g2 ++ s2 ∧ (s1 ++ s2).Perm (v :: f) := by
    obtain ⟨a, b, s1, s2, e1, e2, hp⟩ := ih (by rw [List.length_append]; exact hlt)
      (by rw [List.length_append, ← hr, List.length_singleton, List.length_cons]; ac_rfl)
    exact ⟨a, b, v :: s1, s2, by rw [e1, List.append_assoc]; rfl, e2, hp.cons v⟩
  have right {v f g1 g2 n1 n2} (hlt : g2.length < n2) (hr : (v :: f).length + g1.length + g2.length = n1 + n2)
      (ih : (g2 ++ [v]).length ≤ n2 → f.length + g1.length + (g2 ++ [v]).length = n1 + n2 →
        r1.length = n1 ∧ r2.length = n2 ∧ ∃ s1 s2, r1 = g1 ++ s1 ∧ r2 = g2 ++ [v] ++ s2 ∧ (s1 ++ s2).Perm f) :
      r1.length = n1 ∧ r2.length = n2 ∧ ∃ s1 s2, r1 = g1 ++ s1 ∧ r2 = g2 ++ s2 ∧ (s1 ++ s2).Perm (v :: f) := by
    obtain ⟨a, b, s1, s2, e1, e2, hp⟩ := ih (by rw [List.length_append]; exact hlt)
      (by rw [List.length_append, ← hr, List.length_singleton, List.length_cons]; ac_rfl)
    exact ⟨a, b, s1, v :: s2, e1, by rw [e2, List.append_assoc]; rfl, List.perm_middle.trans (hp.cons v)⟩
  fun_induction deal f g1 g2 n1 n2 ds with
  | case1 g1 g2 n1 n2 ds =>
    cases h
    have : r1.length = n1 ∧ r2.length = n2 := by rw [List.length_nil] at hroom; omega
    exact ⟨this.1, this.2, [], [], by simp⟩
  | case2 v f g1 g2 n1 n2 hb ds ih => exact left hb.1 hroom fun a b => ih h a h2 b
  | case3 v f g1 g2 n1 n2 hb ds ih => exact right hb.2 hroom fun a b => ih h h1 a b
  | case4 | case5 => cases h
  | case6 v f g1 g2 n1 n2 ds _ hlt ih => exact left hlt hroom fun a b => ih h a h2 b
  | case7 v f g1 g2 n1 n2 ds _ _ hlt ih => exact right hlt hroom fun a b => ih h h1 a b
  -- the nodes still to deal exactly fill the remaining room (`hroom`), so the overflow branch is never reached
  | case8 v f g1 g2 n1 n2 ds _ _ _ => rw [List.length_cons] at hroom; omega

theorem strip_perm (ix f : List Nat) (hnd : ix.Nodup) (hcnt : ∀ v ∈ ix, 2 ≤ f.count v) :
    (strip f ix ++ ix ++ ix).Perm f := by
  induction ix generalizing f with
  | nil => simp [strip]
  | cons v ix ih =>
    have hv : v ∉ ix := (List.nodup_cons.mp hnd).1
    have hnd' := (List.nodup_cons.mp hnd).2
    have hc := hcnt v List.mem_cons_self
    have hm1 : v ∈ f := List.count_pos_iff.mp (by omega)
    have hm2 : v ∈ f.erase v := List.count_pos_iff.mp (by rw [List.count_erase_self]; omega)
    simp only [strip]
    have ih' := ih ((f.erase v).erase v) hnd' (by
      intro u hu
      have hne : u ≠ v := fun h => hv (h ▸ hu)
      rw [List.count_erase_of_ne hne, List.count_erase_of_ne hne]
      exact hcnt u (List.mem_cons_of_mem _ hu))
    -- peel `v, v` off `f`, the rest is the induction hypothesis
    have hf : f.Perm (v :: v :: (f.erase v).erase v) :=
      (List.perm_cons_erase hm1).trans (List.Perm.cons v (List.perm_cons_erase hm2))
    refine List.Perm.trans ?_ hf.symm
    have : (strip ((f.erase v).erase v) ix ++ v :: ix ++ v :: ix).Perm
        (v :: v :: (strip ((f.erase v).erase v) ix ++ ix ++ ix)) := by
      simp only [List.append_assoc]
      refine (List.perm_middle).trans (List.Perm.cons v ?_)
      have h2 : (ix ++ v :: ix).Perm (v :: (ix ++ ix)) := List.perm_middle
      exact (List.Perm.append_left _ h2).trans List.perm_middle
    exact this.trans (List.Perm.cons v (List.Perm.cons v ih'))

theorem mem_inter {f1 f2 : Edge} {v : Nat} : v ∈ inter f1 f2 ↔ v ∈ f1 ∧ v ∈ f2 := by
  simp [inter, List.mem_filter]

theorem inter_nodup {f1 f2 : Edge} (h1 : f1.Nodup) : (inter f1 f2).Nodup := h1.filter _

theorem strip_inter_perm {f1 : Edge} (f2 : Edge) (h1 : f1.Nodup) :
    (strip (f1 ++ f2) (inter f1 f2) ++ inter f1 f2 ++ inter f1 f2).Perm (f1 ++ f2) := by
  refine strip_perm _ _ (inter_nodup h1) fun v hv => ?_
  have a := List.count_pos_iff.mpr (mem_inter.mp hv).1
  have b := List.count_pos_iff.mpr (mem_inter.mp hv).2
  rw [List.count_append]
  omega

/-- the count among the common nodes is 1 exactly when both other counts are (stated linearly, for `omega`) -/
theorem count_inter {f1 f2 : Edge} (h1 : f1.Nodup) (h2 : f2.Nodup) (a : Nat) :
    f1.count a ≤ 1 ∧ f2.count a ≤ 1 ∧ (inter f1 f2).count a ≤ f1.count a ∧ (inter f1 f2).count a ≤ f2.count a ∧
      f1.count a + f2.count a ≤ (inter f1 f2).count a + 1 := by
  rw [h1.count, h2.count, (inter_nodup h1).count]
  by_cases m1 : a ∈ f1 <;> by_cases m2 : a ∈ f2 <;> simp [mem_inter, m1, m2]

/-- what a pair of replacement hyperedges must satisfy -/
structure Good (f1 f2 g1 g2 : Edge) : Prop where
  len1 : g1.length = f1.length
  len2 : g2.length = f2.length
  nd1 : g1.Nodup
  nd2 : g2.Nodup
  cnt : ∀ a, g1.count a + g2.count a = f1.count a + f2.count a

theorem Good.sort {f1 f2 g1 g2 : Edge} (h : Good f1 f2 g1 g2) : Good f1 f2 (sortNodes g1) (sortNodes g2) :=
  ⟨(sortNodes_length _).trans h.len1, (sortNodes_length _).trans h.len2,
   sortNodes_nodup h.nd1, sortNodes_nodup h.nd2, fun a => by
    rw [sortNodes_count, sortNodes_count]; exact h.cnt a⟩

theorem reshuffle_ok {f1 f2 : Edge} {ds : List Draw} {g1 g2 : Edge} {ds' : List Draw}
    (h : reshuffle f1 f2 ds = .ok (g1, g2, ds')) :
    ∃ r1 r2, deal (strip (f1 ++ f2) (inter f1 f2)) (inter f1 f2) (inter f1 f2) f1.length f2.length ds
        = .ok (r1, r2, ds') ∧ g1 = sortNodes r1 ∧ g2 = sortNodes r2 := by
  unfold reshuffle at h
  split at h
  · cases h
  · next r1 r2 ds1 hd => cases h; exact ⟨r1, r2, hd, rfl, rfl⟩

theorem reshuffle_good {f1 f2 : Edge} {ds : List Draw} {g1 g2 : Edge} {ds' : List Draw}
    (h : reshuffle f1 f2 ds = .ok (g1, g2, ds')) (h1 : f1.Nodup) (h2 : f2.Nodup) :
    Good f1 f2 g1 g2 := by
  obtain ⟨r1, r2, hd, rfl, rfl⟩ := reshuffle_ok h
  have hp := strip_inter_perm f2 h1
  have hlen := hp.length_eq
  simp only [List.length_append] at hlen
  have hle2 : (inter f1 f2).length ≤ f2.length :=
    (inter_nodup h1).length_le_of_subset fun v hv => (mem_inter.mp hv).2
  obtain ⟨l1, l2, s1, s2, rfl, rfl, hs⟩ := deal_spec hd (List.length_filter_le _ _) hle2 (by omega)
  have key (a : Nat) : (inter f1 f2 ++ s1).count a + (inter f1 f2 ++ s2).count a = f1.count a + f2.count a ∧
      (inter f1 f2 ++ s1).count a ≤ 1 ∧ (inter f1 f2 ++ s2).count a ≤ 1 := by
    have e1 := hp.count_eq a
    have e2 := hs.count_eq a
    have := count_inter h1 h2 a
    rw [List.count_append, List.count_append, List.count_append] at e1
    rw [List.count_append] at e2
    rw [List.count_append, List.count_append]
    -- with c = count among the common nodes, u, w = counts in f1, f2: the remainder has u + w - 2c copies of `a`
    -- (`e1`), split between s1 and s2 (`e2`); if c = 1 then u = w = 1 and nothing is left over, if c = 0 then
    -- u + w ≤ 1 copies are left: either way each result has c + (its share) ≤ 1 and together they have u + w
    omega
  exact Good.sort ⟨l1, l2, List.nodup_iff_count.mpr fun a => (key a).2.1,
    List.nodup_iff_count.mpr fun a => (key a).2.2, fun a => (key a).1⟩

/-! ## `__proposal`, `mh_step` -/

/-- a drawn index pair that the `while len(f1) != len(f2)` loop throws away -/
def Rejected (detailed : Bool) (es : List Edge) (d : Draw) : Prop :=
  ∃ a b f g, d = .idx a b ∧ es[a]? = some f ∧ es[b]? = some g ∧ admissible detailed f g = false

theorem admissible_iff {detailed : Bool} {f1 f2 : Edge} :
    admissible detailed f1 f2 = true ↔ (detailed = true → f1.length = f2.length) := by
  cases detailed <;> simp [admissible]

theorem pick_ok {detailed : Bool} {es : List Edge} {ds : List Draw} {i j : Nat} {f1 f2 : Edge}
    {ds' : List Draw} (h : pick detailed es ds = .ok (i, j, f1, f2, ds')) :
    ∃ rej, ds = rej ++ .idx i j :: ds' ∧ (∀ d ∈ rej, Rejected detailed es d) ∧
      es[i]? = some f1 ∧ es[j]? = some f2 ∧ admissible detailed f1 f2 = true := by
  fun_induction pick detailed es ds with
  | case1 | case2 | case5 => cases h
  | case3 a b ds x1 x2 e2 e1 hadm => cases h; exact ⟨[], rfl, nofun, e1, e2, hadm⟩
  | case4 a b ds x1 x2 e2 e1 hadm ih =>
    obtain ⟨rej, rfl, hr, r⟩ := ih h
    refine ⟨.idx a b :: rej, rfl, fun d hd => ?_, r⟩
    rcases List.mem_cons.mp hd with rfl | hd
    · exact ⟨a, b, x1, x2, rfl, e1, e2, by simpa using hadm⟩
    · exact hr d hd

/-- `mh_step` sorts (`c_new[i] = sorted(g1)`) what `__pairwise_reshuffle` already returned sorted, hence `sortNodes g1`
for a sorted `g1` -/
theorem mhStep_ok {detailed : Bool} {es : List Edge} {ds : List Draw} {es' : List Edge} {ds' : List Draw}
    (h : mhStep detailed es ds = .ok (es', ds')) :
    ∃ i j f1 f2 ds1 g1 g2, pick detailed es ds = .ok (i, j, f1, f2, ds1) ∧
      reshuffle f1 f2 ds1 = .ok (g1, g2, ds') ∧ es' = (es.set i (sortNodes g1)).set j (sortNodes g2) := by
  unfold mhStep at h
  split at h
  · cases h
  · next i j f1 f2 ds1 hp =>
    split at h
    · cases h
    · next g1 g2 ds2 hr =>
      cases h
      unfold proposal at hp
      split at hp
      · cases hp
      · exact ⟨i, j, f1, f2, ds1, g1, g2, hp, hr, rfl⟩

/-! ## incidences, the invariant of the chain -/

theorem count_map_pair (v k L : Nat) (e : List Nat) :
    List.count (v, k) (e.map (fun u => (u, L))) = if L = k then e.count v else 0 := by
  induction e with
  | nil => simp
  | cons u t ih =>
    simp only [List.map_cons, List.count_cons, ih, beq_iff_eq, Prod.mk.injEq]
    by_cases hL : L = k <;> by_cases hu : u = v <;> simp [hL, hu]

theorem count_incE (v k : Nat) (e : Edge) :
    List.count (v, k) (incE e) = if e.length = k then e.count v else 0 := count_map_pair v k e.length e

theorem incE_nodup {e : Edge} (h : e.Nodup) : (incE e).Nodup :=
  List.nodup_iff_count.mpr fun (v, k) => by
    rw [count_incE]
    split
    · exact List.nodup_iff_count.mp h v
    · exact Nat.zero_le _

theorem contains_incE (e : Edge) (n k : Nat) : (incE e).contains (n, k) = (e.length == k && e.contains n) := by
  rw [Bool.eq_iff_iff]
  simp only [incE, List.contains_iff_mem, List.mem_map, Prod.mk.injEq, Bool.and_eq_true, beq_iff_eq]
  exact ⟨fun ⟨_, hm, hv, hk⟩ => ⟨hk, hv ▸ hm⟩, fun ⟨hk, hm⟩ => ⟨n, hm, rfl, hk⟩⟩

theorem stubs_eq (es : List Edge) : stubs es = es.flatMap id := List.flatten_eq_flatMap

/-- the current listing `es'` against the input listing `es` -/
structure Inv (detailed : Bool) (es es' : List Edge) : Prop where
  nd : ∀ e ∈ es', e.Nodup
  sizes : sizes es' = sizes es
  stubs : (stubs es').Perm (stubs es)
  incs : detailed = true → (incidences es').Perm (incidences es)

theorem Inv.refl {detailed : Bool} {es : List Edge} (h : ∀ e ∈ es, e.Nodup) : Inv detailed es es :=
  ⟨h, rfl, .refl _, fun _ => .refl _⟩

theorem Inv.trans {detailed : Bool} {a b c : List Edge} (h1 : Inv detailed a b) (h2 : Inv detailed b c) :
    Inv detailed a c :=
  ⟨h2.nd, h2.sizes.trans h1.sizes, h2.stubs.trans h1.stubs, fun hd => (h2.incs hd).trans (h1.incs hd)⟩

theorem sizes_map_sort (es : List Edge) : sizes (es.map sortNodes) = sizes es := by
  simp [sizes, List.map_map, Function.comp_def, sortNodes_length]

theorem sizes_length (es : List Edge) : (sizes es).length = es.length := List.length_map _

theorem Inv.sort {detailed : Bool} {es es' : List Edge} (h : Inv detailed es es') :
    Inv detailed es (es'.map sortNodes) := by
  refine h.trans ⟨fun e he => ?_, sizes_map_sort es', ?_, fun _ => ?_⟩
  · obtain ⟨e0, h0, rfl⟩ := List.mem_map.mp he
    exact sortNodes_nodup (h.nd e0 h0)
  · rw [stubs_eq, stubs_eq]
    exact flatMap_map_perm id _ _ fun e _ => sortNodes_perm e
  · refine flatMap_map_perm incE _ _ fun e _ => ?_
    unfold incE
    rw [sortNodes_length]
    exact (sortNodes_perm e).map _

theorem deg_eq_count (es : List Edge) (hnd : ∀ e ∈ es, e.Nodup) (n : Nat) :
    deg es n = List.count n (stubs es) := by
  rw [stubs_eq]; exact ListLib.countP_contains id es hnd n

theorem degK_eq_count (es : List Edge) (hnd : ∀ e ∈ es, e.Nodup) (n k : Nat) :
    degK es n k = List.count (n, k) (incidences es) := by
  rw [incidences, ← ListLib.countP_contains incE es (fun e he => incE_nodup (hnd e he))]
  simp only [degK, contains_incE]

theorem Inv.deg {detailed : Bool} {es es' : List Edge} (h : Inv detailed es es') (hnd : ∀ e ∈ es, e.Nodup)
    (x : Nat) : C13.deg es' x = C13.deg es x := by
  rw [deg_eq_count es' h.nd, deg_eq_count es hnd]; exact h.stubs.count_eq x

theorem Inv.degK {detailed : Bool} {es es' : List Edge} (h : Inv detailed es es') (hnd : ∀ e ∈ es, e.Nodup)
    (hd : detailed = true) (x k : Nat) : C13.degK es' x k = C13.degK es x k := by
  rw [degK_eq_count es' h.nd, degK_eq_count es hnd]; exact (h.incs hd).count_eq (x, k)

/-- replacing the hyperedges at two positions by a `Good` pair (of equal sizes when the positions differ and
`detailed`); at equal positions only the second replacement survives -/
theorem setPair_inv {detailed : Bool} {es : List Edge} {i j : Nat} {f1 f2 g1 g2 : Edge}
    (hi : es[i]? = some f1) (hj : es[j]? = some f2) (hg : Good f1 f2 g1 g2) (hnd : ∀ e ∈ es, e.Nodup)
    (hlen : detailed = true → f1.length = f2.length) : Inv detailed es ((es.set i g1).set j g2) := by
  have n1 := hnd f1 (List.mem_of_getElem? hi)
  have diag (hij : i = j) (a : Nat) : g2.count a = f1.count a := by
    have : f1 = f2 := Option.some.inj (hi.symm.trans (hij ▸ hj))
    have := hg.cnt a
    have := List.nodup_iff_count.mp hg.nd1 a
    have := List.nodup_iff_count.mp hg.nd2 a
    have := List.nodup_iff_count.mp n1 a
    subst f2
    omega
  refine ⟨forall_mem_set2 _ es i j g1 g2 hnd hg.nd1 hg.nd2, map_set2_same List.length hi hj hg.len1 hg.len2,
    ?_, fun hd => ?_⟩
  · rw [stubs_eq, stubs_eq]
    exact flatMap_set2_perm id g1 g2 hi hj (fun _ => hg.cnt) diag
  · refine flatMap_set2_perm incE g1 g2 hi hj (fun _ (v, k) => ?_) (fun hij (v, k) => ?_)
    · rw [count_incE, count_incE, count_incE, count_incE, hg.len1, hg.len2, ← hlen hd]
      split
      · exact hg.cnt v
      · rfl
    · rw [count_incE, count_incE, hg.len2, ← hlen hd, diag hij v]

theorem mhStep_inv {detailed : Bool} {es : List Edge} {ds : List Draw} {es' : List Edge} {ds' : List Draw}
    (h : mhStep detailed es ds = .ok (es', ds')) (hnd : ∀ e ∈ es, e.Nodup) : Inv detailed es es' := by
  obtain ⟨i, j, f1, f2, ds1, g1, g2, hp, hr, rfl⟩ := mhStep_ok h
  obtain ⟨_, _, _, hi, hj, hadm⟩ := pick_ok hp
  exact setPair_inv hi hj
    (reshuffle_good hr (hnd f1 (List.mem_of_getElem? hi)) (hnd f2 (List.mem_of_getElem? hj))).sort hnd
    (admissible_iff.mp hadm)

theorem chain_inv {detailed : Bool} {n : Nat} {es : List Edge} {ds : List Draw} {es' : List Edge}
    {ds' : List Draw} (h : chain detailed n es ds = .ok (es', ds')) (hnd : ∀ e ∈ es, e.Nodup) :
    Inv detailed es es' := by
  fun_induction chain detailed n es ds with
  | case1 => cases h; exact .refl hnd
  | case2 => cases h
  | case3 n es ds es1 ds1 hs ih =>
    have i1 := mhStep_inv hs hnd
    exact i1.trans (ih h i1.nd)

/-! ## merging, and what is claimed of a returned listing -/

theorem dedup_sublist {α} [BEq α] (l : List α) : (dedup l).Sublist l := by
  induction l with
  | nil => exact List.Sublist.refl _
  | cons a t ih =>
    simp only [dedup]
    split
    · exact List.Sublist.cons a ih
    · exact List.Sublist.cons_cons a ih

theorem mem_dedup {α} [BEq α] [LawfulBEq α] (l : List α) (x : α) : x ∈ dedup l ↔ x ∈ l := by
  induction l with
  | nil => simp [dedup]
  | cons a t ih =>
    simp only [dedup]
    split
    · rename_i hc
      have : a ∈ t := by simpa using hc
      constructor
      · intro h; exact List.mem_cons_of_mem _ (ih.mp h)
      · intro h
        rcases List.mem_cons.mp h with rfl | h
        · exact ih.mpr this
        · exact ih.mpr h
    · simp [List.mem_cons, ih]

theorem dedup_nodup {α} [BEq α] [LawfulBEq α] (l : List α) : (dedup l).Nodup := by
  induction l with
  | nil => simp [dedup]
  | cons a t ih =>
    simp only [dedup]
    split
    · exact ih
    · rename_i hc
      have : a ∉ t := by simpa using hc
      exact List.nodup_cons.mpr ⟨fun h => this ((mem_dedup t a).mp h), ih⟩

theorem dedup_eq_of_length {α} [BEq α] (l : List α) (h : (dedup l).length = l.length) : dedup l = l :=
  (dedup_sublist l).eq_of_length h

theorem dedup_of_nodup {α} [BEq α] [LawfulBEq α] (l : List α) (h : l.Nodup) : dedup l = l := by
  induction l with
  | nil => rfl
  | cons a t ih =>
    have hn := List.nodup_cons.mp h
    have : t.contains a = false := by simpa using hn.1
    simp only [dedup, this, Bool.false_eq_true, if_false, ih hn.2]

theorem countP_of_sublist {α} {out L es : List α} (hsub : out.Sublist L) (hlen : L.length = es.length)
    (p : α → Bool) (hp : L.countP p = es.countP p) :
    out.countP p ≤ es.countP p ∧ (out.length = es.length → out.countP p = es.countP p) :=
  ⟨hp ▸ hsub.countP_le, fun hl => hsub.eq_of_length (hl.trans hlen.symm) ▸ hp⟩

/-- `L` has the observables of `es` -/
structure Same (detailed : Bool) (es L : List Edge) : Prop where
  sizes : (sizes L).Perm (sizes es)
  deg : ∀ x, deg L x = deg es x
  degK : detailed = true → ∀ x k, degK L x k = degK es x k

theorem Inv.same {detailed : Bool} {es L : List Edge} (h : Inv detailed es L) (hnd : ∀ e ∈ es, e.Nodup) :
    Same detailed es L :=
  ⟨h.sizes ▸ .refl _, h.deg hnd, h.degK hnd⟩

theorem Same.length {detailed : Bool} {es L : List Edge} (h : Same detailed es L) : L.length = es.length := by
  rw [← sizes_length L, h.sizes.length_eq, sizes_length]

theorem Same.of_sublist {detailed : Bool} {es L out : List Edge} (h : Same detailed es L) (hsub : out.Sublist L) :
    out.length ≤ es.length ∧
      (∀ x, C13.deg out x ≤ C13.deg es x) ∧ (detailed = true → ∀ x k, C13.degK out x k ≤ C13.degK es x k) ∧
      (out.length = es.length →
        (∀ x, C13.deg out x = C13.deg es x) ∧ (C13.sizes out).Perm (C13.sizes es) ∧
        (detailed = true → ∀ x k, C13.degK out x k = C13.degK es x k)) :=
  ⟨h.length ▸ hsub.length_le, fun x => (countP_of_sublist hsub h.length _ (h.deg x)).1,
    fun hd x k => (countP_of_sublist hsub h.length _ (h.degK hd x k)).1,
    fun hl => ⟨fun x => (countP_of_sublist hsub h.length _ (h.deg x)).2 hl,
      hsub.eq_of_length (hl.trans h.length.symm) ▸ h.sizes,
      fun hd x k => (countP_of_sublist hsub h.length _ (h.degK hd x k)).2 hl⟩⟩

/-- everything the property claims about one returned listing `out` for the input listing `es` -/
structure Preserved (detailed : Bool) (es out : List Edge) : Prop where
  distinct : out.Nodup
  edgesNodup : ∀ e ∈ out, e.Nodup
  sorted : ∀ e ∈ out, e.Pairwise (· < ·)
  sizesSub : ∀ e ∈ out, e.length ∈ sizes es
  len_le : out.length ≤ es.length
  deg_le : ∀ n, deg out n ≤ deg es n
  degK_le : detailed = true → ∀ n k, degK out n k ≤ degK es n k
  deg_eq : out.length = es.length → ∀ n, deg out n = deg es n
  degK_eq : out.length = es.length → detailed = true → ∀ n k, degK out n k = degK es n k
  sizes_eq : out.length = es.length → (sizes out).Perm (sizes es)

theorem stubEdgeMH_ok {detailed : Bool} {n : Nat} {es : List Edge} {ds : List Draw} {out : List Edge}
    (h : stubEdgeMH detailed n es ds = .ok out) (hnd : ∀ e ∈ es, e.Nodup) :
    ∃ L, Inv detailed es L ∧ (∀ e ∈ L, e.Pairwise (· < ·)) ∧ out = dedup L := by
  unfold stubEdgeMH at h
  split at h
  · cases h
  · next es' ds' hc =>
    cases h
    have I := chain_inv hc hnd
    refine ⟨_, I.sort, fun e he => ?_, rfl⟩
    obtain ⟨e0, h0, rfl⟩ := List.mem_map.mp he
    exact sortNodes_strict (I.nd e0 h0)

/-- `_cm_MCMC` runs the same routine for `'edge'` and `'stub'`: the label has no influence -/
theorem cmMCMC_eq (label : Label) : cmMCMC label = stubEdgeMH := by
  cases label <;> rfl

theorem stubEdgeMH_preserved {detailed : Bool} {n : Nat} {es : List Edge} {ds : List Draw} {out : List Edge}
    (h : stubEdgeMH detailed n es ds = .ok out) (hnd : ∀ e ∈ es, e.Nodup) :
    Preserved detailed es out := by
  obtain ⟨L, I, hs, rfl⟩ := stubEdgeMH_ok h hnd
  obtain ⟨a, b, c, d⟩ := (I.same hnd).of_sublist (dedup_sublist L)
  refine ⟨dedup_nodup L, fun e he => I.nd e ((mem_dedup L e).mp he), fun e he => hs e ((mem_dedup L e).mp he),
    fun e he => ?_, a, b, c, fun hl => (d hl).1, fun hl => (d hl).2.2, fun hl => (d hl).2.1⟩
  rw [← I.sizes]
  exact List.mem_map.mpr ⟨e, (mem_dedup L e).mp he, rfl⟩

theorem cmMCMC_preserved {label : Label} {detailed : Bool} {n : Nat} {es : List Edge} {ds : List Draw}
    {out : List Edge} (h : cmMCMC label detailed n es ds = .ok out) (hnd : ∀ e ∈ es, e.Nodup) :
    Preserved detailed es out :=
  stubEdgeMH_preserved (cmMCMC_eq label ▸ h) hnd

/-! ## re-adding the hyperedges of the other sizes -/

theorem foldl_addEdge (rest out : List Edge) (hnd : rest.Nodup) (hdis : ∀ e ∈ rest, e ∉ out) :
    rest.foldl addEdge out = out ++ rest := by
  induction rest generalizing out with
  | nil => simp
  | cons e t ih =>
    have he : e ∉ out := hdis e List.mem_cons_self
    have hnd' := List.nodup_cons.mp hnd
    have h1 : addEdge out e = out ++ [e] := by simp [addEdge, he]
    rw [List.foldl_cons, h1, ih (out ++ [e]) hnd'.2]
    · simp
    · intro x hx hmem
      rcases List.mem_append.mp hmem with hm | hm
      · exact hdis x (List.mem_cons_of_mem _ hx) hm
      · have : x = e := by simpa using hm
        exact hnd'.1 (this ▸ hx)

theorem foldl_addEdge_nil {es : List Edge} (hdist : es.Nodup) : es.foldl addEdge [] = es :=
  foldl_addEdge es [] hdist fun _ _ h => nomatch h

/-- the listing is split into a part `lay` that is reshuffled and a part `rest` that is re-added afterwards, told apart
by a predicate on sizes (the plain call: `rest = []`, any predicate that holds of `lay`) -/
theorem call_spec (p : Nat → Bool) {detailed : Bool} {n : Nat} {lay rest es es' out : List Edge} {ds ds' : List Draw}
    (hperm : (lay ++ rest).Perm es) (hl : ∀ e ∈ lay, p e.length = true) (hr : ∀ e ∈ rest, p e.length = false)
    (hdist : rest.Nodup) (hnd : ∀ e ∈ es, e.Nodup) (hc : chain detailed n lay ds = .ok (es', ds'))
    (ho : rest.foldl addEdge (dedup (es'.map sortNodes)) = out) :
    out.Nodup ∧ (∃ M, Same detailed es M ∧ out.Sublist M ∧ ∀ e ∈ M, e ∈ out) ∧
      out.filter (fun e => !p e.length) = rest := by
  have hndl : ∀ e ∈ lay, e.Nodup := fun e he => hnd e (hperm.subset (List.mem_append_left _ he))
  have I := (chain_inv hc hndl).sort
  -- sizes are kept in place, so what comes out of the chain still satisfies `p` and cannot collide with `rest`
  have hp : ∀ e ∈ dedup (es'.map sortNodes), p e.length = true := fun e he => by
    have : e.length ∈ sizes (es'.map sortNodes) := List.mem_map.mpr ⟨e, (mem_dedup _ e).mp he, rfl⟩
    rw [I.sizes] at this
    obtain ⟨e0, h0, hl0⟩ := List.mem_map.mp this
    exact hl0 ▸ hl e0 h0
  have hdisj : ∀ e ∈ rest, e ∉ dedup (es'.map sortNodes) := fun e he hmem => by
    have := hp e hmem
    rw [hr e he] at this
    cases this
  rw [foldl_addEdge _ _ hdist hdisj] at ho
  subst ho
  have S := I.same hndl
  refine ⟨List.nodup_append.mpr ⟨dedup_nodup _, hdist, fun a ha b hb hab => hdisj b hb (hab ▸ ha)⟩,
    ⟨es'.map sortNodes ++ rest, ⟨?_, fun x => ?_, fun hd x k => ?_⟩, (dedup_sublist _).append (.refl _),
      fun e he => ?_⟩, ?_⟩
  · unfold C13.sizes
    rw [List.map_append]
    exact (S.sizes.append_right _).trans (List.map_append ▸ hperm.map _)
  · unfold C13.deg
    rw [List.countP_append, ← hperm.countP_eq, List.countP_append]
    exact congrArg (· + _) (S.deg x)
  · unfold C13.degK
    rw [List.countP_append, ← hperm.countP_eq, List.countP_append]
    exact congrArg (· + _) (S.degK hd x k)
  · rw [List.mem_append, mem_dedup]
    exact List.mem_append.mp he
  · rw [List.filter_append, List.filter_eq_nil_iff.mpr fun e he => by simp [hp e he],
      List.filter_eq_self.mpr fun e he => by simp [hr e he], List.nil_append]

/-! ## returning runs of the undirected model exist: every drawn pair is `(0, 0)` -/

theorem strip_self (t : List Nat) (h : t.Nodup) : strip (t ++ t) t = [] := by
  induction t with
  | nil => simp [strip]
  | cons v t ih =>
    have hv : v ∉ t := (List.nodup_cons.mp h).1
    have e1 : ((v :: t) ++ (v :: t)).erase v = t ++ v :: t := by simp
    have e2 : (t ++ v :: t).erase v = t ++ t := by
      rw [List.erase_append_right _ hv]; simp
    simp only [strip, e1, e2]
    exact ih (List.nodup_cons.mp h).2

theorem inter_self (f : Edge) : inter f f = f :=
  List.filter_eq_self.mpr (fun a ha => by simpa using ha)

theorem reshuffle_self (f : Edge) (ds : List Draw) (h : f.Nodup) :
    reshuffle f f ds = .ok (sortNodes f, sortNodes f, ds) := by
  simp [reshuffle, inter_self, strip_self f h, deal]

theorem mhStep_diag (detailed : Bool) (es : List Edge) (i : Nat) (f : Edge) (ds : List Draw)
    (hi : es[i]? = some f) (h : f.Nodup) :
    mhStep detailed es (.idx i i :: ds)
      = .ok ((es.set i (sortNodes (sortNodes f))).set i (sortNodes (sortNodes f)), ds) := by
  have hne : es.isEmpty = false := by
    cases es with
    | nil => simp at hi
    | cons _ _ => rfl
  simp [mhStep, proposal, hne, pick, hi, admissible, reshuffle_self f ds h]

theorem chain_returns (detailed : Bool) (n : Nat) (es : List Edge) (ds : List Draw)
    (hne : es ≠ []) (hnd : ∀ e ∈ es, e.Nodup) :
    ∃ es', chain detailed n es (List.replicate n (.idx 0 0) ++ ds) = .ok (es', ds) := by
  induction n generalizing es with
  | zero => exact ⟨es, rfl⟩
  | succ n ih =>
    cases es with
    | nil => exact absurd rfl hne
    | cons f t =>
      have hs := mhStep_diag detailed (f :: t) 0 f (List.replicate n (.idx 0 0) ++ ds) rfl
        (hnd f List.mem_cons_self)
      obtain ⟨es', h'⟩ := ih _ (by simp) (mhStep_inv hs hnd).nd
      refine ⟨es', ?_⟩
      simp only [List.replicate_succ, List.cons_append, chain, hs]
      exact h'

/-! ## the directed model -/

/-- `s[s.index(a)] = b` removes one occurrence of `a` and adds one of `b` -/
theorem replaceFirst_count (s : List Nat) (a b x : Nat) (ha : a ∈ s) :
    (replaceFirst s a b).count x + (if a = x then 1 else 0) = s.count x + (if b = x then 1 else 0) := by
  have hlt := List.idxOf_lt_length_of_mem ha
  rw [replaceFirst, List.count_set hlt, List.getElem_idxOf hlt]
  simp only [beq_iff_eq]
  generalize (if b = x then 1 else 0) = k
  split
  · next hax => subst hax; have := List.count_pos_iff.mpr ha; omega
  · rfl

theorem replaceFirst_length (s : List Nat) (a b : Nat) : (replaceFirst s a b).length = s.length :=
  List.length_set

theorem replaceFirst_nodup (s : List Nat) (a b : Nat) (ha : a ∈ s) (hb : b ∉ s) (hs : s.Nodup) :
    (replaceFirst s a b).Nodup := by
  refine List.nodup_iff_count.mpr fun x => ?_
  have h1 := replaceFirst_count s a b x ha
  have h2 := List.nodup_iff_count.mp hs x
  generalize (if a = x then 1 else 0) = k at h1
  split at h1
  · next hbx => subst hbx; rw [List.count_eq_zero.mpr hb] at h1; omega
  · omega

theorem side_setSide (t tgt : Bool) (e : DEdge) (l : List Nat) :
    side t (setSide tgt e l) = if t = tgt then l else side t e := by
  cases t <;> cases tgt <;> rfl

theorem side_nodup {tgt : Bool} {e : DEdge} (he : e.1.Nodup ∧ e.2.Nodup) : (side tgt e).Nodup := by
  cases tgt
  · exact he.1
  · exact he.2

theorem setSide_nodup {tgt : Bool} {e : DEdge} {l : List Nat} (he : e.1.Nodup ∧ e.2.Nodup) (hl : l.Nodup) :
    (setSide tgt e l).1.Nodup ∧ (setSide tgt e l).2.Nodup := by
  cases tgt
  · exact ⟨hl, he.2⟩
  · exact ⟨he.1, hl⟩

theorem setSide_shape {tgt : Bool} {e : DEdge} {l : List Nat} (hl : l.length = (side tgt e).length) :
    ((setSide tgt e l).1.length, (setSide tgt e l).2.length) = (e.1.length, e.2.length) := by
  cases tgt <;> simp only [setSide, side, Bool.false_eq_true, if_false, if_true] at hl ⊢ <;> rw [hl]

theorem swapStep_ok {tgt : Bool} {es : List DEdge} {ds : List Nat} {es' : List DEdge} {ds' : List Nat}
    (h : swapStep tgt es ds = .ok (es', ds')) :
    (∃ a, ds = a :: a :: ds' ∧ es' = es) ∨
    ∃ a b c d e1 e2 n1 n2, a ≠ b ∧ ds = a :: b :: c :: d :: ds' ∧ es[a]? = some e1 ∧ es[b]? = some e2 ∧
      (side tgt e1)[c]? = some n1 ∧ (side tgt e2)[d]? = some n2 ∧
      es' = swapNodes tgt es a b e1 e2 n1 n2 := by
  revert h
  fun_cases swapStep tgt es ds
  case case1 a _ _ _ _ _ => intro h; cases h; exact .inl ⟨a, rfl, rfl⟩
  case case8 a b e1 e2 he2 he1 hne _ c n1 hn1 _ d _ n2 hn2 =>
    intro h; cases h; exact .inr ⟨a, b, c, d, e1, e2, n1, n2, hne, rfl, he1, he2, hn1, hn2, rfl⟩
  all_goals exact nofun

theorem swapStep_diag (tgt : Bool) {es : List DEdge} {a : Nat} {e : DEdge} (ds : List Nat) (h : es[a]? = some e) :
    swapStep tgt es (a :: a :: ds) = .ok (es, ds) := by
  simp only [swapStep, h, if_true]

/-- invariant of the two swap loops (`side false` gives `srcStubs`, `side true` gives `tgtStubs`) -/
structure DInv (es es' : List DEdge) : Prop where
  nd : ∀ e ∈ es', e.1.Nodup ∧ e.2.Nodup
  shp : shapes es' = shapes es
  stubs : ∀ t, (es'.flatMap (side t)).Perm (es.flatMap (side t))

theorem DInv.refl (es : List DEdge) (h : ∀ e ∈ es, e.1.Nodup ∧ e.2.Nodup) : DInv es es :=
  ⟨h, rfl, fun _ => .refl _⟩

theorem DInv.trans {a b c : List DEdge} (h1 : DInv a b) (h2 : DInv b c) : DInv a c :=
  ⟨h2.nd, h2.shp.trans h1.shp, fun t => (h2.stubs t).trans (h1.stubs t)⟩

theorem DInv.length {es es' : List DEdge} (h : DInv es es') : es'.length = es.length := by
  simpa [shapes] using congrArg List.length h.shp

/-- the swap, refused or not: on the side `tgt` one node leaves and one enters each of the two hyperedges, the other
side is not touched -/
theorem swapNodes_inv {tgt : Bool} {es : List DEdge} {id1 id2 : Nat} {e1 e2 : DEdge} {n1 n2 : Nat}
    (hne : id1 ≠ id2) (he1 : es[id1]? = some e1) (he2 : es[id2]? = some e2)
    (m1 : n1 ∈ side tgt e1) (m2 : n2 ∈ side tgt e2) (hnd : ∀ e ∈ es, e.1.Nodup ∧ e.2.Nodup) :
    DInv es (swapNodes tgt es id1 id2 e1 e2 n1 n2) := by
  unfold swapNodes
  split
  · exact .refl es hnd
  · next href =>
    simp only [Bool.or_eq_true, List.contains_iff_mem, not_or] at href
    have nd1 := hnd e1 (List.mem_of_getElem? he1)
    have nd2 := hnd e2 (List.mem_of_getElem? he2)
    have sides (t : Bool) : ((((es.set id1 (setSide tgt e1 (replaceFirst (side tgt e1) n1 n2))).set id2
        (setSide tgt e2 (replaceFirst (side tgt e2) n2 n1))).flatMap (side t))).Perm (es.flatMap (side t)) := by
      refine flatMap_set2_perm (side t) _ _ he1 he2 (fun _ x => ?_) (fun hij => absurd hij hne)
      rw [side_setSide, side_setSide]
      split
      · next ht =>
        subst ht
        have := replaceFirst_count (side t e1) n1 n2 x m1
        have := replaceFirst_count (side t e2) n2 n1 x m2
        omega
      · rfl
    exact ⟨forall_mem_set2 _ es id1 id2 _ _ hnd
        (setSide_nodup nd1 (replaceFirst_nodup _ _ _ m1 href.1 (side_nodup nd1)))
        (setSide_nodup nd2 (replaceFirst_nodup _ _ _ m2 href.2 (side_nodup nd2))),
      map_set2_same _ he1 he2 (setSide_shape (replaceFirst_length ..)) (setSide_shape (replaceFirst_length ..)),
      sides⟩

theorem swapStep_inv {tgt : Bool} {es : List DEdge} {ds : List Nat} {es' : List DEdge} {ds' : List Nat}
    (h : swapStep tgt es ds = .ok (es', ds')) (hnd : ∀ e ∈ es, e.1.Nodup ∧ e.2.Nodup) : DInv es es' := by
  rcases swapStep_ok h with ⟨_, _, rfl⟩ | ⟨a, b, c, d, e1, e2, n1, n2, hne, _, he1, he2, hn1, hn2, rfl⟩
  · exact .refl _ hnd
  · exact swapNodes_inv hne he1 he2 (List.mem_of_getElem? hn1) (List.mem_of_getElem? hn2) hnd

theorem swapLoop_inv {tgt : Bool} {n : Nat} {es : List DEdge} {ds : List Nat} {es' : List DEdge}
    {ds' : List Nat} (h : swapLoop tgt n es ds = .ok (es', ds'))
    (hnd : ∀ e ∈ es, e.1.Nodup ∧ e.2.Nodup) : DInv es es' := by
  fun_induction swapLoop tgt n es ds with
  | case1 => cases h; exact .refl _ hnd
  | case2 => cases h
  | case3 n es ds es1 ds1 hs ih =>
    have i1 := swapStep_inv hs hnd
    exact i1.trans (ih h i1.nd)

theorem shapes_map_sort (es : List DEdge) : shapes (es.map sortSides) = shapes es := by
  simp [shapes, List.map_map, Function.comp_def, sortSides, sortNodes_length]

theorem DInv.sort {es es' : List DEdge} (h : DInv es es') : DInv es (es'.map sortSides) := by
  refine h.trans ⟨fun e he => ?_, shapes_map_sort es', fun t => flatMap_map_perm (side t) _ _ fun e _ => ?_⟩
  · obtain ⟨e0, h0, rfl⟩ := List.mem_map.mp he
    exact ⟨sortNodes_nodup (h.nd e0 h0).1, sortNodes_nodup (h.nd e0 h0).2⟩
  · cases t <;> exact sortNodes_perm _

/-- as many hyperedges have `x` on the side `t`: `outDeg` for `t = false`, `inDeg` for `t = true` -/
theorem DInv.deg {es es' : List DEdge} (h : DInv es es') (hnd : ∀ e ∈ es, e.1.Nodup ∧ e.2.Nodup) (t : Bool)
    (x : Nat) : es'.countP (fun e => (side t e).contains x) = es.countP (fun e => (side t e).contains x) := by
  rw [ListLib.countP_contains (side t) es' fun e he => side_nodup (h.nd e he),
    ListLib.countP_contains (side t) es fun e he => side_nodup (hnd e he)]
  exact (h.stubs t).count_eq x

/-- everything the property claims about the directed model -/
structure DPreserved (es out : List DEdge) : Prop where
  distinct : out.Nodup
  sidesNodup : ∀ e ∈ out, e.1.Nodup ∧ e.2.Nodup
  sorted : ∀ e ∈ out, e.1.Pairwise (· < ·) ∧ e.2.Pairwise (· < ·)
  len_le : out.length ≤ es.length
  out_le : ∀ n, outDeg out n ≤ outDeg es n
  in_le : ∀ n, inDeg out n ≤ inDeg es n
  out_eq : out.length = es.length → ∀ n, outDeg out n = outDeg es n
  in_eq : out.length = es.length → ∀ n, inDeg out n = inDeg es n
  shapes_eq : out.length = es.length → (shapes out).Perm (shapes es)

theorem directedCM_ok {es : List DEdge} {ds : List Nat} {out : List DEdge}
    (h : directedCM es ds = .ok out) (hnd : ∀ e ∈ es, e.1.Nodup ∧ e.2.Nodup) :
    ∃ L, DInv es L ∧ (∀ e ∈ L, e.1.Pairwise (· < ·) ∧ e.2.Pairwise (· < ·)) ∧ out = dedup L := by
  unfold directedCM at h
  split at h
  · cases h
  · next es1 ds1 h1 =>
    split at h
    · cases h
    · next es2 ds2 h2 =>
      cases h
      have i1 := swapLoop_inv h1 hnd
      have I := i1.trans (swapLoop_inv h2 i1.nd)
      refine ⟨_, I.sort, fun e he => ?_, rfl⟩
      obtain ⟨e0, h0, rfl⟩ := List.mem_map.mp he
      exact ⟨sortNodes_strict (I.nd e0 h0).1, sortNodes_strict (I.nd e0 h0).2⟩

theorem directedCM_preserved {es : List DEdge} {ds : List Nat} {out : List DEdge}
    (h : directedCM es ds = .ok out) (hnd : ∀ e ∈ es, e.1.Nodup ∧ e.2.Nodup) : DPreserved es out := by
  obtain ⟨L, I, hs, rfl⟩ := directedCM_ok h hnd
  have hsub := dedup_sublist L
  have ho (x : Nat) := countP_of_sublist hsub I.length _ (I.deg hnd false x)
  have hi (x : Nat) := countP_of_sublist hsub I.length _ (I.deg hnd true x)
  exact ⟨dedup_nodup L, fun e he => I.nd e ((mem_dedup L e).mp he), fun e he => hs e ((mem_dedup L e).mp he),
    I.length ▸ hsub.length_le, fun x => (ho x).1, fun x => (hi x).1, fun hl x => (ho x).2 hl,
    fun hl x => (hi x).2 hl, fun hl => by rw [hsub.eq_of_length (hl.trans I.length.symm), I.shp]⟩

theorem swapLoop_returns (tgt : Bool) (n : Nat) (es : List DEdge) (ds : List Nat) (hne : es ≠ []) :
    swapLoop tgt n es (List.replicate (2 * n) 0 ++ ds) = .ok (es, ds) := by
  obtain ⟨e, t, rfl⟩ := List.exists_cons_of_ne_nil hne
  induction n with
  | zero => rfl
  | succ n ih =>
    rw [Nat.mul_succ, List.replicate_succ, List.replicate_succ]
    simp only [List.cons_append, swapLoop, swapStep_diag tgt _ (List.getElem?_cons_zero), ih]

end C13
