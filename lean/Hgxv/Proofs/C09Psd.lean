import Hgxv.Proofs.C09Order
import Mathlib.Algebra.Order.Ring.Defs
import Mathlib.Tactic.Linarith
/-! The quadratic form of the order-`d` Laplacian is a sum over the hyperedges of
`(d+1)·Σ_{a∈e} x_a² − (Σ_{a∈e} x_a)²`, which is non-negative (positive semidefinite). Rows are indexed by node LABELS. -/
namespace C09

section psd
variable {S : Type} [CommRing S]

theorem sum_map_zero' {β : Type} (l : List β) : (l.map fun _ => (0 : S)).sum = 0 := List.sum_map_zero

/-- the quadratic form of a linear combination of matrices is the combination of the quadratic forms -/
theorem quad_sum_swap {β : Type} (cls : List Nat) (ps : List β) (k : β → S) (G : β → Nat → Nat → S) (x : Nat → S) :
    (cls.map fun a => (cls.map fun b => x a * (ps.map fun p => k p * G p a b).sum * x b).sum).sum
      = (ps.map fun p => k p * (cls.map fun a => (cls.map fun b => x a * G p a b * x b).sum).sum).sum := by
  induction ps with
  | nil => simp
  | cons p ps ih =>
    have h1 : ∀ a b, x a * ((p :: ps).map fun q => k q * G q a b).sum * x b
        = k p * (x a * G p a b * x b) + x a * (ps.map fun q => k q * G q a b).sum * x b := by
      intro a b
      simp only [List.map_cons, List.sum_cons]
      ring
    simp only [h1, List.sum_map_add, sum_map_mul_left']
    rw [ih]
    simp only [List.map_cons, List.sum_cons]

end psd

variable {R : Type} [CommRing R]

/-- unweighted: the label-indexed Laplacian is the sum of the Laplacians of the single hyperedges of order `d` -/
theorem lapL_unweighted (d : Nat) (es : List (Edge × R)) (hW : ∀ e ∈ es, e.2 = 1) (a b : Nat) :
    lapL d es a b = ((ofOrder d es).map fun e =>
      ((d + 1 : Nat) : R) * (if a = b then (ind (decide (a ∈ e.1)) : R) else 0)
        - ind (decide (a ∈ e.1)) * ind (decide (b ∈ e.1))).sum := by
  rw [lapL, degree_eq_sum, gram_unweighted_ind d es hW, sum_map_sub', sum_map_mul_left']
  by_cases h : a = b
  · simp only [if_pos h]
  · simp only [if_neg h, List.sum_map_zero]

/-- the quadratic form of the Laplacian of a single hyperedge `e` with `k` members -/
theorem quad_edge (cls e : List Nat) (hc : cls.Nodup) (he : e.Nodup) (hsub : ∀ x ∈ e, x ∈ cls) (k : R) (x : Nat → R) :
    (cls.map fun a => (cls.map fun b => x a * (k * (if a = b then (ind (decide (a ∈ e)) : R) else 0)
        - ind (decide (a ∈ e)) * ind (decide (b ∈ e))) * x b).sum).sum
      = k * (e.map fun a => x a * x a).sum - (e.map x).sum * (e.map x).sum := by
  have h1 : ∀ a ∈ cls, (cls.map fun b => x a * (k * (if a = b then (ind (decide (a ∈ e)) : R) else 0)
        - ind (decide (a ∈ e)) * ind (decide (b ∈ e))) * x b).sum
      = k * (ind (decide (a ∈ e)) * (x a * x a))
        - ind (decide (a ∈ e)) * x a * (cls.map fun b => ind (decide (b ∈ e)) * x b).sum := by
    intro a ha
    -- backwards: pull the diagonal term `k·x_a²` under the sum over `b`, so that both sides are one sum over `b`
    rw [← sum_ite_mem_nodup cls hc a ha fun b => k * (ind (decide (a ∈ e)) * (x a * x b)), ← sum_map_mul_left',
      ← sum_map_sub']
    refine congrArg List.sum (List.map_congr_left fun b _ => ?_)
    by_cases h : a = b
    · rw [if_pos h, if_pos h]; ring
    · rw [if_neg h, if_neg h]; ring
  rw [List.map_congr_left h1, sum_map_sub', sum_map_mul_left', sum_map_mul_right', sum_ind_mem cls e hc he hsub,
    sum_ind_mem cls e hc he hsub x]

theorem lap_quadratic_form (d : Nat) (nodes : List Nat) (es : List (Edge × R))
    (hE : ∀ e ∈ es, ∀ x ∈ e.1, x ∈ nodes) (hD : ∀ e ∈ es, e.1.Nodup) (hW : ∀ e ∈ es, e.2 = 1) (x : Nat → R) :
    ((classes nodes).map fun a => ((classes nodes).map fun b => x a * lapL d es a b * x b).sum).sum
      = ((ofOrder d es).map fun e =>
          ((d + 1 : Nat) : R) * (e.1.map fun a => x a * x a).sum - (e.1.map x).sum * (e.1.map x).sum).sum := by
  have h := quad_sum_swap (classes nodes) (ofOrder d es) (fun _ => 1) (fun e a b =>
    ((d + 1 : Nat) : R) * (if a = b then (ind (decide (a ∈ e.1)) : R) else 0)
      - ind (decide (a ∈ e.1)) * ind (decide (b ∈ e.1))) x
  simp only [one_mul] at h
  simp only [lapL_unweighted d es hW, h]
  refine congrArg List.sum (List.map_congr_left fun e he => ?_)
  have hm := (mem_ofOrder d es e).1 he
  exact quad_edge (classes nodes) e.1 (classes_nodup nodes) (hD e hm.1)
    (fun y hy => (mem_classes y nodes).2 (hE e hm.1 y hy)) _ x

section order
variable [LinearOrder R] [IsStrictOrderedRing R]

theorem two_mul_sum_le (l : List Nat) (x : Nat → R) (c : R) :
    2 * c * (l.map x).sum ≤ (l.length : R) * (c * c) + (l.map fun a => x a * x a).sum := by
  induction l with
  | nil => simp
  | cons a l ih =>
    simp only [List.map_cons, List.sum_cons, List.length_cons, Nat.cast_succ]
    linarith [mul_self_nonneg (c - x a)]

/-- Cauchy-Schwarz with the all-ones vector -/
theorem sq_sum_le (l : List Nat) (x : Nat → R) :
    (l.map x).sum * (l.map x).sum ≤ (l.length : R) * (l.map fun a => x a * x a).sum := by
  induction l with
  | nil => simp
  | cons a l ih =>
    simp only [List.map_cons, List.sum_cons, List.length_cons, Nat.cast_succ]
    linarith [two_mul_sum_le l x (x a)]

theorem edge_term_nonneg (e : List Nat) (x : Nat → R) (k : Nat) (hl : e.length = k) :
    0 ≤ ((k : Nat) : R) * (e.map fun a => x a * x a).sum - (e.map x).sum * (e.map x).sum :=
  sub_nonneg.2 (hl ▸ sq_sum_le e x)

theorem sum_nonneg' {β : Type} (l : List β) (f : β → R) (h : ∀ e ∈ l, 0 ≤ f e) : 0 ≤ (l.map f).sum := by
  induction l with
  | nil => simp
  | cons a l ih =>
    simp only [List.map_cons, List.sum_cons]
    exact add_nonneg (h a List.mem_cons_self) (ih fun e he => h e (List.mem_cons_of_mem _ he))

theorem lap_quadratic_form_nonneg (d : Nat) (nodes : List Nat) (es : List (Edge × R))
    (hE : ∀ e ∈ es, ∀ x ∈ e.1, x ∈ nodes) (hD : ∀ e ∈ es, e.1.Nodup) (hW : ∀ e ∈ es, e.2 = 1) (x : Nat → R) :
    0 ≤ ((classes nodes).map fun a => ((classes nodes).map fun b => x a * lapL d es a b * x b).sum).sum := by
  rw [lap_quadratic_form d nodes es hE hD hW x]
  exact sum_nonneg' _ _ fun e he => edge_term_nonneg e.1 x (d + 1) ((mem_ofOrder d es e).1 he).2

end order
end C09
