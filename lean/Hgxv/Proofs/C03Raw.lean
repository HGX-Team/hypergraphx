import Hgxv.Model.C03Raw
import Hgxv.Proofs.AL
/-! C03 - raw setters: an echo changes nothing.  Core Lean only. -/
namespace C03
open AL

theorem rawOn_echo (st : FState) (i : Nat) (f : Store → Store) (h : ∀ o, AL.get? st i = some o → f o.base = o.base) :
    (rawOn st i f).1 = st := by
  unfold rawOn
  cases hg : AL.get? st i with
  | none => rfl
  | some o =>
    show AL.set st i { o with base := f o.base } = st
    rw [h o hg]; exact set_same st i o hg

theorem rstep_echo (st : FState) (op : ROp) (h : op.echo st = true) :
    (rstep st op).1 = match op with | .x o => (xstep st o).1 | _ => st := by
  cases op with
  | x o => rfl
  | setEdgeList i t =>
    refine rawOn_echo st i _ fun o hg => ?_
    simp only [ROp.echo, hg, decide_eq_true_eq] at h
    rw [h]; rfl
  | setAdjDict i t =>
    refine rawOn_echo st i _ fun o hg => ?_
    simp only [ROp.echo, hg, decide_eq_true_eq] at h
    rw [h]; rfl

theorem rrun_echo (ops : List ROp) : ∀ st, echoes st ops = true → rrun st ops = xrun st (pubOps ops) := by
  induction ops with
  | nil => intro st _; rfl
  | cons op ops ih =>
    intro st h
    simp only [echoes, Bool.and_eq_true] at h
    show rrun (rstep st op).1 ops = _
    rw [ih _ h.2, rstep_echo st op h.1]
    cases op <;> rfl

end C03
