import Hgxv.Model.C08
import Hgxv.Proofs.AL
import Hgxv.Proofs.ListLib
/-! # C08 - helper lemmas (core Lean only): specification vocabulary, degrees, histogram -/
namespace C08

/-! ## specification vocabulary (the property's own words) -/

/-- `u` and `v` lie together in a hyperedge that passes the filter -/
def Adj (es : List Edge) (f : Filt) (u v : Nat) : Prop :=
  ∃ e ∈ es, passes f e.length = true ∧ u ∈ e ∧ v ∈ e

/-- the reachability relation generated by the filtered hyperedges (reflexive-transitive closure of `Adj`) -/
inductive Reach (es : List Edge) (f : Filt) : Nat → Nat → Prop
  | refl (u : Nat) : Reach es f u u
  | step {u v w : Nat} : Reach es f u v → Adj es f v w → Reach es f u w

/-- well-formed input: hyperedges only contain nodes of the hypergraph (what `get_nodes/get_edges` return) -/
def WF (nodes : List Nat) (es : List Edge) : Prop := ∀ e ∈ es, ∀ x ∈ e, x ∈ nodes

def Disj (a b : List Nat) : Prop := ∀ x, x ∈ a → x ∉ b

theorem passes_none (len : Nat) : passes .none len = true := rfl

theorem passes_size (s : Int) (len : Nat) : passes (.size s) len = true ↔ (len : Int) = s := by
  simp only [passes, beq_iff_eq]; omega

theorem passes_order (o : Int) (len : Nat) : passes (.order o) len = true ↔ (len : Int) = o + 1 := by
  simp only [passes, beq_iff_eq]; omega

theorem passes_size_nat (m len : Nat) : passes (.size m) len = (len == m) := by
  rw [Bool.eq_iff_iff, passes_size, beq_iff_eq]; omega

theorem passes_order_nat (m len : Nat) : passes (.order m) len = (len == m + 1) := by
  rw [Bool.eq_iff_iff, passes_order, beq_iff_eq]; omega

theorem passes_toOrder (f : Filt) (len : Nat) : passes (toOrder f) len = passes f len := by
  cases f <;> rfl

theorem toOrder_toOrder (f : Filt) : toOrder (toOrder f) = toOrder f := by
  cases f <;> rfl

section Generic
variable {κ : Type} (members : κ → List Nat)

theorem mem_incidentG (keys : List κ) (n : Nat) (f : Filt) (k : κ) :
    k ∈ incidentG members keys n f ↔ k ∈ keys ∧ passes f (members k).length = true ∧ n ∈ members k := by
  simp only [incidentG, List.mem_filter, Bool.and_eq_true, decide_eq_true_eq]
  constructor
  · rintro ⟨h1, h2, h3⟩; exact ⟨h1, h3, h2⟩
  · rintro ⟨h1, h2, h3⟩; exact ⟨h1, h3, h2⟩

theorem degG_toOrder (keys : List κ) (n : Nat) (f : Filt) :
    degG members keys n (toOrder f) = degG members keys n f := by
  simp only [degG, incidentG, passes_toOrder]

theorem degreeSeqG_eq (nodes : List Nat) (keys : List κ) (f : Filt) :
    degreeSeqG members nodes keys f = nodes.map (fun n => (n, degG members keys n f)) := by
  simp only [degreeSeqG, degG_toOrder]

theorem degreeDistG_eq (nodes : List Nat) (keys : List κ) (f : Filt) :
    degreeDistG members nodes keys f = (nodes.map (fun n => degG members keys n f)).foldl (fun a x => bump x a) [] := by
  simp only [degreeDistG, degreeSeqG, degG_toOrder, List.foldl_map]

theorem degG_cons (k : κ) (keys : List κ) (n : Nat) (f : Filt) :
    degG members (k :: keys) n f
      = (if n ∈ members k ∧ passes f (members k).length = true then 1 else 0) + degG members keys n f := by
  simp only [degG, incidentG, List.filter_cons, Bool.and_eq_true, decide_eq_true_eq]
  split <;> simp <;> omega

end Generic

theorem dirDeg_toOrder (keys : List (List Nat × List Nat)) (n : Nat) (f : Filt) :
    dirDeg keys n (toOrder f) = dirDeg keys n f := by
  simp only [dirDeg, passes_toOrder]

theorem dirDegreeSeq_eq (nodes : List Nat) (keys : List (List Nat × List Nat)) (f : Filt) :
    dirDegreeSeq nodes keys f = nodes.map (fun n => (n, dirDeg keys n f)) := by
  simp only [dirDegreeSeq, dirDeg_toOrder]

theorem dirDegreeDist_eq (nodes : List Nat) (keys : List (List Nat × List Nat)) (f : Filt) :
    dirDegreeDist nodes keys f = (nodes.map (fun n => dirDeg keys n f)).foldl (fun a x => bump x a) [] := by
  simp only [dirDegreeDist, dirDegreeSeq, dirDeg_toOrder, List.foldl_map]

/-! ## histogram (`degree_distribution`)

`degree_dist[deg] += 1` on an insertion-ordered dict is the update `AL.set` after the read `AL.get?` of the shared
association-list layer (`bump_eq`, `lookup_eq`); what the lookups and the keys do under `bump` is read off its lemmas. -/

theorem lookup_eq (d : Nat) (l : List (Nat × Nat)) : lookup d l = AL.get? l d := by
  induction l with
  | nil => rfl
  | cons hd t ih => simp only [lookup, AL.get?, ih]

theorem bump_eq (d : Nat) (l : List (Nat × Nat)) : bump d l = AL.set l d ((AL.get? l d).getD 0 + 1) := by
  induction l with
  | nil => rfl
  | cons hd t ih =>
    obtain ⟨k, c⟩ := hd
    by_cases hk : k = d
    · simp only [bump, AL.set, AL.get?, hk, if_true, Option.getD_some]
    · simp only [bump, AL.set, AL.get?, hk, if_false, ih]

theorem lookup_bump (d e : Nat) (acc : List (Nat × Nat)) :
    lookup d (bump e acc) = if e = d then some ((lookup d acc).getD 0 + 1) else lookup d acc := by
  rw [lookup_eq, lookup_eq, bump_eq, AL.get?_set]
  split
  · rename_i h; rw [h]
  · rfl

theorem lookup_foldr_bump (ds : List Nat) (d : Nat) :
    lookup d (ds.foldr bump []) = if ds.count d = 0 then none else some (ds.count d) := by
  induction ds with
  | nil => rfl
  | cons x t ih =>
    rw [List.foldr_cons, lookup_bump, ih, List.count_cons]
    by_cases hx : x = d
    · subst hx
      by_cases ht : List.count x t = 0 <;> simp [ht]
    · have : (x == d) = false := by simpa using hx
      simp [hx, this]

theorem lookup_hist_nil (ds : List Nat) (d : Nat) :
    lookup d (ds.foldl (fun a x => bump x a) []) = if ds.count d = 0 then none else some (ds.count d) := by
  rw [← List.foldr_reverse, lookup_foldr_bump, List.count_reverse]

theorem sum_bump (e : Nat) (acc : List (Nat × Nat)) :
    ((bump e acc).map (·.2)).sum = (acc.map (·.2)).sum + 1 := by
  induction acc with
  | nil => simp [bump]
  | cons hd t ih =>
    obtain ⟨k, c⟩ := hd
    by_cases hk : k = e
    · simp only [bump, hk, if_true, List.map_cons, List.sum_cons]; omega
    · simp only [bump, hk, if_false, List.map_cons, List.sum_cons, ih]; omega

theorem sum_hist (ds : List Nat) : ∀ (acc : List (Nat × Nat)),
    ((ds.foldl (fun a x => bump x a) acc).map (·.2)).sum = (acc.map (·.2)).sum + ds.length := by
  induction ds with
  | nil => intro acc; simp
  | cons x t ih => intro acc; simp only [List.foldl_cons, ih, sum_bump, List.length_cons]; omega

theorem keys_bump (e : Nat) (acc : List (Nat × Nat)) :
    (bump e acc).map (·.1) = if e ∈ acc.map (·.1) then acc.map (·.1) else acc.map (·.1) ++ [e] := by
  rw [bump_eq]; exact AL.keys_set acc e _

theorem nodup_hist (ds : List Nat) : ∀ (acc : List (Nat × Nat)), (acc.map (·.1)).Nodup →
    ((ds.foldl (fun a x => bump x a) acc).map (·.1)).Nodup := by
  induction ds with
  | nil => intro acc h; exact h
  | cons x t ih =>
    intro acc h
    refine ih _ ?_
    show ((bump x acc).map (·.1)).Nodup
    rw [bump_eq]; exact AL.keys_set_nodup acc x _ h

end C08
