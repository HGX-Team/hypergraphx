import Hgxv.Proofs.C08
/-! # C08 — the two primitives `get_incident_edges` / `get_neighbors` (core Lean only)

`get_neighbors(n)` is a SET built by `set.update` per incident hyperedge from which the node itself is removed:
duplicate-free, never containing `n`.  Its characterisation `mem_neighbors` stands in `Model/C08.lean`, where the definition
of `bfsH` needs it. -/
namespace C08

theorem addNew_nodup (acc : List Nat) (x : Nat) (h : acc.Nodup) : (addNew acc x).Nodup :=
  ListLib.nodup_addIfNew Iff.rfl h

theorem addAll_nodup (e : Edge) (acc : List Nat) (h : acc.Nodup) : (addAll acc e).Nodup :=
  ListLib.foldl_inv addNew addNew_nodup e acc h

theorem foldl_addAll_nodup (l : List Edge) (acc : List Nat) (h : acc.Nodup) : (l.foldl addAll acc).Nodup :=
  ListLib.foldl_inv addAll (fun acc e => addAll_nodup e acc) l acc h

theorem neighbors_nodup (es : List Edge) (f : Filt) (n : Nat) : (neighbors es f n).Nodup := by
  unfold neighbors
  exact List.Nodup.sublist List.filter_sublist (foldl_addAll_nodup _ [] List.nodup_nil)

theorem self_not_mem_neighbors (es : List Edge) (f : Filt) (n : Nat) : n ∉ neighbors es f n := by
  intro h
  exact ((mem_neighbors es f n n).mp h).1 rfl

theorem mem_incident (es : List Edge) (f : Filt) (n : Nat) (e : Edge) :
    e ∈ incident es n f ↔ e ∈ es ∧ n ∈ e ∧ passes f e.length = true :=
  (mem_incidentG id es n f e).trans (and_congr_right fun _ => and_comm)

theorem incident_nodup (es : List Edge) (f : Filt) (n : Nat) (h : es.Nodup) : (incident es n f).Nodup := by
  unfold incident incidentG
  exact List.Nodup.sublist List.filter_sublist h

end C08
