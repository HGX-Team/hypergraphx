import Hgxv.Proofs.C10Graph
import Hgxv.Proofs.SortLib
import Mathlib.Algebra.Order.Field.Rat
import Mathlib.Algebra.Order.Field.Basic
/-! Similarity values, hyperedge ids, and the two line-graph loops: each loop is a `foldlM` whose state satisfies an
invariant indexed by the pairs visited so far (`DInv`, `LInv`; `foldlM_prefix_inv` of `C10List` carries it through the loop). -/
namespace C10

/-- the value the property speaks of: intersection size, or Jaccard similarity `|a ∩ b| / |a ∪ b|` -/
def distV (d : Dist) (a b : List Nat) : Rat :=
  match d with
  | .intersection => (interSize a b : Rat)
  | .jaccard => (interSize a b : Rat) / (unionSize a b : Rat)

theorem dist?_eq (d : Dist) (a b : List Nat) (h : d = .jaccard → unionSize a b ≠ 0) :
    dist? d a b = some (distV d a b) := by
  cases d with
  | intersection => rfl
  | jaccard => simp [dist?, jaccard?, distV, h rfl]

theorem interSize_comm (a b : List Nat) (ha : a.Nodup) (hb : b.Nodup) : interSize a b = interSize b a := by
  unfold interSize
  apply List.Perm.length_eq
  rw [List.perm_ext_iff_of_nodup (ha.filter _) (hb.filter _)]
  intro x; simp [List.mem_filter, and_comm]

theorem unionSize_add (a b : List Nat) : unionSize a b + interSize b a = a.length + b.length := by
  unfold unionSize interSize
  have h := List.length_eq_countP_add_countP (fun x => a.contains x) (l := b)
  rw [← List.countP_eq_length_filter, ← List.countP_eq_length_filter]
  have h2 : List.countP (fun x => !a.contains x) b = List.countP (fun x => decide ¬(a.contains x = true)) b := by
    apply List.countP_congr; intro x _; cases a.contains x <;> simp
  omega

theorem unionSize_comm (a b : List Nat) (ha : a.Nodup) (hb : b.Nodup) : unionSize a b = unionSize b a := by
  have h1 := unionSize_add a b
  have h2 := unionSize_add b a
  have h3 := interSize_comm a b ha hb
  omega

theorem distV_comm (d : Dist) (a b : List Nat) (ha : a.Nodup) (hb : b.Nodup) : distV d a b = distV d b a := by
  cases d <;> simp [distV, interSize_comm a b ha hb, unionSize_comm a b ha hb]

theorem interSize_pos_iff (a b : List Nat) : 0 < interSize a b ↔ ∃ n, n ∈ a ∧ n ∈ b := by
  simp [interSize, List.length_pos_iff_exists_mem, List.mem_filter]

theorem shares_of_le_distV {d : Dist} {a b : List Nat} {s : Rat} (hs : 0 < s) (h : s ≤ distV d a b) :
    ∃ n, n ∈ a ∧ n ∈ b := by
  apply (interSize_pos_iff a b).1
  apply Nat.pos_of_ne_zero
  intro h0
  cases d <;> simp [distV, h0] at h <;> exact absurd (lt_of_lt_of_le hs h) (lt_irrefl _)

theorem unionSize_ne_zero_left {a b : List Nat} (h : a ≠ []) : unionSize a b ≠ 0 := by
  unfold unionSize
  have := List.length_pos_iff.2 h
  omega

theorem unionSize_ne_zero_right {a b : List Nat} (h : b ≠ []) : unionSize a b ≠ 0 := by
  unfold unionSize
  obtain ⟨x, hx⟩ := List.exists_mem_of_ne_nil _ h
  by_cases hxa : x ∈ a
  · have := List.length_pos_of_mem hxa; omega
  · have : x ∈ b.filter (fun x => !a.contains x) := by simp [List.mem_filter, hx, hxa]
    have := List.length_pos_of_mem this; omega

theorem interSize_self (a : Edge) : interSize a a = a.length := by
  unfold interSize
  rw [List.filter_eq_self.2]
  intro x hx; simpa using hx

theorem interSize_le_left (a b : List Nat) : interSize a b ≤ a.length := by
  unfold interSize; exact List.length_filter_le _ _

theorem left_le_unionSize (a b : List Nat) : a.length ≤ unionSize a b := by
  unfold unionSize; omega

theorem same_members_of_union_le_inter (a b : List Nat) (h : unionSize a b ≤ interSize a b) :
    (∀ x ∈ a, x ∈ b) ∧ (∀ x ∈ b, x ∈ a) := by
  have h1 := interSize_le_left a b
  unfold unionSize at h
  have h2 : (b.filter (fun x => !a.contains x)).length = 0 := by omega
  have h3 : interSize a b = a.length := by omega
  constructor
  · intro x hx
    unfold interSize at h3
    rw [← List.countP_eq_length_filter, List.countP_eq_length] at h3
    simpa using h3 x hx
  · intro x hx
    apply Classical.byContradiction
    intro hxa
    have : x ∈ b.filter (fun x => !a.contains x) := by simp [List.mem_filter, hx, hxa]
    have := List.length_pos_of_mem this
    omega

theorem jaccard_lt_one {a b : List Nat} (ha : a.Pairwise (· < ·)) (hb : b.Pairwise (· < ·)) (hne : a ≠ b) :
    distV .jaccard a b < 1 := by
  have hlt : interSize a b < unionSize a b := Nat.lt_of_not_le fun h =>
    hne (NatSort.eq_of_mem_iff_of_strict (fun x => ⟨(same_members_of_union_le_inter a b h).1 x,
      (same_members_of_union_le_inter a b h).2 x⟩) ha hb)
  have hpos : (0 : Rat) < (unionSize a b : Rat) := by exact_mod_cast Nat.lt_of_le_of_lt (Nat.zero_le _) hlt
  show (interSize a b : Rat) / (unionSize a b : Rat) < 1
  exact (div_lt_one hpos).2 (by exact_mod_cast hlt)

theorem interSize_map {f : Nat → Nat} (hf : Function.Injective f) (a b : List Nat) :
    interSize (a.map f) (b.map f) = interSize a b := by
  unfold interSize
  rw [List.filter_map, List.length_map]
  congr 1
  apply List.filter_congr
  intro x _
  exact ListLib.contains_map_inj f (fun _ _ h => hf h) b x

theorem unionSize_map {f : Nat → Nat} (hf : Function.Injective f) (a b : List Nat) :
    unionSize (a.map f) (b.map f) = unionSize a b := by
  unfold unionSize
  rw [List.filter_map, List.length_map, List.length_map]
  congr 2
  apply List.filter_congr
  intro x _
  simp only [Function.comp, ListLib.contains_map_inj f (fun _ _ h => hf h) a x]

theorem distV_map {f : Nat → Nat} (hf : Function.Injective f) (d : Dist) (a b : List Nat) :
    distV d (a.map f) (b.map f) = distV d a b := by
  cases d <;> simp [distV, interSize_map hf, unionSize_map hf]

theorem shares_map {f : Nat → Nat} (hf : Function.Injective f) (a b : List Nat) :
    (∃ n, n ∈ a.map f ∧ n ∈ b.map f) ↔ ∃ n, n ∈ a ∧ n ∈ b := by
  simp only [← interSize_pos_iff, interSize_map hf]

section ids
variable {α : Type} [BEq α] [LawfulBEq α]

theorem idOf_lt {es : List α} {e : α} (h : e ∈ es) : idOf es e < es.length :=
  List.idxOf_lt_length_iff.2 h

theorem getElem_idOf {es : List α} {e : α} (h : e ∈ es) : es[idOf es e]'(idOf_lt h) = e :=
  List.getElem_idxOf _

theorem idOf_inj {es : List α} {a b : α} (ha : a ∈ es) (hb : b ∈ es) (h : idOf es a = idOf es b) : a = b := by
  have h1 := getElem_idOf ha
  have h2 := getElem_idOf hb
  simp only [h] at h1
  exact h1.symm.trans h2

theorem idOf_getElem {es : List α} (hnd : es.Nodup) (i : Nat) (hi : i < es.length) : idOf es es[i] = i :=
  hnd.idxOf_getElem i hi

theorem getD_idOf {es : List α} {e : α} (h : e ∈ es) (dflt : α) : es.getD (idOf es e) dflt = e := by
  simp [List.getD_eq_getElem?_getD, List.getElem?_eq_getElem (idOf_lt h), getElem_idOf h]

end ids

theorem keys_emptyOn (m : Nat) : AL.keys (emptyOn m).nodes = List.range m :=
  keys_addNodesFrom (List.range m) {} List.nodup_range

theorem adj_emptyOn (m : Nat) : (emptyOn m).adj = [] := adj_addNodesFrom _ _

/-- value attached to the ordered id pair `(i, j)`: `_distance(target of e_i, source of e_j)` -/
def dVal (es : List DEdge) (d : Dist) (i j : Nat) : Rat :=
  distV d (es.getD i ([], [])).2 (es.getD j ([], [])).1

/-- `g.add_edge(i, j, weight=w)` when `weighted`, `g.add_edge(i, j)` otherwise -/
def dAttr (weighted : Bool) (w : Rat) : Option Rat := if weighted then some w else none

/-- the digraph after the ordered id pairs `K` have been visited -/
structure DInv (es : List DEdge) (d : Dist) (s : Rat) (weighted : Bool) (g : Graph Nat) (K : List (Nat × Nat)) : Prop where
  keys : AL.keys g.nodes = List.range es.length
  adj : ∀ x y a, AL.get? g.adj (x, y) = some a ↔
    ((x, y) ∈ K ∧ x ≠ y ∧ s ≤ dVal es d x y ∧ a = dAttr weighted (dVal es d x y))

theorem dlgVisit_inv {es : List DEdge} {d : Dist} {s : Rat} {weighted : Bool} {g : Graph Nat} {K : List (Nat × Nat)}
    (hI : DInv es d s weighted g K) {a b : DEdge} (ha : a ∈ es) (hb : b ∈ es)
    (hu : d = .jaccard → a ≠ b → unionSize a.2 b.1 ≠ 0) :
    ∃ g', dlgVisit es d s weighted g (a, b) = some g' ∧ DInv es d s weighted g' (K ++ [(idOf es a, idOf es b)]) := by
  unfold dlgVisit
  by_cases hab : a = b
  · subst hab
    refine ⟨g, if_pos rfl, hI.keys, fun x y c => ?_⟩
    rw [hI.adj, List.mem_append, List.mem_singleton]
    exact and_congr_left fun h => (or_iff_left fun e => h.1 (by cases e; rfl)).symm
  · have hw : dist? d a.2 b.1 = some (dVal es d (idOf es a) (idOf es b)) := by
      rw [dVal, getD_idOf ha, getD_idOf hb]; exact dist?_eq _ _ _ (fun hd => hu hd hab)
    simp only [hab, if_false, hw]
    refine ⟨_, rfl, ?_, fun x y c => ?_⟩
    · split
      · rw [addArc_nodes_of_mem, hI.keys] <;> rw [hI.keys] <;> exact List.mem_range.2 (idOf_lt ‹_›)
      · exact hI.keys
    · have hij : idOf es a ≠ idOf es b := fun h => hab (idOf_inj ha hb h)
      have h1 := hI.adj x y c
      rw [List.mem_append, List.mem_singleton]
      -- `(x, y)` is the pair just visited (`hij`: not a loop) or an earlier one (`h1`); the rest only slows `grind` down
      clear hI hw hu ha hb hab
      split
      · rw [get_adj_addArc]
        simp only [Prod.mk.injEq, dAttr] at h1 ⊢
        grind
      · grind

theorem mem_allOrdered {α : Type} {es : List α} {a b : α} : (a, b) ∈ allOrdered es ↔ a ∈ es ∧ b ∈ es := by
  simp [allOrdered, List.mem_flatMap]

theorem dVal_eq {es : List DEdge} (d : Dist) {i j : Nat} (hi : i < es.length) (hj : j < es.length) :
    dVal es d i j = distV d es[i].2 es[j].1 := by
  rw [dVal, ListLib.getD_of_lt es _ hi, ListLib.getD_of_lt es _ hj]

theorem mem_allOrdered_ids {α : Type} [BEq α] [LawfulBEq α] {es : List α} (hes : es.Nodup) (x y : Nat) :
    (x, y) ∈ (allOrdered es).map (fun p => (idOf es p.1, idOf es p.2)) ↔ x < es.length ∧ y < es.length := by
  simp only [List.mem_map, Prod.exists, Prod.mk.injEq, mem_allOrdered]
  constructor
  · rintro ⟨a, b, ⟨ha, hb⟩, rfl, rfl⟩; exact ⟨idOf_lt ha, idOf_lt hb⟩
  · rintro ⟨hx, hy⟩
    exact ⟨es[x], es[y], ⟨List.getElem_mem hx, List.getElem_mem hy⟩, idOf_getElem hes x hx, idOf_getElem hes y hy⟩

theorem dlg_fold_inv (es : List DEdge) (d : Dist) (s : Rat) (weighted : Bool)
    (hne : d = .jaccard → ∀ e ∈ es, ∀ f ∈ es, e ≠ f → e.2 ≠ [] ∨ f.1 ≠ []) :
    ∃ g, directedLineGraph es d s weighted = some g ∧
      DInv es d s weighted g ((allOrdered es).map (fun p => (idOf es p.1, idOf es p.2))) :=
  foldlM_prefix_inv (dlgVisit es d s weighted)
    (fun qs g => DInv es d s weighted g (qs.map (fun p : DEdge × DEdge => (idOf es p.1, idOf es p.2)))) (allOrdered es)
    (fun qs g p hp hI => by
      have hm := mem_allOrdered.1 hp
      rw [List.map_append]
      exact dlgVisit_inv hI hm.1 hm.2 (fun hd hpne => (hne hd p.1 hm.1 p.2 hm.2 hpne).elim
        unionSize_ne_zero_left unionSize_ne_zero_right))
    [] _ ⟨keys_emptyOn _, by simp [adj_emptyOn]⟩

/-- value attached to the unordered id pair `{x, y}`: `_distance(e_x, e_y)` -/
def uVal (es : List Edge) (d : Dist) (x y : Nat) : Rat := distV d (es.getD x []) (es.getD y [])

/-- `g.add_edge(i, j, weight=w)` when `weighted`, `g.add_edge(i, j, weight=1)` otherwise -/
def lgAttr (weighted : Bool) (w : Rat) : Option Rat := some (if weighted then w else 1)

theorem uVal_eq {es : List Edge} (d : Dist) {i j : Nat} (hi : i < es.length) (hj : j < es.length) :
    uVal es d i j = distV d es[i] es[j] := by
  rw [uVal, ListLib.getD_of_lt es [] hi, ListLib.getD_of_lt es [] hj]

theorem pairKey_eq_iff (x y i j : Nat) : pairKey x y = pairKey i j ↔ (x = i ∧ y = j) ∨ (x = j ∧ y = i) := by
  grind [pairKey]

theorem pairKey_le (x y : Nat) : (pairKey x y).1 ≤ (pairKey x y).2 := by
  grind [pairKey]

theorem pairKey_of_le {x y : Nat} (h : x ≤ y) : pairKey x y = (x, y) := if_pos h

theorem nodup_getD {es : List Edge} (hnd : ∀ e ∈ es, e.Nodup) (x : Nat) : (es.getD x []).Nodup := by
  rw [List.getD_eq_getElem?_getD]
  cases h : es[x]? with
  | none => simp
  | some e => exact hnd e (List.mem_of_getElem? h)

theorem uVal_comm {es : List Edge} (hnd : ∀ e ∈ es, e.Nodup) (d : Dist) (x y : Nat) :
    uVal es d x y = uVal es d y x :=
  distV_comm d _ _ (nodup_getD hnd x) (nodup_getD hnd y)

/-- the state after the pairs with the keys `K` have been visited -/
structure LInv (es : List Edge) (d : Dist) (s : Rat) (weighted : Bool) (st : LG) (K : List (Nat × Nat)) : Prop where
  vis : ∀ k, k ∈ st.vis ↔ k ∈ K
  nodup : st.vis.Nodup
  keys : AL.keys st.g.nodes = List.range es.length
  adj : ∀ x y a, AL.get? st.g.adj (x, y) = some a ↔
    (pairKey x y ∈ K ∧ s ≤ uVal es d x y ∧ a = lgAttr weighted (uVal es d x y))

theorem lgVisit_inv {es : List Edge} {d : Dist} {s : Rat} {weighted : Bool} {st : LG} {K : List (Nat × Nat)}
    (hnd : ∀ e ∈ es, e.Nodup) (hI : LInv es d s weighted st K) {a b : Edge} (ha : a ∈ es) (hb : b ∈ es)
    (hn : ∃ n, n ∈ a ∧ n ∈ b) :
    ∃ st', lgVisit es d s weighted st (a, b) = some st' ∧
      LInv es d s weighted st' (K ++ [pairKey (idOf es a) (idOf es b)]) := by
  unfold lgVisit
  by_cases hk : pairKey (idOf es a) (idOf es b) ∈ st.vis
  · -- seen before: nothing happens, and `K` gains no new member
    have hK : ∀ k, k ∈ K ++ [pairKey (idOf es a) (idOf es b)] ↔ k ∈ K := fun k => by
      have := (hI.vis _).1 hk; simp only [List.mem_append, List.mem_singleton]; grind
    exact ⟨st, if_pos (by simpa using hk), fun k => (hI.vis k).trans (hK k).symm, hI.nodup, hI.keys,
      fun x y c => (hI.adj x y c).trans (and_congr_left' (hK _).symm)⟩
  · -- only hyperedges with a common node are visited, so the Jaccard denominator `|a ∪ b|` is not 0
    have hane : a ≠ [] := by obtain ⟨n, hna, _⟩ := hn; exact List.ne_nil_of_mem hna
    have hw : dist? d a b = some (uVal es d (idOf es a) (idOf es b)) := by
      rw [uVal, getD_idOf ha, getD_idOf hb]; exact dist?_eq _ _ _ (fun _ => unionSize_ne_zero_left hane)
    have hc : st.vis.contains (pairKey (idOf es a) (idOf es b)) = false := by simpa using hk
    simp only [hc, hw]
    refine ⟨_, rfl, ?_, List.nodup_cons.2 ⟨hk, hI.nodup⟩, ?_, fun x y c => ?_⟩
    · intro k; simp only [List.mem_cons, List.mem_append, hI.vis]; grind
    · show AL.keys (Graph.nodes (ite _ _ _)) = _
      split
      · unfold lgAdd
        rw [addEdge_nodes_of_mem, hI.keys] <;> rw [hI.keys] <;> exact List.mem_range.2 (idOf_lt ‹_›)
      · exact hI.keys
    · have hsym := uVal_comm hnd d (idOf es a) (idOf es b)
      have hkK : pairKey (idOf es a) (idOf es b) ∉ K := fun h => hk ((hI.vis _).2 h)
      have h1 := hI.adj x y c
      have h2 := pairKey_eq_iff x y (idOf es a) (idOf es b)
      show AL.get? (Graph.adj (ite _ _ _)) (x, y) = some c ↔ _
      rw [List.mem_append, List.mem_singleton]
      -- `{x, y}` is the pair just visited (either order, `h2`; same value, `hsym`) or an earlier one (`hkK`)
      clear hI hw hc hane hn ha hb hnd hk
      split
      · rw [lgAdd, get_adj_addEdge]
        simp only [Prod.mk.injEq, lgAttr] at h1 ⊢
        grind
      · grind

theorem pairKey_mem_keys (es : List Edge) (adj : List (List Edge)) (x y : Nat) :
    pairKey x y ∈ (adj.flatMap pairsOf).map (fun p => pairKey (idOf es p.1) (idOf es p.2)) ↔
      ∃ a b, ((a, b) ∈ adj.flatMap pairsOf ∨ (b, a) ∈ adj.flatMap pairsOf) ∧ idOf es a = x ∧ idOf es b = y := by
  simp only [List.mem_map, Prod.exists, pairKey_eq_iff]
  constructor
  · rintro ⟨a, b, hp, ⟨h1, h2⟩ | ⟨h1, h2⟩⟩
    · exact ⟨a, b, Or.inl hp, h1, h2⟩
    · exact ⟨b, a, Or.inr hp, h2, h1⟩
  · rintro ⟨a, b, hp | hp, rfl, rfl⟩
    · exact ⟨a, b, hp, Or.inl ⟨rfl, rfl⟩⟩
    · exact ⟨b, a, hp, Or.inr ⟨rfl, rfl⟩⟩

theorem lg_fold_inv {es : List Edge} {d : Dist} {s : Rat} {weighted : Bool} (hnd : ∀ e ∈ es, e.Nodup)
    (ps : List (Edge × Edge)) (hps : ∀ p ∈ ps, p.1 ∈ es ∧ p.2 ∈ es ∧ ∃ n, n ∈ p.1 ∧ n ∈ p.2) :
    ∃ st, ps.foldlM (lgVisit es d s weighted) { vis := [], g := emptyOn es.length } = some st ∧
      LInv es d s weighted st (ps.map (fun p => pairKey (idOf es p.1) (idOf es p.2))) :=
  foldlM_prefix_inv _ (fun qs st => LInv es d s weighted st (qs.map (fun p => pairKey (idOf es p.1) (idOf es p.2)))) ps
    (fun qs st p hp hI => by
      rw [List.map_append]; exact lgVisit_inv hnd hI (hps p hp).1 (hps p hp).2.1 (hps p hp).2.2)
    [] _ ⟨fun _ => Iff.rfl, List.nodup_nil, keys_emptyOn _, by simp [adj_emptyOn]⟩

theorem pairs_mem_shares {es : List Edge} {adj : List (List Edge)} (hA : ∀ l ∈ adj, ∀ e ∈ l, e ∈ es)
    (hC : ∀ l ∈ adj, ∀ a ∈ l, ∀ b ∈ l, ∃ n, n ∈ a ∧ n ∈ b) :
    ∀ p ∈ adj.flatMap pairsOf, p.1 ∈ es ∧ p.2 ∈ es ∧ ∃ n, n ∈ p.1 ∧ n ∈ p.2 := by
  intro p hp
  obtain ⟨l, hl, hpl⟩ := List.mem_flatMap.1 hp
  have hm := mem_pairsOf_mem (x := p.1) (y := p.2) hpl
  exact ⟨hA l hl _ hm.1, hA l hl _ hm.2, hC l hl _ hm.1 _ hm.2⟩

theorem pairKey_mem_keys_iff_shares {es : List Edge} (hes : es.Nodup) (adj : List (List Edge))
    (hA : ∀ l ∈ adj, l.Nodup ∧ ∀ e ∈ l, e ∈ es)
    (hC : ∀ l ∈ adj, ∀ a ∈ l, ∀ b ∈ l, ∃ n, n ∈ a ∧ n ∈ b)
    (hB : ∀ a ∈ es, ∀ b ∈ es, (∃ n, n ∈ a ∧ n ∈ b) → ∃ l ∈ adj, a ∈ l ∧ b ∈ l) (x y : Nat) :
    pairKey x y ∈ (adj.flatMap pairsOf).map (fun p => pairKey (idOf es p.1) (idOf es p.2)) ↔
      ∃ (hx : x < es.length) (hy : y < es.length), x ≠ y ∧ ∃ n, n ∈ es[x] ∧ n ∈ es[y] := by
  rw [pairKey_mem_keys]
  simp only [mem_flatMap_pairsOf (fun l hl => (hA l hl).1)]
  constructor
  · rintro ⟨a, b, ⟨hne, l, hl, ha, hb⟩, rfl, rfl⟩
    have ha' := (hA l hl).2 a ha
    have hb' := (hA l hl).2 b hb
    refine ⟨idOf_lt ha', idOf_lt hb', fun h => hne (idOf_inj ha' hb' h), ?_⟩
    rw [getElem_idOf ha', getElem_idOf hb']; exact hC l hl a ha b hb
  · rintro ⟨hx, hy, hne, hsh⟩
    obtain ⟨l, hl, h1, h2⟩ := hB es[x] (List.getElem_mem hx) es[y] (List.getElem_mem hy) hsh
    refine ⟨es[x], es[y], ⟨fun h => hne ?_, l, hl, h1, h2⟩, idOf_getElem hes x hx, idOf_getElem hes y hy⟩
    have h1 := idOf_getElem hes x hx
    rw [h, idOf_getElem hes y hy] at h1; exact h1.symm

/-- `line_graph` for any incident-list table `adj` that lists, node by node, duplicate-free lists of hyperedges
having a common node, such that every two intersecting hyperedges occur together in some list; every threshold -/
theorem lineGraphFrom_spec (es : List Edge) (d : Dist) (s : Rat) (weighted : Bool) (adj : List (List Edge))
    (hes : es.Nodup) (hnd : ∀ e ∈ es, e.Nodup)
    (hA : ∀ l ∈ adj, l.Nodup ∧ ∀ e ∈ l, e ∈ es)
    (hC : ∀ l ∈ adj, ∀ a ∈ l, ∀ b ∈ l, ∃ n, n ∈ a ∧ n ∈ b)
    (hB : ∀ a ∈ es, ∀ b ∈ es, (∃ n, n ∈ a ∧ n ∈ b) → ∃ l ∈ adj, a ∈ l ∧ b ∈ l) :
    ∃ r, lineGraphFrom es d s weighted adj = some r ∧
      AL.keys r.g.nodes = List.range es.length ∧
      (∀ i j a, AL.get? r.g.adj (i, j) = some a ↔
        ∃ (hi : i < es.length) (hj : j < es.length), i ≠ j ∧ (∃ n, n ∈ es[i] ∧ n ∈ es[j]) ∧
          s ≤ distV d es[i] es[j] ∧ a = some (if weighted then distV d es[i] es[j] else 1)) ∧
      r.vis.Nodup ∧
      (∀ i j, (i, j) ∈ r.vis ↔
        i < j ∧ ∃ (hi : i < es.length) (hj : j < es.length), ∃ n, n ∈ es[i] ∧ n ∈ es[j]) := by
  obtain ⟨r, hr, hI⟩ := lg_fold_inv (d := d) (s := s) (weighted := weighted) hnd _
    (pairs_mem_shares (fun l hl => (hA l hl).2) hC)
  have hkey := pairKey_mem_keys_iff_shares hes adj hA hC hB
  refine ⟨r, hr, hI.keys, fun i j a => ?_, hI.nodup, fun i j => ?_⟩
  · rw [hI.adj, hkey]
    constructor
    · rintro ⟨⟨hi, hj, hne, hsh⟩, hle, ha⟩
      rw [uVal_eq d hi hj] at hle ha
      exact ⟨hi, hj, hne, hsh, hle, ha⟩
    · rintro ⟨hi, hj, hne, hsh, hle, ha⟩
      rw [uVal_eq d hi hj]
      exact ⟨⟨hi, hj, hne, hsh⟩, hle, ha⟩
  · -- the keys in `vis` are ordered pairs, and `pairKey` is the identity on those
    rw [hI.vis]
    constructor
    · intro h
      obtain ⟨p, _, hk⟩ := List.mem_map.1 h
      have hle : i ≤ j := by have := pairKey_le (idOf es p.1) (idOf es p.2); rwa [hk] at this
      rw [← pairKey_of_le hle, hkey] at h
      obtain ⟨hi, hj, hne, hsh⟩ := h
      exact ⟨by omega, hi, hj, hsh⟩
    · rintro ⟨hlt, hi, hj, hsh⟩
      rw [← pairKey_of_le (Nat.le_of_lt hlt), hkey]
      exact ⟨hi, hj, Nat.ne_of_lt hlt, hsh⟩

theorem lineGraphFrom_spec_pos (es : List Edge) (d : Dist) (s : Rat) (weighted : Bool) (adj : List (List Edge))
    (hes : es.Nodup) (hnd : ∀ e ∈ es, e.Nodup) (hs : 0 < s)
    (hA : ∀ l ∈ adj, l.Nodup ∧ ∀ e ∈ l, e ∈ es)
    (hC : ∀ l ∈ adj, ∀ a ∈ l, ∀ b ∈ l, ∃ n, n ∈ a ∧ n ∈ b)
    (hB : ∀ a ∈ es, ∀ b ∈ es, (∃ n, n ∈ a ∧ n ∈ b) → ∃ l ∈ adj, a ∈ l ∧ b ∈ l) :
    ∃ r, lineGraphFrom es d s weighted adj = some r ∧
      AL.keys r.g.nodes = List.range es.length ∧
      (∀ i j a, AL.get? r.g.adj (i, j) = some a ↔
        ∃ (hi : i < es.length) (hj : j < es.length), i ≠ j ∧ s ≤ distV d es[i] es[j] ∧
          a = some (if weighted then distV d es[i] es[j] else 1)) ∧
      r.vis.Nodup ∧
      (∀ i j, (i, j) ∈ r.vis ↔
        i < j ∧ ∃ (hi : i < es.length) (hj : j < es.length), ∃ n, n ∈ es[i] ∧ n ∈ es[j]) := by
  obtain ⟨r, h1, h2, h3, h4⟩ := lineGraphFrom_spec es d s weighted adj hes hnd hA hC hB
  refine ⟨r, h1, h2, fun i j a => (h3 i j a).trans ?_, h4⟩
  exact exists_congr fun hi => exists_congr fun hj => and_congr_right fun _ =>
    ⟨fun h => h.2, fun h => ⟨shares_of_le_distV hs h.1, h⟩⟩

theorem sharesNode_iff (a b : Edge) : sharesNode a b = true ↔ ∃ n, n ∈ a ∧ n ∈ b := by
  simp [sharesNode]

theorem mem_incident {es : List Edge} {n : Nat} {e : Edge} : e ∈ incident es n ↔ e ∈ es ∧ n ∈ e := by
  simp [incident, List.mem_filter]

/-- the table computed from the listing: `adj[n] = [e for e in get_edges() if n in e]` for the nodes `n` -/
theorem incident_table_ok (nodes : List Nat) (es : List Edge) (hes : es.Nodup)
    (hmem : ∀ e ∈ es, ∀ n ∈ e, n ∈ nodes) :
    (∀ l ∈ nodes.map (incident es), l.Nodup ∧ ∀ e ∈ l, e ∈ es) ∧
    (∀ l ∈ nodes.map (incident es), ∀ a ∈ l, ∀ b ∈ l, ∃ n, n ∈ a ∧ n ∈ b) ∧
    (∀ a ∈ es, ∀ b ∈ es, (∃ n, n ∈ a ∧ n ∈ b) → ∃ l ∈ nodes.map (incident es), a ∈ l ∧ b ∈ l) := by
  refine ⟨?_, ?_, ?_⟩
  · intro l hl
    obtain ⟨n, _, rfl⟩ := List.mem_map.1 hl
    exact ⟨hes.filter _, fun e he => (mem_incident.1 he).1⟩
  · intro l hl a ha b hb
    obtain ⟨n, _, rfl⟩ := List.mem_map.1 hl
    exact ⟨n, (mem_incident.1 ha).2, (mem_incident.1 hb).2⟩
  · rintro a ha b hb ⟨n, hna, hnb⟩
    refine ⟨incident es n, List.mem_map.2 ⟨n, hmem a ha n hna, rfl⟩, ?_, ?_⟩
    · exact mem_incident.2 ⟨ha, hna⟩
    · exact mem_incident.2 ⟨hb, hnb⟩

theorem line_edges_of_le (nodes : List Nat) (es : List Edge) (d : Dist) (s : Rat) (weighted : Bool)
    (hes : es.Nodup) (hnd : ∀ e ∈ es, e.Nodup) (hmem : ∀ e ∈ es, ∀ n ∈ e, n ∈ nodes)
    (hle : ∀ a b : Edge, (∃ n, n ∈ a ∧ n ∈ b) → s ≤ distV d a b) :
    ∃ r, lineGraph nodes es d s weighted = some r ∧
      ∀ i j, (∃ a, AL.get? r.g.adj (i, j) = some a) ↔
        ∃ (hi : i < es.length) (hj : j < es.length), i ≠ j ∧ ∃ n, n ∈ es[i] ∧ n ∈ es[j] := by
  obtain ⟨hA, hC, hB⟩ := incident_table_ok nodes es hes hmem
  obtain ⟨r, hr, _, h3, _⟩ := lineGraphFrom_spec es d s weighted _ hes hnd hA hC hB
  refine ⟨r, hr, fun i j => ?_⟩
  constructor
  · rintro ⟨a, h⟩
    obtain ⟨hi, hj, hne, hsh, _, _⟩ := (h3 i j a).1 h
    exact ⟨hi, hj, hne, hsh⟩
  · rintro ⟨hi, hj, hne, hsh⟩
    exact ⟨_, (h3 i j _).2 ⟨hi, hj, hne, hsh, hle _ _ hsh, rfl⟩⟩

end C10
