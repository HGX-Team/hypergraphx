import Hgxv.Proofs.C20Reads
import Mathlib.Analysis.Normed.Algebra.MatrixExponential
import Mathlib.Analysis.SpecialFunctions.Exponential
/-! Algebra behind the eigenvector centralities and the sub-hypergraph centrality (C20); Mathlib is used for
`ring`/`field_simp`/`linarith` over `ℚ` and for the matrix exponential over `ℝ`. -/
namespace C20

theorem scale_cecStep (W : List (List Rat)) (c : Rat) (x : List Rat) (hc : c ≠ 0) :
    (cecStep W c x).map (c * ·) = matVec W x := by
  rw [cecStep, List.map_map]
  conv => rhs; rw [← List.map_id (matVec W x)]
  apply List.map_congr_left
  intro a _
  simp only [Function.comp, id]
  field_simp

theorem sq2_residual (c : Rat) (hc : c ≠ 0) (y x : List Rat) :
    sq2 (vsub y (x.map (c * ·))) = c * c * sq2 (vsub x (y.map (· / c))) := by
  induction y generalizing x with
  | nil => cases x <;> simp [vsub, sq2]
  | cons a t ih =>
    cases x with
    | nil => simp [vsub, sq2]
    | cons b u =>
      have := ih u
      simp only [vsub, sq2, List.map_cons, List.zipWith_cons_cons, List.sum_cons] at this ⊢
      rw [this]
      field_simp
      ring

theorem absR_nonneg (a : Rat) : 0 ≤ absR a := by
  unfold absR; split <;> linarith

theorem l1_nonneg (r : List Rat) : 0 ≤ l1 r :=
  List.sum_nonneg fun x hx => by obtain ⟨a, _, rfl⟩ := List.mem_map.mp hx; exact absR_nonneg a

theorem l1_pos (r : List Rat) (h : 0 < r.getD 0 0) : 0 < l1 r := by
  cases r with
  | nil => simp at h
  | cons a t =>
    simp only [List.getD_cons_zero] at h
    have h1 : absR a = a := by unfold absR; rw [if_neg (by linarith)]
    have := l1_nonneg t
    simp only [l1, List.map_cons, List.sum_cons] at this ⊢
    linarith

theorem hecNormalize_getD (r : List Rat) (h : 0 < r.getD 0 0) (i : Nat) :
    (hecNormalize r).getD i 0 = r.getD i 0 / l1 r := by
  have hs : sgn (r.getD 0 0) = 1 := by
    unfold sgn; rw [if_neg (by linarith), if_neg (by linarith)]
  simp only [hecNormalize, hs, one_mul]
  by_cases hi : i < r.length
  · simp [List.getD_eq_getElem?_getD, List.getElem?_map, List.getElem?_eq_getElem hi]
  · simp [List.getD_eq_getElem?_getD, List.getElem?_map, List.getElem?_eq_none (Nat.le_of_not_lt hi)]

/-- what one HEC step produces from `y = apply x` and its root vector `r` (`r_i ^ m = y_i`) -/
theorem hec_step_identity (y r : List Rat) (m : Nat) (h0 : 0 < r.getD 0 0)
    (hroot : ∀ i, (r.getD i 0) ^ m = y.getD i 0) (i : Nat) :
    y.getD i 0 = (l1 r) ^ m * ((hecNormalize r).getD i 0) ^ m := by
  have hS := l1_pos r h0
  rw [hecNormalize_getD r h0, div_pow, ← hroot i, mul_div_assoc', mul_div_cancel_left₀ _ (pow_ne_zero m hS.ne')]

theorem pow_sub_pow_le_of_le (a b M : Rat) (ha0 : 0 ≤ a) (haM : a ≤ M) (hb0 : 0 ≤ b) (hbM : b ≤ M) (m : Nat) :
    |a ^ m - b ^ m| ≤ m * M ^ (m - 1) * |a - b| := by
  have hmax : max |a| |b| ≤ M := by rw [abs_of_nonneg ha0, abs_of_nonneg hb0]; exact max_le haM hbM
  calc |a ^ m - b ^ m| ≤ |a - b| * m * max |a| |b| ^ (m - 1) := abs_pow_sub_pow_le a b m
    _ ≤ |a - b| * m * M ^ (m - 1) :=
        mul_le_mul_of_nonneg_left (pow_le_pow_left₀ (le_max_of_le_left (abs_nonneg a)) hmax _)
          (mul_nonneg (abs_nonneg _) (Nat.cast_nonneg m))
    _ = m * M ^ (m - 1) * |a - b| := by ring

theorem dot_vsub (row a b : List Rat) (h : a.length = b.length) : dot row (vsub a b) = dot row a - dot row b := by
  induction row generalizing a b with
  | nil => simp [dot]
  | cons r t ih =>
    cases a with
    | nil => cases b with
      | nil => simp [dot, vsub]
      | cons _ _ => simp at h
    | cons x xs =>
      cases b with
      | nil => simp at h
      | cons y ys =>
        have := ih xs ys (by simpa using h)
        simp only [dot, vsub, List.zipWith_cons_cons, List.zip_cons_cons, List.map_cons, List.sum_cons] at this ⊢
        rw [this]; ring

theorem matVec_vsub (W : List (List Rat)) (a b : List Rat) (h : a.length = b.length) :
    matVec W (vsub a b) = vsub (matVec W a) (matVec W b) := by
  induction W with
  | nil => simp [matVec, vsub]
  | cons row t ih =>
    have hd := dot_vsub row a b h
    simp only [matVec, vsub, List.map_cons, List.zipWith_cons_cons] at ih hd ⊢
    rw [hd, ih]

/-- a run of `power_method` that is left by its test (`passes < K`): a larger budget changes
nothing, and either no pass was made or the result is the image of an iterate `xp` whose pass produced a residual that fails
`res > tol` -/
theorem pmLoop_of_lt {X : Type} (body : X → X × Rat) (tol : Rat) (K : Nat) (res : Option Rat) (x : X)
    (h : (pmLoop body tol K res x).2 < K) :
    (∀ K', K ≤ K' → pmLoop body tol K' res x = pmLoop body tol K res x) ∧
    ((pmGoOn res tol = false ∧ pmLoop body tol K res x = (x, 0)) ∨
      ∃ xp, (body xp).1 = (pmLoop body tol K res x).1 ∧ pmGoOn (some (body xp).2) tol = false) := by
  induction K generalizing res x with
  | zero => exact absurd h (Nat.not_lt_zero _)
  | succ k ih =>
    -- `unfold` also opens `pmLoop body tol K'` (a `match` on `K'`), which reduces once `K'` is a successor
    unfold pmLoop at h ⊢
    cases hg : pmGoOn res tol with
    | false =>
      refine ⟨fun K' hK => ?_, Or.inl ⟨rfl, rfl⟩⟩
      obtain ⟨k', rfl⟩ := Nat.exists_eq_succ_of_ne_zero (Nat.ne_of_gt (Nat.lt_of_lt_of_le (Nat.succ_pos k) hK))
      simp only [hg, Bool.false_eq_true, if_false]
    | true =>
      simp only [hg, if_true] at h ⊢
      obtain ⟨hst, hl⟩ := ih (some (body x).2) (body x).1 (Nat.lt_of_succ_lt_succ h)
      refine ⟨fun K' hK => ?_, Or.inr ?_⟩
      · obtain ⟨k', rfl⟩ := Nat.exists_eq_succ_of_ne_zero (Nat.ne_of_gt (Nat.lt_of_lt_of_le (Nat.succ_pos k) hK))
        simp only [hg, if_true, hst k' (Nat.le_of_succ_le_succ hK)]
      · rcases hl with ⟨hstop, heq⟩ | hex
        · exact ⟨x, by rw [heq], hstop⟩
        · exact hex

/-- a run of the HEC loop: at most `K` passes; if it is left by the `break`, the returned iterate
passes the stopping test and a larger budget changes nothing -/
theorem hecLoop_spec {X : Type} (step : X → X) (dist : X → X → Rat) (tol : Rat) (K : Nat) (x : X) :
    (hecLoop step dist tol K x).2.1 ≤ K ∧
    ((hecLoop step dist tol K x).2.2 = true →
      dist (hecLoop step dist tol K x).1 (step (hecLoop step dist tol K x).1) ≤ tol ∧
      ∀ K', K ≤ K' → hecLoop step dist tol K' x = hecLoop step dist tol K x) := by
  induction K generalizing x with
  | zero => exact ⟨Nat.le_refl 0, fun h => Bool.noConfusion h⟩
  | succ k ih =>
    unfold hecLoop
    by_cases hd : dist x (step x) ≤ tol
    · simp only [hd, if_true]
      refine ⟨Nat.succ_pos k, fun _ => ⟨trivial, fun K' hK => ?_⟩⟩
      obtain ⟨k', rfl⟩ := Nat.exists_eq_succ_of_ne_zero (Nat.ne_of_gt (Nat.lt_of_lt_of_le (Nat.succ_pos k) hK))
      simp only [hd, if_true]
    · simp only [hd, if_false]
      obtain ⟨hle, hbr⟩ := ih (step x)
      refine ⟨Nat.succ_le_succ hle, fun h => ⟨(hbr h).1, fun K' hK => ?_⟩⟩
      obtain ⟨k', rfl⟩ := Nat.exists_eq_succ_of_ne_zero (Nat.ne_of_gt (Nat.lt_of_lt_of_le (Nat.succ_pos k) hK))
      simp only [hd, if_false, (hbr h).2 k' (Nat.le_of_succ_le_succ hK)]

theorem getElem?_addAt (v : List Rat) (i j : Nat) (d : Rat) :
    (addAt v i d)[j]? = v[j]?.map (· + if i = j then d else 0) := by
  rw [addAt, List.getElem?_modify, Option.map_eq_map]
  congr 1
  funext a
  split
  · rfl
  · exact (Rat.add_zero a).symm

/-- scatter-add, read through `rd` (an entry of a vector or of a matrix, `none` outside): if every step adds `c k` to what is read,
the fold adds the sum -/
theorem foldl_map_add {σ γ : Type} (rd : σ → Option Rat) (step : σ → γ → σ) (c : γ → Rat) (ks : List γ) (s : σ)
    (hstep : ∀ s, ∀ k ∈ ks, rd (step s k) = (rd s).map (· + c k)) :
    rd (ks.foldl step s) = (rd s).map (· + (ks.map c).sum) := by
  induction ks generalizing s with
  | nil => simp only [List.foldl_nil, List.map_nil, List.sum_nil, Rat.add_zero]; exact Option.map_id'.symm
  | cons k t ih =>
    rw [List.foldl_cons, ih _ fun s k' hk' => hstep s k' (List.mem_cons_of_mem _ hk'), hstep s k List.mem_cons_self, Option.map_map]
    congr 1
    funext a
    simp only [Function.comp, List.map_cons, List.sum_cons, add_assoc]

theorem sum_single (e : List Nat) (F : Nat → Rat) (j : Nat) (h : e.Nodup) :
    ((List.range e.length).map fun k => if e.getD k 0 = j then F k else 0).sum
      = if j ∈ e then F (e.idxOf j) else 0 := by
  induction e generalizing F with
  | nil => simp
  | cons a t ih =>
    have hnd := List.nodup_cons.mp h
    simp only [List.length_cons, List.range_succ_eq_map, List.map_cons, List.sum_cons, List.map_map,
      List.getD_cons_zero]
    have h2 : (List.map ((fun k => if (a :: t).getD k 0 = j then F k else 0) ∘ Nat.succ) (List.range t.length))
        = (List.range t.length).map fun k => if t.getD k 0 = j then (F ∘ Nat.succ) k else 0 := by
      apply List.map_congr_left; intro k _; simp [Function.comp]
    rw [h2, ih (F ∘ Nat.succ) hnd.2]
    by_cases haj : a = j
    · subst haj
      simp [hnd.1]
    · have hja : ¬ j = a := fun e => haj e.symm
      simp [haj, hja]

theorem prodAt_eq_prod (x : List Rat) (l : List Nat) : prodAt x l = (l.map (getR x)).prod := by
  simp [prodAt, List.prod_eq_foldl]

theorem prodAt_perm (x : List Rat) {l l' : List Nat} (h : l.Perm l') : prodAt x l = prodAt x l' := by
  rw [prodAt_eq_prod, prodAt_eq_prod]; exact (h.map _).prod_eq

theorem rot_perm_erase (e : List Nat) (j : Nat) : (rot e (e.idxOf j)).Perm (e.erase j) := by
  rw [List.erase_eq_eraseIdx_of_idxOf (by rfl), List.eraseIdx_eq_take_drop_succ]
  exact List.perm_append_comm

/-- contribution of one hyperedge to `apply(...)[j]`: the product over the other members if `j` is a member -/
def contrib (x : List Rat) (e : List Nat) (j : Nat) : Rat := if j ∈ e then prodAt x (e.erase j) else 0

theorem getElem?_applyEdge (x acc : List Rat) (e : List Nat) (j : Nat) (h : e.Nodup) :
    (applyEdge x acc e)[j]? = acc[j]?.map (· + contrib x e j) := by
  rw [applyEdge, foldl_map_add (·[j]?) _ (fun k => if e.getD k 0 = j then prodAt x (rot e k) else 0) _ _ fun a k _ => getElem?_addAt a _ j _,
    sum_single e (fun k => prodAt x (rot e k)) j h, contrib]
  by_cases hm : j ∈ e
  · rw [if_pos hm, if_pos hm, prodAt_perm x (rot_perm_erase e j)]
  · rw [if_neg hm, if_neg hm]

theorem apply_spec (n : Nat) (edges : List (List Nat)) (x : List Rat) (j : Nat) (hj : j < n)
    (h : ∀ e ∈ edges, e.Nodup) :
    (apply n edges x).getD j 0 = (edges.map fun e => contrib x e j).sum := by
  rw [List.getD_eq_getElem?_getD, apply, foldl_map_add (·[j]?) _ (fun e => contrib x e j) _ _ fun acc e he => getElem?_applyEdge x acc e j (h e he),
    List.getElem?_replicate, if_pos hj]
  exact Rat.zero_add _

/-- `W[a, b]` -/
def getD2 (W : List (List Rat)) (a b : Nat) : Rat := (W.getD a []).getD b 0

/-- `W[a][b]`, `none` outside the matrix -/
def entry? (W : List (List Rat)) (a b : Nat) : Option Rat := W[a]?.bind (·[b]?)

theorem entry?_bump (W : List (List Rat)) (a b a' b' : Nat) :
    entry? (bump W a b) a' b' = (entry? W a' b').map (· + if a = a' ∧ b = b' then 1 else 0) := by
  unfold entry? bump
  rw [List.getElem?_modify, Option.map_eq_map, Option.bind_map, Option.map_bind]
  congr 1
  funext row
  simp only [Function.comp]
  by_cases h : a = a'
  · rw [if_pos h, getElem?_addAt]; simp only [h, true_and]
  · rw [if_neg h]; simp only [h, false_and, if_false, Rat.add_zero]; exact Option.map_id'.symm

theorem getD2_eq (W : List (List Rat)) (a b : Nat) : getD2 W a b = (entry? W a b).getD 0 := by
  unfold getD2 entry?
  rw [List.getD_eq_getElem?_getD, List.getD_eq_getElem?_getD]
  cases W[a]? with
  | none => rfl
  | some row => rfl

theorem sum_indicator {γ : Type} [DecidableEq γ] (t : List γ) (b : γ) (ht : t.Nodup) :
    (t.map fun y => if y = b then (1 : Rat) else 0).sum = if b ∈ t then 1 else 0 := by
  rw [List.sum_map_eq_nsmul_single b _ fun _ hne _ => if_neg hne, if_pos rfl, ht.count]
  split <;> simp

theorem pairsOf_eq_pairsLt (e : List Nat) : pairsOf e = pairsLt e := by
  induction e with
  | nil => rfl
  | cons a t ih => rw [pairsOf, pairsLt, ih]

/-- the position pairs of one duplicate-free hyperedge hit `(a, b)` (in either order) once iff both are members: the two
indicators ask whether `(a, b)`, resp. `(b, a)`, is a position pair, and at most one of them is -/
theorem pairs_count (e : List Nat) (a b : Nat) (h : e.Nodup) :
    ((pairsOf e).map fun p => (if p.1 = a ∧ p.2 = b then (1 : Rat) else 0) + (if p.2 = a ∧ p.1 = b then 1 else 0)).sum
      = if a ∈ e ∧ b ∈ e ∧ a ≠ b then 1 else 0 := by
  have hP := pairsLt_nodup h
  have e1 : ∀ p : Nat × Nat, (p.1 = a ∧ p.2 = b) = (p = (a, b)) := fun p =>
    propext ⟨fun h => Prod.ext h.1 h.2, fun h => h ▸ ⟨rfl, rfl⟩⟩
  have e2 : ∀ p : Nat × Nat, (p.2 = a ∧ p.1 = b) = (p = (b, a)) := fun p =>
    propext ⟨fun h => Prod.ext h.2 h.1, fun h => h ▸ ⟨rfl, rfl⟩⟩
  simp only [e1, e2]
  rw [pairsOf_eq_pairsLt, List.sum_map_add, sum_indicator _ _ hP, sum_indicator _ _ hP]
  by_cases h1 : (a, b) ∈ pairsLt e
  · rw [if_pos h1, if_neg (pairsLt_asymm h h1),
      if_pos ⟨(mem_of_mem_pairsLt h1).1, (mem_of_mem_pairsLt h1).2, ne_of_mem_pairsLt h h1⟩, add_zero]
  · by_cases h2 : (b, a) ∈ pairsLt e
    · rw [if_neg h1, if_pos h2,
        if_pos ⟨(mem_of_mem_pairsLt h2).2, (mem_of_mem_pairsLt h2).1, (ne_of_mem_pairsLt h h2).symm⟩, zero_add]
    · rw [if_neg h1, if_neg h2, if_neg fun hc => (mem_pairsLt_of_ne hc.1 hc.2.1 hc.2.2).elim h1 h2, add_zero]

theorem cecW_spec (n : Nat) (edges : List (List Nat)) (a b : Nat) (ha : a < n) (hb : b < n)
    (h : ∀ e ∈ edges, e.Nodup) :
    getD2 (cecW n edges) a b = (edges.map fun e => if a ∈ e ∧ b ∈ e ∧ a ≠ b then (1 : Rat) else 0).sum := by
  have h0 : entry? (List.replicate n (List.replicate n (0 : Rat))) a b = some 0 := by
    rw [entry?, List.getElem?_replicate, if_pos ha, Option.bind_some, List.getElem?_replicate, if_pos hb]
  have hstep : ∀ (W : List (List Rat)) (p : Nat × Nat), entry? (bump (bump W p.1 p.2) p.2 p.1) a b = (entry? W a b).map
      (· + ((if p.1 = a ∧ p.2 = b then (1 : Rat) else 0) + (if p.2 = a ∧ p.1 = b then 1 else 0))) := fun W p => by
    rw [entry?_bump, entry?_bump, Option.map_map]
    congr 1
    funext x
    simp only [Function.comp, add_assoc]
  rw [getD2_eq, cecW, foldl_map_add (entry? · a b) _ _ _ _ fun W p _ => hstep W p, h0, Option.map_some, Option.getD_some, zero_add]
  induction edges with
  | nil => rfl
  | cons e t ih =>
    rw [List.flatMap_cons, List.map_append, List.sum_append, List.map_cons, List.sum_cons,
      pairs_count e a b (h e List.mem_cons_self), ih fun e' he' => h e' (List.mem_cons_of_mem _ he')]

theorem prodAt_map (x x' : List Rat) (σ : Nat → Nat) (l : List Nat) (h : ∀ i ∈ l, getR x' (σ i) = getR x i) :
    prodAt x' (l.map σ) = prodAt x l := by
  rw [prodAt_eq_prod, prodAt_eq_prod, List.map_map]
  congr 1
  apply List.map_congr_left
  intro i hi
  exact h i hi

theorem contrib_map (x x' : List Rat) (σ : Nat → Nat) (hσ : Function.Injective σ) (e : List Nat) (j : Nat)
    (h : ∀ i ∈ e, getR x' (σ i) = getR x i) : contrib x' (e.map σ) (σ j) = contrib x e j := by
  simp only [contrib, List.mem_map, hσ.eq_iff, exists_eq_right]
  by_cases hj : j ∈ e
  · simp only [hj, if_true]
    rw [← List.map_erase hσ, prodAt_map x x' σ _ (fun i hi => h i (List.mem_of_mem_erase hi))]
  · simp [hj]

theorem apply_relabel (n : Nat) (edges : List (List Nat)) (x x' : List Rat) (σ : Nat → Nat) (hσ : Function.Injective σ)
    (hnd : ∀ e ∈ edges, e.Nodup) (hx : ∀ e ∈ edges, ∀ i ∈ e, getR x' (σ i) = getR x i)
    (j : Nat) (hj : j < n) (hσj : σ j < n) :
    (apply n (edges.map (List.map σ)) x').getD (σ j) 0 = (apply n edges x).getD j 0 := by
  rw [apply_spec n edges x j hj hnd, apply_spec n _ x' (σ j) hσj (by
    intro e he
    obtain ⟨e0, he0, rfl⟩ := List.mem_map.mp he
    exact (hnd e0 he0).map hσ), List.map_map]
  congr 1
  apply List.map_congr_left
  intro e he
  exact contrib_map x x' σ hσ e j (hx e he)

theorem cecW_relabel (n : Nat) (edges : List (List Nat)) (σ : Nat → Nat) (hσ : Function.Injective σ)
    (hnd : ∀ e ∈ edges, e.Nodup) (a b : Nat) (ha : a < n) (hb : b < n) (hσa : σ a < n) (hσb : σ b < n) :
    getD2 (cecW n (edges.map (List.map σ))) (σ a) (σ b) = getD2 (cecW n edges) a b := by
  rw [cecW_spec n edges a b ha hb hnd, cecW_spec n _ (σ a) (σ b) hσa hσb (by
    intro e he
    obtain ⟨e0, he0, rfl⟩ := List.mem_map.mp he
    exact (hnd e0 he0).map hσ), List.map_map]
  congr 1
  apply List.map_congr_left
  intro e _
  simp only [Function.comp, List.mem_map, hσ.eq_iff, exists_eq_right, ne_eq]

open Matrix in
theorem subhg_exp_diag {n : ℕ} (A U : Matrix (Fin n) (Fin n) ℝ) (ev : Fin n → ℝ)
    (hU : Uᵀ * U = 1) (hA : A = U * Matrix.diagonal ev * Uᵀ) (i : Fin n) :
    (NormedSpace.exp A) i i = ∑ j, (U i j) ^ 2 * Real.exp (ev j) := by
  have hU' : U * Uᵀ = 1 := mul_eq_one_comm.mp hU
  have hinv : U⁻¹ = Uᵀ := inv_eq_right_inv hU'
  have hunit : IsUnit U := ⟨⟨U, Uᵀ, hU', hU⟩, rfl⟩
  have h1 : NormedSpace.exp A = U * Matrix.diagonal (fun j => Real.exp (ev j)) * Uᵀ := by
    rw [hA, ← hinv, Matrix.exp_conj U _ hunit, Matrix.exp_diagonal]
    have : NormedSpace.exp ev = fun j => Real.exp (ev j) := by
      funext j; rw [Pi.coe_exp, Real.exp_eq_exp_ℝ]
    rw [this]
  rw [h1, Matrix.mul_apply]
  apply Finset.sum_congr rfl
  intro j _
  rw [Matrix.mul_diagonal, Matrix.transpose_apply]
  ring

open Matrix in
theorem subhg_decomp_of_eigen {n : ℕ} (A U : Matrix (Fin n) (Fin n) ℝ) (ev : Fin n → ℝ)
    (hU : Uᵀ * U = 1) (hE : A * U = U * Matrix.diagonal ev) : A = U * Matrix.diagonal ev * Uᵀ := by
  have hU' : U * Uᵀ = 1 := mul_eq_one_comm.mp hU
  calc A = A * (U * Uᵀ) := by rw [hU', mul_one]
    _ = (A * U) * Uᵀ := by rw [Matrix.mul_assoc]
    _ = U * Matrix.diagonal ev * Uᵀ := by rw [hE]

end C20
