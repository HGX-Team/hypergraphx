import Hgxv.Model.C16Trunc
import Mathlib.Algebra.Order.Field.Basic
import Mathlib.Tactic.Ring
/-! # C16 — the inverse-cdf scheme of `sample_truncated_poisson`

For a monotone cdf `ppfFrom` is its lower adjoint; the unclipped `p = u + (1 - u) * e` is affine in `u`.  Mathlib: ordered fields. -/
namespace C16

section
variable {α : Type} [LE α] [DecidableLE α]

theorem ppfFrom_spec (cdf : Nat → α) (p : α) (fuel k0 k : Nat) (h : ppfFrom cdf p fuel k0 = some k) :
    k0 ≤ k ∧ k < k0 + fuel ∧ p ≤ cdf k ∧ ∀ j, k0 ≤ j → j < k → ¬ p ≤ cdf j := by
  induction fuel generalizing k0 with
  | zero => simp [ppfFrom] at h
  | succ n ih =>
    unfold ppfFrom at h
    by_cases hp : p ≤ cdf k0
    · rw [if_pos hp] at h
      cases h
      exact ⟨Nat.le_refl _, by omega, hp, fun j h1 h2 => by omega⟩
    · rw [if_neg hp] at h
      obtain ⟨a, b, c, d⟩ := ih (k0 + 1) h
      refine ⟨by omega, by omega, c, ?_⟩
      intro j h1 h2
      by_cases hj : j = k0
      · rw [hj]; exact hp
      · exact d j (by omega) h2

theorem ppfFrom_complete (cdf : Nat → α) (p : α) (fuel k0 j : Nat) (h1 : k0 ≤ j) (h2 : j < k0 + fuel) (hp : p ≤ cdf j) :
    ∃ k, ppfFrom cdf p fuel k0 = some k := by
  induction fuel generalizing k0 with
  | zero => omega
  | succ n ih =>
    unfold ppfFrom
    by_cases hp0 : p ≤ cdf k0
    · exact ⟨k0, by rw [if_pos hp0]⟩
    · rw [if_neg hp0]
      have : j ≠ k0 := fun hj => hp0 (hj ▸ hp)
      exact ih (k0 + 1) (by omega) (by omega)

end

section
variable {α : Type} [LinearOrder α]

theorem ppfFrom_le_iff {cdf : Nat → α} (hmono : ∀ i j, i ≤ j → cdf i ≤ cdf j) (p : α) {fuel k : Nat} (hk : k < fuel) :
    (∃ q, ppfFrom cdf p fuel 0 = some q ∧ q ≤ k) ↔ p ≤ cdf k := by
  constructor
  · rintro ⟨q, hq, hqk⟩
    exact le_trans (ppfFrom_spec cdf p fuel 0 q hq).2.2.1 (hmono q k hqk)
  · intro hp
    obtain ⟨q, hq⟩ := ppfFrom_complete cdf p fuel 0 k (Nat.zero_le _) (by omega) hp
    exact ⟨q, hq, Nat.le_of_not_lt fun hlt => (ppfFrom_spec cdf p fuel 0 q hq).2.2.2 k (Nat.zero_le _) hlt hp⟩

end

section
variable {α : Type} [Field α]

theorem unclipped_eq (u e : α) : u + (1 - u) * e = u * (1 - e) + e := by ring

variable [LinearOrder α] [IsStrictOrderedRing α]

theorem unclipped_le_iff (u e c : α) (he : e < 1) : u + (1 - u) * e ≤ c ↔ u ≤ (c - e) / (1 - e) := by
  rw [unclipped_eq, le_div_iff₀ (sub_pos.mpr he), le_sub_iff_add_le]

theorem unclipped_lt_one {u e : α} (hu : u < 1) (he : e < 1) : u + (1 - u) * e < 1 := by
  have h := add_lt_add_left (mul_lt_mul_of_pos_right hu (sub_pos.mpr he)) e
  rwa [one_mul, sub_add_cancel, ← unclipped_eq] at h

end
end C16
