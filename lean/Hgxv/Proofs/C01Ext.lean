import Hgxv.Model.C01Ext
import Hgxv.Proofs.C01Ref
import Hgxv.Proofs.C03Ext
/-! C01: lemmas for the constructor as one call, the hashing view, the mapping and the raw tables (`Model/C01Ext.lean`).  Core Lean. -/
namespace C01
open AL

theorem ctorNodes_inv (nm : List (Node × Meta)) (s : Store) (h : Inv s) : Inv (ctorNodes s nm) := by
  induction nm generalizing s with
  | nil => exact h
  | cons p t ih => exact ih _ (addNode_inv s p.1 (some p.2) h)

theorem abs_ctorNodes (nm : List (Node × Meta)) (s : Store) (h : Inv s) :
    abs (ctorNodes s nm) = Spec.ctorNodes (abs s) nm := by
  induction nm generalizing s with
  | nil => rfl
  | cons p t ih =>
    show abs (ctorNodes (addNode s p.1 (some p.2)) t) = Spec.ctorNodes (Spec.addNode (abs s) p.1 (some p.2)) t
    rw [ih _ (addNode_inv s p.1 (some p.2) h), abs_addNode s p.1 (some p.2) h]

theorem construct_sim (a : CtorArgs) (ha : a.WF) :
    (construct a).map abs = Spec.construct a ∧ ∀ s, construct a = some s → Inv s := by
  have h0 : Inv (ctorNodes (Store.new a.weighted a.hm) a.nodeMeta) := ctorNodes_inv _ _ (inv_new _ _)
  have habs := abs_ctorNodes a.nodeMeta _ (inv_new a.weighted a.hm)
  rw [abs_new] at habs
  have hsim := sim_addEdges _ a.edges a.weights a.emetas h0 ha
  unfold construct Spec.construct
  simp only []
  by_cases he : a.edges.isEmpty = true
  · simp only [he, if_true, Option.map_some, habs, Option.some.injEq, true_and]
    intro s hs; exact hs ▸ h0
  · simp only [he, Bool.false_eq_true, if_false]
    by_cases hb : ctorLenBad a = true
    · simp [hb]
    · simp only [hb, Bool.false_eq_true, if_false]
      obtain ⟨h1, h2, h3⟩ := hsim
      rw [← habs, ← Prod.eta (Spec.addEdges _ _ _ _), ← h1, ← h2]
      generalize addEdges (ctorNodes (Store.new a.weighted a.hm) a.nodeMeta) a.edges a.weights a.emetas = r at h3
      obtain ⟨s', o⟩ := r
      cases o with
      | ok => exact ⟨rfl, fun s hs => Option.some.inj hs ▸ h3⟩
      | rej => exact ⟨rfl, fun s hs => nomatch hs⟩

theorem run_append (st : State) (a b : List Cmd) : run st (a ++ b) = run (run st a) b := by
  simp [run, List.foldl_append]

theorem run_nodes1 (nm : List (Node × Meta)) (s : Store) :
    run [s] (nm.map (fun p => Cmd.on 0 (.addNode p.1 (some p.2)))) = [ctorNodes s nm] := by
  induction nm generalizing s with
  | nil => rfl
  | cons p t ih =>
    show run (step [s] (Cmd.on 0 (.addNode p.1 (some p.2)))).1 _ = _
    have : (step [s] (Cmd.on 0 (.addNode p.1 (some p.2)))).1 = [addNode s p.1 (some p.2)] := rfl
    rw [this, ih]; rfl

/-- an accepted constructor call IS the run of `ctorCmds` on one fresh slot -/
theorem construct_run (a : CtorArgs) (s : Store) (h : construct a = some s) :
    run (init 1) (ctorCmds 0 a) = [s] := by
  unfold ctorCmds
  show run (step (init 1) (Cmd.new 0 a.weighted a.hm)).1 _ = _
  have h1 : (step (init 1) (Cmd.new 0 a.weighted a.hm)).1 = [Store.new a.weighted a.hm] := rfl
  rw [h1, run_append, run_nodes1]
  unfold construct at h
  simp only [] at h
  by_cases he : a.edges.isEmpty = true
  · simp only [he, if_true, Option.some.injEq] at h
    simp only [he, if_true]; rw [← h]; rfl
  · simp only [he, Bool.false_eq_true, if_false] at h ⊢
    by_cases hb : ctorLenBad a = true
    · simp [hb] at h
    · simp only [hb, Bool.false_eq_true, if_false] at h
      show [(addEdges (ctorNodes (Store.new a.weighted a.hm) a.nodeMeta) a.edges a.weights a.emetas).1] = [s]
      generalize addEdges (ctorNodes (Store.new a.weighted a.hm) a.nodeMeta) a.edges a.weights a.emetas = r at h
      obtain ⟨s', o⟩ := r
      cases o <;> simp_all

theorem ctorCmds_wf (a : CtorArgs) (ha : a.WF) : ∀ c ∈ ctorCmds 0 a, c.WF := by
  intro c hc
  unfold ctorCmds at hc
  simp only [List.mem_cons, List.mem_append, List.mem_map] at hc
  rcases hc with rfl | ⟨p, _, rfl⟩ | hc
  · trivial
  · trivial
  · by_cases he : a.edges.isEmpty = true
    · simp [he] at hc
    · simp only [he, Bool.false_eq_true, if_false, List.mem_singleton] at hc
      subst hc; exact ha

theorem st_ltList : C03.StrictTotal C03.ltList :=
  ⟨C03.ltList_irrefl, C03.ltList_trans, C03.ltList_tri⟩

theorem sortBy_mapg {α β κ : Type} (lt : κ → κ → Bool) (key : α → κ) (key' : β → κ) (g : α → β) (hk : ∀ x, key' (g x) = key x) (l : List α) :
    (C03.sortBy key lt l).map g = C03.sortBy key' lt (l.map g) := by
  rw [C03.sortBy_eq, C03.sortBy_eq]; exact (BSort.sort_map _ _ g (fun a b => by rw [hk, hk]) l).symm

theorem lookupAll_map (t : List (Node × Meta)) (L : List (Node × Meta)) (h : ∀ p ∈ L, get? t p.1 = some p.2) :
    lookupAll t (L.map (·.1)) = some L := by
  induction L with
  | nil => rfl
  | cons p r ih =>
    simp only [List.map_cons, lookupAll, h p List.mem_cons_self,
      ih (fun q hq => h q (List.mem_cons_of_mem _ hq)), Option.map_some]

theorem hashEdge_eq (s : Store) (h : Inv s) (p : Edge × Nat) (hp : p ∈ s.edgeList) :
    hashEdge s p = (p.1, wm s p.2) := by
  have hid := h.id_of_mem hp
  have hc := (h.key_canon _ _ hid).2
  have hr := h.rev_of_edge _ _ hid
  have hw := h.w_dom p.2
  rw [hr] at hw
  obtain ⟨w, hw'⟩ := Option.isSome_iff_exists.mp hw
  simp [hashEdge, wm, hc, hw']

theorem hashView_abs (s : Store) (h : Inv s) : hashView s = some (Spec.hashView (abs s)) := by
  have hn := C03.look_sortBy (fun (p : Node × Meta) => p.1) C03.ltNat (lookupAll_map s.nmeta) s.nmeta fun p hp =>
    get?_of_mem _ _ _ h.nmeta_nodup hp
  have he : (C03.sortBy (fun (p : Edge × Nat) => p.1) C03.ltList s.edgeList).map (hashEdge s)
      = C03.sortBy (fun (r : Edge × (Int × Meta)) => r.1) C03.ltList (abs s).edges := by
    rw [abs_edges, ← sortBy_mapg C03.ltList (fun (p : Edge × Nat) => p.1) (fun (r : Edge × (Int × Meta)) => r.1)
      (fun p => (p.1, wm s p.2)) (fun _ => rfl)]
    exact List.map_congr_left fun p hp => hashEdge_eq s h p ((C03.sortBy_perm _ _ s.edgeList).mem_iff.mp hp)
  unfold hashView
  rw [← h.nm_keys, show keys s.nmeta = s.nmeta.map (·.1) from rfl, hn]
  simp only [Spec.hashView, he]
  rfl

end C01
