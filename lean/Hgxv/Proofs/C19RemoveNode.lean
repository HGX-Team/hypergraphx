import Hgxv.Proofs.C19Filter
/-! C19 part A, `keep_edges=True` (shrink-merge): a loop iteration of `remove_node` is followed at a single key
(`shrinkOne_get?_out/_in`); from that one removal in closed form (`removeNode_keep_get?`, `_nodes`, `_keys`, `_wf`), then
well-formedness after the removal of all listed nodes, then `filterHg?_eq`: no call of the filter is rejected.  Where the
records of the result come from: `C19RemoveList`.  At the end `lawful_H/T/D`: the three `KeyOps` instances satisfy `Lawful`.
Core Lean. -/
namespace C19
open AL
set_option linter.unusedSectionVars false

section removeNode
variable {κ ω : Type} [DecidableEq κ] [Add ω] (ops : KeyOps κ)

theorem touchNodes_noop (nodes : List (Node × Md)) (ns : List Node) (h : ∀ n ∈ ns, n ∈ keys nodes) :
    touchNodes nodes ns = nodes := by
  unfold touchNodes
  induction ns with
  | nil => rfl
  | cons n ns ih =>
    simp only [List.foldl_cons]
    have hn : touchNode nodes n = nodes := by
      unfold touchNode
      rw [if_pos ((isSome_get?_iff nodes n).mpr (h n List.mem_cons_self))]
    rw [hn]; exact ih (fun m hm => h m (List.mem_cons_of_mem _ hm))

@[simp] theorem addEdge_weighted (c : Content κ ω) (k : κ) (w : ω) (md : Md) :
    (addEdge ops c k w md).weighted = c.weighted := by
  unfold addEdge; split <;> rfl

theorem addEdge_nodes (c : Content κ ω) (k : κ) (w : ω) (md : Md) (h : ∀ n ∈ ops.nodesOf k, n ∈ keys c.nodes) :
    (addEdge ops c k w md).nodes = c.nodes := by
  unfold addEdge; split
  · rfl
  · simp only [addEdgeNew]; exact touchNodes_noop _ _ h

theorem addEdge_get? (c : Content κ ω) (k : κ) (w : ω) (md : Md) (k2 : κ) :
    get? (addEdge ops c k w md).edges k2 =
      if k = k2 then mergeInto c.weighted (get? c.edges k) (k, (w, md)) else get? c.edges k2 := by
  unfold addEdge
  cases h : get? c.edges k with
  | some v =>
    simp only [addEdgeOld, get?_set, mergeInto]
  | none =>
    simp only [addEdgeNew, get?_append, mergeInto]
    by_cases hk : k = k2
    · subst hk; simp [h, get?]
    · simp only [hk, if_false]
      cases h2 : get? c.edges k2 <;> simp [get?, hk]

theorem addEdge_keys_nodup (c : Content κ ω) (k : κ) (w : ω) (md : Md) (hnd : (keys c.edges).Nodup) :
    (keys (addEdge ops c k w md).edges).Nodup := by
  unfold addEdge
  cases h : get? c.edges k with
  | some v => exact keys_set_nodup _ _ _ hnd
  | none =>
    simp only [addEdgeNew, keys, List.map_append, List.map_cons, List.map_nil]
    rw [List.nodup_append]
    refine ⟨hnd, by simp, ?_⟩
    intro x hx y hy
    simp only [List.mem_singleton] at hy
    subst hy; intro hxy; subst hxy
    exact (get?_eq_none_iff c.edges x).mp h hx

/-- one loop iteration, seen at a key other than the record's own -/
theorem shrinkOne_get?_out (n : Node) (c : Content κ ω) (e : κ × (ω × Md)) (k2 : κ) (hk : k2 ≠ e.1) :
    get? (shrinkOne ops n c e).edges k2 =
      if ops.shrink e.1 n = some k2 then mergeInto c.weighted (get? c.edges k2) e else get? c.edges k2 := by
  unfold shrinkOne
  cases hs : ops.shrink e.1 n with
  | none => simp [removeEdge, get?_erase_ne _ _ _ (Ne.symm hk)]
  | some k' =>
    simp only [addEdge_get?, removeEdge]
    by_cases h : k' = k2
    · subst h
      simp [get?_erase_ne _ _ _ (Ne.symm hk), mergeInto]
    · have : ¬ (some k' = some k2) := fun hh => h (Option.some.inj hh)
      simp [h, this, get?_erase_ne _ _ _ (Ne.symm hk)]

@[simp] theorem shrinkOne_weighted (n : Node) (c : Content κ ω) (e : κ × (ω × Md)) :
    (shrinkOne ops n c e).weighted = c.weighted := by
  unfold shrinkOne; split <;> simp [removeEdge]

theorem shrinkOne_keys_nodup (n : Node) (c : Content κ ω) (e : κ × (ω × Md)) (hnd : (keys c.edges).Nodup) :
    (keys (shrinkOne ops n c e).edges).Nodup := by
  unfold shrinkOne; split
  · exact keys_erase_nodup _ _ hnd
  · exact addEdge_keys_nodup ops _ _ _ _ (keys_erase_nodup _ _ hnd)

theorem shrinkOne_nodes (n : Node) (c : Content κ ω) (e : κ × (ω × Md))
    (h : ∀ k', ops.shrink e.1 n = some k' → ∀ m ∈ ops.nodesOf k', m ∈ keys c.nodes) :
    (shrinkOne ops n c e).nodes = c.nodes := by
  unfold shrinkOne
  cases hs : ops.shrink e.1 n with
  | none => rfl
  | some k' => exact addEdge_nodes ops _ _ _ _ (h k' hs)

/-- one loop iteration, seen at a key that contains `n` -/
theorem shrinkOne_get?_in (hlaw : Lawful ops) (n : Node) (c : Content κ ω) (e : κ × (ω × Md)) (k2 : κ)
    (hk2 : n ∈ ops.nodesOf k2) (hnd : (keys c.edges).Nodup) :
    get? (shrinkOne ops n c e).edges k2 = if e.1 = k2 then none else get? c.edges k2 := by
  unfold shrinkOne
  have herase : get? (erase c.edges e.1) k2 = if e.1 = k2 then none else get? c.edges k2 := by
    by_cases h : e.1 = k2
    · subst h; simp [get?_erase_self _ _ hnd]
    · simp [h, get?_erase_ne _ _ _ h]
  cases hs : ops.shrink e.1 n with
  | none => simpa [removeEdge] using herase
  | some k' =>
    have hne : k' ≠ k2 := by
      intro h; subst h
      exact ((hlaw _ _ _ hs n).mp hk2).2 rfl
    simp only [addEdge_get?, removeEdge, hne, if_false]
    exact herase

theorem foldl_shrinkOne_get?_out (n : Node) (l : List (κ × (ω × Md))) (c : Content κ ω) (k2 : κ)
    (hl : ∀ e ∈ l, k2 ≠ e.1) :
    get? (l.foldl (shrinkOne ops n) c).edges k2 =
      (l.filter (fun e => decide (ops.shrink e.1 n = some k2))).foldl (mergeInto c.weighted) (get? c.edges k2) := by
  induction l generalizing c with
  | nil => simp
  | cons e l ih =>
    simp only [List.foldl_cons]
    rw [ih _ (fun e' he' => hl e' (List.mem_cons_of_mem _ he')), shrinkOne_weighted,
      shrinkOne_get?_out ops n c e k2 (hl e List.mem_cons_self)]
    by_cases h : ops.shrink e.1 n = some k2 <;> simp [h]

theorem foldl_shrinkOne_get?_in (hlaw : Lawful ops) (n : Node) (l : List (κ × (ω × Md))) (c : Content κ ω) (k2 : κ)
    (hk2 : n ∈ ops.nodesOf k2) (hnd : (keys c.edges).Nodup) :
    get? (l.foldl (shrinkOne ops n) c).edges k2 = if k2 ∈ l.map (·.1) then none else get? c.edges k2 := by
  induction l generalizing c with
  | nil => simp
  | cons e l ih =>
    simp only [List.foldl_cons]
    rw [ih _ (shrinkOne_keys_nodup ops n c e hnd), shrinkOne_get?_in ops hlaw n c e k2 hk2 hnd]
    by_cases h1 : e.1 = k2
    · subst h1; simp
    · have h1' : ¬ k2 = e.1 := fun h => h1 h.symm
      simp only [h1, if_false, List.map_cons, List.mem_cons, h1', false_or]

theorem foldl_shrinkOne_keys_nodup (n : Node) (l : List (κ × (ω × Md))) (c : Content κ ω)
    (hnd : (keys c.edges).Nodup) : (keys (l.foldl (shrinkOne ops n) c).edges).Nodup := by
  induction l generalizing c with
  | nil => exact hnd
  | cons e l ih => exact ih _ (shrinkOne_keys_nodup ops n c e hnd)

theorem foldl_shrinkOne_weighted (n : Node) (l : List (κ × (ω × Md))) (c : Content κ ω) :
    (l.foldl (shrinkOne ops n) c).weighted = c.weighted := by
  induction l generalizing c with
  | nil => rfl
  | cons e l ih => simp only [List.foldl_cons]; rw [ih, shrinkOne_weighted]

theorem foldl_shrinkOne_nodes (n : Node) (l : List (κ × (ω × Md))) (c : Content κ ω)
    (h : ∀ e ∈ l, ∀ k', ops.shrink e.1 n = some k' → ∀ m ∈ ops.nodesOf k', m ∈ keys c.nodes) :
    (l.foldl (shrinkOne ops n) c).nodes = c.nodes := by
  induction l generalizing c with
  | nil => rfl
  | cons e l ih =>
    simp only [List.foldl_cons]
    have h1 := shrinkOne_nodes ops n c e (h e List.mem_cons_self)
    rw [ih _ (fun e' he' k' hk' m hm => by rw [h1]; exact h e' (List.mem_cons_of_mem _ he') k' hk' m hm), h1]

theorem erase_append_comm {α β : Type} [DecidableEq α] (l : List (α × β)) (k k' : α) (v : β) (h : k ≠ k') :
    AL.erase (l ++ [(k', v)]) k = AL.erase l k ++ [(k', v)] := by
  induction l with
  | nil => simp [AL.erase, Ne.symm h]
  | cons hd t ih => simp only [List.cons_append, AL.erase]; split <;> simp [ih]

theorem removeEdge_addEdge_comm (c : Content κ ω) (k k' : κ) (w : ω) (md : Md) (h : k ≠ k') :
    removeEdge (addEdge ops c k' w md) k = addEdge ops (removeEdge c k) k' w md := by
  unfold addEdge
  have hg : get? (removeEdge c k).edges k' = get? c.edges k' := by
    simp only [removeEdge]; exact get?_erase_ne _ _ _ h
  rw [hg]
  cases get? c.edges k' with
  | some v =>
    simp only [addEdgeOld, removeEdge]
    rw [erase_set_comm _ _ _ _ h]
    rfl
  | none =>
    simp only [addEdgeNew, removeEdge]
    rw [erase_append_comm _ _ _ _ h]

theorem removeEdge_removeEdge_comm (c : Content κ ω) (a b : κ) :
    removeEdge (removeEdge c a) b = removeEdge (removeEdge c b) a := by
  simp only [removeEdge, erase_erase_comm]

theorem shrinkOne_eq (n : Node) (c : Content κ ω) (e : κ × (ω × Md))
    (h : ∀ k', ops.shrink e.1 n = some k' → e.1 ≠ k') :
    shrinkOne ops n c e = removeEdge (shrinkAdd ops n c e) e.1 := by
  unfold shrinkOne shrinkAdd
  cases hs : ops.shrink e.1 n with
  | none => rfl
  | some k' => exact (removeEdge_addEdge_comm ops c e.1 k' _ _ (h k' hs)).symm

theorem removeEdge_shrinkOne_comm (n : Node) (c : Content κ ω) (e : κ × (ω × Md)) (k : κ)
    (h : ∀ k', ops.shrink e.1 n = some k' → k ≠ k') :
    removeEdge (shrinkOne ops n c e) k = shrinkOne ops n (removeEdge c k) e := by
  unfold shrinkOne
  cases hs : ops.shrink e.1 n with
  | none => exact removeEdge_removeEdge_comm c e.1 k
  | some k' =>
    rw [removeEdge_addEdge_comm ops _ k k' _ _ (h k' hs), removeEdge_removeEdge_comm c e.1 k]

theorem foldl_shrinkOne_removeEdge_comm (n : Node) (l : List (κ × (ω × Md))) (c : Content κ ω) (k : κ)
    (h : ∀ e ∈ l, ∀ k', ops.shrink e.1 n = some k' → k ≠ k') :
    l.foldl (shrinkOne ops n) (removeEdge c k) = removeEdge (l.foldl (shrinkOne ops n) c) k := by
  induction l generalizing c with
  | nil => rfl
  | cons e l ih =>
    simp only [List.foldl_cons]
    rw [← removeEdge_shrinkOne_comm ops n c e k (h e List.mem_cons_self),
      ih _ (fun e' he' => h e' (List.mem_cons_of_mem _ he'))]

theorem foldl_removeEdge_comm (l : List (κ × (ω × Md))) (c : Content κ ω) (k : κ) :
    l.foldl (fun c e => removeEdge c e.1) (removeEdge c k) = removeEdge (l.foldl (fun c e => removeEdge c e.1) c) k := by
  induction l generalizing c with
  | nil => rfl
  | cons e l ih =>
    simp only [List.foldl_cons]
    rw [removeEdge_removeEdge_comm c k e.1, ih]

theorem foldl_shrinkOne_eq_batch (n : Node) (l : List (κ × (ω × Md))) (c : Content κ ω)
    (h : ∀ e ∈ l, ∀ e' ∈ l, ∀ k', ops.shrink e'.1 n = some k' → e.1 ≠ k') :
    l.foldl (shrinkOne ops n) c = l.foldl (fun c e => removeEdge c e.1) (l.foldl (shrinkAdd ops n) c) := by
  induction l generalizing c with
  | nil => rfl
  | cons e l ih =>
    simp only [List.foldl_cons]
    rw [shrinkOne_eq ops n c e (fun k' hk' => h e List.mem_cons_self e List.mem_cons_self k' hk'),
      foldl_shrinkOne_removeEdge_comm ops n l _ e.1
        (fun e' he' k' hk' => h e List.mem_cons_self e' (List.mem_cons_of_mem _ he') k' hk'),
      ih _ (fun a ha b hb => h a (List.mem_cons_of_mem _ ha) b (List.mem_cons_of_mem _ hb)),
      foldl_removeEdge_comm]

theorem incident_nodup (c : Content κ ω) (n : Node) (h : c.edges.Nodup) : (incident ops c n).Nodup := by
  unfold incident
  rw [List.nodup_append]
  refine ⟨h.sublist List.filter_sublist, h.sublist List.filter_sublist, ?_⟩
  intro a ha b hb hab
  subst hab
  simp only [List.mem_filter, Bool.and_eq_true, Bool.not_eq_true'] at ha hb
  rw [ha.2.1] at hb
  exact Bool.noConfusion hb.2.1

theorem incident_rec (c : Content κ ω) (n : Node) (hnd : (keys c.edges).Nodup) :
    ∀ e ∈ incident ops c n, get? c.edges e.1 = some e.2 :=
  fun e he => get?_of_mem _ _ _ hnd ((mem_incident ops c n e).mp he).1

theorem incident_keys_nodup (c : Content κ ω) (n : Node) (hnd : (keys c.edges).Nodup) :
    ((incident ops c n).map (·.1)).Nodup := by
  have hinc : (incident ops c n).Pairwise (· ≠ ·) := incident_nodup ops c n (nodup_of_keys_nodup hnd)
  show ((incident ops c n).map (·.1)).Pairwise (· ≠ ·)
  rw [List.pairwise_map]
  refine hinc.imp_of_mem ?_
  intro a b ha hb hne hab
  exact hne (entry_unique _ hnd _ _ ((mem_incident ops c n a).mp ha).1 ((mem_incident ops c n b).mp hb).1 hab)

theorem keepLoop_eq (hlaw : Lawful ops) (c : Content κ ω) (n : Node) :
    keepLoop ops n c (incident ops c n) = (incident ops c n).foldl (shrinkOne ops n) c := by
  unfold keepLoop
  split
  · symm
    apply foldl_shrinkOne_eq_batch
    intro e he e' _ k' hk' heq
    have hn := ((mem_incident ops c n e).mp he).2
    rw [heq] at hn
    exact ((hlaw _ _ _ hk' n).mp hn).2 rfl
  · rfl

theorem removeNode_keep_eq (hlaw : Lawful ops) (c : Content κ ω) (n : Node) :
    removeNode ops true c n = dropNode ((incident ops c n).foldl (shrinkOne ops n) c) n := by
  simp only [removeNode, if_true, keepLoop_eq ops hlaw]

theorem removeNode_keep_edges (hlaw : Lawful ops) (c : Content κ ω) (n : Node) :
    (removeNode ops true c n).edges = ((incident ops c n).foldl (shrinkOne ops n) c).edges := by
  rw [removeNode_keep_eq ops hlaw]; rfl

theorem removeNode_keep_get? (hlaw : Lawful ops) (c : Content κ ω) (hwf : WF ops c) (n : Node) (k2 : κ) :
    get? (removeNode ops true c n).edges k2 =
      if n ∈ ops.nodesOf k2 then none
      else ((incident ops c n).filter (fun e => decide (ops.shrink e.1 n = some k2))).foldl
            (mergeInto c.weighted) (get? c.edges k2) := by
  rw [removeNode_keep_edges ops hlaw]
  by_cases hk2 : n ∈ ops.nodesOf k2
  · rw [if_pos hk2, foldl_shrinkOne_get?_in ops hlaw n _ c k2 hk2 hwf.keysNodup]
    split
    · rfl
    · rename_i hnot
      cases h : get? c.edges k2 with
      | none => rfl
      | some v =>
        exfalso; apply hnot
        exact List.mem_map.mpr ⟨(k2, v), (mem_incident ops c n _).mpr ⟨mem_of_get? _ _ _ h, hk2⟩, rfl⟩
  · rw [if_neg hk2]
    apply foldl_shrinkOne_get?_out
    intro e he h
    exact hk2 (h ▸ ((mem_incident ops c n e).mp he).2)

theorem removeNode_keep_nodes (hlaw : Lawful ops) (c : Content κ ω) (hwf : WF ops c) (n : Node) :
    (removeNode ops true c n).nodes = erase c.nodes n := by
  rw [removeNode_keep_eq ops hlaw]
  simp only [dropNode]
  rw [foldl_shrinkOne_nodes]
  intro e he k' hk' m hm
  have he' := (mem_incident ops c n e).mp he
  exact hwf.closed e he'.1 m ((hlaw _ _ _ hk' m).mp hm).1

theorem removeNode_keep_weighted (hlaw : Lawful ops) (c : Content κ ω) (n : Node) :
    (removeNode ops true c n).weighted = c.weighted := by
  rw [removeNode_keep_eq ops hlaw]
  exact foldl_shrinkOne_weighted ops n _ c

theorem mergeInto_isSome (wt : Bool) (acc : Option (ω × Md)) (e : κ × (ω × Md)) : (mergeInto wt acc e).isSome := by
  unfold mergeInto; split <;> rfl

theorem foldl_mergeInto_isSome (wt : Bool) (hits : List (κ × (ω × Md))) (acc : Option (ω × Md)) :
    (hits.foldl (mergeInto wt) acc).isSome ↔ acc.isSome ∨ hits ≠ [] := by
  induction hits generalizing acc with
  | nil => simp
  | cons e hits ih =>
    simp only [List.foldl_cons, ih, mergeInto_isSome, true_or, ne_eq, reduceCtorEq, not_false_eq_true, or_true]

theorem stepKey_of_mem {n : Node} {k : κ} (h : n ∈ ops.nodesOf k) : stepKey ops n k = ops.shrink k n := by
  unfold stepKey; rw [if_pos (List.contains_iff_mem.mpr h)]

theorem stepKey_of_not_mem {n : Node} {k : κ} (h : n ∉ ops.nodesOf k) : stepKey ops n k = some k := by
  unfold stepKey; rw [if_neg fun hc => h (List.contains_iff_mem.mp hc)]

theorem not_mem_of_stepKey (hlaw : Lawful ops) (n : Node) (k k2 : κ) (h : stepKey ops n k = some k2) :
    n ∉ ops.nodesOf k2 := by
  unfold stepKey at h
  split at h
  · intro hn; exact ((hlaw _ _ _ h n).mp hn).2 rfl
  · rename_i hc
    cases h
    simpa using hc

theorem stepKey_nodes (hlaw : Lawful ops) (n : Node) (k k2 : κ) (h : stepKey ops n k = some k2) :
    ∀ m ∈ ops.nodesOf k2, m ∈ ops.nodesOf k := by
  unfold stepKey at h
  split at h
  · intro m hm; exact ((hlaw _ _ _ h m).mp hm).1
  · cases h; exact fun m hm => hm

theorem shrinkAll_cons (n : Node) (R : List Node) (k : κ) :
    shrinkAll ops (n :: R) k = (stepKey ops n k).bind (shrinkAll ops R) := by
  unfold shrinkAll
  simp only [List.foldl_cons, Option.bind_some]
  cases stepKey ops n k with
  | some k1 => rfl
  | none =>
    induction R with
    | nil => rfl
    | cons m R ih => simpa using ih

theorem hit_step (c : Content κ ω) (n : Node) (k2 : κ) (e : κ × (ω × Md))
    (he : e ∈ (incident ops c n).filter (fun e => decide (ops.shrink e.1 n = some k2))) :
    e ∈ c.edges ∧ stepKey ops n e.1 = some k2 := by
  obtain ⟨hi, hs⟩ := List.mem_filter.mp he
  have he' := (mem_incident ops c n e).mp hi
  exact ⟨he'.1, (stepKey_of_mem ops he'.2).trans (of_decide_eq_true hs)⟩

theorem removeNode_keep_keys (hlaw : Lawful ops) (c : Content κ ω) (hwf : WF ops c) (n : Node) (k2 : κ) :
    k2 ∈ keys (removeNode ops true c n).edges ↔ ∃ k ∈ keys c.edges, stepKey ops n k = some k2 := by
  rw [← isSome_get?_iff, removeNode_keep_get? ops hlaw c hwf n k2]
  constructor
  · intro h
    split at h
    · simp at h
    · rename_i hk2
      rcases (foldl_mergeInto_isSome _ _ _).mp h with h1 | h1
      · exact ⟨k2, (isSome_get?_iff _ _).mp h1, stepKey_of_not_mem ops hk2⟩
      · obtain ⟨e, he⟩ := List.exists_mem_of_ne_nil _ h1
        obtain ⟨hm, hs⟩ := hit_step ops c n k2 e he
        exact ⟨e.1, mem_keys_of_mem _ _ hm, hs⟩
  · rintro ⟨k, hk, hs⟩
    have hk2 := not_mem_of_stepKey ops hlaw n k k2 hs
    rw [if_neg hk2, foldl_mergeInto_isSome]
    unfold stepKey at hs
    split at hs
    · rename_i hc
      right
      obtain ⟨v, hv⟩ := Option.isSome_iff_exists.mp ((isSome_get?_iff _ _).mpr hk)
      apply List.ne_nil_of_mem (a := (k, v))
      simp only [List.mem_filter, decide_eq_true_eq]
      exact ⟨(mem_incident ops c n _).mpr ⟨mem_of_get? _ _ _ hv, by simpa using hc⟩, hs⟩
    · cases hs; left; exact (isSome_get?_iff _ _).mpr hk

theorem removeNode_keep_wf (hlaw : Lawful ops) (c : Content κ ω) (hwf : WF ops c) (n : Node) :
    WF ops (removeNode ops true c n) := by
  refine ⟨?_, ?_, ?_⟩
  · rw [removeNode_keep_nodes ops hlaw c hwf n]; exact keys_erase_nodup _ _ hwf.nodesNodup
  · rw [removeNode_keep_edges ops hlaw]; exact foldl_shrinkOne_keys_nodup ops n _ c hwf.keysNodup
  · intro e he m hm
    obtain ⟨k, hk, hs⟩ := (removeNode_keep_keys ops hlaw c hwf n e.1).mp (mem_keys_of_mem _ _ he)
    have hm1 : m ∈ ops.nodesOf k := stepKey_nodes ops hlaw n k e.1 hs m hm
    have hmn : m ≠ n := fun h => not_mem_of_stepKey ops hlaw n k e.1 hs (h ▸ hm)
    obtain ⟨e0, he0, rfl⟩ := List.mem_map.mp hk
    have := hwf.closed e0 he0 m hm1
    rw [removeNode_keep_nodes ops hlaw c hwf n, keys_erase_perm]
    exact (List.mem_erase_of_ne hmn).mpr this

theorem removeNode_drop_wf (c : Content κ ω) (hwf : WF ops c) (n : Node) : WF ops (removeNode ops false c n) := by
  rw [removeNode_drop ops c n hwf.nodesNodup hwf.keysNodup]
  refine ⟨keys_filter_nodup _ _ hwf.nodesNodup, keys_filter_nodup _ _ hwf.keysNodup, ?_⟩
  intro e he m hm
  simp only [List.mem_filter, Bool.not_eq_true', ← Bool.not_eq_true, List.contains_iff_mem] at he
  obtain ⟨x, hx, hxm⟩ := List.mem_map.mp (hwf.closed e he.1 m hm)
  refine List.mem_map.mpr ⟨x, ?_, hxm⟩
  simp only [List.mem_filter, Bool.not_eq_true', decide_eq_false_iff_not]
  refine ⟨hx, fun h => he.2 ?_⟩
  have : x.1 = m := hxm
  rw [← h, this]; exact hm

theorem removeNode_wf (keep : Bool) (hlaw : keep = true → Lawful ops) (c : Content κ ω) (hwf : WF ops c) (n : Node) :
    WF ops (removeNode ops keep c n) := by
  cases keep
  · exact removeNode_drop_wf ops c hwf n
  · exact removeNode_keep_wf ops (hlaw rfl) c hwf n

theorem removeNode_nodes (keep : Bool) (hlaw : keep = true → Lawful ops) (c : Content κ ω) (hwf : WF ops c) (n : Node) :
    (removeNode ops keep c n).nodes = erase c.nodes n := by
  cases keep
  · rw [removeNode_drop ops c n hwf.nodesNodup hwf.keysNodup, al_erase_eq_filter _ _ hwf.nodesNodup]
  · exact removeNode_keep_nodes ops (hlaw rfl) c hwf n

theorem foldlM_removeNode? (keep : Bool) (hlaw : keep = true → Lawful ops) (R : List Node) (c : Content κ ω) (hwf : WF ops c)
    (hR : R.Nodup) (hmem : ∀ n ∈ R, n ∈ keys c.nodes) :
    R.foldlM (removeNode? ops keep) c = some (R.foldl (removeNode ops keep) c) := by
  induction R generalizing c with
  | nil => rfl
  | cons n R ih =>
    simp only [List.nodup_cons] at hR
    have h1 : removeNode? ops keep c n = some (removeNode ops keep c n) := by
      unfold removeNode?
      rw [if_pos ((isSome_get?_iff _ _).mpr (hmem n List.mem_cons_self))]
    rw [List.foldlM_cons, h1, List.foldl_cons]
    apply ih _ (removeNode_wf ops keep hlaw c hwf n) hR.2
    intro m hm
    rw [removeNode_nodes ops keep hlaw c hwf n, keys_erase_perm]
    exact (List.mem_erase_of_ne (fun (h : m = n) => hR.1 (h ▸ hm))).mpr (hmem m (List.mem_cons_of_mem _ hm))

theorem foldlM_removeEdge? (K : List κ) (c : Content κ ω) (hnd : (keys c.edges).Nodup) (hK : K.Nodup)
    (hmem : ∀ k ∈ K, k ∈ keys c.edges) :
    K.foldlM removeEdge? c = some (K.foldl removeEdge c) := by
  induction K generalizing c with
  | nil => rfl
  | cons k K ih =>
    simp only [List.nodup_cons] at hK
    have h1 : removeEdge? c k = some (removeEdge c k) := by
      unfold removeEdge?
      rw [if_pos ((isSome_get?_iff _ _).mpr (hmem k List.mem_cons_self))]
    rw [List.foldlM_cons, h1, List.foldl_cons]
    apply ih _ (keys_erase_nodup _ _ hnd) hK.2
    intro k' hk'
    simp only [removeEdge]
    rw [keys_erase_perm]
    exact (List.mem_erase_of_ne (fun (h : k' = k) => hK.1 (h ▸ hk'))).mpr (hmem k' (List.mem_cons_of_mem _ hk'))

theorem foldl_removeNode_wf (keep : Bool) (hlaw : keep = true → Lawful ops) (R : List Node) (c : Content κ ω) (hwf : WF ops c) :
    WF ops (R.foldl (removeNode ops keep) c) := by
  induction R generalizing c with
  | nil => exact hwf
  | cons n R ih => exact ih _ (removeNode_wf ops keep hlaw c hwf n)

theorem nodePhase_wf (keep : Bool) (hlaw : keep = true → Lawful ops) (c : Content κ ω) (hwf : WF ops c)
    (nc : Option Crit) (mode : Mode) : WF ops (nodePhase ops c nc mode keep) := by
  rw [nodePhase_eq]; exact foldl_removeNode_wf ops keep hlaw _ c hwf

theorem edgePhase_wf (c : Content κ ω) (hwf : WF ops c) (ec : Option Crit) (mode : Mode) :
    WF ops (edgePhase c ec mode) := by
  rw [edgePhase_eq c ec mode hwf.keysNodup]
  exact ⟨hwf.nodesNodup, keys_filter_nodup _ _ hwf.keysNodup,
    fun e he m hm => hwf.closed e (List.mem_filter.mp he).1 m hm⟩

theorem filterHg_wf (keep : Bool) (hlaw : keep = true → Lawful ops) (c : Content κ ω) (hwf : WF ops c)
    (nc ec : Option Crit) (mode : Mode) : WF ops (filterHg ops c nc ec mode keep) :=
  edgePhase_wf ops _ (nodePhase_wf ops keep hlaw c hwf nc mode) ec mode

theorem filterHg?_eq (keep : Bool) (hlaw : keep = true → Lawful ops) (c : Content κ ω) (hwf : WF ops c)
    (nc ec : Option Crit) (mode : Mode) : filterHg? ops c nc ec mode keep = some (filterHg ops c nc ec mode keep) := by
  have hn : nodePhase? ops c nc mode keep = some (nodePhase ops c nc mode keep) := by
    cases nc with
    | none => rfl
    | some cr =>
      simp only [nodePhase?, nodePhase]
      apply foldlM_removeNode? ops keep hlaw _ c hwf
      · exact keys_filter_nodup _ _ hwf.nodesNodup
      · intro n hn
        simp only [nodesToProcess, List.mem_map, List.mem_filter] at hn
        obtain ⟨x, ⟨hx, _⟩, rfl⟩ := hn
        exact mem_keys_of_mem _ _ hx
  have hwf1 := nodePhase_wf ops keep hlaw c hwf nc mode
  unfold filterHg? filterHg
  rw [hn, Option.bind_some]
  cases ec with
  | none => rfl
  | some cr =>
    simp only [edgePhase?, edgePhase]
    apply foldlM_removeEdge? _ _ hwf1.keysNodup
    · exact keys_filter_nodup _ _ hwf1.keysNodup
    · intro k hk
      simp only [edgesToProcess, List.mem_map, List.mem_filter] at hk
      obtain ⟨x, ⟨hx, _⟩, rfl⟩ := hk
      exact mem_keys_of_mem _ _ hx

end removeNode

theorem lawful_H : Lawful opsH := by
  intro k n k' h m
  simp only [opsH, Option.some.injEq] at h
  subst h; simp [opsH, without]

theorem lawful_T : Lawful opsT := by
  intro k n k' h m
  simp only [opsT] at h
  split at h
  · cases h
  · cases h; simp [opsT, without]

theorem lawful_D : Lawful opsD := by
  intro k n k' h m
  simp only [opsD] at h
  split at h
  · cases h
  · cases h
    simp only [opsD, without, List.mem_append, List.mem_filter, ne_eq, decide_not, Bool.not_eq_true',
      decide_eq_false_iff_not]
    constructor
    · rintro (⟨h1, h2⟩ | ⟨h1, h2⟩); exact ⟨Or.inl h1, h2⟩; exact ⟨Or.inr h1, h2⟩
    · rintro ⟨h1 | h1, h2⟩; exact Or.inl ⟨h1, h2⟩; exact Or.inr ⟨h1, h2⟩
end C19
