import Hgxv.Proofs.C09
/-! Core Lean: permutations and index tuples of the adjacency tensor. -/
namespace C09

theorem mem_insertAll (a : Nat) (l p : List Nat) :
    p ∈ insertAll a l ↔ ∃ l1 l2, l = l1 ++ l2 ∧ p = l1 ++ a :: l2 := by
  induction l generalizing p with
  | nil =>
    simp only [insertAll, List.mem_singleton]
    constructor
    · rintro rfl; exact ⟨[], [], rfl, rfl⟩
    · rintro ⟨l1, l2, h, rfl⟩
      have h' := h.symm
      simp only [List.append_eq_nil_iff] at h'
      rw [h'.1, h'.2]; rfl
  | cons b l ih =>
    simp only [insertAll, List.mem_cons, List.mem_map]
    constructor
    · rintro (rfl | ⟨q, hq, rfl⟩)
      · exact ⟨[], b :: l, rfl, rfl⟩
      · obtain ⟨l1, l2, rfl, rfl⟩ := (ih q).1 hq
        exact ⟨b :: l1, l2, rfl, rfl⟩
    · rintro ⟨l1, l2, h, rfl⟩
      cases l1 with
      | nil => left; simp at h; subst h; rfl
      | cons c l1 =>
        right
        simp only [List.cons_append, List.cons.injEq] at h
        obtain ⟨rfl, rfl⟩ := h
        exact ⟨l1 ++ a :: l2, (ih _).2 ⟨l1, l2, rfl, rfl⟩, rfl⟩

theorem mem_perms (l p : List Nat) : p ∈ perms l ↔ p.Perm l := by
  induction l generalizing p with
  | nil => simp [perms]
  | cons a l ih =>
    simp only [perms, List.mem_flatMap]
    constructor
    · rintro ⟨q, hq, hp⟩
      obtain ⟨l1, l2, rfl, rfl⟩ := (mem_insertAll a q p).1 hp
      exact (List.perm_middle).trans (((ih _).1 hq).cons a)
    · intro hp
      have ha : a ∈ p := hp.symm.subset (List.mem_cons_self)
      obtain ⟨l1, l2, rfl⟩ := List.append_of_mem ha
      have h2 : (l1 ++ l2).Perm l := ((List.perm_middle).symm.trans hp).cons_inv
      exact ⟨l1 ++ l2, (ih _).2 h2, (mem_insertAll a _ _).2 ⟨l1, l2, rfl, rfl⟩⟩

theorem mem_tuples (N k : Nat) (p : List Nat) :
    p ∈ tuples N k ↔ p.length = k ∧ ∀ x ∈ p, x < N := by
  induction k generalizing p with
  | zero =>
    simp only [tuples, List.mem_singleton, List.length_eq_zero_iff]
    constructor
    · rintro rfl; simp
    · exact fun h => h.1
  | succ k ih =>
    simp only [tuples, List.mem_flatMap, List.mem_range, List.mem_map]
    constructor
    · rintro ⟨a, ha, q, hq, rfl⟩
      have := (ih q).1 hq
      refine ⟨by simp [this.1], ?_⟩
      intro x hx
      rcases List.mem_cons.1 hx with rfl | hx
      · exact ha
      · exact this.2 x hx
    · rintro ⟨hl, hx⟩
      cases p with
      | nil => simp at hl
      | cons a q =>
        refine ⟨a, hx a (List.mem_cons_self), q, (ih q).2 ⟨by simpa using hl, fun x h => hx x (List.mem_cons_of_mem _ h)⟩, rfl⟩

theorem uniformSize_eq_some (edges : List Edge) (k : Nat) :
    uniformSize edges = some k ↔ edges ≠ [] ∧ ∀ e ∈ edges, e.length = k := by
  cases edges with
  | nil => simp [uniformSize]
  | cons e es =>
    simp only [uniformSize, List.all_eq_true, beq_iff_eq, ne_eq, reduceCtorEq, not_false_eq_true, true_and,
      List.forall_mem_cons]
    split
    · rename_i h
      simp only [Option.some.injEq]
      exact ⟨fun hk => ⟨hk, fun f hf => (h f hf).trans hk⟩, fun hk => hk.1⟩
    · rename_i h
      simp only [reduceCtorEq, false_iff]
      exact fun hk => h fun f hf => (hk.2 f hf).trans hk.1.symm

theorem uniformSize_eq_none (edges : List Edge) :
    uniformSize edges = none ↔ edges = [] ∨ ∃ e ∈ edges, ∃ f ∈ edges, e.length ≠ f.length := by
  cases edges with
  | nil => simp [uniformSize]
  | cons e es =>
    simp only [uniformSize, reduceCtorEq, false_or, ite_eq_right_iff, imp_false, List.all_eq_true, beq_iff_eq]
    constructor
    · intro h
      obtain ⟨f, hne⟩ := Classical.not_forall.1 h
      obtain ⟨hf, hne⟩ := Classical.not_imp.1 hne
      exact ⟨f, List.mem_cons_of_mem _ hf, e, List.mem_cons_self, hne⟩
    · rintro ⟨a, ha, b, hb, hne⟩ h
      have : ∀ c ∈ e :: es, c.length = e.length := List.forall_mem_cons.2 ⟨rfl, h⟩
      exact hne ((this a ha).trans (this b hb).symm)

theorem contains_perms (edges : List Edge) (p : List Nat) :
    (edges.flatMap perms).contains p = decide (∃ e ∈ edges, p.Perm e) := by
  rw [Bool.eq_iff_iff]
  simp only [List.contains_iff_mem, List.mem_flatMap, mem_perms, decide_eq_true_eq]

theorem tensor_eq {α : Type} [Zero α] [NatCast α] (N : Nat) (edges : List Edge) :
    (tensor N edges : Option (List (List Nat × α))) = (uniformSize edges).map fun k =>
      (tuples N k).map fun p => (p, ind (decide (∃ e ∈ edges, p.Perm e))) := by
  unfold tensor
  cases uniformSize edges with
  | none => rfl
  | some k => simp only [contains_perms, Option.map_some]

theorem tensor_value {α : Type} [Zero α] [NatCast α] (N : Nat) (edges : List Edge)
    (t : List (List Nat × α)) (ht : tensor N edges = some t) (p : List Nat) (v : α) (hv : (p, v) ∈ t) :
    v = ind (decide (∃ e ∈ edges, p.Perm e)) := by
  rw [tensor_eq, Option.map_eq_some_iff] at ht
  obtain ⟨k, _, rfl⟩ := ht
  exact ((mem_dict _ _ p v).1 hv).2

end C09
