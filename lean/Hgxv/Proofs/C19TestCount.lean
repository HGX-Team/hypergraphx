import Hgxv.Proofs.C19C
import Mathlib.Data.Finset.Powerset
/-! C19 part B: strictly increasing tuples - sublist = subset, at most `C(|V|, n)` of them over `|V|` nodes;
hence the number of tests of a table never exceeds the number of possible hyperedges the Bonferroni unit divides by
(`svh_rows_le_choose`, `svc_rows_le_choose`). -/
namespace C19

theorem isSublist_eq_all (e b : List Nat) (he : e.Pairwise (· < ·)) (hb : b.Pairwise (· < ·)) :
    e.isSublist b = e.all (fun i => b.contains i) := by
  rw [Bool.eq_iff_iff, List.isSublist_iff_sublist]
  simp only [List.all_eq_true, List.contains_iff_mem]
  exact ⟨fun h i hi => h.subset hi, NatSort.sublist_of_strict_subset he hb⟩

theorem countOf_eq_n12 (occ : List (List Nat)) (hs : ∀ b ∈ occ, b.Pairwise (· < ·)) (g : List Nat)
    (hg : g.Pairwise (· < ·)) : countOf occ g.length g = n12 occ g := by
  rw [countOf_eq occ (fun b hb => (hs b hb).imp (fun h => Nat.ne_of_lt h)) g.length g rfl]
  unfold n12
  congr 1
  apply List.filter_congr
  intro b hb
  exact isSublist_eq_all g b hg (hs b hb)

theorem sorted_tuples_le_choose (T : List (List Nat)) (hT : T.Nodup) (V : List Nat) (hV : V.Nodup) (n : Nat)
    (h : ∀ e ∈ T, e.Pairwise (· < ·) ∧ e.length = n ∧ ∀ i ∈ e, i ∈ V) : T.length ≤ V.length.choose n := by
  have hcard : T.length = (T.toFinset).card := (List.toFinset_card_of_nodup hT).symm
  have hVc : V.length = V.toFinset.card := (List.toFinset_card_of_nodup hV).symm
  rw [hcard, hVc, ← Finset.card_powersetCard]
  apply Finset.card_le_card_of_injOn (fun e => e.toFinset)
  · intro e he
    have := h e (List.mem_toFinset.mp he)
    rw [Finset.mem_coe, Finset.mem_powersetCard]
    refine ⟨fun i hi => List.mem_toFinset.mpr (this.2.2 i (List.mem_toFinset.mp hi)), ?_⟩
    rw [List.toFinset_card_of_nodup (this.1.imp (fun h => Nat.ne_of_lt h))]; exact this.2.1
  · intro e he f hf hef
    have h1 := h e (List.mem_toFinset.mp he)
    have h2 := h f (List.mem_toFinset.mp hf)
    have hsub : ∀ i ∈ e, i ∈ f := fun i hi => by
      have : i ∈ f.toFinset := by rw [← show e.toFinset = f.toFinset from hef]; exact List.mem_toFinset.mpr hi
      exact List.mem_toFinset.mp this
    exact (sorted_eq_of_subset h1.1 h2.1 (by omega) hsub).symm

theorem svh_rows_le_choose (sf : Nat → Nat → Rat → Rat) (occ : List (List Nat)) (hs : ∀ b ∈ occ, b.Pairwise (· < ·))
    (n : Nat) : (rowsOf sf occ n).length ≤ (numNodes occ n).choose n := by
  simp only [rowsOf, List.length_map, numNodes]
  apply sorted_tuples_le_choose _ (tuplesOf_nodup occ n) _ (dedup_nodup _) n
  intro e he
  have hm := (mem_tuplesOf occ n e).mp he
  refine ⟨hs e hm.1, hm.2, fun i hi => ?_⟩
  rw [mem_dedup, List.mem_flatten]
  exact ⟨e, he, hi⟩

theorem svc_rows_le_choose (sf : Nat → Nat → Rat → Rat) (occ sg : List (List Nat))
    (hs : ∀ b ∈ occ, b.Pairwise (· < ·)) (k : Nat) : (coreRows sf occ sg k).length ≤ (nodesAll occ).choose k := by
  simp only [coreRows, List.length_map, nodesAll]
  apply sorted_tuples_le_choose _ (groupsOf_nodup occ sg k) _ (dedup_nodup _) k
  intro g hg
  obtain ⟨hl, ⟨b, hb, hsub⟩, _⟩ := (mem_groupsOf occ sg k g).mp hg
  refine ⟨(hs b hb).sublist hsub, hl, fun i hi => ?_⟩
  rw [mem_dedup, List.mem_flatten]
  exact ⟨b, hb, hsub.subset hi⟩
end C19
