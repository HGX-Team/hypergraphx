import Hgxv.Proofs.C07Canon
import Hgxv.Proofs.AL
/-! # C07: on well-formed tables the pre-image is the canonical tree of the content (`factor`); the hash statements
`preimage_eq_iff`, `hashOf_congr`, `hashOf_inj` -/
namespace C07
open AL

section alist
variable {α β : Type} [DecidableEq α]

theorem mem_of_get? {l : List (α × β)} {k : α} {v : β} (h : get? l k = some v) : (k, v) ∈ l :=
  AL.mem_of_get? l k v h

end alist

theorem filterMap_eq_map {α β : Type} (f : α → Option β) (g : α → β) (l : List α)
    (h : ∀ x, x ∈ l → f x = some (g x)) : l.filterMap f = l.map g := by
  induction l with
  | nil => rfl
  | cons a t ih =>
    rw [List.filterMap_cons, h a (List.mem_cons_self ..), ih (fun x hx => h x (List.mem_cons_of_mem _ hx))]
    rfl

variable {κ : Type} [Kind κ]

/-- the record of a key as the hash reads it -/
def recOf (t : Tables κ) (k : κ) : κ × Num × JTree :=
  match get? t.edgeList k with
  | some id => (k, (get? t.weights id).getD (.int 1), (get? t.edgeMeta id).getD emptyObj)
  | none => (k, .int 1, emptyObj)

def nrecOf (t : Tables κ) (n : Nat) : Nat × JTree := (n, (get? t.nodeMeta n).getD emptyObj)

theorem content_edges {t : Tables κ} (w : WF t) : (content t).edges = (keys t.edgeList).map (recOf t) := by
  unfold content
  simp only [keys, List.map_map]
  apply filterMap_eq_map
  intro p hp
  obtain ⟨k, id⟩ := p
  have hg : get? t.edgeList k = some id := get?_of_mem _ _ _ w.edge.elNodup hp
  obtain ⟨wv, hw⟩ := Option.isSome_iff_exists.mp (w.edge.hasW k id hg)
  obtain ⟨md, hm⟩ := Option.isSome_iff_exists.mp (w.edge.hasM k id hg)
  simp [recOf, hg, hw, hm]

theorem content_nodes {t : Tables κ} (w : WF t) : (content t).nodes = (keys t.adj).map (nrecOf t) := by
  unfold content
  apply filterMap_eq_map
  intro n hn
  have : n ∈ keys t.nodeMeta := (w.node.same n).mp hn
  obtain ⟨md, hm⟩ := Option.isSome_iff_exists.mp ((isSome_get?_iff _ _).mpr this)
  simp [nrecOf, hm]

theorem edgeEntry_eq {t : Tables κ} (w : WF t) {k : κ} (hk : k ∈ keys t.edgeList) :
    edgeEntry? t k = some (edgeTree (recOf t k)) := by
  obtain ⟨id, hid⟩ := Option.isSome_iff_exists.mp ((isSome_get?_iff _ _).mpr hk)
  have hc : Kind.canonK k = k := w.edge.canonKeys k hk
  simp [edgeEntry?, recOf, hc, hid]

theorem nodeEntry_eq {t : Tables κ} (w : WF t) {n : Nat} (hn : n ∈ keys t.adj) :
    nodeEntry? t n = some (nodeTree (nrecOf t n)) := by
  have : n ∈ keys t.nodeMeta := (w.node.same n).mp hn
  obtain ⟨md, hm⟩ := Option.isSome_iff_exists.mp ((isSome_get?_iff _ _).mpr this)
  simp [nodeEntry?, nrecOf, hm]

theorem sort_nodeKeys {t : Tables κ} (w : WF t) :
    sortBy KeyOrd.le (nodeKeys t) = sortBy KeyOrd.le (keys t.adj) := by
  unfold nodeKeys
  split
  · rfl
  · have hp : (keys t.nodeMeta).Perm (keys t.adj) :=
      (List.perm_ext_iff_of_nodup w.node.nmNodup w.node.adjNodup).mpr (fun n => (w.node.same n).symm)
    exact sortBy_eq_of_perm (fun a b => KeyOrd.total a b) (fun a b c => KeyOrd.trans a b c) hp
      (fun a b _ _ hab hba => KeyOrd.antisymm a b hab hba)

theorem expose_eq {t : Tables κ} (w : WF t) :
    expose? t = some (topTree (Kind.tag κ) (content t).weighted (content t).hmeta
      ((sortBy edgeKeyLe (content t).edges).map edgeTree) ((sortBy nodeKeyLe (content t).nodes).map nodeTree)) := by
  have he : (sortBy KeyOrd.le (keys t.edgeList)).mapM (edgeEntry? t)
      = some ((sortBy edgeKeyLe (content t).edges).map edgeTree) := by
    rw [content_edges w, sortBy_map KeyOrd.le edgeKeyLe (recOf t) (fun a b => by
      simp only [edgeKeyLe, recOf]; split <;> split <;> rfl), List.map_map]
    exact ListLib.mapM_eq_some_map _ _ _ (fun k hk => edgeEntry_eq w (mem_sortBy.mp hk))
  have hn : (sortBy KeyOrd.le (nodeKeys t)).mapM (nodeEntry? t)
      = some ((sortBy nodeKeyLe (content t).nodes).map nodeTree) := by
    rw [sort_nodeKeys w, content_nodes w, sortBy_map KeyOrd.le nodeKeyLe (nrecOf t) (fun a b => rfl), List.map_map]
    exact ListLib.mapM_eq_some_map _ _ _ (fun n hn => nodeEntry_eq w (mem_sortBy.mp hn))
  unfold expose?
  rw [he, hn]
  rfl

theorem factor {t : Tables κ} (w : WF t) : preimage? t = some (canon (content t)) := by
  unfold preimage? canon
  rw [expose_eq w]
  rfl

theorem content_WF {t : Tables κ} (w : WF t) : (content t).WF := by
  constructor
  · rw [content_nodes w, List.map_map]
    have : ((fun x : Nat × JTree => x.1) ∘ nrecOf t) = id := by funext n; rfl
    rw [this, List.map_id]; exact w.node.adjNodup
  · rw [content_edges w, List.map_map]
    have : ((fun x : κ × Num × JTree => x.1) ∘ recOf t) = id := by
      funext k; simp only [Function.comp, recOf]; split <;> rfl
    rw [this, List.map_id]; exact w.edge.elNodup

variable [LawfulKind κ] {t₁ t₂ : Tables κ}

theorem preimage_eq_iff (w₁ : WF t₁) (w₂ : WF t₂) :
    preimage? t₁ = preimage? t₂ ↔ (content t₁).Equiv (content t₂) := by
  rw [factor w₁, factor w₂, Option.some.injEq]
  exact ⟨canon_inj, canon_congr (content_WF w₁)⟩

variable {Digest : Type} {dumps : JTree → String} {H : String → Digest}

theorem hashOf_congr (w₁ : WF t₁) (w₂ : WF t₂) (h : (content t₁).Equiv (content t₂)) :
    hashOf dumps H t₁ = hashOf dumps H t₂ := by
  unfold hashOf
  rw [(preimage_eq_iff w₁ w₂).mpr h]

theorem hashOf_inj (w₁ : WF t₁) (w₂ : WF t₂)
    (hd : ∀ a b : JTree, dumps (ser a) = dumps (ser b) → ser a = ser b)
    (hH : H (dumps (canon (content t₁))) = H (dumps (canon (content t₂))) →
          dumps (canon (content t₁)) = dumps (canon (content t₂)))
    (e : hashOf dumps H t₁ = hashOf dumps H t₂) : (content t₁).Equiv (content t₂) := by
  unfold hashOf at e
  rw [factor w₁, factor w₂] at e
  exact canon_inj (hd _ _ (hH (Option.some.inj e)))

end C07
