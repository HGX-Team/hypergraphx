import Hgxv.Model.C20Reads
import Hgxv.Proofs.C20
/-! Lemmas for `C20_line_reads` / `C20_edges_reads` (core Lean only): under `Coherent` the loops of `line_graph` over
the readings `get_incident_edges` / `len(h)` produce the line graph of the listing.  The lemmas about the position pairs `pairsLt` of ANY list (section `Generic`) also serve
`pairs_count` of `Proofs/C20Eigen.lean` (`pairsOf` of the CEC model is the same recursion). -/
namespace C20

section Generic
variable {β : Type}

theorem mem_pairsLt (l : List β) (x y : β) :
    (x, y) ∈ pairsLt l ↔ ∃ i j : Nat, i < j ∧ l[i]? = some x ∧ l[j]? = some y := by
  induction l with
  | nil => simp [pairsLt]
  | cons a t ih =>
    simp only [pairsLt, List.mem_append, List.mem_map, Prod.mk.injEq, ih]
    constructor
    · rintro (⟨b, hb, rfl, rfl⟩ | ⟨i, j, hij, hi, hj⟩)
      · obtain ⟨j, hj⟩ := List.mem_iff_getElem?.mp hb
        exact ⟨0, j + 1, Nat.succ_pos j, rfl, hj⟩
      · exact ⟨i + 1, j + 1, Nat.succ_lt_succ hij, hi, hj⟩
    · rintro ⟨i, j, hij, hi, hj⟩
      cases j with
      | zero => exact absurd hij (Nat.not_lt_zero i)
      | succ j =>
        cases i with
        | zero => exact Or.inl ⟨y, List.mem_iff_getElem?.mpr ⟨j, hj⟩, Option.some.inj hi, rfl⟩
        | succ i => exact Or.inr ⟨i, j, Nat.lt_of_succ_lt_succ hij, hi, hj⟩

theorem mem_of_mem_pairsLt {l : List β} {x y : β} (h : (x, y) ∈ pairsLt l) : x ∈ l ∧ y ∈ l := by
  obtain ⟨i, j, _, hi, hj⟩ := (mem_pairsLt l x y).mp h
  exact ⟨List.mem_iff_getElem?.mpr ⟨i, hi⟩, List.mem_iff_getElem?.mpr ⟨j, hj⟩⟩

theorem ne_of_mem_pairsLt {l : List β} (hl : l.Nodup) {x y : β} (h : (x, y) ∈ pairsLt l) : x ≠ y := by
  obtain ⟨i, j, hij, hi, hj⟩ := (mem_pairsLt l x y).mp h
  intro hxy
  subst hxy
  obtain ⟨hi', hxi⟩ := List.getElem?_eq_some_iff.mp hi
  obtain ⟨hj', hxj⟩ := List.getElem?_eq_some_iff.mp hj
  have := (List.getElem_inj hl).mp (hxi.trans hxj.symm)
  omega

theorem mem_pairsLt_of_ne {l : List β} {x y : β} (hx : x ∈ l) (hy : y ∈ l) (hne : x ≠ y) :
    (x, y) ∈ pairsLt l ∨ (y, x) ∈ pairsLt l := by
  obtain ⟨i, hi⟩ := List.mem_iff_getElem?.mp hx
  obtain ⟨j, hj⟩ := List.mem_iff_getElem?.mp hy
  have hij : i ≠ j := by
    intro h
    subst h
    rw [hi] at hj
    exact hne (Option.some.inj hj)
  by_cases h : i < j
  · exact Or.inl ((mem_pairsLt l x y).mpr ⟨i, j, h, hi, hj⟩)
  · exact Or.inr ((mem_pairsLt l y x).mpr ⟨j, i, by omega, hj, hi⟩)

theorem pairsLt_nodup {l : List β} (hl : l.Nodup) : (pairsLt l).Nodup := by
  induction l with
  | nil => exact List.nodup_nil
  | cons a t ih =>
    obtain ⟨ha, ht⟩ := List.nodup_cons.mp hl
    refine List.nodup_append.mpr ⟨List.Pairwise.map _ (fun _ _ hne e => hne (Prod.mk.inj e).2) ht, ih ht, ?_⟩
    rintro p hp q hq rfl
    obtain ⟨b, _, rfl⟩ := List.mem_map.mp hp
    exact ha (mem_of_mem_pairsLt hq).1

theorem pairsLt_asymm {l : List β} (hl : l.Nodup) {x y : β} (h : (x, y) ∈ pairsLt l) : (y, x) ∉ pairsLt l := by
  intro h'
  obtain ⟨i, j, hij, hi, hj⟩ := (mem_pairsLt l x y).mp h
  obtain ⟨i', j', hij', hi', hj'⟩ := (mem_pairsLt l y x).mp h'
  have e1 := (List.getElem?_inj (List.getElem?_eq_some_iff.mp hi).1 hl).mp (hi.trans hj'.symm)
  have e2 := (List.getElem?_inj (List.getElem?_eq_some_iff.mp hj).1 hl).mp (hj.trans hi'.symm)
  omega

theorem mem_dedupe [DecidableEq β] (l : List β) (x : β) : x ∈ dedupe l ↔ x ∈ l := by
  simp [dedupe, mem_foldl_addNew]

theorem dedupe_nodup [DecidableEq β] (l : List β) : (dedupe l).Nodup :=
  foldl_addNew_nodup l [] List.nodup_nil

end Generic

section Static
variable {α : Type} [DecidableEq α]

theorem inter_comm {a b : List α} (ha : a.Nodup) (hb : b.Nodup) : inter a b = inter b a := by
  unfold inter
  apply List.Perm.length_eq
  apply (List.perm_ext_iff_of_nodup (List.Nodup.sublist List.filter_sublist ha)
    (List.Nodup.sublist List.filter_sublist hb)).mpr
  intro x
  simp only [List.mem_filter, decide_eq_true_eq]
  exact And.comm

theorem one_le_inter {a b : List α} {x : α} (ha : x ∈ a) (hb : x ∈ b) : 1 ≤ inter a b := by
  unfold inter
  exact List.length_pos_of_mem (List.mem_filter.mpr ⟨ha, by simpa using hb⟩)

theorem exists_common_of_inter {a b : List α} (h : 1 ≤ inter a b) : ∃ x, x ∈ a ∧ x ∈ b := by
  unfold inter at h
  obtain ⟨x, hx⟩ := List.exists_mem_of_length_pos (by omega : 0 < (a.filter fun x => decide (x ∈ b)).length)
  obtain ⟨h1, h2⟩ := List.mem_filter.mp hx
  exact ⟨x, h1, by simpa using h2⟩

theorem linked_iff (s : Nat) (a b : List α) : linked s a b = true ↔ 1 ≤ inter a b ∧ s ≤ inter a b := decide_eq_true_iff

theorem linked_comm (s : Nat) {a b : List α} (ha : a.Nodup) (hb : b.Nodup) : linked s a b = linked s b a := by
  unfold linked; rw [inter_comm ha hb]

theorem inter_nil_right (b : List α) : inter b ([] : List α) = 0 := by
  unfold inter
  rw [List.length_eq_zero_iff, List.filter_eq_nil_iff]
  intro x _ h
  exact absurd (of_decide_eq_true h) List.not_mem_nil

theorem linked_nil (s : Nat) (b : List α) : linked s ([] : List α) b = false ∧ linked s b ([] : List α) = false := by
  refine ⟨decide_eq_false fun h => ?_, decide_eq_false fun h => ?_⟩
  · exact absurd h.1 (Nat.not_succ_le_zero 0)
  · rw [inter_nil_right] at h; exact absurd h.1 (Nat.not_succ_le_zero 0)

theorem lineEdges_eq_pairs (s : Nat) (tab : List (Nat × List α)) :
    lineEdges s tab = ((pairsLt tab).filter fun pq => linked s pq.1.2 pq.2.2).map fun pq => (pq.1.1, pq.2.1) := by
  induction tab with
  | nil => simp [lineEdges, pairsLt]
  | cons p t ih =>
    simp only [lineEdges, pairsLt, List.filter_append, List.map_append, ih, List.filter_map, List.map_map]
    congr 1

omit [DecidableEq α] in
theorem idTable_getElem? (srt : List α → List α) (es : List (List α)) (i : Nat) (p : Nat × List α) :
    (idTable srt es)[i]? = some p ↔ p.1 = i ∧ (es.map srt)[i]? = some p.2 := by
  unfold idTable
  rw [List.getElem?_zip_eq_some]
  constructor
  · rintro ⟨h1, h2⟩
    obtain ⟨hlt, heq⟩ := List.getElem?_eq_some_iff.mp h1
    simp at heq
    exact ⟨heq.symm, h2⟩
  · rintro ⟨rfl, h2⟩
    refine ⟨?_, h2⟩
    obtain ⟨hlt, _⟩ := List.getElem?_eq_some_iff.mp h2
    have hlt' : p.1 < es.length := by simpa using hlt
    simp [hlt']

theorem mem_lineEdges_idTable (s : Nat) (srt : List α → List α) (es : List (List α)) (i j : Nat) :
    (i, j) ∈ lineEdges s (idTable srt es) ↔
      i < j ∧ ∃ a b, (es.map srt)[i]? = some a ∧ (es.map srt)[j]? = some b ∧ linked s a b = true := by
  rw [lineEdges_eq_pairs]
  simp only [List.mem_map, List.mem_filter, Prod.mk.injEq]
  constructor
  · rintro ⟨⟨p, q⟩, ⟨hpq, hl⟩, rfl, rfl⟩
    obtain ⟨i', j', hij, hi, hj⟩ := (mem_pairsLt _ p q).mp hpq
    obtain ⟨h1, h1'⟩ := (idTable_getElem? srt es i' p).mp hi
    obtain ⟨h2, h2'⟩ := (idTable_getElem? srt es j' q).mp hj
    refine ⟨by simp only; omega, p.2, q.2, ?_, ?_, hl⟩
    · simp only; rw [h1]; exact h1'
    · simp only; rw [h2]; exact h2'
  · rintro ⟨hij, a, b, ha, hb, hl⟩
    exact ⟨((i, a), (j, b)), ⟨(mem_pairsLt _ _ _).mpr ⟨i, j, hij, (idTable_getElem? srt es i (i, a)).mpr ⟨rfl, ha⟩,
      (idTable_getElem? srt es j (j, b)).mpr ⟨rfl, hb⟩⟩, hl⟩, rfl, rfl⟩

/-- what one pass of the inner loop yields when both keys are listed -/
def visitVal (s : Nat) (keys : List (List α)) (p : List α × List α) : (Nat × Nat) × Bool :=
  (normPair (keys.idxOf p.1) (keys.idxOf p.2), decide (s ≤ inter p.1 p.2))

/-- the edges the loops produce when no `KeyError` occurs -/
def edgesR (s : Nat) (srt : List α → List α) (R : Reads α) : List (Nat × Nat) :=
  dedupe ((((R.inc.flatMap fun p => pairsLt p.2).map (visitVal s (R.edges.map srt))).filter fun v => v.2).map fun v => v.1)

theorem lineEdgesR_eq (srt : List α → List α) (R : Reads α) (hc : Coherent srt R) (s : Nat) :
    lineEdgesR s srt R = some (edgesR s srt R) := by
  unfold lineEdgesR edgesR
  rw [ListLib.mapM_eq_some_map (visit s (R.edges.map srt)) (visitVal s (R.edges.map srt))]
  · rfl
  · intro p hp
    obtain ⟨pr, hpr, hpp⟩ := List.mem_flatMap.mp hp
    obtain ⟨h1, h2⟩ := mem_of_mem_pairsLt (x := p.1) (y := p.2) hpp
    simp [visit, edgeId, visitVal, ((hc.inc_mem pr hpr p.1).mp h1).1, ((hc.inc_mem pr hpr p.2).mp h2).1]

theorem mem_edgesR (s : Nat) (srt : List α → List α) (R : Reads α) (i j : Nat) :
    (i, j) ∈ edgesR s srt R ↔ ∃ pr ∈ R.inc, ∃ a b, (a, b) ∈ pairsLt pr.2 ∧ s ≤ inter a b ∧
      normPair ((R.edges.map srt).idxOf a) ((R.edges.map srt).idxOf b) = (i, j) := by
  unfold edgesR
  rw [mem_dedupe]
  simp only [List.mem_map, List.mem_filter, List.mem_flatMap, visitVal]
  constructor
  · rintro ⟨v, ⟨⟨p, ⟨pr, hpr, hp⟩, rfl⟩, hv⟩, hij⟩
    exact ⟨pr, hpr, p.1, p.2, hp, by simpa using hv, hij⟩
  · rintro ⟨pr, hpr, a, b, hp, hs, hij⟩
    exact ⟨_, ⟨⟨(a, b), ⟨pr, hpr, hp⟩, rfl⟩, by simpa using hs⟩, hij⟩

theorem getElem?_idxOf_of_mem {γ : Type} [BEq γ] [LawfulBEq γ] {l : List γ} {a : γ} (h : a ∈ l) : l[l.idxOf a]? = some a := by
  rw [List.getElem?_eq_some_iff]
  exact ⟨List.idxOf_lt_length_of_mem h, List.getElem_idxOf _⟩

theorem idxOf_of_getElem? {γ : Type} [BEq γ] [LawfulBEq γ] {l : List γ} (hl : l.Nodup) {a : γ} {i : Nat} (h : l[i]? = some a) :
    l.idxOf a = i := by
  obtain ⟨hi, rfl⟩ := List.getElem?_eq_some_iff.mp h
  exact hl.idxOf_getElem i hi

theorem mem_edgesR_iff (srt : List α → List α) (R : Reads α) (hc : Coherent srt R) (s i j : Nat) :
    (i, j) ∈ edgesR s srt R ↔ (i, j) ∈ lineEdges s (idTable srt R.edges) := by
  rw [mem_edgesR, mem_lineEdges_idTable]
  -- →: a visited pair is two different listed keys that share the node; ←: a common member's incidence list holds both keys,
  -- in one of the two orders, and `normPair` repairs the order
  constructor
  · rintro ⟨pr, hpr, a, b, hp, hs, hn⟩
    obtain ⟨ha, hb⟩ := mem_of_mem_pairsLt hp
    have hne : a ≠ b := ne_of_mem_pairsLt (hc.inc_nodup pr hpr) hp
    obtain ⟨hak, hxa⟩ := (hc.inc_mem pr hpr a).mp ha
    obtain ⟨hbk, hxb⟩ := (hc.inc_mem pr hpr b).mp hb
    have ga := getElem?_idxOf_of_mem hak
    have gb := getElem?_idxOf_of_mem hbk
    have hidx : (R.edges.map srt).idxOf a ≠ (R.edges.map srt).idxOf b := by
      intro h
      rw [h] at ga
      exact hne (Option.some.inj (ga.symm.trans gb))
    have h1 : 1 ≤ inter a b := one_le_inter hxa hxb
    unfold normPair at hn
    split at hn
    · obtain ⟨rfl, rfl⟩ := Prod.mk.inj hn
      exact ⟨by omega, a, b, ga, gb, (linked_iff s a b).mpr ⟨h1, hs⟩⟩
    · obtain ⟨rfl, rfl⟩ := Prod.mk.inj hn
      exact ⟨by omega, b, a, gb, ga,
        (linked_comm s (hc.key_nodup b hbk) (hc.key_nodup a hak)).trans ((linked_iff s a b).mpr ⟨h1, hs⟩)⟩
  · rintro ⟨hij, a, b, ha, hb, hl⟩
    have hak : a ∈ R.edges.map srt := List.mem_iff_getElem?.mpr ⟨i, ha⟩
    have hbk : b ∈ R.edges.map srt := List.mem_iff_getElem?.mpr ⟨j, hb⟩
    have hne : a ≠ b := by
      intro h
      subst h
      have := (idxOf_of_getElem? hc.keys_nodup ha).symm.trans (idxOf_of_getElem? hc.keys_nodup hb)
      omega
    have hl' := (linked_iff s a b).mp hl
    obtain ⟨x, hxa, hxb⟩ := exists_common_of_inter hl'.1
    obtain ⟨pr, hpr, rfl⟩ := hc.members a hak x hxa
    have hain : a ∈ pr.2 := (hc.inc_mem pr hpr a).mpr ⟨hak, hxa⟩
    have hbin : b ∈ pr.2 := (hc.inc_mem pr hpr b).mpr ⟨hbk, hxb⟩
    have ia := idxOf_of_getElem? hc.keys_nodup ha
    have ib := idxOf_of_getElem? hc.keys_nodup hb
    rcases mem_pairsLt_of_ne hain hbin hne with h | h
    · exact ⟨pr, hpr, a, b, h, hl'.2, by rw [ia, ib]; exact if_pos (Nat.le_of_lt hij)⟩
    · refine ⟨pr, hpr, b, a, h, ?_, ?_⟩
      · rw [inter_comm (hc.key_nodup b hbk) (hc.key_nodup a hak)]; exact hl'.2
      · rw [ia, ib]; unfold normPair; rw [if_neg (by omega)]

theorem edgesR_nodup (s : Nat) (srt : List α → List α) (R : Reads α) : (edgesR s srt R).Nodup := dedupe_nodup _

/-- the readings of a hypergraph given by a well-formed listing are coherent -/
theorem coherent_readsOf (srt : List α → List α) (H : HG α) (hk : (H.edges.map srt).Nodup)
    (hm : ∀ a ∈ H.edges.map srt, a.Nodup) (hn : ∀ a ∈ H.edges.map srt, ∀ x ∈ a, x ∈ H.nodes) :
    Coherent srt (readsOf srt H) where
  keys_nodup := hk
  key_nodup := hm
  len_eq := rfl
  inc_nodup := by
    intro p hp
    obtain ⟨x, _, rfl⟩ := List.mem_map.mp hp
    exact List.Nodup.sublist List.filter_sublist hk
  inc_mem := by
    intro p hp a
    obtain ⟨x, _, rfl⟩ := List.mem_map.mp hp
    simp [readsOf, List.mem_filter]
  members := by
    intro a ha x hx
    exact ⟨_, List.mem_map.mpr ⟨x, hn a ha x hx, rfl⟩, rfl⟩

end Static
end C20
