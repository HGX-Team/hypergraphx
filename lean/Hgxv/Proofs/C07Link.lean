import Hgxv.Proofs.C07WF
import Hgxv.Proofs.C01Inv
import Hgxv.Proofs.C02Inv
import Hgxv.Proofs.C03Inv
import Hgxv.Model.C03Spec
import Hgxv.Proofs.C04Inv
/-! # C07 ↔ C01 … C04: the full container invariants imply the well-formedness the hash needs

`ofC01 s` / `ofC02 s` read a store of the full models of `Hypergraph` / `DirectedHypergraph` as C07 tables (weights
get a fixed numeric tag, metadata tokens become JSON numbers under string keys: only the *presence* of entries matters
for `WF`).  `C01.Inv s → WF (ofC01 s)` and `C02.Inv s → WF (ofC02 s)`; since `C01_inv` / `C02_inv`
establish `Inv` for every reachable state of the full classes (all public mutators, batched calls, attribute setters),
`C07_factor`, `C07_equal`, `C07_differ` apply to every reachable `Hypergraph` / `DirectedHypergraph` state; the same for
`ofC03` / `ofC04` (Temporal, Multiplex).  `StoreView` lists what is needed of an invariant; each class fills it in once
(`view_C0x`) and gets `WF` and `content_ofC0x`: the content the hash sees is the abstract `Spec` state, so
`hashOf_congr` / `hashOf_inj` read as statements about `C0x.abs`. -/
namespace C07
open AL

/-- metadata of the container models (attribute token ↦ value token) as a JSON object -/
def metaTree (m : List (Nat × Nat)) : JTree := .obj (m.map (fun p => ("k" ++ toString p.1, .num (.int p.2))))

def mapVals {α β γ : Type} (f : β → γ) (l : List (α × β)) : List (α × γ) := l.map (fun p => (p.1, f p.2))

theorem get?_mapVals {α β γ : Type} [DecidableEq α] (f : β → γ) (l : List (α × β)) (k : α) :
    get? (mapVals f l) k = (get? l k).map f := get?_map_val l f k

theorem keys_mapVals {α β γ : Type} (f : β → γ) (l : List (α × β)) : keys (mapVals f l) = keys l :=
  keys_map_val l f

theorem nodup_keys_mapVals {α β γ : Type} (f : β → γ) {l : List (α × β)} (h : (keys l).Nodup) :
    (keys (mapVals f l)).Nodup := by
  rw [keys_mapVals]; exact h

theorem isSome_get?_mapVals {α β γ : Type} [DecidableEq α] (f : β → γ) (l : List (α × β)) (k : α) :
    (get? (mapVals f l) k).isSome = (get? l k).isSome := by
  rw [get?_mapVals, Option.isSome_map]

section view
variable {κ : Type} [Kind κ] {t : Tables κ} {nm em : List (Nat × List (Nat × Nat))} {ws : List (Nat × Int)}

/-- `WF` from the facts that the container invariants of C01–C04 state about the same tables
(`C01.Inv`: `adj_nodup`, `nm_keys`, `el_nodup`, `rev_of_edge`, `id_lt`, `w_dom`, `m_dom`, `key_canon`;
`C02.Inv`: `nd_adjS`, `nd_nm`, `nmeta_same`, `nd_edge`, `rev_of_edge`, `id_lt`, `weights_same`, `emeta_same`, `key_wf`) -/
theorem wf_of_store_invariant (t : Tables κ)
    (adj_nodup : (keys t.adj).Nodup) (nm_nodup : (keys t.nodeMeta).Nodup)
    (nm_same : ∀ n, (get? t.nodeMeta n).isSome = (get? t.adj n).isSome)
    (el_nodup : (keys t.edgeList).Nodup)
    (rev_of_edge : ∀ k id, get? t.edgeList k = some id → get? t.rev id = some k)
    (id_lt : ∀ id k, get? t.rev id = some k → id < t.nextId)
    (w_dom : ∀ id, (get? t.weights id).isSome = (get? t.rev id).isSome)
    (m_dom : ∀ id, (get? t.edgeMeta id).isSome = (get? t.rev id).isSome)
    (key_canon : ∀ k id, get? t.edgeList k = some id → Kind.canonK k = k) : WF t := by
  refine ⟨⟨adj_nodup, nm_nodup, fun n => ?_⟩, ⟨el_nodup, ?_, ?_, ?_, ?_, ?_⟩⟩
  · rw [← isSome_get?_iff, ← isSome_get?_iff, nm_same n]
  · intro k id h; rw [w_dom, rev_of_edge k id h]; rfl
  · intro k id h; rw [m_dom, rev_of_edge k id h]; rfl
  · intro k hk
    obtain ⟨id, hid⟩ := Option.isSome_iff_exists.mp ((isSome_get?_iff _ _).mpr hk)
    exact key_canon k id hid
  · intro k id h; exact id_lt id k (rev_of_edge k id h)
  · intro k₁ k₂ id h1 h2
    have a := rev_of_edge k₁ id h1
    have b := rev_of_edge k₂ id h2
    rw [a] at b; exact Option.some.inj b

theorem map_keys_getD {α β γ : Type} [DecidableEq α] (f : β → γ) (d : β) (l : List (α × β)) (nd : (keys l).Nodup) :
    (keys l).map (fun n => (n, f ((get? l n).getD d))) = mapVals f l := by
  unfold mapVals keys
  rw [List.map_map]
  apply List.map_congr_left
  intro p hp
  simp only [Function.comp, get?_of_mem _ _ _ nd hp, Option.getD_some]

/-- what the container invariants of C01–C04 state about a store read as hashing tables `t`; `nm`, `em`, `ws` are the
store's node-metadata, hyperedge-metadata and weight tables -/
structure StoreView (t : Tables κ) (nm em : List (Nat × List (Nat × Nat))) (ws : List (Nat × Int)) : Prop where
  nodeMeta : t.nodeMeta = mapVals metaTree nm
  weights : t.weights = mapVals Num.flt ws
  edgeMeta : t.edgeMeta = mapVals metaTree em
  adj_nodup : (keys t.adj).Nodup
  nm_nodup : (keys nm).Nodup
  nm_same : ∀ n, (get? nm n).isSome = (get? t.adj n).isSome
  el_nodup : (keys t.edgeList).Nodup
  rev_of_edge : ∀ k id, get? t.edgeList k = some id → get? t.rev id = some k
  id_lt : ∀ id k, get? t.rev id = some k → id < t.nextId
  w_dom : ∀ id, (get? ws id).isSome = (get? t.rev id).isSome
  m_dom : ∀ id, (get? em id).isSome = (get? t.rev id).isSome
  key_canon : ∀ k id, get? t.edgeList k = some id → Kind.canonK k = k

theorem StoreView.wf (v : StoreView t nm em ws) : WF t :=
  wf_of_store_invariant t v.adj_nodup (by rw [v.nodeMeta]; exact nodup_keys_mapVals _ v.nm_nodup)
    (fun n => by rw [v.nodeMeta, isSome_get?_mapVals]; exact v.nm_same n) v.el_nodup v.rev_of_edge v.id_lt
    (fun id => by rw [v.weights, isSome_get?_mapVals]; exact v.w_dom id)
    (fun id => by rw [v.edgeMeta, isSome_get?_mapVals]; exact v.m_dom id) v.key_canon

/-- the content the hash sees, in the words of `C0x.abs`: every listed node has a metadata entry and every live id a
weight and a metadata entry, so the defaults `[]` and `d` are never read (they are there to meet the `getD` of `abs`:
the callers pass the default their `C0x.abs` writes, `0`, `C03.one`, `C04.one`) -/
theorem StoreView.content_eq (v : StoreView t nm em ws) (d : Int) :
    content t = ⟨(keys t.adj).map (fun n => (n, metaTree ((get? nm n).getD []))),
      t.edgeList.map (fun p => (p.1, Num.flt ((get? ws p.2).getD d), metaTree ((get? em p.2).getD []))),
      t.hmeta, t.weighted⟩ := by
  have hc : content t = ⟨(content t).nodes, (content t).edges, t.hmeta, t.weighted⟩ := rfl
  rw [hc]
  congr 1
  · show (keys t.adj).filterMap (fun n => (get? t.nodeMeta n).map (fun md => (n, md))) = _
    apply filterMap_eq_map
    intro n hn
    obtain ⟨m, hm⟩ := Option.isSome_iff_exists.mp ((v.nm_same n).trans ((isSome_get?_iff _ _).mpr hn))
    rw [v.nodeMeta, get?_mapVals, hm]; rfl
  · show t.edgeList.filterMap _ = _
    apply filterMap_eq_map
    intro p hp
    have hl : (get? t.rev p.2).isSome = true := by
      rw [v.rev_of_edge p.1 p.2 (get?_of_mem _ _ _ v.el_nodup hp)]; rfl
    obtain ⟨w, hw⟩ := Option.isSome_iff_exists.mp ((v.w_dom p.2).trans hl)
    obtain ⟨m, hm⟩ := Option.isSome_iff_exists.mp ((v.m_dom p.2).trans hl)
    show (match get? t.weights p.2, get? t.edgeMeta p.2 with
      | some w, some md => some (p.1, w, md)
      | _, _ => none) = _
    rw [v.weights, v.edgeMeta, get?_mapVals, get?_mapVals, hw, hm]
    rfl

theorem StoreView.content_eq_of_keys (v : StoreView t nm em ws) (hk : keys t.adj = keys nm) (d : Int) :
    content t = ⟨mapVals metaTree nm,
      t.edgeList.map (fun p => (p.1, Num.flt ((get? ws p.2).getD d), metaTree ((get? em p.2).getD []))),
      t.hmeta, t.weighted⟩ := by
  rw [v.content_eq d, hk, map_keys_getD metaTree [] nm v.nm_nodup]

end view

def ofC01 (s : C01.Store) : Tables KH where
  adj := s.adj
  edgeList := s.edgeList
  rev := s.rev
  weights := mapVals Num.flt s.weights
  edgeMeta := mapVals metaTree s.emeta
  nodeMeta := mapVals metaTree s.nmeta
  hmeta := metaTree s.hmeta
  weighted := s.weighted
  nextId := s.nextId

theorem view_C01 {s : C01.Store} (h : C01.Inv s) : StoreView (ofC01 s) s.nmeta s.emeta s.weights where
  nodeMeta := rfl
  weights := rfl
  edgeMeta := rfl
  adj_nodup := h.adj_nodup
  nm_nodup := h.nm_keys ▸ h.adj_nodup
  nm_same n := Bool.eq_iff_iff.mpr (by rw [isSome_get?_iff, isSome_get?_iff, h.nm_keys]; rfl)
  el_nodup := h.el_nodup
  rev_of_edge := h.rev_of_edge
  id_lt := h.id_lt
  w_dom := h.w_dom
  m_dom := h.m_dom
  key_canon k id hk := by
    show sortNat k = k
    rw [sortNat_eq, ← C01.canon_eq]; exact (h.key_canon k id hk).2

theorem C07_link_C01 (s : C01.Store) (h : C01.Inv s) : WF (ofC01 s) := (view_C01 h).wf

/-- the abstract specification state of C01 (`C01.Spec`: nodes ↦ metadata, node sets ↦ (weight, metadata)) as a
C07 content -/
def ofSpec01 (a : C01.Spec) : Content KH where
  nodes := mapVals metaTree a.nodes
  edges := a.edges.map (fun p => (p.1, Num.flt p.2.1, metaTree p.2.2))
  hmeta := metaTree a.hmeta
  weighted := a.weighted

theorem content_ofC01 (s : C01.Store) (h : C01.Inv s) : content (ofC01 s) = ofSpec01 (C01.abs s) := by
  rw [(view_C01 h).content_eq_of_keys h.nm_keys.symm 0]
  unfold ofSpec01 C01.abs
  simp only [List.map_map, Function.comp_def]
  rfl

/-- **Hypergraph, full API.** Two reachable states of the complete model of `Hypergraph` (C01: all 18 mutating calls,
`copy`, batched calls, attribute setters; `C01_inv` gives `Inv`, `C01_refines_state` gives `abs (run …) = Spec.run …`)
whose ABSTRACT SPEC states are the same content hash equally - for any `dumps` and `H`. -/
theorem C07_equal_C01 {Digest : Type} (dumps : JTree → String) (H : String → Digest) (s s' : C01.Store)
    (h : C01.Inv s) (h' : C01.Inv s') (e : (ofSpec01 (C01.abs s)).Equiv (ofSpec01 (C01.abs s'))) :
    hashOf dumps H (ofC01 s) = hashOf dumps H (ofC01 s') :=
  hashOf_congr (C07_link_C01 s h) (C07_link_C01 s' h') (by rwa [content_ofC01 s h, content_ofC01 s' h'])

/-- the difference direction for the full model: different abstract spec contents hash differently, under the two
explicit hypotheses `dumps` injective on serialized trees and `H` injective on ALL strings (more than `C07_differ` asks,
which needs `H` on the two texts only) -/
theorem C07_differ_C01 {Digest : Type} (dumps : JTree → String) (H : String → Digest) (s s' : C01.Store)
    (h : C01.Inv s) (h' : C01.Inv s') (e : ¬ (ofSpec01 (C01.abs s)).Equiv (ofSpec01 (C01.abs s')))
    (hd : ∀ a b : JTree, dumps (ser a) = dumps (ser b) → ser a = ser b) (hH : ∀ x y : String, H x = H y → x = y) :
    hashOf dumps H (ofC01 s) ≠ hashOf dumps H (ofC01 s') := fun he =>
  e (by rw [← content_ofC01 s h, ← content_ofC01 s' h']
        exact hashOf_inj (C07_link_C01 s h) (C07_link_C01 s' h') hd (hH _ _) he)

def ofC02 (s : C02.Store) : Tables KD where
  adj := s.adjS
  adjT := s.adjT
  edgeList := s.edgeList
  rev := s.rev
  weights := mapVals Num.flt s.weights
  edgeMeta := mapVals metaTree s.emeta
  nodeMeta := mapVals metaTree s.nmeta
  hmeta := metaTree s.hmeta
  weighted := s.weighted
  nextId := s.nextId

theorem view_C02 {s : C02.Store} (h : C02.Inv s) : StoreView (ofC02 s) s.nmeta s.emeta s.weights where
  nodeMeta := rfl
  weights := rfl
  edgeMeta := rfl
  adj_nodup := h.nd_adjS
  nm_nodup := h.nd_nm
  nm_same := h.nmeta_same
  el_nodup := h.nd_edge
  rev_of_edge := h.rev_of_edge
  id_lt := h.id_lt
  w_dom := h.weights_same
  m_dom := h.emeta_same
  key_canon k id hk := by
    have kw := h.key_wf id k (h.rev_of_edge k id hk)
    show (sortNat k.1, sortNat k.2) = k
    rw [sortNat_of_sorted kw.sortedS, sortNat_of_sorted kw.sortedT]

theorem C07_link_C02 (s : C02.Store) (h : C02.Inv s) : WF (ofC02 s) := (view_C02 h).wf

def ofSpec02 (a : C02.Spec) : Content KD where
  nodes := mapVals metaTree a.nodes
  edges := a.edges.map (fun p => (p.1, Num.flt p.2.1, metaTree p.2.2))
  hmeta := metaTree a.hmeta
  weighted := a.weighted

theorem content_ofC02 (s : C02.Store) (h : C02.Inv s) : content (ofC02 s) = ofSpec02 (C02.abs s) := by
  rw [(view_C02 h).content_eq 0]
  unfold ofSpec02 C02.abs mapVals
  simp only [List.map_map, Function.comp_def]
  rfl

/-- **DirectedHypergraph, full API**: reachable states (`C02_inv`) whose abstract spec states are the same content
hash equally -/
theorem C07_equal_C02 {Digest : Type} (dumps : JTree → String) (H : String → Digest) (s s' : C02.Store)
    (h : C02.Inv s) (h' : C02.Inv s') (e : (ofSpec02 (C02.abs s)).Equiv (ofSpec02 (C02.abs s'))) :
    hashOf dumps H (ofC02 s) = hashOf dumps H (ofC02 s') :=
  hashOf_congr (C07_link_C02 s h) (C07_link_C02 s' h') (by rwa [content_ofC02 s h, content_ofC02 s' h'])

/-- the difference direction for the full model: different abstract spec contents hash differently, under the two
explicit hypotheses `dumps` injective on serialized trees and `H` injective on ALL strings (more than `C07_differ` asks,
which needs `H` on the two texts only) -/
theorem C07_differ_C02 {Digest : Type} (dumps : JTree → String) (H : String → Digest) (s s' : C02.Store)
    (h : C02.Inv s) (h' : C02.Inv s') (e : ¬ (ofSpec02 (C02.abs s)).Equiv (ofSpec02 (C02.abs s')))
    (hd : ∀ a b : JTree, dumps (ser a) = dumps (ser b) → ser a = ser b) (hH : ∀ x y : String, H x = H y → x = y) :
    hashOf dumps H (ofC02 s) ≠ hashOf dumps H (ofC02 s') := fun he =>
  e (by rw [← content_ofC02 s h, ← content_ofC02 s' h']
        exact hashOf_inj (C07_link_C02 s h) (C07_link_C02 s' h') hd (hH _ _) he)

/-! ## TemporalHypergraph

`TemporalHypergraph.get_nodes()` lists `_node_metadata.keys()` (as `MultiplexHypergraph` does); the node table of the
C07 view is read from `_node_metadata` (same key set as `_adj` by `C03.NT`). -/

def ofC03 (s : C03.Store) : Tables KT where
  adj := mapVals (fun _ => ([] : List Nat)) s.nmeta
  edgeList := s.edgeList
  rev := s.rev
  weights := mapVals Num.flt s.weights
  edgeMeta := mapVals metaTree s.emeta
  nodeMeta := mapVals metaTree s.nmeta
  hmeta := metaTree s.hmeta
  weighted := s.weighted
  nextId := s.nextId

theorem view_C03 {s : C03.Store} (h : C03.Inv s) : StoreView (ofC03 s) s.nmeta s.emeta s.weights where
  nodeMeta := rfl
  weights := rfl
  edgeMeta := rfl
  adj_nodup := nodup_keys_mapVals (fun _ => ([] : List Nat)) h.nt.nmetaNodup
  nm_nodup := h.nt.nmetaNodup
  nm_same n := (isSome_get?_mapVals (fun _ => ([] : List Nat)) s.nmeta n).symm
  el_nodup := h.keysNodup
  rev_of_edge := h.rev_of_edge
  id_lt := h.id_lt
  w_dom id := Bool.eq_iff_iff.mpr (h.wKeys id)
  m_dom id := Bool.eq_iff_iff.mpr (h.mKeys id)
  key_canon k id hk := by
    show (k.1, sortNat k.2) = k
    rw [sortNat_of_sorted (h.keyCanon k id hk).1]

theorem C07_link_C03 (s : C03.Store) (h : C03.Inv s) : WF (ofC03 s) := (view_C03 h).wf

def ofSpec03 (a : C03.Spec) : Content KT where
  nodes := mapVals metaTree a.nodes
  edges := a.recs.map (fun p => (p.1, Num.flt p.2.1, metaTree p.2.2))
  hmeta := metaTree a.hmeta
  weighted := a.weighted

theorem content_ofC03 (s : C03.Store) (h : C03.Inv s) : content (ofC03 s) = ofSpec03 (C03.abs s) := by
  rw [(view_C03 h).content_eq_of_keys (keys_mapVals (fun _ => ([] : List Nat)) s.nmeta) C03.one]
  unfold ofSpec03 C03.abs C03.records
  simp only [List.map_map, Function.comp_def]
  rfl

/-- **TemporalHypergraph, full API**: reachable states (`C03_inv`) whose abstract spec states are the same content
hash equally -/
theorem C07_equal_C03 {Digest : Type} (dumps : JTree → String) (H : String → Digest) (s s' : C03.Store)
    (h : C03.Inv s) (h' : C03.Inv s') (e : (ofSpec03 (C03.abs s)).Equiv (ofSpec03 (C03.abs s'))) :
    hashOf dumps H (ofC03 s) = hashOf dumps H (ofC03 s') :=
  hashOf_congr (C07_link_C03 s h) (C07_link_C03 s' h') (by rwa [content_ofC03 s h, content_ofC03 s' h'])

/-- the difference direction for the full model: different abstract spec contents hash differently, under the two
explicit hypotheses `dumps` injective on serialized trees and `H` injective on ALL strings (more than `C07_differ` asks,
which needs `H` on the two texts only) -/
theorem C07_differ_C03 {Digest : Type} (dumps : JTree → String) (H : String → Digest) (s s' : C03.Store)
    (h : C03.Inv s) (h' : C03.Inv s') (e : ¬ (ofSpec03 (C03.abs s)).Equiv (ofSpec03 (C03.abs s')))
    (hd : ∀ a b : JTree, dumps (ser a) = dumps (ser b) → ser a = ser b) (hH : ∀ x y : String, H x = H y → x = y) :
    hashOf dumps H (ofC03 s) ≠ hashOf dumps H (ofC03 s') := fun he =>
  e (by rw [← content_ofC03 s h, ← content_ofC03 s' h']
        exact hashOf_inj (C07_link_C03 s h) (C07_link_C03 s' h') hd (hH _ _) he)

/-! ## MultiplexHypergraph

`MultiplexHypergraph.get_nodes()` lists `_node_metadata.keys()`, and `C04.Inv` does not state that `_adj` lists a node
once; the node table of the C07 view is therefore read from `_node_metadata` (same key set as `_adj` by `C04.NM`). -/

def ofC04 (s : C04.Store) : Tables KM where
  adj := mapVals (fun _ => ([] : List Nat)) s.nmeta
  edgeList := s.edgeList
  rev := s.rev
  weights := mapVals Num.flt s.weights
  edgeMeta := mapVals metaTree s.emeta
  nodeMeta := mapVals metaTree s.nmeta
  hmeta := metaTree s.hmeta
  weighted := s.weighted
  nextId := s.nextId

theorem view_C04 {s : C04.Store} (h : C04.Inv s) : StoreView (ofC04 s) s.nmeta s.emeta s.weights where
  nodeMeta := rfl
  weights := rfl
  edgeMeta := rfl
  adj_nodup := nodup_keys_mapVals (fun _ => ([] : List Nat)) h.nm.nm_nodup
  nm_nodup := h.nm.nm_nodup
  nm_same n := (isSome_get?_mapVals (fun _ => ([] : List Nat)) s.nmeta n).symm
  el_nodup := h.id.el_nodup
  rev_of_edge := h.id.rev_of_edge
  id_lt := h.id.id_lt
  w_dom id := Bool.eq_iff_iff.mpr (h.id.w_some id)
  m_dom id := Bool.eq_iff_iff.mpr (h.id.em_some id)
  key_canon k id hk := by
    show (sortNat k.1, k.2) = k
    rw [sortNat_of_sorted (h.id.key_sorted id k (h.id.rev_of_edge k id hk)).le]

theorem C07_link_C04 (s : C04.Store) (h : C04.Inv s) : WF (ofC04 s) := (view_C04 h).wf

def ofSpec04 (a : C04.Spec) : Content KM where
  nodes := mapVals metaTree a.nodes
  edges := a.edges.map (fun p => (p.1, Num.flt p.2.1, metaTree p.2.2))
  hmeta := metaTree a.hmeta
  weighted := a.weighted

theorem content_ofC04 (s : C04.Store) (h : C04.Inv s) : content (ofC04 s) = ofSpec04 (C04.abs s) := by
  rw [(view_C04 h).content_eq_of_keys (keys_mapVals (fun _ => ([] : List Nat)) s.nmeta) C04.one]
  unfold ofSpec04 C04.abs
  simp only [List.map_map, Function.comp_def]
  rfl

/-- **MultiplexHypergraph, full API**: reachable states (`C04_inv`; `C04_refines`: `abs (run …) = Spec.run …`) whose
abstract spec states are the same content hash equally -/
theorem C07_equal_C04 {Digest : Type} (dumps : JTree → String) (H : String → Digest) (s s' : C04.Store)
    (h : C04.Inv s) (h' : C04.Inv s') (e : (ofSpec04 (C04.abs s)).Equiv (ofSpec04 (C04.abs s'))) :
    hashOf dumps H (ofC04 s) = hashOf dumps H (ofC04 s') :=
  hashOf_congr (C07_link_C04 s h) (C07_link_C04 s' h') (by rwa [content_ofC04 s h, content_ofC04 s' h'])

/-- the difference direction for the full model: different abstract spec contents hash differently, under the two
explicit hypotheses `dumps` injective on serialized trees and `H` injective on ALL strings (more than `C07_differ` asks,
which needs `H` on the two texts only) -/
theorem C07_differ_C04 {Digest : Type} (dumps : JTree → String) (H : String → Digest) (s s' : C04.Store)
    (h : C04.Inv s) (h' : C04.Inv s') (e : ¬ (ofSpec04 (C04.abs s)).Equiv (ofSpec04 (C04.abs s')))
    (hd : ∀ a b : JTree, dumps (ser a) = dumps (ser b) → ser a = ser b) (hH : ∀ x y : String, H x = H y → x = y) :
    hashOf dumps H (ofC04 s) ≠ hashOf dumps H (ofC04 s') := fun he =>
  e (by rw [← content_ofC04 s h, ← content_ofC04 s' h']
        exact hashOf_inj (C07_link_C04 s h) (C07_link_C04 s' h') hd (hH _ _) he)

end C07
