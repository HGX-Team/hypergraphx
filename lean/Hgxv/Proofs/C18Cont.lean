import Hgxv.Model.C18
import Mathlib.Algebra.Order.Field.Rat
/-! C18, contagion: the attempt loops, one node, one sweep.  Everything about a sweep goes through `step_spec`
(each node is decided once, from the old state) and the two equations `newVal_susceptible` / `newVal_infected`. -/
namespace C18

/-- the attempt loop after dropping the candidates whose condition is false: `k` attempts, stop at the first success -/
def tries (f : Nat → Rat) (rate : Rat) : Nat → Nat → Bool × Nat
  | 0, p => (false, p)
  | k + 1, p => if f p < rate then (true, p + 1) else tries f rate k (p + 1)

/-- the loop only depends on how many conditions hold, not on their order -/
theorem loopHits_eq_tries (f : Nat → Rat) (rate : Rat) (cs : List Bool) (p : Nat) :
    loopHits f rate cs p = tries f rate (cs.count true) p := by
  induction cs generalizing p with
  | nil => rfl
  | cons c cs ih =>
    cases c with
    | true => simp only [loopHits, if_true, List.count_cons_self, tries, ih]
    | false => simpa [loopHits] using ih p

theorem count_true_pos (cs : List Bool) : 0 < cs.count true ↔ cs.any id = true := by
  rw [List.count_pos_iff, List.any_eq_true]
  exact ⟨fun h => ⟨true, h, rfl⟩, fun ⟨x, hx, hx'⟩ => by cases x <;> first | exact hx | cases hx'⟩

theorem loopHits_none (f : Nat → Rat) (rate : Rat) (cs : List Bool) (p : Nat) (h : cs.any id = false) :
    loopHits f rate cs p = (false, p) := by
  have : cs.count true = 0 := Nat.eq_zero_of_not_pos (fun hp => by rw [(count_true_pos cs).mp hp] at h; cases h)
  rw [loopHits_eq_tries, this]; rfl

theorem loopHits_fail (f : Nat → Rat) (rate : Rat) (h : ∀ n, ¬ f n < rate) (cs : List Bool) (p : Nat) :
    (loopHits f rate cs p).1 = false := by
  rw [loopHits_eq_tries]
  generalize cs.count true = k
  induction k generalizing p with
  | zero => rfl
  | succ k ih => rw [tries, if_neg (h p)]; exact ih _

theorem loopHits_succeed (f : Nat → Rat) (rate : Rat) (h : ∀ n, f n < rate) (cs : List Bool) (p : Nat) :
    (loopHits f rate cs p).1 = cs.any id := by
  cases ha : cs.any id with
  | false => rw [loopHits_none f rate cs p ha]
  | true =>
    obtain ⟨k, hk⟩ : ∃ k, cs.count true = k + 1 := ⟨_, (Nat.succ_pred_eq_of_pos ((count_true_pos cs).mpr ha)).symm⟩
    rw [loopHits_eq_tries, hk, tries, if_pos (h p)]

theorem loopHits_01 (f : Nat → Rat) (hf : UnitDraws f) (rate : Rat) (h : rate = 0 ∨ rate = 1) (cs : List Bool) (p : Nat) :
    (loopHits f rate cs p).1 = (decide (rate = 1) && cs.any id) := by
  rcases h with rfl | rfl
  · rw [loopHits_fail f 0 (fun n => not_lt.mpr (hf n).1)]; rfl
  · rw [loopHits_succeed f 1 (fun n => (hf n).2)]; rfl

theorem any_map_id {α} (l : List α) (c : α → Bool) : (l.map c).any id = l.any c := by
  rw [List.any_map]; rfl

theorem mem_pairNbrs (es : List Edge) (nodes : List Nat) (v u : Nat) :
    u ∈ pairNbrs es nodes v ↔ u ∈ nodes ∧ u ≠ v ∧ ∃ e ∈ es, e.length = 2 ∧ v ∈ e ∧ u ∈ e := by
  simp [pairNbrs, and_assoc]

theorem mem_triplets (es : List Edge) (v : Nat) (e : Edge) : e ∈ triplets es v ↔ e ∈ es ∧ e.length = 3 ∧ v ∈ e := by
  simp [triplets]

theorem triHit_iff (I : Nat → Bool) (v : Nat) (e : Edge) : triHit I v e = true ↔ ∀ u ∈ e, u ≠ v → I u = true := by
  simp [triHit, or_iff_not_imp_left]

/-- new value of node `v` and new stream position when the sweep reaches `v` at position `p` -/
def newVal (es : List Edge) (nodes : List Nat) (r : Rates) (f : Nat → Rat) (I : Nat → Bool) (v p : Nat) : Bool × Nat :=
  if I v = false then infect es nodes r f I v p else recover r f p

theorem newVal_susceptible (es : List Edge) (nodes : List Nat) (r : Rates) (f : Nat → Rat) (I : Nat → Bool) (v q : Nat)
    (hI : I v = false) :
    (newVal es nodes r f I v q).1 =
      ((loopHits f r.beta ((pairNbrs es nodes v).map I) q).1
        || (loopHits f r.betaD ((triplets es v).map (triHit I v))
              (loopHits f r.beta ((pairNbrs es nodes v).map I) q).2).1) := by
  rw [newVal, if_pos hI, infect]
  cases (loopHits f r.beta ((pairNbrs es nodes v).map I) q).1 <;> rfl

theorem newVal_infected (es : List Edge) (nodes : List Nat) (r : Rates) (f : Nat → Rat) (I : Nat → Bool) (v q : Nat)
    (hI : I v = true) : (newVal es nodes r f I v q).1 = !decide (f q < r.mu) := by
  rw [newVal, if_neg (by rw [hI]; exact Bool.noConfusion), recover]

theorem setI_self (J : Nat → Bool) (v : Nat) : setI J v (J v) = J := by
  funext u; unfold setI; split
  · next h => rw [h]
  · rfl

theorem nodeStep_eq (es : List Edge) (nodes : List Nat) (r : Rates) (f : Nat → Rat) (Iold : Nat → Bool)
    (st : (Nat → Bool) × Nat) (v : Nat) (h : st.1 v = Iold v) :
    nodeStep es nodes r f Iold st v
      = (setI st.1 v (newVal es nodes r f Iold v st.2).1, (newVal es nodes r f Iold v st.2).2) := by
  unfold nodeStep newVal
  cases hI : Iold v with
  | false =>
    rw [hI] at h
    simp only [if_true, infect]
    cases (loopHits f r.beta (List.map Iold (pairNbrs es nodes v)) st.2).1 with
    | true => simp [setI]
    | false =>
      simp only [Bool.false_eq_true, if_false, h]
      cases (loopHits f r.betaD (List.map (triHit Iold v) (triplets es v))
        (loopHits f r.beta (List.map Iold (pairNbrs es nodes v)) st.2).2).1 with
      | true => rfl
      | false => simp only [Bool.false_eq_true, if_false]; rw [← h, setI_self]
  | true =>
    rw [hI] at h
    simp only [Bool.true_eq_false, if_false, recover]
    by_cases hm : f st.2 < r.mu
    · simp [hm]
    · simp only [hm, if_false, decide_false, Bool.not_false]; rw [← h, setI_self]

theorem fold_spec (es : List Edge) (nodes : List Nat) (r : Rates) (f : Nat → Rat) (Iold : Nat → Bool) :
    ∀ (l : List Nat) (st : (Nat → Bool) × Nat), l.Nodup → (∀ v ∈ l, st.1 v = Iold v) →
      (∀ u, u ∉ l → (l.foldl (nodeStep es nodes r f Iold) st).1 u = st.1 u) ∧
      (∀ v, v ∈ l → ∃ q, (l.foldl (nodeStep es nodes r f Iold) st).1 v = (newVal es nodes r f Iold v q).1) := by
  intro l
  induction l with
  | nil => intro st _ _; exact ⟨fun _ _ => rfl, fun _ h => nomatch h⟩
  | cons v l ih =>
    intro st hnd hst
    have hvl : v ∉ l := (List.nodup_cons.mp hnd).1
    rw [List.foldl_cons, nodeStep_eq es nodes r f Iold st v (hst v List.mem_cons_self)]
    have hne : ∀ u, u ≠ v → setI st.1 v (newVal es nodes r f Iold v st.2).1 u = st.1 u := fun u hu => if_neg hu
    obtain ⟨h1, h2⟩ := ih (setI st.1 v (newVal es nodes r f Iold v st.2).1, (newVal es nodes r f Iold v st.2).2)
      (List.nodup_cons.mp hnd).2
      (fun w hw => (hne w (fun e => hvl (e ▸ hw))).trans (hst w (List.mem_cons_of_mem _ hw)))
    constructor
    · intro u hu
      rw [h1 u (fun m => hu (List.mem_cons_of_mem _ m))]
      exact hne u (fun e => hu (e ▸ List.mem_cons_self))
    · intro w hw
      rcases List.mem_cons.mp hw with rfl | hw
      · exact ⟨st.2, (h1 w hvl).trans (if_pos rfl)⟩
      · exact h2 w hw

/-- every node of `nodes` is decided once, from the old state, at some stream position; all other keys
keep their value -/
theorem step_spec (es : List Edge) (nodes : List Nat) (hnd : nodes.Nodup) (r : Rates) (f : Nat → Rat)
    (I : Nat → Bool) (p : Nat) :
    (∀ u, u ∉ nodes → (step es nodes r f I p).1 u = I u) ∧
    (∀ v, v ∈ nodes → ∃ q, (step es nodes r f I p).1 v = (newVal es nodes r f I v q).1) :=
  fold_spec es nodes r f I nodes (I, p) hnd (fun _ _ => rfl)

theorem step_value (es : List Edge) (nodes : List Nat) (hnd : nodes.Nodup) (r : Rates) (f : Nat → Rat)
    (I : Nat → Bool) (p v : Nat) (b : Bool) (hout : v ∉ nodes → I v = b)
    (hin : v ∈ nodes → ∀ q, (newVal es nodes r f I v q).1 = b) : (step es nodes r f I p).1 v = b := by
  obtain ⟨h1, h2⟩ := step_spec es nodes hnd r f I p
  by_cases hv : v ∈ nodes
  · obtain ⟨q, hq⟩ := h2 v hv
    rw [hq, hin hv q]
  · rw [h1 v hv, hout hv]

theorem newVal_det (es : List Edge) (nodes : List Nat) (r : Rates) (f : Nat → Rat) (hf : UnitDraws f)
    (hb : r.beta = 0 ∨ r.beta = 1) (hbd : r.betaD = 0 ∨ r.betaD = 1) (hmu : r.mu = 0 ∨ r.mu = 1)
    (I : Nat → Bool) (v q : Nat) :
    (newVal es nodes r f I v q).1 =
      if I v = false then
        (decide (r.beta = 1) && (pairNbrs es nodes v).any I)
          || (decide (r.betaD = 1) && (triplets es v).any (triHit I v))
      else decide (r.mu ≠ 1) := by
  cases hI : I v with
  | false =>
    rw [newVal_susceptible es nodes r f I v q hI, loopHits_01 f hf _ hb, loopHits_01 f hf _ hbd, any_map_id, any_map_id]
    rfl
  | true =>
    rw [newVal_infected es nodes r f I v q hI]
    rcases hmu with hmu | hmu
    · rw [hmu, decide_eq_false (not_lt.mpr (hf q).1)]; rfl
    · rw [hmu, decide_eq_true (hf q).2]; rfl

theorem step_det (es : List Edge) (nodes : List Nat) (hnd : nodes.Nodup) (r : Rates) (f : Nat → Rat) (hf : UnitDraws f)
    (hb : r.beta = 0 ∨ r.beta = 1) (hbd : r.betaD = 0 ∨ r.betaD = 1) (hmu : r.mu = 0 ∨ r.mu = 1)
    (I : Nat → Bool) (p : Nat) : (step es nodes r f I p).1 = spread es nodes r I := by
  funext v
  apply step_value es nodes hnd r f I p v
  · intro hv; simp [spread, hv]
  · intro hv q; rw [newVal_det es nodes r f hf hb hbd hmu]; simp [spread, hv]

theorem step_mu0 (es : List Edge) (nodes : List Nat) (hnd : nodes.Nodup) (r : Rates) (f : Nat → Rat)
    (hf : ∀ n, 0 ≤ f n) (hmu : r.mu = 0) (I : Nat → Bool) (p v : Nat) (hI : I v = true) :
    (step es nodes r f I p).1 v = true :=
  step_value es nodes hnd r f I p v true (fun _ => hI) (fun _ q => by
    rw [newVal_infected es nodes r f I v q hI, hmu, decide_eq_false (not_lt.mpr (hf q))]; rfl)

theorem step_beta0 (es : List Edge) (nodes : List Nat) (hnd : nodes.Nodup) (r : Rates) (f : Nat → Rat)
    (hf : ∀ n, 0 ≤ f n) (hb : r.beta = 0) (hbd : r.betaD = 0) (I : Nat → Bool) (p v : Nat)
    (hI : (step es nodes r f I p).1 v = true) : I v = true := by
  cases hIv : I v with
  | true => rfl
  | false =>
    rw [← hI]
    have h0 : ∀ n, ¬ f n < 0 := fun n => not_lt.mpr (hf n)
    exact (step_value es nodes hnd r f I p v false (fun _ => hIv) (fun _ q => by
      rw [newVal_susceptible es nodes r f I v q hIv, hb, hbd, loopHits_fail f 0 h0, loopHits_fail f 0 h0]; rfl)).symm

theorem infected_mono (keys : List Nat) (I J : Nat → Bool) (h : ∀ v, I v = true → J v = true) :
    infected keys I ≤ infected keys J := by
  unfold infected
  rw [← List.countP_eq_length_filter, ← List.countP_eq_length_filter]
  exact List.countP_mono_left (fun v _ => h v)

theorem infected_le (keys : List Nat) (I : Nat → Bool) : infected keys I ≤ keys.length :=
  List.length_filter_le _ _

end C18
