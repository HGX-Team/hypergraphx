import Hgxv.Proofs.C20Cent
import Mathlib.Tactic.Ring
import Mathlib.Algebra.Order.Field.Rat
import Mathlib.Algebra.Order.Field.Basic
import Mathlib.Data.List.Nodup
/-! The rational-number half of the facts about `closeness` / `betweenness` (`Model/C20Cent.lean`): the pair dependencies of the
inner vertices of a pair add up to `distance - 1`, the sum of all betweenness values, ranges of the values. (Mathlib: `ring`,
order lemmas of fields.) -/
namespace C20
variable {V : Type} [DecidableEq V]

theorem pairDep_eq (g : Graph V) (s t v : V) (d : Nat) (hd : dist g s t = some d) :
    pairDep (levels g s) (levels g v) v t = (thru g s t d v : Rat) / (walkCount g s d t : Rat) := by
  rw [thru_eq g s t v d hd]
  unfold pairDep
  rw [distSigma_eq g s t, distSigma_eq g s v, distSigma_eq g v t, hd]
  cases ha : dist g s v with
  | none => simp
  | some a =>
    cases hb : dist g v t with
    | none =>
      have hz : walkCount g v (d - a) t = 0 := walkCount_eq_zero g v t _ ((dist_none g v t).mp hb (d - a))
      simp [hz]
    | some b =>
      simp only [Option.map_some]
      by_cases hab : a + b = d
      · rw [if_pos hab, if_pos (by omega), show d - a = b by omega]
      · -- `d ≤ a + b` (triangle) and `≠`: `d - a < b`, so no walk of length `d - a` reaches `t` from `v` and `thru` vanishes too
        have htri := dist_triangle g s v t a b d ha hb hd
        by_cases h4 : a ≤ d
        · have hz : walkCount g v (d - a) t = 0 :=
            walkCount_eq_zero g v t _ (((dist_spec g v t b).mp hb).2 (d - a) (by omega))
          simp [hab, hz]
        · simp [hab, h4]

theorem qsum_div {β : Type} (l : List β) (f : β → Nat) (c : Rat) :
    (l.map fun v => (f v : Rat) / c).sum = (((l.map f).sum : Nat) : Rat) / c := by
  induction l with
  | nil => simp
  | cons a t ih => simp only [List.map_cons, List.sum_cons, ih, Nat.cast_add, add_div]

/-- **Sum identity.** For two different vertices `s`, `t` at distance `d` the pair dependencies `σ_st(v)/σ_st` of all OTHER
vertices add up to `d - 1` (every shortest path has `d - 1` inner vertices). -/
theorem pairDep_sum (g : Graph V) (hn : g.verts.Nodup) (s t : V) (hst : s ≠ t) (d : Nat) (hd : dist g s t = some d) :
    (((g.verts.filter (· ≠ s)).filter (· ≠ t)).map fun v => pairDep (levels g s) (levels g v) v t).sum
      = ((d - 1 : Nat) : Rat) := by
  have hpos : 0 < walkCount g s d t := (reachIn_iff_walkCount g s d t).mp ((dist_spec g s t d).mp hd).1
  have hne : ((walkCount g s d t : Nat) : Rat) ≠ 0 := by
    exact_mod_cast Nat.pos_iff_ne_zero.mp hpos
  have : (((g.verts.filter (· ≠ s)).filter (· ≠ t)).map fun v => pairDep (levels g s) (levels g v) v t)
      = (((g.verts.filter (· ≠ s)).filter (· ≠ t)).map fun v => (thru g s t d v : Rat) / (walkCount g s d t : Rat)) :=
    List.map_congr_left fun v _ => pairDep_eq g s t v d hd
  rw [this, qsum_div, thru_others g hn s t hst d hd, Nat.cast_mul, mul_div_cancel_right₀ _ hne]

theorem pairDep_unreachable (g : Graph V) (s t v : V) (hd : dist g s t = none) :
    pairDep (levels g s) (levels g v) v t = 0 := by
  have : distSigma (levels g s) t = none := by
    unfold dist at hd
    rwa [Option.map_eq_none_iff] at hd
  simp only [pairDep, this]

theorem qsum_filter {β : Type} (l : List β) (p : β → Prop) [DecidablePred p] (f : β → Rat) :
    ((l.filter fun x => decide (p x)).map f).sum = (l.map fun x => if p x then f x else 0).sum := by
  induction l with
  | nil => rfl
  | cons a t ih =>
    rw [List.filter_cons]
    by_cases h : p a
    · simp only [h, decide_true, if_true, List.map_cons, List.sum_cons, ih]
    · simp only [h, decide_false, Bool.false_eq_true, if_false, List.map_cons, List.sum_cons, ih, zero_add]

theorem qsum_congr {β : Type} (l : List β) (f g : β → Rat) (h : ∀ x, x ∈ l → f x = g x) :
    (l.map f).sum = (l.map g).sum := by
  rw [List.map_congr_left h]

theorem qsum_add {β : Type} (l : List β) (f g : β → Rat) :
    (l.map fun y => f y + g y).sum = (l.map f).sum + (l.map g).sum := by
  induction l with
  | nil => simp
  | cons a t ih => simp only [List.map_cons, List.sum_cons, ih]; ring

theorem qsum_comm {β γ : Type} (l1 : List β) (l2 : List γ) (F : β → γ → Rat) :
    (l1.map fun x => (l2.map fun y => F x y).sum).sum = (l2.map fun y => (l1.map fun x => F x y).sum).sum := by
  induction l1 with
  | nil => simp only [List.map_nil, List.sum_nil]; exact (ratsum_zero l2 _ fun _ _ => rfl).symm
  | cons a t ih =>
    simp only [List.map_cons, List.sum_cons, ih]
    rw [← qsum_add]

theorem qsum_comm_ne (l : List V) (F : V → V → Rat) :
    (l.map fun x => ((l.filter (· ≠ x)).map fun y => F x y).sum).sum
      = (l.map fun y => ((l.filter (· ≠ y)).map fun x => F x y).sum).sum := by
  have h1 : ∀ x, ((l.filter (· ≠ x)).map fun y => F x y).sum = (l.map fun y => if y ≠ x then F x y else 0).sum :=
    fun x => qsum_filter l (· ≠ x) _
  have h2 : ∀ y, ((l.filter (· ≠ y)).map fun x => F x y).sum = (l.map fun x => if x ≠ y then F x y else 0).sum :=
    fun y => qsum_filter l (· ≠ y) _
  simp only [h1, h2]
  rw [qsum_comm]
  exact qsum_congr _ _ _ fun y _ => qsum_congr _ _ _ fun x _ => if_congr ne_comm rfl rfl

theorem qsum_div_const {β : Type} (l : List β) (f : β → Rat) (c : Rat) :
    (l.map fun v => f v / c).sum = (l.map f).sum / c := by
  induction l with
  | nil => simp
  | cons a t ih => simp only [List.map_cons, List.sum_cons, ih, add_div]

/-- contribution of the ordered pair `(s, t)` to the sum of all betweenness values: `d(s,t) - 1`, 0 when unreachable -/
def pairInner (g : Graph V) (s t : V) : Rat :=
  match dist g s t with
  | some d => ((d - 1 : Nat) : Rat)
  | none => 0

theorem rawBetweenness_sum (g : Graph V) (hn : g.verts.Nodup) :
    (g.verts.map (rawBetweenness g)).sum
      = (g.verts.map fun s => ((g.verts.filter (· ≠ s)).map fun t => pairInner g s t).sum).sum := by
  unfold rawBetweenness
  -- `v` and `s` change places, then `v` and `t` (inside the vertices other than `s`)
  rw [qsum_comm_ne g.verts fun v s => (((g.verts.filter (· ≠ v)).filter (· ≠ s)).map fun t => pairDep (levels g s) (levels g v) v t).sum]
  apply qsum_congr
  intro s _
  have hf : ∀ v, (g.verts.filter (· ≠ v)).filter (· ≠ s) = (g.verts.filter (· ≠ s)).filter (· ≠ v) := fun v => by
    rw [List.filter_filter, List.filter_filter]; simp only [Bool.and_comm]
  simp only [hf]
  rw [qsum_comm_ne (g.verts.filter (· ≠ s)) fun v t => pairDep (levels g s) (levels g v) v t]
  apply qsum_congr
  intro t ht
  have hts : t ≠ s := by simpa using (List.mem_filter.mp ht).2
  unfold pairInner
  cases hd : dist g s t with
  | none => exact ratsum_zero _ _ fun v _ => pairDep_unreachable g s t v hd
  | some d => exact pairDep_sum g hn s t (fun h => hts h.symm) d hd

theorem qsum_nonneg {β : Type} (l : List β) (f : β → Rat) (h : ∀ x, x ∈ l → 0 ≤ f x) : 0 ≤ (l.map f).sum := by
  induction l with
  | nil => simp
  | cons a t ih =>
    simp only [List.map_cons, List.sum_cons]
    exact add_nonneg (h a List.mem_cons_self) (ih fun x hx => h x (List.mem_cons_of_mem _ hx))

theorem pairDep_nonneg (ls lvv : List (List (V × Nat))) (v t : V) : 0 ≤ pairDep ls lvv v t := by
  unfold pairDep
  split
  · split
    · exact div_nonneg (Nat.cast_nonneg _) (Nat.cast_nonneg _)
    · exact le_refl _
  · exact le_refl _

theorem betweenness_nonneg (g : Graph V) (v : V) : 0 ≤ betweenness g v := by
  have hr : 0 ≤ rawBetweenness g v :=
    qsum_nonneg _ _ fun s _ => qsum_nonneg _ _ fun t _ => pairDep_nonneg _ _ v t
  rw [betweenness_eq_raw]
  split
  · exact div_nonneg hr (Nat.cast_nonneg _)
  · exact hr

theorem closeness_nonneg (g : Graph V) (v : V) : 0 ≤ closeness g v := by
  rw [closeness_formula]
  split
  · exact mul_nonneg (div_nonneg (Nat.cast_nonneg _) (Nat.cast_nonneg _)) (div_nonneg (Nat.cast_nonneg _) (Nat.cast_nonneg _))
  · exact le_refl _

omit [DecidableEq V] in
theorem length_le_sum_add_countP (l : List V) (f : V → Option Nat) :
    (l.filterMap f).length ≤ (l.filterMap f).sum + l.countP fun u => f u == some 0 := by
  induction l with
  | nil => exact Nat.le_refl 0
  | cons a t ih =>
    rw [List.filterMap_cons, List.countP_cons]
    cases hfa : f a with
    | none => exact ih
    | some d =>
      cases d with
      | zero =>
        show (t.filterMap f).length + 1 ≤ 0 + (t.filterMap f).sum + (t.countP (fun u => f u == some 0) + 1)
        omega
      | succ d =>
        show (t.filterMap f).length + 1 ≤ d + 1 + (t.filterMap f).sum + (t.countP (fun u => f u == some 0) + 0)
        omega

theorem ratio_mul_ratio_le_one (r tot m : Nat) (h1 : r ≤ tot) (h2 : r ≤ m) :
    ((r : Rat) / (tot : Rat)) * ((r : Rat) / (m : Rat)) ≤ 1 :=
  mul_le_one₀ (div_le_one_of_le₀ (Nat.cast_le.mpr h1) (Nat.cast_nonneg _))
    (div_nonneg (Nat.cast_nonneg _) (Nat.cast_nonneg _)) (div_le_one_of_le₀ (Nat.cast_le.mpr h2) (Nat.cast_nonneg _))

/-- closeness is at most 1, the lower bound being `closeness_nonneg` (vertex list duplicate-free, as in every networkx graph): `v` is the only vertex at distance 0,
so the number of OTHER reached vertices is at most the sum of the distances, and at most `n - 1` -/
theorem closeness_le_one (g : Graph V) (hn : g.verts.Nodup) (v : V) : closeness g v ≤ 1 := by
  rw [closeness_formula]
  split
  · have h0 : (g.verts.countP fun u => dist g v u == some 0) ≤ 1 :=
      (List.countP_mono_left fun u _ hu => by
        rw [beq_iff_eq] at hu ⊢; exact ((dist_spec g v u 0).mp hu).1.1).trans (List.nodup_iff_count_le_one.mp hn v)
    have h1 := length_le_sum_add_countP g.verts (dist g v)
    exact ratio_mul_ratio_le_one _ _ _ (by omega) (Nat.sub_le_sub_right (List.length_filterMap_le _ _) 1)
  · exact zero_le_one

end C20
