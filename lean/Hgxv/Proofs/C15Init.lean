import Hgxv.Model.C15Init
import Hgxv.Proofs.C15Exact
import Hgxv.Proofs.C15Witness
/-! # C15 — constructor, initial draws, the whole run of `fit` from the raw draws, `log_likelihood`
(lemmas about `Model/C15Init.lean`) -/
open Finset
namespace C15

theorem anyNeg_false_iff (x : List (List Rat)) : anyNeg x = false ↔ ∀ row ∈ x, ∀ v ∈ row, 0 ≤ v := by
  unfold anyNeg
  simp only [List.any_eq_false, List.any_eq_true, decide_eq_true_eq, not_exists, not_and, not_lt]

theorem symmetricB_iff (K : ℕ) (w : Mat) : symmetricB K w = true ↔ ∀ a < K, ∀ b < K, w a b = w b a := by
  unfold symmetricB
  simp only [allTo_iff, decide_eq_true_eq]

theorem upperZero_iff (K : ℕ) (w : Mat) : upperZero K w = true ↔ ∀ a < K, ∀ b < K, a < b → w a b = 0 := by
  unfold upperZero
  simp only [allTo_iff, decide_eq_true_eq]

/-- for a symmetric array "upper triangle zero" (`np.triu(w, 1) == 0`) is "diagonal" -/
theorem upperZero_diag (K : ℕ) (w : Mat) (hs : ∀ a < K, ∀ b < K, w a b = w b a) :
    upperZero K w = true ↔ ∀ a < K, ∀ b < K, a ≠ b → w a b = 0 := by
  rw [upperZero_iff]
  constructor
  · intro h a ha b hb hab
    rcases Nat.lt_or_gt_of_ne hab with hlt | hgt
    · exact h a ha b hb hlt
    · rw [hs a ha b hb]; exact h b hb a ha hgt
  · intro h a ha b hb hab
    exact h a ha b hb (Nat.ne_of_lt hab)

theorem checkW_none (ass : Bool) (w : List (List Rat)) (h : checkW ass w = none) :
    anyNeg w = false ∧ symmetricB w.length (matOf w) = true ∧ (ass = true → upperZero w.length (matOf w) = true) := by
  unfold checkW at h
  by_cases h1 : anyNeg w = true
  · simp [h1] at h
  · by_cases h2 : symmetricB w.length (matOf w) = true
    · by_cases h3 : ass = true
      · by_cases h4 : upperZero w.length (matOf w) = true
        · exact ⟨by simpa using h1, h2, fun _ => h4⟩
        · simp [h1, h2, h3, h4] at h
      · exact ⟨by simpa using h1, h2, fun h' => absurd h' h3⟩
    · simp [h1, h2] at h

theorem checkW_of (ass : Bool) (w : List (List Rat)) (h1 : anyNeg w = false) (h2 : symmetricB w.length (matOf w) = true)
    (h3 : ass = true → upperZero w.length (matOf w) = true) : checkW ass w = none := by
  unfold checkW
  cases ass with
  | false => simp [h1, h2]
  | true => simp [h1, h2, h3 rfl]

theorem construct_ok (c : Ctor) (h : Hyper) (hc : construct c = .ok h) :
    inferAssortative c = some h.assortative ∧ inferK c = some h.K ∧
    (∀ w, c.w = some w → checkW h.assortative w = none) ∧
    (∀ u, c.u = some u → anyNeg u = false) ∧
    (∀ u w, c.u = some u → c.w = some w → ncols u = w.length) := by
  unfold construct at hc
  split at hc
  · cases hc
  rename_i ass hA
  split at hc
  · cases hc
  rename_i K hK
  split at hc
  · cases hc
  rename_i hW
  split at hc
  · cases hc
  rename_i hU
  -- the last test: the shapes of `u` and `w` agree when both are supplied
  have hh : h = { K := K, assortative := ass } ∧ ∀ u w, c.u = some u → c.w = some w → ncols u = w.length := by
    split at hc
    · rename_i u w hu hw
      split at hc
      · rename_i hn
        exact ⟨(Except.ok.inj hc).symm, fun u' w' hu' hw' => by cases hu.symm.trans hu'; cases hw.symm.trans hw'; exact hn⟩
      · cases hc
    · rename_i hnone
      exact ⟨(Except.ok.inj hc).symm, fun u w hu hw => absurd hw (hnone u w hu)⟩
  obtain ⟨rfl, hn⟩ := hh
  exact ⟨hA, hK, fun w hw => by rw [hw] at hW; exact hW, fun u hu => by rw [hu] at hU; simpa using hU, hn⟩

theorem symUpper_symm (x : Mat) (a b : ℕ) : symUpper x a b = symUpper x b a := by
  unfold symUpper
  rcases Nat.lt_trichotomy a b with h | h | h
  · rw [if_pos (Nat.le_of_lt h), if_neg (by omega)]
  · subst h; rfl
  · rw [if_neg (by omega), if_pos (Nat.le_of_lt h)]

theorem symUpper_nonneg (x : Mat) (hx : ∀ a b, 0 ≤ x a b) (a b : ℕ) : 0 ≤ symUpper x a b := by
  unfold symUpper; split <;> exact hx _ _

theorem initWMat_symm (ass : Bool) (prior : Prior) (g : Mat) (a b : ℕ) :
    initWMat ass prior g a b = initWMat ass prior g b a := by
  unfold initWMat
  split
  · split
    · unfold diagOnly
      by_cases hab : a = b
      · subst hab; rfl
      · rw [if_neg hab, if_neg (fun h => hab h.symm)]
    · exact symUpper_symm _ a b
  · split
    · by_cases hab : a = b
      · subst hab; rfl
      · have hba : ¬ b = a := fun h => hab h.symm
        simp only [if_neg hab, if_neg hba]
    · exact symUpper_symm _ a b

theorem initWMat_nonneg (ass : Bool) (prior : Prior) (g : Mat) (hg : ∀ a b, 0 ≤ g a b)
    (hp : ∀ a b, 0 ≤ prior.mat a b) (a b : ℕ) : 0 ≤ initWMat ass prior g a b := by
  unfold initWMat
  split
  · split
    · unfold diagOnly; split
      · exact symUpper_nonneg g hg a b
      · exact le_refl 0
    · exact symUpper_nonneg g hg a b
  · split
    · by_cases hab : a = b
      · simp only [if_pos hab]; exact mul_nonneg (one_div_nonneg.mpr (hp a a)) (hg 0 a)
      · simp only [if_neg hab]; exact le_refl 0
    · exact symUpper_nonneg _ (fun a b => mul_nonneg (one_div_nonneg.mpr (hp a b)) (hg a b)) a b

theorem initWMat_diag (prior : Prior) (g : Mat) (a b : ℕ) (hab : a ≠ b) : initWMat true prior g a b = 0 := by
  unfold initWMat
  split
  · simp [diagOnly, hab]
  · simp [hab]

theorem initW_symm (K : ℕ) (ass : Bool) (prior : Prior) (g : List (List Rat)) (a b : ℕ) :
    matOf (initW K ass prior g) a b = matOf (initW K ass prior g) b a :=
  matOf_toRows_symm K _ a b (initWMat_symm ass prior _ a b)

theorem initW_nonneg (K : ℕ) (ass : Bool) (prior : Prior) (g : List (List Rat)) (hg : ∀ a b, 0 ≤ matOf g a b)
    (hp : ∀ a b, 0 ≤ prior.mat a b) (a b : ℕ) : 0 ≤ matOf (initW K ass prior g) a b :=
  matOf_toRows_nonneg _ _ _ (initWMat_nonneg ass prior _ hg hp) a b

theorem initW_diag (K : ℕ) (prior : Prior) (g : List (List Rat)) (a b : ℕ) (hab : a ≠ b) :
    matOf (initW K true prior g) a b = 0 :=
  matOf_toRows_zero K K _ a b (initWMat_diag prior _ a b hab)

theorem initU_nonneg (N K : ℕ) (prior : Prior) (g : List (List Rat)) (hg : ∀ i a, 0 ≤ matOf g i a)
    (hp : ∀ i a, 0 ≤ prior.mat i a) (i a : ℕ) : 0 ≤ matOf (initU N K prior g) i a := by
  unfold initU
  apply matOf_toRows_nonneg
  intro i a
  unfold initUMat
  split
  · exact hg i a
  · exact mul_nonneg (one_div_nonneg.mpr (hp i a)) (hg i a)

theorem emStep?_eq (d : Data) (fu fw : Bool) (ru rw : Mat) (p q : Params)
    (h : emStep? d fu fw ru rw p = some q) : q = emStep d fu fw ru rw p := by
  unfold emStep? at h
  split at h
  · cases h
  rename_i w' hw'
  split at h
  · cases h
  rename_i u' hu'
  cases h
  have e1 : w' = (emStep d fu fw ru rw p).w := by
    cases fw with
    | true => exact (Option.some.inj hw').symm
    | false =>
      obtain ⟨x, hx, rfl⟩ := Option.map_eq_some_iff.mp hw'
      cases (Option.ite_none_right_eq_some.mp hx).2
      rfl
  subst e1
  have e2 : u' = (emStep d fu fw ru rw p).u := by
    cases fu with
    | true => exact (Option.some.inj hu').symm
    | false =>
      obtain ⟨x, hx, rfl⟩ := Option.map_eq_some_iff.mp hu'
      cases (Option.ite_none_right_eq_some.mp hx).2
      rfl
  subst e2
  rfl

theorem emLoop?_supplied_u (d : Data) (us w0 : List (List Rat)) (ru rw : Mat)
    (hu : ∀ i a, 0 ≤ matOf us i a) (hw0 : ∀ a b, 0 ≤ matOf w0 a b) (hA : ∀ e < d.E, 0 < d.A e)
    (hr : ∀ a b, 0 ≤ rw a b)
    (hlam : ∀ e < d.E, 0 < poisson d.N d.K (matOf us) (matOf w0) (d.edge e)) (n : ℕ) :
    emLoop? d true false ru rw n { u := us, w := w0 } = some (emLoop d true false ru rw n { u := us, w := w0 }) := by
  induction n with
  | zero => rfl
  | succ n ih =>
    have hinv := emLoop_ascInv d us w0 ru rw hu hw0 hA hr hlam n
    have hm : multOk d (matOf us) (matOf (emLoop d true false ru rw n { u := us, w := w0 }).w) = true :=
      (multOk_iff d _ _).mpr fun e he => (hinv.lam_pos e he).ne'
    simp only [emLoop?, ih, Option.bind_some]
    unfold emStep? wUpdate?
    simp only [Bool.false_eq_true, if_false, if_true, emLoop_u_fixed, hm, Option.map_some]
    -- both divisions went through (`hm`; `u` is fixed): left is `some ⟨us, toRows ..⟩ = some (emStep .. (emLoop .. n ..))`, the memberships of `emLoop .. n` being `us`
    simp [emLoop, emStep, emLoop_u_fixed]

theorem finish_inv (Z : ℕ → ℕ → Prop) (d : Data) (fu fw : Bool) (c sqrtC : Rat) (hc : 0 ≤ c) (hs : 0 ≤ sqrtC)
    (p : Params) (hp : PInv Z p) : PInv Z (finish d fu fw c sqrtC p) := by
  unfold finish
  cases fw with
  | false =>
    simp only [Bool.not_false, if_true]
    exact ⟨hp.u_nonneg, matOf_toRows_nonneg _ _ _ (fun a b => div_nonneg (hp.w_nonneg a b) hc),
      fun a b => matOf_toRows_symm _ _ a b (congrArg (· / c) (hp.w_symm a b)),
      fun a b hz => matOf_toRows_zero _ _ _ a b (by rw [hp.w_zero a b hz, zero_div])⟩
  | true =>
    cases fu with
    | false =>
      simp only [Bool.not_true, Bool.false_eq_true, if_false, Bool.not_false, if_true]
      exact ⟨matOf_toRows_nonneg _ _ _ (fun i a => div_nonneg (hp.u_nonneg i a) hs), hp.w_nonneg, hp.w_symm, hp.w_zero⟩
    | true =>
      simp only [Bool.not_true, Bool.false_eq_true, if_false]
      exact hp

theorem fit_inv (Z : ℕ → ℕ → Prop) (d : Data) (uSup wSup : Option (List (List Rat))) (Dsup : Option ℕ)
    (u0 w0 : List (List Rat)) (ru rw : Mat) (sqrtC : Rat) (stop : Option Stop) (n D : ℕ) (p : Params)
    (hA : ∀ e < d.E, 0 ≤ d.A e) (hrs : ∀ a b, rw a b = rw b a) (hs : 0 ≤ sqrtC)
    (h0 : PInv Z { u := uSup.getD u0, w := wSup.getD w0 })
    (h : fit d uSup wSup Dsup u0 w0 ru rw sqrtC stop n = some (D, p)) : PInv Z p :=
  fit_keeps (PInv Z) d uSup wSup Dsup u0 w0 ru rw sqrtC stop n D p (emStep_inv Z d _ _ ru rw hA hrs)
    (finish_inv Z d _ _ _ sqrtC (C_nonneg D) hs) h0 h

theorem fitSeed_ok (s : Seed) (N : ℕ) (edges : List (List ℕ)) (A : List Rat) (D : ℕ) (p : Params) (it : ℕ) (reached : Bool)
    (h : fitSeed s N edges A = .ok D p it reached) :
    ∃ hy w0 u0, construct s.ctor = .ok hy ∧ seedW0 s hy = some w0 ∧ seedU0 s hy N = some u0 ∧
      fit (dataOf N hy.K edges A) s.ctor.u s.ctor.w s.Dsup u0 w0 s.uPrior.mat s.wPrior.mat s.sqrtC s.stop s.n = some (D, p) ∧
      it = (fitRun (dataOf N hy.K edges A) s.ctor.u s.ctor.w u0 w0 s.uPrior.mat s.wPrior.mat s.stop s.n).it ∧
      reached = (fitRun (dataOf N hy.K edges A) s.ctor.u s.ctor.w u0 w0 s.uPrior.mat s.wPrior.mat s.stop s.n).reached ∧
      (emLoop? (dataOf N hy.K edges A) s.ctor.u.isSome s.ctor.w.isSome s.uPrior.mat s.wPrior.mat (it + 1)
        { u := s.ctor.u.getD u0, w := s.ctor.w.getD w0 }).isSome = true := by
  unfold fitSeed at h
  split at h
  · cases h
  rename_i hy hc
  split at h
  · cases h
  rename_i w0 hw
  split at h
  · cases h
  rename_i u0 hu
  dsimp only at h
  split at h
  · cases h
  rename_i D' p' hf
  split at h
  · rename_i hg
    cases h
    exact ⟨hy, w0, u0, hc, hw, hu, hf, rfl, rfl, hg⟩
  · cases h

/-- the converse of `fitSeed_ok` -/
theorem fitSeed_intro (s : Seed) (N : ℕ) (edges : List (List ℕ)) (A : List Rat) (hy : Hyper) (w0 u0 : List (List Rat))
    (D : ℕ) (p : Params) (hc : construct s.ctor = .ok hy) (hw : seedW0 s hy = some w0) (hu : seedU0 s hy N = some u0)
    (hf : fit (dataOf N hy.K edges A) s.ctor.u s.ctor.w s.Dsup u0 w0 s.uPrior.mat s.wPrior.mat s.sqrtC s.stop s.n = some (D, p))
    (hg : (emLoop? (dataOf N hy.K edges A) s.ctor.u.isSome s.ctor.w.isSome s.uPrior.mat s.wPrior.mat
        ((fitRun (dataOf N hy.K edges A) s.ctor.u s.ctor.w u0 w0 s.uPrior.mat s.wPrior.mat s.stop s.n).it + 1)
        { u := s.ctor.u.getD u0, w := s.ctor.w.getD w0 }).isSome = true) :
    fitSeed s N edges A = .ok D p (fitRun (dataOf N hy.K edges A) s.ctor.u s.ctor.w u0 w0 s.uPrior.mat s.wPrior.mat s.stop s.n).it
      (fitRun (dataOf N hy.K edges A) s.ctor.u s.ctor.w u0 w0 s.uPrior.mat s.wPrior.mat s.stop s.n).reached := by
  unfold fitSeed
  simp only [hc, hw, hu, hf, hg, if_true]

theorem seedW0_inferred (s : Seed) (hy : Hyper) (w0 : List (List Rat)) (hnone : s.ctor.w = none) (h : seedW0 s hy = some w0) :
    initWOk hy.K hy.assortative s.wPrior = true ∧ w0 = initW hy.K hy.assortative s.wPrior s.gw := by
  unfold seedW0 at h
  rw [hnone] at h
  obtain ⟨hok, h⟩ := Option.ite_none_right_eq_some.mp h
  exact ⟨hok, (Option.some.inj h).symm⟩

theorem seedU0_inferred (s : Seed) (hy : Hyper) (N : ℕ) (u0 : List (List Rat)) (hnone : s.ctor.u = none)
    (h : seedU0 s hy N = some u0) : initUOk N hy.K s.uPrior = true ∧ u0 = initU N hy.K s.uPrior s.gu := by
  unfold seedU0 at h
  rw [hnone] at h
  obtain ⟨hok, h⟩ := Option.ite_none_right_eq_some.mp h
  exact ⟨hok, (Option.some.inj h).symm⟩

/-- `HyMMSBM.log_likelihood(H)` for the parameters `(u, w)`: `-bf_and_sum(u, w) + hye_weights · log(poisson_params)`,
from the two ingredients `logLikParts` -/
noncomputable def logLikMethod (d : Data) (u w : Mat) : ℝ :=
  - (((logLikParts d u w).1 : ℚ) : ℝ)
    + ∑ e ∈ range d.E, ((d.A e : ℚ) : ℝ) * Real.log ((((logLikParts d u w).2.getD e 0 : ℚ)) : ℝ)

theorem logLikMethod_eq_penLik (d : Data) (u w : Mat) : logLikMethod d u w = penLik d u (fun _ _ => 0) w := by
  unfold logLikMethod penLik logLikParts
  have h0 : (∑ a ∈ range d.K, ∑ b ∈ range d.K, (0 : ℚ) * w a b) = 0 := by simp
  rw [h0, add_zero]
  have hs : ∀ e ∈ range d.E,
      ((d.A e : ℚ) : ℝ) * Real.log (((((List.range d.E).map fun e => poisson d.N d.K u w (d.edge e)).getD e 0 : ℚ)) : ℝ)
        = ((d.A e : ℚ) : ℝ) * Real.log ((poisson d.N d.K u w (d.edge e) : ℚ) : ℝ) := by
    intro e he
    have he' : e < d.E := mem_range.mp he
    simp [List.getD_eq_getElem?_getD, he']
  rw [Finset.sum_congr rfl hs]
  ring

/-- `HyMMSBM(K=2, u=witU, assortative=True, u_prior=0.0, w_prior=1.0).fit(H, n_iter=n)` with the raw exponential draws `(1, 1)`:
`_init_w` gives the identity (`witW0`) -/
def exSeed (n : ℕ) : Seed :=
  { ctor := { K := some 2, u := some witU, w := none, assortative := some true }, Dsup := none,
    uPrior := .scalar 0, wPrior := .scalar 1, gw := [[1, 1]], gu := [], sqrtC := 1, stop := none, n := n }

theorem exSeed_ctor (n : ℕ) : construct (exSeed n).ctor = .ok { K := 2, assortative := true } := by
  show construct (exSeed 0).ctor = _
  decide +kernel

theorem exSeed_w0 (n : ℕ) : seedW0 (exSeed n) { K := 2, assortative := true } = some witW0 := by
  show seedW0 (exSeed 0) { K := 2, assortative := true } = some witW0
  decide +kernel

theorem exSeed_ok (n : ℕ) : ∃ p it r, fitSeed (exSeed n) 3 [[0, 1], [0, 2]] [3, 3] = .ok 2 p it r := by
  have hg := Option.isSome_iff_exists.mpr ⟨_, emLoop?_supplied_u witD witU witW0 (fun _ _ => 0) witR witU_nonneg witW0_nonneg
    witD_A (fun _ _ => by simp [witR]) witD_lam ((fitRun witD (some witU) none [] witW0 (fun _ _ => 0) witR none n).it + 1)⟩
  exact ⟨_, _, _, fitSeed_intro (exSeed n) 3 [[0, 1], [0, 2]] [3, 3] { K := 2, assortative := true } witW0 [] 2 _
    (exSeed_ctor n) (exSeed_w0 n) rfl rfl hg⟩

end C15
