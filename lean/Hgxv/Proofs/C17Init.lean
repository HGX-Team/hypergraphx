import Hgxv.Proofs.C17Inv
set_option linter.unusedSectionVars false
/-! The state after `_initialize_psiOmega` + `_initial_update_u_psi` satisfies the invariant; the states reached from it
by sweeps (`reach`) and induction over them. -/
namespace C17
variable {α : Type} [Field α] [LinearOrder α] [IsStrictOrderedRing α]

/-- the state reached from the initialisation of a realisation by the `_update_em` sweeps with the node orders `perms`
(any number of them, any Lagrange multipliers, any `min_value_par ≥ 0`) -/
def reach (c : Cfg α) (r0 : Bool) (uk : List α) (u0 w0 : Mat α) (lams : List α) (perms : List (List Nat)) : St α :=
  perms.foldl (emSweep c) (initState c r0 uk u0 w0 lams)

-- the direct instance path first (see `C17Psi`)
attribute [local instance 10000] LinearOrder.toPartialOrder PartialOrder.toPreorder Preorder.toLT Preorder.toLE

theorem binom_one : ∀ n : Nat, binom n 1 = n
  | 0 => rfl
  | n + 1 => by simp [binom, binom_one n]

theorem npow_zero_succ (n : Nat) : npow (0 : α) (n + 1) = 0 := zero_mul _

theorem at1_nonneg (l : List α) (h : ∀ x ∈ l, 0 ≤ x) (k : Nat) : 0 ≤ at1 l k := by
  unfold at1
  by_cases hk : k < l.length
  · rw [ListLib.getD_of_lt _ _ hk]; exact h _ (List.getElem_mem hk)
  · rw [getD_ge _ _ _ (by omega)]

theorem dummyRow_nonneg (uk : List α) (h : ∀ x ∈ uk, 0 ≤ x) : ∀ x ∈ dummyRow uk, 0 ≤ x := by
  unfold dummyRow
  simp only
  split
  · next hs => exact List.forall_mem_map.mpr fun y hy => div_nonneg (h y hy) hs.le
  · exact h

/-- `_initialize_psiOmega`: the closed form is the table of the matrix with `N` equal rows -/
theorem psiInit_spec (c : Cfg α) (x : List α) (d k : Nat) (hd : d < c.D) (hk : k < c.K) :
    at2 (psiInit c x) d k = esymm (d + 1) (col c.N (tab2 c.N c.K (fun _ k => at1 x k)) k) := by
  have hcol : col c.N (tab2 c.N c.K (fun _ k => at1 x k)) k = List.replicate c.N (at1 x k) :=
    (tab_congr _ _ _ fun j hj => at2_tab2 _ _ _ _ _ hj hk).trans (by rw [tab, List.map_const', List.length_range])
  rw [hcol, esymm_replicate]
  unfold psiInit
  rw [at2_tab2 _ _ _ _ _ hd hk]
  cases d with
  | zero => simp only [npow, mul_one]; rw [show binom c.N (0 + 1) = c.N from binom_one c.N, mul_comm]
  | succ d' =>
    by_cases h0 : at1 x k = 0
    · simp only [h0, npow_zero_succ, zero_mul]
    · have : (decide (0 < at1 x k) || decide (at1 x k < 0)) = true := by
        rcases lt_or_gt_of_ne h0 with h | h <;> simp [h]
      simp only [this, if_true]

theorem at2_mapmap (g : α → α) (hg : g 0 = 0) (m : Mat α) (d k : Nat) :
    at2 (m.map (fun r => r.map g)) d k = g (at2 m d k) := by
  unfold at2
  simp only [List.getD_eq_getElem?_getD, List.getElem?_map]
  cases m[d]? with
  | none => simp [hg]
  | some r =>
    simp only [Option.map_some, Option.getD_some, List.getElem?_map]
    cases r[k]? with
    | none => simp [hg]
    | some x => simp

theorem at2_psiRepairAbs (c : Cfg α) (m : Mat α) (d k : Nat) (h : 0 ≤ at2 m d k) :
    at2 (psiRepairAbs c m) d k = at2 m d k := by
  unfold psiRepairAbs
  rw [at2_mapmap _ (by simp [isNeg]) m d k, isNeg_of_nonneg h]; rfl

theorem initRow_thr (c : Cfg α) (u0 : Mat α) (i k : Nat) :
    initRow c u0 i k = 0 ∨ c.minv ≤ initRow c u0 i k := by
  unfold initRow; split
  · exact Or.inl rfl
  · rcases clampLow_cases c (at2 u0 i k / sumR c.K fun k' => at2 u0 i k') with h | ⟨h, h'⟩
    · exact Or.inl h
    · rw [h]; exact Or.inr h'

theorem initRow_nonneg (c : Cfg α) (hc : CfgOk c) (u0 : Mat α) (i k : Nat) : 0 ≤ initRow c u0 i k := by
  rcases initRow_thr c u0 i k with h | h
  · rw [h]
  · exact le_trans hc.minv h

theorem initRow_iso (c : Cfg α) (u0 : Mat α) {i : Nat} (h : c.isIso i = true) (k : Nat) : initRow c u0 i k = 0 :=
  if_pos h

theorem initNode_inv0 (c : Cfg α) (hc : CfgOk c) (r0 : Bool) (u0 : Mat α) (s : St α) (hs : Inv0 c s) (i : Nat)
    (hi : i < c.N) : Inv0 c (initNode c r0 u0 s i) := by
  have h := inv_step0 hs hi (fun _ => true) (initRow c u0 i) (fun k hk => by cases hk)
    (fun k => initRow_nonneg c hc u0 i k) s.lams s.rho
  unfold initNode
  cases r0
  · exact h
  · refine ⟨fun d k hd hk => ?_, h.unn, h.bar⟩
    have hp := h.psi d k hd hk
    simp only [if_true] at hp ⊢
    rw [at2_psiRepairAbs, hp]
    rw [hp]
    exact esymm_col_nonneg _ _ h.unn _ k

theorem initNode_u (c : Cfg α) (r0 : Bool) (u0 : Mat α) (s : St α) (i : Nat) :
    (initNode c r0 u0 s i).u = setRow c s.u i (initRow c u0 i) := rfl

theorem foldl_range_induct {σ : Type} (f : σ → Nat → σ) (P : Nat → σ → Prop) (s0 : σ) (n : Nat) (h0 : P 0 s0)
    (hstep : ∀ m s, m < n → P m s → P (m + 1) (f s m)) : P n ((List.range n).foldl f s0) := by
  induction n with
  | zero => exact h0
  | succ n ih =>
    rw [List.range_succ, List.foldl_append]
    exact hstep n _ (Nat.lt_succ_self n) (ih fun m s hm => hstep m s (Nat.lt_succ_of_lt hm))

section initState
variable (c : Cfg α) (r0 : Bool) (uk : List α) (u0 w0 : Mat α) (lams : List α)

theorem initState_inv (hc : CfgOk c) (huk : ∀ x ∈ uk, 0 ≤ x) : Inv c (initState c r0 uk u0 w0 lams) := by
  have hx0 : ∀ k, 0 ≤ at1 (dummyRow uk) k := at1_nonneg _ (dummyRow_nonneg uk huk)
  have key := foldl_range_induct (initNode c r0 u0)
    (fun m s => Inv0 c s ∧ ∀ j k, (j < m ∨ c.N ≤ j) → at2 s.u j k = 0 ∨ c.minv ≤ at2 s.u j k)
    { u := tab2 c.N c.K (fun _ k => at1 (dummyRow uk) k), w := w0, psi := psiInit c (dummyRow uk),
      bar := tab2 c.D c.K (fun _ _ => 0), rho := [], lams := lams } c.N
    ⟨⟨psiInit_spec c _, at2_tab2_nonneg _ _ _ fun _ k _ _ => hx0 k, at2_tab2_nonneg _ _ _ fun _ _ _ _ => le_refl 0⟩,
      fun j k hj => Or.inl (at2_tab2_of_ge _ _ _ _ _ (hj.resolve_left (Nat.not_lt_zero j)))⟩
    fun m s hm ⟨h0, ht⟩ => ⟨initNode_inv0 c hc r0 u0 s h0 m hm, fun j k hj =>
      thr_step c s.u m (initRow c u0 m) (initRow_thr c u0 m) j k fun hjm => ht j k (by omega)⟩
  exact ⟨⟨key.1.psi, key.1.unn, key.1.bar⟩, fun j k => key.2 j k (by omega)⟩

theorem initState_u (j k : Nat) (hj : j < c.N) :
    at2 (initState c r0 uk u0 w0 lams).u j k = if k < c.K then initRow c u0 j k else 0 := by
  refine foldl_range_induct (initNode c r0 u0)
    (fun m s => ∀ j, j < m → at2 s.u j k = if k < c.K then initRow c u0 j k else 0) _ c.N
    (fun j hj => absurd hj (Nat.not_lt_zero j)) (fun m s hm ih j hj => ?_) j hj
  rw [initNode_u, setRow_eq]
  by_cases hk : k < c.K
  · rw [if_pos ⟨by omega, hk⟩, if_pos hk]
    split
    · next h => rw [h]
    · rw [ih j (by omega), if_pos hk]
  · rw [if_neg fun h => hk h.2, if_neg hk]

theorem initState_w : (initState c r0 uk u0 w0 lams).w = w0 :=
  foldl_range_induct (initNode c r0 u0) (fun _ s => s.w = w0) _ c.N rfl fun _ _ _ h => h

theorem initState_rho : (initState c r0 uk u0 w0 lams).rho
    = rhoUpdate c (initState c r0 uk u0 w0 lams).u (initState c r0 uk u0 w0 lams).w := rfl

theorem initState_iso (i : Nat) (hi : i < c.N) (hiso : c.isIso i = true) (k : Nat) :
    at2 (initState c r0 uk u0 w0 lams).u i k = 0 := by
  rw [initState_u c r0 uk u0 w0 lams i k hi, initRow_iso c u0 hiso, ite_self]

end initState

theorem reach_snoc (c : Cfg α) (r0 : Bool) (uk : List α) (u0 w0 : Mat α) (lams : List α) (perms : List (List Nat))
    (p : List Nat) : reach c r0 uk u0 w0 lams (perms ++ [p]) = emSweep c (reach c r0 uk u0 w0 lams perms) p :=
  List.foldl_append

theorem reach_induct (c : Cfg α) (r0 : Bool) (uk : List α) (u0 w0 : Mat α) (lams : List α) (P : St α → Prop)
    (h0 : P (initState c r0 uk u0 w0 lams)) (perms : List (List Nat))
    (hstep : ∀ s, P s → ∀ p ∈ perms, P (emSweep c s p)) : P (reach c r0 uk u0 w0 lams perms) :=
  List.foldlRecOn perms (emSweep c) h0 hstep

theorem reach_inv (c : Cfg α) (hc : CfgOk c) (r0 : Bool) (uk : List α) (huk : ∀ x ∈ uk, 0 ≤ x) (u0 w0 : Mat α)
    (lams : List α) (perms : List (List Nat)) (hp : ∀ p ∈ perms, ∀ i ∈ p, i < c.N) :
    Inv c (reach c r0 uk u0 w0 lams perms) :=
  reach_induct c r0 uk u0 w0 lams (Inv c) (initState_inv c r0 uk u0 w0 lams hc huk) perms
    fun s hs p hpp => emSweep_inv hc p (hp p hpp) s hs

end C17
