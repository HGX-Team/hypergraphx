import Hgxv.Proofs.C08
import Hgxv.Proofs.C08LinkC01
import Hgxv.Proofs.C02NodeRef
import Hgxv.Proofs.C03Ref
import Hgxv.Proofs.C04Query
import Hgxv.Proofs.C04Rej
/-! # C08 ↔ C02 / C03 / C04: degrees on what the other three containers list (core Lean only)

`measures/degree.py` is `len(hg.get_incident_edges(node, order|size))` for every container class.  The C08 model states
it once, generic over the record type (`degG members keys n f`; `dirDeg` for `DirectedHypergraph`).  Here: for a store of
each full container model satisfying its class invariant (every reachable store does), the model's own `degree` /
`degree_sequence` answers ARE the C08 functions applied to the listings `get_nodes()` / `get_edges()` of that store, and
the listings satisfy the hypotheses of `C08_degree` / `C08_handshake` / `C08_degree_directed`.

Filters: C02 and C04 write the keyword pair as `Filt` with natural numbers (`ofFilt02`, `ofFilt04` read it as a C08
filter; `both` - order and size together - is rejected by every getter and has no C08 counterpart); C03 takes the two
optional integers (`os03 f` are the two keywords of a C08 filter). -/
namespace C08
namespace Link
open AL

theorem length_filter_perm {α : Type} {l1 l2 : List α} (h : l1.Perm l2) : l1.length = l2.length := h.length_eq

/-! ## C02 `DirectedHypergraph` -/

/-- the keyword pair of C02 as a C08 filter (`both` is rejected by every getter) -/
def ofFilt02 : C02.Filt → Option Filt
  | .all => some .none
  | .size k => some (.size k)
  | .order k => some (.order k)
  | .both => none

theorem target02 (f : C02.Filt) (g : Filt) (hg : ofFilt02 f = some g) :
    ∃ t, f.target = some t ∧ ∀ k : C02.Key, C02.passes t false k = passes g (k.1.length + k.2.length) := by
  cases f <;> cases hg
  · exact ⟨none, rfl, fun _ => rfl⟩
  · exact ⟨_, rfl, fun _ => (passes_size_nat _ _).symm⟩
  · exact ⟨_, rfl, fun _ => (passes_order_nat _ _).symm⟩

/-- `get_nodes()` of a `DirectedHypergraph` object -/
def nodes02 (s : C02.Store) : List Nat := C02.nodes s
/-- its `get_edges()`: (source tuple, target tuple) -/
def keys02 (s : C02.Store) : List (List Nat × List Nat) := keys s.edgeList

/-- the hypotheses of `C08_degree_directed`, `C08_handshake_directed`, `C08_degree` for a store with the invariant -/
theorem listing02 {s : C02.Store} (h : C02.Inv s) :
    (nodes02 s).Nodup ∧ (keys02 s).Nodup ∧
    (∀ k ∈ keys02 s, (k.1 ++ k.2).Nodup ∧ ∀ x ∈ k.1 ++ k.2, x ∈ nodes02 s) ∧
    (∀ k ∈ keys02 s, ∀ x ∈ k.1, x ∉ k.2) := by
  have hkey : ∀ k ∈ keys02 s, ∃ id, get? s.rev id = some k := fun k hk => (h.mem_keys_iff k).mp hk
  refine ⟨h.nd_adjS, h.nd_edge, ?_, ?_⟩
  · intro k hk
    obtain ⟨id, hid⟩ := hkey k hk
    have hw := h.key_wf id k hid
    refine ⟨List.nodup_append.mpr ⟨hw.nodupS, hw.nodupT, fun a ha b hb hab => hw.disj a ha (hab ▸ hb)⟩, ?_⟩
    intro x hx
    exact (isSome_get?_iff _ _).mp (h.nodes_in id k hid x (List.mem_append.mp hx))
  · intro k hk x hx
    obtain ⟨id, hid⟩ := hkey k hk
    exact (h.key_wf id k hid).disj x hx

/-- `degree(hg, n, order|size)` of the object is `dirDeg` of its key listing -/
theorem degree02 {s : C02.Store} (h : C02.Inv s) (n : Nat) (f : C02.Filt) (g : Filt) (hg : ofFilt02 f = some g) :
    C02.degree s n f = if n ∈ nodes02 s then some (dirDeg (keys02 s) n g) else none := by
  obtain ⟨t, ht, hp⟩ := target02 f g hg
  have hn : has (C02.abs s).nodes n = decide (n ∈ nodes02 s) := by
    rw [C02.abs_has_node, Bool.eq_iff_iff, has_iff, decide_eq_true_eq]; rfl
  simp only [(C02.q_degrees s h n f).1, C02.Spec.degree, C02.Spec.incident, C02.Spec.sourceEdges, C02.Spec.targetEdges,
    hn, ht, Option.map_some, C02.Spec.keyList, C02.abs_edges_keys, hp]
  by_cases hm : n ∈ nodes02 s
  · simp only [hm, decide_true, Bool.not_true, Bool.false_eq_true, if_false, if_true, Option.map_some,
      List.length_append, dirDeg, keys02, List.contains_eq_mem]
  · simp only [hm, decide_false, Bool.not_false, if_true, if_false, Option.map_none]

theorem degreeSeq02 {s : C02.Store} (h : C02.Inv s) (f : C02.Filt) (g : Filt) (hg : ofFilt02 f = some g) :
    C02.degreeSeq s f = some (dirDegreeSeq (nodes02 s) (keys02 s) g) := by
  obtain ⟨t, ht, _⟩ := target02 f g hg
  simp only [C02.degreeSeq, ht, dirDegreeSeq, dirDeg_toOrder]
  apply ListLib.mapM_eq_some_map
  intro n hn
  have hn' : n ∈ nodes02 s := hn
  rw [degree02 h n f g hg, if_pos hn']
  rfl

/-- C02's histogram is the same loop run from the right -/
theorem histogram_eq (ds : List Nat) : C02.histogram ds = ds.foldr bump [] := by
  induction ds with
  | nil => rfl
  | cons x t ih => rw [List.foldr_cons, bump_eq, ← ih]; rfl

theorem get?_histogram (ds : List Nat) (d : Nat) :
    get? (C02.histogram ds) d = if ds.count d = 0 then none else some (ds.count d) := by
  rw [histogram_eq, ← lookup_eq, lookup_foldr_bump]

/-- `degree_distribution(hg, order|size)` of the object: the same dict as `dirDegreeDist` of the listings -/
theorem degreeDist02 {s : C02.Store} (h : C02.Inv s) (f : C02.Filt) (g : Filt) (hg : ofFilt02 f = some g) :
    ∃ dist, C02.degreeDist s f = some dist ∧
      ∀ d, get? dist d = lookup d (dirDegreeDist (nodes02 s) (keys02 s) g) := by
  refine ⟨C02.histogram ((dirDegreeSeq (nodes02 s) (keys02 s) g).map (·.2)),
    by simp only [C02.degreeDist, degreeSeq02 h f g hg, Option.map_some], ?_⟩
  intro d
  rw [get?_histogram, dirDegreeDist_eq, lookup_hist_nil, dirDegreeSeq_eq, List.map_map]
  rfl

/-! ## C03 `TemporalHypergraph` -/

/-- the two keywords `order=`, `size=` of a C08 filter -/
def os03 : Filt → Option Int × Option Int
  | .none => (none, none)
  | .size s => (none, some s)
  | .order o => (some o, none)

/-- `get_nodes()` of a `TemporalHypergraph` object -/
def nodes03 (s : C03.Store) : List Nat := keys s.nmeta
/-- its `get_edges()`: records are `(time, nodes)` -/
def keys03 (s : C03.Store) : List (Nat × List Nat) := C03.edgeKeys s

theorem mem_nodes03 {s : C03.Store} (h : C03.Inv s) (n : Nat) : n ∈ nodes03 s ↔ (get? s.adj n).isSome = true := by
  unfold nodes03
  rw [← isSome_get?_iff]
  exact (h.nt.same n).symm

theorem listing03 {s : C03.Store} (h : C03.Inv s) :
    (nodes03 s).Nodup ∧ (keys03 s).Nodup ∧ ∀ k ∈ keys03 s, k.2.Nodup ∧ ∀ x ∈ k.2, x ∈ nodes03 s := by
  refine ⟨h.nt.nmetaNodup, h.keysNodup, ?_⟩
  intro k hk
  obtain ⟨id, hid⟩ := Option.isSome_iff_exists.mp ((isSome_get?_iff s.edgeList k).mpr hk)
  exact ⟨(h.keyCanon k id hid).2, fun x hx => (mem_nodes03 h x).mpr (h.nodes_in k id hid x hx)⟩

theorem inc03 {s : C03.Store} (h : C03.Inv s) (n : Nat) (hn : (get? s.adj n).isSome = true) :
    (C03.view s).inc n = some ((keys03 s).filter (fun k => k.2.contains n)) := by
  have := C03.incident_eq s h n hn
  simp only [C03.incident, C03.V.incident, C03.effOrder, Option.isSome_none, Bool.false_eq_true, Bool.and_self,
    if_false] at this
  cases hv : (C03.view s).inc n with
  | none => rw [hv] at this; simp at this
  | some ks => rw [hv] at this; simpa [keys03] using this

theorem incident03 (v : C03.View) (n : Nat) (ks : List (Nat × List Nat)) (hi : v.inc n = some ks) (f : Filt) :
    C03.V.incident v n (os03 f).1 (os03 f).2 = some (ks.filter (fun k => passes f k.2.length)) := by
  unfold C03.V.incident
  rw [hi]
  cases f
  · exact congrArg some (List.filter_eq_self.mpr (fun _ _ => rfl)).symm
  · rfl
  · rfl

/-- `degree(hg, n, order|size)` of the object is `degG` of its record listing (members = the node tuple) -/
theorem degree03 {s : C03.Store} (h : C03.Inv s) (n : Nat) (f : Filt) :
    C03.degree s n (os03 f).1 (os03 f).2 =
      degreeG? (fun k : Nat × List Nat => k.2) (nodes03 s) (keys03 s) n f := by
  by_cases hn : n ∈ nodes03 s
  · simp only [C03.degree, C03.V.degree, incident03 _ n _ (inc03 h n ((mem_nodes03 h n).mp hn)), Option.map_some,
      List.filter_filter, degreeG?, hn, if_true, degG, incidentG]
    congr 2
    apply List.filter_congr
    intro k _
    simp [Bool.and_comm]
  · have hn' : get? s.adj n = none := by
      cases hg : get? s.adj n with
      | none => rfl
      | some v => exact absurd ((mem_nodes03 h n).mpr (by rw [hg]; rfl)) hn
    simp [C03.degree, C03.V.degree, C03.V.incident, C03.view, hn', degreeG?, hn]

/-- `degree_sequence(hg, order|size)` of the object (`if size is not None: order = size - 1`, then per-node `degree`) -/
theorem degreeSeq03 {s : C03.Store} (h : C03.Inv s) (f : Filt) :
    C03.V.degreeSeq (C03.view s) (os03 f).1 (os03 f).2 =
      some (degreeSeqG (fun k : Nat × List Nat => k.2) (nodes03 s) (keys03 s) f) := by
  have hb : ((os03 f).1.isSome && (os03 f).2.isSome) = false := by cases f <;> rfl
  have he : ∀ n, C03.V.degree (C03.view s) n (C03.effOrder (os03 f).1 (os03 f).2) none
      = C03.degree s n (os03 (toOrder f)).1 (os03 (toOrder f)).2 := by
    intro n; cases f <;> rfl
  simp only [C03.V.degreeSeq, hb, Bool.false_eq_true, if_false, degreeSeqG]
  apply ListLib.mapM_eq_some_map
  intro n hn
  have hn' : n ∈ nodes03 s := hn
  rw [he n, degree03 h n (toOrder f)]
  simp only [degreeG?, hn', if_true, Option.map_some]

/-- `degree_distribution(hg, order|size)` of the object: the same dict, in the same order -/
theorem degreeDist03 {s : C03.Store} (h : C03.Inv s) (f : Filt) :
    C03.V.degreeDist (C03.view s) (os03 f).1 (os03 f).2 =
      some ((degreeDistG (fun k : Nat × List Nat => k.2) (nodes03 s) (keys03 s) f).map
        fun p => ((p.1 : Int), p.2)) := by
  simp only [C03.V.degreeDist, degreeSeq03 h f, Option.map_some, C03.countInto]
  exact congrArg _ (counter_degreeDistG _ _ _ f)

/-! ## C04 `MultiplexHypergraph` -/

/-- the keyword pair of C04 as a C08 filter (`both` is rejected) -/
def ofFilt04 : C04.Filt → Option Filt
  | .all => some .none
  | .size k => some (.size k)
  | .order k => some (.order k)
  | .both => none

theorem sizeOK04 (f : C04.Filt) (g : Filt) (hg : ofFilt04 f = some g) :
    f ≠ .both ∧ ∀ e : List Nat, C04.sizeOK f e = passes g e.length := by
  cases f <;> cases hg
  · exact ⟨nofun, fun _ => rfl⟩
  · exact ⟨nofun, fun _ => (passes_size_nat _ _).symm⟩
  · exact ⟨nofun, fun _ => (passes_order_nat _ _).symm⟩

/-- `get_nodes()` of a `MultiplexHypergraph` object -/
def nodes04 (s : C04.Store) : List Nat := C04.nodes s
/-- its `get_edges()`: records are `(nodes, layer)` -/
def keys04 (s : C04.Store) : List (List Nat × Nat) := C04.records s

theorem listing04 {s : C04.Store} (h : C04.Inv s) :
    (nodes04 s).Nodup ∧ (keys04 s).Nodup ∧ ∀ k ∈ keys04 s, k.1.Nodup ∧ ∀ x ∈ k.1, x ∈ nodes04 s := by
  refine ⟨h.nm.nm_nodup, h.id.el_nodup, ?_⟩
  intro k hk
  obtain ⟨id, hid⟩ := Option.isSome_iff_exists.mp ((isSome_get?_iff s.edgeList k).mpr hk)
  have hrev := h.id.rev_of_edge k id hid
  refine ⟨(h.id.key_sorted id k hrev).nodup, fun x hx => ?_⟩
  exact (isSome_get?_iff s.nmeta x).mp (by
    have := (h.nm.adj_nm x).mp (h.adj.nodes_in id k hrev x hx)
    exact this)

/-- `degree(hg, n, order|size)` of the object is `degG` of its record listing (members = the node tuple) -/
theorem degree04 {s : C04.Store} (h : C04.Inv s) (n : Nat) (f : C04.Filt) (g : Filt) (hg : ofFilt04 f = some g) :
    C04.degree s n f = degreeG? (fun k : List Nat × Nat => k.1) (nodes04 s) (keys04 s) n g := by
  obtain ⟨hb, hp⟩ := sizeOK04 f g hg
  have hrec : C04.Spec.records (C04.abs s) = keys04 s := (C04.records_abs s).symm
  have hnm : (C04.abs s).nodes = s.nmeta := rfl
  simp only [C04.degree, C04.incident_abs s n f h, C04.Spec.incident, hb, if_false, hrec, hnm, degreeG?, degG,
    incidentG]
  by_cases hn : n ∈ nodes04 s
  · have hn' := (isSome_get?_iff s.nmeta n).mpr hn
    simp only [hn', hn, if_true, Option.map_some]
    congr 2
    apply List.filter_congr
    intro k _
    rw [hp k.1]
  · have hn' : (get? s.nmeta n).isSome = false := by
      cases hg : (get? s.nmeta n).isSome with
      | false => rfl
      | true => exact absurd ((isSome_get?_iff s.nmeta n).mp hg) hn
    simp [hn', hn]

theorem degreeSeq04 {s : C04.Store} (h : C04.Inv s) (f : C04.Filt) (g : Filt) (hg : ofFilt04 f = some g) :
    C04.degreeSeq s f = some (degreeSeqG (fun k : List Nat × Nat => k.1) (nodes04 s) (keys04 s) g) := by
  obtain ⟨hb, _⟩ := sizeOK04 f g hg
  simp only [C04.degreeSeq, hb, if_false, degreeSeqG, degG_toOrder]
  apply ListLib.mapM_eq_some_map
  intro n hn
  rw [degree04 h n f g hg]
  simp only [degreeG?, nodes04, hn, if_true, Option.map_some]

end Link
end C08
