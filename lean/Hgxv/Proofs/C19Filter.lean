import Hgxv.Model.C19
import Hgxv.Proofs.AL
/-! C19 part A: the phases of `filter_hypergraph` written with `critSel` / `removedNodes`, the closed form of the
filter for `keep_edges=False`, and (second half) the allowed values of a criterion as a set.  Core Lean. -/
namespace C19

section phases
open AL

section al
variable {α β : Type} [DecidableEq α]

/-- `AL.erase_eq_filter` with the test spelt `!decide (e.1 = k)`, as the closed forms of the drop mode have it -/
theorem al_erase_eq_filter (l : List (α × β)) (k : α) (hnd : (keys l).Nodup) :
    erase l k = l.filter (fun e => !decide (e.1 = k)) :=
  (erase_eq_filter l k hnd).trans (List.filter_congr fun _ _ => by simp)

/-- `l'` is given by its members only (the entries of `l` passing `P`), so that a filter and `incident` (two filters appended)
both fit: then the keys of `l'` contain an entry's key iff the entry passes -/
theorem contains_keys_sub (l l' : List (α × β)) (hnd : (keys l).Nodup) (P : α × β → Bool)
    (h : ∀ y, y ∈ l' ↔ y ∈ l ∧ P y = true) {x : α × β} (hx : x ∈ l) : (l'.map (·.1)).contains x.1 = P x := by
  rw [Bool.eq_iff_iff, List.contains_iff_mem, List.mem_map]
  constructor
  · rintro ⟨y, hy, h1⟩
    obtain ⟨hy, hs⟩ := (h y).mp hy
    rw [← entry_unique _ hnd _ _ hy hx h1]; exact hs
  · exact fun hp => ⟨x, (h x).mpr ⟨hx, hp⟩, rfl⟩

end al

section dropMode
variable {κ ω : Type} [DecidableEq κ] [Add ω] (ops : KeyOps κ)

omit [Add ω] in
theorem foldl_removeEdge (l : List κ) (c : Content κ ω) :
    l.foldl removeEdge c = { c with edges := l.foldl erase c.edges } := by
  induction l generalizing c with
  | nil => simp
  | cons e l ih => simp only [List.foldl_cons]; rw [ih]; rfl

omit [DecidableEq κ] [Add ω] in
theorem mem_incident (c : Content κ ω) (n : Node) (e : κ × (ω × Md)) :
    e ∈ incident ops c n ↔ e ∈ c.edges ∧ n ∈ ops.nodesOf e.1 := by
  simp only [incident, List.mem_append, List.mem_filter, Bool.and_eq_true, Bool.not_eq_true']
  cases h : (ops.first e.1).contains n <;> simp

theorem removeNode_drop (c : Content κ ω) (n : Node) (hn : (keys c.nodes).Nodup) (he : (keys c.edges).Nodup) :
    removeNode ops false c n =
      { weighted := c.weighted, nodes := c.nodes.filter (fun x => !decide (x.1 = n)),
        edges := c.edges.filter (fun e => !(ops.nodesOf e.1).contains n) } := by
  simp only [removeNode, dropNode, Bool.false_eq_true, if_false]
  rw [← List.foldl_map (g := removeEdge), foldl_removeEdge, al_erase_eq_filter _ _ hn, foldl_erase_eq_filter _ _ he]
  exact congrArg _ (List.filter_congr fun e hemem => by
    rw [contains_keys_sub c.edges _ he (fun e => (ops.nodesOf e.1).contains n)
      (fun y => (mem_incident ops c n y).trans (and_congr_right' List.contains_iff_mem.symm)) hemem])

theorem foldl_removeNode_drop (R : List Node) (c : Content κ ω) (hn : (keys c.nodes).Nodup)
    (he : (keys c.edges).Nodup) :
    R.foldl (removeNode ops false) c =
      { weighted := c.weighted, nodes := c.nodes.filter (fun x => !R.contains x.1),
        edges := c.edges.filter (fun e => (ops.nodesOf e.1).all (fun m => !R.contains m)) } := by
  induction R generalizing c with
  | nil =>
    simp only [List.foldl_nil, List.contains_nil, Bool.not_false]
    rw [List.filter_eq_self.mpr (fun _ _ => rfl), List.filter_eq_self.mpr (fun _ _ => by simp)]
  | cons n R ih =>
    simp only [List.foldl_cons]
    rw [removeNode_drop ops c n hn he, ih _ (keys_filter_nodup _ _ hn) (keys_filter_nodup _ _ he)]
    simp only [List.filter_filter]
    congr 1
    · apply List.filter_congr
      intro x _
      rw [Bool.eq_iff_iff]
      simp only [Bool.and_eq_true, decide_eq_false_iff_not, Bool.not_eq_eq_eq_not, Bool.not_true]
      simp only [← Bool.not_eq_true, List.contains_iff_mem, List.mem_cons, not_or]
      exact And.comm
    · apply List.filter_congr
      intro e _
      rw [Bool.eq_iff_iff]
      simp only [Bool.and_eq_true, List.all_eq_true, Bool.not_eq_true', ← Bool.not_eq_true,
        List.contains_iff_mem, List.mem_cons, not_or]
      constructor
      · rintro ⟨h1, h2⟩ m hm
        exact ⟨fun h => h2 (h ▸ hm), h1 m hm⟩
      · intro h
        exact ⟨fun m hm => (h m hm).2, fun hm => (h n hm).1 rfl⟩

omit [DecidableEq κ] [Add ω] in
theorem removedNodes_eq (c : Content κ ω) (nc : Option Crit) (mode : Mode) :
    removedNodes c nc mode = (c.nodes.filter (fun x => critSel nc mode x.2)).map (·.1) := by
  cases nc with
  | none => simp [removedNodes, critSel]
  | some cr => rfl

theorem nodePhase_eq (c : Content κ ω) (nc : Option Crit) (mode : Mode) (keep : Bool) :
    nodePhase ops c nc mode keep = (removedNodes c nc mode).foldl (removeNode ops keep) c := by
  cases nc <;> rfl

omit [Add ω] in
theorem edgePhase_eq_foldl (c : Content κ ω) (ec : Option Crit) (mode : Mode) :
    edgePhase c ec mode = ((c.edges.filter (fun e => critSel ec mode e.2.2)).map (·.1)).foldl removeEdge c := by
  cases ec with
  | none => simp [edgePhase, critSel, List.filter_eq_nil_iff.mpr]
  | some cr => rfl

omit [DecidableEq κ] [Add ω] in
theorem removedNodes_contains (c : Content κ ω) (nc : Option Crit) (mode : Mode) (hn : (keys c.nodes).Nodup)
    {x : Node × Md} (hx : x ∈ c.nodes) :
    (removedNodes c nc mode).contains x.1 = critSel nc mode x.2 := by
  rw [removedNodes_eq]; exact contains_keys_sub _ _ hn _ (fun _ => List.mem_filter) hx

omit [Add ω] in
theorem edgePhase_eq (c : Content κ ω) (ec : Option Crit) (mode : Mode) (he : (keys c.edges).Nodup) :
    edgePhase c ec mode = { c with edges := c.edges.filter (fun e => !critSel ec mode e.2.2) } := by
  rw [edgePhase_eq_foldl, foldl_removeEdge, foldl_erase_eq_filter _ _ he]
  exact congrArg _ (List.filter_congr fun e hemem => by
    rw [contains_keys_sub _ _ he _ (fun _ => List.mem_filter) hemem])

theorem nodePhase_drop (c : Content κ ω) (nc : Option Crit) (mode : Mode) (hn : (keys c.nodes).Nodup)
    (he : (keys c.edges).Nodup) :
    nodePhase ops c nc mode false =
      { weighted := c.weighted, nodes := c.nodes.filter (fun x => !critSel nc mode x.2),
        edges := c.edges.filter (fun e => (ops.nodesOf e.1).all (fun m => !(removedNodes c nc mode).contains m)) } := by
  rw [nodePhase_eq, foldl_removeNode_drop ops _ c hn he]
  congr 1
  apply List.filter_congr
  intro x hx
  rw [removedNodes_contains c nc mode hn hx]

theorem filterHg_drop (c : Content κ ω) (nc ec : Option Crit) (mode : Mode) (hn : (keys c.nodes).Nodup)
    (he : (keys c.edges).Nodup) :
    filterHg ops c nc ec mode false =
      { weighted := c.weighted, nodes := c.nodes.filter (fun x => !critSel nc mode x.2),
        edges := c.edges.filter (fun e => (ops.nodesOf e.1).all (fun m => !(removedNodes c nc mode).contains m)
                                          && !critSel ec mode e.2.2) } := by
  unfold filterHg
  rw [nodePhase_drop ops c nc mode hn he, edgePhase_eq _ _ _ (keys_filter_nodup _ _ he)]
  simp only [List.filter_filter]
  congr 1
  apply List.filter_congr
  intro e _
  exact Bool.and_comm _ _

end dropMode
end phases

/-! The allowed values of a criterion count as a SET.

`filter_hypergraph` tests `metadata.get(attr) in values`; `values` may be a list, a tuple, a set, a frozenset, the
keys of a dict, a range. Whatever the container - order, multiplicity - only the membership of the values matters. -/

/-- two criteria dictionaries with the same attributes (in dictionary order) whose allowed values agree as sets -/
def SameCrit : Crit → Crit → Prop
  | [], [] => True
  | p :: ps, q :: qs => p.1 = q.1 ∧ (∀ v, v ∈ p.2 ↔ v ∈ q.2) ∧ SameCrit ps qs
  | _, _ => False

/-- the same for the optional argument (`None` = no criteria) -/
def SameCrit? : Option Crit → Option Crit → Prop
  | none, none => True
  | some a, some b => SameCrit a b
  | _, _ => False

theorem contains_congr {l1 l2 : List (Option Nat)} (h : ∀ v, v ∈ l1 ↔ v ∈ l2) (x : Option Nat) :
    l1.contains x = l2.contains x := by
  simp [h x]

theorem matchesCrit_congr {cr1 cr2 : Crit} (h : SameCrit cr1 cr2) (md : Md) :
    matchesCrit md cr1 = matchesCrit md cr2 := by
  induction cr1 generalizing cr2 with
  | nil =>
    cases cr2 with
    | nil => rfl
    | cons q qs => exact absurd h (by simp [SameCrit])
  | cons p ps ih =>
    cases cr2 with
    | nil => exact absurd h (by simp [SameCrit])
    | cons q qs =>
      obtain ⟨h1, h2, h3⟩ := h
      have hrec := ih h3
      simp only [matchesCrit, List.all_cons] at hrec ⊢
      rw [hrec, h1, contains_congr h2]

theorem critSel_congr {cr cr' : Option Crit} (h : SameCrit? cr cr') (mode : Mode) (md : Md) :
    critSel cr mode md = critSel cr' mode md := by
  cases cr with
  | none =>
    cases cr' with
    | none => rfl
    | some b => exact absurd h (by simp [SameCrit?])
  | some a =>
    cases cr' with
    | none => exact absurd h (by simp [SameCrit?])
    | some b => simp only [critSel]; rw [matchesCrit_congr h]

variable {κ ω : Type} [DecidableEq κ] [Add ω]

omit [DecidableEq κ] [Add ω] in
theorem removedNodes_congr (c : Content κ ω) {nc nc' : Option Crit} (h : SameCrit? nc nc') (mode : Mode) :
    removedNodes c nc mode = removedNodes c nc' mode := by
  rw [removedNodes_eq, removedNodes_eq, funext fun x : Node × Md => critSel_congr h mode x.2]

theorem nodePhase_congr (ops : KeyOps κ) (c : Content κ ω) {nc nc' : Option Crit} (h : SameCrit? nc nc')
    (mode : Mode) (keep : Bool) : nodePhase ops c nc mode keep = nodePhase ops c nc' mode keep := by
  rw [nodePhase_eq, nodePhase_eq, removedNodes_congr c h]

omit [Add ω] in
theorem edgePhase_congr (c : Content κ ω) {ec ec' : Option Crit} (h : SameCrit? ec ec') (mode : Mode) :
    edgePhase c ec mode = edgePhase c ec' mode := by
  rw [edgePhase_eq_foldl, edgePhase_eq_foldl, funext fun e : κ × (ω × Md) => critSel_congr h mode e.2.2]

theorem filterHg_congr (ops : KeyOps κ) (c : Content κ ω) {nc nc' ec ec' : Option Crit}
    (hn : SameCrit? nc nc') (he : SameCrit? ec ec') (mode : Mode) (keep : Bool) :
    filterHg ops c nc ec mode keep = filterHg ops c nc' ec' mode keep := by
  simp only [filterHg]
  rw [nodePhase_congr ops c hn, edgePhase_congr _ he]

end C19
