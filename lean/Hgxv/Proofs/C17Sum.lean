import Hgxv.Proofs.C17Psi
import Mathlib.Algebra.BigOperators.Field
import Mathlib.Algebra.Order.BigOperators.Ring.Finset
import Mathlib.Data.List.Sort
set_option linter.unusedSectionVars false
/-! Sums of the index-style model as `Finset` sums; products over hyperedges; `e_m ≥` any product of `m` entries. -/
namespace C17
open Finset

section
variable {α : Type} [Field α] [LinearOrder α] [IsStrictOrderedRing α]

theorem sumR_eq (n : Nat) (f : Nat → α) : sumR n f = ∑ i ∈ range n, f i := by
  unfold sumR
  induction n with
  | zero => rfl
  | succ n ih =>
    rw [List.range_succ, List.map_append, List.sum_append, ih, Finset.sum_range_succ, List.map_singleton,
      List.sum_singleton]

theorem sumR_congr (n : Nat) (f g : Nat → α) (h : ∀ i, i < n → f i = g i) : sumR n f = sumR n g :=
  congrArg List.sum (tab_congr n f g h)

theorem sumR_nonneg (n : Nat) (f : Nat → α) (h : ∀ k, k < n → 0 ≤ f k) : 0 ≤ sumR n f := by
  rw [sumR_eq]; exact Finset.sum_nonneg (fun k hk => h k (by simpa using hk))

theorem sumR_pos (n : Nat) (f : Nat → α) (hn : 0 < n) (h : ∀ k, k < n → 0 < f k) : 0 < sumR n f := by
  rw [sumR_eq]
  exact Finset.sum_pos (fun k hk => h k (by simpa using hk)) ⟨0, by simpa using hn⟩

theorem prodL_cons (x : α) (l : List α) : prodL (x :: l) = x * prodL l := rfl
theorem prodL_nil : prodL ([] : List α) = 1 := rfl

theorem prodL_nonneg (l : List α) (h : ∀ x ∈ l, 0 ≤ x) : 0 ≤ prodL l := by
  induction l with
  | nil => exact zero_le_one
  | cons x l ih =>
    obtain ⟨hx, hl⟩ := List.forall_mem_cons.mp h
    exact mul_nonneg hx (ih hl)

-- the direct instance path first (see `C17Psi`)
attribute [local instance 10000] LinearOrder.toPartialOrder PartialOrder.toPreorder Preorder.toLT Preorder.toLE

theorem sum_near (n : Nat) (f g : Nat → α) (ε : α) (h : ∀ k, k < n → g k - ε ≤ f k ∧ f k ≤ g k + ε) :
    ∑ k ∈ range n, g k - n * ε ≤ ∑ k ∈ range n, f k ∧ ∑ k ∈ range n, f k ≤ ∑ k ∈ range n, g k + n * ε := by
  have hconst : ∑ _k ∈ range n, ε = n * ε := by rw [sum_const, card_range, nsmul_eq_mul]
  rw [← hconst, ← sum_sub_distrib, ← sum_add_distrib]
  exact ⟨sum_le_sum fun k hk => (h k (mem_range.mp hk)).1, sum_le_sum fun k hk => (h k (mem_range.mp hk)).2⟩

theorem sum_ind_filter (l : List (List Nat)) (p : List Nat → Bool) :
    (l.map (fun e => if p e then (1 : α) else 0)).sum = ((l.filter p).length : α) := by
  induction l with
  | nil => simp
  | cons a l ih =>
    rw [List.map_cons, List.sum_cons, ih, List.filter_cons]
    by_cases h : p a = true
    · simp only [h, if_true, List.length_cons]; push_cast; ring
    · simp only [h]; simp

theorem prodL_pos (l : List α) (h : ∀ x ∈ l, 0 < x) : 0 < prodL l := by
  induction l with
  | nil => exact one_pos
  | cons x l ih =>
    obtain ⟨hx, hl⟩ := List.forall_mem_cons.mp h
    exact mul_pos hx (ih hl)

theorem prodL_map_pos (e : List Nat) (f : Nat → α) (h : ∀ j ∈ e, 0 < f j) : 0 < prodL (e.map f) :=
  prodL_pos _ (List.forall_mem_map.mpr h)

theorem prodL_erase (f : Nat → α) (i : Nat) : ∀ (e : List Nat), i ∈ e →
    prodL (e.map f) = f i * prodL ((e.erase i).map f)
  | j :: e, h => by
    by_cases hji : j = i
    · rw [hji, List.erase_cons_head]; rfl
    · rw [List.erase_cons_tail (by simpa using hji), List.map_cons, List.map_cons, prodL_cons, prodL_cons,
        prodL_erase f i e ((List.mem_cons.mp h).resolve_left (Ne.symm hji)), mul_left_comm]

theorem esymm_mono_cons (x : α) (hx : 0 ≤ x) (l : List α) (hl : ∀ y ∈ l, 0 ≤ y) (m : Nat) :
    esymm m l ≤ esymm m (x :: l) := by
  cases m with
  | zero => rw [esymm_zero, esymm_zero]
  | succ m => exact le_add_of_nonneg_right (mul_nonneg hx (esymm_nonneg m l hl))

theorem prodL_le_esymm {l' l : List α} (hs : l'.Sublist l) (hl : ∀ y ∈ l, 0 ≤ y) :
    prodL l' ≤ esymm l'.length l := by
  induction hs with
  | slnil => exact le_of_eq (esymm_zero _).symm
  | cons x hs ih =>
    obtain ⟨hx, hl2⟩ := List.forall_mem_cons.mp hl
    exact le_trans (ih hl2) (esymm_mono_cons x hx _ hl2 _)
  | cons_cons x hs ih =>
    obtain ⟨hx, hl2⟩ := List.forall_mem_cons.mp hl
    exact le_trans (mul_le_mul_of_nonneg_left (ih hl2) hx) (le_add_of_nonneg_left (esymm_nonneg _ _ hl2))

theorem esymm_pos_of_sublist {S L : List Nat} (hs : S.Sublist L) (f : Nat → α) (hf : ∀ j, 0 ≤ f j)
    (hS : ∀ j ∈ S, 0 < f j) : 0 < esymm S.length (L.map f) := by
  have h := prodL_le_esymm (hs.map f) (List.forall_mem_map.mpr fun j _ => hf j)
  rw [List.length_map] at h
  exact lt_of_lt_of_le (prodL_map_pos S f hS) h

end

theorem sublist_range (S : List Nat) (n : Nat) (hs : S.Pairwise (· < ·)) (hn : ∀ j ∈ S, j < n) :
    S.Sublist (List.range n) :=
  List.sublist_of_subperm_of_pairwise (List.subperm_of_subset hs.nodup fun j hj => List.mem_range.mpr (hn j hj))
    hs List.pairwise_lt_range

end C17
