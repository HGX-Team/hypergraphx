import Hgxv.Proofs.C06Link
import Hgxv.Proofs.C03Ref
/-! # C06 ↔ C03 (`TemporalHypergraph`): the content-level `add_node` / `add_edge` of `Model/C06.lean` are the
operations of `C03.Spec` (for times that are non-negative integers, the only ones a C06 key can carry), and every
store that satisfies the invariant of the full model (so every reachable one) is a well-formed C06 content.  Core Lean only. -/
namespace C06

def tkey (k : C03.Key) : TKey := ⟨k.1, k.2⟩

theorem tkey_inj : ∀ a b : C03.Key, tkey a = tkey b → a = b := by
  intro a b h
  obtain ⟨a1, a2⟩ := a
  obtain ⟨b1, b2⟩ := b
  simp only [tkey, TKey.mk.injEq] at h
  rw [h.1, h.2]

/-- the abstract state of the full `TemporalHypergraph` model as a C06 content -/
def ofSpec03 (a : C03.Spec) : Content TKey := ofTables tkey a.weighted a.hmeta a.nodes a.recs

theorem touchTable03 (t : List (Nat × TMeta)) (n : Nat) : C03.touchTable t n = tAddNode t n [] := by
  unfold C03.touchTable tAddNode
  cases h : AL.get? t n with
  | none => simp
  | some old =>
    cases old with
    | nil => simp [AL.set_same t n [] h]
    | cons x xs => simp

theorem fillTouch03 (t : List (Nat × TMeta)) (n : Nat) (md : TMeta) :
    C03.fillTable (C03.touchTable t n) n md = tAddNode t n md := by
  unfold C03.fillTable C03.touchTable tAddNode
  cases h : AL.get? t n with
  | none => simp [AL.set_set]
  | some old =>
    cases old with
    | nil => simp [h]
    | cons x xs => simp [h]

theorem touchAll03 (l : List Nat) (t : List (Nat × TMeta)) : l.foldl C03.touchTable t = tTouchAll t l := by
  unfold tTouchAll
  induction l generalizing t with
  | nil => rfl
  | cons n l ih => simp only [List.foldl_cons]; rw [ih, touchTable03]

theorem spec03_addNode (a : C03.Spec) (n : Nat) (md : Option C03.Meta) :
    C03.Spec.addNode a n md = { a with nodes := tAddNode a.nodes n (md.getD []) } := by
  unfold C03.Spec.addNode; rw [fillTouch03]

theorem recVal03 (wtd : Bool) (old : Option (Int × TMeta)) (w : Option Int) (md : TMeta)
    (h : ¬ rejectsWeight wtd w = true) :
    C03.Spec.recVal wtd old (weightOrUnit w) md = tEntry wtd old (weightOrUnit w) md := by
  cases old with
  | none => simp only [C03.Spec.recVal, tEntry, accepted_weight wtd w h]
  | some o => rfl

theorem spec03_addEdge (a : C03.Spec) (raw : List Nat) (t : Nat) (w : Option Int) (md : Option C03.Meta) :
    C03.Spec.addEdge a raw (.int t) w md =
      if rejectsWeight a.weighted w then (a, .rej)
      else ({ a with
                recs := AL.set a.recs (t, C03.canon raw)
                  (tEntry a.weighted (AL.get? a.recs (t, C03.canon raw)) (weightOrUnit w) (md.getD []))
                nodes := tTouchAll a.nodes (C03.canon raw) }, .ok) := by
  unfold C03.Spec.addEdge
  simp only [show (!a.weighted && w.isSome && w != some C03.one) = rejectsWeight a.weighted w from rejects_spec _ w]
  by_cases hr : rejectsWeight a.weighted w = true
  · simp [hr]
  · have hneg : ¬ ((t : Int) < 0) := by omega
    have hw : w.getD C03.one = weightOrUnit w := by cases w <;> rfl
    simp only [hr, Bool.false_eq_true, if_false, hneg, Int.toNat_natCast, C03.Spec.addKey, hw,
      recVal03 a.weighted _ w _ hr, touchAll03]

theorem link_addNode03 (a : C03.Spec) (n : Nat) (md : Option C03.Meta) :
    ofSpec03 (C03.Spec.addNode a n md) = addNode (ofSpec03 a) n (md.map decMeta) := by
  rw [spec03_addNode]; unfold ofSpec03; rw [addNode_ofTables]

/-- `add_edge(edge, time, weight, metadata)` of the spec with a time `t ≥ 0` is C06's `addEdge` on the content, accepted
and rejected alike (`C03.Spec.addEdge` additionally rejects times that are not non-negative integers: no C06 key has
such a time) -/
theorem link_addEdge03 (a : C03.Spec) (raw : List Nat) (t : Nat) (w : Option Int) (md : Option C03.Meta) :
    addEdge (ofSpec03 a) ⟨t, raw⟩ w (md.map decMeta) =
      match C03.Spec.addEdge a raw (.int t) w md with
      | (a', .ok) => some (ofSpec03 a')
      | (_, .rej) => none := by
  rw [spec03_addEdge]
  unfold ofSpec03
  rw [addEdge_ofTables tkey tkey_inj a.weighted a.hmeta a.nodes a.recs ⟨t, raw⟩ (t, C03.canon raw)
    (by show (⟨t, sort raw⟩ : TKey) = tkey (t, C03.canon raw); simp [tkey, C03.canon_eq, sort_eq])]
  by_cases hr : rejectsWeight a.weighted w = true
  · simp [hr]
  · simp only [hr, Bool.false_eq_true, if_false]
    have : Kind.touchAlways TKey = true := rfl
    simp only [this, Bool.true_or, if_true]
    rfl

theorem link_new03 (w : Bool) :
    ofSpec03 (C03.Spec.new w) = setHMeta (construct TKey w) (decMeta (C03.Spec.new w).hmeta) := rfl

theorem link_setHMeta03 (a : C03.Spec) (hm : C03.Meta) :
    ofSpec03 (C03.Spec.applyOp a (.setHMeta hm)).1 = setHMeta (ofSpec03 a) (decMeta hm) := rfl

theorem ofSpec03_onto (c : Content TKey) : ∃ a : C03.Spec, ofSpec03 a = c :=
  ⟨{ weighted := c.weighted, hmeta := encMeta c.hmeta, nodes := mapKV id encMeta c.nodes,
     recs := mapKV (fun k : TKey => (k.time, k.nodes)) (fun v => (v.1, encMeta v.2)) c.edges },
   ofTables_enc tkey (fun k : TKey => (k.time, k.nodes)) (fun _ => rfl) c⟩

/-- the spec's own entry points, as `load_hypergraph` uses them: `TemporalHypergraph(weighted=w)` then
`set_hypergraph_metadata`, `add_node(n, md)`, `add_edge(nodes, time, weight, md)` -/
def specT : SpecOps TKey C03.Spec where
  of := ofSpec03
  new w hm := (C03.Spec.applyOp (C03.Spec.new w) (.setHMeta hm)).1
  addNode a n md := (C03.Spec.applyOp a (.addNode n (some md))).1
  addEdge a k w md :=
    match C03.Spec.applyOp a (.addEdge k.nodes (.int k.time) w (some md)) with
    | (a', .ok) => some a'
    | (_, .rej) => none
  okKey _ := True
  of_new w hm := rfl
  of_addNode a n md := link_addNode03 a n (some md)
  of_addEdge a k w md _ := by
    have h := link_addEdge03 a k.nodes k.time w (some md)
    simp only [Option.map_some] at h
    rw [h]
    simp only [C03.Spec.applyOp]
    cases C03.Spec.addEdge a k.nodes (.int k.time) w (some md) with
    | mk a' o => cases o <;> rfl

theorem WF_ofSpec03_abs (s : C03.Store) (h : C03.Inv s) : WF (ofSpec03 (C03.abs s)) :=
  WF_ofTables tkey tkey_inj _ (C03.abs_tab h)
    (fun k hk => by show (⟨k.1, sort k.2⟩ : TKey) = ⟨k.1, k.2⟩; rw [sort_of_sorted _ hk.1]) (fun _ => rfl)

theorem link_store_addNode03 (s : C03.Store) (h : C03.Inv s) (n : Nat) (md : Option C03.Meta) :
    ofSpec03 (C03.abs (C03.applyOp s (.addNode n md)).1) = addNode (ofSpec03 (C03.abs s)) n (md.map decMeta) := by
  have hs := (C03.applyOp_abs s h (.addNode n md) trivial).1
  rw [hs]
  exact link_addNode03 (C03.abs s) n md

theorem link_store_addEdge03 (s : C03.Store) (h : C03.Inv s) (raw : List Nat) (hraw : raw.Nodup) (t : Nat)
    (w : Option Int) (md : Option C03.Meta) :
    addEdge (ofSpec03 (C03.abs s)) ⟨t, raw⟩ w (md.map decMeta) =
      match C03.applyOp s (.addEdge raw (.int t) w md) with
      | (s', .ok) => some (ofSpec03 (C03.abs s'))
      | (_, .rej) => none := by
  obtain ⟨h1, h2⟩ := C03.applyOp_abs s h (.addEdge raw (.int t) w md) hraw
  rw [link_addEdge03]
  simp only [C03.Spec.applyOp] at h1 h2
  revert h1 h2
  generalize C03.applyOp s (.addEdge raw (.int t) w md) = r
  generalize C03.Spec.addEdge (C03.abs s) raw (.int t) w md = q
  obtain ⟨s', o1⟩ := r
  obtain ⟨a', o2⟩ := q
  intro h1 h2
  simp only at h1 h2
  subst h1 h2
  cases o1 <;> rfl

theorem match_outT {β : Type} (r : C03.Store × C03.Out) (g : C03.Store → β) :
    (match r with
      | (s', .ok) => some (g s')
      | (_, .rej) => none) = if r.2 = .ok then some (g r.1) else none := by
  obtain ⟨s', o⟩ := r
  cases o <;> simp

abbrev StoreT := { s : C03.Store // C03.Inv s }

def storeT : SpecOps TKey StoreT where
  of s := ofSpec03 (C03.abs s.1)
  new w hm := ⟨(C03.applyOp (C03.Store.new w) (.setHMeta hm)).1, C03.applyOp_inv _ (C03.inv_new w) (.setHMeta hm) trivial⟩
  addNode s n md := ⟨(C03.applyOp s.1 (.addNode n (some md))).1, C03.applyOp_inv _ s.2 (.addNode n (some md)) trivial⟩
  addEdge s k w md :=
    if hk : k.nodes.Nodup then
      if (C03.applyOp s.1 (.addEdge k.nodes (.int k.time) w (some md))).2 = .ok then
        some ⟨(C03.applyOp s.1 (.addEdge k.nodes (.int k.time) w (some md))).1,
          C03.applyOp_inv _ s.2 (.addEdge k.nodes (.int k.time) w (some md)) hk⟩
      else none
    else none
  okKey k := k.nodes.Nodup
  of_new w hm := rfl
  of_addNode s n md := link_store_addNode03 s.1 s.2 n (some md)
  of_addEdge s k w md hk := by
    have h := link_store_addEdge03 s.1 s.2 k.nodes hk k.time w (some md)
    simp only [Option.map_some] at h
    rw [h]
    rw [match_outT]
    simp only [dif_pos hk]
    split <;> rfl

theorem okKeys03 (s : C03.Store) (h : C03.Inv s) : ∀ e ∈ (ofSpec03 (C03.abs s)).edges, storeT.okKey e.1 := by
  intro e he
  obtain ⟨p, hp, rfl⟩ := (mem_mapKV tkey decVal2 _ e).mp he
  exact ((C03.abs_tab h).key p hp).1.2

end C06
