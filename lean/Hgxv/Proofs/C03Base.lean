import Hgxv.Model.C03
import Hgxv.Proofs.SortLib
/-! Helper lemmas for C03 (core Lean only): `canon`, `sortKeys`. -/
namespace C03

theorem insertSorted_eq : insertSorted = NatSort.insert := by
  funext a l; induction l with
  | nil => rfl
  | cons b bs ih => simp only [insertSorted, NatSort.insert, ih]

theorem canon_eq : canon = NatSort.isort := by
  funext l; simp only [canon, NatSort.isort, insertSorted_eq]

theorem canon_perm (l : List Nat) : (canon l).Perm l := canon_eq ▸ NatSort.isort_perm l
theorem canon_nodup {l : List Nat} (h : l.Nodup) : (canon l).Nodup := canon_eq ▸ NatSort.isort_nodup h
theorem mem_canon {l : List Nat} {n : Nat} : n ∈ canon l ↔ n ∈ l := (canon_perm l).mem_iff

def Sorted (l : List Nat) : Prop := l.Pairwise (· ≤ ·)

theorem canon_sorted (l : List Nat) : Sorted (canon l) := canon_eq ▸ NatSort.isort_sorted l

theorem canon_of_sorted (l : List Nat) (h : Sorted l) : canon l = l := canon_eq ▸ NatSort.isort_of_sorted h

theorem canon_canon (l : List Nat) : canon (canon l) = canon l := canon_of_sorted _ (canon_sorted l)

/-- two sorted duplicate-free lists with the same members are equal: the canonical form depends on the node SET only -/
theorem sorted_ext (l1 l2 : List Nat) (h1 : Sorted l1) (h2 : Sorted l2) (n1 : l1.Nodup) (n2 : l2.Nodup)
    (h : ∀ x, x ∈ l1 ↔ x ∈ l2) : l1 = l2 :=
  NatSort.eq_of_perm_of_sorted ((List.perm_ext_iff_of_nodup n1 n2).mpr h) h1 h2

theorem canon_eq_of_perm (l1 l2 : List Nat) (h : l1.Perm l2) : canon l1 = canon l2 :=
  canon_eq ▸ NatSort.isort_eq_of_perm h

theorem insertKey_eq (a : Key) (l : List Key) : insertKey a l = BSort.ins keyLe a l := by
  induction l with
  | nil => rfl
  | cons b bs ih => simp only [insertKey, BSort.ins, ih]

theorem sortKeys_eq (l : List Key) : sortKeys l = BSort.sort keyLe l := by
  induction l with
  | nil => rfl
  | cons a l ih => exact (congrArg (insertKey a) ih).trans (insertKey_eq a _)

theorem sortKeys_perm (l : List Key) : (sortKeys l).Perm l := sortKeys_eq l ▸ BSort.sort_perm keyLe l

theorem mem_sortKeys {l : List Key} {k : Key} : k ∈ sortKeys l ↔ k ∈ l := (sortKeys_perm l).mem_iff

def TimeSorted (l : List Key) : Prop := l.Pairwise (fun a b => a.1 ≤ b.1)

theorem keyLe_time {a b : Key} (h : keyLe a b = true) : a.1 ≤ b.1 := by
  unfold keyLe at h
  by_cases h1 : a.1 < b.1
  · omega
  · by_cases h2 : b.1 < a.1
    · simp [h1, h2] at h
    · omega

theorem not_keyLe_time {a b : Key} (h : ¬ keyLe a b = true) : b.1 ≤ a.1 := by
  unfold keyLe at h
  by_cases h1 : a.1 < b.1
  · simp [h1] at h
  · omega

theorem sortKeys_timeSorted (l : List Key) : TimeSorted (sortKeys l) :=
  sortKeys_eq l ▸ BSort.sort_pairwise_of (r := keyLe) (S := fun a b => a.1 ≤ b.1) (fun _ _ _ => Nat.le_trans) (fun _ _ => keyLe_time)
    (fun _ _ h => not_keyLe_time (Bool.eq_false_iff.mp h)) l

end C03
