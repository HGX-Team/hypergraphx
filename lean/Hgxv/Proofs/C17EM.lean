import Hgxv.Model.C17Ext
import Hgxv.Proofs.C17Sum
import Hgxv.Proofs.C17Init
import Mathlib.Analysis.SpecialFunctions.Log.Basic
set_option linter.unusedSectionVars false
/-! EM ascent for the Hypergraph-MT model over `ℝ`: free energy, posterior, block M-steps. -/
namespace C17
open Finset Real

/-! ### scalar facts (all from `log t ≤ t - 1`) -/

/-- the M-step of one parameter: `a log x - b x` is maximal at `x = a / b` -/
theorem mstep_scalar (a b x : ℝ) (ha : 0 < a) (hb : 0 < b) (hx : 0 < x) :
    0 ≤ a * (log (a / b) - log x) - b * (a / b - x) := by
  have hx' : 0 < a / b := div_pos ha hb
  have h := mul_le_mul_of_nonneg_left (Real.log_le_sub_one_of_pos (div_pos hx hx')) ha.le
  rw [Real.log_div hx.ne' hx'.ne', div_div_eq_mul_div, mul_sub a _ 1, mul_div_cancel₀ _ ha.ne'] at h
  rw [mul_sub b, mul_div_cancel₀ _ hb.ne']
  linarith

theorem kl_term (r cv lam : ℝ) (hr : 0 ≤ r) (hc : 0 < cv) (hl : 0 < lam) :
    r * (log cv - log r) ≤ r * log lam + (cv / lam - r) := by
  rcases hr.eq_or_lt with h0 | hpos
  · rw [← h0, zero_mul, zero_mul, zero_add, sub_zero]; exact (div_pos hc hl).le
  · have h := mul_le_mul_of_nonneg_left (Real.log_le_sub_one_of_pos (div_pos hc (mul_pos hpos hl))) hr
    rw [Real.log_div hc.ne' (mul_pos hpos hl).ne', Real.log_mul hpos.ne' hl.ne', mul_sub r _ 1, mul_one,
      mul_div_assoc', mul_div_mul_left _ _ hpos.ne'] at h
    linarith

/-- `Σ_k ρ_k log(c_k / ρ_k) ≤ log Σ_k c_k` for a probability vector `ρ` (non-negativity of the KL divergence) -/
theorem kl_edge (K : ℕ) (cv rv : ℕ → ℝ) (hr0 : ∀ k, k < K → 0 ≤ rv k) (hsum : ∑ k ∈ range K, rv k = 1)
    (hc : ∀ k, k < K → 0 < cv k) :
    ∑ k ∈ range K, rv k * (log (cv k) - log (rv k)) ≤ log (∑ k ∈ range K, cv k) := by
  have hK : (range K).Nonempty := by
    rw [nonempty_range_iff]; rintro rfl; exact zero_ne_one hsum
  have hl : 0 < ∑ k ∈ range K, cv k := sum_pos (fun k hk => hc k (mem_range.mp hk)) hK
  have h := sum_le_sum fun k hk => kl_term (rv k) (cv k) _ (hr0 k (mem_range.mp hk)) (hc k (mem_range.mp hk)) hl
  rwa [sum_add_distrib, sum_sub_distrib, ← sum_mul, ← sum_div, hsum, div_self hl.ne', sub_self, add_zero, one_mul]
    at h

/-- with the posterior `ρ_k = c_k / Σ c` the bound is attained -/
theorem post_edge (K : ℕ) (cv : ℕ → ℝ) (hc : ∀ k, k < K → 0 < cv k) (hK : 0 < K) :
    ∑ k ∈ range K, (cv k / ∑ j ∈ range K, cv j) * (log (cv k) - log (cv k / ∑ j ∈ range K, cv j))
      = log (∑ k ∈ range K, cv k) := by
  have hl : 0 < ∑ k ∈ range K, cv k :=
    sum_pos (fun k hk => hc k (mem_range.mp hk)) (nonempty_range_iff.mpr hK.ne')
  rw [sum_congr rfl fun k hk => by rw [Real.log_div (hc k (mem_range.mp hk)).ne' hl.ne', sub_sub_cancel],
    ← sum_mul, ← sum_div, div_self hl.ne', one_mul]

/-- the configuration of the ascent theorem: no clamps (`min_value_par = 0`, no upper clamp), `EPS = 0`,
`normalizeU = False`; hyperedges are increasing lists of node indices `< N` of size `2..D` with positive weight -/
structure Setup (c : Cfg ℝ) : Prop where
  eps0 : c.eps = 0
  minv0 : c.minv = 0
  maxvN : c.maxv = none
  normF : c.normU = false
  Kpos : 0 < c.K
  Apos : ∀ e, e < c.E → 0 < c.wt e
  esorted : ∀ e, e < c.E → (c.edge e).Pairwise (· < ·)
  enodes : ∀ e, e < c.E → ∀ i ∈ c.edge e, i < c.N
  esize : ∀ e, e < c.E → 2 ≤ (c.edge e).length ∧ (c.edge e).length ≤ c.D

theorem Setup.cfgOk {c : Cfg ℝ} (h : Setup c) : CfgOk c :=
  ⟨by rw [h.minv0], by intro t v hm; rw [h.maxvN] at hm; cases hm⟩

/-- strict positivity where the model has a parameter: memberships of the nodes of every hyperedge and affinities
of the occurring sizes (true with probability one after the random initialisation, preserved by the sweeps);
all affinities non-negative -/
structure Pos (c : Cfg ℝ) (u w : Mat ℝ) : Prop where
  upos : ∀ e, e < c.E → ∀ i ∈ c.edge e, ∀ k, k < c.K → 0 < at2 u i k
  wpos : ∀ e, e < c.E → ∀ k, k < c.K → 0 < at2 w ((c.edge e).length - 2) k
  wnn : ∀ d k, 0 ≤ at2 w d k

def IsoZero (c : Cfg ℝ) (u : Mat ℝ) : Prop := ∀ i, i < c.N → c.isIso i = true → ∀ k, at2 u i k = 0

/-- a matrix of responsibilities: positive entries, rows summing to one -/
structure RhoOk (c : Cfg ℝ) (rho : Mat ℝ) : Prop where
  pos : ∀ e, e < c.E → ∀ k, k < c.K → 0 < at2 rho e k
  sum : ∀ e, e < c.E → ∑ k ∈ range c.K, at2 rho e k = 1

/-- the log-likelihood from its definition -/
noncomputable def LL (c : Cfg ℝ) (u w : Mat ℝ) : ℝ :=
  ∑ e ∈ range c.E, c.wt e * log (lamE c u w e) - penDef c u w

/-- the variational free energy for responsibilities `rho` -/
noncomputable def FQ (c : Cfg ℝ) (u w rho : Mat ℝ) : ℝ :=
  ∑ e ∈ range c.E, c.wt e * ∑ k ∈ range c.K, at2 rho e k * (log (cEK c u w e k) - log (at2 rho e k))
    - penDef c u w

section basics
variable {c : Cfg ℝ} (hS : Setup c)
include hS

theorem cEK_eq (u w : Mat ℝ) (e k : Nat) :
    cEK c u w e k = at2 w ((c.edge e).length - 2) k * prodL ((c.edge e).map fun i => at2 u i k) := by
  unfold cEK edgeProd; rw [hS.eps0]; simp only [add_zero]

omit hS in
theorem Pos.edge {u w : Mat ℝ} (hP : Pos c u w) {e k : Nat} (he : e < c.E) (hk : k < c.K) :
    0 < prodL ((c.edge e).map fun i => at2 u i k) :=
  prodL_map_pos _ _ fun i hi => hP.upos e he i hi k hk

theorem cEK_pos {u w : Mat ℝ} (hP : Pos c u w) (e k : Nat) (he : e < c.E) (hk : k < c.K) : 0 < cEK c u w e k := by
  rw [cEK_eq hS]; exact mul_pos (hP.wpos e he k hk) (hP.edge he hk)

theorem log_cEK {u w : Mat ℝ} (hP : Pos c u w) {e k : Nat} (he : e < c.E) (hk : k < c.K) :
    log (cEK c u w e k)
      = log (at2 w ((c.edge e).length - 2) k) + log (prodL ((c.edge e).map fun i => at2 u i k)) := by
  rw [cEK_eq hS, Real.log_mul (hP.wpos e he k hk).ne' (hP.edge he hk).ne']

omit hS in
theorem lamE_eq (u w : Mat ℝ) (e : Nat) : lamE c u w e = ∑ k ∈ range c.K, cEK c u w e k := sumR_eq _ _

theorem lamE_pos {u w : Mat ℝ} (hP : Pos c u w) (e : Nat) (he : e < c.E) : 0 < lamE c u w e := by
  rw [lamE_eq]
  exact sum_pos (fun k hk => cEK_pos hS hP e k he (mem_range.mp hk)) (nonempty_range_iff.mpr hS.Kpos.ne')

theorem rhoUpdate_at {u w : Mat ℝ} (hP : Pos c u w) (e k : Nat) (he : e < c.E) (hk : k < c.K) :
    at2 (rhoUpdate c u w) e k = cEK c u w e k / lamE c u w e := by
  unfold rhoUpdate
  rw [at2_tab2 _ _ _ _ _ he hk, if_pos (lamE_pos hS hP e he)]

theorem rhoUpdate_ok {u w : Mat ℝ} (hP : Pos c u w) : RhoOk c (rhoUpdate c u w) := by
  refine ⟨fun e he k hk => ?_, fun e he => ?_⟩
  · rw [rhoUpdate_at hS hP e k he hk]
    exact div_pos (cEK_pos hS hP e k he hk) (lamE_pos hS hP e he)
  · rw [sum_congr rfl fun k hk => rhoUpdate_at hS hP e k he (mem_range.mp hk), ← sum_div, ← lamE_eq,
      div_self (lamE_pos hS hP e he).ne']

theorem FQ_le_LL {u w rho : Mat ℝ} (hP : Pos c u w) (hR : RhoOk c rho) : FQ c u w rho ≤ LL c u w := by
  refine sub_le_sub_right (sum_le_sum fun e he => ?_) _
  have he' := mem_range.mp he
  rw [lamE_eq]
  exact mul_le_mul_of_nonneg_left
    (kl_edge c.K _ _ (fun k hk => (hR.pos e he' k hk).le) (hR.sum e he') fun k hk => cEK_pos hS hP e k he' hk)
    (hS.Apos e he').le

theorem FQ_eq_LL {u w : Mat ℝ} (hP : Pos c u w) : FQ c u w (rhoUpdate c u w) = LL c u w := by
  refine congrArg (· - penDef c u w) (sum_congr rfl fun e he => congrArg (c.wt e * ·) ?_)
  have he' := mem_range.mp he
  rw [sum_congr rfl fun k hk => by rw [rhoUpdate_at hS hP e k he' (mem_range.mp hk), lamE_eq]]
  exact post_edge c.K _ (fun k hk => cEK_pos hS hP e k he' hk) hS.Kpos

omit hS in
theorem penDef_eq (u w : Mat ℝ) :
    penDef c u w = ∑ d ∈ range (c.D - 1), ∑ k ∈ range c.K, at2 w d k * esymm (d + 2) (col c.N u k) :=
  (sumR_eq _ _).trans (sum_congr rfl fun _ _ => sumR_eq _ _)

omit hS in
theorem FQ_sub (u w u' w' rho : Mat ℝ) :
    FQ c u' w' rho - FQ c u w rho
      = ∑ e ∈ range c.E, ∑ k ∈ range c.K, c.wt e * at2 rho e k * (log (cEK c u' w' e k) - log (cEK c u w e k))
        - (penDef c u' w' - penDef c u w) := by
  unfold FQ
  rw [sub_sub_sub_comm, ← sum_sub_distrib]
  refine congrArg (· - _) (sum_congr rfl fun e _ => ?_)
  rw [← mul_sub, ← sum_sub_distrib, mul_sum]
  exact sum_congr rfl fun k _ => by ring

/-- `Σ_{e : P e} A_e ρ_ek`: the shape of the numerators of `_update_w` and `_update_u` -/
theorem wtsum_term_nonneg {rho : Mat ℝ} (hR : RhoOk c rho) (P : ℕ → Prop) [DecidablePred P] {k : Nat} (hk : k < c.K) :
    ∀ e ∈ range c.E, 0 ≤ if P e then c.wt e * at2 rho e k else 0 := by
  intro e he; split
  · exact (mul_pos (hS.Apos e (mem_range.mp he)) (hR.pos e (mem_range.mp he) k hk)).le
  · exact le_refl 0

theorem wtsum_pos {rho : Mat ℝ} (hR : RhoOk c rho) (P : ℕ → Prop) [DecidablePred P] {k : Nat} (hk : k < c.K)
    {e : Nat} (he : e < c.E) (hPe : P e) : 0 < ∑ e ∈ range c.E, if P e then c.wt e * at2 rho e k else 0 :=
  sum_pos' (wtsum_term_nonneg hS hR P hk)
    ⟨e, mem_range.mpr he, by rw [if_pos hPe]; exact mul_pos (hS.Apos e he) (hR.pos e he k hk)⟩

end basics

section wstep
variable {c : Cfg ℝ} (hS : Setup c)
include hS

omit hS in
theorem wNum_eq (rho : Mat ℝ) (d k : Nat) :
    wNum c rho d k = ∑ e ∈ range c.E, if (c.edge e).length = d + 2 then c.wt e * at2 rho e k else 0 :=
  sumR_eq _ _

theorem wNum_nonneg {rho : Mat ℝ} (hR : RhoOk c rho) (d k : Nat) (hk : k < c.K) : 0 ≤ wNum c rho d k := by
  rw [wNum_eq]; exact sum_nonneg (wtsum_term_nonneg hS hR _ hk)

theorem wNum_pos {rho : Mat ℝ} (hR : RhoOk c rho) {d e k : Nat} (he : e < c.E) (hd : (c.edge e).length = d + 2)
    (hk : k < c.K) : 0 < wNum c rho d k := by
  rw [wNum_eq]; exact wtsum_pos hS hR _ hk he hd

/-- `e_{|e|}(u[:,k])` is at least the product over the hyperedge `e`, hence positive -/
theorem esymm_edge_pos {u w : Mat ℝ} (hP : Pos c u w) (hu : ∀ i k, 0 ≤ at2 u i k) (e k : Nat) (he : e < c.E)
    (hk : k < c.K) : 0 < esymm (c.edge e).length (col c.N u k) :=
  esymm_pos_of_sublist (sublist_range _ _ (hS.esorted e he) (hS.enodes e he)) _ (fun j => hu j k)
    fun i hi => hP.upos e he i hi k hk

/-- the same without a node `i`: erasing `i` from the hyperedge and from the index list keeps the sublist -/
theorem esymm_rest_pos {u w : Mat ℝ} (hP : Pos c u w) (hu : ∀ i k, 0 ≤ at2 u i k) {e i k : Nat} (he : e < c.E)
    (hi : i < c.N) (hk : k < c.K) :
    0 < esymm ((c.edge e).erase i).length (restL c.N (fun j => at2 u j k) i) := by
  rw [restL_eq_erase _ _ _ hi]
  exact esymm_pos_of_sublist ((sublist_range _ _ (hS.esorted e he) (hS.enodes e he)).erase i) _ (fun j => hu j k)
    fun j hj => hP.upos e he j (List.mem_of_mem_erase hj) k hk

/-- a sum over hyperedges regrouped by size `d + 2`: this is where `wNum` comes from -/
theorem regroup (rho : Mat ℝ) (G : Nat → Nat → ℝ) :
    ∑ e ∈ range c.E, ∑ k ∈ range c.K, c.wt e * at2 rho e k * G ((c.edge e).length - 2) k
      = ∑ d ∈ range (c.D - 1), ∑ k ∈ range c.K, wNum c rho d k * G d k := by
  have hR : ∀ d ∈ range (c.D - 1), ∑ k ∈ range c.K, wNum c rho d k * G d k
      = ∑ e ∈ range c.E, ∑ k ∈ range c.K,
          if (c.edge e).length = d + 2 then c.wt e * at2 rho e k * G d k else 0 := by
    intro d _
    rw [sum_comm]
    refine sum_congr rfl fun k _ => ?_
    rw [wNum_eq, sum_mul]
    exact sum_congr rfl fun e _ => ite_zero_mul ..
  rw [sum_congr rfl hR, sum_comm (s := range (c.D - 1))]
  refine sum_congr rfl fun e he => ?_
  have hsz := hS.esize e (mem_range.mp he)
  rw [sum_comm (s := range (c.D - 1))]
  refine sum_congr rfl fun k _ => ?_
  rw [sum_eq_single_of_mem ((c.edge e).length - 2) (mem_range.mpr (by omega)) fun d _ hne => if_neg (by omega),
    if_pos (by omega)]

/-- the free energy as a function of `w`: `Σ_{d,k} (wNum_dk log w_dk - w_dk e_{d+2}(u_·k))` up to a constant -/
theorem FQ_sub_w {u w w' : Mat ℝ} (rho : Mat ℝ) (hP : Pos c u w) (hP' : Pos c u w') :
    FQ c u w' rho - FQ c u w rho = ∑ d ∈ range (c.D - 1), ∑ k ∈ range c.K,
      (wNum c rho d k * (log (at2 w' d k) - log (at2 w d k))
        - (at2 w' d k - at2 w d k) * esymm (d + 2) (col c.N u k)) := by
  rw [FQ_sub, penDef_eq, penDef_eq]
  simp only [sum_sub_distrib, sub_mul]
  rw [← regroup hS rho fun d k => log (at2 w' d k) - log (at2 w d k)]
  refine congrArg (· - _) (sum_congr rfl fun e he => sum_congr rfl fun k hk => ?_)
  rw [log_cEK hS hP' (mem_range.mp he) (mem_range.mp hk), log_cEK hS hP (mem_range.mp he) (mem_range.mp hk),
    add_sub_add_right_eq_sub]

omit hS in
theorem wUpdate_at {rho psi : Mat ℝ} (d k : Nat) (hd : d < c.D - 1) (hk : k < c.K) :
    at2 (wUpdate c rho psi) d k
      = if 0 < at2 psi (d + 1) k then wNum c rho d k / at2 psi (d + 1) k else wNum c rho d k :=
  at2_tab2 _ _ _ _ _ hd hk

theorem wstep {u w rho psi : Mat ℝ} (hP : Pos c u w) (hu : ∀ i k, 0 ≤ at2 u i k) (hR : RhoOk c rho)
    (hpsi : ∀ d k, d < c.D → k < c.K → at2 psi d k = esymm (d + 1) (col c.N u k)) :
    Pos c u (wUpdate c rho psi) ∧ FQ c u w rho ≤ FQ c u (wUpdate c rho psi) rho := by
  -- on a size that occurs the new entry is the ratio, with positive numerator and denominator
  have hocc : ∀ e d k, e < c.E → (c.edge e).length = d + 2 → k < c.K →
      0 < wNum c rho d k ∧ 0 < esymm (d + 2) (col c.N u k) ∧
      at2 (wUpdate c rho psi) d k = wNum c rho d k / esymm (d + 2) (col c.N u k) := by
    intro e d k he hd hk
    have hsz := hS.esize e he
    have hE := esymm_edge_pos hS hP hu e k he hk
    rw [hd] at hE
    refine ⟨wNum_pos hS hR he hd hk, hE, ?_⟩
    rw [wUpdate_at d k (by omega) hk, hpsi (d + 1) k (by omega) hk, if_pos hE]
  have hP' : Pos c u (wUpdate c rho psi) := by
    refine ⟨hP.upos, fun e he k hk => ?_, at2_tab2_nonneg _ _ _ fun d k hd hk => ?_⟩
    · obtain ⟨hn, hE, hw'⟩ := hocc e ((c.edge e).length - 2) k he (by have := (hS.esize e he).1; omega) hk
      rw [hw']; exact div_pos hn hE
    · split
      · next h => exact div_nonneg (wNum_nonneg hS hR d k hk) h.le
      · exact wNum_nonneg hS hR d k hk
  refine ⟨hP', sub_nonneg.mp ?_⟩
  rw [FQ_sub_w hS rho hP hP']
  refine sum_nonneg fun d hd => sum_nonneg fun k hk => ?_
  have hd' := mem_range.mp hd
  have hk' := mem_range.mp hk
  by_cases hex : ∃ e, e < c.E ∧ (c.edge e).length = d + 2
  · obtain ⟨e, he, hlen⟩ := hex
    obtain ⟨hn, hE, hw'⟩ := hocc e d k he hlen hk'
    have hw := hP.wpos e he k hk'
    rw [hlen, Nat.add_sub_cancel] at hw
    rw [hw', mul_comm (_ - _) (esymm _ _)]
    exact mstep_scalar _ _ _ hn hE hw
  · -- no hyperedge of size `d + 2`: the entry is set to `0`, the penalty can only drop
    have h0 : wNum c rho d k = 0 := by
      rw [wNum_eq]; exact sum_eq_zero fun e he => if_neg fun h => hex ⟨e, mem_range.mp he, h⟩
    have hw' : at2 (wUpdate c rho psi) d k = 0 := by
      rw [wUpdate_at d k hd' hk', h0, zero_div, ite_self]
    rw [hw', h0, zero_mul, zero_sub, zero_sub, neg_mul, neg_neg]
    exact mul_nonneg (hP.wnn d k) (esymm_col_nonneg _ _ hu _ k)

end wstep

section ustep
variable {c : Cfg ℝ} (hS : Setup c)
include hS

omit hS in
theorem uNum_eq (rho : Mat ℝ) (i k : Nat) :
    uNum c rho i k = ∑ e ∈ range c.E, if i ∈ c.edge e then c.wt e * at2 rho e k else 0 := by
  unfold uNum; rw [sumR_eq]
  exact sum_congr rfl fun e _ => if_congr List.contains_iff_mem rfl rfl

omit hS in
theorem uDen_eq (w bar : Mat ℝ) (k : Nat) :
    uDen c w bar k = ∑ d ∈ range (c.D - 1), at2 w d k * at2 bar d k := sumR_eq _ _

/-- overwriting row `i` changes the data term of a hyperedge only if it contains `i`, and then by `log v_k - log u_ik`:
both products are the entry of node `i` times the product over the other nodes of the hyperedge -/
theorem log_cEK_setRow {u w : Mat ℝ} (v : Nat → ℝ) {i : Nat} (hi : i < c.N) (hP : Pos c u w)
    (hP' : Pos c (setRow c u i v) w) {e k : Nat} (he : e < c.E) (hk : k < c.K) :
    log (cEK c (setRow c u i v) w e k) - log (cEK c u w e k)
      = if i ∈ c.edge e then log (v k) - log (at2 u i k) else 0 := by
  rw [log_cEK hS hP' he hk, log_cEK hS hP he hk, add_sub_add_left_eq_sub]
  by_cases hie : i ∈ c.edge e
  · have hrest : ((c.edge e).erase i).map (fun j => at2 (setRow c u i v) j k)
        = ((c.edge e).erase i).map (fun j => at2 u j k) :=
      List.map_congr_left fun j hj => by
        rw [setRow_at c u i v (hS.enodes e he j (List.mem_of_mem_erase hj)) hk,
          if_neg ((List.Nodup.mem_erase_iff (hS.esorted e he).nodup).mp hj).1]
    have hR : 0 < prodL (((c.edge e).erase i).map fun j => at2 u j k) :=
      prodL_map_pos _ _ fun j hj => hP.upos e he j (List.mem_of_mem_erase hj) k hk
    have hv := hP'.upos e he i hie k hk
    rw [setRow_at c u i v hi hk, if_pos rfl] at hv
    rw [prodL_erase _ i _ hie, prodL_erase (fun j => at2 u j k) i _ hie, hrest, setRow_at c u i v hi hk,
      if_pos rfl, Real.log_mul hv.ne' hR.ne', Real.log_mul (hP.upos e he i hie k hk).ne' hR.ne', if_pos hie,
      add_sub_add_right_eq_sub]
  · rw [if_neg hie, List.map_congr_left (g := fun j => at2 u j k) fun j hj => by
      rw [setRow_at c u i v (hS.enodes e he j hj) hk, if_neg fun h : j = i => hie (h ▸ hj)], sub_self]

omit hS in
theorem penDef_setRow (u w : Mat ℝ) (v : Nat → ℝ) {i : Nat} (hi : i < c.N) :
    penDef c (setRow c u i v) w - penDef c u w = ∑ k ∈ range c.K,
      (∑ d ∈ range (c.D - 1), at2 w d k * esymm (d + 1) (restL c.N (fun j => at2 u j k) i)) * (v k - at2 u i k) := by
  rw [penDef_eq, penDef_eq]
  simp only [← sum_sub_distrib, sum_mul]
  rw [sum_comm]
  refine sum_congr rfl fun k hk => sum_congr rfl fun d _ => ?_
  rw [esymm_col_setRow c u i hi v k (mem_range.mp hk), esymm_col c.N u k i hi]
  ring

/-- the free energy as a function of row `i` of `u`: `Σ_k (uNum_ik log u_ik - u_ik Σ_d w_dk e_{d+1}(u_·k without i))` up
to a constant -/
theorem FQ_sub_u {u w : Mat ℝ} (rho : Mat ℝ) (v : Nat → ℝ) {i : Nat} (hi : i < c.N) (hP : Pos c u w)
    (hP' : Pos c (setRow c u i v) w) :
    FQ c (setRow c u i v) w rho - FQ c u w rho = ∑ k ∈ range c.K,
      (uNum c rho i k * (log (v k) - log (at2 u i k))
        - (∑ d ∈ range (c.D - 1), at2 w d k * esymm (d + 1) (restL c.N (fun j => at2 u j k) i))
            * (v k - at2 u i k)) := by
  rw [FQ_sub, penDef_setRow u w v hi, sum_comm, sum_sub_distrib]
  refine congrArg (· - _) (sum_congr rfl fun k hk => ?_)
  rw [uNum_eq, sum_mul]
  refine sum_congr rfl fun e he => ?_
  rw [log_cEK_setRow hS v hi hP hP' (mem_range.mp he) (mem_range.mp hk)]
  split
  · rfl
  · rw [mul_zero, zero_mul]

/-- the hypotheses under which a block update ascends: exact tables, positive parameters, zero rows for isolated
nodes, responsibilities a probability matrix -/
structure Ready (c : Cfg ℝ) (s : St ℝ) : Prop where
  inv : Inv c s
  pos : Pos c s.u s.w
  iso : IsoZero c s.u
  rho : RhoOk c s.rho

section node
variable {s : St ℝ} (h : Ready c s) {i e0 : Nat} (hi : i < c.N) (he0 : e0 < c.E) (hie0 : i ∈ c.edge e0)
include h hi he0 hie0

theorem uNum_pos (k : Nat) (hk : k < c.K) : 0 < uNum c s.rho i k := by
  rw [uNum_eq]; exact wtsum_pos hS h.rho _ hk he0 hie0

theorem actK_true (k : Nat) (hk : k < c.K) : actK c s i k = true := by
  unfold actK; rw [hS.minv0]; exact decide_eq_true (h.pos.upos e0 he0 i hie0 k hk)

/-- the denominator of the update in the form in which it occurs in the free energy -/
theorem uDen_rest (k : Nat) (hk : k < c.K) : uDen c s.w (barNew c s i) k
    = ∑ d ∈ range (c.D - 1), at2 s.w d k * esymm (d + 1) (restL c.N (fun j => at2 s.u j k) i) := by
  rw [uDen_eq]
  refine sum_congr rfl fun d hd => ?_
  rw [barNew_active h.inv.toInv0 hi d k (by have := mem_range.mp hd; omega) hk (actK_true hS h hi he0 hie0 k hk)]

/-- the term of the size of `e0` is positive: `e_{|e0|-1}` of the column without `i` is at least the product over the other
nodes of `e0` -/
theorem uDen_pos (k : Nat) (hk : k < c.K) : 0 < uDen c s.w (barNew c s i) k := by
  rw [uDen_rest hS h hi he0 hie0 k hk]
  have hsz := hS.esize e0 he0
  refine sum_pos' (fun d _ => mul_nonneg (h.pos.wnn d k)
    (esymm_nonneg _ _ (restL_nonneg _ _ _ fun j => h.inv.unn j k))) ⟨(c.edge e0).length - 2, mem_range.mpr (by omega), ?_⟩
  have hrest := esymm_rest_pos hS h.pos h.inv.unn he0 hi hk
  rw [List.length_erase_of_mem hie0] at hrest
  rw [show (c.edge e0).length - 2 + 1 = (c.edge e0).length - 1 by omega]
  exact mul_pos (h.pos.wpos e0 he0 k hk) hrest

theorem rawNew_eq (k : Nat) (hk : k < c.K) : rawNew c s i k = uNum c s.rho i k / uDen c s.w (barNew c s i) k := by
  unfold rawNew uRaw
  rw [hS.normF, if_neg Bool.false_ne_true, if_pos (uDen_pos hS h hi he0 hie0 k hk)]

theorem rawNew_pos (k : Nat) (hk : k < c.K) : 0 < rawNew c s i k := by
  rw [rawNew_eq hS h hi he0 hie0 k hk]
  exact div_pos (uNum_pos hS h hi he0 hie0 k hk) (uDen_pos hS h hi he0 hie0 k hk)

theorem negNew_false : negNew c s i = false := by
  unfold negNew anyK
  rw [List.any_eq_false]
  intro k hk
  rw [decide_eq_false (not_lt.mpr (rawNew_pos hS h hi he0 hie0 k (List.mem_range.mp hk)).le), Bool.and_false]
  exact Bool.false_ne_true

theorem vNew_eq (k : Nat) (hk : k < c.K) :
    vNew c s i k = uNum c s.rho i k / uDen c s.w (barNew c s i) k := by
  have hpos := rawNew_pos hS h hi he0 hie0 k hk
  unfold vNew
  rw [actK_true hS h hi he0 hie0 k hk, negNew_false hS h hi he0 hie0, if_pos rfl, if_neg Bool.false_ne_true,
    ← rawNew_eq hS h hi he0 hie0 k hk]
  exact clampU_fix c _ (Or.inr (hS.minv0 ▸ hpos.le)) fun t v hm => by rw [hS.maxvN] at hm; cases hm

theorem uNode_u_eq : (uNode c s i).u = setRow c s.u i (vNew c s i) := by
  refine uNode_u_of_active h.inv.toInv0 hi ?_
  unfold anyK
  rw [List.any_eq_true]
  exact ⟨0, List.mem_range.mpr hS.Kpos, actK_true hS h hi he0 hie0 0 hS.Kpos⟩

theorem ustep :
    Pos c (setRow c s.u i (vNew c s i)) s.w ∧
    FQ c s.u s.w s.rho ≤ FQ c (setRow c s.u i (vNew c s i)) s.w s.rho := by
  have hP' : Pos c (setRow c s.u i (vNew c s i)) s.w := by
    refine ⟨fun e he j hj k hk => ?_, h.pos.wpos, h.pos.wnn⟩
    rw [setRow_at c s.u i _ (hS.enodes e he j hj) hk]
    split
    · rw [vNew_eq hS h hi he0 hie0 k hk, ← rawNew_eq hS h hi he0 hie0 k hk]
      exact rawNew_pos hS h hi he0 hie0 k hk
    · exact h.pos.upos e he j hj k hk
  refine ⟨hP', sub_nonneg.mp ?_⟩
  rw [FQ_sub_u hS s.rho _ hi h.pos hP']
  refine sum_nonneg fun k hk => ?_
  have hk' := mem_range.mp hk
  rw [← uDen_rest hS h hi he0 hie0 k hk', vNew_eq hS h hi he0 hie0 k hk']
  exact mstep_scalar _ _ _ (uNum_pos hS h hi he0 hie0 k hk') (uDen_pos hS h hi he0 hie0 k hk')
    (h.pos.upos e0 he0 i hie0 k hk')

end node
end ustep

section sweep
variable {c : Cfg ℝ} (hS : Setup c)
include hS

theorem uNode_good {s : St ℝ} (h : Ready c s) (i : Nat) (hi : i < c.N) :
    Ready c (uNode c s i) ∧
    FQ c s.u s.w s.rho ≤ FQ c (uNode c s i).u (uNode c s i).w (uNode c s i).rho := by
  by_cases hiso : c.isIso i = true
  · rw [uNode_of_zero_row hS.cfgOk (h.iso i hi hiso)]; exact ⟨h, le_refl _⟩
  · obtain ⟨e0, he0, hie0⟩ := isIso_false hiso
    obtain ⟨hP', hF⟩ := ustep hS h hi he0 hie0
    have hu := uNode_u_eq hS h hi he0 hie0
    refine ⟨⟨uNode_inv hS.cfgOk h.inv hi, ?_, fun j hjN hj k => zero_row_stays hS.cfgOk s j (h.iso j hjN hj) i k, ?_⟩, ?_⟩
    · rw [uNode_w, hu]; exact hP'
    · rw [uNode_rho]; exact h.rho
    · rw [uNode_w, uNode_rho, hu]; exact hF

theorem uSweep_good (perm : List Nat) (hp : ∀ i ∈ perm, i < c.N) {s : St ℝ} (h : Ready c s) :
    Ready c (uSweep c s perm) ∧
    FQ c s.u s.w s.rho ≤ FQ c (uSweep c s perm).u (uSweep c s perm).w (uSweep c s perm).rho :=
  uSweep_induct c (fun s' => Ready c s' ∧ FQ c s.u s.w s.rho ≤ FQ c s'.u s'.w s'.rho) perm
    (fun _ h' i hi => ⟨(uNode_good hS h'.1 i (hp i hi)).1, h'.2.trans (uNode_good hS h'.1 i (hp i hi)).2⟩)
    s ⟨h, le_refl _⟩

/-- the state between two sweeps: as `Ready`, with `rho` the posterior of `(u, w)` -/
structure Good (c : Cfg ℝ) (s : St ℝ) : Prop where
  inv : Inv c s
  pos : Pos c s.u s.w
  iso : IsoZero c s.u
  post : s.rho = rhoUpdate c s.u s.w

theorem Good.ready {s : St ℝ} (g : Good c s) : Ready c s :=
  ⟨g.inv, g.pos, g.iso, by rw [g.post]; exact rhoUpdate_ok hS g.pos⟩

/-- the EM argument: from the posterior, a step that does not decrease the free energy does not decrease the
log-likelihood, `L = F(posterior) ≤ F(new) ≤ L(new)` (`rho'` is free: the `u` half ends with the sweep's own `rho`) -/
theorem Good.LL_le {s : St ℝ} (g : Good c s) {u' w' rho' : Mat ℝ} (hP' : Pos c u' w') (hR' : RhoOk c rho')
    (hF : FQ c s.u s.w s.rho ≤ FQ c u' w' rho') : LL c s.u s.w ≤ LL c u' w' := by
  rw [← FQ_eq_LL hS g.pos, ← g.post]
  exact hF.trans (FQ_le_LL hS hP' hR')

theorem wHalf_good (fixW : Bool) {s : St ℝ} (g : Good c s) :
    Good c (wHalf c fixW s) ∧ LL c s.u s.w ≤ LL c (wHalf c fixW s).u (wHalf c fixW s).w ∧ (wHalf c fixW s).u = s.u := by
  cases fixW with
  | true => exact ⟨g, le_refl _, rfl⟩
  | false =>
    obtain ⟨hPw, hFw⟩ := wstep hS g.pos g.inv.unn (g.ready hS).rho g.inv.psi
    exact ⟨⟨g.inv.congr rfl rfl rfl, hPw, g.iso, rfl⟩, g.LL_le hS hPw (g.ready hS).rho hFw, rfl⟩

theorem uHalf_good (fixU : Bool) {s : St ℝ} (g : Good c s) (perm : List Nat) (hp : ∀ i ∈ perm, i < c.N) :
    Good c (uHalf c fixU s perm) ∧ LL c s.u s.w ≤ LL c (uHalf c fixU s perm).u (uHalf c fixU s perm).w ∧
    (uHalf c fixU s perm).w = s.w := by
  cases fixU with
  | true => exact ⟨g, le_refl _, rfl⟩
  | false =>
    obtain ⟨h2, hF⟩ := uSweep_good hS perm hp (g.ready hS)
    exact ⟨⟨h2.inv.congr rfl rfl rfl, h2.pos, h2.iso, rfl⟩, g.LL_le hS h2.pos h2.rho hF, uSweep_w c s perm⟩

theorem emSweepFix_ff (s : St ℝ) (perm : List Nat) : emSweepFix c false false s perm = emSweep c s perm := rfl

theorem emSweepFix_good (fixW fixU : Bool) {s : St ℝ} (g : Good c s) (perm : List Nat) (hp : ∀ i ∈ perm, i < c.N) :
    Good c (emSweepFix c fixW fixU s perm) ∧
    LL c s.u s.w ≤ LL c (emSweepFix c fixW fixU s perm).u (emSweepFix c fixW fixU s perm).w ∧
    (fixW = true → (emSweepFix c fixW fixU s perm).w = s.w) ∧
    (fixU = true → (emSweepFix c fixW fixU s perm).u = s.u) := by
  obtain ⟨g1, l1, u1⟩ := wHalf_good hS fixW g
  obtain ⟨g2, l2, w2⟩ := uHalf_good hS fixU g1 perm hp
  refine ⟨g2, l1.trans l2, fun hW => w2.trans ?_, fun hU => ?_⟩
  · rw [hW]; rfl
  · rw [hU]; exact u1

theorem emSweep_good {s : St ℝ} (g : Good c s) (perm : List Nat) (hp : ∀ i ∈ perm, i < c.N) :
    Good c (emSweep c s perm) ∧ LL c s.u s.w ≤ LL c (emSweep c s perm).u (emSweep c s perm).w :=
  ⟨(emSweepFix_good hS false false g perm hp).1, (emSweepFix_good hS false false g perm hp).2.1⟩

end sweep

section init
variable {c : Cfg ℝ} (hS : Setup c)
include hS

/-- positivity of the first real `u`, `w` when the random initial values are positive where the model has a
parameter (probability one for `random_sample`) -/
theorem initState_pos (r0 : Bool) (uk : List ℝ) (u0 w0 : Mat ℝ) (lams : List ℝ)
    (hu0 : ∀ i k, i < c.N → k < c.K → c.isIso i = false → 0 < at2 u0 i k)
    (hw0 : ∀ e, e < c.E → ∀ k, k < c.K → 0 < at2 w0 ((c.edge e).length - 2) k)
    (hw0n : ∀ d k, 0 ≤ at2 w0 d k) :
    Pos c (initState c r0 uk u0 w0 lams).u (initState c r0 uk u0 w0 lams).w ∧
    IsoZero c (initState c r0 uk u0 w0 lams).u := by
  rw [initState_w]
  refine ⟨⟨fun e he i hi k hk => ?_, hw0, hw0n⟩, initState_iso c r0 uk u0 w0 lams⟩
  have hiN := hS.enodes e he i hi
  have hiso := isIso_of_mem he hi
  have hq : 0 < at2 u0 i k / sumR c.K fun k' => at2 u0 i k' := by
    rw [sumR_eq]
    exact div_pos (hu0 i k hiN hk hiso)
      (sum_pos (fun k' hk' => hu0 i k' hiN (mem_range.mp hk') hiso) (nonempty_range_iff.mpr hS.Kpos.ne'))
  rw [initState_u c r0 uk u0 w0 lams i k hiN, if_pos hk]
  unfold initRow
  rw [hiso, if_neg Bool.false_ne_true, clampLow_fix c _ (Or.inr (hS.minv0 ▸ hq.le))]
  exact hq

theorem reach_good (r0 : Bool) (uk : List ℝ) (huk : ∀ x ∈ uk, 0 ≤ x) (u0 w0 : Mat ℝ) (lams : List ℝ)
    (hu0 : ∀ i k, i < c.N → k < c.K → c.isIso i = false → 0 < at2 u0 i k)
    (hw0 : ∀ e, e < c.E → ∀ k, k < c.K → 0 < at2 w0 ((c.edge e).length - 2) k)
    (hw0n : ∀ d k, 0 ≤ at2 w0 d k) (perms : List (List Nat)) (hp : ∀ p ∈ perms, ∀ i ∈ p, i < c.N) :
    Good c (reach c r0 uk u0 w0 lams perms) :=
  reach_induct c r0 uk u0 w0 lams (Good c)
    ⟨initState_inv c r0 uk u0 w0 lams hS.cfgOk huk, (initState_pos hS r0 uk u0 w0 lams hu0 hw0 hw0n).1,
      (initState_pos hS r0 uk u0 w0 lams hu0 hw0 hw0n).2, initState_rho c r0 uk u0 w0 lams⟩
    perms fun _ g p hpp => (emSweep_good hS g p (hp p hpp)).1

end init

/-! A concrete instance satisfying the hypotheses of the ascent theorems (non-vacuity). -/

/-- a toy instance: nodes 0,1,2, hyperedges {0,1} (weight 1) and {0,1,2} (weight 2), K = 1 -/
noncomputable def cEx : Cfg ℝ :=
  { N := 3, K := 1, D := 3, edges := [[0, 1], [0, 1, 2]], A := [1, 2], minv := 0, maxv := none, eps := 0,
    rtol := 1 / 1000, normU := false }

theorem cEx_setup : Setup cEx := by
  refine ⟨rfl, rfl, rfl, rfl, Nat.one_pos, forall_lt_two ?_ ?_, forall_lt_two ?_ ?_, forall_lt_two ?_ ?_, forall_lt_two ?_ ?_⟩
  · exact one_pos
  · exact two_pos
  · decide
  · decide
  · decide
  · decide
  · decide
  · decide

theorem cEx_init : (∀ i k, i < cEx.N → k < cEx.K → cEx.isIso i = false → 0 < at2 ([[1], [2], [3]] : Mat ℝ) i k) ∧
    (∀ e, e < cEx.E → ∀ k, k < cEx.K → 0 < at2 ([[1], [5]] : Mat ℝ) ((cEx.edge e).length - 2) k) ∧
    (∀ d k, 0 ≤ at2 ([[1], [5]] : Mat ℝ) d k) := by
  have h1 : ∀ k, k < cEx.K → k = 0 := fun k hk => Nat.lt_one_iff.mp hk
  refine ⟨fun i k hi hk _ => ?_, forall_lt_two (fun k hk => ?_) (fun k hk => ?_), at2_nonneg_of_mem _ ?_⟩
  · rw [h1 k hk]
    match i, hi with
    | 0, _ => exact one_pos
    | 1, _ => exact two_pos
    | 2, _ => exact three_pos
  · rw [h1 k hk]; exact one_pos
  · rw [h1 k hk]; exact Nat.ofNat_pos
  · intro r hr x hx
    simp only [List.mem_cons, List.not_mem_nil, or_false] at hr
    rcases hr with rfl | rfl <;> rw [List.mem_singleton.mp hx]
    · exact zero_le_one
    · exact Nat.ofNat_nonneg 5

end C17
