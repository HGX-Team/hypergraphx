import Hgxv.Model.C04Ext
import Hgxv.Proofs.C04Query
/-! C04 - the constructor is a history of public calls; the hashing view is the sorted map.
Core Lean only. -/
namespace C04
open AL

deriving instance DecidableEq for Op

/-- the quantifier's "node sets" for the constructor's batch -/
def CtorArgs.WF (a : CtorArgs) : Prop :=
  match ctorBatch a.edges with
  | some (some (raws, _)) => ∀ r ∈ raws, r.Nodup
  | _ => True

instance (a : CtorArgs) : Decidable a.WF := by
  unfold CtorArgs.WF
  split <;> infer_instance

theorem nodeOps_wf (nm : List (Node × Meta)) : ∀ op ∈ nodeOps nm, op.WF := by
  intro op hop
  obtain ⟨p, _, rfl⟩ := List.mem_map.mp hop
  exact True.intro

theorem ctorNodes_run (s : Store) (nm : List (Node × Meta)) : ctorNodes s nm = run s (nodeOps nm) := by
  induction nm generalizing s with
  | nil => rfl
  | cons p t ih => exact ih (addNode s p.1 (some p.2))

theorem Spec.ctorNodes_run (sp : Spec) (nm : List (Node × Meta)) : Spec.ctorNodes sp nm = Spec.run sp (nodeOps nm) := by
  induction nm generalizing sp with
  | nil => rfl
  | cons p t ih => exact ih (Spec.addNode sp p.1 (some p.2))

theorem ctorNodes_inv (w : Bool) (hm : HMeta) (nm : List (Node × Meta)) : Inv (ctorNodes (init w hm) nm) := by
  rw [ctorNodes_run]
  exact run_inv _ _ (inv_init w hm) (nodeOps_wf nm)

theorem abs_ctorNodes (w : Bool) (hm : HMeta) (nm : List (Node × Meta)) :
    abs (ctorNodes (init w hm) nm) = Spec.ctorNodes (Spec.init w hm) nm := by
  rw [ctorNodes_run, Spec.ctorNodes_run, abs_run _ _ (inv_init w hm) (nodeOps_wf nm), abs_init]

theorem construct_some (a : CtorArgs) (s : Store) (h : construct a = some s) :
    ∃ pre, ctorOps a = some pre ∧ s = run (init a.weighted a.hm) pre := by
  unfold construct at h
  unfold ctorOps
  split at h
  · cases h
  · cases h
    exact ⟨_, rfl, ctorNodes_run _ _⟩
  · rename_i raws ls _
    split at h
    · rename_i s1 hr
      cases h
      refine ⟨_, rfl, ?_⟩
      rw [run_append, ← ctorNodes_run]
      exact (congrArg Prod.fst hr).symm
    · cases h

theorem ctorOps_wf (a : CtorArgs) (ha : a.WF) (pre : List Op) (h : ctorOps a = some pre) : ∀ op ∈ pre, op.WF := by
  unfold ctorOps at h
  unfold CtorArgs.WF at ha
  split at h
  · cases h
  · cases h; exact nodeOps_wf _
  · rename_i hb
    rw [hb] at ha
    cases h
    intro op hop
    rcases List.mem_append.mp hop with h1 | h1
    · exact nodeOps_wf _ op h1
    · rw [List.mem_singleton.mp h1]; exact ha

theorem construct_abs (a : CtorArgs) (ha : a.WF) : (construct a).map abs = Spec.construct a := by
  unfold construct Spec.construct
  unfold CtorArgs.WF at ha
  cases hb : ctorBatch a.edges with
  | none => rfl
  | some b =>
    cases b with
    | none => simp only [Option.map_some, abs_ctorNodes]
    | some p =>
      obtain ⟨raws, ls⟩ := p
      rw [hb] at ha
      simp only at ha ⊢
      obtain ⟨_, e1, e2⟩ := addEdges_sim _ raws ls a.weights a.edgeMeta (ctorNodes_inv a.weighted a.hm a.nodeMeta) ha
      rw [abs_ctorNodes] at e1 e2
      generalize addEdges (ctorNodes (init a.weighted a.hm) a.nodeMeta) raws ls a.weights a.edgeMeta = r at e1 e2 ⊢
      generalize Spec.addEdges (Spec.ctorNodes (Spec.init a.weighted a.hm) a.nodeMeta) raws ls a.weights a.edgeMeta = r' at e1 e2 ⊢
      obtain ⟨s1, o1⟩ := r
      obtain ⟨sp1, o1'⟩ := r'
      simp only at e1 e2
      subst e2
      cases o1 with
      | ok => simp only [Option.map_some, e1]
      | rej => rfl

structure StrictTotal {κ : Type} (lt : κ → κ → Bool) : Prop where
  irrefl : ∀ a, lt a a = false
  trans : ∀ a b c, lt a b = true → lt b c = true → lt a c = true
  tri : ∀ a b, lt a b = false → lt b a = false → a = b

theorem ltList_eq (a b : List Nat) : ltList a b = BSort.ltList a b := by
  induction a generalizing b with
  | nil => cases b <;> rfl
  | cons x xs ih => cases b <;> simp only [ltList, BSort.ltList, ih]

theorem ltList_irrefl (a : List Nat) : ltList a a = false := ltList_eq a a ▸ BSort.ltList_irrefl a

theorem ltList_trans (a b c : List Nat) (h1 : ltList a b = true) (h2 : ltList b c = true) : ltList a c = true := by
  rw [ltList_eq] at *; exact BSort.ltList_trans a b c h1 h2

theorem ltList_tri (a b : List Nat) (h1 : ltList a b = false) (h2 : ltList b a = false) : a = b := by
  rw [ltList_eq] at *; exact BSort.ltList_tri a b h1 h2

theorem st_ltNat : StrictTotal ltNat := ⟨BSort.ltNat_irrefl, BSort.ltNat_trans, BSort.ltNat_tri⟩

/-- `ltKey` is the lexicographic product of `ltList` on node tuples and `<` on layers -/
theorem st_ltKey : StrictTotal ltKey :=
  ⟨BSort.lex_irrefl (q := ltNat) ltList_irrefl BSort.ltNat_irrefl,
   BSort.lex_trans (q := ltNat) ltList_trans BSort.ltNat_trans, BSort.lex_tri (q := ltNat) ltList_tri BSort.ltNat_tri⟩

section SortSec
variable {α κ : Type} (key : α → κ) (lt : κ → κ → Bool)

theorem insBy_eq (x : α) (l : List α) : insBy key lt x l = BSort.ins (fun a b => lt (key a) (key b)) x l := by
  induction l with
  | nil => rfl
  | cons y ys ih => simp only [insBy, BSort.ins, ih]

theorem sortBy_eq (l : List α) : sortBy key lt l = BSort.sort (fun a b => lt (key a) (key b)) l := by
  induction l with
  | nil => rfl
  | cons x t ih => exact (congrArg (insBy key lt x) ih).trans (insBy_eq key lt x _)

theorem sortBy_perm (l : List α) : (sortBy key lt l).Perm l := sortBy_eq key lt l ▸ BSort.sort_perm _ l

/-- `sorted` of items with distinct keys is a canonical listing of the items as a set -/
theorem sortBy_eq_iff (st : StrictTotal lt) (l l' : List α) (hn : (l.map key).Nodup) :
    sortBy key lt l = sortBy key lt l' ↔ l.Perm l' := by
  rw [sortBy_eq, sortBy_eq]
  exact BSort.sort_key_eq_iff key st.trans (BSort.strict_anti st.irrefl st.trans) (BSort.strict_tot st.tri) hn

/-- `sorted` of items with distinct keys depends only on the items as a set: not on the order they arrive in -/
theorem sortBy_perm_eq (st : StrictTotal lt) (l l' : List α) (hn : (l.map key).Nodup) (hp : l.Perm l') :
    sortBy key lt l = sortBy key lt l' := (sortBy_eq_iff key lt st l l' hn).mpr hp

theorem sortBy_map (l : List α) : (sortBy key lt l).map key = sortBy id lt (l.map key) := by
  rw [sortBy_eq, sortBy_eq]; exact (BSort.sort_map _ _ key (fun _ _ => rfl) l).symm

/-- a loop that looks the keys up again, run over the sorted keys of a table it can read, returns the sorted table -/
theorem look_sortBy {look : List κ → Option (List α)} {P : α → Prop}
    (hlook : ∀ L : List α, (∀ r ∈ L, P r) → look (L.map key) = some L) (T : List α) (hT : ∀ r ∈ T, P r) :
    look (sortBy id lt (T.map key)) = some (sortBy key lt T) := by
  rw [← sortBy_map]
  exact hlook _ fun r hr => hT r ((sortBy_perm key lt T).mem_iff.mp hr)

end SortSec

theorem hashEdges_map (s : Store) (L : List (Key × (Int × Meta)))
    (h : ∀ r ∈ L, canon r.1.1 = r.1.1 ∧ ∃ id, get? s.edgeList r.1 = some id ∧ r.2 = entryOf s id) :
    hashEdges s (L.map (·.1)) = some L := by
  induction L with
  | nil => rfl
  | cons r t ih =>
    obtain ⟨hc, id, hg, hv⟩ := h r List.mem_cons_self
    obtain ⟨⟨e, l⟩, v⟩ := r
    simp only at hc hg hv
    simp only [List.map_cons, hashEdges, hc, hg, ih (fun r hr => h r (List.mem_cons_of_mem _ hr)), Option.map_some, hv, entryOf]

theorem hashNodes_map (s : Store) (L : List (Node × Meta)) (h : ∀ p ∈ L, get? s.nmeta p.1 = some p.2) :
    hashNodes s (L.map (·.1)) = some L := by
  induction L with
  | nil => rfl
  | cons p t ih =>
    have hp := h p List.mem_cons_self
    simp only [List.map_cons, hashNodes, hp, ih (fun r hr => h r (List.mem_cons_of_mem _ hr)), Option.map_some]

/-- in a reachable state `expose_attributes_for_hashing()` succeeds and is the hashing view of the map -/
theorem hashView_abs (s : Store) (h : Inv s) : hashView s = some (Spec.hashView (abs s)) := by
  have he := look_sortBy (fun (r : Key × (Int × Meta)) => r.1) ltKey (hashEdges_map s) (abs s).edges fun r hr => by
    rw [abs_edges] at hr
    obtain ⟨p, hp, rfl⟩ := List.mem_map.mp hr
    have hg := get?_of_mem _ _ _ h.id.el_nodup hp
    exact ⟨(h.id.key_sorted _ _ (h.id.rev_of_edge _ _ hg)).canon, p.2, hg, rfl⟩
  have hn := look_sortBy (fun (p : Node × Meta) => p.1) ltNat (hashNodes_map s) s.nmeta fun p hp =>
    get?_of_mem _ _ _ h.nm.nm_nodup hp
  rw [show (abs s).edges.map (·.1) = records s from (records_abs s).symm] at he
  unfold hashView
  rw [he, show nodes s = s.nmeta.map (·.1) from rfl, hn]
  rfl

/-- the hashing view of a map is the same for two maps iff they have the same flag, the same hypergraph metadata
and the same entries / nodes as SETS (any arrangement) -/
theorem Spec.hashView_eq_iff (sp sp' : Spec) (h1 : (keys sp.edges).Nodup) (h2 : (keys sp.nodes).Nodup) :
    Spec.hashView sp = Spec.hashView sp' ↔
      sp.weighted = sp'.weighted ∧ sp.hmeta = sp'.hmeta ∧ sp.edges.Perm sp'.edges ∧ sp.nodes.Perm sp'.nodes := by
  unfold Spec.hashView
  rw [HashView.mk.injEq, sortBy_eq_iff _ _ st_ltKey _ _ h1, sortBy_eq_iff _ _ st_ltNat _ _ h2]

/-- `get_edge_list()` / `get_adj_dict()` in a reachable state: the keys are the records, ids increase in insertion order and
lie below `_next_edge_id`; a node's list is exactly the ids of the records containing it, in that order; the dict has the
nodes as keys -/
theorem raw_tables (s : Store) (h : Inv s) :
    keys (edgeTable s) = records s ∧ ((edgeTable s).map (·.2)).Pairwise (· < ·) ∧
    (∀ p ∈ edgeTable s, p.2 < s.nextId) ∧
    (∀ n ids, get? (adjTable s) n = some ids → ids = ((edgeTable s).filter (fun p => decide (n ∈ p.1.1))).map (·.2)) ∧
    (∀ n, (get? (adjTable s) n).isSome ↔ n ∈ nodes s) := by
  refine ⟨rfl, h.id.el_sorted, h.id.el_lt, fun n ids hg => adj_eq_filter s n ids h hg, fun n => ?_⟩
  rw [show adjTable s = s.adj from rfl, h.nm.adj_nm n, nodes, mem_keys_iff]

end C04
