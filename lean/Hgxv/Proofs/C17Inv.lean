import Hgxv.Proofs.C17Psi
set_option linter.unusedSectionVars false
/-! The invariant of `HypergraphMT`'s incremental tables and its preservation by every node update; the algebra of the
clamps of `_update_u` (`clampU`). -/
namespace C17
variable {α : Type} [Field α] [LinearOrder α] [IsStrictOrderedRing α]

/-- what the code guarantees about its configuration: `min_value_par >= 0`, and the upper clamp and its
replacement value are not below it (`1e2` in the code) -/
structure CfgOk (c : Cfg α) : Prop where
  minv : 0 ≤ c.minv
  maxv : ∀ t v, c.maxv = some (t, v) → c.minv ≤ t ∧ c.minv ≤ v

/-- the invariant without the threshold clause: the maintained table is the table of elementary symmetric polynomials of
the columns of `u`; `u` and `psiBarOmega` are non-negative -/
structure Inv0 (c : Cfg α) (s : St α) : Prop where
  psi : ∀ d k, d < c.D → k < c.K → at2 s.psi d k = esymm (d + 1) (col c.N s.u k)
  unn : ∀ i k, 0 ≤ at2 s.u i k
  bar : ∀ d k, 0 ≤ at2 s.bar d k

/-- ... and an entry of `u` is `0` or at least `min_value_par` -/
structure Inv (c : Cfg α) (s : St α) : Prop extends Inv0 c s where
  thr : ∀ i k, at2 s.u i k = 0 ∨ c.minv ≤ at2 s.u i k

/-- low clamp, then high clamp: what `_update_u` applies to every freshly computed entry -/
def clampU (c : Cfg α) (x : α) : α := clampHigh c (clampLow c x)

-- the direct instance path first (see `C17Psi`)
attribute [local instance 10000] LinearOrder.toPartialOrder PartialOrder.toPreorder Preorder.toLT Preorder.toLE

/-- the invariant speaks of `u`, `psiOmega` and `psiBarOmega` only -/
theorem Inv.congr {c : Cfg α} {s s' : St α} (h : Inv c s) (hu : s'.u = s.u) (hpsi : s'.psi = s.psi)
    (hbar : s'.bar = s.bar) : Inv c s' :=
  ⟨⟨by rw [hu, hpsi]; exact h.psi, by rw [hu]; exact h.unn, by rw [hbar]; exact h.bar⟩, by rw [hu]; exact h.thr⟩

theorem restL_nonneg (n : Nat) (f : Nat → α) (i : Nat) (h : ∀ j, 0 ≤ f j) : ∀ x ∈ restL n f i, 0 ≤ x := by
  rw [restL_eq_map]; exact List.forall_mem_map.mpr fun j _ => h j

theorem tab_nonneg (n : Nat) (f : Nat → α) (h : ∀ j, 0 ≤ f j) : ∀ x ∈ tab n f, 0 ≤ x :=
  List.forall_mem_map.mpr fun j _ => h j

theorem esymm_col_nonneg (N : Nat) (u : Mat α) (hu : ∀ i k, 0 ≤ at2 u i k) (d k : Nat) : 0 ≤ esymm d (col N u k) :=
  esymm_nonneg _ _ (tab_nonneg _ _ fun j => hu j k)

/-! ### the repairs do nothing on non-negative tables -/

theorem isNeg_of_nonneg {x : α} (h : 0 ≤ x) : isNeg x = false := decide_eq_false (not_lt.mpr h)

theorem zeroNeg_of_nonneg {x : α} (h : 0 ≤ x) : zeroNeg x = x := if_neg (not_lt.mpr h)

theorem barRepair_of_nonneg (c : Cfg α) (m : Mat α) (h : ∀ r ∈ m, ∀ x ∈ r, 0 ≤ x) : barRepair c m = m := by
  unfold barRepair
  rw [if_neg]
  · exact (List.map_congr_left fun r hr =>
      (List.map_congr_left fun x hx => zeroNeg_of_nonneg (h r hr x hx)).trans (List.map_id r)).trans (List.map_id m)
  · rw [Bool.not_eq_true, List.any_eq_false]; intro r hr
    rw [Bool.not_eq_true, List.any_eq_false]; intro x hx
    rw [isNegBig, isNeg_of_nonneg (h r hr x hx)]; exact Bool.false_ne_true

theorem hasNeg_of_nonneg (m : Mat α) (h : ∀ r ∈ m, ∀ x ∈ r, 0 ≤ x) : hasNeg m = false := by
  unfold hasNeg
  rw [List.any_eq_false]; intro r hr
  rw [Bool.not_eq_true, List.any_eq_false]; intro x hx
  rw [isNeg_of_nonneg (h r hr x hx)]; exact Bool.false_ne_true

theorem at2_psiRepairLast (c : Cfg α) (m : Mat α) (h : ∀ d k, d < c.D → k < c.K → 0 ≤ at2 m d k)
    (d k : Nat) (hd : d < c.D) (hk : k < c.K) : at2 (psiRepairLast c m) d k = at2 m d k := by
  unfold psiRepairLast
  split
  · rfl
  · rw [at2_tab2 _ _ _ _ _ hd hk, zeroNeg_of_nonneg (h d k hd hk), ite_self]

theorem clampHigh_none {c : Cfg α} (h : c.maxv = none) (x : α) : clampHigh c x = x := by
  unfold clampHigh; rw [h]

theorem clampHigh_some {c : Cfg α} {t v : α} (h : c.maxv = some (t, v)) (x : α) :
    clampHigh c x = if t < x then v else x := by
  unfold clampHigh; rw [h]

theorem clampLow_cases (c : Cfg α) (x : α) : clampLow c x = 0 ∨ (clampLow c x = x ∧ c.minv ≤ x) := by
  unfold clampLow; split
  · exact Or.inl rfl
  · next h => exact Or.inr ⟨rfl, not_lt.mp h⟩

theorem clampLow_fix (c : Cfg α) (x : α) (h : x = 0 ∨ c.minv ≤ x) : clampLow c x = x := by
  unfold clampLow; split
  · next hl => exact (h.resolve_right (not_le.mpr hl)).symm
  · rfl

theorem clampU_zero_or (c : Cfg α) (hc : CfgOk c) (x : α) : clampU c x = 0 ∨ c.minv ≤ clampU c x := by
  have hlow : clampLow c x = 0 ∨ c.minv ≤ clampLow c x := by
    rcases clampLow_cases c x with h | ⟨h, h'⟩
    · exact Or.inl h
    · rw [h]; exact Or.inr h'
  unfold clampU
  cases hm : c.maxv with
  | none => rw [clampHigh_none hm]; exact hlow
  | some tv =>
    rw [clampHigh_some (t := tv.1) (v := tv.2) hm]; split
    · exact Or.inr (hc.maxv _ _ hm).2
    · exact hlow

theorem clampU_nonneg (c : Cfg α) (hc : CfgOk c) (x : α) : 0 ≤ clampU c x := by
  rcases clampU_zero_or c hc x with h | h
  · rw [h]
  · exact le_trans hc.minv h

theorem clampHigh_fix (c : Cfg α) (x : α) (ht : ∀ t v, c.maxv = some (t, v) → x ≤ t) : clampHigh c x = x := by
  cases hm : c.maxv with
  | none => exact clampHigh_none hm x
  | some tv => rw [clampHigh_some (t := tv.1) (v := tv.2) hm, if_neg (not_lt.mpr (ht _ _ hm))]

theorem clampU_fix (c : Cfg α) (x : α) (hx : x = 0 ∨ c.minv ≤ x) (ht : ∀ t v, c.maxv = some (t, v) → x ≤ t) :
    clampU c x = x := by
  unfold clampU
  rw [clampLow_fix c x hx, clampHigh_fix c x ht]

theorem clampU_idem (c : Cfg α) (hc : CfgOk c) (x : α) : clampU c (clampU c x) = clampU c x := by
  have hfix := clampLow_fix c (clampU c x) (clampU_zero_or c hc x)
  unfold clampU at hfix ⊢
  rw [hfix]
  cases hm : c.maxv with
  | none => rw [clampHigh_none hm, clampHigh_none hm]
  | some tv =>
    rw [clampHigh_some (t := tv.1) (v := tv.2) hm, clampHigh_some (t := tv.1) (v := tv.2) hm]
    split
    · exact ite_self _
    · rfl

theorem clampLow_near (c : Cfg α) (hc : CfgOk c) (x : α) (h0 : 0 ≤ x) :
    x - c.minv ≤ clampLow c x ∧ clampLow c x ≤ x := by
  unfold clampLow; split
  · next h => exact ⟨(sub_neg.mpr h).le, h0⟩
  · exact ⟨sub_le_self _ hc.minv, le_refl x⟩

theorem clampLow_mono (c : Cfg α) (hc : CfgOk c) (x y : α) (h : x ≤ y) : clampLow c x ≤ clampLow c y := by
  unfold clampLow
  split
  · split
    · exact le_refl 0
    · next hy => exact le_trans hc.minv (not_lt.mp hy)
  · next hx => rw [if_neg fun hy => hx (lt_of_le_of_lt h hy)]; exact h

theorem clampHigh_mono (c : Cfg α) (hv : ∀ t v, c.maxv = some (t, v) → t ≤ v) (x y : α) (h : x ≤ y) :
    clampHigh c x ≤ clampHigh c y := by
  cases hm : c.maxv with
  | none => rw [clampHigh_none hm, clampHigh_none hm]; exact h
  | some tv =>
    rw [clampHigh_some (t := tv.1) (v := tv.2) hm, clampHigh_some (t := tv.1) (v := tv.2) hm]
    split
    · next hx => rw [if_pos (lt_of_lt_of_le hx h)]
    · next hx =>
      split
      · exact le_trans (not_lt.mp hx) (hv _ _ hm)
      · exact h

theorem clampU_le (c : Cfg α) (t v : α) (hm : c.maxv = some (t, v)) (x : α) : clampU c x ≤ max t v := by
  unfold clampU
  rw [clampHigh_some hm]; split
  · exact le_max_right t v
  · next h => exact le_trans (not_lt.mp h) (le_max_left t v)

theorem setRow_eq (c : Cfg α) (u : Mat α) (i : Nat) (v : Nat → α) (j k : Nat) :
    at2 (setRow c u i v) j k = if j < c.N ∧ k < c.K then (if j = i then v k else at2 u j k) else 0 :=
  at2_tab2_eq _ _ _ j k

theorem setRow_at (c : Cfg α) (u : Mat α) (i : Nat) (v : Nat → α) {j k : Nat} (hj : j < c.N) (hk : k < c.K) :
    at2 (setRow c u i v) j k = if j = i then v k else at2 u j k :=
  at2_tab2 _ _ _ j k hj hk

theorem esymm_col (N : Nat) (u : Mat α) (k i : Nat) (hi : i < N) (d : Nat) :
    esymm (d + 1) (col N u k)
      = esymm (d + 1) (restL N (fun j => at2 u j k) i) + at2 u i k * esymm d (restL N (fun j => at2 u j k) i) :=
  esymm_tab N (fun j => at2 u j k) i hi d

theorem esymm_col_setRow (c : Cfg α) (u : Mat α) (i : Nat) (hi : i < c.N) (v : Nat → α) (k : Nat) (hk : k < c.K)
    (d : Nat) :
    esymm (d + 1) (col c.N (setRow c u i v) k)
      = esymm (d + 1) (restL c.N (fun j => at2 u j k) i) + v k * esymm d (restL c.N (fun j => at2 u j k) i) := by
  rw [esymm_col c.N _ k i hi d, setRow_at c u i v hi hk, if_pos rfl,
    restL_congr c.N (fun j => at2 (setRow c u i v) j k) (fun j => at2 u j k) i hi
      fun j hj hne => by rw [setRow_at c u i v hj hk, if_neg hne]]

section node
variable {c : Cfg α} {s : St α} (hs : Inv0 c s) {i : Nat} (hi : i < c.N)
include hs hi

theorem barAt_col (d k : Nat) (hd : d < c.D) (hk : k < c.K) :
    barAt s.psi (at2 s.u i k) k d = esymm (d + 1) (restL c.N (fun j => at2 s.u j k) i) :=
  barAt_eq s.psi k c.N (fun j => at2 s.u j k) i hi c.D (fun d' hd' => hs.psi d' k hd' hk) d hd

theorem barUpd_spec (act : Nat → Bool) (d k : Nat) (hd : d < c.D) (hk : k < c.K) :
    at2 (barUpd c act (fun k => at2 s.u i k) s.psi s.bar) d k
      = if act k then esymm (d + 1) (restL c.N (fun j => at2 s.u j k) i) else at2 s.bar d k := by
  unfold barUpd
  rw [at2_tab2 _ _ _ _ _ hd hk, barAt_col hs hi d k hd hk]

theorem barUpd_nonneg (act : Nat → Bool) :
    ∀ r ∈ barUpd c act (fun k => at2 s.u i k) s.psi s.bar, ∀ x ∈ r, 0 ≤ x := by
  apply tab2_nonneg
  intro d k hd hk
  split
  · rw [barAt_col hs hi d k hd hk]
    exact esymm_nonneg _ _ (restL_nonneg _ _ _ (fun j => hs.unn j k))
  · exact hs.bar d k

theorem barRepair_barUpd (act : Nat → Bool) :
    barRepair c (barUpd c act (fun k => at2 s.u i k) s.psi s.bar) = barUpd c act (fun k => at2 s.u i k) s.psi s.bar :=
  barRepair_of_nonneg c _ (barUpd_nonneg hs hi act)

theorem barNew_eq : barNew c s i = barUpd c (actK c s i) (fun k => at2 s.u i k) s.psi s.bar :=
  barRepair_barUpd hs hi _

theorem barNew_nonneg (d k : Nat) : 0 ≤ at2 (barNew c s i) d k := by
  rw [barNew_eq hs hi]; exact at2_nonneg_of_mem _ (barUpd_nonneg hs hi _) d k

theorem barNew_active (d k : Nat) (hd : d < c.D) (hk : k < c.K) (hact : actK c s i k = true) :
    at2 (barNew c s i) d k = esymm (d + 1) (restL c.N (fun j => at2 s.u j k) i) := by
  rw [barNew_eq hs hi, barUpd_spec hs hi _ d k hd hk, hact, if_pos rfl]

theorem barOk_barNew : barOk (barNew c s i) = true := by
  unfold barOk
  rw [barNew_eq hs hi, hasNeg_of_nonneg _ (barUpd_nonneg hs hi _)]; rfl

/-- the heart of `C17_psi`: after `psiUpd` with the difference `v - u[i]` on the recomputed columns the table is the
table of the new `u`, provided the row is unchanged on the other columns -/
theorem psiUpd_spec (act : Nat → Bool) (v : Nat → α) (hv : ∀ k, act k = false → v k = at2 s.u i k)
    (d k : Nat) (hd : d < c.D) (hk : k < c.K) :
    at2 (psiUpd c act (fun k => v k - at2 s.u i k) s.psi
          (barUpd c act (fun k => at2 s.u i k) s.psi s.bar)) d k
      = esymm (d + 1) (col c.N (setRow c s.u i v) k) := by
  rw [esymm_col_setRow c s.u i hi v k hk d]
  unfold psiUpd
  rw [at2_tab2 _ _ _ _ _ hd hk, hs.psi d k hd hk, esymm_col c.N s.u k i hi d]
  cases hact : act k
  · rw [if_neg Bool.false_ne_true, hv k hact]
  · rw [if_pos rfl]
    cases d with
    | zero => simp only [esymm_zero]; ring
    | succ d' =>
      simp only
      rw [barUpd_spec hs hi act d' k (by omega) hk, hact, if_pos rfl]; ring

/-- `Inv0` is preserved when row `i` is replaced by a non-negative `v` (equal to the old row outside the recomputed
columns) and the tables are updated as the code does -/
theorem inv_step0 (act : Nat → Bool) (v : Nat → α) (hv : ∀ k, act k = false → v k = at2 s.u i k)
    (hv0 : ∀ k, 0 ≤ v k) (lams : List α) (rho : Mat α) :
    Inv0 c { s with u := setRow c s.u i v,
                    bar := barRepair c (barUpd c act (fun k => at2 s.u i k) s.psi s.bar),
                    psi := psiRepairLast c (psiUpd c act (fun k => v k - at2 s.u i k) s.psi
                             (barRepair c (barUpd c act (fun k => at2 s.u i k) s.psi s.bar))),
                    lams := lams, rho := rho } := by
  have hunn' : ∀ j k, 0 ≤ at2 (setRow c s.u i v) j k := by
    apply at2_tab2_nonneg
    intro j k _ _
    split
    · exact hv0 k
    · exact hs.unn j k
  have hpsi' := psiUpd_spec hs hi act v hv
  simp only [barRepair_barUpd hs hi act]
  refine ⟨fun d k hd hk => ?_, hunn', at2_nonneg_of_mem _ (barUpd_nonneg hs hi act)⟩
  rw [at2_psiRepairLast c _ _ d k hd hk, hpsi' d k hd hk]
  intro d k hd hk
  rw [hpsi' d k hd hk]
  exact esymm_col_nonneg _ _ hunn' _ k

end node

theorem thr_step (c : Cfg α) (u : Mat α) (i : Nat) (v : Nat → α) (hvt : ∀ k, v k = 0 ∨ c.minv ≤ v k) (j k : Nat)
    (hold : j ≠ i → at2 u j k = 0 ∨ c.minv ≤ at2 u j k) :
    at2 (setRow c u i v) j k = 0 ∨ c.minv ≤ at2 (setRow c u i v) j k := by
  rw [setRow_eq]; split
  · split
    · exact hvt k
    · next h => exact hold h
  · exact Or.inl rfl

/-- the three exits of the loop body of `_update_u`: no column above the threshold; `success = False` (only
`psiBarOmega` has been written); the full update -/
theorem uNode_cases (c : Cfg α) (s : St α) (i : Nat) :
    uNode c s i = s ∨ uNode c s i = { s with bar := barNew c s i } ∨
    (anyK c (actK c s i) = true ∧ barOk (barNew c s i) = true ∧
      uNode c s i =
        { s with u := setRow c s.u i (vNew c s i),
                 bar := barNew c s i,
                 psi := psiRepairLast c (psiUpd c (actK c s i) (fun k => vNew c s i k - at2 s.u i k) s.psi (barNew c s i)),
                 lams := if c.normU then s.lams.tail else s.lams }) := by
  unfold uNode
  split
  · exact Or.inl rfl
  · next h =>
    split
    · exact Or.inr (Or.inl rfl)
    · next h' => exact Or.inr (Or.inr ⟨by simpa using h, by simpa using h', rfl⟩)

theorem uNode_u (c : Cfg α) (s : St α) (i : Nat) :
    (uNode c s i).u = s.u ∨
      (anyK c (actK c s i) = true ∧ (uNode c s i).u = setRow c s.u i (vNew c s i)) := by
  rcases uNode_cases c s i with h | h | ⟨ha, _, h⟩ <;> rw [h]
  · exact Or.inl rfl
  · exact Or.inl rfl
  · exact Or.inr ⟨ha, rfl⟩

theorem uNode_w (c : Cfg α) (s : St α) (i : Nat) : (uNode c s i).w = s.w := by
  rcases uNode_cases c s i with h | h | ⟨_, _, h⟩ <;> rw [h]

theorem uNode_rho (c : Cfg α) (s : St α) (i : Nat) : (uNode c s i).rho = s.rho := by
  rcases uNode_cases c s i with h | h | ⟨_, _, h⟩ <;> rw [h]

/-- with exact tables the row is overwritten as soon as some column is recomputed (`success` is never `False`) -/
theorem uNode_u_of_active {c : Cfg α} {s : St α} (hs : Inv0 c s) {i : Nat} (hi : i < c.N)
    (ha : anyK c (actK c s i) = true) : (uNode c s i).u = setRow c s.u i (vNew c s i) := by
  unfold uNode; rw [ha, barOk_barNew hs hi]; rfl

theorem vNew_inactive {c : Cfg α} (hc : CfgOk c) {s : St α} (hs : Inv c s) (i k : Nat)
    (h : actK c s i k = false) : vNew c s i k = at2 s.u i k := by
  unfold vNew; rw [h, if_neg Bool.false_ne_true]
  have hle : at2 s.u i k ≤ c.minv := not_lt.mp (of_decide_eq_false h)
  exact clampU_fix c _ (hs.thr i k) fun t v hm => le_trans hle (hc.maxv t v hm).1

theorem uNode_inv {c : Cfg α} (hc : CfgOk c) {s : St α} (hs : Inv c s) {i : Nat} (hi : i < c.N) :
    Inv c (uNode c s i) := by
  rcases uNode_cases c s i with h | h | ⟨_, _, h⟩ <;> rw [h]
  · exact hs
  · exact ⟨⟨hs.psi, hs.unn, barNew_nonneg hs.toInv0 hi⟩, hs.thr⟩
  · exact ⟨inv_step0 hs.toInv0 hi (actK c s i) (vNew c s i) (vNew_inactive hc hs i)
      (fun k => clampU_nonneg c hc _) _ s.rho,
      fun j k => thr_step c s.u i (vNew c s i) (fun k => clampU_zero_or c hc _) j k fun _ => hs.thr j k⟩

theorem anyK_actK_of_zero_row {c : Cfg α} (hc : CfgOk c) {s : St α} {i : Nat} (h : ∀ k, at2 s.u i k = 0) :
    anyK c (actK c s i) = false := by
  unfold anyK actK
  rw [List.any_eq_false]; intro k _
  rw [h k, decide_eq_false (not_lt.mpr hc.minv)]; exact Bool.false_ne_true

theorem uNode_of_zero_row {c : Cfg α} (hc : CfgOk c) {s : St α} {i : Nat} (h : ∀ k, at2 s.u i k = 0) :
    uNode c s i = s := by
  unfold uNode; rw [anyK_actK_of_zero_row hc h]; rfl

theorem zero_row_stays {c : Cfg α} (hc : CfgOk c) (s : St α) (j : Nat) (hj : ∀ k, at2 s.u j k = 0) (i : Nat)
    (k : Nat) : at2 (uNode c s i).u j k = 0 := by
  rcases uNode_u c s i with h | ⟨ha, h⟩
  · rw [h]; exact hj k
  · rw [h, setRow_eq]
    split
    · split
      · next hji => rw [← hji, anyK_actK_of_zero_row hc hj] at ha; cases ha
      · exact hj k
    · rfl

theorem uSweep_induct (c : Cfg α) (P : St α → Prop) (perm : List Nat)
    (hstep : ∀ s, P s → ∀ i ∈ perm, P (uNode c s i)) : ∀ s, P s → P (uSweep c s perm) :=
  fun _ h => List.foldlRecOn perm (uNode c) h hstep

theorem uSweep_w (c : Cfg α) (s : St α) (perm : List Nat) : (uSweep c s perm).w = s.w :=
  uSweep_induct c (fun s' => s'.w = s.w) perm (fun s' h i _ => (uNode_w c s' i).trans h) s rfl

theorem uSweep_zero_row {c : Cfg α} (hc : CfgOk c) (j : Nat) (perm : List Nat) (s : St α)
    (h : ∀ k, at2 s.u j k = 0) : ∀ k, at2 (uSweep c s perm).u j k = 0 :=
  uSweep_induct c (fun s => ∀ k, at2 s.u j k = 0) perm (fun s hs i _ k => zero_row_stays hc s j hs i k) s h

theorem uSweep_inv {c : Cfg α} (hc : CfgOk c) (perm : List Nat) (hp : ∀ i ∈ perm, i < c.N) (s : St α)
    (h : Inv c s) : Inv c (uSweep c s perm) :=
  uSweep_induct c (Inv c) perm (fun _ hs i hi => uNode_inv hc hs (hp i hi)) s h

/-- `_update_em` preserves the invariant (`w` and `rho` do not enter it) -/
theorem emSweep_inv {c : Cfg α} (hc : CfgOk c) (perm : List Nat) (hp : ∀ i ∈ perm, i < c.N)
    (s : St α) (hs : Inv c s) : Inv c (emSweep c s perm) := by
  have h1 : Inv c { s with w := wUpdate c s.rho s.psi, rho := rhoUpdate c s.u (wUpdate c s.rho s.psi) } :=
    hs.congr rfl rfl rfl
  exact (uSweep_inv hc perm hp _ h1).congr rfl rfl rfl

end C17
