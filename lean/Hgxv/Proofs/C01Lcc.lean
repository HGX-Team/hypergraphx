import Hgxv.Model.C01Lcc
import Hgxv.Proofs.C01X
import Hgxv.Proofs.C01Sub
import Hgxv.Proofs.C08Comp
import Hgxv.Proofs.C08LinkC01
/-! C01: `subhypergraph_largest_component` is `subhypergraph` of the component `C08.largestComponent` picks (`subLcc_eq`), and
when it is accepted (`subLcc_ok_iff`).  Core Lean. -/
namespace C01
open AL

theorem maxByLen_some (l : List (List Nat)) (c : List Nat) (h : C08.maxByLen l = some c) :
    c ∈ l ∧ ∀ d ∈ l, d.length ≤ c.length := by
  obtain ⟨c', h', hm, hge⟩ := C08.maxByLen_spec l (by rintro rfl; cases h)
  rw [h] at h'; cases h'
  exact ⟨hm, hge⟩

theorem maxByLen_isSome (l : List (List Nat)) : (C08.maxByLen l).isSome = !l.isEmpty := by
  cases l <;> rfl

theorem subLcc_sim (s : Store) (h : Inv s) (o k : Option Int) : Sim (subLcc s o k) (Spec.subLcc (abs s) o k) := by
  unfold subLcc Spec.subLcc
  rw [nodes_keys h, abs_keys]
  cases lccNodes (keys s.adj) (keys s.edgeList) o k with
  | none => exact ⟨rfl, rfl, inv_new _ _⟩
  | some comp => exact sim_extract s (.sub comp) h

theorem lccNodes_sub (s : Store) (h : Inv s) (o k : Option Int) (comp : List Node)
    (hc : lccNodes (keys s.adj) (keys s.edgeList) o k = some comp) : ∀ n ∈ comp, n ∈ keys s.adj := by
  unfold lccNodes at hc
  cases hf : lccFilt o k with
  | none => simp [hf] at hc
  | some f =>
    simp only [hf] at hc
    have hm := (maxByLen_some _ _ hc).1
    obtain ⟨h1, _, h3, _, _⟩ := C08.Link.listing_wf h
    have hp := C08.components_flatten_perm (keys s.adj) (keys s.edgeList) f h1 h3
    intro n hn
    exact hp.mem_iff.mp (List.mem_flatten.mpr ⟨comp, hm, hn⟩)

theorem components_nil_iff (nodes : List Nat) (es : List Edge) (f : C08.Filt) :
    C08.components nodes es f = [] ↔ nodes = [] := by
  constructor
  · intro hc
    cases nodes with
    | nil => rfl
    | cons x t =>
      obtain ⟨c, hcm, _⟩ := (C08.components_spec (x :: t) es f).2.2 x List.mem_cons_self
      rw [hc] at hcm; cases hcm
  · rintro rfl; rfl

theorem comp_nodes_some (s : Store) (h : Inv s) (o k : Option Int) (comp : List Node)
    (hc : lccNodes (keys s.adj) (keys s.edgeList) o k = some comp) : ∀ n ∈ comp, (get? (abs s).nodes n).isSome := by
  intro n hn
  have := lccNodes_sub s h o k comp hc n hn
  rw [← nodes_keys h] at this
  exact (mem_keys_iff _ _).mp this

theorem subLcc_eq (s : Store) (h : Inv s) (o k : Option Int) (comp : List Node)
    (hc : lccNodes (keys s.adj) (keys s.edgeList) o k = some comp) :
    subLcc s o k = subhypergraph s comp ∧ (subLcc s o k).2 = .ok ∧
      abs (subLcc s o k).1 = (Spec.subhypergraph (abs s) comp).1 := by
  have e1 : subLcc s o k = subhypergraph s comp := by unfold subLcc; rw [hc]
  obtain ⟨h1, h2, _⟩ := sim_extract s (.sub comp) h
  rw [e1]
  exact ⟨rfl, h2.trans ((spec_subhypergraph (abs s) (abs_swf h) comp).1.mpr (comp_nodes_some s h o k comp hc)), h1⟩

theorem subLcc_ok_iff (s : Store) (h : Inv s) (o k : Option Int) :
    (subLcc s o k).2 = .ok ↔ (lccFilt o k).isSome = true ∧ keys s.adj ≠ [] := by
  cases hc : lccNodes (keys s.adj) (keys s.edgeList) o k with
  | none =>
    have hr : (subLcc s o k).2 = .rej := by unfold subLcc; rw [hc]
    rw [hr]
    unfold lccNodes at hc
    cases hf : lccFilt o k with
    | none => simp
    | some f =>
      simp only [hf] at hc
      have : (C08.maxByLen (C08.components (keys s.adj) (keys s.edgeList) f)).isSome = false := by
        unfold C08.largestComponent at hc; rw [hc]; rfl
      rw [maxByLen_isSome] at this
      have hnil : C08.components (keys s.adj) (keys s.edgeList) f = [] := by
        cases hcs : C08.components (keys s.adj) (keys s.edgeList) f with
        | nil => rfl
        | cons a t => rw [hcs] at this; simp at this
      have := (components_nil_iff _ _ _).mp hnil
      simp [this]
  | some comp =>
    have hok := (subLcc_eq s h o k comp hc).2.1
    simp only [hok, true_iff]
    unfold lccNodes at hc
    cases hf : lccFilt o k with
    | none => simp [hf] at hc
    | some f =>
      simp only [hf] at hc
      refine ⟨rfl, ?_⟩
      intro hnil
      have := (components_nil_iff (keys s.adj) (keys s.edgeList) f).mpr hnil
      unfold C08.largestComponent at hc
      rw [this] at hc
      simp [C08.maxByLen] at hc

end C01
