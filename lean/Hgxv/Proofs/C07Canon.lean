import Hgxv.Proofs.C07Sort
/-! # C07 helper lemmas: the canonical tree of a content (core Lean only) -/
namespace C07
variable {κ : Type} [Kind κ]

/-- hyperedge record of the serialized pre-image, metadata already serialized -/
def edgeRec (e : κ × Num × JTree) : JTree :=
  .obj [("metadata", e.2.2), ("nodes", Kind.keyTree e.1), ("weight", .num e.2.1)]
/-- node record of the serialized pre-image, metadata already serialized -/
def nodeRec (p : Nat × JTree) : JTree :=
  .obj [("metadata", p.2), ("node", natTree p.1)]

theorem ser_edgeTree [LawfulKind κ] (e : κ × Num × JTree) : ser (edgeTree e) = edgeRec (normEdge e) := by
  simp [ser, serFields, edgeTree, edgeRec, normEdge, sortBy, insertBy, fieldLe, KeyOrd.le,
    LawfulKind.ser_keyTree]

theorem ser_nodeTree (p : Nat × JTree) : ser (nodeTree p) = nodeRec (normNode p) := by
  simp [ser, serFields, nodeTree, nodeRec, normNode, sortBy, insertBy, fieldLe, KeyOrd.le, ser_natTree]

theorem edgeRec_inj [LawfulKind κ] {a b : κ × Num × JTree} (h : edgeRec a = edgeRec b) : a = b := by
  simp only [edgeRec, JTree.obj.injEq, List.cons.injEq, Prod.mk.injEq, true_and, and_true, JTree.num.injEq] at h
  obtain ⟨h1, h2, h3⟩ := h
  obtain ⟨a1, a2, a3⟩ := a
  obtain ⟨b1, b2, b3⟩ := b
  simp only at h1 h2 h3
  rw [LawfulKind.keyTree_inj _ _ h2, h1, h3]

theorem nodeRec_inj {a b : Nat × JTree} (h : nodeRec a = nodeRec b) : a = b := by
  simp only [nodeRec, JTree.obj.injEq, List.cons.injEq, Prod.mk.injEq, true_and, and_true] at h
  obtain ⟨a1, a2⟩ := a
  obtain ⟨b1, b2⟩ := b
  simp only at h
  rw [natTree_inj h.2, h.1]

/-- the canonical tree, written out -/
def canonNF (c : Content κ) : JTree :=
  .obj [("edges", .arr ((sortBy edgeKeyLe (c.edges.map normEdge)).map edgeRec)),
        ("hypergraph_metadata", ser c.hmeta),
        ("nodes", .arr ((sortBy nodeKeyLe (c.nodes.map normNode)).map nodeRec)),
        ("type", .str (Kind.tag κ)), ("weighted", .bool c.weighted)]

theorem canon_eq_NF [LawfulKind κ] (c : Content κ) : canon c = canonNF c := by
  unfold canon canonNF
  rw [ser_topTree, sortBy_map edgeKeyLe edgeKeyLe normEdge (fun _ _ => rfl),
    sortBy_map nodeKeyLe nodeKeyLe normNode (fun _ _ => rfl)]
  simp only [List.map_map]
  have e1 : (ser ∘ edgeTree : κ × Num × JTree → JTree) = edgeRec ∘ normEdge := by
    funext e; exact ser_edgeTree e
  have e2 : (ser ∘ nodeTree) = nodeRec ∘ normNode := by
    funext p; exact ser_nodeTree p
  rw [e1, e2]

theorem keys_norm {α β γ : Type} {f : α × β → α × γ} (hf : ∀ p, (f p).1 = p.1) (l : List (α × β)) :
    (l.map f).map (·.1) = l.map (·.1) := by
  simp [List.map_map, Function.comp_def, hf]

theorem canon_congr [LawfulKind κ] {a b : Content κ} (wa : a.WF) (h : a.Equiv b) : canon a = canon b := by
  rw [canon_eq_NF, canon_eq_NF]
  unfold canonNF
  have he : sortBy edgeKeyLe (a.edges.map normEdge) = sortBy edgeKeyLe (b.edges.map normEdge) :=
    sortBy_key_eq_of_perm (fun e : κ × Num × JTree => e.1) h.edges (by rw [keys_norm (f := normEdge) (fun _ => rfl)]; exact wa.edgesNodup)
  have hn : sortBy nodeKeyLe (a.nodes.map normNode) = sortBy nodeKeyLe (b.nodes.map normNode) :=
    sortBy_key_eq_of_perm (fun p : Nat × JTree => p.1) h.nodes (by rw [keys_norm (f := normNode) (fun _ => rfl)]; exact wa.nodesNodup)
  rw [he, hn, h.hmeta, h.weighted]

theorem canon_inj [LawfulKind κ] {a b : Content κ} (h : canon a = canon b) : a.Equiv b := by
  rw [canon_eq_NF, canon_eq_NF] at h
  simp only [canonNF, JTree.obj.injEq, List.cons.injEq, Prod.mk.injEq, true_and, and_true, JTree.arr.injEq,
    JTree.bool.injEq] at h
  obtain ⟨he, hh, hn, hw⟩ := h
  have he' := (List.map_inj_right fun _ _ => edgeRec_inj).mp he
  have hn' := (List.map_inj_right fun _ _ => nodeRec_inj).mp hn
  refine ⟨?_, ?_, hh, hw⟩
  · exact (sortBy_perm nodeKeyLe _).symm.trans (hn' ▸ sortBy_perm nodeKeyLe _)
  · exact (sortBy_perm edgeKeyLe _).symm.trans (he' ▸ sortBy_perm edgeKeyLe _)

theorem Content.Equiv.refl (a : Content κ) : a.Equiv a := ⟨List.Perm.refl _, List.Perm.refl _, rfl, rfl⟩
theorem Content.Equiv.symm {a b : Content κ} (h : a.Equiv b) : b.Equiv a :=
  ⟨h.nodes.symm, h.edges.symm, h.hmeta.symm, h.weighted.symm⟩
theorem Content.Equiv.trans {a b c : Content κ} (h : a.Equiv b) (g : b.Equiv c) : a.Equiv c :=
  ⟨h.nodes.trans g.nodes, h.edges.trans g.edges, h.hmeta.trans g.hmeta, h.weighted.trans g.weighted⟩

section records
variable {α β γ : Type} {f : α × β → α × γ} (hf : ∀ p, (f p).1 = p.1) {a b : List (α × β)}
  (h : (a.map f).Perm (b.map f))
include hf h

theorem key_mem_of_perm {k : α} (ha : k ∈ a.map (·.1)) : k ∈ b.map (·.1) := by
  have := (h.map (·.1)).mem_iff (a := k)
  rw [keys_norm hf, keys_norm hf] at this
  exact this.mp ha

theorem record_eq_of_perm (nd : (b.map (·.1)).Nodup) {k : α} {v v' : β} (ha : (k, v) ∈ a) (hb : (k, v') ∈ b) :
    f (k, v) = f (k, v') := by
  obtain ⟨e, he, hee⟩ := List.mem_map.mp (h.mem_iff.mp (List.mem_map_of_mem (f := f) ha))
  have hk : e.1 = k := by rw [← hf e, hee, hf]
  rw [← hee, ListLib.eq_of_nodup_map (·.1) nd he hb hk]

end records

theorem not_equiv_of_node {a b : Content κ} {n : Nat} (ha : n ∈ a.nodes.map (·.1)) (hb : n ∉ b.nodes.map (·.1)) :
    ¬ a.Equiv b := fun h => hb (key_mem_of_perm (f := normNode) (fun _ => rfl) h.nodes ha)

theorem not_equiv_of_key {a b : Content κ} {k : κ} (ha : k ∈ a.edges.map (·.1)) (hb : k ∉ b.edges.map (·.1)) :
    ¬ a.Equiv b := fun h => hb (key_mem_of_perm (f := normEdge) (fun _ => rfl) h.edges ha)

theorem not_equiv_of_edge_record {a b : Content κ} (wb : b.WF) {k : κ} {w w' : Num} {md md' : JTree}
    (ha : (k, w, md) ∈ a.edges) (hb : (k, w', md') ∈ b.edges) (hne : w ≠ w' ∨ ser md ≠ ser md') :
    ¬ a.Equiv b := fun h =>
  have e := Prod.mk.inj (Prod.mk.inj (record_eq_of_perm (f := normEdge) (fun _ => rfl) h.edges wb.edgesNodup ha hb)).2
  hne.elim (· e.1) (· e.2)

theorem not_equiv_of_node_record {a b : Content κ} (wb : b.WF) {n : Nat} {md md' : JTree}
    (ha : (n, md) ∈ a.nodes) (hb : (n, md') ∈ b.nodes) (hne : ser md ≠ ser md') : ¬ a.Equiv b :=
  fun h => hne (Prod.mk.inj (record_eq_of_perm (f := normNode) (fun _ => rfl) h.nodes wb.nodesNodup ha hb)).2

end C07
