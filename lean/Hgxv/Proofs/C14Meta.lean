import Hgxv.Proofs.C14Shuffle
import Hgxv.Model.C14Meta
/-! The metadata tables next to the content: the generator calls refine the content-level model and leave node,
hypergraph-level and incidence metadata as they were (core Lean only). -/
namespace C14

theorem touchNode_of_mem {nm : List (Nat × Nat)} {x : Nat} (h : x ∈ nm.map (·.1)) : touchNode nm x = nm := by
  simp only [touchNode, h, if_true]

theorem foldl_touch_of_subset (e : List Nat) : ∀ (nm : List (Nat × Nat)), (∀ x ∈ e, x ∈ nm.map (·.1)) →
    e.foldl touchNode nm = nm := by
  induction e with
  | nil => intro nm _; rfl
  | cons a e ih =>
    intro nm h
    simp only [List.foldl_cons]
    rw [touchNode_of_mem (h a (by simp))]
    exact ih nm (fun x hx => h x (by simp [hx]))

@[simp] theorem addEdgeM_core (m : HGM) (raw : List Nat) (w md : Nat) :
    (addEdgeM m raw w md).core = addEdge m.core raw w md := rfl
@[simp] theorem addEdgeM_hmeta (m : HGM) (raw : List Nat) (w md : Nat) : (addEdgeM m raw w md).hmeta = m.hmeta := rfl
@[simp] theorem addEdgeM_imeta (m : HGM) (raw : List Nat) (w md : Nat) : (addEdgeM m raw w md).imeta = m.imeta := rfl

theorem addEdgeM_nmeta (m : HGM) (raw : List Nat) (w md : Nat) (h : ∀ x ∈ raw, x ∈ m.nmeta.map (·.1)) :
    (addEdgeM m raw w md).nmeta = m.nmeta := by
  unfold addEdgeM
  simp only
  split
  · apply foldl_touch_of_subset
    intro x hx
    exact h x (by simpa using hx)
  · rfl

theorem addManyM_core (L : List (List Nat × Rec)) : ∀ (m : HGM), (addManyM m L).core = addMany m.core L := by
  induction L with
  | nil => intro m; rfl
  | cons t L ih =>
    intro m
    simp only [addManyM, addMany, List.foldl_cons]
    exact ih (addEdgeM m t.1 t.2.1 t.2.2)

def HGM.tables (m : HGM) : List (Nat × Nat) × Nat × List ((Edge × Nat) × Nat) := (m.nmeta, m.hmeta, m.imeta)

theorem HGM.tables_eq {a b : HGM} (h : a.tables = b.tables) : a.nmeta = b.nmeta ∧ a.hmeta = b.hmeta ∧ a.imeta = b.imeta := by
  simpa [HGM.tables] using h

theorem addManyM_meta (L : List (List Nat × Rec)) : ∀ (m : HGM), (∀ t ∈ L, ∀ x ∈ t.1, x ∈ m.nmeta.map (·.1)) →
    (addManyM m L).tables = m.tables := by
  induction L with
  | nil => intro m _; rfl
  | cons t L ih =>
    intro m h
    have h1 := addEdgeM_nmeta m t.1 t.2.1 t.2.2 (h t (by simp))
    refine (ih (addEdgeM m t.1 t.2.1 t.2.2) (by rw [h1]; intro t' ht'; exact h t' (by simp [ht']))).trans ?_
    simp [HGM.tables, h1]

theorem removeEdgesM_spec (es : List Edge) : ∀ (m : HGM),
    (removeEdgesM m es).core = removeEdges m.core es ∧ (removeEdgesM m es).tables = m.tables := by
  induction es with
  | nil => intro m; exact ⟨rfl, rfl⟩
  | cons e es ih => intro m; exact ih (removeEdgeM m e)

theorem shuffleCoreM_core (m : HGM) (s : Nat) (idx : List Nat) (cs : List (List Nat)) :
    (shuffleCoreM m s idx cs).core = shuffleCore m.core s idx cs := by
  unfold shuffleCoreM shuffleCore
  rw [addManyM_core, (removeEdgesM_spec _ m).1]

theorem shuffleCoreM_meta (m : HGM) (wf : WF m.core) (hn : ∀ x ∈ m.core.nodes, x ∈ m.nmeta.map (·.1))
    (s : Nat) (idx : List Nat) (cs : List (List Nat)) (hd : ShuffleDrawsOK m.core s idx cs) :
    (shuffleCoreM m s idx cs).tables = m.tables := by
  obtain ⟨_, r⟩ := removeEdgesM_spec ((edgesOfSize m.core s).map (·.1)) m
  have hent := readd_entries m.core wf s idx cs hd
  have := addManyM_meta (readdList idx (edgesOfSize m.core s) 0 cs) (removeEdgesM m ((edgesOfSize m.core s).map (·.1)))
    (by rw [(HGM.tables_eq r).1]; intro t ht x hx; exact hn x ((hent t ht).1 x hx))
  unfold shuffleCoreM
  exact this.trans r

theorem shuffleAllLoopM_core : ∀ (sizes : List Nat) (ds : List (List Nat × List (List Nat))) (m : HGM),
    (shuffleAllLoopM m sizes ds).core = shuffleAllLoop m.core sizes ds := by
  intro sizes
  induction sizes with
  | nil => intro ds m; simp [shuffleAllLoopM, shuffleAllLoop]
  | cons s sizes ih =>
    intro ds m
    cases ds with
    | nil => simp [shuffleAllLoopM, shuffleAllLoop]
    | cons d ds =>
      simp only [shuffleAllLoopM, shuffleAllLoop]
      rw [ih ds _, shuffleCoreM_core]

theorem shuffleAllLoopM_meta : ∀ (sizes : List Nat) (ds : List (List Nat × List (List Nat))) (m : HGM),
    WF m.core → (∀ x ∈ m.core.nodes, x ∈ m.nmeta.map (·.1)) → ShuffleAllOK m.core sizes ds →
    (shuffleAllLoopM m sizes ds).tables = m.tables := by
  intro sizes
  induction sizes with
  | nil => intro ds m _ _ _; simp [shuffleAllLoopM]
  | cons s sizes ih =>
    intro ds m wf hn hok
    cases ds with
    | nil => simp [shuffleAllLoopM]
    | cons d ds =>
      simp only [ShuffleAllOK] at hok
      have h1 := shuffleCore_spec m.core wf s d.1 d.2 hok.1
      have hm := shuffleCoreM_meta m wf hn s d.1 d.2 hok.1
      have hc := shuffleCoreM_core m s d.1 d.2
      exact (ih ds (shuffleCoreM m s d.1 d.2) (by rw [hc]; exact h1.wf)
        (by rw [hc, h1.nodes, (HGM.tables_eq hm).1]; exact hn) (by rw [hc]; exact hok.2)).trans hm

/-- forget the metadata tables of a call result -/
def CallResultM.proj (r : CallResultM) : CallResult := { arg := r.arg.core, ret := r.ret.map (·.core) }

end C14
