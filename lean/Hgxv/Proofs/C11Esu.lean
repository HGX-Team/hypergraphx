import Hgxv.Model.C11
import Hgxv.Proofs.C11List
/-! # C11 - the ESU recursion `graph_extend` of `_motifs_standard` (core Lean only)

`extend_spec`: under the call invariant, the node sets handed to `count_motif` by
`extend N g v sub ext nsub` are exactly - and each exactly once - the valid ones -/
namespace C11

variable (N : Nat) (g : Nat → List Nat) (v : Nat)

/-- reachability from `sub` inside `S` -/
inductive ReachIn (S sub : List Nat) : Nat → Prop
  | base {x} : x ∈ sub → ReachIn S sub x
  | step {y x} : ReachIn S sub y → x ∈ g y → x ∈ S → ReachIn S sub x

/-- a neighbour of `sub` that was already tried and dropped: it may not be used again -/
def Forbidden (sub ext nsub : List Nat) (x : Nat) : Prop := x ∈ nsub ∧ x ∉ sub ∧ x ∉ ext

/-- `S` is one of the node sets the call `extend sub ext nsub` has to hand over -/
structure Valid (sub ext nsub S : List Nat) : Prop where
  sub_in : ∀ x ∈ sub, x ∈ S
  above : ∀ x ∈ S, x ∉ sub → v < x
  allowed : ∀ x ∈ S, x ∉ sub → ¬ Forbidden sub ext nsub x
  reach : ∀ x ∈ S, ReachIn g S sub x

/-- what holds at every call `extend sub ext nsub` -/
structure Inv (sub ext nsub : List Nat) : Prop where
  sub_nodup : sub.Nodup
  sub_len : sub.length ≤ N
  nsub_iff : ∀ x, x ∈ nsub ↔ ∃ y ∈ sub, x ∈ g y
  ext_nodup : ext.Nodup
  ext_in : ∀ x ∈ ext, x ∈ nsub ∧ x ∉ sub ∧ v < x

def sameSet (S o : List Nat) : Bool := o.all (fun x => decide (x ∈ S)) && S.all (fun x => decide (x ∈ o))

theorem sameSet_iff (S o : List Nat) : sameSet S o = true ↔ (∀ x, x ∈ o ↔ x ∈ S) := by
  simp only [sameSet, Bool.and_eq_true, List.all_eq_true, decide_eq_true_eq]
  constructor
  · rintro ⟨a, b⟩ x; exact ⟨a x, b x⟩
  · intro h; exact ⟨fun x hx => (h x).mp hx, fun x hx => (h x).mpr hx⟩

theorem reach_sources {S sub sub' : List Nat} (h : ∀ s ∈ sub', ReachIn g S sub s) {x : Nat}
    (hr : ReachIn g S sub' x) : ReachIn g S sub x := by
  induction hr with
  | base hx => exact h _ hx
  | step _ hxy hxS ih => exact ReachIn.step ih hxy hxS

theorem first_exit {S sub : List Nat} {x : Nat} (hr : ReachIn g S sub x) (hx : x ∉ sub) :
    ∃ y ∈ sub, ∃ z, z ∈ S ∧ z ∉ sub ∧ z ∈ g y := by
  induction hr with
  | base h => exact absurd h hx
  | @step y x _ hxy hxS ih =>
    by_cases hy : y ∈ sub
    · exact ⟨y, hy, x, hxS, hx, hxy⟩
    · exact ih hy

variable {N g v}

theorem not_valid_nil {sub nsub S : List Nat} (hinv : Inv N g v sub [] nsub)
    (hS : S.Nodup) (hlen : S.length = N) (hlt : sub.length < N) : ¬ Valid g v sub [] nsub S := by
  intro hv
  obtain ⟨x, hxS, hxsub⟩ := exists_outside (sub := sub) hS (by omega)
  obtain ⟨y, hy, z, hzS, hzsub, hzy⟩ := first_exit g (hv.reach x hxS) hxsub
  exact hv.allowed z hzS hzsub ⟨(hinv.nsub_iff z).mpr ⟨y, hy, hzy⟩, hzsub, by simp⟩

/-! `A` is the first recursive call of `extend` (`w` joins `sub`), `B` the second (`w` is dropped from `ext`). -/

theorem inv_B {sub rest nsub : List Nat} {w : Nat} (hinv : Inv N g v sub (w :: rest) nsub) :
    Inv N g v sub rest nsub :=
  ⟨hinv.sub_nodup, hinv.sub_len, hinv.nsub_iff, (List.nodup_cons.mp hinv.ext_nodup).2,
   fun x hx => hinv.ext_in x (List.mem_cons_of_mem _ hx)⟩

theorem inv_A {sub rest nsub : List Nat} {w : Nat} (hgnd : ∀ w, (g w).Nodup)
    (hinv : Inv N g v sub (w :: rest) nsub) (hlt : sub.length < N) :
    Inv N g v (sub ++ [w]) (rest ++ newExcl g v sub rest nsub w) (nsub ++ g w) := by
  have hw := hinv.ext_in w List.mem_cons_self
  have hnd := List.nodup_cons.mp hinv.ext_nodup
  refine ⟨?_, ?_, ?_, ?_, ?_⟩
  · refine List.nodup_append.mpr ⟨hinv.sub_nodup, by simp, ?_⟩
    intro a ha b hb hab; simp at hb; subst hb; subst hab; exact hw.2.1 ha
  · simp; omega
  · intro x
    simp only [List.mem_append, List.mem_singleton]
    constructor
    · rintro (h | h)
      · obtain ⟨y, hy, hxy⟩ := (hinv.nsub_iff x).mp h; exact ⟨y, Or.inl hy, hxy⟩
      · exact ⟨w, Or.inr rfl, h⟩
    · rintro ⟨y, (hy | hy), hxy⟩
      · exact Or.inl ((hinv.nsub_iff x).mpr ⟨y, hy, hxy⟩)
      · subst hy; exact Or.inr hxy
  · refine List.nodup_append.mpr ⟨hnd.2, (hgnd w).filter _, ?_⟩
    intro a ha b hb hab; subst hab
    simp [newExcl] at hb
    exact hb.2.2 ha
  · intro x hx
    rcases List.mem_append.mp hx with h | h
    · have := hinv.ext_in x (List.mem_cons_of_mem _ h)
      refine ⟨List.mem_append.mpr (Or.inl this.1), ?_, this.2.2⟩
      simp only [List.mem_append, List.mem_singleton, not_or]
      exact ⟨this.2.1, fun hxw => hnd.1 (hxw ▸ h)⟩
    · simp [newExcl] at h
      obtain ⟨h1, ⟨⟨h2, h3⟩, h4⟩, _⟩ := h
      refine ⟨List.mem_append.mpr (Or.inr h1), ?_, h4⟩
      simp only [List.mem_append, List.mem_singleton, not_or]
      exact ⟨h2, fun hxw => h3 (hxw ▸ hw.1)⟩

section split
variable {sub rest nsub S : List Nat} {w : Nat}

theorem valid_to_A (hv : Valid g v sub (w :: rest) nsub S) (hw : w ∈ S) :
    Valid g v (sub ++ [w]) (rest ++ newExcl g v sub rest nsub w) (nsub ++ g w) S := by
  refine ⟨?_, ?_, ?_, ?_⟩
  · intro x hx
    rcases List.mem_append.mp hx with h | h
    · exact hv.sub_in x h
    · simp at h; subst h; exact hw
  · intro x hx hns
    exact hv.above x hx (fun h => hns (List.mem_append.mpr (Or.inl h)))
  · intro x hx hns hf
    have hxsub : x ∉ sub := fun h => hns (List.mem_append.mpr (Or.inl h))
    have hxw : x ≠ w := fun h => hns (List.mem_append.mpr (Or.inr (by simp [h])))
    obtain ⟨hin, _, hnot⟩ := hf
    have hxrest : x ∉ rest := fun h => hnot (List.mem_append.mpr (Or.inl h))
    rcases List.mem_append.mp hin with h | h
    · exact hv.allowed x hx hxsub ⟨h, hxsub, by simp [hxw, hxrest]⟩
    · by_cases hxn : x ∈ nsub
      · exact hv.allowed x hx hxsub ⟨hxn, hxsub, by simp [hxw, hxrest]⟩
      · apply hnot
        apply List.mem_append.mpr; right
        simp [newExcl, h, hxsub, hxn, hxrest, hv.above x hx hxsub]
  · intro x hx
    exact reach_sources g (fun y hy => ReachIn.base (List.mem_append.mpr (Or.inl hy))) (hv.reach x hx)

theorem valid_of_A (hinv : Inv N g v sub (w :: rest) nsub)
    (hv : Valid g v (sub ++ [w]) (rest ++ newExcl g v sub rest nsub w) (nsub ++ g w) S) :
    Valid g v sub (w :: rest) nsub S ∧ w ∈ S := by
  have hwS : w ∈ S := hv.sub_in w (by simp)
  have hwi := hinv.ext_in w List.mem_cons_self
  refine ⟨⟨?_, ?_, ?_, ?_⟩, hwS⟩
  · intro x hx; exact hv.sub_in x (List.mem_append.mpr (Or.inl hx))
  · intro x hx hns
    by_cases hxw : x = w
    · subst hxw; exact hwi.2.2
    · exact hv.above x hx (by simp [hns, hxw])
  · intro x hx hns hf
    obtain ⟨hin, _, hnot⟩ := hf
    have hxw : x ≠ w := fun h => hnot (by simp [h])
    have hxrest : x ∉ rest := fun h => hnot (List.mem_cons_of_mem _ h)
    apply hv.allowed x hx (by simp [hns, hxw])
    refine ⟨List.mem_append.mpr (Or.inl hin), by simp [hns, hxw], ?_⟩
    intro h
    rcases List.mem_append.mp h with h | h
    · exact hxrest h
    · simp [newExcl] at h
      exact h.2.1.1.2 hin
  · intro x hx
    -- every source in sub ++ [w] is reachable from sub inside S
    have hwreach : ReachIn g S sub w := by
      obtain ⟨y, hy, hwy⟩ := (hinv.nsub_iff w).mp hwi.1
      exact ReachIn.step (ReachIn.base hy) hwy hwS
    refine reach_sources g ?_ (hv.reach x hx)
    intro s hs
    rcases List.mem_append.mp hs with h | h
    · exact ReachIn.base h
    · simp at h; subst h; exact hwreach

theorem valid_to_B (hv : Valid g v sub (w :: rest) nsub S) (hw : w ∉ S) :
    Valid g v sub rest nsub S := by
  refine ⟨hv.sub_in, hv.above, ?_, hv.reach⟩
  intro x hx hns hf
  obtain ⟨hin, _, hnot⟩ := hf
  have hxw : x ≠ w := fun h => hw (h ▸ hx)
  exact hv.allowed x hx hns ⟨hin, hns, by simp [hxw, hnot]⟩

theorem valid_of_B (hinv : Inv N g v sub (w :: rest) nsub) (hv : Valid g v sub rest nsub S) :
    Valid g v sub (w :: rest) nsub S ∧ w ∉ S := by
  have hwi := hinv.ext_in w List.mem_cons_self
  have hnd := List.nodup_cons.mp hinv.ext_nodup
  have hwS : w ∉ S := fun h => hv.allowed w h hwi.2.1 ⟨hwi.1, hwi.2.1, hnd.1⟩
  refine ⟨⟨hv.sub_in, hv.above, ?_, hv.reach⟩, hwS⟩
  intro x hx hns hf
  exact hv.allowed x hx hns ⟨hf.1, hf.2.1, fun h => hf.2.2 (List.mem_cons_of_mem _ h)⟩

end split

theorem extend_spec (hgnd : ∀ w, (g w).Nodup) :
    ∀ (sub ext nsub : List Nat), Inv N g v sub ext nsub → ∀ S : List Nat, S.Nodup → S.length = N →
      (Valid g v sub ext nsub S → (extend N g v sub ext nsub).countP (sameSet S) = 1) ∧
      (¬ Valid g v sub ext nsub S → (extend N g v sub ext nsub).countP (sameSet S) = 0) := by
  intro sub ext nsub
  induction sub, ext, nsub using extend.induct N g v with
  | case1 sub ext nsub hge =>
    intro hinv S hS hlen
    have hl : sub.length = S.length := by have := hinv.sub_len; omega
    rw [extend.eq_def]; simp only [hge, if_true]
    have hiff : Valid g v sub ext nsub S ↔ sameSet S sub = true := by
      rw [sameSet_iff]
      constructor
      · intro hv x
        exact ⟨hv.sub_in x, subset_of_full hinv.sub_nodup hl hv.sub_in x⟩
      · intro h
        refine ⟨fun x hx => (h x).mp hx, ?_, ?_, ?_⟩
        · intro x hx hns; exact absurd ((h x).mpr hx) hns
        · intro x hx hns; exact absurd ((h x).mpr hx) hns
        · intro x hx; exact ReachIn.base ((h x).mpr hx)
    constructor
    · intro hv; simp [hiff.mp hv]
    · intro hv
      have : sameSet S sub = false := by
        cases hs : sameSet S sub with
        | false => rfl
        | true => exact absurd (hiff.mpr hs) hv
      simp [this]
  | case2 sub nsub hlt =>
    intro hinv S hS hlen
    rw [extend]; simp only [hlt, if_false]
    refine ⟨fun hv => absurd hv (not_valid_nil hinv hS hlen (by omega)), fun _ => by simp⟩
  | case3 sub nsub hlt w rest ihA ihB =>
    intro hinv S hS hlen
    have hlt' : sub.length < N := by omega
    have hA := ihA (inv_A hgnd hinv hlt') S hS hlen
    have hB := ihB (inv_B hinv) S hS hlen
    rw [extend]; simp only [hlt, if_false, List.countP_append]
    constructor
    · intro hv
      by_cases hw : w ∈ S
      · have vA := valid_to_A hv hw
        have nB : ¬ Valid g v sub rest nsub S := fun h => (valid_of_B hinv h).2 hw
        rw [hA.1 vA, hB.2 nB]
      · have vB := valid_to_B hv hw
        have nA : ¬ Valid g v (sub ++ [w]) (rest ++ newExcl g v sub rest nsub w) (nsub ++ g w) S :=
          fun h => hw (valid_of_A hinv h).2
        rw [hA.2 nA, hB.1 vB]
    · intro hv
      have nA : ¬ Valid g v (sub ++ [w]) (rest ++ newExcl g v sub rest nsub w) (nsub ++ g w) S :=
        fun h => hv (valid_of_A hinv h).1
      have nB : ¬ Valid g v sub rest nsub S := fun h => hv (valid_of_B hinv h).1
      rw [hA.2 nA, hB.2 nB]

end C11
