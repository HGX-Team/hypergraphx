import Hgxv.Proofs.C11Pattern
/-! # C11 - relabelling the POSITIONS of a pattern: `perms (range n)` as a group, the index tables `edgePerm` implement
`relabel` and act on the masks as that group (`edgePerm_facts`, `tbls_id`, `tbls_comp`, `tbls_inv`), hyperedge sizes are kept
(`usesSize`); renaming the NODES of a hypergraph is `Proofs/C11Relabel.lean` (core Lean only) -/
namespace C11

theorem getElem!_eq_getD (l : List Nat) (i : Nat) : l[i]! = l.getD i 0 := by
  simp [List.getD_eq_getElem?_getD]

theorem subsetsOfSize_map (f : Nat → Nat) (k : Nat) (l : List Nat) :
    subsetsOfSize k (l.map f) = (subsetsOfSize k l).map (List.map f) := by
  induction l generalizing k with
  | nil => cases k <;> simp [subsetsOfSize]
  | cons a l ih =>
    cases k with
    | zero => simp [subsetsOfSize]
    | succ k =>
      simp only [List.map_cons, subsetsOfSize, ih, List.map_append, List.map_map]
      congr 1

theorem hyperedgesOf_map (f : Nat → Nat) (n : Nat) (l : List Nat) :
    hyperedgesOf n (l.map f) = (hyperedgesOf n l).map (List.map f) := by
  unfold hyperedgesOf
  rw [List.map_flatMap]
  congr 1
  funext k
  exact subsetsOfSize_map f k l

theorem eq_map_range (S : List Nat) : S = (List.range S.length).map (S.getD · 0) := by
  apply List.ext_getElem
  · simp
  · intro i h1 h2
    rw [List.getElem_map, List.getElem_range, ListLib.getD_of_lt _ _ h1]

theorem hyperedgesOf_eq {n : Nat} {S : List Nat} (h : S.length = n) :
    hyperedgesOf n S = (hyperedges n).map (List.map (S.getD · 0)) := by
  unfold hyperedges
  rw [← hyperedgesOf_map, ← h, ← eq_map_range]

theorem mem_hyperedges {n : Nat} {he : List Nat} (h : he ∈ hyperedges n) :
    SSorted he ∧ (∀ j ∈ he, j < n) ∧ 2 ≤ he.length ∧ he.length ≤ n := by
  obtain ⟨hs, h2, hn⟩ := mem_hyperedgesOf.mp h
  exact ⟨List.Pairwise.sublist hs List.pairwise_lt_range, fun j hj => List.mem_range.mp (hs.subset hj), h2, hn⟩

theorem sorted_mem_hyperedges {n : Nat} {he : List Nat} (hs : SSorted he) (hlt : ∀ j ∈ he, j < n)
    (h2 : 2 ≤ he.length) (hn : he.length ≤ n) : he ∈ hyperedges n := by
  exact mem_hyperedgesOf.mpr ⟨NatSort.sublist_of_strict_subset hs List.pairwise_lt_range (fun x hx => List.mem_range.mpr (hlt x hx)), h2, hn⟩

theorem map_getD_sorted {S X : List Nat} (hS : SSorted S) (hX : SSorted X) (hlt : ∀ x ∈ X, x < S.length) :
    SSorted (X.map (S.getD · 0)) := by
  unfold SSorted
  rw [List.pairwise_map]
  refine List.Pairwise.imp_of_mem ?_ hX
  intro a b ha hb hab
  rw [ListLib.getD_of_lt _ _ (hlt a ha), ListLib.getD_of_lt _ _ (hlt b hb)]
  exact (List.pairwise_iff_getElem.mp hS) a b (hlt a ha) (hlt b hb) hab

theorem mem_insertions (x : Nat) (a b : List Nat) : a ++ x :: b ∈ insertions x (a ++ b) := by
  induction a with
  | nil => cases b <;> simp [insertions]
  | cons y a ih =>
    simp only [List.cons_append, insertions, List.mem_cons, List.mem_map]
    right
    exact ⟨a ++ x :: b, ih, rfl⟩

theorem mem_perms_of_perm : ∀ (xs l : List Nat), l.Perm xs → l ∈ perms xs := by
  intro xs
  induction xs with
  | nil => intro l h; have := h.eq_nil; subst this; simp [perms]
  | cons x xs ih =>
    intro l h
    have hx : x ∈ l := h.symm.subset (by simp)
    obtain ⟨a, b, rfl⟩ := List.append_of_mem hx
    have hp : (a ++ b).Perm xs := by
      have := (List.perm_middle (a := x) (l₁ := a) (l₂ := b)).symm.trans h
      exact this.cons_inv
    simp only [perms, List.mem_flatMap]
    exact ⟨a ++ b, ih _ hp, mem_insertions x a b⟩

theorem perm_of_mem_insertions {x : Nat} : ∀ {ys l : List Nat}, l ∈ insertions x ys → l.Perm (x :: ys) := by
  intro ys
  induction ys with
  | nil => intro l h; simp [insertions] at h; subst h; exact .refl _
  | cons y ys ih =>
    intro l h
    simp only [insertions, List.mem_cons, List.mem_map] at h
    rcases h with rfl | ⟨l', hl', rfl⟩
    · exact .refl _
    · exact ((ih hl').cons y).trans (.swap x y ys)

theorem perm_of_mem_perms : ∀ {xs l : List Nat}, l ∈ perms xs → l.Perm xs := by
  intro xs
  induction xs with
  | nil => intro l h; simp [perms] at h; subst h; exact .refl _
  | cons x xs ih =>
    intro l h
    simp only [perms, List.mem_flatMap] at h
    obtain ⟨l', hl', h⟩ := h
    exact (perm_of_mem_insertions h).trans ((ih hl').cons x)

theorem mem_perms_range {n : Nat} {q : List Nat} (hnd : q.Nodup) (hlen : q.length = n) (hlt : ∀ x ∈ q, x < n) :
    q ∈ perms (List.range n) := by
  apply mem_perms_of_perm
  apply (List.perm_ext_iff_of_nodup hnd List.nodup_range).mpr
  intro x
  constructor
  · intro hx; exact List.mem_range.mpr (hlt x hx)
  · intro hx
    exact subset_of_full (S := List.range n) (sub := q) hnd (by simp [hlen])
      (fun y hy => List.mem_range.mpr (hlt y hy)) x hx

theorem idxOf_inj {l : List Nat} {a b : Nat} (ha : a ∈ l) (hb : b ∈ l) (h : l.idxOf a = l.idxOf b) : a = b := by
  have h1 := List.getElem_idxOf (List.idxOf_lt_length_of_mem ha)
  have h2 := List.getElem_idxOf (List.idxOf_lt_length_of_mem hb)
  rw [← h1, ← h2]
  simp only [h]

theorem getD_inj_of_nodup {l : List Nat} (h : l.Nodup) {i j : Nat} (hi : i < l.length) (hj : j < l.length)
    (e : l.getD i 0 = l.getD j 0) : i = j := by
  rw [ListLib.getD_of_lt _ _ hi, ListLib.getD_of_lt _ _ hj] at e
  apply Classical.byContradiction
  intro hne
  rcases Nat.lt_or_gt_of_ne hne with hlt | hlt
  · exact (List.pairwise_iff_getElem.mp h) i j hi hj hlt e
  · exact (List.pairwise_iff_getElem.mp h) j i hj hi hlt e.symm

theorem idxOf_map_perm {L M : List Nat} (hL : L.Nodup) (hsub : ∀ x ∈ L, x ∈ M) (hlen : L.length = M.length) :
    L.map (M.idxOf ·) ∈ perms (List.range M.length) ∧
    ∀ j, j < L.length → M.getD ((L.map (M.idxOf ·)).getD j 0) 0 = L.getD j 0 := by
  constructor
  · apply mem_perms_range
    · exact nodup_map_of_inj hL fun a ha b hb => idxOf_inj (hsub a ha) (hsub b hb)
    · rw [List.length_map, hlen]
    · intro x hx
      obtain ⟨y, hy, rfl⟩ := List.mem_map.mp hx
      exact List.idxOf_lt_length_of_mem (hsub y hy)
  · intro j hj
    have hm := hsub _ (getD_mem L 0 hj)
    rw [getD_map_lt _ _ 0 0 hj, ListLib.getD_of_lt _ _ (List.idxOf_lt_length_of_mem hm), List.getElem_idxOf]

/-- `q ∘ p` on positions `0..n-1` -/
def compPerm (q p : List Nat) : List Nat := p.map (q[·]!)

theorem getElem!_map_lt (f : Nat → Nat) (l : List Nat) {i : Nat} (h : i < l.length) :
    (l.map f)[i]! = f (l[i]!) := by
  simp [List.getElem!_eq_getElem?_getD, List.getElem?_map, List.getElem?_eq_getElem h]

theorem length_of_mem_perms {n : Nat} {p : List Nat} (hp : p ∈ perms (List.range n)) : p.length = n := by
  simpa using (perm_of_mem_perms hp).length_eq

theorem map_getElem!_range {n : Nat} {q : List Nat} (hq : q.length = n) : (List.range n).map (q[·]!) = q := by
  apply List.ext_getElem (by simp [hq])
  intro i h1 h2
  simp [List.getElem?_eq_getElem h2]

theorem compPerm_mem {n : Nat} {p q : List Nat} (hp : p ∈ perms (List.range n)) (hq : q ∈ perms (List.range n)) :
    compPerm q p ∈ perms (List.range n) := by
  have hq' := perm_of_mem_perms hq
  apply mem_perms_of_perm
  have h := (perm_of_mem_perms hp).map (q[·]!)
  rw [map_getElem!_range (by simpa using hq'.length_eq)] at h
  exact h.trans hq'

theorem perms_div {n : Nat} {p p0 : List Nat} (hp : p ∈ perms (List.range n)) (hp0 : p0 ∈ perms (List.range n)) :
    ∃ q ∈ perms (List.range n), compPerm q p = p0 := by
  have hpP := perm_of_mem_perms hp
  have hnd : p.Nodup := hpP.nodup_iff.mpr List.nodup_range
  have hlen : p.length = n := by simpa using hpP.length_eq
  have hlen0 : p0.length = n := by simpa using (perm_of_mem_perms hp0).length_eq
  have hmem : ∀ j, j < n → j ∈ p := fun j hj => hpP.mem_iff.mpr (List.mem_range.mpr hj)
  have hinv : (List.range n).map (p.idxOf ·) ∈ perms (List.range n) :=
    hlen ▸ (idxOf_map_perm List.nodup_range (fun j hj => hmem j (List.mem_range.mp hj)) (by simp [hlen])).1
  refine ⟨compPerm p0 ((List.range n).map (p.idxOf ·)), compPerm_mem hinv hp0, ?_⟩
  unfold compPerm
  apply List.ext_getElem (by simp [hlen, hlen0])
  intro i h1 h2
  have hi : i < p.length := by simpa using h1
  have hpi : p[i] < n := by
    have := hpP.mem_iff.mp (List.getElem_mem hi); simpa using this
  simp only [List.getElem_map, List.map_map]
  rw [getElem!_pos _ _ (by simpa using hpi)]
  simp only [List.getElem_map, List.getElem_range, Function.comp]
  rw [hnd.idxOf_getElem, getElem!_pos p0 i h2]

theorem findIdx_beq_of_mem {l : List (List Nat)} {a : List Nat} (h : a ∈ l) :
    l.findIdx (· == a) < l.length ∧ l.getD (l.findIdx (· == a)) [] = a := by
  have hlt : l.findIdx (· == a) < l.length := List.findIdx_lt_length_of_exists ⟨a, h, by simp⟩
  refine ⟨hlt, ?_⟩
  rw [ListLib.getD_of_lt _ _ hlt]
  simpa using List.findIdx_getElem (w := hlt)

theorem hyperedges_nodup (n : Nat) : (hyperedges n).Nodup := by
  unfold hyperedges hyperedgesOf
  rw [List.Nodup, List.pairwise_flatMap]
  refine ⟨fun k _ => nodup_subsetsOfSize List.nodup_range, ?_⟩
  have : (sizesDesc n).Nodup := ((List.reverse_perm _).nodup_iff.mpr List.nodup_range).filter _
  refine List.Pairwise.imp ?_ this
  intro k k' hkk' e he e' he' hee'
  subst hee'
  exact hkk' ((mem_subsetsOfSize.mp he).2.symm.trans (mem_subsetsOfSize.mp he').2)

theorem image_mem_hyperedges {n : Nat} {q : List Nat} (hq : q ∈ perms (List.range n)) {e : List Nat}
    (he : e ∈ hyperedges n) : isort (e.map fun v => q.getD v 0) ∈ hyperedges n := by
  have hqP := perm_of_mem_perms hq
  have hqnd : q.Nodup := hqP.nodup_iff.mpr List.nodup_range
  have hqlen : q.length = n := by simpa using hqP.length_eq
  obtain ⟨hs, hlt, h2, hn⟩ := mem_hyperedges he
  have hnd : (e.map fun v => q.getD v 0).Nodup := nodup_map_of_inj hs.nodup fun a ha b hb =>
    getD_inj_of_nodup hqnd (by have := hlt a ha; omega) (by have := hlt b hb; omega)
  apply sorted_mem_hyperedges (isort_sorted hnd)
  · intro j hj
    obtain ⟨v, hv, rfl⟩ := List.mem_map.mp (mem_isort.mp hj)
    exact List.mem_range.mp (hqP.mem_iff.mp (getD_mem q 0 (by have := hlt v hv; omega)))
  · rw [isort_length, List.length_map]; exact h2
  · rw [isort_length, List.length_map]; exact hn

theorem edgePerm_facts {n : Nat} {q : List Nat} (hq : q ∈ perms (List.range n)) :
    (edgePerm (hyperedges n) q).length = (hyperedges n).length ∧
    (∀ i, i < (hyperedges n).length →
      (edgePerm (hyperedges n) q).getD i 0 < (hyperedges n).length ∧
      (hyperedges n).getD ((edgePerm (hyperedges n) q).getD i 0) []
        = isort (((hyperedges n).getD i []).map fun v => q.getD v 0)) ∧
    (∀ j, j < (hyperedges n).length → ∃ p, p < (hyperedges n).length ∧ (edgePerm (hyperedges n) q).getD p 0 = j) := by
  have hqP := perm_of_mem_perms hq
  have hqnd : q.Nodup := hqP.nodup_iff.mpr List.nodup_range
  have hqlen : q.length = n := by simpa using hqP.length_eq
  have hlen : (edgePerm (hyperedges n) q).length = (hyperedges n).length := by simp [edgePerm]
  have hval : ∀ i, i < (hyperedges n).length → (edgePerm (hyperedges n) q).getD i 0
      = (hyperedges n).findIdx (· == isort (((hyperedges n).getD i []).map fun v => q.getD v 0)) := by
    intro i hi
    unfold edgePerm
    rw [getD_map_lt _ _ [] 0 hi]
    simp only [getElem!_eq_getD]
  have hfact : ∀ i, i < (hyperedges n).length →
      (edgePerm (hyperedges n) q).getD i 0 < (hyperedges n).length ∧
      (hyperedges n).getD ((edgePerm (hyperedges n) q).getD i 0) []
        = isort (((hyperedges n).getD i []).map fun v => q.getD v 0) := by
    intro i hi
    rw [hval i hi]
    exact findIdx_beq_of_mem (image_mem_hyperedges hq (getD_mem _ [] hi))
  refine ⟨hlen, hfact, ?_⟩
  -- the table is duplicate-free with entries below its length, hence onto
  have hnd : (edgePerm (hyperedges n) q).Nodup := by
    rw [List.Nodup, List.pairwise_iff_getElem]
    intro i i' hi hi' hii' heq
    have heq' : (edgePerm (hyperedges n) q).getD i 0 = (edgePerm (hyperedges n) q).getD i' 0 := by
      rw [ListLib.getD_of_lt _ _ hi, ListLib.getD_of_lt _ _ hi']; exact heq
    rw [hlen] at hi hi'
    have e1 := (hfact i hi).2
    rw [heq', (hfact i' hi').2] at e1
    -- equal sorted images: equal hyperedges
    obtain ⟨hs, hlt, _, _⟩ := mem_hyperedges (getD_mem (hyperedges n) [] hi)
    obtain ⟨hs', hlt', _, _⟩ := mem_hyperedges (getD_mem (hyperedges n) [] hi')
    have hee : (hyperedges n).getD i [] = (hyperedges n).getD i' [] := by
      apply eq_of_sorted_of_mem_iff hs hs'
      have key : ∀ {a b : List Nat}, (∀ v ∈ a, v < n) → (∀ v ∈ b, v < n) →
          isort (b.map fun v => q.getD v 0) = isort (a.map fun v => q.getD v 0) → ∀ x ∈ a, x ∈ b := by
        intro a b ha hb h x hx
        have : q.getD x 0 ∈ isort (b.map fun v => q.getD v 0) := by
          rw [h, mem_isort]; exact List.mem_map.mpr ⟨x, hx, rfl⟩
        obtain ⟨y, hy, hyx⟩ := List.mem_map.mp (mem_isort.mp this)
        have := getD_inj_of_nodup hqnd (by have := hb y hy; omega) (by have := ha x hx; omega) hyx
        exact this ▸ hy
      exact fun x => ⟨key hlt hlt' e1 x, key hlt' hlt e1.symm x⟩
    rw [ListLib.getD_of_lt _ _ hi, ListLib.getD_of_lt _ _ hi'] at hee
    exact (List.pairwise_iff_getElem.mp (hyperedges_nodup n)) i i' hi hi' hii' hee
  intro j hj
  have hall := subset_of_full (S := List.range (hyperedges n).length) hnd (by simp [hlen]) (by
    intro x hx
    obtain ⟨i, hi, rfl⟩ := List.mem_iff_getElem.mp hx
    rw [← ListLib.getD_of_lt _ 0 hi]
    exact List.mem_range.mpr (hfact i (hlen ▸ hi)).1) j (List.mem_range.mpr hj)
  obtain ⟨p, hp, rfl⟩ := List.mem_iff_getElem.mp hall
  exact ⟨p, hlen ▸ hp, ListLib.getD_of_lt _ 0 hp⟩

theorem hyperedges_getD_inj {n i j : Nat} (hi : i < (hyperedges n).length) (hj : j < (hyperedges n).length)
    (e : (hyperedges n).getD i [] = (hyperedges n).getD j []) : i = j := by
  rw [ListLib.getD_of_lt _ _ hi, ListLib.getD_of_lt _ _ hj] at e
  rw [← (hyperedges_nodup n).idxOf_getElem i hi, ← (hyperedges_nodup n).idxOf_getElem j hj, e]

theorem edgePerm_id (n : Nat) : edgePerm (hyperedges n) (List.range n) = List.range (hyperedges n).length := by
  apply List.ext_getElem (by simp [edgePerm])
  intro i h1 h2
  have hi : i < (hyperedges n).length := by simpa using h2
  obtain ⟨hs, hlt, _, _⟩ := mem_hyperedges (List.getElem_mem hi)
  have hmap : ((hyperedges n)[i]).map (fun v => (List.range n)[v]!) = (hyperedges n)[i] := by
    refine (List.map_congr_left ?_).trans (List.map_id _)
    intro v hv
    rw [getElem!_pos _ _ (by simpa using hlt v hv), List.getElem_range]; rfl
  simp only [edgePerm, List.getElem_map, List.getElem_range]
  rw [hmap, isort_eq_of_mem_iff hs.nodup hs (fun _ => Iff.rfl)]
  exact (hyperedges_nodup n).idxOf_getElem i hi

theorem edgePerm_comp {n : Nat} {p q : List Nat} (hp : p ∈ perms (List.range n)) (hq : q ∈ perms (List.range n)) :
    edgePerm (hyperedges n) (compPerm q p) = compT (edgePerm (hyperedges n) q) (edgePerm (hyperedges n) p) := by
  obtain ⟨hlp, hfp, _⟩ := edgePerm_facts hp
  obtain ⟨hlq, hfq, _⟩ := edgePerm_facts hq
  obtain ⟨hlc, hfc, _⟩ := edgePerm_facts (compPerm_mem hp hq)
  apply List.ext_getElem (by simp [compT, hlc, hlp])
  intro i h1 h2
  have hi : i < (hyperedges n).length := hlc ▸ h1
  obtain ⟨hs, hlt, _, _⟩ := mem_hyperedges (getD_mem (hyperedges n) [] hi)
  rw [← ListLib.getD_of_lt _ 0 h1, ← ListLib.getD_of_lt _ 0 h2]
  unfold compT
  rw [getD_map_lt _ _ 0 0 (hlp ▸ hi)]
  apply hyperedges_getD_inj (hfc i hi).1 (hfq _ (hfp i hi).1).1
  rw [(hfc i hi).2, (hfq _ (hfp i hi).1).2, (hfp i hi).2,
    isort_congr ((isort_perm_self _).map _), List.map_map]
  congr 1
  apply List.map_congr_left
  intro v hv
  have hv' : v < p.length := by rw [length_of_mem_perms hp]; exact hlt v hv
  simp only [Function.comp, compPerm, ← getElem!_eq_getD]
  rw [getElem!_map_lt _ _ hv']

theorem mem_tbls {n : Nat} {t : List Nat} : t ∈ tbls n ↔ ∃ p ∈ perms (List.range n), edgePerm (hyperedges n) p = t :=
  List.mem_map

theorem numMasks_eq (n : Nat) : numMasks n = 2 ^ (hyperedges n).length := Nat.one_shiftLeft _

theorem tbls_id (n : Nat) : ∃ t ∈ tbls n, ∀ m, m < numMasks n → applyPerm t m = m :=
  ⟨_, mem_tbls.mpr ⟨_, mem_perms_of_perm _ _ (List.Perm.refl _), rfl⟩, fun m hm => by
    rw [edgePerm_id]; exact applyPerm_range _ m (numMasks_eq n ▸ hm)⟩

theorem edgePerm_lt {n : Nat} {p : List Nat} (hp : p ∈ perms (List.range n)) :
    ∀ x ∈ edgePerm (hyperedges n) p, x < (hyperedges n).length := by
  intro x hx
  obtain ⟨i, hi, rfl⟩ := List.mem_iff_getElem.mp hx
  rw [← ListLib.getD_of_lt _ 0 hi]
  exact ((edgePerm_facts hp).2.1 i ((edgePerm_facts hp).1 ▸ hi)).1

theorem applyPerm_edgePerm_comp {n : Nat} {p q : List Nat} (hp : p ∈ perms (List.range n))
    (hq : q ∈ perms (List.range n)) (m : Nat) : applyPerm (edgePerm (hyperedges n) (compPerm q p)) m
      = applyPerm (edgePerm (hyperedges n) q) (applyPerm (edgePerm (hyperedges n) p) m) := by
  rw [edgePerm_comp hp hq]
  exact applyPerm_comp _ _ m ((edgePerm_facts hq).1 ▸ edgePerm_lt hp)

theorem tbls_comp {n : Nat} {s t : List Nat} (hs : s ∈ tbls n) (ht : t ∈ tbls n) :
    ∃ u ∈ tbls n, ∀ m, applyPerm u m = applyPerm s (applyPerm t m) := by
  obtain ⟨q, hq, rfl⟩ := mem_tbls.mp hs
  obtain ⟨p, hp, rfl⟩ := mem_tbls.mp ht
  exact ⟨_, mem_tbls.mpr ⟨_, compPerm_mem hp hq, rfl⟩, applyPerm_edgePerm_comp hp hq⟩

theorem tbls_inv {n : Nat} {t : List Nat} (ht : t ∈ tbls n) :
    ∃ s ∈ tbls n, ∀ m, m < numMasks n → applyPerm s (applyPerm t m) = m := by
  obtain ⟨p, hp, rfl⟩ := mem_tbls.mp ht
  obtain ⟨q, hq, hqp⟩ := perms_div hp (mem_perms_of_perm _ _ (List.Perm.refl _))
  refine ⟨_, mem_tbls.mpr ⟨q, hq, rfl⟩, fun m hm => ?_⟩
  rw [← applyPerm_edgePerm_comp hp hq, hqp, edgePerm_id]
  exact applyPerm_range _ m (numMasks_eq n ▸ hm)

theorem applyPerm_lt {n : Nat} {t : List Nat} (ht : t ∈ tbls n) (m : Nat) : applyPerm t m < numMasks n := by
  obtain ⟨p, hp, rfl⟩ := mem_tbls.mp ht
  rw [numMasks_eq, lt_two_pow_iff]
  intro j hj
  obtain ⟨i, hi, rfl, _⟩ := (testBit_applyPerm _ _ _).mp hj
  exact edgePerm_lt hp _ (getD_mem _ 0 hi)

theorem testBit_pattern {n : Nat} (T : HG) {S : List Nat} (hlen : S.length = n) {i : Nat}
    (hi : i < (hyperedges n).length) :
    (pattern n T S).testBit i = T.contains (((hyperedges n).getD i []).map (S.getD · 0)) := by
  unfold pattern patBits
  rw [testBit_toMask, hyperedgesOf_eq hlen, List.map_map, getD_map_lt _ _ [] false hi]
  rfl

theorem exists_position {n : Nat} {S e : List Nat} (hS : SSorted S) (hlen : S.length = n) (he : SSorted e)
    (hes : ∀ z ∈ e, z ∈ S) (h2 : 2 ≤ e.length) :
    ∃ i, i < (hyperedges n).length ∧ ((hyperedges n).getD i []).map (S.getD · 0) = e := by
  have hmem : e ∈ hyperedgesOf n S :=
    mem_hyperedgesOf.mpr ⟨NatSort.sublist_of_strict_subset he hS hes, h2, by have := length_le_of_sorted_subset he hS hes; omega⟩
  rw [hyperedgesOf_eq hlen] at hmem
  obtain ⟨he0, hhe0, rfl⟩ := List.mem_map.mp hmem
  obtain ⟨i, hi, rfl⟩ := List.mem_iff_getElem.mp hhe0
  exact ⟨i, hi, by rw [ListLib.getD_of_lt _ _ hi]⟩

/-- the labelled pattern `m` has a hyperedge of size `k` -/
def usesSize (n m k : Nat) : Prop :=
  ∃ i, i < (hyperedges n).length ∧ m.testBit i = true ∧ ((hyperedges n).getD i []).length = k

theorem usesSize_applyPerm {n : Nat} {q : List Nat} (hq : q ∈ perms (List.range n)) (m k : Nat) :
    usesSize n (applyPerm (edgePerm (hyperedges n) q) m) k ↔ usesSize n m k := by
  obtain ⟨hlen, hfact, _⟩ := edgePerm_facts hq
  have hsize : ∀ p, p < (hyperedges n).length →
      ((hyperedges n).getD ((edgePerm (hyperedges n) q).getD p 0) []).length = ((hyperedges n).getD p []).length :=
    fun p hp => by rw [(hfact p hp).2, isort_length, List.length_map]
  unfold usesSize
  simp only [testBit_applyPerm, hlen]
  constructor
  · rintro ⟨i, _, ⟨p, hp, rfl, hbit⟩, hk⟩
    exact ⟨p, hp, hbit, (hsize p hp).symm.trans hk⟩
  · rintro ⟨p, hp, hbit, hk⟩
    exact ⟨_, (hfact p hp).1, ⟨p, hp, rfl, hbit⟩, (hsize p hp).trans hk⟩

end C11
