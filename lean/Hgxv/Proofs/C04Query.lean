import Hgxv.Proofs.C04Ref
/-! C04 - every query of the concrete store equals the query of its abstraction (under the invariant). -/
namespace C04
open AL

theorem nodes_abs (s : Store) : nodes s = Spec.nodeList (abs s) := rfl

theorem records_abs (s : Store) : records s = Spec.records (abs s) := by
  simp only [records, Spec.records, abs_edges, keys_mapVal]

theorem getWeight_abs (s : Store) (raw : List Node) (l : Layer) (h : Inv s) :
    getWeight s raw l = Spec.getWeight (abs s) raw l := by
  unfold getWeight Spec.getWeight
  rw [abs_get?]
  cases hk : get? s.edgeList (canon raw, l) with
  | none => rfl
  | some id =>
    have hrev := h.id.rev_of_edge _ _ hk
    have : (get? s.weights id).isSome := (h.id.w_some id).mpr (by simp [hrev])
    obtain ⟨w, hw⟩ := Option.isSome_iff_exists.mp this
    simp [entryOf, hw]

theorem getEdgeMeta_abs (s : Store) (raw : List Node) (l : Layer) (h : Inv s) :
    getEdgeMeta s raw l = Spec.getEdgeMeta (abs s) raw l := by
  unfold getEdgeMeta Spec.getEdgeMeta
  rw [abs_get?]
  cases hk : get? s.edgeList (canon raw, l) with
  | none => rfl
  | some id =>
    obtain ⟨md, hmd, _⟩ := emeta_of_edge s _ id h hk
    simp [entryOf, hmd]

/-- the two getters read one entry of the map: a store whose map holds the same entry answers the same -/
theorem getters_congr (s s' : Store) (h : Inv s) (h' : Inv s') (raw : List Node) (l : Layer)
    (e : get? (abs s').edges (canon raw, l) = get? (abs s).edges (canon raw, l)) :
    getWeight s' raw l = getWeight s raw l ∧ getEdgeMeta s' raw l = getEdgeMeta s raw l := by
  rw [getWeight_abs _ _ _ h', getWeight_abs _ _ _ h, getEdgeMeta_abs _ _ _ h', getEdgeMeta_abs _ _ _ h]
  unfold Spec.getWeight Spec.getEdgeMeta
  rw [e]
  exact ⟨rfl, rfl⟩

theorem getWeight_unweighted (s : Store) (h : Inv s) (hu : s.weighted = false) (raw : List Node) (l : Layer) (w0 : Int)
    (hg : getWeight s raw l = some w0) : w0 = one := by
  unfold getWeight at hg
  split at hg
  · exact absurd hg (by simp)
  · exact h.id.unw hu _ _ hg

theorem abs_keys_nodup (s : Store) (h : Inv s) : (keys (abs s).edges).Nodup := by
  rw [abs_edges, keys_mapVal]; exact h.id.el_nodup

/-- an entry of the map seen from the store: its key is a record and the two getters return its components -/
theorem abs_entry (s : Store) (h : Inv s) (r : Key × (Int × Meta)) (hr : r ∈ (abs s).edges) :
    r.1 ∈ records s ∧ getWeight s r.1.1 r.1.2 = some r.2.1 ∧ getEdgeMeta s r.1.1 r.1.2 = some r.2.2 := by
  have hget := get?_of_mem _ _ _ (abs_keys_nodup s h) hr
  obtain ⟨p, hp, rfl⟩ := List.mem_map.mp (abs_edges s ▸ hr)
  have hc : canon p.1.1 = p.1.1 :=
    (h.id.key_sorted _ _ (h.id.rev_of_edge _ _ (get?_of_mem _ _ _ h.id.el_nodup hp))).canon
  refine ⟨List.mem_map.mpr ⟨p, hp, rfl⟩, ?_, ?_⟩
  · rw [getWeight_abs s _ _ h]; unfold Spec.getWeight; simp only [hc]; rw [hget]; rfl
  · rw [getEdgeMeta_abs s _ _ h]; unfold Spec.getEdgeMeta; simp only [hc]; rw [hget]; rfl

theorem registry_covers (s : Store) (h : Inv s) : ∀ k ∈ records s, k.2 ∈ s.layers := by
  intro k hk
  obtain ⟨p, hp, rfl⟩ := List.mem_map.mp hk
  exact h.id.reg _ _ (h.id.rev_of_edge _ _ (get?_of_mem _ _ _ h.id.el_nodup hp))

theorem incident_abs (s : Store) (n : Node) (f : Filt) (h : Inv s) :
    incident s n f = Spec.incident (abs s) n f := by
  unfold incident Spec.incident
  rw [abs_isSome_node s n h.nm]
  cases hg : get? s.adj n with
  | none => simp
  | some ids =>
    simp only [Option.isSome_some, if_true]
    by_cases hf : f = Filt.both
    · rw [if_pos hf, if_pos hf]
    · rw [if_neg hf, if_neg hf]
      congr 1
      rw [adj_eq_filter s n ids h hg, h.id.tables.filterMap_rev h.id.el_nodup _ (fun p hp => (List.mem_filter.mp hp).1)]
      rw [← records_abs]
      simp only [records, keys, List.filter_map, List.filter_filter]
      congr 1
      apply List.filter_congr
      intro a _
      simp [Bool.and_comm]

theorem degree_abs (s : Store) (n : Node) (f : Filt) (h : Inv s) : degree s n f = Spec.degree (abs s) n f := by
  unfold degree Spec.degree; rw [incident_abs s n f h]

theorem degreeSeq_abs (s : Store) (f : Filt) (h : Inv s) : degreeSeq s f = Spec.degreeSeq (abs s) f := by
  unfold degreeSeq Spec.degreeSeq
  rw [nodes_abs]
  have : (fun n => (degree s n f).map (fun d => (n, d))) = (fun n => (Spec.degree (abs s) n f).map (fun d => (n, d))) := by
    funext n; rw [degree_abs s n f h]
  rw [this]

theorem filterMap_nodup {α β : Type} (f : α → Option β) (l : List α) (hl : l.Nodup)
    (hinj : ∀ a ∈ l, ∀ b ∈ l, ∀ x, f a = some x → f b = some x → a = b) : (l.filterMap f).Nodup := by
  induction l with
  | nil => simp
  | cons a t ih =>
    have hnd := List.nodup_cons.mp hl
    simp only [List.filterMap_cons]
    have iht := ih hnd.2 (fun x hx y hy => hinj x (List.mem_cons_of_mem _ hx) y (List.mem_cons_of_mem _ hy))
    split
    · exact iht
    · rename_i x hx
      refine List.nodup_cons.mpr ⟨?_, iht⟩
      intro hmem
      obtain ⟨b, hb, hbx⟩ := List.mem_filterMap.mp hmem
      have := hinj a List.mem_cons_self b (List.mem_cons_of_mem _ hb) x hx hbx
      exact hnd.1 (this ▸ hb)

/-- `get_edges(metadata=True)` lists the same (key, metadata) pairs as the abstract map, as a multiset -/
theorem edgesMeta_abs (s : Store) (h : Inv s) : (edgesMeta s).Perm (Spec.edgesMeta (abs s)) := by
  -- both listings are duplicate free, so it is enough that they have the same members
  have hnd2 : (Spec.edgesMeta (abs s)).Nodup := by
    have : ((Spec.edgesMeta (abs s)).map (·.1)).Nodup := by
      simp only [Spec.edgesMeta, abs_edges, mapVal, List.map_map]
      exact h.id.el_nodup
    exact ListLib.nodup_of_nodup_map _ this
  have hnd1 : (edgesMeta s).Nodup := by
    unfold edgesMeta
    have hinj : ∀ a ∈ s.emeta, ∀ b ∈ s.emeta, ∀ x,
        (get? s.rev a.1).map (fun k => (k, a.2)) = some x → (get? s.rev b.1).map (fun k => (k, b.2)) = some x → a = b := by
      intro a _ b _ x hxa hxb
      obtain ⟨ka, ha1, rfl⟩ := Option.map_eq_some_iff.mp hxa
      obtain ⟨kb, hb1, hx⟩ := Option.map_eq_some_iff.mp hxb
      obtain ⟨hk, hmd⟩ := Prod.mk.inj hx
      -- both ids are the id of the one key
      have e1 := h.id.edge_of_rev _ _ ha1
      rw [← hk, h.id.edge_of_rev _ _ hb1] at e1
      exact Prod.ext (Option.some.inj e1).symm hmd.symm
    exact filterMap_nodup _ _ (ListLib.nodup_of_nodup_map _ h.id.em_nodup) hinj
  rw [List.perm_ext_iff_of_nodup hnd1 hnd2]
  intro x
  obtain ⟨k, md⟩ := x
  simp only [edgesMeta, Spec.edgesMeta, List.mem_filterMap, List.mem_map, abs_edges, mapVal]
  constructor
  · rintro ⟨p, hp, hx⟩
    cases hr : get? s.rev p.1 with
    | none => simp [hr] at hx
    | some k' =>
      simp [hr] at hx
      obtain ⟨rfl, rfl⟩ := hx
      have he := h.id.edge_of_rev _ _ hr
      refine ⟨(k', (entryOf s p.1)), ⟨(k', p.1), mem_of_get? _ _ _ he, rfl⟩, ?_⟩
      have := get?_of_mem _ _ _ h.id.em_nodup hp
      simp [entryOf, this]
  · rintro ⟨r, ⟨p, hp, rfl⟩, hx⟩
    simp only at hx
    obtain ⟨rfl, rfl⟩ := Prod.mk.inj hx
    have hk := get?_of_mem _ _ _ h.id.el_nodup hp
    obtain ⟨md, hmd, he⟩ := emeta_of_edge s _ _ h hk
    refine ⟨(p.2, md), mem_of_get? _ _ _ hmd, ?_⟩
    simp [h.id.rev_of_edge _ _ hk, he]

end C04
