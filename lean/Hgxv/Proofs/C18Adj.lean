import Hgxv.Model.C18
/-! C18: lists whose neighbours are related (`C18.Adj`, a chain predicate on a list), the form in which trajectories,
walks and density lists are spoken of.  Not the relation of C08: there `Adj` says that two nodes share a hyperedge and
`Reach` is binary, here `Reach` is reachability from node `0`. -/
namespace C18

theorem adj_single {α} (R : α → α → Prop) (a : α) : Adj R [a] := by
  intro t x y _ h2; cases h2

theorem adj_cons {α} (R : α → α → Prop) (a b : α) (l : List α) (h : R a b) (hl : Adj R (b :: l)) :
    Adj R (a :: b :: l) := by
  intro t x y h1 h2
  cases t with
  | zero => cases h1; cases h2; exact h
  | succ t => exact hl t x y h1 h2

theorem adj_tail {α} (R : α → α → Prop) (a : α) (l : List α) (h : Adj R (a :: l)) : Adj R l :=
  fun t => h (t + 1)

theorem adj_pairwise {α} (R : α → α → Prop) (htrans : ∀ a b c, R a b → R b c → R a c) :
    ∀ l : List α, Adj R l → l.Pairwise R
  | [], _ => List.Pairwise.nil
  | [a], _ => List.pairwise_singleton R a
  | a :: b :: l, h => by
    have ih := adj_pairwise R htrans (b :: l) (adj_tail R a _ h)
    refine List.pairwise_cons.mpr ⟨fun s hs => ?_, ih⟩
    rcases List.mem_cons.mp hs with rfl | hs
    · exact h 0 a s rfl rfl
    · exact htrans a b s (h 0 a b rfl rfl) (List.rel_of_pairwise_cons ih hs)

theorem adj_cons_iff {α} (R : α → α → Prop) (a b : α) (l : List α) : Adj R (a :: b :: l) ↔ R a b ∧ Adj R (b :: l) :=
  ⟨fun h => ⟨h 0 a b rfl rfl, adj_tail R a _ h⟩, fun h => adj_cons R a b l h.1 h.2⟩

theorem adj_mono {α} (R S : α → α → Prop) (hRS : ∀ a b, R a b → S a b) (l : List α) (h : Adj R l) : Adj S l :=
  fun t a b ha hb => hRS a b (h t a b ha hb)

theorem adj_replicate {α} (R : α → α → Prop) (c : α) (h : R c c) (n : Nat) : Adj R (List.replicate n c) := by
  intro t a b h1 h2
  rw [List.eq_of_mem_replicate (List.mem_of_getElem? h1), List.eq_of_mem_replicate (List.mem_of_getElem? h2)]
  exact h

theorem adj_map {α β} (R : β → β → Prop) (g : α → β) (l : List α) (h : Adj (fun a b => R (g a) (g b)) l) :
    Adj R (l.map g) := by
  intro t a b h1 h2
  rw [List.getElem?_map, Option.map_eq_some_iff] at h1 h2
  obtain ⟨a', ha, rfl⟩ := h1
  obtain ⟨b', hb, rfl⟩ := h2
  exact h t a' b' ha hb

theorem adj_tail_forall {α} (R : α → α → Prop) (P : α → Prop) (hP : ∀ a b, R a b → P b) (a : α) (l : List α)
    (h : Adj R (a :: l)) : ∀ v ∈ l, P v := by
  intro v hv
  obtain ⟨i, hi⟩ := List.getElem?_of_mem hv
  have hlt : i < (a :: l).length := Nat.lt_succ_of_lt (List.getElem?_eq_some_iff.mp hi).1
  exact hP _ v (h i _ v (List.getElem?_eq_getElem hlt) hi)

end C18
