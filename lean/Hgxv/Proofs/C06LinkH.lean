import Hgxv.Proofs.C06Link
import Hgxv.Proofs.C01Query
/-! # C06 ↔ C01 (`Hypergraph`): the content-level `add_node` / `add_edge` of `Model/C06.lean` are the operations of
`C01.Spec`, and every store that satisfies the invariant of the full model (so every reachable one) is a well-formed C06 content.  Core Lean only. -/
namespace C06

theorem HKey_inj : ∀ a b : List Nat, HKey.mk a = HKey.mk b → a = b := fun _ _ h => by cases h; rfl

/-- the abstract state of the full `Hypergraph` model as a C06 content -/
def ofSpec01 (a : C01.Spec) : Content HKey := ofTables HKey.mk a.weighted a.hmeta a.nodes a.edges

theorem spec01_touchNode (a : C01.Spec) (n : Nat) :
    C01.Spec.touchNode a n = { a with nodes := tAddNode a.nodes n [] } := by
  unfold C01.Spec.touchNode tAddNode
  cases h : AL.get? a.nodes n with
  | none => simp
  | some old =>
    cases old with
    | nil => simp [AL.set_same a.nodes n [] h]
    | cons x xs => simp

theorem spec01_touchAll (e : List Nat) (a : C01.Spec) :
    e.foldl C01.Spec.touchNode a = { a with nodes := tTouchAll a.nodes e } := by
  unfold tTouchAll
  induction e generalizing a with
  | nil => rfl
  | cons n e ih => rw [List.foldl_cons, spec01_touchNode, ih]; rfl

theorem spec01_addNode (a : C01.Spec) (n : Nat) (md : Option C01.Meta) :
    C01.Spec.addNode a n md = { a with nodes := tAddNode a.nodes n (md.getD []) } := by
  unfold C01.Spec.addNode
  simp only [spec01_touchNode]
  unfold tAddNode
  cases h : AL.get? a.nodes n with
  | none => simp [AL.set_set]
  | some old =>
    cases old with
    | nil => simp [AL.set_same a.nodes n [] h, h]
    | cons x xs => simp [h]

theorem spec01_addEdge (a : C01.Spec) (raw : List Nat) (w : Option Int) (md : Option C01.Meta) :
    C01.Spec.addEdge a raw w md =
      if rejectsWeight a.weighted w then (a, .rej)
      else ({ a with
                edges := AL.set a.edges (C01.canon raw)
                  (tEntry a.weighted (AL.get? a.edges (C01.canon raw)) (weightOrUnit w) (md.getD []))
                nodes := if (AL.get? a.edges (C01.canon raw)).isNone then tTouchAll a.nodes (C01.canon raw)
                         else a.nodes }, .ok) := by
  unfold C01.Spec.addEdge
  rw [show (!a.weighted && w.isSome && w != some C01.one) = rejectsWeight a.weighted w from rejects_spec _ w]
  by_cases hr : rejectsWeight a.weighted w = true
  · simp [hr]
  · simp only [hr, Bool.false_eq_true, if_false]
    have hone : C01.one = unit := rfl
    have hw' : w.getD unit = weightOrUnit w := by cases w <;> rfl
    cases hg : AL.get? a.edges (C01.canon raw) with
    | none =>
      simp only [spec01_touchAll, tEntry, Option.isNone_none, if_true, hone, hw']
    | some old =>
      obtain ⟨w0, m0⟩ := old
      simp only [tEntry, Option.isNone_some, Bool.false_eq_true, if_false, hone, hw']

theorem link_addNode01 (a : C01.Spec) (n : Nat) (md : Option C01.Meta) :
    ofSpec01 (C01.Spec.addNode a n md) = addNode (ofSpec01 a) n (md.map decMeta) := by
  rw [spec01_addNode]; unfold ofSpec01; rw [addNode_ofTables]

/-- `add_edge` of the spec is C06's `addEdge` on the content, accepted and rejected alike -/
theorem link_addEdge01 (a : C01.Spec) (raw : List Nat) (w : Option Int) (md : Option C01.Meta) :
    addEdge (ofSpec01 a) ⟨raw⟩ w (md.map decMeta) =
      match C01.Spec.addEdge a raw w md with
      | (a', .ok) => some (ofSpec01 a')
      | (_, .rej) => none := by
  rw [spec01_addEdge]
  unfold ofSpec01
  rw [addEdge_ofTables HKey.mk HKey_inj a.weighted a.hmeta a.nodes a.edges ⟨raw⟩ (C01.canon raw)
    (by show (⟨sort raw⟩ : HKey) = ⟨C01.canon raw⟩; rw [C01.canon_eq, sort_eq])]
  by_cases hr : rejectsWeight a.weighted w = true
  · simp [hr]
  · simp only [hr, Bool.false_eq_true, if_false]
    have : Kind.touchAlways HKey = false := rfl
    simp only [this, Bool.false_or]
    rfl

theorem link_new01 (w : Bool) (hm : C01.Meta) :
    ofSpec01 (C01.Spec.new w hm) = setHMeta (construct HKey w) (decMeta (C01.initHMeta w hm)) := rfl

theorem link_setHMeta01 (a : C01.Spec) (hm : C01.Meta) :
    ofSpec01 (C01.Spec.apply a (.setHMeta hm)).1 = setHMeta (ofSpec01 a) (decMeta hm) := rfl

theorem ofSpec01_onto (c : Content HKey) : ∃ a : C01.Spec, ofSpec01 a = c :=
  ⟨{ weighted := c.weighted, hmeta := encMeta c.hmeta, nodes := mapKV id encMeta c.nodes,
     edges := mapKV HKey.nodes (fun v => (v.1, encMeta v.2)) c.edges },
   ofTables_enc HKey.mk HKey.nodes (fun _ => rfl) c⟩

/-- the spec's own entry points, as `load_hypergraph` uses them: `Hypergraph(weighted=w)` then
`set_hypergraph_metadata`, `add_node(n, md)`, `add_edge(nodes, weight, md)` -/
def specH : SpecOps HKey C01.Spec where
  of := ofSpec01
  new w hm := (C01.Spec.apply (C01.Spec.new w []) (.setHMeta hm)).1
  addNode a n md := (C01.Spec.apply a (.addNode n (some md))).1
  addEdge a k w md :=
    match C01.Spec.apply a (.addEdge k.nodes w (some md)) with
    | (a', .ok) => some a'
    | (_, .rej) => none
  okKey _ := True
  of_new w hm := rfl
  of_addNode a n md := link_addNode01 a n (some md)
  of_addEdge a k w md _ := by
    have h := link_addEdge01 a k.nodes w (some md)
    simp only [Option.map_some] at h
    rw [h]
    simp only [C01.Spec.apply]
    cases C01.Spec.addEdge a k.nodes w (some md) with
    | mk a' o => cases o <;> rfl

theorem WF_ofSpec01_abs (s : C01.Store) (h : C01.Inv s) : WF (ofSpec01 (C01.abs s)) :=
  WF_ofTables HKey.mk HKey_inj _ (C01.abs_tab h)
    (fun k hk => by show (⟨sort k⟩ : HKey) = ⟨k⟩; rw [sort_eq, ← C01.canon_eq, hk.2]) (fun _ => rfl)

theorem link_store_addNode01 (s : C01.Store) (h : C01.Inv s) (n : Nat) (md : Option C01.Meta) :
    ofSpec01 (C01.abs (C01.apply s (.addNode n md)).1) = addNode (ofSpec01 (C01.abs s)) n (md.map decMeta) := by
  have hs := (C01.sim_apply s (.addNode n md) trivial h).1
  rw [hs]
  exact link_addNode01 (C01.abs s) n md

/-- on a store satisfying the invariant, `add_edge` of the id-indexed model (a duplicate-free node tuple, the property's
"node set") shows as C06's `addEdge`, accepted and rejected alike -/
theorem link_store_addEdge01 (s : C01.Store) (h : C01.Inv s) (raw : List Nat) (hraw : raw.Nodup) (w : Option Int)
    (md : Option C01.Meta) :
    addEdge (ofSpec01 (C01.abs s)) ⟨raw⟩ w (md.map decMeta) =
      match C01.apply s (.addEdge raw w md) with
      | (s', .ok) => some (ofSpec01 (C01.abs s'))
      | (_, .rej) => none := by
  obtain ⟨h1, h2, _⟩ := C01.sim_apply s (.addEdge raw w md) hraw h
  rw [link_addEdge01]
  simp only [C01.Spec.apply] at h1 h2
  revert h1 h2
  generalize C01.apply s (.addEdge raw w md) = r
  generalize C01.Spec.addEdge (C01.abs s) raw w md = q
  obtain ⟨s', o⟩ := r
  obtain ⟨a', o'⟩ := q
  intro h1 h2
  simp only at h1 h2
  subst h1 h2
  cases o <;> rfl

theorem match_outH {β : Type} (r : C01.Store × C01.Out) (g : C01.Store → β) :
    (match r with
      | (s', .ok) => some (g s')
      | (_, .rej) => none) = if r.2 = .ok then some (g r.1) else none := by
  obtain ⟨s', o⟩ := r
  cases o <;> simp

/-- objects of the full model: the tables together with their representation invariant -/
abbrev StoreH := { s : C01.Store // C01.Inv s }

/-- the id-indexed model's own constructor / `set_hypergraph_metadata` / `add_node` / `add_edge`; the link covers
hyperedges that are node sets (`C01.Op.WF`) -/
def storeH : SpecOps HKey StoreH where
  of s := ofSpec01 (C01.abs s.1)
  new w hm := ⟨(C01.apply (C01.Store.new w []) (.setHMeta hm)).1, C01.apply_inv _ (.setHMeta hm) trivial (C01.inv_new w [])⟩
  addNode s n md := ⟨(C01.apply s.1 (.addNode n (some md))).1, C01.apply_inv _ (.addNode n (some md)) trivial s.2⟩
  addEdge s k w md :=
    if hk : k.nodes.Nodup then
      if (C01.apply s.1 (.addEdge k.nodes w (some md))).2 = .ok then
        some ⟨(C01.apply s.1 (.addEdge k.nodes w (some md))).1, C01.apply_inv _ (.addEdge k.nodes w (some md)) hk s.2⟩
      else none
    else none
  okKey k := k.nodes.Nodup
  of_new w hm := rfl
  of_addNode s n md := link_store_addNode01 s.1 s.2 n (some md)
  of_addEdge s k w md hk := by
    have h := link_store_addEdge01 s.1 s.2 k.nodes hk w (some md)
    simp only [Option.map_some] at h
    rw [h]
    rw [match_outH]
    simp only [dif_pos hk]
    split <;> rfl

theorem okKeys01 (s : C01.Store) (h : C01.Inv s) : ∀ e ∈ (ofSpec01 (C01.abs s)).edges, storeH.okKey e.1 := by
  intro e he
  obtain ⟨p, hp, rfl⟩ := (mem_mapKV HKey.mk decVal2 _ e).mp he
  exact ((C01.abs_tab h).key p hp).1.1

end C06
