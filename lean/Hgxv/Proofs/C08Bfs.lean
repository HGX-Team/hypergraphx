import Hgxv.Proofs.C08Visit
/-! # C08 - `_bfs` / `_dfs` of a hypergraph (core Lean): the searches visit the reachability class, the depth-limited `_bfs`
exactly the ball of that radius; the component loop yields the partition into reachability classes -/
namespace C08

theorem Adj.symm {es : List Edge} {f : Filt} {u v : Nat} (h : Adj es f u v) : Adj es f v u := by
  obtain ⟨e, he, hp, hu, hv⟩ := h
  exact ⟨e, he, hp, hv, hu⟩

theorem Reach.trans {es : List Edge} {f : Filt} {u v w : Nat} (h1 : Reach es f u v) (h2 : Reach es f v w) :
    Reach es f u w := by
  induction h2 with
  | refl => exact h1
  | step _ ha ih => exact Reach.step ih ha

theorem Reach.single {es : List Edge} {f : Filt} {u v : Nat} (h : Adj es f u v) : Reach es f u v :=
  Reach.step (Reach.refl u) h

theorem Reach.symm {es : List Edge} {f : Filt} {u v : Nat} (h : Reach es f u v) : Reach es f v u := by
  induction h with
  | refl => exact Reach.refl _
  | step _ ha ih => exact Reach.trans (Reach.single ha.symm) ih

theorem Reach.mem_nodes {nodes : List Nat} {es : List Edge} {f : Filt} (hwf : WF nodes es) {u v : Nat}
    (h : Reach es f u v) (hu : u ∈ nodes) : v ∈ nodes := by
  induction h with
  | refl => exact hu
  | step _ ha _ =>
    obtain ⟨e, he, _, _, hw⟩ := ha
    exact hwf e he _ hw

/-- `v` is reached from `u` by a walk of exactly `k` steps, each step inside one filtered hyperedge -/
inductive Walk (es : List Edge) (f : Filt) : Nat → Nat → Nat → Prop
  | zero (u : Nat) : Walk es f u 0 u
  | step {u v w : Nat} {k : Nat} : Walk es f u k v → Adj es f v w → Walk es f u (k + 1) w

theorem Walk.reach {es : List Edge} {f : Filt} {u v k : Nat} (h : Walk es f u k v) : Reach es f u v := by
  induction h with
  | zero => exact Reach.refl _
  | step _ ha ih => exact Reach.step ih ha

theorem reach_walk {es : List Edge} {f : Filt} {u v : Nat} (h : Reach es f u v) : ∃ k, Walk es f u k v := by
  induction h with
  | refl => exact ⟨0, Walk.zero _⟩
  | step _ ha ih => obtain ⟨k, hk⟩ := ih; exact ⟨k + 1, Walk.step hk ha⟩

theorem npath_walk {es : List Edge} {f : Filt} {u v k : Nat} (h : NPath (neighbors es f) u k v) : Walk es f u k v := by
  induction h with
  | zero => exact Walk.zero _
  | step _ hc ih =>
    obtain ⟨_, e, he, hp, hb, hcm⟩ := (mem_neighbors es f _ _).mp hc
    exact Walk.step ih ⟨e, he, hp, hb, hcm⟩

/-- a walk may stay where it is (`Adj` is reflexive on members of a hyperedge); dropping those steps gives a walk through
`get_neighbors` that is not longer -/
theorem walk_npath {es : List Edge} {f : Filt} {u v k : Nat} (h : Walk es f u k v) :
    ∃ j, j ≤ k ∧ NPath (neighbors es f) u j v := by
  induction h with
  | zero => exact ⟨0, Nat.le_refl _, NPath.zero _⟩
  | @step v w k _ ha ih =>
    obtain ⟨j, hj, hp⟩ := ih
    by_cases hvw : w = v
    · rw [hvw]; exact ⟨j, by omega, hp⟩
    · obtain ⟨e, he, hpz, hv, hw⟩ := ha
      exact ⟨j + 1, by omega, NPath.step hp ((mem_neighbors es f v w).mpr ⟨hvw, e, he, hpz, hv, hw⟩)⟩

theorem nreach_iff_reach (es : List Edge) (f : Filt) (s y : Nat) :
    NReach (neighbors es f) s y ↔ Reach es f s y :=
  ⟨fun h => let ⟨_, hk⟩ := nreach_npath h; (npath_walk hk).reach,
    fun h => let ⟨_, hk⟩ := reach_walk h; let ⟨_, _, hp⟩ := walk_npath hk; hp.reach⟩

theorem mem_visitH_bfs (es : List Edge) (f : Filt) (md : Option Int) (u v : Nat) :
    v ∈ visitH es f md false u ↔ ∃ k, Walk es f u k v ∧ okLen md k := by
  unfold visitH
  rw [bfs_ball]
  constructor
  · rintro ⟨k, hp, hok⟩; exact ⟨k, npath_walk hp, hok⟩
  · rintro ⟨k, hw, hok⟩
    obtain ⟨j, hj, hp⟩ := walk_npath hw
    exact ⟨j, hp, okLen_mono md hj hok⟩

theorem mem_visitH_bfs_some (es : List Edge) (f : Filt) (m : Int) (u v : Nat) :
    v ∈ visitH es f (some m) false u ↔ ∃ k : Nat, (k : Int) ≤ max m 0 ∧ Walk es f u k v := by
  rw [mem_visitH_bfs]
  exact exists_congr fun k => (and_comm.trans (and_congr_left' (okLen_some m k)))

/-- `max_depth=1`: the start and its `get_neighbors` -/
theorem visitH_one (es : List Edge) (f : Filt) (u v : Nat) :
    v ∈ visitH es f (some 1) false u ↔ v = u ∨ v ∈ neighbors es f u := by
  unfold visitH
  rw [bfs_ball]
  constructor
  · rintro ⟨k, hp, hok⟩
    match k, hp, hok with
    | 0, hp, _ => exact Or.inl hp.zero_eq
    | 1, hp, _ =>
      obtain ⟨b, hb, hv⟩ := hp.succ_inv
      rw [hb.zero_eq] at hv
      exact Or.inr hv
    | k + 2, _, hok => have := (okLen_some 1 (k + 2)).mp hok; omega
  · rintro (rfl | hv)
    · exact ⟨0, NPath.zero _, trivial⟩
    · exact ⟨1, NPath.step (NPath.zero u) hv, (rfl : within (some 1) 0 = true)⟩

theorem mem_visitH_some_sound (es : List Edge) (f : Filt) (m : Int) (dfs : Bool) (u v : Nat)
    (hv : v ∈ visitH es f (some m) dfs u) : ∃ k : Nat, (k : Int) ≤ max m 0 ∧ Walk es f u k v := by
  obtain ⟨k, hp, hok, _⟩ := search_sound _ _ _ (some m) dfs u v hv
  exact ⟨k, (okLen_some m k).mp hok, npath_walk hp⟩

theorem mem_visitH_none (es : List Edge) (f : Filt) (dfs : Bool) (u v : Nat) :
    v ∈ visitH es f none dfs u ↔ Reach es f u v := by
  unfold visitH
  rw [search_unbounded, nreach_iff_reach]

theorem self_mem_visitH (es : List Edge) (f : Filt) (md : Option Int) (dfs : Bool) (u : Nat) :
    u ∈ visitH es f md dfs u :=
  search_mem _ _ _ md dfs u _ _ (Or.inr ⟨0, List.mem_cons_self⟩)

theorem visitH_nodup (es : List Edge) (f : Filt) (md : Option Int) (dfs : Bool) (u : Nat) :
    (visitH es f md dfs u).Nodup :=
  search_nodup _ _ _ md dfs _ _ List.nodup_nil

/-- the `_bfs` the component functions call is the depth-aware `_bfs` with `max_depth=None`, as lists -/
theorem visitH_eq_bfsH (es : List Edge) (f : Filt) (u : Nat) : visitH es f none false u = bfsH es f u :=
  search_eq_bfs _ _ _ _ _

theorem mem_bfsH (es : List Edge) (f : Filt) (s y : Nat) : y ∈ bfsH es f s ↔ Reach es f s y := by
  rw [← visitH_eq_bfsH, mem_visitH_none]

theorem bfsH_nodup (es : List Edge) (f : Filt) (s : Nat) : (bfsH es f s).Nodup :=
  visitH_eq_bfsH es f s ▸ visitH_nodup es f none false s

/-- in a hypergraph as the containers list it, whatever is reachable is reachable by a walk of fewer steps than there are
nodes: the walk the unbounded search found is shorter than its visited set, which has no repetition and lies in `nodes` -/
theorem reach_short (nodes : List Nat) (es : List Edge) (f : Filt) (hwf : WF nodes es) (u v : Nat)
    (hu : u ∈ nodes) (hr : Reach es f u v) : ∃ k, k < nodes.length ∧ Walk es f u k v := by
  obtain ⟨k, hk, _, hlt⟩ := search_sound _ _ _ none false u v ((mem_visitH_none es f false u v).mpr hr)
  have hlen : (visitH es f none false u).length ≤ nodes.length :=
    List.Nodup.length_le_of_subset (visitH_nodup es f none false u)
      (fun y hy => ((mem_visitH_none es f false u y).mp hy).mem_nodes hwf hu)
  exact ⟨k, Nat.lt_of_lt_of_le hlt hlen, npath_walk hk⟩

section Loop
variable (cls : Nat → List Nat)

/-- `comps` lists the classes of the nodes `done`, each class once -/
structure ClassesOf (done : List Nat) (comps : List (List Nat)) : Prop where
  rep : ∀ c ∈ comps, ∃ r ∈ done, c = cls r
  disj : comps.Pairwise Disj
  cover : ∀ x ∈ done, ∃ c ∈ comps, x ∈ c

theorem ClassesOf.skip {done : List Nat} {comps : List (List Nat)} (hi : ClassesOf cls done comps) {n : Nat}
    (hn : n ∈ comps.flatten) : ClassesOf cls (done ++ [n]) comps := by
  refine ⟨fun c hc => ?_, hi.disj, fun x hx => ?_⟩
  · obtain ⟨r, hr, h⟩ := hi.rep c hc
    exact ⟨r, List.mem_append_left _ hr, h⟩
  · rcases List.mem_append.mp hx with h | h
    · exact hi.cover x h
    · rw [List.mem_singleton.mp h]; exact List.mem_flatten.mp hn

theorem ClassesOf.visit (hrefl : ∀ n, n ∈ cls n) (hcls : ∀ n y, y ∈ cls n → ∀ z, z ∈ cls y ↔ z ∈ cls n)
    {done : List Nat} {comps : List (List Nat)} (hi : ClassesOf cls done comps) {n : Nat} (hn : n ∉ comps.flatten) :
    ClassesOf cls (done ++ [n]) (comps ++ [cls n]) := by
  refine ⟨fun c hc => ?_, ?_, fun x hx => ?_⟩
  · rcases List.mem_append.mp hc with h | h
    · obtain ⟨r, hr, h⟩ := hi.rep c h
      exact ⟨r, List.mem_append_left _ hr, h⟩
    · exact ⟨n, List.mem_append_right _ List.mem_cons_self, List.mem_singleton.mp h⟩
  · refine List.pairwise_append.mpr ⟨hi.disj, List.pairwise_singleton _ _, fun a ha b hb x hxa hxb => ?_⟩
    rw [List.mem_singleton.mp hb] at hxb
    obtain ⟨r, _, rfl⟩ := hi.rep a ha
    -- `x` lies in the class of `r` and in that of `n`, so `n` lies in the class of `r`, which was listed before
    exact hn (List.mem_flatten.mpr ⟨cls r, ha, (hcls r x hxa n).mp ((hcls n x hxb n).mpr (hrefl n))⟩)
  · rcases List.mem_append.mp hx with h | h
    · obtain ⟨c, hc, hxc⟩ := hi.cover x h
      exact ⟨c, List.mem_append_left _ hc, hxc⟩
    · rw [List.mem_singleton.mp h]
      exact ⟨cls n, List.mem_append_right _ List.mem_cons_self, hrefl n⟩

/-- the loop of `connected_components` keeps `visited` equal to the concatenation of the components found, and extends a
listing of the classes of the nodes seen so far to one of all nodes -/
theorem compLoop_classes (hrefl : ∀ n, n ∈ cls n) (hcls : ∀ n y, y ∈ cls n → ∀ z, z ∈ cls y ↔ z ∈ cls n) :
    ∀ (todo done : List Nat) (comps : List (List Nat)), ClassesOf cls done comps →
      ClassesOf cls (done ++ todo) (compLoop cls todo comps.flatten comps) := by
  intro todo
  induction todo with
  | nil => intro done comps hi; rw [List.append_nil]; exact hi
  | cons n rest ih =>
    intro done comps hi
    rw [compLoop, List.append_cons]
    split <;> rename_i hn
    · exact ih _ _ (hi.skip cls hn)
    · have := ih _ _ (hi.visit cls hrefl hcls hn)
      rwa [List.flatten_append, List.flatten_singleton] at this

end Loop

theorem bfsH_class (es : List Edge) (f : Filt) (n y : Nat) (hy : y ∈ bfsH es f n) (z : Nat) :
    z ∈ bfsH es f y ↔ z ∈ bfsH es f n := by
  rw [mem_bfsH] at hy
  rw [mem_bfsH, mem_bfsH]
  exact ⟨fun h => hy.trans h, fun h => hy.symm.trans h⟩

/-- what the loop of `connected_components` returns -/
theorem components_spec (nodes : List Nat) (es : List Edge) (f : Filt) :
    (∀ c ∈ components nodes es f, ∃ r ∈ nodes, c = bfsH es f r) ∧
    (components nodes es f).Pairwise Disj ∧
    (∀ x ∈ nodes, ∃ c ∈ components nodes es f, x ∈ c) := by
  have := compLoop_classes (bfsH es f) (fun n => (mem_bfsH es f n n).mpr (Reach.refl n)) (bfsH_class es f)
    nodes [] [] ⟨nofun, List.Pairwise.nil, nofun⟩
  exact ⟨this.rep, this.disj, this.cover⟩

theorem components_class (nodes : List Nat) (es : List Edge) (f : Filt) (c : List Nat)
    (hc : c ∈ components nodes es f) (u : Nat) (hu : u ∈ c) (v : Nat) : v ∈ c ↔ Reach es f u v := by
  obtain ⟨r, _, rfl⟩ := (components_spec nodes es f).1 c hc
  exact (bfsH_class es f r u hu v).symm.trans (mem_bfsH es f u v)

/-! ## counting: a system of distinct representatives has as many members as there are components -/

theorem length_le_of_rel {α β : Type} [DecidableEq β] (rel : α → β → Prop) :
    ∀ (A : List α) (B : List β), A.Pairwise (fun a a' => ∀ b, rel a b → ¬ rel a' b) →
      (∀ a ∈ A, ∃ b ∈ B, rel a b) → A.length ≤ B.length := by
  intro A
  induction A with
  | nil => intro B _ _; simp
  | cons a t ih =>
    intro B hp hex
    obtain ⟨b, hb, hab⟩ := hex a List.mem_cons_self
    have hp' := List.pairwise_cons.mp hp
    have := ih (B.erase b) hp'.2 (by
      intro a' ha'
      obtain ⟨b', hb', hab'⟩ := hex a' (List.mem_cons_of_mem _ ha')
      have hne : b' ≠ b := by
        intro h; subst h
        exact hp'.1 a' ha' b' hab hab'
      exact ⟨b', (List.mem_erase_of_ne hne).mpr hb', hab'⟩)
    have hlen := List.length_erase_of_mem hb
    have hpos : 0 < B.length := List.length_pos_of_mem hb
    simp only [List.length_cons]
    omega

theorem components_count (nodes : List Nat) (es : List Edge) (f : Filt) (R : List Nat)
    (hR : ∀ r ∈ R, r ∈ nodes) (hpair : R.Pairwise (fun a b => ¬ Reach es f a b))
    (hcov : ∀ n ∈ nodes, ∃ r ∈ R, Reach es f r n) : (components nodes es f).length = R.length := by
  obtain ⟨h1, h2, h3⟩ := components_spec nodes es f
  apply Nat.le_antisymm
  · apply length_le_of_rel (fun (c : List Nat) (r : Nat) => r ∈ c)
    · exact h2.imp (fun hd b hb hb' => hd b hb hb')
    · intro c hc
      obtain ⟨n, hn, rfl⟩ := h1 c hc
      obtain ⟨r, hr, hrn⟩ := hcov n hn
      exact ⟨r, hr, (mem_bfsH es f n r).mpr hrn.symm⟩
  · apply length_le_of_rel (fun (r : Nat) (c : List Nat) => c ∈ components nodes es f ∧ r ∈ c)
    · exact hpair.imp (fun {a b} hab c hac hbc =>
        hab ((components_class nodes es f c hac.1 a hac.2 b).mp hbc.2))
    · intro r hr
      obtain ⟨c, hc, hrc⟩ := h3 r (hR r hr)
      exact ⟨c, hc, hc, hrc⟩

/-! ## `max(components, key=len)` -/

theorem foldl_best_mem (t : List (List Nat)) : ∀ c : List Nat,
    t.foldl (fun best d => if best.length < d.length then d else best) c ∈ c :: t := by
  induction t with
  | nil => intro c; exact List.mem_cons_self
  | cons a t ih =>
    intro c
    rw [List.foldl_cons]
    split
    · exact List.mem_cons_of_mem _ (ih a)
    · exact (List.mem_cons.mp (ih c)).elim (fun h => List.mem_cons.mpr (Or.inl h))
        (fun h => List.mem_cons_of_mem _ (List.mem_cons_of_mem _ h))

theorem length_foldl_best (t : List (List Nat)) : ∀ c : List Nat,
    (t.foldl (fun best d => if best.length < d.length then d else best) c).length
      = (t.map List.length).foldl max c.length := by
  induction t with
  | nil => intro c; rfl
  | cons a t ih =>
    intro c
    rw [List.foldl_cons, List.map_cons, List.foldl_cons]
    split <;> rename_i h
    · rw [ih, Nat.max_eq_right (Nat.le_of_lt h)]
    · rw [ih, Nat.max_eq_left (Nat.le_of_not_lt h)]

theorem foldl_max_spec (t : List (List Nat)) (c : List Nat) :
    let r := t.foldl (fun best d => if best.length < d.length then d else best) c
    r ∈ c :: t ∧ ∀ d ∈ c :: t, d.length ≤ r.length := by
  refine ⟨foldl_best_mem t c, fun d hd => ?_⟩
  rw [length_foldl_best]
  rcases List.mem_cons.mp hd with h | h
  · rw [h]; exact (ListLib.le_foldl_max _ _).1
  · exact (ListLib.le_foldl_max _ _).2 _ (List.mem_map_of_mem h)

theorem maxByLen_spec (l : List (List Nat)) (hl : l ≠ []) :
    ∃ c, maxByLen l = some c ∧ c ∈ l ∧ ∀ d ∈ l, d.length ≤ c.length := by
  cases l with
  | nil => exact absurd rfl hl
  | cons c t => exact ⟨_, rfl, foldl_max_spec t c⟩

theorem neighbors_eq_nil_iff (es : List Edge) (f : Filt) (n : Nat) :
    neighbors es f n = [] ↔ ∀ v, Adj es f n v → v = n := by
  rw [List.eq_nil_iff_forall_not_mem]
  constructor
  · intro h v ⟨e, he, hp, hn, hv⟩
    apply Decidable.byContradiction
    intro hne
    exact h v ((mem_neighbors es f n v).mpr ⟨hne, e, he, hp, hn, hv⟩)
  · intro h v hv
    obtain ⟨hne, e, he, hp, hn, hve⟩ := (mem_neighbors es f n v).mp hv
    exact hne (h v ⟨e, he, hp, hn, hve⟩)

theorem reach_of_no_adj (es : List Edge) (f : Filt) (n : Nat) (h : ∀ v, Adj es f n v → v = n) :
    ∀ v, Reach es f n v → v = n := by
  intro v hr
  induction hr with
  | refl => rfl
  | step _ ha ih => rw [ih] at ha; exact h _ ha

theorem exists_ne_of_two_le (e : List Nat) (hnd : e.Nodup) (h2 : 2 ≤ e.length) (n : Nat) : ∃ v ∈ e, v ≠ n := by
  match e, hnd, h2 with
  | a :: b :: t, hnd, _ =>
    have hab : a ≠ b := by
      intro h; subst h
      exact (List.nodup_cons.mp hnd).1 List.mem_cons_self
    by_cases ha : a = n
    · exact ⟨b, by simp, fun hb => hab (ha.trans hb.symm)⟩
    · exact ⟨a, by simp, ha⟩

theorem two_le_of_mem_ne (e : List Nat) (n v : Nat) (hn : n ∈ e) (hv : v ∈ e) (hne : v ≠ n) : 2 ≤ e.length := by
  match e, hn, hv with
  | [a], hn, hv =>
    simp only [List.mem_singleton] at hn hv
    exact absurd (hv.trans hn.symm) hne
  | _ :: _ :: _, _, _ => simp

/-! ## evaluating `visitH`, `bfsH`, `components` on concrete inputs (through `searchN`) -/

theorem visitH_eval (n : Nat) {es : List Edge} {f : Filt} {md : Option Int} {dfs : Bool} {u : Nat} {r : List Nat}
    (h : searchN (neighbors es f) md dfs n [(u, 0)] [] = some r) : visitH es f md dfs u = r :=
  search_of_searchN _ _ _ _ _ n _ _ _ h

theorem visitTab_eval (n : Nat) {tab : List (Nat × List Nat)} {md : Option Int} {dfs : Bool} {u : Nat} {r : List Nat}
    (h : searchN (nbrsTab tab) md dfs n [(u, 0)] [] = some r) : visitTab tab md dfs u = r :=
  search_of_searchN _ _ _ _ _ n _ _ _ h

theorem bfsH_eval (n : Nat) {es : List Edge} {f : Filt} {u : Nat} {r : List Nat}
    (h : searchN (neighbors es f) none false n [(u, 0)] [] = some r) : bfsH es f u = r :=
  visitH_eq_bfsH es f u ▸ visitH_eval n h

theorem visitFrom_eval (n : Nat) {nodes : List Nat} {es : List Edge} {f : Filt} {md : Option Int} {dfs : Bool} {u : Nat}
    {r : List Nat} (hu : u ∈ nodes) (h : searchN (neighbors es f) md dfs n [(u, 0)] [] = some r) :
    visitFrom nodes es f md dfs u = some r := by
  rw [visitFrom, if_pos hu, visitH_eval n h]

theorem bfsFrom_eval (n : Nat) {nodes : List Nat} {es : List Edge} {f : Filt} {u : Nat} {r : List Nat} (hu : u ∈ nodes)
    (h : searchN (neighbors es f) none false n [(u, 0)] [] = some r) : bfsFrom nodes es f u = some r := by
  rw [bfsFrom, if_pos hu, bfsH_eval n h]

/-- `compLoop` over classes computed with a budget -/
def compLoopN (cls : Nat → Option (List Nat)) : List Nat → List Nat → List (List Nat) → Option (List (List Nat))
  | [], _, comps => some comps
  | n :: rest, visited, comps =>
    if n ∈ visited then compLoopN cls rest visited comps
    else match cls n with
      | some c => compLoopN cls rest (visited ++ c) (comps ++ [c])
      | none => none

theorem compLoop_of_compLoopN (cls : Nat → List Nat) (clsN : Nat → Option (List Nat))
    (hc : ∀ n c, clsN n = some c → cls n = c) : ∀ (todo visited : List Nat) (comps r : List (List Nat)),
    compLoopN clsN todo visited comps = some r → compLoop cls todo visited comps = r := by
  intro todo
  induction todo with
  | nil => intro visited comps r hr; exact Option.some.inj hr
  | cons n rest ih =>
    intro visited comps r hr
    rw [compLoopN] at hr
    rw [compLoop]
    split at hr <;> rename_i hn
    · rw [if_pos hn]; exact ih _ _ _ hr
    · rw [if_neg hn]
      split at hr
      · rename_i c hcn; rw [hc n c hcn]; exact ih _ _ _ hr
      · cases hr

theorem components_eval (n : Nat) {nodes : List Nat} {es : List Edge} {f : Filt} {r : List (List Nat)}
    (h : compLoopN (fun x => searchN (neighbors es f) none false n [(x, 0)] []) nodes [] [] = some r) :
    components nodes es f = r :=
  compLoop_of_compLoopN _ _ (fun _ _ hc => bfsH_eval n hc) _ _ _ _ h

end C08
