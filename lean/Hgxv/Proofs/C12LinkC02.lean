import Hgxv.Model.C12
import Hgxv.Proofs.C02Total
import Hgxv.Proofs.C12Ext
/-! # C12 ↔ C02: the directed measures on objects reached through any history of `DirectedHypergraph`

C12's model takes the LISTINGS of a directed hypergraph (`get_edges()`, `get_nodes()`); C02's model is the full
container (`C02.Store`, id-indexed tables) with its invariant `C02.Inv` / `C02.Ord` for every history and the abstract
object `C02.abs s`.  The map between the two is the identity on hyperedges: `C12.DEdge = C02.Key = List Nat × List Nat`
(sorted source tuple, sorted target tuple of node ranks).

Every call of the container that C12's routines make is stated here as a function of the two listings, for every store
satisfying the invariants (core Lean only). -/
namespace C12
open AL

/-- what `DirectedHypergraph.get_edges()` returns: the keys of `_edge_list` in creation order -/
def listing (s : C02.Store) : List DEdge := keys s.edgeList

/-- the invariants every history keeps (`C02.of_history`) -/
structure Good (s : C02.Store) : Prop where
  inv : C02.Inv s
  ord : C02.Ord s

theorem good_of_history (cs : List C02.Cmd) (hcs : ∀ c ∈ cs, c.WF) (slot : Nat) (s : C02.Store)
    (hs : get? (C02.runCmds [] cs) slot = some s) : Good s :=
  ⟨(C02.of_history cs hcs slot s hs).1, (C02.of_history cs hcs slot s hs).2.1⟩

/-- the abstract object of the history in the same slot is `abs s` -/
theorem abs_of_history (cs : List C02.Cmd) (hcs : ∀ c ∈ cs, c.WF) (slot : Nat) (s : C02.Store)
    (hs : get? (C02.runCmds [] cs) slot = some s) :
    get? (C02.Spec.runCmds [] cs) slot = some (C02.abs s) :=
  (C02.of_history cs hcs slot s hs).2.2.2

theorem passes_eq (t : Option Nat) (e : DEdge) : C02.passes t false e = passes t e := by
  cases t with
  | none => rfl
  | some m => simp [C02.passes, passes, C02.esize, esize]

theorem get_edges_eq (s : C02.Store) : C02.edges s .all false = some (listing s) := by
  simp only [C02.edges, C02.Filt.target, Option.map_some, listing]
  congr 1
  exact List.filter_eq_self.mpr (fun k _ => rfl)

theorem listing_abs (s : C02.Store) : listing s = (C02.abs s).keyList := (C02.abs_edges_keys s).symm

theorem listing_nodup {s : C02.Store} (g : Good s) : (listing s).Nodup := g.inv.nd_edge

theorem nodes_nodup {s : C02.Store} (g : Good s) : (C02.nodes s).Nodup := g.inv.nd_adjS

theorem listing_wf {s : C02.Store} (g : Good s) (e : DEdge) (he : e ∈ listing s) :
    C02.KeyWF e ∧ ∀ n, (n ∈ e.1 ∨ n ∈ e.2) → n ∈ C02.nodes s := by
  obtain ⟨id, hid⟩ := (g.inv.mem_keys_iff e).mp he
  exact ⟨g.inv.key_wf id e hid, fun n hn => (isSome_get?_iff _ _).mp (g.inv.nodes_in id e hid n hn)⟩

/-- the hypothesis of `C12_order` / `C12_signature_cell` / `C12_signature_sum` -/
theorem listing_nonempty {s : C02.Store} (g : Good s) : ∀ e ∈ listing s, e.1 ≠ [] ∧ e.2 ≠ [] :=
  fun e he => ⟨(listing_wf g e he).1.neS, (listing_wf g e he).1.neT⟩

/-- the hypothesis of `C12_handshake` -/
theorem listing_sides {s : C02.Store} (g : Good s) :
    ∀ e ∈ listing s, e.1.Nodup ∧ e.2.Nodup ∧ ∀ x, (x ∈ e.1 ∨ x ∈ e.2) → x ∈ C02.nodes s :=
  fun e he => ⟨(listing_wf g e he).1.nodupS, (listing_wf g e he).1.nodupT, (listing_wf g e he).2⟩

/-- a role listing of the container (`proj`, `adj`: the sources and `_adj_source`, or the targets and `_adj_target`) as a
function of the two listings, for EVERY node label and filter: refused for a node without a row or for both options,
otherwise the sub-list of `get_edges()` with the node on that side - the same list, since both are in order of id -/
theorem roleEdges_good {s : C02.Store} (g : Good s) {proj : DEdge → List Nat} {adj : C02.Adj}
    (hi : AL.Index (· ≠ ·) s.rev proj adj) (hsort : ∀ n ids, get? adj n = some ids → ids.Pairwise (· < ·))
    (n : Nat) (f : C02.Filt) :
    C02.roleEdges s adj n f =
      if has adj n then f.target.map (fun t => (listing s).filter (fun e => (proj e).contains n && passes t e))
      else none := by
  cases hn : get? adj n with
  | none => simp [C02.roleEdges, has, hn]
  | some ids =>
    cases hf : f.target with
    | none => simp [C02.roleEdges, hn, hf]
    | some t =>
      have hp := g.inv.listing_perm hi n ids hn t
      simp only [passes_eq] at hp
      simp only [hi.roleEdges_eq n ids hn f t hf, has, hn, Option.isSome_some, if_true, Option.map_some]
      congr 1
      exact List.Perm.eq_of_pairwise (le := fun a b => C02.idOf s a < C02.idOf s b)
        (fun _ _ _ _ h1 h2 => absurd h1 (Nat.lt_asymm h2))
        ((C02.listing_sorted_by_id s g.inv ids (hsort n ids hn)).filter _)
        ((C02.keys_sorted_by_id s g.inv g.ord).filter _) hp

theorem sourceEdges_good {s : C02.Store} (g : Good s) (n : Nat) (f : C02.Filt) :
    C02.sourceEdges s n f =
      if C02.checkNode s n then f.target.map (fun t => (listing s).filter (fun e => e.1.contains n && passes t e))
      else none :=
  roleEdges_good g g.inv.indexS g.ord.adjS_sorted n f

theorem targetEdges_good {s : C02.Store} (g : Good s) (n : Nat) (f : C02.Filt) :
    C02.targetEdges s n f =
      if C02.checkNode s n then f.target.map (fun t => (listing s).filter (fun e => e.2.contains n && passes t e))
      else none := by
  rw [C02.checkNode, has, ← g.inv.adj_same]
  exact roleEdges_good g g.inv.indexT g.ord.adjT_sorted n f

theorem inDegree_good {s : C02.Store} (g : Good s) (n : Nat) (f : C02.Filt) :
    C02.inDegree s n f = if C02.checkNode s n then f.target.map (fun t => inDegree (listing s) t n) else none := by
  rw [C02.inDegree, sourceEdges_good g]
  cases C02.checkNode s n <;> cases f.target <;> rfl

theorem outDegree_good {s : C02.Store} (g : Good s) (n : Nat) (f : C02.Filt) :
    C02.outDegree s n f = if C02.checkNode s n then f.target.map (fun t => outDegree (listing s) t n) else none := by
  rw [C02.outDegree, targetEdges_good g]
  cases C02.checkNode s n <;> cases f.target <;> rfl

theorem sourceEdges_exact {s : C02.Store} (g : Good s) (n : Nat) (hn : C02.checkNode s n = true)
    (f : C02.Filt) (t : Option Nat) (hf : f.target = some t) :
    C02.sourceEdges s n f = some ((listing s).filter (fun e => e.1.contains n && passes t e)) := by
  rw [sourceEdges_good g, hn, hf]; rfl

theorem targetEdges_exact {s : C02.Store} (g : Good s) (n : Nat) (hn : C02.checkNode s n = true)
    (f : C02.Filt) (t : Option Nat) (hf : f.target = some t) :
    C02.targetEdges s n f = some ((listing s).filter (fun e => e.2.contains n && passes t e)) := by
  rw [targetEdges_good g, hn, hf]; rfl

theorem inDegree_exact {s : C02.Store} (g : Good s) (n : Nat) (hn : C02.checkNode s n = true)
    (f : C02.Filt) (t : Option Nat) (hf : f.target = some t) :
    C02.inDegree s n f = some (inDegree (listing s) t n) := by
  rw [inDegree_good g, hn, hf]; rfl

theorem outDegree_exact {s : C02.Store} (g : Good s) (n : Nat) (hn : C02.checkNode s n = true)
    (f : C02.Filt) (t : Option Nat) (hf : f.target = some t) :
    C02.outDegree s n f = some (outDegree (listing s) t n) := by
  rw [outDegree_good g, hn, hf]; rfl

/-- the same on the abstract object: its `in_degree` / `out_degree` ARE C12's functions of its key list -/
theorem spec_degrees (a : C02.Spec) (n : Nat) (hn : has a.nodes n = true) (f : C02.Filt) (t : Option Nat)
    (hf : f.target = some t) :
    a.inDegree n f = some (inDegree a.keyList t n) ∧ a.outDegree n f = some (outDegree a.keyList t n) := by
  simp only [C02.Spec.inDegree, C02.Spec.sourceEdges, C02.Spec.outDegree, C02.Spec.targetEdges, hn, hf, Bool.not_true,
    Bool.false_eq_true, if_false, Option.map_some, inDegree, outDegree, passes_eq, and_self]

theorem checkNode_iff (s : C02.Store) (n : Nat) : C02.checkNode s n = true ↔ n ∈ C02.nodes s := has_iff _ _

theorem inDegreeSeq_link {s : C02.Store} (g : Good s) (f : C02.Filt) (t : Option Nat) (hf : f.target = some t) :
    C02.inDegreeSeq s f = some (inDegreeSeq (C02.nodes s) (listing s) t) := by
  unfold C02.inDegreeSeq inDegreeSeq
  exact ListLib.mapM_eq_some_map _ _ _ (fun n hn => by rw [inDegree_exact g n ((checkNode_iff s n).mpr hn) f t hf]; rfl)

theorem outDegreeSeq_link {s : C02.Store} (g : Good s) (f : C02.Filt) (t : Option Nat) (hf : f.target = some t) :
    C02.outDegreeSeq s f = some (outDegreeSeq (C02.nodes s) (listing s) t) := by
  unfold C02.outDegreeSeq outDegreeSeq
  exact ListLib.mapM_eq_some_map _ _ _ (fun n hn => by rw [outDegree_exact g n ((checkNode_iff s n).mpr hn) f t hf]; rfl)

/-- `get_edges(size=m, up_to=True)`: the selection `signature` loops over -/
theorem get_edges_upto (s : C02.Store) (m : Nat) :
    C02.edges s (.size m) true = some ((listing s).filter (fun e => esize e ≤ m)) := by
  simp only [C02.edges, C02.Filt.target, Option.map_some, listing]
  congr 2

/-- `get_edges(size=k)` -/
theorem get_edges_size (s : C02.Store) (k : Nat) :
    C02.edges s (.size k) false = some (ofSize k (listing s)) := by
  simp only [C02.edges, C02.Filt.target, Option.map_some, listing, ofSize]
  congr 2

/-- `max(get_sizes())` of the container is the default bound of `hyperedge_signature_vector` on its listing: both are
`max?` of the sizes (the two `match`es are different constants, hence the `cases`) -/
theorem maxSize_link (s : C02.Store) : C02.maxSize s = maxSize (listing s) := by
  show (match (listing s).map esize with | [] => none | a :: l => some (l.foldl max a)) = _
  rw [maxSize_eq]; cases (listing s).map esize <;> rfl

theorem listing_le_maxSize (s : C02.Store) (M : Nat) (h : C02.maxSize s = some M) :
    ∀ e ∈ listing s, esize e ≤ M :=
  (maxSize_spec _ M ((maxSize_link s).symm.trans h)).1

theorem listing_of_maxSize_none (s : C02.Store) (h : C02.maxSize s = none) : listing s = [] :=
  (maxSize_eq_none _).mp ((maxSize_link s).symm.trans h)

/-- for a hyperedge of the bounded set: the model's "`reciprocated_edge in edge_set`" is the object's
    `check_edge((target, source))` -/
theorem isExact_check {s : C02.Store} (g : Good s) (m : Nat) (e : DEdge) (he : e ∈ bounded m (listing s)) :
    C02.checkEdge s (C02.RawEdge.ofKey (e.2, e.1)) = some (isExact (bounded m (listing s)) e) := by
  obtain ⟨hel, hb⟩ := List.mem_filter.mp he
  have wf := (listing_wf g e hel).1
  have wf' : C02.KeyWF (e.2, e.1) :=
    ⟨wf.sortedT, wf.sortedS, wf.nodupT, wf.nodupS, fun n h2 h1 => wf.disj n h1 h2, wf.neT, wf.neS⟩
  have hb' : (2 ≤ esize (e.2, e.1) && esize (e.2, e.1) ≤ m) = true := by
    rw [esize_swap]; exact hb
  rw [C02.checkEdge, C02.canonStrict_ofKey _ wf', Option.map_some, Option.some.injEq, Bool.eq_iff_iff, has_iff]
  exact ⟨fun h => List.contains_iff_mem.mpr (List.mem_filter.mpr ⟨h, hb'⟩),
    fun h => (List.mem_filter.mp (List.contains_iff_mem.mp h)).1⟩

end C12
