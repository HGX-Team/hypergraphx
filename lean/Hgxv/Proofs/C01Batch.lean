import Hgxv.Model.C01
/-! # C01 - a batched call is the run of its members

`add_nodes`, `add_edges`, `remove_edges`, `remove_nodes` validate the whole batch and then loop over the single
calls.  Here: whenever the batched call is accepted, running its members one call each through `apply` - stopping at
the first rejection, as a caller would - rejects nowhere and ends in the very same store.  For `add_edges` with weights
the run starts from the store after the EMPTY batch `add_edges([], weights=[])` (the only thing a batch with weights does
beyond its members: it switches an unweighted hypergraph to weighted); the `i`-th member gets `weights[i]` and
`metadata[i]`, whatever their magnitude (`Int`).  Core Lean only. -/
open AL
namespace C01

theorem seqOps_map {α β σ : Type} (f : σ → β → σ × Out) (g : α → β) :
    ∀ (xs : List α) (s : σ), seqOps f s (xs.map g) = seqOps (fun s x => f s (g x)) s xs := by
  intro xs
  induction xs with
  | nil => intro s; rfl
  | cons x xs ih =>
    intro s
    simp only [List.map_cons, seqOps]
    cases h : f s (g x) with
    | mk s' o => cases o <;> simp only [ih]

theorem seqOps_total {α σ : Type} (f : σ → α → σ × Out) (g : σ → α → σ) (h : ∀ s a, f s a = (g s a, .ok)) :
    ∀ (xs : List α) (s : σ), seqOps f s xs = (xs.foldl g s, .ok) := by
  intro xs
  induction xs with
  | nil => intro s; rfl
  | cons x xs ih => intro s; simp only [seqOps, h, List.foldl_cons, ih]

theorem bind_head? {α : Type} (o : Option (List α)) : o.bind List.head? = o.bind (·[0]?) := by
  cases o with
  | none => rfl
  | some l => exact List.head?_eq_getElem?

theorem bind_tail_getElem? {α : Type} (o : Option (List α)) (j : Nat) :
    (o.map List.tail).bind (·[j]?) = o.bind (·[j + 1]?) := by
  cases o with
  | none => rfl
  | some l => cases l <;> rfl

/-- the `i`-th triple of the loop of `add_edges`: the `i`-th hyperedge with `weights[i]` and `metadata[i]` -/
theorem zipArgs_getElem? : ∀ (raws : List (List Nat)) (ws : Option (List Int)) (mds : Option (List Meta)) (i : Nat),
    (zipArgs raws ws mds)[i]? = raws[i]?.map fun r => (r, ws.bind (·[i]?), mds.bind (·[i]?)) := by
  intro raws
  induction raws with
  | nil => intro ws mds i; rfl
  | cons r rs ih =>
    intro ws mds i
    cases i with
    | zero => simp only [zipArgs, List.getElem?_cons_zero, Option.map_some, bind_head?]
    | succ j => simp only [zipArgs, List.getElem?_cons_succ, ih, bind_tail_getElem?]

theorem zipArgs_length : ∀ (raws : List (List Nat)) (ws : Option (List Int)) (mds : Option (List Meta)),
    (zipArgs raws ws mds).length = raws.length := by
  intro raws
  induction raws with
  | nil => intro ws mds; rfl
  | cons r rs ih => intro ws mds; simp [zipArgs, ih]

theorem addNodes_singles (s : Store) (ns : List Node) (mds : Option (List (Node × Meta)))
    (h : (apply s (.addNodes ns mds)).2 = .ok) :
    seqOps apply s (ns.map fun n => Op.addNode n (mds.bind fun t => get? t n)) = apply s (.addNodes ns mds) := by
  rw [seqOps_map]
  show _ = addNodes s ns mds
  have h' : (addNodes s ns mds).2 = .ok := h
  cases mds with
  | none =>
    exact seqOps_total (fun s x => apply s (Op.addNode x (none.bind fun t => get? t x)))
      (fun s n => addNode s n none) (fun _ _ => rfl) ns s
  | some t =>
    unfold addNodes at h' ⊢
    simp only at h' ⊢
    by_cases hv : (ns.all fun n => (get? t n).isSome) = true
    · rw [if_pos hv]
      exact seqOps_total (fun s x => apply s (Op.addNode x ((some t).bind fun t => get? t x)))
        (fun s n => addNode s n (get? t n)) (fun _ _ => rfl) ns s
    · rw [if_neg hv] at h'; cases h'

/-- the empty batch with the same kind of `weights` argument: switches to weighted, adds nothing -/
theorem addEdges_empty (s : Store) (ws : Option (List Int)) :
    (apply s (.addEdges [] (ws.map fun _ => []) none)).1 = { s with weighted := s.weighted || ws.isSome } := by
  cases ws <;> rfl

theorem addEdges_singles (s : Store) (raws : List (List Nat)) (ws : Option (List Int)) (mds : Option (List Meta))
    (h : (apply s (.addEdges raws ws mds)).2 = .ok) :
    seqOps apply (apply s (.addEdges [] (ws.map fun _ => []) none)).1
      ((zipArgs raws ws mds).map fun x => Op.addEdge x.1 (if ws.isSome then x.2.1 else none) x.2.2)
      = apply s (.addEdges raws ws mds) := by
  rw [addEdges_empty, seqOps_map]
  show _ = addEdges s raws ws mds
  have h' : (addEdges s raws ws mds).2 = .ok := h
  unfold addEdges at h' ⊢
  by_cases hv : addEdgesValid raws ws mds = true
  · rw [if_pos hv]; rfl
  · rw [if_neg hv] at h'; cases h'

theorem removeEdges_singles (s : Store) (raws : List (List Nat)) (h : (apply s (.removeEdges raws)).2 = .ok) :
    seqOps apply s (raws.map Op.removeEdge) = apply s (.removeEdges raws) := by
  rw [seqOps_map]
  show _ = removeEdges s raws
  have h' : (removeEdges s raws).2 = .ok := h
  unfold removeEdges at h' ⊢
  split
  · rfl
  · rename_i hv; rw [if_neg hv] at h'; cases h'

theorem removeNodes_singles (s : Store) (ns : List Node) (keep : Bool) (h : (apply s (.removeNodes ns keep)).2 = .ok) :
    seqOps apply s (ns.map fun n => Op.removeNode n keep) = apply s (.removeNodes ns keep) := by
  rw [seqOps_map]
  show _ = removeNodes s ns keep
  have h' : (removeNodes s ns keep).2 = .ok := h
  unfold removeNodes at h' ⊢
  split
  · rfl
  · rename_i hv; rw [if_neg hv] at h'; cases h'

end C01
