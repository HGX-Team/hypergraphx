import Hgxv.Proofs.C06WF
/-! C06: the hMETIS reader — what `add_edges` builds from the listed node sets, and what the line
scanner lists.  Core Lean only. -/
namespace C06

theorem addEdgesH_spec (c : Content HKey) (l : List (List Nat × Option Int)) (hwf : WF c)
    (hrej : c.weighted = false → ∀ p ∈ l, p.2 = none) :
    ∃ c', addEdgesH c l = some c' ∧ WF c' ∧ c'.weighted = c.weighted ∧
      (∀ k, k ∈ AL.keys c'.edges ↔ k ∈ AL.keys c.edges ∨ ∃ e ∈ l.map Prod.fst, k = ⟨sort e⟩) ∧
      (∀ n, n ∈ AL.keys c'.nodes ↔ n ∈ AL.keys c.nodes ∨ ∃ e ∈ l.map Prod.fst, n ∈ e) := by
  induction l generalizing c with
  | nil => exact ⟨c, rfl, hwf, rfl, by simp, by simp⟩
  | cons p t ih =>
    obtain ⟨e, w⟩ := p
    have hr : rejectsWeight c.weighted w = false := by
      cases hwd : c.weighted with
      | true => cases w <;> rfl
      | false => rw [show w = none from hrej hwd (e, w) List.mem_cons_self]; rfl
    obtain ⟨c1, h1⟩ := addEdge_total c ⟨e⟩ w none hr
    have hwf1 := WF_addEdge c c1 ⟨e⟩ w none hwf h1
    have hw1 := addEdge_weighted h1
    obtain ⟨c', h2, hwf', hw', hk', hn'⟩ :=
      ih c1 hwf1 (fun hu q hq => hrej (hw1 ▸ hu) q (List.mem_cons_of_mem _ hq))
    refine ⟨c', by simp only [addEdgesH, h1, h2], hwf', hw'.trans hw1, fun k => ?_, fun n => ?_⟩
    · rw [hk', addEdge_keys_iff c c1 ⟨e⟩ w none h1, canonH]
      simp only [List.map_cons, List.mem_cons, exists_eq_or_imp, or_assoc]
    · rw [hn', addEdge_nodes_iff c c1 ⟨e⟩ w none hwf h1, canonH, membersH]
      simp only [List.map_cons, List.mem_cons, exists_eq_or_imp, mem_sort, or_assoc]

theorem addEdgesH_get_other (c c' : Content HKey) (l : List (List Nat × Option Int))
    (h : addEdgesH c l = some c') (k : HKey) (hk : ∀ p ∈ l, (⟨sort p.1⟩ : HKey) ≠ k) :
    AL.get? c'.edges k = AL.get? c.edges k := by
  induction l generalizing c with
  | nil => simp [addEdgesH] at h; subst h; rfl
  | cons p t ih =>
    obtain ⟨e, w⟩ := p
    simp only [addEdgesH] at h
    cases h1 : addEdge c ⟨e⟩ w none with
    | none => simp [h1] at h
    | some c1 =>
      simp only [h1] at h
      rw [ih c1 h (fun q hq => hk q (by simp [hq]))]
      exact addEdge_get_other c c1 ⟨e⟩ w none h1 k (hk (e, w) (by simp))

theorem addEdgesH_weights (c c' : Content HKey) (l : List (List Nat × Option Int))
    (hw : c.weighted = true)
    (hd : (l.map fun p => sort p.1).Nodup)
    (hfresh : ∀ p ∈ l, (⟨sort p.1⟩ : HKey) ∉ AL.keys c.edges)
    (h : addEdgesH c l = some c') :
    ∀ p ∈ l, AL.get? c'.edges ⟨sort p.1⟩ = some (weightOrUnit p.2, []) := by
  induction l generalizing c with
  | nil => simp
  | cons p t ih =>
    obtain ⟨e, w⟩ := p
    simp only [addEdgesH] at h
    cases h1 : addEdge c ⟨e⟩ w none with
    | none => simp [h1] at h
    | some c1 =>
      simp only [h1] at h
      simp only [List.map_cons, List.nodup_cons, List.mem_map] at hd
      have hnew : AL.get? c.edges (Kind.canon (⟨e⟩ : HKey)) = none :=
        (AL.get?_eq_none_iff _ _).mpr (hfresh (e, w) (by simp))
      have hw1 := addEdge_weighted h1
      intro q hq
      rcases List.mem_cons.mp hq with rfl | hq
      · rw [addEdgesH_get_other c1 c' t h ⟨sort e⟩ (fun r hr hc => hd.1 ⟨r, hr, congrArg HKey.nodes hc⟩)]
        have := addEdge_get_new c c1 ⟨e⟩ w none h1 hnew
        simpa [canonH, hw, metaOrEmpty] using this
      · refine ih c1 (hw1.trans hw) hd.2 ?_ h q hq
        intro r hr hin
        rcases (addEdge_keys_iff c c1 ⟨e⟩ w none h1 _).mp hin with hin | hin
        · exact hfresh r (by simp [hr]) hin
        · exact hd.1 ⟨r, hr, congrArg HKey.nodes hin⟩

/-- the metadata of everything `add_edges` builds is empty, in both modes: the entry assigned carries the metadata given -/
theorem addEdgesH_meta (c c' : Content HKey) (l : List (List Nat × Option Int))
    (hall : ∀ e ∈ c.edges, e.2.2 = []) (h : addEdgesH c l = some c') : ∀ e ∈ c'.edges, e.2.2 = [] := by
  induction l generalizing c with
  | nil => cases h; exact hall
  | cons p t ih =>
    obtain ⟨e, w⟩ := p
    simp only [addEdgesH] at h
    cases h1 : addEdge c ⟨e⟩ w none with
    | none => simp [h1] at h
    | some c1 =>
      simp only [h1] at h
      refine ih c1 (fun x hx => ?_) h
      rw [addEdge_some h1] at hx
      exact (AL.mem_set _ _ _ _ hx).elim (fun hx => hx ▸ entry_snd ..) (hall x)

theorem addEdgesH_construct (wtd : Bool) (l : List (List Nat × Option Int)) (es : List (List Nat))
    (hfst : l.map Prod.fst = es) (hrej : wtd = false → ∀ p ∈ l, p.2 = none) :
    ∃ c, addEdgesH (construct HKey wtd) l = some c ∧ WF c ∧ c.weighted = wtd ∧
      (∀ k, k ∈ AL.keys c.edges ↔ ∃ e ∈ es, k = ⟨sort e⟩) ∧ (∀ n, n ∈ AL.keys c.nodes ↔ ∃ e ∈ es, n ∈ e) := by
  obtain ⟨c, h1, hwf, hw, hk, hn⟩ := addEdgesH_spec (construct HKey wtd) l (WF_construct wtd) hrej
  subst hfst
  exact ⟨c, h1, hwf, hw, fun k => (hk k).trans (or_iff_right (List.not_mem_nil : ¬ k ∈ [])),
    fun n => (hn n).trans (or_iff_right (List.not_mem_nil : ¬ n ∈ []))⟩

/-- `Hypergraph(edge_list=es, weighted=wtd, weights=ws)` on listed node sets (distinct as sets when weighted): the
object has exactly the sorted listed sets as hyperedges, their members as nodes, the listed weights / weight 1 -/
theorem buildHgr_spec (wtd : Bool) (ws : List Nat) (es : List (List Nat))
    (hlen : wtd = true → es.length = ws.length) (hd : wtd = true → (es.map sort).Nodup) :
    ∃ c, buildHgr wtd ws es = some c ∧ WF c ∧ c.weighted = wtd ∧
      (∀ k, k ∈ AL.keys c.edges ↔ ∃ e ∈ es, k = ⟨sort e⟩) ∧
      (∀ n, n ∈ AL.keys c.nodes ↔ ∃ e ∈ es, n ∈ e) ∧
      (wtd = true → ∀ p ∈ es.zip ws, AL.get? c.edges ⟨sort p.1⟩ = some (unit * (p.2 : Int), [])) ∧
      (wtd = false → ∀ e ∈ c.edges, e.2 = (unit, [])) := by
  cases wtd with
  | true =>
    have hfst : (es.zip (ws.map fun (w : Nat) => some (unit * (w : Int)))).map Prod.fst = es :=
      List.map_fst_zip (by rw [List.length_map, hlen rfl]; exact Nat.le_refl _)
    obtain ⟨c, h1, hwf, hw, hk, hn⟩ := addEdgesH_construct true _ es hfst (fun h => nomatch h)
    have hnd : es.Nodup := (List.pairwise_map.mp (hd rfl)).imp fun h e => h (congrArg sort e)
    refine ⟨c, ?_, hwf, hw, hk, hn, fun _ p hp => ?_, fun h => nomatch h⟩
    · simp only [buildHgr, if_true, hlen rfl, ne_eq, not_true_eq_false, if_false, hnd,
        decide_true]
      exact h1
    · exact addEdgesH_weights (construct HKey true) c _ rfl (by have := hd rfl; rwa [← hfst, List.map_map] at this) (fun _ _ => List.not_mem_nil)
        h1 (p.1, some (unit * (p.2 : Int)))
        (by rw [List.zip_map_right]; exact List.mem_map.mpr ⟨p, hp, rfl⟩)
  | false =>
    obtain ⟨c, h1, hwf, hw, hk, hn⟩ := addEdgesH_construct false (es.map fun e => (e, none)) es
      (by rw [List.map_map]; exact List.map_id _) (fun _ p hp => by obtain ⟨e, _, rfl⟩ := List.mem_map.mp hp; rfl)
    -- weight 1 is clause five of `WF`
    exact ⟨c, h1, hwf, hw, hk, hn, (fun h => nomatch h), fun _ e he =>
      Prod.ext (hwf.2.2.2.2 hw e he) (addEdgesH_meta (construct HKey false) c _ (fun _ h => nomatch h) h1 e he)⟩

/-- while the header has not been seen nothing is listed; in weighted mode one weight per node set -/
def ScanInv (s : HgrSt) : Prop :=
  (s.nodes = 0 → s.es = [] ∧ s.ws = []) ∧ (hgrWeighted s.mode = true → s.es.length = s.ws.length)

theorem scanInv_step (s s' : HgrSt) (l : Line) (hi : ScanInv s) (h : hgrStep s l = some s') : ScanInv s' := by
  obtain ⟨h0, h1⟩ := hi
  cases l with
  | skip => cases h; exact ⟨h0, h1⟩
  | toks t =>
    simp only [hgrStep] at h
    -- the branches of `hgrStep`: header (nothing listed yet), edge line (one node set, and one weight when weighted), node line
    by_cases hn : s.nodes = 0
    · rw [if_pos hn] at h
      obtain ⟨hes, hws⟩ := h0 hn
      unfold hgrHeader at h
      split at h
      · cases h; exact ⟨fun _ => ⟨hes, hws⟩, fun _ => by rw [hes, hws]; rfl⟩
      · cases h
    · rw [if_neg hn] at h
      split at h
      · unfold hgrEdgeLine at h
        split at h
        · next hm =>
          split at h
          · cases h
            exact ⟨fun hz => absurd hz hn, fun _ => by simp only [List.length_append, List.length_singleton, h1 hm]⟩
          · cases h
        · next hm =>
          split at h
          · cases h
            exact ⟨fun hz => absurd hz hn, fun hc => absurd hc hm⟩
          · cases h
      · split at h
        · cases h; exact ⟨h0, h1⟩
        · cases h

theorem scanInv_scan (s s' : HgrSt) (ls : List Line) (hi : ScanInv s) (h : hgrScan s ls = some s') : ScanInv s' := by
  induction ls generalizing s with
  | nil => simp [hgrScan] at h; subst h; exact hi
  | cons l t ih =>
    simp only [hgrScan] at h
    cases h1 : hgrStep s l with
    | none => simp [h1] at h
    | some s1 => simp only [h1] at h; exact ih s1 (scanInv_step s s1 l hi h1) h

theorem scanInv_init : ScanInv {} := ⟨fun _ => ⟨rfl, rfl⟩, fun _ => rfl⟩

/-- comment and blank lines are dropped -/
def dropSkips : List Line → List Line
  | [] => []
  | .skip :: ls => dropSkips ls
  | .toks l :: ls => .toks l :: dropSkips ls

theorem hgrScan_dropSkips (s : HgrSt) (ls : List Line) : hgrScan s ls = hgrScan s (dropSkips ls) := by
  induction ls generalizing s with
  | nil => rfl
  | cons l t ih =>
    cases l with
    | skip => simp [hgrScan, hgrStep, dropSkips, ih]
    | toks x =>
      simp only [hgrScan, dropSkips]
      cases hgrStep s (.toks x) with
      | none => rfl
      | some s1 => exact ih s1

theorem hgrScan_edges_weighted (s : HgrSt) (el : List (Nat × Nat × List Nat)) (rest : List Line)
    (hn : s.nodes ≠ 0) (hm : hgrWeighted s.mode = true) (hc : s.readCount + el.length ≤ s.edges) :
    hgrScan s (el.map (fun p => Line.toks (p.1 :: p.2.1 :: p.2.2)) ++ rest) =
      hgrScan { s with readCount := s.readCount + el.length, ws := s.ws ++ el.map (·.1),
                       es := s.es ++ el.map (fun p => p.2.1 :: p.2.2) } rest := by
  induction el generalizing s with
  | nil => simp
  | cons p t ih =>
    have hlt : s.readCount < s.edges := by simp at hc; omega
    simp only [List.map_cons, List.cons_append, hgrScan, hgrStep, hn, if_false, hlt, if_true, hgrEdgeLine, hm]
    rw [ih { s with readCount := s.readCount + 1, ws := s.ws ++ [p.1], es := s.es ++ [p.2.1 :: p.2.2] } hn hm
      (by simp at hc ⊢; omega)]
    simp [Nat.add_assoc, Nat.add_comm 1]

theorem hgrScan_edges_plain (s : HgrSt) (el : List (Nat × List Nat)) (rest : List Line)
    (hn : s.nodes ≠ 0) (hm : hgrWeighted s.mode = false) (hc : s.readCount + el.length ≤ s.edges) :
    hgrScan s (el.map (fun p => Line.toks (p.1 :: p.2)) ++ rest) =
      hgrScan { s with readCount := s.readCount + el.length, es := s.es ++ el.map (fun p => p.1 :: p.2) } rest := by
  induction el generalizing s with
  | nil => simp
  | cons p t ih =>
    have hlt : s.readCount < s.edges := by simp at hc; omega
    simp only [List.map_cons, List.cons_append, hgrScan, hgrStep, hn, if_false, hlt, if_true, hgrEdgeLine, hm,
      Bool.false_eq_true]
    rw [ih { s with readCount := s.readCount + 1, es := s.es ++ [p.1 :: p.2] } hn hm (by simp at hc ⊢; omega)]
    simp [Nat.add_assoc, Nat.add_comm 1]

theorem hgrScan_nodeLines (s : HgrSt) (nl : List (List Nat))
    (hn : s.nodes ≠ 0) (hc : s.readCount = s.edges) (hk : s.readNode + nl.length ≤ s.nodes) :
    hgrScan s (nl.map Line.toks) = some { s with readNode := s.readNode + nl.length } := by
  induction nl generalizing s with
  | nil => simp [hgrScan]
  | cons p t ih =>
    have hlt : s.readNode < s.nodes := by simp at hk; omega
    have hge : ¬ s.readCount < s.edges := by omega
    simp only [List.map_cons, hgrScan, hgrStep, hn, if_false, hge, hlt, if_true]
    rw [ih { s with readNode := s.readNode + 1 } hn hc (by simp at hk ⊢; omega)]
    simp [Nat.add_assoc, Nat.add_comm 1]

end C06
