import Hgxv.Proofs.C01X
import Hgxv.Proofs.C01Shrink
/-! C01: what `subhypergraph(nodes)` builds, in declarative terms (lookups on the abstract hypergraph).
`Spec.subhypergraph` is written as the code runs (`add_nodes`, one `set_node_metadata(get_node_metadata)` per listed node,
one `add_edge(get_weight, get_edge_metadata)` per hyperedge inside the node list); here its outcome and result are
characterised.  The loops all extraction routines are made of come first: `add_nodes` on a fresh object, the node-metadata
loop, and the `add_edge` loop over keys that are new (`spec_addNew_loop`: the result as one equation).  At the head, where `SWF`
and the refinement of histories are both in scope: the abstract states of histories satisfy `SWF` (`Spec.run_swf`, `FSpec.run_swf`).
Core Lean only. -/
namespace C01
open AL

theorem Spec.run_swf (k : Nat) (cs : List Cmd) (hwf : ∀ c ∈ cs, c.WF) {a : Spec} (ha : a ∈ Spec.run (Spec.init k) cs) :
    SWF a := by
  obtain ⟨s, hs, rfl⟩ := Spec.run_abs k cs hwf ha
  exact abs_swf hs

theorem FSpec.run_swf (k : Nat) (cs : List FCmd) (hwf : ∀ c ∈ cs, c.WF) {a : FSpec}
    (ha : a ∈ FSpec.run (FSpec.init k) cs) : SWF a.base := by
  obtain ⟨h1, h2⟩ := frun_sim cs _ _ hwf (finit_sim k)
  rw [h1] at ha
  obtain ⟨s, hs, rfl⟩ := List.mem_map.mp ha
  exact abs_swf (h2 s hs)

/-- `add_node(n)` without metadata is the bare bookkeeping step: the `== {}` branch stores `{}` over `{}` -/
theorem spec_addNode_none (h : Spec) (n : Node) : Spec.addNode h n none = Spec.touchNode h n := by
  unfold Spec.addNode
  simp only [Option.getD_none]
  split
  · rename_i hg
    rw [set_same _ _ _ hg]
  · rfl

theorem spec_addNodes_none (ns : List Node) (h : Spec) :
    ns.foldl (fun a n => Spec.addNode a n none) h = { h with nodes := ns.foldl touchMeta h.nodes } := by
  rw [show (fun a n => Spec.addNode a n none) = Spec.touchNode from funext fun a => funext fun n => spec_addNode_none a n]
  exact spec_touch_fold ns h

theorem spec_copyNodeMeta_step (a h : Spec) (n : Node) (md : Meta) (ha : get? a.nodes n = some md)
    (hh : (get? h.nodes n).isSome) :
    Spec.copyNodeMeta a h n = ({ h with nodes := AL.set h.nodes n md }, .ok) := by
  unfold Spec.copyNodeMeta Spec.setNodeMeta
  simp [ha, hh]

theorem spec_copyNodeMeta_rej (a h : Spec) (n : Node) (ha : get? a.nodes n = none) :
    Spec.copyNodeMeta a h n = (h, .rej) := by
  unfold Spec.copyNodeMeta
  simp [ha]

theorem spec_copyNodeMetas (a : Spec) : ∀ (ns : List Node) (h : Spec), (∀ n ∈ ns, (get? h.nodes n).isSome) →
    ((seqOps (Spec.copyNodeMeta a) h ns).2 = .ok ↔ ∀ n ∈ ns, (get? a.nodes n).isSome) ∧
    ((∀ n ∈ ns, (get? a.nodes n).isSome) →
      (seqOps (Spec.copyNodeMeta a) h ns).1.edges = h.edges ∧
      (seqOps (Spec.copyNodeMeta a) h ns).1.weighted = h.weighted ∧
      (seqOps (Spec.copyNodeMeta a) h ns).1.hmeta = h.hmeta ∧
      ∀ m, get? (seqOps (Spec.copyNodeMeta a) h ns).1.nodes m = if m ∈ ns then get? a.nodes m else get? h.nodes m) := by
  intro ns
  induction ns with
  | nil =>
    intro h _
    refine ⟨⟨fun _ _ hn => (by cases hn), fun _ => rfl⟩, fun _ => ⟨rfl, rfl, rfl, fun m => (by simp [seqOps])⟩⟩
  | cons n ns ih =>
    intro h hh
    cases hg : get? a.nodes n with
    | none =>
      simp only [seqOps, spec_copyNodeMeta_rej a h n hg]
      refine ⟨⟨fun hc => (by cases hc), fun hall => ?_⟩, fun hall => ?_⟩ <;>
      · have := hall n List.mem_cons_self
        rw [hg] at this; cases this
    | some md =>
      have hstep := spec_copyNodeMeta_step a h n md hg (hh n List.mem_cons_self)
      simp only [seqOps, hstep]
      have hh' : ∀ x ∈ ns, (get? (AL.set h.nodes n md) x).isSome := by
        intro x hx
        rw [isSome_set]
        simp [hh x (List.mem_cons_of_mem _ hx)]
      obtain ⟨i1, i2⟩ := ih { h with nodes := AL.set h.nodes n md } hh'
      refine ⟨⟨fun hc x hx => ?_, fun hall => ?_⟩, fun hall => ?_⟩
      · rcases List.mem_cons.mp hx with hx | hx
        · subst hx; rw [hg]; rfl
        · exact i1.mp hc x hx
      · exact i1.mpr (fun x hx => hall x (List.mem_cons_of_mem _ hx))
      · obtain ⟨j1, j2, j3, j4⟩ := i2 (fun x hx => hall x (List.mem_cons_of_mem _ hx))
        refine ⟨j1, j2, j3, ?_⟩
        intro m
        rw [j4 m]
        by_cases hm : m ∈ ns
        · simp [hm]
        · simp only [hm, if_false, List.mem_cons, or_false]
          rw [get?_set]
          by_cases hmn : m = n
          · subst hmn; simp [hg]
          · have : ¬ n = m := fun e => hmn e.symm
            simp [hmn, this]

theorem spec_addNodes_fresh (w : Bool) (ns : List Node) :
    ∃ h1, Spec.addNodes (Spec.new w []) ns none = (h1, .ok) ∧ h1.edges = [] ∧ h1.weighted = w ∧
      h1.hmeta = initHMeta w [] ∧ ∀ m, get? h1.nodes m = if m ∈ ns then some [] else none :=
  ⟨_, congrArg (·, Out.ok) (spec_addNodes_none ns _), rfl, rfl, rfl, fun m => by rw [touchFold_get]; rfl⟩

theorem spec_copyNodeMetas_ok (a : Spec) (ns : List Node) (h : Spec) (hh : ∀ n ∈ ns, (get? h.nodes n).isSome)
    (hall : ∀ n ∈ ns, (get? a.nodes n).isSome) :
    ∃ r, seqOps (Spec.copyNodeMeta a) h ns = (r, .ok) ∧ r.edges = h.edges ∧ r.weighted = h.weighted ∧
      r.hmeta = h.hmeta ∧ ∀ m, get? r.nodes m = if m ∈ ns then get? a.nodes m else get? h.nodes m := by
  obtain ⟨b1, b2⟩ := spec_copyNodeMetas a ns h hh
  exact ⟨_, Prod.ext rfl (b1.mpr hall), b2 hall⟩

/-- the metadata loop over all nodes of the new object, each of which is a node of the source -/
theorem spec_copyNodeMetas_own (a h : Spec) (hin : ∀ m, (get? h.nodes m).isSome → (get? a.nodes m).isSome) :
    ∃ r, seqOps (Spec.copyNodeMeta a) h (keys h.nodes) = (r, .ok) ∧ r.edges = h.edges ∧ r.weighted = h.weighted ∧
      r.hmeta = h.hmeta ∧ ∀ m, get? r.nodes m = if (get? h.nodes m).isSome then get? a.nodes m else none := by
  obtain ⟨r, hr, c1, c2, c3, c4⟩ := spec_copyNodeMetas_ok a (keys h.nodes) h (fun n hn => (mem_keys_iff _ _).mp hn)
    (fun n hn => hin n ((mem_keys_iff _ _).mp hn))
  refine ⟨r, hr, c1, c2, c3, fun m => ?_⟩
  rw [c4 m]
  by_cases hm : m ∈ keys h.nodes
  · rw [if_pos hm, if_pos ((mem_keys_iff _ _).mp hm)]
  · rw [if_neg hm, if_neg (fun hs => hm ((mem_keys_iff _ _).mpr hs))]
    exact (get?_eq_none_iff _ _).mpr hm

/-- `add_edge` of a canonical key that is not there yet: one new map entry, and its nodes become nodes -/
theorem spec_addEdge_new (h : Spec) (e : Edge) (w : Option Int) (md : Option Meta) (hc : canon e = e)
    (hacc : h.weighted = true ∨ w = none) (hg : get? h.edges e = none) :
    Spec.addEdge h e w md =
      ({ h with edges := h.edges ++ [(e, (if h.weighted then w.getD one else one, md.getD []))],
                nodes := e.foldl touchMeta h.nodes }, .ok) := by
  have hrej : (!h.weighted && w.isSome && (w != some one)) = false := by
    rcases hacc with hw | hw
    · simp [hw]
    · subst hw; simp
  unfold Spec.addEdge
  rw [if_neg (by rw [hrej]; simp)]
  simp only [hc, hg]
  rw [spec_touch_fold, set_of_not_mem _ _ _ hg]

/-- the same when its nodes are nodes already -/
theorem spec_addEdge_fresh (h : Spec) (e : Edge) (w : Option Int) (md : Meta) (hc : canon e = e)
    (hacc : h.weighted = true ∨ w = none) (hg : get? h.edges e = none) (hn : ∀ m ∈ e, (get? h.nodes m).isSome) :
    Spec.addEdge h e w (some md) =
      ({ h with edges := h.edges ++ [(e, (if h.weighted then w.getD one else one, md))] }, .ok) := by
  rw [spec_addEdge_new h e w (some md) hc hacc hg, touchFold_present e h.nodes hn]
  rfl

/-- a loop of `add_edge(e, w e, md e)` over distinct canonical keys that are new: the entries are appended in order, the
nodes of the hyperedges become nodes -/
theorem spec_addNew_loop (wf : Edge → Option Int) (mf : Edge → Option Meta) : ∀ (es : List Edge) (h : Spec), es.Nodup →
    (∀ e ∈ es, canon e = e ∧ get? h.edges e = none) → (h.weighted = true ∨ ∀ e ∈ es, wf e = none) →
    seqOps (fun h e => Spec.addEdge h e (wf e) (mf e)) h es =
      ({ h with edges := h.edges ++ es.map fun e => (e, (if h.weighted then (wf e).getD one else one, (mf e).getD [])),
                nodes := es.flatten.foldl touchMeta h.nodes }, .ok) := by
  intro es
  induction es with
  | nil => intro h _ _ _; simp [seqOps]
  | cons e es ih =>
    intro h hnd hes hacc
    obtain ⟨hne, hnd'⟩ := List.nodup_cons.mp hnd
    obtain ⟨hc, hg⟩ := hes e List.mem_cons_self
    simp only [seqOps, spec_addEdge_new h e (wf e) (mf e) hc (hacc.imp id fun h' => h' e List.mem_cons_self) hg]
    rw [ih { h with edges := h.edges ++ [(e, (if h.weighted then (wf e).getD one else one, (mf e).getD []))],
                    nodes := e.foldl touchMeta h.nodes } hnd' ?_
      (hacc.imp id fun h' x hx => h' x (List.mem_cons_of_mem _ hx))]
    · simp only [List.map_cons, List.flatten_cons, List.foldl_append, List.append_assoc, List.singleton_append]
    · intro x hx
      refine ⟨(hes x (List.mem_cons_of_mem _ hx)).1, ?_⟩
      show get? (h.edges ++ [_]) x = none
      rw [← set_of_not_mem _ _ _ hg, get?_set_ne _ _ _ _ (by rintro rfl; exact hne hx)]
      exact (hes x (List.mem_cons_of_mem _ hx)).2

/-- `AL.get?_keymap` for any instance deciding `x ∈ es` (the library's comes from `DecidableEq α`, which is not the one
`if x ∈ es` elaborates to for `Edge = List Nat`) -/
theorem get?_map_mk {α β : Type} [DecidableEq α] (es : List α) (v : α → β) (x : α) [Decidable (x ∈ es)] :
    get? (es.map fun e => (e, v e)) x = if x ∈ es then some (v x) else none := by
  rw [get?_keymap]; congr

/-- the weight `add_edge(e, get_weight(e))` (weighted) resp. `add_edge(e)` stores under a new key is the source's -/
theorem SWF.copy_weight {a : Spec} (ha : SWF a) {e : Edge} (he : (get? a.edges e).isSome) :
    (if a.weighted then (if a.weighted then some (Spec.weightOf a e) else none).getD one else one) = Spec.weightOf a e := by
  obtain ⟨⟨w0, md0⟩, hp⟩ := Option.isSome_iff_exists.mp he
  cases hwt : a.weighted with
  | true => simp
  | false =>
    have hw0 : Spec.weightOf a e = w0 := (spec_weightOf_get a e w0 md0 hp).1
    simp [hw0, ha.unw hwt e w0 md0 hp]

/-- lookups in the part of a map selected by a key list -/
theorem get?_pick {α β : Type} [DecidableEq α] (l : List (α × β)) (es : List α) (p : α → Prop) [DecidablePred p]
    (hes : ∀ x, x ∈ es ↔ x ∈ keys l ∧ p x) (x : α) [Decidable (x ∈ es)] :
    (if x ∈ es then get? l x else none) = if p x then get? l x else none := by
  by_cases hx : x ∈ es
  · simp [hx, ((hes x).mp hx).2]
  · by_cases hp : p x
    · have : x ∉ keys l := fun hk => hx ((hes x).mpr ⟨hk, hp⟩)
      simp [hx, hp, (get?_eq_none_iff l x).mpr this]
    · simp [hx, hp]

/-- a loop of `add_edge(e, get_weight(e), md e)` (weighted) resp. `add_edge(e, metadata=md e)` over keys of `a` that are new
to `h`: the entries arrive with the source's weights -/
theorem spec_copyWeights (a : Spec) (ha : SWF a) (mf : Edge → Option Meta) (es : List Edge) (h : Spec) (hnd : es.Nodup)
    (hpres : ∀ e ∈ es, (get? a.edges e).isSome) (hfree : ∀ e ∈ es, get? h.edges e = none) (hw : h.weighted = a.weighted) :
    seqOps (fun h e => Spec.addEdge h e (if a.weighted then some (Spec.weightOf a e) else none) (mf e)) h es =
      ({ h with edges := h.edges ++ es.map fun e => (e, (Spec.weightOf a e, (mf e).getD [])),
                nodes := es.flatten.foldl touchMeta h.nodes }, .ok) := by
  have hm : (es.map fun e => (e, ((if h.weighted then (if a.weighted then some (Spec.weightOf a e) else none).getD one else one),
      (mf e).getD []))) = es.map fun e => (e, (Spec.weightOf a e, (mf e).getD [])) :=
    List.map_congr_left fun e he => by rw [hw, ha.copy_weight (hpres e he)]
  rw [← hm]
  exact spec_addNew_loop _ mf es h hnd (fun e he => ⟨(ha.key e (hpres e he)).2.1, hfree e he⟩)
    (by rw [hw]; cases a.weighted <;> simp)

/-- the loop `add_edge(e, get_weight(e), get_edge_metadata(e))` over keys of `a` that are new to `h` -/
theorem spec_copyEdges (a : Spec) (ha : SWF a) (es : List Edge) (h : Spec) (hnd : es.Nodup)
    (hpres : ∀ e ∈ es, (get? a.edges e).isSome) (hfree : ∀ e ∈ es, get? h.edges e = none) (hw : h.weighted = a.weighted) :
    seqOps (Spec.copyEdge a) h es =
      ({ h with edges := h.edges ++ es.map fun e => (e, (Spec.weightOf a e, Spec.emetaOf a e)),
                nodes := es.flatten.foldl touchMeta h.nodes }, .ok) :=
  spec_copyWeights a ha (fun e => some (Spec.emetaOf a e)) es h hnd hpres hfree hw

theorem get?_copied (a : Spec) (es : List Edge) (hpres : ∀ e ∈ es, (get? a.edges e).isSome) (x : Edge) :
    get? (es.map fun e => (e, (Spec.weightOf a e, Spec.emetaOf a e))) x = if x ∈ es then get? a.edges x else none := by
  rw [get?_map_mk]
  split
  · rename_i hx
    obtain ⟨⟨w, md⟩, hp⟩ := Option.isSome_iff_exists.mp (hpres x hx)
    rw [hp, (spec_weightOf_get a x w md hp).1, (spec_weightOf_get a x w md hp).2]
  · rfl

theorem mem_of_insideOf {ns : List Node} {e : Edge} (h : insideOf ns e = true) : ∀ m ∈ e, m ∈ ns := by
  intro m hm
  unfold insideOf at h
  have := List.all_eq_true.mp h m hm
  simpa using this

/-- outcome and result of `subhypergraph(nodes)` on an abstract hypergraph of a history -/
theorem spec_subhypergraph (a : Spec) (ha : SWF a) (ns : List Node) :
    ((Spec.subhypergraph a ns).2 = .ok ↔ ∀ n ∈ ns, (get? a.nodes n).isSome) ∧
    ((∀ n ∈ ns, (get? a.nodes n).isSome) →
      (Spec.subhypergraph a ns).1.weighted = a.weighted ∧
      (Spec.subhypergraph a ns).1.hmeta = initHMeta a.weighted [] ∧
      (∀ m, get? (Spec.subhypergraph a ns).1.nodes m = if m ∈ ns then get? a.nodes m else none) ∧
      keys (Spec.subhypergraph a ns).1.edges = (keys a.edges).filter (insideOf ns) ∧
      ∀ x, get? (Spec.subhypergraph a ns).1.edges x = if insideOf ns x then get? a.edges x else none) := by
  obtain ⟨h1, hadd, e1, e2, e3, e4⟩ := spec_addNodes_fresh a.weighted ns
  have h1pres : ∀ n ∈ ns, (get? h1.nodes n).isSome := fun n hn => by rw [e4 n, if_pos hn]; rfl
  have hrun : Spec.subhypergraph a ns = andThen (seqOps (Spec.copyNodeMeta a) h1 ns) fun h =>
      seqOps (Spec.copyEdge a) h ((keys a.edges).filter (insideOf ns)) := by
    unfold Spec.subhypergraph; rw [hadd]; rfl
  by_cases hall : ∀ n ∈ ns, (get? a.nodes n).isSome
  · obtain ⟨h2, hcp, c1, c2, c3, c4⟩ := spec_copyNodeMetas_ok a ns h1 h1pres hall
    have hmem : ∀ x, x ∈ (keys a.edges).filter (insideOf ns) ↔ x ∈ keys a.edges ∧ insideOf ns x = true :=
      fun x => List.mem_filter
    have hpres : ∀ e ∈ (keys a.edges).filter (insideOf ns), (get? a.edges e).isSome :=
      fun e he => (mem_keys_iff _ _).mp ((hmem e).mp he).1
    rw [hrun, hcp]
    simp only [andThen, spec_copyEdges a ha _ h2 ((List.filter_sublist).nodup ha.knd) hpres
      (fun e _ => by rw [c1, e1]; rfl) (c2.trans e2)]
    refine ⟨⟨fun _ => hall, fun _ => trivial⟩, fun _ => ⟨c2.trans e2, c3.trans e3, fun m => ?_, ?_, fun x => ?_⟩⟩
    · show get? (List.foldl touchMeta _ _) m = _
      rw [touchFold_present _ _ ?_, c4 m, e4 m]
      · by_cases hm : m ∈ ns <;> simp [hm]
      · intro m hm
        obtain ⟨e, he, hme⟩ := List.mem_flatten.mp hm
        have hmn := mem_of_insideOf ((hmem e).mp he).2 m hme
        rw [c4 m, if_pos hmn]; exact hall m hmn
    · show keys (_ ++ _) = _
      rw [c1, e1]; exact keys_keymap _ _
    · show get? (_ ++ _) x = _
      rw [c1, e1]
      exact (get?_copied a _ hpres x).trans (get?_pick a.edges _ (fun x => insideOf ns x = true) hmem x)
  · have hrej : (seqOps (Spec.copyNodeMeta a) h1 ns).2 = .rej := by
      cases h : (seqOps (Spec.copyNodeMeta a) h1 ns).2
      · exact absurd ((spec_copyNodeMetas a ns h1 h1pres).1.mp h) hall
      · rfl
    rw [hrun]
    refine ⟨⟨fun hok => ?_, fun h => absurd h hall⟩, fun h => absurd h hall⟩
    rw [andThen_rej hrej] at hok; cases hok

end C01
