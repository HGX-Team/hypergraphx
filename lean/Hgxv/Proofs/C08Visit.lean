import Hgxv.Model.C08Visit
import Hgxv.Proofs.C08
/-! # C08 - the loop of `_bfs` / `_dfs` over an arbitrary neighbour function (core Lean)

Every fact about `search` is an instance of one rule for invariants of the loop (`search_inv`); what the loop never loses is
said once (`Waits`: a node is visited or still in the work list); `bfs`, the `_bfs` of the component functions, is `search`
without a bound in FIFO order (`search_eq_bfs`). -/
namespace C08

/-- reachability in the graph given by `nbrs` -/
inductive NReach (nbrs : Nat → List Nat) : Nat → Nat → Prop
  | refl (a : Nat) : NReach nbrs a a
  | step {a b c : Nat} : NReach nbrs a b → c ∈ nbrs b → NReach nbrs a c

/-- a walk of exactly `k` steps in the graph given by `nbrs` -/
inductive NPath (nbrs : Nat → List Nat) : Nat → Nat → Nat → Prop
  | zero (a : Nat) : NPath nbrs a 0 a
  | step {a b c : Nat} {k : Nat} : NPath nbrs a k b → c ∈ nbrs b → NPath nbrs a (k + 1) c

theorem NPath.reach {nbrs : Nat → List Nat} {a b k : Nat} (h : NPath nbrs a k b) : NReach nbrs a b := by
  induction h with
  | zero => exact NReach.refl _
  | step _ hc ih => exact NReach.step ih hc

theorem nreach_npath {nbrs : Nat → List Nat} {a b : Nat} (h : NReach nbrs a b) : ∃ k, NPath nbrs a k b := by
  induction h with
  | refl => exact ⟨0, NPath.zero _⟩
  | step _ hc ih => obtain ⟨k, hk⟩ := ih; exact ⟨k + 1, NPath.step hk hc⟩

theorem NPath.zero_eq {nbrs : Nat → List Nat} {a b : Nat} (h : NPath nbrs a 0 b) : b = a := by
  cases h; rfl

theorem NPath.succ_inv {nbrs : Nat → List Nat} {a c k : Nat} (h : NPath nbrs a (k + 1) c) :
    ∃ b, NPath nbrs a k b ∧ c ∈ nbrs b := by
  cases h with
  | step hp hc => exact ⟨_, hp, hc⟩

theorem within_mono (md : Option Int) {j k : Nat} (hjk : j ≤ k) (h : within md k = true) : within md j = true := by
  cases md with
  | none => rfl
  | some m => simp only [within, decide_eq_true_eq] at h ⊢; omega

/-- a walk length the depth bound allows: the start, or one step beyond a depth that is still expanded -/
def okLen (md : Option Int) : Nat → Prop
  | 0 => True
  | k + 1 => within md k = true

theorem okLen_of_within (md : Option Int) (k : Nat) (h : within md k = true) : okLen md k := by
  cases k with
  | zero => trivial
  | succ j => exact within_mono md (Nat.le_succ j) h

theorem okLen_some (m : Int) (k : Nat) : okLen (some m) k ↔ (k : Int) ≤ max m 0 := by
  cases k with
  | zero => simp only [okLen, true_iff]; omega
  | succ j => simp only [okLen, within, decide_eq_true_eq]; omega

theorem okLen_mono (md : Option Int) {j k : Nat} (hjk : j ≤ k) (h : okLen md k) : okLen md j := by
  cases md with
  | none => cases j <;> trivial
  | some m => rw [okLen_some] at h ⊢; omega

theorem mem_push (dfs : Bool) (q ext : List (Nat × Nat)) (p : Nat × Nat) : p ∈ push dfs q ext ↔ p ∈ q ∨ p ∈ ext := by
  cases dfs <;> simp [push, or_comm]

theorem mem_expand (nbrs : Nat → List Nat) (md : Option Int) (x d : Nat) (vis : List Nat) (p : Nat × Nat) :
    p ∈ expand nbrs md x d vis ↔ within md d = true ∧ p.2 = d + 1 ∧ p.1 ∈ nbrs x ∧ p.1 ∉ vis := by
  unfold expand
  by_cases hw : within md d = true
  · simp only [hw, if_true, List.mem_map, List.mem_filter, decide_eq_true_eq, true_and]
    constructor
    · rintro ⟨n, ⟨h1, h2⟩, rfl⟩; exact ⟨rfl, h1, h2⟩
    · rintro ⟨h0, h1, h2⟩; exact ⟨p.1, ⟨h1, h2⟩, by rw [← h0]⟩
  · simp [hw]

/-- `y` is visited, or waits in the work list at a depth satisfying `Q` -/
def Waits (Q : Nat → Prop) (work : List (Nat × Nat)) (vis : List Nat) (y : Nat) : Prop :=
  y ∈ vis ∨ ∃ d, Q d ∧ (y, d) ∈ work

theorem Waits.skip {Q : Nat → Prop} {x d : Nat} {q : List (Nat × Nat)} {vis : List Nat} {y : Nat} (hx : x ∈ vis)
    (hw : Waits Q ((x, d) :: q) vis y) : Waits Q q vis y := by
  rcases hw with h1 | ⟨d', hq, h1⟩
  · exact Or.inl h1
  · rcases List.mem_cons.mp h1 with h2 | h2
    · left; rw [(Prod.mk.inj h2).1]; exact hx
    · exact Or.inr ⟨d', hq, h2⟩

theorem Waits.visit {Q : Nat → Prop} {x d : Nat} {q : List (Nat × Nat)} {vis : List Nat} {y : Nat} (dfs : Bool)
    (ext : List (Nat × Nat)) (hw : Waits Q ((x, d) :: q) vis y) : Waits Q (push dfs q ext) (x :: vis) y := by
  rcases hw with h1 | ⟨d', hq, h1⟩
  · exact Or.inl (List.mem_cons_of_mem _ h1)
  · rcases List.mem_cons.mp h1 with h2 | h2
    · left; rw [(Prod.mk.inj h2).1]; exact List.mem_cons_self
    · exact Or.inr ⟨d', hq, (mem_push dfs _ _ _).mpr (Or.inl h2)⟩

theorem Waits.of_nil {Q : Nat → Prop} {vis : List Nat} {y : Nat} (hw : Waits Q [] vis y) : y ∈ vis :=
  hw.elim id (fun ⟨_, _, hd⟩ => absurd hd List.not_mem_nil)

section Generic
variable (univ : List Nat) (nbrs : Nat → List Nat) (h : ∀ x, x ∉ univ → nbrs x = []) (md : Option Int) (dfs : Bool)

theorem search_nil (vis : List Nat) : search univ nbrs h md dfs [] vis = vis := by
  rw [search]

theorem search_skip {x : Nat} (d : Nat) (q : List (Nat × Nat)) {vis : List Nat} (hx : x ∈ vis) :
    search univ nbrs h md dfs ((x, d) :: q) vis = search univ nbrs h md dfs q vis := by
  rw [search, if_pos hx]

theorem search_visit {x : Nat} (d : Nat) (q : List (Nat × Nat)) {vis : List Nat} (hx : x ∉ vis) :
    search univ nbrs h md dfs ((x, d) :: q) vis
      = search univ nbrs h md dfs (push dfs q (expand nbrs md x d (x :: vis))) (x :: vis) := by
  rw [search, if_neg hx]

/-- A property of the loop state (work list, visited set) that popping a visited node and visiting a new node both
preserve holds when the loop ends.  Every fact about `search` below is an instance. -/
theorem search_inv (P : List (Nat × Nat) → List Nat → Prop)
    (hskip : ∀ x d q vis, x ∈ vis → P ((x, d) :: q) vis → P q vis)
    (hvisit : ∀ x d q vis, x ∉ vis → P ((x, d) :: q) vis → P (push dfs q (expand nbrs md x d (x :: vis))) (x :: vis)) :
    ∀ (work : List (Nat × Nat)) (vis : List Nat), P work vis → P [] (search univ nbrs h md dfs work vis) := by
  intro work vis
  induction work, vis using search.induct univ nbrs h md dfs with
  | case1 vis => intro hp; rw [search_nil]; exact hp
  | case2 x d q vis hx ih => intro hp; rw [search_skip univ nbrs h md dfs d q hx]; exact ih (hskip x d q vis hx hp)
  | case3 x d q vis hx ih => intro hp; rw [search_visit univ nbrs h md dfs d q hx]; exact ih (hvisit x d q vis hx hp)

/-- the visited listing never repeats a node (it models a Python `set`) -/
theorem search_nodup (work : List (Nat × Nat)) (vis : List Nat) (hv : vis.Nodup) :
    (search univ nbrs h md dfs work vis).Nodup :=
  search_inv univ nbrs h md dfs (fun _ vis => vis.Nodup) (fun _ _ _ _ _ hp => hp)
    (fun _ _ _ _ hx hp => List.nodup_cons.mpr ⟨hx, hp⟩) work vis hv

theorem search_mem (y : Nat) (work : List (Nat × Nat)) (vis : List Nat) (hy : y ∈ vis ∨ ∃ d, (y, d) ∈ work) :
    y ∈ search univ nbrs h md dfs work vis :=
  (search_inv univ nbrs h md dfs (fun work vis => Waits (fun _ => True) work vis y) (fun _ _ _ _ hx => Waits.skip hx)
    (fun _ _ _ _ _ => Waits.visit dfs _) work vis (hy.imp_right fun ⟨d, hd⟩ => ⟨d, trivial, hd⟩)).of_nil

/-- Soundness: whatever is visited was reached by a walk from the source whose length the depth bound allows - and which
is shorter than the number of visited nodes, since a node popped at depth `d` has at least `d` visited nodes before it. -/
theorem search_sound (s y : Nat) (hy : y ∈ search univ nbrs h md dfs [(s, 0)] []) :
    ∃ k, NPath nbrs s k y ∧ okLen md k ∧ k < (search univ nbrs h md dfs [(s, 0)] []).length := by
  refine (search_inv univ nbrs h md dfs
    (fun work vis => (∀ p ∈ work, NPath nbrs s p.2 p.1 ∧ okLen md p.2 ∧ p.2 ≤ vis.length) ∧
      ∀ y ∈ vis, ∃ k, NPath nbrs s k y ∧ okLen md k ∧ k < vis.length) ?_ ?_ [(s, 0)] [] ?_).2 y hy
  · intro x d q vis _ hp
    exact ⟨fun p hp' => hp.1 p (List.mem_cons_of_mem _ hp'), hp.2⟩
  · intro x d q vis _ hp
    obtain ⟨hxp, hxo, hxl⟩ := hp.1 (x, d) List.mem_cons_self
    constructor
    · intro p hp'
      rcases (mem_push dfs _ _ p).mp hp' with h1 | h1
      · obtain ⟨a, b, c⟩ := hp.1 p (List.mem_cons_of_mem _ h1)
        exact ⟨a, b, Nat.le_succ_of_le c⟩
      · obtain ⟨hw, hd, hn, _⟩ := (mem_expand nbrs md x d _ p).mp h1
        rw [hd]
        exact ⟨NPath.step hxp hn, hw, Nat.succ_le_succ hxl⟩
    · intro z hz
      rcases List.mem_cons.mp hz with h1 | h1
      · rw [h1]; exact ⟨d, hxp, hxo, Nat.lt_succ_of_le hxl⟩
      · obtain ⟨k, a, b, c⟩ := hp.2 z h1
        exact ⟨k, a, b, Nat.lt_succ_of_lt c⟩
  · refine ⟨fun p hp => ?_, fun _ hy => absurd hy List.not_mem_nil⟩
    rw [List.mem_singleton.mp hp]
    exact ⟨NPath.zero s, trivial, Nat.le_refl 0⟩

theorem search_closed (work : List (Nat × Nat)) (vis : List Nat)
    (hinv : ∀ v ∈ vis, ∀ c ∈ nbrs v, c ∈ vis ∨ ∃ d, (c, d) ∈ work) :
    ∀ v ∈ search univ nbrs h none dfs work vis, ∀ c ∈ nbrs v, c ∈ search univ nbrs h none dfs work vis := by
  have := search_inv univ nbrs h none dfs (fun work vis => ∀ v ∈ vis, ∀ c ∈ nbrs v, Waits (fun _ => True) work vis c)
    (fun _ _ _ _ hx hp v hv c hc => (hp v hv c hc).skip hx) ?_ work vis
    (fun v hv c hc => (hinv v hv c hc).imp_right fun ⟨d, hd⟩ => ⟨d, trivial, hd⟩)
  · exact fun v hv c hc => (this v hv c hc).of_nil
  · intro x d q vis _ hp v hv c hc
    rcases List.mem_cons.mp hv with hvx | hv'
    · by_cases hcv : c ∈ x :: vis
      · exact Or.inl hcv
      · exact Or.inr ⟨d + 1, trivial, (mem_push dfs _ _ _).mpr
          (Or.inr ((mem_expand nbrs none x d _ _).mpr ⟨rfl, rfl, hvx ▸ hc, hcv⟩))⟩
    · exact (hp v hv' c hc).visit dfs _

theorem search_unbounded (s y : Nat) : y ∈ search univ nbrs h none dfs [(s, 0)] [] ↔ NReach nbrs s y := by
  constructor
  · intro hy
    obtain ⟨k, hk, _⟩ := search_sound univ nbrs h none dfs s y hy
    exact hk.reach
  · intro hr
    induction hr with
    | refl => exact search_mem univ nbrs h none dfs s _ _ (Or.inr ⟨0, List.mem_cons_self⟩)
    | step _ hcb ih => exact search_closed univ nbrs h dfs _ _ (fun _ hv => absurd hv List.not_mem_nil) _ ih _ hcb

/-- the depth-aware `_bfs` with `max_depth=None` is the `_bfs` of the component functions, list for list -/
theorem search_eq_bfs : ∀ (work : List (Nat × Nat)) (vis : List Nat),
    search univ nbrs h none false work vis = bfs univ nbrs h (work.map (·.1)) vis := by
  intro work vis
  induction work, vis using search.induct univ nbrs h none false with
  | case1 vis => rw [search_nil, List.map_nil, bfs]
  | case2 x d q vis hx ih => rw [search_skip univ nbrs h none false d q hx, List.map_cons, bfs, if_pos hx]; exact ih
  | case3 x d q vis hx ih =>
    rw [search_visit univ nbrs h none false d q hx, List.map_cons, bfs, if_neg hx, ih]
    congr 1
    simp [push, expand, within, List.map_map, Function.comp_def]

end Generic

/-- the termination universe (and the proof that comes with it) does not influence the result -/
theorem search_congr {univ univ' : List Nat} {nbrs nbrs' : Nat → List Nat} (h : ∀ x, x ∉ univ → nbrs x = [])
    (h' : ∀ x, x ∉ univ' → nbrs' x = []) (e : nbrs = nbrs') (md : Option Int) (dfs : Bool) (work : List (Nat × Nat))
    (vis : List Nat) : search univ nbrs h md dfs work vis = search univ' nbrs' h' md dfs work vis := by
  subst e
  induction work, vis using search.induct univ nbrs h md dfs with
  | case1 vis => rw [search_nil, search_nil]
  | case2 x d q vis hx ih => rw [search_skip univ nbrs h md dfs d q hx, search_skip univ' nbrs h' md dfs d q hx]; exact ih
  | case3 x d q vis hx ih => rw [search_visit univ nbrs h md dfs d q hx, search_visit univ' nbrs h' md dfs d q hx]; exact ih

namespace Link

theorem bfs_univ (univ univ' : List Nat) (nbrs : Nat → List Nat) (h : ∀ x, x ∉ univ → nbrs x = [])
    (h' : ∀ x, x ∉ univ' → nbrs x = []) :
    ∀ (queue visited : List Nat), bfs univ nbrs h queue visited = bfs univ' nbrs h' queue visited := by
  intro queue visited
  have e : (queue.map fun x => (x, 0)).map (·.1) = queue := by rw [List.map_map]; exact List.map_id' queue
  rw [← e, ← search_eq_bfs, ← search_eq_bfs]
  exact search_congr h h' rfl none false _ _

end Link

/-! ## breadth-first search with a depth bound: exactly the ball -/

section Ball
variable (univ : List Nat) (nbrs : Nat → List Nat) (h : ∀ x, x ∉ univ → nbrs x = []) (md : Option Int) (s : Nat)

/-- the invariant of the FIFO loop: the depths in the work list never decrease and span at most two levels; the source is
visited or waits at depth 0; every visited node that the bound lets expand has each neighbour visited or waiting at a
depth not beyond the walk -/
structure QInv (work : List (Nat × Nat)) (visited : List Nat) : Prop where
  sorted : work.Pairwise (fun p q => p.2 ≤ q.2)
  near : ∀ p ∈ work, ∀ q ∈ work, q.2 ≤ p.2 + 1
  source : Waits (· = 0) work visited s
  expanded : ∀ v ∈ visited, ∀ k, NPath nbrs s k v → within md k = true → ∀ c ∈ nbrs v, Waits (· ≤ k + 1) work visited c

/-- whatever a walk shorter than every waiting depth reaches is visited already -/
theorem QInv.ball {work : List (Nat × Nat)} {visited : List Nat} (hi : QInv nbrs md s work visited) :
    ∀ k y, NPath nbrs s k y → okLen md k → (∀ p ∈ work, k < p.2) → y ∈ visited := by
  intro k
  induction k with
  | zero =>
    intro y hp _ hw
    rw [hp.zero_eq]
    exact hi.source.elim id (fun ⟨_, hd, h0⟩ => absurd (hw _ h0) (Nat.not_lt.mpr (Nat.le_of_eq hd)))
  | succ j ih =>
    intro y hp hok hw
    obtain ⟨b, hb, hy⟩ := hp.succ_inv
    have hbv := ih b hb (okLen_of_within md j hok) (fun p hp => Nat.lt_of_succ_lt (hw p hp))
    exact (hi.expanded b hbv j hb hok y hy).elim id (fun ⟨_, hd, h1⟩ => absurd (hw _ h1) (Nat.not_lt.mpr hd))

theorem qinv_skip (x d : Nat) (q : List (Nat × Nat)) (visited : List Nat) (hx : x ∈ visited)
    (hi : QInv nbrs md s ((x, d) :: q) visited) : QInv nbrs md s q visited :=
  ⟨hi.sorted.of_cons, fun p hp r hr => hi.near p (List.mem_cons_of_mem _ hp) r (List.mem_cons_of_mem _ hr),
    hi.source.skip hx, fun v hv k hp hw c hc => (hi.expanded v hv k hp hw c hc).skip hx⟩

/-- visiting a new node keeps the invariant: it is popped at its distance, so the bound lets it expand whenever a walk to
it is short enough to matter -/
theorem qinv_visit (x d : Nat) (q : List (Nat × Nat)) (visited : List Nat) (hx : x ∉ visited)
    (hi : QInv nbrs md s ((x, d) :: q) visited) :
    QInv nbrs md s (push false q (expand nbrs md x d (x :: visited))) (x :: visited) := by
  have hq : ∀ p ∈ q, d ≤ p.2 ∧ p.2 ≤ d + 1 := fun p hp =>
    ⟨List.rel_of_pairwise_cons hi.sorted hp, hi.near (x, d) List.mem_cons_self p (List.mem_cons_of_mem _ hp)⟩
  have hext : ∀ p ∈ expand nbrs md x d (x :: visited), p.2 = d + 1 := fun p hp =>
    ((mem_expand nbrs md x d _ p).mp hp).2.1
  have hall : ∀ p ∈ push false q (expand nbrs md x d (x :: visited)), d ≤ p.2 ∧ p.2 ≤ d + 1 := fun p hp =>
    ((mem_push false _ _ p).mp hp).elim (hq p) (fun h1 => by rw [hext p h1]; exact ⟨Nat.le_succ d, Nat.le_refl _⟩)
  refine ⟨?_, fun p hp r hr => Nat.le_trans (hall r hr).2 (Nat.succ_le_succ (hall p hp).1), hi.source.visit false _, ?_⟩
  · refine List.pairwise_append.mpr ⟨hi.sorted.of_cons, ?_, fun p hp r hr => by rw [hext r hr]; exact (hq p hp).2⟩
    exact List.pairwise_of_forall_mem_list (fun p hp r hr => by rw [hext p hp, hext r hr]; exact Nat.le_refl _)
  · intro v hv k hp hw c hc
    rcases List.mem_cons.mp hv with hvx | hv'
    · -- the popped node: a walk shorter than its depth would have made it visited already
      subst hvx
      have hdk : d ≤ k := by
        apply Decidable.byContradiction
        intro hlt
        refine hx (hi.ball nbrs md s k v hp (okLen_of_within md k hw) (fun p hp' => ?_))
        rcases List.mem_cons.mp hp' with h1 | h1
        · rw [h1]; exact Nat.lt_of_not_le hlt
        · exact Nat.lt_of_lt_of_le (Nat.lt_of_not_le hlt) (hq p h1).1
      by_cases hcv : c ∈ v :: visited
      · exact Or.inl hcv
      · exact Or.inr ⟨d + 1, Nat.succ_le_succ hdk, List.mem_append_right _
          ((mem_expand nbrs md v d _ _).mpr ⟨within_mono md hdk hw, rfl, hc, hcv⟩)⟩
    · exact (hi.expanded v hv' k hp hw c hc).visit false _

/-- `_bfs(start, max_depth)` visits exactly the nodes a walk of an allowed length reaches -/
theorem bfs_ball (y : Nat) : y ∈ search univ nbrs h md false [(s, 0)] [] ↔ ∃ k, NPath nbrs s k y ∧ okLen md k := by
  constructor
  · intro hy
    obtain ⟨k, hp, hok, _⟩ := search_sound univ nbrs h md false s y hy
    exact ⟨k, hp, hok⟩
  · rintro ⟨k, hp, hok⟩
    have hi := search_inv univ nbrs h md false (QInv nbrs md s) (qinv_skip nbrs md s) (qinv_visit nbrs md s) [(s, 0)] []
      ⟨List.pairwise_singleton _ _, fun p hp q hq => by
          rw [List.mem_singleton.mp hp, List.mem_singleton.mp hq]; exact Nat.le_succ _,
        Or.inr ⟨0, rfl, List.mem_cons_self⟩, fun _ hv => absurd hv List.not_mem_nil⟩
    exact hi.ball nbrs md s k y hp hok (fun _ hp => absurd hp List.not_mem_nil)

end Ball

/-! ## evaluating the loop on concrete inputs

`bfs` and `search` are defined by well-founded recursion and do not reduce.  `searchN` is the same loop with a step budget;
whenever it finishes it returns what `search` returns, and it does reduce, so a test vector is checked by evaluation. -/

def searchN (nbrs : Nat → List Nat) (md : Option Int) (dfs : Bool) :
    Nat → List (Nat × Nat) → List Nat → Option (List Nat)
  | _, [], visited => some visited
  | 0, _ :: _, _ => none
  | n + 1, (x, d) :: q, visited =>
    if x ∈ visited then searchN nbrs md dfs n q visited
    else searchN nbrs md dfs n (push dfs q (expand nbrs md x d (x :: visited))) (x :: visited)

theorem search_of_searchN (univ : List Nat) (nbrs : Nat → List Nat) (h : ∀ x, x ∉ univ → nbrs x = []) (md : Option Int)
    (dfs : Bool) : ∀ (n : Nat) (work : List (Nat × Nat)) (visited r : List Nat),
    searchN nbrs md dfs n work visited = some r → search univ nbrs h md dfs work visited = r := by
  intro n
  induction n with
  | zero =>
    intro work visited r hr
    cases work with
    | nil => rw [search_nil]; exact Option.some.inj hr
    | cons p q => cases hr
  | succ n ih =>
    intro work visited r hr
    match work with
    | [] => rw [search_nil]; exact Option.some.inj hr
    | (x, d) :: q =>
      rw [searchN] at hr
      split at hr <;> rename_i hx
      · rw [search_skip univ nbrs h md dfs d q hx]; exact ih _ _ _ hr
      · rw [search_visit univ nbrs h md dfs d q hx]; exact ih _ _ _ hr

end C08
