import Hgxv.Model.C03Spec
import Hgxv.Proofs.C03Inv
/-! `AL.mapVals`; simulation: every public method keeps `Inv` and commutes with the abstraction `abs : Store → Spec`
(`Sim`, one `*_sim` per method, `applyOp_sim`, `step_sim`, `run_sim`; `applyOp_inv`, `applyOp_abs`, `step_inv`, `run_inv` are
the components), the store answers every query as its abstraction does, `Reachable` (core Lean only). -/
namespace AL
variable {α β γ : Type} [DecidableEq α]

def mapVals (f : β → γ) (l : List (α × β)) : List (α × γ) := l.map (fun p => (p.1, f p.2))

theorem get?_mapVals (f : β → γ) (l : List (α × β)) (k : α) : get? (mapVals f l) k = (get? l k).map f :=
  get?_map_val l f k

omit [DecidableEq α] in
theorem keys_mapVals (f : β → γ) (l : List (α × β)) : keys (mapVals f l) = keys l := keys_map_val l f

theorem mapVals_set (f : β → γ) (l : List (α × β)) (k : α) (v : β) :
    mapVals f (set l k v) = set (mapVals f l) k (f v) := map_val_set l f k v

theorem mapVals_erase (f : β → γ) (l : List (α × β)) (k : α) : mapVals f (erase l k) = erase (mapVals f l) k :=
  (erase_map_val l f k).symm

omit [DecidableEq α] in
theorem mapVals_congr (f g : β → γ) (l : List (α × β)) (h : ∀ p ∈ l, f p.2 = g p.2) : mapVals f l = mapVals g l :=
  List.map_congr_left fun p hp => by rw [h p hp]

theorem mapVals_update (f g : β → γ) (l : List (α × β)) (k : α) (b : β) (hnd : (keys l).Nodup)
    (hget : get? l k = some b) (hinj : ∀ p ∈ l, p.2 = b → p.1 = k) (hfg : ∀ p ∈ l, p.2 ≠ b → g p.2 = f p.2) :
    mapVals g l = set (mapVals f l) k (g b) := map_val_update f g l k b hnd hget hinj hfg

end AL

namespace C03
open AL

def valOf (s : Store) (id : Nat) : Int × Meta := ((get? s.weights id).getD one, (get? s.emeta id).getD [])

theorem records_eq (s : Store) : records s = mapVals (valOf s) s.edgeList := rfl

theorem get?_records (s : Store) (k : Key) : get? (records s) k = (get? s.edgeList k).map (valOf s) := by
  rw [records_eq, get?_mapVals]

theorem keys_records (s : Store) : keys (records s) = edgeKeys s := by
  rw [records_eq, keys_mapVals]; rfl

theorem abs_eq_iff (s : Store) (sp : Spec) :
    abs s = sp ↔ s.weighted = sp.weighted ∧ s.nmeta = sp.nodes ∧ records s = sp.recs ∧ s.hmeta = sp.hmeta := by
  cases sp; simp [abs]

theorem touchNodes_nmeta_eq (s : Store) (ns : List Node) : (touchNodes s ns).nmeta = ns.foldl touchTable s.nmeta := by
  induction ns generalizing s with
  | nil => rfl
  | cons n ns ih => simp only [touchNodes, List.foldl_cons] at *; rw [ih, touchNode_nmeta_eq]; rfl

theorem fillMeta_fields (s : Store) (n : Node) (md : Meta) :
    (fillMeta s n md).nmeta = fillTable s.nmeta n md ∧ (fillMeta s n md).edgeList = s.edgeList ∧
    (fillMeta s n md).weights = s.weights ∧ (fillMeta s n md).emeta = s.emeta ∧
    (fillMeta s n md).weighted = s.weighted ∧ (fillMeta s n md).hmeta = s.hmeta := by
  unfold fillMeta fillTable; split <;> simp_all

theorem records_congr (s1 s2 : Store) (h1 : s1.edgeList = s2.edgeList) (h2 : s1.weights = s2.weights)
    (h3 : s1.emeta = s2.emeta) : records s1 = records s2 := by
  simp [records, h1, h2, h3]

theorem addNode_abs (s : Store) (n : Node) (md : Option Meta) : abs (addNode s n md) = Spec.addNode (abs s) n md := by
  have hf := fillMeta_fields (touchNode s n) n (md.getD [])
  have ht := touchNode_fields s n
  rw [abs_eq_iff]
  refine ⟨?_, ?_, ?_, ?_⟩
  · simp only [addNode, Spec.addNode, abs]; rw [hf.2.2.2.2.1, ht.2.2.2.2.2.1]
  · simp only [addNode, Spec.addNode, abs]; rw [hf.1, touchNode_nmeta_eq]; rfl
  · simp only [addNode, Spec.addNode, abs]
    exact records_congr _ _ (by rw [hf.2.1, ht.1]) (by rw [hf.2.2.1, ht.2.2.1]) (by rw [hf.2.2.2.1, ht.2.2.2.1])
  · simp only [addNode, Spec.addNode, abs]; rw [hf.2.2.2.2.2, ht.2.2.2.2.2.2]

theorem addEdgeNew_abs (s : Store) (k : Key) (wt : Int) (md : Meta) (h : Inv s)
    (hget : get? s.edgeList k = none) : abs (addEdgeNew s k wt md) = Spec.addKey (abs s) k wt md := by
  obtain ⟨p1, _, p3, p4, _, p6, p7⟩ := addEdgeNew_fields s k wt md
  have hnm : (addEdgeNew s k wt md).nmeta = k.2.foldl touchTable s.nmeta := by
    simp only [addEdgeNew]; rw [touchNodes_nmeta_eq]
  rw [abs_eq_iff]
  refine ⟨p6, ?_, ?_, p7⟩
  · simp only [Spec.addKey, abs]; exact hnm
  · simp only [Spec.addKey, abs]
    have hk : get? (records s) k = none := by rw [get?_records, hget]; rfl
    rw [hk]
    simp only [Spec.recVal]
    rw [records_eq, p1, mapVals_set]
    have hval : valOf (addEdgeNew s k wt md) s.nextId = (wt, md) := by simp [valOf, p3, p4]
    rw [hval]
    congr 1
    rw [records_eq]
    apply mapVals_congr
    intro p hp
    obtain ⟨k', id'⟩ := p
    have hr := h.rev_of_edge k' id' (get?_of_mem _ _ _ h.keysNodup hp)
    have hlt := h.id_lt _ _ hr
    have hne : s.nextId ≠ id' := by omega
    simp [valOf, p3, p4, get?_set, hne]

/-- changing the stored value of one edge id = dictionary assignment at its key -/
theorem records_update (s s' : Store) (k : Key) (id : Nat) (h : Inv s) (hget : get? s.edgeList k = some id)
    (hel : s'.edgeList = s.edgeList) (hother : ∀ i, i ≠ id → valOf s' i = valOf s i) :
    records s' = AL.set (records s) k (valOf s' id) := by
  have hinj : ∀ p ∈ s.edgeList, p.2 = id → p.1 = k := by
    intro p hp hpid
    have := edgeList_inj s h p hp (k, id) (mem_of_get? _ _ _ hget) hpid
    rw [this]
  rw [records_eq, hel, mapVals_update (valOf s) (valOf s') s.edgeList k id h.keysNodup hget hinj
    (fun p _ hne => hother p.2 hne), ← records_eq]

/-- an existing record: the value of its id changes as `Spec.recVal` says, every other id keeps its value -/
theorem addEdgeOld_abs (s : Store) (id : Nat) (k : Key) (wt : Int) (md : Meta) (h : Inv s)
    (hget : get? s.edgeList k = some id) : abs (addEdgeOld s id k wt md) = Spec.addKey (abs s) k wt md := by
  obtain ⟨w0, hw0⟩ := Option.isSome_iff_exists.mp ((h.wKeys id).mpr (by simp [h.rev_of_edge k id hget]))
  let s0 : Store := { s with weights := if s.weighted then AL.set s.weights id (((AL.get? s.weights id).getD 0) + wt) else s.weights,
                             emeta := AL.set s.emeta id md }
  have hf := touchNodes_fields s0 k.2
  have hv : ∀ i, valOf (addEdgeOld s id k wt md) i = valOf s0 i := fun i => by
    show valOf (touchNodes s0 k.2) i = _
    simp only [valOf]; rw [hf.2.2.1, hf.2.2.2.1]
  rw [abs_eq_iff]
  refine ⟨hf.2.2.2.2.2.1, touchNodes_nmeta_eq s0 k.2, ?_, hf.2.2.2.2.2.2⟩
  show records _ = AL.set (records s) k (Spec.recVal s.weighted (get? (records s) k) wt md)
  rw [records_update s (addEdgeOld s id k wt md) k id h hget hf.1 (fun i hi => ?_), get?_records, hget, hv]
  · congr 1
    cases hw : s.weighted <;> simp [valOf, Spec.recVal, s0, hw, hw0]
  · rw [hv]
    cases hw : s.weighted <;> simp [valOf, s0, hw, get?_set, Ne.symm hi]

theorem Spec.addEdge_eq (sp : Spec) (raw : List Nat) (t : TimeArg) (w : Option Int) (md : Option Meta) :
    Spec.addEdge sp raw t w md = match edgeArgs sp.weighted raw t w with
      | none => (sp, .rej)
      | some p => (Spec.addKey sp p.1 p.2 (md.getD []), .ok) :=
  edgeArgs_elim sp.weighted raw t w (sp, Out.rej) fun k wt => (Spec.addKey sp k wt (md.getD []), Out.ok)

theorem removeKeyId_abs (s : Store) (k : Key) (id : Nat) (h : Inv s) (hget : get? s.edgeList k = some id) :
    abs (removeKeyId s k id) = { abs s with recs := AL.erase (abs s).recs k } := by
  rw [abs_eq_iff]
  refine ⟨rfl, rfl, ?_, rfl⟩
  simp only [abs]
  rw [records_eq, records_eq, ← mapVals_erase]
  have : (removeKeyId s k id).edgeList = AL.erase s.edgeList k := rfl
  rw [this]
  apply mapVals_congr
  intro p hp
  have hp' := mem_of_mem_erase _ _ _ hp
  have hne : id ≠ p.2 := by
    intro hc
    have := edgeList_inj s h p hp' (k, id) (mem_of_get? _ _ _ hget) hc.symm
    subst this
    have hk := (get?_eq_none_iff (AL.erase s.edgeList k) k).mp (get?_erase_self _ _ h.keysNodup)
    exact hk (List.mem_map.mpr ⟨(k, id), hp, rfl⟩)
  simp only [valOf, removeKeyId]
  rw [get?_erase_ne _ _ _ hne, get?_erase_ne _ _ _ hne]

theorem isSome_recs (s : Store) (k : Key) : (get? (abs s).recs k).isSome = (get? s.edgeList k).isSome := by
  have hk : get? (abs s).recs k = (get? s.edgeList k).map (valOf s) := get?_records s k
  rw [hk]; cases get? s.edgeList k <;> rfl

/-- the store's call `r` keeps the invariant and is the map's call `r'` -/
def Sim (r : Store × Out) (r' : Spec × Out) : Prop := Inv r.1 ∧ abs r.1 = r'.1 ∧ r.2 = r'.2

theorem Sim.rej {s : Store} (h : Inv s) : Sim (s, .rej) (abs s, .rej) := ⟨h, rfl, rfl⟩

theorem Sim.ok {s : Store} {sp : Spec} (h : Inv s ∧ abs s = sp) : Sim (s, .ok) (sp, .ok) := ⟨h.1, h.2, rfl⟩

theorem removeKey_sim (s : Store) (h : Inv s) (k : Key) : Sim (removeKey s k) (Spec.removeKey (abs s) k) := by
  unfold removeKey Spec.removeKey
  rw [isSome_recs]
  cases hg : get? s.edgeList k with
  | none => exact Sim.rej h
  | some id => exact Sim.ok ⟨removeKeyId_inv s k id h hg, removeKeyId_abs s k id h hg⟩

theorem removeEdge_sim (s : Store) (h : Inv s) (raw : List Nat) (t : TimeArg) :
    Sim (removeEdge s raw t) (Spec.removeEdge (abs s) raw t) := by
  unfold removeEdge Spec.removeEdge
  cases mkKey raw t with
  | none => exact Sim.rej h
  | some k => exact removeKey_sim s h k

theorem removeEdges_sim (s : Store) (h : Inv s) (recs : List (TimeArg × List Nat)) :
    Sim (removeEdges s recs) (Spec.removeEdges (abs s) recs) := by
  unfold removeEdges Spec.removeEdges
  cases List.mapM (fun r => mkKey r.2 r.1) recs with
  | none => exact Sim.rej h
  | some ks =>
    simp only [isSome_recs]
    split
    · exact Sim.ok (ListLib.foldl_sim _ _ (fun s k hs => ⟨(removeKey_sim s hs k).1, (removeKey_sim s hs k).2.1⟩) ks s h)
    · exact Sim.rej h

theorem addNode_sim (s : Store) (h : Inv s) (n : Node) (md : Option Meta) :
    Inv (addNode s n md) ∧ abs (addNode s n md) = Spec.addNode (abs s) n md :=
  ⟨addNode_inv s h n md, addNode_abs s n md⟩

theorem addNodes_sim (s : Store) (h : Inv s) (ns : List Node) (mds : Option (List (Node × Meta))) :
    Sim (addNodes s ns mds) (Spec.addNodes (abs s) ns mds) := by
  unfold addNodes Spec.addNodes
  cases mds with
  | none => exact Sim.ok (ListLib.foldl_sim _ _ (fun s n hs => addNode_sim s hs n none) ns s h)
  | some d =>
    simp only []
    split
    · exact Sim.ok (ListLib.foldl_sim _ _ (fun s n hs => addNode_sim s hs n _) ns s h)
    · exact Sim.rej h

theorem addEdgeKey_sim (s : Store) (k : Key) (wt : Int) (md : Meta) (h : Inv s)
    (hk : Sorted k.2 ∧ k.2.Nodup) (hwt : s.weighted = false → wt = one) :
    Inv (addEdgeKey s k wt md) ∧ abs (addEdgeKey s k wt md) = Spec.addKey (abs s) k wt md := by
  unfold addEdgeKey
  cases hg : get? s.edgeList k with
  | none => exact ⟨addEdgeNew_inv s k wt md h hk hg hwt, addEdgeNew_abs s k wt md h hg⟩
  | some id => exact ⟨addEdgeOld_inv s id k wt md h hg, addEdgeOld_abs s id k wt md h hg⟩

theorem addEdge_sim (s : Store) (h : Inv s) (raw : List Nat) (hraw : raw.Nodup) (t : TimeArg) (w : Option Int)
    (md : Option Meta) : Sim (addEdge s raw t w md) (Spec.addEdge (abs s) raw t w md) := by
  rw [addEdge_eq, Spec.addEdge_eq, show (abs s).weighted = s.weighted from rfl]
  cases he : edgeArgs s.weighted raw t w with
  | none => exact Sim.rej h
  | some p =>
    obtain ⟨hk, hw⟩ := edgeArgs_some he
    exact Sim.ok (addEdgeKey_sim s _ _ _ h (hk ▸ ⟨canon_sorted raw, canon_nodup hraw⟩) hw)

theorem addEdgesLoop_sim (ws : Option (List Int)) (mds : Option (List Meta)) (l : List (List Nat × TimeArg))
    (hl : ∀ p ∈ l, p.1.Nodup) (i : Nat) (s : Store) (h : Inv s) :
    Inv (addEdgesLoop s ws mds i l) ∧ abs (addEdgesLoop s ws mds i l) = Spec.addEdgesLoop (abs s) ws mds i l := by
  induction l generalizing s i with
  | nil => exact ⟨h, rfl⟩
  | cons p l ih =>
    obtain ⟨h1, e1, _⟩ := addEdge_sim s h p.1 (hl p List.mem_cons_self) p.2 (nth? ws i) (nth? mds i)
    obtain ⟨h2, e2⟩ := ih (fun p hp => hl p (List.mem_cons_of_mem _ hp)) (i + 1) _ h1
    exact ⟨h2, e2.trans (congrArg (fun sp => Spec.addEdgesLoop sp ws mds (i + 1) l) e1)⟩

theorem addEdges_sim (s : Store) (h : Inv s) (raws : List (List Nat)) (hraws : ∀ r ∈ raws, r.Nodup)
    (ts : List TimeArg) (ws : Option (List Int)) (mds : Option (List Meta)) :
    Sim (addEdges s raws ts ws mds) (Spec.addEdges (abs s) raws ts ws mds) := by
  unfold addEdges Spec.addEdges
  have hl : ∀ p ∈ raws.zip ts, p.1.Nodup := fun p hp => hraws p.1 (List.of_mem_zip hp).1
  split
  · cases ws.isSome
    · exact Sim.ok (addEdgesLoop_sim ws mds _ hl 0 s h)
    · exact Sim.ok (addEdgesLoop_sim ws mds _ hl 0 _ (inv_setWeighted s h))
  · exact Sim.rej h

/-- an iteration of `remove_node`'s loop on the first record containing `n`: the invariant stays, the map drops (or
re-keys) that record, and the record leaves the list of those containing `n` -/
theorem dropIncident_step (s : Store) (h : Inv s) (n : Node) (keep : Bool) (k : Key) (id : Nat) (rest : List (Key × Nat))
    (hL : s.edgeList.filter (hasNode n) = (k, id) :: rest) :
    Inv (dropIncident s n keep id) ∧ abs (dropIncident s n keep id) = Spec.dropKey (abs s) n keep k ∧
    (dropIncident s n keep id).edgeList.filter (hasNode n) = rest := by
  obtain ⟨hp1, hp2⟩ := List.mem_filter.mp (hL ▸ List.mem_cons_self : (k, id) ∈ s.edgeList.filter (hasNode n))
  have hget := get?_of_mem _ _ _ h.keysNodup hp1
  have hinv1 := removeKeyId_inv s k id h hget
  have habs1 := removeKeyId_abs s k id h hget
  have h1 : (removeKeyId s k id).edgeList.filter (hasNode n) = rest := by
    show (AL.erase s.edgeList k).filter (hasNode n) = rest
    rw [filter_erase_pairs _ _ _ _ h.keysNodup hget, if_pos hp2, hL, List.erase_cons_head]
  have hk : get? (abs s).recs k = some (valOf s id) := by
    show get? (records s) k = _
    rw [get?_records, hget]; rfl
  rw [dropIncident_eq s h n keep k id hget]
  simp only [Spec.dropKey, hk, valOf]
  split
  · obtain ⟨hi, ha, _⟩ := addEdge_sim _ hinv1 (k.2.filter (· != n)) ((h.keyCanon k id hget).2.filter _) (.int k.1)
      (some ((get? s.weights id).getD one)) (some ((get? s.emeta id).getD []))
    exact ⟨hi, by rw [ha, habs1], (addEdge_filter _ _ n (by simp) _ _ _).trans h1⟩
  · exact ⟨hinv1, habs1, h1⟩

theorem dropLoop_sim (n : Node) (keep : Bool) (L : List (Key × Nat)) (s : Store) (h : Inv s)
    (hL : s.edgeList.filter (hasNode n) = L) :
    Inv ((L.map (·.2)).foldl (fun s id => dropIncident s n keep id) s) ∧
    abs ((L.map (·.2)).foldl (fun s id => dropIncident s n keep id) s) =
      (L.map (·.1)).foldl (fun sp k => Spec.dropKey sp n keep k) (abs s) ∧
    ((L.map (·.2)).foldl (fun s id => dropIncident s n keep id) s).edgeList.filter (hasNode n) = [] := by
  induction L generalizing s with
  | nil => exact ⟨h, rfl, hL⟩
  | cons p rest ih =>
    obtain ⟨h1, e1, h3⟩ := dropIncident_step s h n keep p.1 p.2 rest hL
    simp only [List.map_cons, List.foldl_cons, ← e1]
    exact ih _ h1 h3

theorem filter_mapVals_keys {γ : Type} (f : Nat → γ) (l : List (Key × Nat)) (q : Key → Bool) :
    ((mapVals f l).filter (fun p => q p.1)).map (·.1) = (l.filter (fun p => q p.1)).map (·.1) := by
  show keys _ = keys _
  rw [keys_filter_key, keys_filter_key, keys_mapVals]

theorem isSome_nodes_abs (s : Store) (h : Inv s) (n : Node) : (get? (abs s).nodes n).isSome = (get? s.adj n).isSome :=
  (Bool.eq_iff_iff.mpr (h.nt.same n)).symm

theorem removeNode_sim (s : Store) (h : Inv s) (n : Node) (keep : Bool) :
    Sim (removeNode s n keep) (Spec.removeNode (abs s) n keep) := by
  unfold removeNode Spec.removeNode
  rw [isSome_nodes_abs s h n]
  cases hadj : get? s.adj n with
  | none => exact Sim.rej h
  | some ids =>
    have hks : ((abs s).recs.filter (fun p => p.1.2.contains n)).map (·.1) = (s.edgeList.filter (hasNode n)).map (·.1) :=
      filter_mapVals_keys (valOf s) s.edgeList (fun k => k.2.contains n)
    simp only [Option.isSome_some, if_true]
    rw [hks, h.adj_char n ids hadj]
    obtain ⟨h1, e1, hnone⟩ := dropLoop_sim n keep _ s h rfl
    generalize ((s.edgeList.filter (hasNode n)).map (·.2)).foldl (fun s id => dropIncident s n keep id) s = s1 at h1 e1 hnone
    rw [← e1]
    refine Sim.ok ⟨?_, rfl⟩
    -- after the loop no record contains n
    have hnotin : ∀ k id, get? s1.edgeList k = some id → n ∉ k.2 := by
      intro k id hg hc
      have : (k, id) ∈ s1.edgeList.filter (hasNode n) :=
        List.mem_filter.mpr ⟨mem_of_get? _ _ _ hg, by simp [hasNode, hc]⟩
      rw [hnone] at this; cases this
    refine { h1 with nt := ⟨keys_erase_nodup _ _ h1.nt.adjNodup, keys_erase_nodup _ _ h1.nt.nmetaNodup, ?_⟩,
                     adj_char := ?_, nodes_in := ?_ }
    · exact isSome_erase_congr _ _ _ h1.nt.adjNodup h1.nt.nmetaNodup h1.nt.same
    · exact forall_get?_erase _ _ h1.nt.adjNodup _ h1.adj_char
    · intro k id hg m hm
      show (get? (AL.erase s1.adj n) m).isSome
      rw [get?_erase _ _ _ h1.nt.adjNodup, if_neg (show ¬ n = m from fun hc => hnotin k id hg (hc ▸ hm))]
      exact h1.nodes_in k id hg m hm

theorem removeNodes_sim (s : Store) (h : Inv s) (ns : List Node) (keep : Bool) :
    Sim (removeNodes s ns keep) (Spec.removeNodes (abs s) ns keep) := by
  unfold removeNodes Spec.removeNodes
  simp only [isSome_nodes_abs s h]
  split
  · exact Sim.ok (ListLib.foldl_sim _ _ (fun s n hs => ⟨(removeNode_sim s hs n keep).1, (removeNode_sim s hs n keep).2.1⟩) ns s h)
  · exact Sim.rej h

theorem abs_weights_set (s : Store) (h : Inv s) (k : Key) (id : Nat) (w : Int) (hget : get? s.edgeList k = some id) :
    abs { s with weights := AL.set s.weights id w } = { abs s with recs := AL.set (abs s).recs k (w, (valOf s id).2) } := by
  rw [abs_eq_iff]
  refine ⟨rfl, rfl, ?_, rfl⟩
  show records _ = AL.set (records s) k _
  refine (records_update s { s with weights := AL.set s.weights id w } k id h hget rfl
    (by intro i hi; simp [valOf, get?_set, Ne.symm hi])).trans ?_
  simp [valOf]

theorem abs_emeta_set (s : Store) (h : Inv s) (k : Key) (id : Nat) (md : Meta) (hget : get? s.edgeList k = some id) :
    abs { s with emeta := AL.set s.emeta id md } = { abs s with recs := AL.set (abs s).recs k ((valOf s id).1, md) } := by
  rw [abs_eq_iff]
  refine ⟨rfl, rfl, ?_, rfl⟩
  show records _ = AL.set (records s) k _
  refine (records_update s { s with emeta := AL.set s.emeta id md } k id h hget rfl
    (by intro i hi; simp [valOf, get?_set, Ne.symm hi])).trans ?_
  simp [valOf]

/-- either no record (on both sides) or a live id whose record the map holds under the same key -/
theorem idOf_cases (s : Store) (h : Inv s) (raw : List Nat) (t : TimeArg) :
    (idOf s raw t = none ∧ Spec.recOf (abs s) raw t = none) ∨
    ∃ k id, idOf s raw t = some id ∧ Spec.recOf (abs s) raw t = some (k, valOf s id) ∧ get? s.edgeList k = some id ∧
      (get? s.weights id).isSome ∧ (get? s.emeta id).isSome := by
  unfold idOf Spec.recOf
  cases mkKey raw t with
  | none => exact .inl ⟨rfl, rfl⟩
  | some k =>
    simp only [Option.bind_some, show get? (abs s).recs k = (get? s.edgeList k).map (valOf s) from get?_records s k]
    cases hg : get? s.edgeList k with
    | none => exact .inl ⟨rfl, rfl⟩
    | some id =>
      have hr : (get? s.rev id).isSome := by rw [h.rev_of_edge k id hg]; rfl
      exact .inr ⟨k, id, rfl, rfl, hg, (h.wKeys id).mpr hr, (h.mKeys id).mpr hr⟩

theorem emeta_set_sim (s : Store) (h : Inv s) (k : Key) (id : Nat) (md : Meta) (hg : get? s.edgeList k = some id)
    (hm : (get? s.emeta id).isSome) :
    Inv { s with emeta := AL.set s.emeta id md } ∧
    abs { s with emeta := AL.set s.emeta id md } = { abs s with recs := AL.set (abs s).recs k ((valOf s id).1, md) } :=
  ⟨inv_emeta_set s h id md hm, abs_emeta_set s h k id md hg⟩

theorem setEdgeMeta_sim (s : Store) (h : Inv s) (raw : List Nat) (t : TimeArg) (md : Meta) :
    Sim (setEdgeMeta s raw t md) (Spec.setEdgeMeta (abs s) raw t md) := by
  unfold setEdgeMeta Spec.setEdgeMeta
  obtain ⟨e1, e2⟩ | ⟨k, id, e1, e2, hg, _, hm⟩ := idOf_cases s h raw t <;> rw [e1, e2]
  · exact Sim.rej h
  · exact Sim.ok (emeta_set_sim s h k id md hg hm)

theorem attrEdge_sim (s : Store) (h : Inv s) (raw : List Nat) (t : TimeArg) (a v : Nat) :
    Sim (attrEdge s raw t a v) (Spec.attrEdge (abs s) raw t a v) := by
  unfold attrEdge Spec.attrEdge
  obtain ⟨e1, e2⟩ | ⟨k, id, e1, e2, hg, _, hm⟩ := idOf_cases s h raw t <;> rw [e1, e2]
  · exact Sim.rej h
  · exact Sim.ok (emeta_set_sim s h k id _ hg hm)

theorem delAttrEdge_sim (s : Store) (h : Inv s) (raw : List Nat) (t : TimeArg) (a : Nat) :
    Sim (delAttrEdge s raw t a) (Spec.delAttrEdge (abs s) raw t a) := by
  unfold delAttrEdge Spec.delAttrEdge
  obtain ⟨e1, e2⟩ | ⟨k, id, e1, e2, hg, _, hm⟩ := idOf_cases s h raw t <;> rw [e1, e2]
  · exact Sim.rej h
  · show Sim (if (get? (valOf s id).2 a).isSome then _ else _) (if (get? (valOf s id).2 a).isSome then _ else _)
    split
    · exact Sim.ok (emeta_set_sim s h k id _ hg hm)
    · exact Sim.rej h

theorem setWeight_sim (s : Store) (h : Inv s) (raw : List Nat) (t : TimeArg) (w : Int) :
    Sim (setWeight s raw t w) (Spec.setWeight (abs s) raw t w) := by
  unfold setWeight Spec.setWeight
  rw [show (abs s).weighted = s.weighted from rfl]
  split
  · exact Sim.rej h
  · next hrej =>
    obtain ⟨e1, e2⟩ | ⟨k, id, e1, e2, hg, hw, _⟩ := idOf_cases s h raw t <;> rw [e1, e2]
    · exact Sim.rej h
    · refine Sim.ok ⟨inv_weights s h _ (keys_set_nodup _ _ _ h.wNodup) (isSome_set_of_isSome _ _ _ hw) ?_,
        abs_weights_set s h k id w hg⟩
      -- an unweighted store was only given weight 1
      intro hu
      refine forall_get?_set _ _ _ (fun _ w' => w' = one) ?_ (h.unw hu)
      simpa [hu] using hrej

theorem nmeta_set_sim (s : Store) (h : Inv s) (n : Node) (md : Meta) (hn : (get? s.nmeta n).isSome) :
    Inv { s with nmeta := AL.set s.nmeta n md } ∧
    abs { s with nmeta := AL.set s.nmeta n md } = { abs s with nodes := AL.set (abs s).nodes n md } :=
  ⟨inv_nmeta_set s h n md hn, rfl⟩

theorem applyOp_sim (s : Store) (h : Inv s) (o : SOp) (hwf : o.WF) : Sim (applyOp s o) (Spec.applyOp (abs s) o) := by
  cases o with
  | addNode n md => exact Sim.ok (addNode_sim s h n md)
  | addNodes ns mds => exact addNodes_sim s h ns mds
  | addEdge raw t w md => exact addEdge_sim s h raw hwf t w md
  | addEdges raws ts ws mds => exact addEdges_sim s h raws hwf ts ws mds
  | removeEdge raw t => exact removeEdge_sim s h raw t
  | removeEdges recs => exact removeEdges_sim s h recs
  | removeNode n keep => exact removeNode_sim s h n keep
  | removeNodes ns keep => exact removeNodes_sim s h ns keep
  | setWeight raw t w => exact setWeight_sim s h raw t w
  | setEdgeMeta raw t md => exact setEdgeMeta_sim s h raw t md
  | attrEdge raw t k v => exact attrEdge_sim s h raw t k v
  | delAttrEdge raw t k => exact delAttrEdge_sim s h raw t k
  | setHMeta md => exact Sim.ok ⟨inv_hmeta s h md, rfl⟩
  | attrH k v => exact Sim.ok ⟨inv_hmeta s h _, rfl⟩
  | clear => exact Sim.ok ⟨inv_clear s, rfl⟩
  | setNodeMeta n md =>
    show Sim (setNodeMeta s n md) (Spec.setNodeMeta (abs s) n md)
    unfold setNodeMeta Spec.setNodeMeta
    rw [show (abs s).nodes = s.nmeta from rfl]
    split
    · next hn => exact Sim.ok (nmeta_set_sim s h n md hn)
    · exact Sim.rej h
  | attrNode n k v =>
    show Sim (attrNode s n k v) (Spec.attrNode (abs s) n k v)
    unfold attrNode Spec.attrNode
    rw [show (abs s).nodes = s.nmeta from rfl]
    cases hg : get? s.nmeta n with
    | none => exact Sim.rej h
    | some md => exact Sim.ok (nmeta_set_sim s h n _ (by rw [hg]; rfl))
  | delAttrNode n k =>
    show Sim (delAttrNode s n k) (Spec.delAttrNode (abs s) n k)
    unfold delAttrNode Spec.delAttrNode
    rw [show (abs s).nodes = s.nmeta from rfl]
    cases hg : get? s.nmeta n with
    | none => exact Sim.rej h
    | some md =>
      simp only []
      split
      · exact Sim.ok (nmeta_set_sim s h n _ (by rw [hg]; rfl))
      · exact Sim.rej h

theorem applyOp_inv (s : Store) (h : Inv s) (o : SOp) (hwf : o.WF) : Inv (applyOp s o).1 :=
  (applyOp_sim s h o hwf).1

theorem applyOp_abs (s : Store) (h : Inv s) (o : SOp) (hwf : o.WF) :
    abs (applyOp s o).1 = (Spec.applyOp (abs s) o).1 ∧ (applyOp s o).2 = (Spec.applyOp (abs s) o).2 :=
  (applyOp_sim s h o hwf).2

def absState (st : State) : SpecState := mapVals abs st

theorem abs_new (w : Bool) : abs (Store.new w) = Spec.new w := rfl

theorem StateInv.get {st : State} (hst : StateInv st) {i : Nat} {s : Store} (hg : get? st i = some s) : Inv s :=
  hst (i, s) (mem_of_get? _ _ _ hg)

theorem StateInv.set {st : State} (hst : StateInv st) (i : Nat) {s : Store} (hs : Inv s) : StateInv (AL.set st i s) := by
  intro p hp
  rcases mem_set _ _ _ _ hp with hp | hp
  · subst hp; exact hs
  · exact hst p hp

theorem step_sim (st : State) (hst : StateInv st) (op : Op) (hwf : op.WF) :
    StateInv (step st op).1 ∧ absState (step st op).1 = specStep (absState st) op := by
  cases op with
  | new i w => exact ⟨hst.set i (inv_new w), by simp only [step, specStep, absState, mapVals_set, abs_new]⟩
  | on i o =>
    simp only [step, specStep, absState, get?_mapVals]
    cases hg : get? st i with
    | none => exact ⟨hst, rfl⟩
    | some s =>
      obtain ⟨h1, e1, _⟩ := applyOp_sim s (hst.get hg) o hwf
      exact ⟨hst.set i h1, by simp only [Option.map_some, mapVals_set, e1]⟩
  | copy i j =>
    simp only [step, specStep, absState, get?_mapVals]
    cases hg : get? st i with
    | none => exact ⟨hst, rfl⟩
    | some s => exact ⟨hst.set j (hst.get hg), by simp only [Option.map_some, mapVals_set]⟩
  | query i q =>
    simp only [step, specStep]
    cases get? st i <;> exact ⟨hst, rfl⟩

theorem run_sim (ops : List Op) (hwf : ∀ op ∈ ops, op.WF) (st : State) (hst : StateInv st) :
    StateInv (run st ops) ∧ absState (run st ops) = specRun (absState st) ops := by
  induction ops generalizing st with
  | nil => exact ⟨hst, rfl⟩
  | cons op ops ih =>
    obtain ⟨h1, e1⟩ := step_sim st hst op (hwf op List.mem_cons_self)
    obtain ⟨h2, e2⟩ := ih (fun o ho => hwf o (List.mem_cons_of_mem _ ho)) _ h1
    exact ⟨h2, e2.trans (congrArg (fun sst => specRun sst ops) e1)⟩

theorem step_inv (st : State) (hst : StateInv st) (op : Op) (hwf : op.WF) : StateInv (step st op).1 :=
  (step_sim st hst op hwf).1

theorem run_inv (ops : List Op) (hwf : ∀ op ∈ ops, op.WF) (st : State) (hst : StateInv st) : StateInv (run st ops) :=
  (run_sim ops hwf st hst).1

/-- the outcome (accepted / rejected) of every mutating call is the outcome on the map -/
theorem step_out_abs (st : State) (hst : StateInv st) (i : Nat) (o : SOp) (hwf : o.WF) :
    (step st (.on i o)).2 = match get? (absState st) i with
      | none => .out .rej
      | some sp => .out (Spec.applyOp sp o).2 := by
  simp only [step, absState, get?_mapVals]
  cases hg : get? st i with
  | none => rfl
  | some s =>
    simp only [Option.map_some]
    rw [(applyOp_abs s (hst.get hg) o hwf).2]

/-- a record of the store has a weight and a metadata entry, so both lookups read the value stored in the map -/
theorem lookups_abs (s : Store) (h : Inv s) (k : Key) :
    weightOfKey s k = (get? (abs s).recs k).map (·.1) ∧ metaOfKey s k = (get? (abs s).recs k).map (·.2) := by
  rw [show get? (abs s).recs k = (get? s.edgeList k).map (valOf s) from get?_records s k]
  unfold weightOfKey metaOfKey
  cases hg : get? s.edgeList k with
  | none => exact ⟨rfl, rfl⟩
  | some id =>
    have hl : (get? s.rev id).isSome := by rw [h.rev_of_edge k id hg]; rfl
    obtain ⟨w, hw⟩ := Option.isSome_iff_exists.mp ((h.wKeys id).mpr hl)
    obtain ⟨m, hm⟩ := Option.isSome_iff_exists.mp ((h.mKeys id).mpr hl)
    simp [valOf, hw, hm]

theorem weightOfKey_abs (s : Store) (h : Inv s) (k : Key) : weightOfKey s k = (get? (abs s).recs k).map (·.1) :=
  (lookups_abs s h k).1

theorem metaOfKey_abs (s : Store) (h : Inv s) (k : Key) : metaOfKey s k = (get? (abs s).recs k).map (·.2) :=
  (lookups_abs s h k).2

theorem inc_abs (s : Store) (h : Inv s) (n : Node) :
    (get? s.adj n).map (fun ids => ids.filterMap (get? s.rev)) =
      if (get? (abs s).nodes n).isSome then some ((keys (abs s).recs).filter (fun k => k.2.contains n)) else none := by
  have hsame := h.nt.same n
  have hkeys : keys (abs s).recs = edgeKeys s := keys_records s
  cases hadj : get? s.adj n with
  | none =>
    have : (get? (abs s).nodes n).isSome = false := by
      simp only [abs]
      cases h2 : (get? s.nmeta n).isSome
      · rfl
      · have := hsame.mpr h2; simp [hadj] at this
    simp [this]
  | some ids =>
    have : (get? (abs s).nodes n).isSome = true := by
      simp only [abs]; exact hsame.mp (by simp [hadj])
    simp only [this, if_true, Option.map_some, hkeys]
    congr 1
    exact inc_ids s h n ids hadj

theorem view_abs (s : Store) (h : Inv s) :
    view s = { Spec.view (abs s) with idMeta := s.emeta, items := s.edgeList } := by
  simp only [view, Spec.view]
  congr 1
  · exact (keys_records s).symm
  · funext k; exact weightOfKey_abs s h k
  · funext k; exact metaOfKey_abs s h k
  · funext k; exact (isSome_recs s k).symm
  · funext n; exact inc_abs s h n

theorem answer_ignores_ids (v : View) (im : List (Nat × Meta)) (it : List (Key × Nat)) (q : Query)
    (hq : q.exposesIds = false) : V.answer { v with idMeta := im, items := it } q = V.answer v q := by
  cases q <;> first | rfl | (rename_i b; cases b <;> rfl) | (simp [Query.exposesIds] at hq)

/-- every query (except the two id listings) is answered by the store exactly as by the map of its history -/
theorem answer_abs (s : Store) (h : Inv s) (q : Query) (hq : q.exposesIds = false) :
    answer s q = Spec.answer (abs s) q := by
  unfold answer Spec.answer
  rw [view_abs s h]
  exact answer_ignores_ids _ _ _ q hq

/-- a store produced by some finite history of well-formed public calls (any slot, after any prefix) -/
def Reachable (s : Store) : Prop :=
  ∃ ops : List Op, (∀ op ∈ ops, op.WF) ∧ ∃ i, get? (run [] ops) i = some s

theorem reachable_inv {s : Store} (h : Reachable s) : Inv s := by
  obtain ⟨ops, hwf, i, hi⟩ := h
  exact run_inv ops hwf [] (by intro p hp; cases hp) (i, s) (mem_of_get? _ _ _ hi)

/-- what `Inv` says about the two tables of `abs s`: where the link files of the other properties start -/
theorem abs_tab {s : Store} (h : Inv s) :
    TabWF (fun k => k.2) (fun k => Sorted k.2 ∧ k.2.Nodup) one (abs s).weighted (abs s).nodes (abs s).recs :=
  TabWF.of_ids s.edgeList s.weights s.emeta one [] h.nt.nmetaNodup h.keysNodup
    (fun k id hid => ⟨h.keyCanon k id hid, fun m hm =>
      (mem_keys_iff _ _).mpr ((h.nt.same m).mp (h.nodes_in k id hid m hm))⟩)
    (fun k id hid => (h.wKeys id).mpr (by rw [h.rev_of_edge _ _ hid]; rfl))
    h.unw

end C03
