import Hgxv.Model.C17Ext
import Hgxv.Proofs.C17Sum
import Hgxv.Proofs.C17Inv
import Mathlib.Data.Finset.Card
/-! The normalised hypergraph Laplacian of `HySC._extract_laplacian`: it is symmetric and annihilates the vector
`sqrt(degree)` - the reason why `extract_eigenvectors` drops the first eigenvector (`sorted_indices[1:K]`). -/
namespace C17
open Finset

variable {α : Type} [Field α] [LinearOrder α] [IsStrictOrderedRing α]

/-- hyperedges as the library stores them (columns of the incidence matrix): no repeated node, node indices below `N`,
not empty -/
structure EdgesOk (c : Cfg α) : Prop where
  nodup : ∀ e, e < c.E → (c.edge e).Nodup
  nodes : ∀ e, e < c.E → ∀ i ∈ c.edge e, i < c.N
  nonempty : ∀ e, e < c.E → c.edge e ≠ []

-- the direct instance path first (see `C17Psi`)
attribute [local instance 10000] LinearOrder.toPartialOrder PartialOrder.toPreorder Preorder.toLT Preorder.toLE

omit [LinearOrder α] [IsStrictOrderedRing α] in
theorem lap_at (c : Cfg α) (sq : α → α) (wl : Bool) (i j : Nat) (hi : i < c.N) (hj : j < c.N) :
    at2 (lap c sq wl) i j = (if i = j then 1 else 0) - invS c sq i * lapM c wl i j * invS c sq j := by
  unfold lap; rw [at2_tab2 _ _ _ _ _ hi hj]

theorem lapM_symm (c : Cfg α) (wl : Bool) (i j : Nat) : lapM c wl i j = lapM c wl j i := by
  unfold lapM; apply sumR_congr; intro e _; ring

theorem lap_symm (c : Cfg α) (sq : α → α) (wl : Bool) (i j : Nat) : at2 (lap c sq wl) i j = at2 (lap c sq wl) j i := by
  unfold lap
  rw [at2_tab2_eq, at2_tab2_eq]
  by_cases h : i < c.N ∧ j < c.N
  · rw [if_pos h, if_pos h.symm, lapM_symm c wl i j]
    by_cases hij : i = j
    · rw [hij]
    · rw [if_neg hij, if_neg (Ne.symm hij)]; ring
  · rw [if_neg h, if_neg fun h' => h h'.symm]

omit [LinearOrder α] [IsStrictOrderedRing α] in
theorem lap_isolated (c : Cfg α) (sq : α → α) (wl : Bool) (i j : Nat) (hi : i < c.N) (hj : j < c.N) (h0 : degN c i = 0) :
    at2 (lap c sq wl) i j = if i = j then 1 else 0 := by
  rw [lap_at c sq wl i j hi hj]
  have : invS c sq i = 0 := by unfold invS; rw [if_pos h0]
  rw [this]; ring

omit [LinearOrder α] [IsStrictOrderedRing α] in
theorem sumR_edges (c : Cfg α) (g : List Nat → α) : sumR c.E (fun e => g (c.edge e)) = (c.edges.map g).sum := by
  unfold sumR Cfg.E Cfg.edge
  have : (List.range c.edges.length).map (fun e => g (c.edges.getD e [])) =
      ((List.range c.edges.length).map (fun e => c.edges.getD e [])).map g := by
    rw [List.map_map]; rfl
  rw [this, map_getD_range]

/-- `sum_e H[i, e] = node_degree[i]` -/
theorem sum_hEnt_edges (c : Cfg α) (i : Nat) : sumR c.E (fun e => hEnt c false i e) = (degN c i : α) := by
  have := sumR_edges c (fun e => if e.contains i then (1 : α) else 0)
  unfold degN
  rw [← sum_ind_filter, ← this]
  apply sumR_congr; intro e _
  unfold hEnt; simp

/-- `sum_j H[j, e] = hye_size[e]` -/
theorem sum_hEnt_nodes (c : Cfg α) (hE : EdgesOk c) (e : Nat) (he : e < c.E) :
    sumR c.N (fun j => hEnt c false j e) = ((c.edge e).length : α) := by
  rw [sumR_eq]
  have h1 : ∀ j ∈ range c.N, hEnt c false j e = if j ∈ (c.edge e).toFinset then (1 : α) else 0 := by
    intro j _; unfold hEnt; simp
  rw [Finset.sum_congr rfl h1, Finset.sum_ite, Finset.sum_const_zero, add_zero, Finset.sum_const, nsmul_eq_mul, mul_one]
  congr 1
  rw [← List.toFinset_card_of_nodup (hE.nodup e he)]
  congr 1
  ext j
  simp only [Finset.mem_filter, Finset.mem_range, List.mem_toFinset]
  exact ⟨fun h => h.2, fun h => ⟨hE.nodes e he j h, h⟩⟩

theorem invSize_mul (c : Cfg α) (hE : EdgesOk c) (e : Nat) (he : e < c.E) :
    invSize c e * ((c.edge e).length : α) = 1 := by
  have hl : (c.edge e).length ≠ 0 := by
    intro h; exact hE.nonempty e he (List.eq_nil_of_length_eq_zero h)
  unfold invSize
  rw [if_neg hl, ofN_cast]
  have : ((c.edge e).length : α) ≠ 0 := Nat.cast_ne_zero.mpr hl
  rw [one_div, inv_mul_cancel₀ this]

/-- row sums of `H De^{-1} H^T` are the node degrees -/
theorem lapM_rowsum (c : Cfg α) (hE : EdgesOk c) (i : Nat) : sumR c.N (fun j => lapM c false i j) = (degN c i : α) := by
  rw [← sum_hEnt_edges c i]
  unfold lapM
  rw [sumR_eq]
  simp_rw [sumR_eq]
  rw [Finset.sum_comm]
  apply Finset.sum_congr rfl
  intro e he
  have he' : e < c.E := by simpa using he
  rw [← Finset.mul_sum, ← sumR_eq, sum_hEnt_nodes c hE e he', mul_assoc, invSize_mul c hE e he', mul_one]

theorem lapM_isolated (c : Cfg α) (i j : Nat) (h0 : degN c j = 0) : lapM c false i j = 0 := by
  unfold lapM
  rw [sumR_eq]
  apply Finset.sum_eq_zero
  intro e he
  have he' : e < c.E := by simpa using he
  have : hEnt c false j e = 0 := by
    unfold hEnt
    have hm := edge_mem c e he'
    unfold degN at h0
    have hf : c.edges.filter (fun e => e.contains j) = [] := List.eq_nil_of_length_eq_zero h0
    rw [List.filter_eq_nil_iff] at hf
    rw [if_neg (hf _ hm)]
  rw [this]; ring

theorem invS_sq (c : Cfg α) (sq : α → α) (hsq : ∀ x, 0 ≤ x → sq x * sq x = x) (j : Nat) :
    invS c sq j * ((degN c j : α) * invS c sq j) = if degN c j = 0 then 0 else 1 := by
  unfold invS
  by_cases h : degN c j = 0
  · rw [if_pos h, if_pos h, zero_mul]
  · rw [if_neg h, if_neg h, ofN_cast, mul_left_comm, hsq _ (one_div_nonneg.mpr (Nat.cast_nonneg _)),
      mul_one_div_cancel (Nat.cast_ne_zero.mpr h)]

end C17
