import Hgxv.Proofs.C11List
import Hgxv.Proofs.SortLib
/-! # C11 - sorted node lists, `isort`, `subsetsOfSize` (core Lean only; sorting lemmas from `SortLib`) -/
namespace C11

/-- strictly increasing -/
abbrev SSorted (l : List Nat) : Prop := l.Pairwise (· < ·)

theorem SSorted.nodup {l : List Nat} (h : SSorted l) : l.Nodup :=
  List.Pairwise.imp (fun hab => Nat.ne_of_lt hab) h

theorem insertSorted_eq : insertSorted = NatSort.insert := by
  funext a l
  induction l with
  | nil => rfl
  | cons b bs ih => simp only [insertSorted, NatSort.insert, ih]

theorem isort_eq : isort = NatSort.isort := by
  funext l; simp only [isort, NatSort.isort, insertSorted_eq]

theorem mem_isort {x : Nat} {l : List Nat} : x ∈ isort l ↔ x ∈ l := isort_eq ▸ NatSort.mem_isort

theorem isort_sorted {l : List Nat} (h : l.Nodup) : SSorted (isort l) := isort_eq ▸ NatSort.isort_strict h

theorem isort_length (l : List Nat) : (isort l).length = l.length := isort_eq ▸ NatSort.isort_length l

theorem isort_perm_self (l : List Nat) : (isort l).Perm l := isort_eq ▸ NatSort.isort_perm l

theorem isort_congr {l l' : List Nat} (h : l.Perm l') : isort l = isort l' := isort_eq ▸ NatSort.isort_eq_of_perm h

theorem eq_of_sorted_of_mem_iff {l₁ l₂ : List Nat} (h₁ : SSorted l₁) (h₂ : SSorted l₂)
    (h : ∀ x, x ∈ l₁ ↔ x ∈ l₂) : l₁ = l₂ := NatSort.eq_of_mem_iff_of_strict h h₁ h₂

theorem isort_eq_of_mem_iff {o S : List Nat} (ho : o.Nodup) (hS : SSorted S)
    (h : ∀ x, x ∈ o ↔ x ∈ S) : isort o = S := isort_eq ▸ NatSort.isort_eq_of_mem_iff ho hS h

theorem mem_subsetsOfSize {k : Nat} {l e : List Nat} :
    e ∈ subsetsOfSize k l ↔ e.Sublist l ∧ e.length = k := by
  induction l generalizing k e with
  | nil =>
    cases k with
    | zero => simp [subsetsOfSize]
    | succ k =>
      simp only [subsetsOfSize, List.not_mem_nil, false_iff, not_and]
      intro h; have := List.sublist_nil.mp h; subst this; simp
  | cons a l ih =>
    cases k with
    | zero =>
      simp only [subsetsOfSize, List.mem_singleton, List.length_eq_zero_iff]
      constructor
      · intro h; subst h; exact ⟨List.nil_sublist _, rfl⟩
      · intro h; exact h.2
    | succ k =>
      simp only [subsetsOfSize, List.mem_append, List.mem_map, ih]
      constructor
      · rintro (⟨e', ⟨hs, hl⟩, rfl⟩ | ⟨hs, hl⟩)
        · exact ⟨List.Sublist.cons_cons a hs, by simp [hl]⟩
        · exact ⟨List.Sublist.cons a hs, hl⟩
      · rintro ⟨hs, hl⟩
        cases hs with
        | cons _ hs' => exact Or.inr ⟨hs', hl⟩
        | cons_cons _ hs' =>
          rename_i e'
          exact Or.inl ⟨e', ⟨hs', by simpa using hl⟩, rfl⟩

theorem nodup_subsetsOfSize {k : Nat} {l : List Nat} (hl : l.Nodup) : (subsetsOfSize k l).Nodup := by
  induction l generalizing k with
  | nil => cases k <;> simp [subsetsOfSize]
  | cons a l ih =>
    have hnd := List.nodup_cons.mp hl
    cases k with
    | zero => simp [subsetsOfSize]
    | succ k =>
      simp only [subsetsOfSize]
      refine List.nodup_append.mpr ⟨?_, ih hnd.2, ?_⟩
      · refine List.Pairwise.map _ ?_ (ih (k := k) hnd.2)
        intro x y hxy h; exact hxy (List.cons.inj h).2
      · intro x hx y hy hxy
        subst hxy
        obtain ⟨e', _, rfl⟩ := List.mem_map.mp hx
        have := (mem_subsetsOfSize.mp hy).1
        exact hnd.1 (this.subset (by simp))

theorem length_subsetsOfSize {k : Nat} {l l' : List Nat} (h : l.length = l'.length) :
    (subsetsOfSize k l).length = (subsetsOfSize k l').length := by
  induction l generalizing k l' with
  | nil =>
    cases l' with
    | nil => rfl
    | cons _ _ => simp at h
  | cons a l ih =>
    cases l' with
    | nil => simp at h
    | cons a' l' =>
      have h' : l.length = l'.length := by simpa using h
      cases k with
      | zero => simp [subsetsOfSize]
      | succ k => simp [subsetsOfSize, ih (k := k) h', ih (k := k+1) h']

theorem mem_subsetsOfSize_sorted {k : Nat} {S e : List Nat} (hS : SSorted S) :
    e ∈ subsetsOfSize k S ↔ SSorted e ∧ (∀ x ∈ e, x ∈ S) ∧ e.length = k := by
  rw [mem_subsetsOfSize]
  constructor
  · rintro ⟨hs, hl⟩; exact ⟨List.Pairwise.sublist hs hS, fun x hx => hs.subset hx, hl⟩
  · rintro ⟨he, hm, hl⟩; exact ⟨NatSort.sublist_of_strict_subset he hS hm, hl⟩

theorem eq_of_sorted_subset_length {e S : List Nat} (he : SSorted e) (hS : SSorted S)
    (hm : ∀ x ∈ e, x ∈ S) (hl : S.length ≤ e.length) : e = S :=
  (NatSort.sublist_of_strict_subset he hS hm).eq_of_length_le hl

theorem length_le_of_sorted_subset {e S : List Nat} (he : SSorted e) (hS : SSorted S)
    (hm : ∀ x ∈ e, x ∈ S) : e.length ≤ S.length :=
  (NatSort.sublist_of_strict_subset he hS hm).length_le

/-- sorted image of a node list -/
def relabelSet (π : Nat → Nat) (S : List Nat) : List Nat := isort (S.map π)

section
variable {π : Nat → Nat}

theorem mem_relabelSet {S : List Nat} {y : Nat} : y ∈ relabelSet π S ↔ ∃ x ∈ S, π x = y := by
  unfold relabelSet; rw [mem_isort, List.mem_map]

theorem relabelSet_length (S : List Nat) : (relabelSet π S).length = S.length := by
  unfold relabelSet; rw [isort_length, List.length_map]

variable (hπ : ∀ a b, π a = π b → a = b)
include hπ

theorem relabelSet_sorted {S : List Nat} (h : S.Nodup) : SSorted (relabelSet π S) :=
  isort_sorted (ListLib.nodup_map_inj π hπ h)

theorem relabelSet_inj {S T : List Nat} (hS : SSorted S) (hT : SSorted T)
    (h : relabelSet π S = relabelSet π T) : S = T := by
  apply eq_of_sorted_of_mem_iff hS hT
  intro x
  constructor
  · intro hx
    have : π x ∈ relabelSet π T := by rw [← h]; exact mem_relabelSet.mpr ⟨x, hx, rfl⟩
    obtain ⟨x', hx', he⟩ := mem_relabelSet.mp this
    exact hπ x' x he ▸ hx'
  · intro hx
    have : π x ∈ relabelSet π S := by rw [h]; exact mem_relabelSet.mpr ⟨x, hx, rfl⟩
    obtain ⟨x', hx', he⟩ := mem_relabelSet.mp this
    exact hπ x' x he ▸ hx'

theorem map_relabelSet_nodup {L : List (List Nat)} (hL : L.Nodup) (hs : ∀ S ∈ L, SSorted S) :
    (L.map (relabelSet π)).Nodup :=
  nodup_map_of_inj hL fun a ha b hb => relabelSet_inj hπ (hs a ha) (hs b hb)

end

end C11
