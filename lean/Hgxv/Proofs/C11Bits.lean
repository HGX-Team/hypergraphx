import Hgxv.Model.C11Tables
import Hgxv.Proofs.ListLib
/-! # C11 - masks through `testBit`; `applyPerm` moves bit `i` to bit `t[i]` (core Lean only) -/
namespace C11

theorem getD_map_lt {α β} (f : α → β) (l : List α) (d : α) (d' : β) {i : Nat} (h : i < l.length) :
    (l.map f).getD i d' = f (l.getD i d) := by
  rw [ListLib.getD_of_lt _ _ (by simpa using h), ListLib.getD_of_lt _ _ h, List.getElem_map]

theorem getD_mem {α} (l : List α) (d : α) {i : Nat} (h : i < l.length) : l.getD i d ∈ l := by
  rw [ListLib.getD_of_lt _ _ h]; exact List.getElem_mem h

theorem testBit_moveBit (m i j b : Nat) : (moveBit m i j).testBit b = (decide (b = j) && m.testBit i) := by
  unfold moveBit
  show ((m >>> i &&& 1) <<< j).testBit b = _
  rw [Nat.testBit_shiftLeft, Nat.testBit_and, Nat.testBit_shiftRight]
  by_cases hbj : b = j
  · subst hbj; simp
  · by_cases hge : b ≥ j
    · have : b - j ≠ 0 := by omega
      have h1 : Nat.testBit 1 (b - j) = false := by
        cases hb : b - j with
        | zero => exact absurd hb this
        | succ k => rw [Nat.testBit_succ]; simp
      simp [hbj, h1]
    · simp [hbj, hge]

theorem land_ne_zero_iff {a b : Nat} : a &&& b ≠ 0 ↔ ∃ i, a.testBit i = true ∧ b.testBit i = true := by
  constructor
  · intro h
    obtain ⟨i, hi⟩ := Nat.exists_testBit_of_ne_zero h
    rw [Nat.testBit_and, Bool.and_eq_true] at hi
    exact ⟨i, hi⟩
  · rintro ⟨i, ha, hb⟩ h0
    have : (a &&& b).testBit i = true := by rw [Nat.testBit_and, ha, hb]; rfl
    rw [h0, Nat.zero_testBit] at this
    exact absurd this (by simp)

theorem lt_two_pow_iff {n r : Nat} : r < 2 ^ n ↔ ∀ j, r.testBit j = true → j < n := by
  constructor
  · intro h j hj
    apply Classical.byContradiction
    intro hge
    rw [Nat.testBit_lt_two_pow (Nat.lt_of_lt_of_le h (Nat.pow_le_pow_right (by omega) (by omega)))] at hj
    exact absurd hj (by simp)
  · intro h
    apply Nat.lt_pow_two_of_testBit
    intro i hi
    cases hb : r.testBit i with
    | false => rfl
    | true => have := h i hb; omega

/-- does some entry `t[p]` equal `j` with bit `i+p` of `m` set? -/
def hit : List Nat → Nat → Nat → Nat → Bool
  | [], _, _, _ => false
  | t :: ts, i, m, j => (decide (j = t) && m.testBit i) || hit ts (i+1) m j

theorem testBit_applyPermGo (ts : List Nat) : ∀ (i m acc j : Nat),
    (applyPermGo ts i m acc).testBit j = (acc.testBit j || hit ts i m j) := by
  induction ts with
  | nil => intro i m acc j; simp [applyPermGo, hit]
  | cons t ts ih =>
    intro i m acc j
    simp only [applyPermGo, hit]
    rw [ih]
    show ((acc ||| moveBit m i t).testBit j || hit ts (i + 1) m j) = _
    rw [Nat.testBit_or, testBit_moveBit, Bool.or_assoc]

theorem hit_iff (ts : List Nat) : ∀ (i m j : Nat),
    hit ts i m j = true ↔ ∃ p, p < ts.length ∧ ts.getD p 0 = j ∧ m.testBit (i + p) = true := by
  induction ts with
  | nil => intro i m j; simp [hit]
  | cons t ts ih =>
    intro i m j
    simp only [hit, Bool.or_eq_true, Bool.and_eq_true, decide_eq_true_eq, ih, List.length_cons]
    constructor
    · rintro (⟨h1, h2⟩ | ⟨p, hp, h1, h2⟩)
      · exact ⟨0, by omega, by simp [h1], by simpa using h2⟩
      · exact ⟨p + 1, by omega, by simpa using h1, by rw [← h2]; congr 1; omega⟩
    · rintro ⟨p, hp, h1, h2⟩
      cases p with
      | zero => left; exact ⟨by simpa using h1.symm, by simpa using h2⟩
      | succ p =>
        right
        exact ⟨p, by omega, by simpa using h1, by rw [← h2]; congr 1; omega⟩

theorem testBit_applyPerm (t : List Nat) (m j : Nat) :
    (applyPerm t m).testBit j = true ↔ ∃ p, p < t.length ∧ t.getD p 0 = j ∧ m.testBit p = true := by
  unfold applyPerm
  rw [testBit_applyPermGo, Nat.zero_testBit, Bool.false_or, hit_iff]
  simp only [Nat.zero_add]

theorem applyPerm_range (k m : Nat) (hm : m < 2 ^ k) : applyPerm (List.range k) m = m := by
  apply Nat.eq_of_testBit_eq
  intro j
  rw [Bool.eq_iff_iff, testBit_applyPerm]
  constructor
  · rintro ⟨p, hp, hj, hbit⟩
    rw [ListLib.getD_of_lt _ _ hp, List.getElem_range] at hj
    exact hj ▸ hbit
  · intro hbit
    have hj : j < k := lt_two_pow_iff.mp hm j hbit
    exact ⟨j, by simpa using hj, by rw [ListLib.getD_of_lt _ _ (by simpa using hj), List.getElem_range], hbit⟩
/-- the index table of "first `t`, then `s`" -/
def compT (s t : List Nat) : List Nat := t.map (s.getD · 0)

theorem applyPerm_comp (s t : List Nat) (m : Nat) (ht : ∀ x ∈ t, x < s.length) :
    applyPerm (compT s t) m = applyPerm s (applyPerm t m) := by
  apply Nat.eq_of_testBit_eq
  intro j
  rw [Bool.eq_iff_iff, testBit_applyPerm, testBit_applyPerm]
  simp only [testBit_applyPerm, compT, List.length_map]
  constructor
  · rintro ⟨p, hp, hj, hbit⟩
    rw [getD_map_lt _ _ 0 _ hp] at hj
    exact ⟨t.getD p 0, ht _ (getD_mem _ _ hp), hj, p, hp, rfl, hbit⟩
  · rintro ⟨q, _, hj, p, hp, hq, hbit⟩
    exact ⟨p, hp, by rw [getD_map_lt _ _ 0 _ hp, hq, hj], hbit⟩

end C11
