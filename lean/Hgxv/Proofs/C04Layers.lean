import Hgxv.Proofs.C04Query
/-! C04 - facts about the map alone and what they give on the store: an insertion leaves the other keys alone, what a
weighted (promoting) batch does at its own keys, and the layer registry in closed form (with the definitions
`insertedLayers`, `insertedRun` that `C04_registry` is stated with). Core Lean only. -/
namespace C04
open AL

theorem Spec.addNode_frame (sp : Spec) (n : Node) (md : Option Meta) :
    Spec.addNode sp n md = { sp with nodes := (Spec.addNode sp n md).nodes } := by
  unfold Spec.addNode; split <;> rfl

theorem Spec.foldl_addNode_frame (f : Node → Option Meta) (ns : List Node) (sp : Spec) :
    ns.foldl (fun sp n => Spec.addNode sp n (f n)) sp =
      { sp with nodes := (ns.foldl (fun sp n => Spec.addNode sp n (f n)) sp).nodes } := by
  induction ns generalizing sp with
  | nil => rfl
  | cons n ns ih => rw [List.foldl_cons, ih, Spec.addNode_frame]

theorem Spec.touchNodes_frame (sp : Spec) (ns : List Node) :
    Spec.touchNodes sp ns = { sp with nodes := (Spec.touchNodes sp ns).nodes } :=
  Spec.foldl_addNode_frame (fun _ => none) ns sp

theorem Spec.addEdge_other (sp : Spec) (raw : List Node) (l : Layer) (w : Option Int) (md : Option Meta) (k : Key)
    (hk : k ≠ (canon raw, l)) : get? (Spec.addEdge sp raw l w md).1.edges k = get? sp.edges k := by
  unfold Spec.addEdge
  split
  · rfl
  · rw [Spec.addEdgeCore, Spec.touchNodes_frame]
    exact get?_set_ne _ _ _ _ (fun h => hk h.symm)

theorem Spec.addEdge_weighted (sp : Spec) (raw : List Node) (l : Layer) (w : Option Int) (md : Option Meta) :
    (Spec.addEdge sp raw l w md).1.weighted = sp.weighted := by
  unfold Spec.addEdge
  split
  · rfl
  · rw [Spec.addEdgeCore, Spec.touchNodes_frame]

theorem Spec.addEdge_self (sp : Spec) (raw : List Node) (l : Layer) (w : Int) (md : Option Meta) (hw : sp.weighted = true) :
    get? (Spec.addEdge sp raw l (some w) md).1.edges (canon raw, l) =
      some (Spec.mergeEntry true (get? sp.edges (canon raw, l)) w (md.getD [])) := by
  unfold Spec.addEdge
  simp only [hw, Bool.not_true, Bool.false_and, Bool.false_eq_true, if_false, Option.getD_some]
  rw [Spec.addEdgeCore, Spec.touchNodes_frame]
  simp only [get?_set_self, hw]

theorem Spec.addEdgesLoop_other (sp : Spec) (es : List (List Node × Layer)) (ws : List (Option Int)) (mds : List (Option Meta))
    (k : Key) (hk : ∀ p ∈ es, k ≠ (canon p.1, p.2)) : get? (Spec.addEdgesLoop sp es ws mds).edges k = get? sp.edges k := by
  induction es generalizing sp ws mds with
  | nil => unfold Spec.addEdgesLoop; rfl
  | cons p es ih =>
    obtain ⟨raw, l⟩ := p
    cases ws with
    | nil => unfold Spec.addEdgesLoop; rfl
    | cons w ws =>
      cases mds with
      | nil => unfold Spec.addEdgesLoop; rfl
      | cons md mds =>
        unfold Spec.addEdgesLoop
        rw [ih _ _ _ (fun p hp => hk p (List.mem_cons_of_mem _ hp)),
          Spec.addEdge_other _ _ _ _ _ _ (hk (raw, l) List.mem_cons_self)]

theorem addEdge_other_weight (s : Store) (raw raw' : List Node) (l l' : Layer) (w : Option Int) (md : Option Meta)
    (h : Inv s) (hraw : raw.Nodup) (hk : (canon raw', l') ≠ (canon raw, l)) :
    getWeight (addEdge s raw l w md).1 raw' l' = getWeight s raw' l' ∧
    getEdgeMeta (addEdge s raw l w md).1 raw' l' = getEdgeMeta s raw' l' := by
  obtain ⟨h1, e, _⟩ := addEdge_sim s raw l w md h hraw
  exact getters_congr s _ h h1 raw' l' (by rw [e]; exact Spec.addEdge_other _ _ _ _ _ _ hk)

/-- in a weighted map the first position of a batch adds its weight to what its key held, provided no later
position has the same key -/
theorem Spec.addEdgesLoop_head (sp : Spec) (raw : List Node) (l : Layer) (w : Int) (md : Option Meta)
    (es : List (List Node × Layer)) (ws : List (Option Int)) (mds : List (Option Meta)) (hw : sp.weighted = true)
    (hk : ∀ p ∈ es, (canon raw, l) ≠ (canon p.1, p.2)) :
    get? (Spec.addEdgesLoop sp ((raw, l) :: es) (some w :: ws) (md :: mds)).edges (canon raw, l) =
      some (Spec.mergeEntry true (get? sp.edges (canon raw, l)) w (md.getD [])) := by
  unfold Spec.addEdgesLoop
  rw [Spec.addEdgesLoop_other _ _ _ _ _ hk, Spec.addEdge_self _ _ _ _ _ hw]

/-- a one-record weighted batch on ANY map (weighted or not): accepted, the map is weighted afterwards, the record holds
the given weight added to what it held before (an unweighted map holds `one`) -/
theorem Spec.promote_single (sp : Spec) (r : List Node) (l : Layer) (w : Int) :
    (Spec.addEdges sp [r] [l] (some [w]) none).2 = Out.ok ∧
    (Spec.addEdges sp [r] [l] (some [w]) none).1.weighted = true ∧
    get? (Spec.addEdges sp [r] [l] (some [w]) none).1.edges (canon r, l) =
      some (Spec.mergeEntry true (get? sp.edges (canon r, l)) w []) := by
  have hb : batchArgs [r] [l] (some [w]) none = some (true, [some w], [none]) := by simp [batchArgs, mdsLenOK]
  rw [Spec.addEdges_eq, hb]
  exact ⟨rfl, Spec.addEdge_weighted _ r l (some w) none,
    Spec.addEdgesLoop_head _ r l w none [] [] [] rfl (fun _ h => nomatch h)⟩

/-- a weighted batch that holds the same node set in two different layers is accepted and both records get
their own weight -/
theorem Spec.batch_two_layers (sp : Spec) (r r' : List Node) (l1 l2 : Layer) (w1 w2 : Int) (hl : l1 ≠ l2)
    (hrr : canon r = canon r') :
    (Spec.addEdges sp [r, r'] [l1, l2] (some [w1, w2]) none).2 = Out.ok ∧
    get? (Spec.addEdges sp [r, r'] [l1, l2] (some [w1, w2]) none).1.edges (canon r, l1) =
      some (Spec.mergeEntry true (get? sp.edges (canon r, l1)) w1 []) ∧
    get? (Spec.addEdges sp [r, r'] [l1, l2] (some [w1, w2]) none).1.edges (canon r, l2) =
      some (Spec.mergeEntry true (get? sp.edges (canon r, l2)) w2 []) := by
  have hb : batchArgs [r, r'] [l1, l2] (some [w1, w2]) none = some (true, [some w1, some w2], [none, none]) := by
    simp [batchArgs, mdsLenOK, hl]
  have hne : (canon r, l1) ≠ (canon r', l2) := fun h => hl (Prod.mk.inj h).2
  rw [Spec.addEdges_eq, hb]
  refine ⟨rfl, Spec.addEdgesLoop_head _ r l1 w1 none _ _ _ rfl ?_, ?_⟩
  · intro p hp; rw [List.mem_singleton.mp hp]; exact hne
  · -- the second position is the head of the loop that is left after the first call
    rw [hrr]
    refine (Spec.addEdgesLoop_head (Spec.addEdge _ r l1 (some w1) none).1 r' l2 w2 none [] [] []
      (Spec.addEdge_weighted _ _ _ _ _) (fun _ h => nomatch h)).trans ?_
    rw [Spec.addEdge_other _ _ _ _ _ _ hne.symm]; rfl

theorem Spec.addEdge_ok_weighted (sp : Spec) (raw : List Node) (l : Layer) (w : Option Int) (md : Option Meta)
    (hw : sp.weighted = true) : (Spec.addEdge sp raw l w md).2 = Out.ok := by
  unfold Spec.addEdge
  simp [hw]

theorem getWeight_merged (s s1 : Store) (h : Inv s) (h1 : Inv s1) (r : List Node) (l : Layer) (w : Int) (md : Meta)
    (he : get? (abs s1).edges (canon r, l) = some (Spec.mergeEntry true (get? (abs s).edges (canon r, l)) w md)) :
    getWeight s1 r l = some (match getWeight s r l with | none => w | some w0 => w0 + w) := by
  rw [getWeight_abs _ _ _ h1, getWeight_abs _ _ _ h]
  unfold Spec.getWeight
  rw [he]
  cases get? (abs s).edges (canon r, l) <;> rfl

/-- layers newly registered by one call: those of an accepted insertion, nothing otherwise -/
def insertedLayers (s : Store) (op : Op) : List Layer :=
  match op with
  | .addEdge raw l w md => if (addEdge s raw l w md).2 = Out.ok then [l] else []
  | .addEdges raws ls ws mds => if (addEdges s raws ls ws mds).2 = Out.ok then (raws.zip ls).map (·.2) else []
  | _ => []

/-- all layers registered along a history -/
def insertedRun (s : Store) : List Op → List Layer
  | [] => []
  | op :: ops => insertedLayers s op ++ insertedRun (step s op).1 ops

/-- the layers a call names -/
def Op.layers : Op → List Layer
  | .addEdge _ l _ _ => [l]
  | .addEdges raws ls _ _ => (raws.zip ls).map (·.2)
  | _ => []

theorem insertedLayers_eq (s : Store) (op : Op) :
    insertedLayers s op = if (step s op).2 = Out.ok then op.layers else [] := by
  cases op with
  | addEdge raw l w md => rfl
  | addEdges raws ls ws mds => rfl
  | _ => simp only [insertedLayers, Op.layers, ite_self]

/-! The registry on the map. `abs` keeps `layers`, so `abs_step` carries these to the store. -/
namespace Spec

theorem addEdge_layers (sp : Spec) (raw : List Node) (l : Layer) (w : Option Int) (md : Option Meta) :
    (addEdge sp raw l w md).1.layers = if (addEdge sp raw l w md).2 = Out.ok then addLayer sp.layers l else sp.layers := by
  unfold addEdge
  split
  · rfl
  · rw [addEdgeCore, touchNodes_frame]; rfl

theorem addEdgesLoop_layers (sp : Spec) (es : List (List Node × Layer)) (ws : List (Option Int)) (mds : List (Option Meta))
    (h1 : es.length ≤ ws.length) (h2 : es.length ≤ mds.length) (hacc : ∀ w ∈ ws, sp.weighted = true ∨ w = none) :
    (addEdgesLoop sp es ws mds).layers = (es.map (·.2)).foldl addLayer sp.layers := by
  induction es generalizing sp ws mds with
  | nil => unfold addEdgesLoop; rfl
  | cons p es ih =>
    obtain ⟨raw, l0⟩ := p
    cases ws with
    | nil => simp at h1
    | cons w ws =>
      cases mds with
      | nil => simp at h2
      | cons md mds =>
        unfold addEdgesLoop
        -- every position is accepted: the map is weighted or the position carries no weight
        have hok : (addEdge sp raw l0 w md).2 = Out.ok := by
          unfold addEdge
          rcases hacc w List.mem_cons_self with hw | hw
          · simp [hw]
          · subst hw; simp
        rw [ih _ ws mds (by simpa using h1) (by simpa using h2)
          (fun w' hw' => by rw [addEdge_weighted]; exact hacc w' (List.mem_cons_of_mem _ hw')), addEdge_layers, if_pos hok]
        rfl

theorem shrinkKey_layers (sp : Spec) (n : Node) (k : Key) (hk : k.2 ∈ sp.layers) : (shrinkKey sp n k).layers = sp.layers := by
  unfold shrinkKey
  split
  · rfl
  · split
    · rfl
    · rw [addEdge_layers]; split
      · exact addLayer_of_mem hk
      · rfl

theorem removeNode_layers (sp : Spec) (n : Node) (keep : Bool) (hreg : ∀ k ∈ keys sp.edges, k.2 ∈ sp.layers) :
    (removeNode sp n keep).1.layers = sp.layers := by
  unfold removeNode
  split
  · cases keep with
    | false => rfl
    | true =>
      show (((keys sp.edges).filter _).foldl (fun sp k => shrinkKey sp n k) sp).layers = sp.layers
      -- the keys were all there at the start, and the registry does not change along the loop
      have : ∀ (ks : List Key) (sp' : Spec), (∀ k ∈ ks, k.2 ∈ sp'.layers) →
          (ks.foldl (fun sp k => shrinkKey sp n k) sp').layers = sp'.layers := by
        intro ks
        induction ks with
        | nil => intro _ _; rfl
        | cons k ks ih =>
          intro sp' h
          have e := shrinkKey_layers sp' n k (h k List.mem_cons_self)
          rw [List.foldl_cons, ih _ (fun k' hk' => e ▸ h k' (List.mem_cons_of_mem _ hk')), e]
      exact this _ sp (fun k hk => hreg k (List.mem_filter.mp hk).1)
  · rfl

/-- the registry after one call: an accepted call appends the layers it names that are not there yet, in order -/
theorem step_layers (sp : Spec) (op : Op) (hreg : ∀ k ∈ keys sp.edges, k.2 ∈ sp.layers) :
    (step sp op).1.layers = if (step sp op).2 = Out.ok then op.layers.foldl addLayer sp.layers else sp.layers := by
  -- for a call that names no layer it is enough that it leaves the registry alone
  have key : op.layers = [] → (step sp op).1.layers = sp.layers →
      (step sp op).1.layers = if (step sp op).2 = Out.ok then op.layers.foldl addLayer sp.layers else sp.layers := by
    intro h0 h; rw [h0, h]; exact (ite_self _).symm
  cases op with
  | addEdge raw l w md => exact addEdge_layers sp raw l w md
  | addEdges raws ls ws mds =>
    show (addEdges sp raws ls ws mds).1.layers =
      if (addEdges sp raws ls ws mds).2 = Out.ok then ((raws.zip ls).map (·.2)).foldl addLayer sp.layers else sp.layers
    rw [addEdges_eq]
    split
    · rfl
    · rename_i p wl ml hb
      obtain ⟨h1, h2, h3⟩ := batchArgs_some hb
      rw [addEdgesLoop_layers _ _ wl ml h1 h2 (fun w hw => (h3 w hw).imp (fun hp => by rw [hp]; rfl) id)]
      cases p <;> rfl
  | removeNode n keep => exact key rfl (removeNode_layers sp n keep hreg)
  | addNode n md => exact key rfl (by rw [step, addNode_frame])
  | addNodes ns mds =>
    refine key rfl ?_
    show (addNodes sp ns mds).1.layers = sp.layers
    unfold addNodes
    split
    · rw [foldl_addNode_frame (fun _ => none)]
    · split
      · rw [foldl_addNode_frame]
      · rfl
  | removeEdge raw l => exact key rfl (by show (removeEdge sp raw l).1.layers = _; unfold removeEdge; split <;> rfl)
  | setWeight raw l w =>
    exact key rfl (by show (setWeight sp raw l w).1.layers = _; unfold setWeight; split <;> (try split) <;> rfl)
  | setAttrNode n k v => exact key rfl (by show (setAttrNode sp n k v).1.layers = _; unfold setAttrNode; split <;> rfl)
  | delAttrNode n k =>
    exact key rfl (by show (delAttrNode sp n k).1.layers = _; unfold delAttrNode; split <;> (try split) <;> rfl)
  | setAttrEdge raw l k v => exact key rfl (by show (setAttrEdge sp raw l k v).1.layers = _; unfold setAttrEdge; split <;> rfl)
  | delAttrEdge raw l k =>
    exact key rfl (by show (delAttrEdge sp raw l k).1.layers = _; unfold delAttrEdge; split <;> (try split) <;> rfl)
  | _ => exact key rfl rfl

end Spec

theorem step_layers_eq (s : Store) (op : Op) (h : Inv s) (hw : op.WF) :
    (step s op).1.layers = (insertedLayers s op).foldl addLayer s.layers := by
  obtain ⟨e1, e2⟩ := abs_step s op h hw
  rw [insertedLayers_eq, e2, show (step s op).1.layers = (abs (step s op).1).layers from rfl, e1,
    Spec.step_layers (abs s) op (fun k hk => registry_covers s h k (records_abs s ▸ hk))]
  split <;> rfl

/-- the registry is the layers of the accepted insertions of the history, each once, in the order of first use -/
theorem run_layers_eq (s : Store) (ops : List Op) (h : Inv s) (hw : ∀ op ∈ ops, op.WF) :
    (run s ops).layers = (insertedRun s ops).foldl addLayer s.layers := by
  induction ops generalizing s with
  | nil => rfl
  | cons op ops ih =>
    have hop := hw op List.mem_cons_self
    rw [insertedRun, List.foldl_append, ← step_layers_eq s op h hop]
    exact ih _ (step_inv s op h hop) (fun o ho => hw o (List.mem_cons_of_mem _ ho))

end C04
