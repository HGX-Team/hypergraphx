import Hgxv.Proofs.C15Sum
import Mathlib.Analysis.Real.Sqrt
/-! # C15 — the training loop of `fit` with the stopping rule (`tolerance`, `check_convergence_every`)

`loopFrom` is the loop as the code runs it (loop variable, `old` parameters, `break`).  Here: whatever the loop
body `step` is, the loop leaves with the state after `it + 1` passes of the body, `it` being the first index
at which the `break` test holds (or the last index), and one more allowed iteration changes the result by at
most one more pass.  Then the convergence test over `ℝ` (`sqDist_eq`, `normLt_iff`), and `fit` around the loop: `fitState`,
`fitRun_spec`, `fitMaxSize_*`, `fit_some`, `fit_keeps` (what every pass and the final division keep, `fit` returns), `finish_*_fixed`. -/
open Finset
namespace C15

/-- the `break` test of iteration `it` never fires at `it = 0`, so there `old` is not read -/
theorem stopNow_old (d : Data) (stop : Option Stop) (it : ℕ) (p old old' : Params) (h : 0 < it → old = old') :
    stopNow d stop it p old = stopNow d stop it p old' := by
  by_cases hit : 0 < it
  · rw [h hit]
  · have h0 : it = 0 := by omega
    subst h0
    cases stop <;> simp [stopNow, checkAt]

theorem stopNow_none (d : Data) (it : ℕ) (p old : Params) : stopNow d none it p old = false := rfl

theorem loopFrom_zero (d : Data) (step : Params → Params) (stop : Option Stop) (it : ℕ) (p old : Params) :
    loopFrom d step stop 0 it p old = { p := p, it := it - 1, reached := false } := rfl

theorem loopFrom_break (d : Data) (step : Params → Params) (stop : Option Stop) (k it : ℕ) (p old : Params)
    (h : stopNow d stop it (step p) old = true) :
    loopFrom d step stop (k + 1) it p old = { p := step p, it := it, reached := true } := by
  rw [loopFrom]; simp only [h, if_true]

theorem loopFrom_continue (d : Data) (step : Params → Params) (stop : Option Stop) (k it : ℕ) (p old : Params)
    (h : stopNow d stop it (step p) old = false) :
    loopFrom d step stop (k + 1) it p old = loopFrom d step stop k (it + 1) (step p) (step p) := by
  rw [loopFrom]; simp only [h, Bool.false_eq_true, if_false]

/-- **the loop, from its end.**  One more allowed iteration: nothing changes if the loop had been left through `break`;
else one more pass, at index `it + k`, tested against the parameters before it (`old` itself in the very first
iteration).  `loopFrom_spec`, `loopFrom_succ`, `loopFrom_reached_succ`, `loopFrom_none` are read off this equation; `loopFrom_keeps` is an
induction of its own, from the front. -/
theorem loopFrom_snoc (d : Data) (step : Params → Params) (stop : Option Stop) (k : ℕ) :
    ∀ (it : ℕ) (p old : Params),
    loopFrom d step stop (k + 1) it p old =
      if (loopFrom d step stop k it p old).reached = true then loopFrom d step stop k it p old
      else { p := step (loopFrom d step stop k it p old).p, it := it + k,
             reached := stopNow d stop (it + k) (step (loopFrom d step stop k it p old).p)
               (if k = 0 then old else (loopFrom d step stop k it p old).p) } := by
  induction k with
  | zero =>
    intro it p old
    cases hc : stopNow d stop it (step p) old with
    | true => rw [loopFrom_break d step stop 0 it p old hc, loopFrom_zero]; simp [hc]
    | false => rw [loopFrom_continue d step stop 0 it p old hc, loopFrom_zero, loopFrom_zero]; simp [hc]
  | succ k ih =>
    intro it p old
    cases hc : stopNow d stop it (step p) old with
    | true => rw [loopFrom_break d step stop (k + 1) it p old hc, loopFrom_break d step stop k it p old hc, if_pos rfl]
    | false =>
      -- after the first iteration `old` is the current state
      have hold : (if k = 0 then step p else (loopFrom d step stop k (it + 1) (step p) (step p)).p)
          = (loopFrom d step stop k (it + 1) (step p) (step p)).p := by cases k <;> rfl
      rw [loopFrom_continue d step stop (k + 1) it p old hc, loopFrom_continue d step stop k it p old hc,
        ih (it + 1) (step p) (step p), hold, if_neg (Nat.succ_ne_zero k), Nat.add_assoc, Nat.add_comm 1 k]

/-- **the loop, both exits.**  `s m` = the parameters after `m` passes (any sequence with `s 0 = p`, `s (m + 1) = step (s m)`:
`emLoop`, `fitState` are such by `rfl`); `hold`: `old` = the current parameters unless `it = 0`, where it is not read. -/
theorem loopFrom_spec (d : Data) (step : Params → Params) (stop : Option Stop) (k : ℕ) (it : ℕ) (p old : Params)
    (hold : 0 < it → old = p) (s : ℕ → Params) (h0 : s 0 = p) (hs : ∀ m, s (m + 1) = step (s m)) :
    ∃ j, j ≤ k ∧ (loopFrom d step stop (k + 1) it p old).it = it + j ∧
      (loopFrom d step stop (k + 1) it p old).p = s (j + 1) ∧
      (∀ i < j, stopNow d stop (it + i) (s (i + 1)) (s i) = false) ∧
      (loopFrom d step stop (k + 1) it p old).reached = stopNow d stop (it + j) (s (j + 1)) (s j) ∧
      ((loopFrom d step stop (k + 1) it p old).reached = false → j = k) := by
  subst h0
  induction k with
  | zero =>
    rw [loopFrom_snoc, loopFrom_zero, if_neg Bool.false_ne_true, if_pos rfl]
    refine ⟨0, le_refl 0, rfl, (hs 0).symm, fun i hi => absurd hi (Nat.not_lt_zero i), ?_, fun _ => rfl⟩
    rw [hs 0]
    exact stopNow_old d stop it (step (s 0)) old (s 0) hold
  | succ k ih =>
    obtain ⟨j, hj, h1, h2, h3, h4, h5⟩ := ih
    rw [loopFrom_snoc]
    split
    · -- left through `break` before: the same `j`
      rename_i hr
      exact ⟨j, Nat.le_succ_of_le hj, h1, h2, h3, h4, fun h => absurd hr (by rw [h]; exact Bool.false_ne_true)⟩
    · -- all `k + 1` iterations were made (`j = k`): one more
      rename_i hr
      have hr' := Bool.eq_false_iff.mpr hr
      obtain rfl := h5 hr'
      rw [if_neg (Nat.succ_ne_zero j), h2, ← hs]
      refine ⟨j + 1, le_refl _, rfl, rfl, fun i hi => ?_, rfl, fun _ => rfl⟩
      rcases Nat.lt_succ_iff_lt_or_eq.mp hi with h | rfl
      · exact h3 i h
      · rw [← h4, hr']

/-- one more allowed iteration: the same parameters (the loop had been left through `break`) or one more pass -/
theorem loopFrom_succ (d : Data) (step : Params → Params) (stop : Option Stop) (k : ℕ) :
    ∀ (it : ℕ) (p old : Params),
    (loopFrom d step stop (k + 1) it p old).p = (loopFrom d step stop k it p old).p ∨
    (loopFrom d step stop (k + 1) it p old).p = step (loopFrom d step stop k it p old).p := by
  intro it p old
  rw [loopFrom_snoc]
  split
  · exact Or.inl rfl
  · exact Or.inr rfl

theorem loopFrom_reached_succ (d : Data) (step : Params → Params) (stop : Option Stop) (k : ℕ) (it : ℕ) (p old : Params)
    (h : (loopFrom d step stop k it p old).reached = true) :
    loopFrom d step stop (k + 1) it p old = loopFrom d step stop k it p old := by
  rw [loopFrom_snoc, if_pos h]

theorem loopFrom_keeps (P : Params → Prop) (d : Data) (step : Params → Params) (stop : Option Stop)
    (hstep : ∀ q, P q → P (step q)) (k : ℕ) :
    ∀ (it : ℕ) (p old : Params), P p → P (loopFrom d step stop k it p old).p := by
  induction k with
  | zero => exact fun _ _ _ hp => hp
  | succ k ih =>
    intro it p old hp
    cases hc : stopNow d stop it (step p) old with
    | true => rw [loopFrom_break d step stop k it p old hc]; exact hstep p hp
    | false => rw [loopFrom_continue d step stop k it p old hc]; exact ih _ _ _ (hstep p hp)

theorem loopFrom_none (d : Data) (step : Params → Params) (k : ℕ) (it : ℕ) (p old : Params)
    (s : ℕ → Params) (h0 : s 0 = p) (hs : ∀ m, s (m + 1) = step (s m)) :
    loopFrom d step none k it p old = { p := s k, it := it + k - 1, reached := false } := by
  induction k with
  | zero => rw [h0]; rfl
  | succ k ih => rw [loopFrom_snoc, ih, hs]; rfl

theorem sqDist_eq (n m : ℕ) (x y : List (List Rat)) :
    sqDist n m x y = ∑ i ∈ range n, ∑ a ∈ range m, (matOf x i a - matOf y i a) ^ 2 := by
  unfold sqDist
  rw [sumTo_eq]
  apply Finset.sum_congr rfl; intro i _
  rw [sumTo_eq]
  apply Finset.sum_congr rfl; intro a _
  ring

theorem sqDist_nonneg (n m : ℕ) (x y : List (List Rat)) : 0 ≤ sqDist n m x y := by
  rw [sqDist_eq]
  exact Finset.sum_nonneg fun i _ => Finset.sum_nonneg fun a _ => sq_nonneg _

theorem normLt_iff (n m : ℕ) (x y : List (List Rat)) (s : ℕ) (hs : 0 < s) (tol : ℚ) :
    normLt n m x y s tol = true ↔ Real.sqrt ((sqDist n m x y : ℚ) : ℝ) / (s : ℝ) < (tol : ℝ) := by
  have hsR : (0 : ℝ) < (s : ℝ) := Nat.cast_pos.mpr hs
  unfold normLt
  rw [Bool.and_eq_true, decide_eq_true_eq, decide_eq_true_eq, div_lt_iff₀ hsR]
  by_cases ht : 0 < tol
  · -- a positive bound may be squared
    rw [Real.sqrt_lt' (mul_pos (Rat.cast_pos.mpr ht) hsR), sq, ← Rat.cast_natCast (α := ℝ) s, ← Rat.cast_mul,
      ← Rat.cast_mul, Rat.cast_lt]
    exact and_iff_right ht
  · -- the norm is `≥ 0`: the test fails for `tol ≤ 0`
    exact iff_of_false (fun h => ht h.1) (not_lt.mpr
      ((mul_nonpos_of_nonpos_of_nonneg (Rat.cast_nonpos.mpr (not_lt.mp ht)) hsR.le).trans (Real.sqrt_nonneg _)))

theorem emRun_keeps (P : Params → Prop) (d : Data) (fu fw : Bool) (ru rw : Mat) (stop : Option Stop) (n : ℕ)
    (hstep : ∀ q, P q → P (emStep d fu fw ru rw q)) (p0 : Params) (h0 : P p0) : P (emRun d fu fw ru rw stop n p0).p :=
  loopFrom_keeps P d _ stop hstep n 0 p0 p0 h0

theorem emRun_none (d : Data) (fu fw : Bool) (ru rw : Mat) (n : ℕ) (p0 : Params) :
    emRun d fu fw ru rw none n p0 = { p := emLoop d fu fw ru rw n p0, it := n - 1, reached := false } := by
  rw [emRun, loopFrom_none d _ n 0 p0 p0 (emLoop d fu fw ru rw · p0) rfl fun _ => rfl, Nat.zero_add]

theorem emRun_succ (d : Data) (fu fw : Bool) (ru rw : Mat) (stop : Option Stop) (n : ℕ) (p0 : Params) :
    (emRun d fu fw ru rw stop (n + 1) p0).p = (emRun d fu fw ru rw stop n p0).p ∨
    (emRun d fu fw ru rw stop (n + 1) p0).p = emStep d fu fw ru rw (emRun d fu fw ru rw stop n p0).p :=
  loopFrom_succ d (emStep d fu fw ru rw) stop n 0 p0 p0

/-- the state of the model object after `m` passes of the loop body of
`HyMMSBM(u=uSup, w=wSup, ..).fit(..)`, the initial draws being `u0`, `w0` -/
def fitState (d : Data) (uSup wSup : Option (List (List Rat))) (u0 w0 : List (List Rat)) (ru rw : Mat) (m : ℕ) : Params :=
  emLoop d uSup.isSome wSup.isSome ru rw m { u := uSup.getD u0, w := wSup.getD w0 }

theorem fitRun_spec (d : Data) (uSup wSup : Option (List (List Rat))) (u0 w0 : List (List Rat)) (ru rw : Mat)
    (stop : Option Stop) (n : ℕ) (hn : 1 ≤ n) :
    (fitRun d uSup wSup u0 w0 ru rw stop n).it < n ∧
    (fitRun d uSup wSup u0 w0 ru rw stop n).p
      = fitState d uSup wSup u0 w0 ru rw ((fitRun d uSup wSup u0 w0 ru rw stop n).it + 1) ∧
    (∀ i < (fitRun d uSup wSup u0 w0 ru rw stop n).it,
      stopNow d stop i (fitState d uSup wSup u0 w0 ru rw (i + 1)) (fitState d uSup wSup u0 w0 ru rw i) = false) ∧
    (fitRun d uSup wSup u0 w0 ru rw stop n).reached
      = stopNow d stop (fitRun d uSup wSup u0 w0 ru rw stop n).it
          (fitState d uSup wSup u0 w0 ru rw ((fitRun d uSup wSup u0 w0 ru rw stop n).it + 1))
          (fitState d uSup wSup u0 w0 ru rw (fitRun d uSup wSup u0 w0 ru rw stop n).it) ∧
    ((fitRun d uSup wSup u0 w0 ru rw stop n).reached = false → (fitRun d uSup wSup u0 w0 ru rw stop n).it = n - 1) := by
  obtain ⟨k, rfl⟩ : ∃ k, n = k + 1 := ⟨n - 1, by omega⟩
  obtain ⟨j, hj, h1, h2, h3, h4, h5⟩ := loopFrom_spec d (emStep d uSup.isSome wSup.isSome ru rw) stop k 0
    { u := uSup.getD u0, w := wSup.getD w0 } { u := uSup.getD u0, w := wSup.getD w0 } (fun _ => rfl)
    (fitState d uSup wSup u0 w0 ru rw) rfl fun _ => rfl
  simp only [Nat.zero_add] at h1 h3 h4
  unfold fitRun emRun
  rw [h1]
  exact ⟨by omega, h2, h3, h4, fun h => by rw [h5 h]; rfl⟩

theorem fitRun_u_fixed (d : Data) (us : List (List Rat)) (wSup : Option (List (List Rat))) (u0 w0 : List (List Rat))
    (ru rw : Mat) (stop : Option Stop) (n : ℕ) : (fitRun d (some us) wSup u0 w0 ru rw stop n).p.u = us :=
  emRun_keeps (·.u = us) d true _ ru rw stop n (fun _ h => h) _ rfl

theorem fitRun_w_fixed (d : Data) (uSup : Option (List (List Rat))) (ws : List (List Rat)) (u0 w0 : List (List Rat))
    (ru rw : Mat) (stop : Option Stop) (n : ℕ) : (fitRun d uSup (some ws) u0 w0 ru rw stop n).p.w = ws :=
  emRun_keeps (·.w = ws) d _ true ru rw stop n (fun _ h => h) _ rfl

theorem fitMaxSize_some (d : Data) (D0 D : ℕ) (h : fitMaxSize d (some D0) = some D) : D = D0 ∧ maxSize d ≤ D := by
  have hm : fitMaxSize d (some D0) = if D0 < maxSize d then none else some D0 := rfl
  rw [hm] at h
  split at h
  · exact absurd h (by simp)
  · rename_i hlt
    cases h
    exact ⟨rfl, Nat.le_of_not_lt hlt⟩

theorem fitMaxSize_le (d : Data) (Dsup : Option ℕ) (D : ℕ) (h : fitMaxSize d Dsup = some D) : maxSize d ≤ D := by
  cases Dsup with
  | none =>
    have h' : some (maxSize d) = some D := h
    cases h'
    exact Nat.le_refl _
  | some D0 => exact (fitMaxSize_some d D0 D h).2

theorem fit_some (d : Data) (uSup wSup : Option (List (List Rat))) (Dsup : Option ℕ) (u0 w0 : List (List Rat))
    (ru rw : Mat) (sqrtC : Rat) (stop : Option Stop) (n D : ℕ) (p : Params)
    (h : fit d uSup wSup Dsup u0 w0 ru rw sqrtC stop n = some (D, p)) :
    fitMaxSize d Dsup = some D ∧ stopOk stop = true ∧
    p = finish d uSup.isSome wSup.isSome (C (dims 2 D)) sqrtC (fitRun d uSup wSup u0 w0 ru rw stop n).p := by
  unfold fit at h
  split at h
  · simp at h
  · rename_i D' hD'
    split at h
    · rename_i hok
      simp only [Option.some.injEq, Prod.mk.injEq] at h
      obtain ⟨rfl, hp⟩ := h
      exact ⟨hD', hok, hp.symm⟩
    · simp at h

theorem fit_keeps (P : Params → Prop) (d : Data) (uSup wSup : Option (List (List Rat))) (Dsup : Option ℕ)
    (u0 w0 : List (List Rat)) (ru rw : Mat) (sqrtC : Rat) (stop : Option Stop) (n D : ℕ) (p : Params)
    (hstep : ∀ q, P q → P (emStep d uSup.isSome wSup.isSome ru rw q))
    (hfin : ∀ q, P q → P (finish d uSup.isSome wSup.isSome (C (dims 2 D)) sqrtC q))
    (h0 : P { u := uSup.getD u0, w := wSup.getD w0 })
    (h : fit d uSup wSup Dsup u0 w0 ru rw sqrtC stop n = some (D, p)) : P p := by
  rw [(fit_some d uSup wSup Dsup u0 w0 ru rw sqrtC stop n D p h).2.2]
  exact hfin _ (emRun_keeps P d _ _ ru rw stop n hstep _ h0)

theorem finish_u_fixed (d : Data) (fw : Bool) (c sqrtC : Rat) (p : Params) : (finish d true fw c sqrtC p).u = p.u := by
  cases fw <;> simp [finish]

theorem finish_w_fixed (d : Data) (fu : Bool) (c sqrtC : Rat) (p : Params) : (finish d fu true c sqrtC p).w = p.w := by
  cases fu <;> simp [finish]

end C15
