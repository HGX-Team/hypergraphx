import Hgxv.Proofs.C07Sort
/-! # C07: `ser x = ser y` is equality of JSON values (core Lean only)

`Content.Equiv` compares metadata by `ser x = ser y`.  This file shows that this is exactly Python's `==` on
JSON values with the numeric types kept apart: `JEq`, defined below by recursion on the first value -
atoms equal (same constructor: `1`, `1.0`, `True` differ), lists element-wise, dictionaries with the same number
of keys and equal values under every key (the order of the keys does not matter) - provided no dictionary inside
either value has a key twice (`KN`, at any depth). -/
namespace C07

mutual
/-- equality of JSON values as Python's `==` decides it, numeric types kept apart -/
def JEq : JTree → JTree → Prop
  | .null, b => b = .null
  | .bool x, b => b = .bool x
  | .num x, b => b = .num x
  | .str x, b => b = .str x
  | .arr l, b => ∃ l', b = .arr l' ∧ JEqList l l'
  | .obj l, b => ∃ l', b = .obj l' ∧ l.length = l'.length ∧ JEqFields l l'
def JEqList : List JTree → List JTree → Prop
  | [], l' => l' = []
  | x :: xs, l' => ∃ y ys, l' = y :: ys ∧ JEq x y ∧ JEqList xs ys
/-- every key of the first dictionary has an equal value in the second -/
def JEqFields : List (String × JTree) → List (String × JTree) → Prop
  | [], _ => True
  | (k, v) :: xs, l' => (∃ v', (k, v') ∈ l' ∧ JEq v v') ∧ JEqFields xs l'
end

mutual
/-- a JSON value whose dictionaries have no repeated key (what a Python value always is) -/
def KN : JTree → Prop
  | .arr l => KNList l
  | .obj l => (l.map (·.1)).Nodup ∧ KNFields l
  | .null => True
  | .bool _ => True
  | .num _ => True
  | .str _ => True
def KNList : List JTree → Prop
  | [] => True
  | x :: xs => KN x ∧ KNList xs
def KNFields : List (String × JTree) → Prop
  | [] => True
  | (_, v) :: xs => KN v ∧ KNFields xs
end

theorem KNList_iff (l : List JTree) : KNList l ↔ ∀ x, x ∈ l → KN x := by
  induction l with
  | nil => simp [KNList]
  | cons a t ih => simp [KNList, ih]

theorem KNFields_iff (l : List (String × JTree)) : KNFields l ↔ ∀ p, p ∈ l → KN p.2 := by
  induction l with
  | nil => simp [KNFields]
  | cons a t ih => obtain ⟨k, v⟩ := a; simp [KNFields, ih]

theorem JEqFields_iff (l l' : List (String × JTree)) :
    JEqFields l l' ↔ ∀ p, p ∈ l → ∃ v', (p.1, v') ∈ l' ∧ JEq p.2 v' := by
  induction l with
  | nil => simp [JEqFields]
  | cons a t ih => obtain ⟨k, v⟩ := a; simp [JEqFields, ih]

theorem JTree.induct (P : JTree → Prop) (hnull : P .null) (hbool : ∀ b, P (.bool b)) (hnum : ∀ n, P (.num n))
    (hstr : ∀ s, P (.str s)) (harr : ∀ l, (∀ x, x ∈ l → P x) → P (.arr l))
    (hobj : ∀ l : List (String × JTree), (∀ p, p ∈ l → P p.2) → P (.obj l)) : ∀ t, P t := by
  intro t
  exact JTree.rec (motive_1 := P) (motive_2 := fun l => ∀ x, x ∈ l → P x)
    (motive_3 := fun l => ∀ p, p ∈ l → P p.2) (motive_4 := fun p => P p.2)
    hnull hbool hnum hstr (fun l ih => harr l ih) (fun l ih => hobj l ih)
    (by intro x hx; cases hx)
    (by
      intro h t ih1 ih2 x hx
      rcases List.mem_cons.mp hx with rfl | hx
      · exact ih1
      · exact ih2 x hx)
    (by intro p hp; cases hp)
    (by
      intro h t ih1 ih2 p hp
      rcases List.mem_cons.mp hp with rfl | hp
      · exact ih1
      · exact ih2 p hp)
    (fun _ _ ih => ih) t

theorem ser_eq_null {b : JTree} (h : ser b = .null) : b = .null := by cases b <;> simp_all [ser]
theorem ser_eq_bool {b : JTree} {x : Bool} (h : ser b = .bool x) : b = .bool x := by cases b <;> simp_all [ser]
theorem ser_eq_num {b : JTree} {x : Num} (h : ser b = .num x) : b = .num x := by cases b <;> simp_all [ser]
theorem ser_eq_str {b : JTree} {x : String} (h : ser b = .str x) : b = .str x := by cases b <;> simp_all [ser]
theorem ser_eq_arr {b : JTree} {m : List JTree} (h : ser b = .arr m) : ∃ l', b = .arr l' ∧ l'.map ser = m := by
  cases b with
  | arr l' => exact ⟨l', rfl, by simpa [ser_arr] using h⟩
  | _ => simp [ser] at h
theorem ser_eq_obj {b : JTree} {m : List (String × JTree)} (h : ser b = .obj m) :
    ∃ l', b = .obj l' ∧ sortBy fieldLe (l'.map (fun p => (p.1, ser p.2))) = m := by
  cases b with
  | obj l' => exact ⟨l', rfl, by simpa [ser_obj] using h⟩
  | _ => simp [ser] at h

theorem JEqList_imp (l l' : List JTree) (ih : ∀ x, x ∈ l → ∀ y, y ∈ l' → JEq x y → ser x = ser y)
    (h : JEqList l l') : l.map ser = l'.map ser := by
  induction l generalizing l' with
  | nil => simp [JEqList] at h; subst h; rfl
  | cons a t iht =>
    simp only [JEqList] at h
    obtain ⟨y, ys, rfl, hxy, hr⟩ := h
    simp only [List.map_cons]
    rw [ih a (List.mem_cons_self ..) y (List.mem_cons_self ..) hxy,
      iht ys (fun x hx z hz => ih x (List.mem_cons_of_mem _ hx) z (List.mem_cons_of_mem _ hz)) hr]

theorem JEqList_of (l l' : List JTree) (ih : ∀ x, x ∈ l → ∀ y, y ∈ l' → ser x = ser y → JEq x y)
    (h : l.map ser = l'.map ser) : JEqList l l' := by
  induction l generalizing l' with
  | nil => cases l' with
    | nil => simp [JEqList]
    | cons y ys => simp at h
  | cons a t iht => cases l' with
    | nil => simp at h
    | cons y ys =>
      simp only [List.map_cons, List.cons.injEq] at h
      simp only [JEqList]
      exact ⟨y, ys, rfl, ih a (List.mem_cons_self ..) y (List.mem_cons_self ..) h.1,
        iht ys (fun x hx z hz => ih x (List.mem_cons_of_mem _ hx) z (List.mem_cons_of_mem _ hz)) h.2⟩

theorem subset_of_nodup_length {α : Type} [DecidableEq α] {l₁ l₂ : List α} (h1 : l₁.Nodup) (hs : l₁ ⊆ l₂)
    (hl : l₂.length ≤ l₁.length) : l₂ ⊆ l₁ := by
  intro x hx
  apply Decidable.byContradiction
  intro hn
  have hsub : l₁ ⊆ l₂.erase x := fun y hy =>
    (List.mem_erase_of_ne (by intro e; subst e; exact hn hy)).mpr (hs hy)
  have h2 := h1.length_le_of_subset hsub
  rw [List.length_erase_of_mem hx] at h2
  have : 0 < l₂.length := List.length_pos_of_mem hx
  omega

def serField (p : String × JTree) : String × JTree := (p.1, ser p.2)

theorem keys_serField (l : List (String × JTree)) : (l.map serField).map (·.1) = l.map (·.1) := by
  simp [List.map_map, Function.comp_def, serField]

theorem serFields_perm (l l' : List (String × JTree)) (hn : (l.map (·.1)).Nodup) (hn' : (l'.map (·.1)).Nodup)
    (hlen : l.length = l'.length)
    (hsub : ∀ p, p ∈ l → ∃ v', (p.1, v') ∈ l' ∧ ser p.2 = ser v') :
    (l.map serField).Perm (l'.map serField) := by
  have n1 : (l.map serField).Nodup := ListLib.nodup_of_nodup_map (·.1) (by rw [keys_serField]; exact hn)
  have n2 : (l'.map serField).Nodup := ListLib.nodup_of_nodup_map (·.1) (by rw [keys_serField]; exact hn')
  have fwd : ∀ q, q ∈ l.map serField → q ∈ l'.map serField := by
    intro q hq
    obtain ⟨p, hp, rfl⟩ := List.mem_map.mp hq
    obtain ⟨v', hv', he⟩ := hsub p hp
    exact List.mem_map.mpr ⟨(p.1, v'), hv', by simp [serField, he]⟩
  have ksub : l.map (·.1) ⊆ l'.map (·.1) := by
    intro k hk
    obtain ⟨p, hp, rfl⟩ := List.mem_map.mp hk
    obtain ⟨v', hv', _⟩ := hsub p hp
    exact List.mem_map.mpr ⟨(p.1, v'), hv', rfl⟩
  have kback : l'.map (·.1) ⊆ l.map (·.1) :=
    subset_of_nodup_length hn ksub (by simp [hlen])
  rw [List.perm_ext_iff_of_nodup n1 n2]
  intro q
  refine ⟨fwd q, fun hq => ?_⟩
  obtain ⟨p', hp', rfl⟩ := List.mem_map.mp hq
  obtain ⟨p, hp, hk⟩ := List.mem_map.mp (kback (List.mem_map_of_mem (f := (·.1)) hp'))
  -- p ∈ l has the key of p'; its image is in l' with that key, hence is the image of p'
  have h1 := fwd (serField p) (List.mem_map_of_mem hp)
  have h2 : serField p' ∈ l'.map serField := List.mem_map_of_mem hp'
  have hkk : (serField p).1 = (serField p').1 := hk
  have := ListLib.eq_of_nodup_map (fun q : String × JTree => q.1) (by rw [keys_serField]; exact hn') h1 h2 hkk
  rw [← this]
  exact List.mem_map_of_mem hp

/-- `ser x = ser y` iff `x == y` as JSON values (dictionary order irrelevant, numeric types kept apart) -/
theorem ser_eq_iff_JEq : ∀ a : JTree, ∀ b : JTree, KN a → KN b → (ser a = ser b ↔ JEq a b) := by
  intro a
  induction a using JTree.induct with
  | hnull => intro b _ _; simp only [ser, JEq]; exact ⟨fun h => ser_eq_null h.symm, fun h => by rw [h]; rfl⟩
  | hbool x => intro b _ _; simp only [ser, JEq]; exact ⟨fun h => ser_eq_bool h.symm, fun h => by rw [h]; rfl⟩
  | hnum x => intro b _ _; simp only [ser, JEq]; exact ⟨fun h => ser_eq_num h.symm, fun h => by rw [h]; rfl⟩
  | hstr x => intro b _ _; simp only [ser, JEq]; exact ⟨fun h => ser_eq_str h.symm, fun h => by rw [h]; rfl⟩
  | harr l ih =>
    intro b ka kb
    simp only [KN, KNList_iff] at ka
    constructor
    · intro h
      rw [ser_arr] at h
      obtain ⟨l', rfl, hl'⟩ := ser_eq_arr h.symm
      simp only [KN, KNList_iff] at kb
      simp only [JEq]
      exact ⟨l', rfl, JEqList_of l l' (fun x hx y hy hxy => (ih x hx y (ka x hx) (kb y hy)).mp hxy) hl'.symm⟩
    · intro h
      simp only [JEq] at h
      obtain ⟨l', rfl, hl⟩ := h
      simp only [KN, KNList_iff] at kb
      rw [ser_arr, ser_arr, JEqList_imp l l' (fun x hx y hy hxy => (ih x hx y (ka x hx) (kb y hy)).mpr hxy) hl]
  | hobj l ih =>
    intro b ka kb
    simp only [KN, KNFields_iff] at ka
    obtain ⟨nd, ka⟩ := ka
    constructor
    · intro h
      rw [ser_obj] at h
      obtain ⟨l', rfl, hl'⟩ := ser_eq_obj h.symm
      simp only [KN, KNFields_iff] at kb
      obtain ⟨nd', kb⟩ := kb
      have hp : (l.map serField).Perm (l'.map serField) :=
        (sortBy_perm fieldLe _).symm.trans (hl'.symm ▸ sortBy_perm fieldLe _)
      simp only [JEq]
      refine ⟨l', rfl, by simpa using hp.length_eq, (JEqFields_iff l l').mpr ?_⟩
      intro p hpl
      obtain ⟨p', hp', he⟩ := List.mem_map.mp (hp.mem_iff.mp (List.mem_map_of_mem (f := serField) hpl))
      simp only [serField, Prod.mk.injEq] at he
      refine ⟨p'.2, ?_, (ih p hpl p'.2 (ka p hpl) (kb p' hp')).mp he.2.symm⟩
      rw [← he.1]; exact hp'
    · intro h
      simp only [JEq] at h
      obtain ⟨l', rfl, hlen, hf⟩ := h
      simp only [KN, KNFields_iff] at kb
      obtain ⟨nd', kb⟩ := kb
      rw [JEqFields_iff] at hf
      have hp : (l.map serField).Perm (l'.map serField) := by
        apply serFields_perm l l' nd nd' hlen
        intro p hpl
        obtain ⟨v', hv', hj⟩ := hf p hpl
        exact ⟨v', hv', (ih p hpl v' (ka p hpl) (kb (p.1, v') hv')).mpr hj⟩
      rw [ser_obj, ser_obj]
      unfold fieldLe
      congr 1
      exact sortBy_key_eq_of_perm (fun q : String × JTree => q.1) hp (by
        show (List.map (fun x => x.1) (List.map serField l)).Nodup
        rw [keys_serField]; exact nd)

/-- `JEq` is what `ser` decides also when written the other way round (symmetry comes for free) -/
theorem JEq_symm {a b : JTree} (ka : KN a) (kb : KN b) (h : JEq a b) : JEq b a :=
  (ser_eq_iff_JEq b a kb ka).mp ((ser_eq_iff_JEq a b ka kb).mpr h).symm

theorem fieldLe_total (a b : String × JTree) : (fieldLe a b || fieldLe b a) = true := KeyOrd.total a.1 b.1
theorem fieldLe_trans (a b c : String × JTree) (h1 : fieldLe a b = true) (h2 : fieldLe b c = true) :
    fieldLe a c = true := KeyOrd.trans a.1 b.1 c.1 h1 h2

/-- `serialize` is idempotent: the keys are sorted already, at every depth -/
theorem ser_idem : ∀ a : JTree, ser (ser a) = ser a := by
  apply JTree.induct
  · rfl
  · intro b; rfl
  · intro n; rfl
  · intro s; rfl
  · intro l ih
    rw [ser_arr, ser_arr, List.map_map]
    congr 1
    apply List.map_congr_left
    intro x hx
    exact ih x hx
  · intro l ih
    rw [ser_obj, ser_obj]
    congr 1
    have hm : (sortBy fieldLe (l.map serField)).map serField = sortBy fieldLe ((l.map serField).map serField) :=
      (sortBy_map fieldLe fieldLe serField (fun a b => rfl) _).symm
    have hi : (l.map serField).map serField = l.map serField := by
      rw [List.map_map]
      apply List.map_congr_left
      intro p hp
      show (p.1, ser (ser p.2)) = (p.1, ser p.2)
      rw [ih p hp]
    show sortBy fieldLe ((sortBy fieldLe (l.map serField)).map serField) = sortBy fieldLe (l.map serField)
    rw [hm, hi]
    exact sortBy_of_pairwise _ (sortBy_pairwise fieldLe_total fieldLe_trans _)

end C07
