import Hgxv.Model.C16Ext
import Hgxv.Proofs.C16Sample
import Hgxv.Proofs.C16Match
/-! # C16 — `_match_sequences` with its error path, sessions

`matchFull` (all four flag pairs, error path) refines `matchSequences`; the second phase of `force_deg_seq and not force_dim_seq`
returns only when at most one node keeps residual degree; sessions over five kinds of calls.  Core Lean only. -/
namespace C16

/-- forget what a raising run leaves behind -/
def MRes.toOption : MRes → Option MState
  | .done st => some st
  | .raised _ => none

theorem MRes.toOption_eq_some {r : MRes} {st : MState} : r.toOption = some st ↔ r = .done st := by
  cases r <;> simp [MRes.toOption]

theorem MRes.toOption_eq_none {r : MRes} : r.toOption = none ↔ ∃ ok, r = .raised ok := by
  cases r <;> simp [MRes.toOption]

theorem extractIntoR_toOption (size : Nat) (fd fm : Bool) (st : MState) :
    (extractIntoR size fd fm st).toOption = extractInto size fd fm st := by
  unfold extractIntoR
  cases extractInto size fd fm st <;> rfl

theorem extractManyR_toOption (size : Nat) (fd fm : Bool) (k : Nat) (st : MState) :
    (extractManyR size fd fm k st).toOption = extractMany size fd fm k st := by
  induction k generalizing st with
  | zero => rfl
  | succ k ih =>
    unfold extractManyR extractMany
    rw [← extractIntoR_toOption]
    cases extractIntoR size fd fm st with
    | done st' => exact ih st'
    | raised ok => rfl

theorem matchLoopR_toOption (fd fm : Bool) (dimSeq : List (Nat × Nat)) (st : MState) :
    (matchLoopR fd fm dimSeq st).toOption = matchLoop fd fm dimSeq st := by
  induction dimSeq generalizing st with
  | nil => rfl
  | cons p rest ih =>
    obtain ⟨size, cnt⟩ := p
    unfold matchLoopR matchLoop
    rw [← extractManyR_toOption]
    cases extractManyR size fd fm cnt st with
    | done st' => exact ih st'
    | raised ok => rfl

/-- on the three flag pairs of `matchSequences` the run with exceptions kept is `matchSequences` -/
theorem matchFull_toOption (degSeq : List Nat) (dimSeq : List (Nat × Nat)) (fd fm : Bool) (picks : List (List Nat))
    (hp : (fd && !fm) = false) :
    (matchFull degSeq dimSeq fd fm picks).toOption = matchSequences degSeq dimSeq fd fm picks := by
  unfold matchFull matchSequences
  rw [if_neg (by simp [hp]), ← matchLoopR_toOption, ← matchInit]
  cases matchLoopR fd fm dimSeq (matchInit degSeq picks) with
  | done st => rw [hp]; rfl
  | raised ok => rfl

theorem matchFull_of_loop {degSeq : List Nat} {dimSeq : List (Nat × Nat)} {picks : List (List Nat)} {st1 : MState}
    (h : matchLoop true false dimSeq (matchInit degSeq picks) = some st1) :
    matchFull degSeq dimSeq true false picks = phase2 st1 := by
  have hr : matchLoopR true false dimSeq (matchInit degSeq picks) = .done st1 :=
    MRes.toOption_eq_some.mp ((matchLoopR_toOption ..).trans h)
  unfold matchFull
  rw [hr]
  rfl

theorem matchFull_forceDeg (degSeq : List Nat) (dimSeq : List (Nat × Nat)) (picks : List (List Nat)) (st : MState)
    (h : matchFull degSeq dimSeq true false picks = .done st) :
    ∃ st1, matchLoop true false dimSeq (matchInit degSeq picks) = some st1 ∧ phase2 st1 = .done st := by
  cases hl : matchLoop true false dimSeq (matchInit degSeq picks) with
  | some st1 => exact ⟨st1, rfl, matchFull_of_loop hl ▸ h⟩
  | none =>
    obtain ⟨ok, hr⟩ := MRes.toOption_eq_none.mp ((matchLoopR_toOption ..).trans hl)
    unfold matchFull at h
    rw [hr] at h
    cases h

theorem phase2_done {st st' : MState} (h : phase2 st = .done st') :
    st'.cfg = st.cfg ∧ st'.resid = st.resid ∧ st'.keys = st.keys ∧ availableNodes st'.keys st'.resid ≤ 1 ∧
      (st'.flag = true → st.flag = true ∧ ∀ k ∈ st.keys, k = 0) := by
  unfold phase2 at h
  split at h
  · split at h
    · simp at h
    · rename_i hav
      simp only [MRes.done.injEq] at h
      subst h
      exact ⟨rfl, rfl, rfl, by simp only; omega, by simp⟩
  · rename_i hk
    simp only [MRes.done.injEq] at h
    subst h
    have hk' : ∀ k ∈ st.keys, k = 0 := by
      intro k hk1
      have : ¬ (st.keys.any (fun d => d != 0) = true) := hk
      simp only [List.any_eq_true, not_exists, not_and] at this
      have := this k hk1
      simpa using this
    refine ⟨rfl, rfl, rfl, ?_, fun hf => ⟨hf, hk'⟩⟩
    unfold availableNodes
    have : st.keys.filter (fun d => 0 < d) = [] := by
      rw [List.filter_eq_nil_iff]
      intro k hk1
      have := hk' k hk1
      simp [this]
    simp [this]

theorem length_le_sum_buckets {resid S L : List Nat} (hS : S.Nodup) (hk : ∀ s ∈ S, ∃ d ∈ L, resid[s]? = some d) :
    S.length ≤ (L.map (fun d => (bucket resid d).length)).sum := by
  induction L generalizing S with
  | nil =>
    cases S with
    | nil => simp
    | cons s _ => obtain ⟨d, hd, _⟩ := hk s List.mem_cons_self; cases hd
  | cons d L ih =>
    -- the nodes of `S` in the bucket of `d`, and the others
    have h1 : (S.filter (fun s => resid[s]? == some d)).length ≤ (bucket resid d).length :=
      List.Nodup.length_le_of_subset (hS.filter _) fun s hs => mem_bucket.mpr (by simpa using (List.mem_filter.mp hs).2)
    have h2 := ih (hS.filter (fun s => decide ¬(resid[s]? == some d) = true)) fun s hs => by
      obtain ⟨hs1, hs2⟩ := List.mem_filter.mp hs
      obtain ⟨d', hd', e⟩ := hk s hs1
      rcases List.mem_cons.mp hd' with rfl | hd'
      · simp [e] at hs2
      · exact ⟨d', hd', e⟩
    have := List.length_eq_countP_add_countP (l := S) (fun s => resid[s]? == some d)
    rw [List.countP_eq_length_filter, List.countP_eq_length_filter] at this
    simp only [List.map_cons, List.sum_cons]
    omega

/-- with every residual degree a key, two nodes with residual degree make `available_nodes > 1` and some key is not `0` -/
theorem available_ge_two {keys resid : List Nat} (hc : MCover keys resid) {a b : Nat} (hne : a ≠ b)
    (ha : 0 < rd resid a) (hb : 0 < rd resid b) :
    1 < availableNodes keys resid ∧ keys.any (fun d => d != 0) = true := by
  have ea := getElem?_of_rd_pos ha
  have eb := getElem?_of_rd_pos hb
  refine ⟨?_, List.any_eq_true.mpr ⟨_, hc a _ ea, by simp; omega⟩⟩
  have := length_le_sum_buckets (S := [a, b]) (L := keys.filter (fun d => 0 < d)) (by simp [hne]) fun s hs => by
    rcases List.mem_cons.mp hs with rfl | hs
    · exact ⟨_, by simp [hc _ _ ea, ha], ea⟩
    · rw [List.mem_singleton.mp hs]
      exact ⟨_, by simp [hc _ _ eb, hb], eb⟩
  exact this

theorem available_le_one {keys resid : List Nat} (hc : MCover keys resid) (hav : availableNodes keys resid ≤ 1)
    {a b : Nat} (ha : 0 < rd resid a) (hb : 0 < rd resid b) : a = b := by
  apply Decidable.byContradiction
  intro hne
  have := (available_ge_two hc hne ha hb).1
  omega

theorem callStepX_snd_local (s s' : Sampler) (c : CallX) : (callStepX s c).2 = (callStepX s' c).2 := by
  unfold callStepX
  cases c.args <;> rfl

theorem runSessionX_outs (s : Sampler) (cs : List CallX) :
    (runSessionX s cs).map (·.1) = cs.map freshCallX := by
  induction cs generalizing s with
  | nil => rfl
  | cons c cs ih =>
    simp only [runSessionX, List.map_cons, ih, freshCallX]
    rw [callStepX_snd_local s ⟨none⟩ c]

/-- what a raising run of `_match_sequences` leaves is never `True` -/
theorem flagOfRes_raised (ok : Bool) : flagOfRes (.raised ok) = none ∨ flagOfRes (.raised ok) = some false := by
  cases ok <;> simp [flagOfRes]

theorem seqCallX_eq_seqCall {degSeq : List Nat} {dimSeq : List (Nat × Nat)} {fd fm : Bool} (fixed : Config) (t : OwnTape)
    (s : Sampler) (hp : (fd && !fm) = false) :
    (seqCallX degSeq dimSeq fd fm fixed t).2 = (seqCall true s degSeq dimSeq fd fm fixed t).2 ∧
      ((seqCall true s degSeq dimSeq fd fm fixed t).2 ≠ none →
        (seqCallX degSeq dimSeq fd fm fixed t).1 = (seqCall true s degSeq dimSeq fd fm fixed t).1) := by
  unfold seqCallX seqCall
  rw [← matchFull_toOption degSeq dimSeq fd fm t.picks hp]
  cases matchFull degSeq dimSeq fd fm t.picks with
  | done st => simp [MRes.toOption, flagAfter_reset]
  | raised ok => simp [MRes.toOption]

theorem seqCallX_snd {fd fm : Bool} (hp : (fd && !fm) = false) (degSeq : List Nat) (dimSeq : List (Nat × Nat))
    (fixed : Config) (t : OwnTape) :
    (seqCallX degSeq dimSeq fd fm fixed t).2 =
      (sampleFromSeqs degSeq dimSeq fd fm fixed t).map (fun p => ⟨some p.1, p.2⟩) :=
  (seqCallX_eq_seqCall fixed t ⟨none⟩ hp).1.trans (seqCall_snd ..)

end C16
