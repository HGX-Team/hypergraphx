import Hgxv.Model.C17Ext
import Hgxv.Proofs.C17Sum
import Hgxv.Proofs.C17Inv
set_option linter.unusedSectionVars false
/-! The initial values computed from raw draws: `_randomize_w0`, `_randomize_u0`, `np.max` and `_add_noise_input`. -/
namespace C17

variable {α : Type} [Field α] [LinearOrder α] [IsStrictOrderedRing α]

-- the direct instance path first (see `C17Psi`)
attribute [local instance 10000] LinearOrder.toPartialOrder PartialOrder.toPreorder Preorder.toLT Preorder.toLE

theorem randW0_at (c : Cfg α) (dw : Mat α) (d k : Nat) (hd : d < c.D - 1) (hk : k < c.K) :
    at2 (randW0 c dw) d k = if sizePresent c d then at2 dw d k else 0 := by
  unfold randW0; rw [at2_tab2 _ _ _ _ _ hd hk]

theorem sizePresent_edge (c : Cfg α) (e : Nat) (he : e < c.E) (h2 : 2 ≤ (c.edge e).length) :
    sizePresent c ((c.edge e).length - 2) = true := by
  unfold sizePresent
  rw [List.any_eq_true]
  exact ⟨c.edge e, edge_mem c e he, by simp; omega⟩

theorem sizePresent_iff (c : Cfg α) (d : Nat) :
    sizePresent c d = true ↔ ∃ e, e < c.E ∧ (c.edge e).length = d + 2 := by
  unfold sizePresent
  rw [List.any_eq_true]
  constructor
  · rintro ⟨x, hx, hl⟩
    obtain ⟨e, he, rfl⟩ := mem_edges c hx
    exact ⟨e, he, beq_iff_eq.mp hl⟩
  · rintro ⟨e, he, hl⟩
    exact ⟨c.edge e, edge_mem c e he, beq_iff_eq.mpr hl⟩

theorem randW0_nonneg (c : Cfg α) (dw : Mat α) (h : ∀ d k, d < c.D - 1 → k < c.K → 0 ≤ at2 dw d k) (d k : Nat) :
    0 ≤ at2 (randW0 c dw) d k := by
  unfold randW0
  apply at2_tab2_nonneg
  intro d k hd hk
  split
  · exact h d k hd hk
  · exact le_refl 0

theorem randU0_at (c : Cfg α) (du : Mat α) (i k : Nat) (hi : i < c.N) (hk : k < c.K) :
    at2 (randU0 c du) i k =
      if 0 < sumR c.K (fun k' => at2 du i k') then at2 du i k / sumR c.K (fun k' => at2 du i k') else at2 du i k := by
  unfold randU0; rw [at2_tab2 _ _ _ _ _ hi hk]

theorem randU0_pos (c : Cfg α) (du : Mat α) (h : ∀ i k, i < c.N → k < c.K → 0 < at2 du i k) (i k : Nat) (hi : i < c.N)
    (hk : k < c.K) : 0 < at2 (randU0 c du) i k := by
  rw [randU0_at c du i k hi hk]
  split
  · next hs => exact div_pos (h i k hi hk) hs
  · exact h i k hi hk

theorem randU0_nonneg (c : Cfg α) (du : Mat α) (h : ∀ i k, i < c.N → k < c.K → 0 ≤ at2 du i k) (i k : Nat) :
    0 ≤ at2 (randU0 c du) i k := by
  unfold randU0
  apply at2_tab2_nonneg
  intro i k hi hk
  split
  · next hs => exact div_nonneg (h i k hi hk) hs.le
  · exact h i k hi hk

theorem randU0_rowsum (c : Cfg α) (du : Mat α) (i : Nat) (hi : i < c.N)
    (hs : 0 < sumR c.K (fun k' => at2 du i k')) : sumR c.K (fun k => at2 (randU0 c du) i k) = 1 := by
  rw [sumR_congr c.K _ (fun k => at2 du i k / sumR c.K (fun k' => at2 du i k'))
    (fun k hk => by rw [randU0_at c du i k hi hk, if_pos hs])]
  rw [sumR_eq, ← Finset.sum_div, ← sumR_eq]
  exact div_self hs.ne'

theorem le_maxOf_left (a b : α) : a ≤ maxOf a b := by
  unfold maxOf; split
  · next h => exact h.le
  · exact le_refl a

theorem le_maxOf_right (a b : α) : b ≤ maxOf a b := by
  unfold maxOf; split
  · exact le_refl b
  · next h => exact not_lt.mp h

theorem foldl_maxOf_spec (xs : List α) :
    ∀ x : α, xs.foldl maxOf x ∈ x :: xs ∧ ∀ y ∈ x :: xs, y ≤ xs.foldl maxOf x := by
  induction xs with
  | nil => exact fun x => ⟨List.mem_singleton.mpr rfl, fun y hy => (List.mem_singleton.mp hy).le⟩
  | cons a xs ih =>
    intro x
    obtain ⟨hm, hle⟩ := ih (maxOf x a)
    have hmax := hle _ List.mem_cons_self
    rw [List.foldl_cons]
    refine ⟨?_, fun y hy => ?_⟩
    · rcases List.mem_cons.mp hm with h | h
      · rw [h]; unfold maxOf; split
        · exact List.mem_cons_of_mem _ List.mem_cons_self
        · exact List.mem_cons_self
      · exact List.mem_cons_of_mem _ (List.mem_cons_of_mem _ h)
    · rcases List.mem_cons.mp hy with rfl | hy
      · exact (le_maxOf_left y a).trans hmax
      · rcases List.mem_cons.mp hy with rfl | hy
        · exact (le_maxOf_right x y).trans hmax
        · exact hle y (List.mem_cons_of_mem _ hy)

theorem mem_flatten_tab2 (n m : Nat) (f : Nat → Nat → α) (i k : Nat) (hi : i < n) (hk : k < m) :
    f i k ∈ (tab2 n m f).flatten := by
  rw [List.mem_flatten]
  refine ⟨(List.range m).map (f i), ?_, ?_⟩
  · unfold tab2; exact List.mem_map.mpr ⟨i, by simpa using hi, rfl⟩
  · exact List.mem_map.mpr ⟨k, by simpa using hk, rfl⟩

theorem matMax_spec (n m : Nat) (X : Mat α) :
    (∀ i k, i < n → k < m → at2 X i k ≤ matMax n m X) ∧ (matMax n m X = 0 ∨ ∃ i k, matMax n m X = at2 X i k) := by
  unfold matMax
  split
  · next h =>
    refine ⟨fun i k hi hk => ?_, Or.inl rfl⟩
    have hmem := mem_flatten_tab2 n m (fun i k => at2 X i k) i k hi hk
    rw [h] at hmem; cases hmem
  · next x xs h =>
    obtain ⟨hm, hle⟩ := foldl_maxOf_spec xs x
    refine ⟨fun i k hi hk => hle _ (by rw [← h]; exact mem_flatten_tab2 n m (fun i k => at2 X i k) i k hi hk), Or.inr ?_⟩
    rw [← h, List.mem_flatten] at hm
    obtain ⟨r, hr, hy⟩ := hm
    obtain ⟨i, k, _, _, hik⟩ := mem_tab2 _ _ _ r _ hr hy
    exact ⟨i, k, hik⟩

theorem le_matMax (n m : Nat) (X : Mat α) (i k : Nat) (hi : i < n) (hk : k < m) : at2 X i k ≤ matMax n m X :=
  (matMax_spec n m X).1 i k hi hk

theorem matMax_nonneg (n m : Nat) (X : Mat α) (h : ∀ i k, 0 ≤ at2 X i k) : 0 ≤ matMax n m X := by
  rcases (matMax_spec n m X).2 with h0 | ⟨i, k, hik⟩
  · rw [h0]
  · rw [hik]; exact h i k

theorem addNoise_at (n m : Nat) (noise : α) (X dr : Mat α) (i k : Nat) (hi : i < n) (hk : k < m) :
    at2 (addNoise n m noise X dr) i k = at2 X i k + matMax n m X * noise * at2 dr i k := by
  unfold addNoise; rw [at2_tab2 _ _ _ _ _ hi hk]

/-- the start around the spectral solution is strictly positive as soon as the 0/1 matrix has one positive entry -/
theorem addNoise_pos (n m : Nat) (noise : α) (hn : 0 < noise) (X dr : Mat α) (hX : ∀ i k, 0 ≤ at2 X i k)
    (hX1 : ∃ i k, i < n ∧ k < m ∧ 0 < at2 X i k) (hd : ∀ i k, i < n → k < m → 0 < at2 dr i k)
    (i k : Nat) (hi : i < n) (hk : k < m) : 0 < at2 (addNoise n m noise X dr) i k := by
  rw [addNoise_at n m noise X dr i k hi hk]
  obtain ⟨i0, k0, hi0, hk0, hp⟩ := hX1
  exact add_pos_of_nonneg_of_pos (hX i k)
    (mul_pos (mul_pos (lt_of_lt_of_le hp (le_matMax n m X i0 k0 hi0 hk0)) hn) (hd i k hi hk))

theorem addNoise_ge (n m : Nat) (noise : α) (hn : 0 ≤ noise) (X dr : Mat α) (hX : ∀ i k, 0 ≤ at2 X i k)
    (hd : ∀ i k, i < n → k < m → 0 ≤ at2 dr i k) (i k : Nat) (hi : i < n) (hk : k < m) :
    at2 X i k ≤ at2 (addNoise n m noise X dr) i k := by
  rw [addNoise_at n m noise X dr i k hi hk]
  exact le_add_of_nonneg_right (mul_nonneg (mul_nonneg (matMax_nonneg n m X hX) hn) (hd i k hi hk))

theorem addNoise_nonneg (n m : Nat) (noise : α) (hn : 0 ≤ noise) (X dr : Mat α) (hX : ∀ i k, 0 ≤ at2 X i k)
    (hd : ∀ i k, i < n → k < m → 0 ≤ at2 dr i k) (i k : Nat) : 0 ≤ at2 (addNoise n m noise X dr) i k :=
  at2_tab2_nonneg _ _ _ (fun i k hi hk =>
    add_nonneg (hX i k) (mul_nonneg (mul_nonneg (matMax_nonneg n m X hX) hn) (hd i k hi hk))) i k

theorem u0Of_pos (c : Cfg α) (hysc : Option (Mat α)) (noise : α) (hn : 0 < noise) (du : Mat α)
    (hX : ∀ X, hysc = some X → (∀ i k, 0 ≤ at2 X i k) ∧ ∃ i k, i < c.N ∧ k < c.K ∧ 0 < at2 X i k)
    (hdu : ∀ i k, i < c.N → k < c.K → 0 < at2 du i k) (i k : Nat) (hi : i < c.N) (hk : k < c.K) :
    0 < at2 (u0Of c hysc noise du) i k := by
  cases hysc with
  | none => exact randU0_pos c du hdu i k hi hk
  | some X => exact addNoise_pos c.N c.K noise hn X du (hX X rfl).1 (hX X rfl).2 hdu i k hi hk

theorem w0Of_nonneg (c : Cfg α) (winit : Option (Mat α)) (noise : α) (hn : 0 ≤ noise) (dw : Mat α)
    (hW : ∀ W, winit = some W → ∀ d k, 0 ≤ at2 W d k)
    (hdw : ∀ d k, d < c.D - 1 → k < c.K → 0 ≤ at2 dw d k) (d k : Nat) : 0 ≤ at2 (w0Of c winit noise dw) d k := by
  cases winit with
  | none => exact randW0_nonneg c dw hdw d k
  | some W => exact addNoise_nonneg (c.D - 1) c.K noise hn W dw (hW W rfl) hdw d k

theorem w0Of_pos (c : Cfg α) (winit : Option (Mat α)) (noise : α) (hn : 0 ≤ noise) (dw : Mat α)
    (hW : ∀ W, winit = some W → (∀ d k, 0 ≤ at2 W d k) ∧
      ∀ e, e < c.E → ∀ k, k < c.K → 0 < at2 W ((c.edge e).length - 2) k)
    (hdw : ∀ d k, d < c.D - 1 → k < c.K → 0 < at2 dw d k) (e k : Nat) (he : e < c.E) (hk : k < c.K)
    (h2 : 2 ≤ (c.edge e).length) (hD : (c.edge e).length ≤ c.D) :
    0 < at2 (w0Of c winit noise dw) ((c.edge e).length - 2) k := by
  have hd : (c.edge e).length - 2 < c.D - 1 := by omega
  cases winit with
  | none =>
    unfold w0Of
    rw [randW0_at c dw _ k hd hk, if_pos (sizePresent_edge c e he h2)]
    exact hdw _ k hd hk
  | some W =>
    exact lt_of_lt_of_le ((hW W rfl).2 e he k hk)
      (addNoise_ge (c.D - 1) c.K noise hn W dw (hW W rfl).1 (fun d k hd hk => (hdw d k hd hk).le) _ k hd hk)

end C17
