import Hgxv.Model.C02X
import Hgxv.Proofs.C02Total
/-! # C02: the routine of `get_edges(subhypergraph=True)` on the abstract object has a closed form -/
namespace C02
open AL

/-- `Spec.addNode · n none` on the node table alone (`Spec.addNode_none_eq`) -/
def addN (N : List (Node × Meta)) (n : Node) : List (Node × Meta) :=
  match get? N n with
  | none => set N n []
  | some [] => set N n []
  | some _ => N

theorem Spec.addNode_none_eq (S : Spec) (n : Node) : Spec.addNode S n none = { S with nodes := addN S.nodes n } := by
  unfold Spec.addNode addN
  cases h : get? S.nodes n with
  | none => rfl
  | some md => cases md <;> rfl

theorem Spec.touchAll_eq (S : Spec) (l : List Node) : Spec.touchAll S l = { S with nodes := l.foldl addN S.nodes } := by
  induction l generalizing S with
  | nil => rfl
  | cons n ns ih =>
    simp only [Spec.touchAll, List.foldl_cons]
    rw [Spec.addNode_none_eq, ih]

theorem Spec.addNodes_eq (S : Spec) (l : List Node) : Spec.addNodes S l = { S with nodes := l.foldl addN S.nodes } := by
  induction l generalizing S with
  | nil => rfl
  | cons n ns ih =>
    simp only [Spec.addNodes, List.foldl_cons]
    rw [Spec.addNode_none_eq, ih]

/-- on a table whose metadata are all `{}`, touching is `addK` on the key list -/
theorem addN_mk (L : List Node) (n : Node) :
    addN (L.map (fun m => (m, ([] : Meta)))) n = (addK L n).map (fun m => (m, ([] : Meta))) := by
  unfold addN addK
  rw [get?_keymap]
  by_cases h : n ∈ L
  · simp only [h, if_true, List.contains_iff_mem]
    rw [set_same]
    rw [get?_keymap]; simp [h]
  · simp only [h, if_false, List.contains_iff_mem]
    rw [set_of_not_mem]
    · simp
    · rw [get?_keymap]; simp [h]

theorem foldl_addN_mk (L l : List Node) :
    l.foldl addN (L.map (fun m => (m, ([] : Meta)))) = (l.foldl addK L).map (fun m => (m, ([] : Meta))) := by
  induction l generalizing L with
  | nil => rfl
  | cons n ns ih => simp only [List.foldl_cons]; rw [addN_mk, ih]

theorem foldl_addK_of_mem (L l : List Node) (h : ∀ n ∈ l, n ∈ L) : l.foldl addK L = L := by
  induction l with
  | nil => rfl
  | cons n ns ih =>
    simp only [List.foldl_cons]
    have hn : addK L n = L := by simp [addK, h n List.mem_cons_self]
    rw [hn]
    exact ih (fun m hm => h m (List.mem_cons_of_mem _ hm))

theorem addK_nodup (L : List Node) (n : Node) (h : L.Nodup) : (addK L n).Nodup :=
  ListLib.nodup_addIfNew List.contains_iff_mem h

theorem foldl_addK_nodup (L l : List Node) (h : L.Nodup) : (l.foldl addK L).Nodup :=
  ListLib.foldl_inv addK addK_nodup l L h

theorem mem_addK (L : List Node) (n m : Node) : m ∈ addK L n ↔ m ∈ L ∨ m = n :=
  ListLib.mem_addIfNew List.contains_iff_mem m

theorem mem_foldl_addK (L l : List Node) (m : Node) : m ∈ l.foldl addK L ↔ m ∈ L ∨ m ∈ l :=
  ListLib.mem_foldl_of_step addK mem_addK l L m


/-- the entries `add_edges` appends for the selected hyperedges `es`: their weights if weighted, else 1; metadata `{}` -/
def newEdges (W : Bool) (es : List (Key × (Int × Meta))) : List (Key × (Int × Meta)) :=
  es.map (fun p => (p.1, (if W then p.2.1 else one, ([] : Meta))))
/-- the endpoints of `es` in the order `add_edges` touches them -/
def endsOf (es : List (Key × (Int × Meta))) : List Node := es.flatMap (fun p => p.1.1 ++ p.1.2)

theorem Spec.addEdge_new (S : Spec) (k : Key) (w : Option Int) (hk : KeyWF k) (hn : get? S.edges k = none)
    (hw : S.weighted = true ∨ w = none) :
    Spec.addEdge S (RawEdge.ofKey k) w none =
      ({ S with nodes := (k.1 ++ k.2).foldl addN S.nodes,
                edges := S.edges ++ [(k, (if S.weighted then w.getD one else one, ([] : Meta)))] }, .ok) := by
  unfold Spec.addEdge
  rw [canonAdd_ofKey k hk]
  unfold Spec.addEdgeKey
  have hg : (!S.weighted && w.isSome && w != some one) = false := by
    rcases hw with h | h
    · simp [h]
    · simp [h]
  rw [hg]
  simp only [Bool.false_eq_true, if_false, hn]
  rw [Spec.touchAll_eq]
  simp only [Option.getD_none]
  rw [set_of_not_mem _ _ _ hn]

/-- the loop of `add_edges` over pairwise different new well-formed keys, in closed form -/
theorem Spec.loopB (es : List (Key × (Int × Meta))) (S : Spec) (ws : Option (List Int))
    (hk : ∀ p ∈ es, KeyWF p.1) (hnd : (keys es).Nodup) (hnew : ∀ p ∈ es, get? S.edges p.1 = none)
    (hw : (S.weighted = true ∧ ws = some (es.map (·.2.1))) ∨ (S.weighted = false ∧ ws = none)) :
    Spec.addEdgesLoop S ((keys es).map RawEdge.ofKey) ws none =
      ({ S with nodes := (endsOf es).foldl addN S.nodes, edges := S.edges ++ newEdges S.weighted es }, .ok) := by
  -- one turn is `Spec.addEdge_new` (the key is new: appended with its weight, its endpoints touched); `rw [Spec.addEdgesLoop]` leaves
  -- the side conditions of the equation lemma (`ws`, `mds` not `some []`), closed by the trailing `all_goals`
  induction es generalizing S ws with
  | nil => simp [Spec.addEdgesLoop, keys, endsOf, newEdges]
  | cons p es ih =>
    have hkp := hk p List.mem_cons_self
    have hnp := hnew p List.mem_cons_self
    simp only [keys, List.map_cons] at hnd ⊢
    have hnd' := List.nodup_cons.mp hnd
    have step : ∀ w, (S.weighted = true ∨ w = none) → Spec.addEdge S (RawEdge.ofKey p.1) w none = _ :=
      fun w h => Spec.addEdge_new S p.1 w hkp hnp h
    let S' : Spec := { S with nodes := (p.1.1 ++ p.1.2).foldl addN S.nodes,
                              edges := S.edges ++ [(p.1, (if S.weighted then p.2.1 else one, ([] : Meta)))] }
    have hnew' : ∀ q ∈ es, get? S'.edges q.1 = none := by
      intro q hq
      show get? (S.edges ++ _) q.1 = none
      rw [get?_append, hnew q (List.mem_cons_of_mem _ hq)]
      have hne : p.1 ≠ q.1 := by
        intro he
        apply hnd'.1
        rw [he]
        exact List.mem_map.mpr ⟨q, hq, rfl⟩
      simp [get?, hne]
    have fin : ({ S' with nodes := (endsOf es).foldl addN S'.nodes, edges := S'.edges ++ newEdges S'.weighted es } : Spec) =
        { S with nodes := (endsOf (p :: es)).foldl addN S.nodes, edges := S.edges ++ newEdges S.weighted (p :: es) } := by
      simp only [S', endsOf, newEdges, List.flatMap_cons, List.foldl_append, List.map_cons, List.append_assoc,
        List.singleton_append]
    rcases hw with ⟨hW, hws⟩ | ⟨hW, hws⟩
    · subst hws
      rw [Spec.addEdgesLoop]
      simp only [List.map_cons, Option.bind_some, List.head?_cons, Option.bind_none, Option.map_some, List.tail_cons,
        Option.map_none]
      rw [step (some p.2.1) (Or.inl hW)]
      simp only [hW, if_true, Option.getD_some]
      have := ih S' (some (es.map (·.2.1))) (fun q hq => hk q (List.mem_cons_of_mem _ hq)) hnd'.2 hnew'
        (Or.inl ⟨hW, rfl⟩)
      simp only [keys] at this
      simp only [S', hW, if_true] at this fin
      rw [this, fin]
      all_goals (intro h; simp at h)
    · subst hws
      rw [Spec.addEdgesLoop]
      simp only [Option.bind_none, Option.map_none]
      rw [step none (Or.inr rfl)]
      simp only [hW, Bool.false_eq_true, if_false]
      have := ih S' none (fun q hq => hk q (List.mem_cons_of_mem _ hq)) hnd'.2 hnew' (Or.inr ⟨hW, rfl⟩)
      simp only [keys] at this
      simp only [S', hW, Bool.false_eq_true, if_false] at this fin
      rw [this, fin]
      all_goals (intro h; simp at h)


theorem Spec.addEdges_sel (es : List (Key × (Int × Meta))) (S : Spec)
    (hk : ∀ p ∈ es, KeyWF p.1) (hnd : (keys es).Nodup) (hnew : ∀ p ∈ es, get? S.edges p.1 = none) :
    Spec.addEdges S ((keys es).map RawEdge.ofKey) (if S.weighted then some (es.map (·.2.1)) else none) none =
      ({ S with nodes := (endsOf es).foldl addN S.nodes, edges := S.edges ++ newEdges S.weighted es }, .ok) := by
  unfold Spec.addEdges
  cases hW : S.weighted with
  | false =>
    simp only [Bool.false_eq_true, if_false, Option.isSome_none, Bool.false_and]
    have := Spec.loopB es S none hk hnd hnew (Or.inr ⟨hW, rfl⟩)
    rw [hW] at this
    exact this
  | true =>
    simp only [if_true, Option.isSome_some, Bool.not_true, Bool.and_false, Bool.false_eq_true, if_false]
    have hl : ((keys es).map RawEdge.ofKey).length = (es.map (·.2.1)).length := by simp [keys]
    simp only [hl, ne_eq, not_true_eq_false, if_false]
    cases es with
    | nil =>
      obtain ⟨w0, n0, e0, h0⟩ := S
      simp only at hW; subst hW
      simp [truthy, Spec.addEdgesLoop, keys, endsOf, newEdges]
    | cons p es =>
      have := Spec.loopB (p :: es) S (some ((p :: es).map (·.2.1))) hk hnd hnew (Or.inl ⟨hW, rfl⟩)
      rw [hW] at this
      simp only [truthy, List.map_cons] at this ⊢
      exact this

theorem Spec.runOk_append (S : Spec) (a b : List Op) :
    Spec.runOk S (a ++ b) = (Spec.runOk S a).bind (fun S' => Spec.runOk S' b) := by
  induction a generalizing S with
  | nil => rfl
  | cons o os ih =>
    simp only [List.cons_append, Spec.runOk]
    cases (Spec.applyOp S o).2 with
    | ok => exact ih _
    | rej => rfl

theorem Spec.runOk_run (S S' : Spec) (ops : List Op) (h : Spec.runOk S ops = some S') : Spec.run S ops = S' := by
  induction ops generalizing S with
  | nil => simp only [Spec.runOk] at h; injection h
  | cons o os ih =>
    simp only [Spec.runOk] at h
    simp only [Spec.run]
    cases ho : (Spec.applyOp S o).2 with
    | ok => rw [ho] at h; exact ih _ h
    | rej => rw [ho] at h; simp at h

theorem Spec.runOk_cons_ok (S S' : Spec) (o : Op) (os : List Op) (h : Spec.applyOp S o = (S', .ok)) :
    Spec.runOk S (o :: os) = Spec.runOk S' os := by
  simp only [Spec.runOk, h]

/-- the shape of both metadata loops of the routine: one accepted call per key of `Q`, replacing that key's value -/
theorem Spec.runOk_updates {α β : Type} [DecidableEq α] (put : List (α × β) → Spec) (op : α → Op) (F : α → β → β)
    (Q P : List (α × β)) (rest : List Op) (hnd : (keys (P ++ Q)).Nodup)
    (hstep : ∀ T k v, k ∈ keys Q → get? T k = some v → Spec.applyOp (put T) (op k) = (put (AL.set T k (F k v)), .ok)) :
    Spec.runOk (put (P ++ Q)) ((keys Q).map op ++ rest) =
      Spec.runOk (put (P ++ Q.map (fun p => (p.1, F p.1 p.2)))) rest :=
  run_updates Spec.runOk (fun S o S' => Spec.applyOp S o = (S', .ok)) (fun S o S' os => Spec.runOk_cons_ok S S' o os)
    put op F Q P rest hnd hstep

theorem collect_map {α β γ : Type} (f : β → Option γ) (h : α → β) (g : α → γ) (l : List α)
    (hf : ∀ a ∈ l, f (h a) = some (g a)) : collect f (l.map h) = some (l.map g) := by
  rw [collect_eq_mapM, List.mapM_map]; exact ListLib.mapM_eq_some_map _ g l hf

theorem foldl_addK_fresh (L0 l : List Node) (hnd : l.Nodup) (hd : ∀ n ∈ l, n ∉ L0) : l.foldl addK L0 = L0 ++ l := by
  induction l generalizing L0 with
  | nil => simp
  | cons n ns ih =>
    simp only [List.foldl_cons]
    have hn : addK L0 n = L0 ++ [n] := by simp [addK, hd n List.mem_cons_self]
    rw [hn, ih (L0 ++ [n]) (List.nodup_cons.mp hnd).2]
    · simp
    · intro m hm hc
      rcases List.mem_append.mp hc with h | h
      · exact hd m (List.mem_cons_of_mem _ hm) h
      · simp at h; subst h; exact (List.nodup_cons.mp hnd).1 hm

theorem map_keys_get (N : List (Node × Meta)) (hnd : (keys N).Nodup) :
    (keys N).map (fun n => (n, (get? N n).getD [])) = N := by
  induction N with
  | nil => rfl
  | cons p N ih =>
    obtain ⟨n, md⟩ := p
    simp only [keys, List.map_cons] at hnd
    have h' := List.nodup_cons.mp hnd
    have e : (keys N).map (fun m => (m, (get? ((n, md) :: N) m).getD [])) =
        (keys N).map (fun m => (m, (get? N m).getD [])) := by
      apply List.map_congr_left
      intro m hm
      have hne : n ≠ m := fun he => h'.1 (he ▸ hm)
      simp [get?, hne]
    have e0 : get? ((n, md) :: N) n = some md := by simp [get?]
    show (n, (get? ((n, md) :: N) n).getD []) :: (keys N).map (fun m => (m, (get? ((n, md) :: N) m).getD [])) = _
    rw [e, e0, ih h'.2]
    rfl


theorem collect_map' {α γ : Type} (f : α → Option γ) (g : α → γ) (l : List α)
    (hf : ∀ a ∈ l, f a = some (g a)) : collect f l = some (l.map g) := by
  rw [collect_eq_mapM]; exact ListLib.mapM_eq_some_map f g l hf

theorem firstOcc_nodup (l : List Node) : (firstOcc l).Nodup := foldl_addK_nodup [] l List.nodup_nil
theorem mem_firstOcc (l : List Node) (m : Node) : m ∈ firstOcc l ↔ m ∈ l := by
  unfold firstOcc; rw [mem_foldl_addK]; simp

/-- `add_nodes` (optional) and `add_edges` of the routine on the fresh object -/
theorem Spec.stage1 (W : Bool) (nl : List Node) (hnl : nl.Nodup) (es : List (Key × (Int × Meta)))
    (hk : ∀ p ∈ es, KeyWF p.1) (hnd : (keys es).Nodup) (hends : ∀ n ∈ endsOf es, n ∈ nl) (keep : Bool) :
    Spec.runOk (Spec.fresh W) ((if keep then [Op.addNodes nl] else []) ++
        [Op.addEdges ((keys es).map RawEdge.ofKey) (if W then some (es.map (·.2.1)) else none) none]) =
      some { weighted := W, nodes := (if keep then nl else firstOcc (endsOf es)).map (fun m => (m, ([] : Meta))),
             edges := newEdges W es, hmeta := ctorHMeta none W } := by
  have mk0 : ([] : List (Node × Meta)) = ([] : List Node).map (fun m => (m, ([] : Meta))) := rfl
  cases keep with
  | true =>
    simp only [if_true, List.singleton_append]
    have a1 : Spec.applyOp (Spec.fresh W) (Op.addNodes nl) =
        ((⟨W, nl.map (fun m => (m, ([] : Meta))), [], ctorHMeta none W⟩ : Spec), Out.ok) := by
      show (Spec.addNodes (Spec.fresh W) nl, Out.ok) = _
      rw [Spec.addNodes_eq]
      show ((⟨W, nl.foldl addN [], [], ctorHMeta none W⟩ : Spec), Out.ok) = _
      rw [mk0, foldl_addN_mk, foldl_addK_fresh [] nl hnl (fun _ _ h => by cases h)]
      simp
    rw [Spec.runOk_cons_ok _ _ _ _ a1]
    have a2 : Spec.applyOp (⟨W, nl.map (fun m => (m, ([] : Meta))), [], ctorHMeta none W⟩ : Spec)
        (Op.addEdges ((keys es).map RawEdge.ofKey) (if W then some (es.map (·.2.1)) else none) none) =
        ((⟨W, nl.map (fun m => (m, ([] : Meta))), newEdges W es, ctorHMeta none W⟩ : Spec), Out.ok) := by
      refine (Spec.addEdges_sel es ⟨W, nl.map (fun m => (m, ([] : Meta))), [], ctorHMeta none W⟩ hk hnd
        (fun p _ => rfl)).trans ?_
      show ((⟨W, (endsOf es).foldl addN (nl.map (fun m => (m, ([] : Meta)))), [] ++ newEdges W es,
        ctorHMeta none W⟩ : Spec), Out.ok) = _
      rw [foldl_addN_mk, foldl_addK_of_mem nl (endsOf es) hends]
      rfl
    rw [Spec.runOk_cons_ok _ _ _ _ a2]
    rfl
  | false =>
    simp only [Bool.false_eq_true, if_false, List.nil_append]
    have a2 : Spec.applyOp (Spec.fresh W)
        (Op.addEdges ((keys es).map RawEdge.ofKey) (if W then some (es.map (·.2.1)) else none) none) =
        ((⟨W, (firstOcc (endsOf es)).map (fun m => (m, ([] : Meta))), newEdges W es, ctorHMeta none W⟩ : Spec), Out.ok) := by
      refine (Spec.addEdges_sel es (Spec.fresh W) hk hnd (fun p _ => rfl)).trans ?_
      show ((⟨W, (endsOf es).foldl addN [], [] ++ newEdges W es, ctorHMeta none W⟩ : Spec), Out.ok) = _
      rw [mk0, foldl_addN_mk]
      rfl
    rw [Spec.runOk_cons_ok _ _ _ _ a2]
    rfl

/-- the two metadata loops of the routine -/
theorem Spec.stage23 (W : Bool) (hm : Meta) (L2 : List Node) (hL2 : L2.Nodup) (es : List (Key × (Int × Meta)))
    (hk : ∀ p ∈ es, KeyWF p.1) (hnd : (keys es).Nodup) (gN : Node → Meta) (gE : Key → Meta) :
    Spec.runOk { weighted := W, nodes := L2.map (fun m => (m, ([] : Meta))), edges := newEdges W es, hmeta := hm }
        (L2.map (fun n => Op.setNodeMeta n (gN n)) ++
          (keys es).map (fun k => Op.setEdgeMeta (RawEdge.ofKey k) (gE k))) =
      some { weighted := W, nodes := L2.map (fun n => (n, gN n)),
             edges := es.map (fun p => (p.1, (if W then p.2.1 else one, gE p.1))), hmeta := hm } := by
  have kN : keys (L2.map (fun m => (m, ([] : Meta)))) = L2 := by simp [keys, Function.comp_def]
  have kE : keys (newEdges W es) = keys es := by simp [keys, newEdges, Function.comp_def]
  have d := Spec.runOk_updates (fun T => (⟨W, T, newEdges W es, hm⟩ : Spec))
    (fun n => Op.setNodeMeta n (gN n)) (fun n _ => gN n) (L2.map (fun m => (m, ([] : Meta)))) []
    ((keys es).map (fun k => Op.setEdgeMeta (RawEdge.ofKey k) (gE k))) (by simpa [kN] using hL2)
    (fun T n v _ hg => by simp [Spec.applyOp, Spec.setNodeMeta, has, hg])
  simp only [List.nil_append, kN] at d
  rw [d]
  have e := Spec.runOk_updates (fun T =>
      (⟨W, (L2.map (fun m => (m, ([] : Meta)))).map (fun p => (p.1, gN p.1)), T, hm⟩ : Spec))
    (fun k => Op.setEdgeMeta (RawEdge.ofKey k) (gE k)) (fun k v => (v.1, gE k)) (newEdges W es) [] []
    (by simpa [kE] using hnd)
    (fun T k v hk' hg => by
      obtain ⟨q, hq, rfl⟩ := List.mem_map.mp (kE ▸ hk')
      simp [Spec.applyOp, Spec.updEdgeMeta, canonStrict_ofKey q.1 (hk q hq), hg])
  simp only [List.nil_append, kE, List.append_nil] at e
  rw [e]
  simp [Spec.runOk, newEdges]


/-- what `C02_abstract_wellformed` and the unweighted-weights invariant say about the abstract object -/
structure SpecWF (sp : Spec) : Prop where
  ndN : (keys sp.nodes).Nodup
  ndE : (keys sp.edges).Nodup
  kwf : ∀ p ∈ sp.edges, KeyWF p.1
  ends : ∀ p ∈ sp.edges, ∀ n, (n ∈ p.1.1 ∨ n ∈ p.1.2) → n ∈ keys sp.nodes
  unw : sp.weighted = false → ∀ p ∈ sp.edges, p.2.1 = one

/-- **closed form**: the routine run on a well-formed abstract object returns the selected part of it -/
theorem Spec.subHG_eq_sub (sp : Spec) (wf : SpecWF sp) (f : Filt) (up keep : Bool) :
    Spec.subHG sp f up keep = Spec.sub sp f up keep := by
  -- compute the three lists of calls of the routine (`h1`, `h2`, `h3`), run `add_nodes` / `add_edges` (`Spec.stage1`), run the two
  -- metadata loops (`Spec.stage23`), then identify the hyperedge table (`eE`) and the node table (`eN`) with those of `Spec.sub`
  unfold Spec.subHG Spec.sub Spec.subProgram
  cases ht : f.target with
  | none => simp [Spec.edgesF, ht, subProgramG]
  | some t =>
    simp only [Option.map_some]
    generalize hes : sp.edges.filter (fun p => passes t up p.1) = es
    have hks : sp.edgesF f up = some (keys es) := by
      simp only [Spec.edgesF, ht, Option.map_some, Spec.keyList, keys, ← hes, List.filter_map]
      rfl
    have hsub : ∀ p ∈ es, p ∈ sp.edges := fun p hp => (List.mem_filter.mp (hes ▸ hp)).1
    have hkwf : ∀ p ∈ es, KeyWF p.1 := fun p hp => wf.kwf p (hsub p hp)
    have hndE : (keys es).Nodup := by
      have : (keys es).Sublist (keys sp.edges) := by
        rw [← hes]; exact List.Sublist.map _ List.filter_sublist
      exact this.nodup wf.ndE
    have hget : ∀ p ∈ es, get? sp.edges p.1 = some p.2 :=
      fun p hp => get?_of_mem sp.edges p.1 p.2 wf.ndE (hsub p hp)
    have hends : ∀ n ∈ endsOf es, n ∈ keys sp.nodes := by
      intro n hn
      obtain ⟨p, hp, hn⟩ := List.mem_flatMap.mp hn
      exact wf.ends p (hsub p hp) n (List.mem_append.mp hn)
    have h1 : subOps1G sp.weighted sp.nodeList sp.getWeight (keys es) keep =
        some ((if keep then [Op.addNodes (keys sp.nodes)] else []) ++
          [Op.addEdges ((keys es).map RawEdge.ofKey) (if sp.weighted then some (es.map (·.2.1)) else none) none]) := by
      unfold subOps1G Spec.nodeList
      cases hW : sp.weighted with
      | false => simp
      | true =>
        have : collect (fun k => sp.getWeight (RawEdge.ofKey k)) (keys es) = some (es.map (·.2.1)) := by
          apply collect_map
          intro p hp
          unfold Spec.getWeight
          rw [canonStrict_ofKey p.1 (hkwf p hp)]
          simp [hget p hp]
        simp [this]
    rw [hks]
    unfold subProgramG
    simp only [h1]
    have r1 := Spec.stage1 sp.weighted (keys sp.nodes) wf.ndN es hkwf hndE hends keep
    generalize hL2 : (if keep then keys sp.nodes else firstOcc (endsOf es)) = L2 at r1
    have hL2nd : L2.Nodup := by
      rw [← hL2]; cases keep
      · exact firstOcc_nodup _
      · exact wf.ndN
    have hL2sub : ∀ n ∈ L2, n ∈ keys sp.nodes := by
      intro n hn
      rw [← hL2] at hn
      cases keep
      · exact hends n ((mem_firstOcc _ n).mp hn)
      · exact hn
    have hrun := Spec.runOk_run _ _ _ r1
    rw [hrun]
    have hnl : (⟨sp.weighted, L2.map (fun m => (m, ([] : Meta))), newEdges sp.weighted es, ctorHMeta none sp.weighted⟩ : Spec).nodeList = L2 := by
      simp [Spec.nodeList, keys, Function.comp_def]
    rw [hnl]
    have h2 : subOps2G sp.nodeMeta L2 = some (L2.map (fun n => Op.setNodeMeta n ((get? sp.nodes n).getD []))) := by
      apply collect_map'
      intro n hn
      unfold Spec.nodeMeta
      have := (isSome_get?_iff sp.nodes n).mpr (hL2sub n hn)
      cases hg : get? sp.nodes n with
      | none => rw [hg] at this; simp at this
      | some md => simp
    have h3 : subOps3G sp.edgeMeta (keys es) =
        some ((keys es).map (fun k => Op.setEdgeMeta (RawEdge.ofKey k) (((get? sp.edges k).map (·.2)).getD []))) := by
      unfold subOps3G
      have := collect_map (fun k => (sp.edgeMeta (RawEdge.ofKey k)).map (fun md => Op.setEdgeMeta (RawEdge.ofKey k) md))
        (fun p : Key × (Int × Meta) => p.1)
        (fun p => Op.setEdgeMeta (RawEdge.ofKey p.1) (((get? sp.edges p.1).map (·.2)).getD [])) es (by
          intro p hp
          unfold Spec.edgeMeta
          rw [canonStrict_ofKey p.1 (hkwf p hp)]
          simp [hget p hp])
      simp only [keys, List.map_map] at this ⊢
      exact this
    simp only [h2, h3, Option.bind_some]
    rw [List.append_assoc, Spec.runOk_append, r1]
    simp only [Option.bind_some]
    rw [Spec.stage23 sp.weighted _ L2 hL2nd es hkwf hndE]
    congr 1
    have eE : es.map (fun p => (p.1, (if sp.weighted then p.2.1 else one, ((get? sp.edges p.1).map (·.2)).getD []))) = es := by
      conv => rhs; rw [← List.map_id es]
      apply List.map_congr_left
      intro p hp
      have hw : (if sp.weighted then p.2.1 else one) = p.2.1 := by
        cases hW : sp.weighted with
        | true => simp
        | false => simp [wf.unw hW p (hsub p hp)]
      simp [hget p hp, hw]
    rw [eE]
    have eN : L2.map (fun n => (n, (get? sp.nodes n).getD [])) =
        (if keep then sp.nodes else (firstOcc (endsOf es)).map (fun n => (n, (get? sp.nodes n).getD []))) := by
      rw [← hL2]
      cases keep
      · simp
      · simp only [if_true]; exact map_keys_get sp.nodes wf.ndN
    rw [eN]
    rfl


theorem specWF_abs (s : Store) (h : Inv s) (u : Unw s) : SpecWF (abs s) :=
  have t := abs_tab h u
  ⟨t.nnd, t.knd, fun p hp => (t.key p hp).1, fun p hp n hn => (t.key p hp).2 n (List.mem_append.mpr hn), t.unw⟩

end C02
