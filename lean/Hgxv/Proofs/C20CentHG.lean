import Hgxv.Proofs.C20Cent
import Hgxv.Proofs.C20Reads
import Hgxv.Proofs.C20
/-! `closeness` / `betweenness` (`Model/C20Cent.lean`) and the hypergraph (core Lean only): adjacency of the two projections in
terms of the hypergraph; both routines are carried along by an injective relabelling of the vertices of ANY graph. -/
namespace C20
variable {V : Type} [DecidableEq V]

/-- adjacency in the s-line graph in terms of the hypergraph: the vertices `i ≠ j` are neighbours iff the hyperedges number
`i` and `j` are `linked` (share at least `max(1, s)` nodes; the smaller index first, as `line_graph` evaluates it) -/
theorem mem_nbrs_lineGraph {α : Type} [DecidableEq α] (srt : List α → List α) (H : HG α) (s i j : Nat) :
    j ∈ nbrs (lineGraph srt H s) i ↔
      j < H.edges.length ∧ j ≠ i ∧ ∃ a b, (H.edges.map srt)[i]? = some a ∧ (H.edges.map srt)[j]? = some b ∧
        (if i < j then linked s a b else linked s b a) = true := by
  unfold nbrs
  rw [List.mem_filter]
  simp only [decide_eq_true_eq, adjacent_iff]
  show j ∈ List.range H.edges.length ∧ j ≠ i ∧ ((j, i) ∈ lineEdges s (idTable srt H.edges) ∨ (i, j) ∈ lineEdges s (idTable srt H.edges)) ↔ _
  rw [List.mem_range, mem_lineEdges_idTable, mem_lineEdges_idTable]
  constructor
  · rintro ⟨h1, h2, ⟨hlt, a, b, ha, hb, hl⟩ | ⟨hlt, a, b, ha, hb, hl⟩⟩
    · exact ⟨h1, h2, b, a, hb, ha, by rw [if_neg (by omega)]; exact hl⟩
    · exact ⟨h1, h2, a, b, ha, hb, by rw [if_pos hlt]; exact hl⟩
  · rintro ⟨h1, h2, a, b, ha, hb, hl⟩
    refine ⟨h1, h2, ?_⟩
    by_cases hlt : i < j
    · rw [if_pos hlt] at hl; exact Or.inr ⟨hlt, a, b, ha, hb, hl⟩
    · rw [if_neg hlt] at hl; exact Or.inl ⟨by omega, b, a, hb, ha, hl⟩

theorem nbrs_lineGraph_memberless {α : Type} [DecidableEq α] (srt : List α → List α) (H : HG α) (s i : Nat)
    (hi : (H.edges.map srt)[i]? = some []) : nbrs (lineGraph srt H s) i = [] := by
  rw [List.eq_nil_iff_forall_not_mem]
  intro j hj
  obtain ⟨_, _, a, b, ha, _, hl⟩ := (mem_nbrs_lineGraph srt H s i j).mp hj
  rw [hi] at ha
  cases ha
  split at hl
  · rw [(linked_nil s b).1] at hl; cases hl
  · rw [(linked_nil s b).2] at hl; cases hl

theorem mem_nbrs_bipGraph {α : Type} [DecidableEq α] (srt : List α → List α) (H : HG α) (i j : Nat) :
    nameE j ∈ nbrs (bipGraph srt H) (nameN i) ↔
      ∃ e x, H.edges[j]? = some e ∧ x ∈ srt e ∧ H.nodes.idxOf x = i := by
  unfold nbrs
  rw [List.mem_filter]
  simp only [decide_eq_true_eq, adjacent_iff]
  rw [mem_bipEdges, mem_bipEdges]
  constructor
  · rintro ⟨_, _, ⟨q, e, x, hq, hx, h1, h2⟩ | ⟨q, e, x, hq, hx, h1, h2⟩⟩
    · rw [nameE_inj h1]; exact ⟨e, x, hq, hx, (nameN_inj h2).symm⟩
    · exact absurd h1 (nameN_ne_nameE i q)
  · rintro ⟨e, x, hq, hx, hi⟩
    have hlt := (List.getElem?_eq_some_iff.mp hq).1
    refine ⟨?_, fun h => nameN_ne_nameE i j h.symm, Or.inl ⟨j, e, x, hq, hx, rfl, by rw [hi]⟩⟩
    simp only [bipGraph, List.mem_append, List.mem_map, List.mem_range]
    exact Or.inr ⟨j, hlt, rfl⟩

/-- relabelling of a graph -/
def Graph.map {W : Type} (f : V → W) (g : Graph V) : Graph W :=
  { verts := g.verts.map f, edges := g.edges.map fun e => (f e.1, f e.2) }

section Relabel
variable {W : Type} [DecidableEq W] (f : V → W) (hf : Function.Injective f)
include hf

theorem adjacent_map (g : Graph V) (u v : V) : adjacent (g.map f) (f u) (f v) = adjacent g u v := by
  unfold adjacent Graph.map
  simp only [List.any_map]
  congr 1
  funext e
  simp only [Function.comp_def, hf.eq_iff]

theorem nbrs_map (g : Graph V) (v : V) : nbrs (g.map f) (f v) = (nbrs g v).map f := by
  unfold nbrs
  show (g.verts.map f).filter _ = _
  rw [List.filter_map]
  congr 1
  apply List.filter_congr
  intro u _
  simp only [Function.comp_def, adjacent_map f hf, hf.ne_iff]

theorem walkCount_map (g : Graph V) (s : V) (k : Nat) (v : V) :
    walkCount (g.map f) (f s) k (f v) = walkCount g s k v := by
  have hv : ∀ v, f v ∈ (g.map f).verts ↔ v ∈ g.verts := ListLib.mem_map_inj f (fun _ _ e => hf e) g.verts
  induction k generalizing v with
  | zero => simp only [walkCount, hf.eq_iff, hv]
  | succ k ih =>
    simp only [walkCount, hv, nbrs_map f hf, List.map_map]
    congr 2
    apply List.map_congr_left
    intro u _
    exact ih u

theorem distSigma_map (g : Graph V) (s v : V) :
    distSigma (levels (g.map f) (f s)) (f v) = distSigma (levels g s) v := by
  rw [distSigma_eq_find, distSigma_eq_find]
  show ((List.range (g.verts.map f).length).find? _).map _ = _
  simp only [List.length_map, walkCount_map f hf]

theorem closeness_map (g : Graph V) (v : V) : closeness (g.map f) (f v) = closeness g v := by
  unfold closeness
  have h1 : (g.map f).verts = g.verts.map f := rfl
  simp only [h1, List.filterMap_map, Function.comp_def, distSigma_map f hf, List.length_map]

theorem pairDep_map (g : Graph V) (s v t : V) :
    pairDep (levels (g.map f) (f s)) (levels (g.map f) (f v)) (f v) (f t) = pairDep (levels g s) (levels g v) v t := by
  unfold pairDep
  rw [distSigma_map f hf, distSigma_map f hf, distSigma_map f hf]

theorem filter_ne_map (l : List V) (v : V) : (l.map f).filter (· ≠ f v) = (l.filter (· ≠ v)).map f := by
  rw [List.filter_map]
  congr 1
  apply List.filter_congr
  intro u _
  simp only [Function.comp_def, hf.ne_iff]

theorem betweenness_map (g : Graph V) (v : V) : betweenness (g.map f) (f v) = betweenness g v := by
  unfold betweenness
  have h1 : (g.map f).verts = g.verts.map f := rfl
  simp only [h1, filter_ne_map f hf, List.map_map, Function.comp_def, pairDep_map f hf, List.length_map]

end Relabel
end C20
