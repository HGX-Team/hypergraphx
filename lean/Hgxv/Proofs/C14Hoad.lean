import Hgxv.Proofs.C14
/-! `HOADmodel`: every emitted record is well-formed, for every recording on which the model returns, WHATEVER the
lengths of the activity vectors; entries of a vector beyond position `N` are never read; a vector shorter than `N`
never yields a result (the routine raises); vectors of length `≥ N` and orders `≤ N` never raise.

The three nested loops of the model (`hoadNodes`, `hoadTimes`, `hoadOrders`) are each a list of stages run one after
another (`runAll`); what is proved about them is proved once for `runAll` and instantiated three times. Core Lean only. -/
namespace C14

/-- a stage of the nested loops followed by the rest of the run on the draws it left: the outputs are concatenated, the
    first stage that raises or is stuck ends the run -/
def Run.andThen {β : Type} (a : Run (List β × List HoadDraw)) (f : List HoadDraw → Run (List β × List HoadDraw)) :
    Run (List β × List HoadDraw) :=
  match a with
  | .stuck => .stuck
  | .raised r => .raised r
  | .done (out, rest) =>
    match f rest with
    | .done (outs, rest') => .done (out ++ outs, rest')
    | .raised r => .raised r
    | .stuck => .stuck

theorem Run.andThen_eq_done {β : Type} {a : Run (List β × List HoadDraw)} {f o r} (h : a.andThen f = .done (o, r)) :
    ∃ o₁ r₁ o₂, a = .done (o₁, r₁) ∧ f r₁ = .done (o₂, r) ∧ o = o₁ ++ o₂ := by
  unfold Run.andThen at h
  split at h
  · cases h
  · cases h
  · split at h
    · rename_i hf; cases h; exact ⟨_, _, _, rfl, hf, rfl⟩
    · cases h
    · cases h

theorem Run.andThen_eq_raised {β : Type} {a : Run (List β × List HoadDraw)} {f r} (h : a.andThen f = .raised r) :
    a = .raised r ∨ ∃ o₁ r₁, a = .done (o₁, r₁) ∧ f r₁ = .raised r := by
  unfold Run.andThen at h
  split at h
  · cases h
  · cases h; exact Or.inl rfl
  · split at h
    · cases h
    · rename_i hf; cases h; exact Or.inr ⟨_, _, rfl, hf⟩
    · cases h

def runAll {ι β : Type} (step : ι → List HoadDraw → Run (List β × List HoadDraw)) :
    List ι → List HoadDraw → Run (List β × List HoadDraw)
  | [], ds => .done ([], ds)
  | x :: xs, ds => (step x ds).andThen (runAll step xs)

section runAll
variable {ι β : Type} {step : ι → List HoadDraw → Run (List β × List HoadDraw)}

theorem runAll_mem {P : ι → β → Prop} : ∀ {xs ds out rest}, runAll step xs ds = .done (out, rest) →
    (∀ x ∈ xs, ∀ ds o r, step x ds = .done (o, r) → ∀ y ∈ o, P x y) → ∀ y ∈ out, ∃ x ∈ xs, P x y
  | [], _, _, _, h, _, y, hy => by cases h; simp at hy
  | x :: xs, ds, out, rest, h, hs, y, hy => by
    obtain ⟨o₁, r₁, o₂, h₁, h₂, rfl⟩ := Run.andThen_eq_done h
    rcases List.mem_append.mp hy with hy | hy
    · exact ⟨x, by simp, hs x (by simp) _ _ _ h₁ y hy⟩
    · obtain ⟨x', hx', hp⟩ := runAll_mem h₂ (fun x' hx' => hs x' (by simp [hx'])) y hy
      exact ⟨x', by simp [hx'], hp⟩

theorem runAll_count {c : Nat} : ∀ {xs ds out rest}, runAll step xs ds = .done (out, rest) →
    (∀ x ∈ xs, ∀ ds o r, step x ds = .done (o, r) → ds.length = r.length + c ∧ o.length ≤ c) →
    ds.length = rest.length + xs.length * c ∧ out.length ≤ xs.length * c
  | [], _, _, _, h, _ => by cases h; simp
  | x :: xs, ds, out, rest, h, hs => by
    obtain ⟨o₁, r₁, o₂, h₁, h₂, rfl⟩ := Run.andThen_eq_done h
    have h3 := hs x (by simp) _ _ _ h₁
    have h4 := runAll_count h₂ (fun x' hx' => hs x' (by simp [hx']))
    simp only [List.length_append, List.length_cons, Nat.add_mul, Nat.one_mul]
    omega

theorem runAll_not_raised : ∀ {xs ds r}, (∀ x ∈ xs, ∀ ds r, step x ds ≠ .raised r) → runAll step xs ds ≠ .raised r
  | [], _, _, _, h => by cases h
  | x :: xs, ds, r, hs, h => by
    rcases Run.andThen_eq_raised h with h | ⟨_, _, _, h⟩
    · exact hs x (by simp) _ _ h
    · exact runAll_not_raised (fun x' hx' => hs x' (by simp [hx'])) h

theorem runAll_not_done : ∀ {xs ds p}, (∃ x ∈ xs, ∀ ds p, step x ds ≠ .done p) → runAll step xs ds ≠ .done p
  | [], _, _, ⟨_, hx, _⟩, _ => by simp at hx
  | x :: xs, ds, (out, rest), ⟨x', hx', hn⟩, h => by
    obtain ⟨o₁, r₁, o₂, h₁, h₂, rfl⟩ := Run.andThen_eq_done h
    rcases List.mem_cons.mp hx' with rfl | hx'
    · exact hn _ _ h₁
    · exact runAll_not_done ⟨x', hx', hn⟩ h₂

theorem runAll_congr {step' : ι → List HoadDraw → Run (List β × List HoadDraw)} : ∀ {xs : List ι},
    (∀ x ∈ xs, step x = step' x) → runAll step xs = runAll step' xs
  | [], _ => rfl
  | x :: xs, hs => by
    funext ds
    rw [runAll, runAll, hs x (by simp), runAll_congr (xs := xs) (fun x' hx' => hs x' (by simp [hx']))]

end runAll

variable {N order t : Nat} {acts : List Rat}

def GoodLink (N order : Nat) (r : Nat × Edge) : Prop :=
  r.2.length = order + 1 ∧ r.2.Nodup ∧ ∀ x ∈ r.2, x < N

theorem hoadEmit_spec {i : Nat} {s : List Nat} (hi : i < N) (hs : sampleOK N order s = true) :
    ∀ r ∈ hoadEmit t i s, r.1 = t ∧ GoodLink N order r := by
  intro r hr
  simp only [sampleOK, Bool.and_eq_true, beq_iff_eq, List.all_eq_true, decide_eq_true_eq] at hs
  unfold hoadEmit at hr
  split at hr
  · rename_i hnd
    simp only [List.mem_singleton] at hr
    subst hr
    refine ⟨rfl, by simp [hs.1], by simpa using hnd, ?_⟩
    intro x hx
    simp only [mem_sortE, List.mem_append, List.mem_singleton] at hx
    rcases hx with hx | rfl
    · exact hs.2 x hx
    · exact hi
  · simp at hr

theorem hoadNode_cases (N order : Nat) (act : Rat) (t i : Nat) (d : HoadDraw) (ds : List HoadDraw) :
    match hoadNode N order act t i d ds with
    | .done out => (sampleOK N order d.sample = true ∧ out = hoadEmit t i d.sample) ∨ out = []
    | .raised _ => N < order
    | .stuck => True := by
  unfold hoadNode
  by_cases h1 : act > d.coin <;> by_cases h2 : order > N <;> cases h3 : d.sampled <;> simp [h1, h2]
  cases h4 : sampleOK N order d.sample <;> simp

/-- node `i` of a time step: its activity is looked up, then it takes one draw -/
def hoadStep (N order t : Nat) (acts : List Rat) (i : Nat) (ds : List HoadDraw) :
    Run (List (Nat × Edge) × List HoadDraw) :=
  match acts[i]? with
  | none => .raised ds
  | some a =>
    match ds with
    | [] => .stuck
    | d :: ds =>
      match hoadNode N order a t i d ds with
      | .stuck => .stuck
      | .raised r => .raised r
      | .done out => .done (out, ds)

theorem hoadStep_cases (N order t : Nat) (acts : List Rat) (i : Nat) (ds : List HoadDraw) :
    match hoadStep N order t acts i ds with
    | .done (o, r) => i < acts.length ∧
        ∃ d, ds = d :: r ∧ ((sampleOK N order d.sample = true ∧ o = hoadEmit t i d.sample) ∨ o = [])
    | .raised _ => acts.length ≤ i ∨ N < order
    | .stuck => True := by
  unfold hoadStep
  cases ha : acts[i]? with
  | none => exact Or.inl (List.getElem?_eq_none_iff.mp ha)
  | some a =>
    cases ds with
    | nil => trivial
    | cons d ds =>
      have hc := hoadNode_cases N order a t i d ds
      dsimp only
      cases hn : hoadNode N order a t i d ds with
      | stuck => trivial
      | raised r => rw [hn] at hc; exact Or.inr hc
      | done o => rw [hn] at hc; exact ⟨(List.getElem?_eq_some_iff.mp ha).1, d, rfl, hc⟩

theorem hoadNodes_eq (N order t : Nat) (acts : List Rat) : ∀ k i,
    hoadNodes N order t acts k i = runAll (hoadStep N order t acts) (List.range' i k)
  | 0, _ => rfl
  | k + 1, i => by
    funext ds
    rw [List.range'_succ, runAll, ← hoadNodes_eq N order t acts k (i + 1), hoadNodes, hoadStep]
    cases acts[i]? with
    | none => rfl
    | some a =>
      cases ds with
      | nil => rfl
      | cons d ds =>
        dsimp only
        cases hoadNode N order a t i d ds with
        | stuck => rfl
        | raised r => rfl
        | done out => simp only [Run.andThen]; cases hoadNodes N order t acts k (i + 1) ds <;> rfl

theorem hoadTimes_eq (N order : Nat) (acts : List Rat) : ∀ steps t,
    hoadTimes N order acts steps t = runAll (fun t => hoadNodes N order t acts N 0) (List.range' t steps)
  | 0, _ => rfl
  | steps + 1, t => by
    funext ds
    rw [List.range'_succ, runAll, ← hoadTimes_eq N order acts steps (t + 1), hoadTimes]
    rcases hoadNodes N order t acts N 0 ds with ⟨o, r⟩ | _ | _ <;> try rfl
    simp only [Run.andThen]; cases hoadTimes N order acts steps (t + 1) r <;> rfl

theorem hoadOrders_eq (N time : Nat) : ∀ acts,
    hoadOrders N time acts = runAll (fun oa => hoadTimes N oa.1 oa.2 time 0) acts
  | [] => rfl
  | (order, av) :: acts => by
    funext ds
    rw [runAll, ← hoadOrders_eq N time acts, hoadOrders]
    rcases hoadTimes N order av time 0 ds with ⟨o, r⟩ | _ | _ <;> try rfl
    simp only [Run.andThen]; cases hoadOrders N time acts r <;> rfl

theorem hoad_eq_done {N time : Nat} {acts : List (Nat × List Rat)} {draws : List HoadDraw} {out : List (Nat × Edge)}
    (h : hoad N time acts draws = .done out) : ∃ o, hoadOrders N time acts draws = .done (o, []) ∧ out = dedup o := by
  unfold hoad at h
  split at h
  · rename_i o ho; cases h; exact ⟨o, ho, rfl⟩
  · cases h
  · cases h

theorem hoad_eq_raised {N time : Nat} {acts : List (Nat × List Rat)} {draws r : List HoadDraw}
    (h : hoad N time acts draws = .raised r) : hoadOrders N time acts draws = .raised [] := by
  unfold hoad at h
  split at h
  · cases h
  · assumption
  · cases h

theorem hoadNodes_spec {k i : Nat} {ds out rest} (h : hoadNodes N order t acts k i ds = .done (out, rest))
    (hk : i + k ≤ N) : ∀ r ∈ out, r.1 = t ∧ GoodLink N order r := by
  rw [hoadNodes_eq] at h
  intro r hr
  obtain ⟨_, _, hp⟩ := runAll_mem (P := fun _ y => y.1 = t ∧ GoodLink N order y) h (fun j hj ds _ _ hs y hy => by
    have := List.mem_range'_1.mp hj
    have hc := hoadStep_cases N order t acts j ds
    rw [hs] at hc
    obtain ⟨_, d, _, ⟨hok, rfl⟩ | rfl⟩ := hc
    · exact hoadEmit_spec (by omega) hok y hy
    · simp at hy) r hr
  exact hp

theorem hoadTimes_spec {steps t : Nat} {ds out rest} (h : hoadTimes N order acts steps t ds = .done (out, rest)) :
    ∀ r ∈ out, t ≤ r.1 ∧ r.1 < t + steps ∧ GoodLink N order r := by
  rw [hoadTimes_eq] at h
  intro r hr
  obtain ⟨t', ht', hp⟩ := runAll_mem (P := fun t' y => y.1 = t' ∧ GoodLink N order y) h
    (fun t' _ _ _ _ hs => hoadNodes_spec hs (by omega)) r hr
  have := List.mem_range'_1.mp ht'
  exact ⟨by omega, by omega, hp.2⟩

theorem hoadOrders_spec {N time : Nat} {acts : List (Nat × List Rat)} {ds out rest}
    (h : hoadOrders N time acts ds = .done (out, rest)) : ∀ r ∈ out, r.1 < time ∧ ∃ oa ∈ acts, GoodLink N oa.1 r := by
  rw [hoadOrders_eq] at h
  intro r hr
  obtain ⟨oa, hoa, hp⟩ := runAll_mem (P := fun oa y => y.1 < time ∧ GoodLink N oa.1 y) h
    (fun oa _ _ _ _ hs y hy => by
      have := hoadTimes_spec hs y hy
      exact ⟨by omega, this.2.2⟩) r hr
  exact ⟨hp.1, oa, hoa, hp.2⟩

theorem hoadTimes_take (N order : Nat) (acts : List Rat) (steps t : Nat) :
    hoadTimes N order (acts.take N) steps t = hoadTimes N order acts steps t := by
  rw [hoadTimes_eq, hoadTimes_eq]
  refine runAll_congr (fun t' _ => ?_)
  rw [hoadNodes_eq, hoadNodes_eq]
  refine runAll_congr (fun j hj => ?_)
  have := List.mem_range'_1.mp hj
  funext ds
  rw [hoadStep, hoadStep, List.getElem?_take_of_lt (by omega)]

theorem hoadOrders_take (N time : Nat) (acts : List (Nat × List Rat)) (ds : List HoadDraw) :
    hoadOrders N time (acts.map (fun oa => (oa.1, oa.2.take N))) ds = hoadOrders N time acts ds := by
  induction acts generalizing ds with
  | nil => rfl
  | cons oa acts ih =>
    obtain ⟨order, av⟩ := oa
    simp only [List.map_cons, hoadOrders, hoadTimes_take, ih]

theorem hoadTimes_short (hlen : acts.length < N) {steps : Nat} (hs : 0 < steps) (t : Nat) (ds : List HoadDraw) :
    ∀ p, hoadTimes N order acts steps t ds ≠ .done p := by
  intro p
  rw [hoadTimes_eq]
  refine runAll_not_done ⟨t, List.mem_range'_1.mpr (by omega), fun ds p => ?_⟩
  rw [hoadNodes_eq]
  refine runAll_not_done ⟨acts.length, List.mem_range'_1.mpr (by omega), fun ds p hs => ?_⟩
  have hc := hoadStep_cases N order t acts acts.length ds
  rw [hs] at hc
  exact Nat.lt_irrefl _ hc.1

theorem hoadOrders_short (N time : Nat) (ht : 0 < time) (acts : List (Nat × List Rat)) (ds : List HoadDraw)
    (hex : ∃ oa ∈ acts, oa.2.length < N) : ∀ p, hoadOrders N time acts ds ≠ .done p := by
  intro p
  obtain ⟨oa, hoa, hl⟩ := hex
  rw [hoadOrders_eq]
  exact runAll_not_done ⟨oa, hoa, fun ds p => hoadTimes_short hl ht 0 ds p⟩

theorem hoadTimes_no_raise (hlen : N ≤ acts.length) (ho : order ≤ N) (steps t : Nat) (ds r : List HoadDraw) :
    hoadTimes N order acts steps t ds ≠ .raised r := by
  rw [hoadTimes_eq]
  refine runAll_not_raised (fun t' _ ds r => ?_)
  rw [hoadNodes_eq]
  refine runAll_not_raised (fun i hi ds r hs => ?_)
  have := List.mem_range'_1.mp hi
  have hc := hoadStep_cases N order t' acts i ds
  rw [hs] at hc
  omega

theorem hoadOrders_no_raise (N time : Nat) (acts : List (Nat × List Rat)) (ds : List HoadDraw)
    (hall : ∀ oa ∈ acts, N ≤ oa.2.length ∧ oa.1 ≤ N) : ∀ r, hoadOrders N time acts ds ≠ .raised r := by
  intro r
  rw [hoadOrders_eq]
  exact runAll_not_raised (fun oa hoa ds r => hoadTimes_no_raise (hall oa hoa).1 (hall oa hoa).2 time 0 ds r)

/-! `HOADmodel`: how many draws a run takes - one coin per (order, time step, node), whatever the coins decide. -/

theorem hoadTimes_count {steps t : Nat} {ds out rest} (h : hoadTimes N order acts steps t ds = .done (out, rest)) :
    ds.length = rest.length + steps * N ∧ out.length ≤ steps * N := by
  rw [hoadTimes_eq] at h
  simpa using runAll_count (c := N) h (fun t' _ ds o r hs => by
    rw [hoadNodes_eq] at hs
    simpa using runAll_count (c := 1) hs (fun i _ ds _ _ hs => by
      have hc := hoadStep_cases N order t' acts i ds
      rw [hs] at hc
      obtain ⟨_, d, rfl, ⟨_, rfl⟩ | rfl⟩ := hc
      · exact ⟨rfl, by unfold hoadEmit; split <;> simp⟩
      · simp))

end C14
