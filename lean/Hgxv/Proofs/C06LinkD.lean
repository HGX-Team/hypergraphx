import Hgxv.Proofs.C06Link
import Hgxv.Proofs.C02Total
/-! # C06 ↔ C02 (`DirectedHypergraph`): the content-level `add_node` / `add_edge` of `Model/C06.lean` are the
operations of `C02.Spec`, and every store that satisfies the invariant of the full model (so every reachable one) is a well-formed C06 content.  Core Lean only. -/
namespace C06

def dkey (k : C02.Key) : DKey := ⟨k.1, k.2⟩

theorem dkey_inj : ∀ a b : C02.Key, dkey a = dkey b → a = b := by
  intro a b h
  obtain ⟨a1, a2⟩ := a
  obtain ⟨b1, b2⟩ := b
  simp only [dkey, DKey.mk.injEq] at h
  rw [h.1, h.2]

/-- the abstract state of the full `DirectedHypergraph` model as a C06 content -/
def ofSpec02 (a : C02.Spec) : Content DKey := ofTables dkey a.weighted a.hmeta a.nodes a.edges

theorem spec02_addNode (a : C02.Spec) (n : Nat) (md : Option C02.Meta) :
    C02.Spec.addNode a n md = { a with nodes := tAddNode a.nodes n (md.getD []) } := by
  unfold C02.Spec.addNode tAddNode
  cases h : AL.get? a.nodes n with
  | none => rfl
  | some old =>
    cases old with
    | nil => rfl
    | cons x xs => rfl

theorem spec02_touchAll (l : List Nat) (a : C02.Spec) :
    C02.Spec.touchAll a l = { a with nodes := tTouchAll a.nodes l } := by
  unfold tTouchAll
  induction l generalizing a with
  | nil => rfl
  | cons n l ih =>
    simp only [C02.Spec.touchAll, List.foldl_cons]
    rw [ih, spec02_addNode]; rfl

theorem spec02_addEdgeKey (a : C02.Spec) (k : C02.Key) (w : Option Int) (md : Option C02.Meta) :
    C02.Spec.addEdgeKey a k w md =
      if rejectsWeight a.weighted w then (a, .rej)
      else ({ a with
                edges := AL.set a.edges k (tEntry a.weighted (AL.get? a.edges k) (weightOrUnit w) (md.getD []))
                nodes := if (AL.get? a.edges k).isNone then tTouchAll a.nodes (k.1 ++ k.2) else a.nodes }, .ok) := by
  unfold C02.Spec.addEdgeKey
  rw [show (!a.weighted && w.isSome && w != some C02.one) = rejectsWeight a.weighted w from rejects_spec _ w]
  by_cases hr : rejectsWeight a.weighted w = true
  · simp [hr]
  · simp only [hr, Bool.false_eq_true, if_false]
    have hone : C02.one = unit := rfl
    have hw' : w.getD unit = weightOrUnit w := by cases w <;> rfl
    cases hg : AL.get? a.edges k with
    | none =>
      simp only [spec02_touchAll, tEntry, Option.isNone_none, if_true, hone, hw']
    | some old =>
      obtain ⟨w0, m0⟩ := old
      simp only [tEntry, Option.isNone_some, Bool.false_eq_true, if_false, hone, hw']

theorem link_addNode02 (a : C02.Spec) (n : Nat) (md : Option C02.Meta) :
    ofSpec02 (C02.Spec.addNode a n md) = addNode (ofSpec02 a) n (md.map decMeta) := by
  rw [spec02_addNode]; unfold ofSpec02; rw [addNode_ofTables]

/-- `add_edge` of the spec (sides given as iterables or bare nodes) is C06's `addEdge` on the content, accepted and
rejected alike -/
theorem link_addEdge02 (a : C02.Spec) (e : C02.RawEdge) (w : Option Int) (md : Option C02.Meta) :
    addEdge (ofSpec02 a) ⟨e.src.toList, e.tgt.toList⟩ w (md.map decMeta) =
      match C02.Spec.addEdge a e w md with
      | (a', .ok) => some (ofSpec02 a')
      | (_, .rej) => none := by
  unfold C02.Spec.addEdge
  rw [spec02_addEdgeKey]
  unfold ofSpec02
  rw [addEdge_ofTables dkey dkey_inj a.weighted a.hmeta a.nodes a.edges ⟨e.src.toList, e.tgt.toList⟩ (C02.canonAdd e)
    (by show (⟨sort e.src.toList, sort e.tgt.toList⟩ : DKey) = dkey (C02.canonAdd e)
        simp [dkey, C02.canonAdd, C02.sortNodes_eq, sort_eq])]
  by_cases hr : rejectsWeight a.weighted w = true
  · simp [hr]
  · simp only [hr, Bool.false_eq_true, if_false]
    have : Kind.touchAlways DKey = false := rfl
    simp only [this, Bool.false_or]
    rfl

theorem link_new02 (w : Bool) (hm : Option C02.Meta) :
    ofSpec02 (C02.Spec.ctor w hm none none none none).1 = setHMeta (construct DKey w) (decMeta (C02.ctorHMeta hm w)) := rfl

theorem link_setHMeta02 (a : C02.Spec) (hm : C02.Meta) :
    ofSpec02 (C02.Spec.applyOp a (.setHMeta hm)).1 = setHMeta (ofSpec02 a) (decMeta hm) := rfl

theorem ofSpec02_onto (c : Content DKey) : ∃ a : C02.Spec, ofSpec02 a = c :=
  ⟨{ weighted := c.weighted, hmeta := encMeta c.hmeta, nodes := mapKV id encMeta c.nodes,
     edges := mapKV (fun k : DKey => (k.src, k.tgt)) (fun v => (v.1, encMeta v.2)) c.edges },
   ofTables_enc dkey (fun k : DKey => (k.src, k.tgt)) (fun _ => rfl) c⟩

/-- the spec's own entry points, as `load_hypergraph` uses them: `DirectedHypergraph(weighted=w)` then
`set_hypergraph_metadata`, `add_node(n, md)`, `add_edge((sources, targets), weight, md)` -/
def specD : SpecOps DKey C02.Spec where
  of := ofSpec02
  new w hm := (C02.Spec.applyOp (C02.Spec.ctor w none none none none none).1 (.setHMeta hm)).1
  addNode a n md := (C02.Spec.applyOp a (.addNode n (some md))).1
  addEdge a k w md :=
    match C02.Spec.applyOp a (.addEdge (C02.RawEdge.ofLists k.src k.tgt) w (some md)) with
    | (a', .ok) => some a'
    | (_, .rej) => none
  okKey _ := True
  of_new w hm := rfl
  of_addNode a n md := link_addNode02 a n (some md)
  of_addEdge a k w md _ := by
    have h := link_addEdge02 a (C02.RawEdge.ofLists k.src k.tgt) w (some md)
    simp only [Option.map_some] at h
    have hk : (⟨(C02.RawEdge.ofLists k.src k.tgt).src.toList, (C02.RawEdge.ofLists k.src k.tgt).tgt.toList⟩ : DKey) = k := rfl
    rw [hk] at h
    rw [h]
    simp only [C02.Spec.applyOp]
    cases C02.Spec.addEdge a (C02.RawEdge.ofLists k.src k.tgt) w (some md) with
    | mk a' o => cases o <;> rfl

/-- `C02.Inv` does not say that an unweighted object holds weight 1 everywhere; `C02.Unw` (an invariant of every
history as well, `C02.runCmds_all`) does -/
theorem WF_ofSpec02_abs (s : C02.Store) (h : C02.Inv s) (u : C02.Unw s) : WF (ofSpec02 (C02.abs s)) :=
  WF_ofTables dkey dkey_inj _ (C02.abs_tab h u)
    (fun k kw => by
      show (⟨sort k.1, sort k.2⟩ : DKey) = ⟨k.1, k.2⟩
      rw [sort_of_sorted _ kw.sortedS, sort_of_sorted _ kw.sortedT])
    (fun _ => rfl)

theorem link_store_addNode02 (s : C02.Store) (h : C02.Inv s) (o : C02.Ord s) (n : Nat) (md : Option C02.Meta) :
    ofSpec02 (C02.abs (C02.applyOp s (.addNode n md)).1) = addNode (ofSpec02 (C02.abs s)) n (md.map decMeta) := by
  have hs := (C02.abs_applyOp s (.addNode n md) trivial h o).1
  rw [hs]
  exact link_addNode02 (C02.abs s) n md

/-- `add_edge` of the id-indexed model on a hyperedge with duplicate-free, disjoint, non-empty sides (`C02.RawWF`, the
property's quantifier) shows as C06's `addEdge`, accepted and rejected alike -/
theorem link_store_addEdge02 (s : C02.Store) (h : C02.Inv s) (o : C02.Ord s) (e : C02.RawEdge) (he : C02.RawWF e)
    (w : Option Int) (md : Option C02.Meta) :
    addEdge (ofSpec02 (C02.abs s)) ⟨e.src.toList, e.tgt.toList⟩ w (md.map decMeta) =
      match C02.applyOp s (.addEdge e w md) with
      | (s', .ok) => some (ofSpec02 (C02.abs s'))
      | (_, .rej) => none := by
  obtain ⟨h1, h2⟩ := C02.abs_applyOp s (.addEdge e w md) he h o
  rw [link_addEdge02]
  simp only [C02.Spec.applyOp] at h1 h2
  revert h1 h2
  generalize C02.applyOp s (.addEdge e w md) = r
  generalize C02.Spec.addEdge (C02.abs s) e w md = q
  obtain ⟨s', o1⟩ := r
  obtain ⟨a', o2⟩ := q
  intro h1 h2
  simp only at h1 h2
  subst h1 h2
  cases o1 <;> rfl

theorem match_outD {β : Type} (r : C02.Store × C02.Out) (g : C02.Store → β) :
    (match r with
      | (s', .ok) => some (g s')
      | (_, .rej) => none) = if r.2 = .ok then some (g r.1) else none := by
  obtain ⟨s', o⟩ := r
  cases o <;> simp

instance (e : C02.RawEdge) : Decidable (C02.RawWF e) :=
  decidable_of_iff (e.src.toList.Nodup ∧ e.tgt.toList.Nodup ∧ (∀ n, n ∈ e.src.toList → n ∉ e.tgt.toList) ∧
      e.src.toList ≠ [] ∧ e.tgt.toList ≠ [])
    ⟨fun ⟨a, b, c, d, f⟩ => ⟨a, b, c, d, f⟩, fun ⟨a, b, c, d, f⟩ => ⟨a, b, c, d, f⟩⟩

/-- objects of the full model: the tables together with their representation invariant (`Ord`: ids in creation order) -/
abbrev StoreD := { s : C02.Store // C02.Inv s ∧ C02.Ord s }

def storeD : SpecOps DKey StoreD where
  of s := ofSpec02 (C02.abs s.1)
  new w hm := ⟨(C02.applyOp (C02.ctor w none none none none none).1 (.setHMeta hm)).1,
    C02.applyOp_inv _ (.setHMeta hm) trivial (C02.inv_init w _),
    C02.applyOp_ord _ (.setHMeta hm) trivial (C02.inv_init w _) (C02.ord_init w _)⟩
  addNode s n md := ⟨(C02.applyOp s.1 (.addNode n (some md))).1,
    C02.applyOp_inv _ (.addNode n (some md)) trivial s.2.1, C02.applyOp_ord _ (.addNode n (some md)) trivial s.2.1 s.2.2⟩
  addEdge s k w md :=
    if hk : C02.RawWF (.ofLists k.src k.tgt) then
      if (C02.applyOp s.1 (.addEdge (.ofLists k.src k.tgt) w (some md))).2 = .ok then
        some ⟨(C02.applyOp s.1 (.addEdge (.ofLists k.src k.tgt) w (some md))).1,
          C02.applyOp_inv _ (.addEdge (.ofLists k.src k.tgt) w (some md)) hk s.2.1,
          C02.applyOp_ord _ (.addEdge (.ofLists k.src k.tgt) w (some md)) hk s.2.1 s.2.2⟩
      else none
    else none
  okKey k := C02.RawWF (.ofLists k.src k.tgt)
  of_new w hm := rfl
  of_addNode s n md := link_store_addNode02 s.1 s.2.1 s.2.2 n (some md)
  of_addEdge s k w md hk := by
    have h := link_store_addEdge02 s.1 s.2.1 s.2.2 (.ofLists k.src k.tgt) hk w (some md)
    simp only [Option.map_some] at h
    have hk' : (⟨(C02.RawEdge.ofLists k.src k.tgt).src.toList, (C02.RawEdge.ofLists k.src k.tgt).tgt.toList⟩ : DKey) = k := rfl
    rw [hk'] at h
    rw [h]
    rw [match_outD]
    simp only [dif_pos hk]
    split <;> rfl

theorem okKeys02 (s : C02.Store) (h : C02.Inv s) : ∀ e ∈ (ofSpec02 (C02.abs s)).edges, storeD.okKey e.1 := by
  intro e he
  obtain ⟨p, hp, rfl⟩ := (mem_mapKV dkey decVal2 _ e).mp he
  have hk : p.1 ∈ AL.keys (C02.abs s).edges := List.mem_map.mpr ⟨p, hp, rfl⟩
  rw [C02.abs_edges_keys] at hk
  obtain ⟨id, hid⟩ := AL.exists_get?_of_mem_keys _ _ hk
  have kw := h.key_wf id p.1 (h.rev_of_edge p.1 id hid)
  exact ⟨kw.nodupS, kw.nodupT, kw.disj, kw.neS, kw.neT⟩

end C06
