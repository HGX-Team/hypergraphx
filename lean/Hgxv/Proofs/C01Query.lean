import Hgxv.Proofs.C01Ref
/-! C01: every query is answered from the abstraction (`answer_abs`); `StateSim` and the refinement for whole histories;
`Inv` for every history (`apply_inv`, `step_inv`, `run_inv`) as its invariant component. -/
namespace C01
open AL

theorem edgesF_abs (s : Store) (f : Filter) : Spec.edgesF (abs s) f = edgesF s f := by
  simp only [Spec.edgesF, edgesF, abs_keys]

theorem incidentF_abs {s : Store} (h : Inv s) (n : Node) (f : Filter) :
    Spec.incidentF (abs s) n f = incidentF s n f := by
  simp only [Spec.incidentF, incidentF, incidentKeys_abs h, show (get? (abs s).nodes n).isSome = _ from h.node_agree n]

theorem neighborsF_abs {s : Store} (h : Inv s) (n : Node) (f : Filter) :
    Spec.neighborsF (abs s) n f = neighborsF s n f := by
  simp only [Spec.neighborsF, neighborsF, incidentF_abs h]

theorem nodes_keys {s : Store} (h : Inv s) : keys (abs s).nodes = keys s.adj := h.nm_keys

/-- every query on a store satisfying the invariant is answered by the abstract hypergraph -/
theorem answer_abs (s : Store) (h : Inv s) (q : Query) : answer s q = Spec.answer (abs s) q := by
  have hk := nodes_keys h
  have hek := abs_keys s
  cases q with
  | nodes => exact congrArg Ans.nats hk.symm
  | nodesMeta =>
    refine congrArg Ans.nmetas ?_
    rw [← h.nm_keys]; exact keys_map_get s.nmeta [] h.nmeta_nodup
  | checkNode n => exact congrArg Ans.bool (h.node_agree n).symm
  | numNodes => show Ans.int _ = Ans.int _; rw [hk]
  | edges f => show ofOpt _ _ = ofOpt _ _; rw [edgesF_abs]
  | edgesMeta f => show ofOpt _ _ = ofOpt _ _; rw [edgesF_abs, emetaOf_abs]
  | numEdges f => show ofOpt _ _ = ofOpt _ _; rw [edgesF_abs]
  | len => show Ans.int _ = Ans.int _; rw [abs_edges, List.length_map]
  | iter => exact congrArg Ans.edges hek.symm
  | checkEdge raw => exact congrArg Ans.bool (abs_isSome s _).symm
  | weight raw =>
    simp only [answer, Spec.answer, abs_get]
    cases get? s.edgeList (canon raw) <;> rfl
  | weights f => show ofOpt _ _ = ofOpt _ _; rw [edgesF_abs, weightOf_abs]
  | weightsDict f => show ofOpt _ _ = ofOpt _ _; rw [edgesF_abs, weightOf_abs]
  | incident n f => show ofOpt _ _ = ofOpt _ _; rw [incidentF_abs h]
  | neighbors n f => show ofOpt _ _ = ofOpt _ _; rw [neighborsF_abs h]
  | degree n f => show ofOpt _ _ = ofOpt _ _; rw [incidentF_abs h]
  | degreeSeq f => show ofOpt _ _ = ofOpt _ _; unfold Spec.degreeSeqF degreeSeqF; rw [incidentKeys_abs h, hk]
  | degreeDist f => show ofOpt _ _ = ofOpt _ _; unfold Spec.degreeSeqF degreeSeqF; rw [incidentKeys_abs h, hk]
  | sizes => show Ans.ints _ = Ans.ints _; rw [hek]
  | orders => show Ans.ints _ = Ans.ints _; rw [hek]
  | sizeDist => show Ans.pairs _ = Ans.pairs _; rw [hek]
  | maxSize => show ofOpt _ _ = ofOpt _ _; rw [hek]
  | maxOrder => show ofOpt _ _ = ofOpt _ _; rw [hek]
  | isUniform => show Ans.bool _ = Ans.bool _; rw [hek]
  | isWeighted => rfl
  | nodeMeta n =>
    have := h.node_agree n
    show (if (get? s.adj n).isSome then _ else _) = match get? s.nmeta n with | some md => Ans.dict md | none => Ans.rej
    rw [← this]
    cases get? s.nmeta n <;> rfl
  | edgeMeta raw =>
    simp only [answer, Spec.answer, abs_get]
    cases get? s.edgeList (canon raw) <;> rfl
  | allNodesMeta => rfl
  | allEdgesMeta => show Ans.emetas _ = Ans.emetas _; rw [abs_edges, List.map_map]; rfl
  | hmeta => rfl
  | isolated f => show ofOpt _ _ = ofOpt _ _; rw [incidentKeys_abs h, hk]
  | isIsolated n f =>
    show (match f.resolve with | none => _ | some _ => _) = match f.resolve with | none => _ | some _ => _
    rw [neighborsF_abs h]

/-- the slots of the concrete state and of the spec state correspond -/
def StateSim (st : State) (sa : SState) : Prop := sa = st.map abs ∧ ∀ s ∈ st, Inv s

theorem StateSim.set {st : State} {sa : SState} (h : StateSim st sa) (i : Nat) {s : Store} (hs : Inv s) :
    StateSim (st.set i s) (sa.set i (abs s)) :=
  ⟨by rw [h.1, List.map_set], fun x hx => (List.mem_or_eq_of_mem_set hx).elim (h.2 x) (fun e => e ▸ hs)⟩

theorem step_sim (st : State) (sa : SState) (c : Cmd) (hwf : c.WF) (h : StateSim st sa) :
    StateSim (step st c).1 (Spec.step sa c).1 ∧ (step st c).2 = (Spec.step sa c).2 := by
  have hinv := h.2
  obtain rfl := h.1
  cases c with
  | new i w hm =>
    simp only [step, Spec.step, List.length_map]
    by_cases hc : i < st.length
    · simp only [if_pos hc]
      exact ⟨h.set i (inv_new w hm), trivial⟩
    · simp only [if_neg hc]
      exact ⟨h, trivial⟩
  | copy i j =>
    simp only [step, Spec.step, List.length_map, List.getElem?_map]
    cases hs : st[i]? with
    | none => exact ⟨h, rfl⟩
    | some s0 =>
      simp only [Option.map_some]
      by_cases hc : j < st.length
      · simp only [if_pos hc]
        exact ⟨h.set j (hinv _ (List.mem_of_getElem? hs)), trivial⟩
      · simp only [if_neg hc]
        exact ⟨h, trivial⟩
  | on i op =>
    simp only [step, Spec.step, List.getElem?_map]
    cases hs : st[i]? with
    | none => exact ⟨h, rfl⟩
    | some s0 =>
      obtain ⟨e1, e2, e3⟩ := sim_apply s0 op hwf (hinv _ (List.mem_of_getElem? hs))
      simp only [Option.map_some, ← e1]
      exact ⟨h.set i e3, e2⟩

theorem run_sim : ∀ (cs : List Cmd) (st : State) (sa : SState), (∀ c ∈ cs, c.WF) → StateSim st sa →
    StateSim (run st cs) (Spec.run sa cs) := by
  intro cs
  induction cs with
  | nil => intro st sa _ h; exact h
  | cons c cs ih =>
    intro st sa hwf h
    simp only [run, Spec.run, List.foldl_cons]
    exact ih _ _ (fun c' hc' => hwf c' (List.mem_cons_of_mem _ hc')) (step_sim st sa c (hwf c List.mem_cons_self) h).1

theorem init_sim (k : Nat) : StateSim (init k) (Spec.init k) := by
  refine ⟨?_, init_inv k⟩
  simp only [init, Spec.init, List.map_replicate]
  rfl

/-- every abstract state of a history of well-formed calls is the abstraction of a store satisfying `Inv` -/
theorem Spec.run_abs (k : Nat) (cs : List Cmd) (hwf : ∀ c ∈ cs, c.WF) {a : Spec} (ha : a ∈ Spec.run (Spec.init k) cs) :
    ∃ s, Inv s ∧ abs s = a := by
  obtain ⟨h1, h2⟩ := run_sim cs _ _ hwf (init_sim k)
  rw [h1] at ha
  obtain ⟨s, hs, e⟩ := List.mem_map.mp ha
  exact ⟨s, h2 s hs, e⟩

theorem query_sim (st : State) (sa : SState) (h : StateSim st sa) (i : Nat) (q : Query) :
    query st i q = Spec.query sa i q := by
  obtain ⟨hsa, hinv⟩ := h
  subst hsa
  simp only [query, Spec.query, List.getElem?_map]
  cases hs : st[i]? with
  | none => rfl
  | some s0 => simp only [Option.map_some]; exact answer_abs s0 (hinv _ (List.mem_of_getElem? hs)) q

theorem apply_inv (s : Store) (op : Op) (hwf : op.WF) (h : Inv s) : Inv (apply s op).1 := (sim_apply s op hwf h).2.2

theorem step_inv (st : State) (c : Cmd) (hwf : c.WF) (h : ∀ s ∈ st, Inv s) : ∀ s ∈ (step st c).1, Inv s :=
  (step_sim st (st.map abs) c hwf ⟨rfl, h⟩).1.2

theorem run_inv : ∀ (cs : List Cmd) (st : State), (∀ c ∈ cs, c.WF) → (∀ s ∈ st, Inv s) → ∀ s ∈ run st cs, Inv s :=
  fun cs st hwf h => (run_sim cs st (st.map abs) hwf ⟨rfl, h⟩).2

end C01
