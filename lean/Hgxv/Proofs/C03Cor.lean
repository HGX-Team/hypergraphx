import Hgxv.Proofs.C03Ref
import Hgxv.Proofs.C03Agg
/-! What the property theorems of C03 use besides the invariant and the refinement (`KeysOK` / `NodesOK` from `Inv`,
rejected calls, the `add_edge` corollaries); the history `demoOps` of the examples (core Lean only).
What `Inv` gives comes in three bundles: `keysOK_of_inv` / `nodesOK_of_inv` (on the store's lookups, for the loops of
`C03Agg`), `abs_tab` (`AL.TabWF` of the map, `C03Ref`; the link files of other properties start there) and `specWF_abs`
(the same on `get?`, `C03Keep`, the hypothesis of the closed form of `remove_node`). -/
namespace C03
open AL

theorem mem_edgeKeys (s : Store) (k : Key) : k ∈ edgeKeys s ↔ ∃ id, get? s.edgeList k = some id := by
  unfold edgeKeys
  rw [mem_keys_iff]; exact Option.isSome_iff_exists

theorem weightOfKey_isSome (s : Store) (h : Inv s) (k : Key) (hk : k ∈ edgeKeys s) : (weightOfKey s k).isSome := by
  obtain ⟨id, hid⟩ := (mem_edgeKeys s k).mp hk
  have := (h.wKeys id).mpr (by simp [h.rev_of_edge k id hid])
  simp [weightOfKey, hid, this]

theorem metaOfKey_isSome (s : Store) (h : Inv s) (k : Key) (hk : k ∈ edgeKeys s) : (metaOfKey s k).isSome := by
  obtain ⟨id, hid⟩ := (mem_edgeKeys s k).mp hk
  have := (h.mKeys id).mpr (by simp [h.rev_of_edge k id hid])
  simp [metaOfKey, hid, this]

theorem keysOK_of_inv (s : Store) (h : Inv s) : KeysOK s := by
  refine ⟨h.keysNodup, ?_, weightOfKey_isSome s h, metaOfKey_isSome s h, ?_⟩
  · intro k hk
    obtain ⟨id, hid⟩ := (mem_edgeKeys s k).mp hk
    exact canon_of_sorted _ (h.keyCanon k id hid).1
  · intro hu k hk
    obtain ⟨id, hid⟩ := (mem_edgeKeys s k).mp hk
    obtain ⟨w, hw⟩ := Option.isSome_iff_exists.mp (weightOfKey_isSome s h k hk)
    rw [hw]
    simp only [weightOfKey, hid, Option.bind_some] at hw
    rw [h.unw hu id w hw]

theorem nodesOK_of_inv (s : Store) (h : Inv s) : NodesOK s := by
  refine ⟨h.nt.nmetaNodup, ?_⟩
  intro k hk n hn
  obtain ⟨id, hid⟩ := (mem_edgeKeys s k).mp hk
  exact (h.nt.same n).mp (h.nodes_in k id hid n hn)

theorem applyOp_rej (s : Store) (o : SOp) : (applyOp s o).2 = .rej → (applyOp s o).1 = s := by
  cases o with
  | addNode n md => simp [applyOp]
  | addNodes ns mds =>
    simp only [applyOp, addNodes]
    cases mds with
    | none => simp
    | some d => simp only []; split <;> simp
  | addEdge raw t w md => simp only [applyOp, addEdge_eq]; cases edgeArgs s.weighted raw t w <;> simp
  | addEdges raws ts ws mds => simp only [applyOp, addEdges]; split <;> simp
  | removeEdge raw t =>
    simp only [applyOp, removeEdge]
    cases mkKey raw t with
    | none => simp
    | some k => simp only [removeKey]; split <;> simp
  | removeEdges recs =>
    simp only [applyOp, removeEdges]
    cases List.mapM (fun r => mkKey r.2 r.1) recs with
    | none => simp
    | some ks => simp only []; split <;> simp
  | removeNode n keep =>
    simp only [applyOp, removeNode]
    cases get? s.adj n with
    | none => simp
    | some ids => simp
  | removeNodes ns keep => simp only [applyOp, removeNodes]; split <;> simp
  | setWeight raw t w =>
    simp only [applyOp, setWeight]
    split
    · simp
    · cases idOf s raw t <;> simp
  | setNodeMeta n md => simp only [applyOp, setNodeMeta]; split <;> simp
  | setEdgeMeta raw t md => simp only [applyOp, setEdgeMeta]; cases idOf s raw t <;> simp
  | setHMeta md => simp [applyOp, setHMeta]
  | attrH k v => simp [applyOp, attrH]
  | attrNode n k v => simp only [applyOp, attrNode]; cases get? s.nmeta n <;> simp
  | attrEdge raw t k v => simp only [applyOp, attrEdge]; cases idOf s raw t <;> simp
  | delAttrNode n k =>
    simp only [applyOp, delAttrNode]
    cases get? s.nmeta n with
    | none => simp
    | some md => simp only []; split <;> simp
  | delAttrEdge raw t k =>
    simp only [applyOp, delAttrEdge]
    cases idOf s raw t with
    | none => simp
    | some id => simp only []; split <;> simp
  | clear => simp [applyOp]

theorem validTime_none_iff (t : TimeArg) : validTime t = none ↔ (t = .bad ∨ ∃ i, t = .int i ∧ i < 0) := by
  cases t with
  | bad => simp [validTime]
  | int i =>
    simp only [validTime]
    by_cases h : 0 ≤ i
    · simp [h]
    · simp [h]; omega

theorem addEdge_bad_time (s : Store) (raw : List Nat) (t : TimeArg) (w : Option Int) (md : Option Meta)
    (ht : validTime t = none) : addEdge s raw t w md = (s, .rej) := by
  rw [addEdge_eq, edgeArgs_bad _ _ _ _ ht]

theorem addEdges_bad_time (s : Store) (raws : List (List Nat)) (ts : List TimeArg) (ws : Option (List Int))
    (mds : Option (List Meta)) (t : TimeArg) (hmem : t ∈ ts) (ht : validTime t = none) :
    addEdges s raws ts ws mds = (s, .rej) := by
  have : addEdgesOk raws ts ws mds = false := by
    simp only [addEdgesOk, Bool.and_eq_false_iff]
    right
    apply Bool.eq_false_iff.mpr
    intro hall
    have := List.all_eq_true.mp hall t hmem
    simp [ht] at this
  simp [addEdges, this]

theorem mkKey_perm (r1 r2 : List Nat) (t : TimeArg) (h : r1.Perm r2) : mkKey r1 t = mkKey r2 t := by
  simp [mkKey, canon_eq_of_perm r1 r2 h]

theorem addEdge_perm (s : Store) (r1 r2 : List Nat) (h : r1.Perm r2) (t : TimeArg) (w : Option Int) (md : Option Meta) :
    addEdge s r1 t w md = addEdge s r2 t w md := by
  rw [addEdge_eq, addEdge_eq]; simp only [edgeArgs, canon_eq_of_perm r1 r2 h]

theorem removeEdge_perm (s : Store) (r1 r2 : List Nat) (h : r1.Perm r2) (t : TimeArg) :
    removeEdge s r1 t = removeEdge s r2 t := by
  simp [removeEdge, mkKey_perm r1 r2 t h]

theorem idOf_perm (s : Store) (r1 r2 : List Nat) (h : r1.Perm r2) (t : TimeArg) : idOf s r1 t = idOf s r2 t := by
  simp [idOf, mkKey_perm r1 r2 t h]

/-- a concrete history used by the non-vacuity examples: insertions at several times, a re-insertion in permuted
order, a removal, a shrink-merge through `remove_node(keep_edges=True)`, two rejected calls (a negative time, a time
that is not an integer), a copy and a weighted batch -/
def demoOps : List Op := [
  .new 0 true,
  .on 0 (.addEdge [2, 1] (.int 0) (some 6) (some [(0, 1)])),
  .on 0 (.addEdge [1, 2] (.int 0) (some 2) none),
  .on 0 (.addEdge [1, 2, 3] (.int 3) none none),
  .on 0 (.addEdge [1, 2] (.int 3) (some 8) none),
  .on 0 (.addEdge [4] (.int 5) (some 4) none),
  .on 0 (.addEdge [1] (.int (-1)) none none),
  .on 0 (.addEdge [1] .bad none none),
  .copy 0 1,
  .on 0 (.removeEdge [4] (.int 5)),
  .on 0 (.removeNode 3 true),
  .on 0 (.addEdges [[5, 1], [2, 3]] [.int 4, .int 5] (some [4, 2]) none),
  .query 0 (.agg (.int 2))]

def demoStore : Store := (get? (run [] demoOps) 0).getD (Store.new false)

end C03
