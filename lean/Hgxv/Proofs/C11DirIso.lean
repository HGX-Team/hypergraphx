import Hgxv.Proofs.C11Dir
/-! # C11 - `DWF`, the hypothesis of the directed theorems; the labelled pattern as the induced sub-hypergraph
(`dpattern_induced`); the directed census of a relabelled directed hypergraph is the same census (core Lean only) -/
namespace C11

/-- what `DirectedHypergraph.get_edges()` returns: distinct hyperedges, both sides strictly increasing tuples -/
structure DWF (E : DHG) : Prop where
  nodup : E.Nodup
  sorted : ∀ e ∈ E, SSorted e.1 ∧ SSorted e.2

theorem DWF.filter {E : DHG} (h : DWF E) (p : DEdge → Bool) : DWF (E.filter p) :=
  ⟨List.Pairwise.filter _ h.nodup, fun e he => h.sorted e (List.mem_filter.mp he).1⟩

/-- sorted duplicate-free list of the members of `l` -/
def sset (l : List Nat) : List Nat := isort (dedup l)

theorem mem_sset {l : List Nat} {x : Nat} : x ∈ sset l ↔ x ∈ l := by
  unfold sset; rw [mem_isort, mem_dedup]
theorem sset_sorted (l : List Nat) : SSorted (sset l) := isort_sorted (nodup_dedup _)

theorem dsize_relabel (π : Nat → Nat) (e : DEdge) : dsize (relabelDEdge π e) = dsize e := by
  simp [dsize, relabelDEdge, isort_length]

section
variable {π : Nat → Nat}

theorem mem_side_relabel {s : List Nat} {y : Nat} : y ∈ isort (s.map π) ↔ ∃ x ∈ s, π x = y :=
  mem_relabelSet

theorem mem_sides_relabel {e : DEdge} {y : Nat} :
    y ∈ (relabelDEdge π e).1 ++ (relabelDEdge π e).2 ↔ ∃ x ∈ e.1 ++ e.2, π x = y := by
  simp only [relabelDEdge, List.mem_append, mem_side_relabel]
  constructor
  · rintro (⟨x, hx, rfl⟩ | ⟨x, hx, rfl⟩)
    · exact ⟨x, Or.inl hx, rfl⟩
    · exact ⟨x, Or.inr hx, rfl⟩
  · rintro ⟨x, hx | hx, rfl⟩
    · exact Or.inl ⟨x, hx, rfl⟩
    · exact Or.inr ⟨x, hx, rfl⟩

theorem dUpTo_relabel (n : Nat) (E : DHG) : dUpTo n (relabelDHG π E) = relabelDHG π (dUpTo n E) := by
  unfold dUpTo relabelDHG
  rw [List.filter_map]
  congr 1
  apply List.filter_congr
  intro e _
  simp [Function.comp, dsize_relabel]

theorem mem_dFullSets {n : Nat} {E : DHG} {S : List Nat} :
    S ∈ dFullSets n E ↔ S.length = n ∧ ∃ e ∈ E, dnodes e = S := by
  unfold dFullSets
  rw [mem_visitNew]
  simp only [List.mem_map, List.not_mem_nil, not_false_eq_true, and_true]
  constructor
  · rintro ⟨h1, h2⟩; exact ⟨h2, h1⟩
  · rintro ⟨h1, h2⟩; exact ⟨h2, h1⟩

theorem dFullSets_sorted {n : Nat} {E : DHG} {S : List Nat} (h : S ∈ dFullSets n E) : SSorted S := by
  obtain ⟨_, e, _, rfl⟩ := mem_dFullSets.mp h
  exact sset_sorted _

theorem mem_dNfCands {n : Nat} {E : DHG} {S : List Nat} :
    S ∈ dNfCands n E ↔ ∃ e ∈ E, (dnodes e).length + 1 = n ∧ dsize e + 1 = n ∧
      ∃ x, (x ∈ e.1 ∨ x ∈ e.2) ∧ ∃ f ∈ E, (x ∈ f.1 ∨ x ∈ f.2) ∧ (dnodes f).length = dsize f ∧
        S = sset (e.1 ++ e.2 ++ f.1 ++ f.2) := by
  simp only [dNfCands, dIncident, List.mem_flatMap, List.mem_filter, List.mem_map, mem_dedup, List.mem_append,
    Bool.and_eq_true, Bool.or_eq_true, beq_iff_eq, List.contains_iff_mem]
  constructor
  · rintro ⟨e, ⟨he, h1, h2⟩, x, hx, f, ⟨⟨hf, hxf⟩, hfd⟩, rfl⟩
    exact ⟨e, he, h1, h2, x, hx, f, hf, hxf, hfd, rfl⟩
  · rintro ⟨e, he, h1, h2, x, hx, f, hf, hxf, hfd, rfl⟩
    exact ⟨e, ⟨he, h1, h2⟩, x, hx, f, ⟨⟨hf, hxf⟩, hfd⟩, rfl⟩

theorem dNfCands_sorted {n : Nat} {E : DHG} {S : List Nat} (h : S ∈ dNfCands n E) : SSorted S := by
  obtain ⟨_, _, _, _, _, _, _, _, _, _, rfl⟩ := mem_dNfCands.mp h
  exact sset_sorted _

/-- ranks `1..n` of the nodes of a directed hyperedge inside the sorted node list `S` -/
def rankE (S : List Nat) (e : DEdge) : DEdge :=
  (isort (e.1.map fun x => S.idxOf x + 1), isort (e.2.map fun x => S.idxOf x + 1))

theorem dpattern_eq (T : DHG) (S : List Nat) :
    dpattern T S = sortD (((allDirected S).filter T.contains).map (rankE S)) := rfl

/-- `e ∈ allDirected S` as a test that does not build `allDirected S` -/
def inside (S : List Nat) (e : DEdge) : Bool :=
  !e.1.isEmpty && !e.2.isEmpty && decide (e.1.length < S.length) && e.1.isSublist S &&
    e.2.isSublist (S.filter (!e.1.contains ·))

theorem inside_iff {S : List Nat} {e : DEdge} : inside S e = true ↔ e ∈ allDirected S := by
  rw [mem_allDirected_iff]
  simp [inside, List.isSublist_iff_sublist, and_assoc]

/-- the labelled pattern is the induced sub-hypergraph: the hyperedges of the table that lie inside `S`, by rank; the
two filtered lists are duplicate-free with the same members and `sortD` does not see the order.  Concrete patterns are
evaluated in this form: `allDirected S` is a `dedup` of 50 pairs for a 4-set, the table has a few hyperedges. -/
theorem dpattern_induced {T : DHG} (hT : T.Nodup) (S : List Nat) :
    dpattern T S = sortD ((T.filter (inside S)).map (rankE S)) := by
  rw [dpattern_eq]
  refine sortD_congr (List.Perm.map _ ?_)
  refine (List.perm_ext_iff_of_nodup (List.Pairwise.filter _ (nodup_dedup _)) (List.Pairwise.filter _ hT)).mpr ?_
  intro e
  simp only [List.mem_filter, inside_iff, List.contains_iff_mem]
  exact and_comm

theorem mem_dpattern_induced {T : DHG} (hT : T.Nodup) {S : List Nat} {e' : DEdge} :
    e' ∈ dpattern T S ↔ ∃ e ∈ T, e ∈ allDirected S ∧ rankE S e = e' := by
  simp only [dpattern_induced hT, mem_sortD, List.mem_map, List.mem_filter, inside_iff, and_assoc]

theorem mem_allDirected_sorted {S : List Nat} (hS : SSorted S) {e : DEdge} :
    e ∈ allDirected S ↔ e.1 ≠ [] ∧ e.2 ≠ [] ∧ SSorted e.1 ∧ SSorted e.2 ∧ (∀ x ∈ e.1, x ∈ S) ∧
      (∀ x ∈ e.2, x ∈ S ∧ x ∉ e.1) := by
  rw [mem_allDirected_iff]
  constructor
  · rintro ⟨h1, h2, _, hs1, hs2⟩
    refine ⟨h1, h2, List.Pairwise.sublist hs1 hS, List.Pairwise.sublist (hs2.trans List.filter_sublist) hS,
      fun x hx => hs1.subset hx, fun x hx => ?_⟩
    have := List.mem_filter.mp (hs2.subset hx)
    exact ⟨this.1, by simpa using this.2⟩
  · rintro ⟨h1, h2, hs1, hs2, hm1, hm2⟩
    have hsub1 := NatSort.sublist_of_strict_subset hs1 hS hm1
    refine ⟨h1, h2, ?_, hsub1, ?_⟩
    · -- a source that fills `S` leaves no node for the target
      apply Classical.byContradiction
      intro hge
      have : e.1 = S := hsub1.eq_of_length (by have := hsub1.length_le; omega)
      obtain ⟨x, hx⟩ := List.exists_mem_of_ne_nil _ h2
      exact (hm2 x hx).2 (this ▸ (hm2 x hx).1)
    · apply NatSort.sublist_of_strict_subset hs2 (List.Pairwise.sublist List.filter_sublist hS)
      intro x hx
      exact List.mem_filter.mpr ⟨(hm2 x hx).1, by simpa using (hm2 x hx).2⟩

theorem side_ne_nil (π : Nat → Nat) (s : List Nat) : isort (s.map π) ≠ [] ↔ s ≠ [] := by
  rw [← List.length_pos_iff, ← List.length_pos_iff, isort_length, List.length_map]

variable (hπ : ∀ a b, π a = π b → a = b)
include hπ

theorem sset_relabel {l l' : List Nat} (h : ∀ y, y ∈ l' ↔ ∃ x ∈ l, π x = y) :
    relabelSet π (sset l) = sset l' := by
  apply eq_of_sorted_of_mem_iff (relabelSet_sorted hπ (sset_sorted l).nodup) (sset_sorted l')
  intro y
  rw [mem_relabelSet, mem_sset]
  constructor
  · rintro ⟨x, hx, rfl⟩; exact (h _).mpr ⟨x, mem_sset.mp hx, rfl⟩
  · intro hy
    obtain ⟨x, hx, rfl⟩ := (h y).mp hy
    exact ⟨x, mem_sset.mpr hx, rfl⟩

theorem dnodes_relabel (e : DEdge) : dnodes (relabelDEdge π e) = relabelSet π (dnodes e) :=
  (sset_relabel hπ (fun _ => mem_sides_relabel)).symm

theorem relabelDEdge_inj {e f : DEdge} (he : SSorted e.1 ∧ SSorted e.2) (hf : SSorted f.1 ∧ SSorted f.2)
    (h : relabelDEdge π e = relabelDEdge π f) : e = f := by
  have h1 : relabelSet π e.1 = relabelSet π f.1 := congrArg Prod.fst h
  have h2 : relabelSet π e.2 = relabelSet π f.2 := congrArg Prod.snd h
  exact Prod.ext (relabelSet_inj hπ he.1 hf.1 h1) (relabelSet_inj hπ he.2 hf.2 h2)

theorem relabelDHG_wf {E : DHG} (hE : DWF E) : DWF (relabelDHG π E) := by
  constructor
  · exact nodup_map_of_inj hE.nodup fun a ha b hb => relabelDEdge_inj hπ (hE.sorted a ha) (hE.sorted b hb)
  · intro e' he'
    obtain ⟨e, he, rfl⟩ := List.mem_map.mp he'
    exact ⟨relabelSet_sorted hπ (hE.sorted e he).1.nodup, relabelSet_sorted hπ (hE.sorted e he).2.nodup⟩

theorem mem_dFullSets_relabel {n : Nat} {E : DHG} {S' : List Nat} :
    S' ∈ dFullSets n (relabelDHG π E) ↔ ∃ S ∈ dFullSets n E, relabelSet π S = S' := by
  rw [mem_dFullSets]
  constructor
  · rintro ⟨hlen, e', he', rfl⟩
    obtain ⟨e, he, rfl⟩ := List.mem_map.mp he'
    rw [dnodes_relabel hπ] at hlen ⊢
    exact ⟨dnodes e, mem_dFullSets.mpr ⟨by rwa [relabelSet_length] at hlen, e, he, rfl⟩, rfl⟩
  · rintro ⟨S, hS, rfl⟩
    obtain ⟨hlen, e, he, rfl⟩ := mem_dFullSets.mp hS
    exact ⟨by rw [relabelSet_length, hlen], relabelDEdge π e, List.mem_map.mpr ⟨e, he, rfl⟩,
      dnodes_relabel hπ e⟩

theorem mem_side_iff {s : List Nat} {x : Nat} : π x ∈ isort (s.map π) ↔ x ∈ s := by
  rw [mem_side_relabel]
  constructor
  · rintro ⟨x', hx', h⟩; exact hπ x' x h ▸ hx'
  · intro h; exact ⟨x, h, rfl⟩

theorem mem_dNfCands_relabel {n : Nat} {E : DHG} {S' : List Nat} :
    S' ∈ dNfCands n (relabelDHG π E) ↔ ∃ S ∈ dNfCands n E, relabelSet π S = S' := by
  have hunion : ∀ e f : DEdge, relabelSet π (sset (e.1 ++ e.2 ++ f.1 ++ f.2))
      = sset ((relabelDEdge π e).1 ++ (relabelDEdge π e).2 ++ (relabelDEdge π f).1 ++ (relabelDEdge π f).2) := by
    intro e f
    apply sset_relabel hπ
    intro y
    simp only [relabelDEdge, List.mem_append, mem_side_relabel]
    simp only [or_and_right, exists_or]
  rw [mem_dNfCands]
  constructor
  · rintro ⟨e', he', h1, h2, x', hx', f', hf', hxf', hfd, rfl⟩
    obtain ⟨e, he, rfl⟩ := List.mem_map.mp he'
    obtain ⟨f, hf, rfl⟩ := List.mem_map.mp hf'
    have hx0 : ∃ x, π x = x' ∧ (x ∈ e.1 ∨ x ∈ e.2) := by
      rcases hx' with h | h
      · obtain ⟨x, hx, rfl⟩ := mem_side_relabel.mp h; exact ⟨x, rfl, Or.inl hx⟩
      · obtain ⟨x, hx, rfl⟩ := mem_side_relabel.mp h; exact ⟨x, rfl, Or.inr hx⟩
    obtain ⟨x, rfl, hx⟩ := hx0
    have hxf : x ∈ f.1 ∨ x ∈ f.2 := hxf'.imp (mem_side_iff hπ).mp (mem_side_iff hπ).mp
    rw [dnodes_relabel hπ, relabelSet_length] at h1 hfd
    rw [dsize_relabel] at h2 hfd
    refine ⟨sset (e.1 ++ e.2 ++ f.1 ++ f.2),
      mem_dNfCands.mpr ⟨e, he, h1, h2, x, hx, f, hf, hxf, hfd, rfl⟩, hunion e f⟩
  · rintro ⟨S, hS, rfl⟩
    obtain ⟨e, he, h1, h2, x, hx, f, hf, hxf, hfd, rfl⟩ := mem_dNfCands.mp hS
    refine ⟨relabelDEdge π e, List.mem_map.mpr ⟨e, he, rfl⟩, ?_, ?_, π x, ?_,
      relabelDEdge π f, List.mem_map.mpr ⟨f, hf, rfl⟩, ?_, ?_, hunion e f⟩
    · rw [dnodes_relabel hπ, relabelSet_length]; exact h1
    · rw [dsize_relabel]; exact h2
    · exact hx.imp (mem_side_iff hπ).mpr (mem_side_iff hπ).mpr
    · exact hxf.imp (mem_side_iff hπ).mpr (mem_side_iff hπ).mpr
    · rw [dnodes_relabel hπ, relabelSet_length, dsize_relabel]; exact hfd

theorem dFullSets_perm (n : Nat) (E : DHG) :
    (dFullSets n (relabelDHG π E)).Perm ((dFullSets n E).map (relabelSet π)) := by
  apply (List.perm_ext_iff_of_nodup nodup_visitNew
    (map_relabelSet_nodup hπ nodup_visitNew (fun S hS => dFullSets_sorted hS))).mpr
  intro S'
  show S' ∈ dFullSets n (relabelDHG π E) ↔ S' ∈ List.map (relabelSet π) (dFullSets n E)
  rw [mem_dFullSets_relabel hπ, List.mem_map]

theorem dNotFullSets_perm (n : Nat) (E : DHG) :
    (dNotFullSets n (relabelDHG π E) (dFullSets n (relabelDHG π E))).Perm
      ((dNotFullSets n E (dFullSets n E)).map (relabelSet π)) := by
  have hsorted : ∀ S ∈ dNotFullSets n E (dFullSets n E), SSorted S := fun S hS =>
    dNfCands_sorted (mem_visitNew.mp hS).1
  apply (List.perm_ext_iff_of_nodup nodup_visitNew (map_relabelSet_nodup hπ nodup_visitNew hsorted)).mpr
  intro S'
  show S' ∈ visitNew n (dFullSets n (relabelDHG π E)) (dNfCands n (relabelDHG π E)) ↔
    S' ∈ List.map (relabelSet π) (visitNew n (dFullSets n E) (dNfCands n E))
  rw [mem_visitNew, List.mem_map, mem_dNfCands_relabel hπ, mem_dFullSets_relabel hπ]
  constructor
  · rintro ⟨⟨S, hS, rfl⟩, hlen, hnot⟩
    refine ⟨S, mem_visitNew.mpr ⟨hS, by rwa [relabelSet_length] at hlen, ?_⟩, rfl⟩
    intro hin; exact hnot ⟨S, hin, rfl⟩
  · rintro ⟨S, hS, rfl⟩
    obtain ⟨hc, hlen, hnot⟩ := mem_visitNew.mp hS
    refine ⟨⟨S, hc, rfl⟩, by rw [relabelSet_length, hlen], ?_⟩
    rintro ⟨T, hT, heq⟩
    have := relabelSet_inj hπ (dFullSets_sorted hT) (dNfCands_sorted hc) heq
    exact hnot (this ▸ hT)

theorem mem_allDirected_relabel {S : List Nat} (hS : SSorted S) {e : DEdge} (he : SSorted e.1 ∧ SSorted e.2) :
    relabelDEdge π e ∈ allDirected (relabelSet π S) ↔ e ∈ allDirected S := by
  have hS' : SSorted (relabelSet π S) := relabelSet_sorted hπ hS.nodup
  have hmemS' : ∀ x, x ∈ S → π x ∈ relabelSet π S := fun x hx => mem_relabelSet.mpr ⟨x, hx, rfl⟩
  have hback : ∀ x, π x ∈ relabelSet π S → x ∈ S := by
    intro x hx
    obtain ⟨s, hs, hse⟩ := mem_relabelSet.mp hx
    exact hπ s x hse ▸ hs
  rw [mem_allDirected_sorted hS', mem_allDirected_sorted hS]
  constructor
  · rintro ⟨h1, h2, _, _, hm1, hm2⟩
    refine ⟨(side_ne_nil π e.1).mp h1, (side_ne_nil π e.2).mp h2, he.1, he.2, ?_, ?_⟩
    · intro x hx
      exact hback x (hm1 _ ((mem_side_iff hπ).mpr hx))
    · intro x hx
      have := hm2 _ ((mem_side_iff hπ).mpr hx)
      exact ⟨hback x this.1, fun hx1 => this.2 ((mem_side_iff hπ).mpr hx1)⟩
  · rintro ⟨h1, h2, hs1, hs2, hm1, hm2⟩
    refine ⟨(side_ne_nil π e.1).mpr h1, (side_ne_nil π e.2).mpr h2,
      relabelSet_sorted hπ hs1.nodup, relabelSet_sorted hπ hs2.nodup, ?_, ?_⟩
    · intro y hy
      obtain ⟨x, hx, rfl⟩ := mem_side_relabel.mp hy
      exact hmemS' x (hm1 x hx)
    · intro y hy
      obtain ⟨x, hx, rfl⟩ := mem_side_relabel.mp hy
      exact ⟨hmemS' x (hm2 x hx).1, fun h => (hm2 x hx).2 ((mem_side_iff hπ).mp h)⟩

theorem dpattern_relabel {n : Nat} {E : DHG} (hE : DWF E) {S : List Nat} (hS : SSorted S) (hlen : S.length = n) :
    ∃ p ∈ perms (List.range n),
      dpattern (relabelDHG π E) (relabelSet π S) = drelabel p (dpattern E S) := by
  have hmemS' : ∀ x, x ∈ S → π x ∈ relabelSet π S := fun x hx => mem_relabelSet.mpr ⟨x, hx, rfl⟩
  let p : List Nat := S.map fun x => (relabelSet π S).idxOf (π x)
  have hp : p ∈ perms (List.range n) := by
    have := (idxOf_map_perm (M := relabelSet π S) (ListLib.nodup_map_inj π hπ hS.nodup)
      (fun y hy => by obtain ⟨x, hx, rfl⟩ := List.mem_map.mp hy; exact hmemS' x hx)
      (by rw [List.length_map, relabelSet_length])).1
    rwa [List.map_map, relabelSet_length, hlen] at this
  refine ⟨p, hp, ?_⟩
  have hfilter : (relabelDHG π E).filter (inside (relabelSet π S)) = (E.filter (inside S)).map (relabelDEdge π) := by
    rw [relabelDHG, List.filter_map]
    congr 1
    apply List.filter_congr
    intro e he
    rw [Function.comp, Bool.eq_iff_iff, inside_iff, inside_iff, mem_allDirected_relabel hπ hS (hE.sorted e he)]
  have hside : ∀ s : List Nat, (∀ x ∈ s, x ∈ S) →
      isort ((isort (s.map π)).map fun y => (relabelSet π S).idxOf y + 1)
        = isort ((isort (s.map fun x => S.idxOf x + 1)).map fun j => p[j-1]! + 1) := by
    intro s hs
    rw [isort_congr ((isort_perm_self (s.map π)).map _),
      isort_congr ((isort_perm_self (s.map fun x => S.idxOf x + 1)).map _), List.map_map, List.map_map]
    congr 1
    apply List.map_congr_left
    intro x hx
    have hxS := hs x hx
    have hidx : S.idxOf x < S.length := List.idxOf_lt_length_of_mem hxS
    simp only [Function.comp, Nat.add_sub_cancel]
    show _ = (List.map _ S)[S.idxOf x]! + 1
    rw [getElem!_map_lt _ _ hidx, getElem!_eq_getD, ListLib.getD_of_lt _ _ hidx, List.getElem_idxOf hidx]
  have hrank : ∀ e ∈ E.filter (inside S),
      rankE (relabelSet π S) (relabelDEdge π e) = relabelEdge p (rankE S e) := by
    intro e he
    obtain ⟨_, _, _, _, hm1, hm2⟩ := (mem_allDirected_sorted hS).mp (inside_iff.mp (List.mem_filter.mp he).2)
    unfold rankE relabelEdge relabelDEdge
    simp only
    rw [hside e.1 hm1, hside e.2 (fun x hx => (hm2 x hx).1)]
  rw [dpattern_induced (relabelDHG_wf hπ hE).nodup, dpattern_induced hE.nodup, drelabel_eq, hfilter, List.map_map,
    sortD_congr ((sortD_perm_self ((E.filter (inside S)).map (rankE S))).map (relabelEdge p)), List.map_map]
  exact congrArg sortD (List.map_congr_left hrank)

theorem dkeys_perm {n : Nat} {F : DHG} (hF : DWF F) {L L' : List (List Nat)}
    (hL : L'.Perm (L.map (relabelSet π))) (hs : ∀ S ∈ L, SSorted S ∧ S.length = n) :
    (L'.map fun S => dcanon n (dpattern (relabelDHG π F) S)).Perm (L.map fun S => dcanon n (dpattern F S)) := by
  refine (hL.map _).trans ?_
  rw [List.map_map]
  apply List.Perm.of_eq
  apply List.map_congr_left
  intro S hS
  obtain ⟨hsorted, hlen⟩ := hs S hS
  obtain ⟨p, hp, hpat⟩ := dpattern_relabel hπ hF hsorted hlen
  simp only [Function.comp]
  rw [hpat]
  exact dcanon_relabel _ (dpattern_wf F hlen) p hp

theorem dirCensus_relabel {n : Nat} {E : DHG} (hE : DWF E) :
    (dirCensus n (relabelDHG π E)).Perm (dirCensus n E) := by
  have hF : DWF (dUpTo n E) := hE.filter _
  unfold dirCensus
  simp only [dUpTo_relabel]
  have h1 : (dtally ((dFullSets n (relabelDHG π (dUpTo n E))).map
        fun S => dcanon n (dpattern (relabelDHG π (dUpTo n E)) S))).Perm
      (dtally ((dFullSets n (dUpTo n E)).map fun S => dcanon n (dpattern (dUpTo n E) S))) := by
    apply dtally_perm
    apply dkeys_perm hπ hF (dFullSets_perm hπ n (dUpTo n E))
    intro S hS
    exact ⟨dFullSets_sorted hS, (mem_dFullSets.mp hS).1⟩
  by_cases h4 : (n == 4) = true
  · simp only [h4, if_true]
    have h2 : (dtally ((dNotFullSets n (relabelDHG π (dUpTo n E)) (dFullSets n (relabelDHG π (dUpTo n E)))).map
          fun S => dcanon n (dpattern (relabelDHG π (dUpTo n E)) S))).Perm
        (dtally ((dNotFullSets n (dUpTo n E) (dFullSets n (dUpTo n E))).map
          fun S => dcanon n (dpattern (dUpTo n E) S))) := by
      apply dtally_perm
      apply dkeys_perm hπ hF (dNotFullSets_perm hπ n (dUpTo n E))
      intro S hS
      have := mem_visitNew.mp hS
      exact ⟨dNfCands_sorted this.1, this.2.1⟩
    refine List.Perm.append ?_ h2
    refine (h1.filter _).trans (List.Perm.of_eq ?_)
    apply List.filter_congr
    intro kc _
    rw [h2.any_eq]
  · simp only [h4, Bool.false_eq_true, if_false]
    exact h1

end
end C11
