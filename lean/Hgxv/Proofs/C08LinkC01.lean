import Hgxv.Proofs.C08Bfs
import Hgxv.Proofs.C01Query
/-! # C08 ↔ C01: the routines of C08 on what a `Hypergraph` object of the full container model lists (core Lean only)

The C08 model (`Hgxv/Model/C08.lean`) takes listings: a node list and a list of hyperedges.  The full model of the
class (`Hgxv/Model/C01.lean`) has a concrete id-indexed `Store`, `answer : Store → Query → Ans` for every getter and
the invariant `C01.Inv`, which holds after every history (`C01.run_inv`).  Under `Inv` the listings `nodesOf s` /
`edgesOf s` satisfy every hypothesis the C08 theorems use, the getters answer what the C08 functions compute from them
(same values, same listing order), and `_bfs` / `connected_components` run against the GETTERS of the object (`bfsObj`,
`componentsObj`: no listing of hyperedges is handed over) are `bfsH` / `components` of the two listings. -/
namespace C08
namespace Link
open AL

/-- the `order=` / `size=` keywords of the C01 getters for a C08 filter -/
def toFilter : Filt → C01.Filter
  | .none => {}
  | .size s => { size := some s }
  | .order o => { order := some o }

/-- the order the getters compare `len(edge) - 1` with -/
def ord : Filt → Option Int
  | .none => none
  | .size s => some (s - 1)
  | .order o => some o

theorem resolve_toFilter (f : Filt) : (toFilter f).resolve = some (ord f) := by
  cases f <;> rfl

theorem keepEdge_ord (f : Filt) (e : List Nat) : C01.keepEdge (ord f) false e = passes f e.length := by
  cases f <;> rfl

/-- `get_nodes()` -/
def nodesOf (s : C01.Store) : List Nat := keys s.adj
/-- `get_edges()` (no filter) -/
def edgesOf (s : C01.Store) : List Edge := keys s.edgeList

theorem answer_nodes (s : C01.Store) : C01.answer s .nodes = .nats (nodesOf s) := rfl

theorem answer_edges (s : C01.Store) : C01.answer s (.edges {}) = .edges (edgesOf s) := by
  simp [C01.answer, C01.edgesF, C01.Filter.resolve, C01.ofOpt, C01.keepEdge, edgesOf]

theorem mem_nodesOf (s : C01.Store) (n : Nat) : n ∈ nodesOf s ↔ (get? s.adj n).isSome = true :=
  AL.mem_keys_iff _ _

theorem isSome_adj_of_not_mem {s : C01.Store} {n : Nat} (hn : n ∉ nodesOf s) : (get? s.adj n).isSome = false :=
  Bool.eq_false_iff.mpr (fun hg => hn ((mem_nodesOf s n).mpr hg))

theorem listing_abs {s : C01.Store} (h : C01.Inv s) :
    nodesOf s = keys (C01.abs s).nodes ∧ edgesOf s = keys (C01.abs s).edges :=
  ⟨(C01.nodes_keys h).symm, (C01.abs_keys s).symm⟩

/-- every hypothesis of the C08 theorems, for the listings of an object satisfying the class invariant -/
theorem listing_wf {s : C01.Store} (h : C01.Inv s) :
    (nodesOf s).Nodup ∧ (edgesOf s).Nodup ∧ WF (nodesOf s) (edgesOf s) ∧
    (∀ e ∈ edgesOf s, e.Nodup) ∧ (∀ e ∈ edgesOf s, e.Pairwise (· ≤ ·)) := by
  have t := C01.abs_tab h
  rw [(listing_abs h).1, (listing_abs h).2]
  exact ⟨t.nnd, t.knd, fun e he => (t.of_key he).2, fun e he => (t.of_key he).1.1,
    fun e he => (t.of_key he).1.2 ▸ C01.canon_sorted e⟩

/-- C01's `get_neighbors` body on a list of hyperedges is C08's -/
theorem unionWithout_eq (n : Nat) (l : List Edge) :
    C01.unionWithout n l = (l.foldl addAll []).filter (fun x => x != n) := by
  unfold C01.unionWithout
  rw [foldl_addAll_eq]
  apply List.filter_congr
  intro x _
  by_cases hx : x = n <;> simp [hx]

/-! ## the getters of the object answer what the C08 functions compute from the two listings -/

theorem incidentKeys_eq {s : C01.Store} (h : C01.Inv s) (n : Nat) (hn : n ∈ nodesOf s) (f : Filt) :
    (C01.incidentKeys s n).filter (C01.keepEdge (ord f) false) = incident (edgesOf s) n f := by
  rw [h.incidentKeys_eq n ((mem_nodesOf s n).mp hn), List.filter_filter]
  unfold incident incidentG edgesOf
  apply List.filter_congr
  intro e _
  rw [keepEdge_ord, Bool.and_comm]
  rfl

/-- `get_incident_edges(n, order|size)` of the object: rejected for a non-node - whatever the tables hold -, else the C08
function of the listing -/
theorem incidentF_eq {s : C01.Store} (h : C01.Inv s) (n : Nat) (f : Filt) :
    C01.incidentF s n (toFilter f) = if n ∈ nodesOf s then some (incident (edgesOf s) n f) else none := by
  unfold C01.incidentF
  by_cases hn : n ∈ nodesOf s
  · rw [(mem_nodesOf s n).mp hn, if_pos hn, resolve_toFilter]
    exact congrArg some (incidentKeys_eq h n hn f)
  · rw [isSome_adj_of_not_mem hn, if_neg hn]; rfl

theorem incidentF_of_not_mem {s : C01.Store} {n : Nat} (hn : n ∉ nodesOf s) (f : C01.Filter) :
    C01.incidentF s n f = none := by
  unfold C01.incidentF; rw [isSome_adj_of_not_mem hn]; rfl

theorem neighborsF_eq {s : C01.Store} (h : C01.Inv s) (n : Nat) (f : Filt) :
    C01.neighborsF s n (toFilter f) = if n ∈ nodesOf s then some (neighbors (edgesOf s) f n) else none := by
  unfold C01.neighborsF
  rw [incidentF_eq h]
  split
  · exact congrArg some (unionWithout_eq n _)
  · rfl

/-- `get_incident_edges(n, order|size)` -/
theorem answer_incident {s : C01.Store} (h : C01.Inv s) (n : Nat) (f : Filt) :
    C01.answer s (.incident n (toFilter f)) =
      if n ∈ nodesOf s then .edges (incident (edgesOf s) n f) else .rej := by
  simp only [C01.answer, incidentF_eq h]; split <;> rfl

/-- `get_neighbors(n, order|size)`: the same listing, in the same order -/
theorem answer_neighbors {s : C01.Store} (h : C01.Inv s) (n : Nat) (f : Filt) :
    C01.answer s (.neighbors n (toFilter f)) =
      if n ∈ nodesOf s then .nats (neighbors (edgesOf s) f n) else .rej := by
  simp only [C01.answer, neighborsF_eq h]; split <;> rfl

/-- `degree(hg, n, order|size)` -/
theorem answer_degree {s : C01.Store} (h : C01.Inv s) (n : Nat) (f : Filt) :
    C01.answer s (.degree n (toFilter f)) =
      match degree? (nodesOf s) (edgesOf s) n f with
      | some d => .int d
      | none => .rej := by
  simp only [C01.answer, incidentF_eq h, degree?, degreeG?]; split <;> rfl

theorem degreeSeqF_eq {s : C01.Store} (h : C01.Inv s) (f : Filt) :
    C01.degreeSeqF s (toFilter f) = some (degreeSeq (nodesOf s) (edgesOf s) f) := by
  simp only [C01.degreeSeqF, resolve_toFilter, Option.map_some, degreeSeq, degreeSeqG, degG_toOrder]
  congr 1
  apply List.map_congr_left
  intro n hn
  rw [incidentKeys_eq h n hn f]
  rfl

/-- `degree_sequence(hg, order|size)`: per node, in `get_nodes()` order -/
theorem answer_degreeSeq {s : C01.Store} (h : C01.Inv s) (f : Filt) :
    C01.answer s (.degreeSeq (toFilter f)) =
      .pairs ((degreeSeq (nodesOf s) (edgesOf s) f).map fun p => ((p.1 : Int), p.2)) := by
  simp only [C01.answer, degreeSeqF_eq h f, C01.ofOpt]

/-- one step of `Counter` on integer keys is one step of the `degree_dist[deg] += 1` loop -/
theorem set_bump (d : Nat) (acc : List (Nat × Nat)) :
    AL.set (acc.map fun p => ((p.1 : Int), p.2)) (d : Int)
        (((get? (acc.map fun p => ((p.1 : Int), p.2)) (d : Int)).getD 0) + 1)
      = (bump d acc).map fun p => ((p.1 : Int), p.2) := by
  have hf : ∀ a b : Nat, (a : Int) = b → a = b := fun _ _ => Int.ofNat_inj.mp
  have h1 := get?_map_kv (fun a : Nat => (a : Int)) (fun c : Nat => c) hf acc d
  rw [Option.map_id'] at h1
  rw [bump_eq, h1]
  exact set_map_kv (fun a : Nat => (a : Int)) (fun c : Nat => c) hf acc d _

theorem counter_hist (ds : List Nat) : ∀ acc : List (Nat × Nat),
    (ds.map fun (d : Nat) => (d : Int)).foldl (fun a x => AL.set a x (((get? a x).getD 0) + 1))
        (acc.map fun p => ((p.1 : Int), p.2))
      = (ds.foldl (fun a x => bump x a) acc).map fun p => ((p.1 : Int), p.2) := by
  induction ds with
  | nil => intro acc; rfl
  | cons d t ih => intro acc; simp only [List.map_cons, List.foldl_cons, set_bump, ih]

/-- counting the degrees of the sequence into a dictionary on integer keys gives `degree_distribution` -/
theorem counter_degreeDistG {κ : Type} (members : κ → List Nat) (nodes : List Nat) (keys : List κ) (f : Filt) :
    (degreeSeqG members nodes keys f).foldl (fun a p => AL.set a (p.2 : Int) (((get? a (p.2 : Int)).getD 0) + 1)) []
      = (degreeDistG members nodes keys f).map fun p => ((p.1 : Int), p.2) := by
  have := counter_hist ((degreeSeqG members nodes keys f).map (·.2)) []
  rw [List.map_map, List.foldl_map, List.foldl_map] at this
  rw [show degreeDistG members nodes keys f = (degreeSeqG members nodes keys f).foldl (fun a p => bump p.2 a) [] by
    simp only [degreeDistG, degreeSeqG, toOrder_toOrder]]
  exact this

/-- `degree_distribution(hg, order|size)`: the same dict, in the same order -/
theorem answer_degreeDist {s : C01.Store} (h : C01.Inv s) (f : Filt) :
    C01.answer s (.degreeDist (toFilter f)) =
      .pairs ((degreeDist (nodesOf s) (edgesOf s) f).map fun p => ((p.1 : Int), p.2)) := by
  simp only [C01.answer, degreeSeqF_eq h f, C01.ofOpt, C01.counter, List.foldl_map]
  exact congrArg _ (counter_degreeDistG id _ _ f)

/-- `isolated_nodes(order|size)` -/
theorem answer_isolated {s : C01.Store} (h : C01.Inv s) (f : Filt) :
    C01.answer s (.isolated (toFilter f)) = .nats (isolatedNodes (nodesOf s) (edgesOf s) f) := by
  simp only [C01.answer, resolve_toFilter, Option.map_some, C01.ofOpt, isolatedNodes]
  congr 1
  apply List.filter_congr
  intro n hn
  rw [incidentKeys_eq h n hn f, unionWithout_eq]
  rfl

/-- `is_isolated(n, order|size)` -/
theorem answer_isIsolated {s : C01.Store} (h : C01.Inv s) (n : Nat) (f : Filt) :
    C01.answer s (.isIsolated n (toFilter f)) =
      match isIsolated? (nodesOf s) (edgesOf s) f n with
      | some b => .bool b
      | none => .rej := by
  simp only [C01.answer, resolve_toFilter, neighborsF_eq h, isIsolated?]; split <;> rfl

/-! ## `_bfs` and `connected_components` run against the getters of the object -/

/-- what `hg.get_neighbors(node, order=, size=)` hands to `_bfs` (`[]` where the call raises: `_bfs` only asks for nodes
of the hypergraph - the start node is checked, every later node is a neighbour of one) -/
def nbrsOf (s : C01.Store) (f : Filt) (n : Nat) : List Nat :=
  match C01.answer s (.neighbors n (toFilter f)) with
  | .nats l => l
  | _ => []

/-- `get_neighbors` raises for everything that is not a node of the object - whatever the tables hold -/
theorem nbrsOf_nil (s : C01.Store) (f : Filt) (x : Nat) (hx : x ∉ nodesOf s) : nbrsOf s f x = [] := by
  simp only [nbrsOf, C01.answer, C01.neighborsF, incidentF_of_not_mem hx]; rfl

theorem nbrsOf_eq {s : C01.Store} (h : C01.Inv s) (f : Filt) : nbrsOf s f = neighbors (edgesOf s) f := by
  funext n
  by_cases hn : n ∈ nodesOf s
  · simp only [nbrsOf, answer_neighbors h, if_pos hn]
  · rw [nbrsOf_nil s f n hn]
    refine (neighbors_nil_of_not_mem _ f n (fun hx => ?_)).symm
    obtain ⟨e, he, hne⟩ := List.mem_flatten.mp hx
    exact hn ((listing_wf h).2.2.1 e he n hne)

/-- the visited set of `_bfs(hg, start, order|size)`: queue / visited loop over `hg.get_neighbors` -/
def bfsObj (s : C01.Store) (f : Filt) (start : Nat) : List Nat :=
  bfs (nodesOf s) (nbrsOf s f) (nbrsOf_nil s f) [start] []

/-- `_bfs` with its `check_node` guard -/
def bfsFromObj (s : C01.Store) (f : Filt) (start : Nat) : Option (List Nat) :=
  if C01.answer s (.checkNode start) = .bool true then some (bfsObj s f start) else none

/-- `connected_components(hg, order|size)`: the loop over `hg.get_nodes()` calling `_bfs` -/
def componentsObj (s : C01.Store) (f : Filt) : List (List Nat) :=
  compLoop (bfsObj s f) (nodesOf s) [] []

theorem bfsObj_eq {s : C01.Store} (h : C01.Inv s) (f : Filt) (start : Nat) :
    bfsObj s f start = bfsH (edgesOf s) f start := by
  unfold bfsObj bfsH
  have hn := nbrsOf_eq h f
  have : ∀ (nb : Nat → List Nat) (hnb : ∀ x, x ∉ nodesOf s → nb x = []) (e : nb = neighbors (edgesOf s) f),
      bfs (nodesOf s) nb hnb [start] [] =
        bfs (edgesOf s).flatten (neighbors (edgesOf s) f) (neighbors_nil_of_not_mem (edgesOf s) f) [start] [] := by
    intro nb hnb e
    subst e
    exact bfs_univ _ _ _ _ _ _ _
  exact this _ _ hn

theorem bfsFromObj_eq {s : C01.Store} (h : C01.Inv s) (f : Filt) (start : Nat) :
    bfsFromObj s f start = bfsFrom (nodesOf s) (edgesOf s) f start := by
  unfold bfsFromObj bfsFrom
  rw [bfsObj_eq h]
  by_cases hn : start ∈ nodesOf s
  · have hn' := (mem_nodesOf s start).mp hn
    simp [C01.answer, hn, hn']
  · have hn' := isSome_adj_of_not_mem hn
    simp [C01.answer, hn, hn']

theorem componentsObj_eq {s : C01.Store} (h : C01.Inv s) (f : Filt) :
    componentsObj s f = components (nodesOf s) (edgesOf s) f := by
  unfold componentsObj components
  have : bfsObj s f = bfsH (edgesOf s) f := funext (bfsObj_eq h f)
  rw [this]

/-- the class invariant of `Hypergraph` after any history of well-formed public calls -/
theorem inv_of_history (k : Nat) (cs : List C01.Cmd) (hwf : ∀ c ∈ cs, c.WF) (i : Nat) (s : C01.Store)
    (hs : (C01.run (C01.init k) cs)[i]? = some s) : C01.Inv s :=
  C01.run_inv cs (C01.init k) hwf (C01.init_inv k) s (List.mem_of_getElem? hs)

end Link
end C08
