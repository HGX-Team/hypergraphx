import Hgxv.Proofs.C01Ref
import Hgxv.Proofs.C19LinkBase
/-! # C19 ↔ C01: `Hypergraph`

`ofSpec01 : C01.Spec → Content Key Int` (key `(sorted nodes, [])`, metadata values wrapped in `some`).  Under the content
invariant `Dyn opsH C01.one CanonH` (which `C01.Inv` gives for every reachable store, `dyn01_of_inv`):
`C01.Spec.removeEdge` is `C19.removeEdge` / `removeEdge?`, `C01.Spec.removeNode` is `C19.removeNode opsH` /
`removeNode?`, with the same verdict; through `C01.sim_apply` the same holds for the concrete store.  Core Lean only. -/
namespace C19
open AL

def keyH (e : List Nat) : Key := (e, [])
theorem keyH_inj (a b : List Nat) (h : keyH a = keyH b) : a = b := by
  simp only [keyH, Prod.mk.injEq, and_true] at h; exact h

/-- the content of an abstract `Hypergraph` -/
def ofSpec01 (a : C01.Spec) : Content Key Int :=
  { weighted := a.weighted, nodes := mapKV (fun n => n) mdOf a.nodes, edges := mapKV keyH recOf a.edges }

abbrev Dyn01 (c : Content Key Int) : Prop := Dyn opsH C01.one CanonH c

theorem nodes01_get (a : C01.Spec) (n : Node) : get? (ofSpec01 a).nodes n = (get? a.nodes n).map mdOf :=
  contentOf_get_node keyH n

theorem edges01_get (a : C01.Spec) (e : List Nat) : get? (ofSpec01 a).edges (keyH e) = (get? a.edges e).map recOf :=
  contentOf_get_edge keyH keyH_inj e

theorem touchNode01 (a : C01.Spec) (n : Node) : C01.Spec.touchNode a n = { a with nodes := touchT a.nodes n } := by
  unfold C01.Spec.touchNode touchT; split <;> rfl

theorem touchFold01 (e : List Nat) (a : C01.Spec) :
    e.foldl C01.Spec.touchNode a = { a with nodes := e.foldl touchT a.nodes } := by
  induction e generalizing a with
  | nil => rfl
  | cons n e ih => simp only [List.foldl_cons]; rw [touchNode01, ih]

/-- `add_edge(edge, weight, metadata)` with both optional arguments given (as `remove_node` calls it) -/
theorem addEdge01 (a : C01.Spec) (raw : List Nat) (w : Int) (md : List (Nat × Nat))
    (hw : a.weighted = false → w = C01.one) :
    (C01.Spec.addEdge a raw (some w) (some md)).2 = .ok ∧
    ofSpec01 (C01.Spec.addEdge a raw (some w) (some md)).1 =
      addEdge opsH (ofSpec01 a) (keyH (C01.canon raw)) w (mdOf md) := by
  have hc : (!a.weighted && (some w).isSome && (some w != some C01.one)) = false := by
    cases hwt : a.weighted with
    | true => rfl
    | false => simp [hw hwt]
  have hwv : (if a.weighted = true then w else C01.one) = w := by
    cases hwt : a.weighted with
    | true => simp
    | false => simp [hw hwt]
  rw [show ofSpec01 a = contentOf keyH a.weighted a.nodes a.edges from rfl,
    ← contentOf_add keyH keyH_inj opsH (mem := fun e => e) (fun _ => rfl)]
  unfold C01.Spec.addEdge
  rw [hc]
  simp only [Bool.false_eq_true, if_false, Option.getD_some, hwv]
  cases hg : get? a.edges (C01.canon raw) with
  | none => simp only [touchFold01]; exact ⟨trivial, rfl⟩
  | some v => exact ⟨rfl, rfl⟩

theorem removeEdge01 (a : C01.Spec) (raw : List Nat) (hnd : (keys a.edges).Nodup) :
    ((get? (ofSpec01 a).edges (keyH (C01.canon raw))).isSome = true →
      (C01.Spec.removeEdge a raw).2 = .ok ∧
      ofSpec01 (C01.Spec.removeEdge a raw).1 = removeEdge (ofSpec01 a) (keyH (C01.canon raw))) ∧
    ((get? (ofSpec01 a).edges (keyH (C01.canon raw))).isSome = false → C01.Spec.removeEdge a raw = (a, .rej)) := by
  rw [edges01_get, Option.isSome_map]
  unfold C01.Spec.removeEdge
  constructor
  · intro hp
    rw [if_pos hp]
    refine ⟨rfl, ?_⟩
    simp only [C01.del, ← erase_eq_filter _ _ hnd]
    exact contentOf_eraseEdge keyH keyH_inj _
  · intro hp
    rw [if_neg (by simp [hp])]

theorem seqOps_cons_ok {K σ : Type} (f : σ → K → σ × C01.Out) (s : σ) (k : K) (ks : List K) (h : (f s k).2 = .ok) :
    C01.seqOps f s (k :: ks) = C01.seqOps f (f s k).1 ks := by
  rw [C01.seqOps]
  cases hr : f s k with
  | mk s' o => rw [hr] at h; cases h; rfl

theorem incident01 (a : C01.Spec) (n : Node) :
    (incident opsH (ofSpec01 a) n).map (·.1) = (C01.Spec.incidentKeys a n).map keyH := by
  refine (incident_contentOf keyH opsH (fun _ => rfl) n).trans ?_
  simp [C01.Spec.incidentKeys, opsH, keyH]

/-- the loop body of `remove_node(keep_edges=True)` on a present incident key -/
theorem shrinkInto01 (n : Node) (a : C01.Spec) (e : List Nat) (h : Dyn01 (ofSpec01 a))
    (hp : (get? (ofSpec01 a).edges (keyH e)).isSome = true) :
    (C01.Spec.shrinkInto n a e).2 = .ok ∧
    ofSpec01 (C01.Spec.shrinkInto n a e).1 = shrinkAddK opsH n (ofSpec01 a) (keyH e) := by
  rw [edges01_get, Option.isSome_map] at hp
  obtain ⟨v, hv⟩ := Option.isSome_iff_exists.mp hp
  obtain ⟨w0, md0⟩ := v
  have hc : get? (ofSpec01 a).edges (keyH e) = some (recOf (w0, md0)) := by rw [edges01_get, hv]; rfl
  have hmem : (keyH e, recOf (w0, md0)) ∈ (ofSpec01 a).edges := mem_of_get? _ _ _ hc
  have hsorted : SortedL e := (h.canon _ hmem).1
  have hw : a.weighted = false → w0 = C01.one := fun hwt => h.unitw hwt _ hmem
  have hwo : C01.Spec.weightOf a e = w0 := by simp [C01.Spec.weightOf, hv]
  have hmo : C01.Spec.emetaOf a e = md0 := by simp [C01.Spec.emetaOf, hv]
  unfold C01.Spec.shrinkInto
  rw [hwo, hmo]
  obtain ⟨h1, h2⟩ := addEdge01 a (e.filter (· ≠ n)) w0 md0 hw
  refine ⟨h1, ?_⟩
  rw [h2, C01.canon_filter_of_canon (C01.canon_of_sorted hsorted)]
  unfold shrinkAddK
  rw [hc]
  rfl

theorem canon01_of_present {a : C01.Spec} (hd : Dyn01 (ofSpec01 a)) {e : List Nat}
    (hp : (get? (ofSpec01 a).edges (keyH e)).isSome = true) : C01.canon e = e := by
  obtain ⟨v, hv⟩ := Option.isSome_iff_exists.mp hp
  exact C01.canon_of_sorted (hd.canon _ (mem_of_get? _ _ _ hv)).1

/-- `remove_node(node, keep_edges)` of the abstract `Hypergraph` is C19's `removeNode opsH`; it is accepted iff the
node is present (`removeNode?`) -/
theorem removeNode01 (a : C01.Spec) (h : Dyn01 (ofSpec01 a)) (n : Node) (keep : Bool) :
    ((get? a.nodes n).isSome = true →
      (C01.Spec.removeNode a n keep).2 = .ok ∧
      ofSpec01 (C01.Spec.removeNode a n keep).1 = removeNode opsH keep (ofSpec01 a) n) ∧
    ((get? a.nodes n).isSome = false → C01.Spec.removeNode a n keep = (a, .rej)) := by
  refine ⟨fun hn => ?_, fun hn => by unfold C01.Spec.removeNode; simp [hn]⟩
  obtain ⟨a1, a2, p1, hes1, p3, q1, q3, hfin⟩ := batch_sim (ok := C01.Out.ok) (u := C01.one) (Canon := CanonH)
    (C01.Spec.shrinkInto n) C01.Spec.removeEdge (C01.seqOps _) (C01.seqOps _)
    (fun _ => rfl) (seqOps_cons_ok _) (fun _ => rfl) (seqOps_cons_ok _) (fun _ => True) (fun _ _ _ => trivial)
    (re_ok := fun a k hd _ hp => shrinkInto01 n a k hd hp)
    (rm_ok := fun a k hd hp => by
      have := (removeEdge01 a k (keys_nodup_of_mapKV keyH recOf a.edges hd.wf.keysNodup)).1
      rw [canon01_of_present hd hp] at this
      exact this hp)
    lawful_H rfl canonShrink_H keyH_inj a (C01.Spec.incidentKeys a n) (incident01 a n) h keep (fun _ => trivial)
  -- `removeEdges` first checks that the keys, canonicalised, are present and distinct
  have hcanon : (C01.Spec.incidentKeys a n).map C01.canon = C01.Spec.incidentKeys a n :=
    (List.map_congr_left fun e he => canon01_of_present p3 (hes1 e he)).trans (List.map_id _)
  have hre : C01.Spec.removeEdges a1 (C01.Spec.incidentKeys a n) = (a2, .ok) := by
    unfold C01.Spec.removeEdges
    rw [if_pos, q1]
    simp only [Bool.and_eq_true, List.all_eq_true, decide_eq_true_eq, hcanon]
    refine ⟨fun r hr => ?_, (List.filter_sublist).nodup (keys_nodup_of_mapKV keyH recOf a.edges h.wf.keysNodup)⟩
    rw [canon01_of_present p3 (hes1 r hr)]
    have := hes1 r hr
    rwa [edges01_get, Option.isSome_map] at this
  have hres : C01.Spec.removeNode a n keep = ({ a2 with nodes := C01.del a2.nodes n }, .ok) := by
    unfold C01.Spec.removeNode
    simp only [hn, Bool.not_true, Bool.false_eq_true, if_false]
    rw [p1]
    simp only []
    rw [hre]
  rw [hres, ← hfin]
  refine ⟨rfl, ?_⟩
  simp only [C01.del, ← erase_eq_filter _ _ (keys_nodup_of_mapKV (fun n => n) mdOf a2.nodes q3.wf.nodesNodup)]
  exact contentOf_eraseNode keyH n

theorem dyn01_of_inv (s : C01.Store) (h : C01.Inv s) : Dyn01 (ofSpec01 (C01.abs s)) :=
  dyn_contentOf keyH opsH C01.one CanonH keyH_inj (C01.abs_tab h) (fun _ => rfl)
    (fun k hk => ⟨by show SortedL k; rw [← hk.2]; exact C01.canon_sorted k, rfl⟩)

/-- `get_nodes(metadata=True)` / `get_edges(metadata=True)` of a `Hypergraph` object -/
def view01 (s : C01.Store) : Content Key Int := ofSpec01 (C01.abs s)

/-- `remove_node(n, keep_edges)` on the object, with its verdict -/
def rmNode01 (keep : Bool) (s : C01.Store) (n : Node) : C01.Store × Bool :=
  ((C01.apply s (.removeNode n keep)).1, decide ((C01.apply s (.removeNode n keep)).2 = .ok))

/-- `remove_edge(k)` on the object for a key as `get_edges` lists it -/
def rmEdge01 (s : C01.Store) (k : Key) : C01.Store × Bool :=
  ((C01.apply s (.removeEdge k.1)).1, decide ((C01.apply s (.removeEdge k.1)).2 = .ok))

theorem rmNode01_link (keep : Bool) (s : C01.Store) (n : Node) (h : C01.Inv s) :
    ((rmNode01 keep s n).2 = true ↔ (removeNode? opsH keep (view01 s) n).isSome) ∧
    ((rmNode01 keep s n).2 = true → C01.Inv (rmNode01 keep s n).1 ∧
      view01 (rmNode01 keep s n).1 = removeNode opsH keep (view01 s) n) := by
  obtain ⟨s1, s2, s3⟩ := C01.sim_apply s (.removeNode n keep) trivial h
  rw [removeNode?_isSome, view01, nodes01_get, Option.isSome_map]
  exact verdict_store ⟨s1, s2⟩ s3
    (removeNode01 (C01.abs s) (dyn01_of_inv s h) n keep) nofun

theorem rmEdge01_link (s : C01.Store) (k : Key) (h : C01.Inv s) (hk : CanonH k) :
    ((rmEdge01 s k).2 = true ↔ (removeEdge? (view01 s) k).isSome) ∧
    ((rmEdge01 s k).2 = true → C01.Inv (rmEdge01 s k).1 ∧ view01 (rmEdge01 s k).1 = removeEdge (view01 s) k) := by
  obtain ⟨s1, s2, s3⟩ := C01.sim_apply s (.removeEdge k.1) trivial h
  have l := removeEdge01 (C01.abs s) k.1 (keys_nodup_of_mapKV keyH recOf _ (dyn01_of_inv s h).wf.keysNodup)
  have hkk : keyH (C01.canon k.1) = k := by
    rw [C01.canon_of_sorted hk.1]; exact Prod.ext rfl hk.2.symm
  rw [hkk] at l
  rw [removeEdge?_isSome]
  exact verdict_store ⟨s1, s2⟩ s3 l nofun

/-- **`filter_hypergraph` on a `Hypergraph` object.**  For every store satisfying the class invariant (every reachable
one): the run of public calls the filter makes - `remove_node(n, keep_edges)` for the listed nodes, then `remove_edge`
for the hyperedges listed on the object left by the node phase - meets no rejection, ends in a store satisfying the
invariant, and the content of that store is `filterHg opsH` of the content of the input. -/
theorem filter01 (s : C01.Store) (h : C01.Inv s) (nc ec : Option Crit) (mode : Mode) (keep : Bool) :
    let r := filterVia view01 (rmNode01 keep) rmEdge01 s nc ec mode
    r.2 = true ∧ C01.Inv r.1 ∧ view01 r.1 = filterHg opsH (view01 s) nc ec mode keep :=
  filterVia_eq opsH lawful_H keep view01 (rmNode01 keep) rmEdge01 C01.Inv CanonH
    (fun s hs => (dyn01_of_inv s hs).wf) (fun s hs => (dyn01_of_inv s hs).canon)
    (fun s n hs => rmNode01_link keep s n hs) (fun s k hs hk => rmEdge01_link s k hs hk) s h nc ec mode

end C19
