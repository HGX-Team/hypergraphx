import Hgxv.Proofs.C02Basic
import Hgxv.Model.C05Batch
import Hgxv.Proofs.C05Node
/-! OPTIONAL link (analogous to `C05LinkC01.lean`): the content-level semantics of `Model/C05.lean` at `κ = DKey` is the
abstract specification `C02.Spec` of `Model/C02.lean` (which C02 proves to be the abstraction `C02.abs` of the concrete id-table
store of `DirectedHypergraph`), operation by operation: every modelled mutator on `C02.Spec` is the C05 step on its content (the
statements are about one call; composing them over a history is left to the user, with `wf_step` of `C05Node.lean`). -/
namespace C05

/-- forget the hypergraph-level metadata (C02 uses other tokens for it) -/
def ofSpecD (a : C02.Spec) : Content DKey := { weighted := a.weighted, nodes := a.nodes, edges := a.edges }

theorem false_of_rej {o : C02.Out} {b : Bool} (p : o = .ok ↔ b = true) (h : o = .rej) : b = false :=
  Bool.eq_false_iff.2 (fun hb => by rw [p.2 hb] at h; cases h)

/-- C02's canonical key of `add_edge` is C05's `canonD` -/
theorem canonAdd_eq (e : C02.RawEdge) : C02.canonAdd e = canonD (e.src.toList, e.tgt.toList) := by
  simp [C02.canonAdd, canonD, C02.sortNodes_eq, canonU_nat]

/-- the C02 single-call mutators C05 models, on canonical keys (`set_attr_* / remove_attr_*` are left out: C02 also models
non-dict metadata values there, C05 does not) -/
def liftOpD : C02.Op → Option (Op DKey)
  | .addNode n md => some (.addNode n (md.getD []))
  | .addNodes ns => some (.addNodes ns none)
  | .addEdge e w md => some (.addEdge (canonD (e.src.toList, e.tgt.toList)) w (md.getD []))
  | .removeEdge e => (C02.canonStrict e).map (fun k => .removeEdge k)
  | .setWeight e w => (C02.canonStrict e).map (fun k => .setWeight k w)
  | .setNodeMeta n md => some (.setNodeMeta n md)
  | .setEdgeMeta e md => (C02.canonStrict e).map (fun k => .setEdgeMeta k md)
  | .clear => some .clear
  | _ => none

theorem addNode_eqD (a : C02.Spec) (n : Node) (md : Option Meta) :
    C02.Spec.addNode a n md = { a with nodes := addNodeL a.nodes n (md.getD []) } := by
  unfold C02.Spec.addNode addNodeL
  cases h : AL.get? a.nodes n with
  | none => simp [AL.set_of_not_mem _ _ _ h]
  | some cur =>
    cases cur with
    | nil => simp
    | cons x xs => simp

theorem touchAll_eqD (ns : List Node) : ∀ (a : C02.Spec),
    C02.Spec.touchAll a ns = { a with nodes := touchL a.nodes ns } := by
  induction ns with
  | nil => intro a; rfl
  | cons n ns ih =>
    intro a
    simp only [C02.Spec.touchAll, addNode_eqD, ih, touchL, List.foldl_cons, Option.getD_none]

theorem addNodes_eqD (ns : List Node) : ∀ (a : C02.Spec),
    C02.Spec.addNodes a ns = { a with nodes := touchL a.nodes ns } := by
  induction ns with
  | nil => intro a; rfl
  | cons n ns ih =>
    intro a
    simp only [C02.Spec.addNodes, addNode_eqD, ih, touchL, List.foldl_cons, Option.getD_none]

theorem addEdgeKey_eqD (a : C02.Spec) (k : DKey) (w : Option Int) (md : Option Meta) :
    ofSpecD (C02.Spec.addEdgeKey a k w md).1 = step (ofSpecD a) (.addEdge k w (md.getD [])) ∧
    ((C02.Spec.addEdgeKey a k w md).2 = .ok ↔ (apply? (ofSpecD a) (.addEdge k w (md.getD []))).isSome = true) := by
  obtain ⟨aw, an, ae, ah⟩ := a
  have hone : C02.one = unitW := rfl
  simp only [C02.Spec.addEdgeKey, step, apply?, addEdge, ofSpecD, weightOk_eq, hone]
  by_cases hrej : (!aw && w.isSome && w != some unitW) = true
  · simp [hrej]
  · cases hg : AL.get? ae k with
    | none =>
      simp [hrej, addEdgeCore, addEdgeNew, touchAll, hg, touchAll_eqD, AL.set_of_not_mem _ _ _ hg, Keyed.members]
    | some v => simp [hrej, addEdgeCore, addEdgeOld, hg]

theorem removeEdgeKey_eqD (a : C02.Spec) (k : DKey) :
    ofSpecD (C02.Spec.removeEdgeKey a k).1 = step (ofSpecD a) (.removeEdge k) ∧
    ((C02.Spec.removeEdgeKey a k).2 = .ok ↔ (apply? (ofSpecD a) (.removeEdge k)).isSome = true) := by
  simp only [C02.Spec.removeEdgeKey, step, apply?, removeEdge, ofSpecD]
  by_cases hs : AL.has a.edges k = true
  · simp [hs]
  · simp [hs]

/-- one call of a modelled mutator on `C02.Spec` is the C05 step on its content, with the same verdict -/
theorem link_C02 (a : C02.Spec) (op : C02.Op) (op' : Op DKey) (hl : liftOpD op = some op') :
    ofSpecD (C02.Spec.applyOp a op).1 = step (ofSpecD a) op' ∧
    ((C02.Spec.applyOp a op).2 = .ok ↔ (apply? (ofSpecD a) op').isSome = true) := by
  cases op <;> simp only [liftOpD, Option.some.injEq, reduceCtorEq, Option.map_eq_some_iff] at hl
  case addNode n md =>
    subst hl
    simp [C02.Spec.applyOp, addNode_eqD, step, apply?, addNode, ofSpecD]
  case addNodes ns =>
    subst hl
    simp [C02.Spec.applyOp, addNodes_eqD, step, apply?, addNodes, touchAll, ofSpecD]
  case addEdge e w md =>
    subst hl
    simp only [C02.Spec.applyOp, C02.Spec.addEdge, canonAdd_eq]
    exact addEdgeKey_eqD a _ w md
  case removeEdge e =>
    obtain ⟨k, hk, rfl⟩ := hl
    simp only [C02.Spec.applyOp, C02.Spec.removeEdge, hk]
    exact removeEdgeKey_eqD a k
  case setWeight e w =>
    obtain ⟨k, hk, rfl⟩ := hl
    have hone : C02.one = unitW := rfl
    simp only [C02.Spec.applyOp, C02.Spec.setWeight, hk, step, apply?, setWeight, ofSpecD, hone]
    by_cases hok : (!a.weighted && w != unitW) = true
    · simp [hok]
    · simp only [hok, Bool.false_eq_true, ↓reduceIte]
      cases hg : AL.get? a.edges k with
      | none => simp
      | some v => simp
  case setNodeMeta n md =>
    subst hl
    simp only [C02.Spec.applyOp, C02.Spec.setNodeMeta, step, apply?, setNodeMeta, ofSpecD]
    by_cases hs : AL.has a.nodes n = true
    · simp [hs]
    · simp [hs]
  case setEdgeMeta e md =>
    obtain ⟨k, hk, rfl⟩ := hl
    simp only [C02.Spec.applyOp, C02.Spec.updEdgeMeta, hk, step, apply?, setEdgeMeta, ofSpecD]
    cases hg : AL.get? a.edges k <;> simp
  case clear =>
    subst hl
    simp [C02.Spec.applyOp, step, apply?, clear, ofSpecD, Keyed.clearsHyper]

/-- the batch `remove_edges` of `C02.Spec` (a plain loop: what was removed before the first failing call stays removed) is
the C05 batch on the content, same state left, same verdict -/
theorem link_C02_removeEdges : ∀ (es : List C02.RawEdge) (ks : List DKey) (a : C02.Spec),
    es.map C02.canonStrict = ks.map some →
    ofSpecD (C02.Spec.removeEdges a es).1 = (removeEdgesB (ofSpecD a) ks).1 ∧
    ((C02.Spec.removeEdges a es).2 = .ok ↔ (removeEdgesB (ofSpecD a) ks).2 = true) := by
  intro es
  induction es with
  | nil =>
    intro ks a h
    cases ks with
    | nil => simp [C02.Spec.removeEdges, removeEdgesB, loopRaw, Batch.validates]
    | cons k ks => simp at h
  | cons e es ih =>
    intro ks a h
    cases ks with
    | nil => simp at h
    | cons k ks =>
      simp only [List.map_cons, List.cons.injEq] at h
      obtain ⟨hk, ht⟩ := h
      obtain ⟨l1, l2⟩ := removeEdgeKey_eqD a k
      have hih := ih ks (C02.Spec.removeEdgeKey a k).1 ht
      simp only [removeEdgesB, Batch.validates, Bool.false_and, Bool.false_eq_true, ↓reduceIte] at hih ⊢
      simp only [C02.Spec.removeEdges, C02.Spec.removeEdge, hk, loopRaw]
      simp only [step, apply?] at l1 l2
      cases hr : removeEdge (ofSpecD a) k with
      | none =>
        have hrej : (C02.Spec.removeEdgeKey a k).2 = .rej := by
          cases hh : (C02.Spec.removeEdgeKey a k).2 with
          | rej => rfl
          | ok => rw [hr] at l2; simp [hh] at l2
        rw [hr] at l1
        simp [hrej, orSame, l1]
      | some c' =>
        have hok : (C02.Spec.removeEdgeKey a k).2 = .ok := l2.2 (by rw [hr]; rfl)
        rw [hr] at l1
        simp only [Option.getD_some] at l1
        simp only [hok, orSame, ↓reduceIte]
        rw [← l1]
        exact hih

/-- no stored hyperedge metadata is Python's `None` (C02 turns such a value into `{}` when `remove_node(keep_edges=True)` hands it
on as the `metadata=` argument; C05 models dict metadata only) -/
def NoNoneMeta (a : C02.Spec) : Prop := ∀ e ∈ a.edges, C02.argMeta e.2.2 = e.2.2

theorem filter_bne (l : List Nat) (n : Nat) : l.filter (· != n) = l.filter (fun m => decide (m ≠ n)) := by
  apply List.filter_congr; intro x _; by_cases h : x = n <;> simp [h]

theorem mem_addEdgeKey (a : C02.Spec) (k : DKey) (w : Option Int) (md : Option Meta) (e : DKey × (Int × Meta))
    (he : e ∈ (C02.Spec.addEdgeKey a k w md).1.edges) : e ∈ a.edges ∨ e.2.2 = md.getD [] := by
  unfold C02.Spec.addEdgeKey at he
  split at he
  · exact .inl he
  · cases hg : AL.get? a.edges k with
    | none =>
      simp only [hg, touchAll_eqD] at he
      rcases AL.mem_set _ _ _ _ he with h | h
      · exact .inr (by rw [h])
      · exact .inl h
    | some v =>
      obtain ⟨w0, m0⟩ := v
      simp only [hg] at he
      rcases AL.mem_set _ _ _ _ he with h | h
      · exact .inr (by rw [h])
      · exact .inl h

theorem argMeta_idem (md : Meta) : C02.argMeta (C02.argMeta md) = C02.argMeta md := by
  unfold C02.argMeta
  by_cases h : (md == C02.metaNone) = true
  · simp [h]
  · simp [h]

theorem reinsert_eqD (a : C02.Spec) (n : Node) (k : DKey) (hm : NoNoneMeta a) :
    ofSpecD (C02.Spec.reinsert a n k).1 = (orSame (ofSpecD a) (shrinkInto n (ofSpecD a) k)).1 ∧
    ((C02.Spec.reinsert a n k).2 = .ok ↔ (orSame (ofSpecD a) (shrinkInto n (ofSpecD a) k)).2 = true) ∧
    NoNoneMeta (C02.Spec.reinsert a n k).1 := by
  unfold C02.Spec.reinsert shrinkInto
  simp only [C02.shrinkKey, filter_bne, Keyed.without]
  generalize k.1.filter (fun m => decide (m ≠ n)) = s
  generalize k.2.filter (fun m => decide (m ≠ n)) = t
  by_cases he : (s.isEmpty || t.isEmpty) = true
  · simp only [he, ↓reduceIte, orSame]
    refine ⟨?_, ?_, hm⟩ <;> simp
  · simp only [he, Bool.false_eq_true, ↓reduceIte]
    cases hg : AL.get? a.edges k with
    | none =>
      have : getWeight (ofSpecD a) k = none := by simp [getWeight, ofSpecD, hg]
      simp [this, orSame, hm]
    | some v =>
      obtain ⟨w, md⟩ := v
      have hmd : C02.argMeta md = md := hm (k, (w, md)) (AL.mem_of_get? _ _ _ hg)
      have h1 : getWeight (ofSpecD a) k = some w := by simp [getWeight, ofSpecD, hg]
      have h2 : getEdgeMeta (ofSpecD a) k = some md := by simp [getEdgeMeta, ofSpecD, hg]
      simp only [h1, h2, Option.bind_eq_bind, Option.bind_some, hmd]
      have hk : C02.canonAdd (C02.RawEdge.ofKey (s, t)) = canonD (s, t) := by rw [canonAdd_eq]; rfl
      obtain ⟨l1, l2⟩ := addEdgeKey_eqD a (canonD (s, t)) (some w) (some md)
      simp only [C02.Spec.addEdge, hk]
      simp only [step, apply?, Option.getD_some] at l1 l2
      refine ⟨?_, ?_, ?_⟩
      · rw [l1]; cases addEdge (ofSpecD a) _ (some w) md <;> rfl
      · rw [l2]; cases addEdge (ofSpecD a) _ (some w) md <;> simp [orSame]
      · intro e he
        rcases mem_addEdgeKey _ _ _ _ e he with h | h
        · exact hm e h
        · rw [h]; simpa using hmd

theorem reinsertAll_eqD (n : Node) : ∀ (ks : List DKey) (a : C02.Spec), NoNoneMeta a →
    ofSpecD (C02.Spec.reinsertAll a n ks).1 = (loopRaw (fun h k => orSame h (shrinkInto n h k)) (ofSpecD a) ks).1 ∧
    ((C02.Spec.reinsertAll a n ks).2 = .ok ↔ (loopRaw (fun h k => orSame h (shrinkInto n h k)) (ofSpecD a) ks).2 = true) := by
  intro ks
  induction ks with
  | nil => intro a _; simp [C02.Spec.reinsertAll, loopRaw]
  | cons k ks ih =>
    intro a hm
    obtain ⟨l1, l2, l3⟩ := reinsert_eqD a n k hm
    simp only [C02.Spec.reinsertAll, loopRaw]
    cases hr : (C02.Spec.reinsert a n k).2 with
    | rej =>
      have hf := false_of_rej l2 hr
      simp only [hf, Bool.false_eq_true, ↓reduceIte]
      exact ⟨l1, by simp [hr]⟩
    | ok =>
      have ht : (orSame (ofSpecD a) (shrinkInto n (ofSpecD a) k)).2 = true := l2.1 hr
      simp only [ht, ↓reduceIte]
      rw [← l1]
      exact ih _ l3

theorem removeKeys_eq : ∀ (ks : List DKey) (a : C02.Spec),
    C02.Spec.removeKeys a ks = C02.Spec.removeEdges a (ks.map C02.RawEdge.ofKey) := by
  intro ks
  induction ks with
  | nil => intro a; rfl
  | cons k ks ih =>
    intro a
    simp only [C02.Spec.removeKeys, C02.Spec.removeEdges, List.map_cons]
    cases (C02.Spec.removeEdge a (C02.RawEdge.ofKey k)).2 with
    | rej => rfl
    | ok => exact ih _

theorem incidentKeys_eq (a : C02.Spec) (n : Node) :
    C02.Spec.incidentKeys a n = Keyed.incident n (AL.keys (ofSpecD a).edges) := by
  simp [C02.Spec.incidentKeys, Keyed.incident, ofSpecD]

/-- `remove_node(node, keep_edges)` on `C02.Spec` - EVERY node, also one that is source and target of one hyperedge, where C02
models the call as raising half-way - leaves exactly the content `C05.removeNodeRaw` leaves, with the same verdict.
`hcan`: stored keys are sorted (C02's canonical form); `hm`: with `keep_edges`, no stored hyperedge metadata is Python's `None` -/
theorem link_C02_removeNode (a : C02.Spec) (n : Node) (keep : Bool)
    (hcan : ∀ k ∈ AL.keys a.edges, C02.canonStrict (C02.RawEdge.ofKey k) = some k)
    (hm : keep = true → NoNoneMeta a) :
    ofSpecD (C02.Spec.removeNode a n keep).1 = (removeNodeRaw (ofSpecD a) n keep).1 ∧
    ((C02.Spec.removeNode a n keep).2 = .ok ↔ (removeNodeRaw (ofSpecD a) n keep).2 = true) := by
  unfold C02.Spec.removeNode removeNodeRaw
  have hnodes : (ofSpecD a).nodes = a.nodes := rfl
  rw [hnodes]
  by_cases hh : AL.has a.nodes n = true
  · simp only [hh, Bool.not_true, Bool.false_eq_true, ↓reduceIte]
    rw [← incidentKeys_eq]
    -- lock step, no closed form: the answers of each loop on the two sides become pairs (`r1` / `r1'`, `r2` / `r2'`) that agree; then split on the spec's verdict
    generalize hinc : C02.Spec.incidentKeys a n = inc
    have hincmem : ∀ k ∈ inc, k ∈ AL.keys a.edges := by
      intro k hk
      rw [← hinc] at hk
      simp only [C02.Spec.incidentKeys, List.mem_append, List.mem_filter] at hk
      rcases hk with h | h <;> exact h.1
    have hmap : (inc.map C02.RawEdge.ofKey).map C02.canonStrict = inc.map some := by
      rw [List.map_map]
      apply List.map_congr_left
      intro k hk
      exact hcan k (hincmem k hk)
    have hP1 : ofSpecD (if keep = true then C02.Spec.reinsertAll a n inc else (a, C02.Out.ok)).1 =
          (if keep = true then loopRaw (fun h k => orSame h (shrinkInto n h k)) (ofSpecD a) inc else (ofSpecD a, true)).1 ∧
        ((if keep = true then C02.Spec.reinsertAll a n inc else (a, C02.Out.ok)).2 = .ok ↔
          (if keep = true then loopRaw (fun h k => orSame h (shrinkInto n h k)) (ofSpecD a) inc else (ofSpecD a, true)).2 = true) := by
      cases keep with
      | false => simp
      | true => simpa using reinsertAll_eqD n inc a (hm rfl)
    generalize (if keep = true then C02.Spec.reinsertAll a n inc else (a, C02.Out.ok)) = r1 at hP1
    generalize (if keep = true then loopRaw (fun h k => orSame h (shrinkInto n h k)) (ofSpecD a) inc else (ofSpecD a, true)) = r1' at hP1
    obtain ⟨p1, p2⟩ := hP1
    cases h1 : r1.2 with
    | rej =>
      have hf := false_of_rej p2 h1
      simp only [hf, Bool.not_false, ↓reduceIte]
      exact ⟨p1, by simp [h1]⟩
    | ok =>
      have ht : r1'.2 = true := p2.1 h1
      simp only [ht, Bool.not_true, Bool.false_eq_true, ↓reduceIte]
      obtain ⟨q1, q2⟩ := link_C02_removeEdges (inc.map C02.RawEdge.ofKey) inc r1.1 hmap
      simp only [removeEdgesB, Batch.validates, Bool.false_and, Bool.false_eq_true, ↓reduceIte] at q1 q2
      rw [p1] at q1 q2
      rw [removeKeys_eq]
      generalize C02.Spec.removeEdges r1.1 (inc.map C02.RawEdge.ofKey) = r2 at q1 q2
      generalize loopRaw (fun h k => orSame h (removeEdge h k)) r1'.1 inc = r2' at q1 q2
      cases h2 : r2.2 with
      | rej =>
        have hf := false_of_rej q2 h2
        simp only [hf, Bool.not_false, ↓reduceIte]
        exact ⟨q1, by simp [h2]⟩
      | ok =>
        have ht2 : r2'.2 = true := q2.1 h2
        simp only [ht2, Bool.not_true, Bool.false_eq_true, ↓reduceIte]
        refine ⟨?_, by simp⟩
        rw [← q1]; rfl
  · simp [hh]

end C05
