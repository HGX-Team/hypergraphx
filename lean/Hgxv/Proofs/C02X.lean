import Hgxv.Model.C02X
import Hgxv.Proofs.C02NodeRef
/-! # C02: `get_edges(subhypergraph=True)` commutes with the abstraction, and what it returns is the object of a history
(`runCmds_ops`, `fresh_history`: a fresh object followed by calls); the object with its incidence side table (`Full`, `FSpec`)
commutes with the abstraction as well -/
namespace C02
open AL

def FOp.WF : FOp → Prop
  | .base o => o.WF
  | .setInc _ _ _ => True

theorem collect_congr {α β : Type} (f g : α → Option β) (l : List α) (h : ∀ a ∈ l, f a = g a) :
    collect f l = collect g l := by
  rw [collect_eq_mapM, collect_eq_mapM]; exact ListLib.mapM_congr l f g h

theorem collect_mem {α β : Type} (f : α → Option β) (l : List α) (r : List β) (h : collect f l = some r) :
    ∀ y ∈ r, ∃ x ∈ l, f x = some y := by
  rw [collect_eq_mapM] at h
  obtain ⟨ps, rfl, rfl, hps⟩ := ListLib.mapM_option_rel (R := fun a b => f a = some b) (fun _ _ _ h => h) h
  intro y hy
  obtain ⟨p, hp, rfl⟩ := List.mem_map.mp hy
  exact ⟨p.1, List.mem_map.mpr ⟨p, hp, rfl⟩, hps p hp⟩

theorem rawWF_ofKey (k : Key) (hk : KeyWF k) : RawWF (RawEdge.ofKey k) :=
  ⟨hk.nodupS, hk.nodupT, hk.disj, hk.neS, hk.neT⟩

/-- the calls of the routine satisfy the quantifier when the selected hyperedges are well-formed keys -/
theorem subOps1G_WF (w : Bool) (nl : List Node) (wo : RawEdge → Option Int) (ks : List Key) (keep : Bool)
    (o1 : List Op) (hks : ∀ k ∈ ks, KeyWF k) (h : subOps1G w nl wo ks keep = some o1) : ∀ o ∈ o1, o.WF := by
  have hes : ∀ e ∈ ks.map RawEdge.ofKey, RawWF e := by
    intro e he
    obtain ⟨k, hk, rfl⟩ := List.mem_map.mp he
    exact rawWF_ofKey k (hks k hk)
  unfold subOps1G at h
  simp only [] at h
  intro o ho
  cases w with
  | true =>
    simp only [if_true] at h
    cases hc : collect (fun k => wo (RawEdge.ofKey k)) ks with
    | none => rw [hc] at h; simp at h
    | some ws =>
      rw [hc] at h
      simp only [Option.map_some] at h
      injection h with h; subst h
      rcases List.mem_append.mp ho with h1 | h1
      · cases keep <;> simp at h1
        subst h1; trivial
      · simp at h1; subst h1; exact hes
  | false =>
    simp only [Bool.false_eq_true, if_false] at h
    injection h with h; subst h
    rcases List.mem_append.mp ho with h1 | h1
    · cases keep <;> simp at h1
      subst h1; trivial
    · simp at h1; subst h1; exact hes

theorem subOps2G_WF (f : Node → Option Meta) (ns : List Node) (o2 : List Op) (h : subOps2G f ns = some o2) :
    ∀ o ∈ o2, o.WF := by
  intro o ho
  obtain ⟨n, _, hn⟩ := collect_mem _ _ _ h o ho
  cases hf : f n with
  | none => rw [hf] at hn; simp at hn
  | some md => rw [hf] at hn; simp at hn; subst hn; trivial

theorem subOps3G_WF (f : RawEdge → Option Meta) (ks : List Key) (o3 : List Op) (h : subOps3G f ks = some o3) :
    ∀ o ∈ o3, o.WF := by
  intro o ho
  obtain ⟨k, _, hk⟩ := collect_mem _ _ _ h o ho
  cases hf : f (RawEdge.ofKey k) with
  | none => rw [hf] at hk; simp at hk
  | some md => rw [hf] at hk; simp at hk; subst hk; trivial

theorem abs_fresh (w : Bool) : abs (fresh w) = Spec.fresh w := rfl

/-- the hyperedges `get_edges` selects are keys of the edge table, hence well-formed -/
theorem edges_keyWF (s : Store) (h : Inv s) (f : Filt) (up : Bool) (ks : List Key) (hk : edges s f up = some ks) :
    ∀ k ∈ ks, KeyWF k := by
  unfold edges at hk
  cases ht : f.target with
  | none => rw [ht] at hk; simp at hk
  | some t =>
    rw [ht] at hk
    simp only [Option.map_some] at hk
    injection hk with hk; subst hk
    intro k hk
    obtain ⟨id, hid⟩ := (h.mem_keys_iff k).mp (List.mem_filter.mp hk).1
    exact h.key_wf id k hid

/-- the program of calls is the same whether the routine reads the tables or the abstract object, and it satisfies
    the quantifier -/
theorem subProgram_abs (s : Store) (h : Inv s) (f : Filt) (up keep : Bool) :
    subProgram s f up keep = Spec.subProgram (abs s) f up keep ∧
    ∀ ops, subProgram s f up keep = some ops → ∀ o ∈ ops, o.WF := by
  unfold subProgram Spec.subProgram
  have e1 : getWeight s = (abs s).getWeight := funext fun e => (q_edge s h e).2.1
  have e2 : nodeMeta s = (abs s).nodeMeta := funext fun n => q_nodeMeta s h n
  have e3 : edgeMeta s = (abs s).edgeMeta := funext fun e => (q_edge s h e).2.2
  have e4 : (abs s).weighted = s.weighted := rfl
  rw [← q_edges s f up, ← q_nodes s, ← e1, ← e2, ← e3, e4]
  cases hk : edges s f up with
  | none => exact ⟨rfl, fun ops ho => by simp [subProgramG] at ho⟩
  | some ks =>
    have hks := edges_keyWF s h f up ks hk
    unfold subProgramG
    simp only []
    cases h1 : subOps1G s.weighted (nodes s) (getWeight s) ks keep with
    | none => exact ⟨rfl, fun ops ho => by simp at ho⟩
    | some o1 =>
      have w1 := subOps1G_WF _ _ _ ks keep o1 hks h1
      have r := abs_run (fresh s.weighted) o1 w1 (inv_init _ _) (ord_init _ _)
      have en : nodes (run (fresh s.weighted) o1) = (Spec.run (Spec.fresh s.weighted) o1).nodeList := by
        rw [q_nodes, r.1, abs_fresh]
      simp only []
      rw [en]
      refine ⟨rfl, ?_⟩
      intro ops ho
      cases h2 : subOps2G (nodeMeta s) (Spec.run (Spec.fresh s.weighted) o1).nodeList with
      | none => rw [h2] at ho; simp at ho
      | some o2 =>
        cases h3 : subOps3G (edgeMeta s) ks with
        | none => rw [h2, h3] at ho; simp at ho
        | some o3 =>
          rw [h2, h3] at ho
          simp only [] at ho
          injection ho with ho; subst ho
          intro o hm
          rcases List.mem_append.mp hm with hm | hm
          · rcases List.mem_append.mp hm with hm | hm
            · exact w1 o hm
            · exact subOps2G_WF _ _ _ h2 o hm
          · exact subOps3G_WF _ _ _ h3 o hm

/-- running accepted calls commutes with the abstraction; rejected alike -/
theorem runOk_abs (s : Store) (ops : List Op) (hops : ∀ o ∈ ops, o.WF) (h : Inv s) (o : Ord s) :
    (runOk s ops).map abs = Spec.runOk (abs s) ops ∧
    ∀ t, runOk s ops = some t → t = run s ops ∧ Inv t ∧ Ord t := by
  induction ops generalizing s with
  | nil =>
    refine ⟨rfl, ?_⟩
    intro t ht
    simp only [runOk] at ht
    injection ht with ht; subst ht
    exact ⟨rfl, h, o⟩
  | cons op os ih =>
    have hw := hops op List.mem_cons_self
    obtain ⟨h1, h2⟩ := abs_applyOp s op hw h o
    simp only [runOk, Spec.runOk, run]
    rw [← h2]
    cases hr : (applyOp s op).2 with
    | rej => exact ⟨rfl, fun t ht => by simp at ht⟩
    | ok =>
      simp only []
      rw [← h1]
      exact ih _ (fun o' ho' => hops o' (List.mem_cons_of_mem _ ho')) (applyOp_inv s op hw h) (applyOp_ord s op hw h o)

theorem subHG_abs (s : Store) (h : Inv s) (f : Filt) (up keep : Bool) :
    (subHG s f up keep).map abs = Spec.subHG (abs s) f up keep ∧
    ∀ t, subHG s f up keep = some t →
      ∃ ops, (∀ o ∈ ops, o.WF) ∧ t = run (fresh s.weighted) ops ∧ Inv t ∧ Ord t := by
  unfold subHG Spec.subHG
  obtain ⟨p1, p2⟩ := subProgram_abs s h f up keep
  rw [← p1]
  cases hp : subProgram s f up keep with
  | none => exact ⟨rfl, fun t ht => by simp at ht⟩
  | some ops =>
    have hw := p2 ops hp
    have r := runOk_abs (fresh s.weighted) ops hw (inv_init _ _) (ord_init _ _)
    simp only [Option.bind_some]
    have e4 : (abs s).weighted = s.weighted := rfl
    rw [e4, ← abs_fresh]
    refine ⟨r.1, ?_⟩
    intro t ht
    exact ⟨ops, hw, r.2 t ht⟩

/-- a fresh object followed by calls on it is a history -/
theorem runCmds_ops (st : State) (s : Store) (ops : List Op) (hs : get? st 0 = some s) :
    get? (runCmds st (ops.map (fun o => Cmd.op 0 o))) 0 = some (run s ops) := by
  induction ops generalizing st s with
  | nil => exact hs
  | cons o os ih =>
    simp only [List.map_cons, runCmds, run]
    apply ih
    simp only [step, hs, get?_set]
    simp

theorem fresh_history (w : Bool) (ops : List Op) (hops : ∀ o ∈ ops, o.WF) :
    (∀ c ∈ (Cmd.new 0 w none none none none none :: ops.map (fun o => Cmd.op 0 o)), c.WF) ∧
    get? (runCmds [] (Cmd.new 0 w none none none none none :: ops.map (fun o => Cmd.op 0 o))) 0 =
      some (run (fresh w) ops) := by
  constructor
  · intro c hc
    cases hc with
    | head => intro e he; simp at he
    | tail _ hc' =>
      obtain ⟨o, ho, rfl⟩ := List.mem_map.mp hc'
      exact hops o ho
  · simp only [runCmds]
    apply runCmds_ops
    cases w <;> rfl

/-- `set_incidence_metadata` has two outcomes: on a hyperedge that is present it writes the one entry of (canonical key,
    node) and is accepted; otherwise (bare-node side, absent hyperedge) it is refused and the table stays -/
theorem setIncG_cases (present : Key → Bool) (inc : IncTable) (e : RawEdge) (n : Node) (md : Meta) :
    (∃ k, canonStrict e = some k ∧ present k = true ∧ setIncG present inc e n md = (AL.set inc (k, n) md, .ok)) ∨
    ((canonStrict e).map present ≠ some true ∧ setIncG present inc e n md = (inc, .rej)) := by
  unfold setIncG
  cases hc : canonStrict e with
  | none => exact Or.inr ⟨(fun h => by cases h), rfl⟩
  | some k =>
    cases hp : present k with
    | true => exact Or.inl ⟨k, rfl, hp, if_pos hp⟩
    | false =>
      refine Or.inr ⟨fun h => ?_, if_neg (by rw [hp]; exact Bool.false_ne_true)⟩
      rw [Option.map_some, hp] at h; cases h

theorem has_abs_edges (s : Store) : (fun k => has s.edgeList k) = (fun k => has (abs s).edges k) :=
  funext fun k => (abs_has_edge s k).symm

theorem fabs_apply (x : Full) (o : FOp) (ho : o.WF) (h : Inv x.base) (ord : Ord x.base) :
    fabs (Full.apply x o).1 = (FSpec.apply (fabs x) o).1 ∧ (Full.apply x o).2 = (FSpec.apply (fabs x) o).2 ∧
    Inv (Full.apply x o).1.base ∧ Ord (Full.apply x o).1.base := by
  cases o with
  | base op =>
    obtain ⟨h1, h2⟩ := abs_applyOp x.base op ho h ord
    refine ⟨?_, h2, applyOp_inv x.base op ho h, applyOp_ord x.base op ho h ord⟩
    simp only [Full.apply, FSpec.apply, fabs]
    rw [h1]
  | setInc e n md =>
    refine ⟨?_, ?_, h, ord⟩
    · simp only [Full.apply, FSpec.apply, fabs]
      rw [has_abs_edges]
    · simp only [Full.apply, FSpec.apply, fabs]
      rw [has_abs_edges]

theorem fabs_run (x : Full) (ops : List FOp) (hops : ∀ o ∈ ops, o.WF) (h : Inv x.base) (ord : Ord x.base) :
    fabs (Full.run x ops) = FSpec.run (fabs x) ops ∧ Inv (Full.run x ops).base := by
  induction ops generalizing x with
  | nil => exact ⟨rfl, h⟩
  | cons o os ih =>
    obtain ⟨h1, _, h3, h4⟩ := fabs_apply x o (hops o List.mem_cons_self) h ord
    simp only [Full.run, FSpec.run]
    rw [← h1]
    exact ih _ (fun o' ho' => hops o' (List.mem_cons_of_mem _ ho')) h3 h4

theorem getInc_fabs (x : Full) (e : RawEdge) (n : Node) : Full.getInc x e n = FSpec.getInc (fabs x) e n := by
  unfold Full.getInc FSpec.getInc fabs
  simp only []
  rw [has_abs_edges]

end C02
