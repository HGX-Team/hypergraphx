import Hgxv.Proofs.C11Conn
import Hgxv.Proofs.C11RelabelAux
/-! # C11 - the class tables: the representative of a class is its least relabelling (core Lean only)

`Cert n cid`: `cid` sends every connected labelled pattern to a fixed representative of its relabelling orbit and
everything else to 0; from it the loop of `generate_motifs` (`classes n`) has a closed form that is never evaluated.
`certAll`: for every `n ≥ 2` the model's `canon` on the connected masks is such a `cid`, because the index tables act on
the masks as the group of node permutations (`Proofs/C11RelabelAux.lean`) and `_is_connected` asks whether the present
hyperedges link all nodes (`Proofs/C11Conn.lean`), which a renaming of the nodes does not change. -/
namespace C11

structure Cert (n : Nat) (cid : Nat → Nat) : Prop where
  conn : ∀ m, m < numMasks n → (connected n (masks n) m = true ↔ cid m ≠ 0)
  le : ∀ m, m < numMasks n → cid m ≤ m
  inv : ∀ m, m < numMasks n → ∀ t ∈ tbls n, applyPerm t m < numMasks n ∧ cid (applyPerm t m) = cid m
  idem : ∀ m, m < numMasks n → cid m ≠ 0 → cid (cid m) = cid m
  toRep : ∀ m, m < numMasks n → cid m ≠ 0 → ∃ t ∈ tbls n, applyPerm t m = cid m
  ofRep : ∀ m, m < numMasks n → cid m ≠ 0 → ∃ t ∈ tbls n, applyPerm t (cid m) = m

/-! ### `_is_connected` in the form the kernel evaluates: every cut is crossed (`Proofs/C11Conn.lean`) -/

theorem nat_beq (a b : Nat) : Nat.beq a b = (a == b) := by
  rw [Bool.eq_iff_iff]; simp

/-- `cutFree` with the masks of the crossing hyperedges given as a literal list `xs` -/
def cutFreeK (xs : List Nat) (m : Nat) : Bool := xs.all fun X => !(Nat.beq (Nat.land m X) 0)

/-- `xs` may list the crossing masks in any order and without repetitions (a cut and its complement are crossed by the
same hyperedges) -/
theorem cutFree_eq_K {n : Nat} {masks xs : List Nat}
    (h₁ : ∀ k, k < 2 ^ n - 2 → crossMask masks (k+1) ∈ xs)
    (h₂ : ∀ X ∈ xs, ∃ k, k < 2 ^ n - 2 ∧ crossMask masks (k+1) = X) (m : Nat) :
    cutFree n masks m = cutFreeK xs m := by
  rw [Bool.eq_iff_iff]
  simp only [cutFree, cutFreeK, List.all_eq_true, List.mem_range, nat_beq, bne_iff_ne, Bool.not_eq_true', beq_eq_false_iff_ne]
  constructor
  · intro h X hX
    obtain ⟨k, hk, rfl⟩ := h₂ X hX
    exact h k hk
  · intro h k hk
    exact h _ (h₁ k hk)

/-! ### `_is_connected` is the same on every relabelling -/

theorem masks_ok (n : Nat) : (∀ nm ∈ masks n, nm < 2 ^ n) ∧ ∀ nm ∈ masks n, nm ≠ 0 := by
  constructor <;> intro nm h <;> obtain ⟨e, he, rfl⟩ := List.mem_map.mp h <;>
    obtain ⟨hs, h2, _⟩ := mem_hyperedgesOf.mp he
  · exact lt_two_pow_iff.mpr fun j hj => List.mem_range.mp (hs.subset (testBit_nodeMask.mp hj))
  · intro h0
    obtain ⟨x, hx⟩ := List.exists_mem_of_length_pos (l := e) (by omega)
    have := testBit_nodeMask.mpr hx
    rw [h0, Nat.zero_testBit] at this; exact absurd this (by simp)

theorem connected_masks_iff {n : Nat} (hn : 2 ≤ n) (m : Nat) :
    connected n (masks n) m = true ↔ Linked n (present (masks n) m) :=
  connected_iff_linked hn (masks_ok n).1 (masks_ok n).2 m

theorem mem_present_masks {n m nm : Nat} : nm ∈ present (masks n) m ↔
    ∃ i, i < (hyperedges n).length ∧ m.testBit i = true ∧ nm = nodeMask ((hyperedges n).getD i []) := by
  rw [mem_present]
  unfold masks
  constructor
  · rintro ⟨i, hi, hb⟩
    obtain ⟨hlt, rfl⟩ := List.getElem?_eq_some_iff.mp hi
    have hlt' : i < (hyperedges n).length := by simpa using hlt
    exact ⟨i, hlt', hb, by rw [List.getElem_map, ListLib.getD_of_lt _ _ hlt']⟩
  · rintro ⟨i, hlt, hb, rfl⟩
    exact ⟨i, by rw [List.getElem?_map, List.getElem?_eq_getElem hlt, ListLib.getD_of_lt _ _ hlt]; rfl, hb⟩

theorem mem_present_relabel {n : Nat} {q : List Nat} (hq : q ∈ perms (List.range n)) {m nm : Nat} :
    nm ∈ present (masks n) (applyPerm (edgePerm (hyperedges n) q) m) ↔ ∃ p, p < (hyperedges n).length ∧
      m.testBit p = true ∧ nm = nodeMask ((hyperedges n).getD ((edgePerm (hyperedges n) q).getD p 0) []) := by
  obtain ⟨hlen, hfact, _⟩ := edgePerm_facts hq
  rw [mem_present_masks]
  constructor
  · rintro ⟨i, _, hbit, rfl⟩
    obtain ⟨p, hp, rfl, hb⟩ := (testBit_applyPerm _ _ _).mp hbit
    exact ⟨p, hlen ▸ hp, hb, rfl⟩
  · rintro ⟨p, hp, hb, rfl⟩
    exact ⟨_, (hfact p hp).1, (testBit_applyPerm _ _ _).mpr ⟨p, hlen.symm ▸ hp, rfl, hb⟩, rfl⟩

theorem img_edgePerm {n : Nat} {q : List Nat} (hq : q ∈ perms (List.range n)) {p : Nat} (hp : p < (hyperedges n).length) :
    Img (q.getD · 0) (nodeMask ((hyperedges n).getD p []))
      (nodeMask ((hyperedges n).getD ((edgePerm (hyperedges n) q).getD p 0) [])) := by
  intro y
  rw [((edgePerm_facts hq).2.1 p hp).2, testBit_nodeMask, mem_isort, List.mem_map]
  simp only [testBit_nodeMask]

theorem linked_relabel {n : Nat} {q : List Nat} (hq : q ∈ perms (List.range n)) (m : Nat)
    (h : Linked n (present (masks n) m)) : Linked n (present (masks n) (applyPerm (edgePerm (hyperedges n) q) m)) := by
  have hqP := perm_of_mem_perms hq
  refine linked_image (f := (q.getD · 0)) (fun j hj => ?_) (fun nm h => ?_) h
  · obtain ⟨i, hi, rfl⟩ := List.mem_iff_getElem.mp (hqP.mem_iff.mpr (List.mem_range.mpr hj))
    exact ⟨i, by have := hqP.length_eq; simp at this; omega, ListLib.getD_of_lt _ 0 hi⟩
  · obtain ⟨p, hp, hbit, rfl⟩ := mem_present_masks.mp h
    exact ⟨_, (mem_present_relabel hq).mpr ⟨p, hp, hbit, rfl⟩, img_edgePerm hq hp⟩

/-- `_is_connected` gives the same answer on every relabelling of a pattern (back by the inverse table) -/
theorem connected_applyPerm {n : Nat} (hn : 2 ≤ n) {t : List Nat} (ht : t ∈ tbls n) {m : Nat} (hm : m < numMasks n) :
    connected n (masks n) (applyPerm t m) = connected n (masks n) m := by
  rw [Bool.eq_iff_iff, connected_masks_iff hn, connected_masks_iff hn]
  constructor
  · intro h
    obtain ⟨s, hs, hst⟩ := tbls_inv ht
    obtain ⟨q, hq, rfl⟩ := mem_tbls.mp hs
    have := linked_relabel hq _ h
    rwa [hst m hm] at this
  · obtain ⟨q, hq, rfl⟩ := mem_tbls.mp ht
    exact linked_relabel hq m

theorem connected_zero (n : Nat) (masks : List Nat) : connected n masks 0 = false := by
  have : present masks 0 = [] := by
    unfold present
    rw [List.filterMap_eq_nil_iff]
    rintro ⟨nm, i⟩ _
    simp
  rw [connected_eq, this]; rfl

/-! ### `canon`, `cidC`, `certAll` -/

theorem foldl_min_spec (f : List Nat → Nat) (tb : List (List Nat)) : ∀ b : Nat,
    (tb.foldl (fun best t => min best (f t)) b = b ∨ ∃ t ∈ tb, tb.foldl (fun best t => min best (f t)) b = f t) ∧
    tb.foldl (fun best t => min best (f t)) b ≤ b ∧ ∀ t ∈ tb, tb.foldl (fun best t => min best (f t)) b ≤ f t := by
  induction tb with
  | nil => intro b; simp
  | cons a tb ih =>
    intro b
    obtain ⟨h1, h2, h3⟩ := ih (min b (f a))
    simp only [List.foldl_cons, List.mem_cons, forall_eq_or_imp, exists_eq_or_imp]
    refine ⟨?_, by omega, by omega, h3⟩
    rcases h1 with h | ⟨t, ht, h⟩
    · rcases Nat.le_total b (f a) with hle | hle
      · left; rw [h]; omega
      · right; left; rw [h]; omega
    · exact Or.inr (Or.inr ⟨t, ht, h⟩)

theorem canon_le (n m : Nat) : canon n m ≤ m := (foldl_min_spec (applyPerm · m) (tbls n) m).2.1

theorem canon_le_relabel {n : Nat} {t : List Nat} (ht : t ∈ tbls n) (m : Nat) : canon n m ≤ applyPerm t m :=
  (foldl_min_spec (applyPerm · m) (tbls n) m).2.2 t ht

theorem canon_relabel {n m : Nat} (hm : m < numMasks n) : ∃ t ∈ tbls n, applyPerm t m = canon n m := by
  rcases (foldl_min_spec (applyPerm · m) (tbls n) m).1 with h | ⟨t, ht, h⟩
  · obtain ⟨t, ht, hid⟩ := tbls_id n
    exact ⟨t, ht, (hid m hm).trans h.symm⟩
  · exact ⟨t, ht, h.symm⟩

theorem canon_applyPerm {n : Nat} {t : List Nat} (ht : t ∈ tbls n) {m : Nat} (hm : m < numMasks n) :
    canon n (applyPerm t m) = canon n m := by
  apply Nat.le_antisymm
  · obtain ⟨u, hu, hum⟩ := canon_relabel hm
    obtain ⟨s, hs, hst⟩ := tbls_inv ht
    obtain ⟨w, hw, hws⟩ := tbls_comp hu hs
    have := canon_le_relabel hw (applyPerm t m)
    rwa [hws, hst m hm, hum] at this
  · obtain ⟨v, hv, hvm⟩ := canon_relabel (applyPerm_lt ht m)
    obtain ⟨w, hw, hwt⟩ := tbls_comp hv ht
    have := canon_le_relabel hw m
    rwa [hwt, hvm] at this

/-- representative of the relabelling orbit of a labelled pattern (0 = not connected); its properties come from
`certAll`, its body is unfolded only there and in `isRep_cidC` (irreducible: unifying against its body would run
`_is_connected`); in the words of the property: `exists_relabel_iff_cidC` (`Proofs/C11Census.lean`) -/
@[irreducible] def cidC (n m : Nat) : Nat := if connected n (masks n) m = true then canon n m else 0

theorem certAll {n : Nat} (hn : 2 ≤ n) : Cert n (cidC n) := by
  have hc0 : ∀ m, m < numMasks n → connected n (masks n) m = true → canon n m ≠ 0 := by
    intro m hm hc h0
    obtain ⟨t, ht, e⟩ := canon_relabel hm
    have := connected_applyPerm hn ht hm
    rw [e, h0, connected_zero, hc] at this
    cases this
  have hcc : ∀ m, m < numMasks n → connected n (masks n) (canon n m) = connected n (masks n) m := by
    intro m hm
    obtain ⟨t, ht, e⟩ := canon_relabel hm
    rw [← e]; exact connected_applyPerm hn ht hm
  have hidem : ∀ m, m < numMasks n → canon n (canon n m) = canon n m := by
    intro m hm
    obtain ⟨t, ht, e⟩ := canon_relabel hm
    have := canon_applyPerm ht hm
    rwa [e] at this
  refine ⟨?_, ?_, ?_, ?_, ?_, ?_⟩
  · intro m hm
    unfold cidC
    split
    · rename_i hc; exact ⟨fun _ => hc0 m hm hc, fun _ => hc⟩
    · rename_i hc; exact ⟨fun h => absurd h hc, fun h => absurd rfl h⟩
  · intro m _
    unfold cidC
    split
    · exact canon_le n m
    · exact Nat.zero_le m
  · intro m hm t ht
    refine ⟨applyPerm_lt ht m, ?_⟩
    unfold cidC
    rw [connected_applyPerm hn ht hm, canon_applyPerm ht hm]
  · intro m hm hne
    unfold cidC at hne ⊢
    split at hne
    · rename_i hc
      rw [if_pos hc, hcc m hm, if_pos hc, hidem m hm]
    · exact absurd rfl hne
  · intro m hm hne
    unfold cidC at hne ⊢
    split at hne
    · rename_i hc; rw [if_pos hc]; exact canon_relabel hm
    · exact absurd rfl hne
  · intro m hm hne
    unfold cidC at hne ⊢
    split at hne
    · rename_i hc
      obtain ⟨t, ht, e⟩ := canon_relabel hm
      obtain ⟨s, hs, hst⟩ := tbls_inv ht
      exact ⟨s, hs, by rw [if_pos hc, ← e]; exact hst m hm⟩
    · exact absurd rfl hne

/-- membership test of the closed form of `classes` -/
def isRep (n : Nat) (cid : Nat → Nat) (m : Nat) : Bool := connected n (masks n) m && cid m == m

section consequences
variable {n : Nat} {cid : Nat → Nat} (C : Cert n cid)
include C

theorem genStep_spec (j : Nat) (hj : j < numMasks n) :
    genStep n (masks n) (tbls n) ((List.range j).filter (isRep n cid)) j
      = (List.range j).filter (isRep n cid) ++ (if isRep n cid j then [j] else []) := by
  unfold genStep
  by_cases hc : connected n (masks n) j = true
  · have hne : cid j ≠ 0 := (C.conn j hj).mp hc
    have key : (tbls n).any (fun t => ((List.range j).filter (isRep n cid)).contains (applyPerm t j)) = true
        ↔ cid j ≠ j := by
      simp only [List.any_eq_true, List.contains_iff_mem, List.mem_filter, List.mem_range, isRep,
        Bool.and_eq_true, beq_iff_eq]
      constructor
      · rintro ⟨t, ht, hlt, _, hfix⟩ heq
        have := (C.inv j hj t ht).2
        rw [hfix, heq] at this
        omega
      · intro hne'
        obtain ⟨t, ht, hto⟩ := C.toRep j hj hne
        have hle := C.le j hj
        have hlt : cid j < j := by omega
        refine ⟨t, ht, by omega, ?_, ?_⟩
        · rw [hto]
          exact (C.conn (cid j) (by omega)).mpr (by rw [C.idem j hj hne]; exact hne)
        · rw [hto]; exact C.idem j hj hne
    by_cases hfix : cid j = j
    · have : (tbls n).any (fun t => ((List.range j).filter (isRep n cid)).contains (applyPerm t j)) = false :=
        Bool.eq_false_iff.mpr fun h => key.mp h hfix
      have hr : isRep n cid j = true := by simp [isRep, hc, hfix]
      rw [hc, this, hr]; simp
    · have := key.mpr hfix
      have hr : isRep n cid j = false := by simp [isRep, hfix]
      rw [hc, this, hr]; simp
  · have hr : isRep n cid j = false := by simp [isRep, hc]
    rw [hr]; simp [hc]

theorem gen_prefix : ∀ j, j ≤ numMasks n →
    (List.range j).foldl (genStep n (masks n) (tbls n)) [] = (List.range j).filter (isRep n cid) := by
  intro j
  induction j with
  | zero => intro _; simp
  | succ j ih =>
    intro hj
    rw [List.range_succ, List.foldl_append, ih (by omega), List.filter_append]
    simp only [List.foldl_cons, List.foldl_nil]
    rw [genStep_spec C j (by omega)]
    simp [List.filter_cons]

theorem classes_eq : classes n = (List.range (numMasks n)).filter (isRep n cid) := by
  unfold classes genClassesWith
  exact gen_prefix C _ (Nat.le_refl _)

theorem mem_classes {c : Nat} : c ∈ classes n ↔ c < numMasks n ∧ cid c = c ∧ c ≠ 0 := by
  rw [classes_eq C]
  simp only [List.mem_filter, List.mem_range, isRep, Bool.and_eq_true, beq_iff_eq]
  constructor
  · rintro ⟨hlt, hconn, hfix⟩
    refine ⟨hlt, hfix, ?_⟩
    have := (C.conn c hlt).mp hconn
    rwa [hfix] at this
  · rintro ⟨hlt, hfix, hne⟩
    exact ⟨hlt, (C.conn c hlt).mpr (by rwa [hfix]), hfix⟩

theorem classes_nodup : (classes n).Nodup := by
  rw [classes_eq C]; exact List.Pairwise.filter _ List.nodup_range

theorem cid_mem_classes {m : Nat} (hm : m < numMasks n) (hc : cid m ≠ 0) : cid m ∈ classes n := by
  rw [mem_classes C]
  have := C.le m hm
  exact ⟨by omega, C.idem m hm hc, hc⟩

theorem classes_noniso {c1 c2 : Nat} (h1 : c1 ∈ classes n) (h2 : c2 ∈ classes n) {t : List Nat}
    (ht : t ∈ tbls n) (h : applyPerm t c1 = c2) : c1 = c2 := by
  obtain ⟨l1, f1, _⟩ := (mem_classes C).mp h1
  obtain ⟨_, f2, _⟩ := (mem_classes C).mp h2
  have := (C.inv c1 l1 t ht).2
  rw [h, f1, f2] at this
  exact this.symm

theorem cid_of_relabel {c m : Nat} (hc : c ∈ classes n) {t : List Nat} (ht : t ∈ tbls n)
    (h : applyPerm t c = m) : m < numMasks n ∧ cid m = c := by
  obtain ⟨l1, f1, _⟩ := (mem_classes C).mp hc
  have := C.inv c l1 t ht
  rw [h, f1] at this
  exact this

theorem mem_orbit {c p : Nat} (hc : c ∈ classes n) :
    p ∈ orbit n c ↔ p < numMasks n ∧ cid p = c := by
  unfold orbit orbitWith
  rw [mem_dedup]
  simp only [List.mem_map]
  constructor
  · rintro ⟨t, ht, h⟩
    exact cid_of_relabel C hc ht h
  · rintro ⟨hlt, hcid⟩
    obtain ⟨_, _, hne⟩ := (mem_classes C).mp hc
    obtain ⟨t, ht, h⟩ := C.ofRep p hlt (by rw [hcid]; exact hne)
    exact ⟨t, ht, by rw [← hcid]; exact h⟩

theorem mem_labeling {p : Nat} : p ∈ labeling n ↔ p < numMasks n ∧ cid p ≠ 0 := by
  unfold labeling labelingWith
  rw [mem_dedup]
  simp only [List.mem_flatMap]
  constructor
  · rintro ⟨c, hc, hp⟩
    have := (mem_orbit C hc).mp hp
    obtain ⟨_, _, hne⟩ := (mem_classes C).mp hc
    exact ⟨this.1, by rw [this.2]; exact hne⟩
  · rintro ⟨hlt, hne⟩
    exact ⟨cid p, cid_mem_classes C hlt hne, (mem_orbit C (cid_mem_classes C hlt hne)).mpr ⟨hlt, rfl⟩⟩

/-- the tail of every pass counts, per class, the handed-over patterns that are relabellings of it -/
theorem tally_eq (pats : List Nat) (hp : ∀ p ∈ pats, p < numMasks n) :
    tallyWith (tbls n) (classes n) (labeling n) pats
      = (classes n).map fun c => (c, pats.countP (fun p => cid p == c)) := by
  unfold tallyWith
  apply List.map_congr_left
  intro c hc
  obtain ⟨_, _, hne⟩ := (mem_classes C).mp hc
  have hnd : (orbitWith (tbls n) c).Nodup := nodup_dedup _
  rw [sum_count_nodup _ hnd, List.countP_filter]
  congr 1
  apply List.countP_congr
  intro p hpm
  have hlt := hp p hpm
  simp only [Bool.and_eq_true, List.contains_iff_mem, beq_iff_eq]
  have ho := mem_orbit C hc (p := p)
  unfold orbit at ho
  have hl := mem_labeling C (p := p)
  constructor
  · rintro ⟨h1, _⟩; exact (ho.mp h1).2
  · intro h
    exact ⟨ho.mpr ⟨hlt, h⟩, hl.mpr ⟨hlt, by rw [h]; exact hne⟩⟩

end consequences

/-- a connected mask is the representative of its class iff no relabelling is smaller: the test the kernel runs -/
theorem isRep_cidC (n m : Nat) :
    isRep n (cidC n) m = (connected n (masks n) m && (tbls n).all fun t => Nat.ble m (applyPerm t m)) := by
  unfold isRep cidC
  cases hc : connected n (masks n) m
  · rfl
  · obtain ⟨h1, h2, h3⟩ := foldl_min_spec (applyPerm · m) (tbls n) m
    rw [Bool.true_and, Bool.true_and, if_pos rfl, Bool.eq_iff_iff]
    simp only [beq_iff_eq, List.all_eq_true, Nat.ble_eq]
    constructor
    · intro h t ht; have := h3 t ht; unfold canon canonWith at h; omega
    · intro h
      unfold canon canonWith
      rcases h1 with h1 | ⟨t, ht, h1⟩
      · exact h1
      · have := h t ht; omega

end C11
