import Hgxv.Model.C12Ext
import Hgxv.Proofs.ListLib
/-! Lemmas about `Model/C12.lean` and `Model/C12Ext.lean` (core Lean only): the three predicates and the cells of the
signature in closed form; the Python loops compute the closed forms; the identities between the measures (handshake,
weighted cells, reversal, pairs of exactly reciprocated hyperedges). -/
namespace C12

theorem foldl_append_if {α β : Type} (c : α → Bool) (g : α → List β) (es : List α) (init : List β) :
    es.foldl (fun acc e => if c e then acc ++ g e else acc) init = init ++ (es.filter c).flatMap g := by
  induction es generalizing init with
  | nil => simp
  | cons e t ih => cases h : c e <;> simp [h, ih]

theorem pairs_spec {α β : Type} (l : List α) (g : α → β) :
    (l.map (fun n => (n, g n))).map (·.1) = l ∧ ∀ p ∈ l.map (fun n => (n, g n)), p.2 = g p.1 :=
  ⟨by simp [List.map_map, Function.comp_def], fun p hp => by obtain ⟨n, _, rfl⟩ := List.mem_map.mp hp; rfl⟩

theorem filterArg_eq_none (order size : Option Nat) :
    filterArg order size = none ↔ order.isSome ∧ size.isSome := by
  cases order <;> cases size <;> simp [filterArg]

/-- the body of `inDegreeCall` / `outDegreeCall` for `deg := inDegree es` / `outDegree es` (the `if` below is what they
unfold to): refused for an unlisted node or for both options, otherwise `deg` under the selected size -/
theorem degreeCall_spec (deg : Option Nat → Nat → Nat) (nodes : List Nat) (order size : Option Nat) (n : Nat) :
    ((if nodes.contains n then (filterArg order size).map (fun f => deg f n) else none) = none ↔
      n ∉ nodes ∨ (order.isSome ∧ size.isSome)) ∧
    ∀ f, n ∈ nodes → filterArg order size = some f →
      (if nodes.contains n then (filterArg order size).map (fun f => deg f n) else none) = some (deg f n) := by
  by_cases hn : n ∈ nodes
  · simp +contextual [hn, filterArg_eq_none]
  · simp [hn]

theorem inDegreeSeqCall_eq (nodes : List Nat) (es : List DEdge) (order size : Option Nat) :
    inDegreeSeqCall nodes es order size =
      if nodes = [] then some [] else (filterArg order size).map (inDegreeSeq nodes es) := by
  cases nodes <;> cases h : filterArg order size <;> simp [inDegreeSeqCall, h]

theorem outDegreeSeqCall_eq (nodes : List Nat) (es : List DEdge) (order size : Option Nat) :
    outDegreeSeqCall nodes es order size =
      if nodes = [] then some [] else (filterArg order size).map (outDegreeSeq nodes es) := by
  cases nodes <;> cases h : filterArg order size <;> simp [outDegreeSeqCall, h]

/-- `r` is `inDegreeSeqCall` / `outDegreeSeqCall` (`hr` is `inDegreeSeqCall_eq` / `outDegreeSeqCall_eq`, the pairs are
`inDegreeSeq` / `outDegreeSeq` unfolded, the `if` in the conclusion is the single call as in `degreeCall_spec`): refused
exactly when there is a node and both options are given; otherwise every node once, in order, with the answer of the call -/
theorem degreeSeqCall_spec (deg : Option Nat → Nat → Nat) (nodes : List Nat) (order size : Option Nat)
    (r : Option (List (Nat × Nat)))
    (hr : r = if nodes = [] then some [] else (filterArg order size).map (fun f => nodes.map (fun n => (n, deg f n)))) :
    (r = none ↔ nodes ≠ [] ∧ order.isSome ∧ size.isSome) ∧
    ∀ seq, r = some seq → seq.map (·.1) = nodes ∧ ∀ p ∈ seq,
      (if nodes.contains p.1 then (filterArg order size).map (fun f => deg f p.1) else none) = some p.2 := by
  subst hr
  by_cases h0 : nodes = []
  · subst h0; simp
  · rw [if_neg h0]
    refine ⟨by simp [h0, filterArg_eq_none], fun seq h => ?_⟩
    obtain ⟨f, hf, rfl⟩ := Option.map_eq_some_iff.mp h
    refine ⟨(pairs_spec nodes (deg f)).1, fun p hp => ?_⟩
    obtain ⟨n, hn, rfl⟩ := List.mem_map.mp hp
    simp [hn, hf]

theorem bump_eq_modify (t : List Nat) (i : Nat) : bump t i = t.modify i (· + 1) := by
  induction t generalizing i with
  | nil => simp [bump]
  | cons x xs ih => cases i <;> simp [bump, ih]

theorem length_bump (t : List Nat) (i : Nat) : (bump t i).length = t.length := by
  rw [bump_eq_modify, List.length_modify]

theorem getElem?_bump (t : List Nat) (i j : Nat) :
    (bump t i)[j]? = if i = j then t[j]?.map (· + 1) else t[j]? := by
  rw [bump_eq_modify, List.getElem?_modify]; split <;> simp

theorem foldl_bump (key : DEdge → Nat) (es : List DEdge) (t : List Nat) (j : Nat) :
    (es.foldl (fun t e => bump t (key e)) t)[j]? =
      t[j]?.map (· + (es.filter (fun e => key e == j)).length) := by
  induction es generalizing t with
  | nil => simp
  | cons e es ih =>
    rw [List.foldl_cons, ih, getElem?_bump, List.filter_cons]
    by_cases h : key e = j
    · cases t[j]? <;> simp [h, Nat.add_assoc, Nat.add_comm 1]
    · simp [h]

theorem countLoop_eq (key : DEdge → Nat) (n : Nat) (es : List DEdge) :
    countLoop key n es = (List.range n).map (fun j => (es.filter (fun e => key e == j)).length) := by
  apply List.ext_getElem?
  intro j
  rw [countLoop, foldl_bump]
  by_cases hj : j < n <;> simp [hj]

theorem countLoopIf_eq (c : DEdge → Bool) (key : DEdge → Nat) (n : Nat) (es : List DEdge) :
    countLoopIf c key n es = countLoop key n (es.filter c) :=
  List.foldl_filter.symm

theorem countLoopIf_getD (c : DEdge → Bool) (key : DEdge → Nat) (n : Nat) (es : List DEdge) (k : Nat) (hk : k < n) :
    (countLoopIf c key n es).getD k 0 = ((es.filter c).filter (fun e => key e == k)).length := by
  simp [countLoopIf_eq, countLoop_eq, hk]


theorem bounded_eq_filter (m : Nat) (es : List DEdge) : bounded m es = es.filter (inBound m) := rfl

theorem mem_dictAdd {α : Type} [BEq α] [LawfulBEq α] (acc : List α) (q p : α) :
    p ∈ dictAdd acc q ↔ p ∈ acc ∨ p = q := ListLib.mem_addIfNew List.contains_iff_mem p

theorem mem_foldl_dictAdd {α : Type} [BEq α] [LawfulBEq α] (ps : List α) (acc : List α) (p : α) :
    p ∈ ps.foldl dictAdd acc ↔ p ∈ acc ∨ p ∈ ps := ListLib.mem_foldl_of_step dictAdd mem_dictAdd ps acc p

theorem foldl_dictAdd_nodup {α : Type} [BEq α] [LawfulBEq α] (es : List α) (init : List α) (hn : es.Nodup)
    (hd : ∀ e ∈ es, e ∉ init) : es.foldl dictAdd init = init ++ es := by
  induction es generalizing init with
  | nil => simp
  | cons e t ih =>
    have hn' := List.nodup_cons.mp hn
    have h1 : dictAdd init e = init ++ [e] := by
      simp [dictAdd, hd e List.mem_cons_self]
    rw [List.foldl_cons, h1, ih (init ++ [e]) hn'.2, List.append_assoc]; rfl
    intro x hx hmem
    rcases List.mem_append.mp hmem with h | h
    · exact hd x (List.mem_cons_of_mem _ hx) h
    · exact hn'.1 (List.mem_singleton.mp h ▸ hx)

theorem edgeSetLoop_eq (es : List DEdge) (m : Nat) (hn : es.Nodup) : edgeSetLoop es m = bounded m es := by
  rw [edgeSetLoop, ← List.foldl_filter,
    foldl_dictAdd_nodup _ [] ((List.filter_sublist).nodup hn) (fun _ _ h => by cases h)]
  rfl

/-- a duplicate in the listing is stored once in `edge_set`: without `Nodup` only the members agree -/
theorem mem_edgeSetLoop (es : List DEdge) (m : Nat) (e : DEdge) : e ∈ edgeSetLoop es m ↔ e ∈ bounded m es := by
  rw [edgeSetLoop, ← List.foldl_filter, mem_foldl_dictAdd]
  simp [bounded_eq_filter]

theorem mem_pairsOf (e : DEdge) (p : Nat × Nat) : p ∈ pairsOf e ↔ p.1 ∈ e.1 ∧ p.2 ∈ e.2 := by
  obtain ⟨a, b⟩ := p
  simp [pairsOf]

theorem mem_binLoop (es : List DEdge) (m : Nat) (p : Nat × Nat) :
    p ∈ binLoop es m ↔ ∃ f ∈ bounded m es, p.1 ∈ f.1 ∧ p.2 ∈ f.2 := by
  rw [binLoop, ← List.foldl_filter,
    ListLib.foldl_or (p ∈ ·) binStep (p ∈ pairsOf ·) (fun acc e => mem_foldl_dictAdd _ acc p)]
  simp only [List.not_mem_nil, false_or, mem_pairsOf, bounded_eq_filter]

/-- `s in node_reach[n]` -/
def inTbl (tbl : List (Nat × List Nat)) (n s : Nat) : Prop := ∃ r, AL.get? tbl n = some r ∧ s ∈ r

theorem inTbl_reachStep (t : List (Nat × List Nat)) (e : DEdge) (n s : Nat) :
    inTbl (reachStep t e) n s ↔ inTbl t n s ∨ (n ∈ e.1 ∧ s ∈ e.2) := by
  refine Iff.trans (ListLib.foldl_or (inTbl · n s) _ (fun k => k = n ∧ s ∈ e.2) ?_ e.1 t)
    (or_congr_right ⟨fun ⟨_, hk, hkn, hs⟩ => ⟨hkn ▸ hk, hs⟩, fun ⟨hn, hs⟩ => ⟨n, hn, rfl, hs⟩⟩)
  intro t k
  unfold inTbl
  rw [AL.get?_set]
  by_cases hk : k = n
  · subst hk; cases AL.get? t k <;> simp [List.mem_append]
  · simp [hk]

theorem inTbl_reachLoop (es : List DEdge) (m : Nat) (n s : Nat) :
    inTbl (reachLoop es m) n s ↔ ∃ f ∈ bounded m es, n ∈ f.1 ∧ s ∈ f.2 := by
  rw [reachLoop, ← List.foldl_filter,
    ListLib.foldl_or (inTbl · n s) reachStep (fun f => n ∈ f.1 ∧ s ∈ f.2) (fun t e => inTbl_reachStep t e n s)]
  exact or_iff_right (fun ⟨_, h, _⟩ => by cases h)

theorem mem_coveredLoop (tbl : List (Nat × List Nat)) (T : List Nat) (s : Nat) :
    s ∈ coveredLoop tbl T ↔ ∃ t ∈ T, inTbl tbl t s := by
  refine Iff.trans (ListLib.foldl_or (s ∈ ·) (coveredStep tbl) (inTbl tbl · s) ?_ T []) (by simp)
  intro c t
  unfold coveredStep inTbl
  cases AL.get? tbl t <;> simp

theorem isExact_iff (E : List DEdge) (e : DEdge) : isExact E e = true ↔ (e.2, e.1) ∈ E :=
  List.contains_iff_mem

theorem isStrong_iff (E : List DEdge) (e : DEdge) :
    isStrong E e = true ↔ ∀ s ∈ e.1, ∃ t ∈ e.2, ∃ f ∈ E, t ∈ f.1 ∧ s ∈ f.2 := by
  simp only [isStrong, reach, List.all_eq_true, List.any_eq_true, List.contains_iff_mem,
    List.mem_flatMap, List.mem_filter, and_assoc]

theorem isWeak_iff (E : List DEdge) (e : DEdge) :
    isWeak E e = true ↔ ∃ i ∈ e.1, ∃ j ∈ e.2, ∃ f ∈ E, j ∈ f.1 ∧ i ∈ f.2 := by
  simp only [isWeak, List.any_eq_true, List.contains_iff_mem, Bool.and_eq_true]

theorem exactTest_eq (es : List DEdge) (m : Nat) (e : DEdge) :
    exactTest (edgeSetLoop es m) e = isExact (bounded m es) e := by
  rw [Bool.eq_iff_iff, isExact_iff, ← mem_edgeSetLoop]
  exact List.contains_iff_mem

theorem strongTest_eq (es : List DEdge) (m : Nat) (e : DEdge) :
    strongTest (reachLoop es m) e = isStrong (bounded m es) e := by
  rw [Bool.eq_iff_iff, isStrong_iff]
  simp only [strongTest, List.all_eq_true, List.contains_iff_mem, mem_coveredLoop, inTbl_reachLoop]

theorem weakTest_eq (es : List DEdge) (m : Nat) (e : DEdge) :
    weakTest (binLoop es m) e = isWeak (bounded m es) e := by
  rw [Bool.eq_iff_iff, isWeak_iff]
  simp only [weakTest, List.any_eq_true, List.contains_iff_mem, mem_binLoop]

theorem totLoop_getD (es : List DEdge) (m k : Nat) (hk : k < m + 1) :
    (totLoop es m).getD k 0 = total (bounded m es) k :=
  countLoopIf_getD _ _ _ _ _ hk

theorem filter_congr_mem {α : Type} (p q : α → Bool) (l : List α) (h : ∀ x ∈ l, p x = q x) :
    l.filter p = l.filter q := List.filter_congr h

theorem loop_table (test : DEdge → Bool) (p : List DEdge → DEdge → Bool) (es : List DEdge) (m : Nat)
    (hn : es.Nodup) (h : ∀ e, test e = p (bounded m es) e) :
    ratioLoop (recLoop test (edgeSetLoop es m) m) (totLoop es m) m = reciprocityTable p es m := by
  apply List.map_congr_left
  intro k hk
  have hk' : k < m + 1 := List.mem_range.mp (List.mem_filter.mp hk).1
  have e1 : (recLoop test (edgeSetLoop es m) m).getD k 0 = recCount p (bounded m es) k := by
    rw [recLoop, countLoopIf_getD _ _ _ _ _ hk', edgeSetLoop_eq es m hn, List.filter_filter, recCount, ofSize,
      List.filter_filter]
    congr 2
    funext e
    rw [h e, Bool.and_comm]
  rw [e1, totLoop_getD es m k hk']; rfl

theorem firstLoop_fold (m : Nat) (es : List DEdge) (st : FirstLoop) :
    es.foldl (firstStep m) st =
      { tot := es.foldl (fun t e => if inBound m e then bump t (esize e) else t) st.tot,
        edgeSet := es.foldl (fun acc e => if inBound m e then dictAdd acc e else acc) st.edgeSet,
        reach := es.foldl (fun t e => if inBound m e then reachStep t e else t) st.reach,
        bins := es.foldl (fun acc e => if inBound m e then binStep acc e else acc) st.bins } := by
  induction es generalizing st with
  | nil => rfl
  | cons e es ih =>
    simp only [List.foldl_cons, ih, firstStep]
    cases inBound m e <;> rfl

/-- `ListLib.handshake` in the spelling of `inDegree` / `outDegree` (length of a filter, `contains`) -/
theorem handshake_any {κ : Type} (members : κ → List Nat) (sel : κ → Bool) (nodes : List Nat) (keys : List κ)
    (hn : nodes.Nodup) (hs : ∀ k ∈ keys, (members k).Nodup ∧ ∀ x ∈ members k, x ∈ nodes) :
    (nodes.map (fun n => (keys.filter (fun k => (members k).contains n && sel k)).length)).sum
      = ((keys.filter sel).map (fun k => (members k).length)).sum := by
  simp only [← List.countP_eq_length_filter, List.contains_eq_mem]
  exact ListLib.handshake members sel nodes keys hn hs

theorem sum_sides (es : List DEdge) (size : Option Nat) :
    sumSourceSizes es size + sumTargetSizes es size = ((selected es size).map esize).sum :=
  (ListLib.sum_map_add _ _ _).symm

theorem sum_by_key {α : Type} (l : List α) (f g : α → Nat) (n : Nat) :
    ((List.range n).map fun i => ((l.filter (fun e => f e == i)).map g).sum).sum =
      ((l.filter (fun e => f e < n)).map g).sum := by
  rw [ListLib.sum_by_key_of_nodup _ List.nodup_range]
  simp only [List.contains_eq_mem, List.mem_range]

theorem sum_cells {α : Type} (sel : List α) (f : α → Nat) (n : Nat) :
    ((List.range n).map (fun idx => (sel.filter (fun e => f e == idx)).length)).sum
      = sel.countP (fun e => f e < n) := by
  have h := sum_by_key sel f (fun _ => 1) n
  simp only [ListLib.sum_map_const _ _ 1 (fun _ _ => rfl), Nat.one_mul] at h
  rw [h, List.countP_eq_length_filter]

def Uniform (w : Nat) (M : List (List Nat)) : Prop := ∀ row ∈ M, row.length = w

theorem bump_append (s t : List Nat) (i : Nat) :
    bump (s ++ t) i = if i < s.length then bump s i ++ t else s ++ bump t (i - s.length) := by
  induction s generalizing i with
  | nil => rfl
  | cons x s ih =>
    cases i <;> simp [bump, ih]
    split <;> rfl

theorem uniform_bump2 (w : Nat) (M : List (List Nat)) (r c : Nat) (h : Uniform w M) : Uniform w (bump2 M r c) := by
  induction M generalizing r with
  | nil => exact h
  | cons row rows ih =>
    have h2 : Uniform w rows := fun x hx => h x (List.mem_cons_of_mem _ hx)
    cases r with
    | zero =>
      intro x hx
      rcases List.mem_cons.mp hx with rfl | hx
      · rw [length_bump]; exact h row List.mem_cons_self
      · exact h2 x hx
    | succ r =>
      intro x hx
      rcases List.mem_cons.mp hx with rfl | hx
      · exact h x List.mem_cons_self
      · exact ih r h2 x hx

/-- `signature[r, c] += 1` then `flatten()` is `flat[r * w + c] += 1` (`c < w`: the column does not leave its row) -/
theorem flatten_bump2 (w : Nat) (M : List (List Nat)) (hu : Uniform w M) (r c : Nat) (hc : c < w) :
    (bump2 M r c).flatten = bump M.flatten (r * w + c) := by
  induction M generalizing r with
  | nil => rfl
  | cons row rows ih =>
    obtain rfl : row.length = w := hu row List.mem_cons_self
    cases r with
    | zero => rw [Nat.zero_mul, Nat.zero_add, List.flatten_cons, bump_append, if_pos hc]; rfl
    | succ r =>
      rw [Nat.succ_mul, Nat.add_right_comm, List.flatten_cons, bump_append,
        if_neg (Nat.not_lt_of_ge (Nat.le_add_left _ _)), Nat.add_sub_cancel,
        ← ih (fun x hx => hu x (List.mem_cons_of_mem _ hx))]
      rfl

theorem flatten_sigFold {α : Type} (r c : α → Nat) (w : Nat) (sel : List α) (M : List (List Nat)) (hu : Uniform w M)
    (hc : ∀ e ∈ sel, c e < w) :
    (sel.foldl (fun M e => bump2 M (r e) (c e)) M).flatten =
      sel.foldl (fun t e => bump t (r e * w + c e)) M.flatten := by
  induction sel generalizing M with
  | nil => rfl
  | cons e sel ih =>
    rw [List.foldl_cons, List.foldl_cons, ih _ (uniform_bump2 w M _ _ hu) fun x hx => hc x (List.mem_cons_of_mem _ hx),
      flatten_bump2 w M hu _ _ (hc e List.mem_cons_self)]

theorem divmod_unique (w x y : Nat) (hy : y < w) : (x * w + y) / w = x ∧ (x * w + y) % w = y := by
  have hw : 0 < w := by omega
  constructor
  · rw [Nat.mul_comm, Nat.mul_add_div hw, Nat.div_eq_of_lt hy, Nat.add_zero]
  · rw [Nat.mul_comm, Nat.mul_add_mod, Nat.mod_eq_of_lt hy]

theorem cell_inj {w x y a b : Nat} (hy : y < w) (hb : b < w) : x * w + y = a * w + b ↔ x = a ∧ y = b := by
  constructor
  · intro h
    have h1 := divmod_unique w x y hy
    rw [h, (divmod_unique w a b hb).1, (divmod_unique w a b hb).2] at h1
    exact ⟨h1.1.symm, h1.2.symm⟩
  · rintro ⟨rfl, rfl⟩; rfl

theorem cell_lt {w x y : Nat} (hx : x < w) (hy : y < w) : x * w + y < w * w :=
  calc x * w + y < x * w + w := Nat.add_lt_add_left hy _
    _ = (x + 1) * w := (Nat.succ_mul x w).symm
    _ ≤ w * w := Nat.mul_le_mul_right _ hx

theorem coords_lt (m : Nat) (e : DEdge) (h1 : e.1 ≠ []) (h2 : e.2 ≠ []) (hs : esize e ≤ m) :
    e.1.length - 1 < m - 1 ∧ e.2.length - 1 < m - 1 :=
  have l1 := List.length_pos_iff.mpr h1
  have l2 := List.length_pos_iff.mpr h2
  ⟨Nat.sub_lt_sub_right l1 (Nat.lt_of_lt_of_le (Nat.lt_add_of_pos_right l2) hs),
    Nat.sub_lt_sub_right l2 (Nat.lt_of_lt_of_le (Nat.lt_add_of_pos_left l1) hs)⟩

theorem cellIndex_lt (m : Nat) (e : DEdge) (h1 : e.1 ≠ []) (h2 : e.2 ≠ []) (hs : esize e ≤ m) :
    cellIndex m e < (m - 1) * (m - 1) :=
  cell_lt (coords_lt m e h1 h2 hs).1 (coords_lt m e h1 h2 hs).2

theorem cellIndex_eq_iff (m : Nat) (e : DEdge) (h1 : e.1 ≠ []) (h2 : e.2 ≠ []) (hs : esize e ≤ m) {a b : Nat}
    (hb : b < m - 1) : cellIndex m e = a * (m - 1) + b ↔ e.1.length = a + 1 ∧ e.2.length = b + 1 := by
  rw [cellIndex, cell_inj (coords_lt m e h1 h2 hs).2 hb, Nat.sub_eq_iff_eq_add (List.length_pos_iff.mpr h1),
    Nat.sub_eq_iff_eq_add (List.length_pos_iff.mpr h2)]

theorem cellIndex_divmod (m : Nat) (e : DEdge) (h1 : e.1 ≠ []) (h2 : e.2 ≠ []) (hs : esize e ≤ m) :
    cellIndex m e / (m - 1) + 1 = e.1.length ∧ cellIndex m e % (m - 1) + 1 = e.2.length := by
  obtain ⟨hd, hm⟩ := divmod_unique (m - 1) (e.1.length - 1) (e.2.length - 1) (coords_lt m e h1 h2 hs).2
  rw [cellIndex, hd, hm]
  exact ⟨Nat.sub_add_cancel (List.length_pos_iff.mpr h1), Nat.sub_add_cancel (List.length_pos_iff.mpr h2)⟩

theorem filter_within (es : List DEdge) (m : Nat) (h : ∀ e ∈ es, esize e ≤ m) :
    es.filter (fun e => esize e ≤ m) = es :=
  List.filter_eq_self.mpr fun e he => decide_eq_true (h e he)

theorem signature_getElem? (es : List DEdge) (m idx : Nat) (h : idx < (m - 1) * (m - 1)) :
    (signature es m)[idx]? =
      some ((es.filter (fun e => esize e ≤ m)).filter (fun e => cellIndex m e == idx)).length := by
  simp [signature, h]

/-- `hne`: with an empty side a hyperedge falls into the cell of another shape -/
theorem signature_cell (es : List DEdge) (m a b : Nat) (ha : a < m - 1) (hb : b < m - 1)
    (hne : ∀ e ∈ es, e.1 ≠ [] ∧ e.2 ≠ []) :
    (signature es m)[a * (m - 1) + b]? =
      some (es.countP (fun e => decide (esize e ≤ m) && (e.1.length == a + 1 && e.2.length == b + 1))) := by
  rw [signature_getElem? es m _ (cell_lt ha hb), List.filter_filter, ← List.countP_eq_length_filter]
  congr 1
  apply List.countP_congr
  intro e he
  simp only [Bool.and_eq_true, beq_iff_eq, decide_eq_true_eq]
  constructor
  · rintro ⟨hc, hs⟩
    exact ⟨hs, (cellIndex_eq_iff m e (hne e he).1 (hne e he).2 hs hb).mp hc⟩
  · rintro ⟨hs, hc⟩
    exact ⟨(cellIndex_eq_iff m e (hne e he).1 (hne e he).2 hs hb).mpr hc, hs⟩

theorem signature_weighted (w : Nat → Nat) (g : DEdge → Nat) (es : List DEdge) (m : Nat)
    (hne : ∀ e ∈ es, e.1 ≠ [] ∧ e.2 ≠ [])
    (hg : ∀ e, e.1 ≠ [] → e.2 ≠ [] → esize e ≤ m → w (cellIndex m e) = g e) :
    ((List.range ((m - 1) * (m - 1))).map (fun idx => w idx * (signature es m).getD idx 0)).sum =
      ((es.filter (fun e => esize e ≤ m)).map g).sum := by
  have sel : ∀ e ∈ es.filter (fun e => esize e ≤ m), e.1 ≠ [] ∧ e.2 ≠ [] ∧ esize e ≤ m := fun e he =>
    have he' := List.mem_filter.mp he
    ⟨(hne e he'.1).1, (hne e he'.1).2, of_decide_eq_true he'.2⟩
  -- a cell weighted by `w` is `g` summed over the hyperedges that fall into it
  have cell : ∀ idx ∈ List.range ((m - 1) * (m - 1)), w idx * (signature es m).getD idx 0 =
      (((es.filter (fun e => esize e ≤ m)).filter (fun e => cellIndex m e == idx)).map g).sum := by
    intro idx hidx
    rw [List.getD_eq_getElem?_getD, signature_getElem? es m idx (List.mem_range.mp hidx), Option.getD_some]
    refine (ListLib.sum_map_const _ _ _ fun e he => ?_).symm
    have he' := List.mem_filter.mp he
    rw [← beq_iff_eq.mp he'.2]
    exact (hg e (sel e he'.1).1 (sel e he'.1).2.1 (sel e he'.1).2.2).symm
  rw [List.map_congr_left cell, sum_by_key,
    List.filter_eq_self.mpr fun e he => decide_eq_true (cellIndex_lt m e (sel e he).1 (sel e he).2.1 (sel e he).2.2)]

theorem sigSourceWeighted_eq (es : List DEdge) (m : Nat) (hne : ∀ e ∈ es, e.1 ≠ [] ∧ e.2 ≠ []) :
    sigSourceWeighted (signature es m) m = ((es.filter (fun e => esize e ≤ m)).map (·.1.length)).sum :=
  signature_weighted (· / (m - 1) + 1) _ es m hne fun e h1 h2 hs => (cellIndex_divmod m e h1 h2 hs).1

theorem sigTargetWeighted_eq (es : List DEdge) (m : Nat) (hne : ∀ e ∈ es, e.1 ≠ [] ∧ e.2 ≠ []) :
    sigTargetWeighted (signature es m) m = ((es.filter (fun e => esize e ≤ m)).map (·.2.length)).sum :=
  signature_weighted (· % (m - 1) + 1) _ es m hne fun e h1 h2 hs => (cellIndex_divmod m e h1 h2 hs).2

theorem esize_swap (e : DEdge) : esize (e.2, e.1) = esize e := Nat.add_comm _ _

theorem passes_swap (size : Option Nat) (e : DEdge) : passes size (e.2, e.1) = passes size e := by
  cases size <;> simp only [passes, esize_swap]

theorem filter_reverse (p : DEdge → Bool) (es : List DEdge) :
    (reverse es).filter p = reverse (es.filter (fun e => p (e.2, e.1))) := List.filter_map

theorem length_reverse (es : List DEdge) : (reverse es).length = es.length := List.length_map _

theorem mem_reverse (E : List DEdge) (e : DEdge) : e ∈ reverse E ↔ (e.2, e.1) ∈ E := by
  rw [reverse, List.mem_map]
  exact ⟨fun ⟨f, hf, h⟩ => h ▸ hf, fun h => ⟨_, h, rfl⟩⟩

theorem inDegree_reverse (es : List DEdge) (size : Option Nat) (n : Nat) :
    inDegree (reverse es) size n = outDegree es size n := by
  rw [inDegree, filter_reverse, length_reverse]
  simp only [passes_swap]; rfl

theorem outDegree_reverse (es : List DEdge) (size : Option Nat) (n : Nat) :
    outDegree (reverse es) size n = inDegree es size n := by
  rw [outDegree, filter_reverse, length_reverse]
  simp only [passes_swap]; rfl

theorem bounded_reverse (m : Nat) (es : List DEdge) : bounded m (reverse es) = reverse (bounded m es) := by
  rw [bounded, filter_reverse]
  simp only [esize_swap]; rfl

theorem ofSize_reverse (k : Nat) (E : List DEdge) : ofSize k (reverse E) = reverse (ofSize k E) := by
  rw [ofSize, filter_reverse]
  simp only [esize_swap]; rfl

theorem total_reverse (E : List DEdge) (k : Nat) : total (reverse E) k = total E k := by
  rw [total, ofSize_reverse, length_reverse]; rfl

theorem recCount_le_total (p : List DEdge → DEdge → Bool) (E : List DEdge) (k : Nat) :
    recCount p E k ≤ total E k := by
  unfold recCount total; exact List.length_filter_le _ _

theorem recCount_mono (p q : List DEdge → DEdge → Bool) (E : List DEdge) (k : Nat)
    (h : ∀ e ∈ E, p E e = true → q E e = true) : recCount p E k ≤ recCount q E k := by
  unfold recCount
  rw [← List.countP_eq_length_filter, ← List.countP_eq_length_filter]
  apply List.countP_mono_left
  intro e he; exact h e (List.mem_filter.mp he).1

theorem recCount_reverse (p : List DEdge → DEdge → Bool) (hp : ∀ E e, p (reverse E) (e.2, e.1) = p E e)
    (E : List DEdge) (k : Nat) : recCount p (reverse E) k = recCount p E k := by
  rw [recCount, ofSize_reverse, filter_reverse, length_reverse]
  simp only [hp]; rfl

theorem reciprocity_reverse (p : List DEdge → DEdge → Bool) (hp : ∀ E e, p (reverse E) (e.2, e.1) = p E e)
    (es : List DEdge) (m k : Nat) : reciprocity p (reverse es) m k = reciprocity p es m k := by
  rw [reciprocity, bounded_reverse, recCount_reverse p hp, total_reverse]; rfl

theorem isExact_reverse (E : List DEdge) (e : DEdge) : isExact (reverse E) (e.2, e.1) = isExact E e := by
  rw [Bool.eq_iff_iff, isExact_iff, isExact_iff, mem_reverse]

theorem isWeak_reverse (E : List DEdge) (e : DEdge) : isWeak (reverse E) (e.2, e.1) = isWeak E e := by
  rw [Bool.eq_iff_iff, isWeak_iff, isWeak_iff]
  constructor
  · rintro ⟨i, hi, j, hj, f, hf, h1, h2⟩
    exact ⟨j, hj, i, hi, _, (mem_reverse E f).mp hf, h2, h1⟩
  · rintro ⟨i, hi, j, hj, f, hf, h1, h2⟩
    exact ⟨j, hj, i, hi, (f.2, f.1), (mem_reverse E _).mpr hf, h2, h1⟩

/-- the denominator `tot[k]` of the three reciprocity tables, for a size within the bound, is the number of
    hyperedges `get_edges(size=k)` lists -/
theorem total_bounded (es : List DEdge) (m k : Nat) (hk : 2 ≤ k ∧ k ≤ m) :
    total (bounded m es) k = (ofSize k es).length := by
  rw [total, ofSize, bounded, List.filter_filter, ofSize]
  congr 2
  funext e
  by_cases h : esize e = k
  · simp [h, hk.1, hk.2]
  · simp [h]

theorem max_ite (a b : Nat) : max a b = if b < a then a else b := by
  by_cases h : b < a
  · rw [if_pos h, Nat.max_eq_left (Nat.le_of_lt h)]
  · rw [if_neg h, Nat.max_eq_right (Nat.le_of_not_lt h)]

theorem maxSize_eq (es : List DEdge) : maxSize es = (es.map esize).max? := by
  induction es with
  | nil => rfl
  | cons e es ih =>
    rw [maxSize, ih, List.map_cons, List.max?_cons]
    cases (es.map esize).max? with
    | none => rfl
    | some k => exact congrArg some (max_ite _ _).symm

theorem maxSize_eq_none (es : List DEdge) : maxSize es = none ↔ es = [] := by
  rw [maxSize_eq, List.max?_eq_none_iff, List.map_eq_nil_iff]

theorem maxSize_spec (es : List DEdge) (m : Nat) (h : maxSize es = some m) :
    (∀ e ∈ es, esize e ≤ m) ∧ ∃ e ∈ es, esize e = m := by
  obtain ⟨hm, hle⟩ := List.max?_eq_some_iff.mp ((maxSize_eq es).symm.trans h)
  obtain ⟨e, he, rfl⟩ := List.mem_map.mp hm
  exact ⟨fun x hx => hle _ (List.mem_map_of_mem hx), e, he, rfl⟩

theorem even_of_involution {α : Type} [DecidableEq α] (sw : α → α) (hsw : ∀ x, sw (sw x) = x) :
    ∀ (n : Nat) (l : List α), l.length ≤ n → l.Nodup → (∀ x ∈ l, sw x ∈ l) → (∀ x ∈ l, sw x ≠ x) →
      l.length % 2 = 0 := by
  intro n
  induction n with
  | zero =>
    intro l hl _ _ _
    rw [Nat.le_zero.mp hl]
  | succ n ih =>
    intro l hl hn hc hf
    cases l with
    | nil => rfl
    | cons e t =>
      -- `sw e` is in the tail; without `e` and `sw e` the list is again closed under `sw`
      have hn' := List.nodup_cons.mp hn
      have hse : sw e ∈ t := (List.mem_cons.mp (hc e List.mem_cons_self)).resolve_left (hf e List.mem_cons_self)
      have mem : ∀ x, x ∈ t.erase (sw e) ↔ x ≠ sw e ∧ x ∈ t := fun x => List.Nodup.mem_erase_iff hn'.2
      have key := ih (t.erase (sw e))
        (Nat.le_trans (List.erase_sublist).length_le (Nat.le_of_succ_le_succ hl)) (hn'.2.erase _) ?_ ?_
      · rw [List.length_erase_of_mem hse] at key
        rw [List.length_cons, ← Nat.succ_pred_eq_of_pos (List.length_pos_of_mem hse)]
        exact (Nat.add_mod_right _ 2).trans key
      · intro x hx
        have hx' := (mem x).mp hx
        refine (mem _).mpr ⟨fun h => hn'.1 ?_, ?_⟩
        · rw [← hsw e, ← h, hsw]; exact hx'.2
        · refine (List.mem_cons.mp (hc x (List.mem_cons_of_mem _ hx'.2))).resolve_left fun h => hx'.1 ?_
          rw [← h, hsw]
      · exact fun x hx => hf x (List.mem_cons_of_mem _ ((mem x).mp hx).2)

/-- the hyperedges of one size whose reverse is present form pairs `e`, reverse of `e` -/
theorem recCount_exact_even (E : List DEdge) (k : Nat) (hn : E.Nodup) (hd : ∀ e ∈ E, e.1 ≠ e.2) :
    recCount isExact E k % 2 = 0 := by
  have mem : ∀ x, x ∈ (ofSize k E).filter (isExact E) ↔ (x ∈ E ∧ esize x = k) ∧ (x.2, x.1) ∈ E := fun x => by
    rw [List.mem_filter, ofSize, List.mem_filter, beq_iff_eq, isExact_iff]
  refine even_of_involution (fun e : DEdge => (e.2, e.1)) (fun x => rfl) _ _ (Nat.le_refl _)
    ((List.filter_sublist).nodup ((List.filter_sublist).nodup hn)) ?_ ?_
  · intro x hx
    have h := (mem x).mp hx
    exact (mem _).mpr ⟨⟨h.2, (esize_swap x).trans h.1.2⟩, h.1.1⟩
  · intro x hx heq
    exact hd x ((mem x).mp hx).1.1 (congrArg Prod.snd heq)

end C12
