import Hgxv.Model.C03Ext
import Hgxv.Proofs.C03Full
/-! C03 - the constructor is a history of public calls; the hashing view is the sorted map; the raw
tables.  Core Lean only. -/
namespace C03
open AL

/-- the quantifier's "node sets" for the constructor's batch -/
def CtorArgs.WF (a : CtorArgs) : Prop :=
  match ctorBatch a.edges with
  | some (some (raws, _)) => ∀ r ∈ raws, r.Nodup
  | _ => True

instance (a : CtorArgs) : Decidable a.WF := by
  unfold CtorArgs.WF
  split <;> infer_instance

theorem inv_ctorInit (a : CtorArgs) : Inv (ctorInit a) := inv_empty a.weighted 0 _

theorem ctorNodes_inv (s : Store) (h : Inv s) (nm : List (Node × Meta)) : Inv (ctorNodes s nm) :=
  ListLib.foldl_inv _ (fun s p hs => addNode_inv s hs p.1 (some p.2)) nm s h

theorem abs_ctorInit (a : CtorArgs) : abs (ctorInit a) = Spec.ctorInit a := rfl

theorem abs_ctorNodes (s : Store) (nm : List (Node × Meta)) : abs (ctorNodes s nm) = Spec.ctorNodes (abs s) nm := by
  induction nm generalizing s with
  | nil => rfl
  | cons p t ih =>
    show abs (ctorNodes (addNode s p.1 (some p.2)) t) = Spec.ctorNodes (Spec.addNode (abs s) p.1 (some p.2)) t
    rw [ih, addNode_abs]

/-- the constructor refines the constructor of the map: accepted together, same abstract state -/
theorem construct_abs (a : CtorArgs) (ha : a.WF) : (construct a).map abs = Spec.construct a := by
  unfold construct Spec.construct
  unfold CtorArgs.WF at ha
  cases hb : ctorBatch a.edges with
  | none => rfl
  | some b =>
    cases b with
    | none => simp only [Option.map_some, abs_ctorNodes, abs_ctorInit]
    | some p =>
      obtain ⟨raws, ts⟩ := p
      rw [hb] at ha
      simp only at ha ⊢
      obtain ⟨_, e1, e2⟩ := addEdges_sim _ (ctorNodes_inv _ (inv_ctorInit a) a.nodeMeta) raws ha ts a.weights a.edgeMeta
      rw [abs_ctorNodes, abs_ctorInit] at e1 e2
      generalize addEdges (ctorNodes (ctorInit a) a.nodeMeta) raws ts a.weights a.edgeMeta = r at e1 e2 ⊢
      generalize Spec.addEdges (Spec.ctorNodes (Spec.ctorInit a) a.nodeMeta) raws ts a.weights a.edgeMeta = r' at e1 e2 ⊢
      obtain ⟨s1, o1⟩ := r
      obtain ⟨sp1, o1'⟩ := r'
      simp only at e1 e2
      subst e2
      cases o1 with
      | ok => simp only [Option.map_some, e1]
      | rej => rfl

theorem runCalls_append (s : Store) (a b : List SOp) : runCalls s (a ++ b) = runCalls (runCalls s a) b := by
  unfold runCalls; rw [List.foldl_append]

theorem ctorNodes_runCalls (s : Store) (nm : List (Node × Meta)) : ctorNodes s nm = runCalls s (nodeCalls nm) := by
  induction nm generalizing s with
  | nil => rfl
  | cons p t ih => exact ih (addNode s p.1 (some p.2))

theorem setHMeta_new (a : CtorArgs) : (applyOp (Store.new a.weighted) (.setHMeta (ctorHMeta a.weighted a.hm))).1 = ctorInit a := rfl

/-- accepted constructor = the run of `ctorCalls` on the empty object -/
theorem construct_some (a : CtorArgs) (s : Store) (h : construct a = some s) :
    ∃ calls, ctorCalls a = some calls ∧ s = runCalls (Store.new a.weighted) calls := by
  unfold construct at h
  unfold ctorCalls
  -- `construct` and `ctorCalls` split on `ctorBatch` alike; in each case `ctorInit` is `setHMeta` on the empty object
  -- and `ctorNodes` is the run of `nodeCalls`
  cases hb : ctorBatch a.edges with
  | none => rw [hb] at h; simp at h
  | some b =>
    cases b with
    | none =>
      rw [hb] at h
      simp only [Option.some.injEq] at h
      refine ⟨_, rfl, ?_⟩
      rw [← h, ctorNodes_runCalls]
      show _ = runCalls ((applyOp (Store.new a.weighted) (.setHMeta (ctorHMeta a.weighted a.hm))).1) _
      rw [setHMeta_new]
    | some p =>
      obtain ⟨raws, ts⟩ := p
      rw [hb] at h
      simp only at h
      refine ⟨_, rfl, ?_⟩
      show _ = runCalls ((applyOp (Store.new a.weighted) (.setHMeta (ctorHMeta a.weighted a.hm))).1) _
      rw [setHMeta_new, runCalls_append, ← ctorNodes_runCalls]
      generalize hr : addEdges (ctorNodes (ctorInit a) a.nodeMeta) raws ts a.weights a.edgeMeta = r at h
      obtain ⟨s1, o⟩ := r
      cases o with
      | rej => simp at h
      | ok =>
        simp only [Option.some.injEq] at h
        rw [← h]
        show s1 = (addEdges (ctorNodes (ctorInit a) a.nodeMeta) raws ts a.weights a.edgeMeta).1
        rw [hr]

theorem nodeCalls_wf (nm : List (Node × Meta)) : ∀ op ∈ nodeCalls nm, op.WF := by
  intro op hop
  obtain ⟨p, _, rfl⟩ := List.mem_map.mp hop
  exact True.intro

theorem ctorCalls_wf (a : CtorArgs) (ha : a.WF) (calls : List SOp) (h : ctorCalls a = some calls) : ∀ op ∈ calls, op.WF := by
  unfold ctorCalls at h
  unfold CtorArgs.WF at ha
  cases hb : ctorBatch a.edges with
  | none => rw [hb] at h; simp at h
  | some b =>
    cases b with
    | none =>
      rw [hb] at h
      simp only [Option.some.injEq] at h
      rw [← h]
      intro op hop
      rcases List.mem_cons.mp hop with h1 | h1
      · rw [h1]; exact True.intro
      · exact nodeCalls_wf _ op h1
    | some p =>
      obtain ⟨raws, ts⟩ := p
      rw [hb] at h ha
      simp only [Option.some.injEq] at h ha
      rw [← h]
      intro op hop
      rcases List.mem_cons.mp hop with h1 | h1
      · rw [h1]; exact True.intro
      · rcases List.mem_append.mp h1 with h2 | h2
        · exact nodeCalls_wf _ op h2
        · simp only [List.mem_singleton] at h2
          rw [h2]; exact ha

theorem frun_append (st : FState) (a b : List FOp) : frun st (a ++ b) = frun (frun st a) b := by
  unfold frun; rw [List.foldl_append]

theorem frun_on (st : FState) (i : Nat) (o : Obj) (calls : List SOp) :
    frun (AL.set st i o) (calls.map (fun c => FOp.on i (.base c))) =
      AL.set st i { o with base := runCalls o.base calls } := by
  induction calls generalizing o with
  | nil => rfl
  | cons c t ih =>
    simp only [List.map_cons, frun, List.foldl_cons]
    have h1 : (fstep (AL.set st i o) (FOp.on i (.base c))).1 = AL.set st i { o with base := (applyOp o.base c).1 } := by
      simp only [fstep, get?_set_self, set_set]; rfl
    rw [h1]
    have := ih { o with base := (applyOp o.base c).1 }
    simp only [frun] at this
    rw [this]; rfl

theorem frun_ctor (st : FState) (i : Nat) (w : Bool) (calls : List SOp) :
    frun st (FOp.new i w :: calls.map (fun c => FOp.on i (.base c))) =
      AL.set st i { base := runCalls (Store.new w) calls } := by
  have h := frun_on st i (Obj.new w) calls
  simp only [frun, List.foldl_cons] at h ⊢
  exact h

theorem xstep_expand (st : FState) (op : XOp) : (xstep st op).1 = frun st op.expand := by
  cases op with
  | f op => rfl
  | ask i q => simp only [xstep, XOp.expand, frun, List.foldl_nil]; cases get? st i <;> rfl
  | ctor i a =>
    simp only [xstep, XOp.expand]
    cases hc : construct a with
    | none => rfl
    | some s =>
      obtain ⟨calls, h1, h2⟩ := construct_some a s hc
      simp only [h1]
      rw [frun_ctor, ← h2]

/-- **Projection.** A history with constructor calls and questions is the history of `Model/C03Full.lean` in
which every accepted constructor call is replaced by `TemporalHypergraph(weighted=w)` followed by the public calls
`ctorCalls`, and refused constructor calls and questions are dropped. -/
theorem xrun_expand (ops : List XOp) (st : FState) : xrun st ops = frun st (ops.flatMap XOp.expand) := by
  induction ops generalizing st with
  | nil => rfl
  | cons op ops ih =>
    simp only [List.flatMap_cons, frun_append]
    rw [← xstep_expand, ← ih]
    rfl

def XOp.WF : XOp → Prop
  | .f op => op.WF
  | .ctor _ a => a.WF
  | .ask _ _ => True

instance (o : XOp) : Decidable o.WF := by
  cases o <;> simp only [XOp.WF] <;> infer_instance

theorem expand_wf (ops : List XOp) (hwf : ∀ op ∈ ops, op.WF) : ∀ b ∈ ops.flatMap XOp.expand, b.WF := by
  intro b hb
  obtain ⟨op, hop, hb⟩ := List.mem_flatMap.mp hb
  have h := hwf op hop
  cases op with
  | f op => simp only [XOp.expand, List.mem_singleton] at hb; rw [hb]; exact h
  | ask i q => simp [XOp.expand] at hb
  | ctor i a =>
    simp only [XOp.expand] at hb
    cases hc : construct a with
    | none => rw [hc] at hb; simp at hb
    | some s =>
      cases hcc : ctorCalls a with
      | none => rw [hc, hcc] at hb; simp at hb
      | some calls =>
        rw [hc, hcc] at hb
        simp only at hb
        rcases List.mem_cons.mp hb with h1 | h1
        · rw [h1]; exact True.intro
        · obtain ⟨c, hcm, rfl⟩ := List.mem_map.mp h1
          exact ctorCalls_wf a h calls hcc c hcm

/-- `o` is the content of some slot after some history of well-formed calls, constructor calls included -/
def XReachable (o : Obj) : Prop :=
  ∃ ops : List XOp, (∀ op ∈ ops, op.WF) ∧ ∃ i, get? (xrun [] ops) i = some o

theorem xreachable_full {o : Obj} (h : XReachable o) : FReachable o := by
  obtain ⟨ops, hwf, i, hi⟩ := h
  exact ⟨ops.flatMap XOp.expand, expand_wf ops hwf, i, by rw [← xrun_expand]; exact hi⟩

theorem construct_reachable (a : CtorArgs) (ha : a.WF) (s : Store) (h : construct a = some s) : Reachable s := by
  apply freachable_base (o := { base := s })
  apply xreachable_full
  refine ⟨[.ctor 0 a], ?_, 0, ?_⟩
  · intro op hop
    simp only [List.mem_singleton] at hop
    rw [hop]; exact ha
  · simp only [xrun, List.foldl_cons, List.foldl_nil, xstep, h]
    exact get?_set_self _ _ _

/-- the history on the abstract side: base calls as before, a constructor call is the constructor of the map -/
def xspecStep (st : SpecState) : XOp → SpecState
  | .f op => match op.toBase? with
    | some b => specStep st b
    | none => st
  | .ctor i a => specCtor st i a
  | .ask _ _ => st

def xspecRun (st : SpecState) (ops : List XOp) : SpecState := ops.foldl xspecStep st

theorem toBase_wf1 (op : FOp) (h : op.WF) (b : Op) (hb : op.toBase? = some b) : b.WF :=
  toBase_wf [op] (by intro o ho; simp only [List.mem_singleton] at ho; rw [ho]; exact h) b
    (by simp [hb])

/-- the expanded history projects onto a history of `run`, whose invariant is `run_inv` -/
theorem xrun_inv (ops : List XOp) (hwf : ∀ op ∈ ops, op.WF) (st : FState) (hst : StateInv (baseState st)) :
    StateInv (baseState (xrun st ops)) := by
  rw [xrun_expand, frun_base]
  exact run_inv _ (toBase_wf _ (expand_wf ops hwf)) _ hst

theorem xstep_inv (st : FState) (hst : StateInv (baseState st)) (op : XOp) (hwf : op.WF) :
    StateInv (baseState (xstep st op).1) :=
  xrun_inv [op] (fun o ho => by rw [List.mem_singleton.mp ho]; exact hwf) st hst

theorem xstep_abs (st : FState) (hst : StateInv (baseState st)) (op : XOp) (hwf : op.WF) :
    absState (baseState (xstep st op).1) = xspecStep (absState (baseState st)) op := by
  cases op with
  | f op =>
    show absState (baseState (fstep st op).1) = _
    rw [fstep_base]
    simp only [xspecStep]
    cases hb : op.toBase? with
    | none => rfl
    | some b => exact (step_sim _ hst b (toBase_wf1 op hwf b hb)).2
  | ask i q => simp only [xstep, xspecStep]; cases get? st i <;> rfl
  | ctor i a =>
    have hab := construct_abs a hwf
    simp only [xstep, xspecStep, specCtor]
    cases hc : construct a with
    | none => rw [hc] at hab; rw [← hab]; rfl
    | some s =>
      rw [hc] at hab
      rw [← hab]
      simp only [Option.map_some, baseState_eq, absState, mapVals_set]

theorem xrun_abs (ops : List XOp) (hwf : ∀ op ∈ ops, op.WF) (st : FState) (hst : StateInv (baseState st)) :
    absState (baseState (xrun st ops)) = xspecRun (absState (baseState st)) ops := by
  induction ops generalizing st with
  | nil => rfl
  | cons op ops ih =>
    simp only [xrun, xspecRun, List.foldl_cons]
    have h1 := xstep_abs st hst op (hwf op (by simp))
    have := ih (fun o ho => hwf o (by simp [ho])) _ (xstep_inv st hst op (hwf op (by simp)))
    simp only [xrun, xspecRun] at this
    rw [this, h1]

structure StrictTotal {κ : Type} (lt : κ → κ → Bool) : Prop where
  irrefl : ∀ a, lt a a = false
  trans : ∀ a b c, lt a b = true → lt b c = true → lt a c = true
  tri : ∀ a b, lt a b = false → lt b a = false → a = b

theorem ltList_eq (a b : List Nat) : ltList a b = BSort.ltList a b := by
  induction a generalizing b with
  | nil => cases b <;> rfl
  | cons x xs ih => cases b <;> simp only [ltList, BSort.ltList, ih]

theorem ltList_irrefl (a : List Nat) : ltList a a = false := ltList_eq a a ▸ BSort.ltList_irrefl a

theorem ltList_trans (a b c : List Nat) (h1 : ltList a b = true) (h2 : ltList b c = true) : ltList a c = true := by
  rw [ltList_eq] at *; exact BSort.ltList_trans a b c h1 h2

theorem ltList_tri (a b : List Nat) (h1 : ltList a b = false) (h2 : ltList b a = false) : a = b := by
  rw [ltList_eq] at *; exact BSort.ltList_tri a b h1 h2

theorem st_ltNat : StrictTotal ltNat := ⟨BSort.ltNat_irrefl, BSort.ltNat_trans, BSort.ltNat_tri⟩

/-- `ltKey` is the lexicographic product of `<` on times and `ltList` on node tuples -/
theorem st_ltKey : StrictTotal ltKey :=
  ⟨BSort.lex_irrefl (p := ltNat) BSort.ltNat_irrefl ltList_irrefl,
   BSort.lex_trans (p := ltNat) BSort.ltNat_trans ltList_trans, BSort.lex_tri (p := ltNat) BSort.ltNat_tri ltList_tri⟩

section SortSec
variable {α κ : Type} (key : α → κ) (lt : κ → κ → Bool)

theorem insBy_eq (x : α) (l : List α) : insBy key lt x l = BSort.ins (fun a b => lt (key a) (key b)) x l := by
  induction l with
  | nil => rfl
  | cons y ys ih => simp only [insBy, BSort.ins, ih]

theorem sortBy_eq (l : List α) : sortBy key lt l = BSort.sort (fun a b => lt (key a) (key b)) l := by
  induction l with
  | nil => rfl
  | cons x t ih => exact (congrArg (insBy key lt x) ih).trans (insBy_eq key lt x _)

theorem sortBy_perm (l : List α) : (sortBy key lt l).Perm l := sortBy_eq key lt l ▸ BSort.sort_perm _ l

theorem sortBy_sorted (st : StrictTotal lt) (l : List α) (hn : (l.map key).Nodup) :
    (sortBy key lt l).Pairwise (fun a b => lt (key a) (key b) = true) :=
  sortBy_eq key lt l ▸ BSort.sort_key_pairwise key st.trans (BSort.strict_tot st.tri) l hn

/-- sorted by a label: strictly increasing labels -/
theorem sortBy_ltNat_sorted (lab : α → Nat) (l : List α) (hn : (l.map lab).Nodup) :
    (sortBy lab ltNat l).Pairwise (fun a b => lab a < lab b) :=
  (sortBy_sorted lab ltNat st_ltNat l hn).imp of_decide_eq_true

/-- `sorted` of items with distinct keys is a canonical listing of the items as a set -/
theorem sortBy_eq_iff (st : StrictTotal lt) (l l' : List α) (hn : (l.map key).Nodup) :
    sortBy key lt l = sortBy key lt l' ↔ l.Perm l' := by
  rw [sortBy_eq, sortBy_eq]
  exact BSort.sort_key_eq_iff key st.trans (BSort.strict_anti st.irrefl st.trans) (BSort.strict_tot st.tri) hn

/-- `sorted` of items with distinct keys depends only on the items as a set: not on the order they arrive in -/
theorem sortBy_perm_eq (st : StrictTotal lt) (l l' : List α) (hn : (l.map key).Nodup) (hp : l.Perm l') :
    sortBy key lt l = sortBy key lt l' := (sortBy_eq_iff key lt st l l' hn).mpr hp

theorem sortBy_map (l : List α) : (sortBy key lt l).map key = sortBy id lt (l.map key) := by
  rw [sortBy_eq, sortBy_eq]; exact (BSort.sort_map _ _ key (fun _ _ => rfl) l).symm

/-- a loop that looks the keys up again, run over the sorted keys of a table it can read, returns the sorted table -/
theorem look_sortBy {look : List κ → Option (List α)} {P : α → Prop}
    (hlook : ∀ L : List α, (∀ r ∈ L, P r) → look (L.map key) = some L) (T : List α) (hT : ∀ r ∈ T, P r) :
    look (sortBy id lt (T.map key)) = some (sortBy key lt T) := by
  rw [← sortBy_map]
  exact hlook _ fun r hr => hT r ((sortBy_perm key lt T).mem_iff.mp hr)

end SortSec

theorem hashEdges_map (s : Store) (L : List (Key × (Int × Meta)))
    (h : ∀ r ∈ L, canon r.1.2 = r.1.2 ∧ ∃ id, get? s.edgeList r.1 = some id ∧ r.2 = valOf s id) :
    hashEdges s (L.map (·.1)) = some L := by
  induction L with
  | nil => rfl
  | cons r t ih =>
    obtain ⟨hc, id, hg, hv⟩ := h r List.mem_cons_self
    obtain ⟨⟨tm, e⟩, v⟩ := r
    simp only at hc hg hv
    simp only [List.map_cons, hashEdges, hc, hg, ih (fun r hr => h r (List.mem_cons_of_mem _ hr)), Option.map_some, hv, valOf]

theorem hashNodes_map (s : Store) (L : List (Node × Meta)) (h : ∀ p ∈ L, get? s.nmeta p.1 = some p.2) :
    hashNodes s (L.map (·.1)) = some L := by
  induction L with
  | nil => rfl
  | cons p t ih =>
    have hp := h p List.mem_cons_self
    simp only [List.map_cons, hashNodes, hp, ih (fun r hr => h r (List.mem_cons_of_mem _ hr)), Option.map_some]

/-- in a reachable state `expose_attributes_for_hashing()` succeeds and is the hashing view of the map -/
theorem hashView_abs (s : Store) (h : Inv s) : hashView s = some (Spec.hashView (abs s)) := by
  have he := look_sortBy (fun (r : Key × (Int × Meta)) => r.1) ltKey (hashEdges_map s) (records s) fun r hr => by
    rw [records_eq] at hr
    obtain ⟨p, hp, rfl⟩ := List.mem_map.mp hr
    have hg := get?_of_mem _ _ _ h.keysNodup hp
    exact ⟨canon_of_sorted _ (h.keyCanon _ _ hg).1, p.2, hg, rfl⟩
  have hn := look_sortBy (fun (p : Node × Meta) => p.1) ltNat (hashNodes_map s) s.nmeta fun p hp =>
    get?_of_mem _ _ _ h.nt.nmetaNodup hp
  rw [show (records s).map (·.1) = edgeKeys s from keys_records s] at he
  unfold hashView
  rw [he, show keys s.nmeta = s.nmeta.map (·.1) from rfl, hn]
  rfl

/-- the questions the map answers (`Spec.xanswer`) are answered alike by a store satisfying the invariant -/
theorem xanswer_abs (s : Store) (h : Inv s) (xq : XQuery) (a : XAns) (ha : Spec.xanswer (abs s) xq = some a) :
    xanswer s xq = a := by
  cases xq with
  | hashing => rw [← Option.some.inj ha]; simp only [xanswer, hashView_abs s h]
  | mapping | indexOf n => exact Option.some.inj ha
  | edgeTable | adjTable | tables => cases ha

/-- the tables of an object in a slot, when the state satisfies the invariant -/
theorem slot_inv {st : FState} (hst : StateInv (baseState st)) {i : Nat} {o : Obj} (hg : get? st i = some o) : Inv o.base :=
  hst.get (i := i) (by rw [get?_baseState, hg]; rfl)

/-- the hashing view of a map is the same for two maps iff they have the same flag, the same hypergraph metadata
and the same entries / nodes as SETS (any arrangement) -/
theorem Spec.hashView_eq_iff (sp sp' : Spec) (h1 : (keys sp.recs).Nodup) (h2 : (keys sp.nodes).Nodup) :
    Spec.hashView sp = Spec.hashView sp' ↔
      sp.weighted = sp'.weighted ∧ sp.hmeta = sp'.hmeta ∧ sp.recs.Perm sp'.recs ∧ sp.nodes.Perm sp'.nodes := by
  unfold Spec.hashView
  rw [HashView.mk.injEq, sortBy_eq_iff _ _ st_ltKey _ _ h1, sortBy_eq_iff _ _ st_ltNat _ _ h2]

/-- `transform` is `List.idxOf?` of core -/
theorem indexOf?_eq (l : List Node) (n : Node) : indexOf? l n = l.idxOf? n := by
  induction l with
  | nil => rfl
  | cons m ms ih => simp only [indexOf?, List.idxOf?_cons, ih, beq_iff_eq]

theorem indexOf?_some_iff (l : List Node) (n : Node) : (indexOf? l n).isSome ↔ n ∈ l := by
  rw [indexOf?_eq, List.isSome_idxOf?]

theorem indexOf?_get (l : List Node) (n : Node) (i : Nat) (h : indexOf? l n = some i) : l[i]? = some n := by
  rw [indexOf?_eq, List.idxOf?_eq_some_iff] at h
  obtain ⟨hi, e, _⟩ := h
  rw [List.getElem?_eq_getElem hi, e]

theorem ids_nodup (s : Store) (h : Inv s) : (s.edgeList.map (·.2)).Nodup := by
  unfold List.Nodup
  rw [List.pairwise_map]
  have hk : s.edgeList.Pairwise (fun a b => a.1 ≠ b.1) := by
    have := h.keysNodup
    unfold List.Nodup keys at this
    rwa [List.pairwise_map] at this
  exact hk.imp_of_mem (fun ha hb hne e => hne (congrArg Prod.fst (edgeList_inj s h _ ha _ hb e)))

end C03
