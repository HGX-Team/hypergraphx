import Hgxv.Proofs.C15Stop
import Hgxv.Proofs.C15Loop
/-! # C15 — several calls of `fit` on ONE model object (`Obj`, `fitObj`, `runSession`)

`fitObj_reject` / `_return` / `_zerodiv`: the three outcomes of a call in closed form (from them `Props/C15.lean` reads off that the
result of a call depends on the object only through `u`, `w`, `max_hye_size`).  What an earlier call leaves behind: a parameter
array that is set (supplied at construction or left by an earlier call - returned or raised) is never changed again, whatever
the data of the later calls (`fitObj_*_stays`, over a session `runSession_*_stays`). -/
namespace C15

theorem fitObj_reject (o : Obj) (d : Data) (u0 w0 : List (List Rat)) (ru rw : Mat) (sqrtC : Rat) (stop : Option Stop)
    (n : Nat) (h : fitMaxSize d o.D = none) :
    fitObj o d u0 w0 ru rw sqrtC stop n
      = ({ o with u := some (o.u.getD u0), w := some (o.w.getD w0), tolerance := stop.map (·.tol), reached := false }, false) := by
  unfold fitObj
  simp only [h]

theorem fitObj_return (o : Obj) (d : Data) (u0 w0 : List (List Rat)) (ru rw : Mat) (sqrtC : Rat) (stop : Option Stop)
    (n D : Nat) (h : fitMaxSize d o.D = some D) (hs : stopOk stop = true) :
    fitObj o d u0 w0 ru rw sqrtC stop n
      = ({ u := some (finish d o.u.isSome o.w.isSome (C (dims 2 D)) sqrtC (fitRun d o.u o.w u0 w0 ru rw stop n).p).u,
           w := some (finish d o.u.isSome o.w.isSome (C (dims 2 D)) sqrtC (fitRun d o.u o.w u0 w0 ru rw stop n).p).w,
           D := some D, tolerance := stop.map (·.tol), trained := true,
           it := some (fitRun d o.u o.w u0 w0 ru rw stop n).it,
           reached := (fitRun d o.u o.w u0 w0 ru rw stop n).reached }, true) := by
  unfold fitObj
  simp only [h, hs, if_true]

theorem fitObj_zerodiv (o : Obj) (d : Data) (u0 w0 : List (List Rat)) (ru rw : Mat) (sqrtC : Rat) (stop : Option Stop)
    (n D : Nat) (h : fitMaxSize d o.D = some D) (hs : stopOk stop = false) :
    fitObj o d u0 w0 ru rw sqrtC stop n
      = ({ o with u := some (emStep d o.u.isSome o.w.isSome ru rw { u := o.u.getD u0, w := o.w.getD w0 }).u,
                  w := some (emStep d o.u.isSome o.w.isSome ru rw { u := o.u.getD u0, w := o.w.getD w0 }).w,
                  D := some D, tolerance := stop.map (·.tol), reached := false }, false) := by
  unfold fitObj
  simp only [h, hs, Bool.false_eq_true, if_false]

theorem fitObj_u_stays (o : Obj) (d : Data) (u0 w0 : List (List Rat)) (ru rw : Mat) (sqrtC : Rat) (stop : Option Stop)
    (n : Nat) (us : List (List Rat)) (hu : o.u = some us) : (fitObj o d u0 w0 ru rw sqrtC stop n).1.u = some us := by
  cases hD : fitMaxSize d o.D with
  | none => rw [fitObj_reject o d u0 w0 ru rw sqrtC stop n hD, hu]; rfl
  | some D =>
    cases hs : stopOk stop with
    | true =>
      rw [fitObj_return o d u0 w0 ru rw sqrtC stop n D hD hs, hu]
      show some (finish d true o.w.isSome (C (dims 2 D)) sqrtC (fitRun d (some us) o.w u0 w0 ru rw stop n).p).u = some us
      rw [finish_u_fixed, fitRun_u_fixed]
    | false =>
      rw [fitObj_zerodiv o d u0 w0 ru rw sqrtC stop n D hD hs, hu]
      show some (emStep d true o.w.isSome ru rw { u := us, w := o.w.getD w0 }).u = some us
      rw [emStep_u_fixed]

theorem fitObj_w_stays (o : Obj) (d : Data) (u0 w0 : List (List Rat)) (ru rw : Mat) (sqrtC : Rat) (stop : Option Stop)
    (n : Nat) (ws : List (List Rat)) (hw : o.w = some ws) : (fitObj o d u0 w0 ru rw sqrtC stop n).1.w = some ws := by
  cases hD : fitMaxSize d o.D with
  | none => rw [fitObj_reject o d u0 w0 ru rw sqrtC stop n hD, hw]; rfl
  | some D =>
    cases hs : stopOk stop with
    | true =>
      rw [fitObj_return o d u0 w0 ru rw sqrtC stop n D hD hs, hw]
      show some (finish d o.u.isSome true (C (dims 2 D)) sqrtC (fitRun d o.u (some ws) u0 w0 ru rw stop n).p).w = some ws
      rw [finish_w_fixed, fitRun_w_fixed]
    | false =>
      rw [fitObj_zerodiv o d u0 w0 ru rw sqrtC stop n D hD hs, hw]
      show some (emStep d o.u.isSome true ru rw { u := o.u.getD u0, w := ws }).w = some ws
      rw [emStep_w_fixed]

theorem fitObj_D_stays (o : Obj) (d : Data) (u0 w0 : List (List Rat)) (ru rw : Mat) (sqrtC : Rat) (stop : Option Stop)
    (n D0 : Nat) (hD0 : o.D = some D0) : (fitObj o d u0 w0 ru rw sqrtC stop n).1.D = some D0 := by
  cases hD : fitMaxSize d o.D with
  | none => rw [fitObj_reject o d u0 w0 ru rw sqrtC stop n hD]; exact hD0
  | some D =>
    have hDD : D = D0 := by rw [hD0] at hD; exact (fitMaxSize_some d D0 D hD).1
    cases hs : stopOk stop with
    | true => rw [fitObj_return o d u0 w0 ru rw sqrtC stop n D hD hs, hDD]
    | false => rw [fitObj_zerodiv o d u0 w0 ru rw sqrtC stop n D hD hs, hDD]

theorem fitObj_both_set (o : Obj) (d : Data) (u0 w0 : List (List Rat)) (ru rw : Mat) (sqrtC : Rat) (stop : Option Stop)
    (n : Nat) : (fitObj o d u0 w0 ru rw sqrtC stop n).1.u.isSome = true ∧ (fitObj o d u0 w0 ru rw sqrtC stop n).1.w.isSome = true := by
  cases hD : fitMaxSize d o.D with
  | none => rw [fitObj_reject o d u0 w0 ru rw sqrtC stop n hD]; exact ⟨rfl, rfl⟩
  | some D =>
    cases hs : stopOk stop with
    | true => rw [fitObj_return o d u0 w0 ru rw sqrtC stop n D hD hs]; exact ⟨rfl, rfl⟩
    | false => rw [fitObj_zerodiv o d u0 w0 ru rw sqrtC stop n D hD hs]; exact ⟨rfl, rfl⟩

theorem runSession_cons (o : Obj) (c : FitCall) (cs : List FitCall) :
    runSession o (c :: cs) = runSession (callFit o c) cs := rfl

theorem runSession_inv (P : Obj → Prop) (hP : ∀ o c, P o → P (callFit o c)) (cs : List FitCall) :
    ∀ o, P o → P (runSession o cs) := by
  induction cs with
  | nil => exact fun _ h => h
  | cons c cs ih => exact fun o h => ih _ (hP o c h)

theorem runSession_u_stays (cs : List FitCall) (o : Obj) (us : List (List Rat)) : o.u = some us →
    (runSession o cs).u = some us :=
  runSession_inv (·.u = some us) (fun o c => fitObj_u_stays o c.d c.u0 c.w0 c.ru c.rw c.sqrtC c.stop c.n us) cs o

theorem runSession_w_stays (cs : List FitCall) (o : Obj) (ws : List (List Rat)) : o.w = some ws →
    (runSession o cs).w = some ws :=
  runSession_inv (·.w = some ws) (fun o c => fitObj_w_stays o c.d c.u0 c.w0 c.ru c.rw c.sqrtC c.stop c.n ws) cs o

theorem runSession_D_stays (cs : List FitCall) (o : Obj) (D0 : Nat) : o.D = some D0 →
    (runSession o cs).D = some D0 :=
  runSession_inv (·.D = some D0) (fun o c => fitObj_D_stays o c.d c.u0 c.w0 c.ru c.rw c.sqrtC c.stop c.n D0) cs o

end C15
