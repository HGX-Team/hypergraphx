import Hgxv.Model.AList
import Hgxv.Proofs.ListLib
/-! Association lists (`get?`, `set`, `erase`, `keys`, `has`; insertion-ordered like a Python dict): the lemmas the properties share.
The definitions and the equations of `get?` and `keys` after `set` / `erase` are in `Hgxv.Model.AList` (`get?_set`, `get?_erase_ne`,
`keys_set_of_mem`, `keys_erase_perm`, which is an equation).  Here, in this order: lookup, membership, extensionality; tables built
over a key list (`*_keymap`); `set`; `erase`; deletion written as a filter (`C01.del`, `C04.del`); maps over values and over keys
and values (the `abs` functions and the link files read the stores through these); `run_updates`, a run of calls that rewrites a
table key by key (C01, C02).  `has l k` is `(get? l k).isSome` by `rfl`: the `isSome_*` lemmas are its lemmas.  Outside the
namespace write `AL.set` (`set` alone is also `MonadStateOf.set`).  Core Lean only. -/
namespace AL
variable {α β : Type} [DecidableEq α]

omit [DecidableEq α] in
theorem nodup_keys_cons (p : α × β) (l : List (α × β)) : (keys (p :: l)).Nodup ↔ p.1 ∉ keys l ∧ (keys l).Nodup :=
  List.nodup_cons

theorem mem_keys_iff (l : List (α × β)) (k : α) : k ∈ keys l ↔ (get? l k).isSome := by
  have := get?_eq_none_iff l k
  cases h : get? l k <;> simp_all

theorem isSome_get?_iff (l : List (α × β)) (k : α) : (get? l k).isSome ↔ k ∈ keys l := (mem_keys_iff l k).symm

theorem has_iff (l : List (α × β)) (k : α) : has l k = true ↔ k ∈ keys l := isSome_get?_iff l k

theorem has_false_iff (l : List (α × β)) (k : α) : has l k = false ↔ get? l k = none := by
  unfold has; cases get? l k <;> simp

theorem exists_get?_of_mem_keys (l : List (α × β)) (k : α) (h : k ∈ keys l) : ∃ v, get? l k = some v :=
  Option.isSome_iff_exists.mp ((mem_keys_iff l k).mp h)

theorem mem_keys_of_get? (l : List (α × β)) (k : α) (v : β) (h : get? l k = some v) : k ∈ keys l :=
  (mem_keys_iff l k).mpr (by rw [h]; rfl)

omit [DecidableEq α] in
theorem mem_keys_of_mem (l : List (α × β)) (p : α × β) (h : p ∈ l) : p.1 ∈ keys l := List.mem_map_of_mem h

omit [DecidableEq α] in
theorem mem_keys_iff_exists (l : List (α × β)) (k : α) : k ∈ keys l ↔ ∃ v, (k, v) ∈ l := by simp [keys]

omit [DecidableEq α] in
theorem keys_append (l m : List (α × β)) : keys (l ++ m) = keys l ++ keys m := List.map_append

omit [DecidableEq α] in
theorem nodup_of_keys_nodup {l : List (α × β)} (h : (keys l).Nodup) : l.Nodup := ListLib.nodup_of_nodup_map Prod.fst h

theorem mem_of_get? (l : List (α × β)) (k : α) (v : β) (h : get? l k = some v) : (k, v) ∈ l := by
  induction l with
  | nil => cases h
  | cons hd t ih =>
    unfold get? at h
    split at h
    · cases h; rename_i hk; subst hk; exact List.mem_cons_self
    · exact List.mem_cons_of_mem _ (ih h)

theorem get?_of_mem (l : List (α × β)) (k : α) (v : β) (hnd : (keys l).Nodup) (h : (k, v) ∈ l) : get? l k = some v := by
  induction l with
  | nil => cases h
  | cons hd t ih =>
    obtain ⟨k', v'⟩ := hd
    obtain ⟨hk, hnd⟩ := (nodup_keys_cons _ _).mp hnd
    rcases List.mem_cons.mp h with h | h
    · cases h; exact if_pos rfl
    · have hne : k' ≠ k := fun e => hk (by rw [e]; exact mem_keys_of_mem t (k, v) h)
      exact (if_neg hne).trans (ih hnd h)

theorem mem_iff_get? (l : List (α × β)) (hnd : (keys l).Nodup) (k : α) (v : β) : (k, v) ∈ l ↔ get? l k = some v :=
  ⟨get?_of_mem l k v hnd, mem_of_get? l k v⟩

theorem entry_unique (l : List (α × β)) (hnd : (keys l).Nodup) (a b : α × β) (ha : a ∈ l) (hb : b ∈ l)
    (h : a.1 = b.1) : a = b := ListLib.eq_of_nodup_map Prod.fst hnd ha hb h

theorem get?_append (l m : List (α × β)) (k : α) : get? (l ++ m) k = (get? l k).or (get? m k) := by
  induction l with
  | nil => rfl
  | cons hd t ih => simp only [List.cons_append, get?]; split <;> simp [ih]

theorem get?_append_single (l : List (α × β)) (k k2 : α) (v : β) :
    get? (l ++ [(k, v)]) k2 = (get? l k2).or (if k = k2 then some v else none) := get?_append l [(k, v)] k2

theorem get?_perm {l l' : List (α × β)} (hp : l.Perm l') (h : (keys l).Nodup) (k : α) : get? l k = get? l' k := by
  have h' : (keys l').Nodup := (hp.map Prod.fst).nodup_iff.mp h
  cases hg : get? l' k with
  | some v => exact get?_of_mem l k v h (hp.mem_iff.mpr (mem_of_get? l' k v hg))
  | none =>
    rw [get?_eq_none_iff] at hg ⊢
    exact fun hk => hg ((hp.map Prod.fst).mem_iff.mp hk)

theorem ext (l m : List (α × β)) (hk : keys l = keys m) (hnd : (keys l).Nodup)
    (hg : ∀ k ∈ keys l, get? l k = get? m k) : l = m := by
  induction l generalizing m with
  | nil => exact (List.map_eq_nil_iff.mp hk.symm).symm
  | cons hd t ih =>
    cases m with
    | nil => cases hk
    | cons a m =>
      obtain ⟨hk1, hk2⟩ := List.cons.inj hk
      obtain ⟨hn1, hn2⟩ := (nodup_keys_cons _ _).mp hnd
      have h0 := hg hd.1 List.mem_cons_self
      simp only [get?, hk1, if_true, Option.some.injEq] at h0
      rw [show hd = a from Prod.ext hk1 h0, ih m hk2 hn2]
      intro k' hk'
      have hne : hd.1 ≠ k' := fun e => hn1 (by rw [e]; exact hk')
      have hne' : a.1 ≠ k' := fun e => hne ((show hd.1 = a.1 from hk1).trans e)
      have := hg k' (List.mem_cons_of_mem _ hk')
      simpa only [get?, hne, hne', if_false] using this

theorem get?_keymap (l : List α) (g : α → β) (k : α) :
    get? (l.map (fun a => (a, g a))) k = if k ∈ l then some (g k) else none := by
  induction l with
  | nil => rfl
  | cons a t ih =>
    simp only [List.map_cons, get?, List.mem_cons, ih]
    by_cases h : a = k
    · simp [h]
    · simp [h, Ne.symm h]

omit [DecidableEq α] in
theorem keys_keymap (l : List α) (g : α → β) : keys (l.map (fun a => (a, g a))) = l := by
  simp [keys, Function.comp_def]

theorem get?_map_of_ne {σ : Type} (key : σ → α) (val : σ → β) (l : List σ) (k : α) (h : ∀ p ∈ l, key p ≠ k) :
    get? (l.map (fun p => (key p, val p))) k = none := by
  rw [get?_eq_none_iff, keys, List.map_map]
  exact fun hk => by obtain ⟨p, hp, he⟩ := List.mem_map.mp hk; exact h p hp he

theorem set_keymap (l : List α) (g g' : α → β) (n : α) (hn : n ∈ l) (hnd : l.Nodup)
    (h1 : ∀ a, a ≠ n → g' a = g a) :
    set (l.map (fun a => (a, g a))) n (g' n) = l.map (fun a => (a, g' a)) := by
  induction l with
  | nil => cases hn
  | cons a t ih =>
    have hnd' := List.nodup_cons.mp hnd
    simp only [List.map_cons, set]
    by_cases h : a = n
    · subst h
      simp only [if_true]
      congr 1
      apply List.map_congr_left
      intro b hb
      have : b ≠ a := fun hc => hnd'.1 (hc ▸ hb)
      rw [h1 b this]
    · simp only [h, if_false]
      rw [h1 a h]
      congr 1
      exact ih (by rcases List.mem_cons.mp hn with hh | hh; exact absurd hh.symm h; exact hh) hnd'.2

theorem erase_keymap (l : List α) (g : α → β) (n : α) :
    erase (l.map (fun a => (a, g a))) n = (l.erase n).map (fun a => (a, g a)) := by
  induction l with
  | nil => simp [erase]
  | cons a t ih =>
    simp only [List.map_cons, erase, List.erase_cons]
    by_cases h : a = n
    · subst h; simp
    · have : (a == n) = false := by simp [h]
      simp [h, this, ih]

theorem set_append_right (l m : List (α × β)) (k : α) (v : β) (h : get? l k = none) :
    set (l ++ m) k v = l ++ set m k v := by
  induction l with
  | nil => rfl
  | cons hd t ih =>
    unfold get? at h
    split at h
    · cases h
    · rename_i hk; simp only [List.cons_append, set, hk, if_false, ih h]

theorem set_of_not_mem (l : List (α × β)) (k : α) (v : β) (h : get? l k = none) : set l k v = l ++ [(k, v)] :=
  (congrArg (set · k v) (List.append_nil l).symm).trans (set_append_right l [] k v h)

theorem set_same (l : List (α × β)) (k : α) (v : β) (h : get? l k = some v) : set l k v = l := by
  induction l with
  | nil => cases h
  | cons hd t ih =>
    unfold get? at h
    split at h
    · rename_i hk; cases h; subst hk; simp only [set, if_true]
    · rename_i hk; simp only [set, hk, if_false, ih h]

theorem set_set (l : List (α × β)) (k : α) (a b : β) : set (set l k a) k b = set l k b := by
  induction l with
  | nil => simp [set]
  | cons hd t ih => simp only [set]; split <;> simp [set, *]

theorem mem_set (l : List (α × β)) (k : α) (v : β) (p : α × β) (hp : p ∈ set l k v) : p = (k, v) ∨ p ∈ l := by
  induction l with
  | nil => exact Or.inl (List.mem_singleton.mp hp)
  | cons hd t ih =>
    simp only [set] at hp
    split at hp
    · exact (List.mem_cons.mp hp).imp_right (List.mem_cons_of_mem _)
    · rcases List.mem_cons.mp hp with rfl | hp
      · exact Or.inr List.mem_cons_self
      · exact (ih hp).imp_right (List.mem_cons_of_mem _)

theorem keys_set (l : List (α × β)) (k : α) (v : β) :
    keys (set l k v) = if k ∈ keys l then keys l else keys l ++ [k] := by
  split
  · rename_i h; exact keys_set_of_mem l k v ((mem_keys_iff l k).mp h)
  · rename_i h; exact keys_set_of_not_mem l k v ((get?_eq_none_iff l k).mpr h)

theorem mem_keys_set (l : List (α × β)) (k k2 : α) (v : β) :
    k2 ∈ keys (set l k v) ↔ k2 = k ∨ k2 ∈ keys l := by
  rw [keys_set, ListLib.mem_addIfNew Iff.rfl]; exact or_comm

theorem keys_set_nodup (l : List (α × β)) (k : α) (v : β) (h : (keys l).Nodup) : (keys (set l k v)).Nodup := by
  rw [keys_set]; exact ListLib.nodup_addIfNew Iff.rfl h

theorem isSome_set (l : List (α × β)) (k k2 : α) (v : β) :
    (get? (set l k v) k2).isSome = (decide (k = k2) || (get? l k2).isSome) := by
  rw [get?_set]; by_cases h : k = k2 <;> simp [h]

theorem isSome_set_of_isSome (l : List (α × β)) (k : α) (v : β) (hk : (get? l k).isSome) (k2 : α) :
    (get? (set l k v) k2).isSome = (get? l k2).isSome := by
  rw [get?_set]; split
  · next e => rw [← e, hk]; rfl
  · rfl

theorem get?_set_some {l : List (α × β)} {k k2 : α} {v v2 : β} (h : get? (set l k v) k2 = some v2) :
    (k = k2 ∧ v = v2) ∨ (k ≠ k2 ∧ get? l k2 = some v2) := by
  rw [get?_set] at h; split at h
  · next e => exact Or.inl ⟨e, Option.some.inj h⟩
  · next e => exact Or.inr ⟨e, h⟩

/-- a loop of assignments at fresh, pairwise different keys appends its entries in order (a dict comprehension, a table built once) -/
theorem foldl_set_fresh {σ : Type} (key : σ → α) (val : σ → β) (l : List σ) (T : List (α × β))
    (h : (keys T ++ l.map key).Nodup) :
    l.foldl (fun T p => set T (key p) (val p)) T = T ++ l.map (fun p => (key p, val p)) := by
  induction l generalizing T with
  | nil => exact (List.append_nil T).symm
  | cons p t ih =>
    have hp : get? T (key p) = none :=
      (get?_eq_none_iff T _).mpr fun hm => (List.nodup_append.mp h).2.2 _ hm _ List.mem_cons_self rfl
    rw [List.foldl_cons, set_of_not_mem T _ _ hp, ih, List.map_cons, List.append_assoc]; rfl
    rw [keys_append]; simpa [keys, List.append_assoc] using h

theorem erase_sublist (l : List (α × β)) (k : α) : (erase l k).Sublist l := by
  induction l with
  | nil => exact List.Sublist.slnil
  | cons hd t ih =>
    simp only [erase]; split
    · exact List.sublist_cons_self _ _
    · exact ih.cons_cons _

theorem mem_of_mem_erase (l : List (α × β)) (k : α) (p : α × β) (hp : p ∈ erase l k) : p ∈ l :=
  (erase_sublist l k).subset hp

theorem mem_erase_of_ne (l : List (α × β)) (k : α) (p : α × β) (hp : p ∈ l) (hne : p.1 ≠ k) : p ∈ erase l k := by
  induction l with
  | nil => cases hp
  | cons hd t ih =>
    simp only [erase]
    rcases List.mem_cons.mp hp with rfl | hp
    · rw [if_neg hne]; exact List.mem_cons_self
    · split
      · exact hp
      · exact List.mem_cons_of_mem _ (ih hp)

theorem erase_of_not_mem (l : List (α × β)) (k : α) (h : get? l k = none) : erase l k = l := by
  induction l with
  | nil => rfl
  | cons hd t ih =>
    unfold get? at h
    split at h
    · cases h
    · rename_i hk; simp only [erase, hk, if_false, ih h]

theorem erase_eq_filter (l : List (α × β)) (k : α) (hnd : (keys l).Nodup) :
    erase l k = l.filter (fun p => p.1 ≠ k) := by
  induction l with
  | nil => rfl
  | cons hd t ih =>
    obtain ⟨hk, hnd⟩ := (nodup_keys_cons _ _).mp hnd
    by_cases e : hd.1 = k
    · have : t.filter (fun p => decide (p.1 ≠ k)) = t :=
        List.filter_eq_self.mpr fun p hp => decide_eq_true fun e2 => hk (by rw [e, ← e2]; exact mem_keys_of_mem t p hp)
      simpa [erase, e] using this.symm
    · simp [erase, e, ih hnd]

theorem mem_erase (l : List (α × β)) (k : α) (hnd : (keys l).Nodup) (p : α × β) :
    p ∈ erase l k ↔ p ∈ l ∧ p.1 ≠ k := by
  rw [erase_eq_filter l k hnd]; simp

theorem get?_erase (l : List (α × β)) (k k2 : α) (hnd : (keys l).Nodup) :
    get? (erase l k) k2 = if k = k2 then none else get? l k2 := by
  split
  · rename_i h; exact h ▸ get?_erase_self l k hnd
  · rename_i h; exact get?_erase_ne l k k2 h

theorem keys_erase_nodup (l : List (α × β)) (k : α) (h : (keys l).Nodup) : (keys (erase l k)).Nodup := by
  rw [keys_erase_perm]; exact h.erase k

theorem mem_keys_erase (l : List (α × β)) (k k2 : α) (hnd : (keys l).Nodup) :
    k2 ∈ keys (erase l k) ↔ k2 ≠ k ∧ k2 ∈ keys l := by
  rw [keys_erase_perm]; exact hnd.mem_erase_iff

theorem mem_keys_of_mem_keys_erase (l : List (α × β)) (k k2 : α) (h : k2 ∈ keys (erase l k)) : k2 ∈ keys l := by
  rw [keys_erase_perm] at h; exact List.mem_of_mem_erase h

theorem mem_keys_erase_of_ne (l : List (α × β)) (k k2 : α) (h : k2 ∈ keys l) (hne : k ≠ k2) : k2 ∈ keys (erase l k) := by
  rw [keys_erase_perm]; exact (List.mem_erase_of_ne (Ne.symm hne)).mpr h

theorem erase_set_comm (l : List (α × β)) (k k' : α) (v : β) (h : k ≠ k') :
    erase (set l k' v) k = set (erase l k) k' v := by
  induction l with
  | nil => simp [set, erase, Ne.symm h]
  | cons hd t ih => grind [set, erase]

theorem erase_erase_comm (l : List (α × β)) (a b : α) : erase (erase l a) b = erase (erase l b) a := by
  induction l with
  | nil => rfl
  | cons hd t ih => grind [erase]

theorem forall_get?_set (l : List (α × β)) (k : α) (v : β) (P : α → β → Prop) (hkv : P k v)
    (h : ∀ a b, get? l a = some b → P a b) : ∀ a b, get? (set l k v) a = some b → P a b := by
  intro a b hab
  rw [get?_set] at hab
  split at hab
  · next e => cases hab; exact e ▸ hkv
  · exact h a b hab

theorem forall_get?_erase (l : List (α × β)) (k : α) (hnd : (keys l).Nodup) (P : α → β → Prop)
    (h : ∀ a b, get? l a = some b → P a b) : ∀ a b, get? (erase l k) a = some b → P a b := by
  intro a b hab
  rw [get?_erase l k a hnd] at hab
  split at hab
  · cases hab
  · exact h a b hab

theorem isSome_set_congr {γ : Type} (l : List (α × β)) (r : List (α × γ)) (k : α) (v : β) (w : γ)
    (h : ∀ i, (get? l i).isSome ↔ (get? r i).isSome) (i : α) :
    (get? (set l k v) i).isSome ↔ (get? (set r k w) i).isSome := by
  rw [get?_set, get?_set]
  split
  · exact ⟨fun _ => rfl, fun _ => rfl⟩
  · exact h i

theorem isSome_erase_congr {γ : Type} (l : List (α × β)) (r : List (α × γ)) (k : α) (hl : (keys l).Nodup) (hr : (keys r).Nodup)
    (h : ∀ i, (get? l i).isSome ↔ (get? r i).isSome) (i : α) :
    (get? (erase l k) i).isSome ↔ (get? (erase r k) i).isSome := by
  rw [get?_erase l k i hl, get?_erase r k i hr]
  split
  · exact Iff.rfl
  · exact h i

theorem get?_filter_key (q : α → Bool) (l : List (α × β)) (k : α) :
    get? (l.filter (fun r => q r.1)) k = if q k then get? l k else none := by
  induction l with
  | nil => simp
  | cons hd t ih => grind [get?]

/-- lookup after `del d[k]` written as a filter (`C01.del`, `C04.del`) -/
theorem get?_filter_ne (l : List (α × β)) (k k2 : α) :
    get? (l.filter (fun p => p.1 ≠ k)) k2 = if k = k2 then none else get? l k2 := by
  rw [get?_filter_key (fun a => a ≠ k)]
  by_cases h : k = k2
  · simp [h]
  · simp [h, Ne.symm h]

omit [DecidableEq α] in
theorem keys_filter_key (q : α → Bool) (l : List (α × β)) : keys (l.filter (fun r => q r.1)) = (keys l).filter q := by
  simp only [keys, List.filter_map]; rfl

omit [DecidableEq α] in
theorem mem_keys_filter_key (p : α → Bool) (l : List (α × β)) (k : α) :
    k ∈ keys (l.filter (fun e => p e.1)) ↔ k ∈ keys l ∧ p k = true := by
  rw [keys_filter_key, List.mem_filter]

omit [DecidableEq α] in
theorem keys_filter_nodup (l : List (α × β)) (p : α × β → Bool) (hnd : (keys l).Nodup) : (keys (l.filter p)).Nodup :=
  (List.filter_sublist.map _).nodup hnd

theorem foldl_erase_eq_filter (ks : List α) (l : List (α × β)) (hnd : (keys l).Nodup) :
    ks.foldl erase l = l.filter (fun e => !ks.contains e.1) := by
  induction ks generalizing l with
  | nil =>
    simp only [List.foldl_nil, List.contains_nil, Bool.not_false]
    exact (List.filter_eq_self.mpr fun _ _ => rfl).symm
  | cons k ks ih =>
    rw [List.foldl_cons, erase_eq_filter l k hnd, ih _ (keys_filter_nodup l _ hnd), List.filter_filter]
    apply List.filter_congr
    intro e _
    by_cases h : e.1 = k
    · simp [h]
    · simp [h]

/-! Maps over the values are stated on `l.map fun p => (p.1, g p.2)`, the form to which `AL.mapVals` (defined in
`Proofs/C03Ref`) and `C07.mapVals` unfold. -/

section maps
variable {γ α' : Type} [DecidableEq α']

theorem get?_map_val (l : List (α × β)) (g : β → γ) (k : α) :
    get? (l.map (fun p => (p.1, g p.2))) k = (get? l k).map g := by
  induction l with
  | nil => rfl
  | cons hd t ih => simp only [List.map_cons, get?]; split <;> simp [ih]

omit [DecidableEq α] in
theorem keys_map_val (l : List (α × β)) (g : β → γ) : keys (l.map (fun p => (p.1, g p.2))) = keys l := by
  simp [keys, Function.comp_def]

theorem has_map_val (l : List (α × β)) (g : β → γ) (k : α) : has (l.map (fun p => (p.1, g p.2))) k = has l k := by
  simp [has, get?_map_val]

theorem map_val_set (l : List (α × β)) (g : β → γ) (k : α) (v : β) :
    (set l k v).map (fun p => (p.1, g p.2)) = set (l.map (fun p => (p.1, g p.2))) k (g v) := by
  induction l with
  | nil => rfl
  | cons hd t ih => simp only [List.map_cons, set]; split <;> simp [ih]

theorem erase_map_val (l : List (α × β)) (g : β → γ) (k : α) :
    erase (l.map (fun p => (p.1, g p.2))) k = (erase l k).map (fun p => (p.1, g p.2)) := by
  induction l with
  | nil => rfl
  | cons hd t ih => simp only [List.map_cons, erase]; split <;> simp [ih]

theorem set_map_val_eq_map_ite (l : List (α × β)) (g : β → γ) (k : α) (v : γ) (hk : (get? l k).isSome) (hnd : (keys l).Nodup) :
    set (l.map (fun p => (p.1, g p.2))) k v = l.map (fun p => (p.1, if p.1 = k then v else g p.2)) := by
  induction l with
  | nil => cases hk
  | cons hd t ih =>
    obtain ⟨hn, hnd⟩ := (nodup_keys_cons _ _).mp hnd
    simp only [List.map_cons, set]
    by_cases h : hd.1 = k
    · simp only [h, if_true, List.cons.injEq, true_and]
      apply List.map_congr_left
      intro p hp
      have : p.1 ≠ k := fun e => hn (by rw [h, ← e]; exact mem_keys_of_mem t p hp)
      rw [if_neg this]
    · simp only [h, if_false]
      rw [ih (by simpa only [get?, h, if_false] using hk) hnd]

/-- changing the value function at one value that occurs under exactly one key is an assignment at that key -/
theorem map_val_update (f g : β → γ) (l : List (α × β)) (k : α) (b : β) (hnd : (keys l).Nodup)
    (hget : get? l k = some b) (hinj : ∀ p ∈ l, p.2 = b → p.1 = k) (hfg : ∀ p ∈ l, p.2 ≠ b → g p.2 = f p.2) :
    l.map (fun p => (p.1, g p.2)) = set (l.map (fun p => (p.1, f p.2))) k (g b) := by
  rw [set_map_val_eq_map_ite l f k (g b) (by rw [hget]; rfl) hnd]
  apply List.map_congr_left
  intro p hp
  split
  · rename_i e
    rw [← e, get?_of_mem l p.1 p.2 hnd hp] at hget
    rw [Option.some.inj hget]
  · rename_i e
    rw [hfg p hp fun e2 => e (hinj p hp e2)]

omit [DecidableEq α] [DecidableEq α'] in
theorem keys_map_kv (f : α → α') (g : β → γ) (l : List (α × β)) :
    keys (l.map (fun p => (f p.1, g p.2))) = (keys l).map f := by
  simp [keys, Function.comp_def]

omit [DecidableEq α] [DecidableEq α'] in
theorem keys_map_kv_nodup (f : α → α') (g : β → γ) (hf : ∀ a b, f a = f b → a = b) (l : List (α × β))
    (h : (keys l).Nodup) : (keys (l.map (fun p => (f p.1, g p.2)))).Nodup := by
  rw [keys_map_kv]; exact ListLib.nodup_map_inj f hf h

omit [DecidableEq α] [DecidableEq α'] in
theorem keys_nodup_of_map_kv (f : α → α') (g : β → γ) (l : List (α × β))
    (h : (keys (l.map (fun p => (f p.1, g p.2)))).Nodup) : (keys l).Nodup := by
  rw [keys_map_kv] at h; exact ListLib.nodup_of_nodup_map f h

theorem get?_map_kv (f : α → α') (g : β → γ) (hf : ∀ a b, f a = f b → a = b) (l : List (α × β)) (k : α) :
    get? (l.map (fun p => (f p.1, g p.2))) (f k) = (get? l k).map g := by
  induction l with
  | nil => rfl
  | cons hd t ih =>
    simp only [List.map_cons, get?, ih]
    by_cases h : hd.1 = k
    · simp [h]
    · have hne : f hd.1 ≠ f k := fun e => h (hf _ _ e)
      simp [h, hne]

theorem set_map_kv (f : α → α') (g : β → γ) (hf : ∀ a b, f a = f b → a = b) (l : List (α × β)) (k : α) (v : β) :
    set (l.map (fun p => (f p.1, g p.2))) (f k) (g v) = (set l k v).map (fun p => (f p.1, g p.2)) := by
  induction l with
  | nil => rfl
  | cons hd t ih =>
    simp only [List.map_cons, set, ih]
    by_cases h : hd.1 = k
    · simp [h]
    · have hne : f hd.1 ≠ f k := fun e => h (hf _ _ e)
      simp [h, hne]

theorem erase_map_kv (f : α → α') (g : β → γ) (hf : ∀ a b, f a = f b → a = b) (l : List (α × β)) (k : α) :
    erase (l.map (fun p => (f p.1, g p.2))) (f k) = (erase l k).map (fun p => (f p.1, g p.2)) := by
  induction l with
  | nil => rfl
  | cons hd t ih =>
    simp only [List.map_cons, erase, ih]
    by_cases h : hd.1 = k
    · simp [h]
    · have hne : f hd.1 ≠ f k := fun e => h (hf _ _ e)
      simp [h, hne]

end maps

/-- A run of accepted calls, one per key of `Q` in order, each replacing the value of its key by `F`, maps `F` over
`Q`.  `run` is any way of running a list of calls that goes on from `s'` after a call accepted into `s'` (`hrun`);
the table sits in the state through `put`, which also fixes every other component. -/
theorem run_updates {σ γ ρ : Type} (run : σ → List γ → ρ) (acc : σ → γ → σ → Prop)
    (hrun : ∀ s c s' cs, acc s c s' → run s (c :: cs) = run s' cs)
    (put : List (α × β) → σ) (op : α → γ) (F : α → β → β) (Q P : List (α × β)) (rest : List γ)
    (hnd : (keys (P ++ Q)).Nodup)
    (hstep : ∀ T k v, k ∈ keys Q → get? T k = some v → acc (put T) (op k) (put (set T k (F k v)))) :
    run (put (P ++ Q)) ((keys Q).map op ++ rest) = run (put (P ++ Q.map (fun p => (p.1, F p.1 p.2)))) rest := by
  induction Q generalizing P with
  | nil => rfl
  | cons q Q ih =>
    obtain ⟨k, v⟩ := q
    have hP : get? P k = none := by
      rw [get?_eq_none_iff]
      intro hc
      rw [keys_append] at hnd
      exact (List.nodup_append.mp hnd).2.2 k hc k List.mem_cons_self rfl
    have hg : get? (P ++ (k, v) :: Q) k = some v := by rw [get?_append, hP]; simp [get?]
    have e : P ++ (k, F k v) :: Q = (P ++ [(k, F k v)]) ++ Q := by simp
    simp only [keys, List.map_cons, List.cons_append]
    rw [hrun _ _ _ _ (hstep _ k v List.mem_cons_self hg), set_append_right _ _ _ _ hP]
    simp only [AL.set, if_true]
    rw [e]
    refine (ih (P ++ [(k, F k v)]) (by simpa [keys] using hnd)
      (fun T k' v' hk' => hstep T k' v' (List.mem_cons_of_mem _ hk'))).trans ?_
    simp

end AL
