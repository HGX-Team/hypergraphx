import Hgxv.Proofs.C07Dumps
/-! # C07: CPython's atom writers satisfy `Fmt.Laws` (core Lean only)

`pyFmt` = decimal ints, positional quarter floats, `ensure_ascii` escapes.  Shown here: numbers are written
injectively (ints among themselves, floats among themselves, an int never like a float: `1` vs `1.0`), start with a
digit or `-`, consist of digits `-` `.`; the escapes of two characters are never prefixes of one another because an
escape can be read back (`unEsc_pyEsc`; UTF-16 surrogate pairs included: a `Char` is no surrogate).  Injectivity is
shown by a left inverse throughout: `fracVal` reads `fracText` back, `hexVal` a hex digit, `hex4Val` four of them. -/
namespace C07

theorem digs_digit (n : Nat) : ∀ c, c ∈ digs n → c.isDigit = true := by
  intro c hc
  exact Nat.isDigit_of_mem_toDigits (by decide) (by decide) hc

theorem digs_inj {a b : Nat} (h : digs a = digs b) : a = b := by
  have := congrArg (fun l => Nat.ofDigitChars 10 l 0) h
  simpa [digs] using this

theorem digs_ne_nil (n : Nat) : digs n ≠ [] := Nat.toDigits_ne_nil

theorem digs_head (n : Nat) : ∃ c cs, digs n = c :: cs ∧ c.isDigit = true := by
  cases h : digs n with
  | nil => exact absurd h (digs_ne_nil n)
  | cons c cs => exact ⟨c, cs, rfl, digs_digit n c (by rw [h]; exact List.mem_cons_self)⟩

theorem fracText_head (m : Nat) : ∃ cs, fracText m = '.' :: cs := by
  unfold fracText; split <;> exact ⟨_, rfl⟩

theorem fracText_nondigit (m : Nat) : ∀ c cs, fracText m = c :: cs → ¬ c.isDigit = true := by
  intro c cs h
  obtain ⟨cs', h'⟩ := fracText_head m
  rw [h'] at h
  simp only [List.cons.injEq] at h
  rw [← h.1]; decide

def fracVal : List Char → Nat
  | [_, '0'] => 0
  | [_, '2', _] => 1
  | [_, '5'] => 2
  | _ => 3

theorem fracVal_fracText : ∀ m, m < 4 → fracVal (fracText m) = m := by decide

theorem fracText_inj {a b : Nat} (ha : a < 4) (hb : b < 4) (h : fracText a = fracText b) : a = b := by
  rw [← fracVal_fracText a ha, h, fracVal_fracText b hb]

theorem fracText_chars (m : Nat) : ∀ c, c ∈ fracText m → c = '.' ∨ c.isDigit = true :=
  match m with
  | 0 | 1 | 2 => by decide
  | _ + 3 => (by decide : ∀ c, c ∈ ['.', '7', '5'] → c = '.' ∨ c.isDigit = true)

theorem sign_split {x y : Bool} {l₁ l₂ : List Char} (h1 : ∃ c cs, l₁ = c :: cs ∧ c.isDigit = true)
    (h2 : ∃ c cs, l₂ = c :: cs ∧ c.isDigit = true) (h : signK x ++ l₁ = signK y ++ l₂) : x = y ∧ l₁ = l₂ := by
  obtain ⟨c, cs, e1, d1⟩ := h1
  obtain ⟨d, ds, e2, d2⟩ := h2
  cases x <;> cases y
  · exact ⟨rfl, by simpa [signK] using h⟩
  · exfalso
    simp only [signK, e1, e2, Bool.false_eq_true, if_false, if_true, List.nil_append, List.cons_append,
      List.cons.injEq] at h
    rw [h.1] at d1; exact absurd d1 (by decide)
  · exfalso
    simp only [signK, e1, e2, Bool.false_eq_true, if_false, if_true, List.nil_append, List.cons_append,
      List.cons.injEq] at h
    rw [← h.1] at d2; exact absurd d2 (by decide)
  · exact ⟨rfl, by simpa [signK] using h⟩

theorem int_of_sign_abs {i j : Int} (hs : decide (i < 0) = decide (j < 0)) (ha : i.natAbs = j.natAbs) : i = j := by
  have : (i < 0) ↔ (j < 0) := by simpa using hs
  omega

theorem digs_frac_head (a m : Nat) : ∃ c cs, digs a ++ fracText m = c :: cs ∧ c.isDigit = true := by
  obtain ⟨c, cs, e, d⟩ := digs_head a
  exact ⟨c, cs ++ fracText m, by rw [e]; rfl, d⟩

theorem pyIntText_inj {i j : Int} (h : pyIntText i = pyIntText j) : i = j := by
  unfold pyIntText at h
  obtain ⟨hs, hd⟩ := sign_split (digs_head _) (digs_head _) h
  exact int_of_sign_abs hs (digs_inj hd)

theorem pyFltText_inj {p q : Int} (h : pyFltText p = pyFltText q) : p = q := by
  unfold pyFltText at h
  obtain ⟨hs, hd⟩ := sign_split (digs_frac_head _ _) (digs_frac_head _ _) h
  obtain ⟨e1, e2⟩ := prefix_split _ _ _ _ (digs_digit _) (digs_digit _) (fracText_nondigit _) (fracText_nondigit _) hd
  have h4 := digs_inj e1
  have hm := fracText_inj (Nat.mod_lt _ (by decide)) (Nat.mod_lt _ (by decide)) e2
  exact int_of_sign_abs hs (by omega)

theorem signK_chars (x : Bool) : ∀ c, c ∈ signK x → c = '-' := by
  intro c hc; cases x <;> simp [signK] at hc; exact hc

theorem pyIntText_chars (i : Int) : ∀ c, c ∈ pyIntText i → c = '-' ∨ c.isDigit = true := by
  intro c hc
  unfold pyIntText at hc
  rcases List.mem_append.mp hc with h | h
  · exact Or.inl (signK_chars _ c h)
  · exact Or.inr (digs_digit _ c h)

theorem pyFltText_chars (q : Int) : ∀ c, c ∈ pyFltText q → c = '-' ∨ c = '.' ∨ c.isDigit = true := by
  intro c hc
  unfold pyFltText at hc
  rcases List.mem_append.mp hc with h | h
  · exact Or.inl (signK_chars _ c h)
  · rcases List.mem_append.mp h with h | h
    · exact Or.inr (Or.inr (digs_digit _ c h))
    · exact Or.inr (fracText_chars _ c h)

theorem dot_mem_flt (q : Int) : '.' ∈ pyFltText q := by
  unfold pyFltText
  obtain ⟨cs, h⟩ := fracText_head (q.natAbs % 4)
  rw [h]
  simp

/-- `1` and `1.0`: an int is never written like a float -/
theorem int_ne_flt (i q : Int) : pyIntText i ≠ pyFltText q := by
  intro h
  have hd := dot_mem_flt q
  rw [← h] at hd
  rcases pyIntText_chars i _ hd with e | e
  · exact absurd e (by decide)
  · exact absurd e (by decide)

theorem pyNumText_chars (n : Num) : ∀ c, c ∈ pyNumText n → c = '-' ∨ c = '.' ∨ c.isDigit = true := by
  intro c hc
  cases n with
  | int i => rcases pyIntText_chars i c hc with e | e; exact Or.inl e; exact Or.inr (Or.inr e)
  | flt q => exact pyFltText_chars q c hc

theorem pyNumText_head (n : Num) : ∃ c cs, pyNumText n = c :: cs ∧ (c = '-' ∨ c.isDigit = true) := by
  have key : ∀ (x : Bool) (l : List Char), (∃ c cs, l = c :: cs ∧ c.isDigit = true) →
      ∃ c cs, signK x ++ l = c :: cs ∧ (c = '-' ∨ c.isDigit = true) := by
    intro x l ⟨c, cs, e, d⟩
    cases x
    · exact ⟨c, cs, by simp [signK, e], Or.inr d⟩
    · exact ⟨'-', l, by simp [signK], Or.inl rfl⟩
  cases n with
  | int i => exact key _ _ (digs_head _)
  | flt q => exact key _ _ (digs_frac_head _ _)

theorem numChar_cases {c : Char} (h : c = '-' ∨ c = '.' ∨ c.isDigit = true) {d : Char}
    (hd1 : d ≠ '-') (hd2 : d ≠ '.') (hd3 : d.isDigit = false) : c ≠ d := by
  intro e
  rw [e] at h
  rcases h with h | h | h
  · exact hd1 h
  · exact hd2 h
  · rw [hd3] at h; cases h

def hexVal (c : Char) : Nat := if c.toNat < 58 then c.toNat - 48 else c.toNat - 87

theorem hexVal_hexDigit : ∀ n, n < 16 → hexVal (hexDigit n) = n := by decide

/-- the number written by the first four hex digits -/
def hex4Val : List Char → Nat
  | a :: b :: c :: d :: _ => hexVal d + 16 * (hexVal c + 16 * (hexVal b + 16 * hexVal a))
  | _ => 0

theorem hex4Val_hex4 {n : Nat} (h : n < 65536) (r : List Char) : hex4Val (hex4 n ++ r) = n := by
  have m : ∀ k, hexVal (hexDigit (k % 16)) = k % 16 := fun k => hexVal_hexDigit _ (Nat.mod_lt k (by decide))
  -- `n = n % 16 ^ 4`, its four digits peeled from the right
  have e := Nat.mod_eq_of_lt h
  rw [show 65536 = 16 * (16 * (16 * 16)) from rfl, Nat.mod_mul, Nat.mod_mul, Nat.mod_mul, Nat.div_div_eq_div_mul,
    Nat.div_div_eq_div_mul] at e
  show hexVal _ + 16 * (hexVal _ + 16 * (hexVal _ + 16 * hexVal _)) = n
  rw [m, m, m, m]
  exact e

theorem char_valid (c : Char) : c.toNat < 55296 ∨ (57343 < c.toNat ∧ c.toNat < 1114112) := c.valid

/-- the two-character escapes: the second character names the escaped one -/
def shortDec (x : Char) : Char :=
  if x = '"' then '"' else if x = '\\' then '\\' else if x = 'n' then '\n' else if x = 'r' then '\r' else
  if x = 't' then '\t' else if x = 'b' then Char.ofNat 8 else Char.ofNat 12

def hiUnit (c : Char) : Nat := 55296 + (c.toNat - 65536) / 1024
def loUnit (c : Char) : Nat := 56320 + (c.toNat - 65536) % 1024

theorem pyEsc_shape (c : Char) :
    (pyEsc c = [c] ∧ c ≠ '\\' ∧ c ≠ '"') ∨
    (∃ x, pyEsc c = ['\\', x] ∧ x ≠ 'u' ∧ c = shortDec x) ∨
    (c.toNat < 65536 ∧ pyEsc c = uEsc c.toNat) ∨
    (65536 ≤ c.toNat ∧ pyEsc c = uEsc (hiUnit c) ++ uEsc (loUnit c)) := by
  unfold pyEsc
  by_cases h1 : c = '"'
  · right; left; exact ⟨'"', by simp [h1], by decide, by rw [h1]; rfl⟩
  by_cases h2 : c = '\\'
  · right; left; exact ⟨'\\', by simp [h2], by decide, by rw [h2]; rfl⟩
  by_cases h3 : c = '\n'
  · right; left; exact ⟨'n', by simp [h3], by decide, by rw [h3]; rfl⟩
  by_cases h4 : c = '\r'
  · right; left; exact ⟨'r', by simp [h4], by decide, by rw [h4]; rfl⟩
  by_cases h5 : c = '\t'
  · right; left; exact ⟨'t', by simp [h5], by decide, by rw [h5]; rfl⟩
  by_cases h6 : c = Char.ofNat 8
  · right; left; exact ⟨'b', by simp [h6], by decide, by rw [h6]; rfl⟩
  by_cases h7 : c = Char.ofNat 12
  · right; left; exact ⟨'f', by simp [h7], by decide, by rw [h7]; rfl⟩
  simp only [h1, h2, h3, h4, h5, h6, h7, if_false]
  by_cases h8 : 32 ≤ c.toNat ∧ c.toNat ≤ 126
  · left; simp only [h8, and_self, if_true]; exact ⟨trivial, h2, h1⟩
  by_cases h9 : c.toNat < 65536
  · right; right; left; simp only [h8, h9, if_false, if_true]; exact ⟨trivial, trivial⟩
  · right; right; right; simp only [h8, h9, if_false]; exact ⟨by omega, rfl⟩

theorem hiUnit_range (c : Char) (h : 65536 ≤ c.toNat) : 55296 ≤ hiUnit c ∧ hiUnit c < 56320 := by
  have := char_valid c
  unfold hiUnit
  omega

theorem loUnit_range (c : Char) : 56320 ≤ loUnit c ∧ loUnit c < 57344 := by
  unfold loUnit
  omega

theorem pyEsc_head (a : Char) : ∃ c cs, pyEsc a = c :: cs ∧ c ≠ '"' := by
  rcases pyEsc_shape a with ⟨e, _, h⟩ | ⟨x, e, _, _⟩ | ⟨_, e⟩ | ⟨_, e⟩
  · exact ⟨a, [], e, h⟩
  · exact ⟨'\\', [x], e, by decide⟩
  · exact ⟨'\\', 'u' :: hex4 a.toNat, by rw [e]; rfl, by decide⟩
  · exact ⟨'\\', 'u' :: hex4 (hiUnit a) ++ uEsc (loUnit a), by rw [e]; rfl, by decide⟩

/-- the two UTF-16 units of a character beyond U+FFFF give its code point back -/
theorem units_toNat (c : Char) (lc : 65536 ≤ c.toNat) :
    65536 + ((hiUnit c - 55296) * 1024 + (loUnit c - 56320)) = c.toNat := by
  rw [hiUnit, loUnit, Nat.add_sub_cancel_left, Nat.add_sub_cancel_left, Nat.div_add_mod', Nat.add_sub_cancel' lc]

/-- reads one escaped character back: the character and the rest of the text (anything on other input) -/
def unEsc : List Char → Char × List Char
  | [] => (' ', [])
  | c :: r =>
    if c ≠ '\\' then (c, r) else
    match r with
    | [] => (' ', [])
    | x :: r =>
      if x ≠ 'u' then (shortDec x, r) else
      if hex4Val r < 55296 ∨ 56320 ≤ hex4Val r then (Char.ofNat (hex4Val r), r.drop 4)
      else (Char.ofNat (65536 + ((hex4Val r - 55296) * 1024 + (hex4Val (r.drop 6) - 56320))), r.drop 10)

theorem unEsc_uEsc {n : Nat} (h : n < 65536) (r : List Char) :
    unEsc (uEsc n ++ r) =
      if n < 55296 ∨ 56320 ≤ n then (Char.ofNat n, r)
      else (Char.ofNat (65536 + ((n - 55296) * 1024 + (hex4Val (r.drop 2) - 56320))), r.drop 6) := by
  have e : (hex4 n ++ r).drop 4 = r := rfl
  have e6 : (hex4 n ++ r).drop 6 = r.drop 2 := rfl
  have e10 : (hex4 n ++ r).drop 10 = r.drop 6 := rfl
  simp only [uEsc, List.cons_append, unEsc, ne_eq, not_true_eq_false, if_false, hex4Val_hex4 h, e, e6, e10]

/-- the escapes are uniquely decodable, surrogate pairs included (a `Char` is no surrogate, so the escape of a character
of the basic plane is never read as the first half of a pair) -/
theorem unEsc_pyEsc (c : Char) (r : List Char) : unEsc (pyEsc c ++ r) = (c, r) := by
  rcases pyEsc_shape c with ⟨e, hc, _⟩ | ⟨x, e, hx, cx⟩ | ⟨lc, e⟩ | ⟨lc, e⟩ <;> rw [e]
  · simp only [List.cons_append, List.nil_append, unEsc, ne_eq, hc, not_false_eq_true, if_true]
  · simp only [List.cons_append, List.nil_append, unEsc, ne_eq, not_true_eq_false, if_false, hx, not_false_eq_true,
      if_true, cx]
  · rw [unEsc_uEsc lc, if_pos ((char_valid c).imp id (fun h => Nat.le_trans (by decide) (Nat.le_of_lt h.1))),
      Char.ofNat_toNat]
  · have hr := hiUnit_range c lc
    have e2 : (uEsc (loUnit c) ++ r).drop 2 = hex4 (loUnit c) ++ r := rfl
    have e6 : (uEsc (loUnit c) ++ r).drop 6 = r := rfl
    rw [List.append_assoc, unEsc_uEsc (Nat.lt_trans hr.2 (by decide)),
      if_neg (fun o => o.elim (Nat.not_lt.mpr hr.1) (Nat.not_le.mpr hr.2)), e2, e6,
      hex4Val_hex4 (Nat.lt_trans (loUnit_range c).2 (by decide)), units_toNat c lc, Char.ofNat_toNat]

theorem pyEsc_free (a b : Char) (r₁ r₂ : List Char) (h : pyEsc a ++ r₁ = pyEsc b ++ r₂) : a = b ∧ r₁ = r₂ := by
  have := congrArg unEsc h
  rw [unEsc_pyEsc, unEsc_pyEsc] at this
  exact Prod.mk.inj this

theorem pyFmt_laws : pyFmt.Laws where
  numInj := by
    intro a b h
    cases a with
    | int i =>
      cases b with
      | int j => rw [pyIntText_inj h]
      | flt q => exact absurd h (int_ne_flt i q)
    | flt p =>
      cases b with
      | int j => exact absurd h.symm (int_ne_flt j p)
      | flt q => rw [pyFltText_inj h]
  numHead := by
    intro a
    obtain ⟨c, cs, e, hc⟩ := pyNumText_head a
    have hc' : c = '-' ∨ c = '.' ∨ c.isDigit = true := by
      rcases hc with h | h
      · exact Or.inl h
      · exact Or.inr (Or.inr h)
    exact ⟨c, cs, e, numChar_cases hc' (by decide) (by decide) (by decide),
      numChar_cases hc' (by decide) (by decide) (by decide), numChar_cases hc' (by decide) (by decide) (by decide),
      numChar_cases hc' (by decide) (by decide) (by decide), numChar_cases hc' (by decide) (by decide) (by decide),
      numChar_cases hc' (by decide) (by decide) (by decide)⟩
  numBody := by
    intro a c hc
    have hc' := pyNumText_chars a c hc
    exact ⟨numChar_cases hc' (by decide) (by decide) (by decide), numChar_cases hc' (by decide) (by decide) (by decide),
      numChar_cases hc' (by decide) (by decide) (by decide)⟩
  escHead := pyEsc_head
  escFree := pyEsc_free

end C07
