import Hgxv.Proofs.C01Basic
import Hgxv.Proofs.ALStore
/-! C01: the representation invariant `Inv` and its preservation by the primitive updates. -/
namespace C01
open AL

/-- Representation invariant of the tables of a `Hypergraph`. -/
structure Inv (s : Store) : Prop where
  /-- `_reverse_edge_list` is the inverse of `_edge_list` -/
  rev_of_edge : ∀ e id, get? s.edgeList e = some id → get? s.rev id = some e
  edge_of_rev : ∀ e id, get? s.rev id = some e → get? s.edgeList e = some id
  /-- ids in use are below `_next_edge_id` -/
  id_lt : ∀ id e, get? s.rev id = some e → id < s.nextId
  /-- a key is listed once -/
  el_nodup : (keys s.edgeList).Nodup
  /-- keys are canonical (sorted) duplicate-free node tuples -/
  key_canon : ∀ e id, get? s.edgeList e = some id → e.Nodup ∧ canon e = e
  /-- the weight and metadata tables have exactly the ids in use -/
  w_dom : ∀ id, (get? s.weights id).isSome = (get? s.rev id).isSome
  m_dom : ∀ id, (get? s.emeta id).isSome = (get? s.rev id).isSome
  /-- adjacency lists are strictly increasing (ids are appended in allocation order): no id twice -/
  adj_sorted : ∀ n ids, get? s.adj n = some ids → ids.Pairwise (· < ·)
  /-- an id is in `_adj[n]` iff it is the id of a hyperedge containing `n` -/
  adj_iff : ∀ n ids, get? s.adj n = some ids → ∀ id, id ∈ ids ↔ ∃ e, get? s.rev id = some e ∧ n ∈ e
  /-- every node of every hyperedge is a node of the hypergraph -/
  nodes_in : ∀ id e, get? s.rev id = some e → ∀ n ∈ e, (get? s.adj n).isSome
  adj_nodup : (keys s.adj).Nodup
  /-- `_node_metadata` has the nodes of `_adj`, in the same order -/
  nm_keys : keys s.nmeta = keys s.adj
  /-- `_edge_list` lists the hyperedges in allocation order -/
  el_sorted : (s.edgeList.map (·.2)).Pairwise (· < ·)
  /-- an unweighted hypergraph stores weight 1 everywhere -/
  unw_one : s.weighted = false → ∀ id w, get? s.weights id = some w → w = one

theorem inv_empty (s : Store) (h1 : s.edgeList = []) (h2 : s.rev = []) (h3 : s.weights = []) (h4 : s.emeta = [])
    (h5 : s.adj = []) (h6 : s.nmeta = []) : Inv s := by
  constructor <;> simp [h1, h2, h3, h4, h5, h6, keys]

theorem inv_new (w : Bool) (hm : Meta) : Inv (Store.new w hm) := inv_empty _ rfl rfl rfl rfl rfl rfl

theorem Inv.nmeta_nodup {s : Store} (h : Inv s) : (keys s.nmeta).Nodup := h.nm_keys ▸ h.adj_nodup

theorem Inv.id_of_mem {s : Store} (h : Inv s) {p : Edge × Nat} (hp : p ∈ s.edgeList) :
    get? s.edgeList p.1 = some p.2 := get?_of_mem _ _ _ h.el_nodup hp

theorem Inv.mem_lt {s : Store} (h : Inv s) {p : Edge × Nat} (hp : p ∈ s.edgeList) : p.2 < s.nextId :=
  h.id_lt _ _ (h.rev_of_edge _ _ (h.id_of_mem hp))

theorem Inv.id_inj {s : Store} (h : Inv s) {e1 e2 : Edge} {id : Nat}
    (h1 : get? s.edgeList e1 = some id) (h2 : get? s.edgeList e2 = some id) : e1 = e2 := by
  have a := h.rev_of_edge _ _ h1
  have b := h.rev_of_edge _ _ h2
  rw [a] at b; exact Option.some.inj b

theorem Inv.index {s : Store} (h : Inv s) : Index (· < ·) s.rev (fun e => e) s.adj := ⟨h.adj_sorted, h.adj_iff, h.nodes_in⟩

theorem Inv.tables {s : Store} (h : Inv s) : IdTables s.edgeList s.rev s.nextId := ⟨h.rev_of_edge, h.edge_of_rev, h.id_lt⟩

/-- updates that touch only values of the weight / metadata tables -/
theorem Inv.of_tables {s : Store} (h : Inv s) (s' : Store)
    (h1 : s'.edgeList = s.edgeList) (h2 : s'.rev = s.rev) (h3 : s'.adj = s.adj) (h4 : s'.nextId = s.nextId)
    (hw : ∀ id, (get? s'.weights id).isSome = (get? s.weights id).isSome)
    (hm : ∀ id, (get? s'.emeta id).isSome = (get? s.emeta id).isSome)
    (hn : keys s'.nmeta = keys s.nmeta)
    (hone : s'.weighted = false → ∀ id w, get? s'.weights id = some w → w = one) : Inv s' := by
  exact {
    rev_of_edge := by rw [h1, h2]; exact h.rev_of_edge
    edge_of_rev := by rw [h1, h2]; exact h.edge_of_rev
    id_lt := by rw [h2, h4]; exact h.id_lt
    el_nodup := by rw [h1]; exact h.el_nodup
    key_canon := by rw [h1]; exact h.key_canon
    w_dom := by intro id; rw [hw, h2]; exact h.w_dom id
    m_dom := by intro id; rw [hm, h2]; exact h.m_dom id
    adj_sorted := by rw [h3]; exact h.adj_sorted
    adj_iff := by rw [h3, h2]; exact h.adj_iff
    nodes_in := by rw [h3, h2]; exact h.nodes_in
    adj_nodup := by rw [h3]; exact h.adj_nodup
    nm_keys := by rw [hn, h3]; exact h.nm_keys
    el_sorted := by rw [h1]; exact h.el_sorted
    unw_one := hone }

theorem clear_inv (s : Store) : Inv (clear s).1 := inv_empty _ rfl rfl rfl rfl rfl rfl

theorem touchNode_inv (s : Store) (n : Node) (h : Inv s) : Inv (touchNode s n) := by
  have hI : Index (· < ·) s.rev (fun e => e) (touchNode s n).adj := h.index.touch (touchNode_adj s n)
  unfold touchNode at hI ⊢
  split
  · exact h
  · rename_i hn
    have hn' : get? s.adj n = none := by simpa using hn
    have hnm : get? s.nmeta n = none := by
      rw [get?_eq_none_iff, h.nm_keys, ← get?_eq_none_iff]; exact hn'
    rw [if_neg hn] at hI
    exact { h with
      adj_sorted := hI.sorted, adj_iff := hI.mem_iff, nodes_in := hI.dom
      adj_nodup := keys_set_nodup _ _ _ h.adj_nodup
      nm_keys := by
        show keys (AL.set s.nmeta n []) = keys (AL.set s.adj n [])
        rw [keys_set_of_not_mem _ _ _ hn', keys_set_of_not_mem _ _ _ hnm, h.nm_keys] }

theorem fillNodeMeta_inv (s : Store) (n : Node) (md : Meta) (h : Inv s) : Inv (fillNodeMeta s n md) := by
  unfold fillNodeMeta
  split
  · rename_i hg
    exact h.of_tables _ rfl rfl rfl rfl (fun _ => rfl) (fun _ => rfl)
      (keys_set_of_mem _ _ _ (by simp [hg])) h.unw_one
  · exact h

theorem addNode_inv (s : Store) (n : Node) (md : Option Meta) (h : Inv s) : Inv (addNode s n md) :=
  fillNodeMeta_inv _ _ _ (touchNode_inv s n h)

theorem addEdgeOld_inv (s : Store) (e : Edge) (id : Nat) (wt : Int) (md : Meta)
    (hid : get? s.edgeList e = some id) (h : Inv s) : Inv (addEdgeOld s id wt md) := by
  have hrev : (get? s.rev id).isSome := by simp [h.rev_of_edge _ _ hid]
  refine h.of_tables (addEdgeOld s id wt md) rfl rfl rfl rfl ?_ ?_ rfl ?_
  · intro id'
    simp only [addEdgeOld]
    split
    · rw [isSome_set]
      by_cases hh : id = id'
      · subst hh; simp [h.w_dom, hrev]
      · simp [hh]
    · rfl
  · intro id'
    simp only [addEdgeOld]
    rw [isSome_set]
    by_cases hh : id = id'
    · subst hh; simp [h.m_dom, hrev]
    · simp [hh]
  · intro hw id' w
    have hw' : s.weighted = false := hw
    simp only [addEdgeOld, hw']
    exact h.unw_one hw' id' w

/-- `addEdgeNew_inv` with the record update named `s0` and described by its fields: under `linkNodes` the goal then carries a
variable, not the nine-field structure literal (eight fields are described; `Inv` does not read `hmeta`) -/
theorem addEdgeNew_inv_aux (s s0 : Store) (raw : List Nat) (wt : Int) (md : Meta)
    (hraw : raw.Nodup) (hget : get? s.edgeList (canon raw) = none) (h : Inv s)
    (e1 : s0.edgeList = AL.set s.edgeList (canon raw) s.nextId)
    (e2 : s0.rev = AL.set s.rev s.nextId (canon raw))
    (e3 : s0.weights = AL.set s.weights s.nextId (if s.weighted then wt else one))
    (e4 : s0.emeta = AL.set s.emeta s.nextId md)
    (e5 : s0.nextId = s.nextId + 1) (e6 : s0.adj = s.adj) (e7 : s0.nmeta = s.nmeta)
    (e8 : s0.weighted = s.weighted) :
    Inv (linkNodes s0 s.nextId (canon raw)) := by
  have hnd := canon_nodup hraw
  have hfresh := h.tables.fresh
  obtain ⟨f1, f2, f3, f4, f5, f6, f7⟩ := linkNodes_fields s0 s.nextId (canon raw)
  have hnodes := linkNodes_nodes s0 s.nextId (canon raw) (by rw [e7, e6]; exact h.nm_keys) (by rw [e6]; exact h.adj_nodup)
  have hI : Index (· < ·) (linkNodes s0 s.nextId (canon raw)).rev (fun e => e) (linkNodes s0 s.nextId (canon raw)).adj :=
    h.index.push_get hfresh h.id_lt (fun i => by rw [f2, e2, get?_set]) fun n => by rw [linkNodes_adj _ _ _ hnd, e6]
  have hT : IdTables (linkNodes s0 s.nextId (canon raw)).edgeList (linkNodes s0 s.nextId (canon raw)).rev (s.nextId + 1) :=
    h.tables.insert hget (fun k' => by rw [f1, e1, get?_set]) fun i => by rw [f2, e2, get?_set]
  exact {
    rev_of_edge := hT.rev_of_edge
    edge_of_rev := hT.edge_of_rev
    id_lt := by rw [f5, e5]; exact hT.id_lt
    el_nodup := by rw [f1, e1]; exact keys_set_nodup _ _ _ h.el_nodup
    key_canon := by
      intro e id' hh
      rw [f1, e1] at hh
      rcases get?_set_some hh with ⟨rfl, _⟩ | ⟨_, hh⟩
      · exact ⟨hnd, canon_idem raw⟩
      · exact h.key_canon e id' hh
    w_dom := by
      intro id'
      rw [f3, f2, e3, e2, isSome_set, isSome_set, h.w_dom]
    m_dom := by
      intro id'
      rw [f4, f2, e4, e2, isSome_set, isSome_set, h.m_dom]
    adj_sorted := hI.sorted
    adj_iff := hI.mem_iff
    nodes_in := hI.dom
    adj_nodup := hnodes.2
    nm_keys := hnodes.1
    el_sorted := by
      rw [f1, e1, set_of_not_mem _ _ _ hget]
      simp only [List.map_append, List.map_cons, List.map_nil]
      refine List.pairwise_append.mpr ⟨h.el_sorted, by simp, ?_⟩
      intro a ha b hb; simp at hb; subst hb
      obtain ⟨p, hp, rfl⟩ := List.mem_map.mp ha
      exact h.mem_lt hp
    unw_one := by
      rw [f6, f3, e8, e3]
      intro hw id' w hh
      rcases get?_set_some hh with ⟨_, rfl⟩ | ⟨_, hh⟩
      · rw [hw]; rfl
      · exact h.unw_one hw id' w hh }

theorem addEdgeNew_inv (s : Store) (raw : List Nat) (wt : Int) (md : Meta)
    (hraw : raw.Nodup) (hget : get? s.edgeList (canon raw) = none) (h : Inv s) :
    Inv (addEdgeNew s (canon raw) wt md) := by
  unfold addEdgeNew
  exact addEdgeNew_inv_aux s _ raw wt md hraw hget h rfl rfl rfl rfl rfl rfl rfl rfl

theorem addEdge_inv (s : Store) (raw : List Nat) (w : Option Int) (md : Option Meta)
    (hraw : raw.Nodup) (h : Inv s) : Inv (addEdge s raw w md).1 := by
  unfold addEdge
  split
  · exact h
  · split
    · rename_i hget; exact addEdgeNew_inv s raw _ _ hraw hget h
    · rename_i id hget; exact addEdgeOld_inv s _ id _ _ hget h

theorem removeEdgeId_inv (s : Store) (e : Edge) (id : Nat) (hid : get? s.edgeList e = some id) (h : Inv s) :
    Inv (removeEdgeId s e id) := by
  have hrev := h.rev_of_edge _ _ hid
  have hnd : e.Nodup := (h.key_canon _ _ hid).1
  unfold removeEdgeId
  have hI : Index (· < ·) (del s.rev id) (fun e => e) (unlinkNodes s.adj id e) :=
    h.index.erase_get (fun _ _ => Nat.ne_of_lt) hrev (get?_del s.rev id) (unlinkNodes_get s.adj id e hnd)
  have hT := h.tables.erase hid (get?_del s.edgeList e) (get?_del s.rev id)
  exact {
    rev_of_edge := hT.rev_of_edge
    edge_of_rev := hT.edge_of_rev
    id_lt := hT.id_lt
    el_nodup := by simp only [keys_del]; exact (List.filter_sublist).nodup h.el_nodup
    key_canon := fun e' id' hh => h.key_canon e' id' (get?_del_some hh).2
    w_dom := isSome_del_congr h.w_dom id
    m_dom := isSome_del_congr h.m_dom id
    adj_sorted := hI.sorted
    adj_iff := hI.mem_iff
    nodes_in := hI.dom
    adj_nodup := by simp only [unlinkNodes_keys]; exact h.adj_nodup
    nm_keys := by simp only [unlinkNodes_keys]; exact h.nm_keys
    el_sorted := List.Pairwise.sublist ((del_sublist s.edgeList e).map _) h.el_sorted
    unw_one := fun hw id' w hh => h.unw_one hw id' w (get?_del_some hh).2 }

theorem removeEdge_inv (s : Store) (raw : List Nat) (h : Inv s) : Inv (removeEdge s raw).1 := by
  unfold removeEdge
  split
  · exact h
  · rename_i id hid; exact removeEdgeId_inv s _ id hid h

theorem dropNode_inv (s : Store) (n : Node) (hfree : ∀ id e, get? s.rev id = some e → n ∉ e) (h : Inv s) :
    Inv (dropNode s n) := by
  have hI : Index (· < ·) s.rev (fun e => e) (del s.adj n) := h.index.drop hfree (get?_del s.adj n)
  unfold dropNode
  exact { h with
    adj_sorted := hI.sorted, adj_iff := hI.mem_iff, nodes_in := hI.dom
    adj_nodup := by simp only [keys_del]; exact (List.filter_sublist).nodup h.adj_nodup
    nm_keys := by simp only [keys_del]; rw [h.nm_keys] }

end C01
