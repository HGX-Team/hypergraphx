import Hgxv.Proofs.C13Ext
/-! # C13 — degenerate layers of the `size=` / `order=` variant (core Lean only)

The requested layer is EMPTY (no hyperedge of the requested size) or holds ONE hyperedge. -/
namespace C13

theorem chain_nil (detailed : Bool) (n : Nat) (ds : List Draw) :
    chain detailed n [] ds = if n = 0 then .ok ([], ds) else .error .raise := by
  cases n with
  | zero => rfl
  | succ n => rfl

theorem cmMCMC_nil (label : Label) (detailed : Bool) (n : Nat) (ds : List Draw) :
    cmMCMC label detailed n [] ds = if n = 0 then .ok [] else .error .raise := by
  cases n <;> cases label <;> rfl

theorem mhStep_single (detailed : Bool) (f : Edge) (ds : List Draw) (es' : List Edge) (ds' : List Draw)
    (hf : f.Pairwise (· < ·)) (h : mhStep detailed [f] ds = .ok (es', ds')) : es' = [f] := by
  cases ds with
  | nil => simp [mhStep, proposal, pick] at h
  | cons d rest =>
    cases d with
    | coin b => simp [mhStep, proposal, pick] at h
    | idx i j =>
      cases i with
      | succ i => simp [mhStep, proposal, pick] at h
      | zero =>
        cases j with
        | succ j => simp [mhStep, proposal, pick] at h
        | zero =>
          rw [mhStep_diag detailed [f] 0 f rest rfl (NatSort.nodup_of_strict hf)] at h
          have hs : sortNodes (sortNodes f) = f := by
            rw [sortNodes_of_sorted hf, sortNodes_of_sorted hf]
          simp only [hs, Except.ok.injEq, Prod.mk.injEq] at h
          rw [← h.1]; rfl

theorem chain_single (detailed : Bool) (n : Nat) (f : Edge) (ds : List Draw) (es' : List Edge)
    (ds' : List Draw) (hf : f.Pairwise (· < ·)) (h : chain detailed n [f] ds = .ok (es', ds')) :
    es' = [f] := by
  induction n generalizing ds with
  | zero => cases h; rfl
  | succ n ih =>
    simp only [chain] at h
    split at h
    · cases h
    · next es1 ds1 h1 =>
      rw [mhStep_single detailed f ds es1 ds1 hf h1] at h
      exact ih ds1 h

end C13
