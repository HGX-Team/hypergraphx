import Hgxv.Proofs.C19RemoveNode
import Hgxv.Proofs.ALStore
/-! # C19 ↔ C01 … C04, shared part (core Lean only)

The abstract specs `C0x.Spec` and C19's `Content` differ only by the key shape (`(nodes, tags)`) and the metadata value type
(`Option Nat`): `mapKV`, `contentOf`.  `Dyn` is the content invariant every loop of `remove_node` preserves (`WF` + unit weights
when unweighted + canonical keys), so that the per-call lemmas of the link files need no other hypothesis.  The specs loop over
incident KEYS and read weight and metadata from the CURRENT state (`shrinkAddK`, `shrinkOneK`), C19 over the records read before
the loop: equal by `foldl_shrinkAddK`, `foldl_shrinkOneK`.  Then calls with a verdict, the two loop shapes of `remove_node` on a
spec, `filterVia`, and the canonical key forms `CanonH/T/D`. -/
namespace C19
open AL
set_option linter.unusedSectionVars false

/-- metadata of the container models (`attribute ↦ value`, no `None` values) as C19 metadata -/
def mdOf (m : List (Nat × Nat)) : Md := m.map (fun p => (p.1, some p.2))

theorem mdOf_inj {a b : List (Nat × Nat)} (h : mdOf a = mdOf b) : a = b := by
  induction a generalizing b with
  | nil => cases b with
    | nil => rfl
    | cons y ys => simp [mdOf] at h
  | cons x xs ih =>
    cases b with
    | nil => simp [mdOf] at h
    | cons y ys =>
      simp only [mdOf, List.map_cons, List.cons.injEq, Prod.mk.injEq, Option.some.injEq] at h
      obtain ⟨⟨h1, h2⟩, h3⟩ := h
      rw [ih (by simpa [mdOf] using h3)]
      congr 1
      exact Prod.ext h1 h2

theorem mdGet_mdOf (m : List (Nat × Nat)) (a : Nat) : mdGet (mdOf m) a = get? m a := by
  unfold mdGet
  induction m with
  | nil => rfl
  | cons hd t ih =>
    obtain ⟨k, v⟩ := hd
    simp only [mdOf, List.map_cons, get?] at ih ⊢
    by_cases h : k = a
    · simp [h]
    · simp only [h, if_false]; exact ih

/-- a record value `(weight, metadata)` of a container model as a C19 record value -/
def recOf (v : Int × List (Nat × Nat)) : Int × Md := (v.1, mdOf v.2)

section mapkv
variable {α α' β β' : Type} [DecidableEq α] [DecidableEq α']

/-- re-key and re-value an association list -/
def mapKV (kf : α → α') (vf : β → β') (l : List (α × β)) : List (α' × β') := l.map (fun p => (kf p.1, vf p.2))

theorem keys_mapKV (kf : α → α') (vf : β → β') (l : List (α × β)) : keys (mapKV kf vf l) = (keys l).map kf :=
  keys_map_kv kf vf l

theorem keys_nodup_of_mapKV (kf : α → α') (vf : β → β') (l : List (α × β)) (h : (keys (mapKV kf vf l)).Nodup) :
    (keys l).Nodup := keys_nodup_of_map_kv kf vf l h

theorem mapKV_append (kf : α → α') (vf : β → β') (l m : List (α × β)) :
    mapKV kf vf (l ++ m) = mapKV kf vf l ++ mapKV kf vf m := List.map_append

theorem mapKV_filter (kf : α → α') (vf : β → β') (l : List (α × β)) (p : α × β → Bool)
    (q : α' × β' → Bool) (h : ∀ x ∈ l, p x = q (kf x.1, vf x.2)) :
    mapKV kf vf (l.filter p) = (mapKV kf vf l).filter q := by
  induction l with
  | nil => rfl
  | cons x t ih =>
    have hx := h x List.mem_cons_self
    have ih' := ih (fun y hy => h y (List.mem_cons_of_mem _ hy))
    simp only [mapKV, List.map_cons, List.filter_cons] at ih' ⊢
    rw [← hx]
    split
    · simp [ih']
    · exact ih'

theorem keys_filter_mapKV (vf : β → β') (l : List (α × β)) (q : α × β' → Bool) (p : α → Bool)
    (h : ∀ x ∈ l, q (x.1, vf x.2) = p x.1) :
    ((mapKV (fun k => k) vf l).filter q).map (·.1) = (keys l).filter p := by
  rw [← mapKV_filter (fun k => k) vf l (fun x => p x.1) q (fun x hx => (h x hx).symm)]
  exact (keys_mapKV _ vf _).trans ((List.map_id' _).trans (keys_filter_key p l))

variable (kf : α → α') (vf : β → β') (hinj : ∀ a b, kf a = kf b → a = b)
include hinj

theorem get?_mapKV (l : List (α × β)) (k : α) : get? (mapKV kf vf l) (kf k) = (get? l k).map vf :=
  get?_map_kv kf vf hinj l k

theorem set_mapKV (l : List (α × β)) (k : α) (v : β) :
    AL.set (mapKV kf vf l) (kf k) (vf v) = mapKV kf vf (AL.set l k v) := set_map_kv kf vf hinj l k v

theorem erase_mapKV (l : List (α × β)) (k : α) :
    erase (mapKV kf vf l) (kf k) = mapKV kf vf (erase l k) := erase_map_kv kf vf hinj l k

theorem keys_mapKV_nodup (l : List (α × β)) (h : (keys l).Nodup) : (keys (mapKV kf vf l)).Nodup :=
  keys_map_kv_nodup kf vf hinj l h

end mapkv

section dyn
variable {κ ω : Type} [DecidableEq κ] [Add ω] (ops : KeyOps κ)

/-- an unweighted container stores the unit weight `u` everywhere (class invariant of C01-C04) -/
def UnitW (u : ω) (c : Content κ ω) : Prop := c.weighted = false → ∀ e ∈ c.edges, e.2.1 = u

/-- the content invariant of the loops of `remove_node`: well formed, unit weights when unweighted, every key in
canonical form (`Canon`, a parameter: sorted node tuple(s), for `DirectedHypergraph` also disjoint sides) -/
structure Dyn (u : ω) (Canon : κ → Prop) (c : Content κ ω) : Prop where
  wf : WF ops c
  unitw : UnitW u c
  canon : ∀ e ∈ c.edges, Canon e.1

/-- `shrink` keeps canonical keys canonical -/
def CanonShrink (Canon : κ → Prop) : Prop := ∀ k n k', Canon k → ops.shrink k n = some k' → Canon k'

theorem addEdge_dyn (u : ω) (Canon : κ → Prop) (c : Content κ ω) (k : κ) (w : ω) (md : Md)
    (h : Dyn ops u Canon c) (hsub : ∀ m ∈ ops.nodesOf k, m ∈ keys c.nodes) (hw : c.weighted = false → w = u)
    (hk : Canon k) : Dyn ops u Canon (addEdge ops c k w md) := by
  have hnd := addEdge_keys_nodup ops c k w md h.wf.keysNodup
  have hget : ∀ e ∈ (addEdge ops c k w md).edges,
      (k = e.1 ∧ mergeInto c.weighted (get? c.edges k) (k, (w, md)) = some e.2) ∨ (k ≠ e.1 ∧ e ∈ c.edges) := by
    intro e he
    have h1 := (mem_iff_get? _ hnd e.1 e.2).mp he
    rw [addEdge_get?] at h1
    by_cases hke : k = e.1
    · rw [if_pos hke] at h1; exact Or.inl ⟨hke, h1⟩
    · rw [if_neg hke] at h1; exact Or.inr ⟨hke, mem_of_get? _ _ _ h1⟩
  refine ⟨⟨?_, hnd, ?_⟩, ?_, ?_⟩
  · rw [addEdge_nodes ops c k w md hsub]; exact h.wf.nodesNodup
  · intro e he m hm
    rw [addEdge_nodes ops c k w md hsub]
    rcases hget e he with ⟨hke, _⟩ | ⟨_, hmem⟩
    · exact hsub m (hke ▸ hm)
    · exact h.wf.closed e hmem m hm
  · intro hwt e he
    rw [addEdge_weighted] at hwt
    rcases hget e he with ⟨hke, hm⟩ | ⟨_, hmem⟩
    · rw [hwt] at hm
      cases hg : get? c.edges k with
      | none =>
        rw [hg] at hm
        simp only [mergeInto, Option.some.injEq] at hm
        rw [← hm]; exact hw hwt
      | some v =>
        rw [hg] at hm
        simp only [mergeInto, Bool.false_eq_true, if_false, Option.some.injEq] at hm
        rw [← hm]
        exact h.unitw hwt (k, v) (mem_of_get? _ _ _ hg)
    · exact h.unitw hwt e hmem
  · intro e he
    rcases hget e he with ⟨hke, _⟩ | ⟨_, hmem⟩
    · exact hke ▸ hk
    · exact h.canon e hmem

theorem removeEdge_dyn (u : ω) (Canon : κ → Prop) (c : Content κ ω) (k : κ) (h : Dyn ops u Canon c) :
    Dyn ops u Canon (removeEdge c k) := by
  have hmem : ∀ e ∈ (removeEdge c k).edges, e ∈ c.edges :=
    fun e he => ((mem_erase _ _ h.wf.keysNodup e).mp he).1
  exact ⟨⟨h.wf.nodesNodup, keys_erase_nodup _ _ h.wf.keysNodup, fun e he => h.wf.closed e (hmem e he)⟩,
    fun hw e he => h.unitw hw e (hmem e he), fun e he => h.canon e (hmem e he)⟩

theorem dropNode_dyn (u : ω) (Canon : κ → Prop) (c : Content κ ω) (n : Node) (h : Dyn ops u Canon c)
    (hfree : ∀ e ∈ c.edges, n ∉ ops.nodesOf e.1) : Dyn ops u Canon (dropNode c n) := by
  refine ⟨⟨keys_erase_nodup _ _ h.wf.nodesNodup, h.wf.keysNodup, ?_⟩, h.unitw, h.canon⟩
  intro e he m hm
  have h1 := h.wf.closed e he m hm
  obtain ⟨x, hx, hxm⟩ := List.mem_map.mp h1
  have : x ∈ erase c.nodes n := by
    rw [mem_erase _ _ h.wf.nodesNodup]
    refine ⟨hx, ?_⟩
    intro hxn
    have hmn : m = n := by rw [← hxm]; exact hxn
    exact hfree e he (hmn ▸ hm)
  exact List.mem_map.mpr ⟨x, this, hxm⟩

/-- the spec-style loop bodies: weight and metadata of the incident key are read from the current state -/
def shrinkAddK (n : Node) (c : Content κ ω) (k : κ) : Content κ ω :=
  match get? c.edges k with
  | none => c
  | some v => shrinkAdd ops n c (k, v)

def shrinkOneK (n : Node) (c : Content κ ω) (k : κ) : Content κ ω :=
  match get? c.edges k with
  | none => c
  | some v => shrinkOne ops n c (k, v)

theorem shrinkAdd_dyn (hlaw : Lawful ops) (u : ω) (Canon : κ → Prop) (hcs : CanonShrink ops Canon) (n : Node)
    (c : Content κ ω) (e : κ × (ω × Md)) (he : e ∈ c.edges) (h : Dyn ops u Canon c) :
    Dyn ops u Canon (shrinkAdd ops n c e) := by
  unfold shrinkAdd
  split
  · exact h
  · rename_i k' hk'
    refine addEdge_dyn ops u Canon c k' e.2.1 e.2.2 h ?_ (fun hw => h.unitw hw e he) (hcs _ _ _ (h.canon e he) hk')
    intro m hm
    exact h.wf.closed e he m ((hlaw _ _ _ hk' m).mp hm).1

theorem shrinkOne_dyn (hlaw : Lawful ops) (u : ω) (Canon : κ → Prop) (hcs : CanonShrink ops Canon) (n : Node)
    (c : Content κ ω) (e : κ × (ω × Md)) (he : e ∈ c.edges) (h : Dyn ops u Canon c) :
    Dyn ops u Canon (shrinkOne ops n c e) := by
  unfold shrinkOne
  split
  · exact removeEdge_dyn ops u Canon c e.1 h
  · rename_i k' hk'
    refine addEdge_dyn ops u Canon _ k' e.2.1 e.2.2 (removeEdge_dyn ops u Canon c e.1 h) ?_
      (fun hw => h.unitw hw e he) (hcs _ _ _ (h.canon e he) hk')
    intro m hm
    exact h.wf.closed e he m ((hlaw _ _ _ hk' m).mp hm).1

theorem shrinkAddK_dyn (hlaw : Lawful ops) (u : ω) (Canon : κ → Prop) (hcs : CanonShrink ops Canon) (n : Node)
    (c : Content κ ω) (k : κ) (h : Dyn ops u Canon c) : Dyn ops u Canon (shrinkAddK ops n c k) := by
  unfold shrinkAddK
  split
  · exact h
  · rename_i v hv
    exact shrinkAdd_dyn ops hlaw u Canon hcs n c (k, v) (mem_of_get? _ _ _ hv) h

theorem shrinkOneK_dyn (hlaw : Lawful ops) (u : ω) (Canon : κ → Prop) (hcs : CanonShrink ops Canon) (n : Node)
    (c : Content κ ω) (k : κ) (h : Dyn ops u Canon c) : Dyn ops u Canon (shrinkOneK ops n c k) := by
  unfold shrinkOneK
  split
  · exact h
  · rename_i v hv
    exact shrinkOne_dyn ops hlaw u Canon hcs n c (k, v) (mem_of_get? _ _ _ hv) h

/-- re-inserting a shrunk key does not touch the records of keys that contain `n` -/
theorem shrinkAdd_get?_in (hlaw : Lawful ops) (n : Node) (c : Content κ ω) (e : κ × (ω × Md)) (k2 : κ)
    (hk2 : n ∈ ops.nodesOf k2) : get? (shrinkAdd ops n c e).edges k2 = get? c.edges k2 := by
  unfold shrinkAdd
  split
  · rfl
  · rename_i k' hk'
    rw [addEdge_get?]
    have : k' ≠ k2 := by
      intro hkk; subst hkk
      exact ((hlaw _ _ _ hk' n).mp hk2).2 rfl
    rw [if_neg this]

theorem shrinkAddK_get?_in (hlaw : Lawful ops) (n : Node) (c : Content κ ω) (k k2 : κ)
    (hk2 : n ∈ ops.nodesOf k2) : get? (shrinkAddK ops n c k).edges k2 = get? c.edges k2 := by
  unfold shrinkAddK
  split
  · rfl
  · exact shrinkAdd_get?_in ops hlaw n c _ k2 hk2

theorem foldl_shrinkAdd_get?_in (hlaw : Lawful ops) (n : Node) (l : List (κ × (ω × Md))) (c : Content κ ω) (k2 : κ)
    (hk2 : n ∈ ops.nodesOf k2) : get? (l.foldl (shrinkAdd ops n) c).edges k2 = get? c.edges k2 := by
  induction l generalizing c with
  | nil => rfl
  | cons e l ih => simp only [List.foldl_cons]; rw [ih, shrinkAdd_get?_in ops hlaw n c e k2 hk2]

theorem foldl_shrinkAdd_dyn (hlaw : Lawful ops) (u : ω) (Canon : κ → Prop) (hcs : CanonShrink ops Canon) (n : Node)
    (l : List (κ × (ω × Md))) (c : Content κ ω) (hn : ∀ e ∈ l, n ∈ ops.nodesOf e.1)
    (hrec : ∀ e ∈ l, get? c.edges e.1 = some e.2) (h : Dyn ops u Canon c) :
    Dyn ops u Canon (l.foldl (shrinkAdd ops n) c) := by
  induction l generalizing c with
  | nil => exact h
  | cons e l ih =>
    apply ih _ (fun e' he' => hn e' (List.mem_cons_of_mem _ he'))
    · intro e' he'
      rw [shrinkAdd_get?_in ops hlaw n c e e'.1 (hn e' (List.mem_cons_of_mem _ he'))]
      exact hrec e' (List.mem_cons_of_mem _ he')
    · exact shrinkAdd_dyn ops hlaw u Canon hcs n c e (mem_of_get? _ _ _ (hrec e List.mem_cons_self)) h

/-- batch containers (`Hypergraph`, `DirectedHypergraph`): the re-insertion loop over the incident keys, reading the
current state, is C19's loop over the records read before the loop -/
theorem foldl_shrinkAddK (hlaw : Lawful ops) (n : Node) (l : List (κ × (ω × Md))) (c : Content κ ω)
    (hn : ∀ e ∈ l, n ∈ ops.nodesOf e.1) (hrec : ∀ e ∈ l, get? c.edges e.1 = some e.2) :
    (l.map (·.1)).foldl (shrinkAddK ops n) c = l.foldl (shrinkAdd ops n) c := by
  induction l generalizing c with
  | nil => rfl
  | cons e l ih =>
    simp only [List.map_cons, List.foldl_cons]
    have h1 : shrinkAddK ops n c e.1 = shrinkAdd ops n c e := by
      unfold shrinkAddK; rw [hrec e List.mem_cons_self]
    rw [h1]
    apply ih _ (fun e' he' => hn e' (List.mem_cons_of_mem _ he'))
    intro e' he'
    rw [shrinkAdd_get?_in ops hlaw n c e e'.1 (hn e' (List.mem_cons_of_mem _ he'))]
    exact hrec e' (List.mem_cons_of_mem _ he')

/-- record-by-record containers (`TemporalHypergraph`, `MultiplexHypergraph`): same statement -/
theorem foldl_shrinkOneK (hlaw : Lawful ops) (n : Node) (l : List (κ × (ω × Md))) (c : Content κ ω)
    (hn : ∀ e ∈ l, n ∈ ops.nodesOf e.1) (hnd : (keys c.edges).Nodup) (hdist : (l.map (·.1)).Nodup)
    (hrec : ∀ e ∈ l, get? c.edges e.1 = some e.2) :
    (l.map (·.1)).foldl (shrinkOneK ops n) c = l.foldl (shrinkOne ops n) c := by
  induction l generalizing c with
  | nil => rfl
  | cons e l ih =>
    simp only [List.map_cons, List.foldl_cons]
    have h1 : shrinkOneK ops n c e.1 = shrinkOne ops n c e := by
      unfold shrinkOneK; rw [hrec e List.mem_cons_self]
    rw [h1]
    simp only [List.map_cons, List.nodup_cons] at hdist
    apply ih _ (fun e' he' => hn e' (List.mem_cons_of_mem _ he')) (shrinkOne_keys_nodup ops n c e hnd) hdist.2
    intro e' he'
    rw [shrinkOne_get?_in ops hlaw n c e e'.1 (hn e' (List.mem_cons_of_mem _ he')) hnd]
    have : e.1 ≠ e'.1 := by
      intro hee
      exact hdist.1 (hee ▸ List.mem_map.mpr ⟨e', he', rfl⟩)
    rw [if_neg this]
    exact hrec e' (List.mem_cons_of_mem _ he')

/-- after the loop of `remove_node(keep_edges=True)` no key contains `n` -/
theorem foldl_shrinkOne_free (hlaw : Lawful ops) (c : Content κ ω) (hwf : WF ops c) (n : Node) :
    ∀ e ∈ ((incident ops c n).foldl (shrinkOne ops n) c).edges, n ∉ ops.nodesOf e.1 := by
  intro e he hmem
  have hnd := foldl_shrinkOne_keys_nodup ops n (incident ops c n) c hwf.keysNodup
  have h1 := (mem_iff_get? _ hnd e.1 e.2).mp he
  rw [foldl_shrinkOne_get?_in ops hlaw n _ c e.1 hmem hwf.keysNodup] at h1
  split at h1
  · cases h1
  · rename_i hni
    have : e.1 ∈ (incident ops c n).map (·.1) :=
      List.mem_map.mpr ⟨(e.1, e.2), (mem_incident ops c n _).mpr ⟨mem_of_get? _ _ _ h1, hmem⟩, rfl⟩
    exact hni this

end dyn

/-! ### the content of a container spec

The four abstract specs hold a weighted flag, a node table and a record table under keys of their own; `ofSpec0x a` is
`contentOf key0x a.weighted a.nodes a.edges` by unfolding (`a.recs` for C03; the key map of C02 is the identity). -/
section content
variable {K : Type} [DecidableEq K]

def contentOf (kf : K → Key) (w : Bool) (ns : List (Node × List (Nat × Nat))) (es : List (K × (Int × List (Nat × Nat)))) :
    Content Key Int :=
  { weighted := w, nodes := mapKV (fun n => n) mdOf ns, edges := mapKV kf recOf es }

variable (kf : K → Key) {w : Bool} {ns : List (Node × List (Nat × Nat))} {es : List (K × (Int × List (Nat × Nat)))}

theorem contentOf_get_node (n : Node) : get? (contentOf kf w ns es).nodes n = (get? ns n).map mdOf :=
  get?_mapKV (fun n => n) mdOf (fun _ _ h => h) ns n

theorem contentOf_eraseNode (n : Node) : contentOf kf w (erase ns n) es = dropNode (contentOf kf w ns es) n := by
  simp only [contentOf, dropNode]
  congr 1
  exact (erase_mapKV (fun n => n) mdOf (fun _ _ h => h) ns n).symm

theorem contentOf_get_edge (hkf : ∀ a b, kf a = kf b → a = b) (k : K) :
    get? (contentOf kf w ns es).edges (kf k) = (get? es k).map recOf :=
  get?_mapKV kf recOf hkf es k

theorem contentOf_eraseEdge (hkf : ∀ a b, kf a = kf b → a = b) (k : K) :
    contentOf kf w ns (erase es k) = removeEdge (contentOf kf w ns es) (kf k) := by
  simp only [contentOf, removeEdge]
  congr 1
  exact (erase_mapKV kf recOf hkf es k).symm

/-- node table: a node appears with `{}` (what every container's `add_node(node)` without metadata does) -/
def touchT (t : List (Node × List (Nat × Nat))) (n : Node) : List (Node × List (Nat × Nat)) :=
  if (get? t n).isSome then t else AL.set t n []

/-- the value of a record after `add_edge`: fresh, or merged into the old one -/
def mergeT (wtd : Bool) (old : Option (Int × List (Nat × Nat))) (w : Int) (md : List (Nat × Nat)) :
    Int × List (Nat × Nat) :=
  match old with
  | none => (w, md)
  | some (w0, _) => (if wtd then w0 + w else w0, md)

theorem mapKV_touchT (t : List (Node × List (Nat × Nat))) (n : Node) :
    mapKV (fun n => n) mdOf (touchT t n) = touchNode (mapKV (fun n => n) mdOf t) n := by
  unfold touchT touchNode
  rw [get?_mapKV (fun n => n) mdOf (fun _ _ h => h) t n]
  cases hgt : get? t n with
  | some v => simp
  | none =>
    simp only [Option.map_none, Option.isSome_none, Bool.false_eq_true, if_false]
    rw [set_of_not_mem _ _ _ hgt, mapKV_append]
    rfl

theorem mapKV_touchT_fold (ns : List Node) (t : List (Node × List (Nat × Nat))) :
    mapKV (fun n => n) mdOf (ns.foldl touchT t) = touchNodes (mapKV (fun n => n) mdOf t) ns := by
  induction ns generalizing t with
  | nil => rfl
  | cons n ns ih =>
    simp only [List.foldl_cons, touchNodes] at ih ⊢
    rw [ih, mapKV_touchT]

/-- `add_edge` on the tables: the record is set to the merged value, the members of a NEW key are touched -/
theorem contentOf_add (hkf : ∀ a b, kf a = kf b → a = b) (ops : KeyOps Key) {mem : K → List Nat}
    (hmem : ∀ k, ops.nodesOf (kf k) = mem k) (k : K) (wt : Int) (md : List (Nat × Nat)) :
    contentOf kf w (if (get? es k).isSome then ns else (mem k).foldl touchT ns)
        (AL.set es k (mergeT w (get? es k) wt md)) =
      addEdge ops (contentOf kf w ns es) (kf k) wt (mdOf md) := by
  unfold addEdge
  rw [contentOf_get_edge kf hkf]
  cases hg : get? es k with
  | none =>
    simp only [Option.map_none, Option.isSome_none, Bool.false_eq_true, if_false, mergeT, addEdgeNew, contentOf,
      set_of_not_mem _ _ _ hg, mapKV_append, mapKV_touchT_fold, hmem]
    rfl
  | some v =>
    obtain ⟨w0, md0⟩ := v
    simp only [Option.map_some, Option.isSome_some, if_true, mergeT, addEdgeOld, contentOf]
    congr 1
    exact (set_mapKV kf recOf hkf es k _).symm

/-- the same for specs that touch the members of an existing key as well (a no-op on well-formed content) -/
theorem contentOf_add_touch (hkf : ∀ a b, kf a = kf b → a = b) (ops : KeyOps Key) {mem : K → List Nat}
    (hmem : ∀ k, ops.nodesOf (kf k) = mem k) (k : K) (wt : Int) (md : List (Nat × Nat)) {u : Int} {Canon : Key → Prop}
    (h : Dyn ops u Canon (contentOf kf w ns es)) :
    contentOf kf w ((mem k).foldl touchT ns) (AL.set es k (mergeT w (get? es k) wt md)) =
      addEdge ops (contentOf kf w ns es) (kf k) wt (mdOf md) := by
  rw [← contentOf_add kf hkf ops hmem]
  cases hg : get? es k with
  | none => rfl
  | some v =>
    have hmemE : (kf k, recOf v) ∈ (contentOf kf w ns es).edges :=
      mem_of_get? _ _ _ (by rw [contentOf_get_edge kf hkf, hg]; rfl)
    have hnoop := touchNodes_noop _ _ (fun m hm => h.wf.closed _ hmemE m (by rw [hmem]; exact hm))
    simp only [Option.isSome_some, if_true, contentOf, mapKV_touchT_fold]
    rw [show touchNodes (mapKV (fun n => n) mdOf ns) (mem k) = mapKV (fun n => n) mdOf ns from hnoop]

/-- containers whose adjacency walk covers all nodes of a key (`first = nodesOf`): the incident keys, in table order -/
theorem incident_contentOf (ops : KeyOps Key) (hfirst : ∀ k, ops.first k = ops.nodesOf k) (n : Node) :
    (incident ops (contentOf kf w ns es) n).map (·.1) =
      ((keys es).filter (fun k => (ops.nodesOf (kf k)).contains n)).map kf := by
  have h2 : (contentOf kf w ns es).edges.filter
      (fun e => !(ops.first e.1).contains n && (ops.nodesOf e.1).contains n) = [] :=
    List.filter_eq_nil_iff.mpr fun e _ => by simp [hfirst]
  unfold incident
  rw [h2, List.append_nil]
  simp only [contentOf, mapKV, keys, List.filter_map, List.map_map]
  congr 1
  apply List.filter_congr
  intro p _
  simp [hfirst]

/-- `Dyn` of a content from the well-formedness of the spec's tables (`AL.TabWF`, what each container proves of `abs s`);
`hmem`, `hc`: how C19's key reads the container's members and canonical form -/
theorem dyn_contentOf (ops : KeyOps Key) (u : Int) (Canon : Key → Prop) (hkf : ∀ a b, kf a = kf b → a = b)
    {mem : K → List Nat} {Canon0 : K → Prop} (h : TabWF mem Canon0 u w ns es)
    (hmem : ∀ k, ops.nodesOf (kf k) = mem k) (hc : ∀ k, Canon0 k → Canon (kf k)) :
    Dyn ops u Canon (contentOf kf w ns es) := by
  have hm : ∀ e ∈ (contentOf kf w ns es).edges, ∃ p ∈ es, e = (kf p.1, recOf p.2) := by
    intro e he
    simp only [contentOf, mapKV, List.mem_map] at he
    obtain ⟨p, hp, rfl⟩ := he
    exact ⟨p, hp, rfl⟩
  refine ⟨⟨keys_mapKV_nodup (fun n => n) mdOf (fun _ _ e => e) _ h.nnd, keys_mapKV_nodup kf recOf hkf _ h.knd, ?_⟩, ?_, ?_⟩
  · intro e he m hm'
    obtain ⟨p, hp, rfl⟩ := hm e he
    simp only [contentOf, keys_mapKV, List.map_id']
    exact (h.key p hp).2 m (hmem p.1 ▸ hm')
  · intro hw e he
    obtain ⟨p, hp, rfl⟩ := hm e he
    exact h.unw hw p hp
  · intro e he
    obtain ⟨p, hp, rfl⟩ := hm e he
    exact hc _ (h.key p hp).1

end content

/-! ### calls with a verdict

The container models return a state and a verdict (`ok` / `rej`, a type of their own in each model, hence the
parameters `ok rej : O`). -/
section verdict
variable {S A O C : Type} {ok rej : O}

/-- a call that, depending on a test `b`, is accepted with a result of content `c'` or is rejected and leaves the state
`a`: the three things the link theorems say about it -/
theorem verdict {ofS : A → C} {R : A × O} {a : A} {b : Bool} {c' : C}
    (h : (b = true → R.2 = ok ∧ ofS R.1 = c') ∧ (b = false → R = (a, rej))) (hne : rej ≠ ok) :
    (R.2 = ok ↔ b = true) ∧ (R.2 = ok → ofS R.1 = c') ∧ (R.2 = rej → R.1 = a) := by
  cases b with
  | true =>
    obtain ⟨h1, h2⟩ := h.1 rfl
    exact ⟨⟨fun _ => rfl, fun _ => h1⟩, fun _ => h2, fun hr => absurd (hr.symm.trans h1) hne⟩
  | false =>
    have hR := h.2 rfl
    have h2 : R.2 = rej := by rw [hR]
    exact ⟨⟨fun hok => absurd (h2.symm.trans hok) hne, fun hb => Bool.noConfusion hb⟩,
      fun hok => absurd (h2.symm.trans hok) hne, fun _ => by rw [hR]⟩

theorem verdict_store [DecidableEq O] {abs : S → A} {Inv : S → Prop} {ofS : A → C} {r : S × O} {R : A × O} {a : A}
    {b : Bool} {c' : C} (hsim : abs r.1 = R.1 ∧ r.2 = R.2) (hinv : Inv r.1)
    (h : (b = true → R.2 = ok ∧ ofS R.1 = c') ∧ (b = false → R = (a, rej))) (hne : rej ≠ ok) :
    (decide (r.2 = ok) = true ↔ b = true) ∧ (decide (r.2 = ok) = true → Inv r.1 ∧ ofS (abs r.1) = c') := by
  obtain ⟨v1, v2, _⟩ := verdict h hne
  rw [decide_eq_true_iff, hsim.1, hsim.2]
  exact ⟨v1, fun hok => ⟨hinv, v2 hok⟩⟩

/-- a verdict-threaded loop `seq` of a spec (given by its two equations) is the fold on the content when every call is
accepted and is the content step `g` (under the invariant `I` and the per-key condition `P`, both maintained) -/
theorem seq_sim {K : Type} (ofS : A → C) (f : A → K → A × O) (seq : A → List K → A × O)
    (hnil : ∀ s, seq s [] = (s, ok)) (hcons : ∀ s k ks, (f s k).2 = ok → seq s (k :: ks) = seq (f s k).1 ks)
    (g : C → K → C) (I : C → Prop) (P : C → K → Prop)
    (hstep : ∀ a k, I (ofS a) → P (ofS a) k → (f a k).2 = ok ∧ ofS (f a k).1 = g (ofS a) k)
    (hI : ∀ c k, I c → P c k → I (g c k))
    (hP : ∀ c k k', I c → P c k → k' ≠ k → P c k' → P (g c k) k') :
    ∀ (ks : List K) (a : A), ks.Nodup → I (ofS a) → (∀ k ∈ ks, P (ofS a) k) →
      ∃ a', seq a ks = (a', ok) ∧ ofS a' = ks.foldl g (ofS a) ∧ I (ofS a') := by
  intro ks
  induction ks with
  | nil => intro a _ hi _; exact ⟨a, hnil a, rfl, hi⟩
  | cons k ks ih =>
    intro a hnd hi hp
    obtain ⟨hnk, hnd⟩ := List.nodup_cons.mp hnd
    have hpk := hp k List.mem_cons_self
    obtain ⟨h1, h2⟩ := hstep a k hi hpk
    rw [hcons a k ks h1, List.foldl_cons, ← h2]
    apply ih _ hnd
    · rw [h2]; exact hI _ k hi hpk
    · intro k' hk'
      rw [h2]
      exact hP _ k k' hi hpk (fun e => hnk (e ▸ hk')) (hp k' (List.mem_cons_of_mem _ hk'))

end verdict

section shapes
variable {κ ω : Type} [DecidableEq κ] [Add ω] {A K O : Type} {ok : O}

/-- batch shape (`Hypergraph`, `DirectedHypergraph`): all re-insertions (when `keep`), then all removals, over the spec's
incident keys `ks`.  The spec contributes its re-insertion call `re` and removal call `rm` on spec keys, the verdict-threaded
loops over them (by their two equations) and that either call on a present key is accepted and is the content step (`I`: a
further invariant of the re-insertion).  Then both loops are accepted, the incident keys are still present in between
(`C01.Spec.removeEdges` checks that first), and the content left, with the node dropped, is `removeNode ops keep`. -/
theorem batch_sim {ops : KeyOps κ} {u : ω} {Canon : κ → Prop} {n : Node} {ofS : A → Content κ ω} {kf : K → κ}
    (re rm : A → K → A × O) (seqRe seqRm : A → List K → A × O)
    (seqRe_nil : ∀ s, seqRe s [] = (s, ok))
    (seqRe_cons : ∀ s k ks, (re s k).2 = ok → seqRe s (k :: ks) = seqRe (re s k).1 ks)
    (seqRm_nil : ∀ s, seqRm s [] = (s, ok))
    (seqRm_cons : ∀ s k ks, (rm s k).2 = ok → seqRm s (k :: ks) = seqRm (rm s k).1 ks)
    (I : Content κ ω → Prop) (I_step : ∀ c k, I c → I (shrinkAddK ops n c k))
    (re_ok : ∀ a k, Dyn ops u Canon (ofS a) → I (ofS a) → (get? (ofS a).edges (kf k)).isSome = true →
      (re a k).2 = ok ∧ ofS (re a k).1 = shrinkAddK ops n (ofS a) (kf k))
    (rm_ok : ∀ a k, Dyn ops u Canon (ofS a) → (get? (ofS a).edges (kf k)).isSome = true →
      (rm a k).2 = ok ∧ ofS (rm a k).1 = removeEdge (ofS a) (kf k))
    (hlaw : Lawful ops) (hb : ops.batch = true) (hcs : CanonShrink ops Canon)
    (hkf : ∀ a b, kf a = kf b → a = b) (a : A) (ks : List K)
    (hks : (incident ops (ofS a) n).map (·.1) = ks.map kf) (hd : Dyn ops u Canon (ofS a)) (keep : Bool)
    (hi : keep = true → I (ofS a)) :
    ∃ a1 a2, (if keep = true then seqRe a ks else (a, ok)) = (a1, ok) ∧
      (∀ k ∈ ks, (get? (ofS a1).edges (kf k)).isSome = true) ∧ Dyn ops u Canon (ofS a1) ∧
      seqRm a1 ks = (a2, ok) ∧ Dyn ops u Canon (ofS a2) ∧
      dropNode (ofS a2) n = removeNode ops keep (ofS a) n := by
  have hrec := incident_rec ops (ofS a) n hd.wf.keysNodup
  have hinc_n : ∀ e ∈ incident ops (ofS a) n, n ∈ ops.nodesOf e.1 := fun e he => ((mem_incident ops _ n e).mp he).2
  have hnd : ks.Nodup :=
    List.Pairwise.of_map kf (fun a b hab heq => hab (by rw [heq])) (hks ▸ incident_keys_nodup ops (ofS a) n hd.wf.keysNodup)
  have hes : ∀ k ∈ ks, (get? (ofS a).edges (kf k)).isSome = true ∧ n ∈ ops.nodesOf (kf k) := by
    intro k hk
    have hm : kf k ∈ (incident ops (ofS a) n).map (·.1) := hks ▸ List.mem_map.mpr ⟨k, hk, rfl⟩
    obtain ⟨e, he, hek⟩ := List.mem_map.mp hm
    rw [← hek]; exact ⟨by rw [hrec e he]; rfl, hinc_n e he⟩
  -- phase 1 is `seq_sim` under `Dyn ∧ I`: a re-inserted key never contains `n`, so the incident keys stay present for phase 2
  have hphase1 : ∃ a1, (if keep = true then seqRe a ks else (a, ok)) = (a1, ok) ∧
      ofS a1 = (if keep = true then (incident ops (ofS a) n).foldl (shrinkAdd ops n) (ofS a) else ofS a) ∧
      Dyn ops u Canon (ofS a1) := by
    cases keep with
    | false => exact ⟨a, rfl, rfl, hd⟩
    | true =>
      obtain ⟨a1, e1, e2, e3⟩ := seq_sim ofS re seqRe seqRe_nil seqRe_cons
        (fun c k => shrinkAddK ops n c (kf k)) (fun c => Dyn ops u Canon c ∧ I c)
        (fun c k => (get? c.edges (kf k)).isSome = true ∧ n ∈ ops.nodesOf (kf k))
        (fun a' k hi hp => re_ok a' k hi.1 hi.2 hp.1)
        (fun c k hi _ => ⟨shrinkAddK_dyn ops hlaw u Canon hcs n c (kf k) hi.1, I_step c (kf k) hi.2⟩)
        (fun c k k' _ _ _ hp' => ⟨by rw [shrinkAddK_get?_in ops hlaw n c (kf k) (kf k') hp'.2]; exact hp'.1, hp'.2⟩)
        ks a hnd ⟨hd, hi rfl⟩ hes
      refine ⟨a1, e1, ?_, e3.1⟩
      rw [e2, ← List.foldl_map (f := kf) (g := shrinkAddK ops n), ← hks]
      exact foldl_shrinkAddK ops hlaw n _ _ hinc_n hrec
  obtain ⟨a1, p1, p2, p3⟩ := hphase1
  have hes1 : ∀ k ∈ ks, (get? (ofS a1).edges (kf k)).isSome = true := by
    intro k hk
    rw [p2]
    cases keep with
    | false => exact (hes k hk).1
    | true =>
      simp only [if_true]
      rw [foldl_shrinkAdd_get?_in ops hlaw n _ _ (kf k) (hes k hk).2]
      exact (hes k hk).1
  obtain ⟨a2, q1, q2, q3⟩ := seq_sim ofS rm seqRm seqRm_nil seqRm_cons
    (fun c k => removeEdge c (kf k)) (Dyn ops u Canon) (fun c k => (get? c.edges (kf k)).isSome = true)
    (fun a' k hi hp => rm_ok a' k hi hp)
    (fun c k hi _ => removeEdge_dyn ops u Canon c (kf k) hi)
    (fun c k k' _ _ hne hp' => by
      simp only [removeEdge]
      rw [get?_erase_ne _ _ _ (fun e => hne (hkf _ _ e).symm)]
      exact hp')
    ks a1 hnd p3 hes1
  refine ⟨a1, a2, p1, hes1, p3, q1, q3, ?_⟩
  rw [q2, ← List.foldl_map (f := kf) (g := removeEdge), ← hks, List.foldl_map, p2]
  unfold removeNode keepLoop
  rw [hb]
  cases keep with
  | false => rfl
  | true => rfl

/-- record-by-record shape (`TemporalHypergraph`, `MultiplexHypergraph`): one spec step per incident key that is the
content's `shrinkOneK` (or, without `keep`, the removal) -/
theorem each_sim {ops : KeyOps κ} {u : ω} {Canon : κ → Prop} {n : Node} {ofS : A → Content κ ω} {kf : K → κ}
    (hlaw : Lawful ops) (hb : ops.batch = false) (hcs : CanonShrink ops Canon) (keep : Bool) (step : A → K → A)
    (hstep : ∀ a k, Dyn ops u Canon (ofS a) →
      ofS (step a k) = if keep = true then shrinkOneK ops n (ofS a) (kf k) else removeEdge (ofS a) (kf k))
    (a : A) (ks : List K) (hks : (incident ops (ofS a) n).map (·.1) = ks.map kf) (hd : Dyn ops u Canon (ofS a)) :
    dropNode (ofS (ks.foldl step a)) n = removeNode ops keep (ofS a) n ∧ Dyn ops u Canon (ofS (ks.foldl step a)) := by
  obtain ⟨f2, f1⟩ := ListLib.foldl_sim (abs := ofS) (I := fun a => Dyn ops u Canon (ofS a)) step
    (fun c k => if keep = true then shrinkOneK ops n c (kf k) else removeEdge c (kf k))
    (fun a k hi => ⟨hstep a k hi ▸ (by
      cases keep with
      | true => exact shrinkOneK_dyn ops hlaw u Canon hcs n _ (kf k) hi
      | false => exact removeEdge_dyn ops u Canon _ (kf k) hi), hstep a k hi⟩)
    ks a hd
  refine ⟨?_, f2⟩
  rw [f1]
  unfold removeNode keepLoop
  rw [hb]
  cases keep with
  | true =>
    simp only [if_true, Bool.false_eq_true, if_false]
    rw [← List.foldl_map (f := kf) (g := shrinkOneK ops n), ← hks,
      foldl_shrinkOneK ops hlaw n _ _ (fun e he => ((mem_incident ops _ n e).mp he).2) hd.wf.keysNodup
        (incident_keys_nodup ops (ofS a) n hd.wf.keysNodup) (incident_rec ops (ofS a) n hd.wf.keysNodup)]
  | false =>
    simp only [Bool.false_eq_true, if_false]
    rw [← List.foldl_map (f := kf) (g := removeEdge), ← hks, List.foldl_map]

end shapes

section via
variable {κ ω σ : Type} [DecidableEq κ] [Add ω]

/-- calls in sequence; the first rejected call (an exception) ends the run -/
def seqB {K : Type} (f : σ → K → σ × Bool) : σ → List K → σ × Bool
  | s, [] => (s, true)
  | s, k :: ks =>
    match f s k with
    | (s', true) => seqB f s' ks
    | (s', false) => (s', false)

/-- `filter_hypergraph` on an object of a full container model: `view` reads its content (`get_nodes(metadata=True)`,
`get_edges(metadata=True)`), `rmNode` / `rmEdge` are its `remove_node(·, keep_edges)` / `remove_edge` with their verdicts.
The node list is computed before the first removal, the hyperedge list on the object left by the node phase. -/
def filterVia (view : σ → Content κ ω) (rmNode : σ → Node → σ × Bool) (rmEdge : σ → κ → σ × Bool)
    (s : σ) (nc ec : Option Crit) (mode : Mode) : σ × Bool :=
  match seqB rmNode s (removedNodes (view s) nc mode) with
  | (s1, false) => (s1, false)
  | (s1, true) => seqB rmEdge s1 (match ec with
      | none => []
      | some cr => edgesToProcess (view s1) cr mode)

theorem removeNode?_isSome (ops : KeyOps κ) (keep : Bool) (c : Content κ ω) (n : Node) :
    (removeNode? ops keep c n).isSome = (get? c.nodes n).isSome := by
  unfold removeNode?; split <;> rename_i h
  · exact h.symm
  · exact (Bool.eq_false_iff.mpr h).symm

theorem removeEdge?_isSome (c : Content κ ω) (k : κ) : (removeEdge? c k).isSome = (get? c.edges k).isSome := by
  unfold removeEdge?; split <;> rename_i h
  · exact h.symm
  · exact (Bool.eq_false_iff.mpr h).symm

theorem removeNode?_of_isSome (ops : KeyOps κ) (keep : Bool) (c : Content κ ω) (n : Node)
    (h : (removeNode? ops keep c n).isSome) : removeNode? ops keep c n = some (removeNode ops keep c n) := by
  unfold removeNode? at h ⊢
  split
  · rfl
  · rename_i hp; rw [if_neg hp] at h; cases h

theorem removeEdge?_of_isSome (c : Content κ ω) (k : κ) (h : (removeEdge? c k).isSome) :
    removeEdge? c k = some (removeEdge c k) := by
  unfold removeEdge? at h ⊢
  split
  · rfl
  · rename_i hp; rw [if_neg hp] at h; cases h

theorem seqB_foldlM {K C : Type} (view : σ → C) (f : σ → K → σ × Bool) (g? : C → K → Option C) (g : C → K → C)
    (hg : ∀ c k, (g? c k).isSome → g? c k = some (g c k)) (J : σ → Prop) (Q : K → Prop)
    (hstep : ∀ s k, J s → Q k → ((f s k).2 = true ↔ (g? (view s) k).isSome) ∧
      ((f s k).2 = true → J (f s k).1 ∧ view (f s k).1 = g (view s) k)) :
    ∀ (ks : List K) (s : σ) (c' : C), (∀ k ∈ ks, Q k) → J s → ks.foldlM g? (view s) = some c' →
      (seqB f s ks).2 = true ∧ view (seqB f s ks).1 = c' ∧ J (seqB f s ks).1 := by
  intro ks
  induction ks with
  | nil =>
    intro s c' _ hs h
    exact ⟨rfl, Option.some.inj h, hs⟩
  | cons k ks ih =>
    intro s c' hq hs h
    rw [List.foldlM_cons] at h
    obtain ⟨h1, h2⟩ := hstep s k hs (hq k List.mem_cons_self)
    cases hgk : g? (view s) k with
    | none => rw [hgk] at h; cases h
    | some c1 =>
      have hsome : (g? (view s) k).isSome := by rw [hgk]; rfl
      obtain ⟨hJ, hv⟩ := h2 (h1.mpr hsome)
      have hc1 : view (f s k).1 = c1 := by rw [hv]; exact Option.some.inj ((hg _ _ hsome).symm.trans hgk)
      rw [hgk] at h
      rw [seqB]
      cases hr : f s k with
      | mk s' b =>
        rw [hr] at h1 hJ hc1
        rw [show b = true from h1.mpr hsome]
        exact ih s' c' (fun k' hk' => hq k' (List.mem_cons_of_mem _ hk')) hJ (by rw [hc1]; exact h)

theorem nodePhase?_eq (ops : KeyOps κ) (c : Content κ ω) (nc : Option Crit) (mode : Mode) (keep : Bool) :
    nodePhase? ops c nc mode keep = (removedNodes c nc mode).foldlM (removeNode? ops keep) c := by
  cases nc <;> rfl

theorem edgePhase?_eq (c : Content κ ω) (ec : Option Crit) (mode : Mode) :
    edgePhase? c ec mode = (match ec with
      | none => []
      | some cr => edgesToProcess c cr mode).foldlM removeEdge? c := by
  cases ec <;> rfl

/-- if every `remove_node` / `remove_edge` of the object is C19's content operation with the same verdict (on objects
satisfying `J`, which the calls preserve and which gives `WF`), then `filter_hypergraph` on the object makes no rejected
call, stays within `J` and leaves the content `filterHg` computes. -/
theorem filterVia_eq (ops : KeyOps κ) (hlaw : Lawful ops) (keep : Bool) (view : σ → Content κ ω)
    (rmNode : σ → Node → σ × Bool) (rmEdge : σ → κ → σ × Bool) (J : σ → Prop) (Q : κ → Prop)
    (hwf : ∀ s, J s → WF ops (view s)) (hQ : ∀ s, J s → ∀ e ∈ (view s).edges, Q e.1)
    (hnode : ∀ s n, J s → ((rmNode s n).2 = true ↔ (removeNode? ops keep (view s) n).isSome) ∧
      ((rmNode s n).2 = true → J (rmNode s n).1 ∧ view (rmNode s n).1 = removeNode ops keep (view s) n))
    (hedge : ∀ s k, J s → Q k → ((rmEdge s k).2 = true ↔ (removeEdge? (view s) k).isSome) ∧
      ((rmEdge s k).2 = true → J (rmEdge s k).1 ∧ view (rmEdge s k).1 = removeEdge (view s) k))
    (s : σ) (hs : J s) (nc ec : Option Crit) (mode : Mode) :
    (filterVia view rmNode rmEdge s nc ec mode).2 = true ∧ J (filterVia view rmNode rmEdge s nc ec mode).1 ∧
    view (filterVia view rmNode rmEdge s nc ec mode).1 = filterHg ops (view s) nc ec mode keep := by
  -- on contents no call is rejected (`filterHg?_eq`); `seqB_foldlM` carries that run over to the object, phase by phase
  have hret := filterHg?_eq ops keep (fun _ => hlaw) (view s) (hwf s hs) nc ec mode
  unfold filterHg? at hret
  rw [nodePhase?_eq] at hret
  cases hn : (removedNodes (view s) nc mode).foldlM (removeNode? ops keep) (view s) with
  | none => rw [hn] at hret; cases hret
  | some c1 =>
    rw [hn, Option.bind_some, edgePhase?_eq] at hret
    obtain ⟨a1, a2, a3⟩ := seqB_foldlM view rmNode (removeNode? ops keep) (removeNode ops keep)
      (removeNode?_of_isSome ops keep) J (fun _ => True)
      (fun s k hJ _ => hnode s k hJ) _ s c1 (fun _ _ => trivial) hs hn
    unfold filterVia
    generalize hr : seqB rmNode s (removedNodes (view s) nc mode) = r at a1 a2 a3
    obtain ⟨s1, b⟩ := r
    subst a1
    rw [← a2] at hret
    have hq1 : ∀ k ∈ (match ec with
        | none => []
        | some cr => edgesToProcess (view s1) cr mode), Q k := by
      intro k hk
      cases ec with
      | none => simp at hk
      | some cr =>
        simp only [edgesToProcess, List.mem_map, List.mem_filter] at hk
        obtain ⟨e, ⟨he, _⟩, rfl⟩ := hk
        exact hQ s1 a3 e he
    obtain ⟨b1, b2, b3⟩ := seqB_foldlM view rmEdge removeEdge? removeEdge removeEdge?_of_isSome J Q hedge _ s1 _ hq1 a3 hret
    exact ⟨b1, b3, b2⟩

end via

def SortedL (l : List Nat) : Prop := l.Pairwise (· ≤ ·)

theorem sortedL_without {l : List Nat} (h : SortedL l) (n : Nat) : SortedL (without l n) :=
  List.Pairwise.filter _ h

theorem filter_bne_without (l : List Nat) (n : Nat) : l.filter (· != n) = without l n :=
  List.filter_congr fun x _ => by by_cases hx : x = n <;> simp [hx]

/-- `Hypergraph`: the node tuple is sorted, no tag -/
def CanonH (k : Key) : Prop := SortedL k.1 ∧ k.2 = []
/-- `TemporalHypergraph` / `MultiplexHypergraph`: the node tuple is sorted, one tag (time / layer) -/
def CanonT (k : Key) : Prop := SortedL k.1 ∧ ∃ t, k.2 = [t]
/-- `DirectedHypergraph`: both tuples sorted, no node on both sides -/
def CanonD (k : Key) : Prop := SortedL k.1 ∧ SortedL k.2 ∧ ∀ m ∈ k.1, m ∉ k.2

theorem canonShrink_H : CanonShrink opsH CanonH := by
  intro k n k' hk h
  simp only [opsH, Option.some.injEq] at h
  subst h; exact ⟨sortedL_without hk.1 n, hk.2⟩

theorem canonShrink_T : CanonShrink opsT CanonT := by
  intro k n k' hk h
  simp only [opsT] at h
  split at h
  · cases h
  · cases h; exact ⟨sortedL_without hk.1 n, hk.2⟩

theorem canonShrink_D : CanonShrink opsD CanonD := by
  intro k n k' hk h
  simp only [opsD] at h
  split at h
  · cases h
  · cases h
    refine ⟨sortedL_without hk.1 n, sortedL_without hk.2.1 n, ?_⟩
    intro m hm hm2
    simp only [without, List.mem_filter] at hm hm2
    exact hk.2.2 m hm.1 hm2.1

end C19
