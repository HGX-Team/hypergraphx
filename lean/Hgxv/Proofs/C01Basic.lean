import Hgxv.Model.C01
import Hgxv.Proofs.AL
import Hgxv.Proofs.SortLib
/-! C01: lemmas on association lists (`del`, `AL.set`) and plain lists, `canon` (through `NatSort.isort`), `seqOps` loops,
characterisation of `touchNode / linkNodes / unlinkNodes`.  Core Lean only. -/
namespace C01
open AL

section alist
variable {α β : Type} [DecidableEq α]

theorem get?_del (l : List (α × β)) (k k2 : α) :
    get? (del l k) k2 = if k = k2 then none else get? l k2 := get?_filter_ne l k k2

theorem keys_del (l : List (α × β)) (k : α) : keys (del l k) = (keys l).filter (fun x => x ≠ k) :=
  keys_filter_key (fun x => x ≠ k) l

theorem del_sublist (l : List (α × β)) (k : α) : (del l k).Sublist l := List.filter_sublist

theorem get?_del_some {l : List (α × β)} {k k2 : α} {v : β} (h : get? (del l k) k2 = some v) :
    k ≠ k2 ∧ get? l k2 = some v := by
  rw [get?_del] at h
  split at h
  · cases h
  · exact ⟨‹_›, h⟩

theorem isSome_del_congr {γ : Type} {l1 : List (α × β)} {l2 : List (α × γ)}
    (h : ∀ k, (get? l1 k).isSome = (get? l2 k).isSome) (k k2 : α) :
    (get? (del l1 k) k2).isSome = (get? (del l2 k) k2).isSome := by
  rw [get?_del, get?_del]
  split
  · rfl
  · exact h k2

theorem mem_keys_iff (l : List (α × β)) (k : α) : k ∈ keys l ↔ (get? l k).isSome := AL.mem_keys_iff l k

theorem isSome_eq_of_keys {γ : Type} {l1 : List (α × β)} {l2 : List (α × γ)} (hk : keys l1 = keys l2) (k : α) :
    (get? l1 k).isSome = (get? l2 k).isSome := by
  have a := mem_keys_iff l1 k
  rw [hk, mem_keys_iff] at a
  exact Bool.eq_iff_iff.mpr a.symm

theorem set_same (l : List (α × β)) (k : α) (v : β) (h : get? l k = some v) : AL.set l k v = l := AL.set_same l k v h

end alist

theorem insertSorted_eq : insertSorted = NatSort.insert := by
  funext a l
  induction l with
  | nil => rfl
  | cons b bs ih => simp only [insertSorted, NatSort.insert, ih]

theorem canon_eq : canon = NatSort.isort := by
  funext l
  simp only [canon, NatSort.isort, insertSorted_eq]

theorem insertSorted_perm (a : Nat) (l : List Nat) : (insertSorted a l).Perm (a :: l) :=
  insertSorted_eq ▸ NatSort.insert_perm a l

theorem canon_perm (l : List Nat) : (canon l).Perm l := canon_eq ▸ NatSort.isort_perm l

theorem canon_nodup {l : List Nat} (h : l.Nodup) : (canon l).Nodup := (canon_perm l).nodup_iff.mpr h
theorem mem_canon {l : List Nat} {n : Nat} : n ∈ canon l ↔ n ∈ l := (canon_perm l).mem_iff

theorem insertSorted_sorted (a : Nat) (l : List Nat) (h : l.Pairwise (· ≤ ·)) :
    (insertSorted a l).Pairwise (· ≤ ·) := insertSorted_eq ▸ NatSort.insert_sorted a l h

theorem canon_sorted (l : List Nat) : (canon l).Pairwise (· ≤ ·) := canon_eq ▸ NatSort.isort_sorted l

/-- the canonical key depends on the node *set* only: any listing order gives the same key -/
theorem canon_eq_of_perm {l1 l2 : List Nat} (h : l1.Perm l2) : canon l1 = canon l2 :=
  canon_eq ▸ NatSort.isort_eq_of_perm h

theorem canon_of_sorted {l : List Nat} (h : l.Pairwise (· ≤ ·)) : canon l = l := canon_eq ▸ NatSort.isort_of_sorted h

theorem canon_idem (l : List Nat) : canon (canon l) = canon l := canon_of_sorted (canon_sorted l)

theorem canon_filter_of_canon {e : Edge} (h : canon e = e) (p : Nat → Bool) : canon (e.filter p) = e.filter p :=
  canon_of_sorted ((h ▸ canon_sorted e).filter p)

theorem map_canon_id (l : List Edge) (h : ∀ x ∈ l, canon x = x) : l.map canon = l :=
  (List.map_congr_left h).trans (List.map_id' l)

/-- a loop whose every pass is accepted and re-establishes a statement `P state rest-of-the-list` is accepted as a whole,
and `P` holds of the final state with nothing left -/
theorem seqOps_ok_of_inv {α σ : Type} (f : σ → α → σ × Out) (P : σ → List α → Prop)
    (hstep : ∀ s a as, P s (a :: as) → (f s a).2 = .ok ∧ P (f s a).1 as) :
    ∀ (as : List α) (s : σ), P s as → (seqOps f s as).2 = .ok ∧ P (seqOps f s as).1 [] := by
  intro as
  induction as with
  | nil => intro s h; exact ⟨rfl, h⟩
  | cons a as ih =>
    intro s hP
    obtain ⟨h1, h2⟩ := hstep s a as hP
    simp only [seqOps]
    generalize hfa : f s a = r at h1 h2
    obtain ⟨s', o⟩ := r
    simp only at h1 h2; subst h1
    exact ih s' h2

theorem seqOps_eq_foldl {α σ : Type} (f : σ → α → σ × Out) :
    ∀ (as : List α) (s : σ), (seqOps f s as).2 = .ok → (seqOps f s as).1 = as.foldl (fun s a => (f s a).1) s := by
  intro as
  induction as with
  | nil => intro s _; rfl
  | cons a as ih =>
    intro s h
    simp only [seqOps, List.foldl_cons] at h ⊢
    generalize hfa : f s a = r at h ⊢
    obtain ⟨s', o⟩ := r
    cases o with
    | ok => exact ih s' h
    | rej => simp at h

theorem seqOps_inv {α σ : Type} (f : σ → α → σ × Out) (I : σ → Prop) (Q : α → Prop)
    (hstep : ∀ s a, I s → Q a → I (f s a).1) :
    ∀ (as : List α) (s : σ), I s → (∀ a ∈ as, Q a) → I (seqOps f s as).1 := by
  intro as
  induction as with
  | nil => intro s h _; exact h
  | cons a as ih =>
    intro s h hq
    simp only [seqOps]
    have h1 := hstep s a h (hq a List.mem_cons_self)
    generalize hfa : f s a = r at h1
    obtain ⟨s', o⟩ := r
    cases o with
    | ok => exact ih s' h1 (fun x hx => hq x (List.mem_cons_of_mem _ hx))
    | rej => exact h1

theorem seqOps_congr_pairs {α σ : Type} (f : σ → α → σ × Out) :
    ∀ (ps : List (α × α)), (∀ p ∈ ps, ∀ s, f s p.1 = f s p.2) →
      ∀ s, seqOps f s (ps.map (·.1)) = seqOps f s (ps.map (·.2)) := by
  intro ps
  induction ps with
  | nil => intro _ s; rfl
  | cons p ps ih =>
    intro h s
    simp only [List.map_cons, seqOps, h p List.mem_cons_self s]
    split
    · exact ih (fun q hq => h q (List.mem_cons_of_mem _ hq)) _
    · rfl

/-- `remove_edges` of distinct present canonical keys is one filter of the key table -/
theorem spec_removeLoop_filter : ∀ (es : List Edge) (r : Spec),
    (∀ e ∈ es, canon e = e ∧ (get? r.edges e).isSome) → es.Nodup →
    seqOps Spec.removeEdge r es = ({ r with edges := r.edges.filter (fun p => decide (p.1 ∉ es)) }, .ok) := by
  intro es
  induction es with
  | nil =>
    intro r _ _
    have : r.edges.filter (fun p => decide (p.1 ∉ ([] : List Edge))) = r.edges := List.filter_eq_self.mpr (fun _ _ => by simp)
    rw [this]; rfl
  | cons e t ih =>
    intro r hes hnd
    obtain ⟨hc, hp⟩ := hes e List.mem_cons_self
    obtain ⟨hnot, hndt⟩ := List.nodup_cons.mp hnd
    have hstep : Spec.removeEdge r e = ({ r with edges := del r.edges e }, .ok) := by
      unfold Spec.removeEdge; rw [hc, if_pos hp]
    have ht : ∀ e' ∈ t, canon e' = e' ∧ (get? ({ r with edges := del r.edges e } : Spec).edges e').isSome := by
      intro e' he'
      obtain ⟨h1, h2⟩ := hes e' (List.mem_cons_of_mem _ he')
      refine ⟨h1, ?_⟩
      show (get? (del r.edges e) e').isSome = true
      rw [get?_del, if_neg (fun (heq : e = e') => hnot (heq ▸ he'))]; exact h2
    simp only [seqOps, hstep]
    rw [ih _ ht hndt]
    simp only [del, List.filter_filter, List.mem_cons, not_or, Bool.decide_and, Bool.and_comm]

/-- `remove_edges` of distinct present canonical keys passes its validation and is one filter -/
theorem spec_removeEdges_filter (r : Spec) (es : List Edge)
    (hes : ∀ e ∈ es, canon e = e ∧ (get? r.edges e).isSome) (hnd : es.Nodup) :
    Spec.removeEdges r es = ({ r with edges := r.edges.filter (fun p => decide (p.1 ∉ es)) }, .ok) := by
  have hvalid : (es.all (fun r' => (get? r.edges (canon r')).isSome) && decide (es.map canon).Nodup) = true := by
    simp only [Bool.and_eq_true, List.all_eq_true, decide_eq_true_eq]
    refine ⟨fun x hx => by rw [(hes x hx).1]; exact (hes x hx).2, ?_⟩
    rw [map_canon_id es (fun x hx => (hes x hx).1)]; exact hnd
  unfold Spec.removeEdges
  rw [if_pos hvalid, spec_removeLoop_filter es r hes hnd]

theorem touchNode_adj (s : Store) (m n : Node) :
    get? (touchNode s m).adj n = if n = m then some ((get? s.adj m).getD []) else get? s.adj n := by
  unfold touchNode
  cases h : get? s.adj m with
  | none =>
    rw [if_neg (by simp), get?_set]
    by_cases hnm : n = m
    · rw [if_pos hnm, if_pos hnm.symm]; rfl
    · rw [if_neg hnm, if_neg fun e => hnm e.symm]
  | some ids =>
    rw [if_pos (by rfl)]
    split
    · subst ‹n = m›; exact h
    · rfl

theorem touchNode_fields (s : Store) (m : Node) :
    (touchNode s m).edgeList = s.edgeList ∧ (touchNode s m).rev = s.rev ∧
    (touchNode s m).weights = s.weights ∧ (touchNode s m).emeta = s.emeta ∧
    (touchNode s m).nextId = s.nextId ∧ (touchNode s m).weighted = s.weighted ∧
    (touchNode s m).hmeta = s.hmeta := by
  unfold touchNode; split <;> simp

theorem touchNode_keys (s : Store) (m : Node) (hk : keys s.nmeta = keys s.adj) :
    keys (touchNode s m).nmeta = keys (touchNode s m).adj ∧
    keys (touchNode s m).adj = (if (get? s.adj m).isSome then keys s.adj else keys s.adj ++ [m]) := by
  unfold touchNode
  cases h : get? s.adj m with
  | none =>
    have h2 : get? s.nmeta m = none := by
      rw [get?_eq_none_iff, hk, ← get?_eq_none_iff]; exact h
    simp [keys_set_of_not_mem _ _ _ h, keys_set_of_not_mem _ _ _ h2, hk]
  | some ids => simp [hk]

theorem linkNodes_fields (s : Store) (id : Nat) (ns : List Node) :
    (linkNodes s id ns).edgeList = s.edgeList ∧ (linkNodes s id ns).rev = s.rev ∧
    (linkNodes s id ns).weights = s.weights ∧ (linkNodes s id ns).emeta = s.emeta ∧
    (linkNodes s id ns).nextId = s.nextId ∧ (linkNodes s id ns).weighted = s.weighted ∧
    (linkNodes s id ns).hmeta = s.hmeta := by
  induction ns generalizing s with
  | nil => simp [linkNodes]
  | cons n ns ih =>
    simp only [linkNodes]
    obtain ⟨a1, a2, a3, a4, a5, a6, a7⟩ :=
      ih ({ touchNode s n with adj := AL.set (touchNode s n).adj n (((get? (touchNode s n).adj n).getD []) ++ [id]) })
    obtain ⟨b1, b2, b3, b4, b5, b6, b7⟩ := touchNode_fields s n
    exact ⟨a1.trans b1, a2.trans b2, a3.trans b3, a4.trans b4, a5.trans b5, a6.trans b6, a7.trans b7⟩

theorem linkNodes_adj (s : Store) (id : Nat) (ns : List Node) (hnd : ns.Nodup) (n : Node) :
    get? (linkNodes s id ns).adj n =
      if n ∈ ns then some (((get? s.adj n).getD []) ++ [id]) else get? s.adj n := by
  induction ns generalizing s with
  | nil => simp [linkNodes]
  | cons m ns ih =>
    simp only [linkNodes]
    have hnd' : ns.Nodup := (List.nodup_cons.mp hnd).2
    have hm : m ∉ ns := (List.nodup_cons.mp hnd).1
    rw [ih _ hnd']
    simp only [get?_set, touchNode_adj]
    by_cases hnm : n = m
    · subst hnm; simp [hm]
    · have hmn : ¬ m = n := fun e => hnm e.symm
      simp only [hnm, hmn, if_false, List.mem_cons, false_or]

theorem linkNodes_nodes (s : Store) (id : Nat) (ns : List Node) (hk : keys s.nmeta = keys s.adj)
    (hnd : (keys s.adj).Nodup) :
    keys (linkNodes s id ns).nmeta = keys (linkNodes s id ns).adj ∧ (keys (linkNodes s id ns).adj).Nodup := by
  induction ns generalizing s with
  | nil => exact ⟨hk, hnd⟩
  | cons m ns ih =>
    simp only [linkNodes]
    have ht := touchNode_keys s m hk
    have hset : (get? (touchNode s m).adj m).isSome := by rw [touchNode_adj]; simp
    refine ih _ ?_ ?_
    · simp only [keys_set_of_mem _ _ _ hset]; exact ht.1
    · simp only [keys_set_of_mem _ _ _ hset]
      rw [ht.2]; split
      · exact hnd
      · rename_i hn
        refine List.nodup_append.mpr ⟨hnd, by simp, ?_⟩
        intro a ha b hb hab; simp at hb; subst hb; subst hab
        exact hn ((mem_keys_iff _ _).mp ha)

theorem unlinkNodes_keys (adj : List (Node × List Nat)) (id : Nat) (ns : List Node) :
    keys (unlinkNodes adj id ns) = keys adj := by
  induction ns generalizing adj with
  | nil => rfl
  | cons n ns ih =>
    simp only [unlinkNodes]
    cases h : get? adj n with
    | none => simp [ih]
    | some ids => simp only [ih]; exact keys_set_of_mem _ _ _ (by simp [h])

theorem unlinkNodes_get (adj : List (Node × List Nat)) (id : Nat) (ns : List Node) (hnd : ns.Nodup) (n : Node) :
    get? (unlinkNodes adj id ns) n = if n ∈ ns then (get? adj n).map (fun ids => ids.erase id) else get? adj n := by
  induction ns generalizing adj with
  | nil => simp [unlinkNodes]
  | cons m ns ih =>
    simp only [unlinkNodes]
    have hnd' : ns.Nodup := (List.nodup_cons.mp hnd).2
    have hm : m ∉ ns := (List.nodup_cons.mp hnd).1
    rw [ih _ hnd']
    by_cases hnm : n = m
    · subst hnm
      cases h : get? adj n <;> simp [hm, h]
    · have hmn : ¬ m = n := fun e => hnm e.symm
      cases h : get? adj m <;> simp only [get?_set, hmn, if_false, List.mem_cons, hnm, false_or]

end C01
