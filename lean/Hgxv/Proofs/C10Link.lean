import Hgxv.Model.C10
import Hgxv.Proofs.C01Query
import Hgxv.Proofs.C02Total
import Hgxv.Proofs.SortLib
/-! # C10 ↔ C01 (`Hypergraph`) and C02 (`DirectedHypergraph`): the listings of an object reached through ANY history

The C10 model takes listings as input.  Here the listings are READ OFF the full container models: `nodesH`, `edgesH`,
`incidentH`, `incTableH` are the answers of `C01.answer` to `get_nodes()`, `get_edges()`, `get_incident_edges(n)`;
`edgesD` is the answer of `C02.edges` to `get_edges()` of a `DirectedHypergraph`.  `bipartiteH`, `cliqueH`,
`lineGraphH`, `simplicialH`, `directedLineGraphD` are the C10 routines applied to those answers, i.e. the routines
applied to the OBJECT.

Under the class invariants (`C01.Inv`, `C02.Inv`, which hold after every history) the answers are the listings of the
abstract content and satisfy every hypothesis of the C10 theorems (`listing_of_history`, `dlisting_of_history`); the
per-node incident table the object answers is, list for list, `nodes.map (incident edges)` (`incTableH_eq`).
`buildH l` is the constructor call `Hypergraph(s_edges)` that ends `simplicial_complex`, as a call of the full C01 model.
Corollaries: `C10_link_*` in `Hgxv/Props/C10.lean`.  Core Lean only. -/
namespace C10
open AL

/-- the payload of an answer of kind "list of nodes"; `[]` for any other kind (does not occur: `nodesH_eq`) -/
def natsOf : C01.Ans → List Nat
  | .nats l => l
  | _ => []
/-- the payload of an answer of kind "list of hyperedges"; `[]` for a raised call / any other kind (does not occur for
the calls the routines make: `edgesH_eq`, `incidentH_eq`) -/
def edgesOf : C01.Ans → List Edge
  | .edges l => l
  | _ => []

/-- `h.get_nodes()` -/
def nodesH (s : C01.Store) : List Nat := natsOf (C01.answer s .nodes)
/-- `h.get_edges()` -/
def edgesH (s : C01.Store) : List Edge := edgesOf (C01.answer s (.edges {}))
/-- `h.get_incident_edges(n)` -/
def incidentH (s : C01.Store) (n : Nat) : List Edge := edgesOf (C01.answer s (.incident n {}))
/-- the dict `adj` of `line_graph`: `adj[node] = h.get_incident_edges(node)` for `node in h.get_nodes()` -/
def incTableH (s : C01.Store) : List (List Edge) := (nodesH s).map (incidentH s)

/-- `bipartite_projection(h)` -/
def bipartiteH (s : C01.Store) : Bip := bipartite (nodesH s) (edgesH s)
/-- `clique_projection(h, keep_isolated)` -/
def cliqueH (keepIso : Bool) (s : C01.Store) : Graph Nat := clique keepIso (nodesH s) (edgesH s)
/-- `line_graph(h, distance, s, weighted)`: pairs enumerated through the incident lists the object answers -/
def lineGraphH (s : C01.Store) (d : Dist) (thr : Rat) (weighted : Bool) : Option LG :=
  lineGraphFrom (edgesH s) d thr weighted (incTableH s)
/-- hyperedges of `simplicial_complex(h)` -/
def simplicialH (s : C01.Store) : List Edge := simplicial (edgesH s)

theorem nodesH_eq (s : C01.Store) : C01.answer s .nodes = .nats (keys s.adj) ∧ nodesH s = keys s.adj := ⟨rfl, rfl⟩

theorem edgesF_all (s : C01.Store) : C01.edgesF s {} = some (keys s.edgeList) := by
  simp [C01.edgesF, C01.Filter.resolve, C01.keepEdge]

theorem edgesH_eq (s : C01.Store) :
    C01.answer s (.edges {}) = .edges (keys s.edgeList) ∧ edgesH s = keys s.edgeList ∧
    C01.answer s .len = .int ((keys s.edgeList).length : Nat) := by
  refine ⟨?_, ?_, ?_⟩
  · simp only [C01.answer, edgesF_all, C01.ofOpt]
  · simp only [edgesH, C01.answer, edgesF_all, C01.ofOpt, edgesOf]
  · simp [C01.answer, keys]

theorem incident_eq_filter (es : List Edge) (n : Nat) : incident es n = es.filter (fun e => decide (n ∈ e)) := by
  unfold incident
  apply List.filter_congr
  intro e _
  simp

/-- for a node of the object, `get_incident_edges` answers (does not raise) the list of the hyperedges of `get_edges()`
that contain the node, in the order of `get_edges()` -/
theorem incidentH_eq (s : C01.Store) (h : C01.Inv s) (n : Nat) (hn : n ∈ keys s.adj) :
    C01.answer s (.incident n {}) = .edges (incident (keys s.edgeList) n) ∧
    incidentH s n = incident (keys s.edgeList) n := by
  have hn' : (get? s.adj n).isSome = true := (AL.mem_keys_iff _ _).mp hn
  have hF : C01.incidentF s n {} = some (incident (keys s.edgeList) n) := by
    unfold C01.incidentF
    rw [h.incidentKeys_eq n hn', incident_eq_filter]
    simp [hn', C01.Filter.resolve, C01.keepEdge]
  refine ⟨?_, ?_⟩
  · simp only [C01.answer, hF, C01.ofOpt]
  · simp only [incidentH, C01.answer, hF, C01.ofOpt, edgesOf]

/-- the table of incident lists the object answers is, list for list, what `get_edges()` says -/
theorem incTableH_eq (s : C01.Store) (h : C01.Inv s) :
    incTableH s = (keys s.adj).map (incident (keys s.edgeList)) := by
  unfold incTableH
  rw [(nodesH_eq s).2]
  apply List.map_congr_left
  intro n hn
  exact (incidentH_eq s h n hn).2

theorem lineGraphH_eq {s : C01.Store} {nodes : List Nat} {es : List Edge} (e2 : edgesH s = es)
    (e3 : incTableH s = nodes.map (incident es)) (d : Dist) (thr : Rat) (weighted : Bool) :
    lineGraphH s d thr weighted = lineGraph nodes es d thr weighted := by
  rw [lineGraphH, lineGraph, e2, e3]

/-- the hypotheses of the C10 theorems about a node list and a hyperedge list -/
structure ListingOK (nodes : List Nat) (es : List Edge) : Prop where
  nodesNodup : nodes.Nodup
  edgesNodup : es.Nodup
  sorted : ∀ e ∈ es, e.Pairwise (· < ·)
  edgeNodup : ∀ e ∈ es, e.Nodup
  members : ∀ e ∈ es, ∀ n ∈ e, n ∈ nodes

/-- every store that satisfies the class invariant lists nodes and hyperedges as the C10 theorems need them -/
theorem listingOK_of_inv (s : C01.Store) (h : C01.Inv s) : ListingOK (keys s.adj) (keys s.edgeList) := by
  have t := C01.abs_tab h
  rw [← C01.nodes_keys h, ← C01.abs_keys s]
  exact ⟨t.nnd, t.knd,
    fun e he => NatSort.strict_of_sorted_nodup ((t.of_key he).1.2 ▸ C01.canon_sorted e) (t.of_key he).1.1,
    fun e he => (t.of_key he).1.1, fun e he => (t.of_key he).2⟩

/-- the object in slot `i` after a history of well-formed public calls, and the abstract content in slot `i` after the
same history: the object satisfies the class invariant and the content is its abstraction -/
theorem history01 (k : Nat) (cs : List C01.Cmd) (hwf : ∀ c ∈ cs, c.WF) (i : Nat) (s : C01.Store) (a : C01.Spec)
    (hs : (C01.run (C01.init k) cs)[i]? = some s) (ha : (C01.Spec.run (C01.Spec.init k) cs)[i]? = some a) :
    C01.Inv s ∧ a = C01.abs s := by
  have h := C01.run_sim cs _ _ hwf (C01.init_sim k)
  refine ⟨h.2 s (List.mem_of_getElem? hs), ?_⟩
  rw [h.1, List.getElem?_map, hs] at ha
  simpa using ha.symm

/-- the listings of the abstraction are the listings of the store -/
theorem abs_listings (s : C01.Store) (h : C01.Inv s) :
    keys (C01.abs s).nodes = keys s.adj ∧ keys (C01.abs s).edges = keys s.edgeList :=
  ⟨C01.nodes_keys h, C01.abs_keys s⟩

/-- what every link theorem about a `Hypergraph` needs from a history: the object answers the listings of the abstract
content of its slot, and these meet the hypotheses of the listing-level theorems -/
theorem listing_of_history (k : Nat) (cs : List C01.Cmd) (hwf : ∀ c ∈ cs, c.WF) (i : Nat) (s : C01.Store) (a : C01.Spec)
    (hs : (C01.run (C01.init k) cs)[i]? = some s) (ha : (C01.Spec.run (C01.Spec.init k) cs)[i]? = some a) :
    nodesH s = keys a.nodes ∧ edgesH s = keys a.edges ∧
    incTableH s = (keys a.nodes).map (incident (keys a.edges)) ∧ ListingOK (keys a.nodes) (keys a.edges) := by
  obtain ⟨h, rfl⟩ := history01 k cs hwf i s a hs ha
  obtain ⟨e1, e2⟩ := abs_listings s h
  rw [e1, e2]
  exact ⟨(nodesH_eq s).2, (edgesH_eq s).2.1, incTableH_eq s h, listingOK_of_inv s h⟩

/-- `Hypergraph(edge_list)`: the constructor of an unweighted hypergraph followed by `add_edges(edge_list)`; `l` is the
order in which the Python set `s_edges` is iterated -/
def buildH (l : List Edge) : C01.Store × C01.Out := C01.apply (C01.Store.new false []) (.addEdges l none none)

theorem mem_keys_touchMeta (nm : List (Nat × C01.Meta)) (m n : Nat) :
    n ∈ keys (C01.touchMeta nm m) ↔ n ∈ keys nm ∨ n = m := by
  unfold C01.touchMeta
  split
  · rename_i h
    constructor
    · exact Or.inl
    · rintro (h1 | rfl)
      · exact h1
      · exact (AL.mem_keys_iff _ _).mpr h
  · rw [AL.mem_keys_iff, AL.isSome_set, AL.mem_keys_iff]
    by_cases hmn : m = n
    · subst hmn; simp
    · have : ¬ n = m := fun e => hmn e.symm
      simp [hmn, this]

theorem mem_keys_touchFold (ns : List Nat) (nm : List (Nat × C01.Meta)) (n : Nat) :
    n ∈ keys (ns.foldl C01.touchMeta nm) ↔ n ∈ keys nm ∨ n ∈ ns :=
  (ListLib.foldl_or (n ∈ keys ·) _ (n = ·) (fun nm m => mem_keys_touchMeta nm m n) ns nm).trans (by simp)

/-- `add_edge` of a canonical key that is not present, unweighted hypergraph, no weight given: accepted; the key goes
to the end of the key list; its members become nodes -/
theorem spec_addEdge_fresh (a : C01.Spec) (r : List Nat) (md : Option C01.Meta) (hw : a.weighted = false)
    (hc : C01.canon r = r) (hr : r ∉ keys a.edges) :
    ∃ a', C01.Spec.addEdge a r none md = (a', .ok) ∧ keys a'.edges = keys a.edges ++ [r] ∧
      (∀ n, n ∈ keys a'.nodes ↔ n ∈ keys a.nodes ∨ n ∈ r) ∧ a'.weighted = false := by
  have hg : get? a.edges r = none := by
    cases h : get? a.edges r with
    | none => rfl
    | some v => exact absurd ((AL.mem_keys_iff _ _).mpr (by rw [h]; rfl)) hr
  unfold C01.Spec.addEdge
  simp only [hw, hc, hg, Option.isSome_none, Bool.and_false, Bool.false_eq_true, if_false]
  rw [C01.spec_touch_fold]
  refine ⟨_, rfl, ?_, ?_, rfl⟩
  · simp only [AL.set_of_not_mem _ _ _ hg, keys, List.map_append, List.map_cons, List.map_nil]
  · intro n; exact mem_keys_touchFold r a.nodes n

/-- the loop of `add_edges(edge_list)` (no weights, no metadata) over distinct canonical keys none of which is present -/
theorem spec_build_loop (raws : List (List Nat)) : ∀ (a : C01.Spec), a.weighted = false →
    (∀ r ∈ raws, C01.canon r = r) → raws.Nodup → (∀ r ∈ raws, r ∉ keys a.edges) →
    ∃ a', C01.seqOps (fun a (x : List Nat × Option Int × Option C01.Meta) => C01.Spec.addEdge a x.1 none x.2.2) a
        (C01.zipArgs raws none none) = (a', .ok) ∧
      keys a'.edges = keys a.edges ++ raws ∧
      (∀ n, n ∈ keys a'.nodes ↔ n ∈ keys a.nodes ∨ ∃ r ∈ raws, n ∈ r) ∧ a'.weighted = false := by
  induction raws with
  | nil => intro a hw _ _ _; exact ⟨a, rfl, by simp, by simp, hw⟩
  | cons r raws ih =>
    intro a hw hc hnd hfresh
    obtain ⟨a1, e1, k1, n1, w1⟩ := spec_addEdge_fresh a r none hw (hc r List.mem_cons_self)
      (hfresh r List.mem_cons_self)
    have hnd' := List.nodup_cons.mp hnd
    obtain ⟨a2, e2, k2, n2, w2⟩ := ih a1 w1 (fun x hx => hc x (List.mem_cons_of_mem _ hx)) hnd'.2
      (fun x hx => by
        rw [k1, List.mem_append, List.mem_singleton]
        rintro (h | h)
        · exact hfresh x (List.mem_cons_of_mem _ hx) h
        · exact hnd'.1 (h ▸ hx))
    refine ⟨a2, ?_, ?_, ?_, w2⟩
    · simp only [C01.zipArgs, C01.seqOps, Option.bind_none, Option.map_none]
      rw [e1]
      exact e2
    · rw [k2, k1, List.append_assoc]; rfl
    · intro n
      rw [n2, n1]
      simp only [List.mem_cons, exists_eq_or_imp, or_assoc]

/-- **`Hypergraph(l)` for distinct canonical tuples `l`** is accepted, satisfies the class invariant, lists exactly `l`
(in that order) as its hyperedges and has exactly the members of those tuples as nodes -/
theorem buildH_spec (l : List Edge) (hc : ∀ e ∈ l, C01.canon e = e) (hnd : l.Nodup) (hdf : ∀ e ∈ l, e.Nodup) :
    (buildH l).2 = .ok ∧ C01.Inv (buildH l).1 ∧ edgesH (buildH l).1 = l ∧
    ∀ n, n ∈ nodesH (buildH l).1 ↔ ∃ e ∈ l, n ∈ e := by
  have hs := C01.sim_apply (C01.Store.new false []) (.addEdges l none none) hdf (C01.inv_new false [])
  obtain ⟨s1, s2, s3⟩ := hs
  have habs : C01.abs (C01.Store.new false []) = C01.Spec.new false [] := rfl
  obtain ⟨a', e1, k1, n1, _⟩ := spec_build_loop l (C01.Spec.new false []) rfl hc hnd (by intro r _ h; cases h)
  have hsp : C01.Spec.apply (C01.Spec.new false []) (.addEdges l none none) = (a', .ok) := by
    simp only [C01.Spec.apply, C01.Spec.addEdges, C01.addEdgesValid, Option.isSome_none, Bool.or_false,
      Bool.and_self, if_true, Bool.false_eq_true, if_false]
    exact e1
  rw [habs, hsp] at s1 s2
  obtain ⟨q1, q2⟩ := abs_listings _ s3
  refine ⟨s2, s3, ?_, ?_⟩
  · rw [(edgesH_eq _).2.1]
    show keys (C01.apply (C01.Store.new false []) (.addEdges l none none)).1.edgeList = l
    rw [← q2, s1, k1]; rfl
  · intro n
    rw [(nodesH_eq _).2]
    show n ∈ keys (C01.apply (C01.Store.new false []) (.addEdges l none none)).1.adj ↔ _
    rw [← q1, s1, n1]
    simp [C01.Spec.new, keys]

/-- `h.get_edges()` of a directed hypergraph: (source tuple, target tuple) pairs; `[]` would stand for a raised call
(does not occur: `edgesD_eq`) -/
def edgesD (s : C02.Store) : List DEdge := (C02.edges s .all false).getD []

/-- `directed_line_graph(h, distance, s, weighted)` -/
def directedLineGraphD (s : C02.Store) (d : Dist) (thr : Rat) (weighted : Bool) : Option (Graph Nat) :=
  directedLineGraph (edgesD s) d thr weighted

theorem edgesD_eq (s : C02.Store) :
    C02.edges s .all false = some (keys s.edgeList) ∧ edgesD s = keys s.edgeList ∧
    C02.numEdges s = (keys s.edgeList).length ∧
    C02.sources s = (keys s.edgeList).map (·.1) ∧ C02.targets s = (keys s.edgeList).map (·.2) := by
  have h : C02.edges s .all false = some (keys s.edgeList) := by
    simp [C02.edges, C02.Filt.target, C02.passes]
  refine ⟨h, ?_, ?_, rfl, rfl⟩
  · simp only [edgesD, h, Option.getD_some]
  · simp [C02.numEdges, keys]

/-- every store that satisfies the class invariant lists distinct (source, target) pairs with duplicate-free,
non-empty sides -/
theorem dlistingOK_of_inv (s : C02.Store) (h : C02.Inv s) :
    (keys s.edgeList).Nodup ∧
    ∀ k ∈ keys s.edgeList, k.1 ≠ [] ∧ k.2 ≠ [] ∧ k.1.Nodup ∧ k.2.Nodup ∧ ∀ n, n ∈ k.1 → n ∉ k.2 := by
  refine ⟨h.nd_edge, ?_⟩
  intro k hk
  obtain ⟨id, hid⟩ := (h.mem_keys_iff k).mp hk
  have wf := h.key_wf id k hid
  exact ⟨wf.neS, wf.neT, wf.nodupS, wf.nodupT, wf.disj⟩

/-- the object in a slot after a history of constructor calls, copies and public calls, and the abstract content in
the same slot after the same history -/
theorem history02 (cs : List C02.Cmd) (hcs : ∀ c ∈ cs, c.WF) (slot : Nat) (s : C02.Store) (a : C02.Spec)
    (hs : get? (C02.runCmds [] cs) slot = some s) (ha : get? (C02.Spec.runCmds [] cs) slot = some a) :
    C02.Inv s ∧ a = C02.abs s :=
  have h := C02.of_history cs hcs slot s hs
  ⟨h.1, Option.some.inj (ha.symm.trans h.2.2.2)⟩

theorem abs_dlistings (s : C02.Store) : keys (C02.abs s).edges = keys s.edgeList := C02.abs_edges_keys s

theorem dlisting_of_history (cs : List C02.Cmd) (hcs : ∀ c ∈ cs, c.WF) (slot : Nat) (s : C02.Store) (a : C02.Spec)
    (hs : get? (C02.runCmds [] cs) slot = some s) (ha : get? (C02.Spec.runCmds [] cs) slot = some a) :
    keys a.edges = keys s.edgeList ∧ edgesD s = keys a.edges ∧ (keys a.edges).Nodup ∧
    ∀ k ∈ keys a.edges, k.1 ≠ [] ∧ k.2 ≠ [] ∧ k.1.Nodup ∧ k.2.Nodup ∧ ∀ n, n ∈ k.1 → n ∉ k.2 := by
  obtain ⟨h, rfl⟩ := history02 cs hcs slot s a hs ha
  rw [abs_dlistings]
  exact ⟨rfl, (edgesD_eq s).2.1, dlistingOK_of_inv s h⟩

/-- `Hypergraph`: re-insertion in another node order, removals (id gaps), a removed hyperedge inserted again (it moves to
the end of the listing), isolated nodes left behind by a removal, a copy, `remove_node(keep_edges=True)` on the copy
(merging `{1,2,3}` into `{1,2}`), a node added to the original afterwards -/
def demoH : List C01.Cmd :=
  [.on 0 (.addEdge [2, 1] none none), .on 0 (.addEdge [3, 1, 2] none none), .on 0 (.addEdge [9, 8] none none),
   .on 0 (.addEdge [5, 4, 3] none none), .on 0 (.addEdge [2, 3, 1] none none), .on 0 (.removeEdge [8, 9]),
   .on 0 (.removeEdge [1, 2]), .on 0 (.addEdge [1, 2] none none), .copy 0 1, .on 1 (.removeNode 3 true),
   .on 0 (.addNode 7 none)]

theorem demoH_wf : ∀ c ∈ demoH, c.WF := by
  simp [demoH, C01.Cmd.WF, C01.Op.WF]

/-- `DirectedHypergraph`: constructor with hyperedges, an insertion, a removal and re-insertion, a copy,
`remove_node(keep_edges=True)` on the copy -/
def demoD : List C02.Cmd :=
  [.new 0 false none none (some [.ofLists [2, 1] [3], .ofLists [3] [4, 1]]) none none,
   .op 0 (.addEdge (.ofLists [4] [2]) none none), .op 0 (.removeEdge (.ofLists [1, 2] [3])),
   .op 0 (.addEdge (.ofLists [1, 2] [3]) none none), .copy 0 1, .op 1 (.removeNode 4 true)]

theorem demoD_wf : ∀ c ∈ demoD, c.WF := C02.cmds_WF_of_ok _ (by decide)

/-! the abstract content of slot 0 of the two histories, evaluated once; what the OBJECTS list follows by
`listing_of_history` / `dlisting_of_history`, and the examples on `demoH` / `demoD` start from here -/

theorem demoH_slot0 : ∃ s a, (C01.run (C01.init 2) demoH)[0]? = some s ∧
    (C01.Spec.run (C01.Spec.init 2) demoH)[0]? = some a ∧
    keys a.nodes = [1, 2, 3, 8, 9, 4, 5, 7] ∧ keys a.edges = [[1, 2, 3], [3, 4, 5], [1, 2]] :=
  ⟨_, _, rfl, rfl, by decide +kernel⟩

theorem demoD_slot0 : ∃ s a, get? (C02.runCmds [] demoD) 0 = some s ∧ get? (C02.Spec.runCmds [] demoD) 0 = some a ∧
    keys a.edges = [([3], [1, 4]), ([4], [2]), ([1, 2], [3])] :=
  ⟨_, _, rfl, rfl, by decide +kernel⟩

end C10
