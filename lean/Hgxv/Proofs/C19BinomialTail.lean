import Hgxv.Model.C19
import Mathlib.Data.Nat.Choose.Sum
import Mathlib.Algebra.BigOperators.Intervals
import Mathlib.Algebra.Order.Field.Rat
import Mathlib.Algebra.Order.BigOperators.Group.Finset
import Mathlib.Tactic.Ring
import Mathlib.Tactic.Positivity
/-! C19 part B: the exact binomial tail.  The model's executable tail is the textbook sum (Mathlib vocabulary); its
identities; its bounds: for a success probability `p` in `(0, 1]` and `w ≤ N` the tail is a positive number, at least
`p ^ N`, and at most 1: a p-value 0 (seeded change C19-d1: `1 - (1 - q) ^ N` evaluated in doubles) is never what the
definition gives. -/
namespace C19
open Finset

theorem fact_eq (n : Nat) : fact n = n.factorial := by
  induction n with
  | zero => rfl
  | succ n ih => simp [fact, Nat.factorial_succ, ih]

theorem choose_eq (n k : Nat) : choose n k = n.choose k := by
  unfold choose
  split
  · rename_i h
    rw [fact_eq, fact_eq, fact_eq, Nat.choose_eq_factorial_div_factorial h]
  · rename_i h
    exact (Nat.choose_eq_zero_of_lt (by omega)).symm

theorem list_range_map_sum (f : Nat → ℚ) (n : Nat) : ((List.range n).map f).sum = ∑ i ∈ range n, f i := by
  induction n with
  | zero => simp
  | succ n ih => simp [List.range_succ, Finset.sum_range_succ, ih]

theorem tail_eq_sum (w N : Nat) (p : ℚ) :
    tail w N p = ∑ j ∈ Ico w (N + 1), (N.choose j : ℚ) * p ^ j * (1 - p) ^ (N - j) := by
  unfold tail
  rw [← List.sum_eq_foldl, list_range_map_sum, Finset.sum_Ico_eq_sum_range]
  apply Finset.sum_congr rfl
  intro i _
  simp [pmf, choose_eq]

theorem tail_zero (N : Nat) (p : ℚ) : tail 0 N p = 1 := by
  rw [tail_eq_sum, Nat.Ico_zero_eq_range]
  have := (add_pow p (1 - p) N).symm
  rw [show p + (1 - p) = 1 by ring, one_pow] at this
  refine Eq.trans ?_ this
  apply Finset.sum_congr rfl
  intro i _
  ring

theorem prodRatio_eq (ks : List Nat) (N : Nat) :
    prodRatio ks N = (ks.map (fun (k : Nat) => (k : ℚ) / (N : ℚ))).prod := by
  unfold prodRatio
  rw [← List.prod_eq_foldl]

theorem pmf_eq (N : Nat) (p : ℚ) (j : Nat) : pmf N p j = (N.choose j : ℚ) * p ^ j * (1 - p) ^ (N - j) := by
  simp [pmf, choose_eq]

theorem tail_step (w N : Nat) (p : ℚ) (hw : w ≤ N) : tail w N p = pmf N p w + tail (w + 1) N p := by
  rw [tail_eq_sum, tail_eq_sum, pmf_eq, Finset.sum_eq_sum_Ico_succ_bot (by omega)]

theorem tail_above (w N : Nat) (p : ℚ) (hw : N < w) : tail w N p = 0 := by
  rw [tail_eq_sum, Finset.Ico_eq_empty (by omega), Finset.sum_empty]

theorem tail_top (N : Nat) (p : ℚ) : tail N N p = p ^ N := by
  rw [tail_step N N p (le_refl _), tail_above (N + 1) N p (by omega), pmf_eq]; simp

theorem head_add_tail (w N : Nat) (p : ℚ) (hw : w ≤ N + 1) : ∑ j ∈ range w, pmf N p j + tail w N p = 1 := by
  rw [← tail_zero N p, tail_eq_sum, tail_eq_sum, Nat.Ico_zero_eq_range]
  simp only [pmf_eq]
  exact Finset.sum_range_add_sum_Ico _ hw

theorem tail_one (N : Nat) (p : ℚ) : tail 1 N p = 1 - (1 - p) ^ N := by
  have h := head_add_tail 1 N p (Nat.succ_le_succ (Nat.zero_le N))
  rw [Finset.sum_range_one, pmf_eq, Nat.choose_zero_right, Nat.cast_one, pow_zero, one_mul, one_mul, Nat.sub_zero] at h
  exact eq_sub_of_add_eq' h

theorem sf_compl (k N : Nat) (p : ℚ) (hk : k ≤ N) :
    sfExact k N p = 1 - ∑ j ∈ range (k + 1), pmf N p j :=
  eq_sub_of_add_eq' (head_add_tail (k + 1) N p (Nat.succ_le_succ hk))

theorem tail_antitone (w w' N : Nat) (p : ℚ) (hp0 : 0 ≤ p) (hp1 : p ≤ 1) (hw : w ≤ w') :
    tail w' N p ≤ tail w N p := by
  have hq : 0 ≤ 1 - p := sub_nonneg.mpr hp1
  rw [tail_eq_sum, tail_eq_sum]
  exact Finset.sum_le_sum_of_subset_of_nonneg (Finset.Ico_subset_Ico_left hw) (fun j _ _ => by positivity)

/-- reflection: successes with probability `p` are failures with probability `1 - p` -/
theorem tail_reflect (w N : Nat) (p : ℚ) (hw : w ≤ N + 1) : tail w N p = 1 - tail (N + 1 - w) N (1 - p) := by
  -- the first `w` terms of the law for `p` are the last `w` terms of the law for `1 - p`
  have hlow : ∑ j ∈ range w, pmf N p j = tail (N + 1 - w) N (1 - p) := by
    have hrefl := Finset.sum_Ico_reflect (fun i => (N.choose i : ℚ) * (1 - p) ^ i * (1 - (1 - p)) ^ (N - i)) 0 hw
    rw [Nat.sub_zero] at hrefl
    rw [tail_eq_sum, ← Nat.Ico_zero_eq_range, ← hrefl]
    apply Finset.sum_congr rfl
    intro j hj
    have hjN : j ≤ N := Nat.le_of_lt_succ (Nat.lt_of_lt_of_le (mem_Ico.mp hj).2 hw)
    rw [pmf_eq, Nat.choose_symm hjN, Nat.sub_sub_self hjN, sub_sub_cancel]
    ring
  rw [← hlow]
  exact eq_sub_of_add_eq' (head_add_tail w N p hw)

/-- a product of ratios `K / N` with `0 < K ≤ N` lies in `(0, 1]` -/
theorem ratios_prod_bounds (ks : List Nat) (N : Nat) (hk : ∀ k ∈ ks, 0 < k ∧ k ≤ N) :
    0 < (ks.map (fun (k : Nat) => (k : ℚ) / (N : ℚ))).prod ∧ (ks.map (fun (k : Nat) => (k : ℚ) / (N : ℚ))).prod ≤ 1 := by
  induction ks with
  | nil => exact ⟨one_pos, le_refl _⟩
  | cons k ks ih =>
    obtain ⟨hpos, hle⟩ := ih (fun x hx => hk x (List.mem_cons_of_mem _ hx))
    obtain ⟨hk0, hkN⟩ := hk k List.mem_cons_self
    have hN : (0 : ℚ) < (N : ℚ) := Nat.cast_pos.mpr (lt_of_lt_of_le hk0 hkN)
    rw [List.map_cons, List.prod_cons]
    exact ⟨mul_pos (div_pos (Nat.cast_pos.mpr hk0) hN) hpos,
      mul_le_one₀ ((div_le_one hN).mpr (Nat.cast_le.mpr hkN)) (le_of_lt hpos) hle⟩

/-- for a success probability in `(0, 1]` and `w ≤ N` the tail `P(X ≥ w)` is at least `p ^ N > 0` and at most 1 -/
theorem tail_bounds (w N : Nat) (p : ℚ) (hwN : w ≤ N) (hp0 : 0 < p) (hp1 : p ≤ 1) :
    p ^ N ≤ tail w N p ∧ 0 < tail w N p ∧ tail w N p ≤ 1 := by
  have hlow : p ^ N ≤ tail w N p :=
    (tail_top N p).symm.trans_le (tail_antitone w N N p (le_of_lt hp0) hp1 hwN)
  exact ⟨hlow, lt_of_lt_of_le (pow_pos hp0 N) hlow,
    (tail_antitone 0 w N p (le_of_lt hp0) hp1 (Nat.zero_le w)).trans_eq (tail_zero N p)⟩

end C19
