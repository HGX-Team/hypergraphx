import Hgxv.Proofs.C14
import Hgxv.Model.C14Trace
/-! The rejection loop `while len(acc) < k: acc.add(tuple(sorted(draw)))` of `add_random_edges` and `scale_free_hypergraph`
(`collect`, `collectUsed`, `consumedExactly`): what it does is stated once (`LoopRun`) and proved by one induction; the other
facts about it are consequences (core Lean only). -/
namespace C14

theorem insAll_prefix {α : Type} [DecidableEq α] (l : List α) : ∀ acc : List α, ∃ t, insAll acc l = acc ++ t := by
  induction l with
  | nil => exact fun acc => ⟨[], (List.append_nil acc).symm⟩
  | cons x l ih =>
    intro acc
    obtain ⟨t, ht⟩ := ih (insNew acc x)
    rw [insAll_cons, ht]
    by_cases hx : x ∈ acc
    · rw [insNew_of_mem hx]; exact ⟨t, rfl⟩
    · rw [insNew_of_not_mem hx]; exact ⟨x :: t, by simp⟩

/-- the run of the loop on the stream `ds`, started with `acc`; `insAll acc ((ds.take m).map sortE)` is what it holds after
    `m` draws -/
structure LoopRun (k : Nat) (acc : List Edge) (ds : List (List Nat)) : Prop where
  used_le : collectUsed k acc ds ≤ ds.length
  result : collect k acc ds = insAll acc ((ds.take (collectUsed k acc ds)).map sortE)
  drawing : ∀ m, m < collectUsed k acc ds → (insAll acc ((ds.take m).map sortE)).length < k
  full : collectUsed k acc ds < ds.length → k ≤ (collect k acc ds).length
  bound : acc.length ≤ k → (collect k acc ds).length ≤ k
  returned : consumedExactly k acc ds = true ↔ collectUsed k acc ds = ds.length ∧ k ≤ (collect k acc ds).length
  stable : ∀ m, collectUsed k acc ds ≤ m →
    collectUsed k acc (ds.take m) = collectUsed k acc ds ∧ collect k acc (ds.take m) = collect k acc ds

theorem loopRun (k : Nat) : ∀ (ds : List (List Nat)) (acc : List Edge), LoopRun k acc ds := by
  intro ds
  induction ds with
  | nil => intro acc; constructor <;> simp [collectUsed, collect, consumedExactly]
  | cons d ds ih =>
    intro acc
    by_cases hlt : acc.length < k
    · have R := ih (insNew acc (sortE d))
      have hb := length_insNew_le acc (sortE d)
      have hu : collectUsed k acc (d :: ds) = collectUsed k (insNew acc (sortE d)) ds + 1 := by simp [collectUsed, hlt]
      have hc : collect k acc (d :: ds) = collect k (insNew acc (sortE d)) ds := by simp [collect, hlt]
      refine ⟨by rw [hu]; exact Nat.succ_le_succ R.used_le, by rw [hu, hc]; exact R.result, fun m hm => ?_,
        fun h => by rw [hc]; exact R.full (by rw [hu] at h; exact Nat.lt_of_succ_lt_succ h),
        fun _ => by rw [hc]; exact R.bound (by omega), ?_, fun m hm => ?_⟩
      · cases m with
        | zero => exact hlt
        | succ m => exact R.drawing m (by omega)
      · rw [hu, hc]; simpa [consumedExactly, hlt] using R.returned
      · cases m with
        | zero => omega
        | succ m => rw [hu, hc]; simpa [collectUsed, collect, hlt] using R.stable m (by omega)
    · have hu : collectUsed k acc (d :: ds) = 0 := by simp [collectUsed, hlt]
      have hc : collect k acc (d :: ds) = acc := by simp [collect, hlt]
      refine ⟨by omega, by simp [hu, hc], fun m hm => by omega, fun _ => by rw [hc]; omega,
        fun h => by rw [hc]; exact h, by simp [consumedExactly, hlt, hu], fun m _ => ?_⟩
      cases m <;> simp [collectUsed, collect, hlt]

theorem LoopRun.result_all {k acc ds} (R : LoopRun k acc ds) (h : collectUsed k acc ds = ds.length) :
    collect k acc ds = insAll acc (ds.map sortE) := by
  rw [R.result, h, List.take_length]

theorem collect_eq_take (k : Nat) (ds : List (List Nat)) (acc : List Edge) (h : acc.length ≤ k) :
    collect k acc ds = (insAll acc (ds.map sortE)).take k := by
  have R := loopRun k ds acc
  rcases Nat.lt_or_ge (collectUsed k acc ds) ds.length with hu | hu
  · -- stopped early: exactly `k` are held, and they are a prefix of what the whole stream holds
    obtain ⟨t, ht⟩ := insAll_prefix ((ds.drop (collectUsed k acc ds)).map sortE) (collect k acc ds)
    rw [R.result, ← insAll_append, ← List.map_append, List.take_append_drop, ← R.result] at ht
    rw [ht, List.take_left' (Nat.le_antisymm (R.bound h) (R.full hu))]
  · rw [← R.result_all (Nat.le_antisymm R.used_le hu), List.take_of_length_le (R.bound h)]

theorem collect_length (k : Nat) (ds : List (List Nat)) (acc : List Edge) (h : consumedExactly k acc ds = true)
    (hle : acc.length ≤ k) : (collect k acc ds).length = k :=
  have R := loopRun k ds acc
  Nat.le_antisymm (R.bound hle) (R.returned.mp h).2

theorem consumed_distinct (k : Nat) (ds : List (List Nat)) (acc : List Edge) (h : consumedExactly k acc ds = true)
    (hle : acc.length ≤ k) : (insAll acc (ds.map sortE)).length = k := by
  rw [← (loopRun k ds acc).result_all ((loopRun k ds acc).returned.mp h).1]
  exact collect_length k ds acc h hle

theorem consumed_prefix (k : Nat) (ds : List (List Nat)) (acc : List Edge)
    (h : k ≤ (insAll acc (ds.map sortE)).length) : consumedExactly k acc (ds.take (collectUsed k acc ds)) = true := by
  have R := loopRun k ds acc
  obtain ⟨s1, s2⟩ := R.stable _ (Nat.le_refl _)
  rw [(loopRun k _ acc).returned, s1, s2, List.length_take, Nat.min_eq_left R.used_le]
  refine ⟨rfl, ?_⟩
  rcases Nat.lt_or_ge (collectUsed k acc ds) ds.length with hu | hu
  · exact R.full hu
  · rwa [R.result_all (Nat.le_antisymm R.used_le hu)]

theorem mem_collect {k : Nat} {ds : List (List Nat)} {acc : List Edge} {e : Edge} (he : e ∈ collect k acc ds) :
    e ∈ acc ∨ (0 < k ∧ ∃ d ∈ ds, e = sortE d) := by
  have R := loopRun k ds acc
  rw [R.result, mem_insAll, List.mem_map] at he
  rcases he with he | ⟨d, hd, rfl⟩
  · exact Or.inl he
  · refine Or.inr ⟨?_, d, List.mem_of_mem_take hd, rfl⟩
    -- a draw was taken, so the loop started: `acc` held fewer than `k`
    have := R.drawing 0 (Nat.pos_of_ne_zero fun h0 => by simp [h0] at hd)
    simp at this; omega

theorem nodup_collect {k : Nat} {ds : List (List Nat)} {acc : List Edge} (h : acc.Nodup) : (collect k acc ds).Nodup := by
  rw [(loopRun k ds acc).result]; exact nodup_insAll h

theorem consumed_length_ge (k : Nat) (ds : List (List Nat)) (h : consumedExactly k [] ds = true) : k ≤ ds.length := by
  have h1 := consumed_distinct k ds [] h (by simp)
  have h2 := length_insAll_le (ds.map sortE) ([] : List Edge)
  simp at h2; omega

end C14
