import Hgxv.Proofs.C15Update
import Hgxv.Proofs.C15MM
/-! # C15 — one `_w_update` is an MM step: the penalised log-likelihood does not decrease -/
open Finset
namespace C15

/-- the support of `w` inside the `K × K` index range -/
def supp (K : ℕ) (w : Mat) : Finset (ℕ × ℕ) := (range K ×ˢ range K).filter (fun k => 0 < w k.1 k.2)

theorem sum_supp (K : ℕ) (w v g : Mat) (hv : ∀ a b, ¬ 0 < w a b → v a b = 0) :
    ∑ a ∈ range K, ∑ b ∈ range K, g a b * v a b = ∑ k ∈ supp K w, g k.1 k.2 * v k.1 k.2 := by
  unfold supp
  rw [← Finset.sum_product' (range K) (range K) (fun a b => g a b * v a b), Finset.sum_filter]
  apply Finset.sum_congr rfl
  intro k _
  split
  · rfl
  · rename_i h; rw [hv _ _ h]; ring

theorem poisson_supp (N K : ℕ) (u w v : Mat) (hv : ∀ a b, ¬ 0 < w a b → v a b = 0) (e : List ℕ) :
    poisson N K u v e = ∑ k ∈ supp K w, chat u (nodesOf N e) k.1 k.2 * v k.1 k.2 := by
  rw [poisson_lin, sum_supp K w v _ hv]

theorem self_supp (w : Mat) (hw : ∀ a b, 0 ≤ w a b) : ∀ a b, ¬ 0 < w a b → w a b = 0 :=
  fun a b h => le_antisymm (not_lt.mp h) (hw a b)

theorem upd_supp (d : Data) (u w r : Mat) (hw : ∀ a b, 0 ≤ w a b) :
    ∀ a b, ¬ 0 < w a b → wUpdate d u w r a b = 0 :=
  fun a b h => wUpdate_zero d u w r a b (self_supp w hw a b h)

theorem exists_coeff (N K : ℕ) (u w : Mat) (hu : ∀ i a, 0 ≤ u i a) (hw : ∀ a b, 0 ≤ w a b) (e : List ℕ)
    (h : 0 < poisson N K u w e) : ∃ k ∈ supp K w, 0 < chat u (nodesOf N e) k.1 k.2 := by
  rw [poisson_supp N K u w w (self_supp w hw)] at h
  apply Decidable.byContradiction
  intro hne
  have : ∑ k ∈ supp K w, chat u (nodesOf N e) k.1 k.2 * w k.1 k.2 ≤ 0 := by
    apply Finset.sum_nonpos
    intro k hk
    have h0 : chat u (nodesOf N e) k.1 k.2 = 0 :=
      le_antisymm (not_lt.mp fun hp => hne ⟨k, hk, hp⟩) (chat_nonneg u hu _ _ _)
    rw [h0]; simp
  linarith

theorem den_pos_of_coeff (d : Data) (u r : Mat) (hu : ∀ i a, 0 ≤ u i a) (hr : ∀ a b, 0 ≤ r a b) (e a b : ℕ)
    (h : 0 < chat u (nodesOf d.N (d.edge e)) a b) : 0 < chat u (range d.N) a b + r a b := by
  have := chat_mono u hu _ _ (nodesOf_subset d.N (d.edge e)) a b
  have := hr a b
  linarith

/-- the community pairs that take part in the w-step: `w_ab > 0` (zeros stay zeros) and a positive denominator
`b_ab + r_ab`.  The other pairs of the support occur in no Poisson parameter and carry no penalty
(`wNum_zero_of_den`): the objective does not depend on them, the guarded update (D46) sets them to 0. -/
def suppD (d : Data) (u w r : Mat) : Finset (ℕ × ℕ) :=
  (supp d.K w).filter (fun k => 0 < chat u (range d.N) k.1 k.2 + r k.1 k.2)

theorem mem_suppD {d : Data} {u w r : Mat} {k : ℕ × ℕ} :
    k ∈ suppD d u w r ↔ k ∈ supp d.K w ∧ 0 < chat u (range d.N) k.1 k.2 + r k.1 k.2 := mem_filter

theorem pos_of_mem_supp {K : ℕ} {w : Mat} {k : ℕ × ℕ} (h : k ∈ supp K w) : 0 < w k.1 k.2 := (mem_filter.mp h).2

theorem sum_suppD {M : Type} [AddCommMonoid M] (d : Data) (u w r : Mat) (f : ℕ × ℕ → M)
    (hf : ∀ k ∈ supp d.K w, ¬ 0 < chat u (range d.N) k.1 k.2 + r k.1 k.2 → f k = 0) :
    ∑ k ∈ supp d.K w, f k = ∑ k ∈ suppD d u w r, f k := by
  unfold suppD
  rw [Finset.sum_filter]
  apply Finset.sum_congr rfl
  intro k hk
  split
  · rfl
  · rename_i h; exact hf k hk h

theorem poisson_suppD (d : Data) (u w r v : Mat) (hu : ∀ i a, 0 ≤ u i a) (hr : ∀ a b, 0 ≤ r a b)
    (hv : ∀ a b, ¬ 0 < w a b → v a b = 0) (e : ℕ) :
    poisson d.N d.K u v (d.edge e) = ∑ k ∈ suppD d u w r, chat u (nodesOf d.N (d.edge e)) k.1 k.2 * v k.1 k.2 := by
  rw [poisson_supp d.N d.K u w v hv]
  exact sum_suppD d u w r _ fun k _ h => by rw [(coeff_zero_of_den d u r hu hr k.1 k.2 h).1 e, zero_mul]

theorem penalty_suppD (d : Data) (u w r v : Mat) (hu : ∀ i a, 0 ≤ u i a) (hr : ∀ a b, 0 ≤ r a b)
    (hv : ∀ a b, ¬ 0 < w a b → v a b = 0) :
    bfSum d.N d.K u v + ∑ a ∈ range d.K, ∑ b ∈ range d.K, r a b * v a b
      = ∑ k ∈ suppD d u w r, (chat u (range d.N) k.1 k.2 + r k.1 k.2) * v k.1 k.2 := by
  rw [bfSum_lin, ← Finset.sum_add_distrib]
  simp_rw [← Finset.sum_add_distrib, ← add_mul]
  rw [sum_supp d.K w v (fun a b => chat u (range d.N) a b + r a b) hv]
  exact sum_suppD d u w r _ fun k _ h => by
    obtain ⟨_, h1, h2⟩ := coeff_zero_of_den d u r hu hr k.1 k.2 h
    rw [h1, h2, add_zero, zero_mul]

theorem poisson_pos_after (d : Data) (u w r : Mat) (hu : ∀ i a, 0 ≤ u i a) (hw : ∀ a b, 0 ≤ w a b)
    (hA : ∀ e < d.E, 0 < d.A e) (hr : ∀ a b, 0 ≤ r a b)
    (hlam : ∀ e < d.E, 0 < poisson d.N d.K u w (d.edge e)) :
    ∀ e < d.E, 0 < poisson d.N d.K u (wUpdate d u w r) (d.edge e) := by
  intro e he
  obtain ⟨k, hk, hck⟩ := exists_coeff d.N d.K u w hu hw (d.edge e) (hlam e he)
  have hwk := pos_of_mem_supp hk
  have hw' : ∀ a b, 0 ≤ wUpdate d u w r a b :=
    wUpdate_nonneg d u w r hu hw (fun e he => (hA e he).le)
  have hpos : 0 < wUpdate d u w r k.1 k.2 := by
    rw [wUpdate_eq d u w r hu hr]
    apply div_pos
    · apply mul_pos hwk
      apply Finset.sum_pos'
      · intro e' he'
        exact div_nonneg (mul_nonneg (hA e' (mem_range.mp he')).le (chat_nonneg u hu _ _ _)) (poisson_nonneg _ _ u w hu hw _)
      · exact ⟨e, mem_range.mpr he, div_pos (mul_pos (hA e he) hck) (hlam e he)⟩
    · exact den_pos_of_coeff d u r hu hr e k.1 k.2 hck
  rw [poisson_supp d.N d.K u w _ (upd_supp d u w r hw)]
  apply Finset.sum_pos'
  · intro k' _; exact mul_nonneg (chat_nonneg u hu _ _ _) (hw' _ _)
  · exact ⟨k, hk, mul_pos hck hpos⟩

/-- objective of the w-step, as a real number:
`Σ_e A_e log λ_e(w) − Σ_{i<j} u_iᵀ w u_j − Σ_{ab} r_ab w_ab`  (`r = 0`: the log-likelihood up to constants) -/
noncomputable def penLik (d : Data) (u r w : Mat) : ℝ :=
  ∑ e ∈ range d.E, ((d.A e : ℚ) : ℝ) * Real.log ((poisson d.N d.K u w (d.edge e) : ℚ) : ℝ)
    - (((bfSum d.N d.K u w + ∑ a ∈ range d.K, ∑ b ∈ range d.K, r a b * w a b : ℚ)) : ℝ)

/-- `penLik` over the pairs that take part in the w-step, in the shape `MM_ascent` wants -/
theorem penLik_suppD (d : Data) (u r w v : Mat) (hu : ∀ i a, 0 ≤ u i a) (hr : ∀ a b, 0 ≤ r a b)
    (hv : ∀ a b, ¬ 0 < w a b → v a b = 0) :
    penLik d u r v
      = ∑ e ∈ range d.E, ((d.A e : ℚ) : ℝ) *
            Real.log (∑ k ∈ suppD d u w r, ((chat u (nodesOf d.N (d.edge e)) k.1 k.2 : ℚ) : ℝ) * ((v k.1 k.2 : ℚ) : ℝ))
        - ∑ k ∈ suppD d u w r, ((chat u (range d.N) k.1 k.2 + r k.1 k.2 : ℚ) : ℝ) * ((v k.1 k.2 : ℚ) : ℝ) := by
  unfold penLik
  rw [penalty_suppD d u w r v hu hr hv]
  simp_rw [poisson_suppD d u w r v hu hr hv, Rat.cast_sum, Rat.cast_mul]

/-- **one `_w_update` does not decrease the penalised log-likelihood** (instance of `MM_ascent`,
`k` ranging over the community pairs in the support of `w` with a positive denominator; the entries with a
vanishing denominator - set to 0 by the update - do not occur in the objective) -/
theorem ascent_step (d : Data) (u w r : Mat) (hu : ∀ i a, 0 ≤ u i a) (hw : ∀ a b, 0 ≤ w a b)
    (hA : ∀ e < d.E, 0 < d.A e) (hr : ∀ a b, 0 ≤ r a b)
    (hlam : ∀ e < d.E, 0 < poisson d.N d.K u w (d.edge e)) :
    penLik d u r w ≤ penLik d u r (wUpdate d u w r) := by
  rw [penLik_suppD d u r w w hu hr (self_supp w hw), penLik_suppD d u r w _ hu hr (upd_supp d u w r hw)]
  exact MM_ascent (range d.E) (suppD d u w r)
    (fun e => ((d.A e : ℚ) : ℝ))
    (fun e k => ((chat u (nodesOf d.N (d.edge e)) k.1 k.2 : ℚ) : ℝ))
    (fun k => ((chat u (range d.N) k.1 k.2 + r k.1 k.2 : ℚ) : ℝ))
    (fun k => ((w k.1 k.2 : ℚ) : ℝ))
    (fun e he => Rat.cast_nonneg.mpr (hA e (mem_range.mp he)).le)
    (fun e _ k _ => Rat.cast_nonneg.mpr (chat_nonneg u hu _ _ _))
    (fun k hk => Rat.cast_pos.mpr (mem_suppD.mp hk).2)
    (fun k hk => Rat.cast_pos.mpr (pos_of_mem_supp (mem_suppD.mp hk).1))
    (fun e he _ => by
      obtain ⟨k, hk, hck⟩ := exists_coeff d.N d.K u w hu hw (d.edge e) (hlam e (mem_range.mp he))
      exact ⟨k, mem_suppD.mpr ⟨hk, den_pos_of_coeff d u r hu hr e k.1 k.2 hck⟩, Rat.cast_pos.mpr hck⟩)
    (fun y e => ∑ k ∈ suppD d u w r, ((chat u (nodesOf d.N (d.edge e)) k.1 k.2 : ℚ) : ℝ) * y k)
    (fun _ _ => rfl)
    (fun k => ((wUpdate d u w r k.1 k.2 : ℚ) : ℝ))
    (fun k => by
      simp_rw [wUpdate_eq d u w r hu hr, poisson_suppD d u w r w hu hr (self_supp w hw), Rat.cast_div, Rat.cast_mul,
        Rat.cast_sum, Rat.cast_div, Rat.cast_mul, Rat.cast_sum, Rat.cast_mul])
    (fun y => ∑ e ∈ range d.E, ((d.A e : ℚ) : ℝ) *
        Real.log (∑ k ∈ suppD d u w r, ((chat u (nodesOf d.N (d.edge e)) k.1 k.2 : ℚ) : ℝ) * y k)
      - ∑ k ∈ suppD d u w r, ((chat u (range d.N) k.1 k.2 + r k.1 k.2 : ℚ) : ℝ) * y k)
    (fun _ => rfl)

end C15
