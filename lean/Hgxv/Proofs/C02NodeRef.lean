import Hgxv.Proofs.C02Abs
import Hgxv.Proofs.C02Ord
/-! C02: `remove_node` commutes with the abstraction (this is where `Ord` is used); ONE pass through the 18 public calls
(`applyOp_sim`: every `P` with `Pres P` is kept, and the call commutes with the abstraction; ten calls through their `*_sim` lemma,
`add_node`, `add_edge(s)`, `remove_node(s)`, `clear` and the two hypergraph-metadata calls paired in place from a `Pres` field or
`*_pres` and `abs_*`), of which `applyOp_pres`, `applyOp_inv`, `applyOp_ord`, `abs_applyOp` are projections; runs, `step`, histories. -/
namespace C02
open AL

variable {P : Store → Prop}

/-- the id of a stored key -/
def idOf (s : Store) (k : Key) : Nat := (get? s.edgeList k).getD 0

/-- the hyperedges `remove_node` works on -/
def incKeys (s : Store) (n : Node) : List Key :=
  (keys s.edgeList).filter (fun k => k.1.contains n) ++ (keys s.edgeList).filter (fun k => k.2.contains n)

/-- outputs of a run -/
def runOuts (s : Store) : List Op → List Out
  | [] => []
  | o :: os => (applyOp s o).2 :: runOuts (applyOp s o).1 os

def Spec.runOuts (s : Spec) : List Op → List Out
  | [] => []
  | o :: os => (Spec.applyOp s o).2 :: Spec.runOuts (Spec.applyOp s o).1 os

/-- abstraction of a state -/
def absState (st : State) : List (Nat × Spec) := st.map (fun p => (p.1, abs p.2))

/-- every object of a state satisfies `Ord` -/
def StateOrd (st : State) : Prop := ∀ slot s, get? st slot = some s → Ord s

def Spec.runCmds (st : List (Nat × Spec)) : List Cmd → List (Nat × Spec)
  | [] => st
  | c :: cs => Spec.runCmds (Spec.step st c).1 cs

def outsCmds (st : State) : List Cmd → List Out
  | [] => []
  | c :: cs => (step st c).2 :: outsCmds (step st c).1 cs

def Spec.outsCmds (st : List (Nat × Spec)) : List Cmd → List Out
  | [] => []
  | c :: cs => (Spec.step st c).2 :: Spec.outsCmds (Spec.step st c).1 cs

theorem keys_sorted_by_id (s : Store) (h : Inv s) (o : Ord s) :
    (keys s.edgeList).Pairwise (fun a b => idOf s a < idOf s b) := by
  have h1 : s.edgeList.Pairwise (fun p q => p.2 < q.2) := List.pairwise_map.mp o.edge_sorted
  have h2 : s.edgeList.Pairwise (fun p q => idOf s p.1 < idOf s q.1) := by
    refine List.Pairwise.imp_of_mem ?_ h1
    intro p q hp hq hpq
    simp only [idOf, get?_of_mem _ _ _ h.nd_edge hp, get?_of_mem _ _ _ h.nd_edge hq, Option.getD_some]
    exact hpq
  exact List.pairwise_map.mpr h2

theorem listing_sorted_by_id (s : Store) (h : Inv s) (ids : List Nat) (hs : ids.Pairwise (· < ·)) :
    (ids.filterMap (get? s.rev)).Pairwise (fun a b => idOf s a < idOf s b) := by
  refine List.Pairwise.filterMap _ ?_ hs
  intro a a' haa' b hb b' hb'
  simp only [idOf, h.edge_of_rev _ _ hb, h.edge_of_rev _ _ hb', Option.getD_some]
  exact haa'

/-- with sorted id lists a role listing IS the filter of the key list -/
theorem Inv.roleEdges_all {s : Store} (h : Inv s) (o : Ord s) {proj : Key → List Node} {adj : Adj}
    (hi : Index (· ≠ ·) s.rev proj adj) (n : Node) (ids : List Nat) (hn : get? adj n = some ids) (hs : ids.Pairwise (· < ·)) :
    roleEdges s adj n .all = some ((keys s.edgeList).filter (fun k => (proj k).contains n)) := by
  rw [hi.roleEdges_eq n ids hn .all none rfl]
  congr 1
  have hp := h.listing_perm hi n ids hn none
  have e1 : ((keys s.edgeList).filter (fun k => (proj k).contains n && passes none false k)) =
      (keys s.edgeList).filter (fun k => (proj k).contains n) := by
    congr 1; funext k; simp [passes_none]
  rw [e1] at hp
  refine List.Perm.eq_of_pairwise (le := fun a b => idOf s a < idOf s b)
    (fun a b _ _ h1 h2 => absurd h1 (Nat.lt_asymm h2)) ?_ ?_ hp
  · exact (listing_sorted_by_id s h ids hs).filter _
  · exact (keys_sorted_by_id s h o).filter _

theorem incKeys_wf (s : Store) (h : Inv s) (n : Node) : ∀ k ∈ incKeys s n, KeyWF k := by
  intro k hk
  have : k ∈ keys s.edgeList := by
    rcases List.mem_append.mp hk with h1 | h1 <;> exact (List.mem_filter.mp h1).1
  obtain ⟨id, hid⟩ := (h.mem_keys_iff k).mp this
  exact h.key_wf id k hid

/-- `remove_node` in closed form (present node, invariants) -/
theorem removeNode_eq (s : Store) (n : Node) (keep : Bool) (h : Inv s) (o : Ord s) (hn : has s.adjS n = true) :
    removeNode s n keep =
      (let r1 := if keep then reinsertAll s n (incKeys s n) else (s, .ok)
       match r1.2 with
       | .rej => r1
       | .ok =>
         let r2 := removeKeys r1.1 (incKeys s n)
         match r2.2 with
         | .rej => r2
         | .ok => (dropNode r2.1 n, .ok)) := by
  have hS : (get? s.adjS n).isSome := hn
  have hT : (get? s.adjT n).isSome := by rw [h.adj_same]; exact hS
  obtain ⟨idsS, hS'⟩ := Option.isSome_iff_exists.mp hS
  obtain ⟨idsT, hT'⟩ := Option.isSome_iff_exists.mp hT
  unfold removeNode
  have hT2 : has s.adjT n = true := hT
  simp only [hn, hT2, Bool.not_true, Bool.or_self, Bool.false_eq_true, if_false]
  rw [sourceEdges_eq_role, targetEdges_eq_role, h.roleEdges_all o h.indexS n idsS hS' (o.adjS_sorted n idsS hS'),
    h.roleEdges_all o h.indexT n idsT hT' (o.adjT_sorted n idsT hT')]
  rfl

theorem abs_removeNode (s : Store) (n : Node) (keep : Bool) (h : Inv s) (o : Ord s) :
    abs (removeNode s n keep).1 = (Spec.removeNode (abs s) n keep).1 ∧
    (removeNode s n keep).2 = (Spec.removeNode (abs s) n keep).2 := by
  by_cases hn : has s.adjS n = true
  · -- both sides run the same three phases over the same list `incKeys s n` (`removeNode_eq`, by `Ord`); each phase commutes
    -- with the abstraction (`reinsertAll_sim`, `removeKeys_sim`, `abs_dropNode`) and the verdicts decide alike
    rw [removeNode_eq s n keep h o hn]
    unfold Spec.removeNode
    rw [abs_has_node, hn]
    simp only [Bool.not_true, Bool.false_eq_true, if_false]
    have eL : Spec.incidentKeys (abs s) n = incKeys s n := by
      simp [Spec.incidentKeys, incKeys, abs_edges_keys]
    rw [eL]
    have wf := incKeys_wf s h n
    have a1 : abs (if keep = true then reinsertAll s n (incKeys s n) else (s, Out.ok)).1 =
        (if keep = true then Spec.reinsertAll (abs s) n (incKeys s n) else (abs s, Out.ok)).1 ∧
        (if keep = true then reinsertAll s n (incKeys s n) else (s, Out.ok)).2 =
        (if keep = true then Spec.reinsertAll (abs s) n (incKeys s n) else (abs s, Out.ok)).2 := by
      split
      · exact (reinsertAll_sim Inv.pres s n _ wf h).2
      · exact ⟨rfl, rfl⟩
    have hr1 : Inv (if keep = true then reinsertAll s n (incKeys s n) else (s, Out.ok)).1 := by
      split
      · exact (reinsertAll_sim Inv.pres s n _ wf h).1
      · exact h
    generalize (if keep = true then reinsertAll s n (incKeys s n) else (s, Out.ok)) = r1 at a1 hr1
    generalize (if keep = true then Spec.reinsertAll (abs s) n (incKeys s n) else (abs s, Out.ok)) = q1 at a1
    obtain ⟨a11, a12⟩ := a1
    cases ho : r1.2 with
    | rej =>
      have ho' : q1.2 = .rej := a12 ▸ ho
      simp only [ho']; exact ⟨a11, ho⟩
    | ok =>
      have ho' : q1.2 = .ok := a12 ▸ ho
      simp only [ho']
      obtain ⟨hr2, b1, b2⟩ := removeKeys_sim Inv.pres r1.1 (incKeys s n) hr1
      rw [← a11]
      cases ho2 : (removeKeys r1.1 (incKeys s n)).2 with
      | rej =>
        have ho2' := b2 ▸ ho2
        simp only [ho2']; exact ⟨b1, ho2⟩
      | ok =>
        have ho2' := b2 ▸ ho2
        simp only [ho2']
        rw [← b1]
        exact ⟨abs_dropNode _ n hr2, trivial⟩
  · have hn' : has s.adjS n = false := by cases hq : has s.adjS n <;> simp_all
    unfold removeNode Spec.removeNode
    rw [abs_has_node]
    simp only [hn', Bool.not_false, Bool.true_or, if_true]
    exact ⟨trivial, trivial⟩

theorem abs_removeNodes (s : Store) (keep : Bool) (ns : List Node) (h : Inv s) (o : Ord s) :
    abs (removeNodes s keep ns).1 = (Spec.removeNodes (abs s) keep ns).1 ∧
    (removeNodes s keep ns).2 = (Spec.removeNodes (abs s) keep ns).2 := by
  rw [removeNodes_eq_foldOk, Spec.removeNodes_eq_foldOk]
  exact (foldOk_Sim (P := fun s => Inv s ∧ Ord s) ns (fun s n _ hs =>
    ⟨(removeNode_pres ordPres s n keep hs).1, abs_removeNode s n keep hs.1 hs.2⟩) s ⟨h, o⟩).2

/-- the abstraction needs the id order for `remove_node` only: the abstract object re-inserts in creation order -/
theorem applyOp_sim (hP : Pres P) (s : Store) (op : Op) (ho : op.WF) (h : P s) :
    P (applyOp s op).1 ∧
    (Ord s → abs (applyOp s op).1 = (Spec.applyOp (abs s) op).1 ∧ (applyOp s op).2 = (Spec.applyOp (abs s) op).2) := by
  have hi := hP.inv h
  cases op with
  | addNode n md => exact ⟨hP.addNode s n md h, fun _ => ⟨abs_addNode s n md hi.rows, rfl⟩⟩
  | addNodes ns => exact ⟨(addNodes_sim hP s ns h).1, fun _ => ⟨(addNodes_sim hP s ns h).2, rfl⟩⟩
  | addEdge e w md => exact ⟨hP.addEdgeKey s _ w md (keyWF_canonAdd e ho) h, fun _ => abs_addEdge s e w md hi⟩
  | addEdges es ws mds => exact ⟨addEdgesWF_pres hP s es ws mds ho h, fun _ => abs_addEdges s es ws mds ho hi⟩
  | removeEdge e => exact ⟨(removeEdge_sim hP s e h).1, fun _ => (removeEdge_sim hP s e h).2⟩
  | removeEdges es => exact ⟨(removeEdges_sim hP s es h).1, fun _ => (removeEdges_sim hP s es h).2⟩
  | removeNode n keep => exact ⟨(removeNode_pres hP s n keep h).1, abs_removeNode s n keep hi⟩
  | removeNodes ns keep => exact ⟨removeNodes_pres hP s keep ns h, abs_removeNodes s keep ns hi⟩
  | setWeight e w => exact ⟨(setWeight_sim hP s e w h).1, fun _ => (setWeight_sim hP s e w h).2⟩
  | setNodeMeta n md => exact ⟨(setNodeMeta_sim hP s n md h).1, fun _ => (setNodeMeta_sim hP s n md h).2⟩
  | setEdgeMeta e md =>
    have := updEmeta_sim hP s e (fun _ => some md) h
    rw [← setEdgeMeta_eq s e md hi] at this
    exact ⟨this.1, fun _ => this.2⟩
  | setHMeta md => exact ⟨hP.setHmeta s md h, fun _ => ⟨rfl, rfl⟩⟩
  | setAttrH a v =>
    show P (setAttrHOp s a v).1 ∧ (_ → abs (setAttrHOp s a v).1 = (Spec.setAttrHOp (abs s) a v).1 ∧
      (setAttrHOp s a v).2 = (Spec.setAttrHOp (abs s) a v).2)
    unfold setAttrHOp Spec.setAttrHOp
    rw [show (abs s).hmeta = s.hmeta from rfl]
    split
    · exact ⟨h, fun _ => ⟨rfl, rfl⟩⟩
    · exact ⟨hP.setHmeta s _ h, fun _ => ⟨rfl, rfl⟩⟩
  | setAttrNode n a v => have := setAttrNode_eq s n a v ▸ updNmeta_sim hP s n (setAttr a v) h; exact ⟨this.1, fun _ => this.2⟩
  | setAttrEdge e a v => have := setAttrEdge_eq s e a v ▸ updEmeta_sim hP s e (setAttr a v) h; exact ⟨this.1, fun _ => this.2⟩
  | delAttrNode n a => have := delAttrNode_eq s n a ▸ updNmeta_sim hP s n (Spec.delAttr a) h; exact ⟨this.1, fun _ => this.2⟩
  | delAttrEdge e a => have := delAttrEdge_eq s e a ▸ updEmeta_sim hP s e (Spec.delAttr a) h; exact ⟨this.1, fun _ => this.2⟩
  | clear =>
    refine ⟨?_, fun _ => ⟨abs_clear s, rfl⟩⟩
    show P (clear s); rw [clear_eq]; exact hP.empty _ _ _

theorem applyOp_pres (hP : Pres P) (s : Store) (o : Op) (ho : o.WF) (h : P s) : P (applyOp s o).1 := (applyOp_sim hP s o ho h).1

theorem applyOp_inv (s : Store) (o : Op) (ho : o.WF) (h : Inv s) : Inv (applyOp s o).1 := applyOp_pres Inv.pres s o ho h

theorem applyOp_ord (s : Store) (op : Op) (ho : op.WF) (h : Inv s) (o : Ord s) : Ord (applyOp s op).1 :=
  (applyOp_pres ordPres s op ho ⟨h, o⟩).2

theorem abs_applyOp (s : Store) (op : Op) (ho : op.WF) (h : Inv s) (o : Ord s) :
    abs (applyOp s op).1 = (Spec.applyOp (abs s) op).1 ∧ (applyOp s op).2 = (Spec.applyOp (abs s) op).2 :=
  (applyOp_sim Inv.pres s op ho h).2 o

theorem run_pres (hP : Pres P) (s : Store) (ops : List Op) (hops : ∀ o ∈ ops, o.WF) (h : P s) : P (run s ops) := by
  induction ops generalizing s with
  | nil => exact h
  | cons o os ih =>
    exact ih _ (fun o' ho' => hops o' (List.mem_cons_of_mem _ ho')) (applyOp_pres hP s o (hops o List.mem_cons_self) h)

theorem run_inv (s : Store) (ops : List Op) (hops : ∀ o ∈ ops, o.WF) (h : Inv s) : Inv (run s ops) :=
  run_pres Inv.pres s ops hops h

theorem abs_run (s : Store) (ops : List Op) (hops : ∀ o ∈ ops, o.WF) (h : Inv s) (o : Ord s) :
    abs (run s ops) = Spec.run (abs s) ops ∧ runOuts s ops = Spec.runOuts (abs s) ops ∧
    Inv (run s ops) ∧ Ord (run s ops) := by
  induction ops generalizing s with
  | nil => exact ⟨rfl, rfl, h, o⟩
  | cons op os ih =>
    have hw := hops op List.mem_cons_self
    obtain ⟨h1, h2⟩ := abs_applyOp s op hw h o
    simp only [run, Spec.run, runOuts, Spec.runOuts]
    rw [← h1, ← h2]
    obtain ⟨i1, i2, i3, i4⟩ := ih _ (fun o' ho' => hops o' (List.mem_cons_of_mem _ ho')) (applyOp_inv s op hw h)
      (applyOp_ord s op hw h o)
    exact ⟨i1, by rw [i2], i3, i4⟩

theorem step_pres (hP : Pres P) (st : State) (c : Cmd) (hc : c.WF) (h : ∀ slot s, get? st slot = some s → P s) :
    ∀ slot s, get? (step st c).1 slot = some s → P s :=
  step_forall st c (fun _ w hm nm es ws mds e => (ctor_sim hP w hm nm es ws mds (by subst e; exact hc)).1)
    (fun slot o s e hs => applyOp_pres hP s o (by subst e; exact hc) (h slot s hs)) h

theorem step_inv (st : State) (c : Cmd) (hc : c.WF) (h : StateInv st) : StateInv (step st c).1 :=
  step_pres Inv.pres st c hc h

theorem abs_step (st : State) (c : Cmd) (hc : c.WF) (h : StateInv st) (o : StateOrd st) :
    absState (step st c).1 = (Spec.step (absState st) c).1 ∧ (step st c).2 = (Spec.step (absState st) c).2 ∧
    StateOrd (step st c).1 := by
  have hget : ∀ sl, get? (absState st) sl = (get? st sl).map abs := fun sl => get?_map_val st abs sl
  refine and_assoc.mp ⟨?_, fun slot s hs =>
    (step_pres ordPres st c hc (fun sl s hs => ⟨h sl s hs, o sl s hs⟩) slot s hs).2⟩
  cases c with
  | new slot w hm nm es ws mds =>
    obtain ⟨_, c1, c2⟩ := ctor_sim Inv.pres w hm nm es ws mds hc
    simp only [step, Spec.step]
    cases hr : ctor w hm nm es ws mds with
    | mk s out =>
      cases hq : Spec.ctor w hm nm es ws mds with
      | mk sp out' =>
        rw [hr, hq] at c1 c2
        simp only at c1 c2
        subst c2
        cases out with
        | rej => exact ⟨rfl, rfl⟩
        | ok => exact ⟨by rw [← c1]; exact map_val_set st abs slot s, rfl⟩
  | copy a b =>
    simp only [step, Spec.step, hget]
    cases ha : get? st a with
    | none => exact ⟨rfl, rfl⟩
    | some s => exact ⟨map_val_set st abs b s, rfl⟩
  | op slot op =>
    simp only [step, Spec.step, hget]
    cases ha : get? st slot with
    | none => exact ⟨rfl, rfl⟩
    | some s =>
      obtain ⟨h1, h2⟩ := abs_applyOp s op hc (h slot s ha) (o slot s ha)
      exact ⟨by simp only [Option.map_some]; rw [← h1]; exact map_val_set st abs slot _, h2⟩

/-- every object of every history -/
theorem runCmds_pres (hP : Pres P) (st : State) (cs : List Cmd) (hcs : ∀ c ∈ cs, c.WF)
    (h : ∀ slot s, get? st slot = some s → P s) : ∀ slot s, get? (runCmds st cs) slot = some s → P s := by
  induction cs generalizing st with
  | nil => exact h
  | cons c cs ih =>
    exact ih _ (fun c' hc' => hcs c' (List.mem_cons_of_mem _ hc')) (step_pres hP st c (hcs c List.mem_cons_self) h)

theorem runCmds_inv (st : State) (cs : List Cmd) (hcs : ∀ c ∈ cs, c.WF) (h : StateInv st) : StateInv (runCmds st cs) :=
  runCmds_pres Inv.pres st cs hcs h

theorem abs_runCmds (st : State) (cs : List Cmd) (hcs : ∀ c ∈ cs, c.WF) (h : StateInv st) (o : StateOrd st) :
    absState (runCmds st cs) = Spec.runCmds (absState st) cs ∧ outsCmds st cs = Spec.outsCmds (absState st) cs ∧
    StateOrd (runCmds st cs) := by
  induction cs generalizing st with
  | nil => exact ⟨rfl, rfl, o⟩
  | cons c cs ih =>
    have hw := hcs c List.mem_cons_self
    obtain ⟨h1, h2, h3⟩ := abs_step st c hw h o
    simp only [runCmds, Spec.runCmds, outsCmds, Spec.outsCmds]
    rw [← h1, ← h2]
    obtain ⟨i1, i2, i3⟩ := ih _ (fun c' hc' => hcs c' (List.mem_cons_of_mem _ hc')) (step_inv st c hw h) h3
    exact ⟨i1, by rw [i2], i3⟩

end C02
