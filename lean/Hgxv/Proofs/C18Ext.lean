import Hgxv.Proofs.C18Adj
import Hgxv.Proofs.C18RW
/-! C18, random walk: matrix powers, the t-step density, the density list, linearity / mass of one
density step, the inverse-cdf sampler, replayed and sampled walks. -/
namespace C18
open Finset

theorem list_sum_eq_sumTo (v : List Rat) : v.sum = sumTo v.length (vecOf v) := by
  unfold sumTo vecOf
  congr 1
  apply List.ext_getElem
  · simp
  · intro i h1 h2; simp at h1 h2 ⊢; simp [h2]

theorem at2_table (N : Nat) (f : Nat → Nat → Rat) (i j : Nat) (hi : i < N) (hj : j < N) : at2 (table N f) i j = f i j := by
  simp [at2, table, hi, hj]

theorem sumTo_succ (n : Nat) (p : Nat → Rat) : sumTo (n + 1) p = sumTo n p + p n := by
  rw [sumTo_eq, sumTo_eq, Finset.sum_range_succ]

theorem kPow_zero (es : List Edge) (N i j : Nat) (hi : i < N) (hj : j < N) :
    kPow es N 0 i j = if i = j then 1 else 0 := by
  unfold kPow kPowMat; rw [at2_table N _ i j hi hj]

theorem kPow_succ (es : List Edge) (N t i j : Nat) (hi : i < N) (hj : j < N) :
    kPow es N (t + 1) i j = ∑ k ∈ range N, kEntry es N i k * kPow es N t k j := by
  unfold kPow
  rw [kPowMat, matMul, at2_table N _ i j hi hj, sumTo_eq]
  apply Finset.sum_congr rfl
  intro k hk
  rw [kMat, at2_table N _ i k hi (mem_range.mp hk)]

theorem kPow_nonneg (es : List Edge) (N : Nat) : ∀ (t i j : Nat), i < N → j < N → 0 ≤ kPow es N t i j := by
  intro t
  induction t with
  | zero => intro i j hi hj; rw [kPow_zero es N i j hi hj]; split <;> norm_num
  | succ t ih =>
    intro i j hi hj
    rw [kPow_succ es N t i j hi hj]
    apply Finset.sum_nonneg
    intro k hk
    exact mul_nonneg (kEntry_nonneg es N i k) (ih k j (mem_range.mp hk) hj)

theorem kPow_row_sum (es : List Edge) (N : Nat) (hr : ∀ i, i < N → 0 < rowSum es N i) :
    ∀ (t i : Nat), i < N → ∑ j ∈ range N, kPow es N t i j = 1 := by
  intro t
  induction t with
  | zero =>
    intro i hi
    rw [Finset.sum_congr rfl (fun j hj => kPow_zero es N i j hi (mem_range.mp hj)), Finset.sum_ite_eq]; simp [hi]
  | succ t ih =>
    intro i hi
    -- row `i` of `K` is a vector of total one, and `K ** t` preserves totals
    rw [Finset.sum_congr rfl (fun j hj => kPow_succ es N t i j hi (mem_range.mp hj)),
      sum_mul_stochastic (kPow es N t) N ih]
    exact kRow_sum es N i (hr i hi)

theorem vecOf_lt (v : List Rat) (i : Nat) (h : i < v.length) : vecOf v i = v[i] := by
  simp [vecOf, h]

theorem densityNext_length (es : List Edge) (N : Nat) (v : List Rat) : (densityNext es N v).length = N := by
  simp [densityNext]

theorem vecOf_densityNext (es : List Edge) (N : Nat) (v : List Rat) (k : Nat) (hk : k < N) :
    vecOf (densityNext es N v) k = ∑ i ∈ range N, vecOf v i * kEntry es N i k := by
  rw [vecOf_lt _ _ (by rw [densityNext_length]; exact hk)]
  simp [densityNext, densityStep, sumTo_eq]

theorem densityAt_eq (es : List Edge) (N t : Nat) (v : List Rat) :
    densityAt es N t v = (List.range N).map (fun j => sumTo N (fun i => vecOf v i * kPow es N t i j)) := rfl

theorem densityAt_zero (es : List Edge) (N : Nat) (v : List Rat) (hl : v.length = N) : densityAt es N 0 v = v := by
  apply List.ext_getElem
  · simp [densityAt_eq, hl]
  · intro j h1 h2
    have hj : j < N := by simpa [densityAt_eq] using h1
    simp only [densityAt_eq, List.getElem_map, List.getElem_range, sumTo_eq]
    have : ∀ i ∈ range N, vecOf v i * kPow es N 0 i j = if i = j then vecOf v i else 0 := by
      intro i hi
      rw [kPow_zero es N i j (mem_range.mp hi) hj]; split <;> simp
    rw [Finset.sum_congr rfl this, Finset.sum_ite_eq']
    simp [hj, vecOf_lt v j h2]

theorem densityAt_succ (es : List Edge) (N t : Nat) (v : List Rat) :
    densityAt es N (t + 1) v = densityAt es N t (densityNext es N v) := by
  rw [densityAt_eq, densityAt_eq]
  apply List.map_congr_left
  intro j hj
  have hj : j < N := by simpa using hj
  rw [sumTo_eq, sumTo_eq]
  have h1 : ∀ i ∈ range N, vecOf v i * kPow es N (t + 1) i j
      = ∑ k ∈ range N, vecOf v i * kEntry es N i k * kPow es N t k j := by
    intro i hi
    rw [kPow_succ es N t i j (mem_range.mp hi) hj, Finset.mul_sum]
    apply Finset.sum_congr rfl; intro k _; ring
  have h2 : ∀ k ∈ range N, vecOf (densityNext es N v) k * kPow es N t k j
      = ∑ i ∈ range N, vecOf v i * kEntry es N i k * kPow es N t k j := by
    intro k hk
    rw [vecOf_densityNext es N v k (mem_range.mp hk), Finset.sum_mul]
  rw [Finset.sum_congr rfl h1, Finset.sum_congr rfl h2, Finset.sum_comm]

theorem densityList_getElem (es : List Edge) (N : Nat) : ∀ (t : Nat) (v : List Rat), v.length = N → ∀ k, k ≤ t →
    (densityList es N t v)[k]? = some (densityAt es N k v) := by
  intro t
  induction t with
  | zero =>
    intro v hl k hk
    obtain rfl : k = 0 := by omega
    rw [densityAt_zero es N v hl]; rfl
  | succ t ih =>
    intro v hl k hk
    cases k with
    | zero => rw [densityAt_zero es N v hl]; rfl
    | succ k =>
      rw [densityList, List.getElem?_cons_succ, ih (densityNext es N v) (densityNext_length es N v) k (by omega),
        densityAt_succ]

theorem densityNext_getElem? (es : List Edge) (N : Nat) (w : List Rat) (j : Nat) (hj : j < N) :
    (densityNext es N w)[j]? = some (sumTo N (fun i => vecOf w i * kEntry es N i j)) := by
  simp [densityNext, densityStep, hj]

theorem densityList_length (es : List Edge) (N : Nat) : ∀ (t : Nat) (v : List Rat), (densityList es N t v).length = t + 1 := by
  intro t
  induction t with
  | zero => intro v; rfl
  | succ t ih => intro v; rw [densityList, List.length_cons, ih]

theorem densityList_adj (es : List Edge) (N : Nat) :
    ∀ (t : Nat) (v : List Rat), Adj (fun a b => b = densityNext es N a) (densityList es N t v) := by
  intro t
  induction t with
  | zero => intro v; exact adj_single _ _
  | succ t ih =>
    intro v
    have := ih (densityNext es N v)
    -- `densityList es N t _` shows its head only once `t` is a constructor
    cases t with
    | zero => exact adj_cons _ _ _ _ rfl this
    | succ t => exact adj_cons _ _ _ _ rfl this

theorem densityNext_sum (es : List Edge) (N : Nat) (hr : ∀ i, i < N → 0 < rowSum es N i) (v : List Rat)
    (hl : v.length = N) : (densityNext es N v).sum = v.sum := by
  have e1 : (densityNext es N v).sum = sumTo N (densityStep es N (vecOf v)) := rfl
  rw [e1, sumTo_eq, density_mass es N hr, ← sumTo_eq, ← hl, ← list_sum_eq_sumTo]

theorem densityList_forall (es : List Edge) (N : Nat) (P : List Rat → Prop) (hstep : ∀ w, P w → P (densityNext es N w)) :
    ∀ (t : Nat) (v : List Rat), P v → ∀ w ∈ densityList es N t v, P w := by
  intro t
  induction t with
  | zero => intro v hv w hw; rw [List.mem_singleton.mp hw]; exact hv
  | succ t ih =>
    intro v hv w hw
    rcases List.mem_cons.mp hw with rfl | hw
    · exact hv
    · exact ih _ (hstep v hv) w hw

theorem densityList_mass (es : List Edge) (N : Nat) (hr : ∀ i, i < N → 0 < rowSum es N i) (t : Nat) (v : List Rat)
    (hl : v.length = N) : ∀ w ∈ densityList es N t v, w.length = N ∧ w.sum = v.sum :=
  densityList_forall es N (fun w => w.length = N ∧ w.sum = v.sum)
    (fun w hw => ⟨densityNext_length es N w, (densityNext_sum es N hr w hw.1).trans hw.2⟩) t v ⟨hl, rfl⟩

theorem vecOf_nonneg (v : List Rat) (hv : ∀ x ∈ v, 0 ≤ x) (i : Nat) : 0 ≤ vecOf v i := by
  rw [vecOf, List.getD_eq_getElem?_getD]
  cases h : v[i]? with
  | none => exact le_refl _
  | some x => exact hv x (List.mem_of_getElem? h)

theorem densityStep_linear (es : List Edge) (N : Nat) (a b : Rat) (s s' : Nat → Rat) (j : Nat) :
    densityStep es N (fun i => a * s i + b * s' i) j = a * densityStep es N s j + b * densityStep es N s' j := by
  unfold densityStep
  simp only [sumTo_eq]
  rw [Finset.mul_sum, Finset.mul_sum, ← Finset.sum_add_distrib]
  apply Finset.sum_congr rfl; intro i _; ring

theorem vecOf_zipWith (a b : Rat) (v w : List Rat) (hl : v.length = w.length) (i : Nat) :
    vecOf (List.zipWith (fun x y => a * x + b * y) v w) i = a * vecOf v i + b * vecOf w i := by
  simp only [vecOf, List.getD_eq_getElem?_getD, List.getElem?_zipWith]
  by_cases h : i < v.length
  · rw [List.getElem?_eq_getElem h, List.getElem?_eq_getElem (hl ▸ h)]; rfl
  · rw [List.getElem?_eq_none (by omega), List.getElem?_eq_none (by omega)]
    exact (by rw [mul_zero, mul_zero, add_zero] : (0 : Rat) = a * 0 + b * 0)

theorem piList_fixed (es : List Edge) (N : Nat) (hr : ∀ i, i < N → 0 < rowSum es N i) :
    densityNext es N ((List.range N).map (piEntry es N)) = (List.range N).map (piEntry es N) := by
  unfold densityNext
  apply List.map_congr_left
  intro j _
  unfold densityStep
  rw [sumTo_eq, ← pi_fixed es N hr j]
  apply Finset.sum_congr rfl
  intro i hi
  have hi' : i < N := mem_range.mp hi
  rw [vecOf_lt _ _ (by simpa using hi')]
  simp

theorem densityList_const (es : List Edge) (N : Nat) (v : List Rat) (hfix : densityNext es N v = v) (t : Nat) :
    ∀ w ∈ densityList es N t v, w = v :=
  densityList_forall es N (· = v) (fun w hw => by rw [hw, hfix]) t v rfl

theorem chooseFrom_spec (p : Nat → Rat) (u : Rat) : ∀ (n j : Nat), sumTo j p ≤ u → u < sumTo (j + n) p →
    j ≤ chooseFrom p u n j (sumTo j p) ∧ chooseFrom p u n j (sumTo j p) < j + n
    ∧ sumTo (chooseFrom p u n j (sumTo j p)) p ≤ u ∧ u < sumTo (chooseFrom p u n j (sumTo j p) + 1) p := by
  intro n
  induction n with
  | zero => intro j h1 h2; exact absurd (lt_of_le_of_lt h1 h2) (lt_irrefl _)
  | succ n ih =>
    intro j h1 h2
    unfold chooseFrom
    by_cases h : u < sumTo j p + p j
    · rw [if_pos h]
      exact ⟨Nat.le_refl _, by omega, h1, by rw [sumTo_succ]; exact h⟩
    · rw [if_neg h, ← sumTo_succ]
      obtain ⟨a, b, c, d⟩ := ih (j + 1) (by rw [sumTo_succ]; exact not_lt.mp h)
        (by rw [Nat.add_assoc, Nat.add_comm 1 n]; exact h2)
      exact ⟨by omega, by omega, c, d⟩

theorem chooseIdx_spec (p : Nat → Rat) (N : Nat) (u : Rat) (h0 : 0 ≤ u) (h1 : u < sumTo N p) :
    chooseIdx p N u < N ∧ 0 < p (chooseIdx p N u)
    ∧ sumTo (chooseIdx p N u) p ≤ u ∧ u < sumTo (chooseIdx p N u + 1) p := by
  obtain ⟨_, b, c, d⟩ := chooseFrom_spec p u N 0 h0 (by rw [Nat.zero_add]; exact h1)
  refine ⟨by rw [Nat.zero_add] at b; exact b, ?_, c, d⟩
  rw [sumTo_succ] at d
  exact lt_add_iff_pos_right _ |>.mp (lt_of_le_of_lt c d)

theorem validChoice_iff (es : List Edge) (N a b : Nat) : validChoice es N a b = true ↔ b < N ∧ 0 < kEntry es N a b := by
  simp [validChoice]

theorem walk_eq_some (es : List Edge) (N : Nat) : ∀ (cs : List Nat) (s : Nat) (ns : List Nat),
    walk es N s cs = some ns ↔ ns = s :: cs ∧ Adj (fun a b => validChoice es N a b = true) (s :: cs) := by
  intro cs
  induction cs with
  | nil => intro s ns; rw [walk, Option.some.injEq]; exact ⟨fun h => ⟨h.symm, adj_single _ _⟩, fun h => h.1.symm⟩
  | cons c cs ih =>
    intro s ns
    rw [walk, adj_cons_iff]
    by_cases hvc : validChoice es N s c = true
    · rw [if_pos hvc, Option.map_eq_some_iff]
      constructor
      · rintro ⟨ms, hms, rfl⟩
        obtain ⟨rfl, hadj⟩ := (ih c ms).mp hms
        exact ⟨rfl, hvc, hadj⟩
      · rintro ⟨rfl, _, hadj⟩
        exact ⟨c :: cs, (ih c _).mpr ⟨rfl, hadj⟩, rfl⟩
    · rw [if_neg hvc]
      exact ⟨fun h => (by cases h), fun h => absurd h.2.1 hvc⟩

theorem walkU_eq_cons (es : List Edge) (N s : Nat) (us : List Rat) : walkU es N s us = s :: (walkU es N s us).tail := by
  cases us <;> rfl

theorem walkU_length (es : List Edge) (N : Nat) : ∀ (us : List Rat) (s : Nat), (walkU es N s us).length = us.length + 1 := by
  intro us
  induction us with
  | nil => intro s; rfl
  | cons u us ih => intro s; rw [walkU, List.length_cons, ih, List.length_cons]

theorem walkU_valid (es : List Edge) (N : Nat) (hrow : ∀ i, i < N → sumTo N (kEntry es N i) = 1) :
    ∀ (us : List Rat), (∀ u ∈ us, 0 ≤ u ∧ u < 1) → ∀ s, s < N →
      Adj (fun a b => validChoice es N a b = true) (walkU es N s us) := by
  intro us
  induction us with
  | nil => intro _ s _; exact adj_single _ _
  | cons u us ih =>
    intro hu s hs
    obtain ⟨c1, c2, _, _⟩ := chooseIdx_spec (kEntry es N s) N u (hu u List.mem_cons_self).1
      (by rw [hrow s hs]; exact (hu u List.mem_cons_self).2)
    have := ih (fun x hx => hu x (List.mem_cons_of_mem _ hx)) _ c1
    rw [walkU_eq_cons] at this
    rw [walkU, walkU_eq_cons]
    exact adj_cons _ _ _ _ ((validChoice_iff es N _ _).mpr ⟨c1, c2⟩) this

end C18
