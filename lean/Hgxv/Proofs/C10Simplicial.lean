import Hgxv.Model.C10
import Hgxv.Proofs.SortLib
/-! `combos`, `allSubsets`, `setAdd`, `simplicial`: over sorted hyperedges the complex is the set of sub-tuples.  Core Lean only. -/
namespace C10

theorem mem_combos {α : Type} (l : List α) (r : Nat) (k : List α) :
    k ∈ combos l r ↔ k.Sublist l ∧ k.length = r := by
  induction l generalizing r k with
  | nil =>
    cases r with
    | zero => simp [combos]
    | succ r => simp [combos]; intro h; subst h; simp
  | cons a t ih =>
    cases r with
    | zero =>
      simp only [combos, List.mem_singleton]
      constructor
      · rintro rfl; simp
      · rintro ⟨_, h⟩; exact List.length_eq_zero_iff.1 h
    | succ r =>
      simp only [combos, List.mem_append, List.mem_map, ih]
      constructor
      · rintro (⟨c, ⟨hc, hl⟩, rfl⟩ | ⟨h1, h2⟩)
        · exact ⟨List.Sublist.cons_cons a hc, by simp [hl]⟩
        · exact ⟨List.Sublist.cons a h1, h2⟩
      · rintro ⟨hs, hl⟩
        cases hs with
        | cons _ h => exact Or.inr ⟨h, hl⟩
        | cons_cons _ h => rename_i k'; exact Or.inl ⟨k', ⟨h, by simpa using hl⟩, rfl⟩

theorem mem_allSubsets {α : Type} (e k : List α) : k ∈ allSubsets e ↔ k.Sublist e := by
  simp only [allSubsets, List.mem_flatMap, List.mem_range, mem_combos]
  constructor
  · rintro ⟨r, _, h, _⟩; exact h
  · intro h; exact ⟨k.length, Nat.lt_succ_of_le h.length_le, h, rfl⟩

theorem insertSorted_eq : insertSorted = NatSort.insert := by
  funext a l
  induction l with
  | nil => rfl
  | cons b bs ih => simp only [insertSorted, NatSort.insert, ih]

theorem sortNodes_eq : sortNodes = NatSort.isort := by
  funext l; simp only [sortNodes, NatSort.isort, insertSorted_eq]

theorem sortNodes_of_sorted (l : List Nat) (h : l.Pairwise (· < ·)) : sortNodes l = l :=
  sortNodes_eq ▸ NatSort.isort_of_strict h

theorem mem_setAdd (s : List Edge) (x k : Edge) : k ∈ setAdd s x ↔ k ∈ s ∨ k = x :=
  ListLib.mem_addIfNew List.contains_iff_mem k

theorem nodup_setAdd (s : List Edge) (x : Edge) (h : s.Nodup) : (setAdd s x).Nodup :=
  ListLib.nodup_addIfNew List.contains_iff_mem h

theorem mem_foldl_setAdd (f : List Nat → Edge) (l : List (List Nat)) (s : List Edge) (k : Edge) :
    k ∈ l.foldl (fun s sub => setAdd s (f sub)) s ↔ k ∈ s ∨ ∃ sub ∈ l, f sub = k :=
  (ListLib.foldl_or (k ∈ ·) _ (f · = k) (fun s sub => (mem_setAdd s (f sub) k).trans (or_congr_right eq_comm)) l s)

theorem nodup_foldl_setAdd (f : List Nat → Edge) (l : List (List Nat)) (s : List Edge) (h : s.Nodup) :
    (l.foldl (fun s sub => setAdd s (f sub)) s).Nodup :=
  ListLib.foldl_inv _ (fun s sub hs => nodup_setAdd s (f sub) hs) l s h

/-- `simplicial_complex` is one run of `s_edges.add` over all sub-tuples of all hyperedges -/
theorem simplicial_eq (es : List Edge) :
    simplicial es = (es.flatMap allSubsets).foldl (fun s sub => setAdd s (sortNodes sub)) [] := by
  simp only [simplicial, List.foldl_flatMap]; rfl

theorem nodup_simplicial (es : List Edge) : (simplicial es).Nodup :=
  simplicial_eq es ▸ nodup_foldl_setAdd _ _ _ List.nodup_nil

theorem mem_simplicial_iff (es : List Edge) (hsorted : ∀ e ∈ es, e.Pairwise (· < ·)) (k : Edge) :
    k ∈ simplicial es ↔ ∃ e ∈ es, k.Sublist e := by
  simp only [simplicial_eq, mem_foldl_setAdd, List.not_mem_nil, false_or, List.mem_flatMap, mem_allSubsets]
  constructor
  · rintro ⟨sub, ⟨e, he, hs⟩, rfl⟩
    rw [sortNodes_of_sorted sub ((hsorted e he).sublist hs)]; exact ⟨e, he, hs⟩
  · rintro ⟨e, he, hs⟩
    exact ⟨k, ⟨e, he, hs⟩, sortNodes_of_sorted k ((hsorted e he).sublist hs)⟩

end C10
