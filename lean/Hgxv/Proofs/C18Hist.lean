import Hgxv.Proofs.C18Cont
/-! # C18 — the listing order of the hyperedges is irrelevant

`Hypergraph.get_edges()` lists the stored hyperedges in the order of the internal dictionary, which depends on the
history of the object (removal + re-insertion moves a hyperedge to the end, a loaded / copied / rebuilt object may
list them differently).  Every quantity of the model is invariant under a permutation of the hyperedge list, so the
results depend on the *content* of the hypergraph only. -/
namespace C18

theorem tEntry_perm {es es' : List Edge} (h : es.Perm es') : tEntry es = tEntry es' := by
  funext i j
  unfold tEntry
  exact (h.map _).sum_nat

theorem rowSum_perm {es es' : List Edge} (h : es.Perm es') : rowSum es = rowSum es' := by
  funext N i
  unfold rowSum
  rw [tEntry_perm h]

theorem kEntry_perm {es es' : List Edge} (h : es.Perm es') : kEntry es = kEntry es' := by
  funext N i j
  unfold kEntry
  rw [tEntry_perm h, rowSum_perm h]

theorem growN_perm {es es' : List Edge} (h : es.Perm es') (N k : Nat) (S : List Nat) :
    growN es N k S = growN es' N k S := by
  induction k generalizing S with
  | zero => rfl
  | succ k ih => simp only [growN, grow, share, h.any_eq, ih]

theorem connectedB_perm {es es' : List Edge} (h : es.Perm es') : connectedB es = connectedB es' := by
  funext N
  unfold connectedB
  rw [growN_perm h]

theorem rowsPositive_perm {es es' : List Edge} (h : es.Perm es') : rowsPositive es = rowsPositive es' := by
  funext N
  unfold rowsPositive
  rw [rowSum_perm h]

theorem transitionMatrix_perm {es es' : List Edge} (h : es.Perm es') : transitionMatrix es = transitionMatrix es' := by
  funext N
  unfold transitionMatrix
  rw [connectedB_perm h, kEntry_perm h]

theorem stationary_perm {es es' : List Edge} (h : es.Perm es') : stationary es = stationary es' := by
  funext N
  unfold stationary piEntry
  rw [connectedB_perm h, rowSum_perm h]

theorem densityNext_perm {es es' : List Edge} (h : es.Perm es') : densityNext es = densityNext es' := by
  funext N v
  unfold densityNext densityStep
  rw [kEntry_perm h]

theorem densityList_perm {es es' : List Edge} (h : es.Perm es') (N t : Nat) (v : List Rat) :
    densityList es N t v = densityList es' N t v := by
  induction t generalizing v with
  | zero => rfl
  | succ t ih => simp only [densityList]; rw [densityNext_perm h, ih]

theorem validChoice_perm {es es' : List Edge} (h : es.Perm es') : validChoice es = validChoice es' := by
  funext N cur c
  unfold validChoice
  rw [kEntry_perm h]

theorem walk_perm {es es' : List Edge} (h : es.Perm es') (N cur : Nat) (cs : List Nat) :
    walk es N cur cs = walk es' N cur cs := by
  induction cs generalizing cur with
  | nil => rfl
  | cons c cs ih => simp only [walk]; rw [validChoice_perm h, ih]

theorem kPowMat_perm {es es' : List Edge} (h : es.Perm es') (N t : Nat) : kPowMat es N t = kPowMat es' N t := by
  induction t with
  | zero => rfl
  | succ t ih => simp only [kPowMat, kMat, kEntry_perm h, ih]

theorem walkU_perm {es es' : List Edge} (h : es.Perm es') (N s : Nat) (us : List Rat) :
    walkU es N s us = walkU es' N s us := by
  induction us generalizing s with
  | nil => rfl
  | cons u us ih => simp only [walkU, kEntry_perm h, ih]

theorem pairNbrs_perm {es es' : List Edge} (h : es.Perm es') : pairNbrs es = pairNbrs es' := by
  funext nodes v
  unfold pairNbrs
  congr 1
  funext u
  rw [h.any_eq]

theorem triplets_perm {es es' : List Edge} (h : es.Perm es') (v : Nat) : (triplets es v).Perm (triplets es' v) :=
  h.filter _

theorem loopHits_perm (f : Nat → Rat) (rate : Rat) {l l' : List Bool} (h : l.Perm l') (p : Nat) :
    loopHits f rate l p = loopHits f rate l' p := by
  rw [loopHits_eq_tries, loopHits_eq_tries, h.count_eq]

theorem nodeStep_perm {es es' : List Edge} (h : es.Perm es') : nodeStep es = nodeStep es' := by
  funext nodes r f Iold st v
  unfold nodeStep
  rw [pairNbrs_perm h]
  have ht : ∀ p, loopHits f r.betaD ((triplets es v).map (triHit Iold v)) p
      = loopHits f r.betaD ((triplets es' v).map (triHit Iold v)) p :=
    fun p => loopHits_perm f r.betaD ((triplets_perm h v).map _) p
  simp only [ht]

theorem runStates_perm {es es' : List Edge} (h : es.Perm es') (nodes keys : List Nat) (r : Rates) (f : Nat → Rat)
    (n : Nat) (I : Nat → Bool) (p : Nat) :
    runStates es nodes keys r f n I p = runStates es' nodes keys r f n I p := by
  induction n generalizing I p with
  | zero => rfl
  | succ n ih => simp only [runStates, step, nodeStep_perm h, ih]

theorem spread_perm {es es' : List Edge} (h : es.Perm es') : spread es = spread es' := by
  funext nodes r I v
  unfold spread
  rw [pairNbrs_perm h, (triplets_perm h v).any_eq]

theorem spreadCounts_perm {es es' : List Edge} (h : es.Perm es') (nodes keys : List Nat) (r : Rates)
    (n : Nat) (I : Nat → Bool) : spreadCounts es nodes keys r n I = spreadCounts es' nodes keys r n I := by
  induction n generalizing I with
  | zero => rfl
  | succ n ih => simp only [spreadCounts]; rw [spread_perm h]; split <;> simp [ih]

end C18
