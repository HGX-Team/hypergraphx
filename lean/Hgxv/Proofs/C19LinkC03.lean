import Hgxv.Proofs.C03Ref
import Hgxv.Proofs.C19LinkBase
/-! # C19 ↔ C03: `TemporalHypergraph`

`ofSpec03 : C03.Spec → Content Key Int` (a record key `(time, sorted nodes)` becomes `(sorted nodes, [time])`).  Under the
content invariant `Dyn opsT C03.one CanonT` (given by `C03.Inv`): `C03.Spec.removeNode` (record by record: remove, then
re-insert the shrunk record with the weight and metadata read before the removal, an emptied record is dropped) is
`C19.removeNode opsT`, `C03.Spec.removeKey` is `C19.removeEdge` (`removeKey03`), with the same verdicts; the public `removeEdge` on a
key as `get_edges` lists it reduces to it (`rmEdge03_link`).  Core Lean only. -/
namespace C19
open AL

def keyT (k : C03.Key) : Key := (k.2, [k.1])
theorem keyT_inj (a b : C03.Key) (h : keyT a = keyT b) : a = b := by
  obtain ⟨a1, a2⟩ := a
  obtain ⟨b1, b2⟩ := b
  simp only [keyT, Prod.mk.injEq, List.cons.injEq, and_true] at h
  rw [h.1, h.2]

/-- the content of an abstract `TemporalHypergraph` -/
def ofSpec03 (a : C03.Spec) : Content Key Int :=
  { weighted := a.weighted, nodes := mapKV (fun n => n) mdOf a.nodes, edges := mapKV keyT recOf a.recs }

abbrev Dyn03 (c : Content Key Int) : Prop := Dyn opsT C03.one CanonT c

theorem nodes03_get (a : C03.Spec) (n : Node) : get? (ofSpec03 a).nodes n = (get? a.nodes n).map mdOf :=
  contentOf_get_node keyT n

theorem edges03_get (a : C03.Spec) (k : C03.Key) : get? (ofSpec03 a).edges (keyT k) = (get? a.recs k).map recOf :=
  contentOf_get_edge keyT keyT_inj k

/-- map update of an insertion (`add_edge` after its argument checks) -/
theorem addKey03 (a : C03.Spec) (k : C03.Key) (wt : Int) (md : C03.Meta) (h : Dyn03 (ofSpec03 a)) :
    ofSpec03 (C03.Spec.addKey a k wt md) = addEdge opsT (ofSpec03 a) (keyT k) wt (mdOf md) :=
  contentOf_add_touch keyT keyT_inj opsT (mem := fun k => k.2) (fun _ => rfl) k wt md h

theorem removeKey03 (a : C03.Spec) (k : C03.Key) :
    ((get? (ofSpec03 a).edges (keyT k)).isSome = true →
      (C03.Spec.removeKey a k).2 = .ok ∧ ofSpec03 (C03.Spec.removeKey a k).1 = removeEdge (ofSpec03 a) (keyT k)) ∧
    ((get? (ofSpec03 a).edges (keyT k)).isSome = false → C03.Spec.removeKey a k = (a, .rej)) := by
  rw [edges03_get, Option.isSome_map]
  unfold C03.Spec.removeKey
  constructor
  · intro hp
    rw [if_pos hp]
    exact ⟨rfl, contentOf_eraseEdge keyT keyT_inj k⟩
  · intro hp
    rw [if_neg (by simp [hp])]

/-- one iteration of the loop of `remove_node` -/
theorem dropKey03 (a : C03.Spec) (n : Node) (keep : Bool) (k : C03.Key) (h : Dyn03 (ofSpec03 a)) :
    ofSpec03 (C03.Spec.dropKey a n keep k) =
      (if keep = true then shrinkOneK opsT n (ofSpec03 a) (keyT k) else removeEdge (ofSpec03 a) (keyT k)) := by
  unfold C03.Spec.dropKey shrinkOneK
  rw [edges03_get]
  cases hg : get? a.recs k with
  | none =>
    cases keep with
    | true => rfl
    | false =>
      simp only [Bool.false_eq_true, if_false, removeEdge]
      rw [erase_of_not_mem _ _ (by rw [edges03_get, hg]; rfl)]
  | some v =>
    obtain ⟨w0, md0⟩ := v
    -- the spec re-inserts through its public `add_edge`: the guards pass because the shrunk key is canonical already (a
    -- filter of a sorted tuple) and, when unweighted, the weight read is the unit weight
    have hc : get? (ofSpec03 a).edges (keyT k) = some (recOf (w0, md0)) := by rw [edges03_get, hg]; rfl
    have hmem : (keyT k, recOf (w0, md0)) ∈ (ofSpec03 a).edges := mem_of_get? _ _ _ hc
    have hrm : ofSpec03 { a with recs := erase a.recs k } = removeEdge (ofSpec03 a) (keyT k) :=
      contentOf_eraseEdge keyT keyT_inj k
    simp only [Option.map_some]
    cases keep with
    | false => simpa using hrm
    | true =>
      simp only [Bool.true_and, if_true, filter_bne_without]
      unfold shrinkOne
      simp only [opsT, keyT]
      by_cases hemp : without k.2 n = []
      · simp only [hemp, List.isEmpty_nil, Bool.not_true, Bool.false_eq_true, if_false, if_true]
        exact hrm
      · have hne : (without k.2 n).isEmpty = false := by
          cases hx : without k.2 n with
          | nil => exact absurd hx hemp
          | cons _ _ => rfl
        simp only [hemp, hne, Bool.not_false, if_true, if_false]
        have hd1 : Dyn03 (ofSpec03 { a with recs := erase a.recs k }) := by
          rw [hrm]; exact removeEdge_dyn opsT C03.one CanonT _ _ h
        have hw : a.weighted = false → w0 = C03.one := fun hwt => h.unitw hwt _ hmem
        have hsorted : SortedL (without k.2 n) := sortedL_without (h.canon _ hmem).1 n
        have hcan : C03.canon (without k.2 n) = without k.2 n := C03.canon_of_sorted _ hsorted
        have hcond : (!a.weighted && (some w0).isSome && (some w0 != some C03.one)) = false := by
          cases hwt : a.weighted with
          | true => rfl
          | false => simp [hw hwt]
        have hneg : ¬ ((k.1 : Int) < 0) := by omega
        unfold C03.Spec.addEdge
        simp only [hcond, Bool.false_eq_true, if_false, hneg, Int.toNat_natCast, hcan, Option.getD_some]
        rw [addKey03 _ _ _ _ hd1, hrm]
        rfl

theorem incident03 (a : C03.Spec) (n : Node) :
    (incident opsT (ofSpec03 a) n).map (·.1) =
      ((a.recs.filter (fun p => p.1.2.contains n)).map (·.1)).map keyT := by
  refine (incident_contentOf keyT opsT (fun _ => rfl) n).trans ?_
  rw [← keys_filter_key]; rfl

/-- `remove_node(node, keep_edges)` of the abstract `TemporalHypergraph` is C19's `removeNode opsT` -/
theorem removeNode03 (a : C03.Spec) (h : Dyn03 (ofSpec03 a)) (n : Node) (keep : Bool) :
    ((get? a.nodes n).isSome = true →
      (C03.Spec.removeNode a n keep).2 = .ok ∧
      ofSpec03 (C03.Spec.removeNode a n keep).1 = removeNode opsT keep (ofSpec03 a) n) ∧
    ((get? a.nodes n).isSome = false → C03.Spec.removeNode a n keep = (a, .rej)) := by
  refine ⟨fun hn => ?_, fun hn => by unfold C03.Spec.removeNode; simp [hn]⟩
  obtain ⟨f1, _⟩ := each_sim (u := C03.one) lawful_T rfl canonShrink_T keep (fun a k => C03.Spec.dropKey a n keep k)
    (fun a' k hi => dropKey03 a' n keep k hi) a _ (incident03 a n) h
  unfold C03.Spec.removeNode
  simp only [hn, if_true]
  rw [← f1]
  exact ⟨trivial, contentOf_eraseNode keyT n⟩

theorem dyn03_of_inv (s : C03.Store) (h : C03.Inv s) : Dyn03 (ofSpec03 (C03.abs s)) :=
  dyn_contentOf keyT opsT C03.one CanonT keyT_inj (C03.abs_tab h) (fun _ => rfl) (fun k hk => ⟨hk.1, k.1, rfl⟩)

/-- `get_nodes(metadata=True)` / `get_edges(metadata=True)` of a `TemporalHypergraph` object -/
def view03 (s : C03.Store) : Content Key Int := ofSpec03 (C03.abs s)

def rmNode03 (keep : Bool) (s : C03.Store) (n : Node) : C03.Store × Bool :=
  ((C03.applyOp s (.removeNode n keep)).1, decide ((C03.applyOp s (.removeNode n keep)).2 = .ok))

/-- `remove_edge(nodes, time)` for a key `(nodes, [time])` as `get_edges` lists it -/
def rmEdge03 (s : C03.Store) (k : Key) : C03.Store × Bool :=
  match k.2 with
  | [t] => ((C03.applyOp s (.removeEdge k.1 (.int t))).1, decide ((C03.applyOp s (.removeEdge k.1 (.int t))).2 = .ok))
  | _ => (s, false)

theorem rmNode03_link (keep : Bool) (s : C03.Store) (n : Node) (h : C03.Inv s) :
    ((rmNode03 keep s n).2 = true ↔ (removeNode? opsT keep (view03 s) n).isSome) ∧
    ((rmNode03 keep s n).2 = true → C03.Inv (rmNode03 keep s n).1 ∧
      view03 (rmNode03 keep s n).1 = removeNode opsT keep (view03 s) n) := by
  rw [removeNode?_isSome, view03, nodes03_get, Option.isSome_map]
  exact verdict_store (C03.applyOp_abs s h (.removeNode n keep) trivial) (C03.applyOp_inv s h (.removeNode n keep) trivial)
    (removeNode03 (C03.abs s) (dyn03_of_inv s h) n keep) nofun

theorem rmEdge03_link (s : C03.Store) (k : Key) (h : C03.Inv s) (hk : CanonT k) :
    ((rmEdge03 s k).2 = true ↔ (removeEdge? (view03 s) k).isSome) ∧
    ((rmEdge03 s k).2 = true → C03.Inv (rmEdge03 s k).1 ∧ view03 (rmEdge03 s k).1 = removeEdge (view03 s) k) := by
  obtain ⟨k1, k2⟩ := k
  obtain ⟨hsorted, t, ht⟩ := hk
  subst ht
  have hmk : C03.mkKey k1 (.int (t : Int)) = some (t, k1) := by
    simp [C03.mkKey, C03.validTime, C03.canon_of_sorted _ hsorted]
  have hsp : C03.Spec.applyOp (C03.abs s) (.removeEdge k1 (.int t)) = C03.Spec.removeKey (C03.abs s) (t, k1) := by
    simp only [C03.Spec.applyOp, C03.Spec.removeEdge, hmk]
  rw [removeEdge?_isSome]
  exact verdict_store (hsp ▸ C03.applyOp_abs s h (.removeEdge k1 (.int t)) trivial) (C03.applyOp_inv s h (.removeEdge k1 (.int t)) trivial)
    (removeKey03 (C03.abs s) (t, k1)) nofun

/-- **`filter_hypergraph` on a `TemporalHypergraph` object** (same statement as `filter01`). -/
theorem filter03 (s : C03.Store) (h : C03.Inv s) (nc ec : Option Crit) (mode : Mode) (keep : Bool) :
    let r := filterVia view03 (rmNode03 keep) rmEdge03 s nc ec mode
    r.2 = true ∧ C03.Inv r.1 ∧ view03 r.1 = filterHg opsT (view03 s) nc ec mode keep :=
  filterVia_eq opsT lawful_T keep view03 (rmNode03 keep) rmEdge03 C03.Inv CanonT
    (fun s hs => (dyn03_of_inv s hs).wf) (fun s hs => (dyn03_of_inv s hs).canon)
    (fun s n hs => rmNode03_link keep s n hs) (fun s k hs hk => rmEdge03_link s k hs hk) s h nc ec mode

end C19
