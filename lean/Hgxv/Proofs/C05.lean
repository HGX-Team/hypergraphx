import Hgxv.Model.C05
import Hgxv.Proofs.AL
/-! The node table under `add_node` and its loops (`addNodeL`, `touchL`); `AL.mem_iff_get?` and `AL.erase_eq_filter` under their `C05AL` names. -/
namespace C05AL
open AL
variable {α β : Type} [DecidableEq α]

theorem mem_iff_get? (l : List (α × β)) (hnd : (keys l).Nodup) (k : α) (v : β) :
    (k, v) ∈ l ↔ get? l k = some v :=
  AL.mem_iff_get? l hnd k v

theorem erase_eq_filter (l : List (α × β)) (k : α) (h : (keys l).Nodup) :
    erase l k = l.filter (fun p => decide (p.1 ≠ k)) :=
  AL.erase_eq_filter l k h

end C05AL

namespace C05

theorem keys_addNodeL (l : List (Node × Meta)) (n : Node) (md : Meta) :
    AL.keys (addNodeL l n md) = if n ∈ AL.keys l then AL.keys l else AL.keys l ++ [n] := by
  unfold addNodeL
  cases h : AL.get? l n with
  | none =>
    have : n ∉ AL.keys l := (AL.get?_eq_none_iff l n).1 h
    rw [if_neg this, AL.keys_append]; rfl
  | some cur =>
    have hm : n ∈ AL.keys l := by rw [AL.mem_keys_iff, h]; rfl
    simp only [hm, ↓reduceIte]
    split
    · rw [AL.keys_set]; simp [hm]
    · rfl

theorem mem_keys_addNodeL (l : List (Node × Meta)) (n : Node) (md : Meta) (m : Node) :
    m ∈ AL.keys (addNodeL l n md) ↔ m ∈ AL.keys l ∨ m = n := by
  rw [keys_addNodeL]; split
  · next h => exact ⟨.inl, fun h' => h'.elim id (fun e => e ▸ h)⟩
  · rw [List.mem_append, List.mem_singleton]

theorem nodup_keys_addNodeL (l : List (Node × Meta)) (n : Node) (md : Meta) (h : (AL.keys l).Nodup) :
    (AL.keys (addNodeL l n md)).Nodup := by
  rw [keys_addNodeL]; split
  · exact h
  · next hn =>
    rw [List.nodup_append]
    refine ⟨h, by simp, ?_⟩
    intro a ha b hb
    simp only [List.mem_singleton] at hb
    subst hb
    intro e; subst e; exact hn ha

theorem addNodeL_touch_present (l : List (Node × Meta)) (n : Node) (h : n ∈ AL.keys l) :
    addNodeL l n [] = l := by
  unfold addNodeL
  cases hg : AL.get? l n with
  | none => exact absurd h ((AL.get?_eq_none_iff l n).1 hg)
  | some cur =>
    simp only
    split
    · next hc => subst hc; exact AL.set_same l n [] hg
    · rfl

theorem addNodeL_touch_absent (l : List (Node × Meta)) (n : Node) (h : n ∉ AL.keys l) :
    addNodeL l n [] = l ++ [(n, [])] := by
  unfold addNodeL
  rw [(AL.get?_eq_none_iff l n).2 h]

theorem get?_addNodeL_touch (l : List (Node × Meta)) (n m : Node) :
    AL.get? (addNodeL l n []) m = if m ∈ AL.keys l then AL.get? l m else if m = n then some [] else none := by
  by_cases h : n ∈ AL.keys l
  · rw [addNodeL_touch_present l n h]
    by_cases hm : m ∈ AL.keys l
    · simp [hm]
    · have : m ≠ n := by intro e; subst e; exact hm h
      simp [hm, this, (AL.get?_eq_none_iff l m).2 hm]
  · rw [addNodeL_touch_absent l n h, AL.get?_append]
    by_cases hm : m ∈ AL.keys l
    · obtain ⟨v, hv⟩ := Option.isSome_iff_exists.1 ((AL.mem_keys_iff l m).1 hm)
      simp [hm, hv]
    · simp only [(AL.get?_eq_none_iff l m).2 hm, hm, ↓reduceIte]
      by_cases e : m = n
      · subst e; simp [AL.get?]
      · have : n ≠ m := fun h => e h.symm
        simp [AL.get?, e, this]

theorem touchL_cons (l : List (Node × Meta)) (n : Node) (ns : List Node) :
    touchL l (n :: ns) = touchL (addNodeL l n []) ns := rfl

theorem touchL_append (l : List (Node × Meta)) (a b : List Node) :
    touchL l (a ++ b) = touchL (touchL l a) b := by
  simp [touchL, List.foldl_append]

theorem mem_keys_touchL (l : List (Node × Meta)) (ns : List Node) (m : Node) :
    m ∈ AL.keys (touchL l ns) ↔ m ∈ AL.keys l ∨ m ∈ ns := by
  induction ns generalizing l with
  | nil => simp [touchL]
  | cons n ns ih => rw [touchL_cons, ih, mem_keys_addNodeL, List.mem_cons, or_assoc]

theorem nodup_keys_touchL (l : List (Node × Meta)) (ns : List Node) (h : (AL.keys l).Nodup) :
    (AL.keys (touchL l ns)).Nodup := by
  induction ns generalizing l with
  | nil => exact h
  | cons n ns ih => exact ih _ (nodup_keys_addNodeL l n [] h)

theorem touchL_present (l : List (Node × Meta)) (ns : List Node) (h : ∀ n ∈ ns, n ∈ AL.keys l) :
    touchL l ns = l := by
  induction ns with
  | nil => rfl
  | cons n ns ih =>
    rw [touchL_cons, addNodeL_touch_present l n (h n (by simp))]
    exact ih (fun m hm => h m (by simp [hm]))

theorem get?_touchL (l : List (Node × Meta)) (ns : List Node) (m : Node) :
    AL.get? (touchL l ns) m = if m ∈ AL.keys l then AL.get? l m else if m ∈ ns then some [] else none := by
  induction ns generalizing l with
  | nil =>
    by_cases hm : m ∈ AL.keys l
    · simp [touchL, hm]
    · simp [touchL, hm, (AL.get?_eq_none_iff l m).2 hm]
  | cons n ns ih =>
    rw [touchL_cons, ih, get?_addNodeL_touch]
    simp only [mem_keys_addNodeL, List.mem_cons]
    by_cases hm : m ∈ AL.keys l
    · simp [hm]
    · by_cases e : m = n <;> simp [hm, e]

end C05
