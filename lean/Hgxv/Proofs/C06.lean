import Hgxv.Model.C06
import Hgxv.Proofs.AL
/-! C06, record level (core Lean only): erasing the reserved keys, the laws of the four key types (`LawfulKind`),
`touchNode` / `loadNodes` on fresh nodes, what `load` reads from `save c`, `add_edge` as one dict assignment (`added`,
`addEdge_eq`), `WF` as a property of the skeleton of a content (`skel`), `load_save`, `WF_decorated`. -/
set_option linter.unusedSectionVars false
namespace C06

theorem eraseReserved_set (m : Meta) (k : Key) (v : Val) (hk : isReserved k = true) :
    eraseReserved (AL.set m k v) = eraseReserved m := by
  induction m with
  | nil => simp [AL.set, eraseReserved, hk]
  | cons hd t ih =>
    obtain ⟨k', v'⟩ := hd
    by_cases h : k' = k
    · subst h; simp [AL.set, eraseReserved, hk]
    · simp only [AL.set, h, if_false]
      simp only [eraseReserved, List.filter_cons] at ih ⊢
      rw [ih]

theorem eraseReserved_setWeight (wtd : Bool) (w : Int) (m : Meta) :
    eraseReserved (setWeight wtd w m) = eraseReserved m := by
  unfold setWeight; split
  · exact eraseReserved_set m _ _ rfl
  · rfl

theorem eraseReserved_idem (m : Meta) : eraseReserved (eraseReserved m) = eraseReserved m := by
  simp [eraseReserved]

theorem get?_setWeight_true (w : Int) (m : Meta) : AL.get? (setWeight true w m) Key.weight = some (Val.wq w) := by
  simp [setWeight]

class LawfulKind (κ : Type) [Kind κ] : Prop where
  readKey_inter : ∀ (wtd : Bool) (w : Int) (k : κ) (m : Meta),
    Kind.readKey (Kind.inter k) (Kind.decorate wtd w k m) = some k
  weight_decorate : ∀ (w : Int) (k : κ) (m : Meta),
    AL.get? (Kind.decorate true w k m) Key.weight = some (Val.wq w)
  erase_decorate : ∀ (wtd : Bool) (w : Int) (k : κ) (m : Meta),
    eraseReserved (Kind.decorate wtd w k m) = eraseReserved m

instance : LawfulKind HKey where
  readKey_inter := by intros; rfl
  weight_decorate := by intro w k m; exact get?_setWeight_true w m
  erase_decorate := by intro wtd w k m; exact eraseReserved_setWeight wtd w m

instance : LawfulKind DKey where
  readKey_inter := by intros; rfl
  weight_decorate := by intro w k m; exact get?_setWeight_true w m
  erase_decorate := by intro wtd w k m; exact eraseReserved_setWeight wtd w m

instance : LawfulKind TKey where
  readKey_inter := by
    intro wtd w k m
    show (match Inter.flat k.nodes, AL.get? (AL.set (setWeight wtd w m) Key.time (Val.tm k.time)) Key.time with
      | .flat ns, some (.tm t) => some (⟨t, ns⟩ : TKey)
      | _, _ => none) = some k
    rw [AL.get?_set_self]
  weight_decorate := by
    intro w k m
    show AL.get? (AL.set (setWeight true w m) Key.time (Val.tm k.time)) Key.weight = _
    rw [AL.get?_set_ne _ _ _ _ (by decide)]; exact get?_setWeight_true w m
  erase_decorate := by
    intro wtd w k m
    show eraseReserved (AL.set (setWeight wtd w m) Key.time (Val.tm k.time)) = _
    rw [eraseReserved_set _ _ _ rfl, eraseReserved_setWeight]

instance : LawfulKind MKey where
  readKey_inter := by
    intro wtd w k m
    show (match Inter.flat k.nodes, AL.get? (setWeight wtd w (AL.set m Key.layer (Val.lay k.layer))) Key.layer with
      | .flat ns, some (.lay l) => some (⟨ns, l⟩ : MKey)
      | _, _ => none) = some k
    have : AL.get? (setWeight wtd w (AL.set m Key.layer (Val.lay k.layer))) Key.layer = some (Val.lay k.layer) := by
      unfold setWeight; split
      · rw [AL.get?_set_ne _ _ _ _ (by decide)]; simp
      · simp
    rw [this]
  weight_decorate := by
    intro w k m
    exact get?_setWeight_true w _
  erase_decorate := by
    intro wtd w k m
    show eraseReserved (setWeight wtd w (AL.set m Key.layer (Val.lay k.layer))) = _
    rw [eraseReserved_setWeight, eraseReserved_set _ _ _ rfl]

theorem touchNode_new (ns : List (Nat × Meta)) (n : Nat) (m : Meta) (h : n ∉ AL.keys ns) :
    touchNode ns n m = ns ++ [(n, m)] := by
  unfold touchNode; rw [(AL.get?_eq_none_iff ns n).mpr h]

theorem touchNode_old (ns : List (Nat × Meta)) (n : Nat) (h : n ∈ AL.keys ns) :
    touchNode ns n [] = ns := by
  obtain ⟨v, hv⟩ := AL.exists_get?_of_mem_keys ns n h
  unfold touchNode; rw [hv]
  by_cases hv' : v = []
  · subst hv'; simp [AL.set_same ns n [] hv]
  · simp [hv']

theorem touchAll_present (ns : List (Nat × Meta)) (l : List Nat) (h : ∀ n ∈ l, n ∈ AL.keys ns) :
    touchAll ns l = ns := by
  unfold touchAll
  induction l with
  | nil => rfl
  | cons a t ih =>
    simp only [List.foldl_cons]
    rw [touchNode_old ns a (h a (by simp))]
    exact ih (fun n hn => h n (by simp [hn]))

variable {κ : Type} [DecidableEq κ] [Kind κ]

theorem loadNodes_fresh (c : Content κ) (l : List (Nat × Meta)) (h : (AL.keys (c.nodes ++ l)).Nodup) :
    loadNodes c l = { c with nodes := c.nodes ++ l } := by
  induction l generalizing c with
  | nil => simp [loadNodes]
  | cons p t ih =>
    have hp : p.1 ∉ AL.keys c.nodes := by
      intro hin
      rw [AL.keys_append] at h
      have := (List.nodup_append.mp h).2.2 p.1 hin p.1 (by simp [AL.keys])
      exact this rfl
    have hstep : addNode c p.1 (some p.2) = { c with nodes := c.nodes ++ [p] } := by
      simp [addNode, metaOrEmpty, touchNode_new c.nodes p.1 p.2 hp]
    have := ih (addNode c p.1 (some p.2)) (by rw [hstep]; simpa using h)
    simp only [loadNodes, List.foldl_cons] at this ⊢
    rw [this, hstep]; simp

theorem lastHeader_nodes (l : List (Nat × Meta)) (rs : List Record) (acc : Option (HType × Bool × Meta)) :
    lastHeader (l.map saveNode ++ rs) acc = lastHeader rs acc := by
  induction l with
  | nil => rfl
  | cons a t ih => simpa [saveNode, lastHeader] using ih

theorem lastHeader_edges (wtd : Bool) (l : List (κ × (Int × Meta))) (acc : Option (HType × Bool × Meta)) :
    lastHeader (l.map (saveEdge wtd)) acc = acc := by
  induction l with
  | nil => rfl
  | cons a t ih => simpa [saveEdge, lastHeader] using ih

theorem nodeRecs_nodes (l : List (Nat × Meta)) (rs : List Record) :
    nodeRecs (l.map saveNode ++ rs) = l ++ nodeRecs rs := by
  induction l with
  | nil => rfl
  | cons a t ih => simp [saveNode, nodeRecs] at ih ⊢; exact ih

theorem nodeRecs_edges (wtd : Bool) (l : List (κ × (Int × Meta))) : nodeRecs (l.map (saveEdge wtd)) = [] := by
  induction l with
  | nil => rfl
  | cons a t ih => simpa [saveEdge, nodeRecs] using ih

theorem edgeRecs_nodes (l : List (Nat × Meta)) (rs : List Record) :
    edgeRecs (l.map saveNode ++ rs) = edgeRecs rs := by
  induction l with
  | nil => rfl
  | cons a t ih => simpa [saveNode, edgeRecs] using ih

theorem lastHeader_save (c : Content κ) :
    lastHeader (save c) none = some (Kind.ty κ, c.weighted, c.hmeta) := by
  simp [save, lastHeader, lastHeader_nodes, lastHeader_edges]

/-- the edge record `save` writes for a content entry, as `load` sees it -/
def recOf (wtd : Bool) (e : κ × (Int × Meta)) : Inter × Meta :=
  (Kind.inter e.1, Kind.decorate wtd e.2.1 e.1 e.2.2)

/-- the entry `load` rebuilds: same key and weight, metadata = the record's metadata -/
def decorated (wtd : Bool) (e : κ × (Int × Meta)) : κ × (Int × Meta) :=
  (e.1, (e.2.1, Kind.decorate wtd e.2.1 e.1 e.2.2))

theorem edgeRecs_edges (wtd : Bool) (l : List (κ × (Int × Meta))) :
    edgeRecs (l.map (saveEdge wtd)) = l.map (recOf wtd) := by
  induction l with
  | nil => rfl
  | cons a t ih => simp [saveEdge, edgeRecs, recOf] at ih ⊢; exact ih

theorem nodeRecs_save (c : Content κ) : nodeRecs (save c) = c.nodes := by
  simp only [save, nodeRecs, nodeRecs_nodes, nodeRecs_edges, List.append_nil]

theorem edgeRecs_save (c : Content κ) : edgeRecs (save c) = c.edges.map (recOf c.weighted) := by
  simp only [save, edgeRecs, edgeRecs_nodes, edgeRecs_edges]

/-- the (weight, metadata) entry of a key after `add_edge`: a new key gets the given weight (1 when unweighted); on an
old key the weights add up when weighted; the metadata is replaced -/
def entry {μ : Type} (wtd : Bool) (old : Option (Int × μ)) (w : Int) (md : μ) : Int × μ :=
  match old with
  | none => (if wtd then w else unit, md)
  | some o => (if wtd then o.1 + w else o.1, md)

theorem entry_snd {μ : Type} (wtd : Bool) (old : Option (Int × μ)) (w : Int) (md : μ) : (entry wtd old w md).2 = md := by
  cases old <;> rfl

/-- what an accepted `add_edge` leaves: ONE dict assignment of the key's entry, for new and old keys alike (`AL.set`
appends a new key); the key's nodes are touched when it is new or the class always touches -/
def added (c : Content κ) (k : κ) (w : Int) (md : Meta) : Content κ :=
  { c with
    edges := AL.set c.edges k (entry c.weighted (AL.get? c.edges k) w md)
    nodes := if Kind.touchAlways κ || (AL.get? c.edges k).isNone then touchAll c.nodes (Kind.members k) else c.nodes }

theorem addEdge_eq (c : Content κ) (raw : κ) (w : Option Int) (m : Option Meta) :
    addEdge c raw w m =
      if rejectsWeight c.weighted w then none
      else some (added c (Kind.canon raw) (weightOrUnit w) (metaOrEmpty m)) := by
  unfold addEdge added
  split
  · rfl
  · cases hg : AL.get? c.edges (Kind.canon raw) with
    | none => simp [hg, addEdgeNew, entry, AL.set_of_not_mem _ _ _ hg]
    | some old => simp [hg, addEdgeOld, entry]

theorem addEdge_some {c c' : Content κ} {raw : κ} {w : Option Int} {m : Option Meta} (h : addEdge c raw w m = some c') :
    c' = added c (Kind.canon raw) (weightOrUnit w) (metaOrEmpty m) := by
  rw [addEdge_eq] at h
  split at h
  · cases h
  · exact (Option.some.inj h).symm

theorem addEdge_weighted {c c' : Content κ} {raw : κ} {w : Option Int} {m : Option Meta}
    (h : addEdge c raw w m = some c') : c'.weighted = c.weighted := addEdge_some h ▸ rfl

theorem added_new (c : Content κ) (k : κ) (w : Int) (md : Meta) (h : AL.get? c.edges k = none) :
    added c k w md = { c with edges := c.edges ++ [(k, ((if c.weighted then w else unit), md))]
                              nodes := touchAll c.nodes (Kind.members k) } := by
  unfold added; rw [h, AL.set_of_not_mem _ _ _ h]; simp [entry]

/-- what `WF` speaks of: the node labels, the weighted flag, every key with its weight; no metadata -/
def skel (c : Content κ) : List Nat × Bool × List (κ × Int) :=
  (AL.keys c.nodes, c.weighted, c.edges.map fun e => (e.1, e.2.1))

theorem WF_iff_skel (c : Content κ) :
    WF c ↔ (skel c).1.Nodup ∧ (AL.keys (skel c).2.2).Nodup ∧ (∀ p ∈ (skel c).2.2, Kind.canon p.1 = p.1) ∧
      (∀ p ∈ (skel c).2.2, ∀ n ∈ Kind.members p.1, n ∈ (skel c).1) ∧
      ((skel c).2.1 = false → ∀ p ∈ (skel c).2.2, p.2 = unit) := by
  simp only [WF, skel, AL.keys, List.map_map, List.forall_mem_map, Function.comp_def]

theorem WF_skel {c c' : Content κ} (h : skel c' = skel c) (hwf : WF c) : WF c' :=
  (WF_iff_skel c').mpr (h ▸ (WF_iff_skel c).mp hwf)

theorem keys_skel (c : Content κ) : AL.keys (skel c).2.2 = AL.keys c.edges := AL.keys_map_val c.edges Prod.fst

variable [LawfulKind κ]

theorem readWeight_decorate (wtd : Bool) (w : Int) (k : κ) (m : Meta) :
    readWeight wtd (Kind.decorate wtd w k m) = some (if wtd then some w else none) := by
  cases wtd with
  | false => simp [readWeight]
  | true => simp [readWeight, LawfulKind.weight_decorate]

theorem loadEdge_fresh (c : Content κ) (e : κ × (Int × Meta))
    (hk : e.1 ∉ AL.keys c.edges) (hc : Kind.canon e.1 = e.1)
    (hm : ∀ n ∈ Kind.members e.1, n ∈ AL.keys c.nodes)
    (hw : c.weighted = false → e.2.1 = unit) :
    loadEdge c (recOf c.weighted e) = some { c with edges := c.edges ++ [decorated c.weighted e] } := by
  unfold loadEdge recOf
  simp only [LawfulKind.readKey_inter, readWeight_decorate]
  have hrej : rejectsWeight c.weighted (if c.weighted = true then some e.2.1 else none) = false := by
    cases hwd : c.weighted <;> simp [rejectsWeight]
  rw [addEdge_eq, hrej, hc, added_new _ _ _ _ ((AL.get?_eq_none_iff c.edges e.1).mpr hk), touchAll_present c.nodes _ hm]
  cases hwd : c.weighted with
  | false => simp [decorated, metaOrEmpty, hw hwd]
  | true => simp [decorated, metaOrEmpty, weightOrUnit]

theorem loadEdges_fresh (c : Content κ) (l : List (κ × (Int × Meta)))
    (hn : (AL.keys c.edges ++ AL.keys l).Nodup)
    (hc : ∀ e ∈ l, Kind.canon e.1 = e.1)
    (hm : ∀ e ∈ l, ∀ n ∈ Kind.members e.1, n ∈ AL.keys c.nodes)
    (hw : c.weighted = false → ∀ e ∈ l, e.2.1 = unit) :
    loadEdges c (l.map (recOf c.weighted)) = some { c with edges := c.edges ++ l.map (decorated c.weighted) } := by
  induction l generalizing c with
  | nil => simp [loadEdges]
  | cons e t ih =>
    have hk : e.1 ∉ AL.keys c.edges := by
      intro hin
      exact (List.nodup_append.mp hn).2.2 e.1 hin e.1 (by simp [AL.keys]) rfl
    have h1 := loadEdge_fresh c e hk (hc e (by simp)) (hm e (by simp)) (fun h => hw h e (by simp))
    simp only [List.map_cons, loadEdges, h1]
    -- the rest is loaded into the grown content, whose keys are still distinct from those to come
    have h2 := ih { c with edges := c.edges ++ [decorated c.weighted e] }
      (by
        simp only [AL.keys_append]
        have : AL.keys [decorated c.weighted e] = [e.1] := by simp [AL.keys, decorated]
        rw [this]
        simpa [AL.keys, List.append_assoc] using hn)
      (fun x hx => hc x (by simp [hx]))
      (fun x hx => hm x (by simp [hx]))
      (fun h x hx => hw h x (by simp [hx]))
    simp only at h2
    rw [h2]; simp

theorem load_save (c : Content κ) (h : WF c) :
    load (save c) = some { c with edges := c.edges.map (decorated c.weighted) } := by
  obtain ⟨hnn, hen, hcan, hclosed, hunit⟩ := h
  unfold load
  rw [lastHeader_save, nodeRecs_save, edgeRecs_save]
  simp only [if_true]
  rw [loadNodes_fresh (setHMeta (construct κ c.weighted) c.hmeta) c.nodes hnn]
  exact loadEdges_fresh { weighted := c.weighted, hmeta := c.hmeta, nodes := c.nodes, edges := [] } c.edges hen hcan
    hclosed hunit

theorem erased_decorated (c : Content κ) :
    ({ c with edges := c.edges.map (decorated c.weighted) } : Content κ).erased = c.erased := by
  simp [Content.erased, decorated, LawfulKind.erase_decorate, Function.comp_def]

/-- the loaded content is again well-formed: `decorated` rewrites metadata only -/
theorem WF_decorated (c : Content κ) (h : WF c) :
    WF ({ c with edges := c.edges.map (decorated c.weighted) } : Content κ) :=
  WF_skel (by simp only [skel, decorated, List.map_map, Function.comp_def]) h

end C06
