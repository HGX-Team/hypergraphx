import Hgxv.Proofs.C14Shuffle
import Mathlib.Algebra.BigOperators.Group.List.Lemmas
/-! The node pool of `random_shuffle` and the option `preserve_degree`. -/
namespace C14

theorem sum_count_dedup (l : List Nat) : ((dedup l).map (fun x => l.count x)).sum = l.length := by
  have hp : (dedup l).Perm l.dedup :=
    (List.perm_ext_iff_of_nodup (nodup_dedup l) (List.nodup_dedup l)).mpr
      (by intro a; rw [mem_dedup, List.mem_dedup])
  rw [(hp.map _).sum_nat]
  exact List.sum_map_count_dedup_eq_length l

theorem poolWeights_pos (cur : List (Edge × Rec)) (idx : List Nat) (preserve : Bool) :
    ∀ w ∈ poolWeights cur idx preserve, 1 ≤ w := by
  intro w hw
  simp only [poolWeights, List.mem_map] at hw
  obtain ⟨x, hx, rfl⟩ := hw
  split
  · have : x ∈ (selected cur idx 0).flatten := by simpa [pool, mem_dedup] using hx
    exact List.count_pos_iff.mpr this
  · exact Nat.le_refl 1

theorem poolWeights_uniform (cur : List (Edge × Rec)) (idx : List Nat) :
    ∀ w ∈ poolWeights cur idx false, w = 1 := by
  intro w hw
  simp only [poolWeights, List.mem_map] at hw
  obtain ⟨x, _, rfl⟩ := hw
  simp

theorem poolWeights_sum (cur : List (Edge × Rec)) (idx : List Nat) :
    (poolWeights cur idx true).sum = ((selected cur idx 0).map List.length).sum := by
  simp only [poolWeights, pool, if_true]
  rw [sum_count_dedup, List.length_flatten]

/-- a rewired hyperedge with distinct nodes fits into the pool: `np.random.choice(pool, size, replace=False)` has enough
    members to choose from -/
theorem pool_large_enough (cur : List (Edge × Rec)) (idx : List Nat) (e : Edge) (he : e ∈ selected cur idx 0)
    (hnd : e.Nodup) : e.length ≤ (pool cur idx).length := by
  apply List.Nodup.length_le_of_subset hnd
  intro x hx
  exact (mem_pool cur idx x).mpr ⟨e, he, hx⟩

end C14
