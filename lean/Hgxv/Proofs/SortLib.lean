import Hgxv.Proofs.ListLib
/-! Insertion sorts.  `BSort`: for a Boolean relation `r` (`ins r x` puts `x` before the first `y` with `r x y`), the order's laws
as hypotheses, so that strict orders on keys (`C03.sortBy`, `C04.sortBy`) and total ones (`C07.sortBy`, `C11.sortD`) are one case;
the orders the models sort by (`<` on `Nat`, lexicographic products, `ltList`) meet the laws.  `NatSort`: on lists of naturals,
`insert`/`isort` (`isort_eq`: it is `BSort.sort` at `decide (· ≤ ·)`; its lemmas speak of `≤` and `<` as propositions) and the
insertion that drops duplicates (`insertU`/`usort`); strictly increasing relabellings (`Incr`).  The models keep their own copies
of the bodies; each property identifies its copy by one equation (`insertSorted_eq`, `sortBy_eq`) and takes the facts from here.
Core Lean only. -/
namespace BSort
variable {α β κ : Type}

def ins (r : α → α → Bool) (x : α) : List α → List α
  | [] => [x]
  | y :: ys => if r x y then x :: y :: ys else y :: ins r x ys

def sort (r : α → α → Bool) (l : List α) : List α := l.foldr (ins r) []

theorem sort_cons (r : α → α → Bool) (x : α) (l : List α) : sort r (x :: l) = ins r x (sort r l) := rfl

theorem ins_perm (r : α → α → Bool) (x : α) (l : List α) : (ins r x l).Perm (x :: l) := by
  induction l with
  | nil => exact List.Perm.refl _
  | cons y ys ih =>
    simp only [ins]; split
    · exact List.Perm.refl _
    · exact (List.Perm.cons y ih).trans (List.Perm.swap x y ys)

theorem sort_perm (r : α → α → Bool) (l : List α) : (sort r l).Perm l := by
  induction l with
  | nil => exact List.Perm.refl _
  | cons x t ih => exact (ins_perm r x _).trans (List.Perm.cons x ih)

theorem mem_sort {r : α → α → Bool} {l : List α} {x : α} : x ∈ sort r l ↔ x ∈ l := (sort_perm r l).mem_iff

/-- `x` need only be comparable with the entries it is inserted among; `S` is what the order is read as: `r` itself, `≤` for
`decide (· ≤ ·)`, or a coarser relation (`C03.TimeSorted` under `keyLe`) -/
theorem ins_pairwise {r : α → α → Bool} {S : α → α → Prop} (trans : ∀ a b c, S a b → S b c → S a c) (x : α) (l : List α)
    (h : l.Pairwise S) (h1 : ∀ y ∈ l, r x y = true → S x y) (h2 : ∀ y ∈ l, r x y = false → S y x) : (ins r x l).Pairwise S := by
  induction l with
  | nil => exact List.pairwise_singleton _ _
  | cons y ys ih =>
    obtain ⟨hy, hys⟩ := List.pairwise_cons.mp h
    have hxy' := h1 y List.mem_cons_self
    simp only [ins]; split <;> rename_i hxy
    · exact List.pairwise_cons.mpr
        ⟨fun z hz => (List.mem_cons.mp hz).elim (fun e => e ▸ hxy' hxy) fun hz => trans _ _ _ (hxy' hxy) (hy z hz), h⟩
    · refine List.pairwise_cons.mpr ⟨fun z hz => ?_, ih hys (fun z hz => h1 z (List.mem_cons_of_mem _ hz))
        fun z hz => h2 z (List.mem_cons_of_mem _ hz)⟩
      rcases List.mem_cons.mp ((ins_perm r x ys).mem_iff.mp hz) with rfl | hz
      · exact h2 y List.mem_cons_self (Bool.eq_false_iff.mpr hxy)
      · exact hy z hz

theorem sort_pairwise_of {r : α → α → Bool} {S : α → α → Prop} (trans : ∀ a b c, S a b → S b c → S a c)
    (h1 : ∀ a b, r a b = true → S a b) (h2 : ∀ a b, r a b = false → S b a) (l : List α) : (sort r l).Pairwise S := by
  induction l with
  | nil => exact List.Pairwise.nil
  | cons x t ih => exact ins_pairwise trans x _ ih (fun y _ => h1 x y) fun y _ => h2 x y

/-- sorted, provided any two entries (at different places) are comparable: a total `r`, or a strict one on distinct keys -/
theorem sort_pairwise {r : α → α → Bool} (trans : ∀ a b c, r a b = true → r b c = true → r a c = true) (l : List α)
    (hc : l.Pairwise (fun a b => r a b = true ∨ r b a = true)) : (sort r l).Pairwise (fun a b => r a b = true) := by
  induction l with
  | nil => exact List.Pairwise.nil
  | cons x t ih =>
    obtain ⟨hx, ht⟩ := List.pairwise_cons.mp hc
    refine ins_pairwise trans x _ (ih ht) (fun _ _ h => h) fun y hy hxy => ?_
    exact (hx y (mem_sort.mp hy)).resolve_left (by rw [hxy]; exact Bool.false_ne_true)

theorem sort_eq_of_perm {r : α → α → Bool} (trans : ∀ a b c, r a b = true → r b c = true → r a c = true) {l l' : List α}
    (anti : ∀ a ∈ l, ∀ b ∈ l, r a b = true → r b a = true → a = b)
    (hc : l.Pairwise (fun a b => r a b = true ∨ r b a = true)) (hp : l.Perm l') : sort r l = sort r l' :=
  List.Perm.eq_of_pairwise (le := fun a b => r a b = true)
    (fun a b ha hb => anti a (mem_sort.mp ha) b (hp.mem_iff.mpr (mem_sort.mp hb)))
    (sort_pairwise trans l hc) (sort_pairwise trans l' ((hp.pairwise_iff Or.symm).mp hc))
    ((sort_perm r l).trans (hp.trans (sort_perm r l').symm))

theorem sort_of_pairwise {r : α → α → Bool} (l : List α) (h : l.Pairwise (fun a b => r a b = true)) : sort r l = l := by
  induction l with
  | nil => rfl
  | cons x t ih =>
    obtain ⟨hx, ht⟩ := List.pairwise_cons.mp h
    rw [sort_cons, ih ht]
    cases t with
    | nil => rfl
    | cons y ys => exact if_pos (hx y List.mem_cons_self)

theorem ins_map (r : α → α → Bool) (r' : β → β → Bool) (f : α → β) (h : ∀ a b, r' (f a) (f b) = r a b) (x : α) (l : List α) :
    ins r' (f x) (l.map f) = (ins r x l).map f := by
  induction l with
  | nil => rfl
  | cons y ys ih =>
    simp only [List.map_cons, ins, h]; split
    · rfl
    · rw [List.map_cons, ih]

theorem sort_map (r : α → α → Bool) (r' : β → β → Bool) (f : α → β) (h : ∀ a b, r' (f a) (f b) = r a b) (l : List α) :
    sort r' (l.map f) = (sort r l).map f := by
  induction l with
  | nil => rfl
  | cons x t ih => rw [List.map_cons, sort_cons, ih, ins_map r r' f h, sort_cons]

/-! Sorting by a key: `r a b = q (key a) (key b)`, the keys of the list pairwise different. -/

theorem comparable_of_nodup_keys (key : α → κ) {q : κ → κ → Bool} (tot : ∀ a b, a ≠ b → q a b = true ∨ q b a = true)
    {l : List α} (hn : (l.map key).Nodup) : l.Pairwise (fun a b => q (key a) (key b) = true ∨ q (key b) (key a) = true) :=
  (List.pairwise_map.mp hn).imp fun h => tot _ _ h

theorem sort_key_pairwise (key : α → κ) {q : κ → κ → Bool} (trans : ∀ a b c, q a b = true → q b c = true → q a c = true)
    (tot : ∀ a b, a ≠ b → q a b = true ∨ q b a = true) (l : List α) (hn : (l.map key).Nodup) :
    (sort (fun a b => q (key a) (key b)) l).Pairwise (fun a b => q (key a) (key b) = true) :=
  sort_pairwise (fun a b c => trans (key a) (key b) (key c)) l (comparable_of_nodup_keys key tot hn)

theorem sort_key_eq_of_perm (key : α → κ) {q : κ → κ → Bool} (trans : ∀ a b c, q a b = true → q b c = true → q a c = true)
    (anti : ∀ a b, q a b = true → q b a = true → a = b) (tot : ∀ a b, a ≠ b → q a b = true ∨ q b a = true)
    {l l' : List α} (hn : (l.map key).Nodup) (hp : l.Perm l') :
    sort (fun a b => q (key a) (key b)) l = sort (fun a b => q (key a) (key b)) l' :=
  sort_eq_of_perm (fun a b c => trans (key a) (key b) (key c)) (fun _ ha _ hb h1 h2 => ListLib.eq_of_nodup_map key hn ha hb (anti _ _ h1 h2))
    (comparable_of_nodup_keys key tot hn) hp

theorem sort_key_eq_iff (key : α → κ) {q : κ → κ → Bool} (trans : ∀ a b c, q a b = true → q b c = true → q a c = true)
    (anti : ∀ a b, q a b = true → q b a = true → a = b) (tot : ∀ a b, a ≠ b → q a b = true ∨ q b a = true)
    {l l' : List α} (hn : (l.map key).Nodup) :
    sort (fun a b => q (key a) (key b)) l = sort (fun a b => q (key a) (key b)) l' ↔ l.Perm l' :=
  ⟨fun h => (sort_perm _ l).symm.trans (h ▸ sort_perm _ l'), sort_key_eq_of_perm key trans anti tot hn⟩

/-! A strict total order `lt` (irreflexive, transitive, trichotomous) meets `anti` and `tot`. -/

theorem strict_anti {lt : κ → κ → Bool} (irrefl : ∀ a, lt a a = false) (trans : ∀ a b c, lt a b = true → lt b c = true → lt a c = true)
    (a b : κ) (h1 : lt a b = true) (h2 : lt b a = true) : a = b :=
  absurd (trans _ _ _ h1 h2) (by rw [irrefl]; exact Bool.false_ne_true)

theorem strict_tot {lt : κ → κ → Bool} (tri : ∀ a b, lt a b = false → lt b a = false → a = b) (a b : κ) (h : a ≠ b) :
    lt a b = true ∨ lt b a = true := by
  cases h1 : lt a b with
  | true => exact Or.inl rfl
  | false => exact Or.inr (Bool.not_eq_false _ |>.mp fun h2 => h (tri a b h1 h2))

/-! The lexicographic order on node tuples, as a Boolean function, is `<` of core. -/

def ltList : List Nat → List Nat → Bool
  | [], [] => false
  | [], _ :: _ => true
  | _ :: _, [] => false
  | a :: as, b :: bs => decide (a < b) || (decide (a = b) && ltList as bs)

theorem ltList_iff (a b : List Nat) : ltList a b = true ↔ a < b := by
  induction a generalizing b with
  | nil => cases b <;> simp [ltList]
  | cons x xs ih => cases b <;> simp [ltList, List.cons_lt_cons_iff, ih]

theorem ltList_irrefl (a : List Nat) : ltList a a = false :=
  Bool.eq_false_iff.mpr fun h => List.lt_irrefl a ((ltList_iff a a).mp h)

theorem ltList_trans (a b c : List Nat) (h1 : ltList a b = true) (h2 : ltList b c = true) : ltList a c = true :=
  (ltList_iff a c).mpr (List.lt_trans ((ltList_iff a b).mp h1) ((ltList_iff b c).mp h2))

theorem ltList_tri (a b : List Nat) (h1 : ltList a b = false) (h2 : ltList b a = false) : a = b :=
  List.le_antisymm (fun h => Bool.eq_false_iff.mp h2 ((ltList_iff b a).mpr h)) fun h => Bool.eq_false_iff.mp h1 ((ltList_iff a b).mpr h)

/-! The lexicographic product of two strict total orders is one; `<` on `Nat` as a Boolean function is one. -/

def lex [DecidableEq α] (p : α → α → Bool) (q : β → β → Bool) (a b : α × β) : Bool :=
  p a.1 b.1 || (decide (a.1 = b.1) && q a.2 b.2)

section Lex
variable [DecidableEq α] {p : α → α → Bool} {q : β → β → Bool}

theorem lex_irrefl (hp : ∀ a, p a a = false) (hq : ∀ b, q b b = false) (a : α × β) : lex p q a a = false := by
  simp [lex, hp, hq]

theorem lex_trans (hp : ∀ a b c, p a b = true → p b c = true → p a c = true)
    (hq : ∀ a b c, q a b = true → q b c = true → q a c = true) (a b c : α × β)
    (h1 : lex p q a b = true) (h2 : lex p q b c = true) : lex p q a c = true := by
  simp only [lex, Bool.or_eq_true, Bool.and_eq_true, decide_eq_true_eq] at h1 h2 ⊢
  rcases h1 with h1 | ⟨e1, h1⟩
  · exact Or.inl (h2.elim (hp _ _ _ h1) fun h => h.1 ▸ h1)
  · exact h2.elim (fun h => Or.inl (e1 ▸ h)) fun h => Or.inr ⟨e1.trans h.1, hq _ _ _ h1 h.2⟩

theorem lex_tri (hp : ∀ a b, p a b = false → p b a = false → a = b) (hq : ∀ a b, q a b = false → q b a = false → a = b)
    (a b : α × β) (h1 : lex p q a b = false) (h2 : lex p q b a = false) : a = b := by
  simp only [lex, Bool.or_eq_false_iff, Bool.and_eq_false_iff, decide_eq_false_iff_not] at h1 h2
  have e : a.1 = b.1 := hp _ _ h1.1 h2.1
  exact Prod.ext e (hq _ _ (h1.2.resolve_left (not_not_intro e)) (h2.2.resolve_left (not_not_intro e.symm)))

end Lex

theorem ltNat_irrefl (a : Nat) : decide (a < a) = false := decide_eq_false (Nat.lt_irrefl a)

theorem ltNat_trans (a b c : Nat) (h1 : decide (a < b) = true) (h2 : decide (b < c) = true) : decide (a < c) = true :=
  decide_eq_true (Nat.lt_trans (of_decide_eq_true h1) (of_decide_eq_true h2))

theorem ltNat_tri (a b : Nat) (h1 : decide (a < b) = false) (h2 : decide (b < a) = false) : a = b :=
  Nat.le_antisymm (Nat.le_of_not_lt (of_decide_eq_false h2)) (Nat.le_of_not_lt (of_decide_eq_false h1))

end BSort

namespace NatSort

theorem strict_of_sorted_nodup {l : List Nat} (h1 : l.Pairwise (· ≤ ·)) (h2 : l.Nodup) : l.Pairwise (· < ·) :=
  (h1.and h2).imp fun ⟨h, hne⟩ => Nat.lt_of_le_of_ne h hne

theorem sorted_of_strict {l : List Nat} (h : l.Pairwise (· < ·)) : l.Pairwise (· ≤ ·) := h.imp Nat.le_of_lt

theorem nodup_of_strict {l : List Nat} (h : l.Pairwise (· < ·)) : l.Nodup := h.imp Nat.ne_of_lt

theorem eq_of_perm_of_sorted {l l' : List Nat} (hp : l.Perm l') (h : l.Pairwise (· ≤ ·)) (h' : l'.Pairwise (· ≤ ·)) :
    l = l' :=
  hp.eq_of_pairwise (le := (· ≤ ·)) (fun _ _ _ _ h1 h2 => Nat.le_antisymm h1 h2) h h'

theorem eq_of_mem_iff_of_strict {l l' : List Nat} (hm : ∀ x, x ∈ l ↔ x ∈ l') (h : l.Pairwise (· < ·))
    (h' : l'.Pairwise (· < ·)) : l = l' :=
  eq_of_perm_of_sorted ((List.perm_ext_iff_of_nodup (nodup_of_strict h) (nodup_of_strict h')).mpr hm)
    (sorted_of_strict h) (sorted_of_strict h')

/-- in a strictly increasing list, entries are ordered as their positions -/
theorem lt_iff_of_strict {l : List Nat} (h : l.Pairwise (· < ·)) {i j n m : Nat} (hn : l[i]? = some n) (hm : l[j]? = some m) :
    n < m ↔ i < j := by
  obtain ⟨hi, rfl⟩ := List.getElem?_eq_some_iff.mp hn
  obtain ⟨hj, rfl⟩ := List.getElem?_eq_some_iff.mp hm
  have pw := List.pairwise_iff_getElem.mp h
  refine ⟨fun hlt => ?_, pw i j hi hj⟩
  rcases Nat.lt_trichotomy i j with h1 | h1 | h1
  · exact h1
  · subst h1; exact absurd hlt (Nat.lt_irrefl _)
  · exact absurd hlt (Nat.lt_asymm (pw j i hj hi h1))

def insert (a : Nat) : List Nat → List Nat
  | [] => [a]
  | b :: bs => if a ≤ b then a :: b :: bs else b :: insert a bs

def isort (l : List Nat) : List Nat := l.foldr insert []

theorem insert_eq (a : Nat) (l : List Nat) : insert a l = BSort.ins (fun a b => decide (a ≤ b)) a l := by
  induction l with
  | nil => rfl
  | cons b bs ih => simp only [insert, BSort.ins, ih, decide_eq_true_eq]

theorem insert_perm (a : Nat) (l : List Nat) : (insert a l).Perm (a :: l) := insert_eq a l ▸ BSort.ins_perm _ a l

theorem insert_sorted (a : Nat) (l : List Nat) (h : l.Pairwise (· ≤ ·)) : (insert a l).Pairwise (· ≤ ·) :=
  insert_eq a l ▸ BSort.ins_pairwise (r := fun a b => decide (a ≤ b)) (S := (· ≤ ·)) (fun _ _ _ => Nat.le_trans) a l h (fun _ _ => of_decide_eq_true)
    fun _ _ h => Nat.le_of_lt (Nat.lt_of_not_le (of_decide_eq_false h))

/-- `isort` is `BSort.sort` for `≤` as a Boolean relation -/
theorem isort_eq (l : List Nat) : isort l = BSort.sort (fun a b => decide (a ≤ b)) l := by
  induction l with
  | nil => rfl
  | cons a l ih => exact (congrArg (insert a) ih).trans (insert_eq a _)

theorem isort_perm (l : List Nat) : (isort l).Perm l := isort_eq l ▸ BSort.sort_perm _ l

theorem mem_isort {l : List Nat} {n : Nat} : n ∈ isort l ↔ n ∈ l := (isort_perm l).mem_iff
theorem isort_length (l : List Nat) : (isort l).length = l.length := (isort_perm l).length_eq
theorem isort_count (a : Nat) (l : List Nat) : (isort l).count a = l.count a := (isort_perm l).count_eq a
theorem isort_nodup {l : List Nat} (h : l.Nodup) : (isort l).Nodup := (isort_perm l).nodup_iff.mpr h

theorem isort_ne_nil {l : List Nat} (h : l ≠ []) : isort l ≠ [] :=
  fun e => h (List.Perm.eq_nil (e ▸ (isort_perm l).symm))

theorem isort_sorted (l : List Nat) : (isort l).Pairwise (· ≤ ·) :=
  isort_eq l ▸ BSort.sort_pairwise_of (r := fun a b => decide (a ≤ b)) (S := (· ≤ ·)) (fun _ _ _ => Nat.le_trans) (fun _ _ => of_decide_eq_true)
    (fun _ _ h => Nat.le_of_lt (Nat.lt_of_not_le (of_decide_eq_false h))) l

theorem isort_strict {l : List Nat} (h : l.Nodup) : (isort l).Pairwise (· < ·) :=
  strict_of_sorted_nodup (isort_sorted l) (isort_nodup h)

theorem isort_eq_of_perm {l l' : List Nat} (h : l.Perm l') : isort l = isort l' :=
  eq_of_perm_of_sorted (((isort_perm l).trans h).trans (isort_perm l').symm) (isort_sorted l) (isort_sorted l')

theorem isort_of_sorted {l : List Nat} (h : l.Pairwise (· ≤ ·)) : isort l = l :=
  eq_of_perm_of_sorted (isort_perm l) (isort_sorted l) h

theorem isort_of_strict {l : List Nat} (h : l.Pairwise (· < ·)) : isort l = l := isort_of_sorted (sorted_of_strict h)

theorem isort_eq_of_mem_iff {o s : List Nat} (ho : o.Nodup) (hs : s.Pairwise (· < ·)) (hm : ∀ x, x ∈ o ↔ x ∈ s) :
    isort o = s :=
  eq_of_mem_iff_of_strict (fun x => mem_isort.trans (hm x)) (isort_strict ho) hs

theorem isort_map {f : Nat → Nat} (hf : ∀ a b, a ≤ b ↔ f a ≤ f b) (l : List Nat) :
    isort (l.map f) = (isort l).map f := by
  rw [isort_eq, isort_eq]; exact BSort.sort_map _ _ f (fun a b => decide_eq_decide.mpr (hf a b).symm) l

def insertU (a : Nat) : List Nat → List Nat
  | [] => [a]
  | b :: bs => if a < b then a :: b :: bs else if a = b then b :: bs else b :: insertU a bs

def usort (l : List Nat) : List Nat := l.foldr insertU []

theorem usort_cons (a : Nat) (l : List Nat) : usort (a :: l) = insertU a (usort l) := rfl

theorem mem_insertU (a x : Nat) (l : List Nat) : x ∈ insertU a l ↔ x = a ∨ x ∈ l := by
  induction l with
  | nil => simp [insertU]
  | cons b bs ih =>
    simp only [insertU]; split
    · exact List.mem_cons
    · split
      · rename_i e; rw [e, List.mem_cons]; exact ⟨Or.inr, fun h => h.elim Or.inl id⟩
      · rw [List.mem_cons, ih, List.mem_cons]; exact or_left_comm

theorem insertU_strict (a : Nat) (l : List Nat) (h : l.Pairwise (· < ·)) : (insertU a l).Pairwise (· < ·) := by
  induction l with
  | nil => exact List.pairwise_singleton _ _
  | cons b bs ih =>
    obtain ⟨hb, hbs⟩ := List.pairwise_cons.mp h
    simp only [insertU]; split <;> rename_i hab
    · exact List.pairwise_cons.mpr
        ⟨fun x hx => (List.mem_cons.mp hx).elim (fun e => e ▸ hab) fun hx => Nat.lt_trans hab (hb x hx), h⟩
    · split <;> rename_i hne
      · exact h
      · refine List.pairwise_cons.mpr ⟨fun x hx => ?_, ih hbs⟩
        rcases (mem_insertU a x bs).mp hx with rfl | hx
        · exact Nat.lt_of_le_of_ne (Nat.le_of_not_lt hab) (Ne.symm hne)
        · exact hb x hx

theorem mem_usort {l : List Nat} {x : Nat} : x ∈ usort l ↔ x ∈ l := by
  induction l with
  | nil => exact Iff.rfl
  | cons a l ih => rw [usort_cons, mem_insertU, ih, List.mem_cons]

theorem usort_strict (l : List Nat) : (usort l).Pairwise (· < ·) := by
  induction l with
  | nil => exact List.Pairwise.nil
  | cons a l ih => exact insertU_strict a _ ih

theorem usort_nodup (l : List Nat) : (usort l).Nodup := nodup_of_strict (usort_strict l)

theorem usort_congr {l l' : List Nat} (h : ∀ x, x ∈ l ↔ x ∈ l') : usort l = usort l' :=
  eq_of_mem_iff_of_strict (fun x => mem_usort.trans ((h x).trans mem_usort.symm)) (usort_strict l) (usort_strict l')

theorem usort_of_strict {l : List Nat} (h : l.Pairwise (· < ·)) : usort l = l :=
  eq_of_mem_iff_of_strict (fun _ => mem_usort) (usort_strict l) h

theorem usort_idem (l : List Nat) : usort (usort l) = usort l := usort_of_strict (usort_strict l)

theorem usort_perm {l : List Nat} (h : l.Nodup) : (usort l).Perm l :=
  (List.perm_ext_iff_of_nodup (usort_nodup l) h).mpr fun _ => mem_usort

/-- a strictly increasing list whose members all lie in a strictly increasing list is a sublist of it (it is that list filtered by
membership, by `eq_of_mem_iff_of_strict`) -/
theorem sublist_of_strict_subset {k e : List Nat} (hk : k.Pairwise (· < ·)) (he : e.Pairwise (· < ·)) (hsub : ∀ x ∈ k, x ∈ e) :
    k.Sublist e := by
  have h : k = e.filter (fun x => k.contains x) :=
    eq_of_mem_iff_of_strict (fun x => by
      rw [List.mem_filter, List.contains_iff_mem]
      exact ⟨fun h => ⟨hsub x h, h⟩, And.right⟩) hk (he.filter _)
  rw [h]; exact List.filter_sublist

/-- a strictly increasing relabelling `f` of the nodes: what the relabelling theorems of C09 and C13 assume, since then sorting commutes with `map f` -/
def Incr (f : Nat → Nat) : Prop := ∀ a b, a < b → f a < f b

theorem Incr.le_iff {f : Nat → Nat} (h : Incr f) (a b : Nat) : f a ≤ f b ↔ a ≤ b := by
  constructor
  · intro hab
    apply Decidable.byContradiction
    intro hn
    have h1 : b < a := by omega
    have h2 := h b a h1
    omega
  · intro hab
    rcases Nat.lt_or_eq_of_le hab with hlt | heq
    · exact Nat.le_of_lt (h a b hlt)
    · subst heq; exact Nat.le_refl _

theorem Incr.inj {f : Nat → Nat} (h : Incr f) (a b : Nat) (hab : f a = f b) : a = b := by
  rcases Nat.lt_trichotomy a b with hl | he | hg
  · have := h a b hl; omega
  · exact he
  · have := h b a hg; omega

end NatSort
