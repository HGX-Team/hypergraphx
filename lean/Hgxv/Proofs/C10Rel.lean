import Hgxv.Model.C10Rel
import Hgxv.Proofs.C10Bipartite
/-! Lemmas about `Model/C10Rel`: the Gram matrices of the incidence matrix, degrees of the bipartite projection, unknown
`distance`. -/
namespace C10

theorem dot_ind {α : Type} (l : List α) (p q : α → Bool) :
    dot (l.map (fun x => if p x then 1 else 0)) (l.map (fun x => if q x then 1 else 0)) =
      l.countP (fun x => p x && q x) := by
  induction l with
  | nil => rfl
  | cons a t ih =>
    unfold dot at ih ⊢
    simp only [List.map_cons, List.zipWith_cons_cons, List.sum_cons, List.countP_cons, ih]
    cases p a <;> cases q a <;> simp
    omega

theorem cooc_eq (es : List Edge) (u v : Nat) :
    cooc es u v = es.countP (fun e => e.contains u && e.contains v) := by
  unfold cooc incRow
  exact dot_ind es (fun e => e.contains u) (fun e => e.contains v)

theorem cooc_pos_iff (es : List Edge) (u v : Nat) : 0 < cooc es u v ↔ ∃ e ∈ es, u ∈ e ∧ v ∈ e := by
  rw [cooc_eq, List.countP_pos_iff]
  simp

theorem overlap_eq_countP (nodes : List Nat) (a b : Edge) :
    overlap nodes a b = nodes.countP (fun n => a.contains n && b.contains n) := by
  unfold overlap incCol
  exact dot_ind nodes (fun n => a.contains n) (fun n => b.contains n)

theorem overlap_eq (nodes : List Nat) (a b : Edge) (hnd : nodes.Nodup) (ha : a.Nodup) (hm : ∀ x ∈ a, x ∈ nodes) :
    overlap nodes a b = interSize a b := by
  rw [overlap_eq_countP, List.countP_eq_length_filter]
  unfold interSize
  apply List.Perm.length_eq
  rw [List.perm_ext_iff_of_nodup (hnd.filter _) (ha.filter _)]
  intro x
  simp only [List.mem_filter, Bool.and_eq_true, List.contains_iff_mem]
  constructor
  · rintro ⟨_, h1, h2⟩; exact ⟨h1, h2⟩
  · rintro ⟨h1, h2⟩; exact ⟨hm x h1, h1, h2⟩

theorem incMatrix_entry_iff (nodes : List Nat) (es : List Edge) (i j b : Nat) :
    (incMatrix nodes es)[i]?.bind (fun row : List Nat => row[j]?) = some b ↔
      ∃ x e, nodes[i]? = some x ∧ es[j]? = some e ∧ b = if x ∈ e then 1 else 0 := by
  simp only [incMatrix, incRow, List.getElem?_map, Option.bind_eq_some_iff, Option.map_eq_some_iff, List.contains_iff_mem,
    exists_exists_and_eq_and, eq_comm (a := b)]
  exact exists_congr fun x => ⟨fun ⟨hx, e, h⟩ => ⟨e, hx, h⟩, fun ⟨e, hx, h⟩ => ⟨hx, e, h⟩⟩

theorem bip_hasEdge_comm {nodes : List Nat} {es : List Edge} {st : Bip} (hI : BInv nodes es st) (u v : BV) :
    st.g.hasEdge u v = st.g.hasEdge v u := by
  rw [Bool.eq_iff_iff, Graph.hasEdge, Graph.hasEdge, Option.isSome_iff_exists, Option.isSome_iff_exists]
  exact exists_congr fun a => ⟨hI.symm _ _ a, hI.symm _ _ a⟩

theorem bip_hasEdge {nodes : List Nat} {es : List Edge} {st : Bip} (hI : BInv nodes es st) {i j x : Nat} {e : Edge}
    (hx : nodes[i]? = some x) (he : es[j]? = some e) : st.g.hasEdge (.N i) (.E j) = e.contains x := by
  rw [Bool.eq_iff_iff, List.contains_iff_mem]
  simp only [Graph.hasEdge, Option.isSome_iff_exists, hI.adj, exists_eq_left, joined, incAt]
  constructor
  · rintro ⟨x', e', h1, h2, h3⟩
    rw [hx] at h1; rw [he] at h2; cases h1; cases h2; exact h3
  · intro h; exact ⟨x, e, hx, he, h⟩

theorem bip_hasEdge_same {nodes : List Nat} {es : List Edge} {st : Bip} (hI : BInv nodes es st) :
    (∀ i i', st.g.hasEdge (.N i) (.N i') = false) ∧ (∀ j j', st.g.hasEdge (.E j) (.E j') = false) := by
  simp [Graph.hasEdge, hI.adj_same]

theorem bip_degree_E (nodes : List Nat) (es : List Edge) (hnd : nodes.Nodup)
    (hmem : ∀ e ∈ es, ∀ x ∈ e, x ∈ nodes) (hend : ∀ e ∈ es, e.Nodup) (j : Nat) (e : Edge) (he : es[j]? = some e) :
    (bipartite nodes es).g.degreeOf (.E j) = e.length := by
  have hI := bipartite_inv nodes hnd es hmem
  have hin : e ∈ es := List.mem_of_getElem? he
  have h0 : (List.range es.length).countP (fun j' => (bipartite nodes es).g.hasEdge (.E j) (.E j')) = 0 :=
    List.countP_eq_zero.2 (fun x _ => by simp [(bip_hasEdge_same hI).2])
  simp only [Graph.degreeOf, hI.keys, List.countP_append, List.countP_map, Function.comp_def]
  rw [h0, Nat.add_zero,
    countP_range_getElem nodes _ (fun x => e.contains x)
      (fun i x hx => (bip_hasEdge_comm hI _ _).trans (bip_hasEdge hI hx he))]
  simpa only [List.contains_eq_mem] using ListLib.countP_mem_of_subset nodes e hnd (hend e hin) (hmem e hin)

theorem bip_degree_N (nodes : List Nat) (es : List Edge) (hnd : nodes.Nodup)
    (hmem : ∀ e ∈ es, ∀ x ∈ e, x ∈ nodes) (i : Nat) (x : Nat) (hx : nodes[i]? = some x) :
    (bipartite nodes es).g.degreeOf (.N i) = (incident es x).length := by
  have hI := bipartite_inv nodes hnd es hmem
  have h0 : (List.range nodes.length).countP (fun i' => (bipartite nodes es).g.hasEdge (.N i) (.N i')) = 0 :=
    List.countP_eq_zero.2 (fun x _ => by simp [(bip_hasEdge_same hI).1])
  simp only [Graph.degreeOf, hI.keys, List.countP_append, List.countP_map, Function.comp_def]
  rw [h0, Nat.zero_add,
    countP_range_getElem es _ (fun e => e.contains x) (fun j e he => bip_hasEdge hI hx he),
    incident, List.countP_eq_length_filter]

theorem degrees_bipartite (nodes : List Nat) (es : List Edge) (hnd : nodes.Nodup)
    (hmem : ∀ e ∈ es, ∀ x ∈ e, x ∈ nodes) (hend : ∀ e ∈ es, e.Nodup) :
    (bipartite nodes es).g.degrees = nodes.map (fun x => (incident es x).length) ++ es.map List.length := by
  simp only [Graph.degrees, (bipartite_inv nodes hnd es hmem).keys, List.map_append, List.map_map, Function.comp_def]
  rw [map_range_getElem nodes _ (fun x => (incident es x).length) (fun i x hx => bip_degree_N nodes es hnd hmem i x hx),
    map_range_getElem es _ List.length (fun j e he => bip_degree_E nodes es hnd hmem hend j e he)]

theorem lineGraphUnknownFrom_eq (es : List Edge) (adj : List (List Edge)) :
    lineGraphUnknownFrom es adj =
      if adj.flatMap pairsOf = [] then some { vis := [], g := emptyOn es.length } else none := by
  unfold lineGraphUnknownFrom
  cases h : adj.flatMap pairsOf with
  | nil => rfl
  | cons p t => simp [List.foldlM_cons, lgVisitUnknown]

theorem dlg_unknown_fold (l : List (DEdge × DEdge)) (g : Graph Nat) :
    l.foldlM dlgVisitUnknown g = if ∀ p ∈ l, p.1 = p.2 then some g else none := by
  induction l with
  | nil => simp
  | cons p t ih =>
    rw [List.foldlM_cons]
    by_cases hp : p.1 = p.2
    · have h1 : dlgVisitUnknown g p = some g := by simp [dlgVisitUnknown, hp]
      simp only [h1, Option.bind_eq_bind, Option.bind_some, ih, List.forall_mem_cons, hp, true_and]
    · have h1 : dlgVisitUnknown g p = none := by simp [dlgVisitUnknown, hp]
      simp [h1, hp]

end C10
