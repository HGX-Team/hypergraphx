import Hgxv.Proofs.C04Ref
import Hgxv.Proofs.C19LinkBase
/-! # C19 ↔ C04: `MultiplexHypergraph`

`ofSpec04 : C04.Spec → Content Key Int` (a record key `(sorted nodes, layer)` becomes `(sorted nodes, [layer])`; the layer
registry and the hypergraph metadata are not part of the content the filter reads).  Under `Dyn opsT C04.one CanonT`
(given by `C04.Inv`): `C04.Spec.removeNode` is `C19.removeNode opsT`, `C04.Spec.removeEdge` is `C19.removeEdge`, with
the same verdicts.  Core Lean only. -/
namespace C19
open AL

def keyM (k : C04.Key) : Key := (k.1, [k.2])
theorem keyM_inj (a b : C04.Key) (h : keyM a = keyM b) : a = b := by
  obtain ⟨a1, a2⟩ := a
  obtain ⟨b1, b2⟩ := b
  simp only [keyM, Prod.mk.injEq, List.cons.injEq, and_true] at h
  rw [h.1, h.2]

/-- the content of an abstract `MultiplexHypergraph` -/
def ofSpec04 (a : C04.Spec) : Content Key Int :=
  { weighted := a.weighted, nodes := mapKV (fun n => n) mdOf a.nodes, edges := mapKV keyM recOf a.edges }

abbrev Dyn04 (c : Content Key Int) : Prop := Dyn opsT C04.one CanonT c

theorem nodes04_get (a : C04.Spec) (n : Node) : get? (ofSpec04 a).nodes n = (get? a.nodes n).map mdOf :=
  contentOf_get_node keyM n

theorem edges04_get (a : C04.Spec) (k : C04.Key) : get? (ofSpec04 a).edges (keyM k) = (get? a.edges k).map recOf :=
  contentOf_get_edge keyM keyM_inj k

/-- `add_node(node)` without metadata, as called from `add_edge` -/
theorem addNode04 (sp : C04.Spec) (n : Node) : C04.Spec.addNode sp n none = { sp with nodes := touchT sp.nodes n } := by
  unfold C04.Spec.addNode touchT
  cases hg : get? sp.nodes n with
  | none => rfl
  | some v =>
    cases v with
    | nil => simp only [Option.isSome_some, if_true, Option.getD_none]; rw [set_same _ _ _ hg]
    | cons x xs => rfl

theorem touchNodes04 (ns : List Node) (sp : C04.Spec) :
    C04.Spec.touchNodes sp ns = { sp with nodes := ns.foldl touchT sp.nodes } := by
  unfold C04.Spec.touchNodes
  induction ns generalizing sp with
  | nil => rfl
  | cons n ns ih => simp only [List.foldl_cons]; rw [addNode04, ih]

/-- the map update of an accepted insertion -/
theorem addEdgeCore04 (a : C04.Spec) (raw : List Node) (l : C04.Layer) (w : Int) (md : C04.Meta)
    (h : Dyn04 (ofSpec04 a)) :
    ofSpec04 (C04.Spec.addEdgeCore a raw l w md) =
      addEdge opsT (ofSpec04 a) (keyM (C04.canon raw, l)) w (mdOf md) := by
  unfold C04.Spec.addEdgeCore
  rw [touchNodes04]
  exact contentOf_add_touch keyM keyM_inj opsT (mem := fun k => k.1) (fun _ => rfl) (C04.canon raw, l) w md h

theorem removeEdge04 (a : C04.Spec) (raw : List Node) (l : C04.Layer) (hnd : (keys a.edges).Nodup) :
    ((get? (ofSpec04 a).edges (keyM (C04.canon raw, l))).isSome = true →
      (C04.Spec.removeEdge a raw l).2 = .ok ∧
      ofSpec04 (C04.Spec.removeEdge a raw l).1 = removeEdge (ofSpec04 a) (keyM (C04.canon raw, l))) ∧
    ((get? (ofSpec04 a).edges (keyM (C04.canon raw, l))).isSome = false →
      C04.Spec.removeEdge a raw l = (a, .rej)) := by
  rw [edges04_get, Option.isSome_map]
  unfold C04.Spec.removeEdge
  constructor
  · intro hp
    rw [if_pos hp]
    refine ⟨rfl, ?_⟩
    simp only [C04.del, ← erase_eq_filter _ _ hnd]
    exact contentOf_eraseEdge keyM keyM_inj _
  · intro hp
    rw [if_neg (by simp [hp])]

/-- one iteration of the `keep_edges=True` loop of `remove_node` -/
theorem shrinkKey04 (a : C04.Spec) (n : Node) (k : C04.Key) (h : Dyn04 (ofSpec04 a)) :
    ofSpec04 (C04.Spec.shrinkKey a n k) = shrinkOneK opsT n (ofSpec04 a) (keyM k) := by
  unfold C04.Spec.shrinkKey shrinkOneK
  rw [edges04_get]
  have hndE : (keys a.edges).Nodup := keys_nodup_of_mapKV keyM recOf a.edges h.wf.keysNodup
  cases hg : get? a.edges k with
  | none => rfl
  | some v =>
    obtain ⟨w0, md0⟩ := v
    -- the spec re-inserts through its public `add_edge`: the guards pass because the shrunk key is canonical already (a
    -- filter of a sorted tuple) and, when unweighted, the weight read is the unit weight
    have hc : get? (ofSpec04 a).edges (keyM k) = some (recOf (w0, md0)) := by rw [edges04_get, hg]; rfl
    have hmem : (keyM k, recOf (w0, md0)) ∈ (ofSpec04 a).edges := mem_of_get? _ _ _ hc
    have hrm : ofSpec04 (C04.Spec.dropKey a k) = removeEdge (ofSpec04 a) (keyM k) := by
      simp only [C04.Spec.dropKey, C04.del, ← erase_eq_filter _ _ hndE]
      exact contentOf_eraseEdge keyM keyM_inj k
    simp only [Option.map_some]
    unfold shrinkOne
    simp only [opsT, keyM]
    have hwo : k.1.filter (· ≠ n) = without k.1 n := rfl
    rw [hwo]
    by_cases hemp : without k.1 n = []
    · simp only [hemp, List.isEmpty_nil, if_true]
      exact hrm
    · have hne : (without k.1 n).isEmpty = false := by
        cases hx : without k.1 n with
        | nil => exact absurd hx hemp
        | cons _ _ => rfl
      simp only [hemp, hne, Bool.false_eq_true, if_false]
      have hd1 : Dyn04 (ofSpec04 (C04.Spec.dropKey a k)) := by
        rw [hrm]; exact removeEdge_dyn opsT C04.one CanonT _ _ h
      have hw : a.weighted = false → w0 = C04.one := fun hwt => h.unitw hwt _ hmem
      have hsorted : SortedL (without k.1 n) := sortedL_without (h.canon _ hmem).1 n
      have hcan : C04.canon (without k.1 n) = without k.1 n := C04.canon_of_sorted _ hsorted
      have hcond : (!(C04.Spec.dropKey a k).weighted && (w0 != C04.one)) = false := by
        show (!a.weighted && (w0 != C04.one)) = false
        cases hwt : a.weighted with
        | true => rfl
        | false => simp [hw hwt]
      unfold C04.Spec.addEdge
      simp only [hcond, Bool.false_eq_true, if_false, Option.getD_some]
      rw [addEdgeCore04 _ _ _ _ _ hd1, hrm, hcan]
      rfl

theorem incident04 (a : C04.Spec) (n : Node) :
    (incident opsT (ofSpec04 a) n).map (·.1) =
      ((keys a.edges).filter (fun k => decide (n ∈ k.1))).map keyM := by
  refine (incident_contentOf keyM opsT (fun _ => rfl) n).trans ?_
  simp [opsT, keyM]

/-- `remove_node(node, keep_edges)` of the abstract `MultiplexHypergraph` is C19's `removeNode opsT` -/
theorem removeNode04 (a : C04.Spec) (h : Dyn04 (ofSpec04 a)) (n : Node) (keep : Bool) :
    ((get? a.nodes n).isSome = true →
      (C04.Spec.removeNode a n keep).2 = .ok ∧
      ofSpec04 (C04.Spec.removeNode a n keep).1 = removeNode opsT keep (ofSpec04 a) n) ∧
    ((get? a.nodes n).isSome = false → C04.Spec.removeNode a n keep = (a, .rej)) := by
  refine ⟨fun hn => ?_, fun hn => by unfold C04.Spec.removeNode; simp [hn]⟩
  unfold C04.Spec.removeNode
  simp only [hn, if_true]
  refine ⟨trivial, ?_⟩
  cases keep with
  | false =>
    simp only [Bool.false_eq_true, if_false]
    rw [removeNode_drop opsT (ofSpec04 a) n h.wf.nodesNodup h.wf.keysNodup]
    simp only [C04.Spec.dropNode, ofSpec04, C04.del]
    congr 1
    · apply mapKV_filter
      intro x _
      simp
    · apply mapKV_filter
      intro x _
      simp [opsT, keyM]
  | true =>
    simp only [if_true]
    obtain ⟨f1, f2⟩ := each_sim (u := C04.one) lawful_T rfl canonShrink_T true (fun a k => C04.Spec.shrinkKey a n k)
      (fun a' k hi => shrinkKey04 a' n k hi) a _ (incident04 a n) h
    rw [← f1]
    simp only [C04.Spec.dropNode, C04.del,
      ← erase_eq_filter _ _ (keys_nodup_of_mapKV (fun n => n) mdOf _ f2.wf.nodesNodup)]
    exact contentOf_eraseNode keyM n

theorem dyn04_of_inv (s : C04.Store) (h : C04.Inv s) : Dyn04 (ofSpec04 (C04.abs s)) :=
  dyn_contentOf keyM opsT C04.one CanonT keyM_inj (C04.abs_tab h) (fun _ => rfl) (fun k hk => ⟨hk.le, k.2, rfl⟩)

/-- `get_nodes(metadata=True)` / `get_edges(metadata=True)` of a `MultiplexHypergraph` object -/
def view04 (s : C04.Store) : Content Key Int := ofSpec04 (C04.abs s)

def rmNode04 (keep : Bool) (s : C04.Store) (n : Node) : C04.Store × Bool :=
  ((C04.step s (.removeNode n keep)).1, decide ((C04.step s (.removeNode n keep)).2 = .ok))

/-- `remove_edge(nodes, layer)` for a key `(nodes, [layer])` as `get_edges` lists it -/
def rmEdge04 (s : C04.Store) (k : Key) : C04.Store × Bool :=
  match k.2 with
  | [l] => ((C04.step s (.removeEdge k.1 l)).1, decide ((C04.step s (.removeEdge k.1 l)).2 = .ok))
  | _ => (s, false)

theorem rmNode04_link (keep : Bool) (s : C04.Store) (n : Node) (h : C04.Inv s) :
    ((rmNode04 keep s n).2 = true ↔ (removeNode? opsT keep (view04 s) n).isSome) ∧
    ((rmNode04 keep s n).2 = true → C04.Inv (rmNode04 keep s n).1 ∧
      view04 (rmNode04 keep s n).1 = removeNode opsT keep (view04 s) n) := by
  rw [removeNode?_isSome, view04, nodes04_get, Option.isSome_map]
  exact verdict_store (C04.abs_step s (.removeNode n keep) h trivial) (C04.step_inv s (.removeNode n keep) h trivial)
    (removeNode04 (C04.abs s) (dyn04_of_inv s h) n keep) nofun

theorem rmEdge04_link (s : C04.Store) (k : Key) (h : C04.Inv s) (hk : CanonT k) :
    ((rmEdge04 s k).2 = true ↔ (removeEdge? (view04 s) k).isSome) ∧
    ((rmEdge04 s k).2 = true → C04.Inv (rmEdge04 s k).1 ∧ view04 (rmEdge04 s k).1 = removeEdge (view04 s) k) := by
  obtain ⟨k1, k2⟩ := k
  obtain ⟨hsorted, t, ht⟩ := hk
  subst ht
  have l := removeEdge04 (C04.abs s) k1 t (keys_nodup_of_mapKV keyM recOf _ (dyn04_of_inv s h).wf.keysNodup)
  have hkk : keyM (C04.canon k1, t) = (k1, [t]) := by rw [C04.canon_of_sorted _ hsorted]; rfl
  rw [hkk] at l
  rw [removeEdge?_isSome]
  exact verdict_store (C04.abs_step s (.removeEdge k1 t) h trivial) (C04.step_inv s (.removeEdge k1 t) h trivial) l nofun

/-- **`filter_hypergraph` on a `MultiplexHypergraph` object** (same statement as `filter01`). -/
theorem filter04 (s : C04.Store) (h : C04.Inv s) (nc ec : Option Crit) (mode : Mode) (keep : Bool) :
    let r := filterVia view04 (rmNode04 keep) rmEdge04 s nc ec mode
    r.2 = true ∧ C04.Inv r.1 ∧ view04 r.1 = filterHg opsT (view04 s) nc ec mode keep :=
  filterVia_eq opsT lawful_T keep view04 (rmNode04 keep) rmEdge04 C04.Inv CanonT
    (fun s hs => (dyn04_of_inv s hs).wf) (fun s hs => (dyn04_of_inv s hs).canon)
    (fun s n hs => rmNode04_link keep s n hs) (fun s k hs hk => rmEdge04_link s k hs hk) s h nc ec mode

end C19
