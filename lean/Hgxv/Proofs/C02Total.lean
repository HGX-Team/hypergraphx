import Hgxv.Proofs.C02NodeRef
/-! C02: in an unweighted hypergraph every stored weight is 1 (`Unw`), hence
`remove_node` never raises half-way: on a present node it is accepted in both `keep_edges` modes. -/
namespace C02
open AL

/-- unweighted ⇒ every stored weight is Python's `1` -/
def Unw (s : Store) : Prop := s.weighted = false → ∀ id w, get? s.weights id = some w → w = one

theorem Unw.of_eq {s s' : Store} (u : Unw s) (h1 : s'.weighted = s.weighted) (h2 : s'.weights = s.weights) : Unw s' := by
  intro hw id w hg; rw [h1] at hw; rw [h2] at hg; exact u hw id w hg

theorem unw_empty (w : Bool) (i : Nat) (hm : Meta) : Unw { weighted := w, nextId := i, hmeta := hm } := by
  intro _ id w hg; simp [get?] at hg

theorem addNode_unw (s : Store) (n : Node) (md : Option Meta) (u : Unw s) : Unw (addNode s n md) :=
  u.of_eq (addNode_fields s n md).2.2.2.2.2.1 (addNode_fields s n md).2.2.1

theorem addEdgeKey_unw (s : Store) (k : Key) (w : Option Int) (md : Option Meta) (u : Unw s) :
    Unw (addEdgeKey s k w md).1 := by
  unfold addEdgeKey
  split
  · exact u
  · split
    · intro hw id w' hg
      obtain ⟨_, _, f3, _, _, f6, _⟩ := addEdgeNew_fields s k (w.getD one) (md.getD [])
      rw [f6] at hw; rw [f3, get?_set] at hg
      split at hg
      · injection hg with hg; simp [hw] at hg; exact hg.symm
      · exact u hw id w' hg
    · intro hw id w' hg
      have hw' : s.weighted = false := hw
      simp only [addEdgeOld, hw'] at hg
      exact u hw' id w' hg

theorem removeEdgeKey_unw (s : Store) (k : Key) (h : Inv s) (u : Unw s) : Unw (removeEdgeKey s k).1 := by
  unfold removeEdgeKey
  cases hk : get? s.edgeList k with
  | none => exact u
  | some id =>
    intro hw id' w hg
    have hg' : get? (AL.erase s.weights id) id' = some w := hg
    rw [get?_erase _ _ _ h.nd_w] at hg'
    split at hg'
    · cases hg'
    · exact u hw id' w hg'

theorem unwPres : Pres fun s => Inv s ∧ Unw s where
  inv h := h.1
  empty w i hm := ⟨inv_empty w i hm, unw_empty w i hm⟩
  addNode s n md h := ⟨addNode_inv s n md h.1, addNode_unw s n md h.2⟩
  addEdgeKey s k w md hk h := ⟨addEdgeKey_inv s k w md hk h.1, addEdgeKey_unw s k w md h.2⟩
  removeEdgeKey s k h := ⟨removeEdgeKey_inv s k h.1, removeEdgeKey_unw s k h.1 h.2⟩
  dropNode s n hno h := ⟨dropNode_inv s n h.1 hno, h.2.of_eq rfl rfl⟩
  setWeight s k id w hk hw h := ⟨Inv.pres.setWeight s k id w hk hw h.1, fun hf id' w' hg => by
    have hg' : get? (AL.set s.weights id w) id' = some w' := hg
    rw [get?_set] at hg'
    split at hg'
    · exact (Option.some.inj hg').symm.trans (hw hf)
    · exact h.2 hf id' w' hg'⟩
  setEmeta s k id md hk h := ⟨Inv.pres.setEmeta s k id md hk h.1, h.2.of_eq rfl rfl⟩
  setNmeta s n md hn h := ⟨Inv.pres.setNmeta s n md hn h.1, h.2.of_eq rfl rfl⟩
  setHmeta _ md h := ⟨h.1.set_hmeta md, h.2.of_eq rfl rfl⟩
  setFlag _ h := ⟨h.1.set_weighted true, fun hw => by cases hw⟩

/-- no `op.WF`: a malformed hyperedge can break the invariant, not `Unw` -/
theorem applyOp_unw (s : Store) (op : Op) (h : Inv s) (u : Unw s) : Unw (applyOp s op).1 := by
  cases op with
  | addEdge e w md => exact addEdgeKey_unw s _ w md u
  | addEdges es ws mds =>
    exact addEdges_pres es (fun s e _ w md => addEdgeKey_unw s _ w md) (fun _ _ hw => by cases hw) s ws mds u
  | _ => exact (applyOp_pres unwPres s _ (by trivial) ⟨h, u⟩).2

def StateUnw (st : State) : Prop := ∀ slot s, get? st slot = some s → Unw s

/-- the three invariants of every history (`Inv`, `Ord`, `Unw`) together -/
theorem runCmds_all (st : State) (cs : List Cmd) (hcs : ∀ c ∈ cs, c.WF) (h : StateInv st) (o : StateOrd st)
    (u : StateUnw st) : StateInv (runCmds st cs) ∧ StateOrd (runCmds st cs) ∧ StateUnw (runCmds st cs) :=
  have a := runCmds_pres ordPres st cs hcs fun slot s hs => ⟨h slot s hs, o slot s hs⟩
  have b := runCmds_pres unwPres st cs hcs fun slot s hs => ⟨h slot s hs, u slot s hs⟩
  ⟨fun slot s hs => (a slot s hs).1, fun slot s hs => (a slot s hs).2, fun slot s hs => (b slot s hs).2⟩

theorem addEdgeKey_has_mono (s : Store) (k : Key) (w : Option Int) (md : Option Meta) (k' : Key)
    (h : (get? s.edgeList k').isSome) : (get? (addEdgeKey s k w md).1.edgeList k').isSome := by
  unfold addEdgeKey
  split
  · exact h
  · split
    · simp only []
      rw [(addEdgeNew_fields s k _ _).1, get?_set]
      split
      · rfl
      · exact h
    · exact h

theorem reinsertAll_accepts (s : Store) (n : Node) (L M : List Key) (hL : ∀ k ∈ L, KeyWF k)
    (hLM : ∀ k ∈ L, k ∈ M) (h : Inv s) (u : Unw s) (hp : ∀ k ∈ M, (get? s.edgeList k).isSome) :
    (reinsertAll s n L).2 = .ok ∧ (∀ k ∈ M, (get? (reinsertAll s n L).1.edgeList k).isSome) := by
  induction L generalizing s with
  | nil => exact ⟨rfl, hp⟩
  | cons k ks ih =>
    have wf := hL k List.mem_cons_self
    have hk := hp k (hLM k List.mem_cons_self)
    obtain ⟨id, hid⟩ := Option.isSome_iff_exists.mp hk
    obtain ⟨w, hw⟩ := Option.isSome_iff_exists.mp (h.weights_of_edge k id hid)
    obtain ⟨m, hm⟩ := Option.isSome_iff_exists.mp (h.emeta_of_edge k id hid)
    have step1 : (reinsert s n k).2 = .ok ∧ ∀ k' ∈ M, (get? (reinsert s n k).1.edgeList k').isSome := by
      unfold reinsert
      simp only []
      split
      · exact ⟨rfl, hp⟩
      · simp only [weightOfKey, metaOfKey, hid, hw, hm]
        unfold addEdge
        refine ⟨?_, fun k' hk' => addEdgeKey_has_mono s _ _ _ k' (hp k' hk')⟩
        unfold addEdgeKey
        have hacc : (!s.weighted && (some w).isSome && (some w != some one)) = false := by
          cases hwt : s.weighted with
          | true => simp
          | false => have := u hwt id w hw; subst this; simp
        simp only [hacc, Bool.false_eq_true, if_false]
        split <;> rfl
    simp only [reinsertAll]
    rw [step1.1]
    have r := (reinsert_sim unwPres s n k wf ⟨h, u⟩).1
    exact ih _ (fun k' hk' => hL k' (List.mem_cons_of_mem _ hk')) (fun k' hk' => hLM k' (List.mem_cons_of_mem _ hk'))
      r.1 r.2 step1.2

theorem removeKeys_accepts (s : Store) (L : List Key) (hL : ∀ k ∈ L, KeyWF k) (hnd : L.Nodup) (h : Inv s)
    (hp : ∀ k ∈ L, (get? s.edgeList k).isSome) : (removeKeys s L).2 = .ok := by
  induction L generalizing s with
  | nil => rfl
  | cons k ks ih =>
    have wf := hL k List.mem_cons_self
    have hk := hp k List.mem_cons_self
    obtain ⟨id, hid⟩ := Option.isSome_iff_exists.mp hk
    have e1 : removeEdge s (RawEdge.ofKey k) = removeEdgeKey s k := by
      unfold removeEdge; rw [canonStrict_ofKey k wf]
    have e2 : (removeEdgeKey s k).2 = .ok := by simp [removeEdgeKey, hid]
    simp only [removeKeys, e1, e2]
    have hnd' := List.nodup_cons.mp hnd
    refine ih _ (fun k' hk' => hL k' (List.mem_cons_of_mem _ hk')) hnd'.2 (removeEdgeKey_inv s k h) ?_
    intro k' hk'
    have hne : k ≠ k' := fun hc => hnd'.1 (hc ▸ hk')
    have : (removeEdgeKey s k).1.edgeList = AL.erase s.edgeList k := by simp [removeEdgeKey, hid]
    rw [this, get?_erase_ne _ _ _ hne]
    exact hp k' (List.mem_cons_of_mem _ hk')

theorem incKeys_nodup (s : Store) (h : Inv s) (n : Node) : (incKeys s n).Nodup := by
  unfold incKeys
  refine List.nodup_append.mpr ⟨h.nd_edge.filter _, h.nd_edge.filter _, ?_⟩
  intro a ha b hb hab
  subst hab
  have h1 := List.mem_filter.mp ha
  have h2 := List.mem_filter.mp hb
  obtain ⟨id, hid⟩ := (h.mem_keys_iff a).mp h1.1
  exact (h.key_wf id a hid).disj n (List.contains_iff_mem.mp h1.2) (List.contains_iff_mem.mp h2.2)

/-- **`remove_node` never raises half-way**: on a present node it is accepted, in both modes -/
theorem removeNode_accepts (s : Store) (n : Node) (keep : Bool) (h : Inv s) (o : Ord s) (u : Unw s)
    (hn : has s.adjS n = true) : (removeNode s n keep).2 = .ok := by
  rw [removeNode_eq s n keep h o hn]
  simp only []
  have wf := incKeys_wf s h n
  have hpres : ∀ k ∈ incKeys s n, (get? s.edgeList k).isSome := by
    intro k hk
    have : k ∈ keys s.edgeList := by
      rcases List.mem_append.mp hk with h1 | h1 <;> exact (List.mem_filter.mp h1).1
    exact (isSome_get?_iff _ _).mpr this
  have r1 : (if keep = true then reinsertAll s n (incKeys s n) else (s, Out.ok)).2 = .ok ∧
      Inv (if keep = true then reinsertAll s n (incKeys s n) else (s, Out.ok)).1 ∧
      ∀ k ∈ incKeys s n, (get? (if keep = true then reinsertAll s n (incKeys s n) else (s, Out.ok)).1.edgeList k).isSome := by
    split
    · have := reinsertAll_accepts s n (incKeys s n) (incKeys s n) wf (fun _ hk => hk) h u hpres
      exact ⟨this.1, (reinsertAll_sim Inv.pres s n _ wf h).1, this.2⟩
    · exact ⟨rfl, h, hpres⟩
  generalize (if keep = true then reinsertAll s n (incKeys s n) else (s, Out.ok)) = q at r1
  obtain ⟨a1, a2, a3⟩ := r1
  rw [a1]
  simp only []
  rw [removeKeys_accepts q.1 (incKeys s n) wf (incKeys_nodup s h n) a2 a3]

/-- what `Inv` and `Unw` say about the two tables of `abs s`: where the link files of the other properties start -/
theorem abs_tab {s : Store} (h : Inv s) (u : Unw s) :
    TabWF (fun k => k.1 ++ k.2) KeyWF one (abs s).weighted (abs s).nodes (abs s).edges :=
  TabWF.of_ids s.edgeList s.weights s.emeta 0 [] (by rw [abs_nodes_keys]; exact h.nd_adjS) h.nd_edge
    (fun k id hid => ⟨h.key_wf id k (h.rev_of_edge k id hid), fun m hm => by
      rw [abs_nodes_keys]
      exact (mem_keys_iff _ _).mpr (h.nodes_in id k (h.rev_of_edge k id hid) m (List.mem_append.mp hm))⟩)
    (fun k id hid => by rw [h.weights_same, h.rev_of_edge _ _ hid]; rfl)
    u

/-- the object in a slot after a history of well-formed commands from the empty state: the three invariants, and the
abstract history holds its abstraction in the same slot -/
theorem of_history (cs : List Cmd) (hcs : ∀ c ∈ cs, c.WF) (slot : Nat) (s : Store)
    (hs : get? (runCmds [] cs) slot = some s) :
    Inv s ∧ Ord s ∧ Unw s ∧ get? (Spec.runCmds [] cs) slot = some (abs s) := by
  have h0 : StateInv [] := fun _ _ h => nomatch h
  have o0 : StateOrd [] := fun _ _ h => nomatch h
  obtain ⟨h, o, u⟩ := runCmds_all [] cs hcs h0 o0 (fun _ _ h => nomatch h)
  refine ⟨h slot s hs, o slot s hs, u slot s hs, ?_⟩
  rw [← show absState [] = [] from rfl, ← (abs_runCmds [] cs hcs h0 o0).1]
  show get? ((runCmds [] cs).map (fun p => (p.1, abs p.2))) slot = _
  rw [get?_map_val, hs]; rfl

end C02
