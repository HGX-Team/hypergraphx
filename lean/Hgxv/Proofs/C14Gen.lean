import Hgxv.Proofs.C14Store
import Hgxv.Proofs.C14Loop
/-! The per-size sampling loop of `random_hypergraph` / `scale_free_hypergraph`: contracts and the loop invariant (core Lean only). -/
namespace C14

/-- contract of `random.sample(pop, k)` and of `np.random.choice(pop, k, replace=False)`:
    `k` distinct members of `pop` (trusted base) -/
def IsSample (pop : List Nat) (k : Nat) (d : List Nat) : Prop := d.Nodup ∧ d.length = k ∧ ∀ x ∈ d, x ∈ pop

/-- one group of draws per requested size, each group satisfying `P size count group` -/
def GroupsOK (P : Nat → Nat → List (List Nat) → Prop) : List (Nat × Nat) → List (List (List Nat)) → Prop
  | [], _ => True
  | sc :: req, g :: gs => P sc.1 sc.2 g ∧ GroupsOK P req gs
  | _ :: _, [] => False

theorem groupsOK_iff {P : Nat → Nat → List (List Nat) → Prop} : ∀ (req : List (Nat × Nat)) (gs : List (List (List Nat))),
    GroupsOK P req gs ↔ req.length ≤ gs.length ∧ ∀ p ∈ req.zip gs, P p.1.1 p.1.2 p.2
  | [], _ => by simp [GroupsOK]
  | _ :: _, [] => by simp [GroupsOK]
  | sc :: req, g :: gs => by simp [GroupsOK, groupsOK_iff req gs, and_left_comm]

theorem groupsOK_imp {P Q : Nat → Nat → List (List Nat) → Prop} (hPQ : ∀ s c g, P s c g → Q s c g)
    (req : List (Nat × Nat)) (gs : List (List (List Nat))) (h : GroupsOK P req gs) : GroupsOK Q req gs := by
  rw [groupsOK_iff] at h ⊢
  exact ⟨h.1, fun p hp => hPQ _ _ _ (h.2 p hp)⟩

theorem groupsOK_and {P Q : Nat → Nat → List (List Nat) → Prop} (req : List (Nat × Nat)) (gs : List (List (List Nat)))
    (h1 : GroupsOK P req gs) (h2 : GroupsOK Q req gs) : GroupsOK (fun s c g => P s c g ∧ Q s c g) req gs := by
  rw [groupsOK_iff] at h1 h2 ⊢
  exact ⟨h1.1, fun p hp => ⟨h1.2 p hp, h2.2 p hp⟩⟩

theorem groupsOK_forall {P : Nat → Nat → List (List Nat) → Prop} (req : List (Nat × Nat)) (gs : List (List (List Nat)))
    (h : GroupsOK P req gs) : ∀ sc ∈ req, ∃ g, P sc.1 sc.2 g := by
  rw [groupsOK_iff] at h
  intro sc hsc
  obtain ⟨i, hi, rfl⟩ := List.mem_iff_getElem.mp hsc
  exact ⟨gs[i]'(by omega), h.2 (req[i], gs[i]'(by omega)) (List.mem_iff_getElem.mpr ⟨i, by simp; omega, by simp⟩)⟩

/-- what the loop needs from the hyperedges `E count group` of one size; `0 < c` with every hyperedge: a size that
    contributes a hyperedge was requested at least once (the "requested at least once" of `LoopOut.mem`) -/
structure EdgesOK (pop : List Nat) (s c : Nat) (es : List Edge) : Prop where
  nodup : es.Nodup
  each : ∀ e ∈ es, e.length = s ∧ e.Nodup ∧ (∀ x ∈ e, x ∈ pop) ∧ sortE e = e ∧ 0 < c

/-- the result `r` of the loop started on `h`: `B requested obtained` relates, per size, the requested count to the
    number of hyperedges of that size in `r` (`≤` and `≥ 1` for `random_hypergraph`, `=` for `scale_free_hypergraph`) -/
structure LoopOut (pop : List Nat) (B : Nat → Nat → Prop) (h : HG) (req : List (Nat × Nat)) (r : HG) : Prop where
  nodes : r.nodes = h.nodes
  weighted : r.weighted = h.weighted
  nodup : (keys r).Nodup
  mem : ∀ k ∈ keys r, k ∈ keys h ∨
    ((∃ sc ∈ req, k.length = sc.1 ∧ 0 < sc.2) ∧ k.Nodup ∧ (∀ x ∈ k, x ∈ pop) ∧ sortE k = k)
  old : ∀ k ∈ keys h, k ∈ keys r
  count : ∀ sc ∈ req, B sc.2 (countSize r sc.1)
  other : ∀ s, s ∉ req.map (·.1) → countSize r s = countSize h s

theorem countSize_zero_iff (h : HG) (s : Nat) : countSize h s = 0 ↔ ∀ k ∈ keys h, k.length ≠ s := by
  unfold countSize
  rw [List.length_eq_zero_iff, List.filter_eq_nil_iff]
  simp

/-- one pass of the loop: the hyperedges `es` of size `s` are added to a hypergraph that has none of that size -/
theorem addEdges_size {pop : List Nat} {s c : Nat} {es : List Edge} {h : HG} (hEs : EdgesOK pop s c es)
    (hnd : (keys h).Nodup) (hzero : countSize h s = 0) (hpop : ∀ x ∈ pop, x ∈ h.nodes) :
    keys (addEdges h es) = keys h ++ es ∧ (keys (addEdges h es)).Nodup ∧ (addEdges h es).nodes = h.nodes ∧
    (addEdges h es).weighted = h.weighted ∧
    ∀ s', countSize (addEdges h es) s' = countSize h s' + if s' = s then es.length else 0 := by
  obtain ⟨A, hk⟩ := addEdges_out h es fun e he => ⟨fun x hx => hpop x ((hEs.each e he).2.2.1 x hx), (hEs.each e he).2.2.2.1⟩
  have hfresh : ∀ e ∈ es, e ∉ keys h := fun e he hk =>
    (countSize_zero_iff h s).mp hzero e hk (hEs.each e he).1
  have hkeys : keys (addEdges h es) = keys h ++ es := by rw [hk, insAll_fresh hEs.nodup hfresh]
  refine ⟨hkeys, by rw [hk]; exact nodup_insAll hnd, A.nodes, A.weighted, fun s' => ?_⟩
  · simp only [countSize, hkeys, List.filter_append, List.length_append]
    congr 1
    split
    · rename_i h'; subst h'
      rw [List.filter_eq_self.mpr fun e he => by simp [(hEs.each e he).1]]
    · rename_i h'
      rw [List.filter_eq_nil_iff.mpr fun e he => by simp [(hEs.each e he).1, Ne.symm h']]; rfl

theorem genLoop_spec (E : Nat → List (List Nat) → List Edge) (pop : List Nat) (B : Nat → Nat → Prop)
    (Q : Nat → Nat → List (List Nat) → Prop)
    (hE : ∀ s c g, Q s c g → EdgesOK pop s c (E c g))
    (hB : ∀ s c g, Q s c g → B c (E c g).length) :
    ∀ (req : List (Nat × Nat)) (gs : List (List (List Nat))) (h : HG),
      GroupsOK Q req gs → (req.map (·.1)).Nodup → (keys h).Nodup →
      (∀ sc ∈ req, countSize h sc.1 = 0) → (∀ x ∈ pop, x ∈ h.nodes) →
      LoopOut pop B h req (genLoop E h req gs) := by
  intro req
  induction req with
  | nil =>
    intro gs h _ _ hnd _ _
    exact ⟨rfl, rfl, hnd, fun k hk => Or.inl hk, fun k hk => hk, by simp, fun s _ => rfl⟩
  | cons sc req ih =>
    intro gs h hok hsz hnd hzero hpop
    obtain ⟨s, c⟩ := sc
    cases gs with
    | nil => exact absurd hok (by simp [GroupsOK])
    | cons g gs =>
      obtain ⟨hq, hok'⟩ := hok
      have hEs := hE s c g hq
      simp only [List.map_cons, List.nodup_cons] at hsz
      obtain ⟨hkeys, hnd1, hnodes, hw, hcount⟩ := addEdges_size hEs hnd (hzero (s, c) (by simp)) hpop
      have hne : ∀ sc' ∈ req, sc'.1 ≠ s := fun sc' hsc' heq => hsz.1 (heq ▸ List.mem_map_of_mem (f := (·.1)) hsc')
      have hI := ih gs (addEdges h (E c g)) hok' hsz.2 hnd1
        (fun sc' hsc' => by rw [hcount, hzero sc' (by simp [hsc']), if_neg (hne sc' hsc')])
        (by rw [hnodes]; exact hpop)
      show LoopOut pop B h _ (genLoop E (addEdges h (E c g)) req gs)
      refine ⟨hI.nodes.trans hnodes, hI.weighted.trans hw, hI.nodup, fun k hk => ?_,
        fun k hk => hI.old k (by rw [hkeys]; exact List.mem_append_left _ hk), fun sc' hsc' => ?_, fun s' hs' => ?_⟩
      · rcases hI.mem k hk with h1 | ⟨⟨sc', hsc', hl⟩, hrest⟩
        · rcases List.mem_append.mp (hkeys ▸ h1) with h1 | h1
          · exact Or.inl h1
          · have he := hEs.each k h1
            exact Or.inr ⟨⟨(s, c), by simp, he.1, he.2.2.2.2⟩, he.2.1, he.2.2.1, he.2.2.2.1⟩
        · exact Or.inr ⟨⟨sc', by simp [hsc'], hl⟩, hrest⟩
      · rcases List.mem_cons.mp hsc' with rfl | hsc'
        · show B c (countSize _ s)
          rw [hI.other s hsz.1, hcount, hzero (s, c) (by simp), if_pos rfl, Nat.zero_add]
          exact hB s c g hq
        · exact hI.count sc' hsc'
      · simp only [List.map_cons, List.mem_cons, not_or] at hs'
        rw [hI.other s' hs'.2, hcount, if_neg hs'.1, Nat.add_zero]

theorem sizeEdges_ok (pop : List Nat) (s c : Nat) (g : List (List Nat))
    (hs : ∀ d ∈ g.take c, IsSample pop s d) : EdgesOK pop s c (sizeEdges c g) := by
  refine ⟨nodup_dedup _, ?_⟩
  intro e he
  simp only [sizeEdges, mem_dedup, List.mem_map] at he
  obtain ⟨d, hd, rfl⟩ := he
  obtain ⟨h1, h2, h3⟩ := hs d hd
  refine ⟨by simp [h2], by simpa using h1, fun x hx => h3 x (by simpa using hx), by simp, ?_⟩
  cases c with
  | zero => simp at hd
  | succ c => omega

theorem sizeEdges_bound (c : Nat) (g : List (List Nat)) (hc : c ≤ g.length) :
    (sizeEdges c g).length ≤ c ∧ (1 ≤ c → 1 ≤ (sizeEdges c g).length) := by
  constructor
  · have := length_dedup_le ((g.take c).map sortE)
    simp only [List.length_map, List.length_take] at this
    unfold sizeEdges; omega
  · intro h1
    apply length_dedup_pos
    intro hnil
    have : ((g.take c).map sortE).length = 0 := by rw [hnil]; rfl
    simp only [List.length_map, List.length_take] at this
    omega

theorem collect_ok (pop : List Nat) (s k : Nat) (ds : List (List Nat)) (hds : ∀ d ∈ ds, IsSample pop s d) :
    EdgesOK pop s k (collect k [] ds) := by
  refine ⟨nodup_collect List.nodup_nil, fun e he => ?_⟩
  rcases mem_collect he with he | ⟨hk, d, hd, rfl⟩
  · cases he
  · obtain ⟨h1, h2, h3⟩ := hds d hd
    exact ⟨by simp [h2], by simpa using h1, fun x hx => h3 x (by simpa using hx), by simp, hk⟩

theorem collect_length_le (k : Nat) : ∀ (ds : List (List Nat)) (acc : List Edge),
    acc.length ≤ k → (collect k acc ds).length ≤ k :=
  fun ds acc => (loopRun k ds acc).bound

/-- the recorded draws of `random_hypergraph`: per size at least `count` samples of that size from `range n` -/
def RandomDrawsOK (n : Nat) : List (Nat × Nat) → List (List (List Nat)) → Prop :=
  GroupsOK (fun s c g => c ≤ g.length ∧ ∀ d ∈ g.take c, IsSample (List.range n) s d)

/-- the recorded draws of a returning `scale_free_hypergraph` run: per size, samples of that size from `range n`,
    and the loop `while len(edges) < count` stops exactly at the end of the group -/
def SfDrawsOK (n : Nat) : List (Nat × Nat) → List (List (List Nat)) → Prop :=
  GroupsOK (fun s c g => (∀ d ∈ g, IsSample (List.range n) s d) ∧ consumedExactly c [] g = true)

theorem admissible_of_groups (n : Nat) (Q : Nat → Nat → List (List Nat) → Prop)
    (hQ : ∀ s c g, Q s c g → c ≠ 0 → s ≤ n) (req : List (Nat × Nat)) (gs : List (List (List Nat)))
    (hok : GroupsOK Q req gs) : admissible n req = true := by
  simp only [admissible, List.all_eq_true, Bool.or_eq_true, beq_iff_eq, decide_eq_true_eq]
  intro sc hsc
  obtain ⟨g, hg⟩ := groupsOK_forall req gs hok sc hsc
  by_cases hc : sc.2 = 0
  · exact Or.inl hc
  · exact Or.inr (hQ _ _ _ hg hc)

theorem base_nodes (n : Nat) : (addNodes {} (List.range n)).nodes = List.range n := by
  simp only [addNodes]
  rw [insAll_fresh List.nodup_range (by simp)]; simp

theorem consumedExactly_pos {c : Nat} {g : List (List Nat)} (h : consumedExactly c [] g = true) (hc : c ≠ 0) :
    g ≠ [] := by
  intro hg; subst hg; simp [consumedExactly] at h; omega

theorem IsSample.size_le {pop : List Nat} {s : Nat} {d : List Nat} (h : IsSample pop s d) : s ≤ pop.length :=
  h.2.1 ▸ h.1.length_le_of_subset h.2.2

theorem consumedExactly_admissible {pop : List Nat} {s k : Nat} {draws : List (List Nat)}
    (hd : ∀ d ∈ draws, IsSample pop s d) (hret : consumedExactly k [] draws = true) : k = 0 ∨ s ≤ pop.length := by
  by_cases hk : k = 0
  · exact Or.inl hk
  · obtain ⟨d, hd'⟩ := List.exists_mem_of_ne_nil draws (consumedExactly_pos hret hk)
    exact Or.inr (hd d hd').size_le

/-- the loop started on the bare node set `0..n-1`, as `random_hypergraph` and `scale_free_hypergraph` start it -/
theorem genLoop_range (E : Nat → List (List Nat) → List Edge) (n : Nat) (B : Nat → Nat → Prop)
    (Q : Nat → Nat → List (List Nat) → Prop)
    (hE : ∀ s c g, Q s c g → EdgesOK (List.range n) s c (E c g)) (hB : ∀ s c g, Q s c g → B c (E c g).length)
    (req : List (Nat × Nat)) (gs : List (List (List Nat))) (hok : GroupsOK Q req gs) (hk : (req.map (·.1)).Nodup)
    {r : HG} (hr : r = genLoop E (addNodes {} (List.range n)) req gs) :
    r.nodes = List.range n ∧ r.weighted = false ∧ (keys r).Nodup ∧
    (∀ e ∈ keys r, (∃ sc ∈ req, e.length = sc.1 ∧ 0 < sc.2) ∧ e.Nodup ∧ (∀ x ∈ e, x < n) ∧ sortE e = e) ∧
    (∀ sc ∈ req, B sc.2 (countSize r sc.1)) ∧ (∀ s, s ∉ req.map (·.1) → countSize r s = 0) := by
  subst hr
  have hL := genLoop_spec E (List.range n) B Q hE hB req gs (addNodes {} (List.range n)) hok hk List.nodup_nil
    (fun _ _ => rfl) (fun x hx => by rw [base_nodes]; exact hx)
  refine ⟨hL.nodes.trans (base_nodes n), hL.weighted, hL.nodup, fun e he => ?_, hL.count, fun s hs => hL.other s hs⟩
  rcases hL.mem e he with h0 | ⟨h1, h2, h3, h4⟩
  · cases h0
  · exact ⟨h1, h2, fun x hx => List.mem_range.mp (h3 x hx), h4⟩

/-- the program over named sources computes the pure function of the draws its generator hands out -/
theorem randomLoopS_eq {σ : Type} (g : RNG σ) (pop : List Nat) : ∀ (req : List (Nat × Nat)) (h : HG) (s : σ),
    (randomLoopS g pop h req s).1 = randomLoop h req (groupsOf g pop req s) := by
  intro req
  induction req with
  | nil => intro h s; rfl
  | cons sc req ih => intro h s; obtain ⟨sz, c⟩ := sc; simp only [randomLoopS, groupsOf, randomLoop, genLoop]; exact ih _ _

theorem drawN_length {σ : Type} (g : RNG σ) (pop : List Nat) (size : Nat) : ∀ (c : Nat) (s : σ),
    (drawN g pop size c s).1.length = c
  | 0, _ => rfl
  | c + 1, s => by simp [drawN, drawN_length g pop size c]

end C14
