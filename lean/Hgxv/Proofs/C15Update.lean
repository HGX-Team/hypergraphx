import Hgxv.Proofs.C15Sum
/-! # C15 — the updates `_w_update`, `_u_update`: linear forms, signs, symmetry -/
open Finset
namespace C15

/-- `ĉ_{S,ab} = ½ Σ_{i≠j∈S} u_ia u_jb`: coefficient of `w_ab` in the Poisson parameter of the node set `S`.  In the
comments below `ĉ_{e,ab}` is that of the nodes of hyperedge `e`, `λ_e` its Poisson parameter, `b_ab = ĉ_{V,ab}` for the set `V` of
all nodes (the denominator of `_w_update`), `r` the prior rates. -/
def chat (u : Mat) (S : Finset ℕ) (a b : ℕ) : ℚ := half * ∑ p ∈ S.offDiag, u p.1 a * u p.2 b

theorem chat_nonneg (u : Mat) (hu : ∀ i a, 0 ≤ u i a) (S : Finset ℕ) (a b : ℕ) : 0 ≤ chat u S a b :=
  mul_nonneg half_pos.le (Finset.sum_nonneg fun _ _ => mul_nonneg (hu _ _) (hu _ _))

theorem sum_rot {ι : Type} (P : Finset ι) (A B : Finset ℕ) (F : ι → ℕ → ℕ → ℚ) :
    ∑ p ∈ P, ∑ b ∈ B, ∑ a ∈ A, F p b a = ∑ a ∈ A, ∑ b ∈ B, ∑ p ∈ P, F p b a := by
  rw [Finset.sum_comm]
  have h : ∀ b ∈ B, ∑ p ∈ P, ∑ a ∈ A, F p b a = ∑ a ∈ A, ∑ p ∈ P, F p b a := fun b _ => Finset.sum_comm
  rw [Finset.sum_congr rfl h, Finset.sum_comm]

theorem lin_form (K : ℕ) (u w : Mat) (S : Finset ℕ) :
    half * ∑ p ∈ S.offDiag, aij K u w p.1 p.2
      = ∑ a ∈ range K, ∑ b ∈ range K, chat u S a b * w a b := by
  unfold chat
  simp only [aij, bf_eq, Finset.mul_sum, Finset.sum_mul]
  rw [sum_rot]
  apply Finset.sum_congr rfl; intro a _
  apply Finset.sum_congr rfl; intro b _
  apply Finset.sum_congr rfl; intro p _
  ring

theorem poisson_lin (N K : ℕ) (u w : Mat) (e : List ℕ) :
    poisson N K u w e = ∑ a ∈ range K, ∑ b ∈ range K, chat u (nodesOf N e) a b * w a b := by
  rw [poisson_eq_offDiag, lin_form]

theorem bfSum_lin (N K : ℕ) (u w : Mat) :
    bfSum N K u w = ∑ a ∈ range K, ∑ b ∈ range K, chat u (range N) a b * w a b := by
  rw [bfSum_eq_offDiag, lin_form]

theorem prod_sub_diag (S : Finset ℕ) (x y : ℕ → ℚ) :
    (∑ i ∈ S, x i) * (∑ j ∈ S, y j) - ∑ i ∈ S, x i * y i = ∑ p ∈ S.offDiag, x p.1 * y p.2 := by
  rw [Finset.sum_mul_sum, sum_sum_sub_diag S (fun i j => x i * y j)]

theorem safeDiv_of_pos (x y : ℚ) (hy : 0 < y) : safeDiv x y = x / y := by
  unfold safeDiv; rw [if_pos hy]

theorem safeDiv_of_not_pos (x y : ℚ) (hy : ¬ 0 < y) : safeDiv x y = 0 := by
  unfold safeDiv; rw [if_neg hy]

/-- for a non-negative denominator the guarded division is the quotient in `ℚ` (where `x / 0 = 0`) -/
theorem safeDiv_of_nonneg (x y : ℚ) (hy : 0 ≤ y) : safeDiv x y = x / y := by
  rcases hy.lt_or_eq with h | h
  · exact safeDiv_of_pos x y h
  · rw [safeDiv_of_not_pos x y (by rw [← h]; exact lt_irrefl 0), ← h, div_zero]

theorem safeDiv_nonneg (x y : ℚ) (hx : 0 ≤ x) : 0 ≤ safeDiv x y := by
  unfold safeDiv; split
  · rename_i h; exact div_nonneg hx h.le
  · exact le_refl 0

theorem safeDiv_zero_left (y : ℚ) : safeDiv 0 y = 0 := by
  unfold safeDiv; split <;> simp

theorem chat_mono (u : Mat) (hu : ∀ i a, 0 ≤ u i a) (S T : Finset ℕ) (h : S ⊆ T) (a b : ℕ) :
    chat u S a b ≤ chat u T a b := by
  unfold chat
  exact mul_le_mul_of_nonneg_left
    (Finset.sum_le_sum_of_subset_of_nonneg (Finset.offDiag_mono h) fun _ _ _ => mul_nonneg (hu _ _) (hu _ _))
    half_pos.le

theorem nodesOf_subset (N : ℕ) (e : List ℕ) : nodesOf N e ⊆ range N := Finset.filter_subset _ _

theorem wDen_eq (N : ℕ) (u : Mat) (a b : ℕ) : wDen N u a b = chat u (range N) a b := by
  unfold wDen chat colSum
  simp only [sumTo_eq]
  rw [prod_sub_diag]

theorem wNum_eq (d : Data) (u w : Mat) (a b : ℕ) :
    wNum d u w a b
      = w a b * ∑ e ∈ range d.E, mult d u w e * chat u (nodesOf d.N (d.edge e)) a b := by
  unfold wNum
  simp only [sumTo_eq]
  have h2 : ∑ i ∈ range d.N, u i a * (u i b * ∑ e ∈ range d.E, weighting d u w i e)
      = ∑ e ∈ range d.E, mult d u w e * ∑ i ∈ nodesOf d.N (d.edge e), u i a * u i b := by
    simp only [Finset.mul_sum]
    rw [Finset.sum_comm]
    apply Finset.sum_congr rfl; intro e _
    rw [← inc_sum, sumTo_eq]
    apply Finset.sum_congr rfl; intro i _
    unfold weighting; ring
  have h1 : ∑ e ∈ range d.E, edgeSum d.N u (d.edge e) a * (edgeSum d.N u (d.edge e) b * mult d u w e)
      = ∑ e ∈ range d.E, mult d u w e * ((∑ i ∈ nodesOf d.N (d.edge e), u i a) * ∑ j ∈ nodesOf d.N (d.edge e), u j b) := by
    apply Finset.sum_congr rfl; intro e _
    rw [edgeSum_eq]; ring
  rw [h1, h2, ← Finset.sum_sub_distrib]
  unfold chat
  rw [Finset.mul_sum, Finset.mul_sum]
  apply Finset.sum_congr rfl; intro e _
  rw [← prod_sub_diag (nodesOf d.N (d.edge e)) (fun i => u i a) (fun j => u j b)]; ring

theorem wUpdate_eq_safeDiv (d : Data) (u w r : Mat) (a b : ℕ) :
    wUpdate d u w r a b
      = safeDiv (w a b * (∑ e ∈ range d.E, d.A e * chat u (nodesOf d.N (d.edge e)) a b / poisson d.N d.K u w (d.edge e)))
          (chat u (range d.N) a b + r a b) := by
  unfold wUpdate
  rw [wNum_eq, wDen_eq]
  have h : ∑ e ∈ range d.E, mult d u w e * chat u (nodesOf d.N (d.edge e)) a b
      = ∑ e ∈ range d.E, d.A e * chat u (nodesOf d.N (d.edge e)) a b / poisson d.N d.K u w (d.edge e) := by
    apply Finset.sum_congr rfl; intro e _
    unfold mult; ring
  rw [h]

/-- `_w_update` as the multiplicative MM step `w_ab · (Σ_e A_e ĉ_{e,ab} / λ_e) / (b_ab + r_ab)`
(`u, r ≥ 0`: the denominator is `≥ 0`; where it vanishes both sides are 0) -/
theorem wUpdate_eq (d : Data) (u w r : Mat) (hu : ∀ i a, 0 ≤ u i a) (hr : ∀ a b, 0 ≤ r a b) (a b : ℕ) :
    wUpdate d u w r a b
      = w a b * (∑ e ∈ range d.E, d.A e * chat u (nodesOf d.N (d.edge e)) a b / poisson d.N d.K u w (d.edge e))
          / (chat u (range d.N) a b + r a b) := by
  rw [wUpdate_eq_safeDiv, safeDiv_of_nonneg _ _ (add_nonneg (chat_nonneg u hu _ _ _) (hr a b))]

theorem poisson_nonneg (N K : ℕ) (u w : Mat) (hu : ∀ i a, 0 ≤ u i a) (hw : ∀ a b, 0 ≤ w a b) (e : List ℕ) :
    0 ≤ poisson N K u w e := by
  rw [poisson_lin]
  exact Finset.sum_nonneg fun a _ => Finset.sum_nonneg fun b _ => mul_nonneg (chat_nonneg u hu _ _ _) (hw _ _)

theorem multOk_iff (d : Data) (u w : Mat) : multOk d u w = true ↔ ∀ e < d.E, poisson d.N d.K u w (d.edge e) ≠ 0 := by
  unfold multOk
  simp only [allTo_iff, decide_eq_true_eq]

theorem mult_nonneg (d : Data) (u w : Mat) (hu : ∀ i a, 0 ≤ u i a) (hw : ∀ a b, 0 ≤ w a b)
    (hA : ∀ e < d.E, 0 ≤ d.A e) (e : ℕ) (he : e < d.E) : 0 ≤ mult d u w e :=
  div_nonneg (hA e he) (poisson_nonneg _ _ u w hu hw _)

theorem wUpdate_nonneg (d : Data) (u w r : Mat) (hu : ∀ i a, 0 ≤ u i a) (hw : ∀ a b, 0 ≤ w a b)
    (hA : ∀ e < d.E, 0 ≤ d.A e) (a b : ℕ) : 0 ≤ wUpdate d u w r a b := by
  unfold wUpdate
  rw [wNum_eq]
  apply safeDiv_nonneg
  exact mul_nonneg (hw a b) (Finset.sum_nonneg fun e he =>
    mul_nonneg (mult_nonneg d u w hu hw hA e (mem_range.mp he)) (chat_nonneg u hu _ _ _))

theorem wNum_symm (d : Data) (u w : Mat) (a b : ℕ) (h : w a b = w b a) :
    wNum d u w a b = wNum d u w b a := by
  unfold wNum
  simp only [sumTo_eq]
  rw [h]
  congr 2
  · apply Finset.sum_congr rfl; intro e _; ring
  · apply Finset.sum_congr rfl; intro i _; ring

theorem wDen_symm (N : ℕ) (u : Mat) (a b : ℕ) : wDen N u a b = wDen N u b a := by
  unfold wDen
  simp only [sumTo_eq]
  congr 1
  rw [mul_comm]
  congr 1
  apply Finset.sum_congr rfl; intro i _; ring

theorem wUpdate_symm (d : Data) (u w r : Mat) (a b : ℕ) (hw : w a b = w b a) (hr : r a b = r b a) :
    wUpdate d u w r a b = wUpdate d u w r b a := by
  unfold wUpdate
  rw [wNum_symm d u w a b hw, wDen_symm, hr]

theorem wUpdate_zero (d : Data) (u w r : Mat) (a b : ℕ) (hw : w a b = 0) : wUpdate d u w r a b = 0 := by
  unfold wUpdate wNum
  rw [hw]; simp [safeDiv_zero_left]

/-- where `b_ab + r_ab` is not positive (`u, r ≥ 0`) both terms vanish, and so does the coefficient `ĉ_{e,ab}` of every
hyperedge: no two different nodes carry the communities `a` and `b` -/
theorem coeff_zero_of_den (d : Data) (u r : Mat) (hu : ∀ i a, 0 ≤ u i a) (hr : ∀ a b, 0 ≤ r a b) (a b : ℕ)
    (h : ¬ 0 < chat u (range d.N) a b + r a b) :
    (∀ e, chat u (nodesOf d.N (d.edge e)) a b = 0) ∧ chat u (range d.N) a b = 0 ∧ r a b = 0 := by
  have hc := chat_nonneg u hu (range d.N) a b
  obtain ⟨h0, hr0⟩ := (add_eq_zero_iff_of_nonneg hc (hr a b)).mp (le_antisymm (not_lt.mp h) (add_nonneg hc (hr a b)))
  exact ⟨fun e => le_antisymm (h0 ▸ chat_mono u hu _ _ (nodesOf_subset _ _) a b) (chat_nonneg u hu _ a b), h0, hr0⟩

/-- **the guarded branch of `_w_update` (D46)**: where the denominator is not positive the numerator vanishes as well -
the entry was `0 / 0` and it does not occur in any Poisson parameter (`poisson_lin`: its coefficients `ĉ` are 0); that the
update stores 0 there is `safeDiv_of_not_pos` (put together in `C15_update_vanishing_den`) -/
theorem wNum_zero_of_den (d : Data) (u w r : Mat) (hu : ∀ i a, 0 ≤ u i a) (hr : ∀ a b, 0 ≤ r a b) (a b : ℕ)
    (h : ¬ 0 < wDen d.N u a b + r a b) :
    wNum d u w a b = 0 ∧ (∀ e, chat u (nodesOf d.N (d.edge e)) a b = 0) ∧ r a b = 0 := by
  rw [wDen_eq] at h
  obtain ⟨hc, _, hr0⟩ := coeff_zero_of_den d u r hu hr a b h
  refine ⟨?_, hc, hr0⟩
  rw [wNum_eq]
  simp only [hc, mul_zero, Finset.sum_const_zero]

theorem edgeSum_ge (N : ℕ) (u : Mat) (hu : ∀ i a, 0 ≤ u i a) (e : List ℕ) (i : ℕ) (hi : i < N) (hie : i ∈ e)
    (c : ℕ) : u i c ≤ edgeSum N u e c := by
  rw [edgeSum_eq]
  exact Finset.single_le_sum (f := fun j => u j c) (fun j _ => hu j c)
    (by simp [nodesOf, hi, hie] : i ∈ nodesOf N e)

theorem colSum_ge (N : ℕ) (u : Mat) (hu : ∀ i a, 0 ≤ u i a) (i : ℕ) (hi : i < N) (c : ℕ) :
    u i c ≤ colSum N u c := by
  rw [colSum_eq]
  exact Finset.single_le_sum (f := fun j => u j c) (fun j _ => hu j c) (mem_range.mpr hi)

theorem edgeSum_le_colSum (N : ℕ) (u : Mat) (hu : ∀ i a, 0 ≤ u i a) (e : List ℕ) (c : ℕ) :
    edgeSum N u e c ≤ colSum N u c := by
  rw [edgeSum_eq, colSum_eq]
  exact Finset.sum_le_sum_of_subset_of_nonneg (nodesOf_subset N e) fun j _ _ => hu j c

/-- the numerator of `_u_update` with the two addends under one sum:
`u_ia Σ_c (Σ_e multiplier_e · [i ∈ e] (s_ec − u_ic)) w_ca` -/
theorem uNum_eq (d : Data) (u w : Mat) (i a : ℕ) :
    uNum d u w i a = u i a * ∑ c ∈ range d.K,
      (∑ e ∈ range d.E, mult d u w e * (inc (d.edge e) i * (edgeSum d.N u (d.edge e) c - u i c))) * w c a := by
  unfold uNum
  simp only [sumTo_eq]
  congr 1
  apply Finset.sum_congr rfl; intro c _
  rw [Finset.sum_mul, ← Finset.sum_sub_distrib]
  congr 1
  apply Finset.sum_congr rfl; intro e _
  unfold weighting; ring

theorem uDen_eq (d : Data) (u w : Mat) (hsym : ∀ a < d.K, ∀ b < d.K, w a b = w b a) (i a : ℕ) (ha : a < d.K) :
    uDen d u w i a = ∑ c ∈ range d.K, w c a * (colSum d.N u c - u i c) := by
  unfold uDen
  simp only [sumTo_eq]
  rw [← Finset.sum_sub_distrib]
  apply Finset.sum_congr rfl; intro c hc
  rw [hsym a ha c (mem_range.mp hc), mul_comm (u i c), ← mul_sub]

/-- for a node `i` of the hyperedge `0 ≤ s_ec − u_ic ≤ Σ_j u_jc − u_ic`: it is one of the hyperedge's nodes, and these
are among all nodes -/
theorem inc_gap (N : ℕ) (u : Mat) (hu : ∀ i a, 0 ≤ u i a) (e : List ℕ) (i : ℕ) (hi : i < N) (c : ℕ) :
    0 ≤ inc e i * (edgeSum N u e c - u i c) ∧ inc e i * (edgeSum N u e c - u i c) ≤ colSum N u c - u i c := by
  unfold inc
  split
  · rename_i hie
    rw [one_mul]
    exact ⟨sub_nonneg.mpr (edgeSum_ge N u hu e i hi hie c), sub_le_sub_right (edgeSum_le_colSum N u hu e c) _⟩
  · rw [zero_mul]; exact ⟨le_refl 0, sub_nonneg.mpr (colSum_ge N u hu i hi c)⟩

theorem uNum_nonneg (d : Data) (u w : Mat) (hu : ∀ i a, 0 ≤ u i a) (hw : ∀ a b, 0 ≤ w a b)
    (hA : ∀ e < d.E, 0 ≤ d.A e) (i : ℕ) (hi : i < d.N) (a : ℕ) : 0 ≤ uNum d u w i a := by
  rw [uNum_eq]
  exact mul_nonneg (hu i a) (Finset.sum_nonneg fun c _ => mul_nonneg
    (Finset.sum_nonneg fun e he => mul_nonneg (mult_nonneg d u w hu hw hA e (mem_range.mp he))
      (inc_gap d.N u hu (d.edge e) i hi c).1) (hw c a))

theorem uDen_nonneg (d : Data) (u w : Mat) (hu : ∀ i a, 0 ≤ u i a) (hw : ∀ a b, 0 ≤ w a b)
    (hsym : ∀ a < d.K, ∀ b < d.K, w a b = w b a) (i : ℕ) (hi : i < d.N) (a : ℕ) (ha : a < d.K) :
    0 ≤ uDen d u w i a := by
  rw [uDen_eq d u w hsym i a ha]
  exact Finset.sum_nonneg fun c _ => mul_nonneg (hw c a) (sub_nonneg.mpr (colSum_ge d.N u hu i hi c))

theorem uUpdate_nonneg (d : Data) (u w r : Mat) (hu : ∀ i a, 0 ≤ u i a) (hw : ∀ a b, 0 ≤ w a b)
    (hA : ∀ e < d.E, 0 ≤ d.A e) (i : ℕ) (hi : i < d.N) (a : ℕ) : 0 ≤ uUpdate d u w r i a := by
  unfold uUpdate
  exact safeDiv_nonneg _ _ (uNum_nonneg d u w hu hw hA i hi a)

/-- **the guarded branch of `_u_update` (D46)**: where the denominator is not positive (`u, w, r ≥ 0`, `w` symmetric: it
is 0 - community `a` has no affinity with the memberships of the nodes other than `i`) the numerator vanishes as
well: the entry was `0 / 0` (that the update stores 0 there is `safeDiv_of_not_pos`, see `C15_update_vanishing_den`) -/
theorem uNum_zero_of_den (d : Data) (u w r : Mat) (hu : ∀ i a, 0 ≤ u i a) (hw : ∀ a b, 0 ≤ w a b)
    (hsym : ∀ a < d.K, ∀ b < d.K, w a b = w b a) (hr : ∀ i a, 0 ≤ r i a)
    (i : ℕ) (hi : i < d.N) (a : ℕ) (ha : a < d.K) (h : ¬ 0 < uDen d u w i a + r i a) : uNum d u w i a = 0 := by
  have hden : uDen d u w i a = 0 := by
    have := uDen_nonneg d u w hu hw hsym i hi a ha; have := hr i a; linarith [not_lt.mp h]
  -- every summand `w_ca (Σ_j u_jc − u_ic)` of the denominator vanishes
  rw [uDen_eq d u w hsym i a ha] at hden
  have hterm := (Finset.sum_eq_zero_iff_of_nonneg fun c _ =>
    mul_nonneg (hw c a) (sub_nonneg.mpr (colSum_ge d.N u hu i hi c))).mp hden
  rw [uNum_eq]
  apply mul_eq_zero_of_right
  apply Finset.sum_eq_zero; intro c hc
  rcases mul_eq_zero.mp (hterm c hc) with h0 | h0
  · rw [h0, mul_zero]
  · -- then every summand of the numerator is squeezed between 0 and 0
    apply mul_eq_zero_of_left
    apply Finset.sum_eq_zero; intro e _
    obtain ⟨h1, h2⟩ := inc_gap d.N u hu (d.edge e) i hi c
    rw [h0] at h2
    rw [le_antisymm h2 h1, mul_zero]

end C15
