import Hgxv.Proofs.C03Base
/-! Pure derivations of C03, on every store: windows, times of a hyperedge, min/max time, consecutive windows partition
the records (core Lean only). -/
namespace C03
open AL

theorem inWin_iff (a b : Int) (k : Key) : inWin a b k = true ↔ a ≤ (k.1 : Int) ∧ (k.1 : Int) < b := by
  simp [inWin]

theorem window_perm (s : Store) (a b : Int) : (window s a b).Perm ((edgeKeys s).filter (inWin a b)) :=
  (sortKeys_perm _).filter _

theorem mem_window (s : Store) (a b : Int) (k : Key) :
    k ∈ window s a b ↔ k ∈ edgeKeys s ∧ a ≤ (k.1 : Int) ∧ (k.1 : Int) < b := by
  rw [(window_perm s a b).mem_iff, List.mem_filter, inWin_iff]

theorem window_nodup (s : Store) (a b : Int) (h : (edgeKeys s).Nodup) : (window s a b).Nodup :=
  (window_perm s a b).nodup_iff.mpr (h.filter _)

theorem mem_applyFilt (f : Filt) (ks : List Key) (k : Key) :
    k ∈ applyFilt f ks ↔ k ∈ ks ∧ (∀ o, effOrder f.order f.size = some o → passes o f.upTo k = true) := by
  unfold applyFilt
  cases h : effOrder f.order f.size with
  | none => simp
  | some o => simp [List.mem_filter]

theorem passes_iff (o : Int) (u : Bool) (k : Key) :
    passes o u k = true ↔ (if u then ((k.2.length : Int) - 1 ≤ o) else ((k.2.length : Int) - 1 = o)) := by
  unfold passes; cases u <;> simp

/-- the fold of `min_time` / `max_time` from a first time on: `c x y` says that `y` takes the place of `x`, and `op` is the
`min` / `max` this computes -/
theorem foldl_timeStep (c : Nat → Nat → Prop) [DecidableRel c] (op : Nat → Nat → Nat)
    (hop : ∀ x y, op x y = if c x y then y else x) (l : List Key) (x : Nat) :
    l.foldl (fun m k => match m with | none => some k.1 | some x => if c x k.1 then some k.1 else some x) (some x) =
      some ((l.map (·.1)).foldl op x) := by
  induction l generalizing x with
  | nil => rfl
  | cons k t ih =>
    simp only [List.foldl_cons, List.map_cons, hop]
    split <;> exact ih _

theorem maxNat_eq (l : List Nat) : maxNat l = l.max? := by cases l <;> rfl

/-- `max_time()` is the maximum of the recorded times (`none` = `-inf`) -/
theorem maxTime_eq (s : Store) : maxTime s = ((edgeKeys s).map (·.1)).max? := by
  show (edgeKeys s).foldl _ none = _
  cases edgeKeys s with
  | nil => rfl
  | cons a t =>
    refine foldl_timeStep (· < ·) max (fun x y => ?_) t a.1
    split
    · next h => exact Nat.max_eq_right (Nat.le_of_lt h)
    · next h => exact Nat.max_eq_left (Nat.le_of_not_lt h)

/-- `min_time()` is the minimum of the recorded times (`none` = `inf`) -/
theorem minTime_eq (s : Store) : minTime s = ((edgeKeys s).map (·.1)).min? := by
  show (edgeKeys s).foldl _ none = _
  cases edgeKeys s with
  | nil => rfl
  | cons a t =>
    refine foldl_timeStep (· > ·) min (fun x y => ?_) t a.1
    split
    · next h => exact Nat.min_eq_right (Nat.le_of_lt h)
    · next h => exact Nat.min_eq_left (Nat.le_of_not_lt h)

theorem max?_perm {l1 l2 : List Nat} (h : l1.Perm l2) : l1.max? = l2.max? := by
  cases hm : l2.max? with
  | none => rw [List.max?_eq_none_iff] at hm ⊢; subst hm; exact h.eq_nil
  | some m =>
    rw [List.max?_eq_some_iff] at hm ⊢
    exact ⟨h.mem_iff.mpr hm.1, fun b hb => hm.2 b (h.mem_iff.mp hb)⟩

theorem minTime_spec (s : Store) :
    (minTime s = none ↔ edgeKeys s = []) ∧
    (∀ m, minTime s = some m → (∃ k ∈ edgeKeys s, k.1 = m) ∧ ∀ k ∈ edgeKeys s, m ≤ k.1) := by
  rw [minTime_eq]
  refine ⟨List.min?_eq_none_iff.trans List.map_eq_nil_iff, fun m hm => ?_⟩
  obtain ⟨h1, h2⟩ := List.min?_eq_some_iff.mp hm
  exact ⟨List.mem_map.mp h1, fun k hk => h2 _ (List.mem_map_of_mem hk)⟩

theorem maxTime_spec (s : Store) :
    (maxTime s = none ↔ edgeKeys s = []) ∧
    (∀ m, maxTime s = some m → (∃ k ∈ edgeKeys s, k.1 = m) ∧ ∀ k ∈ edgeKeys s, k.1 ≤ m) := by
  rw [maxTime_eq]
  refine ⟨List.max?_eq_none_iff.trans List.map_eq_nil_iff, fun m hm => ?_⟩
  obtain ⟨h1, h2⟩ := List.max?_eq_some_iff.mp hm
  exact ⟨List.mem_map.mp h1, fun k hk => h2 _ (List.mem_map_of_mem hk)⟩

theorem filter_split_length {α : Type} (l : List α) (p q r : α → Bool)
    (h : ∀ x, p x = (q x || r x)) (hd : ∀ x, ¬ (q x = true ∧ r x = true)) :
    (l.filter p).length = (l.filter q).length + (l.filter r).length := by
  induction l with
  | nil => rfl
  | cons x t ih =>
    simp only [List.filter_cons, h x]
    cases hq : q x <;> cases hr : r x
    · exact ih
    · simp only [Bool.false_or, if_true, Bool.false_eq_true, if_false, List.length_cons, ih]; omega
    · simp only [Bool.true_or, if_true, Bool.false_eq_true, if_false, List.length_cons, ih]; omega
    · exact absurd ⟨hq, hr⟩ (hd x)

theorem inWin_split (a b c : Int) (hab : a ≤ b) (hbc : b ≤ c) (k : Key) :
    inWin a c k = (inWin a b k || inWin b c k) := by
  rw [Bool.eq_iff_iff]
  simp only [inWin, Bool.and_eq_true, Bool.or_eq_true, decide_eq_true_eq]
  omega

theorem inWin_disjoint (a b c : Int) (k : Key) : ¬ (inWin a b k = true ∧ inWin b c k = true) := by
  simp only [inWin, Bool.and_eq_true, decide_eq_true_eq]
  omega

theorem window_length_split (s : Store) (a b c : Int) (hab : a ≤ b) (hbc : b ≤ c) :
    (window s a c).length = (window s a b).length + (window s b c).length :=
  filter_split_length _ _ _ _ (inWin_split a b c hab hbc) (inWin_disjoint a b c)

/-- the width-`w` windows `[j·w, (j+1)·w)` partition the time axis: `t` lies in window `j` iff `j = ⌊t / w⌋` -/
theorem window_index (w : Nat) (hw : 0 < w) (j t : Nat) : (j * w ≤ t ∧ t < (j + 1) * w) ↔ j = t / w := by
  constructor
  · rintro ⟨h1, h2⟩
    exact (Nat.div_eq_of_lt_le h1 h2).symm
  · intro h
    subst h
    refine ⟨Nat.div_mul_le_self t w, ?_⟩
    have := Nat.lt_div_mul_add (a := t) hw
    rw [Nat.add_mul, Nat.one_mul]; exact this

end C03
