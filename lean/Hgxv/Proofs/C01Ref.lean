import Hgxv.Proofs.C01Abs
/-! C01: `Sim` and the one-step commutation `abs (apply s op) = Spec.apply (abs s) op` (with equal outcomes, invariant kept)
for every operation (`sim_apply`): one walk through each public call, its branches closed by `Sim.rej` / `Sim.ok` with the
primitive's `_inv` and `abs_` lemma; for the table setters and `add_nodes`, `add_edges`, `remove_nodes` the call's `_inv` is the
projection below it (`add_node`, `add_edge`, `remove_edge(s)`, `remove_node` have theirs upstream, in `C01Inv.lean` / `C01Ops.lean`). -/
namespace C01
open AL

/-- one step of the concrete store is matched by the spec: same abstraction, same outcome, invariant kept -/
def Sim (s' : Store × Out) (a' : Spec × Out) : Prop := abs s'.1 = a'.1 ∧ s'.2 = a'.2 ∧ Inv s'.1

/-- state and outcome in one equation -/
theorem Sim.of_eq {r : Store × Out} {r' : Spec × Out} (h : (abs r.1, r.2) = r') (hi : Inv r.1) : Sim r r' :=
  h ▸ ⟨rfl, rfl, hi⟩

theorem Sim.rej {s : Store} (h : Inv s) : Sim (s, .rej) (abs s, .rej) := ⟨rfl, rfl, h⟩

theorem Sim.ok {s : Store} {a : Spec} (hi : Inv s) (ha : abs s = a) : Sim (s, .ok) (a, .ok) := ⟨ha, rfl, hi⟩

theorem abs_new (w : Bool) (hm : Meta) : abs (Store.new w hm) = Spec.new w hm := rfl

theorem seqOps_sim {α : Type} (f : Store → α → Store × Out) (g : Spec → α → Spec × Out) (Q : α → Prop)
    (hstep : ∀ s x, Inv s → Q x → Sim (f s x) (g (abs s) x)) :
    ∀ (xs : List α) (s : Store), Inv s → (∀ x ∈ xs, Q x) → Sim (seqOps f s xs) (seqOps g (abs s) xs) := by
  intro xs
  induction xs with
  | nil => intro s h _; exact ⟨rfl, rfl, h⟩
  | cons x xs ih =>
    intro s h hq
    obtain ⟨h1, h2, h3⟩ := hstep s x h (hq x List.mem_cons_self)
    simp only [seqOps]
    generalize f s x = r at h1 h2 h3
    generalize g (abs s) x = r' at h1 h2
    obtain ⟨s1, o1⟩ := r
    obtain ⟨a1, o2⟩ := r'
    simp only at h1 h2 h3
    subst h2; subst h1
    cases o1 with
    | ok => exact ih s1 h3 (fun y hy => hq y (List.mem_cons_of_mem _ hy))
    | rej => exact ⟨rfl, rfl, h3⟩

theorem sim_addEdge (s : Store) (raw : List Nat) (w : Option Int) (md : Option Meta) (h : Inv s) (hraw : raw.Nodup) :
    Sim (addEdge s raw w md) (Spec.addEdge (abs s) raw w md) := by
  unfold addEdge Spec.addEdge
  rw [show (abs s).weighted = s.weighted from rfl]
  split
  · exact .rej h
  · simp only [abs_get]
    cases hg : get? s.edgeList (canon raw) with
    | none => exact .ok (addEdgeNew_inv s raw _ _ hraw hg h) (abs_addEdgeNew s raw _ _ h hg)
    | some id => exact .ok (addEdgeOld_inv s _ id _ _ hg h) (abs_addEdgeOld s (canon raw) id _ _ h hg)

theorem sim_removeEdge (s : Store) (raw : List Nat) (h : Inv s) :
    Sim (removeEdge s raw) (Spec.removeEdge (abs s) raw) := by
  unfold removeEdge Spec.removeEdge
  rw [abs_isSome]
  cases hg : get? s.edgeList (canon raw) with
  | none => exact .rej h
  | some id => exact .ok (removeEdgeId_inv s _ id hg h) (abs_removeEdgeId s _ id h hg)

theorem sim_addNodes (s : Store) (ns : List Node) (mds : Option (List (Node × Meta))) (h : Inv s) :
    Sim (addNodes s ns mds) (Spec.addNodes (abs s) ns mds) := by
  unfold addNodes Spec.addNodes
  cases mds with
  | none =>
    obtain ⟨h2, h1⟩ := ListLib.foldl_sim (fun s n => addNode s n none) (fun a n => Spec.addNode a n none)
      (fun s n hs => ⟨addNode_inv s n none hs, abs_addNode s n none hs⟩) ns s h
    exact ⟨h1, rfl, h2⟩
  | some t =>
    simp only []
    split
    · obtain ⟨h2, h1⟩ := ListLib.foldl_sim (fun s n => addNode s n (get? t n)) (fun a n => Spec.addNode a n (get? t n))
        (fun s n hs => ⟨addNode_inv s n _ hs, abs_addNode s n _ hs⟩) ns s h
      exact ⟨h1, rfl, h2⟩
    · exact ⟨rfl, rfl, h⟩

theorem addNodes_inv (s : Store) (ns : List Node) (mds : Option (List (Node × Meta))) (h : Inv s) :
    Inv (addNodes s ns mds).1 := (sim_addNodes s ns mds h).2.2

theorem sim_addEdges (s : Store) (raws : List (List Nat)) (ws : Option (List Int)) (mds : Option (List Meta))
    (h : Inv s) (hraw : ∀ r ∈ raws, r.Nodup) :
    Sim (addEdges s raws ws mds) (Spec.addEdges (abs s) raws ws mds) := by
  unfold addEdges Spec.addEdges addEdgesLoop
  split
  · exact seqOps_sim (fun s (x : List Nat × Option Int × Option Meta) => addEdge s x.1 (if ws.isSome then x.2.1 else none) x.2.2)
      (fun a x => Spec.addEdge a x.1 (if ws.isSome then x.2.1 else none) x.2.2) (fun x => x.1.Nodup)
      (fun s x hs hx => sim_addEdge s x.1 _ _ hs hx) _ _ (weighted_inv s _ h)
      (fun x hx => hraw _ (mem_zipArgs _ _ _ x hx))
  · exact ⟨rfl, rfl, h⟩

theorem addEdges_inv (s : Store) (raws : List (List Nat)) (ws : Option (List Int)) (mds : Option (List Meta))
    (hraw : ∀ r ∈ raws, r.Nodup) (h : Inv s) : Inv (addEdges s raws ws mds).1 := (sim_addEdges s raws ws mds h hraw).2.2

theorem sim_removeEdges (s : Store) (raws : List (List Nat)) (h : Inv s) :
    Sim (removeEdges s raws) (Spec.removeEdges (abs s) raws) := by
  unfold removeEdges Spec.removeEdges
  rw [List.all_congr rfl (fun r => abs_isSome s (canon r))]
  split
  · exact seqOps_sim _ _ (fun _ => True) (fun s r hs _ => sim_removeEdge s r hs) raws s h (fun _ _ => trivial)
  · exact ⟨rfl, rfl, h⟩

theorem sim_shrinkInto (n : Node) (s : Store) (e : Edge) (h : Inv s) (he : e.Nodup) :
    Sim (shrinkInto n s e) (Spec.shrinkInto n (abs s) e) := by
  unfold shrinkInto Spec.shrinkInto
  rw [abs_weightOf, abs_emetaOf]
  exact sim_addEdge s _ _ _ h ((List.filter_sublist).nodup he)

theorem sim_removeNode (s : Store) (n : Node) (keep : Bool) (h : Inv s) :
    Sim (removeNode s n keep) (Spec.removeNode (abs s) n keep) := by
  refine .of_eq ?_ (removeNode_inv s n keep h)
  unfold removeNode Spec.removeNode
  rw [show (get? (abs s).nodes n).isSome = (get? s.adj n).isSome from h.node_agree n]
  cases hn : (get? s.adj n).isSome with
  | false => rfl
  | true =>
    simp only [Bool.not_true, Bool.false_eq_true, if_false]
    rw [incidentKeys_abs h]
    have hnd : ∀ x ∈ incidentKeys s n, x.Nodup := fun x hx => (h.incidentKeys_key hx).1
    have hphase1 : Sim (if keep then seqOps (shrinkInto n) s (incidentKeys s n) else (s, Out.ok))
        (if keep then seqOps (Spec.shrinkInto n) (abs s) (incidentKeys s n) else (abs s, Out.ok)) := by
      cases keep with
      | false => exact ⟨rfl, rfl, h⟩
      | true =>
        exact seqOps_sim (shrinkInto n) (Spec.shrinkInto n) (fun x => x.Nodup)
          (fun s x hs hx => sim_shrinkInto n s x hs hx) _ s h hnd
    generalize (if keep then seqOps (shrinkInto n) s (incidentKeys s n) else (s, Out.ok)) = r1 at hphase1
    obtain ⟨s1, o1⟩ := r1
    obtain ⟨e1, e2, e3⟩ := hphase1
    rw [← Prod.eta (if keep then _ else _), ← e1, ← e2]
    cases o1 with
    | rej => rfl
    | ok =>
      obtain ⟨g1, g2, _⟩ := sim_removeEdges s1 (incidentKeys s n) e3
      simp only []
      rw [← Prod.eta (Spec.removeEdges _ _), ← g1, ← g2]
      generalize removeEdges s1 (incidentKeys s n) = r2
      obtain ⟨s2, o2⟩ := r2
      cases o2 <;> rfl

theorem sim_removeNodes (s : Store) (ns : List Node) (keep : Bool) (h : Inv s) :
    Sim (removeNodes s ns keep) (Spec.removeNodes (abs s) ns keep) := by
  unfold removeNodes Spec.removeNodes
  rw [List.all_congr rfl fun n => show (get? (abs s).nodes n).isSome = (get? s.adj n).isSome from h.node_agree n]
  split
  · exact seqOps_sim _ _ (fun _ => True) (fun s n hs _ => sim_removeNode s n keep hs) ns s h (fun _ _ => trivial)
  · exact ⟨rfl, rfl, h⟩

theorem removeNodes_inv (s : Store) (ns : List Node) (keep : Bool) (h : Inv s) : Inv (removeNodes s ns keep).1 :=
  (sim_removeNodes s ns keep h).2.2

theorem abs_setWeights (s : Store) (e : Edge) (id : Nat) (w : Int) (h : Inv s) (hid : get? s.edgeList e = some id) :
    abs { s with weights := AL.set s.weights id w } = { abs s with edges := AL.set (abs s).edges e (w, (wm s id).2) } := by
  rw [abs_update_id s { s with weights := AL.set s.weights id w } e id h hid rfl rfl rfl rfl
    (fun j hj => by simp only [wm, get?_set_ne _ _ _ _ (Ne.symm hj)])]
  simp only [wm, get?_set_self, Option.getD_some]

theorem abs_setEmeta (s : Store) (e : Edge) (id : Nat) (md : Meta) (h : Inv s) (hid : get? s.edgeList e = some id) :
    abs { s with emeta := AL.set s.emeta id md } = { abs s with edges := AL.set (abs s).edges e ((wm s id).1, md) } := by
  rw [abs_update_id s { s with emeta := AL.set s.emeta id md } e id h hid rfl rfl rfl rfl
    (fun j hj => by simp only [wm, get?_set_ne _ _ _ _ (Ne.symm hj)])]
  simp only [wm, get?_set_self, Option.getD_some]

theorem sim_setWeight (s : Store) (raw : List Nat) (w : Int) (h : Inv s) :
    Sim (setWeight s raw w) (Spec.setWeight (abs s) raw w) := by
  unfold setWeight Spec.setWeight
  rw [show (abs s).weighted = s.weighted from rfl]
  split
  · exact .rej h
  · rename_i hc
    rw [abs_get]
    cases hg : get? s.edgeList (canon raw) with
    | none => exact .rej h
    | some id =>
      exact .ok (weights_set_inv s _ id w hg (fun hw => by simpa [hw] using hc) h) (abs_setWeights s _ id w h hg)

theorem setWeight_inv (s : Store) (raw : List Nat) (w : Int) (h : Inv s) : Inv (setWeight s raw w).1 :=
  (sim_setWeight s raw w h).2.2

theorem sim_setEdgeMeta (s : Store) (raw : List Nat) (md : Meta) (h : Inv s) :
    Sim (setEdgeMeta s raw md) (Spec.setEdgeMeta (abs s) raw md) := by
  unfold setEdgeMeta Spec.setEdgeMeta
  rw [abs_get]
  cases hg : get? s.edgeList (canon raw) with
  | none => exact .rej h
  | some id => exact .ok (emeta_set_inv s _ id md hg h) (abs_setEmeta s _ id md h hg)

theorem setEdgeMeta_inv (s : Store) (raw : List Nat) (md : Meta) (h : Inv s) : Inv (setEdgeMeta s raw md).1 :=
  (sim_setEdgeMeta s raw md h).2.2

theorem sim_setAttrEdge (s : Store) (raw : List Nat) (k v : Nat) (h : Inv s) :
    Sim (setAttrEdge s raw k v) (Spec.setAttrEdge (abs s) raw k v) := by
  unfold setAttrEdge Spec.setAttrEdge
  rw [abs_get]
  cases hg : get? s.edgeList (canon raw) with
  | none => exact .rej h
  | some id => exact .ok (emeta_set_inv s _ id _ hg h) (abs_setEmeta s _ id _ h hg)

theorem setAttrEdge_inv (s : Store) (raw : List Nat) (k v : Nat) (h : Inv s) : Inv (setAttrEdge s raw k v).1 :=
  (sim_setAttrEdge s raw k v h).2.2

theorem sim_delAttrEdge (s : Store) (raw : List Nat) (k : Nat) (h : Inv s) :
    Sim (delAttrEdge s raw k) (Spec.delAttrEdge (abs s) raw k) := by
  unfold delAttrEdge Spec.delAttrEdge
  rw [abs_get]
  cases hg : get? s.edgeList (canon raw) with
  | none => exact .rej h
  | some id =>
    simp only [Option.map_some, wm]
    split
    · exact .ok (emeta_set_inv s _ id _ hg h) (abs_setEmeta s _ id _ h hg)
    · exact .rej h

theorem delAttrEdge_inv (s : Store) (raw : List Nat) (k : Nat) (h : Inv s) : Inv (delAttrEdge s raw k).1 :=
  (sim_delAttrEdge s raw k h).2.2

theorem sim_setNodeMeta (s : Store) (n : Node) (md : Meta) (h : Inv s) :
    Sim (setNodeMeta s n md) (Spec.setNodeMeta (abs s) n md) := by
  unfold setNodeMeta Spec.setNodeMeta
  rw [show (get? (abs s).nodes n).isSome = (get? s.adj n).isSome from h.node_agree n]
  split
  · rename_i hn
    exact .ok (nmeta_set_inv s n md (by rw [h.node_agree]; exact hn) h) rfl
  · exact .rej h

theorem setNodeMeta_inv (s : Store) (n : Node) (md : Meta) (h : Inv s) : Inv (setNodeMeta s n md).1 :=
  (sim_setNodeMeta s n md h).2.2

theorem sim_setAttrNode (s : Store) (n : Node) (k v : Nat) (h : Inv s) :
    Sim (setAttrNode s n k v) (Spec.setAttrNode (abs s) n k v) := by
  unfold setAttrNode Spec.setAttrNode
  rw [show (abs s).nodes = s.nmeta from rfl]
  cases hg : get? s.nmeta n with
  | none => exact .rej h
  | some md => exact .ok (nmeta_set_inv s n _ (by rw [hg]; rfl) h) rfl

theorem setAttrNode_inv (s : Store) (n : Node) (k v : Nat) (h : Inv s) : Inv (setAttrNode s n k v).1 :=
  (sim_setAttrNode s n k v h).2.2

theorem sim_delAttrNode (s : Store) (n : Node) (k : Nat) (h : Inv s) :
    Sim (delAttrNode s n k) (Spec.delAttrNode (abs s) n k) := by
  unfold delAttrNode Spec.delAttrNode
  rw [show (abs s).nodes = s.nmeta from rfl]
  cases hg : get? s.nmeta n with
  | none => exact .rej h
  | some md =>
    simp only []
    split
    · exact .ok (nmeta_set_inv s n _ (by rw [hg]; rfl) h) rfl
    · exact .rej h

theorem delAttrNode_inv (s : Store) (n : Node) (k : Nat) (h : Inv s) : Inv (delAttrNode s n k).1 :=
  (sim_delAttrNode s n k h).2.2

theorem sim_apply (s : Store) (op : Op) (hwf : op.WF) (h : Inv s) : Sim (apply s op) (Spec.apply (abs s) op) := by
  cases op with
  | addNode n md => exact ⟨abs_addNode s n md h, rfl, addNode_inv s n md h⟩
  | addNodes ns mds => exact sim_addNodes s ns mds h
  | addEdge raw w md => exact sim_addEdge s raw w md h hwf
  | addEdges raws ws mds => exact sim_addEdges s raws ws mds h hwf
  | removeEdge raw => exact sim_removeEdge s raw h
  | removeEdges raws => exact sim_removeEdges s raws h
  | removeNode n keep => exact sim_removeNode s n keep h
  | removeNodes ns keep => exact sim_removeNodes s ns keep h
  | setWeight raw w => exact sim_setWeight s raw w h
  | setNodeMeta n md => exact sim_setNodeMeta s n md h
  | setEdgeMeta raw md => exact sim_setEdgeMeta s raw md h
  | setHMeta md => exact ⟨rfl, rfl, hmeta_inv s md h⟩
  | setAttrH k v => exact ⟨rfl, rfl, hmeta_inv s _ h⟩
  | setAttrNode n k v => exact sim_setAttrNode s n k v h
  | setAttrEdge raw k v => exact sim_setAttrEdge s raw k v h
  | delAttrNode n k => exact sim_delAttrNode s n k h
  | delAttrEdge raw k => exact sim_delAttrEdge s raw k h
  | clear => exact ⟨rfl, rfl, clear_inv s⟩

end C01
