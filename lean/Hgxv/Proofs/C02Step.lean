import Hgxv.Proofs.C02Inv
/-! C02: the abstraction `abs : Store → Spec` on the primitive steps: what each of them does to the abstract object
(`abs_addNode`, `abs_addEdgeKey`, `abs_removeEdgeKey`, `abs_dropNode`, `abs_setWeights`, `abs_setEmeta`, `abs_setNmeta`, `abs_clear`);
`Sim P`: what the lemma about a public call states - `P` kept, same abstract state, same verdict. -/

namespace C02
open AL

theorem abs_nodes_keys (s : Store) : keys (abs s).nodes = keys s.adjS := keys_keymap _ _

theorem abs_edges_keys (s : Store) : keys (abs s).edges = keys s.edgeList :=
  keys_map_val s.edgeList (fun id => ((get? s.weights id).getD 0, (get? s.emeta id).getD []))

theorem abs_get_node (s : Store) (n : Node) :
    get? (abs s).nodes n = if n ∈ keys s.adjS then some ((get? s.nmeta n).getD []) else none :=
  get?_keymap _ _ _

theorem abs_has_node (s : Store) (n : Node) : has (abs s).nodes n = has s.adjS n := by
  have h1 := has_iff (abs s).nodes n
  have h2 := has_iff s.adjS n
  rw [abs_nodes_keys] at h1
  cases ha : has (abs s).nodes n <;> cases hb : has s.adjS n <;> simp_all

theorem abs_get_edge (s : Store) (k : Key) :
    get? (abs s).edges k =
      (get? s.edgeList k).map (fun id => ((get? s.weights id).getD 0, (get? s.emeta id).getD [])) :=
  get?_map_val s.edgeList (fun id => ((get? s.weights id).getD 0, (get? s.emeta id).getD [])) k

theorem abs_has_edge (s : Store) (k : Key) : has (abs s).edges k = has s.edgeList k :=
  has_map_val s.edgeList (fun id => ((get? s.weights id).getD 0, (get? s.emeta id).getD [])) k

theorem Spec.ext' (a b : Spec) (h1 : a.weighted = b.weighted) (h2 : a.nodes = b.nodes) (h3 : a.edges = b.edges)
    (h4 : a.hmeta = b.hmeta) : a = b := by
  cases a; cases b; simp_all

/-- the node part of the abstraction -/
def absNodes (adjS : Adj) (nmeta : List (Node × Meta)) : List (Node × Meta) :=
  (keys adjS).map (fun n => (n, (get? nmeta n).getD []))

/-- the hyperedge part of the abstraction -/
def absEdges (edgeList : List (Key × Nat)) (weights : List (Nat × Int)) (emeta : List (Nat × Meta)) :
    List (Key × (Int × Meta)) :=
  edgeList.map (fun p => (p.1, ((get? weights p.2).getD 0, (get? emeta p.2).getD [])))

theorem abs_nodes_eq (s : Store) : (abs s).nodes = absNodes s.adjS s.nmeta := rfl

theorem abs_edges_eq (s : Store) : (abs s).edges = absEdges s.edgeList s.weights s.emeta := rfl

theorem absNodes_addNode (s : Store) (n : Node) (md : Option Meta) (h : Rows s) :
    absNodes (addNode s n md).adjS (addNode s n md).nmeta = (Spec.addNode (abs s) n md).nodes := by
  unfold Spec.addNode
  rw [abs_get_node]
  cases hS : get? s.adjS n with
  | none =>
    have hnk : n ∉ keys s.adjS := (get?_eq_none_iff _ _).mp hS
    have hN : get? s.nmeta n = none := by
      have := h.nmeta_same n; rw [hS] at this; cases hq : get? s.nmeta n <;> simp_all
    have e1 : (addNode s n md).adjS = AL.set s.adjS n [] := by
      simp [addNode, ensureNode, has, hS]
    have e2 : (addNode s n md).nmeta = AL.set (AL.set s.nmeta n []) n (md.getD []) := by
      simp [addNode, ensureNode, has, hS]
    simp only [hnk, if_false]
    rw [e1, e2]
    have hget : get? (abs s).nodes n = none := by rw [abs_get_node]; simp [hnk]
    show absNodes _ _ = AL.set (abs s).nodes n (md.getD [])
    rw [set_of_not_mem _ _ _ hget, abs_nodes_eq]
    unfold absNodes
    rw [keys_set_of_not_mem _ _ _ hS, List.map_append]
    congr 1
    · apply List.map_congr_left
      intro m hm
      have : n ≠ m := fun hc => hnk (hc ▸ hm)
      simp [get?_set, this]
    · simp
  | some ids =>
    have hnk : n ∈ keys s.adjS := (isSome_get?_iff _ _).mp (by simp [hS])
    have hN : (get? s.nmeta n).isSome := by rw [h.nmeta_same, hS]; rfl
    obtain ⟨x, hx⟩ := Option.isSome_iff_exists.mp hN
    have e0 : ensureNode s n = s := by simp [ensureNode, has, hS]
    simp only [hnk, if_true, hx, Option.getD_some]
    cases x with
    | nil =>
      have e1 : addNode s n md = { s with nmeta := AL.set s.nmeta n (md.getD []) } := by
        simp [addNode, e0, hx]
      rw [e1]
      simp only [absNodes, abs_nodes_eq]
      exact (set_keymap (keys s.adjS) (fun m => (get? s.nmeta m).getD [])
        (fun m => (get? (AL.set s.nmeta n (md.getD [])) m).getD []) n hnk h.nd_adjS
        (fun a ha => by simp [get?_set, Ne.symm ha])).symm.trans (by simp)
    | cons a t =>
      have e1 : addNode s n md = s := by simp [addNode, e0, hx]
      rw [e1]; rfl

theorem abs_addNode (s : Store) (n : Node) (md : Option Meta) (h : Rows s) :
    abs (addNode s n md) = Spec.addNode (abs s) n md := by
  obtain ⟨f1, f2, f3, f4, f5, f6, f7⟩ := addNode_fields s n md
  apply Spec.ext'
  · show (addNode s n md).weighted = _
    rw [f6]; unfold Spec.addNode; split <;> rfl
  · exact absNodes_addNode s n md h
  · show absEdges _ _ _ = _
    rw [f1, f3, f4]; unfold Spec.addNode; split <;> rfl
  · show (addNode s n md).hmeta = _
    rw [f7]; unfold Spec.addNode; split <;> rfl

theorem absEdges_update (s : Store) (h : Inv s) (k : Key) (id : Nat) (hk : get? s.edgeList k = some id)
    (W' : List (Nat × Int)) (M' : List (Nat × Meta))
    (hW : ∀ id', id' ≠ id → get? W' id' = get? s.weights id')
    (hM : ∀ id', id' ≠ id → get? M' id' = get? s.emeta id') :
    absEdges s.edgeList W' M' = AL.set (abs s).edges k ((get? W' id).getD 0, (get? M' id).getD []) := by
  rw [abs_edges_eq]
  unfold absEdges
  rw [set_map_val_eq_map_ite s.edgeList (fun i => ((get? s.weights i).getD 0, (get? s.emeta i).getD [])) k _
    (by simp [hk]) h.nd_edge]
  apply List.map_congr_left
  intro p hp
  by_cases hc : p.1 = k
  · have := (h.id_inj p hp k id hk).mp hc
    simp [hc, this]
  · have : p.2 ≠ id := fun hcc => hc ((h.id_inj p hp k id hk).mpr hcc)
    simp [hc, hW _ this, hM _ this]

theorem abs_removeEdgeKey (s : Store) (k : Key) (h : Inv s) :
    abs (removeEdgeKey s k).1 = (Spec.removeEdgeKey (abs s) k).1 ∧
    (removeEdgeKey s k).2 = (Spec.removeEdgeKey (abs s) k).2 := by
  unfold removeEdgeKey Spec.removeEdgeKey
  rw [abs_has_edge]
  cases hk : get? s.edgeList k with
  | none => simp [has, hk]
  | some id =>
    simp only [has, hk, Option.isSome_some, if_true, and_true]
    apply Spec.ext'
    · rfl
    · show absNodes (unlink s.adjS id k.1) s.nmeta = (abs s).nodes
      simp only [absNodes, unlink_keys]; rfl
    · show absEdges (AL.erase s.edgeList k) (AL.erase s.weights id) (AL.erase s.emeta id) = AL.erase (abs s).edges k
      rw [abs_edges_eq]
      unfold absEdges
      rw [erase_map_val s.edgeList (fun i => ((get? s.weights i).getD 0, (get? s.emeta i).getD [])) k]
      apply List.map_congr_left
      intro p hp
      have hp' := mem_of_mem_erase _ _ _ hp
      have hne := ((mem_erase _ _ h.nd_edge p).mp hp).2
      have : id ≠ p.2 := fun hcc => hne ((h.id_inj p hp' k id hk).mpr hcc.symm)
      simp [get?_erase_ne _ _ _ this]
    · rfl

theorem Spec.addNode_frame (sp : Spec) (n : Node) (md : Option Meta) :
    (Spec.addNode sp n md).weighted = sp.weighted ∧ (Spec.addNode sp n md).edges = sp.edges ∧
    (Spec.addNode sp n md).hmeta = sp.hmeta := by
  unfold Spec.addNode; split <;> simp

theorem Spec.touchAll_frame (sp : Spec) (ns : List Node) :
    (Spec.touchAll sp ns).weighted = sp.weighted ∧ (Spec.touchAll sp ns).edges = sp.edges ∧
    (Spec.touchAll sp ns).hmeta = sp.hmeta := by
  induction ns generalizing sp with
  | nil => simp [Spec.touchAll]
  | cons n ns ih =>
    simp only [Spec.touchAll]
    have h1 := ih (Spec.addNode sp n none)
    have h2 := Spec.addNode_frame sp n none
    exact ⟨h1.1.trans h2.1, h1.2.1.trans h2.2.1, h1.2.2.trans h2.2.2⟩

theorem Spec.addNode_nodes_congr (sp sp' : Spec) (n : Node) (md : Option Meta) (h : sp.nodes = sp'.nodes) :
    (Spec.addNode sp n md).nodes = (Spec.addNode sp' n md).nodes := by
  unfold Spec.addNode; rw [h]; split <;> simp [h]

theorem Spec.touchAll_nodes_congr (sp sp' : Spec) (ns : List Node) (h : sp.nodes = sp'.nodes) :
    (Spec.touchAll sp ns).nodes = (Spec.touchAll sp' ns).nodes := by
  induction ns generalizing sp sp' with
  | nil => exact h
  | cons n ns ih => exact ih _ _ (Spec.addNode_nodes_congr sp sp' n none h)

theorem Spec.touchAll_append (sp : Spec) (a b : List Node) :
    Spec.touchAll sp (a ++ b) = Spec.touchAll (Spec.touchAll sp a) b := by
  induction a generalizing sp with
  | nil => rfl
  | cons n ns ih => exact ih _

/-- one step of a linking loop, seen on the node part -/
theorem link_step_nodes (s : Store) (n : Node) (h : Rows s) (A : Adj) (hA : keys A = keys (addNode s n none).adjS) :
    absNodes A (addNode s n none).nmeta = (Spec.addNode (abs s) n none).nodes := by
  rw [← absNodes_addNode s n none h]; simp only [absNodes, hA]

theorem pushId_keys (adj : Adj) (n : Node) (id : Nat) (h : (get? adj n).isSome) : keys (pushId adj n id) = keys adj :=
  keys_set_of_mem _ _ _ h

theorem linkSrc_nodes (s : Store) (id : Nat) (ns : List Node) (h : Rows s) :
    absNodes (linkSrc s id ns).adjS (linkSrc s id ns).nmeta = (Spec.touchAll (abs s) ns).nodes := by
  induction ns generalizing s with
  | nil => rfl
  | cons n ns ih =>
    simp only [linkSrc, Spec.touchAll]
    refine (ih _ ((addNode_rows s n none h).pushS n id (addNode_has s n none))).trans ?_
    apply Spec.touchAll_nodes_congr
    exact link_step_nodes s n h _ (pushId_keys _ n id (addNode_has s n none))

theorem linkTgt_nodes (s : Store) (id : Nat) (ns : List Node) (h : Rows s) :
    absNodes (linkTgt s id ns).adjS (linkTgt s id ns).nmeta = (Spec.touchAll (abs s) ns).nodes := by
  induction ns generalizing s with
  | nil => rfl
  | cons n ns ih =>
    have h1 := addNode_rows s n none h
    simp only [linkTgt, Spec.touchAll]
    refine (ih _ (h1.pushT n id (by rw [h1.adj_same]; exact addNode_has s n none))).trans ?_
    apply Spec.touchAll_nodes_congr
    exact link_step_nodes s n h _ rfl

theorem addEdgeNew_nodes (s : Store) (k : Key) (wt : Int) (md : Meta) (h : Rows s) :
    absNodes (addEdgeNew s k wt md).adjS (addEdgeNew s k wt md).nmeta = (Spec.touchAll (abs s) (k.1 ++ k.2)).nodes := by
  have h1 := fileKey_rows s k wt h
  rw [Spec.touchAll_append, addEdgeNew_adjS_eq, addEdgeNew_nmeta_eq, linkTgt_nodes _ _ _ ((linkSrc_linked _ _ _).rows h1)]
  apply Spec.touchAll_nodes_congr
  exact (linkSrc_nodes _ s.nextId k.1 h1).trans (Spec.touchAll_nodes_congr _ _ _ rfl)

theorem abs_addEdgeKey (s : Store) (k : Key) (w : Option Int) (md : Option Meta) (h : Inv s) :
    abs (addEdgeKey s k w md).1 = (Spec.addEdgeKey (abs s) k w md).1 ∧
    (addEdgeKey s k w md).2 = (Spec.addEdgeKey (abs s) k w md).2 := by
  unfold addEdgeKey Spec.addEdgeKey
  have hw : (abs s).weighted = s.weighted := rfl
  rw [hw]
  split
  · exact ⟨rfl, rfl⟩
  · -- new key: nodes by `addEdgeNew_nodes`, the hyperedge table gains one entry at the end (older ids are below `nextId`, so their
    -- weights and metadata are read as before); present key: `absEdges_update` at its id
    rw [abs_get_edge]
    cases hk : get? s.edgeList k with
    | none =>
      simp only [Option.map_none, and_true]
      obtain ⟨f1, f2, f3, f4, f5, f6, f7⟩ := addEdgeNew_fields s k (w.getD one) (md.getD [])
      obtain ⟨t1, t2, t3⟩ := Spec.touchAll_frame (abs s) (k.1 ++ k.2)
      apply Spec.ext'
      · show (addEdgeNew s k (w.getD one) (md.getD [])).weighted = _
        rw [f6]; exact t1.symm
      · exact addEdgeNew_nodes s k _ _ h.rows
      · show absEdges (addEdgeNew s k (w.getD one) (md.getD [])).edgeList (addEdgeNew s k (w.getD one) (md.getD [])).weights
            (addEdgeNew s k (w.getD one) (md.getD [])).emeta =
          AL.set (Spec.touchAll (abs s) (k.1 ++ k.2)).edges k _
        rw [f1, f3, f4, t2]
        have hget : get? (abs s).edges k = none := by rw [abs_get_edge, hk]; rfl
        rw [set_of_not_mem _ _ _ hget, set_of_not_mem _ _ _ hk, abs_edges_eq]
        unfold absEdges
        rw [List.map_append]
        congr 1
        · apply List.map_congr_left
          intro p hp
          have hg : get? s.edgeList p.1 = some p.2 := get?_of_mem _ _ _ h.nd_edge hp
          have := h.id_lt _ _ (h.rev_of_edge _ _ hg)
          have hne : s.nextId ≠ p.2 := by omega
          simp [get?_set_ne _ _ _ _ hne]
        · simp
      · show (addEdgeNew s k (w.getD one) (md.getD [])).hmeta = _
        rw [f7]; exact t3.symm
    | some id =>
      simp only [Option.map_some, and_true]
      obtain ⟨w0, hw0⟩ := Option.isSome_iff_exists.mp (h.weights_of_edge k id hk)
      apply Spec.ext'
      · rfl
      · rfl
      · show absEdges s.edgeList (addEdgeOld s id (w.getD one) (md.getD [])).weights
          (addEdgeOld s id (w.getD one) (md.getD [])).emeta = _
        rw [absEdges_update s h k id hk]
        · simp only [addEdgeOld, hw0]
          by_cases hwt : s.weighted <;> simp [hwt, hw0]
        · intro id' hne
          simp only [addEdgeOld, hw0]
          by_cases hwt : s.weighted
          · simp [hwt, get?_set_ne _ _ _ _ (Ne.symm hne)]
          · simp [hwt]
        · intro id' hne
          simp only [addEdgeOld]
          exact get?_set_ne _ _ _ _ (Ne.symm hne)
      · rfl

theorem abs_addEdge (s : Store) (e : RawEdge) (w : Option Int) (md : Option Meta) (h : Inv s) :
    abs (addEdge s e w md).1 = (Spec.addEdge (abs s) e w md).1 ∧
    (addEdge s e w md).2 = (Spec.addEdge (abs s) e w md).2 :=
  abs_addEdgeKey s _ w md h

theorem abs_setEmeta (s : Store) (h : Inv s) (k : Key) (id : Nat) (hk : get? s.edgeList k = some id) (md' : Meta) :
    abs { s with emeta := AL.set s.emeta id md' } =
      { abs s with edges := AL.set (abs s).edges k ((get? s.weights id).getD 0, md') } := by
  apply Spec.ext'
  · rfl
  · rfl
  · show absEdges s.edgeList s.weights (AL.set s.emeta id md') = _
    rw [absEdges_update s h k id hk s.weights (AL.set s.emeta id md') (fun _ _ => rfl)
      (fun id' hne => get?_set_ne _ _ _ _ (Ne.symm hne))]
    simp
  · rfl

theorem abs_setWeights (s : Store) (h : Inv s) (k : Key) (id : Nat) (hk : get? s.edgeList k = some id) (w : Int) :
    abs { s with weights := AL.set s.weights id w } =
      { abs s with edges := AL.set (abs s).edges k (w, (get? s.emeta id).getD []) } := by
  apply Spec.ext'
  · rfl
  · rfl
  · show absEdges s.edgeList (AL.set s.weights id w) s.emeta = _
    rw [absEdges_update s h k id hk (AL.set s.weights id w) s.emeta
      (fun id' hne => get?_set_ne _ _ _ _ (Ne.symm hne)) (fun _ _ => rfl)]
    simp
  · rfl

theorem abs_setNmeta (s : Store) (h : Inv s) (n : Node) (hn : (get? s.adjS n).isSome) (md' : Meta) :
    abs { s with nmeta := AL.set s.nmeta n md' } = { abs s with nodes := AL.set (abs s).nodes n md' } := by
  apply Spec.ext'
  · rfl
  · show absNodes s.adjS (AL.set s.nmeta n md') = AL.set (absNodes s.adjS s.nmeta) n md'
    unfold absNodes
    have := set_keymap (keys s.adjS) (fun m => (get? s.nmeta m).getD [])
        (fun m => (get? (AL.set s.nmeta n md') m).getD []) n ((isSome_get?_iff _ _).mp hn) h.nd_adjS
        (fun a ha => by simp [get?_set, Ne.symm ha])
    rw [← this]; simp
  · rfl
  · rfl

theorem Inv.nmeta_abs {s : Store} (h : Inv s) (n : Node) :
    get? (abs s).nodes n = get? s.nmeta n := by
  rw [abs_get_node]
  by_cases hn : n ∈ keys s.adjS
  · have : (get? s.nmeta n).isSome := by rw [h.nmeta_same]; exact (isSome_get?_iff _ _).mpr hn
    obtain ⟨m, hm⟩ := Option.isSome_iff_exists.mp this
    simp [hn, hm]
  · have : get? s.adjS n = none := (get?_eq_none_iff _ _).mpr hn
    have h2 := h.nmeta_same n; rw [this] at h2
    cases hq : get? s.nmeta n with
    | none => simp [hn]
    | some x => rw [hq] at h2; cases h2

theorem abs_clear (s : Store) : abs (clear s) = { abs s with nodes := [], edges := [] } := by
  apply Spec.ext' <;> simp [abs, clear, keys]

theorem abs_dropNode (s : Store) (n : Node) (h : Inv s) :
    abs (dropNode s n) = { abs s with nodes := AL.erase (abs s).nodes n } := by
  apply Spec.ext'
  · rfl
  · show absNodes (AL.erase s.adjS n) (AL.erase s.nmeta n) = AL.erase (absNodes s.adjS s.nmeta) n
    unfold absNodes
    rw [erase_keymap, keys_erase_perm]
    apply List.map_congr_left
    intro m hm
    have : m ≠ n := ((List.Nodup.mem_erase_iff h.nd_adjS).mp hm).1
    simp [get?_erase_ne _ _ _ (Ne.symm this)]
  · rfl
  · rfl

/-- a result on the tables and a result on the abstract object agree (state and verdict), and `P` holds again -/
def Sim (P : Store → Prop) (r : Store × Out) (q : Spec × Out) : Prop := P r.1 ∧ abs r.1 = q.1 ∧ r.2 = q.2

theorem Sim.rej {P : Store → Prop} {s : Store} (h : P s) : Sim P (s, .rej) (abs s, .rej) := ⟨h, rfl, rfl⟩
theorem Sim.ok {P : Store → Prop} {s' : Store} {sp' : Spec} (h : P s') (e : abs s' = sp') : Sim P (s', .ok) (sp', .ok) :=
  ⟨h, e, rfl⟩

theorem foldOk_Sim {P : Store → Prop} {α : Type} {f : Store → α → Store × Out} {g : Spec → α → Spec × Out} (xs : List α)
    (hstep : ∀ s, ∀ x ∈ xs, P s → Sim P (f s x) (g (abs s) x)) (s : Store) (h : P s) :
    Sim P (foldOk f s xs) (foldOk g (abs s) xs) := by
  induction xs generalizing s with
  | nil => exact ⟨h, rfl, rfl⟩
  | cons x xs ih =>
    obtain ⟨h0, h1, h2⟩ := hstep s x List.mem_cons_self h
    simp only [foldOk]
    rw [← h2]
    split
    · exact ⟨h0, h1, h2⟩
    · rw [← h1]; exact ih (fun s y hy => hstep s y (List.mem_cons_of_mem _ hy)) _ h0

end C02
