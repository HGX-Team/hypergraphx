import Hgxv.Proofs.C01Inv
/-! C01: the invariant through the table setters (`weights_set_inv`, `emeta_set_inv`, `nmeta_set_inv`) and through `remove_edges` /
`remove_node`, acceptance of the loops after validation, the equality of the two incident listings (ids through `_adj` vs filter
over the keys).  For the table-setter calls and the batched `add_nodes`, `add_edges`, `remove_nodes` the invariant through the whole call is the
third component of its `sim_` lemma (`C01Ref.lean`); `add_node`, `add_edge`, `remove_edge` (`C01Inv.lean`), `remove_edges` and
`remove_node` (here) have their own `_inv`, which the `remove_node` chain needs before `abs` exists. -/
namespace C01
open AL

/-- the primitive under `set_weight`: one weight changes; an unweighted hypergraph accepts weight 1 only -/
theorem weights_set_inv (s : Store) (e : Edge) (id : Nat) (w : Int) (hid : get? s.edgeList e = some id)
    (hc : s.weighted = false → w = one) (h : Inv s) : Inv { s with weights := AL.set s.weights id w } := by
  have hrev : (get? s.rev id).isSome := by simp [h.rev_of_edge _ _ hid]
  refine h.of_tables _ rfl rfl rfl rfl ?_ (fun _ => rfl) rfl ?_
  · intro id'; simp only [isSome_set]
    by_cases hh : id = id'
    · subst hh; simp [h.w_dom, hrev]
    · simp [hh]
  · intro hw id' w' hg
    rcases get?_set_some hg with ⟨_, rfl⟩ | ⟨_, hg⟩
    · exact hc hw
    · exact h.unw_one hw id' w' hg

theorem emeta_set_inv (s : Store) (e : Edge) (id : Nat) (md : Meta) (hid : get? s.edgeList e = some id) (h : Inv s) :
    Inv { s with emeta := AL.set s.emeta id md } := by
  have hrev : (get? s.rev id).isSome := by simp [h.rev_of_edge _ _ hid]
  refine h.of_tables _ rfl rfl rfl rfl (fun _ => rfl) ?_ rfl h.unw_one
  intro id'; simp only [isSome_set]
  by_cases hh : id = id'
  · subst hh; simp [h.m_dom, hrev]
  · simp [hh]

theorem nmeta_set_inv (s : Store) (n : Node) (md : Meta) (hn : (get? s.nmeta n).isSome) (h : Inv s) :
    Inv { s with nmeta := AL.set s.nmeta n md } :=
  h.of_tables _ rfl rfl rfl rfl (fun _ => rfl) (fun _ => rfl) (keys_set_of_mem _ _ _ hn) h.unw_one

theorem hmeta_inv (s : Store) (md : Meta) (h : Inv s) : Inv { s with hmeta := md } :=
  h.of_tables _ rfl rfl rfl rfl (fun _ => rfl) (fun _ => rfl) rfl h.unw_one

theorem weighted_inv (s : Store) (b : Bool) (h : Inv s) : Inv { s with weighted := s.weighted || b } := by
  refine h.of_tables _ rfl rfl rfl rfl (fun _ => rfl) (fun _ => rfl) rfl ?_
  intro hw; simp at hw; exact h.unw_one hw.1

theorem mem_zipArgs : ∀ (raws : List (List Nat)) (ws : Option (List Int)) (mds : Option (List Meta))
    (x : List Nat × Option Int × Option Meta), x ∈ zipArgs raws ws mds → x.1 ∈ raws := by
  intro raws
  induction raws with
  | nil => intro ws mds x hx; simp [zipArgs] at hx
  | cons r rs ih =>
    intro ws mds x hx
    simp only [zipArgs, List.mem_cons] at hx
    rcases hx with hx | hx
    · subst hx; simp
    · exact List.mem_cons_of_mem _ (ih _ _ x hx)

theorem removeEdge_edgeList (s : Store) (raw : List Nat) (e : Edge) :
    get? (removeEdge s raw).1.edgeList e = if canon raw = e then none else get? s.edgeList e := by
  unfold removeEdge
  split
  · rename_i hg
    by_cases he : canon raw = e
    · subst he; simp [hg]
    · simp [he]
  · simp only [removeEdgeId, get?_del]

theorem removeEdge_out (s : Store) (raw : List Nat) :
    (removeEdge s raw).2 = if (get? s.edgeList (canon raw)).isSome then .ok else .rej := by
  unfold removeEdge; split <;> simp_all

/-- after validation the loop of `remove_edges` accepts every member -/
theorem removeEdges_loop_ok : ∀ (raws : List (List Nat)) (s : Store),
    (∀ r ∈ raws, (get? s.edgeList (canon r)).isSome) → (raws.map canon).Nodup →
    (seqOps removeEdge s raws).2 = .ok := by
  intro raws s h1 h2
  refine (seqOps_ok_of_inv removeEdge
    (fun s as => (∀ r ∈ as, (get? s.edgeList (canon r)).isSome) ∧ (as.map canon).Nodup) ?_ raws s ⟨h1, h2⟩).1
  intro s a as ⟨hp, hn⟩
  refine ⟨?_, ?_, ?_⟩
  · rw [removeEdge_out]; simp [hp a List.mem_cons_self]
  · intro r hr
    rw [removeEdge_edgeList]
    simp only [List.map_cons, List.nodup_cons] at hn
    have : canon a ≠ canon r := by
      intro heq; exact hn.1 (heq ▸ List.mem_map_of_mem hr)
    simp [this]; exact hp r (List.mem_cons_of_mem _ hr)
  · simp only [List.map_cons, List.nodup_cons] at hn; exact hn.2

theorem removeEdges_accepted (s : Store) (raws : List (List Nat))
    (h1 : ∀ r ∈ raws, (get? s.edgeList (canon r)).isSome) (h2 : (raws.map canon).Nodup) :
    removeEdges s raws = ((seqOps removeEdge s raws).1, .ok) := by
  unfold removeEdges
  rw [if_pos (by simp only [Bool.and_eq_true, List.all_eq_true, decide_eq_true_eq]; exact ⟨h1, h2⟩)]
  exact Prod.ext rfl (removeEdges_loop_ok raws s h1 h2)

theorem foldl_removeEdge_edgeList : ∀ (raws : List (List Nat)) (s : Store) (e : Edge),
    get? (raws.foldl (fun s r => (removeEdge s r).1) s).edgeList e =
      if e ∈ raws.map canon then none else get? s.edgeList e := by
  intro raws
  induction raws with
  | nil => intro s e; simp
  | cons r rs ih =>
    intro s e
    simp only [List.foldl_cons, ih, removeEdge_edgeList, List.map_cons, List.mem_cons]
    by_cases h1 : e ∈ rs.map canon
    · simp [h1]
    · by_cases h2 : canon r = e
      · simp [h2]
      · simp [h1, h2, Ne.symm h2]

theorem removeEdges_inv (s : Store) (raws : List (List Nat)) (h : Inv s) : Inv (removeEdges s raws).1 := by
  unfold removeEdges
  split
  · exact seqOps_inv removeEdge Inv (fun _ => True) (fun s r hs _ => removeEdge_inv s r hs) raws s h (fun _ _ => trivial)
  · exact h

theorem addEdge_edgeList_mono (s : Store) (raw : List Nat) (w : Option Int) (md : Option Meta) (e : Edge)
    (he : (get? s.edgeList e).isSome) : (get? (addEdge s raw w md).1.edgeList e).isSome := by
  unfold addEdge
  split
  · exact he
  · split
    · simp only [addEdgeNew, (linkNodes_fields _ _ _).1, isSome_set, he, Bool.or_true]
    · exact he

theorem addEdge_edgeList_other (s : Store) (raw : List Nat) (w : Option Int) (md : Option Meta) (e : Edge)
    (hne : canon raw ≠ e) : get? (addEdge s raw w md).1.edgeList e = get? s.edgeList e := by
  unfold addEdge
  split
  · rfl
  · split
    · simp only [addEdgeNew, (linkNodes_fields _ _ _).1, get?_set, hne, if_false]
    · rfl

theorem linkNodes_adj_mono (s : Store) (id : Nat) (ns : List Node) (m : Node) (hm : (get? s.adj m).isSome) :
    (get? (linkNodes s id ns).adj m).isSome := by
  induction ns generalizing s with
  | nil => exact hm
  | cons n ns ih =>
    simp only [linkNodes]
    apply ih
    simp only [isSome_set, touchNode_adj]
    by_cases h : m = n <;> simp [h, hm]

theorem addEdge_adj_mono (s : Store) (raw : List Nat) (w : Option Int) (md : Option Meta) (m : Node)
    (hm : (get? s.adj m).isSome) : (get? (addEdge s raw w md).1.adj m).isSome := by
  unfold addEdge
  split
  · exact hm
  · split
    · exact linkNodes_adj_mono _ _ _ m hm
    · exact hm

theorem removeEdge_adj_keys (s : Store) (raw : List Nat) : keys (removeEdge s raw).1.adj = keys s.adj := by
  unfold removeEdge
  split
  · rfl
  · simp only [removeEdgeId, unlinkNodes_keys]

/-- the weight handed back by `get_weight` for a present hyperedge of an unweighted hypergraph is 1 -/
theorem Inv.weightOf_one {s : Store} (h : Inv s) (hw : s.weighted = false) {e : Edge}
    (he : (get? s.edgeList e).isSome) : weightOf s e = one := by
  obtain ⟨id, hid⟩ := Option.isSome_iff_exists.mp he
  have h1 : (get? s.weights id).isSome := by rw [h.w_dom]; simp [h.rev_of_edge _ _ hid]
  obtain ⟨w, hwv⟩ := Option.isSome_iff_exists.mp h1
  simp [weightOf, hid, hwv, h.unw_one hw id w hwv]

theorem shrinkInto_ok (n : Node) (s : Store) (e : Edge) (h : Inv s) (he : (get? s.edgeList e).isSome) :
    (shrinkInto n s e).2 = .ok := by
  unfold shrinkInto addEdge
  split
  · rename_i hc
    simp at hc
    rw [h.weightOf_one hc.1 he] at hc
    exact absurd rfl hc.2
  · split <;> rfl

/-- `[rev[id] for id in adj[n]]` is the key list filtered by `n ∈ key` - as lists, because both id listings are
strictly increasing (`Inv.adj_sorted`, `Inv.el_sorted`) and have the same members -/
theorem Inv.incidentKeys_filter {s : Store} (h : Inv s) (n : Node) :
    incidentKeys s n = (keys s.edgeList).filter (fun e => decide (n ∈ e)) := by
  rw [incidentKeys, h.index.row_eq_filter h.tables h.el_nodup h.el_sorted n,
    h.tables.filterMap_rev h.el_nodup _ fun p hp => (List.mem_filter.mp hp).1, keys, List.filter_map]
  rfl

theorem Inv.incidentKeys_eq {s : Store} (h : Inv s) (n : Node) (hn : (get? s.adj n).isSome) :
    incidentKeys s n = (keys s.edgeList).filter (fun e => decide (n ∈ e)) := h.incidentKeys_filter n

theorem Inv.incidentKeys_spec {s : Store} (h : Inv s) (n : Node) :
    (incidentKeys s n).Nodup ∧
    ∀ e, e ∈ incidentKeys s n ↔ ((get? s.edgeList e).isSome ∧ n ∈ e) := by
  rw [h.incidentKeys_filter n]
  refine ⟨(List.filter_sublist).nodup h.el_nodup, fun e => ?_⟩
  rw [List.mem_filter, mem_keys_iff, decide_eq_true_eq]

theorem Inv.incidentKeys_key {s : Store} (h : Inv s) {n : Node} {x : Edge} (hx : x ∈ incidentKeys s n) :
    x.Nodup ∧ canon x = x := by
  obtain ⟨id, hid⟩ := Option.isSome_iff_exists.mp (((h.incidentKeys_spec n).2 x).mp hx).1
  exact h.key_canon x id hid

/-- state of the `keep_edges=True` loop: invariant, the listed hyperedges still present, and the keys
    containing `n` unchanged -/
structure KeepLoop (n : Node) (s0 s : Store) (es : List Edge) : Prop where
  inv : Inv s
  present : ∀ e ∈ es, (get? s.edgeList e).isSome
  same_n : ∀ e, n ∈ e → get? s.edgeList e = get? s0.edgeList e
  adj_mono : ∀ m, (get? s0.adj m).isSome → (get? s.adj m).isSome

theorem shrinkInto_keep (n : Node) (s0 s : Store) (e : Edge) (es : List Edge)
    (hk : KeepLoop n s0 s (e :: es)) (hnd : e.Nodup) :
    (shrinkInto n s e).2 = .ok ∧ KeepLoop n s0 (shrinkInto n s e).1 es := by
  have hpe := hk.present e List.mem_cons_self
  refine ⟨shrinkInto_ok n s e hk.inv hpe, ?_⟩
  have hraw : (e.filter (· ≠ n)).Nodup := (List.filter_sublist).nodup hnd
  constructor
  · exact addEdge_inv s _ _ _ hraw hk.inv
  · intro x hx
    exact addEdge_edgeList_mono s _ _ _ x (hk.present x (List.mem_cons_of_mem _ hx))
  · intro x hx
    have : canon (e.filter (· ≠ n)) ≠ x := by
      intro heq; subst heq
      have := mem_canon.mp hx
      simp at this
    simp only [shrinkInto]
    rw [addEdge_edgeList_other s _ _ _ x this]; exact hk.same_n x hx
  · intro m hm
    exact addEdge_adj_mono s _ _ _ m (hk.adj_mono m hm)

theorem keepLoop_run (n : Node) (s0 : Store) (es : List Edge) (s : Store)
    (hk : KeepLoop n s0 s es) (hnd : ∀ x ∈ es, x.Nodup) :
    (seqOps (shrinkInto n) s es).2 = .ok ∧ KeepLoop n s0 (seqOps (shrinkInto n) s es).1 [] := by
  obtain ⟨h1, h2, _⟩ := seqOps_ok_of_inv (shrinkInto n) (fun s es => KeepLoop n s0 s es ∧ ∀ x ∈ es, x.Nodup)
    (fun s e es ⟨hk, hnd⟩ =>
      have h := shrinkInto_keep n s0 s e es hk (hnd e List.mem_cons_self)
      ⟨h.1, h.2, fun x hx => hnd x (List.mem_cons_of_mem _ hx)⟩) es s ⟨hk, hnd⟩
  exact ⟨h1, h2⟩

/-- what `remove_node` does, step by step, on a state satisfying the invariant -/
theorem removeNode_spec (s : Store) (n : Node) (keep : Bool) (h : Inv s) (hn : (get? s.adj n).isSome) :
    ∃ s1 s2, (if keep then seqOps (shrinkInto n) s (incidentKeys s n) else (s, Out.ok)) = (s1, .ok) ∧
      removeEdges s1 (incidentKeys s n) = (s2, .ok) ∧
      removeNode s n keep = (dropNode s2 n, .ok) ∧ Inv s1 ∧ Inv s2 ∧
      (∀ id e, get? s2.rev id = some e → n ∉ e) ∧
      (∀ m, (get? s.adj m).isSome → (get? s2.adj m).isSome) := by
  obtain ⟨hnd, hmem⟩ := h.incidentKeys_spec n
  have hes_nodup : ∀ x ∈ incidentKeys s n, x.Nodup := fun x hx => (h.incidentKeys_key hx).1
  have hes_canon : ∀ x ∈ incidentKeys s n, canon x = x := fun x hx => (h.incidentKeys_key hx).2
  -- the re-insertions leave every key containing `n` present and untouched (`KeepLoop`), so `remove_edges` of the incident keys passes its validation
  have hk0 : KeepLoop n s s (incidentKeys s n) :=
    ⟨h, fun e he => ((hmem e).mp he).1, fun _ _ => rfl, fun _ hm => hm⟩
  have hphase1 : ∃ s1, (if keep then seqOps (shrinkInto n) s (incidentKeys s n) else (s, Out.ok)) = (s1, .ok) ∧
      KeepLoop n s s1 (incidentKeys s n) := by
    cases keep with
    | false => exact ⟨s, rfl, hk0⟩
    | true =>
      obtain ⟨h1, h2⟩ := keepLoop_run n s _ s hk0 hes_nodup
      refine ⟨(seqOps (shrinkInto n) s (incidentKeys s n)).1, ?_, ?_⟩
      · rw [if_pos rfl]; exact Prod.ext rfl h1
      · refine ⟨h2.inv, ?_, h2.same_n, h2.adj_mono⟩
        intro e he
        have := (hmem e).mp he
        rw [h2.same_n e this.2]; exact this.1
  obtain ⟨s1, hs1, hk1⟩ := hphase1
  have hmapc : (incidentKeys s n).map canon = incidentKeys s n := map_canon_id _ hes_canon
  have hpres1 : ∀ r ∈ incidentKeys s n, (get? s1.edgeList (canon r)).isSome :=
    fun r hr => by rw [hes_canon r hr]; exact hk1.present r hr
  have hloop := removeEdges_loop_ok (incidentKeys s n) s1 hpres1 (by rw [hmapc]; exact hnd)
  have hre := removeEdges_accepted s1 (incidentKeys s n) hpres1 (by rw [hmapc]; exact hnd)
  have hinv2 : Inv (seqOps removeEdge s1 (incidentKeys s n)).1 := by
    have := removeEdges_inv s1 (incidentKeys s n) hk1.inv
    rw [hre] at this; exact this
  refine ⟨s1, _, hs1, hre, ?_, hk1.inv, hinv2, ?_, ?_⟩
  · unfold removeNode
    simp only [hn, Bool.not_true]
    rw [hs1]; simp only []
    rw [hre]
    simp
  · intro id e hrev hne
    have hel := hinv2.edge_of_rev e id hrev
    rw [seqOps_eq_foldl removeEdge _ _ hloop, foldl_removeEdge_edgeList, hmapc] at hel
    by_cases hin : e ∈ incidentKeys s n
    · simp [hin] at hel
    · simp only [hin, if_false] at hel
      rw [hk1.same_n e hne] at hel
      exact hin ((hmem e).mpr ⟨by simp [hel], hne⟩)
  · intro m hm
    have := seqOps_inv removeEdge (fun t => keys t.adj = keys s1.adj) (fun _ => True)
      (fun t r ht _ => (removeEdge_adj_keys t r).trans ht) (incidentKeys s n) s1 rfl (fun _ _ => trivial)
    rw [← mem_keys_iff, this, mem_keys_iff]; exact hk1.adj_mono m hm

theorem removeNode_inv (s : Store) (n : Node) (keep : Bool) (h : Inv s) : Inv (removeNode s n keep).1 := by
  by_cases hn : (get? s.adj n).isSome
  · obtain ⟨s1, s2, _, _, h3, _, hi2, hfree, _⟩ := removeNode_spec s n keep h hn
    rw [h3]; exact dropNode_inv s2 n hfree hi2
  · unfold removeNode; simp [hn]; exact h

theorem init_inv (k : Nat) : ∀ s ∈ init k, Inv s := by
  intro s hs
  simp only [init, List.mem_replicate] at hs
  rw [hs.2]; exact inv_new false []

end C01
