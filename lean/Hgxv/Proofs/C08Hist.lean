import Hgxv.Model.C08Hist
import Hgxv.Proofs.SortLib
/-! # C08 history model: every object reachable through a program satisfies the hypotheses of the C08 theorems -/
namespace C08
namespace Hist

theorem insSorted_eq : insSorted = NatSort.insert := by
  funext a l
  induction l with
  | nil => rfl
  | cons b bs ih => simp only [insSorted, NatSort.insert, ih]

theorem sortL_eq : sortL = NatSort.isort := by
  funext l; simp only [sortL, NatSort.isort, insSorted_eq]

theorem mem_sortL (y : Nat) (l : List Nat) : y ∈ sortL l ↔ y ∈ l := sortL_eq ▸ NatSort.mem_isort

theorem sorted_sortL (l : List Nat) (hl : l.Nodup) : (sortL l).Pairwise (· < ·) := sortL_eq ▸ NatSort.isort_strict hl

/-! ## the invariant: what `get_nodes()` / `get_edges()` of a reachable object look like -/

structure Inv (c : Content) : Prop where
  nodes_nodup : c.nodes.Nodup
  es_nodup : c.es.Nodup
  sorted : ∀ e ∈ c.es, e.Pairwise (· < ·)
  wf : ∀ e ∈ c.es, ∀ x ∈ e, x ∈ c.nodes

theorem inv_empty : Inv {} := ⟨List.nodup_nil, List.nodup_nil, by simp, by simp⟩

theorem es_addNode (c : Content) (x : Nat) : (addNode c x).es = c.es := by
  unfold addNode; split <;> rfl

theorem mem_nodes_addNode (c : Content) (x y : Nat) : y ∈ (addNode c x).nodes ↔ y ∈ c.nodes ∨ y = x := by
  unfold addNode; split <;> grind

theorem nodup_addNode (c : Content) (x : Nat) (h : c.nodes.Nodup) : (addNode c x).nodes.Nodup := by
  unfold addNode
  split
  · exact h
  · rename_i hx
    show (c.nodes ++ [x]).Nodup
    rw [List.nodup_append]
    refine ⟨h, by simp, ?_⟩
    intro a ha b hb
    simp at hb
    subst hb
    exact fun hab => hx (hab ▸ ha)

theorem es_addNodes (xs : List Nat) : ∀ c : Content, (addNodes c xs).es = c.es := by
  induction xs with
  | nil => intro c; rfl
  | cons a t ih => intro c; show (addNodes (addNode c a) t).es = c.es; rw [ih, es_addNode]

theorem mem_nodes_addNodes (xs : List Nat) (c : Content) (y : Nat) :
    y ∈ (addNodes c xs).nodes ↔ y ∈ c.nodes ∨ y ∈ xs :=
  (ListLib.foldl_or (y ∈ ·.nodes) addNode (y = ·) (fun c x => mem_nodes_addNode c x y) xs c).trans (by simp)

theorem nodup_addNodes (xs : List Nat) (c : Content) (h : c.nodes.Nodup) : (addNodes c xs).nodes.Nodup :=
  ListLib.foldl_inv addNode nodup_addNode xs c h

theorem inv_addNode (c : Content) (x : Nat) (h : Inv c) : Inv (addNode c x) where
  nodes_nodup := nodup_addNode c x h.nodes_nodup
  es_nodup := by rw [es_addNode]; exact h.es_nodup
  sorted := by rw [es_addNode]; exact h.sorted
  wf := by
    rw [es_addNode]
    intro e he y hy
    exact (mem_nodes_addNode c x y).mpr (Or.inl (h.wf e he y hy))

theorem es_addEdge (c : Content) (e : Edge) :
    (addEdge c e).es = if sortL e ∈ c.es then c.es else c.es ++ [sortL e] := by
  unfold addEdge
  split
  · rfl
  · rw [es_addNodes]

theorem mem_nodes_addEdge (c : Content) (e : Edge) (y : Nat) (h : y ∈ c.nodes) : y ∈ (addEdge c e).nodes := by
  unfold addEdge
  split
  · exact h
  · exact (mem_nodes_addNodes _ _ y).mpr (Or.inl h)

theorem inv_addEdge (c : Content) (e : Edge) (he : e.Nodup) (h : Inv c) : Inv (addEdge c e) := by
  unfold addEdge
  split
  · exact h
  · rename_i hnew
    refine ⟨?_, ?_, ?_, ?_⟩
    · exact nodup_addNodes _ _ h.nodes_nodup
    · rw [es_addNodes]
      show (c.es ++ [sortL e]).Nodup
      rw [List.nodup_append]
      refine ⟨h.es_nodup, by simp, ?_⟩
      intro a ha b hb
      simp at hb
      subst hb
      exact fun hab => hnew (hab ▸ ha)
    · rw [es_addNodes]
      intro e' he'
      rcases List.mem_append.mp he' with h1 | h1
      · exact h.sorted e' h1
      · simp at h1; subst h1; exact sorted_sortL e he
    · rw [es_addNodes]
      intro e' he' y hy
      apply (mem_nodes_addNodes _ _ y).mpr
      rcases List.mem_append.mp he' with h1 | h1
      · exact Or.inl (h.wf e' h1 y hy)
      · simp at h1; subst h1; exact Or.inr hy

theorem inv_removeEdge (c c' : Content) (e : Edge) (h : Inv c) (hr : removeEdge c e = some c') : Inv c' := by
  unfold removeEdge at hr
  split at hr
  · injection hr with hr
    subst hr
    exact ⟨h.nodes_nodup, (List.filter_sublist).nodup h.es_nodup,
      fun e' he' => h.sorted e' (List.mem_filter.mp he').1,
      fun e' he' => h.wf e' (List.mem_filter.mp he').1⟩
  · exact absurd hr (by simp)

theorem sorted_dropNode (x : Nat) (e : Edge) (h : e.Pairwise (· < ·)) : (dropNode x e).Pairwise (· < ·) :=
  List.Pairwise.sublist List.filter_sublist h

theorem inv_keepLoop (x : Nat) (inc : List Edge) : ∀ c : Content, Inv c → (∀ e ∈ inc, e.Pairwise (· < ·)) →
    Inv (inc.foldl (fun c e => addEdge c (dropNode x e)) c) := by
  induction inc with
  | nil => intro c h _; exact h
  | cons a t ih =>
    intro c h hs
    exact ih _ (inv_addEdge c _ (NatSort.nodup_of_strict (sorted_dropNode x a (hs a List.mem_cons_self))) h)
      (fun e he => hs e (List.mem_cons_of_mem _ he))

theorem inv_dropIncident (c : Content) (x : Nat) (h : Inv c) :
    Inv { nodes := c.nodes.filter (fun y => y != x), es := c.es.filter (fun e => !decide (x ∈ e)) } where
  nodes_nodup := (List.filter_sublist).nodup h.nodes_nodup
  es_nodup := (List.filter_sublist).nodup h.es_nodup
  sorted := fun e he => h.sorted e (List.mem_filter.mp he).1
  wf := by
    intro e he y hy
    obtain ⟨he1, he2⟩ := List.mem_filter.mp he
    apply List.mem_filter.mpr
    refine ⟨h.wf e he1 y hy, ?_⟩
    have hx : x ∉ e := by simpa using he2
    have : y ≠ x := fun hyx => hx (hyx ▸ hy)
    simpa using this

theorem inv_removeNode (c c' : Content) (x : Nat) (keep : Bool) (h : Inv c)
    (hr : removeNode c x keep = some c') : Inv c' := by
  unfold removeNode at hr
  split at hr
  · injection hr with hr
    subst hr
    cases keep
    · exact inv_dropIncident c x h
    · exact inv_dropIncident _ x
        (inv_keepLoop x _ c h (fun e he => h.sorted e (List.mem_filter.mp he).1))
  · exact absurd hr (by simp)

theorem inv_sub (c : Content) (ns : List Nat) (h : Inv c) : Inv (sub c ns) where
  nodes_nodup := nodup_addNodes ns {} List.nodup_nil
  es_nodup := (List.filter_sublist).nodup h.es_nodup
  sorted := fun e he => h.sorted e (List.mem_filter.mp he).1
  wf := by
    intro e he y hy
    obtain ⟨_, he2⟩ := List.mem_filter.mp he
    apply (mem_nodes_addNodes ns {} y).mpr
    right
    have := List.all_eq_true.mp he2 y hy
    simpa using this

theorem modifyAt_shape {st st' : List Content} {i : Nat} {f : Content → Option Content}
    (hm : modifyAt st i f = some st') : ∃ c c', c ∈ st ∧ i < st.length ∧ f c = some c' ∧ st' = st.set i c' := by
  unfold modifyAt at hm
  split at hm
  · rename_i c hc
    obtain ⟨c', hfc, rfl⟩ := Option.map_eq_some_iff.mp hm
    exact ⟨c, c', List.mem_of_getElem? hc, (List.getElem?_eq_some_iff.mp hc).1, hfc, rfl⟩
  · cases hm

/-- the precondition of the operations: `add_edge` is given a duplicate-free node tuple; a listing that enters the program
from outside (`load`: loader / generator / filter product, `put`: listing taken after a raised call) is well-formed - the
harness checks exactly this on every such listing (distinct nodes, distinct sorted hyperedges over listed nodes) -/
def Op.Valid : Op → Prop
  | .addEdge _ e => e.Nodup
  | .load c => Inv c
  | .put _ c => Inv c
  | _ => True

/-- the object an operation is applied to (`copy` / `sub` change no existing object) -/
def Op.target : Op → Option Nat
  | .addNode i _ | .addEdge i _ | .removeEdge i _ | .removeNode i _ _ | .clear i | .restore i _ | .put i _ => some i
  | .copy _ | .sub _ _ | .load _ => none

/-- an accepted step writes exactly one content `c'` - into the slot `op.target`, or appended - and `c'` inherits `Inv` -/
theorem step_shape (st st' : List Content) (op : Op) (hs : step st op = some st') :
    ∃ c', (op.Valid → (∀ c ∈ st, Inv c) → Inv c') ∧
      match op.target with
      | some i => i < st.length ∧ st' = st.set i c'
      | none => st' = st ++ [c'] := by
  cases op with
  | addNode i x =>
    obtain ⟨c, _, hc, hi, hf, rfl⟩ := modifyAt_shape hs
    cases hf
    exact ⟨_, fun _ h => inv_addNode c x (h c hc), hi, rfl⟩
  | addEdge i e =>
    obtain ⟨c, _, hc, hi, hf, rfl⟩ := modifyAt_shape hs
    cases hf
    exact ⟨_, fun hv h => inv_addEdge c e hv (h c hc), hi, rfl⟩
  | removeEdge i e =>
    obtain ⟨c, c', hc, hi, hf, rfl⟩ := modifyAt_shape hs
    exact ⟨c', fun _ h => inv_removeEdge c c' e (h c hc) hf, hi, rfl⟩
  | removeNode i x keep =>
    obtain ⟨c, c', hc, hi, hf, rfl⟩ := modifyAt_shape hs
    exact ⟨c', fun _ h => inv_removeNode c c' x keep (h c hc) hf, hi, rfl⟩
  | clear i =>
    obtain ⟨_, _, _, hi, hf, rfl⟩ := modifyAt_shape hs
    cases hf
    exact ⟨_, fun _ _ => inv_empty, hi, rfl⟩
  | copy i =>
    obtain ⟨c, hc, rfl⟩ := Option.map_eq_some_iff.mp hs
    exact ⟨c, fun _ h => h c (List.mem_of_getElem? hc), rfl⟩
  | sub i ns =>
    obtain ⟨c, hc, rfl⟩ := Option.map_eq_some_iff.mp hs
    exact ⟨_, fun _ h => inv_sub c ns (h c (List.mem_of_getElem? hc)), rfl⟩
  | restore i src =>
    cases hc : st[src]? with
    | none => simp only [step, hc] at hs; cases hs
    | some c =>
      simp only [step, hc] at hs
      obtain ⟨_, _, _, hi, hf, rfl⟩ := modifyAt_shape hs
      cases hf
      exact ⟨c, fun _ h => h c (List.mem_of_getElem? hc), hi, rfl⟩
  | load c =>
    cases hs
    exact ⟨c, fun hv _ => hv, rfl⟩
  | put i c =>
    obtain ⟨_, _, _, hi, hf, rfl⟩ := modifyAt_shape hs
    cases hf
    exact ⟨c, fun hv _ => hv, hi, rfl⟩

theorem inv_step (st st' : List Content) (op : Op) (hv : op.Valid) (h : ∀ c ∈ st, Inv c)
    (hs : step st op = some st') : ∀ c ∈ st', Inv c := by
  obtain ⟨c', hc', hsh⟩ := step_shape st st' op hs
  intro d hd
  split at hsh
  · obtain ⟨_, rfl⟩ := hsh
    rcases List.mem_or_eq_of_mem_set hd with h1 | rfl
    · exact h d h1
    · exact hc' hv h
  · subst hsh
    rcases List.mem_append.mp hd with h1 | h1
    · exact h d h1
    · rw [List.mem_singleton.mp h1]; exact hc' hv h

/-! ## frame: an operation on object `i` leaves every other object as it is -/

theorem frame_step (st st' : List Content) (op : Op) (j : Nat) (hj : j < st.length) (ht : op.target ≠ some j)
    (hs : step st op = some st') : st'[j]? = st[j]? := by
  obtain ⟨c', _, hsh⟩ := step_shape st st' op hs
  split at hsh
  · rename_i i hi
    obtain ⟨_, rfl⟩ := hsh
    exact List.getElem?_set_ne (fun hij => ht (by rw [hi, hij]))
  · subst hsh
    exact List.getElem?_append_left hj

/-- `copy` yields an object with the content of its source at that moment -/
theorem copy_step (st st' : List Content) (i : Nat) (hs : step st (.copy i) = some st') :
    st'[st.length]? = st[i]? ∧ st'.length = st.length + 1 := by
  simp only [step] at hs
  cases hc : st[i]? with
  | none => simp [hc] at hs
  | some c => simp [hc] at hs; subst hs; simp

theorem inv_stepSkip (st : List Content) (op : Op) (hv : op.Valid) (h : ∀ c ∈ st, Inv c) :
    ∀ c ∈ stepSkip st op, Inv c := by
  unfold stepSkip
  cases hs : step st op with
  | none => simpa using h
  | some st' => simpa using inv_step st st' op hv h hs

theorem inv_runSkip (ops : List Op) : ∀ (st : List Content), (∀ op ∈ ops, op.Valid) → (∀ c ∈ st, Inv c) →
    ∀ c ∈ runSkip st ops, Inv c := by
  induction ops with
  | nil => intro st _ h; simpa [runSkip] using h
  | cons op t ih =>
    intro st hv h
    have := ih (stepSkip st op) (fun o ho => hv o (List.mem_cons_of_mem _ ho))
      (inv_stepSkip st op (hv op List.mem_cons_self) h)
    simpa [runSkip] using this

/-- a rejected call leaves the whole program state as it was; an accepted one is the step -/
theorem stepSkip_eq (st : List Content) (op : Op) :
    (step st op = none → stepSkip st op = st) ∧ (∀ st', step st op = some st' → stepSkip st op = st') := by
  unfold stepSkip
  constructor
  · intro h; simp [h]
  · intro st' h; simp [h]

/-- a program without a rejected call is the program with rejected calls skipped -/
theorem runSkip_of_run (ops : List Op) : ∀ (st st' : List Content), run st ops = some st' → runSkip st ops = st' := by
  induction ops with
  | nil => intro st st' h; simp [run] at h; simp [runSkip, h]
  | cons op t ih =>
    intro st st' h
    unfold run at h
    split at h
    · rename_i st1 hs
      have := ih st1 st' h
      simpa [runSkip, stepSkip, hs] using this
    · exact absurd h (by simp)

theorem inv_run (ops : List Op) (st st' : List Content) (hv : ∀ op ∈ ops, op.Valid) (h : ∀ c ∈ st, Inv c)
    (hr : run st ops = some st') : ∀ c ∈ st', Inv c :=
  runSkip_of_run ops st st' hr ▸ inv_runSkip ops st hv h

end Hist
end C08
