import Hgxv.Proofs.C14Gen
import Hgxv.Model.C14Trace
/-! The trace model of `scale_free_hypergraph`: the shape of a parsed sequence of `np.random` calls; its validation as the first
of a list of tests that holds (`firstTrue`, `sfError_eq`, `sfValid_eq`). Core Lean only. -/
namespace C14

theorem countExp_append (a b : List SfEv) : countExp (a ++ b) = countExp a + countExp b := by
  simp [countExp, List.filter_append]
theorem countSwap_append (a b : List SfEv) : countSwap (a ++ b) = countSwap a + countSwap b := by
  simp [countSwap, List.filter_append]
theorem countChoice_append (a b : List SfEv) : countChoice (a ++ b) = countChoice a + countChoice b := by
  simp [countChoice, List.filter_append]

/-- a block of swap calls and nothing else -/
structure SwapBlock (pre : List SfEv) : Prop where
  exp : countExp pre = 0
  choice : countChoice pre = 0
  swap : countSwap pre = pre.length
  nochoice : ∀ s d, SfEv.choice s d ∉ pre

theorem swapBlock_nil : SwapBlock [] := ⟨rfl, rfl, rfl, by simp⟩

theorem swapBlock_append {p q : List SfEv} (hp : SwapBlock p) (hq : SwapBlock q) : SwapBlock (p ++ q) := by
  refine ⟨by rw [countExp_append, hp.exp, hq.exp], by rw [countChoice_append, hp.choice, hq.choice],
    by rw [countSwap_append, hp.swap, hq.swap, List.length_append], ?_⟩
  intro s d hm
  rcases List.mem_append.mp hm with h | h
  · exact hp.nochoice s d h
  · exact hq.nochoice s d h

theorem swapBlock_cons {a b : Nat} {pre : List SfEv} (h : SwapBlock pre) : SwapBlock (.swap a b :: pre) :=
  swapBlock_append (p := [.swap a b]) ⟨rfl, rfl, rfl, by simp⟩ h

theorem takeSwaps_spec (n : Nat) : ∀ (j : Nat) (evs evs1 : List SfEv), takeSwaps n j evs = some evs1 →
    ∃ pre, evs = pre ++ evs1 ∧ pre.length = j ∧ SwapBlock pre := by
  intro j
  induction j with
  | zero => intro evs evs1 h; simp only [takeSwaps, Option.some.injEq] at h; exact ⟨[], by simp [h], rfl, swapBlock_nil⟩
  | succ j ih =>
    intro evs evs1 h
    cases evs with
    | nil => simp [takeSwaps] at h
    | cons e evs =>
      cases e with
      | exp m => simp [takeSwaps] at h
      | choice s d => simp [takeSwaps] at h
      | swap a b =>
        simp only [takeSwaps] at h
        split at h
        · obtain ⟨pre, h1, h2, h3⟩ := ih evs evs1 h
          exact ⟨.swap a b :: pre, by simp [h1], by simp [h2], swapBlock_cons h3⟩
        · cases h

theorem skipSwaps_spec (n : Nat) : ∀ (evs evs1 : List SfEv), skipSwaps n evs = some evs1 →
    ∃ pre, evs = pre ++ evs1 ∧ SwapBlock pre := by
  intro evs
  induction evs with
  | nil => intro evs1 h; simp only [skipSwaps, Option.some.injEq] at h; exact ⟨[], by simp [h], swapBlock_nil⟩
  | cons e evs ih =>
    intro evs1 h
    cases e with
    | exp m => simp only [skipSwaps, Option.some.injEq] at h; exact ⟨[], by simp [h], swapBlock_nil⟩
    | choice s d => simp only [skipSwaps, Option.some.injEq] at h; exact ⟨[], by simp [h], swapBlock_nil⟩
    | swap a b =>
      simp only [skipSwaps] at h
      split at h
      · obtain ⟨pre, h1, h3⟩ := ih evs1 h
        exact ⟨.swap a b :: pre, by simp [h1], swapBlock_cons h3⟩
      · cases h

theorem takeChoices_spec (s : Nat) : ∀ (evs : List SfEv),
    evs = (takeChoices s evs).1.map (SfEv.choice s) ++ (takeChoices s evs).2 := by
  intro evs
  induction evs with
  | nil => simp [takeChoices]
  | cons e evs ih =>
    cases e with
    | exp m => simp [takeChoices]
    | swap a b => simp [takeChoices]
    | choice s' d =>
      simp only [takeChoices]
      split
      · rename_i heq; subst heq
        simp only [List.map_cons, List.cons_append, List.cons.injEq, true_and]
        exact ih
      · simp

theorem count_choiceBlock (s : Nat) (g : List (List Nat)) :
    countExp (g.map (SfEv.choice s)) = 0 ∧ countSwap (g.map (SfEv.choice s)) = 0 ∧
    countChoice (g.map (SfEv.choice s)) = g.length := by
  simp [countExp, countSwap, countChoice, List.filter_map, Function.comp_def]

theorem sizeSwaps_spec (n : Nat) (correlated : Bool) (corr : Option Rat) (shuffles : Nat) (first : Bool)
    (evs evs1 : List SfEv) (h : sizeSwaps n correlated corr shuffles first evs = some evs1) :
    ∃ pre, evs = pre ++ evs1 ∧ SwapBlock pre ∧ (correlated = false → pre = []) ∧
      (correlated = true → corr = none → pre.length = shuffles) ∧ shuffles * correlated.toNat ≤ pre.length := by
  unfold sizeSwaps at h
  split at h
  · rename_i hc
    split at h
    · cases h
    · rename_i evs2 h2
      obtain ⟨pre, hp1, hp2, hp3⟩ := takeSwaps_spec n shuffles evs evs2 h2
      split at h
      · rename_i hsp
        obtain ⟨pre2, hq1, hq3⟩ := skipSwaps_spec n evs2 evs1 h
        refine ⟨pre ++ pre2, by rw [hp1, hq1, List.append_assoc], swapBlock_append hp3 hq3, by simp [hc], ?_, ?_⟩
        · intro _ hnone; subst hnone; simp [spearman] at hsp
        · simp [hc, hp2]
      · simp only [Option.some.injEq] at h; subst h
        exact ⟨pre, hp1, hp3, by simp [hc], fun _ _ => hp2, by simp [hc, hp2]⟩
  · rename_i hc
    simp only [Option.some.injEq] at h; subst h
    have hc' : correlated = false := by simpa using hc
    exact ⟨[], rfl, swapBlock_nil, fun _ => rfl, fun h1 => by simp [hc'] at h1, by simp [hc']⟩

theorem sfReturned_groupsOK : ∀ (req : List (Nat × Nat)) (gs : List (List (List Nat))),
    sfReturned req gs = true → gs.length = req.length →
    GroupsOK (fun _ c g => consumedExactly c [] g = true) req gs := by
  intro req
  induction req with
  | nil => intro gs _ _; simp [GroupsOK]
  | cons sc req ih =>
    intro gs h hl
    cases gs with
    | nil => simp at hl
    | cons g gs =>
      obtain ⟨s, c⟩ := sc
      simp only [sfReturned, Bool.and_eq_true] at h
      simp only [GroupsOK]
      exact ⟨h.1, ih gs h.2 (by simpa using hl)⟩

/-- shape of a trace accepted by `sfParse` -/
structure ParseOut (n : Nat) (correlated : Bool) (corr : Option Rat) (shuffles : Nat) (req : List (Nat × Nat))
    (evs : List SfEv) (gs : List (List (List Nat))) : Prop where
  len : gs.length = req.length
  exps : countExp evs = req.length
  choices : countChoice evs = (gs.map List.length).sum
  uncorr : correlated = false → countSwap evs = 0
  shuffled : correlated = true → corr = none → countSwap evs = req.length * shuffles
  atleast : req.length * shuffles * correlated.toNat ≤ countSwap evs
  mem : GroupsOK (fun s _ g => ∀ d ∈ g, SfEv.choice s d ∈ evs) req gs
  only : ∀ s d, SfEv.choice s d ∈ evs → ∃ sc ∈ req, sc.1 = s

/-- the calls of one size (`exponential`, a block of swaps, the choices `g` asked with size `s`) in front of a parsed
    trace -/
theorem ParseOut.cons {n : Nat} {correlated : Bool} {corr : Option Rat} {shuffles s c m : Nat} {req : List (Nat × Nat)}
    {pre rest : List SfEv} {g : List (List Nat)} {gs : List (List (List Nat))}
    (hI : ParseOut n correlated corr shuffles req rest gs) (hb : SwapBlock pre) (hunc : correlated = false → pre = [])
    (hshuf : correlated = true → corr = none → pre.length = shuffles) (hatl : shuffles * correlated.toNat ≤ pre.length) :
    ParseOut n correlated corr shuffles ((s, c) :: req) (.exp m :: (pre ++ (g.map (SfEv.choice s) ++ rest))) (g :: gs) := by
  obtain ⟨c1, c2, c3⟩ := count_choiceBlock s g
  have hsw : countSwap (.exp m :: (pre ++ (g.map (SfEv.choice s) ++ rest))) = pre.length + countSwap rest := by
    rw [← List.singleton_append, countSwap_append, countSwap_append, countSwap_append, hb.swap, c2]
    simp [countSwap]
  refine ⟨by simp [hI.len], ?_, ?_, ?_, ?_, ?_, ⟨fun d hd => by simp [hd], groupsOK_imp ?_ _ _ hI.mem⟩, ?_⟩
  · rw [← List.singleton_append, countExp_append, countExp_append, countExp_append, hb.exp, c1, hI.exps]
    simp [countExp]; omega
  · rw [← List.singleton_append, countChoice_append, countChoice_append, countChoice_append, hb.choice, c3, hI.choices]
    simp [countChoice]
  · intro hc; rw [hsw, hI.uncorr hc, hunc hc]; rfl
  · intro hc hn
    rw [hsw, hI.shuffled hc hn, hshuf hc hn]
    simp only [List.length_cons, Nat.add_mul, Nat.one_mul]; omega
  · have h2 := hI.atleast
    rw [hsw]
    simp only [List.length_cons, Nat.add_mul, Nat.one_mul]
    omega
  · intro s2 _ g' hg d hd
    simp [hg d hd]
  · intro s2 d hm
    simp only [List.mem_cons, reduceCtorEq, List.mem_append, List.mem_map, false_or] at hm
    rcases hm with hm | ⟨d', _, heq⟩ | hm
    · exact absurd hm (hb.nochoice s2 d)
    · cases heq; exact ⟨(s, c), by simp, rfl⟩
    · obtain ⟨sc, hsc, heq⟩ := hI.only s2 d hm
      exact ⟨sc, by simp [hsc], heq⟩

theorem sfParse_spec (n : Nat) (correlated : Bool) (corr : Option Rat) (shuffles : Nat) :
    ∀ (req : List (Nat × Nat)) (first : Bool) (evs : List SfEv) (gs : List (List (List Nat))),
      sfParse n correlated corr shuffles first req evs = some gs →
      ParseOut n correlated corr shuffles req evs gs := by
  intro req
  induction req with
  | nil =>
    intro first evs gs h
    cases evs with
    | nil =>
      simp only [sfParse, Option.some.injEq] at h; subst h
      exact ⟨rfl, rfl, rfl, fun _ => rfl, fun _ _ => by simp [countSwap], by simp [countSwap], by simp [GroupsOK],
        by simp⟩
    | cons e evs => simp [sfParse] at h
  | cons sc req ih =>
    intro first evs gs h
    obtain ⟨s, c⟩ := sc
    cases evs with
    | nil => simp [sfParse] at h
    | cons e evs =>
      cases e with
      | swap a b => simp [sfParse] at h
      | choice s' d => simp [sfParse] at h
      | exp m =>
        simp only [sfParse] at h
        split at h
        · split at h
          · cases h
          · rename_i evs1 hsw
            split at h
            · cases h
            · rename_i gs' hrec
              simp only [Option.some.injEq] at h; subst h
              obtain ⟨pre, hpre, hblock, hunc, hshuf, hatl⟩ := sizeSwaps_spec n correlated corr shuffles first evs evs1 hsw
              rw [hpre]
              -- `takeChoices s evs1` also occurs in the groups: rewrite the trace argument alone
              conv => enter [6]; rw [takeChoices_spec s evs1]
              exact (ih false _ gs' hrec).cons hblock hunc hshuf hatl
        · cases h

theorem scaleFreeTrace_eq_done {n : Nat} {sizes : List Nat} {counts : List Int} {scaleKeys : List Nat} {correlated : Bool}
    {corr : Option Rat} {shuffles : Int} {evs : List SfEv} {h : HG}
    (hrun : scaleFreeTrace n sizes counts scaleKeys correlated corr shuffles evs = .done h) :
    sfValid sizes counts scaleKeys correlated corr shuffles = true ∧
    admissible n (sizes.zip (counts.map Int.toNat)) = true ∧
    ∃ groups, sfParse n correlated corr shuffles.toNat true (sizes.zip (counts.map Int.toNat)) evs = some groups ∧
      sfReturned (sizes.zip (counts.map Int.toNat)) groups = true ∧
      h = sfLoop (addNodes {} (List.range n)) (sizes.zip (counts.map Int.toNat)) groups := by
  simp only [scaleFreeTrace] at hrun
  split at hrun
  · rename_i hcond
    simp only [Bool.and_eq_true] at hcond
    split at hrun
    · cases hrun
    · rename_i groups hparse
      split at hrun
      · rename_i hret
        cases hrun
        exact ⟨hcond.1.1, hcond.1.2, groups, hparse, hret, rfl⟩
      · cases hrun
  · cases hrun

section validation

/-- a validation that runs its tests in order and raises at the first one that holds: the number, counted from `i`, of
    that test -/
def firstTrue (i : Nat) : List Bool → Option Nat
  | [] => none
  | b :: bs => if b then some i else firstTrue (i + 1) bs

theorem firstTrue_eq_none (i : Nat) (bs : List Bool) : firstTrue i bs = none ↔ bs.all (!·) = true := by
  induction bs generalizing i with
  | nil => simp [firstTrue]
  | cons b bs ih => cases b <;> simp [firstTrue, ih]

theorem firstTrue_some {i j : Nat} {bs : List Bool} (h : firstTrue i bs = some j) :
    ∃ k, j = i + k ∧ bs[k]? = some true := by
  induction bs generalizing i with
  | nil => cases h
  | cons b bs ih =>
    cases b
    · obtain ⟨k, rfl, hk⟩ := ih (i := i + 1) h
      exact ⟨k + 1, by omega, hk⟩
    · cases h; exact ⟨0, rfl, rfl⟩

theorem firstTrue_holds {i k : Nat} {bs : List Bool} (h : firstTrue i bs = some (i + k)) : bs[k]? = some true := by
  obtain ⟨k', hk, h1⟩ := firstTrue_some h
  obtain rfl : k = k' := by omega
  exact h1

theorem firstTrue_range {i j : Nat} {bs : List Bool} (h : firstTrue i bs = some j) : i ≤ j ∧ j < i + bs.length := by
  obtain ⟨k, rfl, h1⟩ := firstTrue_some h
  have := (List.getElem?_eq_some_iff.mp h1).1
  omega

variable (sizes : List Nat) (counts : List Int) (scaleKeys : List Nat) (correlated : Bool)
    (corr : Option Rat) (shuffles : Int)

/-- the eight tests of `scale_free_hypergraph`, lines 37-59, in the order of the code -/
def sfTests : List Bool :=
  [shuffles != 0 && !correlated, shuffles < 0, (match corr with | none => false | some c => c < 0 || c > 1),
   corr.isSome && !correlated, corr.isSome && shuffles != 0, !sizes.all (fun k => scaleKeys.contains k),
   !scaleKeys.all (fun k => sizes.contains k), !counts.all (fun c => !(c < 0))]

theorem sfError_eq :
    sfError sizes counts scaleKeys correlated corr shuffles
      = firstTrue 1 (sfTests sizes counts scaleKeys correlated corr shuffles) := by
  simp only [sfError, sfTests, firstTrue, Nat.reduceAdd, decide_eq_true_eq]
  rfl

theorem sfValid_eq :
    sfValid sizes counts scaleKeys correlated corr shuffles
      = (sfTests sizes counts scaleKeys correlated corr shuffles).all (!·) := by
  cases corr <;> simp only [sfValid, sfTests, List.all_cons, List.all_nil, Bool.and_true, Bool.true_and, Bool.and_assoc,
    Bool.not_not, Bool.not_false]

end validation

end C14
