import Hgxv.Proofs.C02Node
/-! C02: ids are allocated increasingly and adjacency lists are append-only, so the id lists and
the key table are sorted by id (`Ord`); `Ord` is kept, beside the invariant, by the primitive steps (`ordPres`).  (Its use - a
role listing is EQUAL, as a list, to the filter of the key list - and `applyOp_ord` are in `C02NodeRef`.) -/

namespace C02
open AL

-- `Inv` keeps its rows as `AL.Index (· ≠ ·)` and the id order is this separate predicate, so a role listing is a `Perm` of the filter of
-- the key list first; `Inv.roleEdges_all` (`C02NodeRef`) makes it an equality by `idOf`, not through `Index.row_eq_filter` at `<`.
structure Ord (s : Store) : Prop where
  edge_sorted : (s.edgeList.map (·.2)).Pairwise (· < ·)
  adjS_sorted : ∀ n ids, get? s.adjS n = some ids → ids.Pairwise (· < ·)
  adjT_sorted : ∀ n ids, get? s.adjT n = some ids → ids.Pairwise (· < ·)

theorem Ord.of_eq {s s' : Store} (o : Ord s) (h1 : s'.edgeList = s.edgeList) (h2 : s'.adjS = s.adjS)
    (h3 : s'.adjT = s.adjT) : Ord s' := by
  constructor
  · rw [h1]; exact o.edge_sorted
  · rw [h2]; exact o.adjS_sorted
  · rw [h3]; exact o.adjT_sorted

theorem ord_empty (w : Bool) (i : Nat) (hm : Meta) : Ord { weighted := w, nextId := i, hmeta := hm } := by
  constructor <;> simp

theorem ord_init (w : Bool) (hm : Meta) : Ord { weighted := w, hmeta := hm } := ord_empty w 0 hm

theorem getD_sorted {adj : Adj} (o : ∀ n ids, get? adj n = some ids → ids.Pairwise (· < ·)) (n : Node) :
    ((get? adj n).getD []).Pairwise (· < ·) := by
  cases h : get? adj n with
  | none => exact List.Pairwise.nil
  | some ids => exact o n ids h

theorem Ord.of_rows {s : Store} (he : (s.edgeList.map (·.2)).Pairwise (· < ·))
    (hS : ∀ n, ((get? s.adjS n).getD []).Pairwise (· < ·)) (hT : ∀ n, ((get? s.adjT n).getD []).Pairwise (· < ·)) :
    Ord s :=
  ⟨he, fun n ids hn => by have := hS n; rw [hn] at this; exact this,
    fun n ids hn => by have := hT n; rw [hn] at this; exact this⟩

theorem addNode_ord (s : Store) (n : Node) (md : Option Meta) (o : Ord s) : Ord (addNode s n md) := by
  refine Ord.of_rows ?_ (fun m => ?_) (fun m => ?_)
  · rw [(addNode_fields s n md).1]; exact o.edge_sorted
  · rw [addNode_rowS]; exact getD_sorted o.adjS_sorted m
  · rw [addNode_adjT]; split
    · exact List.Pairwise.nil
    · exact getD_sorted o.adjT_sorted m

theorem sorted_snoc (ids : List Nat) (x : Nat) (h : ids.Pairwise (· < ·)) (hx : ∀ i ∈ ids, i < x) :
    (ids ++ [x]).Pairwise (· < ·) := by
  refine List.pairwise_append.mpr ⟨h, by simp, ?_⟩
  intro a ha b hb; simp at hb; subst hb; exact hx a ha

theorem addEdgeNew_ord (s : Store) (k : Key) (wt : Int) (md : Meta) (hk : KeyWF k)
    (hget : get? s.edgeList k = none) (h : Inv s) (o : Ord s) : Ord (addEdgeNew s k wt md) := by
  refine Ord.of_rows ?_ (fun n => ?_) (fun n => ?_)
  · rw [(addEdgeNew_fields s k wt md).1, set_of_not_mem _ _ _ hget, List.map_append]
    refine sorted_snoc _ _ o.edge_sorted ?_
    intro i hi
    obtain ⟨p, hp, hpi⟩ := List.mem_map.mp hi
    subst hpi
    exact h.id_lt _ _ (h.rev_of_edge _ _ (get?_of_mem _ _ _ h.nd_edge hp))
  · rw [addEdgeNew_rowS s k wt md h.rows hk.nodupS]; split
    · refine sorted_snoc _ _ (getD_sorted o.adjS_sorted n) fun i hi => ?_
      obtain ⟨k', hk', _⟩ := (h.indexS.mem_row n i).mp hi
      exact h.id_lt _ _ hk'
    · exact getD_sorted o.adjS_sorted n
  · rw [addEdgeNew_rowT s k wt md h.rows hk.nodupT]; split
    · refine sorted_snoc _ _ (getD_sorted o.adjT_sorted n) fun i hi => ?_
      obtain ⟨k', hk', _⟩ := (h.indexT.mem_row n i).mp hi
      exact h.id_lt _ _ hk'
    · exact getD_sorted o.adjT_sorted n

theorem addEdgeKey_ord (s : Store) (k : Key) (w : Option Int) (md : Option Meta) (hk : KeyWF k) (h : Inv s) (o : Ord s) :
    Ord (addEdgeKey s k w md).1 := by
  unfold addEdgeKey
  split
  · exact o
  · split
    · rename_i hget; exact addEdgeNew_ord s k _ _ hk hget h o
    · exact o.of_eq rfl rfl rfl

theorem removeEdgeKey_ord (s : Store) (k : Key) (h : Inv s) (o : Ord s) : Ord (removeEdgeKey s k).1 := by
  unfold removeEdgeKey
  cases hk : get? s.edgeList k with
  | none => exact o
  | some id =>
    have wf := h.key_wf id k (h.rev_of_edge k id hk)
    refine Ord.of_rows ?_ (fun n => ?_) (fun n => ?_)
    · exact List.Pairwise.sublist ((erase_sublist s.edgeList k).map _) o.edge_sorted
    · show ((get? (unlink s.adjS id k.1) n).getD []).Pairwise (· < ·)
      rw [unlink_row _ _ _ wf.nodupS]; split
      · exact (getD_sorted o.adjS_sorted n).erase id
      · exact getD_sorted o.adjS_sorted n
    · show ((get? (unlink s.adjT id k.2) n).getD []).Pairwise (· < ·)
      rw [unlink_row _ _ _ wf.nodupT]; split
      · exact (getD_sorted o.adjT_sorted n).erase id
      · exact getD_sorted o.adjT_sorted n

theorem dropNode_ord (s : Store) (n : Node) (h : Inv s) (o : Ord s) : Ord (dropNode s n) := by
  constructor
  · exact o.edge_sorted
  · intro m ids hh
    have hh' : get? (AL.erase s.adjS n) m = some ids := hh
    rw [get?_erase _ _ _ h.nd_adjS] at hh'
    split at hh'
    · cases hh'
    · exact o.adjS_sorted m ids hh'
  · intro m ids hh
    have hh' : get? (AL.erase s.adjT n) m = some ids := hh
    rw [get?_erase _ _ _ h.nd_adjT] at hh'
    split at hh'
    · cases hh'
    · exact o.adjT_sorted m ids hh'

theorem ordPres : Pres fun s => Inv s ∧ Ord s where
  inv h := h.1
  empty w i hm := ⟨inv_empty w i hm, ord_empty w i hm⟩
  addNode s n md h := ⟨addNode_inv s n md h.1, addNode_ord s n md h.2⟩
  addEdgeKey s k w md hk h := ⟨addEdgeKey_inv s k w md hk h.1, addEdgeKey_ord s k w md hk h.1 h.2⟩
  removeEdgeKey s k h := ⟨removeEdgeKey_inv s k h.1, removeEdgeKey_ord s k h.1 h.2⟩
  dropNode s n hno h := ⟨dropNode_inv s n h.1 hno, dropNode_ord s n h.1 h.2⟩
  setWeight s k id w hk hw h := ⟨Inv.pres.setWeight s k id w hk hw h.1, h.2.of_eq rfl rfl rfl⟩
  setEmeta s k id md hk h := ⟨Inv.pres.setEmeta s k id md hk h.1, h.2.of_eq rfl rfl rfl⟩
  setNmeta s n md hn h := ⟨Inv.pres.setNmeta s n md hn h.1, h.2.of_eq rfl rfl rfl⟩
  setHmeta _ md h := ⟨h.1.set_hmeta md, h.2.of_eq rfl rfl rfl⟩
  setFlag _ h := ⟨h.1.set_weighted true, h.2.of_eq rfl rfl rfl⟩

end C02
