import Hgxv.Proofs.C14
/-! The store operations of the C14 model (`addEdge`, `addMany`, `removeEdges`), the class invariants `WF` with what a batch of
`add_edge` calls over existing nodes leaves intact (`AddOut`), and the object stores (`Heap`, `HeapM`: fresh ids, writes into one
object). Core Lean only. -/
namespace C14

/-- the record of `sortE raw` after `add_edge` -/
def recAfter (h : HG) (e : Edge) (w md : Nat) : Rec :=
  match AL.get? h.edges e with
  | none => ((if h.weighted then w else 1), md)
  | some r => ((if h.weighted then r.1 + w else r.1), md)

theorem keys_addEdge (h : HG) (raw : List Nat) (w md : Nat) :
    keys (addEdge h raw w md) = insNew (keys h) (sortE raw) := by
  unfold addEdge
  split
  · rename_i hg
    have : sortE raw ∉ AL.keys h.edges := (AL.get?_eq_none_iff _ _).mp hg
    simp [addEdgeNew, keys, AL.keys, insNew_of_not_mem (show sortE raw ∉ List.map (·.1) h.edges from this)]
  · simp only [addEdgeOld, keys]; exact _root_.AL.keys_set _ _ _

@[simp] theorem weighted_addEdge (h : HG) (raw : List Nat) (w md : Nat) :
    (addEdge h raw w md).weighted = h.weighted := by
  unfold addEdge; split <;> simp [addEdgeNew, addEdgeOld]

theorem nodes_addEdge_of_subset (h : HG) (raw : List Nat) (w md : Nat) (hs : ∀ x ∈ raw, x ∈ h.nodes) :
    (addEdge h raw w md).nodes = h.nodes := by
  unfold addEdge; split
  · simp only [addEdgeNew]; exact insAll_of_subset (fun x hx => hs x (mem_sortE.mp hx))
  · simp [addEdgeOld]

theorem get?_addEdge_ne (h : HG) (raw : List Nat) (w md : Nat) (k : Edge) (hne : sortE raw ≠ k) :
    AL.get? (addEdge h raw w md).edges k = AL.get? h.edges k := by
  unfold addEdge; split
  · simp only [addEdgeNew]; rw [AL.get?_append_single]; simp [hne]
  · simp only [addEdgeOld]; exact AL.get?_set_ne _ _ _ _ hne

theorem get?_addEdge_self (h : HG) (raw : List Nat) (w md : Nat) :
    AL.get? (addEdge h raw w md).edges (sortE raw) = some (recAfter h (sortE raw) w md) := by
  unfold addEdge recAfter; split
  · rename_i hg; simp only [addEdgeNew]; rw [AL.get?_append_single, hg]; simp
  · rename_i r hg; simp only [addEdgeOld]; rw [AL.get?_set_self, hg]

theorem edges_addEdge_fresh (h : HG) (raw : List Nat) (w md : Nat) (hf : sortE raw ∉ keys h) :
    (addEdge h raw w md).edges = h.edges ++ [(sortE raw, ((if h.weighted then w else 1), md))] := by
  unfold addEdge
  rw [(AL.get?_eq_none_iff _ _).mpr hf]; rfl

@[simp] theorem addMany_nil (h : HG) : addMany h [] = h := rfl
@[simp] theorem addMany_cons (h : HG) (t : List Nat × Rec) (L : List (List Nat × Rec)) :
    addMany h (t :: L) = addMany (addEdge h t.1 t.2.1 t.2.2) L := rfl

/-- invariants of the `Hypergraph` class (C01): hyperedge keys are distinct sorted tuples over existing nodes; an
    unweighted hypergraph stores weight `1` everywhere (`add_edge` / `set_weight` refuse anything else) -/
structure WF (h : HG) : Prop where
  nodupKeys : (keys h).Nodup
  sortedKeys : ∀ k ∈ keys h, sortE k = k
  nodesIn : ∀ k ∈ keys h, ∀ x ∈ k, x ∈ h.nodes
  unitW : h.weighted = false → ∀ r ∈ h.edges, r.2.1 = 1

theorem unitW_addEdge (h : HG) (raw : List Nat) (w md : Nat) (hw : h.weighted = false)
    (hu : ∀ r ∈ h.edges, r.2.1 = 1) : ∀ r ∈ (addEdge h raw w md).edges, r.2.1 = 1 := by
  intro r hr
  unfold addEdge at hr
  split at hr
  · simp only [addEdgeNew, hw, List.mem_append, List.mem_singleton] at hr
    rcases hr with hr | hr
    · exact hu r hr
    · subst hr; simp
  · rename_i r0 hg
    simp only [addEdgeOld, hw] at hr
    rcases AL.mem_set _ _ _ _ hr with hr | hr
    · subst hr; simp; exact hu _ (AL.mem_of_get? _ _ _ hg)
    · exact hu r hr

theorem WF.addEdge {h : HG} (wf : WF h) (raw : List Nat) (w md : Nat) (hs : ∀ x ∈ raw, x ∈ h.nodes) :
    WF (addEdge h raw w md) where
  nodupKeys := by rw [keys_addEdge]; exact nodup_insNew wf.nodupKeys
  sortedKeys := by
    intro k hk; rw [keys_addEdge, mem_insNew] at hk
    rcases hk with hk | rfl
    · exact wf.sortedKeys k hk
    · simp
  nodesIn := by
    intro k hk x hx
    rw [nodes_addEdge_of_subset h raw w md hs]
    rw [keys_addEdge, mem_insNew] at hk
    rcases hk with hk | rfl
    · exact wf.nodesIn k hk x hx
    · exact hs x (by simpa using hx)
  unitW := by
    intro hw; rw [weighted_addEdge] at hw
    exact unitW_addEdge h raw w md hw (wf.unitW hw)

/-- the result `r` of the `add_edge` calls `L`, all over existing nodes, on `h` -/
structure AddOut (h : HG) (L : List (List Nat × Rec)) (r : HG) : Prop where
  nodes : r.nodes = h.nodes
  weighted : r.weighted = h.weighted
  keys : keys r = insAll (keys h) (L.map fun t => sortE t.1)
  other : ∀ k, (∀ t ∈ L, sortE t.1 ≠ k) → AL.get? r.edges k = AL.get? h.edges k
  wf : WF h → WF r

theorem addMany_out (L : List (List Nat × Rec)) : ∀ (h : HG), (∀ t ∈ L, ∀ x ∈ t.1, x ∈ h.nodes) →
    AddOut h L (addMany h L) := by
  induction L with
  | nil => exact fun h _ => ⟨rfl, rfl, rfl, fun _ _ => rfl, id⟩
  | cons t L ih =>
    intro h hs
    have ht := hs t (by simp)
    have hn := nodes_addEdge_of_subset h t.1 t.2.1 t.2.2 ht
    have I := ih (addEdge h t.1 t.2.1 t.2.2) (fun t' ht' x hx => hn ▸ hs t' (by simp [ht']) x hx)
    exact ⟨I.nodes.trans hn, I.weighted.trans (weighted_addEdge ..), I.keys.trans (by rw [keys_addEdge]; rfl),
      fun k hk => (I.other k fun t' ht' => hk t' (by simp [ht'])).trans (get?_addEdge_ne _ _ _ _ _ (hk t (by simp))),
      fun w => I.wf (w.addEdge _ _ _ ht)⟩

theorem WF.addMany (L : List (List Nat × Rec)) : ∀ {h : HG}, WF h → (∀ t ∈ L, ∀ x ∈ t.1, x ∈ h.nodes) →
    WF (addMany h L) :=
  fun wf hs => (addMany_out L _ hs).wf wf

theorem addEdges_out (h : HG) (es : List Edge) (hs : ∀ e ∈ es, (∀ x ∈ e, x ∈ h.nodes) ∧ sortE e = e) :
    AddOut h (es.map fun e => (e, (1, 0))) (addEdges h es) ∧ keys (addEdges h es) = insAll (keys h) es := by
  have A := addMany_out (es.map fun e => (e, ((1 : Nat), (0 : Nat)))) h (by
    intro t ht x hx
    obtain ⟨e, he, rfl⟩ := List.mem_map.mp ht
    exact (hs e he).1 x hx)
  refine ⟨A, A.keys.trans ?_⟩
  rw [List.map_map]
  congr 1
  conv => rhs; rw [← List.map_id es]
  exact List.map_congr_left fun e he => (hs e he).2

theorem edges_addMany_fresh (L : List (List Nat × Rec)) : ∀ (h : HG),
    (L.map (fun t => sortE t.1)).Nodup → (∀ t ∈ L, sortE t.1 ∉ keys h) →
    (addMany h L).edges = h.edges ++ L.map (fun t => (sortE t.1, ((if h.weighted then t.2.1 else 1), t.2.2))) := by
  induction L with
  | nil => simp
  | cons t L ih =>
    intro h hnd hf
    simp only [List.map_cons, List.nodup_cons] at hnd
    have hft : sortE t.1 ∉ keys h := hf t (by simp)
    rw [addMany_cons, ih _ hnd.2]
    · rw [edges_addEdge_fresh h t.1 t.2.1 t.2.2 hft]; simp
    · intro t' ht'
      rw [keys_addEdge, mem_insNew]
      intro hc
      rcases hc with hc | hc
      · exact hf t' (by simp [ht']) hc
      · apply hnd.1; rw [← hc]; exact List.mem_map_of_mem (f := fun t => sortE t.1) ht'

@[simp] theorem removeEdges_nil (h : HG) : removeEdges h [] = h := rfl
@[simp] theorem removeEdges_cons (h : HG) (k : Edge) (ks : List Edge) :
    removeEdges h (k :: ks) = removeEdges (removeEdge h k) ks := rfl

@[simp] theorem nodes_removeEdges (ks : List Edge) : ∀ (h : HG), (removeEdges h ks).nodes = h.nodes := by
  induction ks with
  | nil => simp
  | cons k ks ih => intro h; simp [ih, removeEdge]

@[simp] theorem weighted_removeEdges (ks : List Edge) : ∀ (h : HG), (removeEdges h ks).weighted = h.weighted := by
  induction ks with
  | nil => simp
  | cons k ks ih => intro h; simp [ih, removeEdge]

theorem edges_removeEdges (ks : List Edge) (h : HG) (hnd : (keys h).Nodup) (hs : ∀ k ∈ ks, sortE k = k) :
    (removeEdges h ks).edges = h.edges.filter (fun r => !(ks.contains r.1)) := by
  refine Eq.trans ?_ ((AL.foldl_erase_eq_filter ks h.edges hnd).trans (List.filter_congr fun r _ => by simp))
  clear hnd
  induction ks generalizing h with
  | nil => rfl
  | cons k ks ih =>
    rw [removeEdges_cons, ih _ (fun k' hk' => hs k' (by simp [hk'])), List.foldl_cons, removeEdge, hs k (by simp)]

/-- `copy()` allocates an object that is not live: no live object has the id above every id in use -/
theorem get?_fresh {β : Type} (H : List (Nat × β)) : AL.get? H ((AL.keys H).foldl max 0 + 1) = none :=
  (AL.get?_eq_none_iff H _).mpr fun h => by
    have := (ListLib.le_foldl_max (AL.keys H) 0).2 _ h
    omega

theorem fresh_ne {β : Type} {H : List (Nat × β)} {a : Nat} {v : β} (ha : AL.get? H a = some v) :
    (AL.keys H).foldl max 0 + 1 ≠ a := by
  intro e
  have := get?_fresh H
  rw [e, ha] at this; cases this

theorem get?_foldl_set_ne {β : Type} (r b : Nat) (hb : b ≠ r) (xs : List β) : ∀ H : List (Nat × β),
    AL.get? (xs.foldl (fun G x => AL.set G r x) H) b = AL.get? H b := by
  induction xs with
  | nil => intro H; rfl
  | cons x xs ih => intro H; rw [List.foldl_cons, ih]; exact AL.get?_set_ne _ _ _ _ (Ne.symm hb)
end C14
