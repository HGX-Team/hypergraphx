import Hgxv.Proofs.C06Link
import Hgxv.Proofs.C04Ref
/-! # C06 ↔ C04 (`MultiplexHypergraph`): the content-level `add_node` / `add_edge` of `Model/C06.lean` are the
operations of `C04.Spec`, and every store that satisfies the invariant of the full model (so every reachable one) is a well-formed C06 content.  The layer registry
(`_existing_layers`, `C04.Spec.layers`) is not part of a JSON content: `ofSpec04` forgets it (C06 carries it only on the
binary path, `Full.layers`).  Core Lean only. -/
namespace C06

def mkey (k : C04.Key) : MKey := ⟨k.1, k.2⟩

theorem mkey_inj : ∀ a b : C04.Key, mkey a = mkey b → a = b := by
  intro a b h
  obtain ⟨a1, a2⟩ := a
  obtain ⟨b1, b2⟩ := b
  simp only [mkey, MKey.mk.injEq] at h
  rw [h.1, h.2]

/-- the abstract state of the full `MultiplexHypergraph` model as a C06 content (registry forgotten) -/
def ofSpec04 (a : C04.Spec) : Content MKey := ofTables mkey a.weighted a.hmeta a.nodes a.edges

theorem spec04_addNode (a : C04.Spec) (n : Nat) (md : Option C04.Meta) :
    C04.Spec.addNode a n md = { a with nodes := tAddNode a.nodes n (md.getD []) } := by
  unfold C04.Spec.addNode tAddNode
  cases h : AL.get? a.nodes n with
  | none => rfl
  | some old =>
    cases old with
    | nil => rfl
    | cons x xs => rfl

theorem spec04_touchNodes (l : List Nat) (a : C04.Spec) :
    C04.Spec.touchNodes a l = { a with nodes := tTouchAll a.nodes l } := by
  unfold C04.Spec.touchNodes tTouchAll
  induction l generalizing a with
  | nil => rfl
  | cons n l ih =>
    simp only [List.foldl_cons]
    rw [ih, spec04_addNode]; rfl

theorem rejects04 (wtd : Bool) (w : Option Int) :
    (!wtd && w.getD C04.one != C04.one) = rejectsWeight wtd w := by
  have : C04.one = unit := rfl
  cases w with
  | none => simp [rejectsWeight]
  | some q => cases wtd <;> simp [rejectsWeight, this, bne]

theorem mergeEntry04 (wtd : Bool) (old : Option (Int × TMeta)) (w : Option Int) (md : TMeta)
    (h : ¬ rejectsWeight wtd w = true) :
    C04.Spec.mergeEntry wtd old (weightOrUnit w) md = tEntry wtd old (weightOrUnit w) md := by
  cases old with
  | none => simp only [C04.Spec.mergeEntry, tEntry, accepted_weight wtd w h]
  | some o => rfl

theorem spec04_addEdge (a : C04.Spec) (raw : List Nat) (l : Nat) (w : Option Int) (md : Option C04.Meta) :
    C04.Spec.addEdge a raw l w md =
      if rejectsWeight a.weighted w then (a, .rej)
      else ({ a with
                layers := C04.addLayer a.layers l
                edges := AL.set a.edges (C04.canon raw, l)
                  (tEntry a.weighted (AL.get? a.edges (C04.canon raw, l)) (weightOrUnit w) (md.getD []))
                nodes := tTouchAll a.nodes (C04.canon raw) }, .ok) := by
  unfold C04.Spec.addEdge
  rw [rejects04]
  by_cases hr : rejectsWeight a.weighted w = true
  · simp [hr]
  · have hw : w.getD C04.one = weightOrUnit w := by cases w <;> rfl
    simp only [hr, Bool.false_eq_true, if_false, C04.Spec.addEdgeCore, spec04_touchNodes, hw,
      mergeEntry04 a.weighted _ w _ hr]

theorem link_addNode04 (a : C04.Spec) (n : Nat) (md : Option C04.Meta) :
    ofSpec04 (C04.Spec.addNode a n md) = addNode (ofSpec04 a) n (md.map decMeta) := by
  rw [spec04_addNode]; unfold ofSpec04; rw [addNode_ofTables]

/-- `add_edge(edge, layer, weight, metadata)` of the spec is C06's `addEdge` on the content, accepted and rejected alike -/
theorem link_addEdge04 (a : C04.Spec) (raw : List Nat) (l : Nat) (w : Option Int) (md : Option C04.Meta) :
    addEdge (ofSpec04 a) ⟨raw, l⟩ w (md.map decMeta) =
      match C04.Spec.addEdge a raw l w md with
      | (a', .ok) => some (ofSpec04 a')
      | (_, .rej) => none := by
  rw [spec04_addEdge]
  unfold ofSpec04
  rw [addEdge_ofTables mkey mkey_inj a.weighted a.hmeta a.nodes a.edges ⟨raw, l⟩ (C04.canon raw, l)
    (by show (⟨sort raw, l⟩ : MKey) = mkey (C04.canon raw, l); simp [mkey, C04.canon_eq, sort_eq])]
  by_cases hr : rejectsWeight a.weighted w = true
  · simp [hr]
  · simp only [hr, Bool.false_eq_true, if_false]
    have : Kind.touchAlways MKey = true := rfl
    simp only [this, Bool.true_or, if_true]
    rfl

theorem link_new04 (w : Bool) (hm : C04.HMeta) :
    ofSpec04 (C04.Spec.init w hm) =
      setHMeta (construct MKey w) (decMeta (AL.set (AL.set hm C04.hkWeighted (C04.tokBool w)) C04.hkType C04.tokMultiplex)) :=
  rfl

theorem link_setHMeta04 (a : C04.Spec) (hm : C04.HMeta) :
    ofSpec04 (C04.Spec.step a (.setHMeta hm)).1 = setHMeta (ofSpec04 a) (decMeta hm) := rfl

theorem ofSpec04_onto (c : Content MKey) : ∃ a : C04.Spec, ofSpec04 a = c :=
  ⟨{ weighted := c.weighted, hmeta := encMeta c.hmeta, nodes := mapKV id encMeta c.nodes,
     edges := mapKV (fun k : MKey => (k.nodes, k.layer)) (fun v => (v.1, encMeta v.2)) c.edges },
   ofTables_enc mkey (fun k : MKey => (k.nodes, k.layer)) (fun _ => rfl) c⟩

/-- the spec's own entry points, as `load_hypergraph` uses them: `MultiplexHypergraph(weighted=w)` then
`set_hypergraph_metadata`, `add_node(n, md)`, `add_edge(nodes, layer, weight, md)` -/
def specM : SpecOps MKey C04.Spec where
  of := ofSpec04
  new w hm := (C04.Spec.step (C04.Spec.init w []) (.setHMeta hm)).1
  addNode a n md := (C04.Spec.step a (.addNode n (some md))).1
  addEdge a k w md :=
    match C04.Spec.step a (.addEdge k.nodes k.layer w (some md)) with
    | (a', .ok) => some a'
    | (_, .rej) => none
  okKey _ := True
  of_new w hm := rfl
  of_addNode a n md := link_addNode04 a n (some md)
  of_addEdge a k w md _ := by
    have h := link_addEdge04 a k.nodes k.layer w (some md)
    simp only [Option.map_some] at h
    rw [h]
    simp only [C04.Spec.step]
    cases C04.Spec.addEdge a k.nodes k.layer w (some md) with
    | mk a' o => cases o <;> rfl

theorem WF_ofSpec04_abs (s : C04.Store) (h : C04.Inv s) : WF (ofSpec04 (C04.abs s)) :=
  WF_ofTables mkey mkey_inj _ (C04.abs_tab h)
    (fun k hk => by show (⟨sort k.1, k.2⟩ : MKey) = ⟨k.1, k.2⟩; rw [sort_of_sorted _ hk.le]) (fun _ => rfl)

theorem link_store_addNode04 (s : C04.Store) (h : C04.Inv s) (n : Nat) (md : Option C04.Meta) :
    ofSpec04 (C04.abs (C04.step s (.addNode n md)).1) = addNode (ofSpec04 (C04.abs s)) n (md.map decMeta) := by
  have hs := (C04.abs_step s (.addNode n md) h trivial).1
  rw [hs]
  exact link_addNode04 (C04.abs s) n md

theorem link_store_addEdge04 (s : C04.Store) (h : C04.Inv s) (raw : List Nat) (hraw : raw.Nodup) (l : Nat)
    (w : Option Int) (md : Option C04.Meta) :
    addEdge (ofSpec04 (C04.abs s)) ⟨raw, l⟩ w (md.map decMeta) =
      match C04.step s (.addEdge raw l w md) with
      | (s', .ok) => some (ofSpec04 (C04.abs s'))
      | (_, .rej) => none := by
  obtain ⟨h1, h2⟩ := C04.abs_step s (.addEdge raw l w md) h hraw
  rw [link_addEdge04]
  simp only [C04.Spec.step] at h1 h2
  revert h1 h2
  generalize C04.step s (.addEdge raw l w md) = r
  generalize C04.Spec.addEdge (C04.abs s) raw l w md = q
  obtain ⟨s', o1⟩ := r
  obtain ⟨a', o2⟩ := q
  intro h1 h2
  simp only at h1 h2
  subst h1 h2
  cases o1 <;> rfl

theorem match_outM {β : Type} (r : C04.Store × C04.Out) (g : C04.Store → β) :
    (match r with
      | (s', .ok) => some (g s')
      | (_, .rej) => none) = if r.2 = .ok then some (g r.1) else none := by
  obtain ⟨s', o⟩ := r
  cases o <;> simp

abbrev StoreM := { s : C04.Store // C04.Inv s }

def storeM : SpecOps MKey StoreM where
  of s := ofSpec04 (C04.abs s.1)
  new w hm := ⟨(C04.step (C04.init w []) (.setHMeta hm)).1, C04.step_inv _ (.setHMeta hm) (C04.inv_init w []) trivial⟩
  addNode s n md := ⟨(C04.step s.1 (.addNode n (some md))).1, C04.step_inv _ (.addNode n (some md)) s.2 trivial⟩
  addEdge s k w md :=
    if hk : k.nodes.Nodup then
      if (C04.step s.1 (.addEdge k.nodes k.layer w (some md))).2 = .ok then
        some ⟨(C04.step s.1 (.addEdge k.nodes k.layer w (some md))).1,
          C04.step_inv _ (.addEdge k.nodes k.layer w (some md)) s.2 hk⟩
      else none
    else none
  okKey k := k.nodes.Nodup
  of_new w hm := rfl
  of_addNode s n md := link_store_addNode04 s.1 s.2 n (some md)
  of_addEdge s k w md hk := by
    have h := link_store_addEdge04 s.1 s.2 k.nodes hk k.layer w (some md)
    simp only [Option.map_some] at h
    rw [h]
    rw [match_outM]
    simp only [dif_pos hk]
    split <;> rfl

theorem okKeys04 (s : C04.Store) (h : C04.Inv s) : ∀ e ∈ (ofSpec04 (C04.abs s)).edges, storeM.okKey e.1 := by
  intro e he
  obtain ⟨p, hp, rfl⟩ := (mem_mapKV mkey decVal2 _ e).mp he
  exact ((C04.abs_tab h).key p hp).1.nodup

end C06
