import Hgxv.Model.C14Raw
import Hgxv.Proofs.C14Hoad
/-! Lemmas about the argument conversions of `Hgxv/Model/C14Raw.lean` (core Lean only). -/
namespace C14

theorem optAll_map_some {α β : Type} (f : α → Option β) (g : β → α) (hg : ∀ b, f (g b) = some b) :
    ∀ l : List β, optAll f (l.map g) = some l
  | [] => rfl
  | b :: l => by simp [optAll, hg, optAll_map_some f g hg l]

theorem optAll_spec {α β : Type} (f : α → Option β) : ∀ (l : List α) (r : List β), optAll f l = some r →
    r.length = l.length ∧ ∀ p ∈ l.zip r, f p.1 = some p.2
  | [], r, h => by cases h; simp
  | a :: l, r, h => by
    unfold optAll at h
    cases ha : f a with
    | none => simp [ha] at h
    | some b =>
      cases hl : optAll f l with
      | none => simp [ha, hl] at h
      | some bs =>
        simp [ha, hl] at h
        subst h
        have ih := optAll_spec f l bs hl
        refine ⟨by simp [ih.1], fun p hp => ?_⟩
        rcases List.mem_cons.mp hp with rfl | hp
        · exact ha
        · exact ih.2 p hp

namespace Num

/-- `j < ceil(a / (d+1))  ↔  j * (d+1) < a` -/
theorem lt_ceilDiv (a d j : Nat) : j < (a + d) / (d + 1) ↔ j * (d + 1) < a := by
  rw [Nat.lt_iff_add_one_le, Nat.le_div_iff_mul_le (show 0 < d + 1 by omega), Nat.add_mul]
  omega

theorem natLt_real (j : Nat) (n : Int) (d : Nat) :
    natLt j (real n d) = some (decide (j < (n.toNat + d) / (d + 1))) := by
  simp only [natLt, Option.some.injEq, decide_eq_decide, lt_ceilDiv]
  have hc : ((j : Int) * ((d : Int) + 1)) = ((j * (d + 1) : Nat) : Int) := by simp [Int.natCast_mul]
  rw [hc]
  generalize j * (d + 1) = m
  omega

/-- `loopCount` IS the exit point of the loop `while len(acc) < x`: the test holds at every smaller length and fails
    at this one (Python's own comparison `natLt`, no rounding: `int`/`float` comparisons are exact) -/
theorem loopCount_spec (x : Num) (k : Nat) (h : x.loopCount = some k) :
    (∀ j, j < k → x.natLt j = some true) ∧ x.natLt k = some false := by
  cases x with
  | int i =>
    simp only [loopCount, Option.some.injEq] at h
    subst h
    refine ⟨fun j hj => ?_, ?_⟩ <;> simp only [natLt, Option.some.injEq, decide_eq_true_eq, decide_eq_false_iff_not] <;> omega
  | bool b =>
    simp only [loopCount, Option.some.injEq] at h
    subst h
    refine ⟨fun j hj => ?_, ?_⟩ <;> simp only [natLt, Option.some.injEq, decide_eq_true_eq, decide_eq_false_iff_not] <;> omega
  | real n d =>
    simp only [loopCount, Option.some.injEq] at h
    subst h
    refine ⟨fun j hj => ?_, ?_⟩ <;> rw [natLt_real] <;> simp
    exact hj
  | text v => simp [loopCount] at h

theorem loopCount_none (x : Num) : x.loopCount = none ↔ ∀ j, x.natLt j = none := by
  cases x <;> simp [loopCount, natLt]

theorem toInt_real_floor (n : Int) (d : Nat) (k : Int) (hn : 0 ≤ n) (h : toInt (real n d) = some k) :
    0 ≤ k ∧ k * ((d : Int) + 1) ≤ n ∧ n < (k + 1) * ((d : Int) + 1) := by
  simp only [toInt, Option.some.injEq] at h
  subst h
  have hd : (0 : Int) < (d : Int) + 1 := by omega
  rw [Int.tdiv_eq_ediv_of_nonneg hn]
  refine ⟨Int.ediv_nonneg hn (by omega), Int.ediv_mul_le n (by omega), ?_⟩
  exact Int.lt_ediv_add_one_mul_self n hd

/-- the two conversions of a non-negative real differ by at most one, and they agree exactly on integral values:
    `int(x) ≤ passes of the loop ≤ int(x) + 1` (`3.7`: 3 and 4 - what a generation loop that reads the raw count where the
    validation read `int(count)` mixes up: `scaleFreeUnconverted`, the seeded change C14-d1) -/
theorem toInt_le_loopCount (n : Int) (d : Nat) (k : Int) (c : Nat) (hn : 0 ≤ n)
    (hk : toInt (real n d) = some k) (hc : loopCount (real n d) = some c) :
    k ≤ c ∧ (c : Int) ≤ k + 1 ∧ (n = k * ((d : Int) + 1) → (c : Int) = k) := by
  obtain ⟨h0, h1, h2⟩ := toInt_real_floor n d k hn hk
  obtain ⟨s1, s2⟩ := loopCount_spec _ c hc
  simp only [natLt, Option.some.injEq, decide_eq_true_eq, decide_eq_false_iff_not, Int.not_lt] at s1 s2
  have hD : (0 : Int) < (d : Int) + 1 := by omega
  -- `k (d+1) ≤ n ≤ c (d+1)`, and `(c-1) (d+1) < n < (k+1) (d+1)` when `c ≥ 1`
  have hkc : k ≤ c := Int.le_of_mul_le_mul_right (Int.le_trans h1 s2) hD
  refine ⟨hkc, ?_, fun he => ?_⟩
  · cases c with
    | zero => omega
    | succ c' =>
      have : (c' : Int) < k + 1 := Int.lt_of_mul_lt_mul_right (Int.lt_trans (s1 c' (by omega)) h2) (by omega)
      omega
  · apply Decidable.byContradiction
    intro hne
    have := s1 k.toNat (by omega)
    rw [Int.toNat_of_nonneg h0, ← he] at this
    omega

theorem index_ofNat (n : Nat) : (ofNat n).index = some (n : Int) := rfl
theorem npSize_ofNat (n : Nat) : (ofNat n).npSize = some (n : Int) := rfl
theorem succ_ofNat (s : Nat) : (ofNat s).succ = some (ofNat (s + 1)) := by simp [succ, ofNat]
theorem sampleK_ofNat (pop s : Nat) : sampleK pop (ofNat s) = s := by simp [sampleK, index, ofNat]
theorem choiceK_ofNat (pop s : Nat) : choiceK pop (ofNat s) = s := by simp [choiceK, npSize, ofNat]
theorem natValue_ofNat (s : Nat) : natValue (ofNat s) = some s := by simp [natValue, ofNat]

theorem sampleK_le (pop : Nat) (x : Num) (h : sampleK pop x ≤ pop) :
    ∃ i : Int, x.index = some i ∧ 0 ≤ i ∧ (sampleK pop x : Int) = i := by
  unfold sampleK at h ⊢
  cases hx : x.index with
  | none => simp only [hx] at h; omega
  | some i =>
    simp only [hx] at h ⊢
    by_cases hi : 0 ≤ i
    · simp only [hi, if_true] at h ⊢
      exact ⟨i, rfl, hi, by omega⟩
    · simp only [hi, if_false] at h
      omega

end Num

/-- `out = []`: no order or no time step, `N` and `time` may never have been looked at -/
theorem hoadRaw_eq_done {N time : Num} {acts : List (Num × List Rat)} {draws : List HoadDraw} {out : List (Nat × Edge)}
    (h : hoadRaw N time acts draws = .done out) :
    out = [] ∨ ∃ n t : Int, N.index = some n ∧ time.index = some t ∧
      hoad n.toNat t.toNat (acts.map (fun a => (a.1.sampleK n.toNat, a.2))) draws = .done out := by
  have empty : ∀ ds, hoad 0 0 [] ds = .done out → out = [] := by
    intro ds hd
    obtain ⟨o, ho, rfl⟩ := hoad_eq_done hd
    cases ho; rfl
  unfold hoadRaw at h
  split at h
  · exact Or.inl (empty _ h)
  · split at h
    · split at h <;> cases h
    · rename_i t ht
      split at h
      · exact Or.inl (empty _ h)
      · split at h
        · split at h <;> cases h
        · rename_i n hn
          exact Or.inr ⟨n, t, hn, ht, h⟩

end C14
