import Hgxv.Proofs.C08Hist
import Hgxv.Proofs.C01Shrink
/-! # C08's own history model ↔ C01's abstract `Spec` (core Lean only)

`Hgxv/Model/C08Hist.lean` has a small content model of its own (`Hist.Content` = node listing + hyperedge listing, set
semantics, no weights, no metadata, no ids).  `contentOf : C01.Spec → Hist.Content` forgets weights and metadata of the
abstract hypergraph of the full model.  Operation by operation, an ACCEPTED call of `C01.Spec` is the `Hist` operation on
the forgotten content - same listings, same listing ORDER:

* `add_node` (`addNode_content`), `add_edge` with any weight / metadata arguments (`addEdge_content`),
  `remove_edge` (`removeEdge_content`, rejected exactly when `Hist.removeEdge` is `none`), `clear`,
* `remove_node(n, keep_edges)` (`removeNode_content`): the verdict-threaded loops of `Spec.removeNode` (`seqOps`) are the
  plain folds of `Hist.removeNode`; under `SWF` (what every abstract state of a history satisfies, `C01.abs_swf`) the call
  is rejected exactly when `Hist.removeNode` is `none`.

Differences that remain (see notes/C08.md): `Hist.Op.copy` APPENDS an object while `C01.Cmd.copy i j` overwrites slot `j`;
`Hist.sub` (`subhypergraph`) builds a new object and has no single C01 operation; `Hist.run` ends at a rejected call
(`none`) while a rejected C01 call leaves the state as it is; C01 has batched calls, weights and metadata. -/
namespace C08
namespace Link
open AL

/-- forget weights and metadata: `get_nodes()` / `get_edges()` of the abstract hypergraph -/
def contentOf (a : C01.Spec) : Hist.Content := { nodes := keys a.nodes, es := keys a.edges }

theorem sortL_eq_canon (l : List Nat) : Hist.sortL l = C01.canon l := by rw [Hist.sortL_eq, C01.canon_eq]

theorem touchNode_content (a : C01.Spec) (n : Nat) :
    contentOf (C01.Spec.touchNode a n) = Hist.addNode (contentOf a) n := by
  unfold C01.Spec.touchNode Hist.addNode
  by_cases hn : (get? a.nodes n).isSome = true
  · have : n ∈ (contentOf a).nodes := (AL.mem_keys_iff _ _).mpr hn
    simp only [hn, if_true, this]
  · have hnn : get? a.nodes n = none := by simpa using hn
    have : n ∉ (contentOf a).nodes := fun h => hn ((AL.mem_keys_iff _ _).mp h)
    simp only [hn, if_false, this, Bool.false_eq_true]
    simp only [contentOf, keys_set_of_not_mem _ _ _ hnn]

/-- `add_node(n, metadata)` -/
theorem addNode_content (a : C01.Spec) (n : Nat) (md : Option C01.Meta) :
    contentOf (C01.Spec.addNode a n md) = Hist.addNode (contentOf a) n := by
  rw [← touchNode_content]
  unfold C01.Spec.addNode
  have hp : (get? (C01.Spec.touchNode a n).nodes n).isSome = true := by
    unfold C01.Spec.touchNode
    by_cases hn : (get? a.nodes n).isSome = true
    · simp only [hn, if_true]
    · simp only [hn, if_false, Bool.false_eq_true]; simp
  generalize C01.Spec.touchNode a n = b at hp
  simp only []
  split
  · simp only [contentOf, keys_set_of_mem _ _ _ hp]
  · rfl

theorem foldl_touch_content (e : List Nat) : ∀ a : C01.Spec,
    contentOf (e.foldl C01.Spec.touchNode a) = Hist.addNodes (contentOf a) e := by
  induction e with
  | nil => intro a; rfl
  | cons x t ih =>
    intro a
    simp only [List.foldl_cons, Hist.addNodes]
    rw [ih, touchNode_content]
    rfl

/-- an accepted `add_edge(raw, weight, metadata)` - whatever the two optional arguments are -/
theorem addEdge_content (a : C01.Spec) (raw : List Nat) (w : Option Int) (md : Option C01.Meta)
    (hok : (C01.Spec.addEdge a raw w md).2 = .ok) :
    contentOf (C01.Spec.addEdge a raw w md).1 = Hist.addEdge (contentOf a) raw := by
  unfold C01.Spec.addEdge at hok ⊢
  unfold Hist.addEdge
  rw [sortL_eq_canon]
  by_cases hrej : (!a.weighted && w.isSome && w != some C01.one) = true
  · rw [if_pos hrej] at hok; cases hok
  · rw [if_neg hrej]
    cases hg : get? a.edges (C01.canon raw) with
    | none =>
      have hne : C01.canon raw ∉ (contentOf a).es := fun h => by
        have := (AL.mem_keys_iff _ _).mp h; rw [hg] at this; cases this
      simp only [hg, hne, if_false]
      rw [foldl_touch_content]
      simp only [contentOf, keys_set_of_not_mem _ _ _ hg]
    | some p =>
      obtain ⟨w0, md0⟩ := p
      have hin : C01.canon raw ∈ (contentOf a).es := (AL.mem_keys_iff _ _).mpr (by rw [hg]; rfl)
      simp only [hg, hin, if_true]
      simp only [contentOf, keys_set_of_mem _ _ _ (show (get? a.edges (C01.canon raw)).isSome = true by rw [hg]; rfl)]

/-- an unweighted hypergraph accepts `add_edge(raw)` without a weight -/
theorem addEdge_ok (a : C01.Spec) (raw : List Nat) (md : Option C01.Meta) :
    (C01.Spec.addEdge a raw none md).2 = .ok := by
  unfold C01.Spec.addEdge
  simp only [Option.isSome_none, Bool.and_false, Bool.false_and, Bool.false_eq_true, if_false]
  split <;> rfl

/-- `remove_edge(raw)`: KeyError exactly when `Hist.removeEdge` is `none`, else the same listing -/
theorem removeEdge_content (a : C01.Spec) (raw : List Nat) :
    Hist.removeEdge (contentOf a) raw =
      if (C01.Spec.removeEdge a raw).2 = .ok then some (contentOf (C01.Spec.removeEdge a raw).1) else none := by
  unfold C01.Spec.removeEdge Hist.removeEdge
  rw [sortL_eq_canon]
  by_cases hp : (get? a.edges (C01.canon raw)).isSome = true
  · have hin : C01.canon raw ∈ (contentOf a).es := (AL.mem_keys_iff _ _).mpr hp
    simp only [hp, if_true, hin]
    congr 1
    simp only [contentOf, C01.keys_del]
    congr 1
    apply List.filter_congr
    intro e _
    by_cases he : e = C01.canon raw <;> simp [he]
  · have hne : C01.canon raw ∉ (contentOf a).es := fun h => hp ((AL.mem_keys_iff _ _).mp h)
    simp [hp, hne]

theorem clear_content (a : C01.Spec) : contentOf (C01.Spec.apply a .clear).1 = Hist.clear (contentOf a) := rfl

/-- a verdict-threaded loop that was accepted is the plain fold on the content -/
theorem seqOps_content {α : Type} (f : C01.Spec → α → C01.Spec × C01.Out) (g : Hist.Content → α → Hist.Content)
    (hstep : ∀ a x, (f a x).2 = .ok → contentOf (f a x).1 = g (contentOf a) x) :
    ∀ (xs : List α) (a a' : C01.Spec), C01.seqOps f a xs = (a', .ok) → contentOf a' = xs.foldl g (contentOf a) := by
  intro xs
  induction xs with
  | nil =>
    intro a a' h
    simp only [C01.seqOps, Prod.mk.injEq, and_true] at h
    rw [h]; rfl
  | cons x t ih =>
    intro a a' h
    have hs := hstep a x
    simp only [C01.seqOps] at h
    generalize hr : f a x = r at h hs
    obtain ⟨a1, o⟩ := r
    cases o with
    | ok =>
      have hs' := hs rfl
      simp only at h hs'
      rw [List.foldl_cons, ← hs']
      exact ih a1 a' h
    | rej => simp at h

theorem shrinkInto_content (n : Nat) (a : C01.Spec) (e : List Nat) (hok : (C01.Spec.shrinkInto n a e).2 = .ok) :
    contentOf (C01.Spec.shrinkInto n a e).1 = Hist.addEdge (contentOf a) (Hist.dropNode n e) := by
  have hd : Hist.dropNode n e = e.filter (· ≠ n) := by
    unfold Hist.dropNode
    apply List.filter_congr
    intro y _
    by_cases hy : y = n <;> simp [hy]
  rw [hd]
  exact addEdge_content a _ _ _ hok

/-- the hyperedges after the re-insertion loop of `keep_edges=True`: the old ones and the shrunk ones -/
theorem mem_es_keepLoop (x : Nat) (inc : List Edge) : ∀ (c : Hist.Content) (e : Edge),
    e ∈ (inc.foldl (fun c e => Hist.addEdge c (Hist.dropNode x e)) c).es →
      e ∈ c.es ∨ ∃ e' ∈ inc, e = Hist.sortL (Hist.dropNode x e') := by
  induction inc with
  | nil => intro c e h; exact Or.inl h
  | cons a t ih =>
    intro c e h
    rcases ih _ e h with h1 | ⟨e', he', h1⟩
    · rw [Hist.es_addEdge] at h1
      split at h1
      · exact Or.inl h1
      · rcases List.mem_append.mp h1 with h2 | h2
        · exact Or.inl h2
        · exact Or.inr ⟨a, List.mem_cons_self, by simpa using h2⟩
    · exact Or.inr ⟨e', List.mem_cons_of_mem _ he', h1⟩

/-- **`remove_node(n, keep_edges)`, accepted**: the content of the result is `Hist.removeNode` of the content -/
theorem removeNode_content (a a' : C01.Spec) (ha : C01.SWF a) (n : Nat) (keep : Bool)
    (hok : C01.Spec.removeNode a n keep = (a', .ok)) :
    Hist.removeNode (contentOf a) n keep = some (contentOf a') := by
  -- `hc1`: re-insertion loop = fold; `hc2`: `remove_edges` = filter; `hnodes`: the node goes; `hmem`: both filters select the same
  unfold C01.Spec.removeNode at hok
  by_cases hn : (get? a.nodes n).isSome = true
  · simp only [hn, Bool.not_true, Bool.false_eq_true, if_false] at hok
    have hin : n ∈ (contentOf a).nodes := (AL.mem_keys_iff _ _).mpr hn
    generalize h1 : (if keep = true then C01.seqOps (C01.Spec.shrinkInto n) a (C01.Spec.incidentKeys a n)
      else (a, C01.Out.ok)) = r1 at hok
    obtain ⟨a1, o1⟩ := r1
    cases o1 with
    | rej => simp at hok
    | ok =>
      simp only at hok
      generalize h2 : C01.Spec.removeEdges a1 (C01.Spec.incidentKeys a n) = r2 at hok
      obtain ⟨a2, o2⟩ := r2
      cases o2 with
      | rej => simp at hok
      | ok =>
        simp only [Prod.mk.injEq, and_true] at hok
        have hinc : C01.Spec.incidentKeys a n = (contentOf a).es.filter (fun e => decide (n ∈ e)) := rfl
        have hc1 : contentOf a1 = (if keep = true then
            ((contentOf a).es.filter (fun e => decide (n ∈ e))).foldl
              (fun c e => Hist.addEdge c (Hist.dropNode n e)) (contentOf a) else contentOf a) := by
          cases keep with
          | false => simp only [Bool.false_eq_true, if_false, Prod.mk.injEq, and_true] at h1 ⊢; rw [h1]
          | true =>
            simp only [if_true] at h1 ⊢
            rw [← hinc]
            exact seqOps_content (C01.Spec.shrinkInto n) _ (shrinkInto_content n) _ a a1 h1
        have hce : ∀ e ∈ C01.Spec.incidentKeys a n, C01.canon e = e := fun e he =>
          (ha.key e ((C01.mem_spec_incidentKeys a n e).mp he).1).2.1
        -- the accepted `remove_edges` loop is a filter of the map (`C01.spec_removeLoop_filter`), hence of its key listing
        have hc2 : contentOf a2 = { contentOf a1 with
            es := (contentOf a1).es.filter (fun e' => decide (e' ∉ C01.Spec.incidentKeys a n)) } := by
          unfold C01.Spec.removeEdges at h2
          split at h2
          · rename_i hg
            simp only [Bool.and_eq_true, List.all_eq_true, decide_eq_true_eq, C01.map_canon_id _ hce] at hg
            rw [C01.spec_removeLoop_filter _ a1 (fun e he => ⟨hce e he, hce e he ▸ hg.1 e he⟩) hg.2] at h2
            rw [← (Prod.mk.inj h2).1]
            simp only [contentOf, AL.keys_filter_key (fun k => decide (k ∉ C01.Spec.incidentKeys a n))]
          · simp at h2
        -- among the keys after phase 1, the incident keys of `a` are exactly those containing `n`
        have hmem : ∀ e ∈ (contentOf a1).es, (e ∈ C01.Spec.incidentKeys a n ↔ n ∈ e) := by
          intro e he
          constructor
          · intro h; exact ((C01.mem_spec_incidentKeys a n e).mp h).2
          · intro hne
            have hold : e ∈ (contentOf a).es := by
              rw [hc1] at he
              cases keep with
              | false => simpa using he
              | true =>
                simp only [if_true] at he
                rcases mem_es_keepLoop n _ _ e he with h | ⟨e', _, h⟩
                · exact h
                · exfalso
                  rw [h, Hist.mem_sortL] at hne
                  simp [Hist.dropNode] at hne
            exact (C01.mem_spec_incidentKeys a n e).mpr ⟨(AL.mem_keys_iff _ _).mp hold, hne⟩
        unfold Hist.removeNode
        rw [if_pos hin]
        congr 1
        rw [← hok]
        have hnodes : contentOf { a2 with nodes := C01.del a2.nodes n } =
            { nodes := (contentOf a2).nodes.filter (fun y => y != n), es := (contentOf a2).es } := by
          simp only [contentOf, C01.keys_del]
          congr 1
          apply List.filter_congr
          intro y _
          by_cases hy : y = n <;> simp [hy]
        rw [hnodes, hc2, hc1]
        simp only []
        rw [Option.some.injEq, Hist.Content.mk.injEq]
        refine ⟨rfl, ?_⟩
        apply List.filter_congr
        intro e he
        have := hmem e (by rw [hc1]; exact he)
        by_cases hne : n ∈ e
        · simp [hne, this.mpr hne]
        · have hni : e ∉ C01.Spec.incidentKeys a n := fun h => hne (this.mp h)
          simp [hne, hni]
  · have hnf : (get? a.nodes n).isSome = false := by simpa using hn
    simp [hnf] at hok

/-- `remove_node` on an abstract state of a history: rejected exactly when `Hist.removeNode` is `none` (absent node) -/
theorem removeNode_verdict (a : C01.Spec) (ha : C01.SWF a) (n : Nat) (keep : Bool) :
    Hist.removeNode (contentOf a) n keep =
      if (C01.Spec.removeNode a n keep).2 = .ok then some (contentOf (C01.Spec.removeNode a n keep).1) else none := by
  by_cases hn : (get? a.nodes n).isSome = true
  · have hacc : ∃ a', C01.Spec.removeNode a n keep = (a', .ok) := by
      cases keep with
      | false => obtain ⟨a', h, _⟩ := C01.spec_removeNode_drop a ha n hn; exact ⟨a', h⟩
      | true => obtain ⟨a', h, _⟩ := C01.spec_removeNode_keep a ha n hn; exact ⟨a', h⟩
    obtain ⟨a', h⟩ := hacc
    rw [removeNode_content a a' ha n keep h, h]
    simp
  · have hnf : (get? a.nodes n).isSome = false := by simpa using hn
    have hne : n ∉ (contentOf a).nodes := fun h => hn ((AL.mem_keys_iff _ _).mp h)
    have : C01.Spec.removeNode a n keep = (a, .rej) := by unfold C01.Spec.removeNode; simp [hnf]
    rw [this]
    simp [Hist.removeNode, hne]

end Link
end C08
