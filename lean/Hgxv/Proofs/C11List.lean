import Hgxv.Model.C11Tables
import Hgxv.Proofs.ListLib
/-! # C11 - lemmas about `dedup`, sums of `Nat` lists, `countP`, and three facts on duplicate-free lists
(`nodup_map_of_inj`, `exists_outside`, `subset_of_full`) that mention nothing else of the model (core Lean only) -/
namespace C11

theorem mem_dedup {α} [BEq α] [LawfulBEq α] {l : List α} {x : α} : x ∈ dedup l ↔ x ∈ l :=
  (ListLib.mem_foldl_of_step _ (fun _ _ x => ListLib.mem_addIfNew List.contains_iff_mem x) l [] x).trans (by simp)

theorem nodup_dedup {α} [BEq α] [LawfulBEq α] (l : List α) : (dedup l).Nodup :=
  ListLib.foldl_inv _ (fun _ _ h => ListLib.nodup_addIfNew List.contains_iff_mem h) l [] List.nodup_nil

theorem sum_map_single {α : Type} (L : List α) (hL : L.Nodup) (f : α → Nat) (a : α) (ha : a ∈ L)
    (h : ∀ x ∈ L, x ≠ a → f x = 0) : (L.map f).sum = f a := by
  induction L with
  | nil => cases ha
  | cons b L ih =>
    have hnd := List.nodup_cons.mp hL
    simp only [List.map_cons, List.sum_cons]
    by_cases hba : b = a
    · subst hba
      rw [ListLib.sum_map_eq_zero L f (fun x hx => h x (by simp [hx]) (fun e => hnd.1 (e ▸ hx)))]
      omega
    · have ha' : a ∈ L := (List.mem_cons.mp ha).resolve_left fun e => hba e.symm
      rw [h b (by simp) hba, ih hnd.2 ha' (fun x hx => h x (by simp [hx]))]
      omega

theorem sum_count_nodup {α : Type} [BEq α] [LawfulBEq α] (L : List α) (hL : L.Nodup) (X : List α) :
    (L.map fun l => X.count l).sum = X.countP (fun x => L.contains x) := by
  -- counting by key with the item itself as key
  have h := ListLib.sum_by_key_of_nodup L hL X id (fun _ => 1)
  simp only [ListLib.sum_map_const _ _ 1 (fun _ _ => rfl), Nat.one_mul, ← List.countP_eq_length_filter] at h
  exact h

theorem dedup_snoc {α} [BEq α] [LawfulBEq α] (P : List α) (k : α) :
    dedup (P ++ [k]) = if k ∈ P then dedup P else dedup P ++ [k] := by
  have h1 : dedup (P ++ [k]) = if (dedup P).contains k then dedup P else dedup P ++ [k] := by
    unfold dedup; rw [List.foldl_append]; rfl
  rw [h1]
  by_cases h : k ∈ P
  · have : (dedup P).contains k = true := List.contains_iff_mem.mpr (mem_dedup.mpr h)
    rw [this]; simp [h]
  · have : (dedup P).contains k = false :=
      Bool.eq_false_iff.mpr (fun hh => h (mem_dedup.mp (List.contains_iff_mem.mp hh)))
    rw [this]; simp [h]

theorem dedup_length_le {α} [BEq α] [LawfulBEq α] (l : List α) : (dedup l).length ≤ l.length :=
  List.Nodup.length_le_of_subset (nodup_dedup l) (fun _ h => mem_dedup.mp h)

theorem pairwise_of_countP_le_one {α} (q : α → α → Bool) (l : List α)
    (h : ∀ x ∈ l, l.countP (q x) ≤ 1) (hr : ∀ x ∈ l, q x x = true) :
    l.Pairwise (fun a b => q a b = false) := by
  induction l with
  | nil => exact List.Pairwise.nil
  | cons a l ih =>
    refine List.pairwise_cons.mpr ⟨?_, ih ?_ (fun x hx => hr x (by simp [hx]))⟩
    · intro b hb
      have := h a (by simp)
      rw [List.countP_cons, hr a (by simp)] at this
      simp only [if_true] at this
      have h0 : l.countP (q a) = 0 := by omega
      have := List.countP_eq_zero.mp h0 b hb
      simpa using this
    · intro x hx
      have := h x (by simp [hx])
      rw [List.countP_cons] at this
      omega

theorem nodup_map_of_inj {α β} {f : α → β} {l : List α} (h : l.Nodup)
    (hf : ∀ a ∈ l, ∀ b ∈ l, f a = f b → a = b) : (l.map f).Nodup := by
  rw [List.nodup_iff_pairwise_ne, List.pairwise_map]
  exact List.Pairwise.imp_of_mem (fun ha hb hab heq => hab (hf _ ha _ hb heq)) h

theorem exists_outside {S sub : List Nat} (hS : S.Nodup) (hlt : sub.length < S.length) :
    ∃ x ∈ S, x ∉ sub := by
  apply Decidable.byContradiction
  intro hno
  have : ∀ x ∈ S, x ∈ sub := by
    intro x hx
    apply Decidable.byContradiction
    intro hn; exact hno ⟨x, hx, hn⟩
  have := hS.length_le_of_subset this
  omega

theorem subset_of_full {S sub : List Nat} (hsub : sub.Nodup)
    (hlen : sub.length = S.length) (hin : ∀ x ∈ sub, x ∈ S) : ∀ x ∈ S, x ∈ sub := by
  intro x hx
  apply Decidable.byContradiction
  intro hn
  have hnd : (x :: sub).Nodup := List.nodup_cons.mpr ⟨hn, hsub⟩
  have := hnd.length_le_of_subset (l₂ := S) (by
    intro y hy
    cases hy with
    | head => exact hx
    | tail _ h => exact hin y h)
  simp at this; omega

end C11
