import Hgxv.Proofs.C01Abs
/-! C01: `SWF` - what the abstract states of histories satisfy, the hypothesis of every closed form on `Spec` (here and in
`C01Sub*.lean`) - and what `remove_node` does to the abstract hypergraph, in declarative terms.

`Spec.removeNode` is written as the code runs (re-insert every incident hyperedge without the node, then remove
the incident hyperedges, then drop the node).  Here its *result* is characterised by lookups:
with `keep_edges=False` exactly the keys containing the node disappear; with `keep_edges=True` the key set becomes
`{ e \ {n} }`, a key's weight is its old weight plus the weights of the hyperedges that shrink onto it, its metadata
that of a hyperedge that shrinks onto it, every other entry is untouched.  Core Lean only. -/
namespace C01
open AL

/-- what the abstract states of histories satisfy (see `abs_swf`, `Spec.run_swf`): `AL.TabWF` (`abs_tab`) in lookup form, which
is what the loop lemmas rewrite with; it has no clause for the node list (`abs_tab` gives its `Nodup`) -/
structure SWF (a : Spec) : Prop where
  knd : (keys a.edges).Nodup
  key : ∀ e, (get? a.edges e).isSome → e.Nodup ∧ canon e = e ∧ ∀ m ∈ e, (get? a.nodes m).isSome
  unw : a.weighted = false → ∀ e w md, get? a.edges e = some (w, md) → w = one

theorem abs_swf {s : Store} (h : Inv s) : SWF (abs s) :=
  have t := abs_tab h
  ⟨t.knd, fun _ he => let ⟨⟨a, b⟩, c⟩ := t.of_key ((mem_keys_iff _ _).mpr he); ⟨a, b, fun m hm => (mem_keys_iff _ _).mp (c m hm)⟩,
   fun hw e w md hg => t.unw hw (e, (w, md)) (mem_of_get? _ _ _ hg)⟩

/-- the hyperedge without the node (`[m for m in edge if m != n]`; canonical when `edge` is) -/
def sh (n : Node) (e : Edge) : Edge := e.filter (· ≠ n)

theorem not_mem_sh (n : Node) (e : Edge) : n ∉ sh n e := by simp [sh]

theorem sh_of_not_mem {n : Node} {e : Edge} (h : n ∉ e) : sh n e = e := by
  unfold sh
  apply List.filter_eq_self.mpr
  intro a ha
  simp only [ne_eq, decide_not, Bool.not_eq_eq_eq_not, Bool.not_true, decide_eq_false_iff_not]
  intro heq; exact h (heq ▸ ha)

theorem mem_of_mem_sh {n m : Node} {e : Edge} (h : m ∈ sh n e) : m ∈ e := (List.mem_filter.mp h).1

/-- sum of the weights of the listed hyperedges that shrink onto `x` -/
def wsum (a : Spec) (n : Node) (es : List Edge) (x : Edge) : Int :=
  ((es.filter (fun e => decide (sh n e = x))).map (Spec.weightOf a)).sum

theorem wsum_nil (a : Spec) (n : Node) (x : Edge) : wsum a n [] x = 0 := rfl

theorem wsum_cons (a : Spec) (n : Node) (e : Edge) (t : List Edge) (x : Edge) :
    wsum a n (e :: t) x = (if sh n e = x then Spec.weightOf a e else 0) + wsum a n t x := by
  unfold wsum
  by_cases h : sh n e = x <;> simp [h]

theorem wsum_snoc (a : Spec) (n : Node) (t : List Edge) (e x : Edge) :
    wsum a n (t ++ [e]) x = wsum a n t x + (if sh n e = x then Spec.weightOf a e else 0) := by
  unfold wsum
  by_cases h : sh n e = x <;> simp [List.filter_append, h]

theorem foldl_touch_present (ns : List Node) (a : Spec) (h : ∀ m ∈ ns, (get? a.nodes m).isSome) :
    ns.foldl Spec.touchNode a = a := by
  rw [spec_touch_fold, touchFold_present ns a.nodes h]

theorem spec_weightOf_get (a : Spec) (e : Edge) (w : Int) (md : Meta) (h : get? a.edges e = some (w, md)) :
    Spec.weightOf a e = w ∧ Spec.emetaOf a e = md := by
  simp [Spec.weightOf, Spec.emetaOf, h]

theorem spec_weightOf_none (a : Spec) (e : Edge) (h : get? a.edges e = none) : Spec.weightOf a e = 0 := by
  simp [Spec.weightOf, h]

/-- `add_edge` of a canonical key whose nodes are nodes already, with a weight the hypergraph accepts: one map update -/
theorem spec_addEdge_char (a : Spec) (raw : List Nat) (w : Int) (md : Meta)
    (hacc : a.weighted = true ∨ w = one)
    (hu : a.weighted = false → ∀ e w md, get? a.edges e = some (w, md) → w = one)
    (hn : ∀ m ∈ raw, (get? a.nodes m).isSome) :
    ∃ v : Int × Meta, Spec.addEdge a raw (some w) (some md) = ({ a with edges := AL.set a.edges (canon raw) v }, .ok) ∧
      v.2 = md ∧ v.1 = (if a.weighted then Spec.weightOf a (canon raw) + w else one) := by
  have hrej : (!a.weighted && (some w).isSome && (some w != some one)) = false := by
    rcases hacc with h | h
    · simp [h]
    · subst h; simp
  unfold Spec.addEdge
  rw [if_neg (by rw [hrej]; simp)]
  cases hg : get? a.edges (canon raw) with
  | none =>
    simp only [hg]
    refine ⟨(if a.weighted then w else one, md), ?_, rfl, ?_⟩
    · rw [foldl_touch_present]
      · simp
      · intro m hm; exact hn m (mem_canon.mp hm)
    · rw [spec_weightOf_none a _ hg]; simp
  | some p =>
    obtain ⟨w0, md0⟩ := p
    simp only [hg]
    refine ⟨(if a.weighted then w0 + w else w0, md), by simp, rfl, ?_⟩
    rw [(spec_weightOf_get a _ w0 md0 hg).1]
    cases hwt : a.weighted with
    | true => simp
    | false => simp [hu hwt _ w0 md0 hg]

/-- one pass of the `keep_edges=True` loop -/
theorem spec_shrink_step (n : Node) (b : Spec) (e : Edge) (hb : SWF b) (he : (get? b.edges e).isSome) :
    ∃ v : Int × Meta, Spec.shrinkInto n b e = ({ b with edges := AL.set b.edges (sh n e) v }, .ok) ∧
      v.2 = Spec.emetaOf b e ∧
      v.1 = (if b.weighted then Spec.weightOf b (sh n e) + Spec.weightOf b e else one) := by
  obtain ⟨hnd, hc, hnodes⟩ := hb.key e he
  have hcs : canon (sh n e) = sh n e := canon_filter_of_canon hc _
  have hacc : b.weighted = true ∨ Spec.weightOf b e = one := by
    cases hwt : b.weighted with
    | true => exact Or.inl rfl
    | false =>
      right
      obtain ⟨p, hp⟩ := Option.isSome_iff_exists.mp he
      obtain ⟨w0, md0⟩ := p
      rw [(spec_weightOf_get b e w0 md0 hp).1]
      exact hb.unw hwt e w0 md0 hp
  obtain ⟨v, h1, h2, h3⟩ := spec_addEdge_char b (sh n e) (Spec.weightOf b e) (Spec.emetaOf b e) hacc hb.unw
    (fun m hm => hnodes m (mem_of_mem_sh hm))
  refine ⟨v, ?_, h2, ?_⟩
  · unfold Spec.shrinkInto
    show Spec.addEdge b (sh n e) _ _ = _
    rw [h1, hcs]
  · rw [h3, hcs]

theorem swf_set (b : Spec) (k : Edge) (v : Int × Meta) (hb : SWF b)
    (hk : k.Nodup ∧ canon k = k ∧ ∀ m ∈ k, (get? b.nodes m).isSome) (hv : b.weighted = false → v.1 = one) :
    SWF { b with edges := AL.set b.edges k v } := by
  refine ⟨keys_set_nodup _ _ _ hb.knd, ?_, ?_⟩
  · intro x hx
    simp only [get?_set] at hx
    by_cases hkx : k = x
    · subst hkx; exact hk
    · simp only [hkx, if_false] at hx; exact hb.key x hx
  · intro hw x w md hg
    simp only [get?_set] at hg
    by_cases hkx : k = x
    · simp only [hkx, if_true, Option.some.injEq] at hg
      have := hv hw
      rw [hg] at this; exact this
    · simp only [hkx, if_false] at hg; exact hb.unw hw x w md hg

/-- the state after the `keep_edges=True` loop over the hyperedges `es` (all containing `n`), seen from the state `b`
before it -/
structure ShrinkRes (n : Node) (b r : Spec) (es : List Edge) : Prop where
  nodes : r.nodes = b.nodes
  weighted : r.weighted = b.weighted
  hmeta : r.hmeta = b.hmeta
  swf : SWF r
  same_n : ∀ x, n ∈ x → get? r.edges x = get? b.edges x
  present : ∀ x, n ∉ x → ((get? r.edges x).isSome ↔ ((get? b.edges x).isSome ∨ ∃ e ∈ es, sh n e = x))
  weight : b.weighted = true → ∀ x, n ∉ x → Spec.weightOf r x = Spec.weightOf b x + wsum b n es x
  untouched : ∀ x, n ∉ x → (∀ e ∈ es, sh n e ≠ x) → get? r.edges x = get? b.edges x
  md : ∀ x, n ∉ x → (∃ e ∈ es, sh n e = x) → ∃ e ∈ es, sh n e = x ∧ Spec.emetaOf r x = Spec.emetaOf b e

theorem spec_weightOf_congr (a b : Spec) (x y : Edge) (h : get? a.edges x = get? b.edges y) :
    Spec.weightOf a x = Spec.weightOf b y ∧ Spec.emetaOf a x = Spec.emetaOf b y := by
  simp [Spec.weightOf, Spec.emetaOf, h]

theorem ShrinkRes.nil {n : Node} {b : Spec} (hb : SWF b) : ShrinkRes n b b [] :=
  ⟨rfl, rfl, rfl, hb, fun _ _ => rfl, fun x _ => by simp, fun _ x _ => by simp [wsum_nil], fun _ _ _ => rfl,
    fun x _ h => by obtain ⟨e, he, _⟩ := h; cases he⟩

/-- one more pass of the loop: the hyperedge processed last is the one whose metadata its shrunk key carries -/
theorem ShrinkRes.snoc {n : Node} {b s : Spec} {done : List Edge} {e : Edge} (hr : ShrinkRes n b s done)
    (hne : n ∈ e) (hpe : (get? b.edges e).isSome) :
    (Spec.shrinkInto n s e).2 = .ok ∧ ShrinkRes n b (Spec.shrinkInto n s e).1 (done ++ [e]) := by
  have hse := hr.same_n e hne
  have hpe' : (get? s.edges e).isSome := by rw [hse]; exact hpe
  obtain ⟨v, hstep, hv2, hv1⟩ := spec_shrink_step n s e hr.swf hpe'
  obtain ⟨hnd, hc, hnodes⟩ := hr.swf.key e hpe'
  obtain ⟨hwe, hme⟩ := spec_weightOf_congr s b e e hse
  rw [hstep]
  have hlook : ∀ x, get? (AL.set s.edges (sh n e) v) x = if sh n e = x then some v else get? s.edges x :=
    fun x => get?_set _ _ _ _
  have hother : ∀ x, sh n e ≠ x → get? (AL.set s.edges (sh n e) v) x = get? s.edges x :=
    fun x hx => (hlook x).trans (if_neg hx)
  have hmem : ∀ (p : Edge → Prop), (∃ e' ∈ done ++ [e], p e') ↔ (∃ e' ∈ done, p e') ∨ p e := by
    intro p; simp only [List.mem_append, List.mem_singleton, or_and_right, exists_or, exists_eq_left]
  refine ⟨rfl, hr.nodes, hr.weighted, hr.hmeta, ?_, ?_, ?_, ?_, ?_, ?_⟩
  · exact swf_set s (sh n e) v hr.swf
      ⟨(List.filter_sublist).nodup hnd, canon_filter_of_canon hc _, fun m hm => hnodes m (mem_of_mem_sh hm)⟩
      (fun hw => by rw [hv1]; simp [hw])
  · intro x hx
    exact (hother x fun heq => not_mem_sh n e (heq ▸ hx)).trans (hr.same_n x hx)
  · intro x hx
    show (get? (AL.set s.edges (sh n e) v) x).isSome ↔ _
    rw [hmem, ← or_assoc, ← hr.present x hx, hlook]
    by_cases hx' : sh n e = x <;> simp [hx']
  · intro hw x hx
    rw [wsum_snoc, ← Int.add_assoc, ← hr.weight hw x hx]
    by_cases hx' : sh n e = x
    · rw [(spec_weightOf_get { s with edges := AL.set s.edges (sh n e) v } x v.1 v.2 ((hlook x).trans (if_pos hx'))).1,
        hv1, hr.weighted, hw, hx', hwe]
      simp only [if_true]
    · rw [(spec_weightOf_congr { s with edges := AL.set s.edges (sh n e) v } s x x (hother x hx')).1]
      simp only [hx', if_false, Int.add_zero]
  · intro x hx hno
    exact (hother x (hno e (List.mem_append_right _ List.mem_cons_self))).trans
      (hr.untouched x hx fun e' he' => hno e' (List.mem_append_left _ he'))
  · intro x hx hex
    by_cases hx' : sh n e = x
    · refine ⟨e, List.mem_append_right _ List.mem_cons_self, hx', ?_⟩
      rw [(spec_weightOf_get { s with edges := AL.set s.edges (sh n e) v } x v.1 v.2 ((hlook x).trans (if_pos hx'))).2,
        hv2, hme]
    · obtain ⟨e', he', h1, h2⟩ := hr.md x hx (((hmem _).mp hex).resolve_right hx')
      refine ⟨e', List.mem_append_left _ he', h1, ?_⟩
      rw [(spec_weightOf_congr { s with edges := AL.set s.edges (sh n e) v } s x x (hother x hx')).2, h2]

theorem shrinkLoop (n : Node) : ∀ (es : List Edge) (b : Spec), SWF b →
    (∀ e ∈ es, n ∈ e ∧ (get? b.edges e).isSome) →
    (seqOps (Spec.shrinkInto n) b es).2 = .ok ∧ ShrinkRes n b (seqOps (Spec.shrinkInto n) b es).1 es := by
  intro es b hb hes
  obtain ⟨h1, done, hd, hr⟩ := seqOps_ok_of_inv (Spec.shrinkInto n)
    (fun s rest => ∃ done, done ++ rest = es ∧ ShrinkRes n b s done)
    (fun s e rest ⟨done, hd, hr⟩ =>
      have he := hes e (hd ▸ List.mem_append_right _ List.mem_cons_self)
      have h := hr.snoc he.1 he.2
      ⟨h.1, done ++ [e], by rw [List.append_assoc]; exact hd, h.2⟩) es b ⟨[], rfl, .nil hb⟩
  rw [List.append_nil] at hd
  exact ⟨h1, hd ▸ hr⟩

/-- `remove_edges` of distinct present canonical keys: exactly those entries disappear -/
theorem spec_removeLoop : ∀ (es : List Edge) (r : Spec),
    (∀ e ∈ es, canon e = e ∧ (get? r.edges e).isSome) → es.Nodup →
    (seqOps Spec.removeEdge r es).2 = .ok ∧
    (seqOps Spec.removeEdge r es).1.nodes = r.nodes ∧ (seqOps Spec.removeEdge r es).1.weighted = r.weighted ∧
    (seqOps Spec.removeEdge r es).1.hmeta = r.hmeta ∧
    ∀ x, get? (seqOps Spec.removeEdge r es).1.edges x = if x ∈ es then none else get? r.edges x := by
  intro es r hes hnd
  rw [spec_removeLoop_filter es r hes hnd]
  refine ⟨rfl, rfl, rfl, rfl, fun x => ?_⟩
  show get? (r.edges.filter fun p => decide (p.1 ∉ es)) x = _
  rw [get?_filter_key (fun k => decide (k ∉ es))]
  by_cases hx : x ∈ es <;> simp [hx]

theorem mem_spec_incidentKeys (a : Spec) (n : Node) (e : Edge) :
    e ∈ Spec.incidentKeys a n ↔ ((get? a.edges e).isSome ∧ n ∈ e) := by
  unfold Spec.incidentKeys
  rw [List.mem_filter, mem_keys_iff]
  simp

/-- second phase of `remove_node`, from any state the first phase can leave: the incident hyperedges go, every other entry
stays, and without the node the result is well-formed again -/
theorem ShrinkRes.removeIncident {a r1 : Spec} {n : Node} {done : List Edge} (ha : SWF a) (hr : ShrinkRes n a r1 done) :
    ∃ r2, Spec.removeEdges r1 (Spec.incidentKeys a n) = (r2, .ok) ∧ r2.nodes = a.nodes ∧ r2.weighted = a.weighted ∧
      r2.hmeta = a.hmeta ∧ (∀ x, get? r2.edges x = if n ∈ x then none else get? r1.edges x) ∧
      SWF { r2 with nodes := del r2.nodes n } := by
  have hinc := mem_spec_incidentKeys a n
  have hes : ∀ e ∈ Spec.incidentKeys a n, canon e = e ∧ (get? r1.edges e).isSome := by
    intro e he
    obtain ⟨h2, h1⟩ := (hinc e).mp he
    exact ⟨(ha.key e h2).2.1, by rw [hr.same_n e h1]; exact h2⟩
  have hnd : (Spec.incidentKeys a n).Nodup := (List.filter_sublist).nodup ha.knd
  have h5 := (spec_removeLoop _ r1 hes hnd).2.2.2.2
  rw [spec_removeLoop_filter _ r1 hes hnd] at h5
  generalize hr2 : ({ r1 with edges := r1.edges.filter fun p => decide (p.1 ∉ Spec.incidentKeys a n) } : Spec) = r2 at h5
  have h1 : Spec.removeEdges r1 (Spec.incidentKeys a n) = (r2, .ok) := hr2 ▸ spec_removeEdges_filter r1 _ hes hnd
  have h2 : r2.nodes = r1.nodes := hr2 ▸ rfl
  have h3 : r2.weighted = r1.weighted := hr2 ▸ rfl
  have hlook : ∀ x, get? r2.edges x = if n ∈ x then none else get? r1.edges x := by
    intro x
    rw [h5 x]
    by_cases hx : n ∈ x
    · rw [if_pos hx]
      by_cases hm : x ∈ Spec.incidentKeys a n
      · rw [if_pos hm]
      · have hp : ¬ (get? a.edges x).isSome := fun hp => hm ((hinc x).mpr ⟨hp, hx⟩)
        rw [if_neg hm, hr.same_n x hx]
        simpa using hp
    · rw [if_neg hx, if_neg fun hm => hx ((hinc x).mp hm).2]
  refine ⟨r2, h1, h2.trans hr.nodes, h3.trans hr.weighted, hr2 ▸ hr.hmeta, hlook,
    hr2 ▸ keys_filter_nodup _ _ hr.swf.knd, ?_, ?_⟩
  · intro x hx
    have hx' : (get? r2.edges x).isSome := hx
    have hnx : n ∉ x := by
      intro hin; rw [hlook, if_pos hin] at hx'; cases hx'
    rw [hlook, if_neg hnx] at hx'
    obtain ⟨k1, k2, k3⟩ := hr.swf.key x hx'
    refine ⟨k1, k2, fun m hm => ?_⟩
    show (get? (del r2.nodes n) m).isSome
    rw [get?_del, if_neg (by rintro rfl; exact hnx hm), h2]
    exact k3 m hm
  · intro hw x w md hg
    have hg' : get? r2.edges x = some (w, md) := hg
    have hnx : n ∉ x := by
      intro hin; rw [hlook, if_pos hin] at hg'; cases hg'
    rw [hlook, if_neg hnx] at hg'
    exact hr.swf.unw (h3 ▸ hw) x w md hg'

/-- **`remove_node(n)` (hyperedges dropped)**: the node leaves the node list, exactly the keys containing it leave the map -/
theorem spec_removeNode_drop (a : Spec) (ha : SWF a) (n : Node) (hn : (get? a.nodes n).isSome) :
    ∃ a', Spec.removeNode a n false = (a', .ok) ∧ a'.nodes = del a.nodes n ∧ a'.weighted = a.weighted ∧
      a'.hmeta = a.hmeta ∧ ∀ x, get? a'.edges x = if n ∈ x then none else get? a.edges x := by
  obtain ⟨r2, h1, h2, h3, h4, h5, _⟩ := (ShrinkRes.nil ha).removeIncident (n := n) ha
  refine ⟨{ r2 with nodes := del r2.nodes n }, ?_, by simp [h2], h3, h4, h5⟩
  unfold Spec.removeNode
  simp only [hn, Bool.not_true, Bool.false_eq_true, if_false]
  rw [h1]

/-- **`remove_node(n, keep_edges=True)` (hyperedges shrunk)** -/
theorem spec_removeNode_keep (a : Spec) (ha : SWF a) (n : Node) (hn : (get? a.nodes n).isSome) :
    ∃ a', Spec.removeNode a n true = (a', .ok) ∧ a'.nodes = del a.nodes n ∧ a'.weighted = a.weighted ∧
      a'.hmeta = a.hmeta ∧ SWF a' ∧
      (∀ x, (get? a'.edges x).isSome ↔ ∃ e, (get? a.edges e).isSome ∧ sh n e = x) ∧
      (a.weighted = true → ∀ x, n ∉ x →
        Spec.weightOf a' x = Spec.weightOf a x + wsum a n (Spec.incidentKeys a n) x) ∧
      (∀ x, n ∉ x → (∀ e, (get? a.edges e).isSome → n ∈ e → sh n e ≠ x) → get? a'.edges x = get? a.edges x) ∧
      (∀ x, (∃ e, (get? a.edges e).isSome ∧ n ∈ e ∧ sh n e = x) →
        ∃ e, (get? a.edges e).isSome ∧ n ∈ e ∧ sh n e = x ∧ Spec.emetaOf a' x = Spec.emetaOf a e) := by
  have hinc := mem_spec_incidentKeys a n
  obtain ⟨hok, hr⟩ := shrinkLoop n _ a ha fun e he => ⟨((hinc e).mp he).2, ((hinc e).mp he).1⟩
  generalize hres : seqOps (Spec.shrinkInto n) a (Spec.incidentKeys a n) = res at hok hr
  obtain ⟨r1, o⟩ := res
  simp only at hok hr; subst hok
  obtain ⟨r2, h1, h2, h3, h4, h5, hswf⟩ := hr.removeIncident ha
  have hfin : ∀ x, n ∉ x → get? r2.edges x = get? r1.edges x := fun x hx => by rw [h5, if_neg hx]
  refine ⟨{ r2 with nodes := del r2.nodes n }, ?_, by simp [h2], h3, h4, hswf, ?_, ?_, ?_, ?_⟩
  · unfold Spec.removeNode
    simp only [hn, Bool.not_true, Bool.false_eq_true, if_false, if_true]
    rw [hres]; simp only []
    rw [h1]
  · intro x
    show (get? r2.edges x).isSome ↔ _
    by_cases hx : n ∈ x
    · rw [h5, if_pos hx]
      simp only [Option.isSome_none, Bool.false_eq_true, false_iff]
      rintro ⟨e, _, he⟩
      exact not_mem_sh n e (he ▸ hx)
    · rw [hfin x hx, hr.present x hx]
      constructor
      · rintro (h | ⟨e, he, h⟩)
        · exact ⟨x, h, sh_of_not_mem hx⟩
        · exact ⟨e, ((hinc e).mp he).1, h⟩
      · rintro ⟨e, he, h⟩
        by_cases hne : n ∈ e
        · exact Or.inr ⟨e, (hinc e).mpr ⟨he, hne⟩, h⟩
        · rw [sh_of_not_mem hne] at h; subst h; exact Or.inl he
  · intro hw x hx
    rw [← hr.weight hw x hx]
    exact (spec_weightOf_congr _ r1 x x (hfin x hx)).1
  · intro x hx hno
    show get? r2.edges x = _
    rw [hfin x hx]
    exact hr.untouched x hx (fun e he => hno e ((hinc e).mp he).1 ((hinc e).mp he).2)
  · rintro x ⟨e, he, hne, hex⟩
    have hx : n ∉ x := by rw [← hex]; exact not_mem_sh n e
    obtain ⟨e', he', h1', h2'⟩ := hr.md x hx ⟨e, (hinc e).mpr ⟨he, hne⟩, hex⟩
    refine ⟨e', ((hinc e').mp he').1, ((hinc e').mp he').2, h1', ?_⟩
    rw [← h2']
    exact (spec_weightOf_congr _ r1 x x (hfin x hx)).2

end C01
