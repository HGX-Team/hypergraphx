import Hgxv.Proofs.C09
import Mathlib.Algebra.BigOperators.Group.List.Basic
import Mathlib.Algebra.Ring.Defs
import Mathlib.Tactic.Ring
import Mathlib.Data.Nat.Cast.Basic
/-! Matrices over a commutative ring as lists of rows. The working notion is the table `l.map fun x => l'.map (f x)`: rows
indexed by `l`, columns by `l'`, kernel `f`. The operations of the model move through a table kernel by kernel (`*_map_map`,
`mulT_rows`, `transpose_rows`), each matrix of the model over one node list has a table form (`*_eq`, here and in the files that
follow), and a property of a matrix is read off its kernel with `entry_map_map`, `entry_map_map_none`, `entry_map_map_nodes`.
The `entry_*` lemmas for arbitrary matrices say what each operation of the model does to an entry; the table route does not go
through them. Also: sums over lists, and `hye_list_to_binary_incidence` with an explicit shape. -/
namespace C09

section entry
variable {β γ δ : Type}

theorem entry_map_map (l : List γ) (l' : List δ) (f : γ → δ → β) (i j : Nat)
    (hi : i < l.length) (hj : j < l'.length) :
    entry (l.map fun x => l'.map (f x)) i j = some (f l[i] l'[j]) := by
  simp [entry, hi, hj]

theorem entry_map_map_none (l : List γ) (l' : List δ) (f : γ → δ → β) (i j : Nat)
    (h : l.length ≤ i ∨ l'.length ≤ j) :
    entry (l.map fun x => l'.map (f x)) i j = none := by
  unfold entry
  by_cases hi : i < l.length
  · rcases h with h | h
    · omega
    · simp [hi, h]
  · simp [Nat.le_of_not_lt hi]

theorem entry_map_rows (M : List (List β)) (g : β → γ) (i j : Nat) :
    entry (M.map fun r => r.map g) i j = (entry M i j).map g := by
  unfold entry
  rw [List.getElem?_map]
  cases M[i]? with
  | none => rfl
  | some r => exact List.getElem?_map ..

theorem entry_zipWith {α : Type} (f : α → β → γ) (A : List (List α)) (B : List (List β)) (i j : Nat) :
    entry (List.zipWith (fun r s => List.zipWith f r s) A B) i j
      = (entry A i j).bind fun a => (entry B i j).map fun b => f a b := by
  unfold entry
  rw [List.getElem?_zipWith]
  cases A[i]? with
  | none => rfl
  | some r =>
    cases B[i]? with
    | none => simp only [Option.bind_some, Option.bind_none, Option.map_none, Option.bind_fun_none]
    | some s =>
      simp only [Option.bind_some, List.getElem?_zipWith]
      cases r[j]? <;> cases s[j]? <;> rfl

theorem entry_zipIdx (g : Nat → Nat → β → γ) (M : List (List β)) (i j : Nat) :
    entry (M.zipIdx.map fun ri => ri.1.zipIdx.map fun xj => g ri.2 xj.2 xj.1) i j = (entry M i j).map (g i j) := by
  unfold entry
  rw [List.getElem?_map, List.getElem?_zipIdx]
  cases M[i]? with
  | none => rfl
  | some r =>
    simp only [Option.map_some, Option.bind_some, List.getElem?_map, List.getElem?_zipIdx, Nat.zero_add]
    cases r[j]? <;> rfl

theorem entry_map_map_nodes (nodes : List Nat) (f : Nat → Nat → β) (a : Nat) (ha : a ∈ nodes) (b : Nat) (hb : b ∈ nodes) :
    entry ((classes nodes).map fun x => (classes nodes).map (f x)) (encode (classes nodes) a) (encode (classes nodes) b)
      = some (f a b) := by
  have ha := (mem_classes a nodes).2 ha
  have hb := (mem_classes b nodes).2 hb
  rw [entry_map_map _ _ _ _ _ (encode_lt _ a ha) (encode_lt _ b hb), getElem_encode _ a ha, getElem_encode _ b hb]

end entry

section ring
variable {R : Type} [CommRing R]

theorem entry_setDiag0 (M : List (List R)) (i j : Nat) :
    entry (setDiag0 M) i j = (entry M i j).map fun x => if i = j then 0 else x :=
  entry_zipIdx (fun i j x => if i = j then 0 else x) M i j

theorem subDiag_eq_setDiag0 (M : List (List R)) : subDiag M = setDiag0 M := by
  simp only [subDiag, setDiag0, sub_self]

theorem entry_subDiag (M : List (List R)) (i j : Nat) :
    entry (subDiag M) i j = (entry M i j).map fun x => if i = j then 0 else x :=
  subDiag_eq_setDiag0 M ▸ entry_setDiag0 M i j

theorem entry_matSub (A B : List (List R)) (i j : Nat) :
    entry (matSub A B) i j =
      (entry A i j).bind fun a => (entry B i j).map fun b => a - b := entry_zipWith _ A B i j

theorem entry_matAdd (A B : List (List R)) (i j : Nat) :
    entry (matAdd A B) i j =
      (entry A i j).bind fun a => (entry B i j).map fun b => a + b := entry_zipWith _ A B i j

theorem entry_smul (c : R) (M : List (List R)) (i j : Nat) :
    entry (smul c M) i j = (entry M i j).map fun x => c * x := entry_map_rows M _ i j

theorem entry_diag (l : List R) (i j : Nat) (hi : i < l.length) (hj : j < l.length) :
    entry (diag l) i j = some (if i = j then l[i] else 0) := by
  unfold entry diag
  simp [hi, hj]

theorem smul_map_map {γ δ : Type} (c : R) (l : List γ) (l' : List δ) (f : γ → δ → R) :
    smul c (l.map fun x => l'.map (f x)) = l.map fun x => l'.map fun y => c * f x y := by
  simp only [smul, List.map_map, Function.comp_def]

theorem matSub_map_map {γ δ : Type} (l : List γ) (l' : List δ) (f g : γ → δ → R) :
    matSub (l.map fun x => l'.map (f x)) (l.map fun x => l'.map (g x))
      = l.map fun x => l'.map fun y => f x y - g x y := by
  simp only [matSub, List.zipWith_map, List.zipWith_self]

theorem matAdd_map_map {γ δ : Type} (l : List γ) (l' : List δ) (f g : γ → δ → R) :
    matAdd (l.map fun x => l'.map (f x)) (l.map fun x => l'.map (g x))
      = l.map fun x => l'.map fun y => f x y + g x y := by
  simp only [matAdd, List.zipWith_map, List.zipWith_self]

/-- a diagonal matrix indexed by distinct labels: the positions agree exactly when the labels do -/
theorem diag_map {γ : Type} [DecidableEq γ] (l : List γ) (hl : l.Nodup) (g : γ → R) :
    diag (l.map g) = l.map fun x => l.map fun y => if x = y then g x else 0 := by
  unfold diag
  refine List.ext_getElem (by simp only [List.length_map, List.length_zipIdx]) fun i h1 h2 => ?_
  have hi : i < l.length := by simpa using h2
  refine List.ext_getElem (by simp only [List.getElem_map, List.length_map, List.length_range]) fun j h3 h4 => ?_
  have hj : j < l.length := by simpa using h4
  simp only [List.getElem_map, List.getElem_zipIdx, List.getElem_range, Nat.zero_add, List.getElem_inj hl]

theorem setDiag0_map_map {γ : Type} [DecidableEq γ] (l : List γ) (hl : l.Nodup) (f : γ → γ → R) :
    setDiag0 (l.map fun x => l.map (f x)) = l.map fun x => l.map fun y => if x = y then 0 else f x y := by
  unfold setDiag0
  refine List.ext_getElem (by simp only [List.length_map, List.length_zipIdx]) fun i h1 h2 => ?_
  refine List.ext_getElem (by simp only [List.getElem_map, List.getElem_zipIdx, List.length_map, List.length_zipIdx])
    fun j h3 h4 => ?_
  simp only [List.getElem_map, List.getElem_zipIdx, Nat.zero_add, List.getElem_inj hl]

theorem ind_mul_ind (a b : Bool) : (ind a : R) * ind b = ind (a && b) := by
  cases a <;> cases b <;> simp [ind]

theorem ind_decide (p : Prop) [Decidable p] : (ind (decide p) : R) = if p then 1 else 0 := by
  by_cases h : p <;> simp [ind, h]

theorem ind_decide_mul (p : Prop) [Decidable p] (w : R) : ind (decide p) * w = if p then w else 0 := by
  by_cases h : p <;> simp [ind, h]

theorem natCast_sum_map {β : Type} (l : List β) (g : β → Nat) :
    (((l.map g).sum : Nat) : R) = (l.map fun x => ((g x : Nat) : R)).sum := by
  induction l with
  | nil => simp
  | cons a l ih => simp [ih]

theorem sum_map_ind {β : Type} (l : List β) (p : β → Bool) :
    (l.map fun e => (ind (p e) : R)).sum = ((l.countP p : Nat) : R) := by
  induction l with
  | nil => simp
  | cons a l ih =>
    simp only [List.map_cons, List.sum_cons, ih, List.countP_cons]
    cases p a <;> simp [ind, add_comm]

theorem zipWith_mul_map {β : Type} (l : List β) (f g : β → R) :
    List.zipWith (· * ·) (l.map f) (l.map g) = l.map fun e => f e * g e := by
  rw [List.zipWith_map, List.zipWith_self]

theorem dot_map {β : Type} (l : List β) (f g : β → R) :
    dot (l.map f) (l.map g) = (l.map fun e => f e * g e).sum := by
  rw [dot, zipWith_mul_map]

theorem sum_map_sum_comm {β γ : Type} (l : List β) (l' : List γ) (f : β → γ → R) :
    (l.map fun x => (l'.map fun y => f x y).sum).sum = (l'.map fun y => (l.map fun x => f x y).sum).sum := by
  induction l with
  | nil => simp
  | cons a l ih => simp [ih, List.sum_map_add]

-- primed: Mathlib's `List.sum_map_mul_left` / `_right` are in `Mathlib.Algebra.BigOperators.Ring.List`, which is not imported here
theorem sum_map_mul_left' {β : Type} (l : List β) (c : R) (f : β → R) :
    (l.map fun x => c * f x).sum = c * (l.map f).sum := by
  induction l with
  | nil => simp
  | cons a l ih => simp [ih, mul_add]

theorem sum_comb_zero {β γ : Type} (cls : List γ) (ps : List β) (k : β → R) (G : β → γ → R)
    (h : ∀ p ∈ ps, (cls.map (G p)).sum = 0) :
    (cls.map fun b => (ps.map fun p => k p * G p b).sum).sum = 0 := by
  rw [sum_map_sum_comm, List.map_congr_left fun p hp => by rw [sum_map_mul_left', h p hp, mul_zero], List.sum_map_zero]

theorem filter_mem_perm (cls e : List Nat) (hc : cls.Nodup) (he : e.Nodup) (hsub : ∀ x ∈ e, x ∈ cls) :
    (cls.filter fun x => decide (x ∈ e)).Perm e := by
  apply (List.perm_ext_iff_of_nodup (hc.filter _) he).2
  intro a
  simp only [List.mem_filter, decide_eq_true_eq]
  exact ⟨fun h => h.2, fun h => ⟨hsub a h, h⟩⟩

theorem sum_map_sub' {β : Type} (l : List β) (f g : β → R) :
    (l.map fun x => f x - g x).sum = (l.map f).sum - (l.map g).sum := by
  induction l with
  | nil => simp
  | cons a l ih => simp only [List.map_cons, List.sum_cons, ih]; ring

theorem sum_map_mul_right' {β : Type} (l : List β) (c : R) (f : β → R) :
    (l.map fun x => f x * c).sum = (l.map f).sum * c := by
  induction l with
  | nil => simp
  | cons a l ih => simp [ih, add_mul]

theorem sum_ite_not_mem (l : List Nat) (a : Nat) (ha : a ∉ l) (f : Nat → R) :
    (l.map fun b => if a = b then f b else 0).sum = 0 := by
  induction l with
  | nil => simp
  | cons b l ih =>
    have hab : ¬ a = b := fun h => ha (h ▸ List.mem_cons_self)
    simp [hab, ih (fun h => ha (List.mem_cons_of_mem _ h))]

theorem sum_ite_mem_nodup (l : List Nat) (hl : l.Nodup) (a : Nat) (ha : a ∈ l) (f : Nat → R) :
    (l.map fun b => if a = b then f b else 0).sum = f a := by
  induction l with
  | nil => cases ha
  | cons b l ih =>
    rw [List.nodup_cons] at hl
    by_cases hab : a = b
    · subst hab
      simp [sum_ite_not_mem l a hl.1 f]
    · have : a ∈ l := by
        rcases List.mem_cons.1 ha with h | h
        · exact absurd h hab
        · exact h
      simp [hab, ih hl.2 this]

theorem sum_ind_mul (l : List Nat) (p : Nat → Bool) (f : Nat → R) :
    (l.map fun a => (ind (p a) : R) * f a).sum = ((l.filter p).map f).sum := by
  induction l with
  | nil => simp
  | cons a l ih =>
    simp only [List.map_cons, List.sum_cons, ih, List.filter_cons]
    cases h : p a <;> simp [ind]

theorem sum_ind_mem (cls e : List Nat) (hc : cls.Nodup) (he : e.Nodup) (hsub : ∀ x ∈ e, x ∈ cls) (f : Nat → R) :
    (cls.map fun a => (ind (decide (a ∈ e)) : R) * f a).sum = (e.map f).sum := by
  rw [sum_ind_mul]
  exact ((filter_mem_perm cls e hc he hsub).map f).sum_eq

theorem contains_map_encode (cls : List Nat) (hc : cls.Nodup) (e : List Nat) (he : ∀ x ∈ e, x ∈ cls)
    (i : Nat) (hi : i < cls.length) : (e.map (encode cls)).contains i = decide (cls[i] ∈ e) := by
  rw [Bool.eq_iff_iff]
  simp only [List.contains_iff_mem, List.mem_map, decide_eq_true_eq]
  constructor
  · rintro ⟨x, hx, rfl⟩
    rw [getElem_encode cls x (he x hx)]; exact hx
  · intro h
    exact ⟨cls[i], h, encode_getElem cls hc i hi⟩

/-- rows of the binary incidence matrix, indexed by the sorted labels -/
theorem binInc_eq (nodes : List Nat) (edges : List Edge) (hN : nodes.Nodup)
    (hE : ∀ e ∈ edges, ∀ x ∈ e, x ∈ nodes) :
    (binInc nodes edges : List (List R)) =
      (classes nodes).map fun x => edges.map fun e => ind (decide (x ∈ e)) := by
  unfold binInc binIncIdx
  apply List.ext_getElem
  · simp [classes_length nodes hN]
  · intro i h1 h2
    simp only [List.getElem_map, List.getElem_range, List.map_map]
    apply List.map_congr_left
    intro e he
    simp only [Function.comp]
    rw [contains_map_encode _ (classes_nodup nodes) e
      (fun x hx => (mem_classes x nodes).2 (hE e he x hx)) i (by simpa using h2)]

theorem inc_eq (nodes : List Nat) (es : List (Edge × R)) (hN : nodes.Nodup)
    (hE : ∀ e ∈ es, ∀ x ∈ e.1, x ∈ nodes) :
    inc nodes es = (classes nodes).map fun x => es.map fun e => ind (decide (x ∈ e.1)) * e.2 := by
  rw [inc, scaleCols, binInc_eq nodes _ hN (List.forall_mem_map.2 hE)]
  simp only [List.map_map, Function.comp_def, zipWith_mul_map]

theorem mulT_rows {β γ δ : Type} (l : List β) (l' : List γ) (es : List δ) (f : β → δ → R) (g : γ → δ → R) :
    mulT (l.map fun x => es.map (f x)) (l'.map fun y => es.map (g y)) =
      l.map fun x => l'.map fun y => (es.map fun e => f x e * g y e).sum := by
  simp [mulT, dot_map, List.map_map, Function.comp]

theorem adj_eq (nodes : List Nat) (edges : List Edge) (hN : nodes.Nodup) (hE : ∀ e ∈ edges, ∀ x ∈ e, x ∈ nodes) :
    (adj nodes edges : List (List R)) = (classes nodes).map fun a => (classes nodes).map fun b =>
      if a = b then 0 else ((edges.countP fun e => decide (a ∈ e) && decide (b ∈ e) : Nat) : R) := by
  rw [adj, binInc_eq nodes edges hN hE, mulT_rows, setDiag0_map_map _ (classes_nodup nodes)]
  simp only [ind_mul_ind, sum_map_ind]

theorem transpose_rows {β δ : Type} (l : List β) (es : List δ) (f : β → δ → R) :
    transpose es.length (l.map fun x => es.map (f x)) = es.map fun e => l.map fun x => f x e := by
  unfold transpose
  apply List.ext_getElem
  · simp
  · intro j h1 h2
    have hj : j < es.length := by simpa using h2
    simp [List.map_map, Function.comp, hj]

theorem dual_eq [DecidableEq R] (nodes : List Nat) (edges : List Edge) (hN : nodes.Nodup)
    (hE : ∀ e ∈ edges, ∀ x ∈ e, x ∈ nodes) :
    (dual nodes edges : List (List R)) = edges.map fun e => edges.map fun f =>
      if (((classes nodes).countP fun x => decide (x ∈ e) && decide (x ∈ f) : Nat) : R) = 0 then 0 else ((1 : Nat) : R) := by
  unfold dual
  simp only
  rw [binInc_eq nodes edges hN hE, transpose_rows, mulT_rows]
  simp only [List.map_map, Function.comp_def, ind_mul_ind, sum_map_ind]

theorem inferredN_le (hyes : List (List Nat)) (N : Nat) (h : ∀ e ∈ hyes, ∀ x ∈ e, x < N) : inferredN hyes ≤ N := by
  rw [inferredN, ListLib.foldl_max_le_iff]
  simp only [List.mem_map, List.mem_flatten, Nat.zero_le, true_and, forall_exists_index, and_imp]
  rintro _ x e he hx rfl
  exact h e he x hx

theorem lt_inferredN (hyes : List (List Nat)) (e : List Nat) (he : e ∈ hyes) (x : Nat) (hx : x ∈ e) :
    x < inferredN hyes :=
  ((ListLib.foldl_max_le_iff _ 0 _).1 (Nat.le_refl (inferredN hyes))).2 (x + 1)
    (List.mem_map.2 ⟨x, List.mem_flatten.2 ⟨e, he, hx⟩, rfl⟩)

theorem binIncPad_eq (N : Nat) (hyes : List (List Nat)) :
    (binIncPad N hyes.length hyes : List (List R)) = binIncIdx N hyes := by
  unfold binIncPad binIncIdx
  apply List.map_congr_left
  intro i _
  apply List.ext_getElem
  · simp
  · intro j h1 h2
    have hj : j < hyes.length := by simpa using h2
    simp [hj]

/-- entry of the padded matrix: columns beyond the list are empty -/
theorem entry_binIncPad (N E : Nat) (hyes : List (List Nat)) (i j : Nat) (hi : i < N) (hj : j < E) :
    entry (binIncPad N E hyes : List (List R)) i j = some (if ∃ e, hyes[j]? = some e ∧ i ∈ e then 1 else 0) := by
  rw [binIncPad, entry_map_map _ _ _ i j (by simpa using hi) (by simpa using hj), List.getElem_range, List.getElem_range]
  by_cases hj' : j < hyes.length
  · by_cases hm : i ∈ hyes[j] <;> simp [ind, hj', hm]
  · simp [ind, hj']

theorem hyeBinInc_some (hyes : List (List Nat)) (shape : Option (Nat × Nat)) (M : List (List R))
    (h : hyeBinInc hyes shape = some M) :
    M = binIncPad ((shape.map (·.1)).getD (inferredN hyes)) ((shape.map (·.2)).getD hyes.length) hyes := by
  cases shape with
  | none => cases h; rfl
  | some p =>
    rw [hyeBinInc] at h
    split at h
    · cases h
    · cases h; rfl

end ring

end C09
