import Hgxv.Proofs.C15Loop
import Hgxv.Proofs.C15Stop
import Hgxv.Proofs.C15Count
/-! # C15 — `penLik` is the exact Poisson log-likelihood of the data under the returned `w / C`

`fit` runs the loop on `w̃ = C·w` ("the C constant can be absorbed") and returns `w = w̃ / C`.
The exact log-likelihood of the data under the Poisson model with parameters `(u, w)` and maximum size `D`,
every possible hyperedge `s` of size `2..D` having mean `λ_s(w)/κ_|s|`, is (up to `−Σ log A_e!`)
`Σ_e A_e log(λ_e(w)/κ_e) − Σ_{d=2..D} Σ_{|s|=d} λ_s(w)/κ_d`; with the exponential prior of rate `r` on the
entries of `C·w` the log-posterior subtracts `C · Σ_ab r_ab w_ab`.  For `w = w̃/C` this equals
`penLik(w̃)` minus a constant that does not depend on `w̃`. -/
open Finset
namespace C15

noncomputable def exactLik (d : Data) (D : ℕ) (u r w : Mat) : ℝ :=
  ∑ e ∈ range d.E, ((d.A e : ℚ) : ℝ) *
      Real.log ((poisson d.N d.K u w (d.edge e) / kappa d.N (d.edge e).length : ℚ) : ℝ)
    - (((sumL (dims 2 D) fun dd => ∑ s ∈ (range d.N).powersetCard dd, pairSum d.K u w s / kappa d.N dd)
        + C (dims 2 D) * ∑ a ∈ range d.K, ∑ b ∈ range d.K, r a b * w a b : ℚ) : ℝ)

theorem dsum_scale (K : ℕ) (g w : Mat) (c : ℚ) :
    ∑ a ∈ range K, ∑ b ∈ range K, g a b * (w a b / c) = (∑ a ∈ range K, ∑ b ∈ range K, g a b * w a b) / c := by
  simp only [Finset.sum_div, mul_div_assoc]

theorem poisson_scale (N K : ℕ) (u w : Mat) (c : ℚ) (e : List ℕ) :
    poisson N K u (fun a b => w a b / c) e = poisson N K u w e / c := by
  rw [poisson_lin, poisson_lin, dsum_scale]

theorem bfSum_scale (N K : ℕ) (u w : Mat) (c : ℚ) :
    bfSum N K u (fun a b => w a b / c) = bfSum N K u w / c := by
  rw [bfSum_lin, bfSum_lin, dsum_scale]

theorem normaliser_closed (N K D : ℕ) (u w : Mat) (hw : ∀ a < K, ∀ b < K, w a b = w b a) (hD : D ≤ N) :
    (sumL (dims 2 D) fun dd => ∑ s ∈ (range N).powersetCard dd, pairSum K u w s / kappa N dd)
      = C (dims 2 D) * bfSum N K u w := by
  unfold C
  rw [sumL_mul]
  apply sumL_congr
  intro dd hdd
  obtain ⟨h2, hle⟩ := mem_dims 2 D dd hdd
  rw [dim_closed N K u w dd h2 (by omega), bfSum_eq_pairSum N K u w hw]

theorem exactLik_eq (d : Data) (D : ℕ) (u r w : Mat)
    (hw : ∀ a < d.K, ∀ b < d.K, w a b = w b a) (hD2 : 2 ≤ D) (hDN : D ≤ d.N)
    (hsize : ∀ e < d.E, 2 ≤ (d.edge e).length ∧ (d.edge e).length ≤ d.N)
    (hlam : ∀ e < d.E, 0 < poisson d.N d.K u w (d.edge e)) :
    exactLik d D u r (fun a b => w a b / C (dims 2 D))
      = penLik d u r w
        - ∑ e ∈ range d.E, ((d.A e : ℚ) : ℝ) *
            Real.log (((C (dims 2 D) * kappa d.N (d.edge e).length : ℚ)) : ℝ) := by
  have hc := C_pos D hD2
  unfold exactLik penLik
  have hsym' : ∀ a < d.K, ∀ b < d.K, (fun a b => w a b / C (dims 2 D)) a b = (fun a b => w a b / C (dims 2 D)) b a := by
    intro a ha b hb; simp only []; rw [hw a ha b hb]
  rw [normaliser_closed d.N d.K D u _ hsym' hDN, bfSum_scale, dsum_scale, mul_div_cancel₀ _ hc.ne',
    mul_div_cancel₀ _ hc.ne']
  have hlog : ∀ e ∈ range d.E, ((d.A e : ℚ) : ℝ) *
        Real.log ((poisson d.N d.K u (fun a b => w a b / C (dims 2 D)) (d.edge e) / kappa d.N (d.edge e).length : ℚ) : ℝ)
      = ((d.A e : ℚ) : ℝ) * Real.log ((poisson d.N d.K u w (d.edge e) : ℚ) : ℝ)
        - ((d.A e : ℚ) : ℝ) * Real.log (((C (dims 2 D) * kappa d.N (d.edge e).length : ℚ)) : ℝ) := by
    intro e he
    have he' := mem_range.mp he
    have hk := kappa_pos d.N (d.edge e).length (hsize e he').1 (hsize e he').2
    rw [poisson_scale, div_div, Rat.cast_div, Real.log_div (Rat.cast_ne_zero.mpr (hlam e he').ne')
      (Rat.cast_ne_zero.mpr (mul_pos hc hk).ne'), mul_sub]
  rw [Finset.sum_congr rfl hlog, Finset.sum_sub_distrib]
  ring

theorem bf_congr (K : ℕ) (x y : Vec) (w w' : Mat) (h : ∀ a < K, ∀ b < K, w a b = w' a b) :
    bf K x y w = bf K x y w' := by
  rw [bf_eq, bf_eq]
  apply Finset.sum_congr rfl; intro b hb
  apply Finset.sum_congr rfl; intro a ha
  rw [h a (mem_range.mp ha) b (mem_range.mp hb)]

theorem pairSum_congr (K : ℕ) (u w w' : Mat) (h : ∀ a < K, ∀ b < K, w a b = w' a b) (s : Finset ℕ) :
    pairSum K u w s = pairSum K u w' s := by
  unfold pairSum aij
  apply Finset.sum_congr rfl; intro p _
  exact bf_congr K _ _ w w' h

theorem exactLik_congr (d : Data) (D : ℕ) (u r w w' : Mat) (h : ∀ a < d.K, ∀ b < d.K, w a b = w' a b) :
    exactLik d D u r w = exactLik d D u r w' := by
  unfold exactLik
  rw [dsum_congr d.K r w w' h]
  have h1 : (sumL (dims 2 D) fun dd => ∑ s ∈ (range d.N).powersetCard dd, pairSum d.K u w s / kappa d.N dd)
      = sumL (dims 2 D) fun dd => ∑ s ∈ (range d.N).powersetCard dd, pairSum d.K u w' s / kappa d.N dd := by
    apply sumL_congr; intro dd _
    apply Finset.sum_congr rfl; intro s _
    rw [pairSum_congr d.K u w w' h]
  rw [h1]
  congr 1
  apply Finset.sum_congr rfl; intro e _
  rw [poisson_congr d.N d.K u w w' h]

theorem fit_supplied_u (d : Data) (us : List (List Rat)) (Dsup : Option ℕ) (u0 w0 : List (List Rat))
    (ru rw : Mat) (sqrtC : Rat) (stop : Option Stop) (n D : ℕ) (p : Params)
    (h : fit d (some us) none Dsup u0 w0 ru rw sqrtC stop n = some (D, p)) :
    fitMaxSize d Dsup = some D ∧
    p.w = toRows d.K d.K fun a b =>
      matOf (emRun d true false ru rw stop n { u := us, w := w0 }).p.w a b / C (dims 2 D) := by
  obtain ⟨hm, _, hp⟩ := fit_some d (some us) none Dsup u0 w0 ru rw sqrtC stop n D p h
  exact ⟨hm, by rw [hp]; rfl⟩

end C15
