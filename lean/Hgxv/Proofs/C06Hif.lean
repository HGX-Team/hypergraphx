import Hgxv.Model.C06Hif
import Hgxv.Proofs.C06WF
/-! C06: the HIF reader — numbering tables, the four loops, their invariants.  The first loop in one fold (`Pass1`: the
tables and the incidence lists `incList` it collects).  After the first loop the numbering of every
name that occurs in an incidence is settled: under `Tabs d s` what loops three and four look up is a function of the
document (`keyList`, `hifEdge_key`, `hifInc2_key`), and the invariant of loops two to four (`Inv2`) speaks of the content
only.  Core Lean only. -/
namespace C06

/-- a numbering table: injective, values below the length -/
def TabOK (tbl : List (Nat × Nat)) : Prop :=
  (∀ a b u, AL.get? tbl a = some u → AL.get? tbl b = some u → a = b) ∧
  (∀ a u, AL.get? tbl a = some u → u < tbl.length)

theorem TabOK_nil : TabOK [] := by simp [TabOK, AL.get?]

theorem assign_old (tbl : List (Nat × Nat)) (n u : Nat) (h : AL.get? tbl n = some u) : assign tbl n = (tbl, u) := by
  simp [assign, h]

theorem assign_new (tbl : List (Nat × Nat)) (n : Nat) (h : AL.get? tbl n = none) :
    assign tbl n = (tbl ++ [(n, tbl.length)], tbl.length) := by
  simp [assign, h]

theorem assign_get_self (tbl : List (Nat × Nat)) (n : Nat) :
    AL.get? (assign tbl n).1 n = some (assign tbl n).2 := by
  cases h : AL.get? tbl n with
  | some u => rw [assign_old tbl n u h]; exact h
  | none => rw [assign_new tbl n h]; simp [AL.get?_append_single, h]

theorem assign_stable (tbl : List (Nat × Nat)) (n a u : Nat) (h : AL.get? tbl a = some u) :
    AL.get? (assign tbl n).1 a = some u := by
  cases hn : AL.get? tbl n with
  | some v => rw [assign_old tbl n v hn]; exact h
  | none => rw [assign_new tbl n hn]; simp [AL.get?_append_single, h]

theorem assign_get (tbl : List (Nat × Nat)) (n a u : Nat) (h : AL.get? (assign tbl n).1 a = some u) :
    AL.get? tbl a = some u ∨ (a = n ∧ u = tbl.length ∧ AL.get? tbl n = none) := by
  cases hn : AL.get? tbl n with
  | some v => rw [assign_old tbl n v hn] at h; exact Or.inl h
  | none =>
    rw [assign_new tbl n hn] at h
    simp only [AL.get?_append_single] at h
    cases ha : AL.get? tbl a with
    | some x => rw [ha] at h; exact Or.inl h
    | none =>
      rw [ha] at h
      by_cases hna : n = a
      · subst hna; simp at h; exact Or.inr ⟨rfl, h.symm, rfl⟩
      · simp [hna] at h

theorem TabOK_assign (tbl : List (Nat × Nat)) (n : Nat) (h : TabOK tbl) : TabOK (assign tbl n).1 := by
  obtain ⟨hinj, hlt⟩ := h
  cases hn : AL.get? tbl n with
  | some v => rw [assign_old tbl n v hn]; exact ⟨hinj, hlt⟩
  | none =>
    have hlen : (assign tbl n).1.length = tbl.length + 1 := by rw [assign_new tbl n hn]; simp
    constructor
    · intro a b u ha hb
      rcases assign_get tbl n a u ha with ha1 | ⟨ha1, ha2, _⟩
      · rcases assign_get tbl n b u hb with hb1 | ⟨hb1, hb2, _⟩
        · exact hinj a b u ha1 hb1
        · rw [hb2] at ha1; exact absurd (hlt a _ ha1) (Nat.lt_irrefl _)
      · rcases assign_get tbl n b u hb with hb1 | ⟨hb1, _, _⟩
        · rw [ha2] at hb1; exact absurd (hlt b _ hb1) (Nat.lt_irrefl _)
        · rw [ha1, hb1]
    · intro a u ha
      rw [hlen]
      rcases assign_get tbl n a u ha with ha | ⟨_, rfl, _⟩
      · exact Nat.lt_succ_of_lt (hlt a u ha)
      · exact Nat.lt_succ_self _

structure Inv1 (s : HifSt) (seen : List (Nat × Nat)) : Prop where
  eok : TabOK s.etab
  nok : TabOK s.ntab
  tmpSound : ∀ eu l, AL.get? s.tmp eu = some l → ∃ p ∈ seen, AL.get? s.etab p.1 = some eu
  seenOk : ∀ p ∈ seen, ∃ eu nu, AL.get? s.etab p.1 = some eu ∧ AL.get? s.ntab p.2 = some nu
  untouched : s.c = construct HKey false ∧ s.added = [] ∧ s.incid = [] ∧ s.empties = []

theorem Inv1_init : Inv1 {} [] :=
  ⟨TabOK_nil, TabOK_nil, by simp [AL.get?], by simp, by simp⟩

theorem Inv1_step (s : HifSt) (seen : List (Nat × Nat)) (p : Nat × Nat) (h : Inv1 s seen) :
    Inv1 (hifInc1 s p) (seen ++ [p]) := by
  obtain ⟨eok, nok, hts, hso, hr⟩ := h
  refine ⟨TabOK_assign _ _ eok, TabOK_assign _ _ nok, ?_, ?_, hr⟩
  · intro eu l hget
    simp only [hifInc1] at hget ⊢
    by_cases heu : (assign s.etab p.1).2 = eu
    · exact ⟨p, by simp, heu ▸ assign_get_self s.etab p.1⟩
    · rw [AL.get?_set_ne _ _ _ _ heu] at hget
      obtain ⟨q, hq, hq'⟩ := hts eu l hget
      exact ⟨q, by simp [hq], assign_stable _ _ _ _ hq'⟩
  · intro q hq
    simp only [hifInc1]
    rcases List.mem_append.mp hq with hq | hq
    · obtain ⟨eu, nu, h1, h2⟩ := hso q hq
      exact ⟨eu, nu, assign_stable _ _ _ _ h1, assign_stable _ _ _ _ h2⟩
    · simp at hq; subst hq
      exact ⟨_, _, assign_get_self _ _, assign_get_self _ _⟩

theorem filterMap_congr' {α β : Type} (f g : α → Option β) (l : List α) (h : ∀ x ∈ l, f x = g x) :
    l.filterMap f = l.filterMap g := by
  induction l with
  | nil => rfl
  | cons a t ih =>
    simp only [List.filterMap_cons, h a (by simp)]
    rw [ih (fun x hx => h x (by simp [hx]))]

/-- the node ids incident to edge name `e`, in file order -/
def incList (ntab : List (Nat × Nat)) (incs : List (Nat × Nat)) (e : Nat) : List Nat :=
  (incs.filter (fun p => p.1 = e)).filterMap (fun p => AL.get? ntab p.2)

def ListsOK (s : HifSt) (seen : List (Nat × Nat)) : Prop :=
  ∀ e eu, AL.get? s.etab e = some eu → AL.get? s.tmp eu = some (incList s.ntab seen e)

theorem incList_stable (ntab : List (Nat × Nat)) (n : Nat) (seen : List (Nat × Nat)) (e : Nat)
    (h : ∀ p ∈ seen, ∃ nu, AL.get? ntab p.2 = some nu) :
    incList (assign ntab n).1 seen e = incList ntab seen e := by
  unfold incList
  apply filterMap_congr'
  intro x hx
  obtain ⟨nu, hnu⟩ := h x (List.mem_filter.mp hx).1
  rw [hnu, assign_stable _ _ _ _ hnu]

theorem incList_append (ntab : List (Nat × Nat)) (a b : List (Nat × Nat)) (e : Nat) :
    incList ntab (a ++ b) e = incList ntab a e ++ incList ntab b e := by
  unfold incList; rw [List.filter_append, List.filterMap_append]

theorem ListsOK_step (s : HifSt) (seen : List (Nat × Nat)) (p : Nat × Nat) (h : Inv1 s seen) (hl : ListsOK s seen) :
    ListsOK (hifInc1 s p) (seen ++ [p]) := by
  obtain ⟨eok, nok, hts, hso, _⟩ := h
  have hn : ∀ q ∈ seen, ∃ nu, AL.get? s.ntab q.2 = some nu := by
    intro q hq; obtain ⟨_, nu, _, h2⟩ := hso q hq; exact ⟨nu, h2⟩
  have eok' := TabOK_assign s.etab p.1 eok
  intro e eu hget
  simp only [hifInc1] at hget ⊢
  have hself := assign_get_self s.etab p.1
  have hnself := assign_get_self s.ntab p.2
  -- `e` is the edge name of the new incidence (its list grows by the node's id; a name numbered just now had no list), or another name (its number and list are untouched)
  by_cases hep : e = p.1
  · subst hep
    rw [hself] at hget; cases hget
    rw [AL.get?_set_self]
    rw [incList_append, incList_stable s.ntab p.2 seen p.1 hn,
      show incList (assign s.ntab p.2).1 [p] p.1 = [(assign s.ntab p.2).2] by simp [incList, hnself]]
    cases hold : AL.get? s.etab p.1 with
    | some u =>
      rw [assign_old _ _ _ hold]
      simp only [hl p.1 u hold, listOrEmpty]
    | none =>
      rw [assign_new _ _ hold]
      simp only
      have hnone : AL.get? s.tmp s.etab.length = none := by
        cases hg : AL.get? s.tmp s.etab.length with
        | none => rfl
        | some l =>
          obtain ⟨q, _, hq'⟩ := hts _ l hg
          exact absurd (eok.2 _ _ hq') (Nat.lt_irrefl _)
      have hempty : incList s.ntab seen p.1 = [] := by
        unfold incList
        have : seen.filter (fun q => q.1 = p.1) = [] := by
          apply List.filter_eq_nil_iff.mpr
          intro q hq hqp
          obtain ⟨eu, _, h1, _⟩ := hso q hq
          simp at hqp
          rw [hqp, hold] at h1; cases h1
        rw [this]; rfl
      rw [hnone, hempty]; rfl
  · have hne : p.1 ≠ e := fun h => hep h.symm
    have hold : AL.get? s.etab e = some eu := by
      rcases assign_get _ _ _ _ hget with h1 | ⟨h1, _, _⟩
      · exact h1
      · exact absurd h1 hep
    have hdiff : (assign s.etab p.1).2 ≠ eu := by
      intro hc
      exact hne (eok'.1 _ _ _ (hc ▸ hself) hget)
    rw [AL.get?_set_ne _ _ _ _ hdiff, hl e eu hold]
    rw [incList_append, incList_stable s.ntab p.2 seen e hn,
      show incList (assign s.ntab p.2).1 [p] e = [] by simp [incList, hne], List.append_nil]

structure Pass1 (s : HifSt) (seen : List (Nat × Nat)) : Prop extends Inv1 s seen where
  lists : ListsOK s seen

theorem Pass1_fold (s : HifSt) (seen l : List (Nat × Nat)) (h : Pass1 s seen) :
    Pass1 (l.foldl hifInc1 s) (seen ++ l) := by
  induction l generalizing s seen with
  | nil => simpa using h
  | cons p t ih =>
    have := ih (hifInc1 s p) (seen ++ [p]) ⟨Inv1_step s seen p h.toInv1, ListsOK_step s seen p h.toInv1 h.lists⟩
    simpa [List.append_assoc] using this

theorem Pass1_pass1 (d : HifDoc) : Pass1 (hifPass1 d) d.incidences := by
  have := Pass1_fold {} [] d.incidences ⟨Inv1_init, by intro e eu h; simp [AL.get?] at h⟩
  simpa [hifPass1] using this

theorem Inv1_pass1 (d : HifDoc) : Inv1 (hifPass1 d) d.incidences := (Pass1_pass1 d).toInv1

def Ext (t t' : List (Nat × Nat)) : Prop := ∀ a u, AL.get? t a = some u → AL.get? t' a = some u

theorem Ext_refl (t : List (Nat × Nat)) : Ext t t := fun _ _ h => h
theorem Ext_assign (t : List (Nat × Nat)) (n : Nat) : Ext t (assign t n).1 := fun a u h => assign_stable t n a u h
theorem Ext_trans {a b c : List (Nat × Nat)} (h1 : Ext a b) (h2 : Ext b c) : Ext a c := fun x u h => h2 x u (h1 x u h)

theorem assign_inj (tbl : List (Nat × Nat)) (n a : Nat) (h : TabOK tbl)
    (ha : AL.get? (assign tbl n).1 a = some (assign tbl n).2) : a = n :=
  (TabOK_assign tbl n h).1 _ _ _ ha (assign_get_self tbl n)

theorem hifEdge_cases (s s' : HifSt) (name i : Nat) (h : hifEdge s name i = some s') :
    (∃ l c1, AL.get? s.tmp (assign s.etab name).2 = some l ∧ addEdge s.c ⟨sort l⟩ none none = some c1 ∧
        s' = { s with etab := (assign s.etab name).1, c := setEdgeMeta c1 ⟨sort l⟩ (recMeta i),
                      added := markAdded s.added (sort l) }) ∨
    (AL.get? s.tmp (assign s.etab name).2 = none ∧
        s' = { s with etab := (assign s.etab name).1, empties := s.empties ++ [(name, i)] }) := by
  unfold hifEdge at h
  cases hg : AL.get? s.tmp (assign s.etab name).2 with
  | some l =>
    simp only [hg] at h
    cases h1 : addEdge s.c ⟨sort l⟩ none none with
    | none => rw [h1] at h; cases h
    | some c1 => rw [h1] at h; cases h; exact Or.inl ⟨l, c1, rfl, h1, rfl⟩
  | none =>
    simp only [hg] at h
    split at h
    · cases h
    · cases h; exact Or.inr ⟨rfl, rfl⟩

theorem hifInc2_cases (s s' : HifSt) (p : Nat × Nat) (j : Nat) (h : hifInc2 s p j = some s') :
    ∃ eu nu l, AL.get? s.etab p.1 = some eu ∧ AL.get? s.ntab p.2 = some nu ∧ AL.get? s.tmp eu = some l ∧
      ((sort l ∈ s.added ∧ s' = { s with incid := AL.set s.incid (sort l, nu) j }) ∨
       (sort l ∉ s.added ∧ ∃ c1, addEdge s.c ⟨sort l⟩ none none = some c1 ∧
          s' = { s with c := c1, added := s.added ++ [sort l], incid := AL.set s.incid (sort l, nu) j })) := by
  unfold hifInc2 at h
  split at h
  · rename_i eu nu he hn
    split at h
    · cases h
    · rename_i l hg
      refine ⟨eu, nu, l, he, hn, hg, ?_⟩
      dsimp only at h
      split at h
      · rename_i hin; cases h; exact Or.inl ⟨hin, rfl⟩
      · rename_i hin
        split at h
        · cases h
        · rename_i c1 h1; cases h; exact Or.inr ⟨hin, c1, h1, rfl⟩
  · cases h

/-- loops three and four have this shape: a step that may raise, run over the records with their positions -/
def foldIdx? {σ α : Type} (f : σ → α → Nat → Option σ) (s : σ) (i : Nat) : List α → Option σ
  | [] => some s
  | a :: rest =>
    match f s a i with
    | none => none
    | some s' => foldIdx? f s' (i + 1) rest

theorem hifEdges_eq (s : HifSt) (i : Nat) (l : List Nat) : hifEdges s i l = foldIdx? hifEdge s i l := by
  induction l generalizing s i with
  | nil => rfl
  | cons e t ih =>
    simp only [hifEdges, foldIdx?]
    cases hifEdge s e i with
    | none => rfl
    | some s1 => exact ih s1 (i + 1)

theorem hifIncs2_eq (s : HifSt) (j : Nat) (l : List (Nat × Nat)) : hifIncs2 s j l = foldIdx? hifInc2 s j l := by
  induction l generalizing s j with
  | nil => rfl
  | cons p t ih =>
    simp only [hifIncs2, foldIdx?]
    cases hifInc2 s p j with
    | none => rfl
    | some s1 => exact ih s1 (j + 1)

section
variable {σ α : Type} (f : σ → α → Nat → Option σ)

theorem foldIdx?_split (s s' : σ) (i : Nat) (a : List α) (x : α) (b : List α)
    (h : foldIdx? f s i (a ++ x :: b) = some s') :
    ∃ sa sb, foldIdx? f s i a = some sa ∧ f sa x (i + a.length) = some sb ∧
      foldIdx? f sb (i + a.length + 1) b = some s' := by
  induction a generalizing s i with
  | nil =>
    simp only [List.nil_append, foldIdx?] at h
    cases hx : f s x i with
    | none => rw [hx] at h; cases h
    | some sb => rw [hx] at h; exact ⟨s, sb, rfl, hx, h⟩
  | cons y t ih =>
    rw [List.cons_append, foldIdx?] at h
    cases hy : f s y i with
    | none => rw [hy] at h; cases h
    | some s1 =>
      rw [hy] at h
      obtain ⟨sa, sb, h1, h2, h3⟩ := ih s1 (i + 1) h
      rw [Nat.add_right_comm i 1 t.length] at h2 h3
      exact ⟨sa, sb, by rw [foldIdx?, hy]; exact h1, h2, h3⟩

/-- a property of (records done, state) that every step preserves holds at the end of the run -/
theorem foldIdx?_ind (P : List α → σ → Prop) (l : List α)
    (step : ∀ done s a i s', a ∈ l → P done s → f s a i = some s' → P (done ++ [a]) s')
    (done : List α) (s s' : σ) (i : Nat) (h0 : P done s) (h : foldIdx? f s i l = some s') : P (done ++ l) s' := by
  induction l generalizing done s i with
  | nil => cases h; rw [List.append_nil]; exact h0
  | cons a t ih =>
    simp only [foldIdx?] at h
    cases ha : f s a i with
    | none => rw [ha] at h; cases h
    | some s1 =>
      rw [ha] at h
      have := ih (fun done s b i s' hb => step done s b i s' (List.mem_cons_of_mem a hb)) (done ++ [a]) s1 (i + 1)
        (step done s a i s1 (List.mem_cons_self ..) h0 ha) h
      rwa [List.append_assoc] at this

end

theorem readHif_stages (d : HifDoc) (r : HifResult) (h : readHif d = some r) :
    ∃ s3 s4, hifEdges (hifNodes (hifPass1 d) 1 d.nodes) 1 d.edges = some s3 ∧ hifIncs2 s3 1 d.incidences = some s4 ∧
      r = { c := s4.c, incid := s4.incid, empties := s4.empties } := by
  unfold readHif at h
  cases h3 : hifEdges (hifNodes (hifPass1 d) 1 d.nodes) 1 d.edges with
  | none => rw [h3] at h; cases h
  | some s3 =>
    simp only [h3] at h
    cases h4 : hifIncs2 s3 1 d.incidences with
    | none => rw [h4] at h; cases h
    | some s4 => rw [h4] at h; cases h; exact ⟨s3, s4, rfl, h4, rfl⟩

def noInc (incs : List (Nat × Nat)) (name : Nat) : Prop := ∀ p ∈ incs, p.1 ≠ name

/-- the incidence list of an edge name, as the first loop leaves it -/
def keyList (d : HifDoc) (name : Nat) : Option (List Nat) :=
  (AL.get? (hifPass1 d).etab name).bind (AL.get? (hifPass1 d).tmp)

/-- the tables of `s` are those of the first loop, grown by the names the later loops numbered -/
structure Tabs (d : HifDoc) (s : HifSt) : Prop where
  tmpEq : s.tmp = (hifPass1 d).tmp
  eok : TabOK s.etab
  nok : TabOK s.ntab
  eext : Ext (hifPass1 d).etab s.etab
  next : Ext (hifPass1 d).ntab s.ntab

theorem Tabs_pass1 (d : HifDoc) : Tabs d (hifPass1 d) :=
  ⟨rfl, (Inv1_pass1 d).eok, (Inv1_pass1 d).nok, Ext_refl _, Ext_refl _⟩

/-- what the third loop looks up for an edge name: a name numbered after the first loop has no list -/
theorem Tabs.list_assign {d : HifDoc} {s : HifSt} (ht : Tabs d s) (name : Nat) :
    AL.get? s.tmp (assign s.etab name).2 = keyList d name := by
  rw [ht.tmpEq]; unfold keyList
  cases hE : AL.get? (hifPass1 d).etab name with
  | some eu => rw [assign_old _ _ _ (ht.eext _ _ hE)]; rfl
  | none =>
    cases hg : AL.get? (hifPass1 d).tmp (assign s.etab name).2 with
    | none => rfl
    | some l =>
      -- a number with a list belongs to the edge name of an incidence, which the first loop numbered
      obtain ⟨p, _, hp⟩ := (Inv1_pass1 d).tmpSound _ l hg
      rw [assign_inj s.etab name p.1 ht.eok (assign_stable _ _ _ _ (ht.eext _ _ hp)), hE] at hp
      cases hp

theorem Tabs.inc_lookup {d : HifDoc} {s : HifSt} (ht : Tabs d s) (p : Nat × Nat) (hp : p ∈ d.incidences) :
    ∃ eu nu l, AL.get? s.etab p.1 = some eu ∧ AL.get? s.ntab p.2 = some nu ∧ AL.get? s.tmp eu = some l ∧
      keyList d p.1 = some l ∧ AL.get? (hifPass1 d).ntab p.2 = some nu := by
  obtain ⟨eu, nu, h1, h2⟩ := (Inv1_pass1 d).seenOk p hp
  have h3 := (Pass1_pass1 d).lists p.1 eu h1
  exact ⟨eu, nu, _, ht.eext _ _ h1, ht.next _ _ h2, ht.tmpEq ▸ h3, by unfold keyList; rw [h1]; exact h3, h2⟩

theorem keyList_none_iff (d : HifDoc) (name : Nat) : keyList d name = none ↔ noInc d.incidences name := by
  constructor
  · intro h p hp hpn
    obtain ⟨_, _, l, _, _, _, hl, _⟩ := (Tabs_pass1 d).inc_lookup p hp
    rw [hpn, h] at hl; cases hl
  · intro h
    cases hk : keyList d name with
    | none => rfl
    | some l =>
      unfold keyList at hk
      cases hE : AL.get? (hifPass1 d).etab name with
      | none => rw [hE] at hk; cases hk
      | some eu =>
        rw [hE] at hk
        obtain ⟨p, hp, hp'⟩ := (Inv1_pass1 d).tmpSound eu l hk
        exact absurd ((Inv1_pass1 d).eok.1 _ _ _ hp' hE) (h p hp)

theorem Tabs_node {d : HifDoc} {s : HifSt} (ht : Tabs d s) (name i : Nat) : Tabs d (hifNode s name i) :=
  ⟨ht.tmpEq, ht.eok, TabOK_assign _ _ ht.nok, ht.eext, Ext_trans ht.next (Ext_assign _ _)⟩

theorem Tabs_edge {d : HifDoc} {s s' : HifSt} (ht : Tabs d s) (name i : Nat) (h : hifEdge s name i = some s') :
    Tabs d s' := by
  rcases hifEdge_cases s s' name i h with ⟨_, _, _, _, rfl⟩ | ⟨_, rfl⟩ <;>
    exact ⟨ht.tmpEq, TabOK_assign _ _ ht.eok, ht.nok, Ext_trans ht.eext (Ext_assign _ _), ht.next⟩

theorem Tabs_inc2 {d : HifDoc} {s s' : HifSt} (ht : Tabs d s) (p : Nat × Nat) (j : Nat) (h : hifInc2 s p j = some s') :
    Tabs d s' := by
  obtain ⟨_, _, _, _, _, _, ⟨_, rfl⟩ | ⟨_, _, _, rfl⟩⟩ := hifInc2_cases s s' p j h <;> exact ⟨ht.1, ht.2, ht.3, ht.4, ht.5⟩

/-- the third loop's step read off the document: the state only supplies the content, the marks and the empty-edge table -/
theorem hifEdge_key {d : HifDoc} {s s' : HifSt} (ht : Tabs d s) (name i : Nat) (h : hifEdge s name i = some s') :
    (∃ l c1, keyList d name = some l ∧ addEdge s.c ⟨sort l⟩ none none = some c1 ∧
        s' = { s with etab := (assign s.etab name).1, c := setEdgeMeta c1 ⟨sort l⟩ (recMeta i),
                      added := markAdded s.added (sort l) }) ∨
    (noInc d.incidences name ∧
        s' = { s with etab := (assign s.etab name).1, empties := s.empties ++ [(name, i)] }) := by
  rcases hifEdge_cases s s' name i h with ⟨l, c1, hg, h1, rfl⟩ | ⟨hg, rfl⟩
  · exact Or.inl ⟨l, c1, ht.list_assign name ▸ hg, h1, rfl⟩
  · exact Or.inr ⟨(keyList_none_iff d name).mp (ht.list_assign name ▸ hg), rfl⟩

theorem keyList_some {d : HifDoc} {name : Nat} {l : List Nat} (h : keyList d name = some l) :
    ∃ eu, AL.get? (hifPass1 d).etab name = some eu ∧ AL.get? (hifPass1 d).tmp eu = some l := by
  unfold keyList at h
  cases hE : AL.get? (hifPass1 d).etab name with
  | none => rw [hE] at h; cases h
  | some eu => rw [hE] at h; exact ⟨eu, rfl, h⟩

theorem Tabs_nodes {d : HifDoc} {s : HifSt} (ht : Tabs d s) (i : Nat) (l : List Nat) : Tabs d (hifNodes s i l) := by
  induction l generalizing s i with
  | nil => exact ht
  | cons n t ih => exact ih (Tabs_node ht n i) _

theorem Tabs_edges {d : HifDoc} {s s' : HifSt} (ht : Tabs d s) (i : Nat) (l : List Nat) (h : hifEdges s i l = some s') :
    Tabs d s' :=
  foldIdx?_ind hifEdge (fun _ s1 => Tabs d s1) l (fun _ _ n i _ _ h1 h2 => Tabs_edge h1 n i h2) [] s s' i ht
    (hifEdges_eq s i l ▸ h)

theorem Tabs_incs2 {d : HifDoc} {s s' : HifSt} (ht : Tabs d s) (j : Nat) (l : List (Nat × Nat))
    (h : hifIncs2 s j l = some s') : Tabs d s' :=
  foldIdx?_ind hifInc2 (fun _ s1 => Tabs d s1) l (fun _ _ p j _ _ h1 h2 => Tabs_inc2 h1 p j h2) [] s s' j ht
    (hifIncs2_eq s j l ▸ h)

theorem hifInc2_key {d : HifDoc} {s s' : HifSt} (ht : Tabs d s) (p : Nat × Nat) (hp : p ∈ d.incidences) (j : Nat)
    (h : hifInc2 s p j = some s') :
    ∃ nu l, keyList d p.1 = some l ∧ AL.get? (hifPass1 d).ntab p.2 = some nu ∧
      ((sort l ∈ s.added ∧ s' = { s with incid := AL.set s.incid (sort l, nu) j }) ∨
       (sort l ∉ s.added ∧ ∃ c1, addEdge s.c ⟨sort l⟩ none none = some c1 ∧
          s' = { s with c := c1, added := s.added ++ [sort l], incid := AL.set s.incid (sort l, nu) j })) := by
  obtain ⟨eu, nu, l, he, hn, hg, hs⟩ := hifInc2_cases s s' p j h
  obtain ⟨eu', nu', l', a1, a2, a3, a4, a5⟩ := ht.inc_lookup p hp
  rw [he] at a1; cases a1
  rw [hn] at a2; cases a2
  rw [hg] at a3; cases a3
  exact ⟨nu, l, a4, a5, hs⟩

theorem hifInc2_incid {d : HifDoc} {s s' : HifSt} (ht : Tabs d s) (p : Nat × Nat) (hp : p ∈ d.incidences) (j : Nat)
    (h : hifInc2 s p j = some s') :
    ∃ nu l, keyList d p.1 = some l ∧ AL.get? (hifPass1 d).ntab p.2 = some nu ∧
      s'.incid = AL.set s.incid (sort l, nu) j := by
  obtain ⟨nu, l, a1, a2, ⟨_, rfl⟩ | ⟨_, _, _, rfl⟩⟩ := hifInc2_key ht p hp j h <;> exact ⟨nu, l, a1, a2, rfl⟩

theorem WF_setNodeMeta (c : Content HKey) (u : Nat) (m : Meta) (h : WF c) (hu : u ∈ AL.keys c.nodes) :
    WF (setNodeMeta c u m) :=
  WF_skel (by simp only [skel, setNodeMeta, AL.keys_set_of_mem _ _ _ ((AL.mem_keys_iff _ _).mp hu)]) h

/-- `set_edge_metadata` rewrites the metadata of an entry that is there (or does nothing): same skeleton -/
theorem skel_setEdgeMeta (c : Content HKey) (k : HKey) (m : Meta) : skel (setEdgeMeta c k m) = skel c := by
  unfold setEdgeMeta
  cases hg : AL.get? c.edges k with
  | none => rfl
  | some old =>
    have := AL.set_same (c.edges.map fun e => (e.1, e.2.1)) k old.1 (by rw [AL.get?_map_val c.edges Prod.fst, hg]; rfl)
    simp only [skel, AL.map_val_set c.edges Prod.fst, this]

theorem addEdge_unweighted_total (c : Content HKey) (k : HKey) (hu : c.weighted = false) :
    ∃ c', addEdge c k none none = some c' := addEdge_total c k none none (by simp [rejectsWeight])

theorem mem_markAdded_iff (added : List (List Nat)) (k x : List Nat) : x ∈ markAdded added k ↔ x ∈ added ∨ x = k := by
  unfold markAdded; split
  · rename_i hin; exact ⟨Or.inl, fun h => h.elim id (fun e => e ▸ hin)⟩
  · simp only [List.mem_append, List.mem_singleton]

theorem addKey_get_other (c c1 : Content HKey) (l k : List Nat) (h1 : addEdge c ⟨sort l⟩ none none = some c1)
    (hne : sort l ≠ k) : AL.get? c1.edges ⟨k⟩ = AL.get? c.edges ⟨k⟩ :=
  addEdge_get_other c c1 _ none none h1 ⟨k⟩ (by rw [canonH, sort_idem]; exact fun hc => hne (congrArg HKey.nodes hc))

structure Inv2 (d : HifDoc) (doneE : List Nat) (s : HifSt) : Prop where
  wf : WF s.c
  unw : s.c.weighted = false
  keysSound : ∀ k ∈ AL.keys s.c.edges, ∃ name l, keyList d name = some l ∧ k = ⟨sort l⟩
  addedIff : ∀ k, k ∈ s.added ↔ (⟨k⟩ : HKey) ∈ AL.keys s.c.edges
  emptiesIff : ∀ name, name ∈ AL.keys s.empties ↔ name ∈ doneE ∧ noInc d.incidences name

theorem Inv2_pass1 (d : HifDoc) : Inv2 d [] (hifPass1 d) := by
  obtain ⟨hc, ha, _, he⟩ := (Inv1_pass1 d).untouched
  refine ⟨?_, ?_, ?_, ?_, ?_⟩
  · rw [hc]; exact WF_construct false
  · rw [hc]; rfl
  · rw [hc]; simp [construct, AL.keys]
  · rw [hc, ha]; simp [construct, AL.keys]
  · rw [he]; simp [AL.keys]

theorem Inv2_node (d : HifDoc) (doneE : List Nat) (s : HifSt) (name i : Nat) (h : Inv2 d doneE s) :
    Inv2 d doneE (hifNode s name i) :=
  ⟨WF_setNodeMeta _ _ _ (WF_addNode s.c _ none h.wf) ((mem_keys_touchNode _ _ _ _).mpr (Or.inr rfl)),
    h.unw, h.keysSound, h.addedIff, h.emptiesIff⟩

theorem Inv2_nodes (d : HifDoc) (doneE : List Nat) (s : HifSt) (i : Nat) (l : List Nat) (h : Inv2 d doneE s) :
    Inv2 d doneE (hifNodes s i l) := by
  induction l generalizing s i with
  | nil => exact h
  | cons n t ih => exact ih _ _ (Inv2_node d doneE s n i h)

/-- the content half of `Inv2` when loop three or four adds the key of the list `l`; `added'` is `added`
    with that key marked, whichever way the loop marks it -/
theorem addKey_inv (d : HifDoc) (c c1 : Content HKey) (added added' : List (List Nat)) (name : Nat)
    (l : List Nat) (hg : keyList d name = some l) (h1 : addEdge c ⟨sort l⟩ none none = some c1)
    (hadd : ∀ k, k ∈ added' ↔ k ∈ added ∨ k = sort l) (hwf : WF c) (hu : c.weighted = false)
    (hks : ∀ k ∈ AL.keys c.edges, ∃ name l, keyList d name = some l ∧ k = ⟨sort l⟩)
    (hai : ∀ k, k ∈ added ↔ (⟨k⟩ : HKey) ∈ AL.keys c.edges) :
    WF c1 ∧ c1.weighted = false ∧ (∀ k ∈ AL.keys c1.edges, ∃ name l, keyList d name = some l ∧ k = ⟨sort l⟩) ∧
      (∀ k, k ∈ added' ↔ (⟨k⟩ : HKey) ∈ AL.keys c1.edges) := by
  have hkeys : ∀ k, k ∈ AL.keys c1.edges ↔ k ∈ AL.keys c.edges ∨ k = ⟨sort l⟩ := fun k => by
    rw [addEdge_keys_iff c c1 _ none none h1, canonH, sort_idem]
  refine ⟨WF_addEdge c c1 _ none none hwf h1, (addEdge_weighted h1).trans hu, ?_, ?_⟩
  · intro k hk
    rcases (hkeys k).mp hk with hk | hk
    · exact hks k hk
    · exact ⟨name, l, hg, hk⟩
  · intro k
    rw [hadd, hkeys, hai]
    exact or_congr Iff.rfl ⟨fun h => by rw [h], fun h => congrArg HKey.nodes h⟩

theorem Inv2_edge {d : HifDoc} {doneE : List Nat} {s s' : HifSt} (name i : Nat) (ht : Tabs d s) (h : Inv2 d doneE s)
    (hs : hifEdge s name i = some s') : Inv2 d (doneE ++ [name]) s' := by
  obtain ⟨hwf, hu, hks, hai, hei⟩ := h
  have hdone : ∀ nm, nm ∈ doneE ++ [name] ↔ nm ∈ doneE ∨ nm = name := fun nm => by
    rw [List.mem_append, List.mem_singleton]
  -- the edge name has a list (its key is added and marked, the empty-edge table is untouched) or no incidence (it joins the empty-edge table)
  rcases hifEdge_key ht name i hs with ⟨l, c1, hg, h1, rfl⟩ | ⟨hno, rfl⟩
  · have hinc : ¬ noInc d.incidences name := fun hno => by rw [(keyList_none_iff d name).mpr hno] at hg; cases hg
    obtain ⟨a1, a2, a3, a4⟩ := addKey_inv d s.c c1 s.added (markAdded s.added (sort l)) name l hg h1
      (mem_markAdded_iff _ _) hwf hu hks hai
    have hsk := skel_setEdgeMeta c1 ⟨sort l⟩ (recMeta i)
    have hk : AL.keys (setEdgeMeta c1 ⟨sort l⟩ (recMeta i)).edges = AL.keys c1.edges := by rw [← keys_skel, hsk, keys_skel]
    refine ⟨WF_skel hsk a1, (congrArg (·.2.1) hsk).trans a2, hk ▸ a3, hk ▸ a4, ?_⟩
    intro nm
    rw [hdone]
    exact (hei nm).trans ⟨fun h => ⟨Or.inl h.1, h.2⟩,
      fun h => ⟨h.1.elim id (fun e => absurd (e ▸ h.2) hinc), h.2⟩⟩
  · refine ⟨hwf, hu, hks, hai, ?_⟩
    intro nm
    show nm ∈ AL.keys (s.empties ++ [(name, i)]) ↔ _
    rw [AL.keys_append, List.mem_append, hei nm, hdone]
    show _ ∨ nm ∈ [name] ↔ _
    rw [List.mem_singleton]
    exact ⟨fun h => h.elim (fun h => ⟨Or.inl h.1, h.2⟩) (fun e => ⟨Or.inr e, by rw [e]; exact hno⟩),
      fun h => h.1.elim (fun h1 => Or.inl ⟨h1, h.2⟩) Or.inr⟩

theorem Inv2_edges {d : HifDoc} {doneE : List Nat} {s s' : HifSt} (i : Nat) (l : List Nat) (ht : Tabs d s)
    (h : Inv2 d doneE s) (hs : hifEdges s i l = some s') : Tabs d s' ∧ Inv2 d (doneE ++ l) s' :=
  foldIdx?_ind hifEdge (fun done s => Tabs d s ∧ Inv2 d done s) l
    (fun _ _ a i _ _ h hs => ⟨Tabs_edge h.1 a i hs, Inv2_edge a i h.1 h.2 hs⟩) doneE s s' i ⟨ht, h⟩ (hifEdges_eq s i l ▸ hs)

/-- the key of every incidence in `seen` is present: the sorted list of its edge name is marked -/
def Covered (d : HifDoc) (s : HifSt) (seen : List (Nat × Nat)) : Prop :=
  ∀ p ∈ seen, ∃ l, keyList d p.1 = some l ∧ sort l ∈ s.added

theorem Inv2_inc2 {d : HifDoc} {doneE : List Nat} {s s' : HifSt} (p : Nat × Nat) (hp : p ∈ d.incidences) (j : Nat)
    (seen : List (Nat × Nat)) (ht : Tabs d s) (h : Inv2 d doneE s) (hc : Covered d s seen)
    (hs : hifInc2 s p j = some s') : Inv2 d doneE s' ∧ Covered d s' (seen ++ [p]) := by
  obtain ⟨hwf, hu, hks, hai, hei⟩ := h
  -- the marks only grow, and the key of `p` is marked afterwards
  have snoc : ∀ l, keyList d p.1 = some l → (∀ k ∈ s.added, k ∈ s'.added) → sort l ∈ s'.added →
      Covered d s' (seen ++ [p]) := fun l hl hA hin q hq => by
    rcases List.mem_append.mp hq with hq | hq
    · obtain ⟨l', a1, a2⟩ := hc q hq; exact ⟨l', a1, hA _ a2⟩
    · cases List.mem_singleton.mp hq; exact ⟨l, hl, hin⟩
  obtain ⟨nu, l, hg, _, ⟨hin, rfl⟩ | ⟨hin, c1, h1, rfl⟩⟩ := hifInc2_key ht p hp j hs
  · exact ⟨⟨hwf, hu, hks, hai, hei⟩, snoc l hg (fun _ hk => hk) hin⟩
  · obtain ⟨a1, a2, a3, a4⟩ := addKey_inv d s.c c1 s.added (s.added ++ [sort l]) p.1 l hg h1
      (fun k => by rw [List.mem_append, List.mem_singleton]) hwf hu hks hai
    exact ⟨⟨a1, a2, a3, a4, hei⟩, snoc l hg (fun _ hk => List.mem_append_left _ hk)
      (List.mem_append_right _ (List.mem_singleton_self _))⟩

theorem Inv2_incs2 {d : HifDoc} {doneE : List Nat} {s s' : HifSt} (l : List (Nat × Nat)) (hl : ∀ p ∈ l, p ∈ d.incidences)
    (j : Nat) (seen : List (Nat × Nat)) (ht : Tabs d s) (h : Inv2 d doneE s) (hc : Covered d s seen)
    (hs : hifIncs2 s j l = some s') : Inv2 d doneE s' ∧ Covered d s' (seen ++ l) :=
  (foldIdx?_ind hifInc2 (fun done s => Tabs d s ∧ Inv2 d doneE s ∧ Covered d s done) l
    (fun done _ a i _ ha h hs => ⟨Tabs_inc2 h.1 a i hs, Inv2_inc2 a (hl a ha) i done h.1 h.2.1 h.2.2 hs⟩) seen s s' j
    ⟨ht, h, hc⟩ (hifIncs2_eq s j l ▸ hs)).2

theorem readHif_inv (d : HifDoc) (r : HifResult) (h : readHif d = some r) :
    ∃ s, r = { c := s.c, incid := s.incid, empties := s.empties } ∧
      Inv2 d d.edges s ∧ Covered d s d.incidences := by
  obtain ⟨s3, s4, h3, h4, hr⟩ := readHif_stages d r h
  obtain ⟨t3, i3⟩ := Inv2_edges 1 d.edges (Tabs_nodes (Tabs_pass1 d) 1 d.nodes) (Inv2_nodes d [] _ 1 d.nodes (Inv2_pass1 d)) h3
  exact ⟨s4, hr, Inv2_incs2 d.incidences (fun _ hp => hp) 1 [] t3 i3 (fun _ hq => nomatch hq) h4⟩

end C06
