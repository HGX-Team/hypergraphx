import Hgxv.Proofs.C01Basic
import Hgxv.Proofs.C05Node
/-! OPTIONAL link (imported only by `Props/C05.lean`, for the three `C05_link_C01*` theorems): the content-level semantics of
`Model/C05.lean` is the abstract specification `C01.Spec` of `Model/C01.lean` (which C01 proves to be the
abstraction `C01.abs` of the concrete id-table store), operation by operation: eight single
mutators (`link_C01`), `add_nodes` and `clear` (`link_C01_nodes`), `remove_node` (`link_C01_removeNode`). -/
namespace C05

/-- forget the hypergraph-level metadata (C01 uses other tokens for it; C05's incidence metadata, empty edges and
hypergraph-level metadata are left empty: of the linked operations only `clear` touches them, and it empties them) -/
def ofSpec (a : C01.Spec) : Content UKey := { weighted := a.weighted, nodes := a.nodes, edges := a.edges }

/-- the C01 operations that C05 models, on canonical keys -/
def liftOp : C01.Op → Option (Op UKey)
  | .addNode n md => some (.addNode n (md.getD []))
  | .addEdge raw w md => some (.addEdge (canonU raw) w (md.getD []))
  | .removeEdge raw => some (.removeEdge (canonU raw))
  | .setWeight raw w => some (.setWeight (canonU raw) w)
  | .setNodeMeta n md => some (.setNodeMeta n md)
  | .setEdgeMeta raw md => some (.setEdgeMeta (canonU raw) md)
  | .setAttrNode n k v => some (.setNodeAttr n k v)
  | .setAttrEdge raw k v => some (.setEdgeAttr (canonU raw) k v)
  | _ => none

theorem canon_eq (raw : List Nat) : C01.canon raw = canonU raw := by rw [C01.canon_eq, canonU_nat]

theorem del_eq_erase {α β : Type} [DecidableEq α] (l : List (α × β)) (k : α) (h : (AL.keys l).Nodup) :
    C01.del l k = AL.erase l k :=
  (AL.erase_eq_filter l k h).symm

theorem touchNode_eq (a : C01.Spec) (n : Node) :
    C01.Spec.touchNode a n = { a with nodes := addNodeL a.nodes n [] } := by
  unfold C01.Spec.touchNode
  cases h : AL.get? a.nodes n with
  | none =>
    have hn : n ∉ AL.keys a.nodes := (AL.get?_eq_none_iff _ _).1 h
    simp [addNodeL_touch_absent _ _ hn, AL.set_of_not_mem _ _ _ h]
  | some v =>
    have hn : n ∈ AL.keys a.nodes := (AL.mem_keys_iff _ _).2 (by simp [h])
    simp [addNodeL_touch_present _ _ hn]

theorem foldl_touchNode_eq (e : List Nat) (a : C01.Spec) :
    e.foldl C01.Spec.touchNode a = { a with nodes := touchL a.nodes e } := by
  induction e generalizing a with
  | nil => rfl
  | cons n e ih => rw [List.foldl_cons, touchNode_eq, ih]; rfl

theorem addNode_eq (a : C01.Spec) (n : Node) (md : Option Meta) :
    (C01.Spec.addNode a n md).nodes = addNodeL a.nodes n (md.getD []) ∧
    (C01.Spec.addNode a n md).edges = a.edges ∧ (C01.Spec.addNode a n md).weighted = a.weighted := by
  unfold C01.Spec.addNode
  simp only [touchNode_eq]
  cases h : AL.get? a.nodes n with
  | none =>
    have hn : n ∉ AL.keys a.nodes := (AL.get?_eq_none_iff _ _).1 h
    have hg : AL.get? (addNodeL a.nodes n []) n = some [] := by
      rw [get?_addNodeL_touch]; simp [hn]
    simp only [hg]
    refine ⟨?_, trivial, trivial⟩
    simp only [addNodeL, h]
    rw [← AL.set_of_not_mem _ _ _ h, AL.set_set, AL.set_of_not_mem _ _ _ h]
  | some cur =>
    have hn : n ∈ AL.keys a.nodes := (AL.mem_keys_iff _ _).2 (by simp [h])
    simp only [addNodeL_touch_present _ _ hn, h]
    cases cur with
    | nil => simp [addNodeL, h]
    | cons x xs => simp [addNodeL, h]

/-- one call of a modelled mutator on `C01.Spec` is the C05 step on its content, with the same verdict -/
theorem link_C01 (a : C01.Spec) (op : C01.Op) (op' : Op UKey) (hl : liftOp op = some op')
    (hwf : WF (ofSpec a)) :
    ofSpec (C01.Spec.apply a op).1 = step (ofSpec a) op' ∧
    ((C01.Spec.apply a op).2 = .ok ↔ (apply? (ofSpec a) op').isSome = true) := by
  obtain ⟨aw, an, ae, ah⟩ := a
  cases op <;> simp only [liftOp, Option.some.injEq, reduceCtorEq] at hl <;> subst hl
  case addNode n md =>
    obtain ⟨h1, h2, h3⟩ := addNode_eq ⟨aw, an, ae, ah⟩ n md
    simp [C01.Spec.apply, step, apply?, addNode, ofSpec, h1, h2, h3]
  case addEdge raw w md =>
    have hone : C01.one = unitW := rfl
    simp only [C01.Spec.apply, C01.Spec.addEdge, canon_eq, step, apply?, addEdge, ofSpec, weightOk_eq, hone]
    by_cases hrej : (!aw && w.isSome && w != some unitW) = true
    · simp [hrej]
    · cases hg : AL.get? ae (canonU raw) with
      | none =>
        simp [hrej, addEdgeCore, addEdgeNew, touchAll, hg, foldl_touchNode_eq, AL.set_of_not_mem _ _ _ hg, Keyed.members]
      | some v => simp [hrej, addEdgeCore, addEdgeOld, hg]
  case removeEdge raw =>
    simp only [C01.Spec.apply, C01.Spec.removeEdge, canon_eq, step, apply?, removeEdge, ofSpec, AL.has]
    have hd : C01.del ae (canonU raw) = AL.erase ae (canonU raw) := del_eq_erase _ _ hwf.keys_nodup
    by_cases hs : (AL.get? ae (canonU raw)).isSome = true
    · simp [hs, hd]
    · simp [hs]
  case setWeight raw w =>
    simp only [C01.Spec.apply, C01.Spec.setWeight, canon_eq, step, apply?, setWeight, ofSpec]
    have hone : C01.one = unitW := rfl
    rw [hone]
    by_cases hok : (!aw && w != unitW) = true
    · simp [hok]
    · simp only [hok, Bool.false_eq_true, ↓reduceIte]
      cases hg : AL.get? ae (canonU raw) with
      | none => simp
      | some v => simp
  case setNodeMeta n md =>
    simp only [C01.Spec.apply, C01.Spec.setNodeMeta, step, apply?, setNodeMeta, ofSpec, AL.has]
    by_cases hs : (AL.get? an n).isSome = true
    · simp [hs]
    · simp [hs]
  case setEdgeMeta raw md =>
    simp only [C01.Spec.apply, C01.Spec.setEdgeMeta, canon_eq, step, apply?, setEdgeMeta, ofSpec]
    cases hg : AL.get? ae (canonU raw) <;> simp
  case setAttrNode n k v =>
    simp only [C01.Spec.apply, C01.Spec.setAttrNode, step, apply?, setNodeAttr, ofSpec]
    cases hg : AL.get? an n <;> simp
  case setAttrEdge raw k v =>
    simp only [C01.Spec.apply, C01.Spec.setAttrEdge, canon_eq, step, apply?, setEdgeAttr, ofSpec]
    cases hg : AL.get? ae (canonU raw) <;> simp

/-- more C01 operations: node batches (with and without the metadata table) and `clear` -/
def liftOp2 : C01.Op → Option (Op UKey)
  | .addNodes ns tbl => some (.addNodes ns tbl)
  | .clear => some .clear
  | op => liftOp op

theorem ofSpec_foldl_addNode (f : Node → Option Meta) (ns : List Node) : ∀ (a : C01.Spec),
    ofSpec (ns.foldl (fun a n => C01.Spec.addNode a n (f n)) a) =
      ns.foldl (fun h n => addNode h n ((f n).getD [])) (ofSpec a) := by
  induction ns with
  | nil => intro a; rfl
  | cons n ns ih =>
    intro a
    rw [List.foldl_cons, List.foldl_cons, ih]
    congr 1
    obtain ⟨h1, h2, h3⟩ := addNode_eq a n (f n)
    simp [ofSpec, addNode, h1, h2, h3]

theorem touchAll_eq_foldl (ns : List Node) : ∀ (c : Content UKey),
    touchAll c ns = ns.foldl (fun h n => addNode h n []) c := by
  induction ns with
  | nil => intro c; rfl
  | cons n ns ih =>
    intro c
    rw [List.foldl_cons, ← ih]
    simp [touchAll, touchL, addNode]

theorem link_C01_nodes (a : C01.Spec) (op : C01.Op) (op' : Op UKey) (hl : liftOp2 op = some op')
    (hwf : WF (ofSpec a)) :
    ofSpec (C01.Spec.apply a op).1 = step (ofSpec a) op' ∧
    ((C01.Spec.apply a op).2 = .ok ↔ (apply? (ofSpec a) op').isSome = true) := by
  cases op
  case addNodes ns tbl =>
    simp only [liftOp2, Option.some.injEq] at hl; subst hl
    cases tbl with
    | none =>
      have := ofSpec_foldl_addNode (fun _ => none) ns a
      simp only [Option.getD_none] at this
      simp [C01.Spec.apply, C01.Spec.addNodes, step, apply?, addNodes, this, touchAll_eq_foldl]
    | some t =>
      have := ofSpec_foldl_addNode (fun n => AL.get? t n) ns a
      simp only [C01.Spec.apply, C01.Spec.addNodes, step, apply?, addNodes, AL.has]
      by_cases hv : ns.all (fun n => (AL.get? t n).isSome) = true
      · simp [hv, this]
      · simp [hv]
  case clear =>
    simp only [liftOp2, Option.some.injEq] at hl; subst hl
    simp [C01.Spec.apply, step, apply?, clear, ofSpec, Keyed.clearsHyper]
  all_goals exact link_C01 a _ op' hl hwf

/-- the removal loop of `C01.Spec` (`remove_edges` of distinct present canonical keys) is one filter, like `foldRemove_eq` -/
theorem spec_removeLoop_eq : ∀ (es : List (List Nat)) (r : C01.Spec), (AL.keys r.edges).Nodup →
    (∀ e ∈ es, C01.canon e = e ∧ e ∈ AL.keys r.edges) → es.Nodup →
    C01.seqOps C01.Spec.removeEdge r es =
      ({ r with edges := r.edges.filter (fun p => decide (p.1 ∉ es)) }, C01.Out.ok) :=
  fun es r _ hes hn =>
    C01.spec_removeLoop_filter es r (fun e he => ⟨(hes e he).1, (AL.mem_keys_iff _ _).1 (hes e he).2⟩) hn

/-- the `keep_edges=True` loop of `C01.Spec` and of the C05 content run side by side -/
theorem spec_shrinkLoop_eq (n : Node) (c : Content UKey) : ∀ (es : List (List Nat)) (a : C01.Spec),
    (∀ k ∈ es, k ∈ keysOf c ∧ n ∈ Keyed.members k) → ShrinkInv n c (ofSpec a) →
    ∃ r, C01.seqOps (C01.Spec.shrinkInto n) a es = (r, C01.Out.ok) ∧
      es.foldlM (shrinkInto n) (ofSpec a) = some (ofSpec r) := by
  intro es
  induction es with
  | nil => intro a _ _; exact ⟨a, rfl, rfl⟩
  | cons e t ih =>
    intro a hin hi
    have hke : e ∈ keysOf (ofSpec a) := hi.keeps e (hin e List.mem_cons_self).1
    obtain ⟨v, hv⟩ := Option.isSome_iff_exists.1 ((AL.mem_keys_iff _ _).1 hke)
    have hv' : AL.get? a.edges e = some v := hv
    obtain ⟨h', e1⟩ := shrinkInto_returns n c (ofSpec a) e (hin e List.mem_cons_self).1 hi
    have hinv := shrinkInto_inv n c (ofSpec a) h' e e1 (hin e List.mem_cons_self) hi
    have hl := link_C01 a (.addEdge (e.filter (· ≠ n)) (some v.1) (some v.2))
      (.addEdge (canonU (e.filter (· ≠ n))) (some v.1) v.2) rfl hi.wf
    have hshr : shrinkInto n (ofSpec a) e =
        apply? (ofSpec a) (.addEdge (canonU (e.filter (· ≠ n))) (some v.1) v.2) := by
      simp [shrinkInto, Keyed.without, getWeight, getEdgeMeta, ofSpec, hv', apply?]
    have hspec : C01.Spec.shrinkInto n a e =
        C01.Spec.apply a (.addEdge (e.filter (· ≠ n)) (some v.1) (some v.2)) := by
      simp [C01.Spec.shrinkInto, C01.Spec.apply, C01.Spec.weightOf, C01.Spec.emetaOf, hv']
    rw [hshr] at e1
    have hok : (C01.Spec.apply a (.addEdge (e.filter (· ≠ n)) (some v.1) (some v.2))).2 = C01.Out.ok :=
      hl.2.2 (by rw [e1]; rfl)
    have hst : ofSpec (C01.Spec.apply a (.addEdge (e.filter (· ≠ n)) (some v.1) (some v.2))).1 = h' := by
      rw [hl.1]; unfold step; rw [e1]; rfl
    rw [← hshr] at e1
    -- the spec's answer named as a pair: by `subst` its verdict is `ok` and its state is the one with content `h'`, so the two loops go on side by side
    generalize hres : C01.Spec.apply a (.addEdge (e.filter (· ≠ n)) (some v.1) (some v.2)) = res at hok hst hspec
    obtain ⟨a', o⟩ := res
    simp only at hok hst
    subst hok
    subst hst
    obtain ⟨r, h1, h2⟩ := ih a' (fun k hk => hin k (List.mem_cons_of_mem _ hk)) hinv
    refine ⟨r, ?_, ?_⟩
    · simp only [C01.seqOps, hspec]; exact h1
    · rw [foldlM_some_cons _ _ _ _ _ e1]; exact h2

/-- `remove_node(node, keep_edges)` on `C01.Spec` (canonical keys: what `C01.SWF` / `C01.abs_swf` give for every abstract state
of a history) is the C05 step on its content, same verdict -/
theorem link_C01_removeNode (a : C01.Spec) (n : Node) (keep : Bool) (hwf : WF (ofSpec a))
    (hcan : ∀ k ∈ AL.keys a.edges, C01.canon k = k) :
    ofSpec (C01.Spec.removeNode a n keep).1 = step (ofSpec a) (.removeNode n keep) ∧
    ((C01.Spec.removeNode a n keep).2 = C01.Out.ok ↔ (apply? (ofSpec a) (.removeNode n keep)).isSome = true) := by
  by_cases hn : n ∈ nodesOf (ofSpec a)
  · have hsome : (AL.get? a.nodes n).isSome = true := (AL.mem_keys_iff _ _).1 hn
    have htw := onBothSides_UKey (ofSpec a) n
    -- both sides in closed form: C05's is `removeNode_spec` (state `c1` after the shrink loop, one filter, node erased), C01's is `hC01` below
    obtain ⟨c1, e1, hi1, e2⟩ := removeNode_spec (ofSpec a) n keep hwf hn htw
    have hinc : Keyed.incident n (keysOf (ofSpec a)) = C01.Spec.incidentKeys a n := rfl
    have hin2 : ∀ k ∈ C01.Spec.incidentKeys a n, k ∈ keysOf (ofSpec a) ∧ n ∈ Keyed.members k :=
      fun k hk => (KeyedLaws.mem_incident n (keysOf (ofSpec a)) k).1 (hinc ▸ hk)
    have hB : ∃ r, (if keep then C01.seqOps (C01.Spec.shrinkInto n) a (C01.Spec.incidentKeys a n) else (a, C01.Out.ok))
        = (r, C01.Out.ok) ∧ ofSpec r = c1 := by
      cases keep with
      | false =>
        simp only [Bool.false_eq_true, ↓reduceIte, Option.some.injEq] at e1
        exact ⟨a, rfl, e1⟩
      | true =>
        obtain ⟨r, h1, h2⟩ := spec_shrinkLoop_eq n (ofSpec a) _ a hin2 (.refl n hwf)
        simp only [↓reduceIte] at e1
        rw [hinc, h2] at e1
        simp only [Option.some.injEq] at e1
        exact ⟨r, h1, e1⟩
    obtain ⟨r, hr1, hr2⟩ := hB
    subst hr2
    have hrem := C01.spec_removeEdges_filter r (C01.Spec.incidentKeys a n)
      (fun e he => ⟨hcan e (hin2 e he).1, (AL.mem_keys_iff _ _).1 (hi1.keeps e (hin2 e he).1)⟩)
      ((List.filter_sublist).nodup hwf.keys_nodup)
    have hC01 : C01.Spec.removeNode a n keep =
        ({ r with edges := r.edges.filter (fun p => decide (p.1 ∉ C01.Spec.incidentKeys a n)),
                  nodes := C01.del r.nodes n }, C01.Out.ok) := by
      unfold C01.Spec.removeNode
      simp only [hsome, Bool.not_true, Bool.false_eq_true, ↓reduceIte]
      rw [hr1]
      simp only [hrem]
    have hdel : C01.del r.nodes n = AL.erase r.nodes n := del_eq_erase _ _ hi1.wf.nodes_nodup
    have hfil : r.edges.filter (fun p => decide (p.1 ∉ C01.Spec.incidentKeys a n)) =
        r.edges.filter (fun p => decide (n ∉ Keyed.members p.1)) := hi1.filter_incident
    rw [hC01]
    have e2' : apply? (ofSpec a) (Op.removeNode n keep) = some _ := e2
    constructor
    · unfold step; rw [e2']
      simp only [Option.getD_some, ofSpec, hdel, hfil]
    · simp [e2']
  · have hnone : (AL.get? a.nodes n).isSome = false := has_nodes_false (ofSpec a) n hn
    have hrej : apply? (ofSpec a) (.removeNode n keep) = none := removeNode_absent _ n keep hn
    simp [C01.Spec.removeNode, hnone, step, hrej]

end C05
