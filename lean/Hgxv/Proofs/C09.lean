import Hgxv.Model.C09
import Hgxv.Proofs.SortLib
/-! The label encoder (core Lean): `classes` is the shared library's duplicate-dropping insertion sort. Also the two lemmas
about a dict built by a loop. -/
namespace C09

theorem insertSorted_eq : insertSorted = NatSort.insertU := by
  funext a l
  induction l with
  | nil => rfl
  | cons b bs ih => simp only [insertSorted, NatSort.insertU, ih]

theorem classes_eq : classes = NatSort.usort := by
  funext l
  simp only [classes, NatSort.usort, insertSorted_eq]

theorem mem_classes (x : Nat) (l : List Nat) : x ∈ classes l ↔ x ∈ l := classes_eq ▸ NatSort.mem_usort

theorem classes_sorted (l : List Nat) : (classes l).Pairwise (· < ·) := classes_eq ▸ NatSort.usort_strict l

theorem classes_nodup (l : List Nat) : (classes l).Nodup := classes_eq ▸ NatSort.usort_nodup l

theorem classes_perm (l : List Nat) (h : l.Nodup) : (classes l).Perm l := classes_eq ▸ NatSort.usort_perm h

theorem classes_length (l : List Nat) (h : l.Nodup) : (classes l).length = l.length :=
  (classes_perm l h).length_eq

theorem classes_idem (l : List Nat) : classes (classes l) = classes l := classes_eq ▸ NatSort.usort_idem l

theorem encode_getElem (cls : List Nat) (hn : cls.Nodup) (i : Nat) (h : i < cls.length) :
    encode cls cls[i] = i := hn.idxOf_getElem i h

theorem encode_lt (cls : List Nat) (x : Nat) (h : x ∈ cls) : encode cls x < cls.length :=
  List.idxOf_lt_length_iff.2 h

theorem getElem_encode (cls : List Nat) (x : Nat) (h : x ∈ cls) :
    cls[encode cls x]'(encode_lt cls x h) = x := List.getElem_idxOf _

theorem map_encode (cls : List Nat) (hn : cls.Nodup) : cls.map (encode cls) = List.range cls.length := by
  apply List.ext_getElem
  · simp
  · intro i h1 h2
    simp [encode_getElem cls hn i (by simpa using h1)]

/-- a Python dict filled by a loop over `ks`: the list of the pairs `(k, F k)` -/
theorem mem_dict {κ β : Type} (ks : List κ) (F : κ → β) (k : κ) (v : β) :
    (k, v) ∈ ks.map (fun k => (k, F k)) ↔ k ∈ ks ∧ v = F k := by
  simp only [List.mem_map, Prod.mk.injEq]
  exact ⟨fun ⟨_, h, h1, h2⟩ => h1 ▸ ⟨h, h2.symm⟩, fun ⟨h, h2⟩ => ⟨k, h, rfl, h2.symm⟩⟩

theorem dict_keys {κ β : Type} (ks : List κ) (F : κ → β) : (ks.map fun k => (k, F k)).map (·.1) = ks := by
  rw [List.map_map]; exact List.map_id _

theorem mapping_dict (nodes : List Nat) :
    mapping nodes = (classes nodes).map fun x => (encode (classes nodes) x, x) := by
  simp only [mapping, List.zip_eq_zipWith, List.zipWith_map_left, List.zipWith_self]

theorem mapping_snd (nodes : List Nat) : (mapping nodes).map (·.2) = classes nodes := by
  rw [mapping_dict, List.map_map]; exact List.map_id _

/-- the fitted encoder depends on the SET of labels only, not on the order in which `get_nodes()` lists them
(the listing order is what a history of removals and re-insertions changes) -/
theorem classes_congr (l l' : List Nat) (h : ∀ x, x ∈ l ↔ x ∈ l') : classes l = classes l' :=
  classes_eq ▸ NatSort.usort_congr h

theorem classes_perm_congr (l l' : List Nat) (h : l.Perm l') : classes l = classes l' :=
  classes_congr l l' (fun _ => h.mem_iff)

end C09
