import Hgxv.Proofs.AL
import Hgxv.Proofs.SortLib
/-! What the invariants of the container stores share, on bare tables (core Lean only).  `Index R rev proj adj`: the node table
`adj` lists for each node the ids of the keys containing it.  `IdTables el rev next`: the key-to-id table `el` and the id-to-key
table `rev` are inverse, ids below `next`.  One lemma per kind of update (a node touched, a node dropped, an id added, an id
removed; for `Index` the last two in two forms: the new node table given by its rows `(get? adj' n).getD []`, which C02 uses, or
by its lookups `get? adj' n`, which C01 and C04 use); the tables after the update are given by their lookups
(`∀ i, get? rev' i = if id = i then none else get? rev i`), so the same lemma serves `AL.set`, `AL.erase` and the filters `del` of
the models.  Then the listings read back (`IdTables.filterMap_rev`, `Index.row_eq_filter`: with ids increasing along `el`, a row
is the filter of `el`).  Last, `TabWF`: the well-formedness of the two tables of an ABSTRACT container state (C01-C04 prove it once
as `abs_tab`; properties and link files read it). -/
namespace AL
variable {κ : Type} {R : Nat → Nat → Prop} {rev rev' : List (Nat × κ)} {proj : κ → List Nat}
  {adj adj' : List (Nat × List Nat)}

/-- `adj` indexes the id table `rev` by the nodes `proj k` of a key: the list of `n` holds, `R`-ordered (`<`: ids appended in
allocation order; `≠`: no id twice), exactly the ids whose key has `n`, and every node of a key has a list -/
structure Index (R : Nat → Nat → Prop) (rev : List (Nat × κ)) (proj : κ → List Nat) (adj : List (Nat × List Nat)) : Prop where
  sorted : ∀ n ids, get? adj n = some ids → ids.Pairwise R
  mem_iff : ∀ n ids, get? adj n = some ids → ∀ id, id ∈ ids ↔ ∃ k, get? rev id = some k ∧ n ∈ proj k
  dom : ∀ id k, get? rev id = some k → ∀ n ∈ proj k, (get? adj n).isSome

theorem Index.mem_row (h : Index R rev proj adj) (n id : Nat) :
    id ∈ (get? adj n).getD [] ↔ ∃ k, get? rev id = some k ∧ n ∈ proj k := by
  cases hg : get? adj n with
  | some ids => exact h.mem_iff n ids hg id
  | none =>
    refine ⟨fun hc => absurd hc List.not_mem_nil, ?_⟩
    rintro ⟨k, hk, hn⟩
    have := h.dom id k hk n hn
    rw [hg] at this; cases this

theorem Index.sorted_row (h : Index R rev proj adj) (n : Nat) : ((get? adj n).getD []).Pairwise R := by
  cases hg : get? adj n with
  | some ids => exact h.sorted n ids hg
  | none => exact List.Pairwise.nil

theorem Index.of_rows (hs : ∀ n, ((get? adj n).getD []).Pairwise R)
    (hi : ∀ n id, id ∈ (get? adj n).getD [] ↔ ∃ k, get? rev id = some k ∧ n ∈ proj k)
    (hd : ∀ id k, get? rev id = some k → ∀ n ∈ proj k, (get? adj n).isSome) : Index R rev proj adj :=
  ⟨fun n ids hn => by have := hs n; rwa [hn] at this, fun n ids hn id => by have := hi n id; rwa [hn] at this, hd⟩

theorem Index.congr (h : Index R rev proj adj) (hrow : ∀ n, (get? adj' n).getD [] = (get? adj n).getD [])
    (hdom : ∀ n, (get? adj n).isSome → (get? adj' n).isSome) : Index R rev proj adj' :=
  .of_rows (fun n => hrow n ▸ h.sorted_row n) (fun n id => hrow n ▸ h.mem_row n id)
    fun id k hk n hn => hdom n (h.dom id k hk n hn)

theorem Index.touch (h : Index R rev proj adj) {m : Nat}
    (hadj : ∀ n, get? adj' n = if n = m then some ((get? adj m).getD []) else get? adj n) : Index R rev proj adj' := by
  refine h.congr (fun n => ?_) fun n hn => ?_ <;> rw [hadj] <;> split
  · next e => rw [e]; rfl
  · rfl
  · rfl
  · exact hn

theorem Index.drop (h : Index R rev proj adj) {n : Nat} (hno : ∀ id k, get? rev id = some k → n ∉ proj k)
    (hadj : ∀ m, get? adj' m = if n = m then none else get? adj m) : Index R rev proj adj' := by
  have hsub : ∀ m ids, get? adj' m = some ids → get? adj m = some ids := fun m ids hm => by
    rw [hadj] at hm; split at hm
    · cases hm
    · exact hm
  refine ⟨fun m ids hm => h.sorted m ids (hsub m ids hm), fun m ids hm => h.mem_iff m ids (hsub m ids hm), fun id k hk m hm => ?_⟩
  rw [hadj, if_neg fun (e : n = m) => hno id k hk (e ▸ hm)]
  exact h.dom id k hk m hm

theorem Index.push (h : Index R rev proj adj) {id : Nat} {k : κ} (hfresh : get? rev id = none)
    (hR : ∀ i k', get? rev i = some k' → R i id) (hrev : ∀ i, get? rev' i = if id = i then some k else get? rev i)
    (hrow : ∀ n, (get? adj' n).getD [] = if n ∈ proj k then (get? adj n).getD [] ++ [id] else (get? adj n).getD [])
    (hdom : ∀ n, n ∈ proj k ∨ (get? adj n).isSome → (get? adj' n).isSome) : Index R rev' proj adj' := by
  -- the new id enters exactly the rows of `proj k` (it is fresh, so in no old row) and every old member is `R`-below it
  have hmem : ∀ n i, i ∈ (get? adj' n).getD [] ↔ ∃ k', get? rev' i = some k' ∧ n ∈ proj k' := by
    intro n i
    have hold := h.mem_row n i
    rw [hrow, hrev]
    by_cases hi : id = i
    · subst hi
      have hnot : id ∉ (get? adj n).getD [] := fun hc => by
        obtain ⟨k', hk', _⟩ := (h.mem_row n id).mp hc; rw [hfresh] at hk'; cases hk'
      rw [if_pos rfl]
      split
      · next hn => exact ⟨fun _ => ⟨k, rfl, hn⟩, fun _ => List.mem_append_right _ (List.mem_singleton.mpr rfl)⟩
      · next hn => exact ⟨fun hc => absurd hc hnot, fun ⟨k', hk', hn'⟩ => absurd (Option.some.inj hk' ▸ hn') hn⟩
    · rw [if_neg hi, ← hold]
      split
      · rw [List.mem_append, List.mem_singleton]; exact or_iff_left (Ne.symm hi)
      · rfl
  refine .of_rows (fun n => ?_) hmem fun i k' hk' n hn => ?_
  · rw [hrow]; split
    · refine List.pairwise_append.mpr ⟨h.sorted_row n, List.pairwise_singleton _ _, fun a ha b hb => ?_⟩
      obtain ⟨k', hk', _⟩ := (h.mem_row n a).mp ha
      exact List.mem_singleton.mp hb ▸ hR a k' hk'
    · exact h.sorted_row n
  · rw [hrev] at hk'
    split at hk'
    · exact hdom n (Or.inl (Option.some.inj hk' ▸ hn))
    · exact hdom n (Or.inr (h.dom i k' hk' n hn))

theorem Index.push_get (h : Index R rev proj adj) {id : Nat} {k : κ} (hfresh : get? rev id = none)
    (hR : ∀ i k', get? rev i = some k' → R i id) (hrev : ∀ i, get? rev' i = if id = i then some k else get? rev i)
    (hadj : ∀ n, get? adj' n = if n ∈ proj k then some ((get? adj n).getD [] ++ [id]) else get? adj n) :
    Index R rev' proj adj' :=
  h.push hfresh hR hrev (fun n => by rw [hadj]; split <;> rfl) fun n hn => by
    rw [hadj]; split
    · rfl
    · next hm => exact hn.resolve_left hm

theorem Index.erase (h : Index R rev proj adj) (hne : ∀ a b, R a b → a ≠ b) {id : Nat} {k : κ} (hk : get? rev id = some k)
    (hrev : ∀ i, get? rev' i = if id = i then none else get? rev i)
    (hrow : ∀ n, (get? adj' n).getD [] = if n ∈ proj k then ((get? adj n).getD []).erase id else (get? adj n).getD [])
    (hdom : ∀ n, (get? adj n).isSome → (get? adj' n).isSome) : Index R rev' proj adj' := by
  have hrow' : ∀ n, (get? adj' n).getD [] = ((get? adj n).getD []).erase id := by
    intro n; rw [hrow]; split
    · rfl
    · next hn =>
      -- a list outside `proj k` does not hold `id`
      refine (List.erase_of_not_mem fun hc => ?_).symm
      obtain ⟨k', hk', hn'⟩ := (h.mem_row n id).mp hc
      rw [hk] at hk'; exact hn (Option.some.inj hk' ▸ hn')
  refine .of_rows (fun n => hrow' n ▸ (h.sorted_row n).sublist List.erase_sublist) (fun n i => ?_) fun i k' hk' n hn => ?_
  · have hnd : ((get? adj n).getD []).Nodup := (h.sorted_row n).imp (hne _ _)
    rw [hrow', hnd.mem_erase_iff, h.mem_row, hrev]
    by_cases hi : id = i
    · subst hi; simp
    · simp [hi, Ne.symm hi]
  · rw [hrev] at hk'
    split at hk'
    · cases hk'
    · exact hdom n (h.dom i k' hk' n hn)

theorem Index.erase_get (h : Index R rev proj adj) (hne : ∀ a b, R a b → a ≠ b) {id : Nat} {k : κ}
    (hk : get? rev id = some k) (hrev : ∀ i, get? rev' i = if id = i then none else get? rev i)
    (hadj : ∀ n, get? adj' n = if n ∈ proj k then (get? adj n).map (·.erase id) else get? adj n) :
    Index R rev' proj adj' :=
  h.erase hne hk hrev (fun n => by rw [hadj]; split <;> cases get? adj n <;> rfl) fun n hn => by
    rw [hadj]; split
    · rw [Option.isSome_map]; exact hn
    · exact hn

section ids
variable [DecidableEq κ] {el el' : List (κ × Nat)} {next : Nat}

/-- `el` (key to id) and `rev` (id to key) are inverse to each other and the ids in use are below `next` -/
structure IdTables (el : List (κ × Nat)) (rev : List (Nat × κ)) (next : Nat) : Prop where
  rev_of_edge : ∀ k id, get? el k = some id → get? rev id = some k
  edge_of_rev : ∀ k id, get? rev id = some k → get? el k = some id
  id_lt : ∀ id k, get? rev id = some k → id < next

theorem IdTables.fresh (t : IdTables el rev next) : get? rev next = none := by
  cases hr : get? rev next with
  | none => rfl
  | some k => exact absurd (t.id_lt _ _ hr) (Nat.lt_irrefl _)

theorem IdTables.insert (t : IdTables el rev next) {k : κ} (hk : get? el k = none)
    (hel : ∀ k', get? el' k' = if k = k' then some next else get? el k')
    (hrev : ∀ i, get? rev' i = if next = i then some k else get? rev i) : IdTables el' rev' (next + 1) := by
  refine ⟨fun k' id h => ?_, fun k' id h => ?_, fun id k' h => ?_⟩
  · rw [hel] at h; rw [hrev]
    split at h
    · next e => rw [← e, ← Option.some.inj h, if_pos rfl]
    · have h1 := t.rev_of_edge k' id h
      rw [if_neg (Nat.ne_of_gt (t.id_lt _ _ h1)), h1]
  · rw [hrev] at h; rw [hel]
    split at h
    · next e => rw [← e, Option.some.inj h, if_pos rfl]
    · have h1 := t.edge_of_rev k' id h
      rw [if_neg (fun e => by rw [← e, hk] at h1; cases h1), h1]
  · rw [hrev] at h
    split at h
    · next e => exact e ▸ Nat.lt_succ_self _
    · exact Nat.lt_succ_of_lt (t.id_lt _ _ h)

theorem IdTables.erase (t : IdTables el rev next) {k : κ} {id : Nat} (hk : get? el k = some id)
    (hel : ∀ k', get? el' k' = if k = k' then none else get? el k')
    (hrev : ∀ i, get? rev' i = if id = i then none else get? rev i) : IdTables el' rev' next := by
  have hr := t.rev_of_edge k id hk
  refine ⟨fun k' i h => ?_, fun k' i h => ?_, fun i k' h => ?_⟩
  · rw [hel] at h; rw [hrev]
    split at h
    · cases h
    · next hne =>
      have h1 := t.rev_of_edge k' i h
      rw [if_neg (fun e => by rw [← e, hr] at h1; exact hne (Option.some.inj h1)), h1]
  · rw [hrev] at h; rw [hel]
    split at h
    · cases h
    · next hne =>
      have h1 := t.edge_of_rev k' i h
      rw [if_neg (fun e => by rw [← e, hk] at h1; exact hne (Option.some.inj h1)), h1]
  · rw [hrev] at h
    split at h
    · cases h
    · exact t.id_lt _ _ h

theorem IdTables.filterMap_rev (t : IdTables el rev next) (hnd : (keys el).Nodup) (l : List (κ × Nat)) (hl : ∀ p ∈ l, p ∈ el) :
    (l.map (·.2)).filterMap (get? rev) = l.map (·.1) := by
  induction l with
  | nil => rfl
  | cons p l ih =>
    have hp := t.rev_of_edge _ _ (get?_of_mem _ _ _ hnd (hl p List.mem_cons_self))
    simp only [List.map_cons, List.filterMap_cons, hp]
    rw [ih fun q hq => hl q (List.mem_cons_of_mem _ hq)]

theorem Index.row_eq_filter (h : Index (· < ·) rev proj adj) (t : IdTables el rev next) (hnd : (keys el).Nodup)
    (hs : (el.map (·.2)).Pairwise (· < ·)) (n : Nat) :
    (get? adj n).getD [] = (el.filter fun p => decide (n ∈ proj p.1)).map (·.2) := by
  -- two strictly increasing listings with the same members
  refine NatSort.eq_of_mem_iff_of_strict (fun id => ?_) (h.sorted_row n) (hs.sublist ((List.filter_sublist).map _))
  rw [h.mem_row n id]
  simp only [List.mem_map, List.mem_filter, decide_eq_true_eq]
  constructor
  · rintro ⟨k, hk, hn⟩
    exact ⟨(k, id), ⟨mem_of_get? _ _ _ (t.edge_of_rev _ _ hk), hn⟩, rfl⟩
  · rintro ⟨p, ⟨hp, hn⟩, rfl⟩
    exact ⟨p.1, t.rev_of_edge _ _ (get?_of_mem _ _ _ hnd hp), hn⟩

end ids

section abstract
variable {K M : Type} {mem : K → List Nat} {Canon : K → Prop} {one : Int} {w : Bool} {ns : List (Nat × M)}

/-- the two tables of an abstract container state (nodes with metadata; keys with weight and metadata, in creation
order): distinct nodes, distinct keys, every key in the container's canonical form `Canon` with its members `mem`
listed, weight `one` everywhere when unweighted.  Each container proves it once for `abs s` (`C0x.abs_tab`); the
properties read their own well-formedness off it. -/
structure TabWF (mem : K → List Nat) (Canon : K → Prop) (one : Int) (w : Bool)
    (ns : List (Nat × M)) (es : List (K × (Int × M))) : Prop where
  nnd : (keys ns).Nodup
  knd : (keys es).Nodup
  key : ∀ p ∈ es, Canon p.1 ∧ ∀ m ∈ mem p.1, m ∈ keys ns
  unw : w = false → ∀ p ∈ es, p.2.1 = one

theorem TabWF.of_key {es : List (K × (Int × M))} (h : TabWF mem Canon one w ns es) {k : K} (hk : k ∈ keys es) :
    Canon k ∧ ∀ m ∈ mem k, m ∈ keys ns := by
  obtain ⟨p, hp, rfl⟩ := List.mem_map.mp hk
  exact h.key p hp

/-- the key-indexed table read off an id-indexed store (`_edge_list` : key ↦ id, `_weights` and `_edge_metadata` by id)
is well formed when the facts hold per id, the form in which the class invariants state them; the default `d` is never read (`hdom`); `TabWF`
says nothing of the metadata component, so nothing is asked of `em` and `dm` -/
theorem TabWF.of_ids [DecidableEq K] (el : List (K × Nat)) (ws : List (Nat × Int)) (em : List (Nat × M)) (d : Int) (dm : M)
    (hn : (keys ns).Nodup) (hel : (keys el).Nodup)
    (hk : ∀ k id, get? el k = some id → Canon k ∧ ∀ m ∈ mem k, m ∈ keys ns)
    (hdom : ∀ k id, get? el k = some id → (get? ws id).isSome)
    (hone : w = false → ∀ id x, get? ws id = some x → x = one) :
    TabWF mem Canon one w ns (el.map fun p => (p.1, ((get? ws p.2).getD d, (get? em p.2).getD dm))) := by
  have hmem : ∀ q ∈ el.map (fun p => (p.1, ((get? ws p.2).getD d, (get? em p.2).getD dm))),
      ∃ id, get? el q.1 = some id ∧ q.2.1 = (get? ws id).getD d := by
    intro q hq
    obtain ⟨p, hp, rfl⟩ := List.mem_map.mp hq
    exact ⟨p.2, get?_of_mem _ _ _ hel hp, rfl⟩
  refine ⟨hn, ?_, fun q hq => ?_, fun hw q hq => ?_⟩
  · rw [keys_map_val el fun id => ((get? ws id).getD d, (get? em id).getD dm)]; exact hel
  · obtain ⟨id, hid, _⟩ := hmem q hq
    exact hk q.1 id hid
  · obtain ⟨id, hid, hv⟩ := hmem q hq
    obtain ⟨x, hx⟩ := Option.isSome_iff_exists.mp (hdom q.1 id hid)
    rw [hv, hx]
    exact hone hw id x hx

end abstract

end AL
